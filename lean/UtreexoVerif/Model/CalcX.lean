/-
  An *instrumented twin* of the model of `calculateHashes` (`Model/Calc.lean`): the same code,
  line by line, that additionally returns the list of pairs `(l, r)` it passes to `parentHash`
  (`ph`), in call order.  `Proofs/CalcRun.lean` proves that forgetting the log gives back the
  existing model (`calculateHashesX_fst`): same outcome, same nodes, same root candidates.

  The log is what the collision-extracting soundness theorem (`Props/C03x.lean`) draws its
  witnesses from: `hashedPairs n hs ts ps` is a finite list computed from the verifier's input.

  Core Lean only (executable).
-/
import UtreexoVerif.Model.Calc

namespace UtreexoVerif.Model
open UtreexoVerif Hasher

section
variable {H : Type} [DecidableEq H] [Hasher H]

/-- `getNextHash`, also returning the pair handed to `parentHash` (none when a zero hash is
passed through without hashing) -/
def getNextHashX (pos : U64) (hash sibHash : H) : H × List (H × H) :=
  if hash = zero then (sibHash, [])
  else if sibHash = zero then (hash, [])
  else if isLeftNiece pos then (ph hash sibHash, [(hash, sibHash)])
  else (ph sibHash hash, [(sibHash, hash)])

/-- one iteration of the main loop of `calculateHashes` (text of `calcStep`), plus the pairs
hashed in this iteration -/
def calcStepX (numLeaves : U64) (totalRows : U8) (s : CalcSt H) :
    Out (StepOut H × List (H × H)) := do
  if s.row > totalRows then return (.stop s, [])
  match nextLeast s.toProve s.next with
  | none => return (.stop s, [])
  | some fromNext =>
    let (provePos, proveHash, toProve, next, done) :=
      match fromNext, s.toProve, s.next with
      | false, x :: xs, nx => (x.1, x.2, xs, nx, s.done)
      | true, tp, x :: xs => (x.1, x.2, tp, xs, s.done ++ [x])
      | _, tp, nx => (0#64, zero, tp, nx, s.done)   -- unreachable
    let sibFrom : Option Bool :=
      match nextLeast toProve next with
      | some false => match toProve with
        | y :: _ => if provePos != y.1 && rightSib provePos == y.1 then some false else none
        | [] => none
      | some true => match next with
        | y :: _ => if provePos != y.1 && rightSib provePos == y.1 then some true else none
        | [] => none
      | none => none
    let row ← rowCursor numLeaves totalRows provePos 257 s.row
    if isRootPositionOnRow provePos numLeaves row then
      return (.cont { s with toProve := toProve, next := next, done := done, row := row,
                             roots := s.roots ++ [proveHash], rootRows := s.rootRows ++ [row] }, [])
    let (sibHash, toProve, next, done, proof) ←
      (match sibFrom, toProve, next, s.proof with
      | some false, y :: ys, nx, pr => Out.ok (y.2, ys, nx, done, pr)
      | some true, tp, y :: ys, pr => Out.ok (y.2, tp, ys, done ++ [y], pr)
      | some _, _, _, _ => Out.panic  -- unreachable
      | none, tp, nx, p :: ps =>
        if p = zero then Out.err else Out.ok (p, tp, nx, done, ps)
      | none, _, _, [] => Out.err : Out (H × HP H × HP H × HP H × List H))
    let nextHash := getNextHashX provePos proveHash sibHash
    return (.cont { s with toProve := toProve,
                           next := next ++ [(Parent provePos totalRows, nextHash.1)],
                           done := done, proof := proof, row := row }, nextHash.2)

/-- main loop (text of `calcLoop`), plus the pairs hashed from this state on, in call order -/
def calcLoopX (numLeaves : U64) (totalRows : U8) : Nat → CalcSt H → Out (CalcSt H × List (H × H))
  | 0, _ => .hang
  | fuel+1, s => do
    let (so, l) ← calcStepX numLeaves totalRows s
    match so with
    | .stop s => pure (s, l)
    | .cont s =>
      let (sf, l') ← calcLoopX numLeaves totalRows fuel s
      pure (sf, l ++ l')

/-- `calculateHashes` (text of the model), plus every pair passed to `parentHash` -/
def calculateHashesX (numLeaves : U64) (delHashes : Option (List H)) (targets : List U64)
    (proofHashes : List H) : Out (CalcResult H × List (H × H)) := do
  let totalRows := TreeRows numLeaves
  let hashes := match delHashes with
    | some hs => hs
    | none => targets.map (fun _ => zero)
  let toProve ← toHashAndPos targets hashes
  let (s, log) ← calcLoopX numLeaves totalRows (calcFuel targets.length totalRows)
    { toProve := toProve, next := [], done := [], proof := proofHashes, row := 0#8,
      roots := [], rootRows := [] }
  pure ({ nodes := mergeHP (s.done ++ s.next) toProve, roots := s.roots, rootRows := s.rootRows },
        log)

/-- **the pairs `(left, right)` the verifier hashes** on input `(numLeaves, hashes, targets,
proof)`: every argument pair of a `parentHash` call made by `calculateHashes`, in call order
(empty when `calculateHashes` does not return normally) -/
def hashedPairs (numLeaves : U64) (hashes : List H) (targets : List U64) (proofHashes : List H) :
    List (H × H) :=
  match calculateHashesX numLeaves (some hashes) targets proofHashes with
  | .ok r => r.2
  | _ => []

end
end UtreexoVerif.Model
