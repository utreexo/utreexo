/-
  The model of mappollard.go respects `Equiv`: `Undo` (`undoAdd`, `undoDeletion`,
  `restoreRoots`).  See `Proofs/MapSim.lean`.
-/
import UtreexoVerif.Proofs.MapSim
import UtreexoVerif.Proofs.MapUndoRep

namespace UtreexoVerif.Proofs.MapSim
open Model
open Proofs.SerialMapInv (Equiv)

variable {H : Type} [DecidableEq H] [Hasher H]

theorem sim_placeMove {m m' : MapPollard H} (h : Equiv m m') (cur pos : U64) :
    Equiv (MapPlaceEmpty.placeBody pos cur m) (MapPlaceEmpty.placeBody pos cur m') := by
  rw [MapPlaceEmpty.placeBody_eq, MapPlaceEmpty.placeBody_eq, h.node]
  cases m'.getNode cur with
  | none => exact h
  | some v => exact Equiv.ite' (h.moveM true cur pos) h _

theorem sim_placeRowLoop (prevRootPos child : U64) : ∀ (k : Nat) (i : U64) {m m' : MapPollard H}, Equiv m m' →
    SimR (MapPollard.placeRowLoop prevRootPos child k i m) (MapPollard.placeRowLoop prevRootPos child k i m')
  | 0, _, _, _, h => SimR.mk_ok h _
  | k+1, i, m, m', h => by
    simp only [MapPollard.placeRowLoop, h.totalRows]
    apply SimR.ite
    · intro _; exact SimR.mk_err h _
    · intro _
      exact sim_placeRowLoop prevRootPos child k _ (sim_placeMove h _ _)

theorem sim_placeLoop (prevRootPos sib : U64) : ∀ (k : Nat) {m m' : MapPollard H}, Equiv m m' →
    SimR (MapPollard.placeLoop prevRootPos sib k m) (MapPollard.placeLoop prevRootPos sib k m')
  | 0, _, _, h => SimR.mk_ok h _
  | k+1, m, m', h => by
    simp only [MapPollard.placeLoop, h.totalRows]
    apply SimR.ite
    · intro _; exact SimR.mk_err h _
    · intro _
      sim_bind (sim_placeRowLoop prevRootPos (ChildMany sib (BitVec.ofNat 8 (k + 1)) m'.totalRows).fst (2 ^ (k + 1)) 0#64 h)
        with m1 m1' _u h1
      exact sim_placeLoop prevRootPos sib k h1

theorem sim_placeEmptyRoot {m m' : MapPollard H} (h : Equiv m m') (prevRootPos : U64) :
    SimR (MapPollard.placeEmptyRoot prevRootPos m) (MapPollard.placeEmptyRoot prevRootPos m') := by
  unfold MapPollard.placeEmptyRoot
  simp only [h.totalRows]
  exact sim_placeLoop _ _ _ h

theorem sim_undoDrop {m m' : MapPollard H} (h : Equiv m m') (pos : U64) :
    Equiv (match m.getNode pos with
        | some leaf => (m.delNode pos).delCached leaf.hash
        | none => m)
      (match m'.getNode pos with
        | some leaf => (m'.delNode pos).delCached leaf.hash
        | none => m') := by
  rw [h.node]
  cases m'.getNode pos with
  | none => exact h
  | some leaf => exact (h.delNode _).delCached _

theorem sim_undoIter (k : Nat)
    (ih : ∀ (pos lChild : U64) (e : List U64) {m m' : MapPollard H}, Equiv m m' →
      SimR (MapPollard.undoSingleAddLoop k pos lChild e m) (MapPollard.undoSingleAddLoop k pos lChild e m'))
    {X X' : MapPollard H} (hX : Equiv X X') (pos lChild : U64) (e : List U64) :
    SimR (MapUndoRep.undoIter k pos lChild e X) (MapUndoRep.undoIter k pos lChild e X') := by
  unfold MapUndoRep.undoIter
  have hnext : ∀ (e : List U64) {Y Y' : MapPollard H}, Equiv Y Y' →
      SimR (MapPollard.undoSingleAddLoop k (RightChild pos Y.totalRows)
            (LeftChild (RightChild pos Y.totalRows) Y.totalRows) e Y)
        (MapPollard.undoSingleAddLoop k (RightChild pos Y'.totalRows)
            (LeftChild (RightChild pos Y'.totalRows) Y'.totalRows) e Y') := by
    intro e Y Y' hY
    rw [hY.totalRows]
    exact ih _ _ _ hY
  apply SimR.ite
  · intro _
    cases e with
    | nil => exact hnext _ hX
    | cons e0 erest =>
      dsimp only
      apply SimR.ite
      · intro _
        sim_bind (sim_placeEmptyRoot hX lChild) with m1 m1' _u h1
        exact hnext _ (h1.putNode _ _)
      · intro _; exact hnext _ hX
  · intro _; exact hnext _ hX

theorem sim_undoSingleAddLoop : ∀ (k : Nat) (pos lChild : U64) (e : List U64) {m m' : MapPollard H}, Equiv m m' →
    SimR (MapPollard.undoSingleAddLoop k pos lChild e m) (MapPollard.undoSingleAddLoop k pos lChild e m')
  | 0, _, _, _, _, _, h => SimR.mk_ok h _
  | k+1, pos, lChild, e, m, m', h => by
    rw [MapUndoRep.undoSingleAddLoop_succU, MapUndoRep.undoSingleAddLoop_succU]
    exact sim_undoIter k (fun pos lChild e _ _ h => sim_undoSingleAddLoop k pos lChild e h)
      (sim_undoDrop h pos) pos lChild e

theorem sim_undoSingleAdd {m m' : MapPollard H} (h : Equiv m m') (e : List U64) :
    SimR (MapPollard.undoSingleAdd e m) (MapPollard.undoSingleAdd e m') := by
  unfold MapPollard.undoSingleAdd
  simp only [h.numLeaves, h.totalRows]
  sim_bind (sim_undoSingleAddLoop ((getLowestRoot m'.numLeaves m'.totalRows).toNat + 1)
    (rootPosition (m'.numLeaves - 1) (getLowestRoot m'.numLeaves m'.totalRows) m'.totalRows)
    (LeftChild (rootPosition (m'.numLeaves - 1) (getLowestRoot m'.numLeaves m'.totalRows) m'.totalRows) m'.totalRows)
    e h) with m1 m1' e1 h1
  rw [h1.numLeaves]
  exact SimR.mk_ok (h1.setNumLeaves _) _

theorem sim_undoAddLoop : ∀ (k : Nat) (e : List U64) {m m' : MapPollard H}, Equiv m m' →
    SimR (MapPollard.undoAddLoop k e m) (MapPollard.undoAddLoop k e m')
  | 0, _, _, _, h => SimR.mk_ok h _
  | k+1, e, m, m', h => by
    simp only [MapPollard.undoAddLoop]
    sim_bind (sim_undoSingleAdd h e) with m1 m1' e1 h1
    exact sim_undoAddLoop k e1 h1

theorem equiv_getWrittenOverEmptyRoots {m m' : MapPollard H} (h : Equiv m m') (nonZero : H) (numAdds : U64)
    (origTargets : List U64) (origPrevRoots : List H) :
    MapPollard.getWrittenOverEmptyRoots nonZero m numAdds origTargets origPrevRoots =
      MapPollard.getWrittenOverEmptyRoots nonZero m' numAdds origTargets origPrevRoots := by
  unfold MapPollard.getWrittenOverEmptyRoots MapPollard.getRootsAfterDel
  simp only [h.numLeaves, h.totalRows]

theorem sim_undoAdd {m m' : MapPollard H} (h : Equiv m m') (nonZero : H) (numAdds : U64) (origTargets : List U64)
    (origPrevRoots : List H) :
    SimR (MapPollard.undoAdd nonZero numAdds origTargets origPrevRoots m)
      (MapPollard.undoAdd nonZero numAdds origTargets origPrevRoots m') := by
  unfold MapPollard.undoAdd
  rw [equiv_getWrittenOverEmptyRoots h]
  cases MapPollard.getWrittenOverEmptyRoots nonZero m' numAdds origTargets origPrevRoots with
  | ok e => exact sim_undoAddLoop _ e h
  | err => exact SimR.mk_err h _
  | panic => exact SimR.mk_err h _
  | hang => exact SimR.mk_err h _

theorem sim_moveDown {m m' : MapPollard H} (h : Equiv m m') (sib prevPos : U64) :
    Equiv (MapUndoRep.moveDownM sib prevPos m) (MapUndoRep.moveDownM sib prevPos m') := by
  rw [MapUndoRep.moveDownM_eq, MapUndoRep.moveDownM_eq]
  exact h.moveM true sib prevPos

theorem sim_undoDelMoveDown : ∀ (ts : List U64) {m m' : MapPollard H}, Equiv m m' →
    SimR (MapPollard.undoDelMoveDown ts m) (MapPollard.undoDelMoveDown ts m')
  | [], _, _, h => SimR.mk_ok h _
  | t :: ts, m, m', h => by
    simp only [MapPollard.undoDelMoveDown, h.numLeaves, h.totalRows]
    have hr : SimR (if inForest (sibling t) m'.numLeaves m'.totalRows = true then MapPollard.placeEmptyRoot t m
          else (m, Except.ok ()))
        (if inForest (sibling t) m'.numLeaves m'.totalRows = true then MapPollard.placeEmptyRoot t m'
          else (m', Except.ok ())) :=
      SimR.ite _ (fun _ => sim_placeEmptyRoot h t) (fun _ => SimR.mk_ok h _)
    sim_bind hr with m1 m1' _u h1
    rw [h1.totalRows]
    exact sim_undoDelMoveDown ts (sim_moveDown h1 _ _)

theorem sim_placeProof : ∀ (ps : List U64) (i : Nat) (pr : List H) {m m' : MapPollard H}, Equiv m m' →
    SimR (MapPollard.placeProof ps i pr m) (MapPollard.placeProof ps i pr m')
  | [], _, _, _, _, h => SimR.mk_ok h _
  | pos :: ps, i, pr, m, m', h => by
    simp only [MapPollard.placeProof, h.node, h.full]
    cases m'.getNode pos with
    | none =>
      dsimp only
      cases pr[i]? with
      | none => exact SimR.mk_err h _
      | some x => exact sim_placeProof ps _ _ (h.putNode _ _)
    | some leaf =>
      dsimp only
      apply SimR.ite
      · intro _; exact sim_placeProof ps _ _ h
      · intro _; exact SimR.mk_err h _

theorem sim_putCalculated (isTarget : U64 → Bool) : ∀ (l : HP H) {m m' : MapPollard H}, Equiv m m' →
    Equiv (MapPollard.putCalculated isTarget l m) (MapPollard.putCalculated isTarget l m')
  | [], _, _, h => h
  | (pos, x) :: rest, m, m', h => by
    simp only [MapPollard.putCalculated, h.full]
    exact sim_putCalculated isTarget rest (Equiv.ite' ((h.putNode _ _).putCached _ _) (h.putNode _ _) _)

theorem sim_undoDeletion {m m' : MapPollard H} (h : Equiv m m') (targets : List U64) (proofHashes hashes : List H) :
    SimR (MapPollard.undoDeletion targets proofHashes hashes m) (MapPollard.undoDeletion targets proofHashes hashes m') := by
  unfold MapPollard.undoDeletion
  cases toHashAndPos targets hashes with
  | panic => exact SimR.mk_err h _
  | err => exact SimR.mk_err h _
  | hang => exact SimR.mk_err h _
  | ok hnp =>
    simp only [h.numLeaves, h.totalRows]
    sim_bind (sim_undoDelMoveDown (deTwin (if TreeRows m'.numLeaves ≠ m'.totalRows then
        sortU64 (translatePositions hnp.positions (TreeRows m'.numLeaves) m'.totalRows) else hnp.positions)
        m'.totalRows).reverse h) with m1 m1' _u h1
    simp only [h1.numLeaves, h1.totalRows, h1.full]
    split
    · exact SimR.mk_err h1 _
    · sim_bind (sim_placeProof _ 0 _ h1) with m2 m2' pr2 h2
      rw [h2.numLeaves, h2.totalRows]
      split
      · exact SimR.mk_err h2 _
      · exact SimR.mk_err h2 _
      · exact SimR.mk_err h2 _
      · exact SimR.mk_ok (sim_putCalculated _ _ h2) _

theorem equiv_getRoots {m m' : MapPollard H} (h : Equiv m m') : m.getRoots = m'.getRoots := by
  unfold MapPollard.getRoots
  have : m.getNodeD = m'.getNodeD := funext h.getNodeD
  simp only [h.numLeaves, h.totalRows, this]

theorem sim_restoreRoots (origPrevRoots : List H) : ∀ (rps : List U64) (i : Nat) {m m' : MapPollard H}, Equiv m m' →
    SimR (MapPollard.restoreRoots origPrevRoots rps i m) (MapPollard.restoreRoots origPrevRoots rps i m')
  | [], _, _, _, h => SimR.mk_ok h _
  | rp :: rest, i, m, m', h => by
    simp only [MapPollard.restoreRoots, h.hasCached, h.full]
    split
    · exact SimR.mk_err h _
    · exact sim_restoreRoots origPrevRoots rest _ (h.putNode _ _)

theorem sim_undo {m m' : MapPollard H} (h : Equiv m m') (nonZero : H) (numAdds : U64) (targets : List U64)
    (proofHashes hashes origPrevRoots : List H) :
    SimR (MapPollard.undo nonZero numAdds targets proofHashes hashes origPrevRoots m)
      (MapPollard.undo nonZero numAdds targets proofHashes hashes origPrevRoots m') := by
  unfold MapPollard.undo
  sim_bind (sim_undoAdd h nonZero numAdds targets origPrevRoots) with m1 m1' _u h1
  sim_bind (sim_undoDeletion h1 targets proofHashes hashes) with m2 m2' _u h2
  rw [equiv_getRoots h2]
  exact sim_restoreRoots _ _ _ h2

end UtreexoVerif.Proofs.MapSim
