/-
  The storage invariant of a map forest (property C09) and its basic consequences.

  `Inv m F`: the model state `m` (Model/MapPollard.lean) is a correct partial view of the
  specification forest `F`:
    (i)   every stored hash is the hash of the node of `F` at that position (`true_hash`),
    (ii)  `CachedLeaves` maps every cached hash to the position of that live leaf (`cached_pos`),
    (iii) required ⊆ stored ⊆ allowed for the cached set `K = dom CachedLeaves` (`has_needed`, `only_needed`),
    (iv)  (non-full forests) a stored non-root node carries the remember flag iff it is the
          position of a cached leaf (`flags`);
  with the size bounds `n_lt`, `n_eq`, `rows_le`, `total_le`.  Further lemmas about `Allowed` / `Required` / `OnPath`
  (`required_belowRoot`, `allowed_nonroot_iff`, `posOf_valid`, `proofSib_walk`, …) are in `Proofs/MapPrune.lean`.
-/
import UtreexoVerif.Proofs.MapAL
import UtreexoVerif.Proofs.ProofPosSem
import UtreexoVerif.Proofs.SpecView
import UtreexoVerif.Proofs.NodesUnique
import UtreexoVerif.Proofs.SpecSubs

namespace UtreexoVerif.Proofs.MapInv
open Model Spec
set_option linter.unusedSectionVars false

variable {H : Type} [DecidableEq H] [Hasher H]

/-- `(row, offset)` is a position of the geometry with `T` rows -/
def Valid (T : Nat) (q : Pos) : Prop := q.1 ≤ T ∧ q.2 < 2 ^ (T - q.1)

/-- `q` lies on the path from the node `t` up to (and including) the root of its tree -/
def OnPath (n : Nat) (t q : Pos) : Prop := ∃ R, BelowRoot n t.1 t.2 R ∧ Anc q t ∧ q.1 ≤ R

/-- `q` is the sibling of a non-root node of the path of `t`: a position of the canonical
single-leaf proof of `t` -/
def ProofSib (n : Nat) (t q : Pos) : Prop := ∃ x, OnPath n t x ∧ isRootPos n x = false ∧ q = sib x

/-- what a forest caching the leaves `K` may store -/
def Allowed (F : Forest H) (K : H → Prop) (q : Pos) : Prop :=
  isRootPos F.numLeaves q = true ∨
    ∃ x t, K x ∧ F.posOf x = some t ∧ (OnPath F.numLeaves t q ∨ ProofSib F.numLeaves t q)

/-- what a forest caching the leaves `K` must store (so that `Prove` of every subset works) -/
def Required (F : Forest H) (K : H → Prop) (q : Pos) : Prop :=
  isRootPos F.numLeaves q = true ∨
    ∃ x t, K x ∧ F.posOf x = some t ∧ (q = t ∨ ProofSib F.numLeaves t q)

theorem Required.allowed {F : Forest H} {K : H → Prop} {q : Pos}
    (hnode : ∀ x t, F.posOf x = some t → ∃ R, BelowRoot F.numLeaves t.1 t.2 R)
    (h : Required F K q) : Allowed F K q := by
  rcases h with h | ⟨x, t, hk, hp, h⟩
  · exact Or.inl h
  · refine Or.inr ⟨x, t, hk, hp, ?_⟩
    rcases h with rfl | h
    · obtain ⟨R, hb⟩ := hnode x q hp
      exact Or.inl ⟨R, hb, Anc.refl _, hb.1⟩
    · exact Or.inr h

structure Inv (m : MapPollard H) (F : Forest H) : Prop where
  n_lt : F.numLeaves < 2 ^ 63
  n_eq : m.numLeaves = BitVec.ofNat 64 F.numLeaves
  rows_le : F.rows ≤ m.totalRows.toNat
  total_le : m.totalRows.toNat ≤ 63
  true_hash : ∀ p l, m.getNode p = some l →
    ∃ q, Valid m.totalRows.toNat q ∧ p = encP m.totalRows.toNat q ∧ F.nodeAt q = some l.hash
  cached_pos : ∀ x p, m.getCached x = some p →
    ∃ t, F.posOf x = some t ∧ p = encP m.totalRows.toNat t
  only_needed : ∀ q l, Valid m.totalRows.toNat q → m.getNode (encP m.totalRows.toNat q) = some l →
    Allowed F (fun x => m.hasCached x = true) q
  has_needed : ∀ q, Required F (fun x => m.hasCached x = true) q →
    m.hasNode (encP m.totalRows.toNat q) = true
  flags : m.full = false → ∀ q l, Valid m.totalRows.toNat q → isRootPos F.numLeaves q = false →
    m.getNode (encP m.totalRows.toNat q) = some l →
    (l.remember = true ↔ ∃ x, m.getCached x = some (encP m.totalRows.toNat q))

/-- `Valid` and `ValidH` (Geometry.lean) are the same proposition; the `ValidH` and `EncPos` lemmas are stated with `ValidH` -/
theorem valid_iff_validH {T : Nat} {q : Pos} : Valid T q ↔ ValidH T q := Iff.rfl

theorem Valid.mono {T T' : Nat} {q : Pos} (h : Valid T q) (hT : T ≤ T') : Valid T' q := ValidH.mono h hT

theorem mem_nodes_of_nodeAt {F : Forest H} {q : Pos} {h : H} (hq : F.nodeAt q = some h) :
    ∃ b, (q, h, b) ∈ F.nodes := SpecNodes.nodeAt_eq_some_iff.1 hq

theorem belowRoot_of_nodeAt {F : Forest H} {q : Pos} {h : H} (hq : F.nodeAt q = some h) :
    ∃ R, BelowRoot F.numLeaves q.1 q.2 R := by
  obtain ⟨b, hb⟩ := mem_nodes_of_nodeAt hq
  exact SpecSubs.mem_nodes_belowRoot hb

theorem posOf_belowRoot {F : Forest H} {x : H} {t : Pos} (h : F.posOf x = some t) :
    ∃ R, BelowRoot F.numLeaves t.1 t.2 R := SpecSubs.mem_nodes_belowRoot (x := (t, x, true)) (Spec.posOf_some_mem h)

theorem numLeaves_le_pow_rows (F : Forest H) : F.numLeaves ≤ 2 ^ F.rows := forestRows_spec_le _

theorem belowRoot_valid' {F : Forest H} {T : Nat} (hT : F.rows ≤ T) {q : Pos} {R : Nat}
    (hb : BelowRoot F.numLeaves q.1 q.2 R) : Valid T q :=
  (hb.valid (numLeaves_le_pow_rows F)).mono hT

theorem node_valid {F : Forest H} {T : Nat} (hT : F.rows ≤ T) {d : Pos} {h : H} {b : Bool}
    (hd : (d, h, b) ∈ F.nodes) : Valid T d := by
  obtain ⟨R, hb⟩ := SpecSubs.mem_nodes_belowRoot hd
  exact belowRoot_valid' hT hb

theorem eq_rootPos_of_isRootPos {n : Nat} {q : Pos} (h : isRootPos n q = true) :
    n.testBit q.1 = true ∧ q = rootPos n q.1 := by
  simp only [isRootPos, Bool.and_eq_true, beq_iff_eq] at h
  exact ⟨h.1, Prod.ext rfl h.2⟩

theorem treeRows_numLeaves {m : MapPollard H} {F : Forest H} (inv : Inv m F) :
    TreeRows m.numLeaves = H8 F.rows := by
  rw [inv.n_eq]; exact SpecView.treeRows_eq inv.n_lt

theorem rows_le_63 {m : MapPollard H} {F : Forest H} (inv : Inv m F) : F.rows ≤ 63 :=
  Nat.le_trans inv.rows_le inv.total_le

theorem rows_eq_of_not_ne {m : MapPollard H} {F : Forest H} (inv : Inv m F) (h : ¬ m.totalRows ≠ H8 F.rows) :
    m.totalRows.toNat = F.rows := by
  rw [Decidable.not_not.1 h]; exact toNat_H8 (rows_le_63 inv)

/-- API coordinates (`TreeRows`) → storage coordinates (`TotalRows`), as every look-up does -/
theorem toStorage {m : MapPollard H} {F : Forest H} (inv : Inv m F) {q : Pos} (hq : Valid F.rows q) :
    (if m.totalRows ≠ TreeRows m.numLeaves then translatePos (encP F.rows q) (TreeRows m.numLeaves) m.totalRows
      else encP F.rows q) = encP m.totalRows.toNat q := by
  have hq' := hq.mono inv.rows_le
  rw [treeRows_numLeaves inv]
  split
  · have e := EncPos.translatePos_encP (rows_le_63 inv) hq inv.total_le hq'
    rwa [← U8_eq_H8 m.totalRows] at e
  · rename_i h
    rw [rows_eq_of_not_ne inv h]

theorem toApi {m : MapPollard H} {F : Forest H} (inv : Inv m F) {q : Pos} (hq : Valid F.rows q) :
    (if m.totalRows ≠ TreeRows m.numLeaves then translatePos (encP m.totalRows.toNat q) m.totalRows (TreeRows m.numLeaves)
      else encP m.totalRows.toNat q) = encP F.rows q := by
  have hq' := hq.mono inv.rows_le
  rw [treeRows_numLeaves inv]
  split
  · have e := EncPos.translatePos_encP inv.total_le hq' (rows_le_63 inv) hq
    rwa [← U8_eq_H8 m.totalRows] at e
  · rename_i h
    rw [rows_eq_of_not_ne inv h]

theorem getNode_true {m : MapPollard H} {F : Forest H} (inv : Inv m F) {q : Pos}
    (hq : Valid m.totalRows.toNat q) {l : Leaf H} (h : m.getNode (encP m.totalRows.toNat q) = some l) :
    F.nodeAt q = some l.hash := by
  obtain ⟨q', hv, he, hn⟩ := inv.true_hash _ l h
  rw [encP_inj inv.total_le hq hv he]
  exact hn

end UtreexoVerif.Proofs.MapInv
