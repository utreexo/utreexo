/-
  `undoAdd` on the 63-row encoded positions of live slots (property C15).

  `S` = slot list after a block's deletions (`n` slots); the block adds `K` leaves.  The position of
  a slot after the additions is the image `moveA (n + K) T dp p` of its origin `p` (its position in
  `S`, or its leaf position `(0, s)` if the block added it) under the dead roots `dp` the additions
  merged over (`slot_origin`).  `undoAdd` undoes the additions one at a time, last first; addition
  `j` merged over strictly higher roots than the additions before it, so one `undoSingleAdd` is
  the descending pass over a suffix of `dp` (`SchedAddU.saG_suffix`) and the tracked value while
  `j` additions are still applied is the image under the prefix `dRows S j` (`cur`).
-/
import UtreexoVerif.Proofs.SchedAddU
import UtreexoVerif.Proofs.SchedPos
import UtreexoVerif.Proofs.SchedLives
import UtreexoVerif.Proofs.SortBy
import UtreexoVerif.Proofs.Digits

namespace UtreexoVerif.Proofs.SchedUndoAdd
open UtreexoVerif.GoInt Spec Model
open UtreexoVerif.Proofs.FinalPos UtreexoVerif.Proofs.SchedSem
open UtreexoVerif.Proofs.SpecNodes UtreexoVerif.Proofs.CalcGeo
open UtreexoVerif.Proofs.SchedAddU UtreexoVerif.Proofs.SchedPos
open UtreexoVerif.Proofs.AddMove

theorem leftChild_leaf {m : Nat} (hm : m < 2 ^ 62) :
    LeftChild (E 63 (0, m)) (H8 63) = BitVec.ofNat 64 (2 * m) := by
  rw [E63_leaf]
  unfold LeftChild
  apply BitVec.eq_of_toNat_eq
  have hmask : (shl (2#64 : U64) (H8 63).toNat - 1#64) = BitVec.allOnes 64 := by decide
  simp only [hmask, BitVec.and_allOnes]
  rw [toNat_shl, BitVec.toNat_ofNat, BitVec.toNat_ofNat, Nat.mod_eq_of_lt (by omega),
    Nat.mod_eq_of_lt (by omega), Nat.mod_eq_of_lt (by omega)]
  omega

/-- the root of `S` on row `l` is dead and still stands, unmerged, after `j` additions (the next
addition that reaches row `l` merges over it: `SchedSem.DestroyedRow` with the last conjunct
replaced, see `destroyedRow_succ_iff`) -/
def Standing (S : List (Option Nat)) (j l : Nat) : Prop :=
  S.length.testBit l = true ∧ chunkAlive S l (2 * (S.length / 2 ^ (l + 1))) = false ∧
    S.length / 2 ^ (l + 1) = (S.length + j) / 2 ^ (l + 1)

instance (S : List (Option Nat)) (j l : Nat) : Decidable (Standing S j l) := by
  unfold Standing; infer_instance

theorem destroyed_quot_ne {S : List (Option Nat)} {j h : Nat} (hd : DestroyedRow S j h) :
    S.length / 2 ^ (h + 1) ≠ (S.length + j) / 2 ^ (h + 1) := by
  intro e
  have := lt_succ_div_mul (S.length + j) (2 ^ (h + 1)) (Nat.two_pow_pos _)
  have := hd.2.2
  rw [e] at this
  omega

theorem destroyed_mono {S : List (Option Nat)} {j h : Nat} (hd : DestroyedRow S j h) :
    DestroyedRow S (j + 1) h := ⟨hd.1, hd.2.1, by have := hd.2.2; omega⟩

section
variable (S : List (Option Nat)) (j : Nat) {k : Nat}
  (ht : Trail (S.length + j) k)
include ht

theorem destroyedRow_succ_iff {h : Nat} :
    DestroyedRow S (j + 1) h ↔ DestroyedRow S j h ∨ (h < k ∧ Standing S j h) := by
  constructor
  · rintro ⟨hb, hd, hle⟩
    by_cases hc : (S.length / 2 ^ (h + 1) + 1) * 2 ^ (h + 1) ≤ S.length + j
    · exact Or.inl ⟨hb, hd, hc⟩
    · -- then `S.length + j + 1` is a multiple of `2^(h+1)`: `h + 1` trailing ones
      have hpos := Nat.two_pow_pos (h + 1)
      rw [Nat.add_mul, Nat.one_mul] at hle hc
      have hq : (S.length + j) / 2 ^ (h + 1) = S.length / 2 ^ (h + 1) :=
        Nat.div_eq_of_lt_le (by omega) (by rw [Nat.add_mul, Nat.one_mul]; omega)
      have hmod : (S.length + j) % 2 ^ (h + 1) = 2 ^ (h + 1) - 1 := by
        have := Nat.div_add_mod (S.length + j) (2 ^ (h + 1))
        rw [hq, Nat.mul_comm] at this
        omega
      refine Or.inr ⟨?_, hb, hd, hq.symm⟩
      apply Classical.byContradiction
      intro hge
      have h1 := Nat.testBit_mod_two_pow (S.length + j) (h + 1) k
      rw [hmod, Nat.testBit_two_pow_sub_one, ht.clear, decide_eq_true (by omega : k < h + 1)] at h1
      cases h1
  · rintro (hd | ⟨hh, hb, hd, e⟩)
    · exact destroyed_mono hd
    · refine ⟨hb, hd, ?_⟩
      rw [e, ht.succ_div_mul (by omega)]
      omega

variable (hm : S.length + j < 2 ^ 62)
include hm

theorem mem_td_iff_standing {td : List U64} (htd : TdOK S (j + 1) td) {l : Nat} (hl : l < k) :
    E 63 (rootP (S.length + j) l) ∈ td ↔ Standing S j l := by
  have hk62 := ht.le_of_lt hm
  rw [htd.2]
  constructor
  · rintro ⟨h, hd, e⟩
    have hh := testBit_lt_of_lt (show S.length < 2 ^ 62 by omega) hd.1
    obtain ⟨rfl, e2⟩ := rootE_inj (show S.length + j < 2 ^ 63 by omega)
      (show S.length < 2 ^ 63 by omega) (by omega) (by omega) e
    exact ⟨hd.1, hd.2.1, e2.symm⟩
  · rintro ⟨hb, hd, e⟩
    refine ⟨l, ⟨hb, hd, ?_⟩, by unfold rootP; rw [e]⟩
    rw [e, ht.succ_div_mul (by omega)]
    omega

omit ht in
/-- **Where the bound `2^62` of C15 comes from.**  The last iteration of `undoSingleAdd`, undoing
slot `m`, looks up `LeftChild` of the LEAF position `(0, m)` in `toDestroy`.  That word is `2 * m`
(`leftChild_leaf`); for `m < 2^62` it is the 63-row code of the leaf position `(0, 2 * m)`, which
lies to the right of every root, so a correct `toDestroy` does not contain it.  From `2^62` on
`2 * m` runs into the codes of higher rows and can be a dead root
(`Props.C15.undoSingleAdd_large_witness`).  The other lemmas of the tracker carry `2^62` (as
`total h ≤ 2^62`, `S.length + K ≤ 2^62`, `n < 2^62`) only to be applicable together with this one;
what they use themselves is `< 2^63` (`ValidH 63`, `encP_inj`, the row bound `k ≤ 62`). -/
theorem htd_of_tdok {td : List U64} (htd : TdOK S (j + 1) td) : Htd (S.length + j) td := by
  refine ⟨htd.1, ?_⟩
  -- `2 * m` is the leaf position `(0, 2 * m)`; a root position equal to it is the root of row 0
  rw [leftChild_leaf hm, htd.2, ← E63_leaf]
  rintro ⟨h, ⟨hb, _, _⟩, e⟩
  have hh := testBit_lt_of_lt (show S.length < 2 ^ 62 by omega) hb
  have := encP_inj (by decide) (show ValidH 63 (0, 2 * (S.length + j)) from ⟨by simp, by simp only; omega⟩)
    (root_valid (show S.length < 2 ^ 63 by omega) (by omega)) e
  injection this with e1 e2
  subst e1
  rw [Nat.testBit_zero, decide_eq_true_eq] at hb
  rw [Nat.zero_add, Nat.pow_one] at e2
  omega

theorem tdok_pred {td : List U64} (htd : TdOK S (j + 1) td) :
    TdOK S j (saTd (H8 63) (k + 1) (E 63 (k, (S.length + j) / 2 ^ k)) td) := by
  have hk62 := ht.le_of_lt hm
  obtain ⟨h1, h2⟩ := saTd_spec ht hm k td (Nat.le_refl _) (htd_of_tdok S j hm htd)
  refine ⟨h1, fun y => ?_⟩
  rw [h2 y, htd.2]
  constructor
  · rintro ⟨⟨h, hd, e⟩, hall⟩
    rcases (destroyedRow_succ_iff S j ht).mp hd with hd | ⟨hh, hp⟩
    · exact ⟨h, hd, e⟩
    · exact absurd (by unfold rootP; rw [e, hp.2.2]) (hall h hh)
  · rintro ⟨h, hd, e⟩
    refine ⟨⟨h, destroyed_mono hd, e⟩, fun l hl hy => ?_⟩
    have hh := testBit_lt_of_lt (show S.length < 2 ^ 62 by omega) hd.1
    rw [e] at hy
    obtain ⟨rfl, e2⟩ := rootE_inj (n' := S.length + j) (show S.length < 2 ^ 63 by omega)
      (show S.length + j < 2 ^ 63 by omega) (by omega) (by omega) hy
    exact destroyed_quot_ne hd e2

end

/-- the tracked slots: distinct, live after the `K` additions -/
def Trk (S : List (Option Nat)) (K : Nat) (P : List Nat) : Prop :=
  P.Nodup ∧ ∀ s ∈ P, s < S.length + K ∧ (s < S.length → Live S s)

theorem sliceIndex_map {P : List Nat} {f : Nat → U64} {v : U64} {t : Nat}
    (h : ∀ s ∈ P, f s = v ↔ s = t) :
    sliceIndex (P.map f) v = if t ∈ P then ((P.idxOf t : Nat) : Int) else -1 := by
  unfold sliceIndex
  induction P with
  | nil => simp
  | cons a P ih =>
    have ih' := ih (fun s hs => h s (List.mem_cons_of_mem _ hs))
    rw [List.map_cons, List.findIdx?_cons]
    by_cases ha : a = t
    · have hfa : f a = v := (h a List.mem_cons_self).mpr ha
      subst ha
      simp [hfa]
    · have hne : ¬ f a = v := fun e => ha ((h a List.mem_cons_self).mp e)
      have hb : (f a == v) = false := beq_false_of_ne hne
      rw [hb]
      simp only [Bool.false_eq_true, if_false]
      rw [List.idxOf_cons, beq_false_of_ne ha]
      simp only [cond_false, List.mem_cons]
      have hta : ¬ t = a := fun e => ha e.symm
      simp only [hta, false_or]
      by_cases ht : t ∈ P
      · rw [if_pos ht] at ih' ⊢
        cases hf : List.findIdx? (fun x => x == v) (List.map f P) with
        | none => rw [hf] at ih'; simp at ih'
        | some i =>
          rw [hf] at ih'
          simp only [Option.map_some] at ih' ⊢
          omega
      · rw [if_neg ht] at ih' ⊢
        cases hf : List.findIdx? (fun x => x == v) (List.map f P) with
        | none => rfl
        | some i => rw [hf] at ih'; simp at ih'

theorem posS_under {S : List (Option Nat)} {s : Nat} (hn : S.length < 2 ^ 64) (hs : s < S.length) :
    ∃ T, S.length.testBit T = true ∧ Under T (2 * (S.length / 2 ^ (T + 1))) (posS S s) := by
  have hin := treeOf_spec hn hs
  refine ⟨SchedSem.treeOf S.length s, hin.1, ?_⟩
  unfold posS nodePos
  exact fpos_under _ (SchedSem.treeOf S.length s, _) _ 0 s (by simp)

/-- the indexes `undoAdd` reports: the tracked slots among the added ones, last added first -/
def createdOf (n : Nat) (P : List Nat) : Nat → List Int
  | 0 => []
  | j+1 => (if n + j ∈ P then [((P.idxOf (n + j) : Nat) : Int)] else []) ++ createdOf n P j

theorem getElem?_map_idxOf {α} (f : Nat → α) {P : List Nat} {s : Nat} (hs : s ∈ P) :
    (P.map f)[P.idxOf s]? = some (f s) := by
  have hlt : P.idxOf s < P.length := List.idxOf_lt_length_iff.mpr hs
  rw [List.getElem?_map, List.getElem?_eq_getElem hlt, List.getElem_idxOf hlt]
  rfl

def createdSlots (n : Nat) (P : List Nat) : Nat → List Nat
  | 0 => []
  | j+1 => (if n + j ∈ P then [n + j] else []) ++ createdSlots n P j

theorem createdOf_eq (n : Nat) (P : List Nat) : ∀ j,
    createdOf n P j = (createdSlots n P j).map fun s => ((P.idxOf s : Nat) : Int) := by
  intro j
  induction j with
  | zero => rfl
  | succ j ih =>
    simp only [createdOf, createdSlots, List.map_append, ih]
    split <;> simp

theorem mem_createdSlots (n : Nat) (P : List Nat) : ∀ j s,
    s ∈ createdSlots n P j ↔ s ∈ P ∧ n ≤ s ∧ s < n + j := by
  intro j
  induction j with
  | zero => intro s; simp [createdSlots]
  | succ j ih =>
    intro s
    simp only [createdSlots, List.mem_append, ih]
    constructor
    · rintro (h | ⟨h1, h2, h3⟩)
      · split at h
        · simp only [List.mem_singleton] at h; subst h; exact ⟨by assumption, by omega, by omega⟩
        · cases h
      · exact ⟨h1, h2, by omega⟩
    · rintro ⟨h1, h2, h3⟩
      by_cases e : s = n + j
      · left; subst e; simp [h1]
      · right; exact ⟨h1, h2, by omega⟩

open UtreexoVerif.Proofs.MoveFold
open UtreexoVerif.Proofs.ProofUpdateGnp UtreexoVerif.Proofs.ProofUpdateDeTwin
open UtreexoVerif.Proofs.ProofUndoDel UtreexoVerif.Proofs.ProofUndoAddMove

theorem ascFrom_append {a : Nat} {l1 l2 : List Nat} (h1 : AscFrom a l1) (h2 : AscFrom 0 l2)
    (ha : ∀ y ∈ l2, a ≤ y) (hlt : ∀ x ∈ l1, ∀ y ∈ l2, x < y) : AscFrom a (l1 ++ l2) := by
  induction l1 generalizing a with
  | nil => exact h2.of_ge ha
  | cons x t ih =>
    exact ⟨h1.1, ih h1.2 (fun y hy => hlt x List.mem_cons_self y hy)
      (fun x' hx' => hlt x' (List.mem_cons_of_mem _ hx'))⟩

/-- the rows of the dead roots of `S` that the first `j` additions merge over, in the order in
which the additions reach them (= ascending): addition `j` merges over the dead roots still
standing below the trailing ones of `n + j` -/
def dRows (S : List (Option Nat)) : Nat → List Nat
  | 0 => []
  | j+1 => dRows S j ++
      (List.range (trailingOnes (S.length + j))).filter fun l => decide (Standing S j l)

theorem ascFrom_filter_range (p : Nat → Bool) : ∀ l, AscFrom 0 ((List.range l).filter p) := by
  intro l
  induction l with
  | zero => trivial
  | succ l ih =>
    rw [List.range_succ, List.filter_append]
    apply ascFrom_append ih
    · rw [List.filter_cons]; split <;> simp [AscFrom]
    · intro y _; omega
    · intro x hx y hy
      have hx' := (List.mem_range.mp (List.mem_filter.mp hx).1)
      have hy' := List.mem_singleton.mp (List.mem_filter.mp hy).1
      omega

theorem dRows_spec (S : List (Option Nat)) : ∀ j, DestroySpec S j (dRows S j) := by
  intro j
  induction j with
  | zero =>
    refine ⟨trivial, fun h => ⟨fun hm => (nomatch hm), ?_⟩⟩
    rintro ⟨_, _, hle⟩
    have := lt_succ_div_mul S.length (2 ^ (h + 1)) (Nat.two_pow_pos _)
    omega
  | succ j ih =>
    have ht := trail_trailingOnes (S.length + j)
    have hmem : ∀ h, h ∈ dRows S (j + 1) ↔ DestroyedRow S (j + 1) h := by
      intro h
      rw [destroyedRow_succ_iff S j ht, dRows, List.mem_append, ih.mem h, List.mem_filter,
        List.mem_range, decide_eq_true_eq]
      rfl
    refine ⟨?_, hmem⟩
    apply ascFrom_append ih.asc (ascFrom_filter_range _ _) (fun _ _ => Nat.zero_le _)
    intro x hx y hy
    -- a root already merged over stands below every root still standing
    have hdx : DestroyedRow S j x := (ih.mem x).mp hx
    have hpy : Standing S j y := of_decide_eq_true (List.mem_filter.mp hy).2
    apply Classical.byContradiction
    intro hc
    apply destroyed_quot_ne hdx
    rw [← div_div_pow (show y + 1 ≤ x + 1 by omega), hpy.2.2, div_div_pow (by omega)]

theorem popRows_eq {S : List (Option Nat)} {j : Nat} (hm : S.length + j < 2 ^ 62) {td : List U64}
    (htd : TdOK S (j + 1) td) :
    popRows (S.length + j) td (trailingOnes (S.length + j)) =
      (List.range (trailingOnes (S.length + j))).filter fun l => decide (Standing S j l) := by
  unfold popRows
  apply List.filter_congr
  intro l hl
  exact decide_eq_decide.mpr
    (mem_td_iff_standing S j (trail_trailingOnes _) hm htd (List.mem_range.mp hl))

theorem dRows_prefix (S : List (Option Nat)) {j K : Nat} (h : j ≤ K) : ∃ r, dRows S K = dRows S j ++ r := by
  induction K with
  | zero => exact ⟨[], by rw [show j = 0 by omega]; simp⟩
  | succ K ih =>
    rcases Nat.lt_or_ge j (K + 1) with hlt | hge
    · obtain ⟨r, hr⟩ := ih (by omega)
      exact ⟨r ++ _, by rw [dRows, hr, List.append_assoc]⟩
    · exact ⟨[], by rw [show j = K + 1 by omega]; simp⟩

theorem destroyedPos_append (n : Nat) (L1 L2 : List Nat) :
    destroyedPos n (L1 ++ L2) = destroyedPos n L1 ++ destroyedPos n L2 := List.map_append

theorem destroyedPos_succ {S : List (Option Nat)} {j : Nat} (hm : S.length + j < 2 ^ 62) {td : List U64}
    (htd : TdOK S (j + 1) td) :
    destroyedPos S.length (dRows S (j + 1)) = destroyedPos S.length (dRows S j) ++
      (popRows (S.length + j) td (trailingOnes (S.length + j))).map (rootP (S.length + j)) := by
  rw [dRows, destroyedPos_append, popRows_eq hm htd]
  congr 1
  unfold destroyedPos
  apply List.map_congr_left
  intro l hl
  have : Standing S j l := of_decide_eq_true (List.mem_filter.mp hl).2
  unfold rootP
  rw [this.2.2]

def org (S : List (Option Nat)) (s : Nat) : Pos := if s < S.length then posS S s else (0, s)

/-- the tracked value of slot `s` while `j` of the `K` additions are still applied: the batch image
of its origin under the roots those `j` additions merged over (no intermediate forest) -/
def cur (S : List (Option Nat)) (K j s : Nat) : U64 :=
  E 63 (mv (S.length + K) (destroyedPos S.length (dRows S j)) (org S s))

theorem dp_strict {S : List (Option Nat)} {K : Nat} (hK : S.length + K ≤ 2 ^ 62) {j : Nat} (hj : j ≤ K) :
    ∀ A ∈ destroyedPos S.length (dRows S j), TStrict (S.length + K) A := by
  intro A hA
  obtain ⟨r, hr⟩ := dRows_prefix S hj
  exact destroyed_strict S K _ (dRows_spec S K) (by omega) A
    (by rw [hr, destroyedPos_append]; exact List.mem_append_left _ hA)

section block
variable {S : List (Option Nat)} {K : Nat} (hK : S.length + K ≤ 2 ^ 62)
  {s : Nat} (hs : s < S.length + K) (hl : s < S.length → Live S s)
include hK hs hl

theorem slot_origin : ∃ T, Origin (S.length + K) (destroyedPos S.length (dRows S K)) (org S s) T ∧
    posS (S ++ fresh S.length K) s =
      moveA (S.length + K) T (destroyedPos S.length (dRows S K)) (org S s) := by
  have hfr : fresh S.length K = ((List.range K).map (S.length + ·)).map some := by
    simp [fresh, List.map_map, Function.comp_def]
  have hlenA : ((List.range K).map (S.length + ·)).length = K := by simp
  have hL : DestroySpec S ((List.range K).map (S.length + ·)).length (dRows S K) := by
    rw [hlenA]; exact dRows_spec S K
  have hin := treeOf_spec (n := S.length + K) (s := s) (by omega) hs
  have hposA : posS (S ++ fresh S.length K) s =
      nodePos (S ++ fresh S.length K) (SchedSem.treeOf (S.length + K) s) 0 s := by
    unfold posS; simp [SchedLives.fresh_length]
  rw [hposA]
  unfold org
  split
  · rename_i h
    have hc := chunk_origin_old S _ _ hL (by rw [hlenA]; omega)
      (treeOf_spec (n := S.length) (s := s) (by omega) h)
      (chunkAlive_of_slot _ 0 s s s (hl h) (by simp) (by simp)) (by rw [hlenA]; exact hin)
    rw [hlenA, ← hfr] at hc
    exact ⟨_, hc⟩
  · have hc := chunk_origin_new S _ _ hL (by rw [hlenA]; omega) (l := 0) (b := s)
      (by rw [hlenA]; exact hin) (by omega) (Or.inl rfl)
    rw [hlenA, ← hfr] at hc
    exact ⟨_, hc⟩

theorem slot_origin_at {j : Nat} (hj : j ≤ K) :
    ∃ T, Origin (S.length + K) (destroyedPos S.length (dRows S j)) (org S s) T := by
  obtain ⟨T, o, _⟩ := slot_origin hK hs hl
  obtain ⟨r, hr⟩ := dRows_prefix S hj
  rw [hr, destroyedPos_append] at o
  exact ⟨T, Origin.pre o⟩

theorem step_pos {j : Nat} (hjK : j < K) {td : List U64} (htd : TdOK S (j + 1) td) :
    saG (H8 63) (trailingOnes (S.length + j) + 1)
        (E 63 (trailingOnes (S.length + j), (S.length + j) / 2 ^ trailingOnes (S.length + j))) td
        (cur S K (j + 1) s) = cur S K j s := by
  have ht := trail_trailingOnes (S.length + j)
  have hm : S.length + j < 2 ^ 62 := by omega
  obtain ⟨T, o⟩ := slot_origin_at hK hs hl (show j + 1 ≤ K by omega)
  have hsplit := destroyedPos_succ hm htd
  have hdt : DtList (destroyedPos S.length (dRows S (j + 1))) :=
    destroyed_dtList (dRows_spec S (j + 1)).asc
  have hst := dp_strict hK (show j + 1 ≤ K by omega)
  unfold cur
  rw [mv_eq o, mv_eq o]
  rw [hsplit] at o hdt hst ⊢
  exact saG_suffix (forestRows_small (show S.length + K ≤ 2 ^ 63 by omega)) ht hm
    (htd_of_tdok S j hm htd) _ hdt (fun A hA => hst A (List.mem_append_right _ hA)) o

end block

/-- the leaf added by addition `j` is not under a root that the earlier additions merged over -/
theorem cur_leaf (S : List (Option Nat)) (K j : Nat) :
    cur S K j (S.length + j) = E 63 (0, S.length + j) := by
  unfold cur mv org
  rw [if_neg (by omega), moveA_fix]
  intro A hA
  obtain ⟨hjL, hA2⟩ := mem_destroyedPos.mp hA
  obtain ⟨_, _, hpop⟩ := ((dRows_spec S j).mem A.1).mp hjL
  unfold hitA
  simp only [decide_eq_false_iff_not, Nat.sub_zero, hA2, Nat.mul_div_cancel_left _ (by decide : 0 < 2)]
  rintro ⟨_, e⟩
  have := (Nat.le_div_iff_mul_le (Nat.two_pow_pos (A.1 + 1))).mpr hpop
  omega

theorem cur_eq_leaf {S : List (Option Nat)} {K : Nat} (hK : S.length + K ≤ 2 ^ 62)
    {s : Nat} (hs : s < S.length + K) (hl : s < S.length → Live S s) {j : Nat} (hjK : j < K) :
    cur S K j s = E 63 (0, S.length + j) ↔ s = S.length + j := by
  constructor
  · intro e
    rw [← cur_leaf S K j] at e
    -- undo the first `j` additions on both sides: the origins agree
    obtain ⟨T, o⟩ := slot_origin_at hK hs hl (show j ≤ K by omega)
    obtain ⟨T', o'⟩ := slot_origin_at hK (show S.length + j < S.length + K by omega)
      (fun h => absurd h (by omega)) (show j ≤ K by omega)
    have hF := forestRows_small (show S.length + K ≤ 2 ^ 63 by omega)
    have hdt : DtList ([] ++ destroyedPos S.length (dRows S j)) := by
      rw [List.nil_append]; exact destroyed_dtList (dRows_spec S j).asc
    have hst := dp_strict hK (show j ≤ K by omega)
    have b1 := moveBack_suffix hF (Nat.le_refl _) _ [] hdt hst (by rw [List.nil_append]; exact o)
    have b2 := moveBack_suffix hF (Nat.le_refl _) _ [] hdt hst (by rw [List.nil_append]; exact o')
    unfold cur at e
    rw [mv_eq o, mv_eq o'] at e
    rw [List.nil_append] at b1 b2
    rw [e, b2] at b1
    simp only [moveA] at b1
    have hv : ValidH 63 (org S s) := ValidH.mono (under_valid o.tree o.under) hF
    have hv' : ValidH 63 (org S (S.length + j)) := ValidH.mono (under_valid o'.tree o'.under) hF
    have e2 := encP_inj (Nat.le_refl _) hv' hv b1
    unfold org at e2
    rw [if_neg (by omega)] at e2
    split at e2
    · rename_i h
      exfalso
      obtain ⟨T0, hb, hu⟩ := posS_under (S := S) (s := s) (by omega) h
      rw [← e2] at hu
      obtain ⟨_, h2⟩ := hu
      simp only [Nat.sub_zero] at h2
      have := testBit_div_odd.mp hb
      have := Nat.div_le_div_right (c := 2 ^ T0) (Nat.le_add_right S.length j)
      rw [half_pow] at h2
      omega
    · injection e2 with _ e3; exact e3.symm
  · intro e
    subst e
    exact cur_leaf S K j

theorem undoAddLoop_spec {S : List (Option Nat)} {K : Nat} {P : List Nat} (hP : Trk S K P)
    (hK : S.length + K ≤ 2 ^ 62) : ∀ (j : Nat) (td : List U64) (created : List Int), j ≤ K →
    TdOK S j td →
    undoAddLoop (H8 63) j (P.map (cur S K j)) td (BitVec.ofNat 64 (S.length + j)) created =
      (P.map (cur S K 0), created ++ createdOf S.length P j) := by
  intro j
  induction j with
  | zero => intro td created _ _; simp [undoAddLoop, createdOf]
  | succ j ih =>
    intro td created hj htd
    have ht := trail_trailingOnes (S.length + j)
    have hm : S.length + j < 2 ^ 62 := by omega
    rw [undoAddLoop, show S.length + (j + 1) = S.length + j + 1 from rfl,
      undoSingleAdd_eq ht hm]
    simp only
    have hmap : (P.map (cur S K (j + 1))).map (saG (H8 63) (trailingOnes (S.length + j) + 1)
        (E 63 (trailingOnes (S.length + j), (S.length + j) / 2 ^ trailingOnes (S.length + j))) td) =
        P.map (cur S K j) := by
      rw [List.map_map]
      apply List.map_congr_left
      intro s hs
      exact step_pos hK (hP.2 s hs).1 (hP.2 s hs).2 (by omega) htd
    rw [hmap, ofNat_succ_sub_one]
    have hidx := sliceIndex_map (P := P) (f := cur S K j) (v := E 63 (0, S.length + j)) (t := S.length + j)
      (fun s hs => cur_eq_leaf hK (hP.2 s hs).1 (hP.2 s hs).2 (show j < K by omega))
    rw [hidx]
    have htd' := tdok_pred S j ht hm htd
    by_cases hmem : S.length + j ∈ P
    · simp only [hmem, if_true]
      have hne : (((P.idxOf (S.length + j) : Nat) : Int) != -1) = true := by
        rw [bne_iff_ne]; omega
      simp only [hne, if_true]
      rw [ih _ _ (by omega) htd']
      simp [createdOf, hmem]
    · simp only [hmem, if_false]
      have hne : (((-1 : Int)) != -1) = false := by decide
      simp only [hne, Bool.false_eq_true, if_false]
      rw [ih _ _ (by omega) htd']
      simp [createdOf, hmem]

theorem undoAdd_slots {S : List (Option Nat)} {K : Nat} {P : List Nat} (hP : P.Nodup)
    (hlive : ∀ s ∈ P, Live (S ++ fresh S.length K) s) (hK : S.length + K ≤ 2 ^ 62) (hK16 : K < 65536)
    {td : List U64} (htd : TdOK S K td) :
    undoAdd (H8 63) (P.map fun s => E 63 (posS (S ++ fresh S.length K) s)) td (BitVec.ofNat 16 K)
        (BitVec.ofNat 64 (S.length + K)) =
      (P.map (fun s => if s < S.length then E 63 (posS S s) else BitVec.ofNat 64 s),
       createdOf S.length P K) := by
  have hlt : ∀ s ∈ P, s < S.length + K := by
    intro s hs
    have := SchedLives.live_lt (hlive s hs)
    simpa [SchedLives.fresh_length] using this
  have hTrk : Trk S K P := ⟨hP, fun s hs => ⟨hlt s hs, fun h => by
    have := hlive s hs
    unfold Live at this ⊢
    rwa [List.getElem?_append_left h] at this⟩⟩
  have h1 : (P.map fun s => E 63 (posS (S ++ fresh S.length K) s)) = P.map (cur S K K) := by
    apply List.map_congr_left
    intro s hs
    obtain ⟨T, o, e⟩ := slot_origin hK (hTrk.2 s hs).1 (hTrk.2 s hs).2
    unfold cur
    rw [mv_eq o, e]
  have h2 : P.map (cur S K 0) =
      P.map (fun s => if s < S.length then E 63 (posS S s) else BitVec.ofNat 64 s) := by
    apply List.map_congr_left
    intro s _
    unfold cur org
    simp only [dRows, destroyedPos, List.map_nil, mv_nil]
    split
    · rfl
    · exact E63_leaf
  unfold undoAdd
  have hK' : (BitVec.ofNat 16 K).toNat = K := by
    rw [BitVec.toNat_ofNat]; exact Nat.mod_eq_of_lt (by omega)
  have htd' : TdOK S K (sortU64 td) := by
    refine ⟨(SortBy.perm_sortU64 td).nodup_iff.mpr htd.1, fun x => ?_⟩
    rw [SortBy.mem_sortU64, htd.2]
  rw [hK', h1, undoAddLoop_spec hTrk hK K _ [] (Nat.le_refl _) htd', h2]
  simp


end UtreexoVerif.Proofs.SchedUndoAdd
