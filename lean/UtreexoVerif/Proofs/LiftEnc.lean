/-
  The position functions of utils.go on encoded positions, read in the vocabulary of
  `Proofs/LiftGeo.lean`, for any encoding with `rows ≤ 63` rows: `isAncestor` is `SUnder`,
  `calcNextPosition pos del` is `liftP del pos`, `calcPrevPosition pos del` is `unliftP (sib del) pos`.
  Proved from `Proofs/EncPos.lean`; stated with `CalcGeo.E rows p`, which the cached-proof files
  rewrite with (`CalcGeo.E` is `encP` and `CalcGeo.Valid` is `ValidH` by unfolding, so a term of one
  spelling is accepted where the other is expected).
-/
import UtreexoVerif.Proofs.PosMove
import UtreexoVerif.Proofs.EncPos

namespace UtreexoVerif.Proofs.LiftEnc
open Spec Model
open UtreexoVerif.Proofs.CalcGeo
open UtreexoVerif.Proofs.MapRep UtreexoVerif.Proofs.MapLiftGeo

variable {rows : Nat}

theorem isAncestor_E (hr : rows ≤ 63) {p c : Pos} (hp : ValidH rows p) (hc : ValidH rows c) :
    isAncestor (E rows p) (E rows c) (H8 rows) = decide (SUnder p c) :=
  (EncPos.isAncestor_encP hr hc hp).trans
    (decide_eq_decide.2 ⟨fun ⟨a, b⟩ => ⟨⟨Nat.le_of_lt a, b.symm⟩, a⟩, fun ⟨⟨_, b⟩, a⟩ => ⟨a, b.symm⟩⟩)

/-- the test of `getNewPositions` and of the undo loops -/
theorem isAncestor_parent_E (hr : rows ≤ 63) {d c : Pos} (hd : ValidH rows d) (hlt : d.1 < rows)
    (hc : ValidH rows c) :
    isAncestor (Parent (E rows d) (H8 rows)) (E rows c) (H8 rows) = decide (SUnder (parent d) c) := by
  rw [parent_E hr hd hlt, isAncestor_E hr (ValidH.parent hd hlt) hc]

theorem calcNext_E (hr : rows ≤ 63) {d c : Pos} (hd : ValidH rows d) (hlt : d.1 < rows)
    (hc : ValidH rows c) (hle : c.1 ≤ d.1) :
    calcNextPosition (E rows c) (E rows d) (H8 rows) = (E rows (liftP d c), false) :=
  EncPos.calcNext_encP hr hc hd hle hlt

theorem calcPrev_E (hr : rows ≤ 63) {d q : Pos} (hd : ValidH rows d) (hlt : d.1 < rows)
    (hq : ValidH rows q) (h1 : 1 ≤ q.1) (hle : q.1 ≤ d.1 + 1) :
    calcPrevPosition (E rows q) (E rows d) (H8 rows) = E rows (unliftP (sib d) q) := by
  rw [unliftP_sib h1]
  exact EncPos.calcPrev_encP hr hq hd h1 (Nat.sub_le_of_le_add hle) hlt

/-- the test of `moveDownPosition` and of the undo loops (`pos == position || isAncestor(position, pos)`) -/
theorem mdpTest_E (hr : rows ≤ 63) {p q : Pos} (hp : ValidH rows p) (hq : ValidH rows q) :
    (E rows q == E rows p || isAncestor (E rows p) (E rows q) (H8 rows)) = decide (Anc p q) := by
  rw [isAncestor_E hr hp hq]
  by_cases e : q = p
  · subst e
    rw [decide_eq_true (Anc.refl q)]
    simp
  · rw [beq_false_of_ne fun (h : E rows q = E rows p) => e (encP_inj hr hq hp h), Bool.false_or]
    exact decide_eq_decide.2 ⟨fun h => h.1, fun h => sunder_of_ne h e⟩

end UtreexoVerif.Proofs.LiftEnc
