/-
  Pointer forest, heap model: `getNode` by position, on the pointers.

  * `getNodeLoop_walkChild`: the loop of `getNode` (state `(n, sibling)`, following NIECE
    pointers) is a walk along CHILD paths with the roles exchanged: the state `(n, s)`
    corresponds to "node `s` whose children hang off `n`";
  * `getNode_pos`: for the position `(r, o)` below the root of the tree on row `R`, `getNode`
    returns the pair reached along the child path of the SIBLING offset (that is how the niece pointers
    walk); `getNode_pos_self`: the same read along the position's own child path `pathBits (R - r) o`.
-/
import UtreexoVerif.Proofs.PollardHeapZip
import UtreexoVerif.Proofs.PollardHeapRun
import UtreexoVerif.Proofs.PollardHeapLookup
import UtreexoVerif.Proofs.PollardLookup
import UtreexoVerif.Proofs.SpecSubs
set_option linter.unusedSectionVars false

namespace UtreexoVerif.Proofs.PollardHeap
open UtreexoVerif.Model UtreexoVerif.Model.PollardHeap UtreexoVerif.Spec
open UtreexoVerif.Model.PollardAbs UtreexoVerif.Proofs.SpecView UtreexoVerif.Proofs.PollardLookup

variable {H : Type} [DecidableEq H] [Hasher H]

/-- the niece decisions of the loop of `getNode`, highest bit first -/
def Lpath (bits : U64) : Nat → List Bool
  | 0 => []
  | k+1 => leftNieceAt bits k :: Lpath bits k

theorem getNodeLoop_walkChild (bits : U64) : ∀ (k : Nat) (n s : Nat) (par : Ptr) (st : Pollard H)
    (n' s' : Nat), walkChild st.heap s n (Lpath bits k) = some (s', n') →
    ∃ par', getNodeLoop k bits n (some s) par st = (.ok (some n', some s', par'), st) := by
  intro k
  induction k with
  | zero =>
    intro n s par st n' s' h
    simp only [Lpath, walkChild, Option.some.injEq, Prod.mk.injEq] at h
    obtain ⟨rfl, rfl⟩ := h
    exact ⟨par, rfl⟩
  | succ k ih =>
    intro n s par st n' s' h
    simp only [Lpath, walkChild] at h
    cases hn : st.heap[n]? with
    | none => simp [hn] at h
    | some nn =>
      simp only [hn] at h
      cases hL : nn.lNiece with
      | none => simp [hL] at h
      | some l =>
        cases hR : nn.rNiece with
        | none => simp [hL, hR] at h
        | some r =>
          simp only [hL, hR] at h
          unfold getNodeLoop
          simp only [bind_apply, node_apply, hn, hL, hR]
          by_cases hb : leftNieceAt bits k = true
          · simp only [hb, if_true] at h ⊢
            exact ih l r (some s) st n' s' h
          · simp only [hb, Bool.false_eq_true, if_false] at h ⊢
            exact ih r l (some s) st n' s' h

/-- on a bit field of the shape `DetectOffset` returns for offset `o'`, the niece decisions are
the child path of the SIBLING offset `o' ^^^ 1` -/
theorem Lpath_eq_pathBits (bits : U64) (o' : Nat) : ∀ (k : Nat),
    (∀ j, j < k → bits.getLsbD j = if j = 0 then o'.testBit 0 else !o'.testBit j) →
    Lpath bits k = pathBits k (o' ^^^ 1) := by
  intro k
  induction k with
  | zero => intro _; rfl
  | succ k ih =>
    intro hb
    simp only [Lpath, pathBits]
    rw [ih (fun j hj => hb j (by omega)), leftNieceAt_eq, hb k (by omega)]
    congr 1
    rw [Nat.testBit_xor]
    by_cases h0 : k = 0
    · subst h0; simp
    · have : (1 : Nat).testBit k = false := by
        cases k with
        | zero => exact absurd rfl h0
        | succ k => rw [Nat.testBit_succ]; simp
      simp [h0, this]

/-- **`getNode` by position**: for the position `(r, o)` below the root of the tree on row `R`
(whose root pointer is `root`), `getNode` returns the node `n'` and its sibling `s'`, where
`(s', n')` is reached from the root along the child path of the sibling offset `o ^^^ 1` -/
theorem getNode_pos {p : Pollard H} {n : Nat} (hnl : p.numLeaves.toNat = n) (hn : n < 2 ^ 63)
    {R r o : Nat} (hR : R ∈ treeRows n) (hr : r ≤ R)
    (ho : o / 2 ^ (R - r) = 2 * (n >>> (R + 1)))
    {root : Nat} (hroot : p.roots[(treeRows n).idxOf R]? = some root) (hL : p.roots.length ≤ 255)
    {s' n' : Nat} (hw : walkChild p.heap root root (pathBits (R - r) (o ^^^ 1)) = some (s', n')) :
    ∃ par, getNode (encU (forestRows n) r o) p = (.ok (some n', some s', par), p) := by
  have hb : n.testBit R = true := (Spec.mem_treeRows.1 hR).2
  have htr : forestRows n ≤ 63 := forestRows_le_63 hn
  obtain ⟨hrr, hoo⟩ := (SpecSubs.under_inF (p := (r, o)) hb ⟨hr, ho⟩).valid
  have hT : TreeRows p.numLeaves = H8 (forestRows n) := by
    rw [numLeaves_eq_ofNat hnl]; exact treeRows_eq hn
  have hRrows : R ≤ forestRows n := testBit_le_forestRows hb
  have hg1 : decide (encU (forestRows n) r o ≥ maxPosition (H8 (forestRows n))) = false := by
    rw [decide_eq_false_iff_not, ge_iff_le, BitVec.le_def]
    unfold maxPosition
    rw [toNat_H8 htr, toNat_mask htr, toNat_encU htr hrr hoo]
    have := Proofs.enc_lt_aux hrr hoo
    omega
  have hin : inForest (encU (forestRows n) r o) p.numLeaves (H8 (forestRows n)) = true := by
    rw [Props.C16.inForest_enc htr hrr hoo, hnl, decide_eq_true_iff]
    exact Proofs.below_root_iff.2 ⟨R, hr, hb, ho⟩
  have hdo := Props.C16.detectOffset_enc (R := R) p.numLeaves hT htr hr hoo (by rw [hnl]; exact hb)
    (by rw [hnl]; exact ho)
  rw [hnl] at hdo
  have hidx := idxOf_treeRows_toNat hR
  have hbl : (H8 (R - r)).toNat = R - r := toNat_H8 (by omega)
  have hbits := fun j (hj : j < R - r) =>
    Props.C16.detectOffset_bits (k := j) p.numLeaves htr hr hRrows hoo hj
  rw [hnl] at hbits
  have hLp := Lpath_eq_pathBits _ o (R - r) hbits
  rw [← hLp] at hw
  obtain ⟨par, hloop⟩ := getNodeLoop_walkChild _ (R - r) root root none p n' s' hw
  refine ⟨par, ?_⟩
  rw [getNode_eq _ (show p.roots.length < 256 by omega)]
  simp only [hT, hg1, hin, Bool.not_true, Bool.or_self, Bool.false_eq_true, if_false, hdo, hidx,
    hroot, hbl]
  exact hloop

theorem pathBits_succ_last : ∀ (k o : Nat), pathBits (k + 1) o = pathBits k (o / 2) ++ [o.testBit 0] := by
  intro k
  induction k with
  | zero => intro o; simp [pathBits]
  | succ k ih =>
    intro o
    rw [pathBits, ih o]
    conv => rhs; rw [pathBits]
    simp only [List.cons_append]
    congr 1
    rw [← Nat.testBit_succ]

theorem getNode_pos_self {p : Pollard H} {n : Nat} (hnl : p.numLeaves.toNat = n) (hn : n < 2 ^ 63)
    {R r o : Nat} (hR : R ∈ treeRows n) (hr : r ≤ R) (ho : o / 2 ^ (R - r) = 2 * (n >>> (R + 1)))
    {root : Nat} (hroot : p.roots[(treeRows n).idxOf R]? = some root) (hL : p.roots.length ≤ 255)
    {c s : Nat} (hw : walkChild p.heap root root (pathBits (R - r) o) = some (c, s)) :
    ∃ par, getNode (encU (forestRows n) r o) p = (.ok (some c, some s, par), p) := by
  apply getNode_pos hnl hn hR hr ho hroot hL
  cases hk : R - r with
  | zero =>
    rw [hk] at hw
    simp only [pathBits, walkChild, Option.some.injEq, Prod.mk.injEq] at hw ⊢
    exact ⟨hw.2, hw.1⟩
  | succ k =>
    rw [hk, pathBits_succ_last] at hw
    rw [pathBits_succ_last, xor_one_div_two, testBit_xor_one_zero]
    exact walkChild_flip _ _ _ _ _ _ hw

end UtreexoVerif.Proofs.PollardHeap
