/-
  `Proof.undoAdd` (property C08), bit level: what the stages after the walk over
  `ToDestroy` — `pruneEdges` and the re-encoding for the previous number of rows — do to a position
  of the forest of `n + a` leaves, in (row, offset) coordinates.
-/
import UtreexoVerif.Proofs.ProofUndoTail
import UtreexoVerif.Proofs.ProofUpdateRemap

namespace UtreexoVerif.Proofs.ProofUndoAdd
open Spec Model
open UtreexoVerif.Proofs.CalcGeo
open UtreexoVerif.Proofs.ProofUpdateRemove
open UtreexoVerif.Proofs.ProofUpdateRemap
open UtreexoVerif.Proofs.ProofUndoLists
open UtreexoVerif.Proofs.ProofUndoAddMove
open UtreexoVerif.Proofs.ProofUndoTail

/-- the arithmetic of the test of `pruneEdges`, in the geometry of `r` rows: the offset `o` on row
`r1` lies before the first absent offset `q` iff its position is at most the one before `(r1, q)`;
nothing overflows 64 bits -/
theorem prune_arith {r r1 o q : Nat} (h63 : r ≤ 63) (hr : r1 ≤ r) (ho : o < 2 ^ 63)
    (hfull : r = 63 → o < 2 ^ (r - r1)) (hq : q < 2 ^ (r + 1 - r1)) (hq1 : r1 = 0 → 1 ≤ q) :
    Spec.enc r (r1, 0) + o < 2 ^ 64 ∧ Spec.enc r (r1, q) - 1 < 2 ^ 64 ∧
      (Spec.enc r (r1, 0) + o ≤ Spec.enc r (r1, q) - 1 ↔ o < q) := by
  obtain ⟨f1, f2, f3, f4, f5⟩ := enc_facts hr
  have h64 : 2 ^ (r + 1) ≤ 2 ^ 64 := Nat.pow_le_pow_right (by decide) (by omega)
  have hsmall : r < 63 → 2 ^ (r + 1) ≤ 2 ^ 63 :=
    fun h => Nat.pow_le_pow_right (by decide) (by omega)
  have hrow : r1 ≠ 0 → 2 ^ (r + 1 - r1) < 2 ^ (r + 1) :=
    fun h => Nat.pow_lt_pow_right (by decide) (by omega)
  have hr0 : r1 = 0 → 2 ^ (r + 1 - r1) = 2 ^ (r + 1) := fun h => by rw [h, Nat.sub_zero]
  rw [enc_val, enc_val, Nat.add_zero]
  generalize 2 ^ (r + 1) = M at *
  generalize 2 ^ (r + 1 - r1) = A at *
  generalize 2 ^ (r - r1) = B at *
  -- `M - A` as an atom: one truncated subtraction less for `omega`
  have hD : M - A + A = M := Nat.sub_add_cancel f2
  generalize M - A = D at *
  refine ⟨?_, by omega, ?_⟩
  · rcases Nat.lt_or_ge r 63 with h | h
    · have := hsmall h; omega
    · have := hfull (by omega); omega
  · by_cases h0 : r1 = 0
    · have := hq1 h0; have := hr0 h0; omega
    · have := hrow h0; omega

/-- **`pruneEdgesOld` keeps exactly the positions that exist in the previous forest** (`n ≠ 0`
leaves) -/
theorem pruneKeepOld_enc {n a : Nat} (hN : n + a ≤ 2 ^ 63) (hn0 : n ≠ 0) {p : Pos}
    (hp : ValidH (forestRows (n + a)) p) :
    pruneKeepOld (BitVec.ofNat 64 a) (BitVec.ofNat 64 (n + a)) (H8 (forestRows (n + a)))
        (H8 (forestRows n)) (E (forestRows (n + a)) p) =
      decide (p.1 ≤ forestRows n ∧ p.2 < n / 2 ^ p.1) := by
  have hn : n ≤ 2 ^ 63 := by omega
  have h63 : forestRows n ≤ 63 := forestRows_small hn
  have h63' : forestRows (n + a) ≤ 63 := forestRows_small hN
  have hmono : forestRows n ≤ forestRows (n + a) := forestRows_mono (by omega)
  obtain ⟨hp1, hp2⟩ := hp
  have hsub : BitVec.ofNat 64 (n + a) - BitVec.ofNat 64 a = BitVec.ofNat 64 n := by
    rw [BitVec.ofNat_add, BitVec.add_sub_cancel]
  unfold pruneKeepOld E
  simp only [Props.C16.detectRow_enc h63' hp1 hp2, hsub]
  by_cases hr : p.1 ≤ forestRows n
  · have hgt : ¬ H8 p.1 > H8 (forestRows n) := by
      show ¬ H8 (forestRows n) < H8 p.1
      rw [BitVec.lt_def, toNat_H8 h63, toNat_H8 (by omega)]
      omega
    rw [if_neg hgt]
    have hnlt : (BitVec.ofNat 64 n).toNat < 2 ^ (forestRows n + 1) := by
      rw [EncPos.toNat_N hn]
      have := forestRows_spec_le n
      have : 2 ^ forestRows n < 2 ^ (forestRows n + 1) :=
        Nat.pow_lt_pow_right (by decide) (by omega)
      omega
    rw [Props.C16.maxPositionAtRow_enc h63 hr _ hnlt, EncPos.toNat_N hn,
      Props.C16.startPositionAtRow_enc h63 hr, Props.C16.startPositionAtRow_enc h63' hp1]
    simp only
    have f := enc_facts hr
    have f' := enc_facts hp1
    have hE : encU (forestRows (n + a)) p.1 p.2 - encU (forestRows (n + a)) p.1 0 =
        BitVec.ofNat 64 p.2 := by
      unfold encU
      rw [enc_add (forestRows (n + a)) p.1 p.2, BitVec.ofNat_add, BitVec.add_comm,
        BitVec.add_sub_cancel]
    rw [hE]
    have hp2' : p.2 < 2 ^ 63 := by
      have : 2 ^ (forestRows (n + a) - p.1) ≤ 2 ^ 63 := Nat.pow_le_pow_right (by decide) (by omega)
      omega
    have hq : n / 2 ^ p.1 < 2 ^ (forestRows n + 1 - p.1) :=
      div_two_pow_lt (by omega) (by rw [EncPos.toNat_N hn] at hnlt; exact hnlt)
    have hq1 : p.1 = 0 → 1 ≤ n / 2 ^ p.1 := by
      intro h0; rw [h0]; simp; omega
    have hfull : forestRows n = 63 → p.2 < 2 ^ (forestRows n - p.1) := by
      intro e
      rwa [show forestRows (n + a) = forestRows n by omega] at hp2
    obtain ⟨hsum, hmaxlt, hiff⟩ := prune_arith h63 hr hp2' hfull hq hq1
    unfold encU
    rw [← BitVec.ofNat_add]
    apply decide_eq_decide.2
    rw [BitVec.le_def, toNat_ofNat64_of_lt hsum, toNat_ofNat64_of_lt hmaxlt, hiff]
    exact ⟨fun h => ⟨hr, h⟩, fun h => h.2⟩
  · have hgt : H8 p.1 > H8 (forestRows n) := by
      show H8 (forestRows n) < H8 p.1
      rw [BitVec.lt_def, toNat_H8 h63, toNat_H8 (by omega)]
      omega
    rw [if_pos hgt]
    symm
    rw [decide_eq_false_iff_not]
    exact fun h => hr h.1

theorem ofNat_add_bne {n a : Nat} (hN : n + a ≤ 2 ^ 63) (hn0 : n ≠ 0) :
    (BitVec.ofNat 64 (n + a) != BitVec.ofNat 64 a) = true := by
  rw [bne_iff_ne]
  intro h
  have := congrArg BitVec.toNat h
  rw [EncPos.toNat_N (n := n + a) (by omega), EncPos.toNat_N (n := a) (by omega)] at this
  omega

/-- **`pruneEdges` keeps exactly the positions that exist in the previous forest**, of any number
`n` of leaves (none when `n = 0`) -/
theorem pruneKeep_enc {n a : Nat} (hN : n + a ≤ 2 ^ 63) {p : Pos}
    (hp : ValidH (forestRows (n + a)) p) :
    pruneKeep (BitVec.ofNat 64 a) (BitVec.ofNat 64 (n + a)) (H8 (forestRows (n + a)))
        (H8 (forestRows n)) (E (forestRows (n + a)) p) =
      decide (p.1 ≤ forestRows n ∧ p.2 < n / 2 ^ p.1) := by
  rw [pruneKeep_eq]
  by_cases hn0 : n = 0
  · subst hn0
    have e : (BitVec.ofNat 64 (0 + a) != BitVec.ofNat 64 a) = false := by simp
    rw [e]
    simp
  · rw [ofNat_add_bne hN hn0, Bool.true_and]
    exact pruneKeepOld_enc hN hn0 hp

def inPrev (n : Nat) (p : Pos) : Bool := decide (p.1 ≤ forestRows n ∧ p.2 < n / 2 ^ p.1)

theorem inPrev_iff {n : Nat} {p : Pos} : inPrev n p = true ↔ InF n p := by
  unfold inPrev InF
  rw [decide_eq_true_eq, Nat.shiftRight_eq_div_pow]

theorem remapPos_enc {n a : Nat} (hN : n + a ≤ 2 ^ 63) {p : Pos} (hp : ValidH (forestRows n) p) :
    remapPos (H8 (forestRows (n + a))) (H8 (forestRows n)) (E (forestRows (n + a)) p) =
      E (forestRows n) p := by
  have hn : n ≤ 2 ^ 63 := by omega
  have h63 : forestRows n ≤ 63 := forestRows_small hn
  have h63' : forestRows (n + a) ≤ 63 := forestRows_small hN
  have hmono : forestRows n ≤ forestRows (n + a) := forestRows_mono (by omega)
  unfold remapPos
  rw [remapFn_eq]
  exact EncPos.translatePos_encP h63' (ValidH.mono hp hmono) h63 hp

theorem H8_rows_le {n a : Nat} (hN : n + a ≤ 2 ^ 63) :
    H8 (forestRows n) ≤ H8 (forestRows (n + a)) := by
  rw [BitVec.le_def, toNat_H8 (forestRows_small (by omega)), toNat_H8 (forestRows_small hN)]
  exact forestRows_mono (by omega)

def backKeep (n a : Nat) (td : List U64) (q : Pos) : Bool :=
  pruneKeep (BitVec.ofNat 64 a) (BitVec.ofNat 64 (n + a)) (H8 (forestRows (n + a)))
    (H8 (forestRows n)) (moveBack (H8 (forestRows (n + a))) td (E (forestRows (n + a)) q))

def backPos (n a : Nat) (td : List U64) (q : Pos) : U64 :=
  remapPos (H8 (forestRows (n + a))) (H8 (forestRows n))
    (moveBack (H8 (forestRows (n + a))) td (E (forestRows (n + a)) q))

theorem back_of_origin {n a : Nat} (hN : n + a ≤ 2 ^ 63) {td : List U64} {q p : Pos}
    (h : moveBack (H8 (forestRows (n + a))) td (E (forestRows (n + a)) q) =
      E (forestRows (n + a)) p) (hv : ValidH (forestRows (n + a)) p) :
    backKeep n a td q = inPrev n p ∧ (inPrev n p = true → backPos n a td q = E (forestRows n) p) := by
  unfold backKeep backPos
  rw [h]
  exact ⟨pruneKeep_enc hN hv, fun hin => remapPos_enc hN (inPrev_iff.1 hin).valid⟩

section
variable {H : Type}

/-- a list of entries after the walk, `pruneEdges` and the re-encoding -/
def backList (n a : Nat) (td : List U64) (X : List (Pos × H)) : HP H :=
  (X.filter (fun z => backKeep n a td z.1)).map (fun z => (backPos n a td z.1, z.2))

theorem pruneRemap_list {n a : Nat} (hN : n + a ≤ 2 ^ 63) (td : List U64) (X : List (Pos × H)) :
    ∃ Y, pruneEdges (BitVec.ofNat 64 a) (BitVec.ofNat 64 (n + a)) (H8 (forestRows (n + a)))
        (H8 (forestRows n)) ((X.map (enc2 (forestRows (n + a)))).map
          (fun x => (moveBack (H8 (forestRows (n + a))) td x.1, x.2))) [] = .ok Y ∧
      remapRows (H8 (forestRows (n + a))) (H8 (forestRows n)) Y = backList n a td X := by
  refine ⟨_, pruneEdges_filter _ _ _ _ _, ?_⟩
  unfold backList
  rw [remapRows_eq_map (H8_rows_le hN), List.map_map, List.filter_map, List.map_map]
  rfl

/-- with no destroyed root the walk does nothing, so the kept entries stay in order -/
theorem back_nil_sorted {n a : Nat} (hN : n + a ≤ 2 ^ 63) (X : List (Pos × H))
    (hX : X.Pairwise (fun x y => Sorted.PLt x.1 y.1))
    (hv : ∀ z ∈ X, ValidH (forestRows (n + a)) z.1) :
    (backList n a [] X).Pairwise (fun x y => x.1 < y.1) := by
  have h63 : forestRows n ≤ 63 := forestRows_small (by omega)
  unfold backList
  rw [List.pairwise_map]
  apply List.Pairwise.imp_of_mem _ (hX.sublist List.filter_sublist)
  intro x y hx hy hxy
  obtain ⟨hx1, hx2⟩ := List.mem_filter.1 hx
  obtain ⟨hy1, hy2⟩ := List.mem_filter.1 hy
  obtain ⟨kx, ex⟩ := back_of_origin hN (td := []) (q := x.1) (p := x.1) rfl (hv x hx1)
  obtain ⟨ky, ey⟩ := back_of_origin hN (td := []) (q := y.1) (p := y.1) rfl (hv y hy1)
  rw [kx] at hx2
  rw [ky] at hy2
  simp only
  rw [ex hx2, ey hy2]
  exact (encP_lt_iff_or h63 (inPrev_iff.1 hx2).valid (inPrev_iff.1 hy2).valid).2 hxy

end

end UtreexoVerif.Proofs.ProofUndoAdd
