/-
  Lemmas about the slot specification `Spec.Forest` (property C01):
  histories (`run`; `run_slots_gen`, from which `Props.C01.batching_independent`), tree rows vs.
  binary digits, the collapse
  clauses, aligned chunks of the slot list (`chunk S l b`; the trees are the chunks at the root
  coordinates, `trees_eq_chunks`), and `add` on the tree list: appending a slot merges the trees
  below the carry of the leaf count with the new slot (`chunk_spine`, `trees_snoc`, `trees_add`,
  `roots_add`), which drives the `Stump.add` refinement.
-/
import UtreexoVerif.Spec.Forest
import UtreexoVerif.Proofs.Digits
set_option linter.unusedSectionVars false

namespace UtreexoVerif.Spec
open Hasher

variable {H : Type} [DecidableEq H] [Hasher H]

namespace Forest

/-- a block: (deletions, additions) -/
abbrev Block (H : Type) := List H × List H

def run (F : Forest H) : List (Block H) → Forest H
  | [] => F
  | b :: rest => run (F.modify b.1 b.2) rest

def allAdds (hist : List (Block H)) : List H := hist.flatMap (·.2)
def allDels (hist : List (Block H)) : List H := hist.flatMap (·.1)

def LiveDels (F : Forest H) : List (Block H) → Prop
  | [] => True
  | b :: rest => (∀ x ∈ b.1, x ∈ F.liveLeaves) ∧ LiveDels (F.modify b.1 b.2) rest

/-- slot content of an added leaf given the set of deleted leaves -/
def mark (D : List H) (h : H) : Option H := if h ∈ D then none else some h

@[simp] theorem allAdds_nil : allAdds ([] : List (Block H)) = [] := rfl
@[simp] theorem allDels_nil : allDels ([] : List (Block H)) = [] := rfl
@[simp] theorem allAdds_cons (b : Block H) (r : List (Block H)) :
    allAdds (b :: r) = b.2 ++ allAdds r := by simp [allAdds]
@[simp] theorem allDels_cons (b : Block H) (r : List (Block H)) :
    allDels (b :: r) = b.1 ++ allDels r := by simp [allDels]

theorem allAdds_append (h1 h2 : List (Block H)) : allAdds (h1 ++ h2) = allAdds h1 ++ allAdds h2 := by
  simp [allAdds]
theorem allDels_append (h1 h2 : List (Block H)) : allDels (h1 ++ h2) = allDels h1 ++ allDels h2 := by
  simp [allDels]

theorem run_append (F : Forest H) (h1 h2 : List (Block H)) :
    run F (h1 ++ h2) = run (run F h1) h2 := by
  induction h1 generalizing F with
  | nil => rfl
  | cons b r ih => simp [run, ih]

theorem mem_liveLeaves {F : Forest H} {x : H} : x ∈ F.liveLeaves ↔ some x ∈ F.slots := by
  simp [liveLeaves]

theorem run_slots_gen (hist : List (Block H)) :
    ∀ (L D : List H) (F : Forest H), F.slots = L.map (mark D) → (∀ x ∈ D, x ∈ L) →
      (L ++ allAdds hist).Nodup → LiveDels F hist →
      (run F hist).slots = (L ++ allAdds hist).map (mark (D ++ allDels hist)) := by
  induction hist with
  | nil => intro L D F hF _ _ _; simpa [run] using hF
  | cons b rest ih =>
    intro L D F hF hD hnd hlive
    obtain ⟨d, a⟩ := b
    simp only [allAdds_cons, allDels_cons] at hnd ⊢
    obtain ⟨hl1, hl2⟩ := hlive
    simp only at hl1 hl2
    have hsub : ∀ x ∈ d, x ∈ L := by
      intro x hx
      have := hl1 x hx
      rw [mem_liveLeaves, hF] at this
      simp only [List.mem_map] at this
      obtain ⟨y, hy, hm⟩ := this
      unfold mark at hm
      split at hm
      · cases hm
      · cases hm; exact hy
    rw [← List.append_assoc] at hnd
    have hnd' : (L ++ a).Nodup := (List.nodup_append.mp hnd).1
    have hdisj : ∀ x ∈ a, x ∉ L := by
      intro x hx hxL
      exact (List.nodup_append.mp hnd').2.2 x hxL x hx rfl
    have key : (F.modify d a).slots = (L ++ a).map (mark (D ++ d)) := by
      simp only [modify, delLeaves, addMany, hF, List.map_map, List.map_append]
      congr 1
      · apply List.map_congr_left
        intro x _
        simp only [Function.comp, mark, List.mem_append]
        by_cases h1 : x ∈ D <;> by_cases h2 : x ∈ d <;> simp [h1, h2]
      · apply List.map_congr_left
        intro x hx
        have h1 : x ∉ D := fun h => hdisj x hx (hD x h)
        have h2 : x ∉ d := fun h => hdisj x hx (hsub x h)
        simp [mark, h1, h2]
    have := ih (L ++ a) (D ++ d) (F.modify d a) key
      (by intro x hx; rcases List.mem_append.mp hx with h | h
          · exact List.mem_append_left _ (hD x h)
          · exact List.mem_append_left _ (hsub x h))
      hnd hl2
    simpa [run, List.append_assoc] using this

end Forest

theorem delLeaves_congr (F : Forest H) {A B : List H} (h : ∀ x, x ∈ A ↔ x ∈ B) :
    F.delLeaves A = F.delLeaves B := by
  unfold Forest.delLeaves
  congr 1
  exact List.map_congr_left fun s _ => by
    cases s with
    | none => rfl
    | some x => simp only [h x]

theorem delLeaves_nil (F : Forest H) : F.delLeaves [] = F := by
  cases F with
  | mk slots =>
    unfold Forest.delLeaves
    congr 1
    conv => rhs; rw [← List.map_id slots]
    exact List.map_congr_left fun s _ => by cases s <;> simp

theorem delLeaves_delLeaves (F : Forest H) (A B : List H) :
    (F.delLeaves A).delLeaves B = F.delLeaves (A ++ B) := by
  unfold Forest.delLeaves
  simp only [List.map_map]
  congr 1
  exact List.map_congr_left fun s _ => by
    cases s with
    | none => rfl
    | some x => by_cases hA : x ∈ A <;> simp [hA]

theorem addMany_nil (F : Forest H) : F.addMany [] = F := by
  simp [Forest.addMany]

theorem addMany_cons (F : Forest H) (x : H) (xs : List H) :
    F.addMany (x :: xs) = (F.add x).addMany xs := by
  simp [Forest.addMany, Forest.add]

theorem addMany_snoc (F : Forest H) (xs : List H) (x : H) :
    F.addMany (xs ++ [x]) = (F.addMany xs).add x := by
  simp [Forest.addMany, Forest.add]

theorem numLeaves_add (F : Forest H) (x : H) : (F.add x).numLeaves = F.numLeaves + 1 := by
  simp [Forest.add, Forest.numLeaves]

theorem numLeaves_addMany (F : Forest H) (xs : List H) :
    (F.addMany xs).numLeaves = F.numLeaves + xs.length := by
  simp [Forest.addMany, Forest.numLeaves]

theorem numLeaves_modify (F : Forest H) (dels adds : List H) :
    (F.modify dels adds).numLeaves = F.numLeaves + adds.length := by
  simp [Forest.modify, Forest.addMany, Forest.delLeaves, Forest.numLeaves]

theorem liveLeaves_add (F : Forest H) (x : H) : (F.add x).liveLeaves = F.liveLeaves ++ [x] := by
  simp [Forest.add, Forest.liveLeaves]

theorem mem_treeRowsFrom {h n j : Nat} : j ∈ treeRowsFrom h n ↔ j ≤ h ∧ n.testBit j = true := by
  induction h with
  | zero =>
    unfold treeRowsFrom
    split <;> rename_i hb
    · simp only [List.mem_singleton]
      constructor
      · rintro rfl; exact ⟨Nat.le_refl _, hb⟩
      · rintro ⟨h1, _⟩; omega
    · simp only [List.not_mem_nil, false_iff]
      rintro ⟨h1, h2⟩
      have : j = 0 := by omega
      subst this; exact hb h2
  | succ h ih =>
    unfold treeRowsFrom
    split <;> rename_i hb
    · simp only [List.mem_cons, ih]
      constructor
      · rintro (rfl | ⟨h1, h2⟩)
        · exact ⟨Nat.le_refl _, hb⟩
        · exact ⟨by omega, h2⟩
      · rintro ⟨h1, h2⟩
        by_cases hj : j = h + 1
        · exact Or.inl hj
        · exact Or.inr ⟨by omega, h2⟩
    · rw [ih]
      constructor
      · rintro ⟨h1, h2⟩; exact ⟨by omega, h2⟩
      · rintro ⟨h1, h2⟩
        have : j ≠ h + 1 := by rintro rfl; exact hb h2
        exact ⟨by omega, h2⟩

theorem mem_treeRows {n j : Nat} : j ∈ treeRows n ↔ j ≤ 64 ∧ n.testBit j = true := mem_treeRowsFrom

protected theorem isRootPos_rootPos {n h : Nat} (hb : n.testBit h = true) : isRootPos n (rootPos n h) = true := by
  simp [isRootPos, rootPos, hb]

theorem treeRowsFrom_eq_filter (h n : Nat) :
    treeRowsFrom h n = ((List.range (h + 1)).reverse).filter (fun j => n.testBit j) := by
  induction h with
  | zero =>
    unfold treeRowsFrom
    cases hb : n.testBit 0 <;> simp [List.range_succ, hb]
  | succ h ih =>
    unfold treeRowsFrom
    rw [List.range_succ (n := h + 1), List.reverse_append, List.reverse_singleton,
      List.singleton_append, List.filter_cons, ih]

theorem treeRows_length (n : Nat) :
    (treeRows n).length = (List.range 65).countP (fun j => n.testBit j) := by
  unfold treeRows
  rw [treeRowsFrom_eq_filter, ← List.countP_eq_length_filter, List.countP_reverse]

theorem treeRowsFrom_zero (h : Nat) : treeRowsFrom h 0 = [] := by
  induction h with
  | zero => simp [treeRowsFrom]
  | succ h ih => simp [treeRowsFrom, ih]

theorem treeStart_eq (n h : Nat) : treeStart n h = n / 2 ^ (h + 1) * 2 ^ (h + 1) := by
  unfold treeStart
  rw [Nat.shiftLeft_eq, Nat.shiftRight_eq_div_pow]

theorem treeStart_eq_sub (n h : Nat) : treeStart n h = n - n % 2 ^ (h + 1) := by
  rw [treeStart_eq]
  have := Nat.div_add_mod n (2 ^ (h + 1))
  rw [Nat.mul_comm] at this
  omega

theorem treeStart_add_le {n h : Nat} (hb : n.testBit h = true) : treeStart n h + 2 ^ h ≤ n := by
  rw [treeStart_eq_sub]
  have h1 := Proofs.mod_two_pow_succ_testBit n h
  rw [hb, if_pos rfl] at h1
  have h3 := Nat.mod_le n (2 ^ (h + 1))
  omega

theorem collapse_take (k : Nat) : ∀ (m : Nat) (l : List (Option H)), 2 ^ k ≤ m →
    collapse k (l.take m) = collapse k l := by
  induction k with
  | zero =>
    intro m l hm
    obtain ⟨m', rfl⟩ : ∃ m', m = m' + 1 := ⟨m - 1, by simp at hm; omega⟩
    match l with
    | [] => simp [collapse]
    | none :: _ => simp [collapse]
    | some _ :: _ => simp [collapse]
  | succ k ih =>
    intro m l hm
    have hp : 2 ^ (k + 1) = 2 ^ k + 2 ^ k := by rw [Nat.pow_succ]; omega
    simp only [collapse]
    rw [List.take_take, Nat.min_eq_left (by omega), List.drop_take, ih (m - 2 ^ k) _ (by omega)]

theorem collapse_take_self (k : Nat) (l : List (Option H)) :
    collapse k (l.take (2 ^ k)) = collapse k l := collapse_take k _ l (Nat.le_refl _)

theorem collapse_append_of_le (k : Nat) (l l' : List (Option H)) (h : 2 ^ k ≤ l.length) :
    collapse k (l ++ l') = collapse k l := by
  rw [← collapse_take_self k (l ++ l'), List.take_append_of_le_length h, collapse_take_self]

def optLeaves : Option (CTree H) → List H
  | some t => t.leaves
  | none => []

theorem optLeaves_join (a b : Option (CTree H)) :
    optLeaves (join a b) = optLeaves a ++ optLeaves b := by
  cases a <;> cases b <;> simp [join, optLeaves, CTree.leaves]

theorem CTree.leaves_ne_nil (t : CTree H) : t.leaves ≠ [] := by
  induction t with
  | leaf h => simp [CTree.leaves]
  | node l r ihl _ => simp [CTree.leaves, ihl]

theorem optLeaves_eq_nil {a : Option (CTree H)} : optLeaves a = [] ↔ a = none := by
  cases a with
  | none => simp [optLeaves]
  | some t => simp [optLeaves, CTree.leaves_ne_nil]

theorem optLeaves_collapse (k : Nat) : ∀ l : List (Option H),
    optLeaves (collapse k l) = (l.take (2 ^ k)).filterMap id := by
  induction k with
  | zero =>
    intro l
    match l with
    | [] => simp [collapse, optLeaves]
    | none :: _ => simp [collapse, optLeaves]
    | some h :: _ => simp [collapse, optLeaves, CTree.leaves]
  | succ k ih =>
    intro l
    have hp : 2 ^ (k + 1) = 2 ^ k + 2 ^ k := by rw [Nat.pow_succ]; omega
    simp only [collapse, optLeaves_join, ih]
    rw [List.take_take, Nat.min_self, hp, List.take_add, List.filterMap_append]

theorem collapse_eq_none_iff (k : Nat) (l : List (Option H)) :
    collapse k l = none ↔ ∀ h : H, some h ∉ l.take (2 ^ k) := by
  rw [← optLeaves_eq_nil, optLeaves_collapse, List.filterMap_eq_nil_iff]
  constructor
  · intro h x hx; simpa using h (some x) hx
  · intro h a ha
    cases a with
    | none => rfl
    | some x => exact absurd ha (h x)

theorem collapse_succ_right_dead (k : Nat) (l : List (Option H))
    (hd : ∀ h : H, some h ∉ (l.drop (2 ^ k)).take (2 ^ k)) :
    collapse (k + 1) l = collapse k (l.take (2 ^ k)) := by
  have : collapse k (l.drop (2 ^ k)) = none := (collapse_eq_none_iff k _).mpr hd
  simp only [collapse, this]
  cases collapse k (l.take (2 ^ k)) <;> rfl

theorem collapse_succ_left_dead (k : Nat) (l : List (Option H))
    (hd : ∀ h : H, some h ∉ l.take (2 ^ k)) :
    collapse (k + 1) l = collapse k (l.drop (2 ^ k)) := by
  have : collapse k (l.take (2 ^ k)) = none := by
    rw [collapse_take_self]; exact (collapse_eq_none_iff k _).mpr hd
  simp only [collapse, this]
  cases collapse k (l.drop (2 ^ k)) <;> rfl

theorem collapse_succ_both (k : Nat) (l : List (Option H)) (a b : CTree H)
    (ha : collapse k (l.take (2 ^ k)) = some a) (hb : collapse k (l.drop (2 ^ k)) = some b) :
    collapse (k + 1) l = some (.node a b) ∧ (CTree.node a b).hash = ph a.hash b.hash := by
  simp only [collapse, ha, hb, join, CTree.hash, and_self]

def rootHash : Option (CTree H) → H
  | some t => t.hash
  | none => zero

theorem roots_eq (F : Forest H) : F.roots = F.trees.map (fun p => rootHash p.2) := by
  unfold Forest.roots
  apply List.map_congr_left
  rintro ⟨h, t⟩ _
  cases t <;> rfl

theorem trees_length (F : Forest H) : F.trees.length = (treeRows F.numLeaves).length := by
  simp [Forest.trees]

theorem roots_length (F : Forest H) : F.roots.length = (treeRows F.numLeaves).length := by
  rw [roots_eq, List.length_map, trees_length]

theorem CTree.hash_ne_zero (hph : ∀ a b : H, ph a b ≠ (zero : H)) (t : CTree H)
    (hl : ∀ x ∈ t.leaves, x ≠ (zero : H)) : t.hash ≠ zero := by
  cases t with
  | leaf h => exact hl h (by simp [CTree.leaves])
  | node l r => exact hph _ _

def mergeTrees (ts : List (Nat × Option (CTree H))) (x : Option (CTree H)) : Option (CTree H) :=
  ts.foldr (fun p acc => join p.2 acc) x

/-- collapsed tree of the aligned chunk `(l, b)`: slots `[b * 2^l, (b+1) * 2^l)` -/
def chunk (S : List (Option H)) (l b : Nat) : Option (CTree H) := collapse l (S.drop (b * 2 ^ l))
def chunkAlive (S : List (Option H)) (l b : Nat) : Bool := (chunk S l b).isSome
def chunkHash (S : List (Option H)) (l b : Nat) : H := rootHash (chunk S l b)

theorem chunk_succ (S : List (Option H)) (l b : Nat) :
    chunk S (l + 1) b = join (chunk S l (2 * b)) (chunk S l (2 * b + 1)) := by
  unfold chunk
  simp only [collapse]
  rw [collapse_take_self, List.drop_drop]
  have e1 : 2 * b * 2 ^ l = b * 2 ^ (l + 1) := by rw [Nat.pow_succ]; ac_rfl
  have e2 : (2 * b + 1) * 2 ^ l = b * 2 ^ (l + 1) + 2 ^ l := by
    rw [Nat.add_mul, e1, Nat.one_mul]
  rw [e1, e2]

theorem chunk_append_left (A B : List (Option H)) (l b : Nat) (h : (b + 1) * 2 ^ l ≤ A.length) :
    chunk (A ++ B) l b = chunk A l b := by
  unfold chunk
  rw [Nat.add_mul, Nat.one_mul] at h
  rw [List.drop_append_of_le_length (Nat.le_trans (Nat.le_add_right _ _) h), collapse_append_of_le]
  rw [List.length_drop]
  generalize 2 ^ l = p at *
  omega

/-- index of the root chunk of the tree on row `h` among the chunks of level `h` -/
def rootIdx (n h : Nat) : Nat := 2 * (n / 2 ^ (h + 1))

theorem trees_eq_chunks (S : List (Option H)) :
    (Forest.mk S).trees = (treeRows S.length).map fun h => (h, chunk S h (rootIdx S.length h)) := by
  unfold Forest.trees
  apply List.map_congr_left
  intro h _
  simp only [Forest.numLeaves, chunk, rootIdx, collapse_take_self, treeStart_eq]
  congr 3
  rw [Nat.pow_succ]; ac_rfl

theorem rootIdx_le {n h : Nat} (hb : n.testBit h = true) : (rootIdx n h + 1) * 2 ^ h ≤ n := by
  have h1 := Proofs.testBit_div_odd.1 hb
  have h3 : rootIdx n h + 1 = n / 2 ^ h := by unfold rootIdx; rw [Proofs.half_pow]; omega
  rw [h3]; exact Nat.div_mul_le_self _ _

/-- the chunk that holds the appended slot, level by level below the carry: the trees on the rows
below, merged with the new slot from the right -/
theorem chunk_spine (S : List (Option H)) (s : Option H) {k : Nat} (tr : Trail S.length k) :
    ∀ j, j ≤ k → chunk (S ++ [s]) j (S.length / 2 ^ j) =
      mergeTrees ((List.range j).reverse.map fun i => (i, chunk S i (rootIdx S.length i)))
        (collapse 0 [s]) := by
  intro j
  induction j with
  | zero =>
    intro _
    simp [chunk, mergeTrees]
  | succ j ih =>
    intro hj
    have hodd := tr.div_odd (show j < k from hj)
    have hpar := Proofs.half_pow S.length j
    rw [hpar, chunk_succ]
    have e1 : 2 * (S.length / 2 ^ j / 2) + 1 = S.length / 2 ^ j := by omega
    have e0 : 2 * (S.length / 2 ^ j / 2) = rootIdx S.length j := by unfold rootIdx; rw [hpar]
    rw [e1, e0, ih (Nat.le_of_succ_le hj), chunk_append_left S [s] j _ (rootIdx_le (tr.low j hj)),
      List.range_succ, List.reverse_append, List.reverse_singleton, List.singleton_append, List.map_cons]
    rfl

/-- appending a slot on the tree list: the last `trailingOnes n` trees merge with the new slot -/
def appT (n : Nat) (ts : List (Nat × Option (CTree H))) (s : Option H) : List (Nat × Option (CTree H)) :=
  ts.take (ts.length - trailingOnes n) ++
    [(trailingOnes n, mergeTrees (ts.drop (ts.length - trailingOnes n)) (collapse 0 [s]))]

/-- `Spec.treeRows` looks at the binary digits `0 … 64` of the leaf count only, so the carry of an
addition must stay at or below digit 64; this is where every hypothesis `numLeaves < 2 ^ 64` of
the lemmas about `trees`, `roots`, `nodes` comes from -/
theorem trees_snoc_of_le (S : List (Option H)) (s : Option H) (hk : trailingOnes S.length ≤ 64) :
    (Forest.mk (S ++ [s])).trees = appT S.length (Forest.mk S).trees s := by
  have tr := trail_trailingOnes S.length
  obtain ⟨r1, r2⟩ := tr.treeRows hk
  unfold appT
  rw [trees_eq_chunks, trees_eq_chunks, List.length_append, List.length_singleton, r1, r2,
    List.map_append, List.map_append, List.length_append, List.length_map, List.length_map,
    List.length_reverse, List.length_range, Nat.add_sub_cancel, List.take_left' (List.length_map _),
    List.drop_left' (List.length_map _), List.map_singleton]
  congr 1
  · apply List.map_congr_left
    intro h hh
    obtain ⟨⟨h1, _⟩, h2⟩ := mem_hiRows.1 hh
    have e : rootIdx (S.length + 1) h = rootIdx S.length h := by
      unfold rootIdx; rw [tr.succ_div_high (Nat.lt_succ_of_lt h1)]
    rw [e, chunk_append_left S [s] h _ (rootIdx_le h2)]
  · have e : rootIdx (S.length + 1) (trailingOnes S.length) = S.length / 2 ^ trailingOnes S.length := by
      unfold rootIdx; rw [tr.succ_div_high (Nat.lt_succ_self _), ← tr.div_even]
    rw [e, chunk_spine S s tr _ (Nat.le_refl _)]

theorem trees_snoc (S : List (Option H)) (s : Option H) (hn : S.length < 2 ^ 64) :
    (Forest.mk (S ++ [s])).trees = appT S.length (Forest.mk S).trees s :=
  trees_snoc_of_le S s ((trail_trailingOnes S.length).le_of_lt hn)

def addT (n : Nat) (ts : List (Nat × Option (CTree H))) (x : H) : List (Nat × Option (CTree H)) :=
  ts.take (ts.length - trailingOnes n) ++
    [(trailingOnes n, mergeTrees (ts.drop (ts.length - trailingOnes n)) (some (.leaf x)))]

theorem trees_add (F : Forest H) (x : H) (hn : F.numLeaves < 2 ^ 64) :
    (F.add x).trees = addT F.numLeaves F.trees x :=
  trees_snoc F.slots (some x) hn

def mergeHash (rs : List H) (x : H) : H :=
  rs.foldr (fun r acc => if r ≠ zero then ph r acc else acc) x

theorem mem_optLeaves_collapse {k : Nat} {l : List (Option H)} {y : H}
    (hy : y ∈ optLeaves (collapse k l)) : some y ∈ l := by
  rw [optLeaves_collapse] at hy
  simp only [List.mem_filterMap, id] at hy
  obtain ⟨a, ha, rfl⟩ := hy
  exact List.mem_of_mem_take ha

theorem mergeTrees_hash (ts : List (Nat × Option (CTree H))) (a : CTree H)
    (hnz : ∀ p ∈ ts, ∀ tr, p.2 = some tr → tr.hash ≠ (zero : H)) :
    ∃ tr, mergeTrees ts (some a) = some tr ∧
      tr.hash = mergeHash (ts.map (fun p => rootHash p.2)) a.hash := by
  induction ts with
  | nil => exact ⟨a, rfl, rfl⟩
  | cons p rest ih =>
    obtain ⟨tr', h1, h2⟩ := ih (fun q hq => hnz q (List.mem_cons_of_mem _ hq))
    simp only [mergeTrees, List.foldr_cons, List.map_cons, mergeHash] at h1 h2 ⊢
    rw [h1]
    cases hp : p.2 with
    | none =>
      refine ⟨tr', rfl, ?_⟩
      simp [rootHash, h2]
    | some tp =>
      refine ⟨.node tp tr', rfl, ?_⟩
      have := hnz p (List.mem_cons_self) tp hp
      simp [rootHash, CTree.hash, h2, this]

theorem trees_add_even (F : Forest H) (x : H) (he : F.numLeaves % 2 = 0) :
    (F.add x).trees = F.trees ++ [(0, some (CTree.leaf x))] := by
  have h0 : trailingOnes F.numLeaves = 0 := by
    unfold trailingOnes
    rw [dif_neg (by omega)]
  have := trees_snoc_of_le F.slots (some x) (by rw [show F.slots.length = F.numLeaves from rfl, h0]; decide)
  unfold appT at this
  rw [show F.slots.length = F.numLeaves from rfl, h0, Nat.sub_zero, List.take_length, List.drop_length] at this
  exact this

theorem trees_rows (F : Forest H) : F.trees.map (·.1) = treeRows F.numLeaves := by
  unfold Forest.trees
  rw [List.map_map]
  exact List.map_id _

theorem trees_add_parts_of_le (F : Forest H) (x : H) (ht : trailingOnes F.numLeaves ≤ 64) :
    ∃ hi lo, F.trees = hi ++ lo ∧
      hi.map (·.1) = hiRows F.numLeaves (trailingOnes F.numLeaves) ∧
      lo.map (·.1) = (List.range (trailingOnes F.numLeaves)).reverse ∧
      (F.add x).trees = hi ++ [(trailingOnes F.numLeaves, mergeTrees lo (some (.leaf x)))] := by
  have tr := trail_trailingOnes F.numLeaves
  have hr := trees_rows F
  rw [(tr.treeRows ht).1] at hr
  have hl : F.trees.length - trailingOnes F.numLeaves = (hiRows F.numLeaves (trailingOnes F.numLeaves)).length := by
    have := congrArg List.length hr
    rw [List.length_map, List.length_append, List.length_reverse, List.length_range] at this
    omega
  refine ⟨F.trees.take (F.trees.length - trailingOnes F.numLeaves),
    F.trees.drop (F.trees.length - trailingOnes F.numLeaves),
    (List.take_append_drop _ _).symm, ?_, ?_, trees_snoc_of_le F.slots (some x) ht⟩
  · rw [List.map_take, hr, hl, List.take_left']
    rfl
  · rw [List.map_drop, hr, hl, List.drop_left']
    rfl

theorem trees_add_parts (F : Forest H) (x : H) (hn : F.numLeaves < 2 ^ 64) :
    ∃ t hi lo, Trail F.numLeaves t ∧ t ≤ 64 ∧ F.trees = hi ++ lo ∧
      hi.map (·.1) = hiRows F.numLeaves t ∧ lo.map (·.1) = (List.range t).reverse ∧
      (F.add x).trees = hi ++ [(t, mergeTrees lo (some (.leaf x)))] := by
  have tr := trail_trailingOnes F.numLeaves
  obtain ⟨hi, lo, h⟩ := trees_add_parts_of_le F x (tr.le_of_lt hn)
  exact ⟨_, hi, lo, tr, tr.le_of_lt hn, h⟩

theorem mem_trees_leaves_live {F : Forest H} {p : Nat × Option (CTree H)} (hp : p ∈ F.trees) :
    ∀ y ∈ optLeaves p.2, y ∈ F.liveLeaves := by
  intro y hy
  unfold Forest.trees at hp
  obtain ⟨h, _, rfl⟩ := List.mem_map.1 hp
  exact Forest.mem_liveLeaves.2
    (List.mem_of_mem_drop (List.mem_of_mem_take (mem_optLeaves_collapse hy)))

theorem roots_add {t : Nat} (F : Forest H) (x : H) (tr : Trail F.numLeaves t) (ht : t ≤ 64)
    (hph : ∀ a b : H, ph a b ≠ (zero : H)) (hlive : ∀ y ∈ F.liveLeaves, y ≠ (zero : H)) :
    ∃ hi lo : List H, F.roots = hi ++ lo ∧ lo.length = t ∧
      (F.add x).roots = hi ++ [mergeHash lo x] := by
  have et := tr.eq
  obtain ⟨hi, lo, h1, _, h3, h4⟩ := trees_add_parts_of_le F x (et ▸ ht)
  refine ⟨hi.map (fun p => rootHash p.2), lo.map (fun p => rootHash p.2), ?_, ?_, ?_⟩
  · rw [roots_eq, h1, List.map_append]
  · have := congrArg List.length h3
    rw [List.length_map, List.length_reverse, List.length_range, ← et] at this
    rw [List.length_map, this]
  · have hnz : ∀ p ∈ lo, ∀ tr, p.2 = some tr → tr.hash ≠ (zero : H) := by
      intro p hp tr htr
      refine CTree.hash_ne_zero hph tr fun y hy => hlive y ?_
      exact mem_trees_leaves_live (h1 ▸ List.mem_append_right hi hp) y (by rw [htr]; exact hy)
    obtain ⟨tr, e1, e2⟩ := mergeTrees_hash lo (.leaf x) hnz
    rw [roots_eq, h4, List.map_append, List.map_cons, List.map_nil, e1]
    simp only [rootHash, e2, CTree.hash]

instance Forest.decLiveDels : (F : Forest H) → (hist : List (Forest.Block H)) →
    Decidable (Forest.LiveDels F hist)
  | _, [] => isTrue trivial
  | F, b :: rest =>
    have := decLiveDels (F.modify b.1 b.2) rest
    inferInstanceAs (Decidable ((∀ x ∈ b.1, x ∈ F.liveLeaves) ∧ Forest.LiveDels (F.modify b.1 b.2) rest))

end UtreexoVerif.Spec
