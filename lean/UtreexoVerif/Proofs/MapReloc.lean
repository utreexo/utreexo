/-
  The abstract state `(A, C)` of `MapRep` after a set of stored entries has changed places, one entry at
  a time: shared by the walks of `moveUpDescendants` (`MapMoveUp`) and `placeEmptyRoot` (`MapPlaceEmpty`).
-/
import UtreexoVerif.Proofs.LiftGeo
import UtreexoVerif.Proofs.MapMove

namespace UtreexoVerif.Proofs.MapReloc
open MapLiftGeo
open Model (Leaf)
open Spec (Pos parent)
open MapRep (unliftP SUnder liftP upd upd_apply upd_self upd_ne)
set_option linter.unusedSectionVars false

variable {H : Type} [DecidableEq H] [Hasher H]

def ins (M : Pos → Bool) (c : Pos) : Pos → Bool := fun t => M t || decide (t = c)

theorem ins_self (M : Pos → Bool) (c : Pos) : ins M c c = true := by simp [ins]

theorem ins_ne (M : Pos → Bool) {c t : Pos} (h : t ≠ c) : ins M c t = M t := by simp [ins, h]

theorem ins_mono (M : Pos → Bool) (c t : Pos) (h : M t = true) : ins M c t = true := by simp [ins, h]

theorem ins_of_mem {M : Pos → Bool} {c : Pos} (h : M c = true) : ins M c = M := by
  funext t
  by_cases e : t = c
  · rw [e, ins_self, h]
  · exact ins_ne M e

/-- the positions (below `parent σ`, row `≥ 1`) that are lifts of the positions of `M` -/
def liftS (σ : Pos) (M : Pos → Bool) : Pos → Bool := fun q =>
  M (unliftP σ q) && decide (SUnder (parent σ) q ∧ 1 ≤ q.1)

theorem of_liftS {σ q : Pos} {M : Pos → Bool} (h : liftS σ M q = true) : 1 ≤ q.1 ∧ M (unliftP σ q) = true := by
  unfold liftS at h
  rw [Bool.and_eq_true, decide_eq_true_iff] at h
  exact ⟨h.2.2, h.1⟩

theorem liftS_liftP {σ c : Pos} (M : Pos → Bool) (hc : SUnder σ c) : liftS σ M (liftP σ c) = M c := by
  unfold liftS
  rw [unliftP_liftP hc.1, decide_eq_true ⟨sunder_parent_liftP hc, Nat.le_add_left 1 c.1⟩, Bool.and_true]

theorem liftS_ins {σ c : Pos} (M : Pos → Bool) (hc : SUnder σ c) : liftS σ (ins M c) = ins (liftS σ M) (liftP σ c) := by
  funext q
  by_cases e : q = liftP σ c
  · rw [e, ins_self, liftS_liftP _ hc, ins_self]
  · rw [ins_ne _ e]
    unfold liftS
    by_cases hq : SUnder (parent σ) q ∧ 1 ≤ q.1
    · rw [ins_ne M (fun e' => e (by rw [← e', liftP_unliftP hq.2]))]
    · rw [decide_eq_false hq, Bool.and_false, Bool.and_false]

theorem liftS_full {σ : Pos} {M : Pos → Bool} (hM : ∀ t, M t = true ↔ SUnder σ t) (q : Pos) :
    liftS σ M q = true ↔ SUnder (parent σ) q ∧ 1 ≤ q.1 := by
  unfold liftS
  rw [Bool.and_eq_true, decide_eq_true_iff, hM]
  exact ⟨fun h => h.2, fun h => ⟨anc_unliftP h.1 h.2, h⟩⟩

theorem upd_same {α β : Type} [DecidableEq α] (f : α → Option β) {a : α} {v : Option β} (h : f a = v) (x : α) :
    upd f a v x = f x := by
  rw [upd_apply]
  split
  · rename_i e
    rw [e, h]
  · rfl

/-- `Nodes` after the entries at the positions of `src` have moved to the positions of `dst`,
where `g` sends a destination to its source -/
def reloc (dst src : Pos → Bool) (g : Pos → Pos) (A : Pos → Option (Leaf H)) : Pos → Option (Leaf H) :=
  fun q => if dst q = true then A (g q) else if src q = true then none else A q

theorem reloc_not_dst {dst : Pos → Bool} (src : Pos → Bool) (g : Pos → Pos) (A : Pos → Option (Leaf H)) {q : Pos}
    (h : dst q = false) : reloc dst src g A q = if src q = true then none else A q := by
  unfold reloc
  rw [h, if_neg Bool.false_ne_true]

theorem reloc_untouched {dst src : Pos → Bool} (g : Pos → Pos) (A : Pos → Option (Leaf H)) {q : Pos}
    (hd : dst q = false) (hs : src q = false) : reloc dst src g A q = A q := by
  rw [reloc_not_dst src g A hd, hs, if_neg Bool.false_ne_true]

theorem reloc_ins {dst src : Pos → Bool} {g : Pos → Pos} (A : Pos → Option (Leaf H)) {d s : Pos}
    (hg : g d = s) (hs : dst s = false) (q : Pos) :
    reloc (ins dst d) (ins src s) g A q = upd (upd (reloc dst src g A) s none) d (A s) q := by
  by_cases e2 : q = d
  · rw [e2, upd_self, ← hg]
    exact if_pos (ins_self dst d)
  · rw [upd_ne _ _ e2]
    by_cases e1 : q = s
    · rw [e1, upd_self, reloc_not_dst _ _ _ (by rw [ins_ne dst (e1 ▸ e2), hs]), ins_self, if_pos rfl]
    · rw [upd_ne _ _ e1]
      unfold reloc
      rw [ins_ne dst e2, ins_ne src e1]

/-- `CachedLeaves` after the entries at the positions of `src` have moved along `f` -/
def relocC (src : Pos → Bool) (f : Pos → Pos) (C : H → Option Pos) : H → Option Pos := fun x =>
  (C x).map (fun t => if src t = true then f t else t)

theorem relocC_empty (f : Pos → Pos) (C : H → Option Pos) (x : H) : relocC (fun _ => false) f C x = C x := by
  unfold relocC
  cases C x <;> rfl

theorem relocC_isSome (src : Pos → Bool) (f : Pos → Pos) (C : H → Option Pos) (x : H) :
    (relocC src f C x).isSome = (C x).isSome := by
  unfold relocC
  cases C x <;> rfl

section cache
variable {src : Pos → Bool} {f : Pos → Pos} {C : H → Option Pos} {s : Pos} {x : H}

theorem relocC_ins_ne (h : C x ≠ some s) : relocC (ins src s) f C x = relocC src f C x := by
  unfold relocC
  cases hx : C x with
  | none => rfl
  | some t => rw [Option.map_some, Option.map_some, ins_ne src (fun e => h (by rw [hx, e]))]

theorem relocC_ins_self (h : C x = some s) : relocC (ins src s) f C x = some (f s) := by
  unfold relocC
  rw [h, Option.map_some, ins_self, if_pos rfl]

/-- on the region `R` the cache agrees with the store -/
structure CacheOK (R : Pos → Prop) (A : Pos → Option (Leaf H)) (C : H → Option Pos) : Prop where
  own : ∀ q v, R q → A q = some v → ∀ t, C v.hash = some t → t = q
  stored : ∀ x t, C x = some t → R t → ∃ v, A t = some v ∧ v.hash = x

variable {R : Pos → Prop} {A : Pos → Option (Leaf H)}

/-- one more source `s` on the cache side, as Go does it: nothing when nothing is stored at `s`; when `v` is stored there,
`recache v.hash (f s)` (`CacheOK`: the hash cached at `s` can only be that of `v`) -/
theorem relocC_move_none (ok : CacheOK R A C) (hs : R s) (hA : A s = none) (x : H) :
    relocC (ins src s) f C x = relocC src f C x := by
  refine relocC_ins_ne fun e => ?_
  obtain ⟨v, hv, _⟩ := ok.stored x s e hs
  rw [hA] at hv
  cases hv

theorem relocC_move_some (ok : CacheOK R A C) (hs : R s) {v : Leaf H} (hA : A s = some v) (x : H) :
    MapMove.recache v.hash (f s) (relocC src f C) x = relocC (ins src s) f C x := by
  unfold MapMove.recache
  have h2 : ∀ x, C x = some s → x = v.hash := by
    intro x e
    obtain ⟨v', hv', hx'⟩ := ok.stored x s e hs
    rw [hA] at hv'
    cases hv'
    exact hx'.symm
  rw [relocC_isSome]
  cases hy : C v.hash with
  | none =>
    rw [Option.isSome_none, if_neg Bool.false_ne_true, relocC_ins_ne]
    intro e
    rw [h2 x e, hy] at e
    cases e
  | some t =>
    rw [ok.own s v hs hA t hy] at hy
    rw [Option.isSome_some, if_pos rfl]
    by_cases ex : x = v.hash
    · rw [ex, upd_self, relocC_ins_self hy]
    · rw [upd_ne _ _ ex, relocC_ins_ne (fun e => ex (h2 x e))]

end cache

/-- one more pair `(s, d)` of a relocation, carried out by Go's single-entry move (`MapMove.moveA`): a source not moved so
far goes onto a destination that is empty by now.  `moveUpDescendants` reads it with `src` the visited positions and
`dst` their lifts, `placeEmptyRoot` the other way round.  `hflag`: a relocation changes no node, so the lemma covers the
moves where Go's flag fix (`flagged`) does nothing — on the way up there is none, on the way back it is why
`placeEmptyRoot_rep_gen` asks that cached nodes (all nodes of a full forest) carry the flag already. -/
theorem reloc_move {dst src : Pos → Bool} {g f : Pos → Pos} {A : Pos → Option (Leaf H)} {C : H → Option Pos}
    {R : Pos → Prop} {s d : Pos} (ok : CacheOK R A C) (hs : R s) (hg : g d = s) (hf : f s = d) (hsd : dst s = false)
    (hss : src s = false) (hdest : reloc dst src g A d = none) (fix fl : Bool)
    (hflag : ∀ v, A s = some v → MapMove.flagged fix (C v.hash).isSome fl v = v) :
    (∀ q, (MapMove.moveA fix fl s d (reloc dst src g A) (relocC src f C)).1 q = reloc (ins dst d) (ins src s) g A q) ∧
    ∀ x, (MapMove.moveA fix fl s d (reloc dst src g A) (relocC src f C)).2 x = relocC (ins src s) f C x := by
  have hsrc : reloc dst src g A s = A s := reloc_untouched g A hsd hss
  cases hA : A s with
  | none =>
    rw [MapMove.moveA_none (hsrc.trans hA)]
    refine ⟨fun q => ?_, fun x => (relocC_move_none ok hs hA x).symm⟩
    rw [reloc_ins A hg hsd, hA, upd_same _ ((upd_same _ (hsrc.trans hA) _).trans hdest), upd_same _ (hsrc.trans hA)]
  | some v =>
    rw [MapMove.moveA_some (hsrc.trans hA)]
    refine ⟨fun q => ?_, fun x => ?_⟩
    · rw [reloc_ins A hg hsd, hA, relocC_isSome, hflag v hA]
    · have := relocC_move_some (src := src) (f := f) ok hs hA x
      rw [hf] at this
      exact this

end UtreexoVerif.Proofs.MapReloc
