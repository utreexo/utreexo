/-
  The I/O layer of property C13 (serialisation): little-endian integers; `io.ReadFull` on the
  chunk-list reader as a function of the concatenation of the chunks; the two statements a decoder
  gets, each closed under an `io.ReadFull` group and a call (`Reads`: round trip and strict prefix
  of a valid stream; `Alike`: on ANY stream it returns and is a function of the stream alone); the
  hypotheses of the property (`HashBytesOK`, `LeavesOK`); the wire form of a forest (roots, node-map
  puts, the leaves in stream order, sizes); the failing writer (`Wrote`) and the writers.
-/
import UtreexoVerif.Model.Serial
import UtreexoVerif.Proofs.LiveLeaves
namespace UtreexoVerif.Proofs.PollardHeapSerial
open UtreexoVerif.Model.Serial

/-- It stands in the namespace of the pointer-forest serialisation modules, which state their
equations with it; `Alike` below uses it. -/
def Res.mapOk {α β : Type} (f : α → β) : Res α → Res β
  | ⟨n, .ok a⟩ => ⟨n, .ok (f a)⟩
  | ⟨n, .err⟩ => ⟨n, .err⟩
  | ⟨n, .panic⟩ => ⟨n, .panic⟩
  | ⟨n, .hang⟩ => ⟨n, .hang⟩

@[simp] theorem Res.mapOk_n {α β : Type} (f : α → β) (x : Res α) : (Res.mapOk f x).n = x.n := by
  obtain ⟨n, o⟩ := x; cases o <;> rfl

theorem Res.mapOk_id {α : Type} : ∀ x : Res α, Res.mapOk id x = x
  | ⟨_, .ok _⟩ => rfl
  | ⟨_, .err⟩ => rfl
  | ⟨_, .panic⟩ => rfl
  | ⟨_, .hang⟩ => rfl

theorem Res.mapOk_mapOk {α β γ : Type} (g : β → γ) (f : α → β) :
    ∀ x : Res α, Res.mapOk g (Res.mapOk f x) = Res.mapOk (fun a => g (f a)) x
  | ⟨_, .ok _⟩ => rfl
  | ⟨_, .err⟩ => rfl
  | ⟨_, .panic⟩ => rfl
  | ⟨_, .hang⟩ => rfl

end UtreexoVerif.Proofs.PollardHeapSerial

namespace UtreexoVerif.Proofs.Serial
open Model.Serial Spec Hasher Model
open PollardHeapSerial (Res.mapOk Res.mapOk_id)
set_option linter.unusedSectionVars false

theorem le64_length (x : U64) : (le64 x).length = 8 := by simp [le64]

theorem flag_eq_one (b : Bool) : (flag b == 1#8) = b := by cases b <;> decide

theorem byte_step (n k : Nat) : n / 2 ^ k % 2 ^ 8 + 256 * (n / 2 ^ (k + 8)) = n / 2 ^ k := by
  rw [Nat.pow_add, ← Nat.div_div_eq_div_mul]
  exact Nat.mod_add_div _ 256

theorem unle64_le64 (x : U64) : unle64 (le64 x) = x := by
  apply BitVec.eq_of_toNat_eq
  have hx : x.toNat / 2 ^ 56 < 2 ^ 8 := Nat.div_lt_of_lt_mul x.isLt
  simp only [unle64, le64, List.foldr, BitVec.toNat_ofNat]
  -- from the most significant byte down, each byte joins the rest
  rw [Nat.mul_zero, Nat.add_zero, Nat.mod_eq_of_lt hx, byte_step _ 48, byte_step _ 40, byte_step _ 32,
    byte_step _ 24, byte_step _ 16, byte_step _ 8]
  have h0 := byte_step x.toNat 0
  rw [Nat.pow_zero, Nat.div_one] at h0
  rw [h0]
  exact Nat.mod_eq_of_lt x.isLt

theorem readLoop_spec (ewd : Bool) : ∀ (chunks : List (List Byte)) (need : Nat) (acc : List Byte),
    (readLoop ewd chunks need acc).1 = acc ++ chunks.flatten.take need ∧
    (readLoop ewd chunks need acc).2.2.flatten = chunks.flatten.drop need
  | chunks, 0, acc => by simp [readLoop]
  | [], _ + 1, acc => by simp [readLoop]
  | c :: rest, need + 1, acc => by
    rw [readLoop, List.flatten_cons]
    by_cases hc : c.length ≤ need + 1
    · rw [if_pos hc, List.take_append, List.drop_append, List.take_of_length_le hc, List.drop_of_length_le hc]
      cases he : (ewd && rest.isEmpty)
      · have ih := readLoop_spec ewd rest (need + 1 - c.length) (acc ++ c)
        simp only [Bool.false_eq_true, if_false, ih, List.append_assoc, List.nil_append, and_self]
      · obtain rfl : rest = [] := List.isEmpty_iff.mp (Bool.and_eq_true _ _ ▸ he).2
        simp
    · rw [if_neg hc, List.take_append_of_le_length (by omega), List.drop_append_of_le_length (by omega)]
      simp

theorem readFull_eq (r : Reader) (k : Nat) :
    (readFull r k).1 = (if k ≤ r.data.length then .full (r.data.take k)
      else if r.data.length = 0 then .eof else .unexpected r.data.length) ∧
    (readFull r k).2.data = r.data.drop k ∧ (readFull r k).2.eofWithData = r.eofWithData := by
  obtain ⟨h1, h2⟩ := readLoop_spec r.eofWithData r.chunks k []
  rw [List.nil_append] at h1
  unfold readFull Reader.data
  dsimp only
  rw [h1, List.length_take]
  by_cases hk : k ≤ r.chunks.flatten.length
  · rw [Nat.min_eq_left hk, if_pos (Nat.le_refl k), if_pos hk]
    exact ⟨rfl, h2, rfl⟩
  · rw [Nat.min_eq_right (by omega), if_neg hk, if_neg hk]
    by_cases h0 : r.chunks.flatten.length = 0
    · rw [if_pos h0, if_pos h0]
      exact ⟨rfl, h2, rfl⟩
    · rw [if_neg h0, if_neg h0]
      exact ⟨rfl, h2, rfl⟩

theorem readFull_append (r : Reader) (a rest : List Byte) (h : r.data = a ++ rest) :
    ∃ r', readFull r a.length = (.full a, r') ∧ r'.data = rest ∧ r'.eofWithData = r.eofWithData := by
  obtain ⟨h1, h2, h3⟩ := readFull_eq r a.length
  rw [h, if_pos (by simp), List.take_left'  rfl] at h1
  exact ⟨_, Prod.ext h1 rfl, by rw [h2, h, List.drop_left' rfl], h3⟩

theorem readFull_lt (r : Reader) (k : Nat) (h : r.data.length < k) :
    (readFull r k).1 = .eof ∨ (readFull r k).1 = .unexpected r.data.length := by
  rw [(readFull_eq r k).1, if_neg (by omega)]
  by_cases h0 : r.data.length = 0
  · exact Or.inl (if_pos h0)
  · exact Or.inr (if_neg h0)

theorem take_append_ge {α : Type} (A R : List α) (t : Nat) (h : A.length ≤ t) :
    (A ++ R).take t = A ++ R.take (t - A.length) := by
  rw [List.take_append, List.take_of_length_le h]

/-- `Reads x total d bs Q`: `x` is the result of a decoder that was to consume `bs` from the front
of the remaining stream `d`, with `total` bytes counted so far.  If `bs` is all there
(`d = bs ++ rest`) the result satisfies `Q rest`; if the stream ends inside `bs` (`d = bs.take t`)
the result is an error reporting at most `total + t` bytes.  Closed under the two ways the decoders
sequence their work (`Reads.ofReadFull`, `Reads.ofCall`): round trip and strict prefix of a decoder
are the two halves of one composition. -/
def Reads {τ : Type} (x : Res τ) (total : Nat) (d bs : List Byte) (Q : List Byte → Res τ → Prop) : Prop :=
  (∀ rest, d = bs ++ rest → Q rest x) ∧
  (∀ t, t < bs.length → d = bs.take t → ∃ n, x = ⟨n, .err⟩ ∧ n ≤ total + t)

section Reads
variable {σ τ : Type}

theorem Reads.done {x : Res τ} {total : Nat} {d : List Byte} {Q : List Byte → Res τ → Prop} (hq : Q d x) :
    Reads x total d [] Q :=
  ⟨fun rest hd => by rw [hd] at hq; exact hq, fun t ht => by simp at ht⟩

/-- one `io.ReadFull(r, buf[:k])` whose result `y` is handled by `g`; `p` are the bytes it is to find.
(`y` is quantified so that `g`, a `match` of the model, is found by unification: `generalize … = y; revert y`.) -/
theorem Reads.ofReadFull {r : Reader} {p bs : List Byte} {k total : Nat} {Q : List Byte → Res τ → Prop}
    {g : RF × Reader → Res τ} (hp : p.length = k)
    (hK : ∀ r', r.data = p ++ r'.data ∧ r'.eofWithData = r.eofWithData →
      Reads (g (.full p, r')) (total + k) r'.data bs Q)
    (hE : ∀ r', ∃ n, g (.eof, r') = ⟨n, .err⟩ ∧ n ≤ total)
    (hU : ∀ m r', ∃ n, g (.unexpected m, r') = ⟨n, .err⟩ ∧ n ≤ total + m) :
    ∀ y, readFull r k = y → Reads (g y) total r.data (p ++ bs) Q := by
  rintro _ rfl
  subst hp
  constructor
  · intro rest hd
    obtain ⟨r', e, d', w'⟩ := readFull_append r p (bs ++ rest) (by rw [hd, List.append_assoc])
    rw [e]
    exact (hK r' ⟨by rw [d', hd, List.append_assoc], w'⟩).1 rest d'
  · intro t ht hd
    by_cases hk : t < p.length
    · have hl : r.data.length = t := by rw [hd, List.length_take]; omega
      rcases hx : readFull r p.length with ⟨res, r'⟩
      have hlt := readFull_lt r p.length (by omega)
      rw [hx] at hlt
      rcases hlt with rfl | rfl
      · obtain ⟨n, hn, hle⟩ := hE r'
        exact ⟨n, hn, by omega⟩
      · obtain ⟨n, hn, hle⟩ := hU r.data.length r'
        exact ⟨n, hn, by omega⟩
    · rw [take_append_ge _ _ _ (by omega)] at hd
      obtain ⟨r', e, d', w'⟩ := readFull_append r p _ hd
      rw [e]
      obtain ⟨n, hn, hle⟩ := (hK r' ⟨by rw [d']; exact hd, w'⟩).2 (t - p.length) (by simp at ht; omega) d'
      exact ⟨n, hn, by omega⟩

/-- `b, err := io.ReadFull(r, buf[:k]); if err != nil { return c, err }`, then `K b` -/
theorem Reads.field {r : Reader} {p bs : List Byte} {k total c : Nat} {Q : List Byte → Res τ → Prop}
    {K : List Byte → Reader → Res τ} (hp : p.length = k) (hc : c ≤ total)
    (hK : ∀ r', r.data = p ++ r'.data ∧ r'.eofWithData = r.eofWithData → Reads (K p r') (total + k) r'.data bs Q) :
    Reads (match (generalizing := false) readFull r k with
      | (.full b, r') => K b r'
      | _ => ⟨c, .err⟩) total r.data (p ++ bs) Q :=
  Reads.ofReadFull (g := fun x => match x with | (.full b, r') => K b r' | _ => ⟨c, .err⟩) hp hK
    (fun _ => ⟨c, rfl, hc⟩) (fun _ _ => ⟨c, rfl, by omega⟩) _ rfl

theorem Reads.mono {x : Res τ} {total : Nat} {d bs : List Byte} {Q Q' : List Byte → Res τ → Prop}
    (h : Reads x total d bs Q) (hQ : ∀ rest, Q rest x → Q' rest x) : Reads x total d bs Q' :=
  ⟨fun rest hd => hQ rest (h.1 rest hd), h.2⟩

/-- a call `x` of a decoder (which counts from `t0`) whose result is handled by `g`; `x` is quantified
last for the same reason as `y` in `Reads.ofReadFull` -/
theorem Reads.ofCall {t0 total : Nat} {d a b : List Byte} {Qa : List Byte → Res σ → Prop}
    {Q : List Byte → Res τ → Prop} {g : Res σ → Res τ}
    (hE : ∀ n t, n ≤ t0 + t → ∃ m, g ⟨n, .err⟩ = ⟨m, .err⟩ ∧ m ≤ total + t)
    (hK : ∀ rest x', d = a ++ rest → Qa rest x' → Reads (g x') (total + a.length) rest b Q) :
    ∀ x, Reads x t0 d a Qa → Reads (g x) total d (a ++ b) Q := by
  intro x hx
  constructor
  · intro rest hd
    rw [List.append_assoc] at hd
    exact (hK _ x hd (hx.1 _ hd)).1 rest rfl
  · intro t ht hd
    by_cases hk : t < a.length
    · obtain ⟨n, hn, hle⟩ := hx.2 t hk (by rw [hd, List.take_append_of_le_length (by omega)])
      rw [hn]
      exact hE n t hle
    · rw [take_append_ge _ _ _ (by omega)] at hd
      obtain ⟨n, hn, hle⟩ := (hK _ x hd (hx.1 _ hd)).2 (t - a.length) (by simp at ht; omega) rfl
      exact ⟨n, hn, by omega⟩

end Reads

theorem readFull_congr {r1 r2 : Reader} (h : r1.data = r2.data) (k : Nat) :
    (readFull r1 k).1 = (readFull r2 k).1 ∧ (readFull r1 k).2.data = (readFull r2 k).2.data := by
  rw [(readFull_eq r1 k).1, (readFull_eq r2 k).1, (readFull_eq r1 k).2.1, (readFull_eq r2 k).2.1, h]
  exact ⟨rfl, rfl⟩

theorem readFull_full_inv {r : Reader} {k : Nat} {a : List Byte} {r' : Reader}
    (h : readFull r k = (.full a, r')) :
    k ≤ r.data.length ∧ a = r.data.take k ∧ r'.data = r.data.drop k := by
  obtain ⟨h1, h2, _⟩ := readFull_eq r k
  rw [h] at h1 h2
  by_cases hk : k ≤ r.data.length
  · rw [if_pos hk] at h1
    exact ⟨hk, RF.full.inj h1, h2⟩
  · rw [if_neg hk] at h1
    split at h1 <;> cases h1

section Post
variable {τ : Type}

def Post (x : Res τ) (P : τ → Prop) : Prop :=
  x.out ≠ .hang ∧ x.out ≠ .panic ∧ ∀ v, x.out = .ok v → P v

theorem Post.err {n : Nat} {P : τ → Prop} : Post ⟨n, .err⟩ P := ⟨nofun, nofun, nofun⟩

theorem Post.ok {n : Nat} {v : τ} {P : τ → Prop} (h : P v) : Post ⟨n, .ok v⟩ P :=
  ⟨nofun, nofun, fun w hw => by cases hw; exact h⟩

end Post

/-- a decoder's value with the remaining STREAM instead of the remaining reader: the chunking forgotten -/
def data2 {α : Type} (v : α × Reader) : α × List Byte := (v.1, v.2.data)

theorem data2_eq {α : Type} {a1 a2 : α} {s t : Reader} (h : data2 (a1, s) = data2 (a2, t)) :
    a1 = a2 ∧ s.data = t.data := by
  simpa [data2] using h

section Alike
variable {σ σ' τ τ' : Type}

/-- what holds of a decoder on ANY stream: two runs (two readers delivering the same stream, possibly
two fuels) return the same up to `ψ`, and the run returns (no panic, no hang) with a value satisfying
`P`.  Closed under an `io.ReadFull` group and a call, like `Reads`. -/
def Alike (ψ : τ → τ') (P : τ → Prop) (x1 x2 : Res τ) : Prop :=
  Res.mapOk ψ x1 = Res.mapOk ψ x2 ∧ Post x1 P

theorem Alike.err {ψ : τ → τ'} {P : τ → Prop} {n : Nat} : Alike ψ P ⟨n, .err⟩ ⟨n, .err⟩ := ⟨rfl, Post.err⟩

theorem Alike.ok {ψ : τ → τ'} {P : τ → Prop} {n : Nat} {v1 v2 : τ} (h : ψ v1 = ψ v2) (hp : P v1) :
    Alike ψ P ⟨n, .ok v1⟩ ⟨n, .ok v2⟩ :=
  ⟨by simp only [Res.mapOk, h], Post.ok hp⟩

theorem Alike.total {ψ : τ → τ'} {P : τ → Prop} {x1 x2 : Res τ} (h : Alike ψ P x1 x2) :
    x1.out ≠ .hang ∧ x1.out ≠ .panic :=
  ⟨h.2.1, h.2.2.1⟩

theorem Alike.eq {P : τ → Prop} {x1 x2 : Res τ} (h : Alike id P x1 x2) : x1 = x2 := by
  have := h.1
  rwa [Res.mapOk_id, Res.mapOk_id] at this

theorem Alike.ofReadFull {r1 r2 : Reader} {k : Nat} {ψ : τ → τ'} {P : τ → Prop} {g1 g2 : RF × Reader → Res τ}
    (h : r1.data = r2.data)
    (hK : ∀ b s t, k ≤ r1.data.length → s.data = r1.data.drop k → s.data = t.data →
      Alike ψ P (g1 (.full b, s)) (g2 (.full b, t)))
    (hE : ∀ s t, Alike ψ P (g1 (.eof, s)) (g2 (.eof, t)))
    (hU : ∀ m s t, Alike ψ P (g1 (.unexpected m, s)) (g2 (.unexpected m, t))) :
    ∀ y1, readFull r1 k = y1 → ∀ y2, readFull r2 k = y2 → Alike ψ P (g1 y1) (g2 y2) := by
  rintro ⟨a1, s⟩ h1 ⟨a2, t⟩ h2
  have c := readFull_congr h k
  rw [h1, h2] at c
  obtain ⟨rfl, hd⟩ : a1 = a2 ∧ s.data = t.data := c
  cases a1 with
  | full b => obtain ⟨hk, _, hs⟩ := readFull_full_inv h1; exact hK b s t hk hs hd
  | eof => exact hE s t
  | unexpected m => exact hU m s t

theorem Alike.field {r1 r2 : Reader} {k c : Nat} {ψ : τ → τ'} {P : τ → Prop} {K1 K2 : List Byte → Reader → Res τ}
    (h : r1.data = r2.data)
    (hK : ∀ b s t, k ≤ r1.data.length → s.data = r1.data.drop k → s.data = t.data → Alike ψ P (K1 b s) (K2 b t)) :
    Alike ψ P
      (match (generalizing := false) readFull r1 k with
        | (.full b, r') => K1 b r'
        | _ => ⟨c, .err⟩)
      (match (generalizing := false) readFull r2 k with
        | (.full b, r') => K2 b r'
        | _ => ⟨c, .err⟩) :=
  Alike.ofReadFull (g1 := fun x => match x with | (.full b, r') => K1 b r' | _ => ⟨c, .err⟩)
    (g2 := fun x => match x with | (.full b, r') => K2 b r' | _ => ⟨c, .err⟩) h hK
    (fun _ _ => Alike.err) (fun _ _ _ => Alike.err) _ rfl _ rfl

theorem Alike.call {φ : σ → σ'} {Pa : σ → Prop} {ψ : τ → τ'} {P : τ → Prop} {g1 g2 : Res σ → Res τ}
    (hE : ∀ n, Alike ψ P (g1 ⟨n, .err⟩) (g2 ⟨n, .err⟩))
    (hK : ∀ n v1 v2, φ v1 = φ v2 → Pa v1 → Alike ψ P (g1 ⟨n, .ok v1⟩) (g2 ⟨n, .ok v2⟩)) :
    ∀ x1 x2, Alike φ Pa x1 x2 → Alike ψ P (g1 x1) (g2 x2) := by
  rintro ⟨n1, o1⟩ ⟨n2, o2⟩ ⟨h, hp⟩
  cases o1 <;> cases o2 <;> simp only [Res.mapOk, Res.mk.injEq, Out.ok.injEq, reduceCtorEq, and_false] at h
  · obtain ⟨rfl, hv⟩ := h
    exact hK _ _ _ hv (hp.2.2 _ rfl)
  · obtain ⟨rfl, _⟩ := h; exact hE _
  · exact absurd rfl hp.2.1
  · exact absurd rfl hp.1

end Alike

structure HashBytesOK (H : Type) [HashBytes H] : Prop where
  len : ∀ h : H, (toBytes h).length = 32
  rt : ∀ h : H, ofBytes (toBytes h) = h

variable {H : Type} [DecidableEq H] [Hasher H] [HashBytes H]

/-- `p.NodeMap[h.mini()] = node` for a list of leaves, in order -/
def putAll (nm : NodeMap H) (hs : List H) : NodeMap H := hs.foldl (fun m h => m.put (mini h) h) nm

/-- the hashes `readOne` enters into the node map: it skips the all-zero hash -/
def nonzeros (hs : List H) : List H := hs.filter (· != zero)

theorem nonzeros_append (a b : List H) : nonzeros (a ++ b) = nonzeros a ++ nonzeros b := by simp [nonzeros]

theorem nonzeros_eq_self {hs : List H} (h : ∀ x ∈ hs, x ≠ zero) : nonzeros hs = hs := by
  unfold nonzeros
  rw [List.filter_eq_self]
  intro x hx
  simpa using h x hx

theorem encRoot_length (ok : HashBytesOK H) (t : Option (CTree H)) : 34 ≤ (encRoot t).length := by
  match t with
  | none => simp [encRoot, ok.len]
  | some (.leaf h) => simp [encRoot, ok.len]
  | some (.node l r) => simp [encRoot, ok.len]; omega

/-- a root is written like a node that is its own sibling (it points to its own children);
an empty root like a childless node with the all-zero hash -/
def selfT : Option (CTree H) → CTree H
  | none => .leaf zero
  | some t => t

theorem encRoot_self (t : Option (CTree H)) : encRoot t = encNode (selfT t) (selfT t) := by
  match t with
  | none => simp [encRoot, encNode, selfT, isLeafT, flag, CTree.hash]
  | some (.leaf h) => simp [encRoot, encNode, selfT, isLeafT, flag, CTree.hash]
  | some (.node l r) => simp [encRoot, encNode, selfT, isLeafT, flag]

theorem ofRoot_self (t : Option (CTree H)) : PNode.ofRoot t = PNode.ofNode (selfT t) (selfT t) := by
  match t with
  | none => simp [PNode.ofRoot, PNode.ofNode, selfT, CTree.hash]
  | some (.leaf h) => simp [PNode.ofRoot, PNode.ofNode, selfT, CTree.hash]
  | some (.node l r) => simp [PNode.ofRoot, PNode.ofNode, selfT]

theorem wireLeaves_self (t : Option (CTree H)) : nonzeros (wireLeavesNode (selfT t) (selfT t)) = nonzeros (wireLeavesRoot t) := by
  match t with
  | none => simp [wireLeavesRoot, wireLeavesNode, selfT, isLeafT, nonzeros, CTree.hash]
  | some (.leaf h) => simp [wireLeavesRoot, wireLeavesNode, selfT, isLeafT, CTree.hash]
  | some (.node l r) => simp [wireLeavesRoot, wireLeavesNode, selfT, isLeafT]

theorem numRoots_eq {n : Nat} (hn : n < 2 ^ 64) : (numRoots (BitVec.ofNat 64 n)).toNat = (treeRows n).length := by
  unfold numRoots GoInt.onesCount64
  rw [treeRows_length]
  have hf : (fun i => (BitVec.ofNat 64 n).getLsbD i) = (fun i => decide (i < 64) && n.testBit i) := by
    funext i; rw [BitVec.getLsbD_ofNat]
  rw [hf]
  have h64 : n.testBit 64 = false := Nat.testBit_lt_two_pow hn
  have e : (List.range 64).countP (fun i => decide (i < 64) && n.testBit i) = (List.range 64).countP (fun i => n.testBit i) := by
    apply List.countP_congr
    intro i hi
    simp [List.mem_range.mp hi]
  rw [e, show List.range 65 = List.range 64 ++ [64] from List.range_succ, List.countP_append]
  simp only [List.countP_cons, List.countP_nil, h64, Nat.zero_add]
  have hle : (List.range 64).countP (fun i => n.testBit i) ≤ 64 := by
    have := List.countP_le_length (p := fun i => n.testBit i) (l := List.range 64)
    simpa using this
  simp only [GoInt.ofInt, Bool.false_eq_true, if_false, Nat.add_zero]
  rw [BitVec.toNat_ofInt]
  omega

theorem assocPut_fresh {κ ν : Type} [DecidableEq κ] : ∀ (l : List (κ × ν)) (k : κ) (v : ν), k ∉ l.map (·.1) →
    assocPut l k v = l ++ [(k, v)] := by
  intro l
  induction l with
  | nil => intro k v _; rfl
  | cons e l ih =>
    intro k v hk
    obtain ⟨k', v'⟩ := e
    simp only [List.map_cons, List.mem_cons, not_or] at hk
    have : ¬ k' = k := fun h => hk.1 h.symm
    simp [assocPut, this, ih k v hk.2]

/-- `m[k] = v` for a list of records, in order, on association lists (the map format).  Not to be
confused with `PollardHeapSerial.putRecs` (Proofs/PollardFormat.lean), which enters raw 32-byte
records into a `NodeMap` -/
def putRecs {κ ν : Type} [DecidableEq κ] (l : List (κ × ν)) (recs : List (κ × ν)) : List (κ × ν) :=
  recs.foldl (fun m e => assocPut m e.1 e.2) l

theorem putRecs_fresh {κ ν : Type} [DecidableEq κ] : ∀ (recs l : List (κ × ν)),
    (l.map (·.1) ++ recs.map (·.1)).Nodup → putRecs l recs = l ++ recs := by
  intro recs
  induction recs with
  | nil => intro l _; simp [putRecs]
  | cons e recs ih =>
    intro l hnd
    have hfresh : e.1 ∉ l.map (·.1) := by
      intro hmem
      rw [List.nodup_append] at hnd
      exact hnd.2.2 _ hmem _ (by simp) rfl
    have e1 : putRecs l (e :: recs) = putRecs (assocPut l e.1 e.2) recs := rfl
    rw [e1, assocPut_fresh l _ _ hfresh, ih]
    · simp
    · simp only [List.map_append, List.map_cons, List.map_nil, List.append_assoc, List.singleton_append]
      simpa using hnd

/-- the model has two `m[k] = v` on key-value lists: `NodeMap.put` (keys compared with `==`) for the
pointer forest and `assocPut` (with `=`) for the map format; they are one function -/
theorem put_eq_assocPut : ∀ (nm : NodeMap H) (k : List Byte) (v : H), NodeMap.put nm k v = assocPut nm k v
  | [], _, _ => rfl
  | (k', v') :: rest, k, v => by
    by_cases h : k' = k <;> simp [NodeMap.put, assocPut, h, put_eq_assocPut rest k v]

theorem put_fresh (nm : NodeMap H) (k : List Byte) (v : H) (h : k ∉ nm.map (·.1)) :
    NodeMap.put nm k v = nm ++ [(k, v)] := by
  rw [put_eq_assocPut, assocPut_fresh nm k v h]

theorem put_same : ∀ (nm : NodeMap H) (k : List Byte) (v : H), k ∈ nm.map (·.1) →
    (∀ e ∈ nm, e.1 = k → e = (k, v)) → NodeMap.put nm k v = nm := by
  intro nm
  induction nm with
  | nil => intro k v h; simp at h
  | cons e nm ih =>
    intro k v hk hf
    obtain ⟨k', v'⟩ := e
    by_cases h : k' = k
    · have := hf (k', v') (by simp) h
      simp only [Prod.mk.injEq] at this
      simp [NodeMap.put, this.1, this.2]
    · have hne : (k' == k) = false := by rw [beq_eq_false_iff_ne]; exact h
      simp only [NodeMap.put, hne, Bool.false_eq_true, if_false]
      rw [ih k v]
      · simp only [List.map_cons, List.mem_cons] at hk
        rcases hk with hk | hk
        · exact absurd hk.symm h
        · exact hk
      · intro e he; exact hf e (by simp [he])

theorem putAll_eq_putRecs (nm : NodeMap H) (hs : List H) :
    putAll nm hs = putRecs nm (hs.map fun h => (mini h, h)) := by
  simp only [putAll, putRecs, List.foldl_map, put_eq_assocPut]

theorem putAll_fresh (hs : List H) (nm : NodeMap H) (h : ((nm.map (·.1)) ++ hs.map mini).Nodup) :
    putAll nm hs = nm ++ hs.map (fun h => (mini h, h)) := by
  rw [putAll_eq_putRecs, putRecs_fresh]
  rw [List.map_map]
  exact h

theorem sub_toInt {n d : Nat} (hn : n < 2 ^ 63) (hd : d ≤ n) :
    (BitVec.ofNat 64 n - BitVec.ofNat 64 d).toInt = ((n - d : Nat) : Int) := by
  have h1 : (BitVec.ofNat 64 n - BitVec.ofNat 64 d).toNat = n - d := by
    rw [BitVec.ofNat_sub_ofNat_of_le n d (by omega) hd, toNat_ofNat64_of_lt (by omega)]
  rw [BitVec.toInt_eq_toNat_cond, h1, if_pos (by omega)]

theorem encodePollard_eq (F : Forest H) :
    encodePollard F = le64 (BitVec.ofNat 64 F.numLeaves) ++ (le64 (BitVec.ofNat 64 (numDead F)) ++
      (F.trees.map (·.2)).flatMap encRoot) := by
  unfold encodePollard; rw [List.flatMap_map, List.append_assoc]

theorem wireLeaves_eq (F : Forest H) : wireLeaves F = (F.trees.map (·.2)).flatMap wireLeavesRoot := by
  unfold wireLeaves; rw [List.flatMap_map]

/-- what the stream shows under the node's sibling -/
def strictBelow : CTree H → List H
  | .leaf _ => []
  | .node l r => l.leaves ++ r.leaves

theorem leaves_eq (t : CTree H) : t.leaves = (if isLeafT t then [t.hash] else []) ++ strictBelow t := by
  cases t <;> simp [CTree.leaves, isLeafT, strictBelow, CTree.hash]

theorem perm_swap_tails {α : Type} (a c B D : List α) : ((a ++ B) ++ (c ++ D)).Perm ((a ++ D) ++ (c ++ B)) := by
  simp only [List.append_assoc]
  apply List.Perm.append_left
  refine List.perm_append_comm.trans ?_
  simp only [List.append_assoc]
  refine (List.perm_append_comm (l₁ := c)).trans ?_
  simp only [List.append_assoc]
  exact List.Perm.append_left _ List.perm_append_comm

/-- the stream meets `n` itself and then what is below its sibling `s` (aunt/niece form) -/
theorem wireLeavesNode_perm : ∀ (s n : CTree H),
    (wireLeavesNode n s).Perm ((if isLeafT n then [n.hash] else []) ++ strictBelow s)
  | .leaf x, n => by simp [wireLeavesNode, strictBelow]
  | .node sl sr, n => by
    simp only [wireLeavesNode, strictBelow]
    apply List.Perm.append_left
    rw [leaves_eq sl, leaves_eq sr]
    exact ((wireLeavesNode_perm sr sl).append (wireLeavesNode_perm sl sr)).trans (perm_swap_tails _ _ _ _)

theorem wireLeavesRoot_perm (t : Option (CTree H)) : (wireLeavesRoot t).Perm (optLeaves t) := by
  match t with
  | none => simp [wireLeavesRoot, optLeaves]
  | some (.leaf h) => simp [wireLeavesRoot, optLeaves, CTree.leaves]
  | some (.node l r) =>
    simp only [wireLeavesRoot, optLeaves, CTree.leaves]
    rw [leaves_eq l, leaves_eq r]
    exact ((wireLeavesNode_perm r l).append (wireLeavesNode_perm l r)).trans (perm_swap_tails _ _ _ _)

theorem start_step (n k : Nat) :
    n / 2 ^ k * 2 ^ k = n / 2 ^ (k + 1) * 2 ^ (k + 1) + (if n.testBit k then 2 ^ k else 0) := by
  rw [div_two_pow_bit n k, Nat.add_mul, Nat.pow_succ', Nat.mul_comm 2 (n / _), Nat.mul_assoc]
  split
  · rw [Nat.one_mul]
  · rw [Nat.zero_mul]

/-- the slot ranges of the trees on rows `≤ k`, highest row first, tile the slots from the start of
the lowest tree above row `k` to the end -/
theorem chunks_cover {α : Type} (slots : List α) : ∀ k,
    (treeRowsFrom k slots.length).flatMap (fun h => (slots.drop (treeStart slots.length h)).take (2 ^ h)) =
    slots.drop (slots.length / 2 ^ (k + 1) * 2 ^ (k + 1)) := by
  intro k
  induction k with
  | zero =>
    have st := start_step slots.length 0
    simp only [Nat.pow_zero, Nat.div_one, Nat.mul_one, Nat.zero_add] at st
    unfold treeRowsFrom
    cases hb : slots.length.testBit 0 with
    | true =>
      simp only [hb, if_true] at st
      simp only [if_true, List.flatMap_cons, List.flatMap_nil, List.append_nil, treeStart_eq, Nat.zero_add, Nat.pow_one]
      apply List.take_of_length_le
      rw [List.length_drop]; omega
    | false =>
      simp only [hb, Bool.false_eq_true, if_false, Nat.add_zero] at st
      simp only [Bool.false_eq_true, if_false, List.flatMap_nil, Nat.zero_add, Nat.pow_one]
      rw [← st, List.drop_length]
  | succ k ih =>
    have st := start_step slots.length (k + 1)
    unfold treeRowsFrom
    cases hb : slots.length.testBit (k + 1) with
    | true =>
      simp only [hb, if_true] at st
      simp only [if_true, List.flatMap_cons]
      rw [ih, treeStart_eq, st, ← List.drop_drop, List.take_append_drop]
    | false =>
      simp only [hb, Bool.false_eq_true, if_false, Nat.add_zero] at st
      simp only [Bool.false_eq_true, if_false]
      rw [ih, st]

/-- three bounds meet in this file: `2^63` is what the theorems assume (`LeavesOK.small`: Go converts
the leaf count to `int`), `2^64` what the header field holds (`numRoots_eq`, `restoreL_forest`), and
`2^65` what suffices here, because `treeRows` scans the binary digits `0 … 64` -/
theorem chunks_cover_all {α : Type} (slots : List α) (hn : slots.length < 2 ^ 65) :
    (treeRows slots.length).flatMap (fun h => (slots.drop (treeStart slots.length h)).take (2 ^ h)) = slots := by
  unfold treeRows
  rw [chunks_cover slots 64, Nat.div_eq_of_lt hn]
  simp

theorem perm_flatMap {α β : Type} (f g : α → List β) : ∀ (l : List α), (∀ a ∈ l, (f a).Perm (g a)) →
    (l.flatMap f).Perm (l.flatMap g) := by
  intro l
  induction l with
  | nil => intro _; simp
  | cons a l ih =>
    intro h
    simp only [List.flatMap_cons]
    exact (h a (by simp)).append (ih (fun b hb => h b (by simp [hb])))

theorem wireLeaves_perm (F : Forest H) (hn : F.numLeaves < 2 ^ 65) : (wireLeaves F).Perm F.liveLeaves := by
  unfold wireLeaves Forest.trees Forest.liveLeaves
  rw [List.flatMap_map]
  have hcov := chunks_cover_all F.slots hn
  conv => rhs; rw [← hcov]
  rw [List.filterMap_flatMap]
  apply perm_flatMap
  intro h _
  refine (wireLeavesRoot_perm _).trans ?_
  simp only [Forest.numLeaves]
  rw [optLeaves_collapse, List.take_take, Nat.min_self]

theorem live_dead_count (F : Forest H) : F.liveLeaves.length + numDead F = F.numLeaves := by
  unfold Forest.liveLeaves numDead Forest.numLeaves
  induction F.slots with
  | nil => simp
  | cons a l ih =>
    cases a <;> simp at ih ⊢ <;> omega

theorem numDead_modify (F : Forest H) (dels adds : List H) (hl : F.liveLeaves.Nodup) (hd : dels.Nodup)
    (hsub : ∀ x ∈ dels, x ∈ F.liveLeaves) :
    numDead (F.modify dels adds) = numDead F + dels.length := by
  have h1 := live_dead_count F
  have h2 := live_dead_count (F.modify dels adds)
  rw [Spec.numLeaves_modify, LiveLeaves.liveLeaves_modify_eq, List.length_append] at h2
  have h3 := LiveLeaves.filter_notin_length hl hd hsub
  omega

/-- what the round-trip theorems assume of the forest: fewer than 2^63 leaves (Go converts the
leaf count to `int`), no live leaf is the all-zero hash, and the 12-byte `NodeMap` keys of the
live leaves are pairwise distinct -/
structure LeavesOK (F : Forest H) : Prop where
  small : F.numLeaves < 2 ^ 63
  nonzero : ∀ h ∈ F.liveLeaves, h ≠ zero
  miniDistinct : (F.liveLeaves.map mini).Nodup

theorem encNode_count (ok : HashBytesOK H) : ∀ (s n : CTree H), (encNode n s).length = 34 * (PNode.ofNode n s).count := by
  intro s
  induction s with
  | leaf x => intro n; simp [encNode, PNode.ofNode, PNode.count, ok.len]
  | node sl sr ihl ihr =>
    intro n
    simp only [encNode, PNode.ofNode, PNode.count, List.length_append, ok.len, ihr sl, ihl sr]
    simp; omega

theorem encRoot_count (ok : HashBytesOK H) (t : Option (CTree H)) : (encRoot t).length = 34 * (PNode.ofRoot t).count := by
  match t with
  | none => simp [encRoot, PNode.ofRoot, PNode.count, ok.len]
  | some (.leaf h) => simp [encRoot, PNode.ofRoot, PNode.count, ok.len]
  | some (.node l r) =>
    simp only [encRoot, PNode.ofRoot, PNode.count, List.length_append, ok.len, encNode_count ok]
    simp; omega

theorem serializeSize_eq (ok : HashBytesOK H) (F : Forest H) :
    serializeSize (PState.ofForest F) = (encodePollard F).length := by
  unfold serializeSize encodePollard PState.ofForest
  simp only [List.length_append, le64_length, List.map_map]
  have : ∀ (ts : List (Nat × Option (CTree H))),
      (ts.flatMap (fun t => encRoot t.2)).length = 34 * (ts.map (PNode.count ∘ fun t => PNode.ofRoot t.2)).sum := by
    intro ts
    induction ts with
    | nil => simp
    | cons t ts ih => simp [List.flatMap_cons, ih, encRoot_count ok, Nat.mul_add]
  rw [this]
  omega

theorem wr_ok (p : List Byte) (total : Nat) (w : Sink) (k : Nat → Sink → Res Unit × Sink)
    (h : p.length ≤ w.room) :
    wr p total w k = k (total + p.length) ⟨w.written ++ p, w.room - p.length⟩ := by
  simp [wr, Sink.write, h]

theorem wr_fail (p : List Byte) (total : Nat) (w : Sink) (k : Nat → Sink → Res Unit × Sink)
    (h : w.room < p.length) :
    wr p total w k = (⟨total, .err⟩, ⟨w.written ++ p.take w.room, 0⟩) := by
  simp [wr, Sink.write, Nat.not_le.mpr h]

theorem deadEnd_ofNode (n s : CTree H) : (PNode.ofNode n s).deadEnd = isLeafT s := by
  cases s <;> simp [PNode.ofNode, PNode.deadEnd, isLeafT]

theorem data_ofNode (n s : CTree H) : (PNode.ofNode n s).data = n.hash := by
  cases s <;> simp [PNode.ofNode, PNode.data]

/-- `Wrote x total w bs`: `x` is the outcome of a writer whose job was to append `bs` to the sink `w`
and to add their number to the running count `total`.  With enough room it did exactly that;
otherwise it failed, reporting a count that does not exceed `total` plus the room there was. -/
def Wrote (x : Res Unit × Sink) (total : Nat) (w : Sink) (bs : List Byte) : Prop :=
  (bs.length ≤ w.room → x = (⟨total + bs.length, .ok ()⟩, ⟨w.written ++ bs, w.room - bs.length⟩)) ∧
  (w.room < bs.length → ∃ n w', x = (⟨n, .err⟩, w') ∧ n ≤ total + w.room)

theorem Wrote.fail {x : Res Unit × Sink} {total : Nat} {w : Sink} {bs : List Byte} (h : Wrote x total w bs)
    (hr : w.room < bs.length) : x.1.out = .err ∧ x.1.n ≤ total + w.room := by
  obtain ⟨n, w', rfl, hn⟩ := h.2 hr
  exact ⟨rfl, hn⟩

theorem Wrote.done (total : Nat) (w : Sink) : Wrote (⟨total, .ok ()⟩, w) total w [] :=
  ⟨fun _ => by simp, fun h => by simp at h⟩

theorem Wrote.wr {p bs : List Byte} {total : Nat} {w : Sink} {k : Nat → Sink → Res Unit × Sink}
    (hk : ∀ w', Wrote (k (total + p.length) w') (total + p.length) w' bs) :
    Wrote (wr p total w k) total w (p ++ bs) := by
  by_cases hp : p.length ≤ w.room
  · rw [wr_ok p total w k hp]
    have h := hk ⟨w.written ++ p, w.room - p.length⟩
    refine ⟨fun hr => ?_, fun hr => ?_⟩
    · rw [h.1 (by simp at hr ⊢; omega)]
      simp [Nat.add_assoc, Nat.sub_sub]
    · obtain ⟨n, w', hx, hn⟩ := h.2 (by simp at hr ⊢; omega)
      exact ⟨n, w', hx, by simp at hn; omega⟩
  · rw [wr_fail p total w k (by omega)]
    exact ⟨fun hr => by simp at hr; omega, fun _ => ⟨_, _, rfl, by omega⟩⟩

/-- a call `x` of a writer (which counts from `t0`) followed by the caller's
`if err != nil { return c, err }` and a continuation that writes `b`; `c` is the count the caller
reports when the call fails -/
theorem Wrote.call {x : Res Unit × Sink} {t0 total : Nat} {w : Sink} {a b : List Byte}
    {k : Nat → Sink → Res Unit × Sink} {c : Nat → Nat}
    (hx : Wrote x t0 w a) (hk : ∀ w', Wrote (k (t0 + a.length) w') (total + a.length) w' b)
    (hc : ∀ n, n ≤ t0 + w.room → c n ≤ total + w.room) :
    Wrote (match (generalizing := false) x with
      | (⟨n, .ok _⟩, w') => k n w'
      | (⟨n, e⟩, w') => (⟨c n, failAs e⟩, w')) total w (a ++ b) := by
  by_cases ha : a.length ≤ w.room
  · rw [hx.1 ha]
    have h := hk ⟨w.written ++ a, w.room - a.length⟩
    refine ⟨fun hr => ?_, fun hr => ?_⟩
    · show k _ _ = _
      rw [h.1 (by simp at hr ⊢; omega)]
      simp [Nat.add_assoc, Nat.sub_sub]
    · obtain ⟨n, w', hx, hn⟩ := h.2 (by simp at hr ⊢; omega)
      exact ⟨n, w', hx, by simp at hn; omega⟩
  · obtain ⟨n, w', hx', hn⟩ := hx.2 (by omega)
    rw [hx']
    exact ⟨fun hr => by simp at hr; omega, fun _ => ⟨_, _, rfl, hc n hn⟩⟩

theorem writeOne_spec : ∀ (s n : CTree H) (w : Sink),
    Wrote (writeOne (PNode.ofNode n s) (isLeafT n) w) 0 w (encNode n s)
  | .leaf x, n, w => by
    rw [PNode.ofNode, writeOne, encNode]
    exact Wrote.wr fun w => Wrote.wr (p := [_]) fun w => Wrote.wr (p := [_]) fun w => Wrote.done _ w
  | .node sl sr, n, w => by
    rw [PNode.ofNode, writeOne, encNode, List.append_assoc]
    refine Wrote.wr fun w => Wrote.wr (p := [_]) fun w => Wrote.wr (p := [_]) fun w => ?_
    simp only [deadEnd_ofNode]
    refine Wrote.call (writeOne_spec sr sl w) (fun w => ?_) (fun n _ => by omega)
    rw [← List.append_nil (encNode sr sl)]
    refine Wrote.call (writeOne_spec sl sr w) (fun w => ?_) (fun n _ => by omega)
    simp only [Nat.zero_add]
    exact Wrote.done _ w

theorem writeRoots_spec : ∀ (ts : List (Option (CTree H))) (total : Nat) (w : Sink),
    Wrote (writeRoots (ts.map PNode.ofRoot) total w) total w (ts.flatMap encRoot)
  | [], total, w => Wrote.done total w
  | t :: ts, total, w => by
    rw [List.map_cons, writeRoots, List.flatMap_cons, ofRoot_self, deadEnd_ofNode, encRoot_self]
    refine Wrote.call (writeOne_spec _ _ w) (fun w => ?_) (fun n _ => by omega)
    simp only [Nat.zero_add]
    exact writeRoots_spec ts _ w

theorem writeTo_spec (F : Forest H) (w : Sink) :
    Wrote (writeTo (PState.ofForest F) w) 0 w (encodePollard F) := by
  have hroots : (PState.ofForest F).roots = (F.trees.map (·.2)).map PNode.ofRoot := by
    simp [PState.ofForest, List.map_map]
  rw [writeTo, hroots, encodePollard_eq]
  exact Wrote.wr fun w => Wrote.wr fun w => writeRoots_spec _ _ w

end UtreexoVerif.Proofs.Serial
