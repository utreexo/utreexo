/-
  `addRootInfo` and `rootInfoToDestroy` of the `CachingScheduleTracker` (property C15).

  The tracker keeps, for every block, the list of the roots of the accumulator (`rootInfo`:
  63-row position and the flag "this root is a zombie", i.e. its tree has no live leaf).
  `rootsOf S` is that list for the slot list `S`.

  `rootInfoToDestroy` (prove.go) is `rootsToDestory` (stump.go) with `root.isZombie` for
  `root == empty` and a fixed row count: the loops are simulated (`ritdInner_sim`,
  `ritdOuter_sim`: they are `Model.rtdInner`, `StumpAdd.rtdOuterR` on the codes `zcode` of the root
  infos) and the stump's theorem about the loop (`StumpAddPos.rtdOuterR_exact`) gives the result as
  a list (`rootInfoToDestroy_exact`).
-/
import UtreexoVerif.Proofs.SchedUndoAdd

namespace UtreexoVerif.Proofs.SchedRoots
open UtreexoVerif.GoInt Spec Model
open UtreexoVerif.Proofs.FinalPos UtreexoVerif.Proofs.SchedSem
open UtreexoVerif.Proofs.CalcGeo
open UtreexoVerif.Proofs.SchedAddU UtreexoVerif.Proofs.StumpAddPos
open UtreexoVerif.Proofs.AddMove UtreexoVerif.Proofs.SchedUndoAdd

theorem new_chunk_alive {H : Type} [DecidableEq H] [Hasher H] (B : List (Option H)) (x : H) (l : Nat) :
    chunkAlive (B ++ [some x]) l (B.length / 2 ^ l) = true := by
  apply chunkAlive_of_slot _ l _ B.length x
  · simp
  · exact Nat.div_mul_le_self _ _
  · exact lt_succ_div_mul _ _ (Nat.two_pow_pos l)

/-- the root info of the tree on row `h` of `S`: the 63-row code of `SchedAddU.rootP S.length h`
and whether the tree has no live slot -/
def rootAt (S : List (Option Nat)) (h : Nat) : RootInfo :=
  { pos := E 63 (h, 2 * (S.length / 2 ^ (h + 1))),
    isZombie := !Spec.chunkAlive S h (2 * (S.length / 2 ^ (h + 1))) }

/-- one per tree, highest row first -/
def rootsOf (S : List (Option Nat)) : List Model.RootInfo :=
  (Spec.treeRows S.length).map (rootAt S)

section one
variable (B : List (Option Nat)) (x : Nat) {k : Nat}
  (ht : Trail B.length k) (hn : B.length < 2 ^ 62)
include ht hn

theorem rootsOf_old :
    rootsOf B = (hiRows B.length k).map (rootAt B) ++ ((List.range k).reverse).map (rootAt B) := by
  have hk62 := ht.le_of_lt hn
  rw [rootsOf, (ht.treeRows (by omega)).1, List.map_append]

theorem rootsOf_new :
    rootsOf (B ++ [some x]) = (hiRows B.length k).map (rootAt B) ++
      [{ pos := E 63 (k, B.length / 2 ^ k), isZombie := false }] := by
  have hk62 := ht.le_of_lt hn
  have hlen : (B ++ [some x]).length = B.length + 1 := by simp
  rw [rootsOf, hlen, (ht.treeRows (by omega)).2, List.map_append]
  congr 1
  · apply List.map_congr_left
    intro j hj
    obtain ⟨⟨hj1, _⟩, hj2⟩ := mem_hiRows.mp hj
    unfold rootAt
    rw [hlen, ht.succ_div_high (show k < j + 1 by omega),
      chunkAlive_append_left _ _ _ _ (root_chunk_le hj2)]
  · simp only [List.map_cons, List.map_nil]
    unfold rootAt
    rw [hlen, ht.succ_div_high (Nat.lt_succ_self k), ← ht.div_even, new_chunk_alive B x k]
    rfl

end one

/-- the tracker's digit test `(n >> h) & 1 == 1` -/
theorem bitTest_shr {n h : Nat} (hn : n < 2 ^ 64) (hh : h ≤ 63) :
    (((shr (BitVec.ofNat 64 n) (H8 h).toNat) &&& 1#64) == 1#64) = n.testBit h := by
  rw [shr_eq, toNat_H8 hh]
  exact bit_test hn h

section inner
variable {n k : Nat} (ht : Trail n k)
  (hn : n < 2 ^ 62)
include ht hn

theorem ariInner_from (pre : List RootInfo) : ∀ (d h fuel : Nat) (L : List RootInfo), h + d = k →
    L.length = d → d < fuel →
    ariInner (H8 63) (BitVec.ofNat 64 n) fuel (H8 h) (pre ++ L) (E 63 (h, n / 2 ^ h)) =
      .ok (pre, E 63 (k, n / 2 ^ k)) := by
  have hk62 := ht.le_of_lt hn
  intro d
  induction d with
  | zero =>
    intro h fuel L hd hL hf
    obtain ⟨fuel, rfl⟩ : ∃ f, fuel = f + 1 := ⟨fuel - 1, by omega⟩
    have : h = k := by omega
    subst this
    have hL' : L = [] := List.eq_nil_of_length_eq_zero hL
    subst hL'
    rw [ariInner, bitTest_shr (by omega) (by omega), ht.clear]
    simp
  | succ d ih =>
    intro h fuel L hd hL hf
    obtain ⟨fuel, rfl⟩ : ∃ f, fuel = f + 1 := ⟨fuel - 1, by omega⟩
    have hne : L ≠ [] := by intro e; rw [e] at hL; simp at hL
    rw [ariInner, bitTest_shr (by omega) (by omega), ht.low h (by omega)]
    simp only [if_true]
    have hemp : (pre ++ L).isEmpty = false := by
      cases L with
      | nil => exact absurd rfl hne
      | cons a L => simp
    rw [hemp]
    simp only [Bool.false_eq_true, if_false]
    rw [List.dropLast_append_of_ne_nil hne, BitVec.ofNat_add_ofNat,
      parent_E (by decide) (spine_valid (by omega) (by omega)) (by simp only; omega)]
    have hp : parent (h, n / 2 ^ h) = (h + 1, n / 2 ^ (h + 1)) := by
      unfold parent; simp only; rw [half_pow]
    rw [hp]
    exact ih (h + 1) fuel L.dropLast (by omega) (by rw [List.length_dropLast]; omega) (by omega)

end inner

def stage (S : List (Option Nat)) (j : Nat) : List (Option Nat) := S ++ fresh S.length j

theorem stage_length (S : List (Option Nat)) (j : Nat) : (stage S j).length = S.length + j := by
  simp [stage, SchedLives.fresh_length]

theorem fresh_succ (n k : Nat) : fresh n (k + 1) = fresh n k ++ [some (n + k)] := by
  simp [fresh, List.range_succ]

theorem stage_succ (S : List (Option Nat)) (j : Nat) :
    stage S (j + 1) = stage S j ++ [some (S.length + j)] := by
  simp [stage, fresh_succ]

theorem stage_zero (S : List (Option Nat)) : stage S 0 = S := by simp [stage, fresh]

theorem ariInner_one (B : List (Option Nat)) {n k : Nat} (hB : B.length = n)
    (ht : Trail n k) (hn : n < 2 ^ 62) :
    ariInner (H8 63) (BitVec.ofNat 64 n) 65 0#8 (rootsOf B) (BitVec.ofNat 64 n) =
      .ok ((hiRows n k).map (rootAt B), E 63 (k, n / 2 ^ k)) := by
  subst hB
  have hk62 := ht.le_of_lt hn
  rw [rootsOf_old B ht hn]
  have := ariInner_from ht hn ((hiRows B.length k).map (rootAt B)) k 0 65
    (((List.range k).reverse).map (rootAt B)) (by omega) (by simp) (by omega)
  rw [E63_leaf, Nat.pow_zero, Nat.div_one] at this
  exact this

theorem ariOuter_spec (S : List (Option Nat)) : ∀ (m j : Nat), S.length + j + m ≤ 2 ^ 62 →
    ariOuter (H8 63) m (BitVec.ofNat 64 (S.length + j)) (rootsOf (stage S j)) =
      .ok (rootsOf (stage S (j + m)), BitVec.ofNat 64 (S.length + j + m)) := by
  intro m
  induction m with
  | zero => intro j _; simp [ariOuter]
  | succ m ih =>
    intro j hle
    have ht := trail_trailingOnes (S.length + j)
    have hm : S.length + j < 2 ^ 62 := by omega
    have hlen := stage_length S j
    rw [ariOuter, ariInner_one (stage S j) hlen ht hm]
    simp only [bind, Out.bind]
    have hnew := rootsOf_new (stage S j) (S.length + j) (by rw [hlen]; exact ht)
      (by rw [hlen]; exact hm)
    rw [hlen, ← stage_succ] at hnew
    rw [← hnew, BitVec.ofNat_add_ofNat, show S.length + j + 1 = S.length + (j + 1) from rfl, ih (j + 1) (by omega)]
    rw [show j + 1 + m = j + (m + 1) by omega,
      show S.length + (j + 1) + m = S.length + j + (m + 1) by omega]

theorem addRootInfo_spec (S : List (Option Nat)) (K : Nat) (hK : K < 65536) (hn : S.length + K ≤ 2 ^ 62) :
    Model.addRootInfo (H8 63) (rootsOf S) (BitVec.ofNat 16 K) (BitVec.ofNat 64 S.length) =
      .ok (rootsOf (S ++ SchedSem.fresh S.length K), BitVec.ofNat 64 (S.length + K)) := by
  unfold addRootInfo
  have hK' : (BitVec.ofNat 16 K).toNat = K := by
    rw [BitVec.toNat_ofNat]; exact Nat.mod_eq_of_lt (by omega)
  have := ariOuter_spec S K 0 (by omega)
  rw [stage_zero, Nat.zero_add, Nat.add_zero] at this
  rw [hK', this]
  rfl

theorem not_destroyed_zero (S : List (Option Nat)) (h : Nat) : ¬ DestroyedRow S 0 h := by
  rintro ⟨_, _, h3⟩
  have := lt_succ_div_mul S.length (2 ^ (h + 1)) (Nat.two_pow_pos _)
  omega

theorem no_zombie_no_destroyed (S : List (Option Nat)) (hn : S.length < 2 ^ 62)
    (hz : (rootsOf S).any (·.isZombie) = false) (K h : Nat) : ¬ DestroyedRow S K h := by
  rintro ⟨hb, hd, _⟩
  have hh := testBit_lt_of_lt hn hb
  have hmem : h ∈ treeRows S.length := Spec.mem_treeRows.mpr ⟨by omega, hb⟩
  have : (rootsOf S).any (·.isZombie) = true := by
    rw [List.any_eq_true]
    refine ⟨rootAt S h, ?_, ?_⟩
    · exact List.mem_map_of_mem hmem
    · unfold rootAt; simp only; rw [hd]; rfl
  rw [hz] at this
  cases this

section sim
open UtreexoVerif.Proofs.StumpAdd Hasher

/-- a root info as a "hash": a zombie is the empty root -/
def zcode (r : RootInfo) : Nat := if r.isZombie then 0 else 1

theorem zcode_zero (r : RootInfo) : (zcode r = (zero : Nat)) ↔ r.isZombie = true := by
  unfold zcode
  show (if r.isZombie then 0 else 1) = 0 ↔ _
  cases r.isZombie <;> simp

def zcodes (x : Out (List RootInfo × List U64)) : Out (List Nat × List U64) :=
  x.bind fun p => .ok (p.1.map zcode, p.2)

theorem popLast_map (roots : List RootInfo) :
    (popLast (roots.map zcode) : Out (Nat × List Nat)) =
      (popLastR roots).bind fun p => .ok (zcode p.1, p.2.map zcode) := by
  unfold popLast popLastR
  rw [List.getLast?_map]
  cases roots.getLast? with
  | none => rfl
  | some x => simp [Out.bind, List.dropLast_eq_take, List.map_take]

theorem ritdInner_sim (tr : U8) (nl : U64) : ∀ (fuel : Nat) (h : U8) (roots : List RootInfo)
    (deleted : List U64),
    rtdInner nl tr fuel h (roots.map zcode) deleted = zcodes (ritdInner tr nl fuel h roots deleted) := by
  intro fuel
  induction fuel with
  | zero => intro h roots deleted; rfl
  | succ fuel ih =>
    intro h roots deleted
    unfold rtdInner ritdInner
    rw [shr_eq]
    split
    · rw [popLast_map]
      cases hp : popLastR roots with
      | ok p =>
        obtain ⟨r, rest⟩ := p
        simp only [Out.bind, bind]
        have : (if zcode r = (zero : Nat) then deleted ++ [rootPosition nl h tr] else deleted) =
            (if r.isZombie = true then deleted ++ [rootPosition nl h tr] else deleted) := by
          by_cases hz : r.isZombie = true
          · rw [if_pos hz, if_pos ((zcode_zero r).2 hz)]
          · rw [if_neg hz, if_neg (fun e => hz ((zcode_zero r).1 e))]
        rw [this]
        exact ih _ _ _
      | err => rfl
      | panic => rfl
      | hang => rfl
    · rfl

theorem ritdOuter_sim (tr : U8) : ∀ (k : Nat) (nl : U64) (roots : List RootInfo) (deleted : List U64),
    ritdOuter tr k nl roots deleted = rtdOuterR 1 tr k nl (roots.map zcode) deleted := by
  intro k
  induction k with
  | zero => intro nl roots deleted; rfl
  | succ k ih =>
    intro nl roots deleted
    unfold ritdOuter rtdOuterR
    rw [ritdInner_sim]
    cases ritdInner tr nl 65 0#8 roots deleted with
    | ok p =>
      simp only [zcodes, Out.bind, bind]
      rw [ih]
      simp [zcode]
    | err => rfl
    | panic => rfl
    | hang => rfl

/-- a list equality, in order; `TdOK` (`rootInfoToDestroy_spec`) is its set form -/
theorem rootInfoToDestroy_exact (S : List (Option Nat)) (K : Nat) (hK : K < 65536)
    (hn : S.length + K ≤ 2 ^ 62) :
    ∃ L, Model.rootInfoToDestroy (H8 63) (GoInt.conv 64 (BitVec.ofNat 16 K))
        (BitVec.ofNat 64 S.length) (rootsOf S) =
          .ok (L.map fun h => E 63 (h, 2 * (S.length / 2 ^ (h + 1)))) ∧ DestroySpec S K L := by
  have hK' : (GoInt.conv 64 (BitVec.ofNat 16 K)).toNat = K := by
    unfold GoInt.conv
    rw [BitVec.toNat_setWidth, BitVec.toNat_ofNat]
    omega
  have hzp : ((rootsOf S).map zcode).map (fun r => decide (r = (zero : Nat))) =
      (treeRows S.length).map fun h => !chunkAlive S h (2 * (S.length / 2 ^ (h + 1))) := by
    rw [rootsOf, List.map_map, List.map_map]
    apply List.map_congr_left
    intro h _
    cases hc : chunkAlive S h (2 * (S.length / 2 ^ (h + 1))) <;>
      simp [zcode, rootAt, hc, Hasher.zero]
  unfold rootInfoToDestroy
  cases hz : (rootsOf S).any (·.isZombie) with
  | true =>
    simp only [if_true]
    rw [hK', ritdOuter_sim]
    obtain ⟨L, h1, h2, h3⟩ := rtdOuterR_exact (R := 63) (by decide) 1 (by decide) K S.length _ _ []
      (by omega) hzp
    refine ⟨L, by simpa [E] using h1, h2, fun h => ?_⟩
    rw [h3 h, Bool.not_eq_true']
  | false =>
    simp only [Bool.false_eq_true, if_false]
    refine ⟨[], rfl, trivial, fun h => ⟨fun hm => (nomatch hm), fun hd => ?_⟩⟩
    by_cases hK0 : K = 0
    · subst hK0; exact absurd hd (not_destroyed_zero S h)
    · exact absurd hd (no_zombie_no_destroyed S (by omega) hz K h)

theorem rootInfoToDestroy_spec (S : List (Option Nat)) (K : Nat) (hK : K < 65536)
    (hn : S.length + K ≤ 2 ^ 62) :
    ∃ td, Model.rootInfoToDestroy (H8 63) (GoInt.conv 64 (BitVec.ofNat 16 K))
        (BitVec.ofNat 64 S.length) (rootsOf S) = .ok td ∧ SchedSem.TdOK S K td := by
  obtain ⟨L, hrun, hL⟩ := rootInfoToDestroy_exact S K hK hn
  refine ⟨_, hrun, ?_, fun x => ?_⟩
  · have h62 : ∀ c ∈ L, c ≤ 62 := fun c hc =>
      Nat.le_of_lt_succ (testBit_lt_of_lt (show S.length < 2 ^ 63 by omega) ((hL.mem c).mp hc).1)
    unfold List.Nodup
    rw [List.pairwise_map]
    refine (AscFrom.pairwise hL.asc).imp_of_mem (fun {a b} ha hb hlt e => ?_)
    have := (rootE_inj (n := S.length) (n' := S.length) (by omega) (by omega) (h62 a ha) (h62 b hb) e).1
    omega
  · rw [List.mem_map]
    constructor
    · rintro ⟨h, hh, rfl⟩; exact ⟨h, (hL.mem h).mp hh, rfl⟩
    · rintro ⟨h, hd, rfl⟩; exact ⟨h, (hL.mem h).mpr hd, rfl⟩

end sim

/-- the hypotheses of both theorems hold for `S = [none, none, some 2]`, `K = 1` -/
example : (1 : Nat) < 65536 ∧ ([none, none, some 2] : List (Option Nat)).length + 1 ≤ 2 ^ 62 := by decide

/-- `[none, none, some 2]`: a zombie root on row 1 and a live root on row 0 -/
example : rootsOf [none, none, some 2] =
    [{ pos := E 63 (1, 0), isZombie := true }, { pos := E 63 (0, 2), isZombie := false }] := by
  decide +kernel

/-- adding one leaf merges both roots into a tree on row 2 -/
example : Model.addRootInfo (H8 63) (rootsOf [none, none, some 2]) (BitVec.ofNat 16 1) (BitVec.ofNat 64 3) =
    .ok ([{ pos := E 63 (2, 0), isZombie := false }], 4#64) := by decide +kernel

example : rootsOf ([none, none, some 2] ++ SchedSem.fresh 3 1) = [{ pos := E 63 (2, 0), isZombie := false }] := by
  decide +kernel

/-- … and destroys the dead root on row 1 -/
example : Model.rootInfoToDestroy (H8 63) (GoInt.conv 64 (BitVec.ofNat 16 1)) (BitVec.ofNat 64 3)
    (rootsOf [none, none, some 2]) = .ok [E 63 (1, 0)] := by decide +kernel

example : DestroyedRow [none, none, some 2] 1 1 := by
  refine ⟨by decide, by decide +kernel, by decide⟩

/-- a longer run: five additions on a state with two zombie roots (rows 2 and 0) and a live
root (row 1); both zombies are destroyed, in the order row 0, row 2 -/
example : Model.rootInfoToDestroy (H8 63) (GoInt.conv 64 (BitVec.ofNat 16 5)) (BitVec.ofNat 64 7)
    (rootsOf [none, none, none, none, some 4, none, none]) = .ok [E 63 (0, 6), E 63 (2, 0)] := by
  decide +kernel

example : Model.addRootInfo (H8 63) (rootsOf [none, none, some 2]) (BitVec.ofNat 16 1)
      (BitVec.ofNat 64 ([none, none, some 2] : List (Option Nat)).length) =
    .ok (rootsOf ([none, none, some 2] ++ SchedSem.fresh 3 1), BitVec.ofNat 64 (3 + 1)) :=
  addRootInfo_spec [none, none, some 2] 1 (by decide) (by decide)

example : ∃ td, Model.rootInfoToDestroy (H8 63) (GoInt.conv 64 (BitVec.ofNat 16 1))
      (BitVec.ofNat 64 ([none, none, some 2] : List (Option Nat)).length) (rootsOf [none, none, some 2]) = .ok td ∧
    SchedSem.TdOK [none, none, some 2] 1 td :=
  rootInfoToDestroy_spec [none, none, some 2] 1 (by decide) (by decide)

end UtreexoVerif.Proofs.SchedRoots

#print axioms UtreexoVerif.Proofs.SchedRoots.addRootInfo_spec
#print axioms UtreexoVerif.Proofs.SchedRoots.rootInfoToDestroy_spec
