/-
  `proofUndoDel` is the inverse of the deletion movement (property C08).

  `F` = forest before the block, `D` the deleted leaves, `F' = F.delLeaves D`.  Fed the canonical
  proof in `F'` of leaves `K` that are live in `F'`, the block targets (positions of `D` in `F`),
  the deleted hashes and the canonical deletion proof, `proofUndoDel` returns the canonical proof
  of `K` in `F`.

  Three parts.  Geometry: the keys the loops meet are forward images of origins (`Img`), and one
  pass is an injective, decreasing map from the images under `ds ++ [T]` to those under `ds`
  (`passOK_img`, from `pass_step_order` of `Proofs/UndoPass.lean`); the whole walk returns the origin
  (`undoKeys_img`).  Specification: the node map of the deletion read from right to left
  (`undoDel_back`).  Assembly: `ProofUndoLoops.outer_lists` with these, then the common tail.
-/
import UtreexoVerif.Proofs.ProofUndoLoops
import UtreexoVerif.Proofs.ProofUpdateRemove
import UtreexoVerif.Proofs.ProofUndoDeTwin
import UtreexoVerif.Proofs.ProofUndoTail
import UtreexoVerif.Proofs.Labelled
import UtreexoVerif.Proofs.UndoPass

namespace UtreexoVerif.Proofs.ProofUndoDel
open Spec Hasher Model
open UtreexoVerif.Proofs.SpecNodes UtreexoVerif.Proofs.SpecSubs
open UtreexoVerif.Proofs.SpecPlan UtreexoVerif.Proofs.CalcComplete
open UtreexoVerif.Proofs.CalcGeo UtreexoVerif.Proofs.Movement
open UtreexoVerif.Proofs.Sorted UtreexoVerif.Proofs.MovePP UtreexoVerif.Proofs.ProofUpdateHelpers
open UtreexoVerif.Proofs.ProofUpdateLists UtreexoVerif.Proofs.ProofUpdateGnp
open UtreexoVerif.Proofs.MoveFold UtreexoVerif.Proofs.MoveDT UtreexoVerif.Proofs.ProofUpdateRemove
open UtreexoVerif.Proofs.ProofUndoLists UtreexoVerif.Proofs.ProofUndoLoops
open UtreexoVerif.Proofs.ProofUndoMove UtreexoVerif.Proofs.ProofUndoDeTwin
open UtreexoVerif.Proofs.ProofUpdateDeTwin UtreexoVerif.Proofs.ProofUndoTail
open UtreexoVerif.Proofs.PosMove

theorem udCond_eq (nl : U64) (rows : U8) :
    udCond nl rows = udTest rows (fun x => (DetectOffset x nl).1) := rfl

theorem step_of_origin {n : Nat} (hn : n ≤ 2 ^ 63) {ds : List Pos} {T p : Pos} {R : Nat}
    (hdt : DtList (ds ++ [T])) (o : Origin n (ds ++ [T]) p R) :
    udKey (BitVec.ofNat 64 n) (H8 (forestRows n)) (E (forestRows n) T)
        (Parent (E (forestRows n) T) (H8 (forestRows n)))
        (E (forestRows n) (moveA n R (ds ++ [T]) p)) = E (forestRows n) (moveA n R ds p) ∧
    (udCond (BitVec.ofNat 64 n) (H8 (forestRows n)) (E (forestRows n) T)
        (Parent (E (forestRows n) T) (H8 (forestRows n)))
        (E (forestRows n) (moveA n R (ds ++ [T]) p)) = true →
      E (forestRows n) (moveA n R ds p) < E (forestRows n) (moveA n R (ds ++ [T]) p) ∧
      E (forestRows n) (moveA n R (ds ++ [T]) p) ≤ Parent (E (forestRows n) T) (H8 (forestRows n)) ∧
      inTree n R T = true ∧ T.1 < R) :=
  pass_step_order (Nat.le_refl _) (forestRows_small hn) o.tree o.under
    (o.dtok T (by simp)) (fun T' hT' => o.dtok.lt o.tree T' (List.mem_append_left _ hT')) hdt.last
    (o.good T (by simp))
    (udTest_enc (Nat.le_refl _) (forestRows_small hn) (detOK_forest hn) o.tree o.image_under
      (o.dtok T (by simp)))

theorem key_inj_back {n : Nat} (hn : n ≤ 2 ^ 63) {ds : List Pos} {T p1 p2 : Pos} {R1 R2 : Nat}
    (o1 : Origin n (ds ++ [T]) p1 R1) (o2 : Origin n (ds ++ [T]) p2 R2)
    (e : E (forestRows n) (moveA n R1 ds p1) = E (forestRows n) (moveA n R2 ds p2)) :
    E (forestRows n) (moveA n R1 (ds ++ [T]) p1) = E (forestRows n) (moveA n R2 (ds ++ [T]) p2) := by
  have hrows := forestRows_small hn
  have u1 := o1.init.image_under
  have u2 := o2.init.image_under
  have e' := encP_inj hrows (under_valid o1.tree u1) (under_valid o2.tree u2) e
  have hRR : R1 = R2 := by
    rw [e'] at u1
    exact tree_unique o1.tree o2.tree u1 u2
  subst hRR
  rw [moveA_eq_delAll, moveA_eq_delAll] at e'
  rw [moveA_eq_delAll, moveA_eq_delAll, List.filter_append]
  unfold delAll at e' ⊢
  rw [List.foldl_append, List.foldl_append, e']

section outer

theorem mv_nil (n : Nat) (p : Pos) : mv n [] p = p := rfl

theorem under_parent {R O : Nat} {T : Pos} (hu : Under R O T) (hlt : T.1 < R) :
    Under R O (Spec.parent T) :=
  SpecNodes.under_iff_anc.2 (anc_parent_iff.2 ⟨SpecNodes.under_iff_anc.1 hu, hlt⟩)

/-- the keys that may occur while the deletions `cur` are still to be undone: forward images of
origins.  The first conjunct is about `cur` alone; it stands here so that a `PassOK`, which speaks of
key sets only, hands it from one pass to the next -/
def Img (n : Nat) (cur : List Pos) (k : U64) : Prop :=
  DtList cur ∧ ∃ p R, Origin n cur p R ∧ k = E (forestRows n) (moveA n R cur p)

theorem passOK_img {n : Nat} (hn : n ≤ 2 ^ 63) (ds : List Pos) (T : Pos) :
    PassOK
      (udKey (BitVec.ofNat 64 n) (H8 (forestRows n)) (E (forestRows n) T)
        (Parent (E (forestRows n) T) (H8 (forestRows n))))
      (udCond (BitVec.ofNat 64 n) (H8 (forestRows n)) (E (forestRows n) T)
        (Parent (E (forestRows n) T) (H8 (forestRows n))))
      (Parent (E (forestRows n) T) (H8 (forestRows n)))
      (Img n (ds ++ [T])) (Img n ds) := by
  have hrows := forestRows_small hn
  refine ⟨?_, ?_, ?_, ?_⟩
  · rintro k ⟨hdt, p, R, o, rfl⟩
    exact ⟨hdt.init, p, R, o.init, (step_of_origin hn hdt o).1⟩
  · rintro a b ⟨hdt, p1, R1, o1, rfl⟩ ⟨_, p2, R2, o2, rfl⟩ e
    rw [(step_of_origin hn hdt o1).1, (step_of_origin hn hdt o2).1] at e
    exact key_inj_back hn o1 o2 e
  · rintro k ⟨hdt, p, R, o, rfl⟩ hc
    obtain ⟨g1, g2, _⟩ := (step_of_origin hn hdt o).2 hc
    rw [(step_of_origin hn hdt o).1]
    exact ⟨g1, g2⟩
  · -- the inserted parent of `T` is an origin for the rest and is not moved by it
    rintro k ⟨hdt, p, R, o, rfl⟩ hc
    obtain ⟨_, _, hin, hTR⟩ := (step_of_origin hn hdt o).2 hc
    have huT := (inTree_iff _ _ _).1 hin
    have hTrows : T.1 < forestRows n :=
      Nat.lt_of_lt_of_le hTR (under_valid o.tree (Under.self _ _)).1
    refine ⟨hdt.init, Spec.parent T, R, ⟨o.tree, under_parent huT hTR, o.init.dtok, ?_⟩, ?_⟩
    · intro T' hT' _
      obtain ⟨g1, g2, g3⟩ := hdt.last T' hT'
      exact good_parent g1 g2 g3
    · rw [parent_E hrows (under_valid o.tree huT) hTrows, moveA_high]
      intro T' hT'
      have := (hdt.last T' hT').1
      simp only [Spec.parent]
      omega

theorem undoKeys_img {n : Nat} (hn : n ≤ 2 ^ 63) {dp : List Pos} {p : Pos} {R : Nat}
    (hdt : DtList dp) (o : Origin n dp p R) :
    undoKeys (BitVec.ofNat 64 n) (H8 (forestRows n)) (dp.map (E (forestRows n)))
      (E (forestRows n) (moveA n R dp p)) = E (forestRows n) p :=
  undo_origin (Nat.le_refl _) (forestRows_small hn) (detOK_forest hn) dp hdt o

end outer

section spec
variable {H : Type} [DecidableEq H] [Hasher H]

theorem good_of_lowgood {F : Forest H} {D : List H} {h : Nat} {p : Pos} {t : CTree H}
    (s : SubAtT F h p t) (hal : delT D t ≠ none) (hlg : LowGood D t) {T : Pos} (hT : IsDT F D T) :
    Good T p := by
  obtain ⟨hT0, tT, sT, hdead, _⟩ := hT
  constructor
  · -- `p` is not the parent of `T`
    intro e
    have hTu : Under p.1 p.2 T := by
      rw [e]
      refine ⟨by simp [Spec.parent], ?_⟩
      simp [Spec.parent]
    have huT := s.under.trans_under hTu
    have hh : hT0 = h := tree_of_under sT s.bit huT
    subst hh
    have hnr : isRootPos F.numLeaves T = false := by
      cases hr : isRootPos F.numLeaves T with
      | false => rfl
      | true =>
        have := (sT.root_iff).1 hr
        have := s.row_le
        rw [e] at this
        simp only [Spec.parent] at this
        omega
    obtain ⟨_, s2, spar, _⟩ := sT.parent hnr
    rw [← e] at spar
    have := (s.unique spar).2
    rw [this] at hlg
    split at hlg
    · exact hlg.1 hdead
    · exact hlg.2 hdead
  · -- `p` does not lie below `T`
    rintro ⟨h1, h2⟩
    have hpu : Under T.1 T.2 p := ⟨h1, h2⟩
    have huT := sT.under.trans_under hpu
    have hh : h = hT0 := tree_of_under s sT.bit huT
    subst hh
    obtain ⟨ta, sa, hl⟩ := anc_node s (T.1 - p.1) (by have := sT.row_le; omega)
    rw [show p.1 + (T.1 - p.1) = T.1 by omega, h2] at sa
    have e := (sa.unique sT).2
    subst e
    apply hal
    rw [delT_eq_none_iff] at hdead ⊢
    exact fun l hl' => hdead l (hl l hl')

theorem origin_of_node {F : Forest H} {D : List H} {dtp : List Pos}
    (hdt : ∀ T, T ∈ dtp ↔ IsDT F D T) {h : Nat} {p : Pos} {t : CTree H} (s : SubAtT F h p t)
    (hal : delT D t ≠ none) (hlg : LowGood D t) : Origin F.numLeaves dtp p h where
  tree := s.1
  under := s.under
  dtok := dtOK_of_isDT hdt s hal
  good := fun T hT _ => good_of_lowgood s hal hlg ((hdt T).1 hT)

theorem lowgood_untouched {D : List H} {t : CTree H} (h : ∀ l ∈ t.leaves, l ∉ D) : LowGood D t := by
  cases t with
  | leaf l => trivial
  | node a b =>
    refine ⟨?_, ?_⟩
    · rw [delT_noleaf D a (fun l hl => h l (by simp [CTree.leaves, hl]))]; simp
    · rw [delT_noleaf D b (fun l hl => h l (by simp [CTree.leaves, hl]))]; simp

end spec

section main
variable {H : Type} [DecidableEq H] [Hasher H]

/-- **the deletion's node map read from right to left**; `dtp`: the maximal deleted subtrees -/
theorem undoDel_back {F : Forest H} (hn : F.numLeaves ≤ 2 ^ 63) (hnd : F.liveLeaves.Nodup)
    {D K : List H} {tgD tgK tgK1 : List Pos} {hsD hsK hsK1 : List H}
    (hcD : F.canon D = some (tgD, hsD)) (hcK : F.canon K = some (tgK, hsK))
    (hcK1 : (F.delLeaves D).canon K = some (tgK1, hsK1)) (hKD : ∀ x ∈ K, x ∉ D)
    {dtp : List Pos} (hs : dtp.Pairwise Sorted.PLt) (hdt : ∀ T, T ∈ dtp ↔ IsDT F D T) :
    (∀ x ∈ K, ∃ R, Origin F.numLeaves dtp (posD F x) R ∧
      posD (F.delLeaves D) x = moveA F.numLeaves R dtp (posD F x)) ∧
    (∀ q' ∈ (F.delLeaves D).proofPositions tgK1, ∃ p R, Origin F.numLeaves dtp p R ∧
      q' = moveA F.numLeaves R dtp p) ∧
    (∀ q ∈ F.proofPositions tgK, q ∉ pathSet F tgD → ∃ R, Origin F.numLeaves dtp q R ∧
      moveA F.numLeaves R dtp q ∈ (F.delLeaves D).proofPositions tgK1 ∧
      (F.delLeaves D).nodeAt (moveA F.numLeaves R dtp q) = F.nodeAt q) := by
  have tokK := canon_targetsOK hcK
  have tokK1 := canon_targetsOK hcK1
  refine ⟨?_, ?_, ?_⟩
  · intro x hx
    obtain ⟨h, s⟩ := posD_sub hcK hx
    have hxD := hKD x hx
    have hal : delT D (.leaf x) ≠ none := by simp [delT, hxD]
    refine ⟨h, origin_of_node hdt s hal trivial, ?_⟩
    obtain ⟨p, hp⟩ := (canon_spec hcK).2.1 x hx
    have e : posD F x = p := by unfold posD; rw [hp]; rfl
    rw [moveA_eq_movePos hs hdt s hal, e]
    unfold posD
    rw [move_posOf (by omega) hnd hp hxD]
    rfl
  · intro q' hq'
    obtain ⟨h, s', sq'⟩ := pp_node tokK1 hq'
    obtain ⟨p, t, s, hdel, hqe, _⟩ := move_surj sq'
    obtain ⟨p', t', g1, g2, g3, g4⟩ := lowest_preimage t p s' s hdel
    have hal' : delT D t' ≠ none := by rw [g2]; simp
    exact ⟨p', h, origin_of_node hdt g1 hal' g4, by rw [moveA_eq_movePos hs hdt g1 hal', g3, ← hqe]⟩
  · intro q hq hpath
    obtain ⟨h, t, s⟩ := pp_node tokK hq
    have hno : ∀ l ∈ t.leaves, l ∉ D := fun l hl hL => hpath (leaf_on_path hcD hnd s hl hL)
    have hal : delT D t ≠ none := by rw [delT_noleaf D t hno]; simp
    refine ⟨h, origin_of_node hdt s hal (lowgood_untouched hno), ?_, ?_⟩
    · rw [moveA_eq_movePos hs hdt s hal]
      exact (proofPositions_del hnd hcK hcK1 hKD _).2 ⟨q, hq, ⟨h, t, s, hal⟩, rfl⟩
    · rw [moveA_eq_movePos hs hdt s hal, move_nodeAt s hal, dhash_noleaf D hno, s.nodeAt]

/-- **`proofUndoDel` is the inverse of the deletion step.**  `F`: the forest before the block;
`D` (duplicate-free) the leaves it deletes, with canonical proof `(tgD, hsD)`; the cached proof is
the canonical proof in `F.delLeaves D` of `K` with ascending targets (as `proofUndoAdd` leaves it).
The result is the canonical proof in `F` of `K'`, a permutation of `K` in the order of the positions
in `F`.  `hnz`, `hlive`: prove.go uses the all-zero hash as the mark "deleted" in `calculateHashes`,
whose run on the block's proof supplies the hashes of the deleted subtrees (`calc_honest`). -/
theorem proofUndoDel_canonical {F : Forest H} (hn : F.numLeaves ≤ 2 ^ 63)
    (hnz : ∀ a b : H, ph a b ≠ (zero : H)) (hlive : ∀ l ∈ F.liveLeaves, l ≠ (zero : H))
    (hnd : F.liveLeaves.Nodup) {D K : List H} {tgD tgK1 : List Pos} {hsD hsK1 : List H}
    (hD : D.Nodup) (hcD : F.canon D = some (tgD, hsD))
    (hcK1 : (F.delLeaves D).canon K = some (tgK1, hsK1)) (hsorted1 : tgK1.Pairwise Sorted.PLt) :
    ∃ K' tg hs, K'.Perm K ∧ F.canon K' = some (tg, hs) ∧ tg.Pairwise Sorted.PLt ∧
      proofUndoDel ⟨tgK1.map (E F.rows), hsK1⟩ (tgD.map (E F.rows)) D K (tgD.map (E F.rows)) hsD
          (BitVec.ofNat 64 F.numLeaves) = .ok (⟨tg.map (E F.rows), hs⟩, K') := by
  have hn1 : (F.delLeaves D).numLeaves = F.numLeaves := numLeaves_delLeaves F D
  have hn1' : (F.delLeaves D).numLeaves ≤ 2 ^ 63 := by rw [hn1]; exact hn
  have hR1 : (F.delLeaves D).rows = F.rows := by unfold Forest.rows; rw [hn1]
  have hrows := forestRows_small hn
  have hRF : F.rows = forestRows F.numLeaves := rfl
  have hK : K.Nodup := canon_nodup_of_sorted hcK1 hsorted1
  by_cases hDe : D = []
  · subst hDe
    have hc0 := canon_spec hcD
    have htg : tgD = [] := by rw [hc0.1]; rfl
    subst htg
    rw [delLeaves_nil] at hcK1
    refine ⟨K, tgK1, hsK1, List.Perm.refl _, hcK1, hsorted1, ?_⟩
    unfold proofUndoDel
    simp
    rfl
  have hliveD : ∀ x ∈ D, x ∈ F.liveLeaves := by
    intro x hx
    obtain ⟨p, hp⟩ := (canon_spec hcD).2.1 x hx
    exact Spec.live_of_posOf hp
  have hKlive : ∀ x ∈ K, x ∈ F.liveLeaves ∧ x ∉ D := by
    intro x hx
    obtain ⟨p, hp⟩ := (canon_spec hcK1).2.1 x hx
    exact LiveLeaves.mem_liveLeaves_delLeaves.1 (Spec.live_of_posOf hp)
  obtain ⟨tgK, hsK, hcK⟩ := CanonTotal.canon_total hn (fun l hl => (hKlive l hl).1)
  have hKD : ∀ x ∈ K, x ∉ D := fun x hx => (hKlive x hx).2
  obtain ⟨dtp, hdt1, hdt0, hdts, hdt, hnosib⟩ := deTwin_spec' hn hnd hD hliveD
  have hDtList : DtList dtp :=
    ⟨hdts.imp (fun {a b} hab => by rcases hab with h1 | h1 <;> omega),
     hdts.imp (fun {a b} hab => PLt.ne hab), hnosib⟩
  obtain ⟨hleafB, hppB, hoffB⟩ := undoDel_back hn hnd hcD hcK hcK1 hKD hdts hdt
  have e1 := toHashAndPos_cached hcK1
  rw [hR1] at e1
  have e3 := oldProofs_eq hn1' hcK1
  rw [hR1] at e3
  have e4 := toHashAndPos_cached hcD
  have hdpos : HP.positions ((sortedPairs F D).map (enc2 F.rows)) =
      (Forest.sortDedup (leafPositions F D)).map (E F.rows) := by
    rw [← hdt0, positions_enc2, List.map_map]
    unfold sortedPairs
    have := SortBy.map_sortBy (fun z : Pos × H => E F.rows z.1) (D.map (fun x => (posD F x, x)))
    rw [show (E F.rows ∘ fun x : Pos × H => x.1) = (fun z : Pos × H => E F.rows z.1) from rfl,
      this, List.map_map, List.map_map]
    rfl
  have hbtpos : HP.positions (deTwinHashAndPos ((sortedPairs F D).map (enc2 F.rows)) (H8 F.rows)) =
      dtp.map (E F.rows) := by
    rw [deTwinHashAndPos_positions hn hliveD _ hdpos, hdpos, ← hdt0]
    exact hdt1
  -- the loops, at list level: the keys are images of origins
  have htw0s : ((sortedPairs (F.delLeaves D) K).map (enc2 F.rows)).Pairwise (fun a b => a.1 < b.1) := by
    have := sortedPairs_keys hn1' hcK1 hK
    rw [hR1] at this
    rw [List.pairwise_map]
    exact this
  have hpw0s := ppPairs_keys hn1' (canon_targetsOK hcK1)
  rw [hR1] at hpw0s
  obtain ⟨tw', pw', np', hloop, htw's, htw'p, hpw's, _, hpw'm, hnp'⟩ :=
    outer_lists (BitVec.ofNat 64 F.numLeaves) (H8 F.rows) (E F.rows) (Img F.numLeaves)
      (passOK_img hn) dtp (deTwinHashAndPos ((sortedPairs F D).map (enc2 F.rows)) (H8 F.rows)) _ _ []
      hbtpos htw0s
      (fun x hx => by
        obtain ⟨z, hz, rfl⟩ := List.mem_map.1 hx
        obtain ⟨hzK, hz1, _⟩ := sortedPairs_mem hcK1 hz
        obtain ⟨R, o, e⟩ := hleafB z.2 hzK
        exact ⟨hDtList, _, R, o, by simp only [enc2]; rw [hz1, e]; rfl⟩)
      hpw0s
      (fun x hx => by
        obtain ⟨z, hz, rfl⟩ := List.mem_map.1 hx
        obtain ⟨q', hq', rfl⟩ := List.mem_map.1 hz
        obtain ⟨p, R, o, e⟩ := hppB q' hq'
        exact ⟨hDtList, p, R, o, by simp only [enc2]; rw [e]; rfl⟩)
      List.Pairwise.nil
  have hU : ∀ {p : Pos} {R : Nat}, Origin F.numLeaves dtp p R →
      undoKeys (BitVec.ofNat 64 F.numLeaves) (H8 F.rows) (dtp.map (E F.rows))
        (E F.rows (moveA F.numLeaves R dtp p)) = E F.rows p :=
    fun o => undoKeys_img hn hDtList o
  obtain ⟨r, hcalc, hnodes⟩ : ∃ r, calculateHashes (BitVec.ofNat 64 F.numLeaves) (some D)
      (tgD.map (E F.rows)) hsD = .ok r ∧
      r.nodes = (pathSet F tgD).map (fun p => (E F.rows p, trueAt F p)) :=
    ⟨_, by have := calc_honest hn hnz hlive hD hcD []; rwa [List.append_nil] at this, rfl⟩
  have tokD := canon_targetsOK hcD
  have tokK := canon_targetsOK hcK
  have htwfinal : tw' = (sortedPairs F K).map (enc2 F.rows) := by
    rw [← SortBy.sortHP_eq_self_of_strict htw's]
    apply sortHP_eq_sortedPairs hn hcK hK
    refine htw'p.trans ((((sortedPairs_perm _ _).map (enc2 F.rows)).map _).trans
      (List.Perm.of_eq ?_))
    rw [List.map_map, List.map_map]
    apply List.map_congr_left
    intro y hy
    obtain ⟨R, o, e⟩ := hleafB y hy
    simp only [Function.comp, enc2]
    rw [e, hU o]
  have hvD : ∀ p ∈ pathSet F tgD, ValidH F.rows p := fun p hp => by
    obtain ⟨h1, t1, s1⟩ := pathSet_sub tokD hp
    exact s1.inF.valid
  have hbsorted : r.nodes.Pairwise (fun a b => a.1 < b.1) := by
    rw [hnodes]
    exact Labelled.strict_labelled hrows (trueAt F) _
      ((pathSet_sorted F tgD).imp (fun h => PLt_iff.2 h)) hvD
  -- the pile holds the hash of the node at every needed position: from the block proof on the
  -- deletion paths, carried back by the loops elsewhere
  have hlook : ∀ q ∈ F.proofPositions tgK,
      lookupHP (mergeHP (udReplace (mergeHP pw' np') r.nodes []) r.nodes) (E F.rows q) =
        some ((F.nodeAt q).getD zero) := by
    intro q hq
    rw [lookup_final _ _ _ (pairwise_le_of_lt hpw's) hnp' (pairwise_le_of_lt hbsorted)]
    obtain ⟨h, t, s⟩ := pp_node tokK hq
    by_cases hpath : q ∈ pathSet F tgD
    · have hsome : lookupHP r.nodes (E F.rows q) = some (trueAt F q) := by
        rw [hnodes]
        exact Labelled.lookup_labelled hrows (trueAt F) _ hvD q hpath
      rw [hsome]
      rfl
    · have hnone : lookupHP r.nodes (E F.rows q) = none := by
        rw [hnodes]
        exact Labelled.lookup_labelled_none hrows (trueAt F) _ hvD q s.inF.valid hpath
      rw [hnone]
      obtain ⟨R, o, hmem, hhash⟩ := hoffB q hq hpath
      have := hpw'm _ (List.mem_map.2 ⟨_, List.mem_map.2 ⟨_, hmem, rfl⟩, rfl⟩)
      simp only [enc2] at this
      rw [hU o, hhash] at this
      rw [lookupHP_of_mem hpw's this]
      rfl
  obtain ⟨hsKs, hcKs, htail⟩ := undoTail_canon hn hcK hK
    (final_sorted _ _ _ (pairwise_le_of_lt hpw's) hnp' (pairwise_le_of_lt hbsorted)) hlook
  refine ⟨_, _, hsKs, sortedPairs_snd_perm _ _, hcKs, sortedPairs_sorted hn hcK hK, ?_⟩
  have hne : (tgD.map (E F.rows)).isEmpty = false := by
    cases hD' : D with
    | nil => exact absurd hD' hDe
    | cons x t =>
      have := canon_targets_length hcD
      rw [hD'] at this
      cases tgD with
      | nil => simp at this
      | cons a b => rfl
  have e2 := proofPos_sortedPairs hn1' hcK1 hK
  rw [hn1, hR1] at e2
  rw [proofUndoDel_eq _ _ _ _ _ _ _ hne, treeRows_ofNat hn, ← hRF]
  simp only [e1, ok_bind', e2, e3, e4, hloop, hcalc]
  rw [htwfinal]
  exact congrArg Out.ok htail

end main

end UtreexoVerif.Proofs.ProofUndoDel
