/-
  Pointer forest, heap model: opening the represented forest at one tree and closing it again.

  Every abstraction relation quantifies the lists of owned nodes and of leaves existentially and
  uses only `Nodup` and membership of them, and the tree-level lemmas return footprints up to
  `Perm`; so the forest is opened and closed up to `Perm` (`ReprRoots.openAt`), with counting
  lemmas for what `Nodup` and the `NodeMap` clause need afterwards.  `trees_delLeaves_set`: the
  trees before and after leaves of ONE tree die differ at that tree's index.  `SubAtT.locate`:
  from a node of the specification forest to its tree and the child path leading to it.
-/
import UtreexoVerif.Proofs.PollardHeapDelAbs
import UtreexoVerif.Proofs.PollardHeapDelPos
import UtreexoVerif.Proofs.PollardCalcPos

namespace UtreexoVerif.Proofs.PollardHeap
open UtreexoVerif.Spec
open UtreexoVerif.Model.PollardAbs UtreexoVerif.Proofs.SpecSubs
open UtreexoVerif.Proofs.PollardLookup UtreexoVerif.Proofs.SpecView

variable {H : Type} [DecidableEq H] [Hasher H]

theorem ReprRoots.openAt {hp : Heap H} {rs : List Nat} {ts : List (Option (CTree H))}
    {owned : List Nat} {lv : List (H × Nat)} (h : ReprRoots hp rs ts owned lv) {k : Nat}
    {t : Option (CTree H)} (hk : ts[k]? = some t) :
    ∃ (root : Nat) (fp O : List Nat) (lk L : List (H × Nat)),
      rs[k]? = some root ∧ ReprRoot hp root t fp lk ∧
      owned.Perm (root :: fp ++ O) ∧ lv.Perm (lk ++ L) ∧
      ∀ (hp' : Heap H) (root' : Nat) (t' : Option (CTree H)) (fp' : List Nat) (lk' : List (H × Nat)),
        ReprRoot hp' root' t' fp' lk' → (∀ i ∈ O, hp'[i]? = hp[i]?) →
        ∃ owned' lv', ReprRoots hp' (rs.set k root') (ts.set k t') owned' lv' ∧
          owned'.Perm (root' :: fp' ++ O) ∧ lv'.Perm (lk' ++ L) := by
  obtain ⟨rs1, root, rs2, ts1, ts2, o1, fp, o2, l1, lk, l2, ers, ets, eo, elv, hl1, hl2, hr1, hrr, hr2⟩ :=
    h.split k t hk
  refine ⟨root, fp, o1 ++ o2, lk, l1 ++ l2, ?_, hrr, ?_, ?_, ?_⟩
  · rw [ers, ← hl1]; simp
  · rw [eo]; perm_count
  · rw [elv]; perm_count
  · intro hp' root' t' fp' lk' hr' hfr
    refine ⟨o1 ++ (root' :: fp' ++ o2), l1 ++ (lk' ++ l2), ?_, by perm_count, by perm_count⟩
    have e1 : rs.set k root' = rs1 ++ root' :: rs2 := by
      rw [ers, ← hl1]; simp
    have e2 : ts.set k t' = ts1 ++ t' :: ts2 := by
      rw [ets, ← hl2]; simp
    rw [e1, e2]
    exact ReprRoots.append (hr1.frame (fun i hi => hfr i (List.mem_append_left _ hi)))
      (ReprRoots.cons hr' (hr2.frame (fun i hi => hfr i (List.mem_append_right _ hi))))

/-- `l₁` is accounted for by `l₂`, counted: what is said of a new footprint against the old one -/
def SubM (l₁ l₂ : List Nat) : Prop := ∀ z, l₁.count z ≤ l₂.count z

theorem SubM.of_perm {l₁ l₂ : List Nat} (p : l₁.Perm l₂) : SubM l₁ l₂ := fun z => Nat.le_of_eq (p.count_eq z)

theorem SubM.of_sublist {l₁ l₂ : List Nat} (h : l₁.Sublist l₂) : SubM l₁ l₂ := fun z => h.count_le z

theorem SubM.trans {l₁ l₂ l₃ : List Nat} (a : SubM l₁ l₂) (b : SubM l₂ l₃) : SubM l₁ l₃ :=
  fun z => Nat.le_trans (a z) (b z)

theorem SubM.of_nodup {l₁ l₂ : List Nat} (nd : l₁.Nodup) (h : ∀ i ∈ l₁, i ∈ l₂) : SubM l₁ l₂ := fun z => by
  by_cases hz : z ∈ l₁
  · rw [nd.count, if_pos hz]; exact List.count_pos_iff.2 (h z hz)
  · rw [List.count_eq_zero_of_not_mem hz]; exact Nat.zero_le _

theorem nodup_reopen {owned owned' X X' O P P' : List Nat} (pO : owned.Perm (X ++ O))
    (pO' : owned'.Perm (X' ++ O)) (hs : SubM (X' ++ P') (X ++ P))
    (h : (owned ++ P).Nodup) : (owned' ++ P').Nodup := by
  rw [List.nodup_iff_count] at h ⊢
  intro z
  have := h z; have := pO.count_eq z; have := pO'.count_eq z; have := hs z
  simp only [List.count_append] at *
  omega

theorem nodup_apart {X O P Y : List Nat} (h : ((X ++ O) ++ (P ++ Y)).Nodup) :
    (X ++ Y).Nodup ∧ ∀ i, i ∈ O ∨ i ∈ P → i ∉ X ++ Y := by
  rw [List.nodup_iff_count] at h
  constructor
  · rw [List.nodup_iff_count]
    intro z
    have := h z
    simp only [List.count_append] at this ⊢
    omega
  · intro i hi hm
    have c := h i
    have c1 : 0 < List.count i (X ++ Y) := List.count_pos_iff.2 hm
    have c2 : 0 < List.count i O + List.count i P := by
      rcases hi with h | h
      · have := List.count_pos_iff.2 h; omega
      · have := List.count_pos_iff.2 h; omega
    simp only [List.count_append] at c c1
    omega

theorem perm_apart {α : Type} [DecidableEq α] (X L P Y : List α) :
    ((X ++ L) ++ (P ++ Y)).Perm ((X ++ Y) ++ (L ++ P)) := by perm_count

theorem set_getElem?_self {α : Type} {l : List α} {k : Nat} {a : α} (h : l[k]? = some a) :
    l.set k a = l := by
  apply List.ext_getElem?
  intro i
  rw [List.getElem?_set]
  split
  · next e => rw [← e, h]; simp [(List.getElem?_eq_some_iff.1 h).1]
  · rfl

theorem trees_delLeaves_set {G : Forest H} (hn : G.numLeaves < 2 ^ 64) (hGnd : G.liveLeaves.Nodup)
    {R : Nat} (hR : R ∈ treeRows G.numLeaves) {t0 : CTree H} (ht0 : PollardLookup.treeOf G R = some t0)
    (L : List H) (hL : ∀ x ∈ L, x ∈ t0.leaves) :
    (G.trees.map (·.2))[(treeRows G.numLeaves).idxOf R]? = some (some t0) ∧
    (G.delLeaves L).trees.map (·.2) =
      (G.trees.map (·.2)).set ((treeRows G.numLeaves).idxOf R) (pruneO L (some t0)) ∧
    ((G.delLeaves L).trees.map (·.2))[(treeRows G.numLeaves).idxOf R]? = some (pruneO L (some t0)) ∧
    ((G.delLeaves L).trees.map (·.2)).set ((treeRows G.numLeaves).idxOf R) (some t0) =
      G.trees.map (·.2) := by
  have hidx := trees_getElem G hR
  rw [ht0] at hidx
  obtain ⟨ts, hts⟩ : ∃ ts, ts = G.trees.map (·.2) := ⟨_, rfl⟩
  obtain ⟨k, hk⟩ : ∃ k, k = (treeRows G.numLeaves).idxOf R := ⟨_, rfl⟩
  rw [← hk] at hidx
  have hk' : ts[k]? = some (some t0) := by rw [hts, List.getElem?_map, hidx]; rfl
  have hlt : k < ts.length := by
    rcases Nat.lt_or_ge k ts.length with h' | h'
    · exact h'
    · rw [List.getElem?_eq_none h'] at hk'; cases hk'
  have e : ts = ts.take k ++ some t0 :: ts.drop (k + 1) := by
    have h1 : ts.drop k = some t0 :: ts.drop (k + 1) := by
      rw [List.drop_eq_getElem_cons hlt]
      congr 1
      rw [List.getElem?_eq_getElem hlt] at hk'
      exact Option.some.inj hk'
    rw [← h1, List.take_append_drop]
  -- the other trees have none of the leaves of `t0`
  have hndl : ((ts.take k).flatMap optLeaves ++ (t0.leaves ++ (ts.drop (k + 1)).flatMap optLeaves)).Nodup := by
    have : ts.flatMap optLeaves = (ts.take k).flatMap optLeaves ++
        (t0.leaves ++ (ts.drop (k + 1)).flatMap optLeaves) := by
      conv => lhs; rw [e]
      simp [optLeaves]
    rw [← this, hts, List.flatMap_map, trees_leaves G hn]; exact hGnd
  simp only [List.nodup_append, List.mem_append] at hndl
  obtain ⟨_, ⟨_, _, n4⟩, n5⟩ := hndl
  have hdel : (G.delLeaves L).trees.map (·.2) = ts.set k (pruneO L (some t0)) := by
    rw [trees_delLeaves, List.map_map]
    have : ((fun p : Nat × Option (CTree H) => p.2) ∘
        fun p : Nat × Option (CTree H) => (p.1, pruneO L p.2)) =
        (pruneO L) ∘ (fun p : Nat × Option (CTree H) => p.2) := rfl
    rw [this, ← List.map_map, ← hts]
    conv => lhs; rw [e]
    conv => rhs; rw [e]
    rw [List.map_append, List.map_cons, map_pruneO_eq_self _ (ts.take k),
      map_pruneO_eq_self _ (ts.drop (k + 1))]
    · have : (ts.take k).length = k := by rw [List.length_take]; omega
      rw [← this]; simp
    · intro x hx hxL
      exact n4 x (hL x hxL) x hx rfl
    · intro x hx hxL
      exact n5 x hx x (Or.inl (hL x hxL)) rfl
  rw [← hts, ← hk, hdel]
  refine ⟨hk', rfl, ?_, ?_⟩
  · rw [List.getElem?_set_self hlt]
  · rw [List.set_set]
    exact set_getElem?_self hk'

theorem _root_.UtreexoVerif.Proofs.SpecSubs.SubAtT.locate {F : Forest H} {R r o : Nat} {a : CTree H} (hs : SubAtT F R (r, o) a)
    (hnr : isRootPos F.numLeaves (r, o) = false) (hn : F.numLeaves < 2 ^ 63) :
    ∃ (t0 : CTree H) (k : Nat), PollardLookup.treeOf F R = some t0 ∧ R ∈ treeRows F.numLeaves ∧
      R - r = k + 1 ∧ childPath t0 (pathBits (k + 1) o) = some a ∧ (∀ x ∈ a.leaves, x ∈ t0.leaves) ∧
      o / 2 ^ (R - r) = 2 * (F.numLeaves >>> (R + 1)) ∧
      r ≤ F.rows ∧ o < 2 ^ (F.rows - r) ∧ R ≤ F.rows ∧ F.rows ≤ 63 ∧
      (isRootPos F.numLeaves (r + 1, o / 2) = true ↔ k = 0) := by
  obtain ⟨t0, ht0, hd0, hm0⟩ := hs.tree
  obtain ⟨hrR, hroot_off⟩ := hs.under
  simp only at hrR hroot_off
  obtain ⟨hlt, s', hpar, _⟩ := hs.parent hnr
  simp only at hlt
  have hb := hs.bit
  have hw : childWalk t0 (R - r) o = some a := subs_walk t0 R _ hd0 ((r, o), a) hm0
  obtain ⟨k, hk⟩ : ∃ k, R - r = k + 1 := ⟨R - r - 1, (Nat.sub_add_cancel (Nat.sub_pos_of_lt hlt)).symm⟩
  rw [hk, PollardCalcPos.childWalk_eq_childPath] at hw
  obtain ⟨hrr, hoo⟩ : ValidH F.rows (r, o) := (SpecSubs.under_inF (p := (r, o)) hb ⟨hrR, hroot_off⟩).valid
  have hri := hpar.root_iff
  simp only [Spec.parent] at hri
  exact ⟨t0, k, ht0, hs.1, hk, hw, fun x hx => subs_leaves t0 R _ _ hm0 x hx, hroot_off, hrr, hoo,
    testBit_le_forestRows hb, forestRows_le_63 hn, hri.trans ⟨fun h => by omega, fun h => by omega⟩⟩

theorem _root_.UtreexoVerif.Proofs.SpecSubs.SubAtT.enc {F : Forest H} {R : Nat} {q : Pos} {a : CTree H}
    (hs : SubAtT F R q a) (hn : F.numLeaves < 2 ^ 63) {nl : U64} (hnl : nl.toNat = F.numLeaves) :
    ValidH F.rows q ∧ Model.TreeRows nl = H8 F.rows ∧
      Model.isRootPosition (encU F.rows q.1 q.2) nl = isRootPos F.numLeaves q := by
  have hv := hs.inF.valid
  have hT := treeRows_eq_H8 hnl hn
  exact ⟨hv, hT, by rw [Props.C16.isRootPosition_enc nl hT (forestRows_le_63 hn) hv.1 hv.2, hnl]⟩

theorem _root_.UtreexoVerif.Proofs.SpecSubs.SubAtT.at_root {F : Forest H} {R : Nat} {q : Pos} {a : CTree H}
    (hs : SubAtT F R q a) (hroot : isRootPos F.numLeaves q = true) :
    q = rootPos F.numLeaves R ∧ PollardLookup.treeOf F R = some a := by
  have hq1 := hs.root_iff.1 hroot
  obtain ⟨_, hoff⟩ := hs.under
  rw [hq1, Nat.sub_self, Nat.pow_zero, Nat.div_one] at hoff
  have hq : q = rootPos F.numLeaves R := by rw [show q = (q.1, q.2) from rfl, hq1, hoff]; rfl
  subst hq
  obtain ⟨t1, ht1, _, _⟩ := hs.tree
  exact ⟨rfl, ((SubAtT.root hs.1 ht1).unique hs).2 ▸ ht1⟩

end UtreexoVerif.Proofs.PollardHeap
