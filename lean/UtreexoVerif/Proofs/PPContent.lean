/-
  Canonical proof positions by content.  A canonical proof position for the leaves `K` is the
  position of a child `s` of a two-child node of `F` such that `s` holds no leaf of `K` and the other
  child does (`PPChild`, `mem_pp_iff`).  That is a statement about the collapsed trees; positions
  enter only through the labelling `SubAtT`, which is injective on subtrees when the live leaves are
  pairwise different (`SubAtT.pos_unique`).  A map between two forests that sends two-child nodes to
  two-child nodes (`NodeMap`) therefore transports canonical proof positions (`NodeMap.ppChild`);
  the deletion (`nodeMap_del`) and the additions (`AddPP.nodeMap_add`) are its two instances, and the
  two undo directions read them from right to left.
-/
import UtreexoVerif.Proofs.Movement

namespace UtreexoVerif.Proofs.PPContent
open Spec
open UtreexoVerif.Proofs.SpecSubs
open UtreexoVerif.Proofs.SpecPlan UtreexoVerif.Proofs.CalcComplete
open UtreexoVerif.Proofs.Movement UtreexoVerif.Proofs.CalcPlan

section
set_option linter.unusedSectionVars false
variable {H : Type} [DecidableEq H] [Hasher H]

theorem pathUp_contains {F : Forest H} {h fuel : Nat} {p : Pos} {t : CTree H} (s : SubAtT F h p t)
    (hf : h - p.1 ≤ fuel) : ∀ q ∈ Forest.pathUp F.numLeaves fuel p,
      ∃ tq, SubAtT F h q tq ∧ (p, t) ∈ subs tq q.1 q.2 := by
  intro q hq
  have hph := s.row_le
  obtain ⟨⟨hle, he⟩, hR⟩ := (mem_pathUp (h - p.1) p.1 p.2 fuel ⟨hph, s.bit, s.under.2⟩ (by omega) hf
    q).1 hq
  obtain ⟨tq, sq, hm⟩ := s.anc (d := q.1 - p.1) (by omega)
  rw [← he, show p.1 + (q.1 - p.1) = q.1 by omega] at sq hm
  exact ⟨tq, sq, hm⟩

section canon
variable {F : Forest H} {K : List H} {tg : List Pos} {hs : List H}
  (hc : F.canon K = some (tg, hs)) (hd : F.liveLeaves.Nodup)
include hc hd

theorem pathSet_iff_leaf (a : Pos) :
    a ∈ pathSet F tg ↔ ∃ h ta, SubAtT F h a ta ∧ ∃ l ∈ K, l ∈ ta.leaves := by
  constructor
  · intro ha
    obtain ⟨t, ht, hat⟩ := mem_pathSet.1 ha
    obtain ⟨e, _, _, _⟩ := canon_spec hc
    rw [e] at ht
    obtain ⟨l, hl, rfl⟩ := List.mem_map.1 ht
    obtain ⟨h, st⟩ := canon_target_leaf hc hl
    obtain ⟨ta, sa, hm⟩ := pathUp_contains st (by have := le_forestRows_of_mem st.1; unfold Forest.rows; omega)
      a hat
    exact ⟨h, ta, sa, l, hl, subs_leaves ta _ _ _ hm l (by simp [CTree.leaves])⟩
  · rintro ⟨h, ta, sa, l, hl, hlt⟩
    exact leaf_on_path hc hd sa hlt hl

end canon

theorem mem_proofPositions {F : Forest H} {tg : List Pos} {q : Pos} :
    q ∈ F.proofPositions tg ↔ ∃ c ∈ pathSet F tg, isRootPos F.numLeaves c = false ∧
      sib c ∉ pathSet F tg ∧ q = sib c := by
  rw [proofPositions_eq]
  simp only [List.mem_map, List.mem_filter, needsProof, Bool.and_eq_true, Bool.not_eq_true',
    decide_eq_false_iff_not]
  constructor
  · rintro ⟨c, ⟨h1, h2, h3⟩, rfl⟩; exact ⟨c, h1, h2, h3, rfl⟩
  · rintro ⟨c, h1, h2, h3, rfl⟩; exact ⟨c, ⟨h1, h2, h3⟩, rfl⟩

def HasK (K : List H) (t : CTree H) : Prop := ∃ l ∈ K, l ∈ t.leaves

def PPChild (F : Forest H) (K : List H) (s : CTree H) : Prop :=
  ∃ h p a b, SubAtT F h p (.node a b) ∧
    ((s = a ∧ HasK K b ∧ ¬ HasK K a) ∨ (s = b ∧ HasK K a ∧ ¬ HasK K b))

section bridge
variable {F : Forest H} {K : List H} {tg : List Pos} {hs : List H}
  (hc : F.canon K = some (tg, hs)) (hnd : F.liveLeaves.Nodup)
include hc hnd

/-- the one place where `pathUp`/`sib` meet the content of the trees -/
theorem mem_pp_iff (q : Pos) :
    q ∈ F.proofPositions tg ↔ ∃ h s, SubAtT F h q s ∧ PPChild F K s := by
  rw [mem_proofPositions]
  constructor
  · rintro ⟨c, hcP, hcr, hcs, rfl⟩
    obtain ⟨h, tc, sc, hk⟩ := (pathSet_iff_leaf hc hnd c).1 hcP
    obtain ⟨_, ts, hp, ss⟩ := sc.parent hcr
    have hns : ¬ HasK K ts := fun ⟨l, hl, hlt⟩ =>
      hcs ((pathSet_iff_leaf hc hnd _).2 ⟨h, ts, ss, l, hl, hlt⟩)
    refine ⟨h, ts, ss, h, parent c, ?_⟩
    by_cases hpar : c.2 % 2 = 0
    · rw [if_pos hpar] at hp
      exact ⟨tc, ts, hp, Or.inr ⟨rfl, hk, hns⟩⟩
    · rw [if_neg hpar] at hp
      exact ⟨ts, tc, hp, Or.inl ⟨rfl, hk, hns⟩⟩
  · rintro ⟨h, s, sq, h', p, a, b, sp, hcase⟩
    obtain ⟨h1, ca, cb⟩ := sp.children
    have hlt : p.1 - 1 < h' := by have := sp.row_le; omega
    have nr : ∀ {x : Pos} {t : CTree H}, SubAtT F h' x t → x.1 < h' → isRootPos F.numLeaves x = false := by
      intro x t sx hx
      cases hr : isRootPos F.numLeaves x with
      | false => rfl
      | true => have := (sx.root_iff).1 hr; omega
    rcases hcase with ⟨rfl, hkb, hna⟩ | ⟨rfl, hka, hnb⟩
    · -- `q` is the left child, the path goes through the right child
      have e := (sq.pos_unique hnd ca).2
      subst e
      obtain ⟨l, hl, hlt'⟩ := hkb
      refine ⟨(p.1 - 1, 2 * p.2 + 1), (pathSet_iff_leaf hc hnd _).2 ⟨h', b, cb, l, hl, hlt'⟩,
        nr cb hlt, ?_, (Spec.sib_right_child _ _).symm⟩
      rw [Spec.sib_right_child]
      intro hP
      obtain ⟨h2, t2, s2, hk2⟩ := (pathSet_iff_leaf hc hnd _).1 hP
      obtain ⟨_, e⟩ := s2.unique ca
      subst e
      exact hna hk2
    · have e := (sq.pos_unique hnd cb).2
      subst e
      obtain ⟨l, hl, hlt'⟩ := hka
      refine ⟨(p.1 - 1, 2 * p.2), (pathSet_iff_leaf hc hnd _).2 ⟨h', a, ca, l, hl, hlt'⟩,
        nr ca hlt, ?_, (Spec.sib_left_child _ _).symm⟩
      rw [Spec.sib_left_child]
      intro hP
      obtain ⟨h2, t2, s2, hk2⟩ := (pathSet_iff_leaf hc hnd _).1 hP
      obtain ⟨_, e⟩ := s2.unique cb
      subst e
      exact hnb hk2

end bridge

/-- **a map of two-child nodes** from `F` to `F'`: `R t t'` says that the subtree `t` of `F` becomes
the subtree `t'` of `F'`, `ρ` says where it goes. -/
structure NodeMap (F F' : Forest H) (R : CTree H → CTree H → Prop) (ρ : Pos → Pos)
    (old : CTree H → Prop) : Prop where
  fwd : ∀ {h p t t'}, SubAtT F h p t → R t t' → ∃ h', SubAtT F' h' (ρ p) t'
  node : ∀ {a b a' b'}, R a a' → R b b' → R (.node a b) (.node a' b')
  back : ∀ {h' p' a' b'}, SubAtT F' h' p' (.node a' b') → old (.node a' b') →
    ∃ h p a b, SubAtT F h p (.node a b) ∧ R a a' ∧ R b b'

/-- **the general theorem**: canonical-proof children are transported by a node map that keeps the
requested leaves (`K` in `F`, `K'` in `F'`) below every node of `F` -/
theorem NodeMap.ppChild {F F' : Forest H} {R : CTree H → CTree H → Prop} {ρ : Pos → Pos}
    {old : CTree H → Prop} (m : NodeMap F F' R ρ old) {K K' : List H}
    (hK : ∀ {h p t t'}, SubAtT F h p t → R t t' → (HasK K' t' ↔ HasK K t)) :
    (∀ {s s'}, PPChild F K s → R s s' → (∀ x, HasK K x → ∃ x', R x x') → PPChild F' K' s') ∧
    (∀ {s'}, (∃ h' p' a' b', SubAtT F' h' p' (.node a' b') ∧ old (.node a' b') ∧
        ((s' = a' ∧ HasK K' b' ∧ ¬ HasK K' a') ∨ (s' = b' ∧ HasK K' a' ∧ ¬ HasK K' b'))) →
      ∃ s, PPChild F K s ∧ R s s') := by
  constructor
  · rintro s s' ⟨h, p, a, b, sp, hcase⟩ hR htot
    obtain ⟨_, ca, cb⟩ := sp.children
    rcases hcase with ⟨rfl, hkb, hna⟩ | ⟨rfl, hka, hnb⟩
    · obtain ⟨b', hb'⟩ := htot b hkb
      obtain ⟨h', sp'⟩ := m.fwd sp (m.node hR hb')
      exact ⟨h', _, s', b', sp', Or.inl ⟨rfl, (hK cb hb').2 hkb, fun hk => hna ((hK ca hR).1 hk)⟩⟩
    · obtain ⟨a', ha'⟩ := htot a hka
      obtain ⟨h', sp'⟩ := m.fwd sp (m.node ha' hR)
      exact ⟨h', _, a', s', sp', Or.inr ⟨rfl, (hK ca ha').2 hka, fun hk => hnb ((hK cb hR).1 hk)⟩⟩
  · rintro s' ⟨h', p', a', b', sp', hold, hcase⟩
    obtain ⟨h, p, a, b, sp, ha, hb⟩ := m.back sp' hold
    obtain ⟨_, ca, cb⟩ := sp.children
    rcases hcase with ⟨rfl, hkb, hna⟩ | ⟨rfl, hka, hnb⟩
    · exact ⟨a, ⟨h, p, a, b, sp, Or.inl ⟨rfl, (hK cb hb).1 hkb, fun hk => hna ((hK ca ha).2 hk)⟩⟩, ha⟩
    · exact ⟨b, ⟨h, p, a, b, sp, Or.inr ⟨rfl, (hK ca ha).1 hka, fun hk => hnb ((hK cb hb).2 hk)⟩⟩, hb⟩

theorem delT_node {D : List H} {a b a' b' : CTree H} (ha : delT D a = some a')
    (hb : delT D b = some b') : delT D (.node a b) = some (.node a' b') := by
  simp only [delT, ha, hb, join]

theorem nodeMap_del (F : Forest H) (D : List H) :
    NodeMap F (F.delLeaves D) (fun t t' => delT D t = some t') (movePos F D) (fun _ => True) where
  fwd := fun s hR => ⟨_, move_sub s hR⟩
  node := delT_node
  back := by
    intro h' p' a' b' sp' _
    obtain ⟨p, t, s, hdel, _, _⟩ := move_surj sp'
    obtain ⟨p0, t0, s0, hdel0, _, hlg⟩ := lowest_preimage t p _ s hdel
    cases t0 with
    | leaf l =>
      simp only [delT] at hdel0
      split at hdel0 <;> cases hdel0
    | node a b =>
      obtain ⟨hla, hlb⟩ := hlg
      cases hda : delT D a with
      | none => exact absurd hda hla
      | some a'' =>
        cases hdb : delT D b with
        | none => exact absurd hdb hlb
        | some b'' =>
          rw [delT_node hda hdb] at hdel0
          injection hdel0 with e
          injection e with e1 e2
          subst e1 e2
          exact ⟨h', p0, a, b, s0, hda, hdb⟩

theorem hasK_del {D K : List H} (hKD : ∀ x ∈ K, x ∉ D) {t t' : CTree H} (h : delT D t = some t') :
    HasK K t' ↔ HasK K t := by
  constructor
  · rintro ⟨l, hl, hlt⟩; exact ⟨l, hl, ((delT_leaves_iff D t t' h l).1 hlt).1⟩
  · rintro ⟨l, hl, hlt⟩; exact ⟨l, hl, (delT_leaves_iff D t t' h l).2 ⟨hlt, hKD l hl⟩⟩


end
end UtreexoVerif.Proofs.PPContent
