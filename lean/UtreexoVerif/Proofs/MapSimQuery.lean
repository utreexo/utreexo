/-
  The model of mappollard.go respects `Equiv`: `Prove`, `Ingest`, `Verify`,
  `VerifyPartialProof`, `GetMissingPositions`, `Prune`, the look-ups; and the summaries `sim_call`, `trace_equiv`,
  `observe_equiv`.
  See `Proofs/MapSim.lean`.
-/
import UtreexoVerif.Proofs.MapSimUndo

namespace UtreexoVerif.Proofs.MapSim
open Model
open Proofs.SerialMapInv (Equiv)
set_option linter.unusedSectionVars false

variable {H : Type} [DecidableEq H] [Hasher H]

theorem equiv_getNode_fn {m m' : MapPollard H} (h : Equiv m m') : m.getNode = m'.getNode := funext h.node
theorem equiv_getCached_fn {m m' : MapPollard H} (h : Equiv m m') : m.getCached = m'.getCached := funext h.cache
theorem equiv_hasNode_fn {m m' : MapPollard H} (h : Equiv m m') : m.hasNode = m'.hasNode := funext h.hasNode

theorem equiv_prove {m m' : MapPollard H} (h : Equiv m m') (L : List H) : m.prove L = m'.prove L := by
  unfold MapPollard.prove
  simp only [equiv_allCached h, h.cache, h.node, h.numLeaves, h.totalRows]

theorem equiv_getHash {m m' : MapPollard H} (h : Equiv m m') (pos : U64) : m.getHash pos = m'.getHash pos := by
  unfold MapPollard.getHash
  simp only [h.totalRows, h.numLeaves, h.getNodeD]

theorem equiv_getLeafPosition {m m' : MapPollard H} (h : Equiv m m') (x : H) :
    m.getLeafPosition x = m'.getLeafPosition x := by
  unfold MapPollard.getLeafPosition
  simp only [h.totalRows, h.numLeaves, h.cache]

theorem equiv_roots {m m' : MapPollard H} (h : Equiv m m') : m.roots = m'.roots := by
  unfold MapPollard.roots; rw [equiv_getRoots h]

theorem equiv_getMissingPositions {m m' : MapPollard H} (h : Equiv m m') (ts : List U64) :
    m.getMissingPositions ts = m'.getMissingPositions ts := by
  unfold MapPollard.getMissingPositions
  simp only [h.totalRows, h.numLeaves, h.hasNode]

theorem sim_ingest_store (proofHashes : List H) : ∀ (ps : List U64) (i : Nat) {m m' : MapPollard H}, Equiv m m' →
    SimR (MapPollard.ingest.store proofHashes ps i m) (MapPollard.ingest.store proofHashes ps i m')
  | [], _, _, _, h => SimR.mk_ok h _
  | pos :: ps, i, m, m', h => by
    simp only [MapPollard.ingest.store, h.hasNode, h.full]
    apply SimR.ite
    · intro _; exact sim_ingest_store proofHashes ps _ h
    · intro _
      split
      · exact sim_ingest_store proofHashes ps _ (h.putNode _ _)
      · exact SimR.mk_err h _

theorem sim_ingest {m m' : MapPollard H} (h : Equiv m m') (delHashes : List H) (targets : List U64)
    (proofHashes : List H) :
    SimR (MapPollard.ingest delHashes targets proofHashes m) (MapPollard.ingest delHashes targets proofHashes m') := by
  unfold MapPollard.ingest
  cases toHashAndPos targets delHashes with
  | panic => exact SimR.mk_err h _
  | err => exact SimR.mk_err h _
  | hang => exact SimR.mk_err h _
  | ok hnp =>
    simp only [h.numLeaves, h.totalRows]
    sim_bind (sim_ingest_store proofHashes _ 0 h) with m2 m2' _u h2
    rw [h2.numLeaves, h2.totalRows]
    split
    · exact SimR.mk_err h2 _
    · exact SimR.mk_err h2 _
    · exact SimR.mk_err h2 _
    · exact SimR.mk_ok (sim_putCalculated _ _ h2) _

theorem sim_verifyM {m m' : MapPollard H} (h : Equiv m m') (delHashes : List H) (targets : List U64)
    (proofHashes : List H) (remember : Bool) :
    SimR (MapPollard.verifyM delHashes targets proofHashes remember m)
      (MapPollard.verifyM delHashes targets proofHashes remember m') := by
  unfold MapPollard.verifyM
  simp only [h.numLeaves, h.totalRows, equiv_getRoots h]
  split
  · exact SimR.mk_err h _
  · exact SimR.mk_err h _
  · exact SimR.mk_err h _
  · apply SimR.ite
    · intro _
      have hi := sim_ingest h delHashes
        (if TreeRows m'.numLeaves ≠ m'.totalRows then translatePositions targets m'.totalRows (TreeRows m'.numLeaves)
          else targets) proofHashes
      rcases hi.cases with ⟨m1, m1', e, e1, e2, hs⟩ | ⟨m1, m1', _, e1, e2, hs⟩
      · rw [e1, e2]
        cases e with
        | err => exact SimR.mk_ok hs _
        | panic => exact SimR.mk_err hs _
        | hang => exact SimR.mk_err hs _
      · rw [e1, e2]; exact SimR.mk_ok hs _
    · intro _; exact SimR.mk_ok h _

theorem equiv_merge {m m' : MapPollard H} (h : Equiv m m') : ∀ (ps : List U64) (supplied acc : List H),
    MapPollard.verifyPartialProof.merge m ps supplied acc = MapPollard.verifyPartialProof.merge m' ps supplied acc
  | [], _, _ => rfl
  | pos :: ps, supplied, acc => by
    simp only [MapPollard.verifyPartialProof.merge, h.getNodeD]
    split
    · split
      · exact equiv_merge h ps _ _
      · rfl
    · exact equiv_merge h ps _ _

theorem sim_verifyPartialProof {m m' : MapPollard H} (h : Equiv m m') (origTargets : List U64)
    (delHashes proofHashes : List H) (remember : Bool) :
    SimR (MapPollard.verifyPartialProof origTargets delHashes proofHashes remember m)
      (MapPollard.verifyPartialProof origTargets delHashes proofHashes remember m') := by
  unfold MapPollard.verifyPartialProof
  simp only [h.numLeaves, h.totalRows, equiv_merge h]
  split
  · exact SimR.mk_err h _
  · exact sim_verifyM h _ _ _ _

theorem sim_pruneOne {m m' : MapPollard H} (h : Equiv m m') (x : H) :
    SimR (MapPollard.pruneOne x m) (MapPollard.pruneOne x m') := by
  unfold MapPollard.pruneOne
  rw [h.cache]
  cases m'.getCached x with
  | none => exact SimR.mk_ok h _
  | some pos =>
    dsimp only
    have h1 := h.delCached x
    rw [h1.node]
    cases (m'.delCached x).getNode pos with
    | none => exact SimR.mk_err h1 _
    | some leaf =>
      dsimp only
      have h2 := h1.putNode pos ⟨leaf.hash, false⟩
      rw [h2.totalRows, h2.numLeaves]
      exact SimR.mk_ok (sim_pruneUp _ _ h2) _

theorem sim_prune_go : ∀ (hs : List H) {m m' : MapPollard H}, Equiv m m' →
    SimR (MapPollard.prune.go hs m) (MapPollard.prune.go hs m')
  | [], _, _, h => SimR.mk_ok h _
  | x :: hs, m, m', h => by
    simp only [MapPollard.prune.go]
    sim_bind (sim_pruneOne h x) with m1 m1' _u h1
    exact sim_prune_go hs h1

theorem sim_prune {m m' : MapPollard H} (h : Equiv m m') (hashes : List H) :
    SimR (MapPollard.prune hashes m) (MapPollard.prune hashes m') := by
  unfold MapPollard.prune
  rw [h.full]
  apply SimR.ite
  · intro _; exact SimR.mk_ok h _
  · intro _; exact sim_prune_go hashes h

/-- a call of the state-changing API of `MapPollard`, with ARBITRARY arguments (honest or not) -/
inductive Call (H : Type) where
  | modify (adds : List (Leaf H)) (delHashes : List H) (targets : List U64)
  | verify (delHashes : List H) (targets : List U64) (proofHashes : List H) (remember : Bool)
  | verifyPartial (targets : List U64) (delHashes proofHashes : List H) (remember : Bool)
  | ingest (delHashes : List H) (targets : List U64) (proofHashes : List H)
  | prune (hashes : List H)
  | undo (nonZero : H) (numAdds : U64) (targets : List U64) (proofHashes hashes origPrevRoots : List H)

def Call.run : Call H → MPM H Unit
  | .modify adds dels tgts => MapPollard.modify adds dels tgts
  | .verify dels tgts ps remember => MapPollard.verifyM dels tgts ps remember
  | .verifyPartial tgts dels ps remember => MapPollard.verifyPartialProof tgts dels ps remember
  | .ingest dels tgts ps => MapPollard.ingest dels tgts ps
  | .prune hs => MapPollard.prune hs
  | .undo nonZero numAdds tgts ps hs roots => MapPollard.undo nonZero numAdds tgts ps hs roots

theorem sim_call {m m' : MapPollard H} (h : Equiv m m') (c : Call H) : SimR (c.run m) (c.run m') := by
  cases c with
  | modify adds dels tgts => exact sim_modify h adds dels tgts
  | verify dels tgts ps remember => exact sim_verifyM h dels tgts ps remember
  | verifyPartial tgts dels ps remember => exact sim_verifyPartialProof h tgts dels ps remember
  | ingest dels tgts ps => exact sim_ingest h dels tgts ps
  | prune hs => exact sim_prune h hs
  | undo nonZero numAdds tgts ps hs roots => exact sim_undo h nonZero numAdds tgts ps hs roots

/-- everything the read-only API shows of a state -/
structure Obs (H : Type) where
  roots : List H
  numLeaves : U64
  totalRows : U8
  full : Bool
  getHash : U64 → H
  getLeafPosition : H → Option U64
  prove : List H → Except Fail (List U64 × List H)
  missing : List U64 → List U64

def observe (m : MapPollard H) : Obs H :=
  ⟨m.roots, m.numLeaves, m.totalRows, m.full, m.getHash, m.getLeafPosition, m.prove, m.getMissingPositions⟩

theorem observe_equiv {m m' : MapPollard H} (h : Equiv m m') : observe m = observe m' := by
  unfold observe
  rw [equiv_roots h, h.numLeaves, h.totalRows, h.full, funext (equiv_getHash h), funext (equiv_getLeafPosition h),
    funext (equiv_prove h), funext (equiv_getMissingPositions h)]

/-- a sequence of calls; after each call: its verdict and everything observable of the state it left
(a failed call does not stop the sequence: the next call runs on the state the failed one left) -/
def trace : List (Call H) → MapPollard H → List (Except Fail Unit × Obs H)
  | [], _ => []
  | c :: cs, m => ((c.run m).2, observe (c.run m).1) :: trace cs (c.run m).1

def runCalls : List (Call H) → MapPollard H → MapPollard H
  | [], m => m
  | c :: cs, m => runCalls cs (c.run m).1

theorem trace_equiv : ∀ (cs : List (Call H)) {m m' : MapPollard H}, Equiv m m' →
    trace cs m = trace cs m' ∧ Equiv (runCalls cs m) (runCalls cs m')
  | [], _, _, h => ⟨rfl, h⟩
  | c :: cs, m, m', h => by
    obtain ⟨h1, h2⟩ := sim_call h c
    obtain ⟨ih1, ih2⟩ := trace_equiv cs h2
    exact ⟨by simp only [trace, h1, observe_equiv h2, ih1], ih2⟩

end UtreexoVerif.Proofs.MapSim
