/-
  `remap` of the map-forest model (`Model/MapPollard.lean`) on the abstract state of
  `Proofs/MapRep.lean`: when `TotalRows` has to grow from `T` to `T+1`, every node is moved from
  its `T`-row encoding to its `(T+1)`-row encoding and the cache is translated, i.e.
  `Rep m T A C` becomes `Rep m' (T+1) A C`.
-/
import UtreexoVerif.Proofs.MapRep

namespace UtreexoVerif.Proofs.MapRemap
open Model MapRep
open Spec (Pos forestRows)
open MapAL (get?_map_val)
open MapInv (Valid)
set_option linter.unusedSectionVars false

variable {H : Type} [DecidableEq H] [Hasher H]

/-- the encodings of `T` rows lie below `2^(T+1) - 1` (`encP_toNat_lt`); those of `T + 1` rows above row 0 lie at or above `2^(T+1)`:
an entry that has moved cannot collide with one that has not -/
theorem encP_new_ge {T : Nat} (hT : T + 1 ≤ 63) {q : Pos} (hq : Valid T q) (h1 : 1 ≤ q.1) :
    2 ^ (T + 1) ≤ (encP (T + 1) q).toNat := by
  have hq' : Valid (T + 1) q := hq.mono (Nat.le_succ T)
  rw [encP_toNat hT hq']
  -- the last position of row 0 is `2 ^ (T + 1) - 1`, and the rows are laid out one after the other
  have := enc_row_lt (h := T + 1) (o := 2 ^ (T + 1) - 1) (o' := q.2) hq'.1
    (Nat.sub_lt (Nat.two_pow_pos _) Nat.one_pos) h1
  rw [SpecView.enc_zero_row] at this
  exact Nat.le_of_pred_lt this

theorem encP_new_ne_old {T : Nat} (hT : T + 1 ≤ 63) {q q' : Pos} (hq : Valid T q) (h1 : 1 ≤ q.1)
    (hq' : Valid T q') : encP (T + 1) q ≠ encP T q' := by
  intro e
  have a := encP_new_ge hT hq h1
  have b := encP_toNat_lt (Nat.le_of_succ_le hT) hq'
  rw [e] at a
  omega

theorem encP_row0 (T T' : Nat) {q : Pos} (h0 : q.1 = 0) : encP T q = encP T' q := by
  show encU T q.1 q.2 = encU T' q.1 q.2
  unfold encU
  rw [h0, enc_val, enc_val]
  simp

theorem encP_succ (T : Nat) (h k : Nat) : encP T (h, k) + 1#64 = encP T (h, k + 1) := by
  show encU T h k + 1#64 = encU T h (k + 1)
  unfold encU
  rw [enc_add T h k, enc_add T h (k + 1), ← Nat.add_assoc]
  exact (BitVec.ofNat_add _ _).symm

/-- where the entry of position `q` lives while `remap` is running: `M q` = already moved -/
def keyOf (T : Nat) (M : Pos → Bool) (q : Pos) : U64 := if M q then encP (T + 1) q else encP T q

/-- state of the node map in the middle of `remap`: the positions in `M` (all of rows `≥ 1`)
have been moved to their `(T+1)`-row encoding -/
structure Mid (m : MapPollard H) (T : Nat) (A : Pos → Option (Leaf H)) (M : Pos → Bool) : Prop where
  rows1 : ∀ q, M q = true → 1 ≤ q.1
  keys : ∀ p l, m.getNode p = some l → ∃ q, Valid T q ∧ p = keyOf T M q
  node : ∀ q, Valid T q → m.getNode (keyOf T M q) = A q

theorem keyOf_inj {T : Nat} (hT : T + 1 ≤ 63) {M : Pos → Bool} (hM : ∀ q, M q = true → 1 ≤ q.1)
    {q q' : Pos} (hq : Valid T q) (hq' : Valid T q') (e : keyOf T M q = keyOf T M q') : q = q' := by
  unfold keyOf at e
  by_cases a : M q = true <;> by_cases b : M q' = true
  · rw [if_pos a, if_pos b] at e
    exact encP_inj hT (hq.mono (Nat.le_succ T)) (hq'.mono (Nat.le_succ T)) e
  · rw [if_pos a, if_neg b] at e
    exact absurd e (encP_new_ne_old hT hq (hM q a) hq')
  · rw [if_neg a, if_pos b] at e
    exact absurd e.symm (encP_new_ne_old hT hq' (hM q' b) hq)
  · rw [if_neg a, if_neg b] at e
    exact encP_inj (Nat.le_of_succ_le hT) hq hq' e

theorem Mid.congrV {m : MapPollard H} {T : Nat} {A : Pos → Option (Leaf H)} {M M' : Pos → Bool}
    (mid : Mid m T A M) (h1 : ∀ q, M' q = true → 1 ≤ q.1) (h : ∀ q, Valid T q → M' q = M q) :
    Mid m T A M' := by
  have hk : ∀ q, Valid T q → keyOf T M' q = keyOf T M q := by
    intro q hq; unfold keyOf; rw [h q hq]
  refine ⟨h1, ?_, ?_⟩
  · intro p l hp
    obtain ⟨q, hq, e⟩ := mid.keys p l hp
    exact ⟨q, hq, by rw [hk q hq]; exact e⟩
  · intro q hq
    rw [hk q hq]; exact mid.node q hq

/-- the body of the inner loop -/
def moveOne (m : MapPollard H) (i j : U64) : MapPollard H :=
  match m.getNode i with
  | some leaf => (m.delNode i).putNode j leaf
  | none => m

theorem getNode_moveOne {m : MapPollard H} {i j : U64} (hj : m.getNode j = none) (p : U64) :
    (moveOne m i j).getNode p = if p = j then m.getNode i else if p = i then none else m.getNode p := by
  unfold moveOne
  cases h : m.getNode i with
  | some l => simp
  | none =>
    show m.getNode p = _
    split
    · rename_i e; rw [e, hj]
    · split
      · rename_i e; rw [e, h]
      · rfl

theorem Mid.step {m : MapPollard H} {T : Nat} {A : Pos → Option (Leaf H)} {M M' : Pos → Bool}
    (hT : T + 1 ≤ 63) (mid : Mid m T A M) {q : Pos} (hq : Valid T q) (h1 : 1 ≤ q.1) (hM : M q = false)
    (hq' : M' q = true) (hne : ∀ x, x ≠ q → M' x = M x) :
    Mid (moveOne m (encP T q) (encP (T + 1) q)) T A M' := by
  have hkq : keyOf T M q = encP T q := by unfold keyOf; rw [hM]; rfl
  have hkq' : keyOf T M' q = encP (T + 1) q := by unfold keyOf; rw [hq']; rfl
  have hk : ∀ x, x ≠ q → keyOf T M' x = keyOf T M x := by
    intro x hx; unfold keyOf; rw [hne x hx]
  have hM' : ∀ x, M' x = true → 1 ≤ x.1 := by
    intro x hx
    by_cases e : x = q
    · rw [e]; exact h1
    · rw [hne x e] at hx; exact mid.rows1 x hx
  -- no key in use is the new key of `q`
  have hnew : ∀ x, Valid T x → keyOf T M x ≠ encP (T + 1) q := by
    intro x hx e
    by_cases hxq : x = q
    · rw [hxq, hkq] at e
      exact encP_new_ne_old hT hq h1 hq e.symm
    · exact hxq (keyOf_inj hT hM' hx hq ((hk x hxq).trans (e.trans hkq'.symm)))
  have hfree : m.getNode (encP (T + 1) q) = none :=
    Option.eq_none_iff_forall_ne_some.2 fun l h =>
      have ⟨x, hx, e⟩ := mid.keys _ l h
      hnew x hx e.symm
  refine ⟨hM', ?_, ?_⟩
  · intro p l hp
    rw [getNode_moveOne hfree] at hp
    split at hp
    · rename_i e; exact ⟨q, hq, e.trans hkq'.symm⟩
    · split at hp
      · cases hp
      · rename_i hne2
        obtain ⟨x, hx, e⟩ := mid.keys p l hp
        refine ⟨x, hx, e.trans (hk x ?_).symm⟩
        rintro rfl
        exact hne2 (e.trans hkq)
  · intro x hx
    rw [getNode_moveOne hfree]
    by_cases hxq : x = q
    · rw [hxq, hkq', if_pos rfl, ← hkq]
      exact mid.node q hq
    · rw [hk x hxq, if_neg (hnew x hx),
        if_neg fun e => hxq (keyOf_inj hT mid.rows1 hx hq (e.trans hkq.symm))]
      exact mid.node x hx

/-- rows `1 .. h-1` and the first `k` offsets of row `h` have been moved -/
def rowM (h k : Nat) : Pos → Bool := fun q =>
  decide ((1 ≤ q.1 ∧ q.1 < h) ∨ (q.1 = h ∧ q.2 < k))

theorem rowM_succ {h k : Nat} {x : Pos} (hx : x ≠ (h, k)) : rowM h (k + 1) x = rowM h k x :=
  decide_eq_decide.2 (or_congr_right (and_congr_right fun e =>
    ⟨fun l => Nat.lt_of_le_of_ne (Nat.le_of_lt_succ l) fun c => hx (Prod.ext e c), Nat.lt_succ_of_lt⟩))

theorem rowM_row_end {T h : Nat} (h1 : 1 ≤ h) {q : Pos} (hq : Valid T q) :
    rowM (h + 1) 0 q = rowM h (2 ^ (T - h)) q := by
  refine decide_eq_decide.2 ⟨?_, ?_⟩
  · rintro (⟨a, b⟩ | ⟨_, c⟩)
    · rcases Nat.lt_succ_iff_lt_or_eq.1 b with b | b
      · exact Or.inl ⟨a, b⟩
      · exact Or.inr ⟨b, b ▸ hq.2⟩
    · exact absurd c (Nat.not_lt_zero _)
  · rintro (⟨a, b⟩ | ⟨e, _⟩)
    · exact Or.inl ⟨a, Nat.lt_succ_of_lt b⟩
    · exact Or.inl ⟨e ▸ h1, e ▸ Nat.lt_succ_self h⟩

theorem remapRow_succ (cnt : Nat) (i j : U64) (m : MapPollard H) :
    MapPollard.remapRow (cnt + 1) i j m = MapPollard.remapRow cnt (i + 1#64) (j + 1#64) (moveOne m i j) := rfl

theorem remapRow_frame (cnt : Nat) (i j : U64) (m : MapPollard H) :
    (MapPollard.remapRow cnt i j m).cached = m.cached ∧
    (MapPollard.remapRow cnt i j m).totalRows = m.totalRows ∧
    (MapPollard.remapRow cnt i j m).numLeaves = m.numLeaves ∧
    (MapPollard.remapRow cnt i j m).full = m.full := by
  induction cnt generalizing i j m with
  | zero => exact ⟨rfl, rfl, rfl, rfl⟩
  | succ cnt ih =>
    rw [remapRow_succ]
    obtain ⟨a, b, c, d⟩ := ih (i + 1#64) (j + 1#64) (moveOne m i j)
    have e : (moveOne m i j).cached = m.cached ∧ (moveOne m i j).totalRows = m.totalRows ∧
        (moveOne m i j).numLeaves = m.numLeaves ∧ (moveOne m i j).full = m.full := by
      unfold moveOne
      cases m.getNode i <;> exact ⟨rfl, rfl, rfl, rfl⟩
    exact ⟨a.trans e.1, b.trans e.2.1, c.trans e.2.2.1, d.trans e.2.2.2⟩

theorem remapRow_mid {T : Nat} {A : Pos → Option (Leaf H)} (hT : T + 1 ≤ 63) {h : Nat} (h1 : 1 ≤ h) (hh : h ≤ T)
    (cnt : Nat) : ∀ (k e : Nat) (m : MapPollard H), k + cnt = e → e ≤ 2 ^ (T - h) → Mid m T A (rowM h k) →
      Mid (MapPollard.remapRow cnt (encP T (h, k)) (encP (T + 1) (h, k)) m) T A (rowM h e) := by
  induction cnt with
  | zero => intro k e m he _ mid; exact he ▸ mid
  | succ cnt ih =>
    intro k e m he hk mid
    rw [remapRow_succ, encP_succ, encP_succ]
    have hke : k < e := Nat.lt_of_lt_of_eq (Nat.lt_add_of_pos_right (Nat.succ_pos cnt)) he
    exact ih (k + 1) e _ ((Nat.add_right_comm k 1 cnt).trans he) hk (mid.step (q := (h, k)) hT
      ⟨hh, Nat.lt_of_lt_of_le hke hk⟩ h1
      (decide_eq_false fun c => c.elim (fun a => Nat.lt_irrefl _ a.2) (fun a => Nat.lt_irrefl _ a.2))
      (decide_eq_true (Or.inr ⟨rfl, Nat.lt_succ_self k⟩)) fun x hx => rowM_succ hx)

theorem cnt_eq {T h d : Nat} (hT : T ≤ 63) (hh : h ≤ T) (hd : d < 2 ^ (T - h)) :
    (if encU T h 0 ≤ encU T h d then (encU T h d - encU T h 0).toNat + 1 else 0) = d + 1 := by
  have c := enc_add T h d
  have hle : encU T h 0 ≤ encU T h d := by
    rw [BitVec.le_def, toNat_encU hT hh hd, toNat_encU hT hh (Nat.two_pow_pos (T - h)), c]
    exact Nat.le_add_right _ _
  have hd64 : d < 2 ^ 64 :=
    Nat.lt_of_le_of_lt (c ▸ Nat.le_add_left d _) (enc_lt_64 hT hh hd)
  have e : encU T h d = BitVec.ofNat 64 d + encU T h 0 := by
    unfold encU
    rw [c, Nat.add_comm, BitVec.ofNat_add]
  rw [if_pos hle, e, BitVec.add_sub_cancel, toNat_ofNat64_of_lt hd64]

/-- `numLeaves = 2^T`: the allocation grows only from one full tree (`n_eq_pow`) -/
theorem remapRows_step {T h : Nat} (hT : T + 1 ≤ 63) (hh : h ≤ T) (k : Nat) (m : MapPollard H)
    (hrows : m.totalRows = H8 T) (hn : m.numLeaves = BitVec.ofNat 64 (2 ^ T)) :
    MapPollard.remapRows (H8 (T + 1)) (k + 1) (H8 h) m =
      MapPollard.remapRows (H8 (T + 1)) k (H8 (h + 1))
        (MapPollard.remapRow (2 ^ (T - h)) (encP T (h, 0)) (encP (T + 1) (h, 0)) m) := by
  have hpow : 2 ^ T < 2 ^ 64 := two_pow_lt_of_lt (Nat.lt_of_lt_of_le (Nat.lt_of_succ_le hT) (by decide))
  have hnat : (BitVec.ofNat 64 (2 ^ T)).toNat = 2 ^ T := toNat_ofNat64_of_lt hpow
  have hmax := Props.C16.maxPositionAtRow_enc' (h := T) (row := h) (Nat.le_of_succ_le hT) hh (BitVec.ofNat 64 (2 ^ T))
    (by rw [hnat]; exact two_pow_lt_of_lt (Nat.lt_succ_self T))
    (by rw [hnat]; exact two_pow_le_of_le hh)
  rw [hnat, Nat.pow_div hh (by decide)] at hmax
  have hpos := Nat.two_pow_pos (T - h)
  show (let startPos := startPositionAtRow (H8 h) m.totalRows
        match maxPositionAtRow (H8 h) m.totalRows m.numLeaves with
        | (maxPos, err) =>
          if err then (m, Except.error Fail.err)
          else
            let j := startPositionAtRow (H8 h) (H8 (T + 1))
            let cnt := if startPos ≤ maxPos then (maxPos - startPos).toNat + 1 else 0
            MapPollard.remapRows (H8 (T + 1)) k (H8 h + 1) (MapPollard.remapRow cnt startPos j m)) = _
  rw [hrows, hn, hmax]
  simp only [Bool.false_eq_true, if_false]
  rw [Props.C16.startPositionAtRow_enc (Nat.le_of_succ_le hT) hh,
    Props.C16.startPositionAtRow_enc hT (Nat.le_succ_of_le hh),
    cnt_eq (Nat.le_of_succ_le hT) hh (Nat.sub_lt hpos Nat.one_pos), ofNat_add_one,
    Nat.sub_add_cancel hpos]
  rfl

theorem rowM_rows1 (h k : Nat) (h1 : 1 ≤ h) : ∀ q, rowM h k q = true → 1 ≤ q.1 := by
  intro q hq
  have := of_decide_eq_true hq
  omega

theorem remapRows_mid {T : Nat} {A : Pos → Option (Leaf H)} (hT : T + 1 ≤ 63) (k : Nat) :
    ∀ (h : Nat) (m : MapPollard H), 1 ≤ h → h + k = T + 1 → m.totalRows = H8 T →
      m.numLeaves = BitVec.ofNat 64 (2 ^ T) → Mid m T A (rowM h 0) →
      ∃ m', MapPollard.remapRows (H8 (T + 1)) k (H8 h) m = (m', .ok ()) ∧ Mid m' T A (rowM (T + 1) 0) ∧
        m'.cached = m.cached ∧ m'.totalRows = m.totalRows ∧ m'.numLeaves = m.numLeaves ∧ m'.full = m.full := by
  induction k with
  | zero =>
    intro h m _ hk _ _ mid
    have : h = T + 1 := hk
    subst this
    exact ⟨m, rfl, mid, rfl, rfl, rfl, rfl⟩
  | succ k ih =>
    intro h m h1 hk hrows hn mid
    have hh : h ≤ T :=
      Nat.le_of_lt_succ (Nat.lt_of_lt_of_eq (Nat.lt_add_of_pos_right (Nat.succ_pos k)) hk)
    rw [remapRows_step hT hh k m hrows hn]
    obtain ⟨f1, f2, f3, f4⟩ := remapRow_frame (2 ^ (T - h)) (encP T (h, 0)) (encP (T + 1) (h, 0)) m
    have mid1 := remapRow_mid hT h1 hh (2 ^ (T - h)) 0 _ m (Nat.zero_add _) (Nat.le_refl _) mid
    have mid2 : Mid (MapPollard.remapRow (2 ^ (T - h)) (encP T (h, 0)) (encP (T + 1) (h, 0)) m) T A
        (rowM (h + 1) 0) :=
      mid1.congrV (rowM_rows1 _ _ (Nat.le_succ_of_le h1)) fun q hq => rowM_row_end h1 hq
    obtain ⟨m', e, mid', g1, g2, g3, g4⟩ := ih (h + 1) _ (Nat.le_succ_of_le h1) ((Nat.add_right_comm h 1 k).trans hk) (f2.trans hrows) (f3.trans hn) mid2
    exact ⟨m', e, mid', g1.trans f1, g2.trans f2, g3.trans f3, g4.trans f4⟩

theorem numLeaves_succ {m : MapPollard H} {n : Nat} (hn : m.numLeaves = BitVec.ofNat 64 n) :
    m.numLeaves + 1 = BitVec.ofNat 64 (n + 1) := by
  rw [hn]; exact (BitVec.ofNat_add _ _).symm

theorem remap_eq (m : MapPollard H) :
    MapPollard.remap m =
      if TreeRows (m.numLeaves + 1) ≤ m.totalRows then (m, .ok m.totalRows)
      else
        match MapPollard.remapRows (TreeRows (m.numLeaves + 1)) (MapPollard.rowIters 1#8 m.totalRows) 1#8 m with
        | (m', .error e) => (m', .error e)
        | (m', .ok ()) =>
          ({ m' with cached := m'.cached.map (fun (k, v) => (k, translatePos v m'.totalRows (TreeRows (m.numLeaves + 1)))),
                     totalRows := TreeRows (m.numLeaves + 1) }, .ok (TreeRows (m.numLeaves + 1))) := rfl

theorem remap_noop {m : MapPollard H} {T n : Nat} (hrows : m.totalRows = H8 T) (hT : T ≤ 63)
    (hn : m.numLeaves = BitVec.ofNat 64 n) (hn63 : n + 1 < 2 ^ 63) (hfit : forestRows (n + 1) ≤ T) :
    MapPollard.remap m = (m, .ok (H8 T)) := by
  rw [remap_eq, numLeaves_succ hn, SpecView.treeRows_eq hn63, hrows]
  have : H8 (forestRows (n + 1)) ≤ H8 T := by
    rw [BitVec.le_def, toNat_H8 hT, toNat_H8 (Nat.le_trans hfit hT)]; exact hfit
  rw [if_pos this]

/-- the allocation has to grow only when the forest is a single full tree -/
theorem n_eq_pow {T n : Nat} (hfitOld : forestRows n ≤ T) (hgrow : T < forestRows (n + 1)) :
    n = 2 ^ T ∧ forestRows (n + 1) = T + 1 := by
  have a : n ≤ 2 ^ T := Nat.le_trans (forestRows_spec_le n) (two_pow_le_of_le hfitOld)
  have b : ¬ n + 1 ≤ 2 ^ T := fun h =>
    Nat.lt_irrefl _ (Nat.lt_of_lt_of_le hgrow (forestRows_le h))
  have c : n + 1 ≤ 2 ^ (T + 1) := by
    have := Nat.two_pow_pos T
    rw [two_pow_succ']
    omega
  exact ⟨by omega, Nat.le_antisymm (forestRows_le c) hgrow⟩

theorem Mid.init {m : MapPollard H} {T : Nat} {A : Pos → Option (Leaf H)} {C : H → Option Pos}
    (rep : Rep m T A C) : Mid m T A (rowM 1 0) := by
  have hM : ∀ q, rowM 1 0 q = false := fun q => decide_eq_false (by omega)
  have hk : ∀ q, keyOf T (rowM 1 0) q = encP T q := by
    intro q; unfold keyOf; rw [hM]; rfl
  refine ⟨fun q h => (by rw [hM] at h; cases h), ?_, ?_⟩
  · intro p l hp
    obtain ⟨q, hq, e⟩ := rep.keys p l hp
    exact ⟨q, hq, by rw [hk]; exact e⟩
  · intro q hq; rw [hk]; exact rep.node q hq

theorem keyOf_final {T : Nat} {q : Pos} (hq : Valid T q) : keyOf T (rowM (T + 1) 0) q = encP (T + 1) q := by
  unfold keyOf
  split
  · rfl
  · rename_i h
    have := hq.1
    exact encP_row0 T (T + 1) (Decidable.byContradiction fun h0 => h (decide_eq_true (by omega)))

/-- growth, without the (redundant) bound on the stored nodes -/
theorem remap_grow' {m : MapPollard H} {T n : Nat} {A : Pos → Option (Leaf H)} {C : H → Option Pos}
    (rep : Rep m T A C) (hn : m.numLeaves = BitVec.ofNat 64 n) (hn63 : n + 1 < 2 ^ 63)
    (hfitOld : forestRows n ≤ T) (hgrow : T < forestRows (n + 1)) :
    ∃ m', MapPollard.remap m = (m', .ok (H8 (T + 1))) ∧ Rep m' (T + 1) A C ∧
      m'.numLeaves = m.numLeaves ∧ m'.full = m.full := by
  obtain ⟨en, efr⟩ := n_eq_pow hfitOld hgrow
  have hT : T + 1 ≤ 63 := by rw [← efr]; exact SpecView.forestRows_le_63 hn63
  have hnot : ¬ H8 (T + 1) ≤ H8 T := by
    rw [BitVec.le_def, toNat_H8 hT, toNat_H8 rep.T_le]
    exact Nat.not_succ_le_self T
  have hit : MapPollard.rowIters 1#8 (H8 T) = T := by
    unfold MapPollard.rowIters
    rw [toNat_H8 rep.T_le]; rfl
  obtain ⟨m1, e1, mid, f1, f2, f3, f4⟩ :=
    remapRows_mid (A := A) hT T 1 m (Nat.le_refl 1) (Nat.add_comm 1 T) rep.rows (by rw [hn, en]) (Mid.init rep)
  rw [remap_eq, numLeaves_succ hn, SpecView.treeRows_eq hn63, efr, rep.rows, if_neg hnot, hit,
    show (1#8 : U8) = H8 1 from rfl, e1]
  refine ⟨_, rfl, ?_, f3, f4⟩
  have hrows1 : m1.totalRows = H8 T := f2.trans rep.rows
  refine { T_le := hT, rows := rfl, keys := ?_, node := ?_, dom := ?_, cache := ?_, cdom := ?_ }
  · intro p l hp
    have hp' : m1.getNode p = some l := hp
    obtain ⟨q, hq, e⟩ := mid.keys p l hp'
    exact ⟨q, hq.mono (Nat.le_succ T), by rw [e, keyOf_final hq]⟩
  · intro q hq
    show m1.getNode (encP (T + 1) q) = A q
    by_cases hv : Valid T q
    · rw [← keyOf_final hv]; exact mid.node q hv
    · rw [Option.eq_none_iff_forall_ne_some.2 fun l h => hv (rep.dom q l h)]
      refine Option.eq_none_iff_forall_ne_some.2 fun l h => ?_
      obtain ⟨q', hq', e⟩ := mid.keys _ l h
      rw [keyOf_final hq'] at e
      exact hv (encP_inj hT hq (hq'.mono (Nat.le_succ T)) e ▸ hq')
  · intro q l h; exact (rep.dom q l h).mono (Nat.le_succ T)
  · intro x
    show AL.get? (m1.cached.map (fun (e : H × U64) => (e.1, translatePos e.2 m1.totalRows (H8 (T + 1))))) x = _
    rw [get?_map_val (fun v => translatePos v m1.totalRows (H8 (T + 1))), f1, hrows1]
    have hc : AL.get? m.cached x = (C x).map (encP T) := rep.cache x
    rw [hc]
    cases h : C x with
    | none => rfl
    | some t =>
      have ht := rep.cdom x t h
      have ht' : Valid (T + 1) t := ht.mono (Nat.le_succ T)
      exact congrArg some (EncPos.translatePos_encP rep.T_le ht hT ht')
  · intro x t h; exact (rep.cdom x t h).mono (Nat.le_succ T)

set_option linter.unusedVariables false in
/-- `hbound` is not used: `remap_grow'` -/
theorem remap_grow {m : MapPollard H} {T n : Nat} {A : Pos → Option (Leaf H)} {C : H → Option Pos}
    (rep : Rep m T A C) (hn : m.numLeaves = BitVec.ofNat 64 n) (hn63 : n + 1 < 2 ^ 63)
    (hfitOld : forestRows n ≤ T) (hgrow : T < forestRows (n + 1))
    -- every stored node lies inside the forest of `n` leaves
    (hbound : ∀ q l, A q = some l → (q.2 + 1) * 2 ^ q.1 ≤ n) :
    ∃ m', MapPollard.remap m = (m', .ok (H8 (T + 1))) ∧ Rep m' (T + 1) A C ∧
      m'.numLeaves = m.numLeaves ∧ m'.full = m.full :=
  remap_grow' rep hn hn63 hfitOld hgrow

section Example

local instance instHasherNat : Hasher Nat := ⟨fun a b => a + b + 1, 0⟩

/-- 4 leaves, allocated for exactly 2 rows (positions 0..3 | 4 5 | 6); two cached leaves, one of
them (hash 11) sitting on row 1 (as happens after a deletion) -/
def mEx : MapPollard Nat :=
  { nodes := [(0#64, ⟨10, true⟩), (1#64, ⟨20, false⟩), (2#64, ⟨30, false⟩), (3#64, ⟨40, false⟩),
              (4#64, ⟨31, false⟩), (5#64, ⟨11, true⟩), (6#64, ⟨43, false⟩)],
    cached := [(10, 0#64), (11, 5#64)], numLeaves := 4#64, totalRows := 2#8, full := false }

/-- the concrete run: rows 1 and 2 move to `8 9 | 12`, the cached position `5` becomes `9` -/
example : (match (MapPollard.remap mEx).2 with | .ok r => r == 3#8 | .error _ => false) = true ∧
    (MapPollard.remap mEx).1.nodes =
      [(12#64, ⟨43, false⟩), (9#64, ⟨11, true⟩), (8#64, ⟨31, false⟩), (0#64, ⟨10, true⟩),
       (1#64, ⟨20, false⟩), (2#64, ⟨30, false⟩), (3#64, ⟨40, false⟩)] ∧
    (MapPollard.remap mEx).1.cached = [(10, 0#64), (11, 9#64)] ∧
    (MapPollard.remap mEx).1.totalRows = 3#8 := by decide +kernel

theorem mEx_rep : Rep mEx 2 (absA mEx 2) (absC mEx 2) :=
  rep_abs_of_decode (by decide) rfl (by decide) (by decide)

example : ∃ m', MapPollard.remap mEx = (m', .ok (H8 3)) ∧ Rep m' 3 (absA mEx 2) (absC mEx 2) ∧
    m'.numLeaves = mEx.numLeaves ∧ m'.full = mEx.full := by
  refine remap_grow (n := 4) mEx_rep rfl (by decide) (forestRows_le (by decide)) ?_ ?_
  · show 2 < forestRows 5
    have : ¬ forestRows 5 ≤ 2 := by
      intro h
      have a := forestRows_spec_le 5
      have b : 2 ^ forestRows 5 ≤ 2 ^ 2 := two_pow_le_of_le h
      omega
    omega
  · intro q l h
    have hq := mEx_rep.dom q l h
    exact Nat.le_trans (Nat.mul_le_mul_right _ hq.2) (Nat.le_of_eq (Nat.pow_sub_mul_pow 2 hq.1))

example : MapPollard.remap { mEx with numLeaves := 3#64 } = ({ mEx with numLeaves := 3#64 }, .ok (H8 2)) :=
  remap_noop (n := 3) rfl (by decide) rfl (by decide) (forestRows_le (by decide))

end Example

end UtreexoVerif.Proofs.MapRemap

section Axioms
open UtreexoVerif.Proofs.MapRemap
#print axioms remap_noop
#print axioms remap_grow
#print axioms remap_grow'
end Axioms
