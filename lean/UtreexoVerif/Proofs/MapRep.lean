/-
  The state of `Model.MapPollard` seen as two functions on (row, offset) positions, `A` (the
  `Nodes` map) and `C` (the `CachedLeaves` map).  `Rep m T A C`: `m` is allocated for `T` rows,
  every key of `Nodes` encodes a valid position, `Nodes[enc q] = A q`, `CachedLeaves[x] = enc (C x)`.
-/
import UtreexoVerif.Proofs.MapPruneA
import UtreexoVerif.Proofs.MapInvCheck
import UtreexoVerif.Proofs.LiftGeo

namespace UtreexoVerif.Proofs.MapRep
open Model MapInv MapPrune
open Spec (Pos parent)
open MapAL (hasNode_eq hasCached_eq getNode_putNode getNode_delNode getCached_putCached getCached_delCached)
set_option linter.unusedSectionVars false

variable {H : Type} [DecidableEq H] [Hasher H]

instance (T : Nat) (q : Pos) : Decidable (Valid T q) := by unfold Valid; infer_instance

def upd {α β : Type} [DecidableEq α] (f : α → Option β) (a : α) (v : Option β) : α → Option β :=
  fun x => if x = a then v else f x

@[simp] theorem upd_self {α β : Type} [DecidableEq α] (f : α → Option β) (a : α) (v : Option β) :
    upd f a v a = v := by simp [upd]

theorem upd_ne {α β : Type} [DecidableEq α] (f : α → Option β) {a x : α} (v : Option β) (h : x ≠ a) :
    upd f a v x = f x := by simp [upd, h]

theorem upd_apply {α β : Type} [DecidableEq α] (f : α → Option β) (a x : α) (v : Option β) :
    upd f a v x = if x = a then v else f x := rfl

/-- `A`, `C` are undefined outside the positions of `T` rows (`dom`, `cdom`), so `(A, C)` is determined by the state
(`rep_abs`) -/
structure Rep (m : MapPollard H) (T : Nat) (A : Pos → Option (Leaf H)) (C : H → Option Pos) : Prop where
  T_le : T ≤ 63
  rows : m.totalRows = H8 T
  keys : ∀ p l, m.getNode p = some l → ∃ q, Valid T q ∧ p = encP T q
  node : ∀ q, Valid T q → m.getNode (encP T q) = A q
  dom : ∀ q l, A q = some l → Valid T q
  cache : ∀ x, m.getCached x = (C x).map (encP T)
  cdom : ∀ x t, C x = some t → Valid T t

namespace Rep
variable {m : MapPollard H} {T : Nat} {A : Pos → Option (Leaf H)} {C : H → Option Pos}

theorem hasNode (rep : Rep m T A C) {q : Pos} (hq : Valid T q) : m.hasNode (encP T q) = (A q).isSome := by
  rw [hasNode_eq, rep.node q hq]

theorem hasCached (rep : Rep m T A C) (x : H) : m.hasCached x = (C x).isSome := by
  rw [hasCached_eq, rep.cache x]; cases C x <;> rfl

theorem getNodeD (rep : Rep m T A C) {q : Pos} (hq : Valid T q) :
    m.getNodeD (encP T q) = (A q).getD ⟨Hasher.zero, false⟩ := by
  unfold MapPollard.getNodeD; rw [rep.node q hq]

/-- a state that differs from `m` at the one key `encP T q` of `Nodes` represents `upd A q v`
(`putNode`, `delNode` are the two instances) -/
theorem setNode (rep : Rep m T A C) {q : Pos} (hq : Valid T q) (v : Option (Leaf H)) {m' : MapPollard H}
    (hT : m'.totalRows = m.totalRows) (hc : ∀ x, m'.getCached x = m.getCached x)
    (hn : ∀ p, m'.getNode p = if p = encP T q then v else m.getNode p) : Rep m' T (upd A q v) C where
  T_le := rep.T_le
  rows := hT.trans rep.rows
  keys := by
    intro p l h
    rw [hn] at h
    split at h
    · rename_i hp; exact ⟨q, hq, hp⟩
    · exact rep.keys p l h
  node := by
    intro q' hq'
    rw [hn, upd_apply]
    by_cases h : q' = q
    · rw [h, if_pos rfl, if_pos rfl]
    · rw [if_neg (fun e => h (encP_inj rep.T_le hq' hq e)), if_neg h]; exact rep.node q' hq'
  dom := by
    intro q' l h
    rw [upd_apply] at h
    split at h
    · rename_i e; rw [e]; exact hq
    · exact rep.dom q' l h
  cache := fun x => (hc x).trans (rep.cache x)
  cdom := rep.cdom

theorem putNode (rep : Rep m T A C) {q : Pos} (hq : Valid T q) (l : Leaf H) :
    Rep (m.putNode (encP T q) l) T (upd A q (some l)) C :=
  rep.setNode hq (some l) rfl (fun _ => rfl) (fun p => getNode_putNode m _ p l)

theorem delNode (rep : Rep m T A C) {q : Pos} (hq : Valid T q) :
    Rep (m.delNode (encP T q)) T (upd A q none) C :=
  rep.setNode hq none rfl (fun _ => rfl) (fun p => getNode_delNode m _ p)

/-- a state that differs from `m` at the one key `x` of `CachedLeaves` represents `upd C x t`
(`putCached`, `delCached` are the two instances) -/
theorem setCached (rep : Rep m T A C) (x : H) (t : Option Pos) (ht : ∀ t', t = some t' → Valid T t')
    {m' : MapPollard H} (hT : m'.totalRows = m.totalRows) (hn : ∀ p, m'.getNode p = m.getNode p)
    (hc : ∀ y, m'.getCached y = if y = x then t.map (encP T) else m.getCached y) :
    Rep m' T A (upd C x t) where
  T_le := rep.T_le
  rows := hT.trans rep.rows
  keys := fun p l h => rep.keys p l (hn p ▸ h)
  node := fun q hq => (hn _).trans (rep.node q hq)
  dom := rep.dom
  cache := by
    intro y
    rw [hc, upd_apply]
    split
    · rfl
    · exact rep.cache y
  cdom := by
    intro y t' h
    rw [upd_apply] at h
    split at h
    · exact ht t' h
    · exact rep.cdom y t' h

theorem putCached (rep : Rep m T A C) (x : H) {t : Pos} (ht : Valid T t) :
    Rep (m.putCached x (encP T t)) T A (upd C x (some t)) :=
  rep.setCached x (some t) (fun _ e => Option.some.inj e ▸ ht) rfl (fun _ => rfl)
    (fun y => getCached_putCached m x y _)

theorem delCached (rep : Rep m T A C) (x : H) :
    Rep (m.delCached x) T A (upd C x none) :=
  rep.setCached x none (fun _ e => nomatch e) rfl (fun _ => rfl) (fun y => getCached_delCached m x y)

theorem congr (rep : Rep m T A C) {A' : Pos → Option (Leaf H)} {C' : H → Option Pos}
    (hA : ∀ q, A' q = A q) (hC : ∀ x, C' x = C x) : Rep m T A' C' := by
  have eA : A' = A := funext hA
  have eC : C' = C := funext hC
  rw [eA, eC]; exact rep

theorem of_same (rep : Rep m T A C) {m' : MapPollard H} (hT : m'.totalRows = m.totalRows)
    (hn : ∀ p, m'.getNode p = m.getNode p) (hc : ∀ x, m'.getCached x = m.getCached x) : Rep m' T A C where
  T_le := rep.T_le
  rows := hT.trans rep.rows
  keys := by intro p l h; rw [hn] at h; exact rep.keys p l h
  node := by intro q hq; rw [hn]; exact rep.node q hq
  dom := rep.dom
  cache := by intro x; rw [hc]; exact rep.cache x
  cdom := rep.cdom

end Rep

/-- the abstract state read off a model state -/
def absA (m : MapPollard H) (T : Nat) : Pos → Option (Leaf H) :=
  fun q => if Valid T q then m.getNode (encP T q) else none

def absC (m : MapPollard H) (T : Nat) : H → Option Pos :=
  fun x => (m.getCached x).bind (fun p => decRO T p.toNat)

theorem rep_abs {m : MapPollard H} {T : Nat} (hT : T ≤ 63) (hrows : m.totalRows = H8 T)
    (hkeys : ∀ p l, m.getNode p = some l → ∃ q, Valid T q ∧ p = encP T q)
    (hcache : ∀ x p, m.getCached x = some p → ∃ t, Valid T t ∧ p = encP T t) :
    Rep m T (absA m T) (absC m T) where
  T_le := hT
  rows := hrows
  keys := hkeys
  node := by intro q hq; simp [absA, hq]
  dom := by
    intro q l h
    unfold absA at h
    split at h
    · assumption
    · cases h
  cache := by
    intro x
    unfold absC
    cases h : m.getCached x with
    | none => rfl
    | some p =>
      obtain ⟨t, ht, rfl⟩ := hcache x p h
      simp [MapInvCheck.dec_encP hT ht]
  cdom := by
    intro x t h
    unfold absC at h
    cases hc : m.getCached x with
    | none => rw [hc] at h; cases h
    | some p =>
      obtain ⟨t', ht', rfl⟩ := hcache x p hc
      rw [hc] at h
      simp [MapInvCheck.dec_encP hT ht'] at h
      rw [← h]; exact ht'

theorem kids_eq {m : MapPollard H} {T : Nat} {A : Pos → Option (Leaf H)} {C : H → Option Pos}
    (rep : Rep m T A C) {q : Pos} (hq : Valid T q) : kids (view m T) q = kids A q := by
  unfold kids view
  by_cases h0 : q.1 = 0
  · rw [decide_eq_false (not_not_intro h0), Bool.false_and, Bool.false_and]
  · have h1 : 1 ≤ q.1 := Nat.pos_of_ne_zero h0
    have v0 : Valid T (q.1 - 1, 2 * q.2) := ValidH.child hq h1 (b := 0) (by decide)
    rw [rep.node _ v0, rep.node _ (ValidH.child hq h1 (b := 1) (by decide))]

theorem Rep.prunePosition {m : MapPollard H} {T : Nat} {A : Pos → Option (Leaf H)} {C : H → Option Pos}
    (rep : Rep m T A C) {q : Pos} (hq : Valid T q) (hlt : q.1 < T) :
    Rep (m.prunePosition (encP T q)) T (pruneA A q) C := by
  have hs := valid_sib hq hlt
  obtain ⟨f1, f2, f3, f4⟩ := prunePosition_frame m (encP T q)
  refine { T_le := rep.T_le, rows := f3.trans rep.rows, keys := ?_, node := ?_, dom := ?_, cache := ?_, cdom := rep.cdom }
  · intro p l h
    exact rep.keys p l ((prunePosition_shrinks m _).2 p l h)
  · intro q' hq'
    exact (view_prunePosition rep.T_le rep.rows hq hlt hq').trans
      (pruneA_congr (rep.node q hq) (rep.node _ hs) (kids_eq rep hq) (kids_eq rep hs) (rep.node q' hq'))
  · intro q' l h
    exact rep.dom q' l (pruneA_sub h)
  · intro x
    show AL.get? (m.prunePosition (encP T q)).cached x = _
    rw [f1]; exact rep.cache x

/-- `Nodes` after `moveUpDescendants σ (sib σ)`: everything strictly below `parent σ` is
replaced by the content that was one row lower below `σ` -/
def liftA (σ : Pos) (A : Pos → Option (Leaf H)) : Pos → Option (Leaf H) := fun q =>
  if SUnder (parent σ) q then (if q.1 = 0 then none else A (unliftP σ q)) else A q

/-- `CachedLeaves` after `moveUpDescendants σ (sib σ)` -/
def liftC (σ : Pos) (C : H → Option Pos) : H → Option Pos := fun x =>
  (C x).map (fun t => if SUnder σ t then liftP σ t else t)

/-- `rep_abs` with its two hypotheses as checks over the lists: every key and every cached position decodes -/
theorem rep_abs_of_decode {m : MapPollard H} {T : Nat} (hT : T ≤ 63) (hrows : m.totalRows = H8 T)
    (hk : (m.nodes.all fun e => (decRO T e.1.toNat).isSome) = true)
    (hc : (m.cached.all fun e => (decRO T e.2.toNat).isSome) = true) :
    Rep m T (absA m T) (absC m T) := by
  refine rep_abs hT hrows ?_ ?_
  · intro p l h
    obtain ⟨q, hq⟩ := Option.isSome_iff_exists.1 (List.all_eq_true.1 hk _ (MapAL.get?_some_mem h))
    exact ⟨q, MapInvCheck.key_of_dec hq⟩
  · intro x p h
    obtain ⟨q, hq⟩ := Option.isSome_iff_exists.1 (List.all_eq_true.1 hc _ (MapAL.get?_some_mem h))
    exact ⟨q, MapInvCheck.key_of_dec hq⟩

end UtreexoVerif.Proofs.MapRep
