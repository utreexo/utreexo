/-
  The caching-schedule tracker (prove.go `undoDel`, `delRootInfo`) calls `deTwin` with
  `totalRows = 63` on positions translated to 63 rows: the instance `rows := 63` of
  `ProofUpdateDeTwin.deTwin_spec_full`, with a worked example.
-/
import UtreexoVerif.Proofs.ProofUpdateDeTwin
import UtreexoVerif.Proofs.SchedPos

namespace UtreexoVerif.Proofs.SchedDeTwin
open Spec
open UtreexoVerif.Proofs.CalcGeo UtreexoVerif.Proofs.Sorted UtreexoVerif.Proofs.Movement
open UtreexoVerif.Proofs.ProofUpdateDeTwin

section forest
variable {H : Type} [DecidableEq H] [Hasher H]

theorem deTwin_spec_63 {F : Forest H} (hn : F.numLeaves ≤ 2 ^ 63) (hnd : F.liveLeaves.Nodup)
    {D : List H} (hD : D.Nodup) (hlive : ∀ x ∈ D, x ∈ F.liveLeaves) :
    ∃ dtp : List Pos,
      Model.deTwin (Model.sortU64 ((D.map (fun l => (F.posOf l).getD (0, 0))).map (E 63)))
        (H8 63) = dtp.map (E 63) ∧
      dtp.Pairwise PLt ∧ (∀ T, T ∈ dtp ↔ IsDT F D T) ∧ ∀ x ∈ dtp, sib x ∉ dtp := by
  obtain ⟨dtp, h1, _, h3, h4, h5⟩ := deTwin_spec_full hn hnd hD hlive (forestRows_small hn) (Nat.le_refl 63)
  exact ⟨dtp, h1, h4, h5, h3⟩

/-- for comparison: the proof update takes the instance `rows := F.rows` of the same theorem (`deTwin_spec`) -/
example {F : Forest H} (hn : F.numLeaves ≤ 2 ^ 63) (hnd : F.liveLeaves.Nodup)
    {D : List H} (hD : D.Nodup) (hlive : ∀ x ∈ D, x ∈ F.liveLeaves) :
    ∃ dtp : List Pos,
      Model.deTwin (Model.sortU64 ((D.map (fun l => (F.posOf l).getD (0, 0))).map (E F.rows)))
        (H8 F.rows) = dtp.map (E F.rows) ∧
      dtp.Pairwise PLt ∧ ∀ T, T ∈ dtp ↔ IsDT F D T :=
  deTwin_spec_rows hn hnd hD hlive (Nat.le_refl _) (forestRows_small hn)

end forest

/-- `deTwin_spec_63` on a slot list.  The bound `2 ^ 62` is the one the tracker's theorems carry (it is needed by
`undoAdd` only, `SchedUndoAdd.leftChild_leaf`); `2 ^ 63` is all that is used here. -/
theorem deTwin_slots {S : List (Option Nat)} (hc : SchedSem.Canon S) (hn : S.length ≤ 2 ^ 62)
    {D : List Nat} (hD : D.Nodup) (hlive : ∀ x ∈ D, SchedSem.Live S x) :
    ∃ dtp : List Pos,
      Model.deTwin (Model.sortU64 (D.map fun s => E 63 (SchedSem.posS S s))) (H8 63) = dtp.map (E 63) ∧
      dtp.Pairwise PLt ∧ (∀ T, T ∈ dtp ↔ IsDT (Forest.mk S) D T) ∧ ∀ x ∈ dtp, sib x ∉ dtp := by
  obtain ⟨dtp, h1, h2⟩ := deTwin_spec_63 (F := Forest.mk S) (D := D) (by show S.length ≤ 2 ^ 63; omega)
    (SchedPos.liveLeaves_nodup hc) hD (fun x hx => (SchedPos.mem_liveLeaves hc x).2 (hlive x hx))
  refine ⟨dtp, ?_, h2⟩
  rw [← h1, List.map_map]
  congr 2
  apply List.map_congr_left
  intro s hs
  simp only [Function.comp, SchedPos.posOf_eq (by omega) hc (hlive s hs), Option.getD_some]

/-! ### a concrete instance

The forest `F5` (five live slots, `F5.rows = 3`) and the deletion `D5 = [3, 0, 1]` of
`ProofUpdateDeTwin.Example`, encoded with 63 rows: `deTwin` merges the sibling leaves `0`, `1`
into their parent `2^63 = E 63 (1, 0)` and keeps `3`. -/

namespace Example
open UtreexoVerif.Proofs.ProofUpdateDeTwin.Example

theorem targets5_63 :
    Model.sortU64 ((D5.map (fun l => (F5.posOf l).getD (0, 0))).map (E 63)) =
      [0#64, 1#64, 3#64] := by decide +kernel

theorem deTwin5_63 :
    Model.deTwin (Model.sortU64 ((D5.map (fun l => (F5.posOf l).getD (0, 0))).map (E 63)))
      (H8 63) = [3#64, 9223372036854775808#64] := by decide +kernel

theorem deTwin5_63_pos :
    [3#64, 9223372036854775808#64] = [((0, 3) : Pos), (1, 0)].map (E 63) := by decide +kernel

/-- the hypotheses of `deTwin_spec_rows` (with `rows := 63 > F5.rows = 3`) hold for this instance,
and the list it describes is `[(0,3), (1,0)]` -/
example : ∀ T, T ∈ [((0, 3) : Pos), (1, 0)] ↔ IsDT F5 D5 T := by
  have hF : F5.rows ≤ 63 := by decide +kernel
  obtain ⟨dtp, h1, h2, h3⟩ := deTwin_spec_rows (F := F5) (by decide) (by decide) (D := D5)
    (by decide) (by decide) (rows := 63) hF (Nat.le_refl _)
  rw [deTwin5_63, deTwin5_63_pos] at h1
  have hv : ∀ p ∈ dtp, ValidH 63 p := by
    intro p hp
    obtain ⟨h, t, s, _⟩ := (h3 p).1 hp
    exact ValidH.mono s.inF.valid hF
  have e : [((0, 3) : Pos), (1, 0)] = dtp := by
    have hlen := congrArg List.length h1
    simp only [List.length_map, List.length_cons, List.length_nil] at hlen
    match dtp, hlen, h1, hv with
    | [p, q], _, h1, hv =>
      simp only [List.map_cons, List.map_nil, List.cons.injEq, and_true] at h1
      have e1 := encP_inj (Nat.le_refl 63) (by unfold ValidH; decide +kernel) (hv p (by simp)) h1.1
      have e2 := encP_inj (Nat.le_refl 63) (by unfold ValidH; decide +kernel) (hv q (by simp)) h1.2
      rw [e1, e2]
  rw [e]
  exact h3

end Example

#print axioms loop_spec_rows
#print axioms deTwin_spec_rows
#print axioms deTwin_spec_63

end UtreexoVerif.Proofs.SchedDeTwin
