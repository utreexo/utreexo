/-
  `undoSingleAdd` on 63-row encoded positions (property C15): its loop as a position-wise map
  (`undoSingleAdd_eq`), and that map as the descending `moveBack` pass over the roots the addition
  merged over (`saG_moveBack`, `saG_suffix`).  `undoAdd` is in `Proofs/SchedUndoAdd.lean`.
  The file opens with `SchedAdd.moveDownP`, the pair form of one `moveDownPosition` step, under its
  own namespace; nothing below uses it.
-/
import UtreexoVerif.Props.C16b
import UtreexoVerif.Props.C16d
import UtreexoVerif.Proofs.SpecView
import UtreexoVerif.Model.Schedule
import UtreexoVerif.Proofs.ProofUndoAddMove
import UtreexoVerif.Proofs.Digits

namespace UtreexoVerif.Proofs.SchedAdd
open Spec

/-- pair form of `moveDownPosition totalRows top (LeftChild top)`: a position at or below `top`
moves one row down, the bit "right" is inserted below `top` -/
def moveDownP (top p : Pos) : Pos :=
  if p = top ∨ (p.1 < top.1 ∧ p.2 / 2 ^ (top.1 - p.1) = top.2) then
    (p.1 - 1, addBitNat p.2 (top.1 - p.1) true)
  else p

theorem moveDownP_of_not {top p : Pos} (h1 : p ≠ top)
    (h2 : ¬ (p.1 < top.1 ∧ p.2 / 2 ^ (top.1 - p.1) = top.2)) : moveDownP top p = p := by
  unfold moveDownP
  rw [if_neg]
  rintro (h | h)
  · exact h1 h
  · exact h2 h

end UtreexoVerif.Proofs.SchedAdd

namespace UtreexoVerif.Proofs.SchedAddU
open Spec Model
open UtreexoVerif.Proofs.CalcGeo
open UtreexoVerif.Props.C16
open UtreexoVerif.Proofs.MoveFold UtreexoVerif.Proofs.ProofUndoDel UtreexoVerif.Proofs.ProofUndoAddMove

theorem cst_eq : CSTTotalRows = H8 63 := rfl

/-- `slices.Index` followed by `slices.Delete` on `toDestroy`, as membership and `erase` -/
theorem find_cases (td : List U64) (x : U64) :
    (x ∈ td ∧ ∃ i, td.findIdx? (· == x) = some i ∧ td.eraseIdx i = td.erase x) ∨
    (x ∉ td ∧ td.findIdx? (· == x) = none) := by
  have he := List.erase_eq_eraseIdx td x
  have hid : List.idxOf? x td = td.findIdx? (· == x) := rfl
  cases hf : td.findIdx? (· == x) with
  | none =>
    right
    refine ⟨?_, rfl⟩
    intro hm
    have := List.findIdx?_eq_none_iff.mp hf x hm
    simp at this
  | some i =>
    left
    obtain ⟨hlt, hp, _⟩ := List.findIdx?_eq_some_iff_getElem.mp hf
    refine ⟨?_, i, rfl, ?_⟩
    · have : td[i] = x := by simpa using hp
      rw [← this]; exact List.getElem_mem hlt
    · rw [he, hid, hf]

/-- what the loop does to one position -/
def saG (tr : U8) : Nat → U64 → List U64 → U64 → U64
  | 0, _, _, p => p
  | row+1, pos, td, p =>
    let pr := LeftChild pos tr
    match td.findIdx? (· == pr) with
    | some i => saG tr row (RightChild pos tr) (td.eraseIdx i) (moveDownPosition tr pos pr p)
    | none => saG tr row (RightChild pos tr) td p

/-- what the loop does to `toDestroy` -/
def saTd (tr : U8) : Nat → U64 → List U64 → List U64
  | 0, _, td => td
  | row+1, pos, td =>
    let pr := LeftChild pos tr
    match td.findIdx? (· == pr) with
    | some i => saTd tr row (RightChild pos tr) (td.eraseIdx i)
    | none => saTd tr row (RightChild pos tr) td

/-- the position looked up in the last iteration -/
def saLast (tr : U8) : Nat → U64 → U64
  | 0, pos => pos
  | row+1, pos => saLast tr row (RightChild pos tr)

theorem saG_none {tr : U8} {row : Nat} {pos : U64} {td : List U64}
    (h : td.findIdx? (· == LeftChild pos tr) = none) (p : U64) :
    saG tr (row + 1) pos td p = saG tr row (RightChild pos tr) td p := by
  simp only [saG, h]

theorem saG_some {tr : U8} {row : Nat} {pos : U64} {td : List U64} {i : Nat}
    (h : td.findIdx? (· == LeftChild pos tr) = some i) (p : U64) :
    saG tr (row + 1) pos td p =
      saG tr row (RightChild pos tr) (td.eraseIdx i) (moveDownPosition tr pos (LeftChild pos tr) p) := by
  simp only [saG, h]

theorem saTd_none {tr : U8} {row : Nat} {pos : U64} {td : List U64}
    (h : td.findIdx? (· == LeftChild pos tr) = none) :
    saTd tr (row + 1) pos td = saTd tr row (RightChild pos tr) td := by
  simp only [saTd, h]

theorem saTd_some {tr : U8} {row : Nat} {pos : U64} {td : List U64} {i : Nat}
    (h : td.findIdx? (· == LeftChild pos tr) = some i) :
    saTd tr (row + 1) pos td = saTd tr row (RightChild pos tr) (td.eraseIdx i) := by
  simp only [saTd, h]

theorem loop_eq (tr : U8) : ∀ (row : Nat) (pos : U64) (positions td : List U64) (idx0 : Int),
    undoSingleAddLoop tr (row + 1) pos positions td idx0 =
      (positions.map (saG tr (row + 1) pos td), saTd tr (row + 1) pos td,
        if sliceIndex (positions.map (saG tr (row + 1) pos td)) (saLast tr row pos) != -1 then
          sliceIndex (positions.map (saG tr (row + 1) pos td)) (saLast tr row pos) else idx0) := by
  intro row
  induction row with
  | zero =>
    intro pos positions td idx0
    cases hf : td.findIdx? (· == LeftChild pos tr) with
    | none => simp [undoSingleAddLoop, saG, saTd, saLast, hf]
    | some i => simp [undoSingleAddLoop, saG, saTd, saLast, hf, moveDownPositions]
  | succ row ih =>
    intro pos positions td idx0
    rw [undoSingleAddLoop]
    simp only [Nat.add_one_ne_zero, if_false]
    cases hf : td.findIdx? (· == LeftChild pos tr) with
    | none =>
      have hG : saG tr (row + 1 + 1) pos td = saG tr (row + 1) (RightChild pos tr) td :=
        funext (saG_none hf)
      simp only
      rw [ih, hG, saTd_none hf]
      rfl
    | some i =>
      have hG : positions.map (saG tr (row + 1 + 1) pos td) =
          (moveDownPositions tr pos (LeftChild pos tr) positions).map
            (saG tr (row + 1) (RightChild pos tr) (td.eraseIdx i)) := by
        unfold moveDownPositions
        rw [List.map_map]
        apply List.map_congr_left
        intro p _
        exact saG_some hf p
      simp only
      rw [ih, hG, saTd_some hf]
      rfl

theorem spine_valid {n l : Nat} (hn : n < 2 ^ 63) (hl : l ≤ 63) : ValidH 63 (l, n / 2 ^ l) :=
  ⟨hl, div_two_pow_lt hl hn⟩

theorem root_valid {n j : Nat} (hn : n < 2 ^ 63) (hj : j ≤ 62) : ValidH 63 (j, 2 * (n / 2 ^ (j + 1))) := by
  have h := (spine_valid hn (show j ≤ 63 by omega)).2
  refine ⟨by simp only; omega, ?_⟩
  simp only at h ⊢
  rw [half_pow]
  omega

theorem rootE_inj {n n' j j' : Nat} (hn : n < 2 ^ 63) (hn' : n' < 2 ^ 63) (hj : j ≤ 62) (hj' : j' ≤ 62)
    (e : E 63 (j, 2 * (n / 2 ^ (j + 1))) = E 63 (j', 2 * (n' / 2 ^ (j' + 1)))) :
    j = j' ∧ n / 2 ^ (j + 1) = n' / 2 ^ (j' + 1) := by
  have := encP_inj (by decide) (root_valid hn hj) (root_valid hn' hj') e
  injection this with e1 e2
  subst e1
  exact ⟨rfl, by omega⟩

/-- the root on row `j` of a forest with `n` leaves -/
def rootP (n j : Nat) : Pos := (j, 2 * (n / 2 ^ (j + 1)))

/-- the rows below `l` whose root `undoSingleAdd` (undoing slot `n`) finds in `toDestroy` and
puts back (ascending) -/
def popRows (n : Nat) (td : List U64) (l : Nat) : List Nat :=
  (List.range l).filter fun j => decide (E 63 (rootP n j) ∈ td)

theorem popRows_succ (n : Nat) (td : List U64) (l : Nat) :
    popRows n td (l + 1) = popRows n td l ++ (if E 63 (rootP n l) ∈ td then [l] else []) := by
  unfold popRows
  rw [List.range_succ, List.filter_append]
  by_cases h : E 63 (rootP n l) ∈ td <;> simp [h]

/-- the hypotheses on `toDestroy`: no position twice, and not the (meaningless) left child of
the leaf position, which the last iteration looks up -/
def Htd (n : Nat) (td : List U64) : Prop :=
  td.Nodup ∧ LeftChild (E 63 (0, n)) (H8 63) ∉ td

theorem Htd.erase {n : Nat} {td : List U64} (h : Htd n td) (x : U64) : Htd n (td.erase x) :=
  ⟨h.1.erase _, fun hm => h.2 (List.mem_of_mem_erase hm)⟩

/- From here on `n` is the slot whose addition is undone and `k` the number of its trailing one
digits (`ht : Trail n k`, `Proofs/Digits.lean`): the addition merged the leaf with the roots of rows
`0 .. k-1`.  The bound `n < 2^62` is the one of `SchedUndoAdd.htd_of_tdok` (explained there); this
file uses `k ≤ 62` and `n + 1 ≤ 2^63` of it. -/
section
variable {n k : Nat} (ht : Trail n k) (hn : n < 2 ^ 62)
include ht hn

theorem spine_left {l : Nat} (hl : l < k) :
    LeftChild (E 63 (l + 1, n / 2 ^ (l + 1))) (H8 63) = E 63 (rootP n l) := by
  have hk62 := ht.le_of_lt hn
  have hv := spine_valid (n := n) (l := l + 1) (by omega) (by omega)
  unfold E
  exact leftChild_enc (by decide) (by omega) hv.2

theorem spine_right {l : Nat} (hl : l < k) :
    RightChild (E 63 (l + 1, n / 2 ^ (l + 1))) (H8 63) = E 63 (l, n / 2 ^ l) := by
  have hk62 := ht.le_of_lt hn
  have hv := spine_valid (n := n) (l := l + 1) (by omega) (by omega)
  unfold E
  rw [rightChild_enc (by decide) (by omega) hv.2, ← ht.div_odd hl]

theorem popRows_erase {l : Nat} {td : List U64} (hl : l < k) (hnd : td.Nodup) :
    popRows n (td.erase (E 63 (rootP n l))) l = popRows n td l := by
  have hk62 := ht.le_of_lt hn
  unfold popRows
  apply List.filter_congr
  intro j hj
  rw [List.mem_range] at hj
  have hne : E 63 (rootP n j) ≠ E 63 (rootP n l) := by
    intro e
    have := (rootE_inj (n := n) (n' := n) (by omega) (by omega) (by omega) (by omega) e).1
    omega
  apply decide_eq_decide.mpr
  rw [hnd.mem_erase_iff]
  exact ⟨fun h => h.2, fun h => ⟨hne, h⟩⟩

theorem sa_step {l : Nat} (td : List U64) (hl : l < k) :
    (E 63 (rootP n l) ∈ td ∧
      ∃ i, td.findIdx? (· == LeftChild (E 63 (l + 1, n / 2 ^ (l + 1))) (H8 63)) = some i ∧
        td.eraseIdx i = td.erase (E 63 (rootP n l))) ∨
    (E 63 (rootP n l) ∉ td ∧
      td.findIdx? (· == LeftChild (E 63 (l + 1, n / 2 ^ (l + 1))) (H8 63)) = none) := by
  rw [spine_left ht hn hl]
  rcases find_cases td (E 63 (rootP n l)) with ⟨hm, i, hf, he⟩ | ⟨hm, hf⟩
  · exact Or.inl ⟨hm, i, hf, he⟩
  · exact Or.inr ⟨hm, hf⟩

theorem saG_moveBack : ∀ (l : Nat) (td : List U64) (x : U64), l ≤ k → Htd n td →
    saG (H8 63) (l + 1) (E 63 (l, n / 2 ^ l)) td x =
      moveBack (H8 63) ((popRows n td l).map fun j => E 63 (rootP n j)) x := by
  have hk62 := ht.le_of_lt hn
  intro l
  induction l with
  | zero =>
    intro td x _ htd
    rcases find_cases td (LeftChild (E 63 (0, n / 2 ^ 0)) (H8 63)) with ⟨hm, _⟩ | ⟨_, hf⟩
    · simp only [Nat.pow_zero, Nat.div_one] at hm
      exact absurd hm htd.2
    · rw [saG_none hf]; rfl
  | succ l ih =>
    intro td x hl htd
    have hlk : l < k := by omega
    have hright := spine_right ht hn hlk
    rw [popRows_succ]
    rcases sa_step ht hn td hlk with ⟨hm, i, hf, he⟩ | ⟨hm, hf⟩
    · have hpar : Parent (E 63 (rootP n l)) (H8 63) = E 63 (l + 1, n / 2 ^ (l + 1)) := by
        show Parent (E 63 (l, 2 * (n / 2 ^ (l + 1)))) (H8 63) = _
        rw [parent_E (by decide) (root_valid (n := n) (by omega) (by omega)) (show l < 63 by omega)]
        simp [parent]
      rw [saG_some hf, he, hright, spine_left ht hn hlk, if_pos hm, List.map_append, List.map_cons,
        List.map_nil, moveBack_append, hpar, ← popRows_erase ht hn hlk htd.1]
      exact ih _ _ (by omega) (htd.erase _)
    · rw [saG_none hf, hright, if_neg hm, List.append_nil]
      exact ih _ _ (by omega) htd

theorem saTd_spec : ∀ (l : Nat) (td : List U64), l ≤ k → Htd n td →
    (saTd (H8 63) (l + 1) (E 63 (l, n / 2 ^ l)) td).Nodup ∧
    ∀ y, y ∈ saTd (H8 63) (l + 1) (E 63 (l, n / 2 ^ l)) td ↔
      (y ∈ td ∧ ∀ j, j < l → y ≠ E 63 (rootP n j)) := by
  intro l
  induction l with
  | zero =>
    intro td _ htd
    rcases find_cases td (LeftChild (E 63 (0, n / 2 ^ 0)) (H8 63)) with ⟨hm, _⟩ | ⟨_, hf⟩
    · simp only [Nat.pow_zero, Nat.div_one] at hm
      exact absurd hm htd.2
    · rw [saTd_none hf]
      exact ⟨htd.1, fun y => ⟨fun h => ⟨h, fun j hj => by omega⟩, fun h => h.1⟩⟩
  | succ l ih =>
    intro td hl htd
    have hlk : l < k := by omega
    have hright := spine_right ht hn hlk
    have hlast : ∀ (y : U64) (P : Prop), (P ∧ ∀ j, j < l → y ≠ E 63 (rootP n j)) ∧ y ≠ E 63 (rootP n l) ↔
        P ∧ ∀ j, j < l + 1 → y ≠ E 63 (rootP n j) := by
      intro y P
      constructor
      · rintro ⟨⟨hp, hall⟩, hne⟩
        refine ⟨hp, fun j hj => ?_⟩
        rcases Nat.lt_or_ge j l with h | h
        · exact hall j h
        · rw [show j = l by omega]; exact hne
      · rintro ⟨hp, hall⟩
        exact ⟨⟨hp, fun j hj => hall j (by omega)⟩, hall l (by omega)⟩
    rcases sa_step ht hn td hlk with ⟨hm, i, hf, he⟩ | ⟨hm, hf⟩
    · rw [saTd_some hf, he, hright]
      obtain ⟨h1, h2⟩ := ih _ (by omega) (htd.erase _)
      refine ⟨h1, fun y => ?_⟩
      rw [h2 y, htd.1.mem_erase_iff, ← hlast y (y ∈ td)]
      constructor
      · rintro ⟨⟨hne, hy⟩, hall⟩; exact ⟨⟨hy, hall⟩, hne⟩
      · rintro ⟨⟨hy, hall⟩, hne⟩; exact ⟨⟨hne, hy⟩, hall⟩
    · rw [saTd_none hf, hright]
      obtain ⟨h1, h2⟩ := ih _ (by omega) htd
      refine ⟨h1, fun y => ?_⟩
      rw [h2 y, ← hlast y (y ∈ td)]
      constructor
      · rintro ⟨hy, hall⟩; exact ⟨⟨hy, hall⟩, fun e => hm (e ▸ hy)⟩
      · rintro ⟨h, _⟩; exact h

theorem saLast_spine : ∀ (l : Nat), l ≤ k → saLast (H8 63) l (E 63 (l, n / 2 ^ l)) = E 63 (0, n) := by
  intro l
  induction l with
  | zero => intro _; simp [saLast]
  | succ l ih =>
    intro hl
    rw [saLast, spine_right ht hn (by omega)]
    exact ih (by omega)

end

/-- one `undoSingleAdd` (undoing the addition of slot `m`) takes the image for `ds1 ++ ds2` back to
the image for `ds1`, where `ds2` are the roots this addition merged over and `n` is the leaf count
after the block -/
theorem saG_suffix {n m k : Nat} (hF : forestRows n ≤ 63)
    (ht : Trail m k) (hm : m < 2 ^ 62) {td : List U64}
    (htd : Htd m td) (ds1 : List Pos) {p : Pos} {R : Nat}
    (hdt : DtList (ds1 ++ (popRows m td k).map (rootP m)))
    (hst : ∀ T ∈ (popRows m td k).map (rootP m), TStrict n T)
    (o : Origin n (ds1 ++ (popRows m td k).map (rootP m)) p R) :
    saG (H8 63) (k + 1) (E 63 (k, m / 2 ^ k)) td
        (E 63 (moveA n R (ds1 ++ (popRows m td k).map (rootP m)) p)) = E 63 (moveA n R ds1 p) := by
  rw [saG_moveBack ht hm k td _ (Nat.le_refl _) htd, ← moveBack_suffix hF (Nat.le_refl _) _ ds1 hdt hst o,
    List.map_map]
  rfl

theorem E63_leaf {s : Nat} : E 63 (0, s) = BitVec.ofNat 64 s := encU_row_zero 63 s

theorem ofNat_succ_sub_one (a : Nat) : BitVec.ofNat 64 (a + 1) - 1#64 = BitVec.ofNat 64 a := by
  rw [BitVec.ofNat_add]
  exact BitVec.add_sub_cancel _ _

/-- The proof computes the loop's start: `DetectOffset`, `subtreeRow` and `rootPosition` of the last
leaf `n` of the `n + 1` leaves give the root `(k, n / 2^k)` of its tree (lemmas of `Props/C16b`,
`C16d`); the rest is `loop_eq`. -/
theorem undoSingleAdd_eq {n k : Nat} (ht : Trail n k)
    (hn : n < 2 ^ 62) (positions td : List U64) :
    undoSingleAdd (H8 63) positions td (BitVec.ofNat 64 (n + 1)) =
      (positions.map (saG (H8 63) (k + 1) (E 63 (k, n / 2 ^ k)) td),
        saTd (H8 63) (k + 1) (E 63 (k, n / 2 ^ k)) td,
        if sliceIndex (positions.map (saG (H8 63) (k + 1) (E 63 (k, n / 2 ^ k)) td)) (E 63 (0, n)) != -1
        then sliceIndex (positions.map (saG (H8 63) (k + 1) (E 63 (k, n / 2 ^ k)) td)) (E 63 (0, n))
        else -1) := by
  have hk62 := ht.le_of_lt hn
  have hN : n + 1 ≤ 2 ^ 63 := by omega
  have hT := treeRows_ofNat hN
  have hrows := forestRows_small hN
  have hNat := toNat_ofNat64_of_lt (n := n + 1) (by omega)
  have hbit : (n + 1).testBit k = true := ht.succ_at
  have hroot : 2 * ((n + 1) / 2 ^ (k + 1)) = n / 2 ^ k := by
    rw [ht.succ_div_high (Nat.lt_succ_self k), ← ht.div_even]
  have hcap := forestRows_spec_le (n + 1)
  have hpos : BitVec.ofNat 64 (n + 1) - 1#64 = encU (forestRows (n + 1)) 0 n := by
    rw [ofNat_succ_sub_one]
    unfold encU
    rw [enc_val]
    congr 1
    simp
  have hdet : (DetectOffset (BitVec.ofNat 64 (n + 1) - 1#64) (BitVec.ofNat 64 (n + 1))).1 =
      BitVec.ofNat 8 ((treeRows (n + 1)).idxOf k) := by
    rw [hpos, detectOffset_enc (R := k) (BitVec.ofNat 64 (n + 1)) hT hrows (Nat.zero_le _)
      (by rw [Nat.sub_zero]; omega) (by rw [hNat]; exact hbit)
      (by rw [hNat, Nat.sub_zero]; simp only [rootPos, Nat.shiftRight_eq_div_pow]; exact hroot.symm), hNat]
  have hmem : k ∈ treeRows (n + 1) := Spec.mem_treeRows.mpr ⟨by omega, hbit⟩
  have hsub : subtreeRow (BitVec.ofNat 64 (n + 1)) (BitVec.ofNat 8 ((treeRows (n + 1)).idxOf k)) = H8 k := by
    apply subtreeRow_spec (BitVec.ofNat 64 (n + 1)) hT hrows
    rw [hNat, List.getElem?_eq_getElem (List.idxOf_lt_length_of_mem hmem), List.getElem_idxOf]
  have hrp : rootPosition (BitVec.ofNat 64 (n + 1)) (H8 k) (H8 63) = E 63 (k, n / 2 ^ k) := by
    rw [rootPosition_enc (by decide) (by omega) _ (by rw [hNat]; omega), hNat]
    unfold E
    simp only [rootPos, Nat.shiftRight_eq_div_pow, hroot]
  unfold undoSingleAdd
  simp only [hdet, hsub, hrp, toNat_H8 (show k ≤ 63 by omega)]
  rw [loop_eq, saLast_spine ht hn k (Nat.le_refl _)]

end UtreexoVerif.Proofs.SchedAddU
