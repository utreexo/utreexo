/-
  Pointer forest, heap model, `Undo`, third phase (`undoDels`), first half, continued from `PollardHeapUndoDeTwinA`
  (which has the sort, the allocation and one merge step): the loop of `deTwinPolNode` on the heap, its positions following the steps of the scan of `deTwin`
  (`ProofUpdateDeTwin.Inv.zip_merge`, `Inv.zip_adv`).  The prefix of `undoDels` up to `deTwinPolNode` is put
  together from it in `Props.PollardHeapC.undoDels_prefix_refines`.
-/
import UtreexoVerif.Proofs.PollardHeapUndoDeTwinA
set_option linter.unusedSectionVars false

namespace UtreexoVerif.Proofs.PollardHeap
open UtreexoVerif.Model UtreexoVerif.Model.PollardHeap UtreexoVerif.Spec
open UtreexoVerif.Proofs.CalcGeo
open UtreexoVerif.Proofs.ProofUpdateDeTwin
open UtreexoVerif.Proofs.SpecSubs

variable {H : Type} [DecidableEq H] [Hasher H]

theorem pendOwned_perm {a b : List (PItem H)} (h : a.Perm b) : (pendOwned a).Perm (pendOwned b) := by
  unfold pendOwned; exact h.flatMap_right _

theorem pendLeaves_perm {a b : List (PItem H)} (h : a.Perm b) : (pendLeaves a).Perm (pendLeaves b) := by
  unfold pendLeaves; exact h.flatMap_right _

theorem perm_two_middle {α : Type} (pre : List α) (a b : α) (rest : List α) :
    (pre ++ a :: b :: rest).Perm (a :: b :: (pre ++ rest)) :=
  (List.perm_middle).trans ((List.perm_middle).cons a)

/-- the heap half of a merge step: the items `a`, `b` (sibling positions, disjoint detached trees) are replaced by
their join under a fresh parent; what the other items own is untouched -/
theorem merge_items {hp : Heap H} {pre rest' : List (PItem H)} {a b : PItem H} (pp : Pos)
    {ln rn : PolNode H}
    (hpend : Pend hp (pre ++ a :: b :: rest')) (hnd : (pendOwned (pre ++ a :: b :: rest')).Nodup)
    (hl : hp[a.nd]? = some ln) (hr : hp[b.nd]? = some rn) (its1 : List (PItem H))
    (hperm : its1.Perm
      ((⟨hp.size, pp, .node a.t b.t, a.nd :: b.nd :: (a.fp ++ b.fp), a.lv ++ b.lv⟩ : PItem H) ::
        (pre ++ rest'))) :
    Pend (joinHeap hp a.nd b.nd ln rn) its1 ∧ (pendOwned its1).Nodup ∧
    (a.nd :: b.nd :: (a.fp ++ b.fp)).Nodup ∧
    (∀ j, j < hp.size → j ∉ pendOwned (pre ++ a :: b :: rest') →
      (joinHeap hp a.nd b.nd ln rn)[j]? = hp[j]?) ∧
    (∀ i, i ∈ pendOwned its1 ↔ i = hp.size ∨ i ∈ pendOwned (pre ++ a :: b :: rest')) ∧
    (∀ e, e ∈ pendLeaves its1 ↔ e ∈ pendLeaves (pre ++ a :: b :: rest')) := by
  have hlt := hpend.lt
  have hA : RootRepr hp a.nd a.t a.fp a.lv := hpend a (by simp)
  have hB : RootRepr hp b.nd b.t b.fp b.lv := hpend b (by simp)
  have p0 := pendOwned_perm (perm_two_middle pre a b rest')
  rw [pendOwned_cons, pendOwned_cons] at p0
  have p1 : (a.nd :: a.fp ++ (b.nd :: b.fp ++ pendOwned (pre ++ rest'))).Perm
      ((a.nd :: b.nd :: (a.fp ++ b.fp)) ++ pendOwned (pre ++ rest')) := by
    simp only [List.cons_append, List.append_assoc]
    exact (List.perm_middle).cons a.nd
  have p2 := p0.trans p1
  have nd2 : ((a.nd :: b.nd :: (a.fp ++ b.fp)) ++ pendOwned (pre ++ rest')).Nodup :=
    p2.nodup_iff.1 hnd
  have mem2 : ∀ i, i ∈ pendOwned (pre ++ a :: b :: rest') ↔
      i ∈ (a.nd :: b.nd :: (a.fp ++ b.fp)) ∨ i ∈ pendOwned (pre ++ rest') := by
    intro i; rw [p2.mem_iff, List.mem_append]
  obtain ⟨ndp, ndO, hdisj⟩ := List.nodup_append.1 nd2
  obtain ⟨hN, hfr⟩ := joinHeap_repr hA hB hl hr ndp
  have q0 := pendOwned_perm hperm
  rw [pendOwned_cons] at q0
  simp only [] at q0
  have mem3 : ∀ i, i ∈ pendOwned its1 ↔ i = hp.size ∨ i ∈ pendOwned (pre ++ a :: b :: rest') := by
    intro i
    rw [q0.mem_iff, mem2, List.mem_append, List.mem_cons, or_assoc]
  have frame : ∀ i, i ∈ pendOwned (pre ++ rest') → (joinHeap hp a.nd b.nd ln rn)[i]? = hp[i]? := by
    intro i hi
    have hn : i ∉ a.nd :: b.nd :: (a.fp ++ b.fp) := fun h => hdisj i h i hi rfl
    simp only [List.mem_cons, List.mem_append, not_or] at hn
    have := hlt i ((mem2 i).2 (Or.inr hi))
    exact hfr i hn.1 hn.2.1 hn.2.2.1 hn.2.2.2 (by omega)
  refine ⟨?_, ?_, ndp, ?_, mem3, ?_⟩
  · intro it hit
    rcases List.mem_cons.1 (hperm.mem_iff.1 hit) with rfl | hit'
    · exact hN
    · have hR : ReprRoot hp it.nd (some it.t) it.fp it.lv := hpend it (by
        rcases List.mem_append.1 hit' with h | h
        · exact List.mem_append_left _ h
        · exact List.mem_append_right _ (List.mem_cons_of_mem _ (List.mem_cons_of_mem _ h)))
      have := hR.frame (hp' := joinHeap hp a.nd b.nd ln rn) (by
        intro i hi
        apply frame
        unfold pendOwned
        rw [List.mem_flatMap]
        exact ⟨it, hit', hi⟩)
      exact this
  · rw [q0.nodup_iff]
    have : (hp.size :: ((a.nd :: b.nd :: (a.fp ++ b.fp)) ++ pendOwned (pre ++ rest'))).Nodup := by
      rw [List.nodup_cons]
      refine ⟨fun h => ?_, nd2⟩
      have := hlt _ (p2.mem_iff.2 h)
      omega
    simpa using this
  · intro j hj hjn
    rw [mem2] at hjn
    simp only [List.mem_cons, List.mem_append, not_or] at hjn
    exact hfr j hjn.1.1 hjn.1.2.1 hjn.1.2.2.1 hjn.1.2.2.2 (by omega)
  · intro e
    rw [(pendLeaves_perm hperm).mem_iff, (pendLeaves_perm (perm_two_middle pre a b rest')).mem_iff]
    simp only [pendLeaves_cons, List.mem_append]
    constructor
    · rintro ((h | h) | h)
      · exact Or.inl h
      · exact Or.inr (Or.inl h)
      · exact Or.inr (Or.inr h)
    · rintro (h | h | h)
      · exact Or.inl (Or.inl h)
      · exact Or.inl (Or.inr h)
      · exact Or.inr h

theorem insertBy_pos {rows : Nat} (hr : rows ≤ 63) (N : PItem H) (hN : ValidH rows N.pos) :
    ∀ (l : List (PItem H)), (∀ q ∈ l.map (·.pos), ValidH rows q) → N.pos ∉ l.map (·.pos) →
      (insertBy (fun it : PItem H => E rows it.pos) N l).map (·.pos) =
        Forest.insertSorted N.pos (l.map (·.pos)) := by
  intro l
  induction l with
  | nil => intro _ _; rfl
  | cons y ys ih =>
    intro hv hn
    have hy : ValidH rows y.pos := hv _ (by simp)
    simp only [List.map_cons, insertBy, Forest.insertSorted]
    by_cases h : Forest.posLt N.pos y.pos = true
    · rw [if_pos ((E_gt_iff hr hN hy).2 h), if_pos h]
      rfl
    · rw [if_neg (fun h' => h ((E_gt_iff hr hN hy).1 h')), if_neg h]
      have hne : ¬ (N.pos == y.pos) = true := by
        rw [beq_iff_eq]
        intro e
        exact hn (by simp [e])
      rw [if_neg hne, List.map_cons,
        ih (fun x hx => hv x (by simp only [List.map_cons, List.mem_cons]; exact Or.inr hx))
          (fun hx => hn (by simp only [List.map_cons, List.mem_cons]; exact Or.inr hx))]

/-- what the loop of `deTwinPolNode`, started on the items `its` in the heap `hp`, returns -/
def DTPost (F : Forest H) (D : List H) (nm : List (H × Nat)) (rs : List Nat) (nl ndl : U64)
    (full : Bool) (hp : Heap H) (its : List (PItem H)) (res : Out (List NP) × Pollard H) : Prop :=
  ∃ (hp' : Heap H) (its' : List (PItem H)),
    res = (.ok (its'.map (PItem.np F.rows)), ⟨hp', nm, rs, nl, ndl, full⟩) ∧
    Inv F D (its'.map (·.pos)) ∧ (∀ x ∈ its'.map (·.pos), sib x ∉ its'.map (·.pos)) ∧
    Pend hp' its' ∧ (pendOwned its').Nodup ∧ (∀ it ∈ its', ∃ R, SubAtT F R it.pos it.t) ∧
    hp.size ≤ hp'.size ∧
    (∀ j, j < hp.size → j ∉ pendOwned its → hp'[j]? = hp[j]?) ∧
    (∀ i ∈ pendOwned its', i ∈ pendOwned its ∨ hp.size ≤ i) ∧
    (∀ e, e ∈ pendLeaves its' ↔ e ∈ pendLeaves its)

theorem DTPost.step {F : Forest H} {D : List H} {nm : List (H × Nat)} {rs : List Nat} {nl ndl : U64}
    {full : Bool} {hp hp1 : Heap H} {its its1 : List (PItem H)} {res : Out (List NP) × Pollard H}
    (h : DTPost F D nm rs nl ndl full hp1 its1 res) (hsz : hp.size ≤ hp1.size)
    (hfr : ∀ j, j < hp.size → j ∉ pendOwned its → hp1[j]? = hp[j]?)
    (hown : ∀ i ∈ pendOwned its1, i ∈ pendOwned its ∨ hp.size ≤ i)
    (hlv : ∀ e, e ∈ pendLeaves its1 ↔ e ∈ pendLeaves its) :
    DTPost F D nm rs nl ndl full hp its res := by
  obtain ⟨hp', its', e, h1, h2, h3, h4, h5, h6, h7, h8, h9⟩ := h
  refine ⟨hp', its', e, h1, h2, h3, h4, h5, by omega, ?_, ?_, ?_⟩
  · intro j hj hjn
    rw [h7 j (by omega) (fun hc => by rcases hown j hc with h | h; exact hjn h; omega), hfr j hj hjn]
  · intro i hi
    rcases h8 i hi with h | h
    · exact hown i h
    · exact Or.inr (by omega)
  · intro e'
    rw [h9, hlv]

theorem mem_two_drop {α : Type} {pre rest : List α} {a b x : α} (h : x ∈ pre ++ rest) :
    x ∈ pre ++ a :: b :: rest := by
  rcases List.mem_append.1 h with h | h
  · exact List.mem_append_left _ h
  · exact List.mem_append_right _ (List.mem_cons_of_mem _ (List.mem_cons_of_mem _ h))

/-- **the loop of `deTwinPolNode`** on the items `its = pre ++ rest`, the scan standing at the head
of `rest`: the positions follow `ProofUpdateDeTwin.Inv.zip_merge` / `Inv.zip_adv`, a merge joins
the two items on the heap (`merge_items`), an advance leaves heap and items as they are -/
theorem deTwinPolNodeLoop_zip {F : Forest H} {D : List H} (hr : F.rows ≤ 63)
    (nm : List (H × Nat)) (rs : List Nat) (nl ndl : U64) (full : Bool) :
    ∀ (fuel : Nat) (pre rest its : List (PItem H)) (hp : Heap H), its = pre ++ rest →
      Inv F D (its.map (·.pos)) →
      (∀ x ∈ pre.map (·.pos), sib x ∉ its.map (·.pos)) → rest.length + 1 ≤ fuel →
      Pend hp its → (pendOwned its).Nodup →
      (∀ it ∈ its, ∃ R, SubAtT F R it.pos it.t) →
      DTPost F D nm rs nl ndl full hp its
        (deTwinPolNodeLoop (H8 F.rows) fuel pre.length (its.map (PItem.np F.rows))
          ⟨hp, nm, rs, nl, ndl, full⟩) := by
  intro fuel
  induction fuel with
  | zero => intro pre rest its hp _ _ _ hf; omega
  | succ f ih =>
    intro pre rest its hp hits inv ns hf hpend hnd hsub
    cases rest with
    | nil =>
      rw [List.append_nil] at hits
      subst hits
      exact ⟨hp, its, deTwinPolNodeLoop_end (by simp) _, inv, ns, hpend,
        hnd, hsub, Nat.le_refl _, fun _ _ _ => rfl, fun i hi => Or.inl hi, fun e => Iff.rfl⟩
    | cons a rest'' =>
      have epos : its.map (·.pos) = pre.map (·.pos) ++ a.pos :: rest''.map (·.pos) := by simp [hits]
      have hga : (its.map (PItem.np F.rows))[pre.length]? = some (PItem.np F.rows a) := by
        rw [hits]; exact map_getElem?_at _ _ _ _
      have adv : (∀ nx, (its.map (PItem.np F.rows))[pre.length + 1]? = some nx →
            (rightSib (PItem.np F.rows a).2 == nx.2) = false) →
          (∀ b ∈ (rest''.map (·.pos)).head?, ¬ (a.pos.2 % 2 = 0 ∧ b = sib a.pos)) →
          DTPost F D nm rs nl ndl full hp its
            (deTwinPolNodeLoop (H8 F.rows) (f + 1) pre.length (its.map (PItem.np F.rows))
              ⟨hp, nm, rs, nl, ndl, full⟩) := by
        intro htest hne
        have ns' := Inv.zip_adv (epos ▸ inv) (epos ▸ ns) hne
        have := ih (pre ++ [a]) rest'' its hp (by rw [hits]; simp) inv
          (by rw [epos]; simpa using ns') (by simp only [List.length_cons] at hf; omega) hpend hnd hsub
        rw [deTwinPolNodeLoop_adv hga htest]
        simpa using this
      cases rest'' with
      | nil => exact adv (fun nx h => by rw [hits] at h; simp at h) (by simp)
      | cons b rest' =>
      have hgb : (its.map (PItem.np F.rows))[pre.length + 1]? = some (PItem.np F.rows b) := by
        rw [hits]; exact map_getElem?_at_succ _ _ _ _ _
      obtain ⟨L, pa, tL, fL, lL⟩ := a
      obtain ⟨Rr, pb, tR, fR, lR⟩ := b
      simp only [List.map_cons] at epos
      have hvalid : ∀ it ∈ its, ValidH F.rows it.pos := fun it hit => inv.valid (List.mem_map_of_mem hit)
      have inv1 := epos ▸ inv
      have va := inv1.valid (show pa ∈ pre.map (·.pos) ++ pa :: pb :: rest'.map (·.pos) by simp)
      have vb := inv1.valid (show pb ∈ pre.map (·.pos) ++ pa :: pb :: rest'.map (·.pos) by simp)
      have hlt : Sorted.PLt pa pb := by
        have hso := inv1.sorted
        rw [List.pairwise_append, List.pairwise_cons] at hso
        exact hso.2.1.1 pb (by simp)
      cases htest : (rightSib (E F.rows pa) == E F.rows pb) with
      | false =>
        refine adv (fun nx h => ?_) ?_
        · rw [hgb] at h; cases h; exact htest
        · intro b' hb' h
          cases Option.mem_some_iff.1 hb'
          have := (twinTest_E hr va vb hlt).2 h
          rw [htest] at this; cases this
      | true =>
        subst hits
        obtain ⟨hev, hbs⟩ := (twinTest_E hr va vb hlt).1 htest
        subst hbs
        have hrow := row_lt_of_PLt vb hlt
        have vP := ValidH.parent va hrow
        obtain ⟨RL, sL⟩ := hsub ⟨L, pa, tL, fL, lL⟩ (by simp)
        obtain ⟨RR, sR⟩ := hsub ⟨Rr, sib pa, tR, fR, lR⟩ (by simp)
        simp only [] at sL sR
        have hroot : isRootPos F.numLeaves pa = false := by
          cases h : isRootPos F.numLeaves pa with
          | false => rfl
          | true => exact (sib_root_not_inF h sR.inF (CalcGeo.sib_sib pa)).elim
        obtain ⟨_, s', hpar, hsib⟩ := sL.parent hroot
        have es' : tR = s' := (hsib.unique sR).2.symm
        subst es'
        rw [if_pos hev] at hpar
        obtain ⟨hPnot', _, eins, inv', ns', hsort', hpreP⟩ := inv1.zip_merge
        obtain ⟨⟨ln, hl, _⟩, _⟩ := hpend ⟨L, pa, tL, fL, lL⟩ (by simp)
        obtain ⟨⟨rn, hrr, _⟩, _⟩ := hpend ⟨Rr, sib pa, tR, fR, lR⟩ (by simp)
        simp only [] at hl hrr
        obtain ⟨N, hN⟩ : ∃ N : PItem H, N = ⟨hp.size, Spec.parent pa, .node tL tR,
          L :: Rr :: (fL ++ fR), lL ++ lR⟩ := ⟨_, rfl⟩
        have hNpos : N.pos = Spec.parent pa := by rw [hN]
        have hperm : (pre ++ insertBy (fun it : PItem H => E F.rows it.pos) N rest').Perm
            (N :: (pre ++ rest')) :=
          ((SortBy.insertBy_perm _ N rest').append_left pre).trans List.perm_middle
        have hperm' := hperm
        rw [hN] at hperm'
        obtain ⟨hpend1, hnd1, ndp, hfr1, hown1, hlv1⟩ := merge_items (Spec.parent pa) hpend hnd hl hrr _ hperm'
        rw [← hN] at hpend1 hnd1 hown1 hlv1
        simp only [] at hpend1 ndp hfr1
        have hpos1 : (pre ++ insertBy (fun it : PItem H => E F.rows it.pos) N rest').map (·.pos) =
            pre.map (·.pos) ++ Forest.insertSorted (Spec.parent pa) (rest'.map (·.pos)) := by
          rw [List.map_append, insertBy_pos hr N (hNpos ▸ vP) rest'
            (fun q hq => by
              obtain ⟨it, hit, rfl⟩ := List.mem_map.1 hq
              exact hvalid it (List.mem_append_right _ (List.mem_cons_of_mem _ (List.mem_cons_of_mem _ hit))))
            (by rw [hNpos]; exact fun h => hPnot' (List.mem_append_right _ h)), hNpos]
        have hsub1 : ∀ it ∈ pre ++ insertBy (fun it : PItem H => E F.rows it.pos) N rest',
            ∃ R, SubAtT F R it.pos it.t := by
          intro it hit
          rcases List.mem_cons.1 (hperm.mem_iff.1 hit) with h | hit'
          · rw [h, hN]; exact ⟨RL, hpar⟩
          · exact hsub it (mem_two_drop hit')
        have hlen : (insertBy (fun it : PItem H => E F.rows it.pos) N rest').length + 1 ≤ f := by
          rw [(SortBy.insertBy_perm _ N rest').length_eq]
          simp only [List.length_cons] at hf ⊢
          omega
        have hIH := ih pre _ _ (joinHeap hp L Rr ln rn) rfl (hpos1 ▸ inv') (hpos1 ▸ ns' (epos ▸ ns)) hlen
          hpend1 hnd1 hsub1
        have hsorted : ((pre ++ rest').map (PItem.np F.rows)).Pairwise (fun x y => x.2 ≤ y.2) := by
          have h2 : ((pre ++ rest').map (·.pos)).Pairwise Sorted.PLt := by
            rw [List.map_append]; exact hsort'
          rw [List.pairwise_map] at h2 ⊢
          refine h2.imp_of_mem (fun {x y} hx hy h => ?_)
          have := (encP_lt_iff_or hr (hvalid x (mem_two_drop hx)) (hvalid y (mem_two_drop hy))).2 h
          exact BitVec.le_of_lt this
        have hins : insertSortNodeAndPos ((pre ++ rest').map (PItem.np F.rows))
            (hp.size, Parent (E F.rows pa) (H8 F.rows)) =
            (pre ++ insertBy (fun it : PItem H => E F.rows it.pos) N rest').map (PItem.np F.rows) := by
          rw [insertSortNodeAndPos_eq _ _ hsorted, parent_E hr va hrow]
          have eN : (hp.size, E F.rows (Spec.parent pa)) = PItem.np F.rows N := by rw [hN]; rfl
          rw [eN, SortBy.insertBy_map (fun it : PItem H => E F.rows it.pos) (fun x : NP => x.2)
            (PItem.np F.rows) (fun _ => rfl), SortBy.insertBy_append]
          intro y hy hc
          have h1 : Sorted.PLt y.pos (Spec.parent pa) := hpreP _ (List.mem_map_of_mem hy)
          have := (encP_lt_iff_or hr (hvalid y (List.mem_append_left _ hy)) vP).2 h1
          rw [hNpos] at hc
          exact BitVec.lt_asymm this hc
        rw [deTwinPolNodeLoop_merge (H8 F.rows) f pre.length _ (PItem.np F.rows ⟨L, pa, tL, fL, lL⟩)
          (PItem.np F.rows ⟨Rr, sib pa, tR, fR, lR⟩) hp nm rs nl ndl full hga hgb htest
          (hpend ⟨L, pa, tL, fL, lL⟩ (by simp)) (hpend ⟨Rr, sib pa, tR, fR, lR⟩ (by simp)) hl hrr ndp,
          map_eraseIdx_twice]
        show DTPost F D nm rs nl ndl full hp _ (deTwinPolNodeLoop (H8 F.rows) f pre.length
          (insertSortNodeAndPos ((pre ++ rest').map (PItem.np F.rows))
            (hp.size, Parent (E F.rows pa) (H8 F.rows))) ⟨joinHeap hp L Rr ln rn, nm, rs, nl, ndl, full⟩)
        rw [hins]
        refine hIH.step (by rw [size_joinHeap]; omega) hfr1 ?_ hlv1
        intro i hi
        rcases (hown1 i).1 hi with h | h
        · exact Or.inr (by omega)
        · exact Or.inl h

/-- `deTwinPolNodeLoop_zip` with `its = pre ++ rest` and `DTPost` written out -/
theorem deTwinPolNodeLoop_spec {F : Forest H} {D : List H} (hr : F.rows ≤ 63)
    (nm : List (H × Nat)) (rs : List Nat) (nl ndl : U64) (full : Bool) :
    ∀ (fuel : Nat) (pre rest : List (PItem H)) (hp : Heap H),
      Inv F D ((pre ++ rest).map (·.pos)) →
      (∀ x ∈ pre.map (·.pos), sib x ∉ (pre ++ rest).map (·.pos)) → rest.length + 1 ≤ fuel →
      Pend hp (pre ++ rest) → (pendOwned (pre ++ rest)).Nodup →
      (∀ it ∈ pre ++ rest, ∃ R, SubAtT F R it.pos it.t) →
      ∃ (hp' : Heap H) (its' : List (PItem H)),
        deTwinPolNodeLoop (H8 F.rows) fuel pre.length ((pre ++ rest).map (PItem.np F.rows))
            ⟨hp, nm, rs, nl, ndl, full⟩ =
          (.ok (its'.map (PItem.np F.rows)), ⟨hp', nm, rs, nl, ndl, full⟩) ∧
        Inv F D (its'.map (·.pos)) ∧ (∀ x ∈ its'.map (·.pos), sib x ∉ its'.map (·.pos)) ∧
        Pend hp' its' ∧ (pendOwned its').Nodup ∧ (∀ it ∈ its', ∃ R, SubAtT F R it.pos it.t) ∧
        hp.size ≤ hp'.size ∧
        (∀ j, j < hp.size → j ∉ pendOwned (pre ++ rest) → hp'[j]? = hp[j]?) ∧
        (∀ i ∈ pendOwned its', i ∈ pendOwned (pre ++ rest) ∨ hp.size ≤ i) ∧
        (∀ e, e ∈ pendLeaves its' ↔ e ∈ pendLeaves (pre ++ rest)) :=
  fun fuel pre rest hp inv ns hf hpend hnd hsub =>
    deTwinPolNodeLoop_zip hr nm rs nl ndl full fuel pre rest _ hp rfl inv ns hf hpend hnd hsub

/-! ### what the model computes on an instance

The forest `F5` of `ProofUpdateDeTwin.Example` (five live leaves, trees on rows 2 and 0), undoing
the deletion of the leaves 3, 0, 1: the three fresh nodes 0, 1, 2 get the positions 3, 0, 1; the
sorted list is `[(1,0), (2,1), (0,3)]`; nodes 1 and 2 are joined under the fresh node 3 at
position 8.  (The theorems are instantiated on it in `Props/PollardHeapCExamples.lean`.) -/

section Example
open ProofUpdateDeTwin.Example

example :
    ((do let pn ← undoDelsAlloc ((D5.map (fun l => (F5.posOf l).getD (0, 0))).map (E F5.rows)) D5
         deTwinPolNode (sortBy (fun x : NP => x.2) pn) (H8 F5.rows) : PM T (List NP))
      ⟨#[], [], [], 5#64, 3#64, true⟩).1 = .ok [(0, 3#64), (3, 8#64)] := by decide +kernel

end Example

end UtreexoVerif.Proofs.PollardHeap
