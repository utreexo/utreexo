/-
  `getNewPositions` (prove.go), bit level ↔ (row, offset) level (property C07).

  The inner loop `gnpMove` of the model, run on encoded positions `E (forestRows n) ·`, is the
  pair-level fold `moveA` of `Proofs/MoveFold.lean` (`gnpMove_enc`); the outer loop `gnpLoop`
  and `getNewPositions` map every entry with a non-empty hash through `moveA` for the tree the
  entry lies in (`gnpLoop_enc`, `getNewPositions_enc`).
-/
import UtreexoVerif.Model.ProofUpdate
import UtreexoVerif.Proofs.Movement
import UtreexoVerif.Proofs.MoveFold
import UtreexoVerif.Proofs.LiftEnc

namespace UtreexoVerif.Proofs.ProofUpdateGnp
open Spec Model Hasher
open UtreexoVerif.Proofs.CalcGeo UtreexoVerif.Proofs.CalcComplete
open UtreexoVerif.Proofs.MoveFold UtreexoVerif.Proofs.SpecNodes UtreexoVerif.Proofs.SpecSubs
open UtreexoVerif.Proofs.Movement
open UtreexoVerif.Proofs.MapRep UtreexoVerif.Proofs.PosMove

/-- every deletion the inner loop may meet is a position of some tree of the forest; in the tree
on row `R` it is not the root -/
def DtOK (n R : Nat) (dt : List Pos) : Prop :=
  ∀ T ∈ dt, ∃ RT, RT ∈ treeRows n ∧ Under RT (2 * (n >>> (RT + 1))) T ∧ (RT = R → T.1 < R)

theorem DtOK.tail {n R : Nat} {T : Pos} {rest : List Pos} (h : DtOK n R (T :: rest)) :
    DtOK n R rest := fun T' hT' => h T' (List.mem_cons_of_mem _ hT')

theorem tree_unique {n R R' : Nat} {p : Pos} (hR : R ∈ treeRows n) (hR' : R' ∈ treeRows n)
    (u : Under R (2 * (n >>> (R + 1))) p) (u' : Under R' (2 * (n >>> (R' + 1))) p) : R = R' :=
  under_tree_unique (Props.C16.mem_treeRows hR) (Props.C16.mem_treeRows hR') u u'

theorem DtOK.lt {n R : Nat} (hR : R ∈ treeRows n) {dt : List Pos} (h : DtOK n R dt) :
    ∀ T ∈ dt, inTree n R T = true → T.1 < R := by
  intro T hT hin
  obtain ⟨RT, hRT, hu, hlt⟩ := h T hT
  exact hlt (tree_unique hRT hR hu ((inTree_iff _ _ _).1 hin))

theorem under_delP {R O : Nat} {c T : Pos} (hu : Under R O c) (hT : T.1 < R) : Under R O (delP T c) :=
  SpecNodes.under_iff_anc.2 ((anc_delAll_of_lt (X := (R, O)) [T] c fun d hd => by
    rw [List.mem_singleton.1 hd]; exact hT).2 (SpecNodes.under_iff_anc.1 hu))

theorem moveA_under {n R : Nat} (dt : List Pos) (c : Pos) (hu : Under R (2 * (n >>> (R + 1))) c)
    (hdt : ∀ T ∈ dt, inTree n R T = true → T.1 < R) :
    Under R (2 * (n >>> (R + 1))) (moveA n R dt c) := by
  rw [moveA_eq_delAll, SpecNodes.under_iff_anc, anc_delAll_of_lt (X := (R, 2 * (n >>> (R + 1)))) _ _ fun d hd => ?_]
  · exact SpecNodes.under_iff_anc.1 hu
  · exact hdt d (List.mem_filter.1 hd).1 (List.mem_filter.1 hd).2

theorem moveA_top {n R : Nat} (dt : List Pos) (c : Pos) (hc : c.1 = R)
    (hdt : ∀ T ∈ dt, inTree n R T = true → T.1 < R) : moveA n R dt c = c := by
  rw [moveA_eq_delAll]
  exact delAll_of_high _ fun d hd => hc ▸ hdt d (List.mem_filter.1 hd).1 (List.mem_filter.1 hd).2

theorem under_valid {n R : Nat} (hR : R ∈ treeRows n) {p : Pos}
    (hu : Under R (2 * (n >>> (R + 1))) p) : ValidH (forestRows n) p :=
  (under_inF (Props.C16.mem_treeRows hR) hu).valid

theorem root_top {n R : Nat} (hR : R ∈ treeRows n) {c : Pos}
    (hu : Under R (2 * (n >>> (R + 1))) c) (hroot : isRootPos n c = true) : c.1 = R := by
  unfold isRootPos at hroot
  simp only [Bool.and_eq_true, beq_iff_eq] at hroot
  rcases Nat.lt_or_ge c.1 R with hlt | hge
  · exfalso
    refine under_disjoint hlt (Props.C16.mem_treeRows hR) hu ⟨Nat.le_refl _, ?_⟩
    rw [Nat.sub_self, Nat.pow_zero, Nat.div_one]
    exact hroot.2
  · have := hu.1; omega

theorem idx_inj {n R R' : Nat} (hR : R ∈ treeRows n) (hR' : R' ∈ treeRows n)
    (h : BitVec.ofNat 8 ((treeRows n).idxOf R) = BitVec.ofNat 8 ((treeRows n).idxOf R')) :
    R = R' := by
  have h1 := List.idxOf_lt_length_of_mem hR
  have h1' := List.idxOf_lt_length_of_mem hR'
  have h2 : (treeRows n).length ≤ 65 := by
    rw [Spec.treeRows_length]
    exact Nat.le_trans List.countP_le_length (by simp)
  have := congrArg BitVec.toNat h
  rw [BitVec.toNat_ofNat, BitVec.toNat_ofNat, Nat.mod_eq_of_lt (by omega),
    Nat.mod_eq_of_lt (by omega)] at this
  have e := List.getElem_idxOf h1
  have e' := List.getElem_idxOf h1'
  rw [← e, ← e']
  simp only [this]

/-- the comparison of the tree indexes of a target and of a position of the tree on row `R`
(the `subtree != subtree1` test of `getNewPositions` and of the undo loops) -/
theorem treeIdx_bne {n R RT : Nat} (hR : R ∈ treeRows n) (hRT : RT ∈ treeRows n) {T : Pos}
    (huT : Under RT (2 * (n >>> (RT + 1))) T) :
    (BitVec.ofNat 8 ((treeRows n).idxOf RT) != BitVec.ofNat 8 ((treeRows n).idxOf R)) =
      !inTree n R T := by
  by_cases hRR : RT = R
  · subst hRR
    rw [(inTree_iff _ _ _).2 huT, bne_self_eq_false]; rfl
  · have hin : inTree n R T = false :=
      Bool.eq_false_iff.2 fun h => hRR (tree_unique hRT hR huT ((inTree_iff _ _ _).1 h))
    rw [hin, bne_iff_ne.2 fun h => hRR (idx_inj hRT hR h)]; rfl

theorem detect_fst {n : Nat} (hn : n ≤ 2 ^ 63) {R : Nat} (hR : R ∈ treeRows n) {p : Pos}
    (hu : Under R (2 * (n >>> (R + 1))) p) :
    (DetectOffset (E (forestRows n) p) (BitVec.ofNat 64 n)).1 =
      BitVec.ofNat 8 ((treeRows n).idxOf R) :=
  congrArg Prod.fst (EncPos.detectOffset_encP hn (under_valid hR hu) hu.1 (Props.C16.mem_treeRows hR) hu.2)

/-- the inner loop of `getNewPositions`, for ANY value of the (possibly stale) `row` argument -/
theorem gnpMove_enc {n R : Nat} (hn : n ≤ 2 ^ 63) (hR : R ∈ treeRows n) (row : U8) :
    ∀ (dt : List Pos) (c : Pos), Under R (2 * (n >>> (R + 1))) c → DtOK n R dt →
      Model.gnpMove (BitVec.ofNat 64 n) (H8 (forestRows n)) row (dt.map (E (forestRows n)))
          (E (forestRows n) c) = E (forestRows n) (moveA n R dt c) := by
  have hrows := forestRows_small hn
  intro dt
  induction dt with
  | nil => intro c _ _; rfl
  | cons T rest ih =>
    intro c hu hdt
    have hvc := under_valid hR hu
    have hlt := hdt.lt hR
    obtain ⟨RT, hRT, huT, _⟩ := hdt T List.mem_cons_self
    have hvT := under_valid hRT huT
    have hroot : isRootPositionOnRow (E (forestRows n) c) (BitVec.ofNat 64 n) row =
        (decide (row.toNat = c.1) && isRootPos n c) := EncPos.isRootPositionOnRow_encP hn hvc row
    rw [List.map_cons]
    unfold gnpMove
    rw [hroot]
    split
    · -- `break`: `c` is the root of its tree
      rename_i hc
      rw [moveA_top (T :: rest) c (root_top hR hu (Bool.and_eq_true _ _ ▸ hc).2) hlt]
    · simp only [detect_fst hn hRT huT, detect_fst hn hR hu, treeIdx_bne hR hRT huT]
      rw [moveA_cons]
      by_cases hin : inTree n R T = true
      · have hTlt := hlt T List.mem_cons_self hin
        have hTrows : T.1 < forestRows n := Nat.lt_of_lt_of_le hTlt (under_valid hR (Under.self _ _)).1
        rw [hin, if_neg (by decide), if_pos rfl, LiftEnc.isAncestor_parent_E hrows hvT hTrows hvc]
        by_cases hs : SUnder (parent T) c
        · rw [decide_eq_true hs, if_pos rfl, LiftEnc.calcNext_E hrows hvT hTrows hvc (Nat.le_of_lt_succ hs.2),
            ← delP_of_sunder hs]
          exact ih _ (under_delP hu hTlt) hdt.tail
        · rw [decide_eq_false hs, if_neg Bool.false_ne_true, delP_of_not hs]
          exact ih c hu hdt.tail
      · rw [Bool.eq_false_iff.2 hin, if_pos (show (!false) = true from rfl), if_neg Bool.false_ne_true]
        exact ih c hu hdt.tail

theorem row_lt_of_gt_max {rows r : Nat} (hr : rows ≤ 63) (hrr : r ≤ rows) {p : Pos} (hp : ValidH rows p)
    (h : E rows p > maxPossiblePosAtRow (H8 r) (H8 rows)) : r < p.1 := by
  have hmax : ValidH rows (r, 2 ^ (rows - r) - 1) :=
    ⟨hrr, Nat.sub_lt (Nat.two_pow_pos _) Nat.one_pos⟩
  rw [EncPos.maxPossiblePosAtRow_encP hr hrr] at h
  rcases (encP_lt_iff_or hr hmax hp).1 h with h1 | ⟨h1, h2⟩
  · exact h1
  · have := hp.2
    rw [← show r = p.1 from h1] at this
    exact absurd this (Nat.not_lt_of_le (Nat.le_of_pred_lt h2))

theorem gnpRow_le {rows : Nat} (hr : rows ≤ 63) {p : Pos} (hp : ValidH rows p) (fuel : Nat) (row : U8)
    (hrow : row.toNat ≤ rows) : (Model.gnpRow (H8 rows) (E rows p) fuel row).toNat ≤ rows := by
  induction fuel generalizing row with
  | zero => exact hrow
  | succ fuel ih =>
    unfold gnpRow
    split
    · rename_i hc
      have hlt := row_lt_of_gt_max hr hrow hp (by
        rw [← U8_eq_H8 row]
        exact of_decide_eq_true (Bool.and_eq_true _ _ ▸ hc).1)
      apply ih
      rw [BitVec.toNat_add, Nat.mod_eq_of_lt (by have := hp.1; show row.toNat + 1 < 256; omega)]
      exact Nat.le_trans hlt hp.1
    · exact hrow

section
variable {H : Type} [DecidableEq H] [Hasher H]

/-- The Go loop keeps `row` from one element of the slice to the next, so on an unsorted slice it may test for a root
on a stale row.  No order on `L` is needed all the same: the root test of `gnpMove` can only fire on a position that
no target moves (`moveA_top`), whatever `row` is (`gnpMove_enc` holds for any `row`). -/
theorem gnpLoop_enc {n : Nat} (hn : n ≤ 2 ^ 63) (dt : List Pos) (appendRoots : Bool) :
    ∀ (L : List (Pos × H)) (row : U8) (acc : Model.HP H), row.toNat ≤ forestRows n →
      (∀ x ∈ L, x.2 ≠ zero → ∃ R, R ∈ treeRows n ∧ Under R (2 * (n >>> (R + 1))) x.1 ∧ DtOK n R dt) →
      (appendRoots = true ∨
        ∀ x ∈ L, x.2 ≠ zero → isRootPos n (moveA n (treeRowOf n x.1) dt x.1) = false) →
      Model.gnpLoop (dt.map (E (forestRows n))) (BitVec.ofNat 64 n) (H8 (forestRows n)) appendRoots
          (L.map (fun x => (E (forestRows n) x.1, x.2))) row acc =
        acc ++ (L.filter (fun x => decide (x.2 ≠ zero))).map
          (fun x => (E (forestRows n) (moveA n (treeRowOf n x.1) dt x.1), x.2)) := by
  have hrows := forestRows_small hn
  intro L
  induction L with
  | nil => intro row acc _ _ _; simp [gnpLoop]
  | cons x L ih =>
    intro row acc hrow hL hroot
    have hL' : ∀ y ∈ L, y.2 ≠ zero →
        ∃ R, R ∈ treeRows n ∧ Under R (2 * (n >>> (R + 1))) y.1 ∧ DtOK n R dt :=
      fun y hy => hL y (List.mem_cons_of_mem _ hy)
    have hroot' : appendRoots = true ∨
        ∀ y ∈ L, y.2 ≠ zero → isRootPos n (moveA n (treeRowOf n y.1) dt y.1) = false := by
      rcases hroot with h | h
      · exact Or.inl h
      · exact Or.inr (fun y hy => h y (List.mem_cons_of_mem _ hy))
    rw [List.map_cons]
    unfold gnpLoop
    by_cases hz : x.2 = zero
    · rw [if_pos hz, List.filter_cons_of_neg (by simp [hz])]
      exact ih row acc hrow hL' hroot'
    · rw [if_neg hz, List.filter_cons_of_pos (by simp [hz]), List.map_cons]
      obtain ⟨R, hR, hu, hdt⟩ := hL x List.mem_cons_self hz
      have hvx := under_valid hR hu
      have hrow' := gnpRow_le hrows hvx 300 row hrow
      have hgt : ¬ gnpRow (H8 (forestRows n)) (E (forestRows n) x.1) 300 row > H8 (forestRows n) := by
        rw [gt_iff_lt, BitVec.lt_def, toNat_H8 hrows]; omega
      simp only [hgt, if_false]
      rw [gnpMove_enc hn hR _ dt x.1 hu hdt, treeRowOf_under hR hu]
      have happ : ∀ (a : U64 × H) (l : List (U64 × H)), acc ++ a :: l = (acc ++ [a]) ++ l := by
        intro a l; simp
      rcases hroot with h | h
      · subst h
        simp only [if_true]
        rw [ih _ _ hrow' hL' hroot', ← happ]
      · have hu' := moveA_under dt x.1 hu (hdt.lt hR)
        have hv' := under_valid hR hu'
        have hnr : isRootPositionOnRow (E (forestRows n) (moveA n R dt x.1)) (BitVec.ofNat 64 n)
            (gnpRow (H8 (forestRows n)) (E (forestRows n) x.1) 300 row) = false := by
          have h0 := h x List.mem_cons_self hz
          rw [treeRowOf_under hR hu] at h0
          exact (EncPos.isRootPositionOnRow_encP hn hv' _).trans (by rw [h0, Bool.and_false])
        simp only [hnr, Bool.not_false, if_true]
        split <;> rw [ih _ _ hrow' hL' hroot', ← happ]

theorem getNewPositions_enc {n : Nat} (hn : n ≤ 2 ^ 63) (dt : List Pos) (appendRoots : Bool)
    (L : List (Pos × H))
    (hL : ∀ x ∈ L, x.2 ≠ zero → ∃ R, R ∈ treeRows n ∧ Under R (2 * (n >>> (R + 1))) x.1 ∧ DtOK n R dt)
    (hroot : appendRoots = true ∨
        ∀ x ∈ L, x.2 ≠ zero → isRootPos n (moveA n (treeRowOf n x.1) dt x.1) = false) :
    Model.getNewPositions (dt.map (E (forestRows n))) (L.map (fun x => (E (forestRows n) x.1, x.2)))
        (BitVec.ofNat 64 n) appendRoots =
      Model.sortHP ((L.filter (fun x => decide (x.2 ≠ zero))).map
        (fun x => (E (forestRows n) (moveA n (treeRowOf n x.1) dt x.1), x.2))) := by
  unfold getNewPositions
  rw [treeRows_ofNat hn, gnpLoop_enc hn dt appendRoots L 0#8 [] (by simp) hL hroot, List.nil_append]

end

/-! ### non-vacuity: 8 leaves, the node `(1,1)` (leaves 2, 3) is deleted

The sibling `(1,0)` moves up to `(2,0)`, its children `(0,0)`, `(0,1)` to `(1,0)`, `(1,1)`.
Encoded in 3 rows: `(0,0) ↦ 0`, `(0,1) ↦ 1`, `(1,0) ↦ 8`, `(1,1) ↦ 9`, `(2,0) ↦ 12`. -/

section examples

example : forestRows 8 = 3 ∧ treeRows 8 = [3] := by decide +kernel
example : moveA 8 3 [(1, 1)] (0, 1) = (1, 1) := by decide +kernel
example : E 3 (0, 1) = 1#64 ∧ E 3 (1, 1) = 9#64 ∧ E 3 (1, 0) = 8#64 ∧ E 3 (2, 0) = 12#64 := by
  decide +kernel

private theorem ex_under (p : Pos) (hp : p = (0, 0) ∨ p = (0, 1) ∨ p = (1, 0) ∨ p = (1, 1)) :
    Under 3 (2 * (8 >>> (3 + 1))) p := by
  unfold Under
  rcases hp with rfl | rfl | rfl | rfl <;> decide

private theorem ex_dtok : DtOK 8 3 [(1, 1)] := by
  intro T hT
  rw [List.mem_singleton] at hT
  subst hT
  exact ⟨3, by decide +kernel, ex_under _ (by simp), fun _ => by decide⟩

/-- the hypotheses of `gnpMove_enc` hold on the instance, and its conclusion is the concrete
run of the model (with a stale `row = 2`, too) -/
example : Model.gnpMove 8#64 3#8 0#8 [9#64] 1#64 = 9#64 ∧
    Model.gnpMove 8#64 3#8 2#8 [9#64] 1#64 = 9#64 := by decide +kernel

example (row : U8) : Model.gnpMove (BitVec.ofNat 64 8) (H8 (forestRows 8)) row
    ([(1, 1)].map (E (forestRows 8))) (E (forestRows 8) (0, 1)) =
    E (forestRows 8) (moveA 8 3 [(1, 1)] (0, 1)) :=
  gnpMove_enc (by decide) (by decide +kernel) row _ _ (ex_under _ (by simp)) ex_dtok

private inductive Hx | z | a | b
  deriving DecidableEq

private instance : Hasher Hx := ⟨fun _ _ => Hx.a, Hx.z⟩

private def exL : List (Pos × Hx) := [((0, 0), .a), ((0, 1), .z), ((0, 1), .b), ((1, 0), .b)]

/-- the model on the instance: the entry with the empty hash is dropped, the others move -/
example : Model.getNewPositions [9#64] [(0#64, Hx.a), (1#64, Hx.z), (1#64, Hx.b), (8#64, Hx.b)]
    8#64 false = [(8#64, Hx.a), (9#64, Hx.b), (12#64, Hx.b)] := by decide +kernel

/-- `getNewPositions_enc` applies to it (`appendRoots = false`: no moved position is a root) -/
example : Model.getNewPositions ([(1, 1)].map (E (forestRows 8)))
      (exL.map (fun x => (E (forestRows 8) x.1, x.2))) (BitVec.ofNat 64 8) false =
    Model.sortHP ((exL.filter (fun x => decide (x.2 ≠ zero))).map
      (fun x => (E (forestRows 8) (moveA 8 (treeRowOf 8 x.1) [(1, 1)] x.1), x.2))) := by
  apply getNewPositions_enc (by decide)
  · intro x hx _
    refine ⟨3, by decide +kernel, ex_under _ ?_, ex_dtok⟩
    simp only [exL, List.mem_cons, List.not_mem_nil, or_false] at hx
    rcases hx with rfl | rfl | rfl | rfl <;> simp
  · right
    intro x hx _
    simp only [exL, List.mem_cons, List.not_mem_nil, or_false] at hx
    rcases hx with rfl | rfl | rfl | rfl <;> decide +kernel

end examples

end UtreexoVerif.Proofs.ProofUpdateGnp
