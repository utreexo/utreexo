/-
  Pointer forest, heap model: what a represented tree is made of.

  * `Sub hp n holder t fp lv` (PollardHeapDefs): frame lemma (untouched footprint ⇒ same tree), re-homing
    (the children of a node move to another niece holder), what it says about single nodes;
  * `Kids hp h l r` — one level of the aunt/niece encoding: `h` holds the pair `(l, r)`, both point back;
    `sel d x y` chooses by the side `d` of a child;
  * `ReprRoot`, `ReprRoots`: frame, bounds, splitting and joining the root list.
  At the top what every later file of the region uses: the tactic `perm_count` (two lists of indexes built from `::` and
  `++` are permutations of each other), `lt_of_get`, and two list facts (`nodup_length_le`, `snoc_of_length`).
-/
import UtreexoVerif.Proofs.PollardHeapDefs
set_option linter.unusedSectionVars false

namespace UtreexoVerif.Proofs.PollardHeap
open UtreexoVerif.Model.PollardHeap UtreexoVerif.Spec

variable {H : Type} [DecidableEq H] [Hasher H]

/-- permutation of lists of naturals built from `::` / `++`: compare counts -/
macro "perm_count" : tactic => `(tactic|
  (rw [List.perm_iff_count]; intro x
   simp only [List.count_append, List.count_cons, List.count_nil, Nat.add_zero, Nat.zero_add]
   first | ac_rfl | omega))

theorem Sub.frame {hp hp' : Heap H} {n holder : Nat} {t : CTree H} {fp : List Nat}
    {lv : List (H × Nat)} (h : Sub hp n holder t fp lv)
    (hn : ∀ nn, hp[n]? = some nn → ∃ nn', hp'[n]? = some nn' ∧ nn'.data = nn.data)
    (hh : ∀ x, hp[holder]? = some x → ∃ x', hp'[holder]? = some x' ∧
      x'.lNiece = x.lNiece ∧ x'.rNiece = x.rNiece)
    (hfp : ∀ i ∈ fp, hp'[i]? = hp[i]?) : Sub hp' n holder t fp lv := by
  induction h with
  | leaf h1 h2 h3 h4 h5 =>
    obtain ⟨nn', e1, e2⟩ := hn _ h1
    obtain ⟨hn', e3, e4, e5⟩ := hh _ h3
    exact Sub.leaf e1 (e2.trans h2) e3 (e4.trans h4) (e5.trans h5)
  | @node n holder l r nn hn0 ln rn a b fa fb la lb h1 h2 h3 h4 h5 h6 h7 h8 h9 sa sb iha ihb =>
    obtain ⟨nn', e1, e2⟩ := hn _ h1
    obtain ⟨hn', e3, e4, e5⟩ := hh _ h3
    have el : hp'[l]? = hp[l]? := hfp l (by simp)
    have er : hp'[r]? = hp[r]? := hfp r (by simp)
    refine Sub.node e1 (e2.trans h2) e3 (e4.trans h4) (e5.trans h5) (el.trans h6) (er.trans h7) h8 h9 ?_ ?_
    · apply iha
      · intro x hx; exact ⟨x, by rw [el]; exact hx, rfl⟩
      · intro x hx; exact ⟨x, by rw [er]; exact hx, rfl, rfl⟩
      · intro i hi; exact hfp i (by simp [hi])
    · apply ihb
      · intro x hx; exact ⟨x, by rw [er]; exact hx, rfl⟩
      · intro x hx; exact ⟨x, by rw [el]; exact hx, rfl, rfl⟩
      · intro i hi; exact hfp i (by simp [hi])

theorem Sub.frame_of {hp hp' : Heap H} {n h : Nat} {t : CTree H} {fp : List Nat}
    {lv : List (H × Nat)} {nn nn' hn hn' : PolNode H} (hs : Sub hp n h t fp lv)
    (en : hp[n]? = some nn) (en' : hp'[n]? = some nn') (ed : nn'.data = nn.data)
    (eh : hp[h]? = some hn) (eh' : hp'[h]? = some hn') (el : hn'.lNiece = hn.lNiece)
    (er : hn'.rNiece = hn.rNiece) (hfp : ∀ i ∈ fp, hp'[i]? = hp[i]?) : Sub hp' n h t fp lv :=
  hs.frame (fun x hx => by rw [en] at hx; cases hx; exact ⟨_, en', ed⟩)
    (fun x hx => by rw [eh] at hx; cases hx; exact ⟨_, eh', el, er⟩) hfp

theorem lt_of_get {hp : Heap H} {i : Nat} {x : PolNode H} (h : hp[i]? = some x) : i < hp.size := by
  rcases Nat.lt_or_ge i hp.size with h' | h'
  · exact h'
  · rw [Array.getElem?_eq_none h'] at h; cases h

theorem nodup_length_le {l : List Nat} {n : Nat} (nd : l.Nodup) (h : ∀ i ∈ l, i < n) :
    l.length ≤ n := by
  have := List.Nodup.length_le_of_subset (l₂ := List.range n) nd
    (fun i hi => List.mem_range.2 (h i hi))
  simpa using this

theorem snoc_of_length {α : Type} {l : List α} {k : Nat} (h : l.length = k + 1) :
    ∃ init x, l = init ++ [x] ∧ init.length = k := by
  rcases List.eq_nil_or_concat l with rfl | ⟨l', b, rfl⟩
  · simp at h
  · exact ⟨l', b, List.concat_eq_append .., by simpa using h⟩

theorem Sub.fp_lt {hp : Heap H} {n holder : Nat} {t : CTree H} {fp : List Nat}
    {lv : List (H × Nat)} (h : Sub hp n holder t fp lv) : ∀ i ∈ fp, i < hp.size := by
  induction h with
  | leaf => intro i hi; cases hi
  | @node n holder l r nn hn0 ln rn a b fa fb la lb h1 h2 h3 h4 h5 h6 h7 h8 h9 sa sb iha ihb =>
    intro i hi
    simp only [List.mem_cons, List.mem_append] at hi
    rcases hi with rfl | rfl | hi | hi
    · exact lt_of_get h6
    · exact lt_of_get h7
    · exact iha i hi
    · exact ihb i hi

theorem Sub.hash {hp : Heap H} {n holder : Nat} {t : CTree H} {fp : List Nat}
    {lv : List (H × Nat)} (h : Sub hp n holder t fp lv) : ∃ nn, hp[n]? = some nn ∧ nn.data = t.hash := by
  cases h with
  | leaf h1 h2 => exact ⟨_, h1, h2⟩
  | node h1 h2 => exact ⟨_, h1, h2⟩

theorem Sub.data_eq {hp : Heap H} {n h : Nat} {t : CTree H} {fp : List Nat} {lv : List (H × Nat)}
    (s : Sub hp n h t fp lv) {x : PolNode H} (e : hp[n]? = some x) : x.data = t.hash := by
  obtain ⟨y, ey, dy⟩ := s.hash
  cases e.symm.trans ey
  exact dy

theorem Sub.leaves {hp : Heap H} {n holder : Nat} {t : CTree H} {fp : List Nat}
    {lv : List (H × Nat)} (h : Sub hp n holder t fp lv) : lv.map (·.1) = t.leaves := by
  induction h with
  | leaf => simp [CTree.leaves]
  | node _ _ _ _ _ _ _ _ _ _ _ iha ihb => simp [CTree.leaves, iha, ihb]

theorem Sub.leaf_mem {hp : Heap H} {n holder : Nat} {t : CTree H} {fp : List Nat}
    {lv : List (H × Nat)} (h : Sub hp n holder t fp lv) :
    ∀ e ∈ lv, (e.2 = n ∨ e.2 ∈ fp) ∧ ∃ x, hp[e.2]? = some x ∧ x.data = e.1 := by
  induction h with
  | leaf h1 h2 => intro e he; simp at he; subst he; exact ⟨Or.inl rfl, _, h1, h2⟩
  | @node n holder l r nn hn0 ln rn a b fa fb la lb h1 h2 h3 h4 h5 h6 h7 h8 h9 sa sb iha ihb =>
    intro e he
    rw [List.mem_append] at he
    rcases he with he | he
    · obtain ⟨h1, h2⟩ := iha e he
      refine ⟨Or.inr ?_, h2⟩
      rcases h1 with h1 | h1 <;> simp [h1]
    · obtain ⟨h1, h2⟩ := ihb e he
      refine ⟨Or.inr ?_, h2⟩
      rcases h1 with h1 | h1 <;> simp [h1]

theorem Sub.leaf_inv {hp : Heap H} {n h : Nat} {x : H} {fp : List Nat} {lv : List (H × Nat)}
    (s : Sub hp n h (.leaf x) fp lv) : lv = [(x, n)] := by
  cases s; rfl

theorem sub_shape {hp : Heap H} {n h : Nat} {b : CTree H} {fp : List Nat} {lv : List (H × Nat)}
    (s : Sub hp n h b fp lv) :
    (∃ x B, b = .leaf x ∧ lv = [(x, B)]) ∨ (∃ u v, b = CTree.node u v) := by
  cases b with
  | leaf x => exact Or.inl ⟨x, n, rfl, s.leaf_inv⟩
  | node u v => exact Or.inr ⟨u, v, rfl⟩

/-- the leaves of a sub-tree whose top node moved to `n'` -/
def relabelTop (t : CTree H) (n' : Nat) (lv : List (H × Nat)) : List (H × Nat) :=
  match t with
  | .leaf x => [(x, n')]
  | .node _ _ => lv

/-- Re-homing: the children of `n` hung off `h`; in `hp'` the top node is `n'` (`*toNode = *fromNode`
copies it), the niece pointers of `h'` are those `h` had, the two nieces point back to `h'`,
everything else below is untouched. -/
theorem Sub.rehome' {hp hp' : Heap H} {n n' h h' : Nat} {t : CTree H} {fp : List Nat}
    {lv : List (H × Nat)} (hs : Sub hp n h t fp lv) (nd : fp.Nodup)
    (hn : ∀ nn, hp[n]? = some nn → ∃ nn', hp'[n']? = some nn' ∧ nn'.data = nn.data)
    (hh : ∀ x, hp[h]? = some x → ∃ x', hp'[h']? = some x' ∧
      x'.lNiece = x.lNiece ∧ x'.rNiece = x.rNiece)
    (htop : ∀ x i old, hp[h]? = some x → (x.lNiece = some i ∨ x.rNiece = some i) →
      hp[i]? = some old → hp'[i]? = some { old with aunt := some h' })
    (hrest : ∀ x i, hp[h]? = some x → i ∈ fp → x.lNiece ≠ some i → x.rNiece ≠ some i →
      hp'[i]? = hp[i]?) : Sub hp' n' h' t fp (relabelTop t n' lv) := by
  cases hs with
  | leaf h1 h2 h3 h4 h5 =>
    obtain ⟨nn', e1, e2⟩ := hn _ h1
    obtain ⟨hn', e3, e4, e5⟩ := hh _ h3
    exact Sub.leaf e1 (e2.trans h2) e3 (e4.trans h4) (e5.trans h5)
  | node h1 h2 h3 h4 h5 h6 h7 h8 h9 sa sb =>
    rename_i l r nn hn0 ln rn a b fa fb la lb
    obtain ⟨nn', e1, e2⟩ := hn _ h1
    obtain ⟨hn', e3, e4, e5⟩ := hh _ h3
    have el := htop hn0 l ln h3 (Or.inl h4) h6
    have er := htop hn0 r rn h3 (Or.inr h5) h7
    simp only [List.nodup_cons, List.mem_cons, List.mem_append, not_or, List.nodup_append] at nd
    obtain ⟨⟨hlr, hlfa, hlfb⟩, ⟨hrfa, hrfb⟩, nda, ndb, hdisj⟩ := nd
    have hother : ∀ i, i ∈ fa ∨ i ∈ fb → hp'[i]? = hp[i]? := by
      intro i hi
      apply hrest hn0 i h3 (by simp; rcases hi with hi | hi <;> simp [hi])
      · rw [h4]; intro e; cases e; rcases hi with hi | hi
        · exact hlfa hi
        · exact hlfb hi
      · rw [h5]; intro e; cases e; rcases hi with hi | hi
        · exact hrfa hi
        · exact hrfb hi
    refine Sub.node e1 (e2.trans h2) e3 (e4.trans h4) (e5.trans h5) el er rfl rfl ?_ ?_
    · apply sa.frame
      · intro x hx; rw [h6] at hx; cases hx; exact ⟨_, el, rfl⟩
      · intro x hx; rw [h7] at hx; cases hx; exact ⟨_, er, rfl, rfl⟩
      · intro i hi; exact hother i (Or.inl hi)
    · apply sb.frame
      · intro x hx; rw [h7] at hx; cases hx; exact ⟨_, er, rfl⟩
      · intro x hx; rw [h6] at hx; cases hx; exact ⟨_, el, rfl, rfl⟩
      · intro i hi; exact hother i (Or.inr hi)

theorem Sub.relabelTop_self {hp : Heap H} {n h : Nat} {t : CTree H} {fp : List Nat}
    {lv : List (H × Nat)} (hs : Sub hp n h t fp lv) : relabelTop t n lv = lv := by
  cases hs <;> rfl

theorem Sub.rehome {hp hp' : Heap H} {n h h' : Nat} {t : CTree H} {fp : List Nat}
    {lv : List (H × Nat)} (hs : Sub hp n h t fp lv) (nd : fp.Nodup)
    (hn : ∀ nn, hp[n]? = some nn → ∃ nn', hp'[n]? = some nn' ∧ nn'.data = nn.data)
    (hh : ∀ x, hp[h]? = some x → ∃ x', hp'[h']? = some x' ∧
      x'.lNiece = x.lNiece ∧ x'.rNiece = x.rNiece)
    (htop : ∀ x i old, hp[h]? = some x → (x.lNiece = some i ∨ x.rNiece = some i) →
      hp[i]? = some old → hp'[i]? = some { old with aunt := some h' })
    (hrest : ∀ x i, hp[h]? = some x → i ∈ fp → x.lNiece ≠ some i → x.rNiece ≠ some i →
      hp'[i]? = hp[i]?) : Sub hp' n h' t fp lv := by
  have := hs.rehome' nd hn hh htop hrest
  rwa [hs.relabelTop_self] at this

theorem Sub.retop {hp : Heap H} {n n' h : Nat} {t : CTree H} {fp : List Nat} {lv : List (H × Nat)}
    {x x' : PolNode H} (hs : Sub hp n h t fp lv) (e : hp[n]? = some x) (e' : hp[n']? = some x')
    (d : x'.data = x.data) : Sub hp n' h t fp (relabelTop t n' lv) := by
  cases hs with
  | leaf h1 h2 h3 h4 h5 => cases e.symm.trans h1; exact Sub.leaf e' (d.trans h2) h3 h4 h5
  | node h1 h2 h3 h4 h5 h6 h7 h8 h9 sa sb =>
    cases e.symm.trans h1
    exact Sub.node e' (d.trans h2) h3 h4 h5 h6 h7 h8 h9 sa sb

def isKid (x : PolNode H) (j : Nat) : Prop := x.lNiece = some j ∨ x.rNiece = some j

instance (x : PolNode H) (j : Nat) : Decidable (isKid x j) := by unfold isKid; infer_instance

theorem Sub.kid_mem {hp : Heap H} {n h : Nat} {t : CTree H} {fp : List Nat} {lv : List (H × Nat)}
    {hn : PolNode H} {j : Nat} (hs : Sub hp n h t fp lv) (e : hp[h]? = some hn) (k : isKid hn j) :
    j ∈ fp := by
  cases hs with
  | leaf h1 h2 h3 h4 h5 =>
    rw [e] at h3; cases h3
    rcases k with k | k
    · rw [h4] at k; cases k
    · rw [h5] at k; cases k
  | node h1 h2 h3 h4 h5 =>
    rw [e] at h3; cases h3
    rcases k with k | k
    · rw [h4] at k; cases k; simp
    · rw [h5] at k; cases k; simp

theorem Sub.kid_exists {hp : Heap H} {n h : Nat} {t : CTree H} {fp : List Nat} {lv : List (H × Nat)}
    {hn : PolNode H} {j : Nat} (hs : Sub hp n h t fp lv) (e : hp[h]? = some hn) (k : isKid hn j) :
    ∃ x, hp[j]? = some x ∧ x.aunt = some h := by
  cases hs with
  | leaf h1 h2 h3 h4 h5 =>
    rw [e] at h3; cases h3
    rcases k with k | k
    · rw [h4] at k; cases k
    · rw [h5] at k; cases k
  | node h1 h2 h3 h4 h5 h6 h7 h8 h9 =>
    rw [e] at h3; cases h3
    rcases k with k | k
    · rw [h4] at k; cases k; exact ⟨_, h6, h8⟩
    · rw [h5] at k; cases k; exact ⟨_, h7, h9⟩

theorem Sub.both_or_none {hp : Heap H} {n h : Nat} {t : CTree H} {fp : List Nat} {lv : List (H × Nat)}
    {hn : PolNode H} (hs : Sub hp n h t fp lv) (e : hp[h]? = some hn) :
    hn.lNiece = none → hn.rNiece = none := by
  cases hs with
  | leaf h1 h2 h3 h4 h5 => rw [e] at h3; cases h3; exact fun _ => h5
  | node h1 h2 h3 h4 h5 => rw [e] at h3; cases h3; intro h; rw [h4] at h; cases h

/-- choice by the side `d` of a child: `x` for the left one (`d = false`), `y` for the right one -/
abbrev sel {α : Type} (d : Bool) (x y : α) : α := bif d then y else x

/-- the leaves around a hole and around its parent: left of the hole, the hole, right of the hole =
left of the parent, the parent (the hole and its sibling in their order), right of the parent -/
theorem sel_hole {α : Type} (d : Bool) (l1 lc ls l2 : List α) :
    sel d l1 (l1 ++ ls) ++ lc ++ sel d (ls ++ l2) l2 = l1 ++ sel d (lc ++ ls) (ls ++ lc) ++ l2 := by
  cases d <;> simp [List.append_assoc]

theorem sel_hole_nil {α : Type} (d : Bool) (l1 ls l2 : List α) :
    sel d l1 (l1 ++ ls) ++ sel d (ls ++ l2) l2 = l1 ++ ls ++ l2 := by
  cases d <;> simp [List.append_assoc]

theorem sel_ind {α : Type} {P : α → Prop} (d : Bool) {x y : α} (hx : P x) (hy : P y) : P (sel d x y) := by
  cases d
  · exact hx
  · exact hy

structure Kids (hp : Heap H) (h l r : Nat) : Prop where
  holder : ∃ hn, hp[h]? = some hn ∧ hn.lNiece = some l ∧ hn.rNiece = some r
  left : ∃ ln, hp[l]? = some ln ∧ ln.aunt = some h
  right : ∃ rn, hp[r]? = some rn ∧ rn.aunt = some h

theorem Kids.sel_c {hp : Heap H} {h c s : Nat} {d : Bool} (k : Kids hp h (sel d c s) (sel d s c)) :
    (∃ cn, hp[c]? = some cn ∧ cn.aunt = some h) ∧ (∃ sn, hp[s]? = some sn ∧ sn.aunt = some h) := by
  cases d
  · exact ⟨k.left, k.right⟩
  · exact ⟨k.right, k.left⟩

theorem Kids.of_sel_c {hp : Heap H} {h c s : Nat} {d : Bool}
    (kh : ∃ hn, hp[h]? = some hn ∧ hn.lNiece = some (sel d c s) ∧ hn.rNiece = some (sel d s c))
    (kc : ∃ cn, hp[c]? = some cn ∧ cn.aunt = some h) (ks : ∃ sn, hp[s]? = some sn ∧ sn.aunt = some h) :
    Kids hp h (sel d c s) (sel d s c) := by
  cases d
  · exact ⟨kh, kc, ks⟩
  · exact ⟨kh, ks, kc⟩

theorem Kids.order {hp : Heap H} {h c s : Nat} {d : Bool} {hn : PolNode H}
    (k : Kids hp h (sel d c s) (sel d s c)) (e : hp[h]? = some hn) :
    if d then (hn.lNiece = some s ∧ hn.rNiece = some c) else (hn.lNiece = some c ∧ hn.rNiece = some s) := by
  obtain ⟨⟨hn', e', k1, k2⟩, _, _⟩ := k
  cases e.symm.trans e'
  cases d
  · exact ⟨k1, k2⟩
  · exact ⟨k1, k2⟩

/-- which of the pair is the left niece, as the tests of the Go code see it -/
theorem Kids.flags {hp : Heap H} {h c s : Nat} {d : Bool} {hn : PolNode H}
    (k : Kids hp h (sel d c s) (sel d s c)) (hcs : c ≠ s) (e : hp[h]? = some hn) :
    decide (hn.lNiece = some c) = !d ∧ decide (hn.lNiece = some s) = d := by
  have o := k.order e
  cases d
  · exact ⟨decide_eq_true o.1, decide_eq_false (by rw [o.1]; exact fun e => hcs (Option.some.inj e))⟩
  · exact ⟨decide_eq_false (by rw [o.1]; exact fun e => hcs (Option.some.inj e).symm), decide_eq_true o.1⟩

theorem Kids.isKid {hp : Heap H} {h c s : Nat} {d : Bool} {hn : PolNode H}
    (k : Kids hp h (sel d c s) (sel d s c)) (e : hp[h]? = some hn) : isKid hn c ∧ isKid hn s := by
  have o := k.order e
  cases d
  · exact ⟨Or.inl o.1, Or.inr o.2⟩
  · exact ⟨Or.inr o.2, Or.inl o.1⟩

theorem ReprRoot.frame {hp hp' : Heap H} {r : Nat} {t : Option (CTree H)} {fp : List Nat}
    {lv : List (H × Nat)} (h : ReprRoot hp r t fp lv) (e : ∀ i ∈ r :: fp, hp'[i]? = hp[i]?) :
    ReprRoot hp' r t fp lv := by
  have er := e r (by simp)
  cases t with
  | none =>
    obtain ⟨⟨rn, h1, h2⟩, h3, h4⟩ := h
    exact ⟨⟨rn, er.trans h1, h2⟩, h3, h4⟩
  | some t =>
    obtain ⟨⟨rn, h1, h2⟩, hs⟩ := h
    refine ⟨⟨rn, er.trans h1, h2⟩, hs.frame ?_ ?_ ?_⟩
    · intro x hx; exact ⟨x, er.trans hx, rfl⟩
    · intro x hx; exact ⟨x, er.trans hx, rfl, rfl⟩
    · intro i hi; exact e i (by simp [hi])

theorem ReprRoot.lt {hp : Heap H} {r : Nat} {t : Option (CTree H)} {fp : List Nat}
    {lv : List (H × Nat)} (h : ReprRoot hp r t fp lv) : ∀ i ∈ r :: fp, i < hp.size := by
  intro i hi
  cases t with
  | none =>
    obtain ⟨⟨rn, h1, h2⟩, h3, h4⟩ := h
    subst h3
    simp at hi; subst hi; exact lt_of_get h1
  | some t =>
    obtain ⟨⟨rn, h1, h2⟩, hs⟩ := h
    simp at hi
    rcases hi with rfl | hi
    · exact lt_of_get h1
    · exact hs.fp_lt i hi

theorem ReprRoots.frame {hp hp' : Heap H} {rs : List Nat} {ts : List (Option (CTree H))}
    {owned : List Nat} {lv : List (H × Nat)} (h : ReprRoots hp rs ts owned lv)
    (e : ∀ i ∈ owned, hp'[i]? = hp[i]?) : ReprRoots hp' rs ts owned lv := by
  induction h with
  | nil => exact ReprRoots.nil
  | cons h1 h2 ih =>
    refine ReprRoots.cons (h1.frame ?_) (ih ?_)
    · intro i hi; apply e; simp at hi ⊢; rcases hi with h | h <;> simp [h]
    · intro i hi; apply e; simp [hi]

theorem ReprRoots.lt {hp : Heap H} {rs : List Nat} {ts : List (Option (CTree H))}
    {owned : List Nat} {lv : List (H × Nat)} (h : ReprRoots hp rs ts owned lv) :
    ∀ i ∈ owned, i < hp.size := by
  induction h with
  | nil => intro i hi; cases hi
  | cons h1 h2 ih =>
    intro i hi
    simp only [List.cons_append, List.mem_cons, List.mem_append] at hi
    rcases hi with rfl | hi | hi
    · exact h1.lt _ (by simp)
    · exact h1.lt _ (by simp [hi])
    · exact ih i hi

theorem ReprRoots.length_eq {hp : Heap H} {rs : List Nat} {ts : List (Option (CTree H))}
    {owned : List Nat} {lv : List (H × Nat)} (h : ReprRoots hp rs ts owned lv) :
    rs.length = ts.length := by
  induction h with
  | nil => rfl
  | cons _ _ ih => simp [ih]

theorem ReprRoots.append {hp : Heap H} {rs1 rs2 : List Nat} {ts1 ts2 : List (Option (CTree H))}
    {o1 o2 : List Nat} {l1 l2 : List (H × Nat)} (h1 : ReprRoots hp rs1 ts1 o1 l1)
    (h2 : ReprRoots hp rs2 ts2 o2 l2) : ReprRoots hp (rs1 ++ rs2) (ts1 ++ ts2) (o1 ++ o2) (l1 ++ l2) := by
  induction h1 with
  | nil => simpa using h2
  | cons a b ih =>
    have := ReprRoots.cons a ih
    simpa [List.append_assoc] using this

theorem ReprRoots.append_inv {hp : Heap H} : ∀ {ts1 ts2 : List (Option (CTree H))} {rs owned : List Nat}
    {lv : List (H × Nat)}, ReprRoots hp rs (ts1 ++ ts2) owned lv →
    ∃ rs1 rs2 o1 o2 l1 l2, rs = rs1 ++ rs2 ∧ owned = o1 ++ o2 ∧ lv = l1 ++ l2 ∧
      ReprRoots hp rs1 ts1 o1 l1 ∧ ReprRoots hp rs2 ts2 o2 l2 := by
  intro ts1
  induction ts1 with
  | nil =>
    intro ts2 rs owned lv h
    exact ⟨[], rs, [], owned, [], lv, rfl, rfl, rfl, ReprRoots.nil, h⟩
  | cons t ts1 ih =>
    intro ts2 rs owned lv h
    cases h with
    | cons a b =>
      obtain ⟨rs1, rs2, o1, o2, l1, l2, e1, e2, e3, h1, h2⟩ := ih b
      subst e1 e2 e3
      exact ⟨_ :: rs1, rs2, _ :: _ ++ o1, o2, _ ++ l1, l2, rfl, by simp, by simp,
        ReprRoots.cons a h1, h2⟩

theorem ReprRoots.single_inv {hp : Heap H} {t : Option (CTree H)} {rs owned : List Nat}
    {lv : List (H × Nat)} (h : ReprRoots hp rs [t] owned lv) :
    ∃ r fp, rs = [r] ∧ owned = r :: fp ∧ ReprRoot hp r t fp lv := by
  cases h with
  | cons a b =>
    cases b
    rename_i r fp lv
    exact ⟨r, fp, rfl, by simp, by simpa using a⟩

theorem ReprRoots.single {hp : Heap H} {t : Option (CTree H)} {r : Nat} {fp : List Nat}
    {lv : List (H × Nat)} (h : ReprRoot hp r t fp lv) : ReprRoots hp [r] [t] (r :: fp) lv := by
  have := ReprRoots.cons h ReprRoots.nil
  simpa using this

end UtreexoVerif.Proofs.PollardHeap
