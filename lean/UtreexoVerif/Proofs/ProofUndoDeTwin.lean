/-
  `deTwinHashAndPos` (prove.go) visits the same positions as `deTwin` (property C08):
  on the sorted positions of the deleted leaves (any hashes attached), its position list is
  `deTwin`'s result — the ascending list of the maximal fully-deleted subtrees.
-/
import UtreexoVerif.Proofs.ProofUpdateDeTwin

namespace UtreexoVerif.Proofs.ProofUndoDeTwin
open Spec Hasher Model
open UtreexoVerif.Proofs.CalcGeo UtreexoVerif.Proofs.Sorted UtreexoVerif.Proofs.Movement
open UtreexoVerif.Proofs.ProofUpdateDeTwin

section
variable {H : Type}

theorem mergeHP_single_positions : ∀ (X : HP H) (P : U64) (h : H), P ∉ X.positions →
    (mergeHP X [(P, h)]).positions = insertInOrder X.positions P := by
  intro X
  induction X with
  | nil => intro P h _; simp [mergeHP, HP.positions, insertInOrder]
  | cons x xs ih =>
    intro P h hP
    have hne : x.1 ≠ P := by
      intro e
      apply hP
      simp [HP.positions, e]
    have hP' : P ∉ HP.positions xs := by
      intro hm
      apply hP
      simp only [HP.positions, List.map_cons, List.mem_cons]
      exact Or.inr hm
    rw [mergeHP]
    simp only [HP.positions, List.map_cons, insertInOrder]
    by_cases h1 : x.1 < P
    · rw [if_pos h1, if_neg (fun h' => BitVec.lt_irrefl _ (BitVec.lt_trans h1 h'))]
      simp only [List.map_cons]
      congr 1
      exact ih P h hP'
    · have h2 : P < x.1 :=
        BitVec.lt_of_le_ne (BitVec.not_lt.1 h1) (fun e => hne e.symm)
      rw [if_neg h1, if_pos h2, if_pos (by show P < x.1; exact h2)]
      simp [mergeHP]

theorem positions_eraseIdx (d : HP H) (i : Nat) :
    HP.positions (d.eraseIdx i) = d.positions.eraseIdx i := by
  unfold HP.positions
  exact map_eraseIdx _ _ _

variable [Hasher H]

/-- The loop of `deTwinHashAndPos` and the loop of `deTwin` make the same moves on the positions, as long as an
invariant `Q` of the position list guarantees that a merged parent is not yet in the list (then the `mergeHP` of
one entry is `insertInOrder`).  Nothing about forests enters here. -/
theorem deTwinHP_positions (rows : U8) (Q : List U64 → Prop)
    (hstep : ∀ (d : List U64) (i : Nat) (a b : U64), Q d → d[i]? = some a → d[i+1]? = some b →
      (rightSib a == b) = true →
      Parent a rows ∉ (d.eraseIdx i).eraseIdx i ∧
        Q (insertInOrder ((d.eraseIdx i).eraseIdx i) (Parent a rows))) :
    ∀ (fuel i : Nat) (d : HP H), Q d.positions →
      (deTwinHPLoop rows fuel i d).positions = deTwinLoop rows fuel i d.positions := by
  intro fuel
  induction fuel with
  | zero => intro i d _; rfl
  | succ f ih =>
    intro i d hQ
    have hg : ∀ j : Nat, (HP.positions d)[j]? = (d[j]?).map (fun z : U64 × H => z.1) := by
      intro j; unfold HP.positions; rw [List.getElem?_map]
    unfold deTwinHPLoop deTwinLoop
    rw [hg i, hg (i + 1)]
    cases h1 : d[i]? with
    | none => rfl
    | some a =>
      cases h2 : d[i + 1]? with
      | none => rfl
      | some b =>
        simp only [Option.map_some]
        by_cases h3 : (rightSib a.1 == b.1) = true
        · rw [if_pos h3, if_pos h3]
          have hp1 : d.positions[i]? = some a.1 := by rw [hg, h1]; rfl
          have hp2 : d.positions[i + 1]? = some b.1 := by rw [hg, h2]; rfl
          obtain ⟨hnot, hQ'⟩ := hstep d.positions i a.1 b.1 hQ hp1 hp2 h3
          have hpos : HP.positions (mergeHP ((d.eraseIdx i).eraseIdx i) [(Parent a.1 rows, ph a.2 b.2)]) =
              insertInOrder ((d.positions.eraseIdx i).eraseIdx i) (Parent a.1 rows) := by
            rw [mergeHP_single_positions _ _ _ (by
              rw [positions_eraseIdx, positions_eraseIdx]; exact hnot),
              positions_eraseIdx, positions_eraseIdx]
          rw [← hpos]
          apply ih
          rw [hpos]
          exact hQ'
        · rw [if_neg h3, if_neg h3]
          exact ih (i + 1) d hQ

variable [DecidableEq H]

/-- The `Q` of `deTwinHP_positions` is "the list is the encoding of a list satisfying `ProofUpdateDeTwin.Inv`";
the merged parent is new by `Inv.zip_merge`. -/
theorem deTwinHashAndPos_positions {F : Forest H} (hn : F.numLeaves ≤ 2 ^ 63)
    {D : List H} (hlive : ∀ x ∈ D, x ∈ F.liveLeaves)
    (d : HP H) (hd : d.positions = (Forest.sortDedup (leafPositions F D)).map (E F.rows)) :
    (deTwinHashAndPos d (H8 F.rows)).positions = deTwin d.positions (H8 F.rows) := by
  have hr : F.rows ≤ 63 := forestRows_small hn
  unfold deTwinHashAndPos deTwin
  have hlen : d.length = d.positions.length := by simp [HP.positions]
  rw [hlen]
  apply deTwinHP_positions (H8 F.rows) (fun l => ∃ dp : List Pos, l = dp.map (E F.rows) ∧ Inv F D dp)
  · rintro l i a b ⟨dp, rfl, inv⟩ h1 h2 h3
    rw [List.getElem?_map] at h1 h2
    cases hpa : dp[i]? with
    | none => rw [hpa] at h1; cases h1
    | some pa =>
      cases hpb : dp[i + 1]? with
      | none => rw [hpb] at h2; cases h2
      | some pb =>
        rw [hpa] at h1
        rw [hpb] at h2
        simp only [Option.map_some, Option.some.injEq] at h1 h2
        subst h1 h2
        obtain ⟨hsplit, hlenpre⟩ := split_at dp i pa pb hpa hpb
        generalize dp.take i = pre at hsplit hlenpre
        generalize dp.drop (i + 2) = rest' at hsplit
        subst hsplit
        subst hlenpre
        have va := inv.valid (show pa ∈ pre ++ pa :: pb :: rest' by simp)
        have vb := inv.valid (show pb ∈ pre ++ pa :: pb :: rest' by simp)
        have hlt : PLt pa pb := by
          have hso := inv.sorted
          rw [List.pairwise_append, List.pairwise_cons] at hso
          exact hso.2.1.1 pb (by simp)
        obtain ⟨_, hbs⟩ := (twinTest_E hr va vb hlt).1 h3
        subst hbs
        have hrow := row_lt_of_PLt vb hlt
        have vP := ValidH.parent va hrow
        obtain ⟨hPnot', hsub, eins, inv', _⟩ := inv.zip_merge
        have hvalid' : ∀ q ∈ pre ++ rest', ValidH F.rows q := fun q hq => inv.valid (hsub q hq)
        rw [map_eraseIdx_twice, parent_E hr va hrow]
        refine ⟨?_, ⟨_, insertInOrder_map hr vP _ hvalid' hPnot', eins ▸ inv'⟩⟩
        intro hm
        obtain ⟨q, hq, e⟩ := List.mem_map.1 hm
        have := encP_inj hr (hvalid' q hq) vP e
        rw [this] at hq
        exact hPnot' hq
  · exact ⟨_, hd, Inv.init hn hlive⟩

/-- `ProofUpdateDeTwin.deTwin_spec_full` at `rows := F.rows`, in the form `proofUndoDel` uses it: with the sorted
input written as the encoding of the sorted positions, and with the clause that no two results are siblings. -/
theorem deTwin_spec' {F : Forest H} (hn : F.numLeaves ≤ 2 ^ 63) (hnd : F.liveLeaves.Nodup)
    {D : List H} (hD : D.Nodup) (hlive : ∀ x ∈ D, x ∈ F.liveLeaves) :
    ∃ dtp : List Pos,
      Model.deTwin (Model.sortU64 ((D.map (fun l => (F.posOf l).getD (0, 0))).map (E F.rows)))
        (H8 F.rows) = dtp.map (E F.rows) ∧
      Model.sortU64 ((D.map (fun l => (F.posOf l).getD (0, 0))).map (E F.rows)) =
        (Forest.sortDedup (leafPositions F D)).map (E F.rows) ∧
      dtp.Pairwise PLt ∧ (∀ T, T ∈ dtp ↔ IsDT F D T) ∧ ∀ x ∈ dtp, sib x ∉ dtp := by
  have hr : F.rows ≤ 63 := forestRows_small hn
  obtain ⟨dtp, h1, _, h3, h4, h5⟩ := deTwin_spec_full hn hnd hD hlive (Nat.le_refl _) hr
  exact ⟨dtp, h1, sortU64_map_E hr (leafPositions F D) (leafPositions_valid hn hlive)
    (leafPositions_nodup hn hD hlive), h4, h5, h3⟩

end
end UtreexoVerif.Proofs.ProofUndoDeTwin
