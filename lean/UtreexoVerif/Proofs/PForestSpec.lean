/-
  The specification forest as a placed forest (`ofForest`), leaf hygiene (`Hyg`), and the laws
  of its node list.
-/
import UtreexoVerif.Proofs.PForest
import UtreexoVerif.Proofs.MapInv
import UtreexoVerif.Proofs.CalcComplete

namespace UtreexoVerif.Proofs.PForestSpec
open Spec MapInv PForest Hasher SpecNodes
set_option linter.unusedSectionVars false

variable {H : Type} [DecidableEq H] [Hasher H]

def ofForest (F : Forest H) : PF H := F.trees.map fun p => (rootPos F.numLeaves p.1, p.2)

structure Hyg (F : Forest H) : Prop where
  nodup : F.liveLeaves.Nodup
  nz : ∀ x ∈ F.liveLeaves, x ≠ (zero : H)
  nph : ∀ x ∈ F.liveLeaves, ∀ a b : H, x ≠ ph a b

/-- the roots of `F` as a predicate, the `R` of `Laws F.nodes R` -/
def FRoot (F : Forest H) (q : Pos) : Prop := isRootPos F.numLeaves q = true

theorem nodes_ofForest (F : Forest H) : PForest.nodes (ofForest F) = F.nodes := by
  unfold PForest.nodes ofForest Forest.nodes
  rw [List.flatMap_map]
  rfl

theorem leaves_ofForest (F : Forest H) (hn : F.numLeaves < 2 ^ 64) : leaves (ofForest F) = F.liveLeaves := by
  unfold leaves ofForest
  rw [List.flatMap_map]
  exact trees_leaves F hn

theorem mem_ofForest {F : Forest H} {e : Pos × Option (CTree H)} :
    e ∈ ofForest F ↔ ∃ h, h ∈ treeRows F.numLeaves ∧
      e = (rootPos F.numLeaves h, collapse h ((F.slots.drop (treeStart F.numLeaves h)).take (2 ^ h))) := by
  unfold ofForest Forest.trees
  rw [List.map_map, List.mem_map]
  constructor
  · rintro ⟨h, hh, rfl⟩; exact ⟨h, hh, rfl⟩
  · rintro ⟨h, hh, rfl⟩; exact ⟨h, hh, rfl⟩

theorem isRoot_ofForest (F : Forest H) (hn : F.numLeaves < 2 ^ 64) (q : Pos) :
    IsRoot (ofForest F) q ↔ isRootPos F.numLeaves q = true := by
  unfold IsRoot
  constructor
  · rintro ⟨e, he, rfl⟩
    obtain ⟨h, hh, rfl⟩ := mem_ofForest.1 he
    exact Spec.isRootPos_rootPos (mem_treeRows.1 hh).2
  · intro hr
    obtain ⟨hb, hq⟩ := eq_rootPos_of_isRootPos hr
    have h64 : q.1 ≤ 64 := by have := testBit_lt_of_lt hn hb; omega
    exact ⟨_, mem_ofForest.2 ⟨q.1, mem_treeRows.2 ⟨h64, hb⟩, rfl⟩, hq.symm⟩

theorem ok_ofForest (F : Forest H) (hn : F.numLeaves < 2 ^ 64) (hy : Hyg F) : OK (ofForest F) := by
  refine { depth := ?_, pw := ?_, nodup := ?_, nz := ?_, nph := ?_ }
  · intro e he t ht
    obtain ⟨h, hh, rfl⟩ := mem_ofForest.1 he
    exact collapse_depth _ _ _ ht
  · unfold ofForest Forest.trees
    rw [List.map_map, List.pairwise_map]
    refine (CalcComplete.treeRows_sorted F.numLeaves).imp_of_mem ?_
    intro a b ha hb hab q ⟨h1, h2⟩
    simp only [Function.comp] at h1 h2
    exact under_disjoint hab (mem_treeRows.1 ha).2 (anc_iff_under.1 h1) (anc_iff_under.1 h2)
  · rw [leaves_ofForest F hn]; exact hy.nodup
  · rw [leaves_ofForest F hn]; exact hy.nz
  · rw [leaves_ofForest F hn]; exact hy.nph

theorem laws_forest (nz : NZ H) (F : Forest H) (hn : F.numLeaves < 2 ^ 64) (hy : Hyg F) :
    Laws F.nodes (FRoot F) := by
  have := laws_of_ok nz (ok_ofForest F hn hy)
  rw [nodes_ofForest] at this
  have e : IsRoot (ofForest F) = FRoot F := by
    funext q; exact propext (isRoot_ofForest F hn q)
  rw [e] at this
  exact this

theorem posOf_iff (F : Forest H) (hn : F.numLeaves < 2 ^ 64) (hy : Hyg F) {x : H} {t : Pos} :
    F.posOf x = some t ↔ (t, x, true) ∈ F.nodes := Spec.posOf_eq_some_iff hn hy.nodup

end UtreexoVerif.Proofs.PForestSpec
