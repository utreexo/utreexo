/-
  One step of position movement and its inverse, on (row, offset) pairs, without any forest:
  `delP d` = where a position goes when the subtree at `d` disappears (everything strictly below
  `parent d` goes up one row: `liftP d`, which reads only the row of `d`), `insP d` = where it came from
  (`unliftP (sib d)`: the survivor's bit is put back).
  A block is the fold `delAll` of forward steps over a list of targets in ascending rows without
  twins (`Asc`); the inverse is stated for one step (`insP_delP`), many steps are undone one by one in
  `ProofUndoDel.undo_suffix` (`Proofs/UndoPass.lean`).
-/
import UtreexoVerif.Proofs.LiftGeo

namespace UtreexoVerif.Proofs.PosMove
open Spec MapRep MapLiftGeo

/-- forward step (`getNewPositions`, `moveUpDescendants`): the subtree at `d` disappears -/
def delP (d c : Pos) : Pos := if SUnder (parent d) c then liftP d c else c

/-- backward step (`undoDel`, `moveDownPosition`; in the model also the loop `undoDelMoveDown` of
`undoDeletion`, `Model/MapPollard.lean`) -/
def insP (d q : Pos) : Pos := if Anc (parent d) q then unliftP (sib d) q else q

def delAll (ds : List Pos) (c : Pos) : Pos := ds.foldl (fun c d => delP d c) c

theorem snoc_ind {α : Type} {P : List α → Prop} (h0 : P [])
    (h1 : ∀ init b, P init → P (init ++ [b])) : ∀ l, P l := by
  intro l
  rw [← List.reverse_reverse l]
  induction l.reverse with
  | nil => exact h0
  | cons b t ih => rw [List.reverse_cons]; exact h1 _ _ ih

theorem delP_of_sib {d c : Pos} (h : Anc (sib d) c) : delP d c = liftP (sib d) c := by
  unfold delP
  rw [if_pos (sunder_parent_iff.2 (Or.inr h)), liftP_sib_eq]

theorem delP_of_sunder {d c : Pos} (h : SUnder (parent d) c) : delP d c = liftP d c := if_pos h

theorem delP_of_not {d c : Pos} (h : ¬ SUnder (parent d) c) : delP d c = c := if_neg h

theorem delAll_append (ds : List Pos) (d c : Pos) : delAll (ds ++ [d]) c = delP d (delAll ds c) := by
  unfold delAll; rw [List.foldl_append]; rfl

theorem insP_delP {d c : Pos} (h1 : ¬ Anc d c) (h2 : c ≠ parent d) : insP d (delP d c) = c := by
  by_cases h : SUnder (parent d) c
  · have hs : Anc (sib d) c := (sunder_parent_iff.1 h).resolve_left h1
    rw [delP_of_sib hs]
    unfold insP
    have := anc_parent_liftP hs
    rw [CalcGeo.parent_sib] at this
    rw [if_pos this, unliftP_liftP hs]
  · rw [delP_of_not h]
    unfold insP
    rw [if_neg]
    intro ha
    exact h (sunder_of_ne ha h2)

theorem anc_parent_delP {d c : Pos} (h : SUnder (parent d) c) : Anc (parent d) (delP d c) := by
  rw [delP_of_sunder h]
  rcases sunder_parent_iff.1 h with hs | hs
  · exact anc_parent_liftP hs
  · have := anc_parent_liftP hs
    rwa [CalcGeo.parent_sib, liftP_sib_eq] at this

/-- **later targets do not see earlier steps**: a position `X` on the row of `d` or above, other
than `d` and its sibling, has the same positions below it before and after.  Above the row of `d`
because old and new position both lie below `parent d`; on the row of `d` because only `d` and its
sibling have anything below `parent d` below them. -/
theorem anc_delP_iff {d X c : Pos} (hrow : d.1 ≤ X.1) (h1 : X ≠ d) (h2 : X ≠ sib d) :
    Anc X (delP d c) ↔ Anc X c := by
  by_cases h : SUnder (parent d) c
  · rcases Nat.lt_or_ge d.1 X.1 with hlt | hge
    · have ha := anc_parent_delP h
      exact ⟨fun hx => Anc.trans (Anc.comparable ha hx hlt) h.1,
        fun hx => Anc.trans (Anc.comparable h.1 hx hlt) ha⟩
    · have hX : X.1 = d.1 := Nat.le_antisymm hge hrow
      have hpar : ∀ q, Anc (parent d) q → ¬ Anc X q := by
        intro q hq hXq
        have e : parent d = parent X :=
          (Anc.comparable hXq.parent hq (Nat.le_of_eq (congrArg Nat.succ hX))).eq_of_row
            (congrArg Nat.succ hX).symm
        rcases eq_or_sib_of_parent e with e | e
        · exact h1 e.symm
        · exact h2 (by rw [e, CalcGeo.sib_sib])
      exact ⟨fun ha => (hpar _ (anc_parent_delP h) ha).elim, fun ha => (hpar _ h.1 ha).elim⟩
  · rw [delP_of_not h]

/-- a target list as `deTwin` returns it -/
structure Asc (ds : List Pos) : Prop where
  rows : ds.Pairwise (fun a b => a.1 ≤ b.1)
  nodup : ds.Nodup
  nosib : ∀ x ∈ ds, sib x ∉ ds

theorem Asc.init {ds : List Pos} {T : Pos} (h : Asc (ds ++ [T])) : Asc ds where
  rows := (List.pairwise_append.1 h.rows).1
  nodup := (List.nodup_append.1 h.nodup).1
  nosib := fun x hx hs => h.nosib x (List.mem_append_left _ hx) (List.mem_append_left _ hs)

/-- the hypotheses of `anc_delP_iff` with `X` the last target -/
theorem Asc.last {ds : List Pos} {T : Pos} (h : Asc (ds ++ [T])) :
    ∀ d ∈ ds, d.1 ≤ T.1 ∧ T ≠ d ∧ T ≠ sib d := by
  intro d hd
  refine ⟨(List.pairwise_append.1 h.rows).2.2 d hd T (by simp), ?_, ?_⟩
  · intro e
    exact (List.nodup_append.1 h.nodup).2.2 d hd T (by simp) e.symm
  · intro e
    apply h.nosib d (List.mem_append_left _ hd)
    rw [← e]; simp

theorem anc_delAll_iff {X : Pos} : ∀ (ds : List Pos) (c : Pos),
    (∀ d ∈ ds, d.1 ≤ X.1 ∧ X ≠ d ∧ X ≠ sib d) → (Anc X (delAll ds c) ↔ Anc X c) := by
  intro ds
  induction ds with
  | nil => intro c _; exact Iff.rfl
  | cons d ds ih =>
    intro c h
    obtain ⟨a, b, e⟩ := h d List.mem_cons_self
    exact (ih (delP d c) fun d' hd' => h d' (List.mem_cons_of_mem _ hd')).trans (anc_delP_iff a b e)

/-- the two side conditions of `insP_delP` for the target `T` (`c` not at or below `T`, `c` not the parent
of `T`) survive the steps for the earlier targets `ds` -/
theorem good_delAll {ds : List Pos} {T c : Pos} (hl : ∀ d ∈ ds, d.1 ≤ T.1 ∧ T ≠ d ∧ T ≠ sib d)
    (g1 : ¬ Anc T c) (g2 : c ≠ parent T) : ¬ Anc T (delAll ds c) ∧ delAll ds c ≠ parent T := by
  refine ⟨by rw [anc_delAll_iff ds c hl]; exact g1, fun e => ?_⟩
  have hrow : ∀ {X : Pos}, X.1 = T.1 + 1 → ∀ d ∈ ds, d.1 ≤ X.1 ∧ X ≠ d ∧ X ≠ sib d := by
    intro X hX d hd
    obtain ⟨a, _, _⟩ := hl d hd
    refine ⟨by omega, fun e' => ?_, fun e' => ?_⟩
    · have := congrArg Prod.fst e'
      omega
    · have := congrArg Prod.fst e'
      rw [CalcGeo.sib_fst] at this
      omega
  have hp : Anc (parent T) c := by
    rw [← anc_delAll_iff (X := parent T) ds c (hrow rfl), e]
    exact Anc.refl _
  rcases anc_parent_iff'.1 hp with h | h | h
  · exact g2 h
  · exact g1 h
  · have hs := (anc_delAll_iff (X := sib T) ds c (fun d hd => ?_)).2 h
    · rw [e] at hs
      exact sib_not_anc_parent hs
    · obtain ⟨a, b, c'⟩ := hl d hd
      exact ⟨by rw [CalcGeo.sib_fst]; exact a, fun e' => c' (by rw [← e', CalcGeo.sib_sib]), fun e' => b (sib_inj e')⟩

theorem delP_fst_le (d c : Pos) : (delP d c).1 ≤ c.1 + 1 := by
  unfold delP; split
  · exact Nat.le_refl _
  · exact Nat.le_succ _

theorem le_delP_fst (d c : Pos) : c.1 ≤ (delP d c).1 := by
  unfold delP; split
  · exact Nat.le_succ _
  · exact Nat.le_refl _

theorem le_delAll_fst : ∀ (ds : List Pos) (c : Pos), c.1 ≤ (delAll ds c).1
  | [], _ => Nat.le_refl _
  | d :: ds, c => Nat.le_trans (le_delP_fst d c) (le_delAll_fst ds (delP d c))

theorem delAll_of_high {c : Pos} : ∀ (ds : List Pos), (∀ d ∈ ds, d.1 < c.1) → delAll ds c = c
  | [], _ => rfl
  | d :: ds, h => by
    show delAll ds (delP d c) = c
    rw [delP_of_not fun hs => Nat.lt_irrefl _
      (Nat.lt_of_lt_of_le (h d List.mem_cons_self) (Nat.le_of_lt_succ hs.2))]
    exact delAll_of_high ds fun d' hd' => h d' (List.mem_cons_of_mem _ hd')

theorem anc_delAll_of_lt {X : Pos} (ds : List Pos) (c : Pos) (h : ∀ d ∈ ds, d.1 < X.1) :
    Anc X (delAll ds c) ↔ Anc X c :=
  anc_delAll_iff ds c fun d hd =>
    ⟨Nat.le_of_lt (h d hd), fun e => Nat.lt_irrefl _ (e ▸ h d hd),
      fun e => Nat.lt_irrefl _ (((congrArg Prod.fst e).trans (CalcGeo.sib_fst d)) ▸ h d hd)⟩

/-- **bottom-up = fold of steps**, for targets in strictly ascending rows that all hit the original
position: every one of them still hits when its turn comes, and the lifts are those of
`FinalPos.liftFold` (what `Stump.add` and `movePos` compute).  The second part bounds the row reached so
far; the induction needs it, callers take `.1`. -/
theorem liftFold_eq_delAll_of_hit {c : Pos} : ∀ (ds : List Pos), ds.Pairwise (fun a b => a.1 < b.1) →
    (∀ d ∈ ds, SUnder (parent d) c) →
    FinalPos.liftFold 0 c (ds.map (·.1)) = delAll ds c ∧
      ∀ T : Pos, (∀ d ∈ ds, d.1 < T.1) → c.1 ≤ T.1 → (delAll ds c).1 ≤ T.1 := by
  intro ds
  induction ds using snoc_ind with
  | h0 => intro _ _; exact ⟨rfl, fun _ _ h => h⟩
  | h1 ds D ih =>
    intro hp h
    have hp' := List.pairwise_append.1 hp
    have hlt : ∀ d ∈ ds, d.1 < D.1 := fun d hd => hp'.2.2 d hd D (by simp)
    have hD := h D (by simp)
    obtain ⟨e1, e2⟩ := ih hp'.1 fun d hd => h d (List.mem_append_left _ hd)
    have hrow : (delAll ds c).1 ≤ D.1 := e2 D hlt (Nat.le_of_lt_succ hD.2)
    have hs : SUnder (parent D) (delAll ds c) :=
      ⟨(anc_delAll_of_lt ds c fun d hd => Nat.lt_succ_of_lt (hlt d hd)).2 hD.1, Nat.lt_succ_of_le hrow⟩
    have e : FinalPos.liftFold 0 c ((ds ++ [D]).map (·.1)) =
        FinalPos.liftStep 0 (FinalPos.liftFold 0 c (ds.map (·.1))) D.1 := by
      unfold FinalPos.liftFold; rw [List.map_append, List.foldl_append]; rfl
    refine ⟨by rw [e, e1, delAll_append, delP_of_sunder hs]; rfl, fun T hT _ => ?_⟩
    rw [delAll_append]
    exact Nat.le_trans (delP_fst_le D _) (Nat.succ_le_of_lt (Nat.lt_of_le_of_lt hrow (hT D (by simp))))

theorem delAll_filter_hit {c : Pos} : ∀ (ds : List Pos), ds.Pairwise (fun a b => a.1 ≤ b.1) →
    delAll ds c = delAll (ds.filter fun d => decide (SUnder (parent d) c)) c := by
  intro ds
  induction ds using snoc_ind with
  | h0 => intro _; rfl
  | h1 ds D ih =>
    intro hp
    have hp' := List.pairwise_append.1 hp
    have hle : ∀ d ∈ ds, d.1 < (parent D).1 := fun d hd => Nat.lt_succ_of_le (hp'.2.2 d hd D (by simp))
    rw [List.filter_append, delAll_append, ih hp'.1]
    by_cases hD : SUnder (parent D) c
    · have e : [D].filter (fun d => decide (SUnder (parent d) c)) = [D] :=
        List.filter_cons_of_pos (decide_eq_true hD)
      rw [e, delAll_append]
    · have e : [D].filter (fun d => decide (SUnder (parent d) c)) = [] :=
        List.filter_cons_of_neg (by rw [decide_eq_false hD]; exact Bool.false_ne_true)
      rw [e, List.append_nil, ← ih hp'.1]
      refine delP_of_not fun hs => hD ⟨(anc_delAll_of_lt ds c hle).1 hs.1, ?_⟩
      exact Nat.lt_of_le_of_lt (le_delAll_fst ds c) hs.2

end UtreexoVerif.Proofs.PosMove
