/-
  Two things.  First, heap level: `DelSeq D F ps F'` (the positions `ps` can be deleted one after the other — each one is,
  in the forest reached so far, the position of a node all of whose leaves are in `D` — and the forest reached at the end
  is `F'`) and `removeLoop_absD`: along such a sequence `removeLoop` succeeds and the heap follows the forests.

  Then, specification level (no heap in it): the maximal fully-deleted sub-trees of a block can be deleted one after
  the other, in ascending order of their positions, WITHOUT their positions changing.  When the sub-tree at `T0` dies,
  only the nodes strictly below `sib T0` move (they go up one row); a later target `T` (on a row `≥` that of `T0`, not
  the surviving `sib T0`, sharing no leaf with `T0`) keeps its position, its sub-tree and the fact that it is the root of
  its tree or has a surviving sibling.  `DTE.step` is this step on the entries `(T, h, t)` of such a list;
  `PollardHeapDelChain.lean` chains it into a `DelSeq`, ending in `F.delLeaves D`.
-/
import UtreexoVerif.Proofs.PollardHeapDelForest
import UtreexoVerif.Proofs.LiveLeaves
import UtreexoVerif.Proofs.ProofUpdateDeTwin
set_option linter.unusedSectionVars false

namespace UtreexoVerif.Proofs.PollardHeap
open UtreexoVerif.Spec
open UtreexoVerif.Proofs.SpecSubs UtreexoVerif.Proofs.CalcComplete
open UtreexoVerif.Proofs.FinalPos UtreexoVerif.Proofs.CalcGeo
open UtreexoVerif.Proofs.Movement UtreexoVerif.Proofs.ProofUpdateDeTwin UtreexoVerif.Proofs.SpecPlan

variable {H : Type} [DecidableEq H] [Hasher H]

section
open UtreexoVerif.Model UtreexoVerif.Model.PollardHeap Hasher UtreexoVerif.Proofs.SpecView

/-- a sequence of positions that can be deleted one after the other -/
inductive DelSeq (D : List H) : Forest H → List U64 → Forest H → Prop
  | nil (F : Forest H) : DelSeq D F [] F
  | cons {F F' : Forest H} {R : Nat} {q : Pos} {a : CTree H} {rest : List U64} :
      SubAtT F R q a → (∀ x ∈ a.leaves, x ∈ D) → DelSeq D (F.delLeaves a.leaves) rest F' →
      DelSeq D F (encU F.rows q.1 q.2 :: rest) F'

theorem removeLoop_absD {D : List H} : ∀ (ps : List U64) (p : Pollard H) (F F' : Forest H),
    AbsD p F D → F.numLeaves < 2 ^ 63 → (∀ x ∈ F.liveLeaves, ∀ u v : H, x ≠ ph u v) →
    DelSeq D F ps F' →
    ∃ hp' nm', removeLoop ps p = (.ok (), { p with heap := hp', nodeMap := nm' }) ∧
      AbsD { p with heap := hp', nodeMap := nm' } F' D := by
  intro ps
  induction ps with
  | nil =>
    intro p F F' hA hn hsep hseq
    cases hseq
    exact ⟨p.heap, p.nodeMap, rfl, hA⟩
  | cons del rest ih =>
    intro p F F' hA hn hsep hseq
    cases hseq with
    | @cons _ _ R q a _ hs hD hrest =>
      obtain ⟨⟨hrr, hoo⟩, hT, hisroot⟩ := hs.enc hn hA.numLeaves
      have hn' : (F.delLeaves a.leaves).numLeaves < 2 ^ 63 := by rw [numLeaves_delLeaves]; exact hn
      have hsep' : ∀ x ∈ (F.delLeaves a.leaves).liveLeaves, ∀ u v : H, x ≠ ph u v :=
        fun x hx => hsep x (LiveLeaves.mem_liveLeaves_delLeaves.1 hx).1
      cases hroot : isRootPos F.numLeaves q with
      | true =>
        have hq := (hs.at_root hroot).1
        rw [hq] at hs
        obtain ⟨hp1, nm1, e1, a1⟩ := deleteRoot_absD hA hn hs hD hsep
        obtain ⟨hp2, nm2, e2, a2⟩ := ih _ _ _ a1 hn' hsep' hrest
        refine ⟨hp2, nm2, ?_, a2⟩
        unfold removeLoop
        simp only [bind_apply, getNumLeaves_apply, hisroot, hroot, if_true]
        have : encU F.rows q.1 q.2 = encU F.rows R (rootPos F.numLeaves R).2 := by rw [hq]; rfl
        rw [this, e1]
        exact e2
      | false =>
        obtain ⟨hp1, nm1, e1, a1⟩ := deleteSingle_absD hA hn hs hroot hD hsep
        obtain ⟨hp2, nm2, e2, a2⟩ := ih _ _ _ a1 hn' hsep' hrest
        refine ⟨hp2, nm2, ?_, a2⟩
        unfold removeLoop
        simp only [bind_apply, getNumLeaves_apply, hisroot, hroot, Bool.false_eq_true, if_false]
        rw [e1]
        exact e2

end

theorem move_stay {G : Forest H} {A : List H} {h : Nat} {T : Pos} {t t' : CTree H}
    (s : SubAtT G h T t) (hd : delT A t = some t')
    (hal : ∀ j, T.1 ≤ j → j < h → aliveAfter G A j (sibIdx (T.2 / 2 ^ (j - T.1))) = true) :
    SubAtT (G.delLeaves A) h T t' := by
  have := move_sub s hd
  have e : movePos G A T = T := by
    unfold movePos
    rw [treeRowOf_of s]
    have : deadLevelsOf G A h T = [] := by
      apply List.eq_nil_iff_forall_not_mem.2
      intro j hj
      obtain ⟨h1, h2, h3⟩ := mem_deadLevelsOf.1 hj
      rw [hal j h1 h2] at h3
      cases h3
    rw [this]
    rfl
  rwa [e] at this

theorem sub_same_row {G : Forest H} {hU : Nat} {U T : Pos} {tU tT : CTree H} (sU : SubAtT G hU U tU)
    (hm : (T, tT) ∈ subs tU U.1 U.2) (hrow : U.1 ≤ T.1) : U = T := by
  apply Classical.byContradiction
  intro hne
  have := (strict_sub sU hm hne).1
  omega

/-- **the siblings of the ancestors of `T` survive the death of `T0`**: `T` lies on a row not
below that of `T0` and is not its sibling -/
theorem anc_sib_alive {G : Forest H} (hnd : G.liveLeaves.Nodup) {h0 h : Nat} {T0 T : Pos}
    {a t : CTree H} (s0 : SubAtT G h0 T0 a) (s : SubAtT G h T t)
    (hrow : T0.1 ≤ T.1) (hsib : T ≠ sib T0) :
    ∀ j, T.1 ≤ j → j < h → aliveAfter G a.leaves j (sibIdx (T.2 / 2 ^ (j - T.1))) = true := by
  intro j hj1 hj2
  obtain ⟨ta, sa, hta⟩ := anc_node s (j - T.1) (by omega)
  rw [show T.1 + (j - T.1) = j by omega] at sa
  have hnr : isRootPos G.numLeaves (j, T.2 / 2 ^ (j - T.1)) = false := by
    cases hr : isRootPos G.numLeaves (j, T.2 / 2 ^ (j - T.1)) with
    | false => rfl
    | true => have := sa.root_iff.1 hr; simp only at this; omega
  obtain ⟨_, s', _, ssib⟩ := sa.parent hnr
  rw [sib_eq_sibIdx] at ssib
  simp only at ssib
  have hal := aliveAfter_of (D := a.leaves) ssib
  simp only at hal
  rw [hal]
  cases hd : delT a.leaves s' with
  | some _ => rfl
  | none =>
    exfalso
    have hall := (delT_eq_none_iff a.leaves s').1 hd
    obtain ⟨x, hx⟩ : ∃ x, x ∈ s'.leaves := by
      cases hl : s'.leaves with
      | nil => exact absurd hl (Spec.CTree.leaves_ne_nil s')
      | cons x _ => exact ⟨x, by simp⟩
    have hxa := hall x hx
    -- `s'` and `a` share a leaf: nested
    rcases (s0.nested hnd ssib hxa hx).2 with hin | hin
    · -- `s'` inside `a`: same row, so it sits at `T0`
      have hrowS : T0.1 ≤ j := by omega
      have e := sub_same_row s0 hin (by simpa using hrowS)
      -- then `T` is the sibling of `T0`
      have hjT : j = T.1 := by
        have := congrArg Prod.fst e
        simp only at this
        omega
      apply hsib
      rw [e, hjT, Nat.sub_self, Nat.pow_zero, Nat.div_one, ← sib_eq_sibIdx, CalcGeo.sib_sib]
    · -- `a` inside `s'`
      by_cases heq : ((j, sibIdx (T.2 / 2 ^ (j - T.1))) : Pos) = T0
      · have hjT : j = T.1 := by
          have := congrArg Prod.fst heq
          simp only at this
          omega
        apply hsib
        rw [← heq, hjT, Nat.sub_self, Nat.pow_zero, Nat.div_one, ← sib_eq_sibIdx, CalcGeo.sib_sib]
      · obtain ⟨_, s'', ss'', hin'', _⟩ := strict_sub ssib hin heq
        -- the sibling of `T0` lies inside `s'`, all of whose leaves are leaves of `a`
        obtain ⟨y, hy⟩ : ∃ y, y ∈ s''.leaves := by
          cases hl : s''.leaves with
          | nil => exact absurd hl (Spec.CTree.leaves_ne_nil s'')
          | cons y _ => exact ⟨y, by simp⟩
        have hya : y ∈ a.leaves := hall y (subs_leaves s' _ _ _ hin'' y hy)
        rcases (s0.nested hnd ss'' hya hy).2 with h1 | h1
        · have := sub_same_row s0 h1 (by simp [sib])
          exact CalcGeo.sib_ne T0 this.symm
        · have := sub_same_row ss'' h1 (by simp [sib])
          exact CalcGeo.sib_ne T0 this

/-- `e = (T, h, t)`: `t` is the sub-tree at `T` in the tree on row `h`, all its leaves are to be
deleted, and `T` is the root of that tree or its sibling keeps a survivor -/
structure DTE (G : Forest H) (D : List H) (e : Pos × Nat × CTree H) : Prop where
  sub : SubAtT G e.2.1 e.1 e.2.2
  dead : ∀ x ∈ e.2.2.leaves, x ∈ D
  top : e.1.1 = e.2.1 ∨ aliveAfter G D e.1.1 (sibIdx e.1.2) = true

theorem subAt_some {F : Forest H} {p : Pos} {t : CTree H} (h : subAt F p = some t) :
    ∃ hh, SubAtT F hh p t := by
  unfold subAt at h
  cases hf : ((treeRows F.numLeaves).flatMap (treeSubs F)).find? (fun x => x.1 == p) with
  | none => rw [hf] at h; cases h
  | some y =>
    rw [hf] at h
    simp only [Option.map_some, Option.some.injEq] at h
    have hy := List.mem_of_find?_eq_some hf
    have hp := List.find?_some hf
    simp only [beq_iff_eq] at hp
    obtain ⟨h', hh', hy'⟩ := List.mem_flatMap.1 hy
    exact ⟨h', hh', by rw [← hp, ← h]; exact hy'⟩

theorem DTE.step {G : Forest H} {D : List H} (hnd : G.liveLeaves.Nodup)
    {e0 e : Pos × Nat × CTree H} (d0 : DTE G D e0) (d : DTE G D e) (hlt : Sorted.PLt e0.1 e.1)
    (hdisj : ∀ l ∈ e0.2.2.leaves, l ∉ e.2.2.leaves) :
    DTE (G.delLeaves e0.2.2.leaves) D e := by
  obtain ⟨T0, h0, a⟩ := e0
  obtain ⟨T, h, t⟩ := e
  obtain ⟨s0, dead0, top0⟩ := d0
  obtain ⟨s, dead, top⟩ := d
  simp only at s0 dead0 top0 s dead top hlt hdisj ⊢
  have hrow : T0.1 ≤ T.1 := by unfold Sorted.PLt at hlt; omega
  have htdead : delT D t = none := (delT_eq_none_iff D t).2 dead
  have hsib : T ≠ sib T0 := by
    intro e
    rcases top0 with hr | hal
    · have hroot : isRootPos G.numLeaves T0 = true := s0.root_iff.2 hr
      exact sib_root_not_inF hroot s.inF (by rw [e, CalcGeo.sib_sib])
    · rw [sib_eq_sibIdx] at e
      have := aliveAfter_of (D := D) s
      rw [e] at this
      simp only at this
      rw [this, htdead] at hal
      cases hal
  have hdisj' : ∀ x ∈ t.leaves, x ∉ a.leaves := fun x hx hxa => hdisj x hxa hx
  have hal := anc_sib_alive hnd s0 s hrow hsib
  have hta : delT a.leaves t = some t := delT_noleaf _ t hdisj'
  have s' : SubAtT (G.delLeaves a.leaves) h T t := move_stay s hta hal
  refine ⟨s', dead, ?_⟩
  rcases top with hr | halT
  · exact Or.inl hr
  · right
    have hlth : T.1 < h := by
      rcases Nat.lt_or_ge T.1 h with hl | hg
      · exact hl
      · -- the root of a tree has no sibling inside the forest
        exfalso
        have hr : T.1 = h := by have := s.row_le; omega
        have hroot : isRootPos G.numLeaves T = true := s.root_iff.2 hr
        unfold aliveAfter at halT
        cases hsa : subAt G (T.1, sibIdx T.2) with
        | none => rw [hsa] at halT; cases halT
        | some st =>
          obtain ⟨hh, sst⟩ := subAt_some hsa
          exact sib_root_not_inF hroot sst.inF (by rw [← sib_eq_sibIdx, CalcGeo.sib_sib])
    have hnr : isRootPos G.numLeaves T = false := by
      cases hq : isRootPos G.numLeaves T with
      | false => rfl
      | true => have := s.root_iff.1 hq; omega
    obtain ⟨_, st, _, sst⟩ := s.parent hnr
    have hst := aliveAfter_of (D := D) sst
    rw [sib_eq_sibIdx] at hst sst
    simp only at hst
    rw [halT] at hst
    have hne : delT D st ≠ none := by
      intro hc; rw [hc] at hst; cases hst
    have hy : ∃ y ∈ st.leaves, y ∉ D := by
      apply Classical.byContradiction
      intro hc
      apply hne
      rw [delT_eq_none_iff]
      intro l hl
      apply Classical.byContradiction
      intro hlD
      exact hc ⟨l, hl, hlD⟩
    obtain ⟨y, hy1, hy2⟩ := hy
    have hya : y ∉ a.leaves := fun hc => hy2 (dead0 y hc)
    cases hsta : delT a.leaves st with
    | none =>
      exact absurd ((delT_eq_none_iff a.leaves st).1 hsta y hy1) hya
    | some st' =>
      -- the sibling stays where it is
      have halS : ∀ j, T.1 ≤ j → j < h →
          aliveAfter G a.leaves j (sibIdx (sibIdx T.2 / 2 ^ (j - T.1))) = true := by
        intro j hj1 hj2
        by_cases hj : j = T.1
        · subst hj
          rw [Nat.sub_self, Nat.pow_zero, Nat.div_one, sibIdx_sibIdx]
          have := aliveAfter_of (D := a.leaves) s
          rw [this, hta]; rfl
        · rw [show sibIdx T.2 = T.2 ^^^ 1 from (nat_xor_one _).symm, xor_one_div_pow _ _ (by omega)]
          exact hal j hj1 hj2
      have sst' : SubAtT (G.delLeaves a.leaves) h (T.1, sibIdx T.2) st' :=
        move_stay sst hsta halS
      have := aliveAfter_of (D := D) sst'
      simp only at this
      rw [this]
      cases hd : delT D st' with
      | some _ => rfl
      | none =>
        exfalso
        have hyin : y ∈ st'.leaves := (delT_leaves_iff a.leaves st st' hsta y).2 ⟨hy1, hya⟩
        exact hy2 ((delT_eq_none_iff D st').1 hd y hyin)

theorem rows_delLeaves (F : Forest H) (A : List H) : (F.delLeaves A).rows = F.rows := by
  unfold Forest.rows; rw [numLeaves_delLeaves]

end UtreexoVerif.Proofs.PollardHeap
