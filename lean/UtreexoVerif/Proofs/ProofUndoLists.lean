/-
  List-level lemmas for `Proof.Undo` (property C08): closed forms of its loops, and `undoDel` and
  `undoAdd` as sequences of named stages (`proofUndoDel_eq`, `proofUndoAdd_eq`; the old `undoAdd`
  only for an empty `toDestroy`: `proofUndoAddOld_nil_eq`).  The walk `ProofUndoAddMove.moveBack` of
  `proofUndoAdd_eq` is defined here too, under the namespace of its theory: `Proofs/ProofUndoAddMove`
  rests on `Proofs/ProofUndoAdd`, which rests on this file (through `Proofs/ProofUndoTail`).
-/
import UtreexoVerif.Model.ProofUpdate
import UtreexoVerif.Proofs.ProofUpdateLists

namespace UtreexoVerif.Proofs.ProofUndoLists
open Model
open UtreexoVerif.Proofs.ProofUpdateLists

section
variable {H : Type}

/-- the test of `pruneEdgesOld` for one position; the error flag of `maxPositionAtRow` is ignored
(`pruneEdges_eq` assumes that it is not raised) -/
def pruneKeepOld (numAdds numLeaves : U64) (forestRows prevForestRows : U8) (target : U64) : Bool :=
  let row := DetectRow target forestRows
  if row > prevForestRows then false
  else
    decide (startPositionAtRow row prevForestRows + (target - startPositionAtRow row forestRows) ≤
      (maxPositionAtRow row prevForestRows (numLeaves - numAdds)).1)

/-- the test of `pruneEdges` for one position (error flag as in `pruneKeepOld`) -/
def pruneKeep (numAdds numLeaves : U64) (forestRows prevForestRows : U8) (target : U64) : Bool :=
  let row := DetectRow target forestRows
  if row > prevForestRows then false
  else
    (numLeaves != numAdds) &&
    decide (startPositionAtRow row prevForestRows + (target - startPositionAtRow row forestRows) ≤
      (maxPositionAtRow row prevForestRows (numLeaves - numAdds)).1)

theorem pruneKeep_eq (a n : U64) (fr pfr : U8) (t : U64) :
    pruneKeep a n fr pfr t = ((n != a) && pruneKeepOld a n fr pfr t) := by
  unfold pruneKeep pruneKeepOld
  simp only
  split <;> simp

theorem pruneEdges_eq (a n : U64) (fr pfr : U8) : ∀ (l acc : HP H),
    (∀ x ∈ l, ¬ DetectRow x.1 fr > pfr →
      (maxPositionAtRow (DetectRow x.1 fr) pfr (n - a)).2 = false) →
    pruneEdges a n fr pfr l acc = .ok (acc ++ l.filter (fun x => pruneKeep a n fr pfr x.1)) := by
  intro l
  induction l with
  | nil => intro acc _; simp [pruneEdges]
  | cons x rest ih =>
    intro acc hne
    obtain ⟨target, h⟩ := x
    have hrest : ∀ y ∈ rest, ¬ DetectRow y.1 fr > pfr →
        (maxPositionAtRow (DetectRow y.1 fr) pfr (n - a)).2 = false :=
      fun y hy => hne y (List.mem_cons_of_mem _ hy)
    unfold pruneEdges
    simp only
    by_cases hrow : DetectRow target fr > pfr
    · rw [if_pos hrow, ih acc hrest, List.filter_cons_of_neg]
      simp [pruneKeep, hrow]
    · rw [if_neg hrow]
      have herr := hne (target, h) List.mem_cons_self hrow
      simp only at herr
      rcases hm : maxPositionAtRow (DetectRow target fr) pfr (n - a) with ⟨maxPos, err⟩
      rw [hm] at herr
      simp only at herr
      subst herr
      simp only [Bool.false_eq_true, if_false]
      by_cases hk : ((n != a) && decide (startPositionAtRow (DetectRow target fr) pfr +
          (target - startPositionAtRow (DetectRow target fr) fr) ≤ maxPos)) = true
      · rw [if_pos hk, ih _ hrest, List.filter_cons_of_pos]
        · simp
        · simp only [pruneKeep, hrow, if_false, hm]; exact hk
      · rw [if_neg hk, ih _ hrest, List.filter_cons_of_neg]
        simp only [pruneKeep, hrow, if_false, hm]; exact hk

/-- the repair only adds the test `numLeaves != numAdds` -/
theorem pruneEdgesOld_eq_pruneEdges {a n : U64} (h : (n != a) = true) (fr pfr : U8) : ∀ (l acc : HP H),
    pruneEdgesOld a n fr pfr l acc = pruneEdges a n fr pfr l acc := by
  intro l
  induction l with
  | nil => intro acc; rfl
  | cons x rest ih =>
    intro acc
    unfold pruneEdgesOld pruneEdges
    simp only [h, Bool.true_and, decide_eq_true_eq, ih]

/-- the re-encoding of one position for the previous number of rows -/
def remapPos (fr pfr : U8) (pos : U64) : U64 :=
  pos - startPositionAtRow (DetectRow pos fr) fr + startPositionAtRow (DetectRow pos fr) pfr

/-- the re-encoding stage of both `undoAdd`s -/
def remapRows (fr pfr : U8) (hnp : HP H) : HP H :=
  if pfr < fr then hnp.map (fun x => (remapPos fr pfr x.1, x.2)) else hnp

theorem remapRows_eq_map {fr pfr : U8} (h : pfr ≤ fr) (l : HP H) :
    remapRows fr pfr l = l.map (fun x => (remapPos fr pfr x.1, x.2)) := by
  unfold remapRows
  split
  · rfl
  · rename_i hn
    have e : pfr = fr := BitVec.le_antisymm h (BitVec.not_lt.1 hn)
    subst e
    conv => lhs; rw [← List.map_id l]
    apply List.map_congr_left
    intro x _
    unfold remapPos
    rw [BitVec.sub_add_cancel]
    rfl

/-- what both `undoAdd`s and `undoDel` end with: the needed proof hashes are picked from the pile -/
def undoTail (n : U64) (rows : U8) (tw pw : HP H) : CProof H × List H :=
  (⟨tw.positions, (subsetHP pw (ProofPositions tw.positions n rows).1).hashes⟩, tw.hashes)

theorem foldl_const {α β : Type} (l : List β) (x : α) : l.foldl (fun st _ => st) x = x := by
  induction l with
  | nil => rfl
  | cons _ _ ih => exact ih

/-- `getHashAndPosSubset(a, b)` picks, for every wanted position, the first entry of `a` at that
position (if any) -/
theorem subsetHP_eq_filterMap : ∀ (l : HP H) (needed : List U64),
    l.Pairwise (fun a b => a.1 ≤ b.1) → needed.Pairwise (· < ·) →
    subsetHP l needed = needed.filterMap (fun p => (lookupHP l p).map (fun h => (p, h))) := by
  intro l needed
  fun_induction subsetHP l needed with
  | case1 b => intro _ _; simp
  | case2 a _ => intro _ _; simp
  | case3 x xs ys ih =>
    intro hl hn
    rw [List.pairwise_cons] at hl hn
    rw [ih hl.2 hn.2, List.filterMap_cons, lookupHP_cons, if_pos rfl]
    simp only [Option.map_some]
    congr 1
    apply filterMap_congr'
    intro p hp
    have := hn.1 p hp
    rw [lookupHP_cons, if_neg (by intro e'; rw [e'] at this; exact BitVec.lt_irrefl _ this)]
  | case4 x xs y ys hxy hlt ih =>
    intro hl hn
    rw [List.pairwise_cons] at hn
    rw [ih hl hn.2, List.filterMap_cons]
    have hnone : lookupHP (x :: xs) y = none := by
      apply lookupHP_none_of_lt
      intro z hz
      rcases List.mem_cons.1 hz with rfl | hz
      · exact hlt
      · exact ProofOps.u64_lt_of_lt_of_le hlt ((List.pairwise_cons.1 hl).1 z hz)
    rw [hnone]
    rfl
  | case5 x xs y ys hxy hlt ih =>
    intro hl hn
    rw [List.pairwise_cons] at hl
    rw [ih hl.2 hn]
    apply filterMap_congr'
    intro p hp
    have hyp : y ≤ p := by
      rcases List.mem_cons.1 hp with rfl | hp
      · exact BitVec.le_refl _
      · exact BitVec.le_of_lt ((List.pairwise_cons.1 hn).1 p hp)
    rw [lookupHP_cons, if_neg (fun e' => hxy (BitVec.le_antisymm (BitVec.not_lt.1 hlt)
      (by rw [e']; exact hyp)))]

theorem mergeHP_sorted_le : ∀ (a b : HP H), a.Pairwise (fun x y => x.1 ≤ y.1) →
    b.Pairwise (fun x y => x.1 ≤ y.1) → (mergeHP a b).Pairwise (fun x y => x.1 ≤ y.1) := by
  intro a b
  fun_induction mergeHP a b with
  | case1 b => intro _ hb; exact hb
  | case2 a _ => intro ha _; exact ha
  | case3 x xs y ys hlt ih =>
    intro ha hb
    rw [List.pairwise_cons] at ha ⊢
    refine ⟨?_, ih ha.2 hb⟩
    intro z hz
    rcases ProofOps.mem_mergeHP _ _ _ hz with h | h
    · exact ha.1 z h
    · rcases List.mem_cons.1 h with rfl | h
      · exact BitVec.le_of_lt hlt
      · exact BitVec.le_of_lt
          (ProofOps.u64_lt_of_lt_of_le hlt ((List.pairwise_cons.1 hb).1 z h))
  | case4 x xs y ys hnlt hlt ih =>
    intro ha hb
    rw [List.pairwise_cons] at hb ⊢
    refine ⟨?_, ih ha hb.2⟩
    intro z hz
    rcases ProofOps.mem_mergeHP _ _ _ hz with h | h
    · rcases List.mem_cons.1 h with rfl | h
      · exact BitVec.le_of_lt hlt
      · exact BitVec.le_of_lt
          (ProofOps.u64_lt_of_lt_of_le hlt ((List.pairwise_cons.1 ha).1 z h))
    · exact hb.1 z h
  | case5 x xs y ys hnlt1 hnlt2 ih =>
    intro ha hb
    rw [List.pairwise_cons] at ha hb ⊢
    refine ⟨?_, ih ha.2 hb.2⟩
    intro z hz
    rcases ProofOps.mem_mergeHP _ _ _ hz with h | h
    · exact ha.1 z h
    · exact BitVec.le_trans (BitVec.not_lt.1 hnlt2) (hb.1 z h)

theorem udReplace_eq : ∀ (l before acc : HP H), l.Pairwise (fun a b => a.1 ≤ b.1) →
    before.Pairwise (fun a b => a.1 ≤ b.1) →
    udReplace l before acc = acc ++ l.map (fun x => (x.1, (lookupHP before x.1).getD x.2)) := by
  intro l
  induction l with
  | nil => intro before acc _ _; simp [udReplace]
  | cons x rest ih =>
    intro before acc hl hb
    obtain ⟨pos, h⟩ := x
    rw [List.pairwise_cons] at hl
    have hb' : (advance before pos).Pairwise (fun a b => a.1 ≤ b.1) :=
      hb.sublist (advance_sublist _ _)
    have hcongr : rest.map (fun x => (x.1, (lookupHP (advance before pos) x.1).getD x.2)) =
        rest.map (fun x => (x.1, (lookupHP before x.1).getD x.2)) := by
      apply List.map_congr_left
      intro y hy
      have hle : pos ≤ y.1 := hl.1 y hy
      rw [lookupHP_advance before pos y.1 hle]
    unfold udReplace
    simp only [List.map_cons]
    rcases advance_cases before pos hb with ⟨hU, hlk⟩ | ⟨up, uh, t', hU, ⟨rfl, hlk⟩ | ⟨hnu, hlk⟩⟩
    · have h2 := hcongr
      rw [hU] at h2
      simp only [hU]
      rw [ih _ _ hl.2 List.Pairwise.nil, h2, hlk]
      simp
    · simp only [hU, if_true]
      rw [← hU, ih _ _ hl.2 hb', hcongr, hlk]
      simp
    · simp only [hU, hnu, if_false]
      rw [← hU, ih _ _ hl.2 hb', hcongr, hlk]
      simp

theorem udReplace_positions_sorted (l before : HP H) (hl : l.Pairwise (fun a b => a.1 ≤ b.1))
    (hb : before.Pairwise (fun a b => a.1 ≤ b.1)) :
    (udReplace l before []).Pairwise (fun a b => a.1 ≤ b.1) := by
  rw [udReplace_eq l before [] hl hb, List.nil_append, List.pairwise_map]
  exact hl

theorem lookupHP_map_snd (l : HP H) (g : U64 → H → H) (pos : U64) :
    lookupHP (l.map (fun x => (x.1, g x.1 x.2))) pos = (lookupHP l pos).map (g pos) := by
  induction l with
  | nil => rfl
  | cons x t ih =>
    rw [List.map_cons, lookupHP_cons, lookupHP_cons]
    by_cases e : x.1 = pos
    · simp [e]
    · simp only [e, if_false]
      exact ih

/-- the pile of proof hashes at the end of `proofUndoDel`, looked up at one position:
`before` wins; otherwise the loop's pile, then the re-inserted block targets -/
theorem lookup_final (pile np before : HP H) (hp : pile.Pairwise (fun a b => a.1 ≤ b.1))
    (hnp : np.Pairwise (fun a b => a.1 ≤ b.1)) (hb : before.Pairwise (fun a b => a.1 ≤ b.1))
    (pos : U64) :
    lookupHP (mergeHP (udReplace (mergeHP pile np) before []) before) pos =
      match lookupHP before pos with
      | some h => some h
      | none => (lookupHP pile pos).orElse (fun _ => lookupHP np pos) := by
  have h1 := mergeHP_sorted_le pile np hp hnp
  have h2 := udReplace_positions_sorted _ _ h1 hb
  rw [lookupHP_mergeHP_le _ _ h2, udReplace_eq _ _ _ h1 hb, List.nil_append,
    lookupHP_map_snd (mergeHP pile np) (fun p h => (lookupHP before p).getD h),
    lookupHP_mergeHP_le _ _ hp]
  cases hB : lookupHP before pos with
  | some h =>
    cases (lookupHP pile pos).orElse (fun _ => lookupHP np pos) <;> simp
  | none =>
    cases (lookupHP pile pos).orElse (fun _ => lookupHP np pos) <;> simp

theorem final_sorted (pile np before : HP H) (hp : pile.Pairwise (fun a b => a.1 ≤ b.1))
    (hnp : np.Pairwise (fun a b => a.1 ≤ b.1)) (hb : before.Pairwise (fun a b => a.1 ≤ b.1)) :
    (mergeHP (udReplace (mergeHP pile np) before []) before).Pairwise (fun a b => a.1 ≤ b.1) :=
  mergeHP_sorted_le _ _ (udReplace_positions_sorted _ _ (mergeHP_sorted_le pile np hp hnp) hb) hb

variable [DecidableEq H] [Hasher H] in
theorem proofUndoDel_eq (p : CProof H) (bt : List U64) (bh C : List H) (bpt : List U64)
    (bph : List H) (n : U64) (hne : bt.isEmpty = false) :
    proofUndoDel p bt bh C bpt bph n = (do
      let tw ← toHashAndPos p.targets C
      let pw ← toHashAndPos (ProofPositions tw.positions n (TreeRows n)).1 p.proof
      let btw ← toHashAndPos bt bh
      let (tw, pw, np) ← udOuter n (TreeRows n) (deTwinHashAndPos btw (TreeRows n)).reverse tw pw []
      let r ← calculateHashes n (some bh) bpt bph
      pure (undoTail n (TreeRows n) tw (mergeHP (udReplace (mergeHP pw np) r.nodes []) r.nodes))) := by
  unfold proofUndoDel
  simp only [hne, Bool.false_eq_true, if_false]
  rfl

end
end UtreexoVerif.Proofs.ProofUndoLists

namespace UtreexoVerif.Proofs.ProofUndoAddMove
open Model

/-- the walk of `proofUndoAdd` on one position (`moveDown` in the model; the model's local `moveBack`
is the walk of `proofUndoAddOld`): the destroyed roots (given in ascending order) are put back last
first -/
def moveBack (rows : U8) (td : List U64) (pos : U64) : U64 :=
  td.reverse.foldl (fun c d => moveDownPosition rows (Parent d rows) d c) pos

theorem moveBack_nil (rows : U8) (pos : U64) : moveBack rows [] pos = pos := rfl

theorem moveBack_append (rows : U8) (td : List U64) (d pos : U64) :
    moveBack rows (td ++ [d]) pos =
      moveBack rows td (moveDownPosition rows (Parent d rows) d pos) := by
  unfold moveBack
  rw [List.reverse_append, List.reverse_singleton, List.singleton_append, List.foldl_cons]

end UtreexoVerif.Proofs.ProofUndoAddMove

namespace UtreexoVerif.Proofs.ProofUndoLists
open Model ProofUndoAddMove

section
variable {H : Type}

theorem foldl_moveDown (rows : U8) (td : List U64) (tw pw : HP H) :
    td.reverse.foldl (fun (st : HP H × HP H) destroyed =>
        (st.1.map (fun (x : U64 × H) =>
            (moveDownPosition rows (Parent destroyed rows) destroyed x.1, x.2)),
         st.2.map (fun (x : U64 × H) =>
            (moveDownPosition rows (Parent destroyed rows) destroyed x.1, x.2)))) (tw, pw) =
      (tw.map (fun x => (moveBack rows td x.1, x.2)), pw.map (fun x => (moveBack rows td x.1, x.2))) := by
  unfold moveBack
  generalize td.reverse = l
  induction l generalizing tw pw with
  | nil => simp
  | cons d t ih =>
    simp only [List.foldl_cons]
    rw [ih]
    simp only [List.map_map]
    congr 1

theorem proofUndoAdd_eq (p : CProof H) (a n : U64) (C : List H) (td : List U64) :
    proofUndoAdd p a n C td = (do
      let tw ← toHashAndPos p.targets C
      let pw ← toHashAndPos (ProofPositions tw.positions n (TreeRows n)).1 p.proof
      let tw ← pruneEdges a n (TreeRows n) (TreeRows (n - a))
        (tw.map (fun x => (moveBack (TreeRows n) td x.1, x.2))) []
      let pw ← pruneEdges a n (TreeRows n) (TreeRows (n - a))
        (pw.map (fun x => (moveBack (TreeRows n) td x.1, x.2))) []
      pure (undoTail (n - a) (TreeRows (n - a))
        (sortHP (remapRows (TreeRows n) (TreeRows (n - a)) tw))
        (sortHP (remapRows (TreeRows n) (TreeRows (n - a)) pw)))) := by
  unfold proofUndoAdd
  simp only [foldl_moveDown]
  rfl

/-- `undoAdd` before the repair, when no root was destroyed: no walk, and no sort -/
theorem proofUndoAddOld_nil_eq (p : CProof H) (a n : U64) (C : List H) :
    proofUndoAddOld p a n C [] = (do
      let tw ← toHashAndPos p.targets C
      let pw ← toHashAndPos (ProofPositions tw.positions n (TreeRows n)).1 p.proof
      let tw ← pruneEdgesOld a n (TreeRows n) (TreeRows (n - a)) tw []
      let pw ← pruneEdgesOld a n (TreeRows n) (TreeRows (n - a)) pw []
      pure (undoTail (n - a) (TreeRows (n - a))
        (remapRows (TreeRows n) (TreeRows (n - a)) tw)
        (remapRows (TreeRows n) (TreeRows (n - a)) pw))) := by
  unfold proofUndoAddOld
  simp only [List.foldl_nil, foldl_const]
  rfl

end
end UtreexoVerif.Proofs.ProofUndoLists
