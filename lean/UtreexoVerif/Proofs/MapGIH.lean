/-
  The storage invariant between the steps of `Undo`, for partial (`fl = false`) and full (`fl = true`)
  forests at once: `MapGI.GI` with a hole, without the guarantee that roots are stored, and with the
  upper bound ("nothing unneeded") against the cached set `Kp` at the END of `Undo`.  `HInvP` is
  `GIH false` together with "the leaves of `K` lie outside the hole" (`gih_of_hinvP`; back by `hinvP_of_gih`,
  which takes that clause as a hypothesis).  Nothing is claimed about the positions in the hole.  In a full forest `K` is the set of hashes
  that are not pending (deleted, or just being taken back), every node outside the hole is stored (`fullS`) and
  every leaf of `K` outside the hole is cached (`fullC`).  At the two ends of `Undo` it is `GI` (`gih_of_gi`,
  `gi_of_gih`).

  The elementary moves of `Undo` on it: a stored node is dropped (`drop_node`), the node list changes
  where the state is not looked at (`change_N`), hole positions that have become empty are given up
  (`close_hole`, `close_root`), an empty root is written (`put_root`); a subtree is relocated
  (`Proofs/MapRelocK.lean`, `GIH.unlift_reloc` in `Proofs/MapUnlift.lean`).
  `Undo` is proved on `GIH`; `HInv`/`HInvP` (partial forests) serve the readings and examples.
  The moves on `GIH` are `MapGIH.GIH.…`, whichever file they stand in (`MapUnlift`, `MapUnstepA`, `MapUnstepB`, `MapUndoFill`;
  the move of `restoreRoots` is `MapUndoAll.gih_restore`); the readings on `HInvP`/`HInv` and the examples are `MapUndoSteps.…`.
-/
import UtreexoVerif.Proofs.MapUndoWeak
import UtreexoVerif.Proofs.MapRelocK
import UtreexoVerif.Proofs.MapGI

namespace UtreexoVerif.Proofs.MapGIH
open Model Spec MapRep PForest MapAInv
  MapUndoDefs MapUndoSteps MapRelocK MapGI Hasher
set_option linter.unusedSectionVars false

variable {H : Type} [DecidableEq H] [Hasher H]

structure GIH (fl : Bool) (A : Pos → Option (Leaf H)) (C : H → Option Pos) (N : List (Pos × H × Bool))
    (R : Pos → Prop) (K Kp : H → Prop) (Hole : Pos → Prop) : Prop where
  true_hash : ∀ q l, A q = some l → ¬ Hole q → ∃ b, (q, l.hash, b) ∈ N
  cache_sub : ∀ x t, C x = some t → K x
  cached_pos : ∀ x t, C x = some t → (t, x, true) ∈ N ∧ ¬ Hole t
  leaf_stored : ∀ t, KLeaf N K t → ¬ Hole t → A t ≠ none
  only_needed : ∀ q l, A q = some l → ¬ Hole q → ¬ R q → AllowedAt N Kp q
  has_needed : ∀ q h b, (q, h, b) ∈ N → ¬ Hole q → ¬ R q → RequiredAt N K q → A q ≠ none
  flags : ∀ q l, A q = some l → ¬ Hole q → l.hash ≠ zero → (l.remember = true ↔ (fl = true ∨ KLeaf N K q))
  flagsZ : fl = true → ∀ q l, A q = some l → ¬ Hole q → l.remember = true
  fullS : fl = true → ∀ q h b, (q, h, b) ∈ N → ¬ Hole q → A q ≠ none
  fullC : fl = true → ∀ t x, (t, x, true) ∈ N → ¬ Hole t → K x → C x = some t

variable {fl : Bool} {A : Pos → Option (Leaf H)} {C : H → Option Pos} {N N' : List (Pos × H × Bool)}
  {R R' : Pos → Prop} {K K' Kp : H → Prop} {Hole Hole' : Pos → Prop}

theorem gih_of_hinvP (a : HInvP A C N R K Kp Hole) : GIH false A C N R K Kp Hole :=
  { true_hash := a.true_hash, cache_sub := a.cache_sub, cached_pos := a.cached_pos,
    leaf_stored := fun t hk _ => a.leaf_stored t hk, only_needed := a.only_needed, has_needed := a.has_needed,
    flags := fun q l hl hh hnz => by rw [a.flags q l hl hh hnz]; simp,
    flagsZ := fun h => Bool.noConfusion h, fullS := fun h => Bool.noConfusion h,
    fullC := fun h => Bool.noConfusion h }

theorem hinvP_of_gih (g : GIH false A C N R K Kp Hole) (hk : ∀ t, KLeaf N K t → ¬ Hole t) : HInvP A C N R K Kp Hole :=
  { true_hash := g.true_hash, cache_sub := g.cache_sub, cached_pos := g.cached_pos, kleaf_out := hk,
    leaf_stored := fun t h => g.leaf_stored t h (hk t h), only_needed := g.only_needed, has_needed := g.has_needed,
    flags := fun q l hl hh hnz => by rw [g.flags q l hl hh hnz]; simp }

theorem gih_of_gi (L : Laws N R) (g : GI fl A C N R (fun x => (C x).isSome = true) (fun _ => False))
    (hKp : ∀ x, (C x).isSome = true → Kp x) : GIH fl A C N R (fun x => (C x).isSome = true) Kp (fun _ => False) where
  true_hash := fun q l hl _ => g.true_hash q l hl
  cache_sub := g.cache_sub
  cached_pos := fun x t h => ⟨g.cached_pos x t h, fun c => c⟩
  leaf_stored := fun t ⟨x, hx, hm⟩ _ => Classical.byCases (p := R t) (fun hr => g.roots_stored t hr)
    (fun hr => g.has_needed t x true hm hr (Or.inl ⟨x, hx, hm⟩))
  only_needed := fun q l hl _ hnr => AllowedAt.mono (fun _ => KLeaf.mono hKp) (g.only_needed q l hl hnr (fun c => c))
  has_needed := fun q h b hm _ hnr hreq => g.has_needed q h b hm hnr hreq
  flags := fun q l hl _ hnz => g.flags q l hl hnz
  flagsZ := fun hf q l hl _ => g.flagsZ hf q l hl
  fullS := fun hf q h b hm _ => by subst hf; exact g.stored_of_full L hm
  fullC := fun _ t x hm _ hk => by
    obtain ⟨t', ht'⟩ := Option.isSome_iff_exists.1 hk
    rw [ht', L.leaf_hash t x t' true hm (g.cached_pos x t' ht')]

theorem gi_of_gih (g : GIH fl A C N R (fun x => (C x).isSome = true) (fun x => (C x).isSome = true) (fun _ => False))
    (hroots : ∀ ρ, R ρ → A ρ ≠ none) (hfull : fl = true → ∀ t x, (t, x, true) ∈ N → (C x).isSome = true) :
    GI fl A C N R (fun x => (C x).isSome = true) (fun _ => False) where
  true_hash := fun q l hl => g.true_hash q l hl (fun c => c)
  cache_sub := g.cache_sub
  cached_pos := fun x t h => (g.cached_pos x t h).1
  roots_stored := hroots
  only_needed := fun q l hl hnr _ => g.only_needed q l hl (fun c => c) hnr
  has_needed := fun q h b hm hnr hreq => g.has_needed q h b hm (fun c => c) hnr hreq
  flags := fun q l hl hnz => g.flags q l hl (fun c => c) hnz
  flagsZ := fun hf q l hl => g.flagsZ hf q l hl (fun c => c)
  fullK := hfull

namespace GIH

/-- a cached leaf is not an empty root, so its node carries the flag by `flags` -/
theorem weak (L : Laws N R) (g : GIH fl A C N R K Kp Hole) : WInv A C N fl Hole where
  true_hash := g.true_hash
  cached_pos := g.cached_pos
  leaf_stored := fun x t h => g.leaf_stored t ⟨x, g.cache_sub x t h, (g.cached_pos x t h).1⟩ (g.cached_pos x t h).2
  flag := by
    intro q l hl hh hc
    rcases hc with hc | hc
    · obtain ⟨t, ht⟩ := Option.isSome_iff_exists.1 hc
      have hm := (g.cached_pos _ t ht).1
      obtain ⟨b, hb⟩ := g.true_hash q l hl hh
      have hqt : q = t := L.leaf_hash t l.hash q b hm hb
      have hnz : l.hash ≠ zero := by
        intro hz
        rw [hz] at hm
        cases (L.zero_root t true hm).2.1
      exact (g.flags q l hl hh hnz).2 (Or.inr ⟨l.hash, g.cache_sub _ t ht, hqt ▸ hm⟩)
    · exact g.flagsZ hc q l hl hh

theorem mono_hole (g : GIH fl A C N R K Kp Hole) (h : ∀ q, Hole q → Hole' q) (hk : ∀ x t, C x = some t → ¬ Hole' t) :
    GIH fl A C N R K Kp Hole' where
  true_hash := fun q l hl hh => g.true_hash q l hl (fun c => hh (h q c))
  cache_sub := g.cache_sub
  cached_pos := fun x t hC => ⟨(g.cached_pos x t hC).1, hk x t hC⟩
  leaf_stored := fun t ht hh => g.leaf_stored t ht (fun c => hh (h t c))
  only_needed := fun q l hl hh hr => g.only_needed q l hl (fun c => hh (h q c)) hr
  has_needed := fun q h' b hm hh hr hreq => g.has_needed q h' b hm (fun c => hh (h q c)) hr hreq
  flags := fun q l hl hh hnz => g.flags q l hl (fun c => hh (h q c)) hnz
  flagsZ := fun hf q l hl hh => g.flagsZ hf q l hl (fun c => hh (h q c))
  fullS := fun hf q h' b hm hh => g.fullS hf q h' b hm (fun c => hh (h q c))
  fullC := fun hf t x hm hh => g.fullC hf t x hm (fun c => hh (h t c))

theorem mono_Kp {Kp' : H → Prop} (g : GIH fl A C N R K Kp Hole) (h : ∀ t, KLeaf N Kp t → KLeaf N Kp' t) :
    GIH fl A C N R K Kp' Hole :=
  { g with only_needed := fun q l hl hh hr => (g.only_needed q l hl hh hr).mono h }

theorem congr_hole (g : GIH fl A C N R K Kp Hole) (h : ∀ q, Hole' q ↔ Hole q) : GIH fl A C N R K Kp Hole' := by
  have : Hole' = Hole := funext fun q => propext (h q)
  rw [this]; exact g

theorem congr_R (g : GIH fl A C N R K Kp Hole) (h : ∀ q, R' q ↔ R q) : GIH fl A C N R' K Kp Hole := by
  have : R' = R := funext fun q => propext (h q)
  rw [this]; exact g

theorem congr_K (g : GIH fl A C N R K Kp Hole) (h : ∀ t x, (t, x, true) ∈ N → (K' x ↔ K x)) :
    GIH fl A C N R K' Kp Hole := by
  have kl : ∀ t, KLeaf N K' t ↔ KLeaf N K t := fun t =>
    ⟨fun ⟨x, hk, hm⟩ => ⟨x, (h t x hm).1 hk, hm⟩, fun ⟨x, hk, hm⟩ => ⟨x, (h t x hm).2 hk, hm⟩⟩
  exact { true_hash := g.true_hash
          cache_sub := fun x t hC => (h t x (g.cached_pos x t hC).1).2 (g.cache_sub x t hC)
          cached_pos := g.cached_pos
          leaf_stored := fun t hk => g.leaf_stored t ((kl t).1 hk)
          only_needed := g.only_needed
          has_needed := fun q h' b hm hh hr hreq => g.has_needed q h' b hm hh hr (hreq.mono fun t => (kl t).1)
          flags := fun q l hl hh hnz => by rw [g.flags q l hl hh hnz, kl]
          flagsZ := g.flagsZ
          fullS := g.fullS
          fullC := fun hf t x hm hh hk => g.fullC hf t x hm hh ((h t x hm).1 hk) }

/-- the stored node at `P` is dropped (`undoSingleAddLoop`): `P` joins the hole, its hash leaves the cache and `K` -/
theorem drop_node (L : Laws N R) (g : GIH fl A C N R K Kp Hole) (P : Pos) (hP : ¬ Hole P) :
    GIH fl (upd A P none) (dropC P A C) N R (fun y => K y ∧ ∀ l, A P = some l → l.hash ≠ y) Kp
      (fun q => Hole q ∨ q = P) := by
  have wd := (g.weak L).drop L P hP
  have sub : ∀ t, KLeaf N (fun y => K y ∧ ∀ l, A P = some l → l.hash ≠ y) t → KLeaf N K t :=
    fun t ⟨x, hk, hm⟩ => ⟨x, hk.1, hm⟩
  have sup : ∀ t, t ≠ P → KLeaf N K t → KLeaf N (fun y => K y ∧ ∀ l, A P = some l → l.hash ≠ y) t := by
    rintro t hne ⟨x, hk, hm⟩
    refine ⟨x, ⟨hk, fun l hA e => ?_⟩, hm⟩
    obtain ⟨b, hb⟩ := g.true_hash P l hA hP
    rw [e] at hb
    exact hne (L.leaf_hash t x P b hm hb).symm
  have hC : ∀ y, (∀ l, A P = some l → l.hash ≠ y) → dropC P A C y = C y := by
    intro y hy
    cases hA : A P with
    | none => rw [dropC_of_none hA]
    | some l => rw [dropC_of_some hA, upd_ne _ _ (fun e => hy l hA e.symm)]
  refine { true_hash := wd.true_hash, cache_sub := ?_, cached_pos := wd.cached_pos,
           leaf_stored := ?_, only_needed := ?_, has_needed := ?_, flags := ?_, flagsZ := ?_, fullS := ?_, fullC := ?_ }
  · intro y t h
    refine ⟨g.cache_sub y t (dropC_some h), fun l hA e => ?_⟩
    rw [dropC_of_some hA, ← e, upd_self] at h
    cases h
  · intro t hk hh
    rw [upd_ne _ _ (fun e => hh (Or.inr e))]
    exact g.leaf_stored t (sub t hk) (fun c => hh (Or.inl c))
  · intro q l hl hh hnr
    rw [upd_ne _ _ (fun e => hh (Or.inr e))] at hl
    exact g.only_needed q l hl (fun c => hh (Or.inl c)) hnr
  · intro q h b hm hh hnr hreq
    rw [upd_ne _ _ (fun e => hh (Or.inr e))]
    exact g.has_needed q h b hm (fun c => hh (Or.inl c)) hnr (hreq.mono sub)
  · intro q l hl hh hnz
    rw [upd_ne _ _ (fun e => hh (Or.inr e))] at hl
    rw [g.flags q l hl (fun c => hh (Or.inl c)) hnz]
    exact or_congr_right ⟨sup q (fun e => hh (Or.inr e)), sub q⟩
  · intro hf q l hl hh
    rw [upd_ne _ _ (fun e => hh (Or.inr e))] at hl
    exact g.flagsZ hf q l hl (fun c => hh (Or.inl c))
  · intro hf q h b hm hh
    rw [upd_ne _ _ (fun e => hh (Or.inr e))]
    exact g.fullS hf q h b hm (fun c => hh (Or.inl c))
  · intro hf t x hm hh hk
    rw [hC x hk.2]
    exact g.fullC hf t x hm (fun c => hh (Or.inl c)) hk.1

theorem change_N (g : GIH fl A C N' R' K Kp Hole)
    (hN : ∀ q h b, ¬ Hole q → ((q, h, b) ∈ N' ↔ (q, h, b) ∈ N))
    (hK : ∀ t x, (t, x, true) ∈ N → K x → (t, x, true) ∈ N')
    (hallow : ∀ q l, A q = some l → ¬ Hole q → ¬ R q → AllowedAt N' Kp q → AllowedAt N Kp q)
    (hR : ∀ q, ¬ Hole q → R' q → R q) : GIH fl A C N R K Kp Hole := by
  have kl : ∀ t, KLeaf N K t → KLeaf N' K t := fun t ⟨x, hk, hm⟩ => ⟨x, hk, hK t x hm hk⟩
  exact { true_hash := fun q l hl hh => by
            obtain ⟨b, hb⟩ := g.true_hash q l hl hh
            exact ⟨b, (hN q _ b hh).1 hb⟩
          cache_sub := g.cache_sub
          cached_pos := fun x t h => ⟨(hN t x true (g.cached_pos x t h).2).1 (g.cached_pos x t h).1, (g.cached_pos x t h).2⟩
          leaf_stored := fun t hk => g.leaf_stored t (kl t hk)
          only_needed := fun q l hl hh hnr => hallow q l hl hh hnr (g.only_needed q l hl hh (fun r => hnr (hR q hh r)))
          has_needed := fun q h b hm hh hnr hreq =>
            g.has_needed q h b ((hN q h b hh).2 hm) hh (fun r => hnr (hR q hh r)) (hreq.mono kl)
          flags := fun q l hl hh hnz => by
            rw [g.flags q l hl hh hnz]
            exact or_congr_right ⟨fun ⟨x, hk, hm⟩ => ⟨x, hk, (hN q x true hh).1 hm⟩, kl q⟩
          flagsZ := g.flagsZ
          fullS := fun hf q h b hm hh => g.fullS hf q h b ((hN q h b hh).2 hm) hh
          fullC := fun hf t x hm hh hk => g.fullC hf t x (hK t x hm hk) hh hk }

theorem close_hole (g : GIH fl A C N R K Kp Hole) (hsub : ∀ q, Hole' q → Hole q)
    (hA : ∀ q, Hole q → ¬ Hole' q → A q = none ∧ ∀ h b, (q, h, b) ∉ N) : GIH fl A C N R K Kp Hole' := by
  have key : ∀ q l, A q = some l → ¬ Hole' q → ¬ Hole q := fun q l hl hh c => by
    rw [(hA q c hh).1] at hl; cases hl
  have node : ∀ q h b, (q, h, b) ∈ N → ¬ Hole' q → ¬ Hole q := fun q h b hm hh c => (hA q c hh).2 h b hm
  exact { true_hash := fun q l hl hh => g.true_hash q l hl (key q l hl hh)
          cache_sub := g.cache_sub
          cached_pos := fun x t h => ⟨(g.cached_pos x t h).1, fun c => (g.cached_pos x t h).2 (hsub t c)⟩
          leaf_stored := fun t hk hh => g.leaf_stored t hk (let ⟨x, _, hm⟩ := hk; node t x true hm hh)
          only_needed := fun q l hl hh hnr => g.only_needed q l hl (key q l hl hh) hnr
          has_needed := fun q h b hm hh hnr hreq => g.has_needed q h b hm (node q h b hm hh) hnr hreq
          flags := fun q l hl hh hnz => g.flags q l hl (key q l hl hh) hnz
          flagsZ := fun hf q l hl hh => g.flagsZ hf q l hl (key q l hl hh)
          fullS := fun hf q h b hm hh => g.fullS hf q h b hm (node q h b hm hh)
          fullC := fun hf t x hm hh => g.fullC hf t x hm (node t x true hm hh) }

/-- an empty root is written (`undoSingleAddLoop` re-creates an overwritten empty root): it leaves the hole -/
theorem put_root (L : Laws N R) (g : GIH fl A C N R K Kp Hole) {ρ : Pos} (hρ : R ρ) {b : Bool}
    (hm : (ρ, (zero : H), b) ∈ N) :
    GIH fl (upd A ρ (some ⟨zero, true⟩)) C N R K Kp (fun q => Hole q ∧ q ≠ ρ) := by
  have out : ∀ {q : Pos}, q ≠ ρ → ¬ (Hole q ∧ q ≠ ρ) → ¬ Hole q := fun hq hh c => hh ⟨c, hq⟩
  have noleaf : ∀ x, (ρ, x, true) ∉ N := fun x hx => by
    rw [← (L.func _ _ _ _ _ hm hx).1] at hx
    cases (L.zero_root ρ true hx).2.1
  refine { true_hash := ?_, cache_sub := g.cache_sub, cached_pos := fun x t h => ⟨(g.cached_pos x t h).1, fun c =>
             (g.cached_pos x t h).2 c.1⟩, leaf_stored := ?_, only_needed := ?_, has_needed := ?_, flags := ?_,
           flagsZ := ?_, fullS := ?_, fullC := ?_ }
  · intro q l hl hh
    rw [upd_apply] at hl
    split at hl
    · rename_i e; cases hl; exact ⟨b, e ▸ hm⟩
    · rename_i e; exact g.true_hash q l hl (out e hh)
  · intro t hk hh
    rw [upd_apply]
    split
    · simp
    · rename_i e; exact g.leaf_stored t hk (out e hh)
  · intro q l hl hh hnr
    have e : q ≠ ρ := fun e => hnr (e ▸ hρ)
    rw [upd_ne _ _ e] at hl
    exact g.only_needed q l hl (out e hh) hnr
  · intro q h b' hq hh hnr hreq
    have e : q ≠ ρ := fun e => hnr (e ▸ hρ)
    rw [upd_ne _ _ e]
    exact g.has_needed q h b' hq (out e hh) hnr hreq
  · intro q l hl hh hnz
    rw [upd_apply] at hl
    split at hl
    · cases hl; exact absurd rfl hnz
    · rename_i e; exact g.flags q l hl (out e hh) hnz
  · intro hf q l hl hh
    rw [upd_apply] at hl
    split at hl
    · cases hl; rfl
    · rename_i e; exact g.flagsZ hf q l hl (out e hh)
  · intro hf q h b' hq hh
    rw [upd_apply]
    split
    · simp
    · rename_i e; exact g.fullS hf q h b' hq (out e hh)
  · intro hf t x hx hh hk
    exact g.fullC hf t x hx (out (fun e => noleaf x (e ▸ hx)) hh) hk

/-- in a partial forest an empty root that is no leaf of `K` may leave the hole: roots need not be stored between
the steps -/
theorem close_root (g : GIH false A C N R K Kp Hole) (hsub : ∀ q, Hole' q → Hole q)
    (hA : ∀ q, Hole q → ¬ Hole' q → A q = none ∧ R q ∧ ¬ KLeaf N K q) : GIH false A C N R K Kp Hole' := by
  have key : ∀ q l, A q = some l → ¬ Hole' q → ¬ Hole q := fun q l hl hh c => by
    rw [(hA q c hh).1] at hl; cases hl
  exact { true_hash := fun q l hl hh => g.true_hash q l hl (key q l hl hh)
          cache_sub := g.cache_sub
          cached_pos := fun x t h => ⟨(g.cached_pos x t h).1, fun c => (g.cached_pos x t h).2 (hsub t c)⟩
          leaf_stored := fun t hk hh => g.leaf_stored t hk (fun c => (hA t c hh).2.2 hk)
          only_needed := fun q l hl hh hnr => g.only_needed q l hl (key q l hl hh) hnr
          has_needed := fun q h b hm hh hnr hreq => g.has_needed q h b hm (fun c => hnr (hA q c hh).2.1) hnr hreq
          flags := fun q l hl hh hnz => g.flags q l hl (key q l hl hh) hnz
          flagsZ := fun hf => Bool.noConfusion hf
          fullS := fun hf => Bool.noConfusion hf
          fullC := fun hf => Bool.noConfusion hf }

end GIH

end UtreexoVerif.Proofs.MapGIH
