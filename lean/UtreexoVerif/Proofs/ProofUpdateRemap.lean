/-
  `updateProofAdd` (prove.go): the two position-moving stages before the merge.

  * `maybeRemap_enc`: `maybeRemap` re-encodes (row, offset) pairs for the number of rows after
    the additions;
  * `destroy_fold`: the `for _, del := range toDestroy` loop (one `getNewPositions([del], …,
    true)` call per destroyed root, each followed by a re-sort) moves every entry by `moveA`
    over the whole list of destroyed roots.
-/
import UtreexoVerif.Proofs.ProofUpdateRemove

namespace UtreexoVerif.Proofs.ProofUpdateRemap
open Spec Hasher
open UtreexoVerif.Proofs.CalcGeo UtreexoVerif.Proofs.Movement
open UtreexoVerif.Proofs.ProofUpdateGnp UtreexoVerif.Proofs.MoveFold
open UtreexoVerif.Proofs.ProofUpdateRemove UtreexoVerif.Proofs.SpecNodes

/-- the per-entry formula of `maybeRemap` (no `row == 0` shortcut) is `translatePos` -/
theorem remapFn_eq (pos : U64) (a b : U8) :
    (pos - Model.startPositionAtRow (Model.DetectRow pos a) a) +
        Model.startPositionAtRow (Model.DetectRow pos a) b = Model.translatePos pos a b := by
  unfold Model.translatePos
  by_cases h : Model.DetectRow pos a = 0#8
  · rw [h]
    unfold Model.startPositionAtRow
    simp
  · have hne : (Model.DetectRow pos a == 0#8) = false := beq_false_of_ne h
    simp only [hne, Bool.false_eq_true, if_false]

theorem forestRows_mono {n m : Nat} (h : n ≤ m) : forestRows n ≤ forestRows m :=
  forestRows_le (Nat.le_trans h (forestRows_spec_le m))

section
variable {H : Type}

theorem maybeRemap_enc {n k : Nat} (hN : n + k ≤ 2 ^ 63) (L : List (Pos × H))
    (hL : ∀ x ∈ L, ValidH (forestRows n) x.1) :
    Model.maybeRemap (BitVec.ofNat 64 n) (BitVec.ofNat 64 k) (L.map (enc2 (forestRows n))) =
      L.map (enc2 (forestRows (n + k))) := by
  have hn : n ≤ 2 ^ 63 := by omega
  have h63 : forestRows n ≤ 63 := forestRows_small hn
  have h63' : forestRows (n + k) ≤ 63 := forestRows_small hN
  have hmono : forestRows n ≤ forestRows (n + k) := forestRows_mono (by omega)
  unfold Model.maybeRemap
  rw [← BitVec.ofNat_add, treeRows_ofNat hN, treeRows_ofNat hn]
  by_cases hlt : forestRows n < forestRows (n + k)
  · have hc : H8 (forestRows (n + k)) > H8 (forestRows n) := by
      show H8 (forestRows n) < H8 (forestRows (n + k))
      rw [BitVec.lt_def, toNat_H8 h63, toNat_H8 h63']
      exact hlt
    simp only [hc, if_true]
    rw [List.map_map]
    apply List.map_congr_left
    intro x hx
    simp only [Function.comp, enc2]
    rw [remapFn_eq]
    exact congrArg (·, x.2) (EncPos.translatePos_encP h63 (hL x hx) h63' (ValidH.mono (hL x hx) hmono))
  · have he : forestRows (n + k) = forestRows n := by omega
    have hc : ¬ H8 (forestRows (n + k)) > H8 (forestRows n) := by
      rw [he]
      exact BitVec.lt_irrefl _
    simp only [hc, if_false]
    rw [he]

end

theorem foldl_pair {α β γ : Type} (f : α → γ → α) (g : β → γ → β) (l : List γ) (a : α) (b : β) :
    l.foldl (fun (st : α × β) d => (f st.1 d, g st.2 d)) (a, b) = (l.foldl f a, l.foldl g b) := by
  induction l generalizing a b with
  | nil => rfl
  | cons d t ih => simp only [List.foldl_cons]; exact ih _ _

section
variable {H : Type} [DecidableEq H] [Hasher H]

theorem dtOK_single {N R : Nat} {d : Pos} {rest : List Pos} (h : DtOK N R (d :: rest)) :
    DtOK N R [d] := by
  intro T hT
  rw [List.mem_singleton] at hT
  subst hT
  exact h T List.mem_cons_self

theorem step_facts {N : Nat} {d p : Pos} {T : Nat} (hT : T ∈ treeRows N)
    (hu : Under T (2 * (N >>> (T + 1))) p) (hd : DtOK N T [d]) :
    Under T (2 * (N >>> (T + 1))) (moveA N (treeRowOf N p) [d] p) ∧
      treeRowOf N (moveA N (treeRowOf N p) [d] p) = T := by
  rw [treeRowOf_under hT hu]
  have h1 := moveA_under [d] p hu (hd.lt hT)
  exact ⟨h1, treeRowOf_under hT h1⟩

/-- The moved positions are assumed distinct (`Nodup`): the re-sort orders by position only, so its result
is determined by the set of entries only when no two share a position. -/
theorem destroy_fold {N : Nat} (hN : N ≤ 2 ^ 63) : ∀ (dels : List Pos) (L : List (Pos × H)),
    (∀ R, DtOK N R dels) →
    (∀ x ∈ L, x.2 ≠ zero) →
    (∀ x ∈ L, ∃ T, T ∈ treeRows N ∧ Under T (2 * (N >>> (T + 1))) x.1) →
    (L.map (enc2 (forestRows N))).Pairwise (fun a b => a.1 ≤ b.1) →
    (L.map (fun x => E (forestRows N) (moveA N (treeRowOf N x.1) dels x.1))).Nodup →
    dels.foldl (fun st d => Model.getNewPositions [E (forestRows N) d] st (BitVec.ofNat 64 N) true)
        (L.map (enc2 (forestRows N))) =
      Model.sortHP (L.map (fun x => (E (forestRows N) (moveA N (treeRowOf N x.1) dels x.1), x.2))) := by
  intro dels
  induction dels with
  | nil =>
    intro L _ _ _ hs _
    rw [List.foldl_nil]
    have e : L.map (fun x => (E (forestRows N) (moveA N (treeRowOf N x.1) [] x.1), x.2)) =
        L.map (enc2 (forestRows N)) := rfl
    rw [e, SortBy.sortHP_eq_self hs]
  | cons d rest ih =>
    intro L hdt hz hu hs hnd
    rw [List.foldl_cons]
    have step := getNewPositions_enc hN [d] true L (fun x hx _ => by
        obtain ⟨T, hT, hux⟩ := hu x hx
        exact ⟨T, hT, hux, dtOK_single (hdt T)⟩) (Or.inl rfl)
    have hfil : L.filter (fun x => decide (x.2 ≠ zero)) = L :=
      List.filter_eq_self.2 (fun x hx => by simpa using hz x hx)
    rw [hfil] at step
    have e0 : ([d].map (E (forestRows N))) = [E (forestRows N) d] := rfl
    have e1 : (L.map fun x => (E (forestRows N) x.1, x.2)) = L.map (enc2 (forestRows N)) := rfl
    rw [e0, e1] at step
    rw [step]
    -- the list after the first call, on pairs
    let m1 : Pos → Pos := fun p => moveA N (treeRowOf N p) [d] p
    let L' : List (Pos × H) := L.map (fun x => (m1 x.1, x.2))
    have e2 : L.map (fun x => (E (forestRows N) (moveA N (treeRowOf N x.1) [d] x.1), x.2)) =
        L'.map (enc2 (forestRows N)) := by
      rw [List.map_map]; rfl
    let L1 : List (Pos × H) :=
      Model.sortBy ((fun y : U64 × H => y.1) ∘ enc2 (forestRows N)) L'
    have e3 : Model.sortHP (L'.map (enc2 (forestRows N))) = L1.map (enc2 (forestRows N)) :=
      SortBy.sortBy_map_comp (fun y : U64 × H => y.1) (enc2 (forestRows N)) L'
    rw [e2, e3]
    have hperm : L1.Perm L' := SortBy.sortBy_perm _ _
    have hmem : ∀ x ∈ L1, ∃ y ∈ L, x = (m1 y.1, y.2) := by
      intro x hx
      obtain ⟨y, hy, e⟩ := List.mem_map.1 (hperm.mem_iff.1 hx)
      exact ⟨y, hy, e.symm⟩
    have key : ∀ y ∈ L, moveA N (treeRowOf N (m1 y.1)) rest (m1 y.1) =
        moveA N (treeRowOf N y.1) (d :: rest) y.1 := by
      intro y hy
      obtain ⟨T, hT, huy⟩ := hu y hy
      have f := step_facts hT huy (dtOK_single (hdt T))
      show moveA N (treeRowOf N (moveA N (treeRowOf N y.1) [d] y.1)) rest
        (moveA N (treeRowOf N y.1) [d] y.1) = _
      rw [f.2, treeRowOf_under hT huy, moveA_cons N T d rest, moveA_cons N T d []]
      rfl
    have hkeys : L'.map (fun x => E (forestRows N) (moveA N (treeRowOf N x.1) rest x.1)) =
        L.map (fun x => E (forestRows N) (moveA N (treeRowOf N x.1) (d :: rest) x.1)) := by
      rw [List.map_map]
      apply List.map_congr_left
      intro y hy
      show E (forestRows N) (moveA N (treeRowOf N (m1 y.1)) rest (m1 y.1)) = _
      rw [key y hy]
    have hfin : L'.map (fun x => (E (forestRows N) (moveA N (treeRowOf N x.1) rest x.1), x.2)) =
        L.map (fun x => (E (forestRows N) (moveA N (treeRowOf N x.1) (d :: rest) x.1), x.2)) := by
      rw [List.map_map]
      apply List.map_congr_left
      intro y hy
      show (E (forestRows N) (moveA N (treeRowOf N (m1 y.1)) rest (m1 y.1)), y.2) = _
      rw [key y hy]
    have hnd1 : (L1.map (fun x => E (forestRows N) (moveA N (treeRowOf N x.1) rest x.1))).Nodup := by
      refine ((hperm.map _).nodup_iff).2 ?_
      rw [hkeys]
      exact hnd
    rw [ih L1 (fun R => (hdt R).tail)
      (by
        intro x hx
        obtain ⟨y, hy, e⟩ := hmem x hx
        rw [e]
        exact hz y hy)
      (by
        intro x hx
        obtain ⟨y, hy, e⟩ := hmem x hx
        obtain ⟨T, hT, huy⟩ := hu y hy
        rw [e]
        exact ⟨T, hT, (step_facts hT huy (dtOK_single (hdt T))).1⟩)
      (by
        rw [List.pairwise_map]
        exact SortBy.sortBy_sorted _ _)
      hnd1]
    rw [← hfin]
    apply SortBy.sortHP_eq_of_perm (hperm.map _)
    show ((L1.map _).map _).Nodup
    rw [List.map_map]
    exact hnd1

end

section examples

/-- 4 leaves (2 rows) + 1 addition (3 rows): `(1,1)` is position 5 with 2 rows and 9 with 3 rows;
leaf `(0,2)` keeps position 2 -/
example : forestRows 4 = 2 ∧ forestRows (4 + 1) = 3 ∧ E 2 (1, 1) = 5#64 ∧ E 3 (1, 1) = 9#64 := by
  decide +kernel

example : Model.maybeRemap 4#64 1#64 [(2#64, 7), (5#64, 8)] = [(2#64, 7), (9#64, 8)] := by
  decide +kernel

example : Model.maybeRemap (BitVec.ofNat 64 4) (BitVec.ofNat 64 1)
      ([(((0, 2) : Pos), 7), ((1, 1), 8)].map (enc2 (forestRows 4))) =
    [(((0, 2) : Pos), 7), ((1, 1), 8)].map (enc2 (forestRows (4 + 1))) := by
  apply maybeRemap_enc (by decide)
  intro x hx
  simp only [List.mem_cons, List.not_mem_nil, or_false] at hx
  unfold ValidH
  rcases hx with rfl | rfl <;> decide +kernel

/-- the number of rows does not grow: nothing changes -/
example : Model.maybeRemap 5#64 2#64 [(2#64, 7), (9#64, 8)] = [(2#64, 7), (9#64, 8)] := by
  decide +kernel

private inductive Hx | z | a | b
  deriving DecidableEq

private instance : Hasher Hx := ⟨fun _ _ => Hx.a, Hx.z⟩

/-- 8 leaves, `(0,3)` then `(1,0)` are destroyed: `(0,2)` moves to `(1,1)`, then to `(2,0)`;
`(2,1)` stays -/
private def exL : List (Pos × Hx) := [((0, 2), .a), ((2, 1), .b)]

example : moveA 8 3 [(0, 3), (1, 0)] (0, 2) = (2, 0) ∧ moveA 8 3 [(0, 3), (1, 0)] (2, 1) = (2, 1) := by
  decide +kernel

private theorem ex_under (p : Pos)
    (hp : p = (0, 2) ∨ p = (2, 1) ∨ p = (0, 3) ∨ p = (1, 0)) :
    Under 3 (2 * (8 >>> (3 + 1))) p := by
  unfold Under
  rcases hp with rfl | rfl | rfl | rfl <;> decide

example : [3#64, 8#64].foldl (fun st d => Model.getNewPositions [d] st 8#64 true)
    [(2#64, Hx.a), (13#64, Hx.b)] = [(12#64, Hx.a), (13#64, Hx.b)] := by decide +kernel

example : [((0, 3) : Pos), (1, 0)].foldl
      (fun st d => Model.getNewPositions [E (forestRows 8) d] st (BitVec.ofNat 64 8) true)
      (exL.map (enc2 (forestRows 8))) =
    Model.sortHP (exL.map (fun x =>
      (E (forestRows 8) (moveA 8 (treeRowOf 8 x.1) [(0, 3), (1, 0)] x.1), x.2))) := by
  apply destroy_fold (by decide)
  · intro R T hT
    simp only [List.mem_cons, List.not_mem_nil, or_false] at hT
    refine ⟨3, by decide +kernel, ex_under T (by grind), ?_⟩
    rcases hT with rfl | rfl <;> intro e <;> subst e <;> decide
  · intro x hx
    simp only [exL, List.mem_cons, List.not_mem_nil, or_false] at hx
    rcases hx with rfl | rfl <;> decide
  · intro x hx
    simp only [exL, List.mem_cons, List.not_mem_nil, or_false] at hx
    refine ⟨3, by decide +kernel, ex_under _ ?_⟩
    rcases hx with rfl | rfl <;> simp
  · decide +kernel
  · decide +kernel

end examples


end UtreexoVerif.Proofs.ProofUpdateRemap
