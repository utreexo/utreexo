/-
  `MapPollard.Prune` (model) preserves the storage invariant `Inv`: the walk of `pruneUp` from the position of the pruned
  leaf, with `Low` / `Upp` as the two halves of `Inv` while it runs.  Geometry, `Shrinks` and `pruneA` are in
  `Proofs/MapPruneA.lean` (same namespace).
-/
import UtreexoVerif.Proofs.MapPruneA

namespace UtreexoVerif.Proofs.MapPrune
open Model Spec MapAL MapInv
open MapLiftGeo (upP upP_zero upP_succ anc_upP eq_upP_of_anc)
set_option linter.unusedSectionVars false

variable {H : Type} [DecidableEq H] [Hasher H]

theorem isRootPos_belowRoot {n : Nat} {q : Pos} (h : isRootPos n q = true) : BelowRoot n q.1 q.2 q.1 := by
  simp only [isRootPos, Bool.and_eq_true, beq_iff_eq] at h
  exact ⟨Nat.le_refl _, h.1, by rw [Nat.sub_self, Nat.pow_zero, Nat.div_one]; exact h.2⟩

theorem nonroot_of_belowRoot {n R : Nat} {z : Pos} (hz : BelowRoot n z.1 z.2 R) (hne : z.1 ≠ R) :
    isRootPos n z = false := by
  have := belowRoot_isRootPos hz
  simpa [hne] using this

theorem belowRoot_sibP {n R : Nat} {z : Pos} (hz : BelowRoot n z.1 z.2 R) (hne : z.1 ≠ R) :
    BelowRoot n (sib z).1 (sib z).2 R := belowRoot_sib hz hne

theorem row_ne_of_nonroot {n R : Nat} {z : Pos} (hz : BelowRoot n z.1 z.2 R) (hnr : isRootPos n z = false) :
    z.1 ≠ R := by
  intro e
  rw [belowRoot_isRootPos hz, decide_eq_true e] at hnr
  cases hnr

variable {F : Forest H} {K : H → Prop}

theorem required_belowRoot {q : Pos} (h : Required F K q) : ∃ R, BelowRoot F.numLeaves q.1 q.2 R := by
  rcases h with h | ⟨x, t, _, hp, h⟩
  · exact ⟨_, isRootPos_belowRoot h⟩
  · rcases h with rfl | ⟨w, ⟨R, hbt, hanc, hle⟩, hnr, rfl⟩
    · exact posOf_belowRoot hp
    · have hw := belowRoot_anc hbt hanc hle
      exact ⟨R, belowRoot_sibP hw (row_ne_of_nonroot hw hnr)⟩

theorem onPath_iff {n R : Nat} {t z : Pos} (hz : BelowRoot n z.1 z.2 R) : OnPath n t z ↔ Anc z t :=
  ⟨fun ⟨_, _, hanc, _⟩ => hanc, fun h => ⟨R, MapLiftGeo.belowRoot_of_anc hz h, h, hz.1⟩⟩

theorem proofSib_iff {n R : Nat} {t z : Pos} (hz : BelowRoot n z.1 z.2 R) (hne : z.1 ≠ R) :
    ProofSib n t z ↔ Anc (sib z) t := by
  constructor
  · rintro ⟨w, ⟨_, _, hanc, _⟩, _, rfl⟩
    rw [CalcGeo.sib_sib]; exact hanc
  · intro h
    have hs := belowRoot_sibP hz hne
    exact ⟨sib z, (onPath_iff hs).2 h, nonroot_of_belowRoot hs hne, (CalcGeo.sib_sib z).symm⟩

theorem allowed_nonroot_iff {z : Pos} {R : Nat} (hz : BelowRoot F.numLeaves z.1 z.2 R) (hne : z.1 ≠ R) :
    Allowed F K z ↔ ∃ x t, K x ∧ F.posOf x = some t ∧ t.1 ≤ z.1 ∧ Anc (parent z) t := by
  have key : ∀ t, (OnPath F.numLeaves t z ∨ ProofSib F.numLeaves t z) ↔ t.1 ≤ z.1 ∧ Anc (parent z) t := fun t => by
    rw [onPath_iff hz, proofSib_iff hz hne]
    exact ⟨fun h => ⟨h.elim (·.1) (·.1), (MapLiftGeo.anc_parent_of_le (h.elim (·.1) (·.1))).2 h⟩,
      fun h => (MapLiftGeo.anc_parent_of_le h.1).1 h.2⟩
  simp only [Allowed, nonroot_of_belowRoot hz hne, Bool.false_eq_true, false_or, key]

theorem required_nonroot_iff {z : Pos} {R : Nat} (hz : BelowRoot F.numLeaves z.1 z.2 R) (hne : z.1 ≠ R) :
    Required F K z ↔ ∃ x t, K x ∧ F.posOf x = some t ∧ (z = t ∨ Anc (sib z) t) := by
  simp only [Required, nonroot_of_belowRoot hz hne, Bool.false_eq_true, false_or, proofSib_iff hz hne]

theorem Required.mono {K' : H → Prop} (hK : ∀ x, K' x → K x) {q : Pos} (h : Required F K' q) : Required F K q := by
  rcases h with h | ⟨x, t, hk, hp, h⟩
  · exact Or.inl h
  · exact Or.inr ⟨x, t, hK x hk, hp, h⟩

theorem belowRoot_up {n R : Nat} {t : Pos} (hb : BelowRoot n t.1 t.2 R) {j : Nat} (hj : j ≤ R - t.1) :
    BelowRoot n (upP t j).1 (upP t j).2 R :=
  belowRoot_anc hb (anc_upP t j) (Nat.add_le_of_le_sub' hb.1 hj)

/-- the situation during the walk from the position `t` of the pruned leaf: `m2` is the state
the walk starts from, `K'` the remaining cache -/
structure Ctx (F : Forest H) (K' : H → Prop) (m2 : MapPollard H) (T : Nat) (t : Pos) (R : Nat) : Prop where
  hT : T ≤ 63
  hrows : F.rows ≤ T
  hb : BelowRoot F.numLeaves t.1 t.2 R
  flagsFwd : ∀ y ty l, K' y → F.posOf y = some ty → isRootPos F.numLeaves ty = false →
    m2.getNode (encP T ty) = some l → l.remember = true
  flagsBwd : ∀ q l Rq, BelowRoot F.numLeaves q.1 q.2 Rq → q.1 ≠ Rq → m2.getNode (encP T q) = some l →
    l.remember = true → ∃ y, K' y ∧ F.posOf y = some q

/-- lower half of `Inv` during the walk: everything the remaining cache requires is stored -/
def Low (F : Forest H) (K' : H → Prop) (T : Nat) (μ : MapPollard H) : Prop :=
  ∀ q, Required F K' q → μ.hasNode (encP T q) = true

/-- upper half of `Inv` during the walk: what is stored is allowed by the remaining cache, except the pairs the walk has not
visited yet (from step `j` on) -/
def Upp (F : Forest H) (K' : H → Prop) (T : Nat) (t : Pos) (R j : Nat) (μ : MapPollard H) : Prop :=
  ∀ q l, Valid T q → μ.getNode (encP T q) = some l →
    Allowed F K' q ∨ ∃ i, j ≤ i ∧ i < R - t.1 ∧ (q = upP t i ∨ q = sib (upP t i))

variable {K' : H → Prop} {m2 : MapPollard H} {T : Nat} {t : Pos} {R : Nat}

/-- Go keeps a required non-root node -/
theorem keep (c : Ctx F K' m2 T t R) {μ : MapPollard H} (hsub : Sub m2 μ) (hlow : Low F K' T μ)
    {z : Pos} {Rz : Nat} (hz : BelowRoot F.numLeaves z.1 z.2 Rz) (hne : z.1 ≠ Rz)
    (hreq : Required F K' z) : keepCond (view μ T) z := by
  have hs := belowRoot_sibP hz hne
  have flagged : ∀ (y : H) (w : Pos) (Rw : Nat), K' y → F.posOf y = some w →
      BelowRoot F.numLeaves w.1 w.2 Rw → w.1 ≠ Rw → remD (view μ T w) = true := by
    intro y w Rw hk hp hw hwne
    have hst := hlow w (Or.inr ⟨y, w, hk, hp, Or.inl rfl⟩)
    rw [hasNode_eq] at hst
    unfold view
    cases hg : μ.getNode (encP T w) with
    | none => rw [hg] at hst; cases hst
    | some l => exact c.flagsFwd y w l hk hp (nonroot_of_belowRoot hw hwne) (hsub _ _ hg)
  obtain ⟨y, ty, hk, hp, h⟩ := (required_nonroot_iff hz hne).1 hreq
  rcases h with rfl | h
  · exact Or.inl (flagged y z Rz hk hp hz hne)
  · by_cases e : ty = sib z
    · exact Or.inr (Or.inl (flagged y (sib z) Rz hk (e ▸ hp) hs hne))
    · -- the sibling of the child `d` of `sib z` on the path of `ty` is required, hence stored
      have hlt : ty.1 < (sib z).1 := Nat.lt_of_le_of_ne h.1 (fun e' => e (h.eq_of_row e'.symm).symm)
      obtain ⟨d, hpd, hdt⟩ := exists_child_of_anc h hlt
      have hdb : BelowRoot F.numLeaves d.1 d.2 Rz := MapLiftGeo.belowRoot_of_anc hs (hpd ▸ (Anc.refl d).parent)
      have hdne : d.1 ≠ Rz := Nat.ne_of_lt (Nat.lt_of_lt_of_le (row_lt_of_parent hpd) hs.1)
      have hreqd : Required F K' (sib d) :=
        Or.inr ⟨y, ty, hk, hp, Or.inr ⟨d, ⟨Rz, MapLiftGeo.belowRoot_of_anc hs h, hdt, hdb.1⟩,
          nonroot_of_belowRoot hdb hdne, rfl⟩⟩
      exact Or.inr (Or.inr (kids_iff.2 ⟨sib d, (CalcGeo.parent_sib d).trans hpd, hlow _ hreqd⟩))

theorem walk_node (c : Ctx F K' m2 T t R) {j : Nat} (hj : j < R - t.1) :
    BelowRoot F.numLeaves (upP t j).1 (upP t j).2 R ∧ (upP t j).1 ≠ R ∧ Valid T (upP t j) ∧ (upP t j).1 < T := by
  have ha := belowRoot_up c.hb (Nat.le_of_lt hj)
  have hlt : (upP t j).1 < R := Nat.add_lt_of_lt_sub' hj
  exact ⟨ha, Nat.ne_of_lt hlt, belowRoot_valid' c.hrows ha, Nat.lt_of_lt_of_le hlt
    (Nat.le_trans (belowRoot_valid (numLeaves_le_pow_rows F) c.hb).1 c.hrows)⟩

theorem low_step (c : Ctx F K' m2 T t R) {μ : MapPollard H} (hμT : μ.totalRows = H8 T)
    (hsub : Sub m2 μ) (hlow : Low F K' T μ) {j : Nat} (hj : j < R - t.1) :
    Low F K' T (μ.prunePosition (encP T (upP t j))) := by
  obtain ⟨ha, hane, hav, halt⟩ := walk_node c hj
  have hs := belowRoot_sibP ha hane
  intro q hreq
  obtain ⟨Rq, hq⟩ := required_belowRoot hreq
  have h0 : (view μ T q).isSome = true := hlow q hreq
  show (view (μ.prunePosition (encP T (upP t j))) T q).isSome = true
  rw [view_prunePosition c.hT hμT hav halt (belowRoot_valid' c.hrows hq)]
  by_cases h1 : q = upP t j
  · subst h1
    rw [pruneA_self, if_pos (keep c hsub hlow ha hane hreq)]; exact h0
  · by_cases h2 : q = sib (upP t j)
    · subst h2
      rw [pruneA_sib, if_pos (keep c hsub hlow hs hane hreq)]; exact h0
    · rw [pruneA_other h1 h2]; exact h0

theorem allowed_of_keepCond (c : Ctx F K' m2 T t R) {μ : MapPollard H} (hsub : Sub m2 μ) {j : Nat}
    (hj : j < R - t.1) (hupp : Upp F K' T t R j μ) {z : Pos} (hz : BelowRoot F.numLeaves z.1 z.2 R)
    (hzv : Valid T z) (hlt : z.1 < T) (hrow : z.1 = t.1 + j) (hk : keepCond (view μ T) z) :
    Allowed F K' z := by
  have hzne : z.1 ≠ R := Nat.ne_of_lt (hrow ▸ Nat.add_lt_of_lt_sub' hj)
  have hs := belowRoot_sibP hz hzne
  have leafAt : ∀ w, BelowRoot F.numLeaves w.1 w.2 R → w.1 ≠ R → remD (view μ T w) = true →
      ∃ y, K' y ∧ F.posOf y = some w := by
    intro w hw hwne hr
    obtain ⟨l, hl, hrl⟩ := remD_true hr
    exact c.flagsBwd w l R hw hwne (hsub _ _ hl) hrl
  refine (allowed_nonroot_iff hz hzne).2 ?_
  rcases hk with hk | hk | hk
  · obtain ⟨y, hky, hp⟩ := leafAt z hz hzne hk
    exact ⟨y, z, hky, hp, Nat.le_refl _, (Anc.refl z).parent⟩
  · obtain ⟨y, hky, hp⟩ := leafAt (sib z) hs hzne hk
    exact ⟨y, sib z, hky, hp, Nat.le_refl _, CalcGeo.parent_sib z ▸ (Anc.refl (sib z)).parent⟩
  · -- a stored child of `sib z` lies below the walk, so it is allowed
    obtain ⟨d, hpd, hst⟩ := kids_iff.1 hk
    have hsd : Anc (sib z) d := hpd ▸ (Anc.refl d).parent
    have hd1 : d.1 < z.1 := row_lt_of_parent (p := sib z) hpd
    unfold view at hst
    cases hg : μ.getNode (encP T d) with
    | none => rw [hg] at hst; cases hst
    | some ld =>
      rcases hupp d ld (valid_below (valid_sib hzv hlt) hsd) hg with hac | ⟨i', hi1, _, hq'⟩
      · have hdne : d.1 ≠ R := Nat.ne_of_lt (Nat.lt_of_lt_of_le hd1 hz.1)
        obtain ⟨y, ty, hky, hp, hle, hanc⟩ := (allowed_nonroot_iff (MapLiftGeo.belowRoot_of_anc hs hsd) hdne).1 hac
        rw [hpd] at hanc
        exact ⟨y, ty, hky, hp, Nat.le_trans hle (Nat.le_of_lt hd1), CalcGeo.parent_sib z ▸ hanc.parent⟩
      · have hrow' : d.1 = t.1 + i' := by
          rcases hq' with e | e
          · rw [e]; rfl
          · rw [e, CalcGeo.sib_fst]; rfl
        omega

theorem upp_step (c : Ctx F K' m2 T t R) {μ : MapPollard H} (hμT : μ.totalRows = H8 T)
    (hsub : Sub m2 μ) {j : Nat} (hj : j < R - t.1) (hupp : Upp F K' T t R j μ) :
    Upp F K' T t R (j + 1) (μ.prunePosition (encP T (upP t j))) := by
  obtain ⟨ha, hane, hav, halt⟩ := walk_node c hj
  have hs := belowRoot_sibP ha hane
  intro q l hv hget
  change view (μ.prunePosition (encP T (upP t j))) T q = some l at hget
  rw [view_prunePosition c.hT hμT hav halt hv] at hget
  rcases hupp q l hv (pruneA_sub hget) with hal | ⟨i, hji, hiR, hq⟩
  · exact Or.inl hal
  · by_cases hi : i = j
    · subst hi
      left
      rcases hq with rfl | rfl
      · rw [pruneA_self] at hget
        split at hget
        · rename_i hk
          exact allowed_of_keepCond c hsub hj hupp ha hav halt rfl hk
        · cases hget
      · rw [pruneA_sib] at hget
        split at hget
        · rename_i hk
          exact allowed_of_keepCond c hsub hj hupp hs (valid_sib hav halt) halt rfl hk
        · cases hget
    · exact Or.inr ⟨i, Nat.lt_of_le_of_ne hji (Ne.symm hi), hiR, hq⟩

/-- `j` = steps done, `d` = steps left up to the root's row, `k` = fuel -/
theorem walk (c : Ctx F K' m2 T t R) (hnlt : F.numLeaves < 2 ^ 63)
    (hm2n : m2.numLeaves = BitVec.ofNat 64 F.numLeaves) :
    ∀ (d j k : Nat) (μ : MapPollard H), j + d = R - t.1 → d < k → μ.totalRows = H8 T →
      μ.numLeaves = m2.numLeaves → Sub m2 μ → Low F K' T μ → Upp F K' T t R j μ →
      Sub m2 (MapPollard.pruneUp k (encP T (upP t j)) μ) ∧
      Low F K' T (MapPollard.pruneUp k (encP T (upP t j)) μ) ∧
      Upp F K' T t R (R - t.1) (MapPollard.pruneUp k (encP T (upP t j)) μ) := by
  intro d
  induction d with
  | zero =>
    intro j k μ hjd hk hμT hμn hsub hlow hupp
    obtain ⟨k', rfl⟩ := Nat.exists_eq_succ_of_ne_zero (Nat.ne_zero_of_lt hk)
    obtain rfl : j = R - t.1 := hjd
    have ha := belowRoot_up c.hb (Nat.le_refl _)
    have hroot : μ.isRoot (encP T (upP t (R - t.1))) = true := by
      rw [isRoot_encP hnlt (hμn.trans hm2n) c.hT hμT (belowRoot_valid' c.hrows ha)
        (belowRoot_valid' (Nat.le_refl _) ha), belowRoot_isRootPos ha]
      exact decide_eq_true (Nat.add_sub_cancel' c.hb.1)
    unfold MapPollard.pruneUp
    rw [if_pos hroot]
    exact ⟨hsub, hlow, hupp⟩
  | succ d ih =>
    intro j k μ hjd hk hμT hμn hsub hlow hupp
    obtain ⟨k', rfl⟩ := Nat.exists_eq_succ_of_ne_zero (Nat.ne_zero_of_lt hk)
    have hj : j < R - t.1 := hjd ▸ Nat.lt_add_of_pos_right (Nat.succ_pos d)
    obtain ⟨ha, hane, hav, halt⟩ := walk_node c hj
    have hroot : μ.isRoot (encP T (upP t j)) = false := by
      rw [isRoot_encP hnlt (hμn.trans hm2n) c.hT hμT hav (belowRoot_valid' (Nat.le_refl _) ha),
        belowRoot_isRootPos ha]
      exact decide_eq_false hane
    unfold MapPollard.pruneUp
    rw [hroot, if_neg Bool.false_ne_true, hμT, EncPos.parent_encP c.hT hav halt, ← upP_succ]
    obtain ⟨f1, f2, f3, f4⟩ := prunePosition_frame μ (encP T (upP t j))
    exact ih (j + 1) k' _ ((Nat.add_right_comm j 1 d).trans hjd) (Nat.lt_of_succ_lt_succ hk) (f3.trans hμT)
      (f2.trans hμn)
      (fun p l h => hsub p l ((prunePosition_shrinks μ _).2 p l h))
      (low_step c hμT hsub hlow hj) (upp_step c hμT hsub hj hupp)

theorem posOf_valid {x : H} {t : Pos} {T : Nat} (hrows : F.rows ≤ T) (hx : F.posOf x = some t) : Valid T t := by
  obtain ⟨R, hb⟩ := posOf_belowRoot hx
  exact belowRoot_valid' hrows hb

theorem proofSib_walk {n R : Nat} {t q : Pos} (hb : BelowRoot n t.1 t.2 R) (h : ProofSib n t q) :
    ∃ i, i < R - t.1 ∧ q = sib (upP t i) := by
  obtain ⟨w, ⟨R', hbt, hanc, hle⟩, hnr, rfl⟩ := h
  obtain rfl : R' = R := belowRoot_unique hbt hb
  have hwne := row_ne_of_nonroot (belowRoot_anc hbt hanc hle) hnr
  exact ⟨w.1 - t.1, Nat.sub_lt_sub_right hanc.1 (Nat.lt_of_le_of_ne hle hwne), by rw [← eq_upP_of_anc hanc]⟩

theorem onWalk {K' : H → Prop} (hb : BelowRoot F.numLeaves t.1 t.2 R) {q : Pos}
    (h : OnPath F.numLeaves t q ∨ ProofSib F.numLeaves t q) :
    Allowed F K' q ∨ ∃ i, 0 ≤ i ∧ i < R - t.1 ∧ (q = upP t i ∨ q = sib (upP t i)) := by
  rcases h with ⟨R', hbt, hanc, hle⟩ | h
  · obtain rfl : R' = R := belowRoot_unique hbt hb
    have hqb := belowRoot_anc hbt hanc hle
    by_cases hroot : q.1 = R'
    · left; left
      rw [belowRoot_isRootPos hqb]; exact decide_eq_true hroot
    · exact Or.inr ⟨q.1 - t.1, Nat.zero_le _, Nat.sub_lt_sub_right hanc.1 (Nat.lt_of_le_of_ne hle hroot),
        Or.inl (eq_upP_of_anc hanc)⟩
  · obtain ⟨i, hi, e⟩ := proofSib_walk hb h
    exact Or.inr ⟨i, Nat.zero_le _, hi, Or.inr e⟩

/-- `m2` is `m` after `Prune` has removed `x` (cached at the position `t`, stored there as `leaf`)
from the cache and cleared its flag: the state the walk starts from -/
structure Unflagged (m m2 : MapPollard H) (F : Forest H) (x : H) (t : Pos) (leaf : Leaf H) : Prop where
  pos : F.posOf x = some t
  cached : m.getCached x = some (encP m.totalRows.toNat t)
  stored : m.getNode (encP m.totalRows.toNat t) = some leaf
  getCached : ∀ y, m2.getCached y = if y = x then none else m.getCached y
  getNode : ∀ q, m2.getNode q =
    if q = encP m.totalRows.toNat t then some ⟨leaf.hash, false⟩ else m.getNode q

namespace Unflagged
variable {m : MapPollard H} {x : H} {leaf : Leaf H}

theorem hasCached (s : Unflagged m m2 F x t leaf) {y : H} (hy : m2.hasCached y = true) :
    y ≠ x ∧ m.hasCached y = true := by
  rw [hasCached_eq, s.getCached] at hy
  split at hy
  · cases hy
  · rename_i hne; exact ⟨hne, hy⟩

theorem cachedAt (inv : Inv m F) (s : Unflagged m m2 F x t leaf) {y : H} {ty : Pos}
    (hy : m2.hasCached y = true) (hpy : F.posOf y = some ty) :
    y ≠ x ∧ m.getCached y = some (encP m.totalRows.toNat ty) := by
  obtain ⟨hne, hy'⟩ := s.hasCached hy
  rw [hasCached_eq] at hy'
  cases hcy : m.getCached y with
  | none => rw [hcy] at hy'; cases hy'
  | some py =>
    obtain ⟨ty', h1, h2⟩ := inv.cached_pos y py hcy
    rw [hpy] at h1
    rw [h2, Option.some.inj h1]
    exact ⟨hne, rfl⟩

theorem sub (s : Unflagged m m2 F x t leaf) {q : U64} {l : Leaf H} (h : m2.getNode q = some l) :
    ∃ l0, m.getNode q = some l0 ∧ l0.hash = l.hash := by
  rw [s.getNode] at h
  split at h
  · rename_i he
    exact ⟨leaf, he ▸ s.stored, by rw [← Option.some.inj h]⟩
  · exact ⟨l, h, rfl⟩

theorem ctx (inv : Inv m F) (hfull : m.full = false) (s : Unflagged m m2 F x t leaf)
    (hb : BelowRoot F.numLeaves t.1 t.2 R) :
    Ctx F (fun y => m2.hasCached y = true) m2 m.totalRows.toNat t R where
  hT := inv.total_le
  hrows := inv.rows_le
  hb := hb
  flagsFwd := by
    intro y ty l hk hpy hnr hgy
    obtain ⟨hne, hcy⟩ := s.cachedAt inv hk hpy
    have htyv : Valid m.totalRows.toNat ty := posOf_valid inv.rows_le hpy
    rw [s.getNode] at hgy
    split at hgy
    · rename_i he
      have := encP_inj inv.total_le htyv (posOf_valid inv.rows_le s.pos) he
      rw [this] at hpy
      exact absurd (posOf_inj hpy s.pos) hne
    · exact (inv.flags hfull ty l htyv hnr hgy).2 ⟨y, hcy⟩
  flagsBwd := by
    intro q l Rq hq hne hgq hr
    have hqv : Valid m.totalRows.toNat q := belowRoot_valid' inv.rows_le hq
    rw [s.getNode] at hgq
    split at hgq
    · rw [← Option.some.inj hgq] at hr
      cases hr
    · rename_i hnp
      obtain ⟨x', hx'⟩ := (inv.flags hfull q l hqv (nonroot_of_belowRoot hq hne) hgq).1 hr
      obtain ⟨t', h1, h2⟩ := inv.cached_pos x' _ hx'
      have hqt : q = t' := encP_inj inv.total_le hqv (posOf_valid inv.rows_le h1) h2
      have hne' : x' ≠ x := by
        rintro rfl
        rw [s.cached] at hx'
        exact hnp (Option.some.inj hx').symm
      refine ⟨x', ?_, by rw [hqt]; exact h1⟩
      rw [hasCached_eq, s.getCached, if_neg hne', hx']; rfl

theorem low (inv : Inv m F) (s : Unflagged m m2 F x t leaf) :
    Low F (fun y => m2.hasCached y = true) m.totalRows.toNat m2 := by
  intro q hreq
  have := inv.has_needed q (Required.mono (fun y hy => (s.hasCached hy).2) hreq)
  rw [hasNode_eq] at this ⊢
  rw [s.getNode]
  split
  · rfl
  · exact this

theorem upp (inv : Inv m F) (s : Unflagged m m2 F x t leaf) (hb : BelowRoot F.numLeaves t.1 t.2 R) :
    Upp F (fun y => m2.hasCached y = true) m.totalRows.toNat t R 0 m2 := by
  intro q l hv hgq
  rw [s.getNode] at hgq
  split at hgq
  · rename_i he
    rw [encP_inj inv.total_le hv (posOf_valid inv.rows_le s.pos) he]
    exact onWalk hb (Or.inl ⟨R, hb, Anc.refl t, hb.1⟩)
  · rcases inv.only_needed q l hv hgq with hroot | ⟨y, ty, hky, hpy, h⟩
    · exact Or.inl (Or.inl hroot)
    · by_cases hyx : y = x
      · subst hyx
        rw [s.pos] at hpy
        rw [← Option.some.inj hpy] at h
        exact onWalk hb h
      · left; right
        refine ⟨y, ty, ?_, hpy, h⟩
        show m2.hasCached y = true
        rw [hasCached_eq, s.getCached, if_neg hyx, ← hasCached_eq]; exact hky

theorem inv_of_walk (inv : Inv m F) (s : Unflagged m m2 F x t leaf)
    (c : Ctx F (fun y => m2.hasCached y = true) m2 m.totalRows.toNat t R) {m3 : MapPollard H}
    (hc3 : m3.cached = m2.cached) (hn3 : m3.numLeaves = m.numLeaves) (hT3 : m3.totalRows = m.totalRows)
    (hsub : Sub m2 m3) (hlow : Low F (fun y => m2.hasCached y = true) m.totalRows.toNat m3)
    (hupp : Upp F (fun y => m2.hasCached y = true) m.totalRows.toNat t R (R - t.1) m3) : Inv m3 F := by
  have hm3c : ∀ y, m3.getCached y = m2.getCached y := by
    intro y; unfold MapPollard.getCached; rw [hc3]
  have hK : (fun x => m3.hasCached x = true) = fun y => m2.hasCached y = true :=
    funext fun y => by rw [hasCached_eq, hasCached_eq, hm3c]
  refine { n_lt := inv.n_lt, n_eq := hn3.trans inv.n_eq, rows_le := by rw [hT3]; exact inv.rows_le,
           total_le := by rw [hT3]; exact inv.total_le, true_hash := ?_, cached_pos := ?_,
           only_needed := ?_, has_needed := ?_, flags := ?_ }
  · intro q l hgq
    rw [hT3]
    obtain ⟨l0, hg0, he⟩ := s.sub (hsub q l hgq)
    obtain ⟨q', hv', he', hn'⟩ := inv.true_hash q l0 hg0
    exact ⟨q', hv', he', he ▸ hn'⟩
  · intro y py hcy
    rw [hT3]
    rw [hm3c, s.getCached] at hcy
    split at hcy
    · cases hcy
    · exact inv.cached_pos y py hcy
  · intro q l hv hgq
    rw [hT3] at hv hgq
    rw [hK]
    exact (hupp q l hv hgq).resolve_right fun ⟨i, h1, h2, _⟩ => Nat.lt_irrefl _ (Nat.lt_of_le_of_lt h1 h2)
  · intro q hreq
    rw [hT3]
    rw [hK] at hreq
    exact hlow q hreq
  · intro _ q l hv hnr hgq
    rw [hT3] at hv hgq ⊢
    have hg2 := hsub _ l hgq
    obtain ⟨l0, hg0, he⟩ := s.sub hg2
    have hnq : F.nodeAt q = some l.hash := he ▸ getNode_true inv hv hg0
    obtain ⟨Rq, hqb⟩ := belowRoot_of_nodeAt hnq
    have hqne := row_ne_of_nonroot hqb hnr
    constructor
    · intro hr
      obtain ⟨y, hk, hpy⟩ := c.flagsBwd q l Rq hqb hqne hg2 hr
      obtain ⟨hne, hcy⟩ := s.cachedAt inv hk hpy
      exact ⟨y, by rw [hm3c, s.getCached, if_neg hne]; exact hcy⟩
    · rintro ⟨y, hcy⟩
      rw [hm3c] at hcy
      have hk : m2.hasCached y = true := by rw [hasCached_eq, hcy]; rfl
      rw [s.getCached] at hcy
      split at hcy
      · cases hcy
      · obtain ⟨ty, h1, h2⟩ := inv.cached_pos y _ hcy
        have : q = ty := encP_inj inv.total_le hv (posOf_valid inv.rows_le h1) h2
        exact c.flagsFwd y q l hk (this ▸ h1) hnr hg2

theorem pruneUp (inv : Inv m F) (hfull : m.full = false) (s : Unflagged m m2 F x t leaf)
    (hT2 : m2.totalRows = m.totalRows) (hn2 : m2.numLeaves = m.numLeaves) (hf2 : m2.full = m.full)
    {m3 : MapPollard H} (hm3 : m3 = MapPollard.pruneUp (MapPollard.rowIters
      (DetectRow (encP m.totalRows.toNat t) m2.totalRows) (TreeRows m2.numLeaves)) (encP m.totalRows.toNat t) m2) :
    Inv m3 F ∧ m3.full = false ∧ (∀ y, m3.getCached y = if y = x then none else m.getCached y) ∧
      (∀ q l, m3.getNode q = some l → ∃ l0, m.getNode q = some l0 ∧ l0.hash = l.hash) := by
  obtain ⟨R, hb⟩ := posOf_belowRoot s.pos
  have htv : Valid m.totalRows.toNat t := belowRoot_valid' inv.rows_le hb
  have ctx := s.ctx inv hfull hb
  have hk : R - t.1 < MapPollard.rowIters (DetectRow (encP m.totalRows.toNat t) m2.totalRows)
      (TreeRows m2.numLeaves) := by
    have h1 := (belowRoot_valid (numLeaves_le_pow_rows F) hb).1
    have h2 : t.1 ≤ R := hb.1
    have h3 := inv.total_le
    rw [hT2, U8_eq_H8 m.totalRows, toNat_H8 h3, EncPos.detectRow_encP h3 htv, hn2, inv.n_eq,
      SpecView.treeRows_eq inv.n_lt, toNat_rowIters (Nat.le_trans htv.1 h3) (SpecView.forestRows_le_63 inv.n_lt)]
    show R - t.1 < F.rows + 1 - t.1
    omega
  obtain ⟨hsub, hlow, hupp⟩ := walk ctx inv.n_lt (hn2.trans inv.n_eq) (R - t.1) 0 _ m2 (Nat.zero_add _) hk
    (hT2.trans (U8_eq_H8 m.totalRows)) rfl (fun _ _ h => h) (s.low inv) (s.upp inv hb)
  rw [upP_zero, ← hm3] at hsub hlow hupp
  obtain ⟨⟨f1, f2, f3, f4⟩, _⟩ : Shrinks m2 m3 := hm3 ▸ pruneUp_shrinks _ _ m2
  refine ⟨s.inv_of_walk inv ctx f1 (f2.trans hn2) (f3.trans hT2) hsub hlow hupp,
    f4.trans (hf2.trans hfull), fun y => ?_, fun q l h => s.sub (hsub q l h)⟩
  rw [← s.getCached]
  unfold MapPollard.getCached
  rw [f1]

end Unflagged

theorem inv_pruneOne {m : MapPollard H} (inv : Inv m F) (hfull : m.full = false) (x : H) :
    ∃ m', MapPollard.pruneOne x m = (m', .ok ()) ∧ Inv m' F ∧ m'.full = false ∧
      (∀ y, m'.getCached y = if y = x then none else m.getCached y) ∧
      (∀ q l, m'.getNode q = some l → ∃ l0, m.getNode q = some l0 ∧ l0.hash = l.hash) := by
  unfold MapPollard.pruneOne
  cases hc : m.getCached x with
  | none =>
    refine ⟨m, rfl, inv, hfull, ?_, fun q l h => ⟨l, h, rfl⟩⟩
    intro y
    split
    · rename_i h; rw [h, hc]
    · rfl
  | some p =>
    obtain ⟨t, hpt, rfl⟩ := inv.cached_pos x p hc
    have hst := inv.has_needed t (Or.inr ⟨x, t, by show m.hasCached x = true; rw [hasCached_eq, hc]; rfl, hpt, Or.inl rfl⟩)
    rw [hasNode_eq] at hst
    simp only
    rw [getNode_delCached]
    cases hg : m.getNode (encP m.totalRows.toNat t) with
    | none => rw [hg] at hst; cases hst
    | some leaf =>
      exact ⟨_, rfl, Unflagged.pruneUp
        (m2 := (m.delCached x).putNode (encP m.totalRows.toNat t) ⟨leaf.hash, false⟩) inv hfull
        ⟨hpt, hc, hg, getCached_delCached m x, fun q => getNode_putNode _ _ q _⟩ rfl rfl rfl rfl⟩

/-- **`Prune` preserves the invariant** and removes exactly the named leaves from the cache -/
theorem inv_pruneGo : ∀ (hs : List H) {m : MapPollard H}, Inv m F → m.full = false →
    ∃ m', MapPollard.prune.go hs m = (m', .ok ()) ∧ Inv m' F ∧ m'.full = false ∧
      (∀ y, m'.getCached y = if y ∈ hs then none else m.getCached y) ∧
      (∀ q l, m'.getNode q = some l → ∃ l0, m.getNode q = some l0 ∧ l0.hash = l.hash) := by
  intro hs
  induction hs with
  | nil => exact fun {m} inv hfull => ⟨m, rfl, inv, hfull, fun y => by simp, fun q l h => ⟨l, h, rfl⟩⟩
  | cons h hs ih =>
    intro m inv hfull
    obtain ⟨m1, e1, inv1, hf1, hc1, hs1⟩ := inv_pruneOne inv hfull h
    obtain ⟨m2, e2, inv2, hf2, hc2, hs2⟩ := ih inv1 hf1
    refine ⟨m2, ?_, inv2, hf2, ?_, ?_⟩
    · unfold MapPollard.prune.go
      rw [e1]
      exact e2
    · intro y
      rw [hc2, hc1]
      by_cases hy : y = h
      · subst hy; simp
      · simp [hy]
    · intro q l hg
      obtain ⟨l1, g1, e1'⟩ := hs2 q l hg
      obtain ⟨l0, g0, e0⟩ := hs1 q l1 g1
      exact ⟨l0, g0, e0.trans e1'⟩

end UtreexoVerif.Proofs.MapPrune
