/-
  Look-ups tell the truth (C10), the lemmas.  The nodes listed by `CTree.nodes` are exactly the
  sub-trees reached by walks along the path bits of an offset (`childWalk`); the nodes of the forest
  and `Forest.nodeAt` are such walks from the root of the tree the position lies under; the loop of
  `Pollard.getNode` (niece form, bits inverted) on the bit field returned by `DetectOffset` is that
  walk, so the model of `getNode` + `n.data` equals `nodeAt` on every `uint64` (`getNodeHash_spec`).
  Then: leaf nodes of the forest = live leaves, `posOf`, counting.
-/
import UtreexoVerif.Model.PollardAbs
import UtreexoVerif.Proofs.SpecView
import UtreexoVerif.Proofs.NodesUnique
import UtreexoVerif.Proofs.SpecSubs
import UtreexoVerif.Proofs.LiveLeaves

namespace UtreexoVerif.Proofs.PollardLookup
open UtreexoVerif.GoInt Spec Hasher Model
open UtreexoVerif.Proofs.SpecNodes UtreexoVerif.Proofs.SpecView UtreexoVerif.Model.PollardAbs
open UtreexoVerif.Proofs.SpecSubs

section
set_option linter.unusedSectionVars false
variable {H : Type} [DecidableEq H] [Hasher H]

/-- the sub-tree reached from the root of `t` by the path bits `o_{k-1}, …, o_0`
(`0` = left child, `1` = right child); `none` when the walk runs into a leaf -/
def childWalk : CTree H → Nat → Nat → Option (CTree H)
  | t, 0, _ => some t
  | .leaf _, _+1, _ => none
  | .node a b, k+1, o => if o.testBit k then childWalk b k o else childWalk a k o

theorem walk_bit {o k O : Nat} {c : Bool} (h : o / 2 ^ k = 2 * O + c.toNat) :
    o / 2 ^ (k + 1) = O ∧ o.testBit k = c := by
  rw [Nat.pow_succ, ← Nat.div_div_eq_div_mul, Nat.testBit_eq_decide_div_mod_eq, h,
    Nat.mul_add_div (by decide), Nat.mul_add_mod]
  cases c with
  | false => exact ⟨rfl, rfl⟩
  | true => exact ⟨rfl, rfl⟩

theorem childWalk_subs : ∀ (t : CTree H) (r O k o : Nat) (s : CTree H), o / 2 ^ k = O →
    childWalk t k o = some s → ((r, o), s) ∈ subs t (r + k) O := by
  intro t
  induction t with
  | leaf h =>
    intro r O k o s ho hw
    cases k with
    | zero =>
      cases hw
      rw [Nat.pow_zero, Nat.div_one] at ho
      subst ho
      exact List.mem_singleton.2 rfl
    | succ k => cases hw
  | node a b iha ihb =>
    intro r O k o s ho hw
    cases k with
    | zero =>
      cases hw
      rw [Nat.pow_zero, Nat.div_one] at ho
      subst ho
      exact List.mem_cons_self
    | succ k =>
      have hd := div_two_pow_bit o k
      rw [ho] at hd
      rw [childWalk] at hw
      refine List.mem_cons_of_mem _ (List.mem_append.2 ?_)
      by_cases hb : o.testBit k = true
      · rw [if_pos hb] at hw hd
        exact Or.inr (ihb r (2 * O + 1) k o s hd hw)
      · rw [if_neg hb] at hw hd
        exact Or.inl (iha r (2 * O) k o s hd hw)

theorem subs_walk : ∀ (t : CTree H) (R O : Nat), depth t ≤ R → ∀ x ∈ subs t R O,
    ∃ k, x.1.1 + k = R ∧ x.1.2 / 2 ^ k = O ∧ childWalk t k x.1.2 = some x.2 := by
  intro t
  induction t with
  | leaf h =>
    intro R O _ x hx
    rw [subs, List.mem_singleton] at hx
    subst hx
    exact ⟨0, rfl, Nat.div_one O, rfl⟩
  | node a b iha ihb =>
    intro R O hd x hx
    cases R with
    | zero => cases hd
    | succ R =>
      have hm : max (depth a) (depth b) ≤ R := Nat.le_of_succ_le_succ hd
      rw [subs, List.mem_cons, List.mem_append, Nat.add_sub_cancel] at hx
      rcases hx with rfl | hx | hx
      · exact ⟨0, rfl, Nat.div_one O, rfl⟩
      · obtain ⟨k, hk, ho, hw⟩ := iha R (2 * O) (Nat.le_trans (Nat.le_max_left _ _) hm) x hx
        obtain ⟨ho', hb⟩ := walk_bit (c := false) ho
        refine ⟨k + 1, congrArg (· + 1) hk, ho', ?_⟩
        rw [childWalk, hb, if_neg Bool.false_ne_true]
        exact hw
      · obtain ⟨k, hk, ho, hw⟩ := ihb R (2 * O + 1) (Nat.le_trans (Nat.le_max_right _ _) hm) x hx
        obtain ⟨ho', hb⟩ := walk_bit (c := true) ho
        refine ⟨k + 1, congrArg (· + 1) hk, ho', ?_⟩
        rw [childWalk, hb, if_pos rfl]
        exact hw

theorem subs_iff_childWalk {t : CTree H} {r k O o : Nat} {s : CTree H} (hd : depth t ≤ r + k) :
    ((r, o), s) ∈ subs t (r + k) O ↔ o / 2 ^ k = O ∧ childWalk t k o = some s := by
  constructor
  · intro hm
    obtain ⟨k', hk, ho, hw⟩ := subs_walk t _ _ hd _ hm
    cases Nat.add_left_cancel hk
    exact ⟨ho, hw⟩
  · exact fun ⟨ho, hw⟩ => childWalk_subs t r O k o s ho hw

theorem _root_.UtreexoVerif.Proofs.SpecSubs.SubAtT.walk {F : Forest H} {R : Nat} {p : Pos}
    {t : CTree H} (s : SubAtT F R p t) :
    ∃ t0, treeOf F R = some t0 ∧ childWalk t0 (R - p.1) p.2 = some t := by
  obtain ⟨t0, ht0, hd, hm⟩ := s.tree
  obtain ⟨k, hk, _, hw⟩ := subs_walk t0 R _ hd _ hm
  refine ⟨t0, ht0, ?_⟩
  rw [← hk, Nat.add_sub_cancel_left]
  exact hw

theorem childWalk_add : ∀ (t : CTree H) (a b o : Nat),
    childWalk t (a + b) o = (childWalk t a (o / 2 ^ b)).bind (fun s => childWalk s b o) := by
  intro t a
  induction a generalizing t with
  | zero => intro b o; simp [childWalk]
  | succ a ih =>
    intro b o
    rw [Nat.add_right_comm a 1 b]
    cases t with
    | leaf h => simp [childWalk]
    | node x y =>
      simp only [childWalk]
      have hb : o.testBit (a + b) = (o / 2 ^ b).testBit a := by
        rw [Nat.testBit_div_two_pow, Nat.add_comm]
      rw [hb]
      split
      · exact ih y b o
      · exact ih x b o

theorem childWalk_zero (t : CTree H) (o : Nat) : childWalk t 0 o = some t := by
  cases t with
  | leaf _ => rfl
  | node _ _ => rfl

theorem childWalk_leaf (h : H) (k o : Nat) : childWalk (CTree.leaf h) (k + 1) o = none := rfl

theorem treeNodes_eq (F : Forest H) (R : Nat) :
    treeNodes F R = match treeOf F R with
      | some t => t.nodes R (rootPos F.numLeaves R).2
      | none => [(rootPos F.numLeaves R, zero, false)] := rfl

theorem nodeAt_eq_none_of {F : Forest H} {p : Pos} (h : ∀ v lf, (p, v, lf) ∉ F.nodes) :
    F.nodeAt p = none := by
  cases hn : F.nodeAt p with
  | none => rfl
  | some v =>
    obtain ⟨b, hb⟩ := nodeAt_eq_some_iff.1 hn
    exact absurd hb (h v b)

theorem nodeAt_eq_none {F : Forest H} {p : Pos} (h : ∀ x ∈ F.nodes, x.1 ≠ p) :
    F.nodeAt p = none :=
  nodeAt_eq_none_of fun _ _ hx => h _ hx rfl

theorem nodeAt_eq_none_iff {F : Forest H} {p : Pos} :
    F.nodeAt p = none ↔ ∀ x ∈ F.nodes, x.1 ≠ p := by
  constructor
  · intro hn x hx he
    have := nodeAt_of_mem hx
    rw [he, hn] at this
    cases this
  · exact nodeAt_eq_none

theorem under_add {r k o X : Nat} (ho : o / 2 ^ k = X) : Under (r + k) X (r, o) := by
  refine ⟨Nat.le_add_right r k, ?_⟩
  show o / 2 ^ (r + k - r) = X
  rw [Nat.add_sub_cancel_left]
  exact ho

theorem mem_nodes_of_tree {F : Forest H} {r k o : Nat} (hR : r + k ∈ treeRows F.numLeaves)
    (ho : o / 2 ^ k = 2 * (F.numLeaves >>> (r + k + 1))) {h : H} {lf : Bool} :
    ((r, o), h, lf) ∈ F.nodes ↔
      (∃ t s, treeOf F (r + k) = some t ∧ childWalk t k o = some s ∧ s.hash = h ∧ isLeaf s = lf) ∨
      (treeOf F (r + k) = none ∧ k = 0 ∧ h = zero ∧ lf = false) := by
  have hb : F.numLeaves.testBit (r + k) = true := (Spec.mem_treeRows.1 hR).2
  constructor
  · intro hx
    have hx' := mem_treeNodes_of_under hb hx (under_add ho)
    rw [treeNodes_eq] at hx'
    cases ht : treeOf F (r + k) with
    | some t =>
      rw [ht] at hx'
      obtain ⟨s, hm, h1, h2⟩ := mem_nodes_iff_subs.1 hx'
      exact Or.inl ⟨t, s, rfl, ((subs_iff_childWalk (collapse_depth _ _ _ ht)).1 hm).2, h1.symm, h2.symm⟩
    | none =>
      rw [ht, List.mem_singleton] at hx'
      simp only [rootPos, Prod.mk.injEq] at hx'
      exact Or.inr ⟨rfl, Nat.left_eq_add.1 hx'.1.1, hx'.2⟩
  · rintro (⟨t, s, ht, hw, rfl, rfl⟩ | ⟨ht, rfl, rfl, rfl⟩)
    · refine mem_nodes.2 ⟨r + k, ⟨hb, hR⟩, ?_⟩
      rw [treeNodes_eq, ht]
      exact mem_nodes_of_subs (childWalk_subs t r _ k o s ho hw)
    · refine mem_nodes.2 ⟨r + 0, ⟨hb, hR⟩, ?_⟩
      rw [Nat.pow_zero, Nat.div_one] at ho
      rw [treeNodes_eq, ht, ho]
      exact List.mem_singleton.2 rfl

theorem nodeAt_tree_some (F : Forest H) {r k o : Nat} {t : CTree H}
    (hR : r + k ∈ treeRows F.numLeaves) (ho : o / 2 ^ k = 2 * (F.numLeaves >>> (r + k + 1)))
    (ht : treeOf F (r + k) = some t) : F.nodeAt (r, o) = (childWalk t k o).map CTree.hash := by
  cases hw : childWalk t k o with
  | some s =>
    exact nodeAt_of_mem (x := ((r, o), s.hash, isLeaf s))
      ((mem_nodes_of_tree hR ho).2 (Or.inl ⟨t, s, ht, hw, rfl, rfl⟩))
  | none =>
    apply nodeAt_eq_none_of
    intro v lf hx
    rcases (mem_nodes_of_tree hR ho).1 hx with ⟨t', s, ht', hw', _⟩ | ⟨ht', _⟩
    · rw [ht] at ht'
      cases ht'
      rw [hw] at hw'
      cases hw'
    · rw [ht] at ht'
      cases ht'

theorem nodeAt_tree_none (F : Forest H) {r k o : Nat}
    (hR : r + k ∈ treeRows F.numLeaves) (ho : o / 2 ^ k = 2 * (F.numLeaves >>> (r + k + 1)))
    (ht : treeOf F (r + k) = none) : F.nodeAt (r, o) = if k = 0 then some zero else none := by
  by_cases hk : k = 0
  · rw [if_pos hk]
    exact nodeAt_of_mem (x := ((r, o), zero, false))
      ((mem_nodes_of_tree hR ho).2 (Or.inr ⟨ht, hk, rfl, rfl⟩))
  · rw [if_neg hk]
    apply nodeAt_eq_none_of
    intro v lf hx
    rcases (mem_nodes_of_tree hR ho).1 hx with ⟨t', s, ht', _⟩ | ⟨_, hk', _⟩
    · rw [ht] at ht'
      cases ht'
    · exact hk hk'

theorem nodeAt_outside (F : Forest H) {r o : Nat} (h : F.numLeaves < (o + 1) * 2 ^ r) :
    F.nodeAt (r, o) = none := by
  apply nodeAt_eq_none_of
  intro v lf hx
  obtain ⟨R, hb⟩ := SpecSubs.mem_nodes_belowRoot hx
  exact Nat.not_le_of_lt h (below_root_iff.2 ⟨R, hb⟩)

theorem childWalk_eq_none_iff : ∀ (k : Nat) (t : CTree H) (o : Nat),
    childWalk t k o = none ↔
      ∃ i j h, k = i + 1 + j ∧ childWalk t j (o / 2 ^ (i + 1)) = some (.leaf h) := by
  intro k
  induction k with
  | zero =>
    intro t o
    constructor
    · intro h
      rw [childWalk_zero] at h
      cases h
    · rintro ⟨i, j, _, hk, _⟩
      exact absurd (hk.trans (Nat.add_right_comm i 1 j)).symm (Nat.succ_ne_zero (i + j))
  | succ k ih =>
    intro t o
    constructor
    · intro hw
      rw [childWalk_add t k 1 o] at hw
      cases hs : childWalk t k (o / 2 ^ 1) with
      | none =>
        obtain ⟨i, j, h, rfl, hl⟩ := (ih t (o / 2 ^ 1)).1 hs
        rw [div_div_two_pow, Nat.add_comm 1 (i + 1)] at hl
        exact ⟨i + 1, j, h, Nat.add_right_comm (i + 1) j 1, hl⟩
      | some s =>
        rw [hs, Option.bind_some] at hw
        cases s with
        | leaf h => exact ⟨0, k, h, Nat.add_comm k 1, hs⟩
        | node a b =>
          rw [childWalk, childWalk_zero, childWalk_zero] at hw
          split at hw
          · cases hw
          · cases hw
    · rintro ⟨i, j, h, hk, hl⟩
      rw [hk, Nat.add_comm (i + 1) j, childWalk_add, hl, Option.bind_some]
      exact childWalk_leaf h i o

/-- **Which positions carry no node**: exactly those outside the forest (some leaf slot below
them was never allocated), those strictly below a leaf node (vacated by a move: the leaf, or
the sub-tree it belonged to, moved up when its sibling died) and those strictly below the
root of a tree without survivors. -/
theorem nodeAt_eq_none_iff_vacated (F : Forest H) (hn : F.numLeaves < 2 ^ 64) (r o : Nat) :
    F.nodeAt (r, o) = none ↔
      F.numLeaves < (o + 1) * 2 ^ r ∨
      (∃ r' h, r < r' ∧ ((r', o / 2 ^ (r' - r)), h, true) ∈ F.nodes) ∨
      (∃ R, R ∈ treeRows F.numLeaves ∧ treeOf F R = none ∧ r < R ∧
        o / 2 ^ (R - r) = (rootPos F.numLeaves R).2) := by
  constructor
  · intro hnone
    by_cases hout : F.numLeaves < (o + 1) * 2 ^ r
    · exact Or.inl hout
    · refine Or.inr ?_
      obtain ⟨R, hrR, hb, hroot⟩ :=
        (below_root_iff (n := F.numLeaves) (r := r) (o := o)).1 (Nat.le_of_not_lt hout)
      have hRmem : R ∈ treeRows F.numLeaves := Spec.mem_treeRows.2
        ⟨Nat.le_trans (testBit_le_forestRows hb) (forestRows_le (Nat.le_of_lt hn)), hb⟩
      obtain ⟨k, rfl⟩ := Nat.exists_eq_add_of_le hrR
      have ho := hroot
      rw [Nat.add_sub_cancel_left] at ho
      cases ht : treeOf F (r + k) with
      | none =>
        rw [nodeAt_tree_none F hRmem ho ht] at hnone
        by_cases hk : k = 0
        · rw [if_pos hk] at hnone
          cases hnone
        · exact Or.inr ⟨r + k, hRmem, ht, Nat.lt_add_of_pos_right (Nat.pos_of_ne_zero hk), hroot⟩
      | some t =>
        rw [nodeAt_tree_some F hRmem ho ht, Option.map_eq_none_iff] at hnone
        obtain ⟨i, j, h, rfl, hl⟩ := (childWalk_eq_none_iff _ t o).1 hnone
        refine Or.inl ⟨r + (i + 1), h, Nat.lt_add_of_pos_right (Nat.succ_pos i), ?_⟩
        rw [Nat.add_sub_cancel_left]
        rw [← Nat.add_assoc r (i + 1) j] at hRmem ho ht
        rw [← div_div_two_pow] at ho
        exact (mem_nodes_of_tree hRmem ho).2 (Or.inl ⟨t, .leaf h, ht, hl, rfl, rfl⟩)
  · rintro (hout | ⟨r', h, hr', hx'⟩ | ⟨R, hRmem, ht, hrR, hroot⟩)
    · exact nodeAt_outside F hout
    · -- nothing stands below a leaf
      refine nodeAt_eq_none fun x hx hp => ?_
      have := leaf_entry_below hx' hx rfl (by rw [hp]; exact ⟨Nat.le_of_lt hr', rfl⟩)
      rw [hp] at this
      exact absurd (congrArg Prod.fst this) (Nat.ne_of_lt hr')
    · obtain ⟨k, rfl⟩ := Nat.exists_eq_add_of_lt hrR
      rw [Nat.add_assoc r k 1] at hRmem ht hroot
      rw [Nat.add_sub_cancel_left] at hroot
      rw [nodeAt_tree_none F hRmem hroot ht, if_neg (Nat.succ_ne_zero k)]

theorem and_one_beq_zero (z : U64) : ((z &&& 1#64) == 0#64) = !z.getLsbD 0 := by
  have h1 : (z &&& 1#64).toNat = z.toNat % 2 := by
    rw [BitVec.toNat_and, BitVec.toNat_one (by decide), Nat.and_one_is_mod]
  rw [← BitVec.testBit_toNat, Nat.testBit_zero, Bool.eq_iff_iff, beq_iff_eq, ← BitVec.toNat_inj, h1,
    Bool.not_eq_true', decide_eq_false_iff_not]
  exact Nat.mod_two_ne_one.symm

/-- `isLeftNiece(uint64(uint8(bits>>h) & 1))` reads bit `h` of `bits` (any `h`; bits `≥ 64`
are `0`, as in Go) -/
theorem leftNieceAt_eq (bits : U64) (h : Nat) : leftNieceAt bits h = !bits.getLsbD h := by
  unfold leftNieceAt isLeftNiece conv
  rw [and_one_beq_zero, shr_eq]
  simp

theorem nieceWalk_node (n a b : CTree H) (k : Nat) (bits : U64) :
    nieceWalk n (.node a b) (k + 1) bits =
      if leftNieceAt bits k then nieceWalk a b k bits else nieceWalk b a k bits := rfl

theorem descend_node (a b : CTree H) (k : Nat) (bits : U64) :
    descend (.node a b) (k + 1) bits =
      if (if k = 0 then !leftNieceAt bits k else leftNieceAt bits k) then descend b k bits
      else descend a k bits := by
  rw [descend]
  cases (if k = 0 then !leftNieceAt bits k else leftNieceAt bits k) with
  | false => rfl
  | true => rfl

theorem nieceWalk_succ (bits : U64) : ∀ (k : Nat) (n s : CTree H),
    nieceWalk n s (k + 1) bits = descend s (k + 1) bits := by
  intro k
  induction k with
  | zero =>
    intro n s
    cases s with
    | leaf h => rfl
    | node a b =>
      rw [nieceWalk_node, descend_node, if_pos rfl]
      cases leftNieceAt bits 0 with
      | false => rfl
      | true => rfl
  | succ k ih =>
    intro n s
    cases s with
    | leaf h => rfl
    | node a b =>
      rw [nieceWalk_node, descend_node, if_neg (Nat.succ_ne_zero k), ih a b, ih b a]

/-- The aunt/niece inversion: the loop of `getNode` transcribed literally (nodes point to their
nieces, start at `n = sibling = root`) reaches the same node as the walk along the child
structure with all bits but the last inverted. -/
theorem nieceWalk_eq_descend (t : CTree H) (k : Nat) (bits : U64) :
    nieceWalk t t k bits = descend t k bits := by
  cases k with
  | zero => rfl
  | succ k => exact nieceWalk_succ bits k t t

/-- on a bit field of the shape `DetectOffset` returns (bit 0 = offset bit 0, bit `j ≥ 1` =
complement of offset bit `j`) the child walk of `getNode` follows the offset bits -/
theorem descend_eq_childWalk (bits : U64) (o : Nat) : ∀ (k : Nat) (t : CTree H),
    (∀ j, j < k → bits.getLsbD j = if j = 0 then o.testBit 0 else !o.testBit j) →
    descend t k bits = childWalk t k o := by
  intro k
  induction k with
  | zero => intro t _; cases t <;> rfl
  | succ k ih =>
    intro t hbits
    have hk := hbits k (Nat.lt_succ_self k)
    have hgo : (if k = 0 then !leftNieceAt bits k else leftNieceAt bits k) = o.testBit k := by
      rw [leftNieceAt_eq, hk]
      by_cases h0 : k = 0
      · rw [if_pos h0, if_pos h0, Bool.not_not, h0]
      · rw [if_neg h0, if_neg h0, Bool.not_not]
    have hlow := fun j (hj : j < k) => hbits j (Nat.lt_succ_of_lt hj)
    cases t with
    | leaf h => rfl
    | node a b => rw [descend_node, hgo, childWalk, ih a hlow, ih b hlow]

theorem trees_getElem (F : Forest H) {R : Nat} (hR : R ∈ treeRows F.numLeaves) :
    F.trees[(treeRows F.numLeaves).idxOf R]? = some (R, treeOf F R) := by
  unfold Forest.trees treeOf
  rw [List.getElem?_map, List.getElem?_eq_getElem (List.idxOf_lt_length_of_mem hR),
    List.getElem_idxOf]
  rfl

theorem ge_maxPosition {h : Nat} (hh : h ≤ 63) (pos : U64) :
    pos ≥ maxPosition (H8 h) ↔ 2 ^ (h + 1) - 1 ≤ pos.toNat := by
  rw [ge_iff_le, BitVec.le_def, maxPosition, toNat_H8 hh, toNat_mask hh]

theorem idxOf_treeRows_toNat {n R : Nat} (hR : R ∈ treeRows n) :
    (BitVec.ofNat 8 ((treeRows n).idxOf R)).toNat = (treeRows n).idxOf R := by
  have h1 := List.idxOf_lt_length_of_mem hR
  have h2 : (treeRows n).length ≤ 65 := by
    rw [Spec.treeRows_length]
    exact Nat.le_trans List.countP_le_length (by simp)
  rw [BitVec.toNat_ofNat]
  exact Nat.mod_eq_of_lt (Nat.lt_of_lt_of_le h1 (Nat.le_trans h2 (by decide)))

theorem getNodeHash_of_guard {useNiece : Bool} {F : Forest H} {pos : U64}
    (h : (decide (pos ≥ maxPosition (TreeRows (BitVec.ofNat 64 F.numLeaves))) ||
      !inForest pos (BitVec.ofNat 64 F.numLeaves) (TreeRows (BitVec.ofNat 64 F.numLeaves))) = true) :
    getNodeHash useNiece F pos = none := by
  unfold getNodeHash
  exact if_pos h

theorem getNodeHash_enc (useNiece : Bool) (F : Forest H) (hn : F.numLeaves < 2 ^ 63) {r o : Nat}
    (hr : r ≤ F.rows) (ho : o < 2 ^ (F.rows - r)) (hin : (o + 1) * 2 ^ r ≤ F.numLeaves) :
    getNodeHash useNiece F (encU F.rows r o) = F.nodeAt (r, o) := by
  have htr : F.rows ≤ 63 := forestRows_le_63 hn
  have hT : TreeRows (BitVec.ofNat 64 F.numLeaves) = H8 F.rows := treeRows_eq hn
  have hnn : (BitVec.ofNat 64 F.numLeaves).toNat = F.numLeaves :=
    toNat_ofNat64_of_lt (Nat.lt_trans hn (by decide))
  have hin' : inForest (encU F.rows r o) (BitVec.ofNat 64 F.numLeaves) (H8 F.rows) = true := by
    rw [Props.C16.inForest_enc htr hr ho, hnn, decide_eq_true_iff]
    exact hin
  obtain ⟨R, hrR, hbR, hroot, hdo⟩ :=
    Props.C16.detectOffset_of_inForest (BitVec.ofNat 64 F.numLeaves) hT htr hr ho hin'
  rw [hnn] at hbR hroot hdo
  obtain ⟨k, rfl⟩ := Nat.exists_eq_add_of_le hrR
  have hRrows : r + k ≤ F.rows := testBit_le_forestRows hbR
  have hbits := fun j (hj : j < r + k - r) =>
    Props.C16.detectOffset_bits (k := j) (BitVec.ofNat 64 F.numLeaves) htr hrR hRrows ho hj
  rw [hnn] at hbits
  rw [Nat.add_sub_cancel_left] at hroot hdo hbits
  have hRmem : r + k ∈ treeRows F.numLeaves :=
    Spec.mem_treeRows.2 ⟨Nat.le_trans hRrows (Nat.le_trans htr (by decide)), hbR⟩
  have hg : (decide (encU F.rows r o ≥ maxPosition (H8 F.rows)) ||
      !inForest (encU F.rows r o) (BitVec.ofNat 64 F.numLeaves) (H8 F.rows)) = false := by
    rw [hin', decide_eq_false]
    · rfl
    · rw [ge_maxPosition htr, toNat_encU htr hr ho]
      exact Nat.not_le_of_lt (enc_lt_aux hr ho)
  have hbl : (H8 k).toNat = k := toNat_H8 (Nat.le_trans (Nat.le_add_left k r) (Nat.le_trans hRrows htr))
  unfold getNodeHash
  simp only [hT, hg, hdo, Bool.false_eq_true, if_false, idxOf_treeRows_toNat hRmem,
    trees_getElem F hRmem, hbl]
  cases ht : treeOf F (r + k) with
  | none => exact (nodeAt_tree_none F hRmem hroot ht).symm
  | some t =>
    rw [nodeAt_tree_some F hRmem hroot ht]
    have hw := descend_eq_childWalk _ o k t hbits
    cases useNiece with
    | false => simp only [Bool.false_eq_true, if_false, hw]
    | true => simp only [if_true, nieceWalk_eq_descend, hw]

theorem getNodeHash_spec (useNiece : Bool) (F : Forest H) (hn : F.numLeaves < 2 ^ 63) (pos : U64) :
    getNodeHash useNiece F pos = (dec F.rows pos.toNat).bind F.nodeAt := by
  have htr : F.rows ≤ 63 := forestRows_le_63 hn
  have hT : TreeRows (BitVec.ofNat 64 F.numLeaves) = H8 F.rows := treeRows_eq hn
  by_cases hp : pos.toNat < 2 ^ (F.rows + 1) - 1
  · obtain ⟨r, o, hr, ho, rfl⟩ := Props.C16.position_exists pos hp
    rw [toNat_encU htr hr ho, dec_enc _ _ _ hr ho, Option.bind_some]
    by_cases hin : (o + 1) * 2 ^ r ≤ F.numLeaves
    · exact getNodeHash_enc useNiece F hn hr ho hin
    · rw [nodeAt_outside F (Nat.lt_of_not_le hin)]
      apply getNodeHash_of_guard
      rw [hT, Props.C16.inForest_enc htr hr ho,
        toNat_ofNat64_of_lt (Nat.lt_trans hn (by decide)), decide_eq_false hin]
      exact Bool.or_true _
  · rw [getNodeHash_of_guard (by
      rw [hT, decide_eq_true ((ge_maxPosition htr pos).2 (Nat.le_of_not_lt hp))]
      rfl)]
    cases hd : dec F.rows pos.toNat with
    | none => rfl
    | some q =>
      obtain ⟨a, b, c⟩ := dec_some _ _ q.1 q.2 hd
      exact absurd (c ▸ enc_lt_aux a b) hp

theorem node_pos_valid {F : Forest H} {x : Pos × H × Bool} (hx : x ∈ F.nodes) : ValidH F.rows x.1 :=
  (SpecSubs.mem_nodes_belowRoot hx).elim fun _ hb => BelowRoot.valid hb (forestRows_spec_le F.numLeaves)

theorem mem_liveLeaves_iff_leaf_node (F : Forest H) (hn : F.numLeaves < 2 ^ 64) (h : H) :
    h ∈ F.liveLeaves ↔ ∃ p, (p, h, true) ∈ F.nodes :=
  ⟨fun hx => (posOf_isSome_of_live hn hx).imp fun _ hp => posOf_some_mem hp,
    fun ⟨_, hp⟩ => leaf_node_live hp rfl⟩

theorem posOf_eq_none_iff (F : Forest H) (hn : F.numLeaves < 2 ^ 64) (h : H) :
    F.posOf h = none ↔ h ∉ F.liveLeaves := by
  rw [mem_liveLeaves_iff_leaf_node F hn]
  constructor
  · rintro hnone ⟨p, hp⟩
    have := List.find?_eq_none.1 (Option.map_eq_none_iff.1 hnone) _ hp
    simp at this
  · intro hne
    cases hf : F.posOf h with
    | none => rfl
    | some p => exact absurd ⟨p, posOf_some_mem hf⟩ hne

theorem posOf_eq_some_iff (F : Forest H) (hn : F.numLeaves < 2 ^ 64) (hnd : F.liveLeaves.Nodup)
    (h : H) (p : Pos) : F.posOf h = some p ↔ (p, h, true) ∈ F.nodes :=
  Spec.posOf_eq_some_iff hn hnd

theorem internal_node_hash {F : Forest H} {p : Pos} {h : H} (hx : (p, h, false) ∈ F.nodes) :
    h = zero ∨ ∃ a b : H, h = ph a b := by
  generalize he : (p, h, false) = x at hx
  cases mem_nodes_iff.1 hx with
  | empty _ _ => cases he; exact Or.inl rfl
  | @sub _ _ t _ =>
    cases t with
    | leaf _ => cases he
    | node a b => cases he; exact Or.inr ⟨a.hash, b.hash, rfl⟩

open Spec.Forest in
theorem liveLeaves_run (hist : List (Block H)) (hnd : (allAdds hist).Nodup)
    (hlive : LiveDels Forest.empty hist) :
    (run Forest.empty hist).liveLeaves =
      (allAdds hist).filter (fun x => decide (x ∉ allDels hist)) := by
  have hs := run_slots_gen hist [] [] Forest.empty rfl (by simp) (by simpa using hnd) hlive
  simp only [List.nil_append] at hs
  unfold Forest.liveLeaves
  rw [hs]
  induction allAdds hist with
  | nil => rfl
  | cons x l ih =>
    by_cases hx : x ∈ allDels hist
    · simp [mark, hx] at ih ⊢; exact ih
    · simp [mark, hx] at ih ⊢; exact ih

open Spec.Forest in
theorem trackedCount_run_gen : ∀ (hist : List (Block H)) (F : Forest H),
    (F.liveLeaves ++ allAdds hist).Nodup → LiveDels F hist → (∀ b ∈ hist, b.1.Nodup) →
    trackedCount (run F hist) + (allDels hist).length =
      trackedCount F + (allAdds hist).length := by
  intro hist
  induction hist with
  | nil => intro F _ _ _; simp [run]
  | cons b rest ih =>
    intro F hnd hlive hdn
    obtain ⟨d, a⟩ := b
    simp only [allAdds_cons, allDels_cons] at hnd ⊢
    obtain ⟨hl1, hl2⟩ := hlive
    simp only at hl1 hl2
    have hLive : F.liveLeaves.Nodup := (List.nodup_append.1 hnd).1
    have hd : d.Nodup := hdn (d, a) (List.mem_cons_self)
    have hcount := LiveLeaves.filter_notin_length hLive hd hl1
    have hlm := LiveLeaves.liveLeaves_modify_eq F d a
    have hnd' : ((F.modify d a).liveLeaves ++ allAdds rest).Nodup := by
      rw [hlm, List.append_assoc]
      exact List.Nodup.sublist (List.Sublist.append (List.filter_sublist) (List.Sublist.refl _)) hnd
    have := ih (F.modify d a) hnd' hl2 (fun b hb => hdn b (List.mem_cons_of_mem _ hb))
    unfold trackedCount at this ⊢
    rw [hlm, List.length_append] at this
    simp only [run, List.length_append]
    omega

end
end UtreexoVerif.Proofs.PollardLookup
