/-
  Property C15: the ttl bookkeeping of `genTTLs` (`genSetTTLs`, `genRemoveCreated`, the backwards
  loop) and of `AddBlockSummary`, for any `getPrevPos` and any tracker: what the tables look like
  whatever the positions are.  The namespace is that of `Proofs/Schedule.lean`, under which
  `Props/C15` and DESIGN.md name `genTTLs_posTTL` and `genTTLs_entries_le`.
-/
import UtreexoVerif.Proofs.Schedule
import UtreexoVerif.Proofs.InsertW

namespace UtreexoVerif.Proofs.Schedule
open Model

theorem idx_eq_ok {α} {l : List α} {i : Nat} {a : α} : Out.idx l i = .ok a ↔ l[i]? = some a := by
  unfold Out.idx
  cases l[i]? <;> simp

theorem idxInt_mem {α} {l : List α} {i : Int} {a : α} (h : idxInt l i = .ok a) : a ∈ l := by
  unfold idxInt at h
  split at h
  · cases h
  · exact List.mem_of_getElem? (idx_eq_ok.mp h)

theorem idxInt_natCast {α} (l : List α) (i : Nat) : idxInt l (i : Int) = Out.idx l i := by
  unfold idxInt
  rw [if_neg (by omega)]
  rfl

theorem deleteAt_eq_ok {α} {l l' : List α} {i : Int} (h : deleteAt l i = .ok l') :
    i.toNat < l.length ∧ l' = l.eraseIdx i.toNat := by
  unfold deleteAt at h
  split at h
  · cases h
  · split at h
    · rename_i hlt
      cases h
      exact ⟨hlt, rfl⟩
    · cases h

theorem genSetTTLs_ok (i : Nat) (cached : List U64) (xy : List (Int × Int)) :
    ∀ (idxs : List Int) (acc r : List TTLInfo), genSetTTLs i cached xy idxs acc = .ok r →
    ∃ es, r = acc ++ es ∧ es.length = idxs.length ∧
      ∀ e ∈ es, ∃ cords ∈ xy, e.ttl = cords.1 - (i : Int) := by
  intro idxs
  induction idxs with
  | nil => intro acc r h; cases h; exact ⟨[], by simp, rfl, by simp⟩
  | cons idx rest ih =>
    intro acc r h
    rw [genSetTTLs, bind_ok] at h
    obtain ⟨cords, hc, h⟩ := h
    dsimp only at h
    rw [bind_ok] at h
    obtain ⟨pos, _, h⟩ := h
    obtain ⟨es, rfl, hlen, hes⟩ := ih _ r h
    refine ⟨({ pos := pos, ttl := cords.1 - (i : Int) } : TTLInfo) :: es, by simp, by simp [hlen], ?_⟩
    intro e he
    rcases List.mem_cons.mp he with rfl | he
    · exact ⟨cords, idxInt_mem hc, rfl⟩
    · exact hes e he

theorem genRemoveCreated_ok : ∀ (idxs : List Int) (k : Int) (cached : List U64) (xy : List (Int × Int))
    {c' : List U64} {xy' : List (Int × Int)}, genRemoveCreated idxs k cached xy = .ok (c', xy') →
    xy'.Sublist xy ∧ xy'.length + idxs.length = xy.length := by
  intro idxs
  induction idxs with
  | nil => intro k cached xy c' xy' h; cases h; exact ⟨List.Sublist.refl _, rfl⟩
  | cons idx rest ih =>
    intro k cached xy c' xy' h
    rw [genRemoveCreated, bind_ok] at h
    obtain ⟨c1, _, h⟩ := h
    rw [bind_ok] at h
    obtain ⟨xy1, h2, h⟩ := h
    obtain ⟨hlt, rfl⟩ := deleteAt_eq_ok h2
    obtain ⟨hsub, hlen⟩ := ih _ _ _ h
    refine ⟨hsub.trans (List.eraseIdx_sublist _ _), ?_⟩
    rw [List.length_eraseIdx_of_lt hlt] at hlen
    simp only [List.length_cons]
    omega

theorem genTTLsStepWith_ok {gpp : PrevPosFn} {cs : Tracker} {i : Nat} {cached : List U64}
    {xy : List (Int × Int)} {ttls : List TTLInfo} {cached' : List U64} {xy' : List (Int × Int)}
    (h : genTTLsStepWith gpp cs i cached xy = .ok (ttls, cached', xy')) :
    ∃ dels numAdds numLeaves toDestroy cached2 xy2,
      cs.deletions[i]? = some dels ∧ cs.numAdds[i]? = some numAdds ∧
      cs.numLeaves[i]? = some numLeaves ∧ cs.toDestroy[i]? = some toDestroy ∧
      genSetTTLs i (gpp CSTTotalRows cached dels toDestroy numAdds numLeaves).1 xy
        (gpp CSTTotalRows cached dels toDestroy numAdds numLeaves).2.reverse [] = .ok ttls ∧
      genRemoveCreated (sortInt (gpp CSTTotalRows cached dels toDestroy numAdds numLeaves).2) 0
        (gpp CSTTotalRows cached dels toDestroy numAdds numLeaves).1 xy = .ok (cached2, xy2) ∧
      cached' = cached2 ++ dels ∧
      xy' = xy2 ++ (List.range dels.length).map (fun (j : Nat) => (((i : Nat) : Int), ((j : Nat) : Int))) := by
  unfold genTTLsStepWith at h
  rw [bind_ok] at h; obtain ⟨dels, h1, h⟩ := h
  rw [bind_ok] at h; obtain ⟨numAdds, h2, h⟩ := h
  rw [bind_ok] at h; obtain ⟨numLeaves, h3, h⟩ := h
  rw [bind_ok] at h; obtain ⟨toDestroy, h4, h⟩ := h
  dsimp only at h
  rw [bind_ok] at h; obtain ⟨tt, h5, h⟩ := h
  rw [bind_ok] at h; obtain ⟨⟨c2, xy2⟩, h6, h⟩ := h
  cases h
  exact ⟨dels, numAdds, numLeaves, toDestroy, c2, xy2, idx_eq_ok.mp h1, idx_eq_ok.mp h2,
    idx_eq_ok.mp h3, idx_eq_ok.mp h4, h5, h6, rfl, rfl⟩

theorem intOrder : InsertW.IsOrder (fun a b : Int => a < b) (fun a b => a ≤ b) where
  irrefl a := Int.lt_irrefl a
  trans := Int.lt_trans
  tri := Int.lt_trichotomy
  le_iff := Int.not_lt.symm

theorem insertInt_eq (x : Int) : ∀ l, insertInt x l = InsertW.insertW (fun a b : Int => a < b) id x l
  | [] => rfl
  | y :: ys => by rw [insertInt, InsertW.insertW, insertInt_eq x ys]; rfl

theorem sortInt_eq (l : List Int) : sortInt l = InsertW.sortW (fun a b : Int => a < b) id l := by
  unfold sortInt InsertW.sortW
  congr 1
  funext acc x
  exact insertInt_eq x acc

theorem sortInt_perm (l : List Int) : (sortInt l).Perm l := sortInt_eq l ▸ InsertW.sortW_perm _ id l

theorem sortInt_sorted (l : List Int) : (sortInt l).Pairwise (· ≤ ·) :=
  sortInt_eq l ▸ InsertW.sortW_sorted id intOrder l

theorem sortInt_eq_of_perm {l s : List Int} (hs : s.Pairwise (· < ·)) (hp : l.Perm s) : sortInt l = s :=
  sortInt_eq l ▸ InsertW.sortW_eq_of_perm_sorted id intOrder hp hs

def TTLsBounded (N : Int) (k : Nat) (tables : List (List TTLInfo)) : Prop :=
  ∀ (j : Nat) (l : List TTLInfo), tables[j]? = some l → ∀ e ∈ l, 0 < e.ttl ∧ ((k + j : Nat) : Int) + e.ttl < N

/-- at most one entry per bookkeeping pair or deletion target; and, as long as the bookkeeping points
at later blocks below `N`, every ttl recorded is the distance to such a block -/
theorem genTTLsLoop_ok (gpp : PrevPosFn) (cs : Tracker) (N : Int) :
    ∀ (k : Nat) (cached : List U64) (xy : List (Int × Int)) (acc r : List (List TTLInfo)),
    genTTLsLoopWith gpp cs k cached xy acc = .ok r →
    r.length = k + acc.length ∧
    r.flatten.length ≤ acc.flatten.length + xy.length + (cs.deletions.take k).flatten.length ∧
    ((k : Int) ≤ N → (∀ x ∈ xy, (k : Int) ≤ x.1 ∧ x.1 < N) → TTLsBounded N k acc → TTLsBounded N 0 r) := by
  intro k
  induction k with
  | zero => intro cached xy acc r h; cases h; exact ⟨by simp, by simp, fun _ _ hacc => hacc⟩
  | succ i ih =>
    intro cached xy acc r h
    rw [genTTLsLoopWith, bind_ok] at h
    obtain ⟨⟨ttls, cached', xy'⟩, hs, h⟩ := h
    obtain ⟨dels, _, _, _, c2, xy2, hd, _, _, _, h5, h6, _, rfl⟩ := genTTLsStepWith_ok hs
    obtain ⟨es, rfl, heslen, hes⟩ := genSetTTLs_ok _ _ _ _ _ _ h5
    obtain ⟨hsub, hlen⟩ := genRemoveCreated_ok _ _ _ _ h6
    obtain ⟨r1, r2, r3⟩ := ih _ _ _ r h
    have htake : (cs.deletions.take (i + 1)).flatten.length =
        (cs.deletions.take i).flatten.length + dels.length := by
      rw [List.take_add_one, hd]; simp
    rw [(sortInt_perm _).length_eq] at hlen
    simp only [List.length_reverse] at heslen
    simp only [List.length_cons, List.flatten_cons, List.length_append, List.length_map,
      List.length_range] at r1 r2 ⊢
    refine ⟨by omega, by omega, fun hk hxy hacc => ?_⟩
    refine r3 (by omega) ?_ ?_
    · intro x hx
      rcases List.mem_append.mp hx with hx | hx
      · have := hxy x (hsub.subset hx); omega
      · obtain ⟨j, _, rfl⟩ := List.mem_map.mp hx
        simp only; omega
    · intro j l hl e he
      cases j with
      | zero =>
        simp only [List.getElem?_cons_zero, Option.some.injEq] at hl
        subst hl
        obtain ⟨cords, hc, htt⟩ := hes e he
        have := hxy cords hc
        simp only [Nat.add_zero]; omega
      | succ j =>
        simp only [List.getElem?_cons_succ] at hl
        have := hacc j l hl e he
        rwa [show i + (j + 1) = i + 1 + j by omega]

theorem genTTLsWith_ok {gpp : PrevPosFn} {cs cs' : Tracker} (h : cs.genTTLsWith gpp = .ok cs') :
    ∃ tables, genTTLsLoopWith gpp cs cs.deletions.length [] [] [] = .ok tables ∧
      cs' = { cs with ttls := tables ++ List.replicate (cs.numAdds.length - cs.deletions.length) [] } := by
  unfold Tracker.genTTLsWith at h
  rw [bind_ok] at h
  obtain ⟨tables, hl, h⟩ := h
  cases h
  exact ⟨tables, hl, rfl⟩

theorem genTTLs_posTTL (gpp : PrevPosFn) (cs cs' : Tracker) (h : cs.genTTLsWith gpp = .ok cs') :
    PosTTL cs'.ttls ∧
    ∀ (j : Nat) (l : List TTLInfo), cs'.ttls[j]? = some l → ∀ e ∈ l, (j : Int) + e.ttl < cs.deletions.length := by
  obtain ⟨tables, hl, rfl⟩ := genTTLsWith_ok h
  have hb := (genTTLsLoop_ok gpp cs (cs.deletions.length : Int) _ _ _ _ _ hl).2.2
    (Int.le_refl _) (by intro x hx; cases hx) (by intro j l hl; simp at hl)
  have key : ∀ (j : Nat) (l : List TTLInfo),
      (tables ++ List.replicate (cs.numAdds.length - cs.deletions.length) [])[j]? = some l →
      ∀ e ∈ l, 0 < e.ttl ∧ (j : Int) + e.ttl < cs.deletions.length := by
    intro j l hjl e he
    rw [List.getElem?_append] at hjl
    split at hjl
    · simpa using hb j l hjl e he
    · rw [List.getElem?_replicate] at hjl
      split at hjl
      · cases hjl; cases he
      · cases hjl
  constructor
  · intro l hlmem e he
    obtain ⟨j, hj⟩ := List.mem_iff_getElem?.mp hlmem
    exact (key j l hj e he).1
  · intro j l hjl e he
    exact (key j l hjl e he).2

theorem genTTLs_entries_le (gpp : PrevPosFn) (cs cs' : Tracker) (h : cs.genTTLsWith gpp = .ok cs') :
    cs'.ttls.flatten.length ≤ cs.deletions.flatten.length := by
  obtain ⟨tables, hl, rfl⟩ := genTTLsWith_ok h
  have := (genTTLsLoop_ok gpp cs 0 _ _ _ _ _ hl).2.1
  simp only [List.flatten_nil, List.length_nil, Nat.zero_add, List.take_length] at this
  simpa only [List.flatten_append, List.length_append, List.flatten_replicate_nil, List.length_nil,
    Nat.add_zero] using this

/-- what `AddBlockSummary` maintains (`SchedIface.TrackerOK` and `SchedTrack.InvT` contain it field
by field) -/
def TrackerLen (cs : Tracker) (n : Nat) : Prop :=
  cs.deletions.length = n ∧ cs.numAdds.length = n ∧ cs.numLeaves.length = n ∧
    cs.toDestroy.length = n ∧ cs.roots.length = n

theorem addBlockSummary_ok {cs cs' : Tracker} {d : List U64} {a : U16}
    (h : cs.addBlockSummary d a = .ok cs') :
    ∃ (d' td : List U64) (r : List RootInfo) (nl : U64), d'.length = d.length ∧
      cs' = { cs with deletions := cs.deletions ++ [d'], numAdds := cs.numAdds ++ [a],
                      toDestroy := cs.toDestroy ++ [td], roots := cs.roots ++ [r],
                      numLeaves := cs.numLeaves ++ [nl] } := by
  unfold Tracker.addBlockSummary at h
  split at h
  · rw [bind_ok] at h
    obtain ⟨⟨r, nl⟩, _, h⟩ := h
    cases h
    exact ⟨d, [], r, nl, rfl, rfl⟩
  · dsimp only at h
    split at h
    · rw [bind_ok] at h; obtain ⟨nl0, _, h⟩ := h
      split at h
      · rw [bind_ok] at h; obtain ⟨r0, _, h⟩ := h
        rw [bind_ok] at h; obtain ⟨td, _, h⟩ := h
        rw [bind_ok] at h; obtain ⟨⟨r, nl⟩, _, h⟩ := h
        cases h
        exact ⟨_, td, r, nl, by simp [translatePositions], rfl⟩
      · rw [bind_ok] at h; obtain ⟨_, h0, _⟩ := h; cases h0
    · rw [bind_ok] at h; obtain ⟨_, h0, _⟩ := h; cases h0

theorem foldlM_addBlockSummary : ∀ (blocks : List (List U64 × U16)) (cs tr : Tracker) (n : Nat),
    TrackerLen cs n → blocks.foldlM (fun cs b => cs.addBlockSummary b.1 b.2) cs = .ok tr →
    TrackerLen tr (n + blocks.length) ∧
    tr.deletions.flatten.length = cs.deletions.flatten.length + (blocks.map (·.1.length)).sum := by
  intro blocks
  induction blocks with
  | nil => intro cs tr n hw h; cases h; exact ⟨hw, by simp⟩
  | cons b rest ih =>
    intro cs tr n hw h
    rw [List.foldlM_cons, bind_ok] at h
    obtain ⟨cs1, h1, h⟩ := h
    obtain ⟨d', td, r, nl, hd, rfl⟩ := addBlockSummary_ok h1
    obtain ⟨e1, e2, e3, e4, e5⟩ := hw
    obtain ⟨hlen, hdel⟩ := ih _ tr (n + 1) (by simp [TrackerLen, e1, e2, e3, e4, e5]) h
    rw [show n + (b :: rest).length = n + 1 + rest.length by simp; omega]
    refine ⟨hlen, ?_⟩
    simp only [List.flatten_append, List.length_append, List.flatten_cons, List.flatten_nil,
      List.length_nil, Nat.add_zero, hd] at hdel
    simp only [List.map_cons, List.sum_cons]
    omega

theorem ofBlocks_len {blocks : List (List U64 × U16)} {tr : Tracker} (h : Tracker.ofBlocks blocks = .ok tr) :
    TrackerLen tr blocks.length := by
  simpa using (foldlM_addBlockSummary blocks Tracker.new tr 0 (by simp [TrackerLen, Tracker.new]) h).1

theorem ofBlocks_dels {blocks : List (List U64 × U16)} {tr : Tracker} (h : Tracker.ofBlocks blocks = .ok tr) :
    tr.deletions.flatten.length = (blocks.map (·.1.length)).sum := by
  simpa [Tracker.new] using (foldlM_addBlockSummary blocks Tracker.new tr 0 (by simp [TrackerLen, Tracker.new]) h).2

theorem genTTLs_shape (gpp : PrevPosFn) {cs cs' : Tracker} {n : Nat} (hw : TrackerLen cs n)
    (h : cs.genTTLsWith gpp = .ok cs') : cs'.numAdds = cs.numAdds ∧ cs'.deletions = cs.deletions ∧ cs'.ttls.length = n := by
  obtain ⟨tables, hl, rfl⟩ := genTTLsWith_ok h
  have := (genTTLsLoop_ok gpp cs 0 _ _ _ _ _ hl).1
  obtain ⟨h1, h2, _⟩ := hw
  refine ⟨rfl, rfl, ?_⟩
  simp only [List.length_append, List.length_replicate, List.length_nil] at this ⊢
  omega

theorem generate_decomp (gpp : PrevPosFn) {blocks : List (List U64 × U16)} {tr cs : Tracker}
    {limit : Int} {sch : Sch} (hb : Tracker.ofBlocks blocks = .ok tr)
    (h : tr.generateCachingScheduleWith gpp limit = .ok (cs, sch)) :
    tr.genTTLsWith gpp = .ok cs ∧ cs.ttls.length = blocks.length ∧ 0 ≤ limit ∧
      scheduleOfTTLs cs.ttls cs.ttls.length limit = .ok sch := by
  rw [Tracker.generateCachingScheduleWith_eq, CalcSound.bind_eq_ok] at h
  obtain ⟨cs1, hg, h⟩ := h
  rw [CalcSound.bind_eq_ok] at h
  obtain ⟨sch1, hs, h⟩ := h
  cases h
  have hshape := genTTLs_shape gpp (ofBlocks_len hb) hg
  have hlen : cs.numAdds.length = cs.ttls.length := by
    rw [hshape.1, hshape.2.2]; exact (ofBlocks_len hb).2.1
  rw [hlen] at hs
  refine ⟨hg, hshape.2.2, ?_, hs⟩
  by_cases hneg : limit < 0
  · unfold scheduleOfTTLs at hs
    simp only [hneg, ↓reduceIte] at hs
    cases hs
  · omega

end UtreexoVerif.Proofs.Schedule
