/-
  `MapPollard.undoDeletion` after the move-down loop, on the abstract state.

  `undoDeletion` is `ingest` with two differences: the detwinned targets are handed (reversed) to
  `undoDelMoveDown` (whose result is a hypothesis here), and `placeProof` replaces `ingest.store`.
-/
import UtreexoVerif.Proofs.MapIngest
import UtreexoVerif.Proofs.MapDeTwin

namespace UtreexoVerif.Proofs.MapUndoDel
open Model MapRep MapIngest
open Spec (Forest Pos)
open PForestSpec (Hyg)
open SpecPlan (pathSet canon_targets_nodup)

variable {H : Type} [DecidableEq H] [Hasher H]

/-- `undoDeletion` as the sequence of its steps, each named by what it returned -/
theorem undoDeletion_eq {m m2 m3 : MapPollard H} {L : List H} {tg : List U64} {prH pr' : List H} {hnp : HP H}
    {X PPe TS : List U64} {r : CalcResult H} {Y : HP H}
    (h1 : toHashAndPos tg L = .ok hnp)
    (h2 : deTwin (if TreeRows m.numLeaves ≠ m.totalRows then
        sortU64 (translatePositions hnp.positions (TreeRows m.numLeaves) m.totalRows) else hnp.positions)
        m.totalRows = X)
    (hmd : MapPollard.undoDelMoveDown X.reverse m = (m2, .ok ()))
    (h3 : (if TreeRows m.numLeaves ≠ m2.totalRows then
        translatePositions (MapPollard.trimProofPos
          (ProofPositions (sortU64 tg) m2.numLeaves (TreeRows m.numLeaves)).1 m2.numLeaves)
          (TreeRows m.numLeaves) m2.totalRows
       else (ProofPositions (sortU64 tg) m2.numLeaves (TreeRows m.numLeaves)).1) = PPe)
    (hlen : PPe.length = prH.length)
    (h4 : MapPollard.placeProof PPe 0 prH m2 = (m3, .ok pr'))
    (h5 : calculateHashes m3.numLeaves (some L) tg pr' = .ok r)
    (h6 : (if TreeRows m.numLeaves ≠ m3.totalRows then
        sortHP (r.nodes.map (fun x => (translatePos x.1 (TreeRows m.numLeaves) m3.totalRows, x.2)))
       else r.nodes) = Y)
    (h7 : (if TreeRows m.numLeaves ≠ m3.totalRows then
        translatePositions tg (TreeRows m.numLeaves) m3.totalRows else tg) = TS) :
    MapPollard.undoDeletion tg prH L m = (MapPollard.putCalculated (fun p => TS.contains p) Y m3, .ok ()) := by
  unfold MapPollard.undoDeletion
  rw [h1]
  simp only
  rw [h2, hmd]
  simp only
  rw [h3, if_neg (fun h => h hlen)]
  simp only
  rw [h4]
  simp only
  rw [h5]
  simp only
  rw [h6, h7]

section main
open CalcComplete (canon_targets_length)

/-- the run of `undoDeletion` with the canonical proof, for ANY state `m3` that `placeProof` returns
together with the unchanged proof: the part that does not depend on the `full` flag -/
theorem undoDeletion_run (nz : NZ H) {m m2 m3 : MapPollard H} {F : Forest H} {T : Nat}
    (hrows : m.totalRows = H8 T) (hT : T ≤ 63) (hn : m.numLeaves = BitVec.ofNat 64 F.numLeaves)
    (hn63 : F.numLeaves < 2 ^ 63) (hfit : F.rows ≤ T) (hy : Hyg F)
    {L : List H} {ts : List Pos} {ps : List H} (hnd : L.Nodup) (hc : F.canon L = some (ts, ps))
    {ds : List Pos}
    (hdt : deTwin (if H8 T ≠ H8 F.rows
        then translatePositions (sortU64 (ts.map (encP F.rows))) (H8 F.rows) (H8 T)
        else sortU64 (ts.map (encP F.rows))) (H8 T) = ds.map (encP T))
    (hmd : MapPollard.undoDelMoveDown (ds.map (encP T)).reverse m = (m2, .ok ()))
    (hTR2 : m2.totalRows = H8 T) (hnl2 : m2.numLeaves = m.numLeaves)
    (h4 : MapPollard.placeProof ((F.proofPositions ts).map (encP T)) 0 ps m2 = (m3, .ok ps))
    (hTR3 : m3.totalRows = H8 T) (hn3 : m3.numLeaves = m2.numLeaves) :
    MapPollard.undoDeletion (ts.map (encP F.rows)) ps L m =
      (MapPollard.putCalculated (fun p => (ts.map (encP T)).contains p)
        ((pathSet F ts).map (fun p => (encP T p, tvF F p))) m3, .ok ()) := by
  have h63 : F.rows ≤ 63 := Nat.le_trans hfit hT
  have htr : TreeRows m.numLeaves = H8 F.rows := by rw [hn]; exact SpecView.treeRows_eq hn63
  have tsV : ∀ t ∈ ts, MapInv.Valid F.rows t := fun t ht => ts_valid hc (Nat.le_refl _) ht
  have ppV : ∀ q ∈ F.proofPositions ts, MapInv.Valid F.rows q := fun q hq => pp_valid hc (Nat.le_refl _) hq
  have tsnd : ts.Nodup := canon_targets_nodup hc hnd
  obtain ⟨hnp, h1, hpos⟩ := toHashAndPos_canon h63 ts L tsV (canon_targets_length hc)
  have h2 : deTwin (if TreeRows m.numLeaves ≠ m.totalRows then
        sortU64 (translatePositions hnp.positions (TreeRows m.numLeaves) m.totalRows) else hnp.positions)
        m.totalRows = ds.map (encP T) := by
    rw [htr, hrows, hpos, ne_comm_ite, sorted_toStor hT hfit tsnd tsV]
    rwa [MapDeTwin.sorted_translated (fun p hp => (ts_node hc hp).elim fun x hx => ⟨x, true, hx⟩) hT hfit] at hdt
  have h3 : (if TreeRows m.numLeaves ≠ m2.totalRows then
        translatePositions (MapPollard.trimProofPos
          (ProofPositions (sortU64 (ts.map (encP F.rows))) m2.numLeaves (TreeRows m.numLeaves)).1 m2.numLeaves)
          (TreeRows m.numLeaves) m2.totalRows
       else (ProofPositions (sortU64 (ts.map (encP F.rows))) m2.numLeaves (TreeRows m.numLeaves)).1) =
      (F.proofPositions ts).map (encP T) := by
    rw [htr, hTR2, hnl2, hn, pp_api hn63 tsnd (ts_belowRoot hc), trimProofPos_forest hn63 (fun _ h => pp_belowRoot (ts_belowRoot hc) h)]
    exact toStor hT hfit _ ppV
  have hlen : ((F.proofPositions ts).map (encP T)).length = ps.length := by
    rw [ps_hashes hc, List.length_map, List.length_map]
  obtain ⟨r, h5, h6⟩ := calc_nodes nz hn63 hT hfit hy hnd hc []
  rw [List.append_nil] at h5
  refine undoDeletion_eq h1 h2 hmd h3 hlen h4 (by rw [hn3, hnl2, hn]; exact h5) (by rw [htr, hTR3]; exact h6) ?_
  rw [htr, hTR3]
  exact toStor hT hfit ts tsV

/-- on the abstract state this is `fillA` / `fillC`, exactly as for `ingest` -/
theorem undoDeletion_spec (nz : NZ H) {m m2 : MapPollard H} {F : Forest H} {T : Nat}
    (hrows : m.totalRows = H8 T) (hn : m.numLeaves = BitVec.ofNat 64 F.numLeaves)
    (hn63 : F.numLeaves < 2 ^ 63) (hfit : F.rows ≤ T) (hy : Hyg F)
    {L : List H} {ts : List Pos} {ps : List H} (hnd : L.Nodup) (hc : F.canon L = some (ts, ps))
    {ds : List Pos}
    (hdt : deTwin (if H8 T ≠ H8 F.rows
        then translatePositions (sortU64 (ts.map (encP F.rows))) (H8 F.rows) (H8 T)
        else sortU64 (ts.map (encP F.rows))) (H8 T) = ds.map (encP T))
    (hmd : MapPollard.undoDelMoveDown (ds.map (encP T)).reverse m = (m2, .ok ()))
    {A2 : Pos → Option (Leaf H)} {C2 : H → Option Pos} (rep2 : Rep m2 T A2 C2)
    (hnl2 : m2.numLeaves = m.numLeaves) {fl : Bool} (hfull2 : m2.full = fl)
    (hpp : ∀ q ∈ F.proofPositions ts, ∀ l, A2 q = some l → l.hash = tvF F q) :
    ∃ m', MapPollard.undoDeletion (ts.map (encP F.rows)) ps L m = (m', .ok ()) ∧
      Rep m' T (fillA fl (pathSet F ts) (F.proofPositions ts) ts (tvF F) A2) (fillC F.posOf L C2) ∧
      m'.numLeaves = m.numLeaves ∧ m'.full = fl := by
  obtain ⟨m3, _, h4, rep3, hf3, hn3⟩ := store_rep ps (tvF F) (F.proofPositions ts) 0 m2 A2 C2 rep2 hfull2
    (fun q hq => pp_valid hc hfit hq) ⟨[], by rw [ps_hashes hc]; simp⟩
  have hrun := undoDeletion_run nz hrows rep2.T_le hn hn63 hfit hy hnd hc hdt hmd rep2.rows hnl2 (h4 hpp) rep3.rows hn3
  obtain ⟨rep4, hf4, hn4⟩ := putCalculated_fill rep3 hf3 hn63 hfit hy hc (fun _ => rfl)
  exact ⟨_, hrun, rep4, by rw [hn4, hn3, hnl2], hf4⟩

end main

theorem pair_ok {α : Type} (r : α × Except Fail Unit)
    (h : (match r.2 with | .ok _ => true | .error _ => false) = true) : r = (r.1, .ok ()) := by
  obtain ⟨a, b⟩ := r
  cases b with
  | ok u => rfl
  | error e => cases h

/-! ## non-vacuity

`m5` / `F5` of `Props/C09.lean` (five live leaves, leaves 0, 2, 4 cached, allocation
`TotalRows = 63 ≠ TreeRows = 3`).  `md`: `m5` after deleting the cached leaf 2 with
`MapPollard.remove` (leaf 3 moved up to `(1, 1)`, the node `(1, 0)` was pruned).  `md2`: `md` after
the move-down loop (leaf 3 is back at `(0, 3)`).  The canonical proof of leaf 2 in `F5` has the
positions `(0, 3)` — stored in `md2`, read back by `placeProof` — and `(1, 0)` — absent, filled in. -/

namespace Example
open MapSInv.Example
open Props.C09.Example (T m5 F5)

theorem pair_ok {α : Type} (r : α × Except Fail Unit)
    (h : (match r.2 with | .ok _ => true | .error _ => false) = true) : r = (r.1, .ok ()) :=
  MapUndoDel.pair_ok r h

def md : MapPollard T := (MapPollard.remove [2#64] [T.leaf 2] m5).1

def md2 : MapPollard T := (MapPollard.undoDelMoveDown (([(0, 2)] : List Pos).map (encP 63)).reverse md).1

theorem canon2 : F5.canon [T.leaf 2] = some ([(0, 2)], [T.leaf 3, T.node (.leaf 0) (.leaf 1)]) := by
  decide +kernel

theorem md2_rep : Rep md2 63 (absA md2 63) (absC md2 63) :=
  have h : md2.totalRows = H8 63 ∧ (md2.nodes.all fun e => (decRO 63 e.1.toNat).isSome) = true ∧
      (md2.cached.all fun e => (decRO 63 e.2.toNat).isSome) = true := by decide +kernel
  rep_abs_of_decode (by decide) h.1 h.2.1 h.2.2

example : ∃ m', MapPollard.undoDeletion (([(0, 2)] : List Pos).map (encP F5.rows))
      [T.leaf 3, T.node (.leaf 0) (.leaf 1)] [T.leaf 2] md = (m', .ok ()) ∧
    Rep m' 63 (ingA (pathSet F5 [(0, 2)]) (F5.proofPositions [(0, 2)]) [(0, 2)] (tvF F5) (absA md2 63))
      (fun x => if x ∈ [T.leaf 2] then F5.posOf x else absC md2 63 x) ∧
    m'.numLeaves = md.numLeaves ∧ m'.full = false := by
  have hf : md.totalRows = H8 63 ∧ md.numLeaves = BitVec.ofNat 64 F5.numLeaves ∧ md2.numLeaves = md.numLeaves ∧
      md2.full = false ∧ absA md2 63 (0, 3) = some ⟨.leaf 3, false⟩ ∧ absA md2 63 (1, 0) = none := by decide +kernel
  rw [← fillA_false]
  refine undoDeletion_spec crT.toNZ (m := md) (m2 := md2) (F := F5) (T := 63) hf.1
    hf.2.1 (by decide) (by decide) F5_hyg (by decide) canon2 (ds := [(0, 2)])
    (by decide +kernel) (pair_ok _ (by decide +kernel)) md2_rep hf.2.2.1 hf.2.2.2.1 ?_
  have e : F5.proofPositions [(0, 2)] = [(0, 3), (1, 0)] := by decide +kernel
  rw [e]
  intro q hq l hl
  simp only [List.mem_cons, List.not_mem_nil, or_false] at hq
  rcases hq with rfl | rfl
  · have h2 : tvF F5 (0, 3) = .leaf 3 := by decide +kernel
    rw [hf.2.2.2.2.1] at hl
    simp only [Option.some.injEq] at hl
    rw [← hl, h2]
  · rw [hf.2.2.2.2.2] at hl
    cases hl

def mu : MapPollard T :=
  (MapPollard.undoDeletion [2#64] [T.leaf 3, T.node (.leaf 0) (.leaf 1)] [T.leaf 2] md).1

/-- the concrete run: leaf 2 is cached at its old position again, the proof hash missing at
`(1, 0)` has been stored without flag, the one present at `(0, 3)` was kept, and all eight nodes of
`m5` are back with the same contents -/
example : ([(0, 2)] : List Pos).map (encP F5.rows) = [2#64] ∧
    md.getCached (.leaf 2) = none ∧ md.nodes.length = 5 ∧ md2.getNode (encP 63 (1, 0)) = none ∧
    mu.getCached (.leaf 2) = some 2#64 ∧ mu.nodes.length = 8 ∧
    mu.getNode 2#64 = some ⟨.leaf 2, true⟩ ∧
    mu.getNode (encP 63 (1, 0)) = some ⟨.node (.leaf 0) (.leaf 1), false⟩ ∧
    (m5.nodes.map (·.1)).all (fun p => mu.getNode p == m5.getNode p) = true := by
  decide +kernel

end Example

end UtreexoVerif.Proofs.MapUndoDel

#print axioms UtreexoVerif.Proofs.MapUndoDel.undoDeletion_run
