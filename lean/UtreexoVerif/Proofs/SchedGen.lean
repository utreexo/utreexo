/-
  C15: the backwards loop of `genTTLs` produces exactly the lifetime tables of the history,
  GIVEN what the tracker has recorded (`SchedIface.TrackerOK`) and what one call of
  `getPrevPos` does (`SchedIface.StepOK`).
-/
import UtreexoVerif.Proofs.SchedIface
import UtreexoVerif.Proofs.SchedOracle

namespace UtreexoVerif.Proofs.SchedGen
open Spec.Sched Model
open UtreexoVerif.Proofs.SchedSem UtreexoVerif.Proofs.CalcGeo
open UtreexoVerif.Proofs.SchedUndoAdd UtreexoVerif.Proofs.SchedLives
open UtreexoVerif.Proofs.SchedIface UtreexoVerif.Proofs.SchedOracle

theorem idxInt_map_idxOf {α} (f : Nat → α) {P : List Nat} {s : Nat} (hs : s ∈ P) :
    idxInt (P.map f) ((P.idxOf s : Nat) : Int) = .ok (f s) := by
  rw [Schedule.idxInt_natCast]
  exact Schedule.idx_eq_ok.mpr (getElem?_map_idxOf f hs)

theorem genSetTTLs_map (t : Nat) (f : Nat → U64) (g : Nat → Int × Int) (P : List Nat) :
    ∀ (L : List Nat) (acc : List TTLInfo), (∀ s ∈ L, s ∈ P) →
      genSetTTLs t (P.map f) (P.map g) (L.map fun s => ((P.idxOf s : Nat) : Int)) acc =
        .ok (acc ++ L.map fun s => { pos := f s, ttl := (g s).1 - (t : Int) }) := by
  intro L
  induction L with
  | nil => intro acc _; simp [genSetTTLs]
  | cons s L ih =>
    intro acc hL
    have hs : s ∈ P := hL s (by simp)
    rw [List.map_cons, genSetTTLs, idxInt_map_idxOf g hs]
    simp only [bind, Out.bind]
    rw [idxInt_map_idxOf f hs]
    simp only
    rw [ih _ (fun x hx => hL x (by simp [hx]))]
    simp

def idxsFrom (c : Nat → Bool) : Nat → List Nat → List Int
  | _, [] => []
  | off, s :: R => (if c s then [((off : Nat) : Int)] else []) ++ idxsFrom c (off + 1) R

theorem idxsFrom_ge (c : Nat → Bool) : ∀ (R : List Nat) (off : Nat), ∀ x ∈ idxsFrom c off R, (off : Int) ≤ x := by
  intro R
  induction R with
  | nil => intro off x hx; simp [idxsFrom] at hx
  | cons s R ih =>
    intro off x hx
    rw [idxsFrom, List.mem_append] at hx
    rcases hx with hx | hx
    · split at hx
      · simp at hx; omega
      · simp at hx
    · have := ih (off + 1) x hx
      omega

theorem idxsFrom_sorted (c : Nat → Bool) : ∀ (R : List Nat) (off : Nat), (idxsFrom c off R).Pairwise (· < ·) := by
  intro R
  induction R with
  | nil => intro off; simp [idxsFrom]
  | cons s R ih =>
    intro off
    rw [idxsFrom]
    split
    · rw [List.singleton_append, List.pairwise_cons]
      refine ⟨fun x hx => ?_, ih _⟩
      have := idxsFrom_ge c R (off + 1) x hx
      omega
    · simpa using ih (off + 1)

theorem idxsFrom_eq (c : Nat → Bool) : ∀ (R : List Nat) (off : Nat), R.Nodup →
    idxsFrom c off R = (R.filter c).map fun s => (((off + R.idxOf s : Nat)) : Int) := by
  intro R
  induction R with
  | nil => intro off _; simp [idxsFrom]
  | cons s R ih =>
    intro off hnd
    obtain ⟨hs, hnd'⟩ := List.nodup_cons.mp hnd
    rw [idxsFrom, ih (off + 1) hnd', List.filter_cons]
    have htail : (R.filter c).map (fun x => (((off + 1 + R.idxOf x : Nat)) : Int)) =
        (R.filter c).map (fun x => (((off + (s :: R).idxOf x : Nat)) : Int)) := by
      apply List.map_congr_left
      intro x hx
      have hxR : x ∈ R := (List.mem_filter.mp hx).1
      have hne : (s == x) = false := by
        rw [beq_eq_false_iff_ne]; rintro rfl; exact hs hxR
      rw [List.idxOf_cons, hne]
      simp only [cond_false]
      congr 1
      omega
    rw [htail]
    split
    · simp [List.idxOf_cons]
    · simp

theorem deleteAt_append_mid {α} (A : List α) (x : α) (R : List α) :
    deleteAt (A ++ x :: R) ((A.length : Nat) : Int) = .ok (A ++ R) := by
  unfold deleteAt
  rw [if_neg (by omega)]
  simp only [Int.toNat_natCast, List.length_append, List.length_cons]
  rw [if_pos (by omega), List.eraseIdx_append_of_length_le (Nat.le_refl _)]
  simp

theorem genRemoveCreated_aux (c : Nat → Bool) (f : Nat → U64) (g : Nat → Int × Int) :
    ∀ (R : List Nat) (A : List U64) (B : List (Int × Int)) (k off : Nat), A.length = B.length →
      off = A.length + k →
      genRemoveCreated (idxsFrom c off R) (k : Int) (A ++ R.map f) (B ++ R.map g) =
        .ok (A ++ (R.filter fun s => !c s).map f, B ++ (R.filter fun s => !c s).map g) := by
  intro R
  induction R with
  | nil => intro A B k off _ _; simp [idxsFrom, genRemoveCreated]
  | cons s R ih =>
    intro A B k off hAB hoff
    rw [idxsFrom]
    cases hc : c s with
    | true =>
      simp only [if_true, List.singleton_append, List.map_cons]
      rw [genRemoveCreated]
      have huse : ((off : Nat) : Int) - (k : Int) = ((A.length : Nat) : Int) := by omega
      rw [huse, deleteAt_append_mid]
      simp only [bind, Out.bind]
      rw [hAB, deleteAt_append_mid]
      simp only
      have := ih A B (k + 1) (off + 1) hAB (by omega)
      rw [List.filter_cons]
      simp only [hc, Bool.not_true, Bool.false_eq_true, if_false]
      exact_mod_cast this
    | false =>
      simp only [Bool.false_eq_true, if_false, List.nil_append, List.map_cons]
      have := ih (A ++ [f s]) (B ++ [g s]) k (off + 1) (by simp [hAB]) (by simp; omega)
      rw [List.filter_cons]
      simp only [hc, Bool.not_false, if_true, List.map_cons]
      simpa using this

theorem genRemoveCreated_map (c : Nat → Bool) (f : Nat → U64) (g : Nat → Int × Int) (P : List Nat) :
    genRemoveCreated (idxsFrom c 0 P) 0 (P.map f) (P.map g) =
      .ok ((P.filter fun s => !c s).map f, (P.filter fun s => !c s).map g) := by
  have := genRemoveCreated_aux c f g P [] [] 0 0 rfl rfl
  simpa using this

theorem createdSlots_nodup (n : Nat) (P : List Nat) : ∀ k : Nat, (createdSlots n P k).Nodup := by
  intro k
  induction k with
  | zero => simp [createdSlots]
  | succ j ih =>
    rw [createdSlots]
    split
    · rw [List.singleton_append, List.nodup_cons]
      refine ⟨fun hm => ?_, ih⟩
      have := ((mem_createdSlots n P j (n + j)).mp hm).2.2
      omega
    · simpa using ih

/-- the created slots in ascending order (the order in which "Set ttls" visits them) -/
theorem createdSlots_reverse (n : Nat) (P : List Nat) : ∀ k : Nat,
    (createdSlots n P k).reverse = ((List.range k).filter fun j => decide (n + j ∈ P)).map (n + ·) := by
  intro k
  induction k with
  | zero => rfl
  | succ j ih =>
    rw [createdSlots, List.reverse_append, ih, List.range_succ, List.filter_append, List.map_append]
    congr 1
    by_cases hm : n + j ∈ P
    · simp [hm]
    · simp [hm]

theorem sortInt_createdOf (n k : Nat) {P : List Nat} (hnd : P.Nodup) (hlt : ∀ s ∈ P, s < n + k) :
    sortInt (createdOf n P k) = idxsFrom (fun s => decide (n ≤ s)) 0 P := by
  apply Schedule.sortInt_eq_of_perm (idxsFrom_sorted _ _ _)
  rw [createdOf_eq, idxsFrom_eq _ _ _ hnd]
  have hperm : (createdSlots n P k).Perm (P.filter fun s => decide (n ≤ s)) := by
    rw [List.perm_ext_iff_of_nodup (createdSlots_nodup n P k) (hnd.filter _)]
    intro s
    rw [mem_createdSlots, List.mem_filter, decide_eq_true_eq]
    constructor
    · rintro ⟨h1, h2, _⟩; exact ⟨h1, h2⟩
    · rintro ⟨h1, h2⟩; exact ⟨h1, h2, hlt s h1⟩
  have := hperm.map (fun s => ((P.idxOf s : Nat) : Int))
  simpa using this

def pendAux (h : History) : List Block → Nat → List Nat
  | [], _ => []
  | b :: bs, i => (pendAux h bs (i + 1)).filter (fun s => decide (s < (stateAt h i).length)) ++ b.delSlots

/-- the slots that the loop of `genTTLs` tracks when it is about to process block `i - 1`:
the slots deleted by the blocks `d ≥ i` that exist before block `i`; blocks in descending
order, inside a block in the order of its deletions -/
def pend (h : History) (i : Nat) : List Nat := pendAux h (h.drop i) i

theorem pend_length (h : History) : pend h h.length = [] := by
  unfold pend
  rw [List.drop_length]
  rfl

theorem pend_succ {h : History} {i : Nat} {b : Block} (hb : h[i]? = some b) :
    pend h i = (pend h (i + 1)).filter (fun s => decide (s < (stateAt h i).length)) ++ b.delSlots := by
  obtain ⟨hi, rfl⟩ := List.getElem?_eq_some_iff.mp hb
  unfold pend
  rw [List.drop_eq_getElem_cons hi]
  rfl

theorem mem_pend_aux {h : History} (hw : wellFormed h = true) : ∀ (k i : Nat), i + k = h.length → ∀ s,
    s ∈ pend h i ↔ s < pre h i ∧ ∃ d, i ≤ d ∧ (lives h).death? s = some d := by
  intro k
  induction k with
  | zero =>
    intro i hi s
    have : i = h.length := by omega
    subst this
    rw [pend_length]
    constructor
    · intro hs; cases hs
    · rintro ⟨_, d, hd, hs⟩
      obtain ⟨b, hb, _⟩ := death_sound h s d hs
      have := (List.getElem?_eq_some_iff.mp hb).1
      omega
  | succ k ih =>
    intro i hi s
    have hlt : i < h.length := by omega
    have hb : h[i]? = some h[i] := List.getElem?_eq_getElem hlt
    generalize h[i] = b at hb
    rw [pend_succ hb, List.mem_append, List.mem_filter, decide_eq_true_eq, ih (i + 1) (by omega),
      stateAt_length_pre]
    constructor
    · rintro (⟨⟨_, d, hd, hs⟩, hl⟩ | hs)
      · exact ⟨hl, d, by omega, hs⟩
      · obtain ⟨ha, hd⟩ := (wf_block hw hb).2 s hs
        unfold Lives.aliveBefore at ha
        simp only [Bool.and_eq_true, decide_eq_true_eq, before_pre] at ha
        exact ⟨ha.1, i, Nat.le_refl _, hd⟩
    · rintro ⟨hl, d, hd, hs⟩
      by_cases hdi : d = i
      · subst hdi
        obtain ⟨b', hb', hs'⟩ := death_sound h s d hs
        rw [hb] at hb'
        cases hb'
        exact Or.inr hs'
      · have := pre_mono h (show i ≤ i + 1 by omega)
        exact Or.inl ⟨⟨by omega, d, by omega, hs⟩, hl⟩

theorem mem_pend {h : History} (hw : wellFormed h = true) {i : Nat} (hi : i ≤ h.length) (s : Nat) :
    s ∈ pend h i ↔ s < pre h i ∧ ∃ d, i ≤ d ∧ (lives h).death? s = some d :=
  mem_pend_aux hw (h.length - i) i (by omega) s

theorem pend_live {h : History} (hw : wellFormed h = true) {i : Nat} (hi : i ≤ h.length) {s : Nat}
    (hs : s ∈ pend h i) : Live (stateAt h i) s := by
  obtain ⟨hl, d, hd, hds⟩ := (mem_pend hw hi s).mp hs
  refine (alive_iff hw i s).mp ?_
  unfold Lives.aliveBefore
  simp [before_pre, hl, hds, hd]


theorem pend_nodup_aux {h : History} (hw : wellFormed h = true) : ∀ (k i : Nat), i + k = h.length → (pend h i).Nodup := by
  intro k
  induction k with
  | zero => intro i hi; have : i = h.length := by omega
            subst this; rw [pend_length]; exact List.nodup_nil
  | succ k ih =>
    intro i hi
    have hlt : i < h.length := by omega
    have hb : h[i]? = some h[i] := List.getElem?_eq_getElem hlt
    generalize h[i] = b at hb
    rw [pend_succ hb, List.nodup_append]
    refine ⟨(ih (i + 1) (by omega)).filter _, (wf_dels hw hb).1, ?_⟩
    rintro a ha c hc rfl
    obtain ⟨_, d, hd, hs⟩ := (mem_pend_aux hw k (i + 1) (by omega) a).mp (List.mem_filter.mp ha).1
    rw [((wf_block hw hb).2 a hc).2] at hs
    cases hs
    omega

theorem pend_nodup {h : History} (hw : wellFormed h = true) {i : Nat} (hi : i ≤ h.length) :
    (pend h i).Nodup := pend_nodup_aux hw (h.length - i) i (by omega)

/-- the `xy` entry of a tracked slot: (the block that deletes it, its index among that block's
deletions) -/
def xyOf (h : History) (s : Nat) : Int × Int :=
  match (lives h).death? s with
  | some d => ((d : Int), ((((h[d]?.map (·.delSlots)).getD []).idxOf s : Nat) : Int))
  | none => (0, 0)

theorem xyOf_of_del {h : History} (hw : wellFormed h = true) {d : Nat} {b : Block} {s : Nat}
    (hb : h[d]? = some b) (hs : s ∈ b.delSlots) : xyOf h s = ((d : Int), ((b.delSlots.idxOf s : Nat) : Int)) := by
  unfold xyOf
  rw [(death_iff hw s d).mpr ⟨b, hb, hs⟩]
  simp [hb]

theorem map_idxOf_nodup {β} (F : Nat → β) {l : List Nat} (hnd : l.Nodup) :
    l.map (fun s => F (l.idxOf s)) = (List.range l.length).map F := by
  apply List.ext_getElem
  · simp
  · intro i h1 h2
    simp only [List.getElem_map, List.getElem_range]
    rw [hnd.idxOf_getElem i (by simpa using h1)]

theorem map_gOf_dels {h : History} (hw : wellFormed h = true) {t : Nat} {b : Block} (hb : h[t]? = some b) :
    b.delSlots.map (xyOf h) =
      (List.range b.delSlots.length).map (fun (j : Nat) => (((t : Nat) : Int), ((j : Nat) : Int))) := by
  rw [← map_idxOf_nodup (fun j => (((t : Nat) : Int), ((j : Nat) : Int))) (wf_dels hw hb).1]
  apply List.map_congr_left
  intro s hs
  exact xyOf_of_del hw hb hs

theorem filter_map_eq_filterMap {β} (p : Nat → Bool) (mk : Nat → β) (F : Nat → Option β) (n : Nat) :
    ∀ l : List Nat, (∀ j ∈ l, F (j + n) = if p j then some (mk (n + j)) else none) →
      ((l.filter p).map (n + ·)).map mk = (l.map (· + n)).filterMap F := by
  intro l
  induction l with
  | nil => intro _; rfl
  | cons j l ih =>
    intro hl
    have h1 := hl j (by simp)
    have h2 := ih (fun x hx => hl x (by simp [hx]))
    rw [List.map_cons, List.filterMap_cons, h1, List.filter_cons]
    cases hp : p j with
    | true => simp [h2]
    | false => simpa using h2

theorem row_eq {h : History} (hw : wellFormed h = true) {t : Nat} {b : Block} (hb : h[t]? = some b)
    (f : Nat → U64) (hf : ∀ s, (stateAt h t).length ≤ s → f s = BitVec.ofNat 64 s) :
    ((((List.range b.numAdds).filter fun j => decide ((stateAt h t).length + j ∈ pend h (t + 1))).map
        ((stateAt h t).length + ·)).map fun s => ({ pos := f s, ttl := (xyOf h s).1 - (t : Int) } : TTLInfo)) =
      row h t := by
  have ht : t < h.length := (List.getElem?_eq_some_iff.mp hb).1
  have hP := mem_pend hw (show t + 1 ≤ h.length by omega)
  unfold row
  rw [before_pre, before_pre, pre_succ hb, Nat.add_sub_cancel_left, ← stateAt_length_pre]
  apply filter_map_eq_filterMap
  intro j hj
  have hj' : j < b.numAdds := List.mem_range.mp hj
  have hn1 : (stateAt h (t + 1)).length = (stateAt h t).length + b.numAdds := by
    rw [stateAt_succ hb, stepS_length]
  cases hd : (lives h).death? (j + (stateAt h t).length) with
  | none =>
    have hnm : ¬ ((stateAt h t).length + j ∈ pend h (t + 1)) := by
      intro hm
      obtain ⟨_, d, _, hd'⟩ := (hP _).mp hm
      rw [Nat.add_comm, hd] at hd'
      cases hd'
    simp [hnm]
  | some d =>
    obtain ⟨b', hb', hs'⟩ := (death_iff hw _ d).mp hd
    have hlt := del_lt hw hb' hs'
    have hdt : t + 1 ≤ d := by
      rcases Nat.lt_or_ge t d with h1 | h1
      · exact h1
      · have := stateAt_length_mono h h1
        omega
    have hm : (stateAt h t).length + j ∈ pend h (t + 1) :=
      (hP _).mpr ⟨by rw [← stateAt_length_pre]; omega, d, hdt, by rw [Nat.add_comm]; exact hd⟩
    have hg : (xyOf h ((stateAt h t).length + j)).1 = (d : Int) := by
      unfold xyOf
      rw [Nat.add_comm, hd]
    simp only [hm, decide_true, if_true, hg, hf _ (Nat.le_add_right _ j)]
    rw [Nat.add_comm]

/-- the `cached` list the loop holds when it is about to process block `i - 1` -/
def cachedAt (h : History) (i : Nat) : List U64 := (pend h i).map fun s => E 63 (posS (stateAt h i) s)

/-- the `xy` list the loop holds when it is about to process block `i - 1` -/
def xyAt (h : History) (i : Nat) : List (Int × Int) := (pend h i).map (xyOf h)

theorem step_exact (gpp : PrevPosFn) {h : History} {tr : Tracker} (hw : wellFormed h = true)
    (hok : TrackerOK h tr) (hstep : StepOK gpp h tr) {t : Nat} {b : Block} (hb : h[t]? = some b) :
    genTTLsStepWith gpp tr t (cachedAt h (t + 1)) (xyAt h (t + 1)) =
      .ok (row h t, cachedAt h t, xyAt h t) := by
  have ht : t < h.length := (List.getElem?_eq_some_iff.mp hb).1
  have hi1 : t + 1 ≤ h.length := by omega
  obtain ⟨td, htd, _⟩ := hok.td t b hb
  have hn1 : (stateAt h (t + 1)).length = (stateAt h t).length + b.numAdds := by
    rw [stateAt_succ hb, stepS_length]
  have hPlt : ∀ s ∈ pend h (t + 1), s < (stateAt h t).length + b.numAdds := by
    intro s hs
    have := live_lt (pend_live hw hi1 hs)
    omega
  have hgpp := hstep t b _ td (pend h (t + 1)) hb (hok.dels t b hb) htd (pend_nodup hw hi1) (fun s hs => pend_live hw hi1 hs)
  unfold genTTLsStepWith
  rw [Schedule.idx_eq_ok.mpr (hok.dels t b hb), Schedule.idx_eq_ok.mpr (hok.adds t b hb),
    Schedule.idx_eq_ok.mpr (hok.leaves t b hb), Schedule.idx_eq_ok.mpr htd]
  simp only [bind, Out.bind, cachedAt, xyAt]
  rw [hgpp]
  simp only
  rw [createdOf_eq, ← List.map_reverse, createdSlots_reverse,
    genSetTTLs_map t _ (xyOf h) (pend h (t + 1)) _ []
      (by
        intro s hs
        obtain ⟨j, hj, rfl⟩ := List.mem_map.mp hs
        simpa using (List.mem_filter.mp hj).2)]
  simp only [List.nil_append]
  rw [row_eq hw hb _ (fun s hs => by rw [if_neg (by omega)])]
  rw [← createdOf_eq, sortInt_createdOf _ _ (pend_nodup hw hi1) hPlt, genRemoveCreated_map]
  simp only [pure]
  have hfilt : (pend h (t + 1)).filter (fun s => !decide ((stateAt h t).length ≤ s)) =
      (pend h (t + 1)).filter (fun s => decide (s < (stateAt h t).length)) := by
    apply List.filter_congr
    intro s _
    by_cases hs : s < (stateAt h t).length
    · simp [hs]
    · simp [hs]; omega
  rw [hfilt, pend_succ hb, List.map_append, List.map_append, map_gOf_dels hw hb, List.length_map]
  congr 4
  apply List.map_congr_left
  intro s hs
  have := (List.mem_filter.mp hs).2
  simp only [decide_eq_true_eq] at this
  rw [if_pos this]

theorem drop_lifetimeTables {h : History} {i : Nat} (hi : i < h.length) :
    (Props.C15.lifetimeTables h).drop i = row h i :: (Props.C15.lifetimeTables h).drop (i + 1) := by
  have hl : i < (Props.C15.lifetimeTables h).length := by rw [lifetimeTables_length]; exact hi
  rw [List.drop_eq_getElem_cons hl]
  congr 1
  have := lifetimeTables_getElem? h i
  rw [if_pos hi, List.getElem?_eq_getElem hl] at this
  exact Option.some.inj this

theorem loop_exact (gpp : PrevPosFn) {h : History} {tr : Tracker} (hw : wellFormed h = true)
    (hok : TrackerOK h tr) (hstep : StepOK gpp h tr) : ∀ i : Nat, i ≤ h.length →
    genTTLsLoopWith gpp tr i (cachedAt h i) (xyAt h i) ((Props.C15.lifetimeTables h).drop i) =
      .ok (Props.C15.lifetimeTables h) := by
  intro i
  induction i with
  | zero => intro _; rfl
  | succ i ih =>
    intro hi
    have hlt : i < h.length := by omega
    have hb : h[i]? = some h[i] := List.getElem?_eq_getElem hlt
    rw [genTTLsLoopWith, step_exact gpp hw hok hstep hb]
    simp only [bind, Out.bind]
    rw [← drop_lifetimeTables hlt]
    exact ih (by omega)

theorem genTTLs_exact_of_step (gpp : PrevPosFn) (h : History) (tr : Tracker)
    (hw : wellFormed h = true) (hok : TrackerOK h tr) (hstep : StepOK gpp h tr) :
    ∃ cs, tr.genTTLsWith gpp = .ok cs ∧ cs.ttls = Props.C15.lifetimeTables h := by
  have hloop := loop_exact gpp hw hok hstep h.length (Nat.le_refl _)
  have hdrop : (Props.C15.lifetimeTables h).drop h.length = [] := by
    apply List.drop_of_length_le
    rw [lifetimeTables_length]
    exact Nat.le_refl _
  have hc : cachedAt h h.length = [] := by simp [cachedAt, pend_length]
  have hx : xyAt h h.length = [] := by simp [xyAt, pend_length]
  rw [hdrop, hc, hx] at hloop
  unfold Tracker.genTTLsWith
  rw [hok.len_d, hloop]
  simp only [bind, Out.bind, pure]
  refine ⟨_, rfl, ?_⟩
  simp only
  rw [hok.len_a, Nat.sub_self]
  simp

end UtreexoVerif.Proofs.SchedGen
