/-
  Leaf positions of the specification forest satisfy the hypotheses `PPHyp` of
  `proofPositions_spec` (C16c): they are nodes of the forest, and no leaf position is an ancestor
  of another (a leaf of a collapsed tree has nothing below it: `SubAtT.leaf_below`).
-/
import UtreexoVerif.Proofs.SpecPlan
import UtreexoVerif.Proofs.ProofPosFinal

namespace UtreexoVerif.Proofs.LeafPositions
open Spec
open UtreexoVerif.Proofs.SpecSubs
open UtreexoVerif.Proofs.SpecPlan

section
variable {H : Type} [DecidableEq H] [Hasher H]

theorem leaf_anti {F : Forest H} {a b : Pos} {ha hb : Nat} {la lb : H}
    (sa : SubAtT F ha a (.leaf la)) (sb : SubAtT F hb b (.leaf lb)) (hanc : Anc a b) : a = b :=
  (sa.leaf_below sb (SpecNodes.under_iff_anc.2 hanc)).symm

theorem leaf_PPHyp_of_ssorted {F : Forest H} {Tg : List Pos} (tok : TargetsOK F Tg)
    (hs : SSorted Tg) : PPHyp F.numLeaves Tg where
  inForest := by
    intro t ht
    obtain ⟨h, l, s⟩ := tok t ht
    exact ⟨h, s.belowRoot⟩
  sorted := hs
  anti := by
    intro a ha b hb hab
    obtain ⟨h1, l1, s1⟩ := tok a ha
    obtain ⟨h2, l2, s2⟩ := tok b hb
    exact leaf_anti s1 s2 hab

theorem PPHyp.sublist {n : Nat} {Tg Tg' : List Pos} (hyp : PPHyp n Tg) (hsub : Tg'.Sublist Tg) :
    PPHyp n Tg' where
  inForest := fun t ht => hyp.inForest t (hsub.subset ht)
  sorted := hyp.sorted.sublist hsub
  anti := fun a ha b hb hab => hyp.anti a (hsub.subset ha) b (hsub.subset hb) hab

theorem PPHyp.filter {n : Nat} {Tg : List Pos} (hyp : PPHyp n Tg) (f : Pos → Bool) :
    PPHyp n (Tg.filter f) :=
  PPHyp.sublist hyp List.filter_sublist

theorem mapM_posOf {F : Forest H} {L : List H} {ps : List Pos} (h : L.mapM F.posOf = some ps) :
    ps = L.map (fun l => (F.posOf l).getD (0, 0)) ∧ ∀ l ∈ L, ∃ p, F.posOf l = some p :=
  ListFacts.mapM_some F.posOf (0, 0) L ps h

theorem leaf_positions_PPHyp {F : Forest H} {L : List H} {ps : List Pos} (hnd : L.Nodup)
    (h : L.mapM F.posOf = some ps) : PPHyp F.numLeaves (sortPos ps) :=
  leaf_PPHyp_of_ssorted (fun t ht => targetsOK_of_mapM h t (mem_sortPos.1 ht))
    (sortPos_ssorted (nodup_of_mapM h hnd))

end

end UtreexoVerif.Proofs.LeafPositions
