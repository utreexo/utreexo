/-
  Pointer forest, heap model: the primitives of `deleteSingle` — `transferNiece`, `transferAunt`, `delNode`.

  The users get each by what it writes (`Off`) and which `Sub` it re-homes: `transferNiece_sub`, `taHeap_spec`,
  `delNode_off`.  `transferAunt` and `delNode` also have the heap FUNCTION with its run (`taHeap`/`transferAunt_run`:
  the caller proves `Settled` on it; `dnHeap`/`delNode_run`).
  A `do` block keeps the rest of the program after a non-final `if`/`match` as a local function; `auntKid_step`,
  `clrAunt_step`, `delNode_aunt` consume such a statement with the rest as a VARIABLE `jp`, so that replaying the
  body needs no case split.  They are stated with `deref.match_1`: that is the auxiliary matcher every
  `match p with | some _ => … | none => …` on a `Ptr` in Model/PollardHeap.lean elaborates to (the first such match is
  in `deref`); a `match` written here would be a different constant and `rw` would not find it.  They follow the
  shape of the model's `do` blocks literally: reordering the branches of those `match`es breaks them.
-/
import UtreexoVerif.Proofs.PollardHeapAunt
set_option linter.unusedSectionVars false

namespace UtreexoVerif.Proofs.PollardHeap
open UtreexoVerif.Model.PollardHeap UtreexoVerif.Spec

variable {H : Type} [DecidableEq H] [Hasher H]

theorem modify_at {hp : Heap H} {i : Nat} {n : PolNode H} (f : PolNode H → PolNode H)
    (h : hp[i]? = some n) : (hp.modify i f)[i]? = some (f n) := by
  rw [Array.getElem?_modify, if_pos rfl, h]; rfl

theorem transferNiece_sub {hp : Heap H} {a b c : Nat} {an bn : PolNode H} {t : CTree H}
    {fp : List Nat} {lv : List (H × Nat)} (hs : Sub hp c b t fp lv) (nd : fp.Nodup)
    (ha : hp[a]? = some an) (hb : hp[b]? = some bn) (hab : a ≠ b) (hafp : a ∉ fp) (hbfp : b ∉ fp)
    (nm : List (H × Nat)) (rs : List Nat) (nl ndl : U64) (f : Bool) :
    ∃ hp', transferNiece (some a) (some b) ⟨hp, nm, rs, nl, ndl, f⟩ = (.ok (), ⟨hp', nm, rs, nl, ndl, f⟩) ∧
      hp'.size = hp.size ∧
      hp'[a]? = some { an with lNiece := bn.lNiece, rNiece := bn.rNiece } ∧
      hp'[b]? = some { bn with lNiece := none, rNiece := none } ∧
      Off (a :: b :: fp) hp hp' ∧ Sub hp' c a t fp lv := by
  obtain ⟨hR, hR_def⟩ : ∃ hR : Heap H, hR = (((hp.modify a (fun x => { x with lNiece := bn.lNiece })).modify a
      (fun x => { x with rNiece := bn.rNiece })).modify b (fun x => { x with lNiece := none })).modify b
      (fun x => { x with rNiece := none }) := ⟨_, rfl⟩
  have oR : Off ([a] ++ [a] ++ [b] ++ [b]) hp hR := hR_def ▸
    (((Off.modify hp a _).trans (Off.modify _ a _)).trans (Off.modify _ b _)).trans (Off.modify _ b _)
  have ea : hR[a]? = some { an with lNiece := bn.lNiece, rNiece := bn.rNiece } := by
    rw [hR_def, Array.getElem?_modify, if_neg (Ne.symm hab), Array.getElem?_modify, if_neg (Ne.symm hab)]
    exact modify_at _ (modify_at _ ha)
  have eb : hR[b]? = some { bn with lNiece := none, rNiece := none } := by
    rw [hR_def]
    refine modify_at _ (modify_at _ ?_)
    rw [Array.getElem?_modify, if_neg hab, Array.getElem?_modify, if_neg hab, hb]
  have oR' : ∀ i, i ≠ a → i ≠ b → hR[i]? = hp[i]? := fun i h1 h2 => oR i (by simp [h1, h2])
  -- the top node `c` keeps its data wherever it is
  obtain ⟨cn, hc, _⟩ := hs.hash
  have ec : ∃ cn', hR[c]? = some cn' ∧ cn'.data = cn.data := by
    by_cases c1 : c = a
    · subst c1; cases ha.symm.trans hc; exact ⟨_, ea, rfl⟩
    · by_cases c2 : c = b
      · subst c2; cases hb.symm.trans hc; exact ⟨_, eb, rfl⟩
      · exact ⟨_, (oR' c c1 c2).trans hc, rfl⟩
  obtain ⟨cn', ec1, ec2⟩ := ec
  obtain ⟨u, o, s⟩ := adopt_sub hs nd hb ea rfl rfl hafp (Ne.symm hab) hc ec1 ec2
    (fun i hi => oR' i (fun e' : i = a => hafp (e' ▸ hi)) (fun e' : i = b => hbfp (e' ▸ hi)))
  rw [hs.relabelTop_self] at s
  refine ⟨setAuntKids hR a, ?_, by rw [size_setAuntKids, hR_def]; simp only [Array.size_modify],
    (o a hafp).trans ea, (o b hbfp).trans eb, fun j hj => ?_, s⟩
  · unfold transferNiece
    rw [bind_ok (deref_some a _), bind_ok (deref_some b _), bind_ok (node_run hb), bind_ok setNode_run,
      bind_ok setNode_run, bind_ok setNode_run, bind_ok setNode_run, ← hR_def]
    exact updateAunt'_kids a _ nm rs nl ndl f u
  · simp only [List.mem_cons, not_or] at hj
    exact (o j hj.2.2).trans (oR' j hj.1 hj.2.1)

def clearK (x : PolNode H) (a : Nat) : PolNode H :=
  if x.lNiece = some a then { x with lNiece := none } else { x with rNiece := none }

def replK (x : PolNode H) (b a : Nat) : PolNode H :=
  if x.lNiece = some b then { x with lNiece := some a } else { x with rNiece := some a }

theorem Kids.replK {hp hp' : Heap H} {h c s c' : Nat} {d : Bool} {hn : PolNode H}
    (k : Kids hp h (sel d c s) (sel d s c)) (e : hp[h]? = some hn) (hcs : c ≠ s)
    (e' : hp'[h]? = some (replK hn c c')) (kc : ∃ x, hp'[c']? = some x ∧ x.aunt = some h)
    (ks : ∃ x, hp'[s]? = some x ∧ x.aunt = some h) : Kids hp' h (sel d c' s) (sel d s c') := by
  have o := k.order e
  cases d
  · exact ⟨⟨_, e', by show _ = some c'; unfold PollardHeap.replK; rw [if_pos o.1],
      by show _ = some s; unfold PollardHeap.replK; rw [if_pos o.1]; exact o.2⟩, kc, ks⟩
  · have hne : hn.lNiece ≠ some c := by rw [o.1]; intro e; cases e; exact hcs rfl
    exact ⟨⟨_, e', by show _ = some s; unfold PollardHeap.replK; rw [if_neg hne]; exact o.1,
      by show _ = some c'; unfold PollardHeap.replK; rw [if_neg hne]⟩, ks, kc⟩

theorem modify_congr {hp : Heap H} {i : Nat} {x : PolNode H} (h : hp[i]? = some x)
    {f g : PolNode H → PolNode H} (e : f x = g x) : hp.modify i f = hp.modify i g := by
  apply Array.ext_getElem?
  intro j
  rw [Array.getElem?_modify, Array.getElem?_modify]
  split
  · rename_i hij; subst hij; rw [h, Option.map_some, Option.map_some, e]
  · rfl

def modOpt (hp : Heap H) (p : Ptr) (g : PolNode H → PolNode H) : Heap H :=
  match p with
  | some l => hp.modify l g
  | none => hp

@[simp] theorem size_modOpt (hp : Heap H) (p : Ptr) (g : PolNode H → PolNode H) :
    (modOpt hp p g).size = hp.size := by
  cases p <;> simp [modOpt]

theorem getElem?_modOpt_ne {hp : Heap H} {p : Ptr} {g : PolNode H → PolNode H} {i : Nat}
    (h : p ≠ some i) : (modOpt hp p g)[i]? = hp[i]? := by
  cases p with
  | none => rfl
  | some l => exact (Array.getElem?_modify ..).trans (if_neg (fun e => h (congrArg some e)))

theorem getElem?_modOpt (hp : Heap H) (p : Ptr) (g : PolNode H → PolNode H) (j : Nat) :
    (modOpt hp p g)[j]? = if p = some j then (hp[j]?).map g else hp[j]? := by
  cases p with
  | none => exact (if_neg nofun).symm
  | some l => simp only [modOpt, Array.getElem?_modify, Option.some.injEq]

/-- the heap after `transferAunt(a, b)`: `au` = aunt pointer of `a`, `ba` = aunt of `b` -/
def taHeap (hp : Heap H) (a : Nat) (au : Ptr) (b ba : Nat) : Heap H :=
  ((modOpt hp au (fun x => clearK x a)).modify ba (fun x => replK x b a)).modify a
    (fun x => { x with aunt := some ba })

@[simp] theorem size_taHeap (hp : Heap H) (a : Nat) (au : Ptr) (b ba : Nat) :
    (taHeap hp a au b ba).size = hp.size := by
  unfold taHeap; simp only [Array.size_modify, size_modOpt]

theorem taHeap_spec {hp : Heap H} {a b ba : Nat} {au : Ptr} {an ban : PolNode H}
    (ha : hp[a]? = some an) (hba : hp[ba]? = some ban) (d3 : a ≠ ba)
    (hau : ∀ aa, au = some aa → a ≠ aa ∧ aa ≠ ba) :
    Off (a :: (au.toList ++ [ba])) hp (taHeap hp a au b ba) ∧
    (taHeap hp a au b ba)[a]? = some { an with aunt := some ba } ∧
    (taHeap hp a au b ba)[ba]? = some (replK ban b a) ∧
    ∀ aa aan, au = some aa → hp[aa]? = some aan →
      (taHeap hp a au b ba)[aa]? = some (clearK aan a) := by
  have n1 : au ≠ some a := fun e => (hau a e).1 rfl
  have n2 : au ≠ some ba := fun e => (hau ba e).2 rfl
  unfold taHeap
  refine ⟨fun j hj => ?_, modify_at _ ?_, ?_, fun aa aan e haa => ?_⟩
  · simp only [List.mem_cons, List.mem_append, Option.mem_toList, List.not_mem_nil, or_false, not_or] at hj
    rw [Array.getElem?_modify, if_neg (Ne.symm hj.1), Array.getElem?_modify, if_neg (Ne.symm hj.2.2),
      getElem?_modOpt_ne (fun e => hj.2.1 e)]
  · rw [Array.getElem?_modify, if_neg (Ne.symm d3), getElem?_modOpt_ne n1, ha]
  · rw [Array.getElem?_modify, if_neg d3]
    exact modify_at _ ((getElem?_modOpt_ne n2).trans hba)
  · subst e
    obtain ⟨e1, e2⟩ := hau aa rfl
    rw [Array.getElem?_modify, if_neg e1, Array.getElem?_modify, if_neg (Ne.symm e2)]
    exact modify_at _ haa

/-- the niece pointer of an aunt that points to `k` is rewritten (`fL` if it is the left one, `fR` if
it is the right one; `g` says both at once), then the rest `jp` of the program follows; without an
aunt only the rest -/
theorem auntKid_step {β} {k : Nat} (au : Ptr) (fL fR g : PolNode H → PolNode H)
    (jp : Unit → PM H β) (hp : Heap H) (nm : List (H × Nat)) (rs : List Nat) (nl ndl : U64) (f : Bool)
    (h : ∀ aa, au = some aa → ∃ aan, hp[aa]? = some aan ∧ isKid aan k ∧
      (aan.lNiece = some k → fL aan = g aan) ∧ (¬ aan.lNiece = some k → fR aan = g aan)) :
    deref.match_1 (fun _ => PM H β) au
      (fun aa => node aa >>= fun aan =>
        if aan.lNiece = some k then setNode aa fL >>= fun r => jp r
        else if aan.rNiece = some k then setNode aa fR >>= fun r => jp r
        else err >>= fun r => jp r)
      (fun _ => jp ()) ⟨hp, nm, rs, nl, ndl, f⟩ = jp () ⟨modOpt hp au g, nm, rs, nl, ndl, f⟩ := by
  cases au with
  | none => rfl
  | some aa =>
    obtain ⟨aan, e, kk, cL, cR⟩ := h aa rfl
    show (node aa >>= _) _ = _
    rw [bind_ok (node_run e)]
    by_cases c : aan.lNiece = some k
    · rw [if_pos c, bind_ok setNode_run, modify_congr e (cL c)]; rfl
    · rw [if_neg c, if_pos (kk.resolve_left c), bind_ok setNode_run, modify_congr e (cR c)]; rfl

/-- `hset`: the closing `updateAunt(a.aunt)` finds the nieces of `ba` pointing back already -/
theorem transferAunt_run (hp : Heap H) (nm : List (H × Nat)) (rs : List Nat) (nl ndl : U64)
    (f : Bool) (a b ba : Nat) (an bn ban : PolNode H)
    (ha : hp[a]? = some an) (hb : hp[b]? = some bn) (hba : hp[ba]? = some ban)
    (aunt_b : bn.aunt = some ba) (kb : isKid ban b) (d3 : a ≠ ba) (d6 : b ≠ ba)
    (hau : ∀ aa, an.aunt = some aa →
      (∃ aan, hp[aa]? = some aan ∧ isKid aan a) ∧ a ≠ aa ∧ aa ≠ b ∧ aa ≠ ba)
    (hset : Settled (taHeap hp a an.aunt b ba) ba) :
    transferAunt (some a) (some b) ⟨hp, nm, rs, nl, ndl, f⟩ =
      (.ok (), ⟨taHeap hp a an.aunt b ba, nm, rs, nl, ndl, f⟩) := by
  have hb1 : (modOpt hp an.aunt (fun x => clearK x a))[b]? = some bn :=
    (getElem?_modOpt_ne (fun e => (hau b e).2.2.1 rfl)).trans hb
  have hba1 : (modOpt hp an.aunt (fun x => clearK x a))[ba]? = some ban :=
    (getElem?_modOpt_ne (fun e => (hau ba e).2.2.2 rfl)).trans hba
  have ha1 : (modOpt hp an.aunt (fun x => clearK x a))[a]? = some an :=
    (getElem?_modOpt_ne (fun e => (hau a e).2.1 rfl)).trans ha
  have hb2 : ((modOpt hp an.aunt (fun x => clearK x a)).modify ba (fun x => replK x b a))[b]? = some bn := by
    rw [Array.getElem?_modify, if_neg (Ne.symm d6), hb1]
  have ha2 : ((modOpt hp an.aunt (fun x => clearK x a)).modify ba (fun x => replK x b a))[a]? = some an := by
    rw [Array.getElem?_modify, if_neg (Ne.symm d3), ha1]
  unfold transferAunt
  rw [bind_ok (deref_some a _), bind_ok (node_run ha),
    auntKid_step an.aunt _ _ (fun x => clearK x a) _ hp nm rs nl ndl f (fun aa e => by
      obtain ⟨⟨aan, e1, k⟩, _⟩ := hau aa e
      exact ⟨aan, e1, k, fun c => by simp only [clearK, if_pos c], fun c => by simp only [clearK, if_neg c]⟩),
    bind_ok (deref_some b _), bind_ok (node_run hb1),
    auntKid_step bn.aunt _ _ (fun x => replK x b a) _ _ nm rs nl ndl f (fun aa e => by
      cases aunt_b.symm.trans e
      exact ⟨ban, hba1, kb, fun c => by simp only [replK, if_pos c], fun c => by simp only [replK, if_neg c]⟩),
    aunt_b]
  show ((node b >>= _) : PM H Unit) ⟨(modOpt hp an.aunt _).modify ba _, nm, rs, nl, ndl, f⟩ = _
  rw [bind_ok (node_run hb2), bind_ok setNode_run, bind_ok (node_run (modify_at _ ha2)), aunt_b]
  exact updateAunt'_noop ba _ nm rs nl ndl f hset

/-- the heap after `delNode(i)` when the aunt of `i` (if any) does not point to `i` -/
def dnHeap (hp : Heap H) (i : Nat) (n : PolNode H) : Heap H :=
  let hp1 := hp.modify i (fun x => { x with aunt := none })
  let hp2 := match n.lNiece with
    | some l => hp1.modify l (fun x => { x with aunt := none })
    | none => hp1
  let hp3 := hp2.modify i (fun x => { x with lNiece := none })
  let hp4 := match n.rNiece with
    | some r => hp3.modify r (fun x => { x with aunt := none })
    | none => hp3
  hp4.modify i (fun x => { x with rNiece := none })

theorem dnHeap_eq (hp : Heap H) (i : Nat) (n : PolNode H) : dnHeap hp i n =
    (modOpt ((modOpt (hp.modify i (fun x => { x with aunt := none })) n.lNiece
      (fun x => { x with aunt := none })).modify i (fun x => { x with lNiece := none })) n.rNiece
      (fun x => { x with aunt := none })).modify i (fun x => { x with rNiece := none }) := rfl

@[simp] theorem size_dnHeap (hp : Heap H) (i : Nat) (n : PolNode H) :
    (dnHeap hp i n).size = hp.size := by
  rw [dnHeap_eq]; simp

theorem getElem?_dnHeap_frame (hp : Heap H) (i : Nat) (n : PolNode H) (j : Nat) (hj : j ≠ i)
    (hk : ¬ isKid n j) : (dnHeap hp i n)[j]? = hp[j]? := by
  rw [dnHeap_eq, Array.getElem?_modify, if_neg (Ne.symm hj), getElem?_modOpt_ne (fun h => hk (Or.inr h)),
    Array.getElem?_modify, if_neg (Ne.symm hj), getElem?_modOpt_ne (fun h => hk (Or.inl h)),
    Array.getElem?_modify, if_neg (Ne.symm hj)]

theorem getElem?_dnHeap_kid (hp : Heap H) (i : Nat) (n : PolNode H) (j : Nat) (hj : j ≠ i)
    (hk : isKid n j) : (dnHeap hp i n)[j]? = (hp[j]?).map (fun x => { x with aunt := none }) := by
  rw [dnHeap_eq, Array.getElem?_modify, if_neg (Ne.symm hj), getElem?_modOpt, Array.getElem?_modify,
    if_neg (Ne.symm hj), getElem?_modOpt, Array.getElem?_modify, if_neg (Ne.symm hj)]
  by_cases h1 : n.lNiece = some j <;> by_cases h2 : n.rNiece = some j
  · rw [if_pos h2, if_pos h1]; cases hp[j]? <;> rfl
  · rw [if_neg h2, if_pos h1]
  · rw [if_pos h2, if_neg h1]
  · exact absurd hk (fun k => k.elim h1 h2)

/-- `if p != nil { p.aunt = nil }`, then the rest `jp` of the program -/
theorem clrAunt_step {β} (p : Ptr) (jp : Unit → PM H β) (hp : Heap H) (nm : List (H × Nat))
    (rs : List Nat) (nl ndl : U64) (f : Bool) :
    deref.match_1 (fun _ => PM H β) p
      (fun l => setNode l (fun x => { x with aunt := none }) >>= fun r => jp r) (fun _ => jp ())
      ⟨hp, nm, rs, nl, ndl, f⟩ = jp () ⟨modOpt hp p (fun x => { x with aunt := none }), nm, rs, nl, ndl, f⟩ := by
  cases p <;> rfl

/-- the aunt of `i` is asked whether it still holds `i`; when it does not, nothing is written -/
theorem delNode_aunt {β} {i : Nat} {n : PolNode H} {s : Pollard H} (jp : Unit → PM H β)
    (f1 f2 : PolNode H → PolNode H)
    (haunt : ∀ a, n.aunt = some a → ∃ an, s.heap[a]? = some an ∧ ¬ isKid an i) :
    deref.match_1 (fun _ => PM H β) n.aunt
      (fun a => node a >>= fun an =>
        if an.rNiece = some i then setNode a f1 >>= fun r => jp r
        else if an.lNiece = some i then setNode a f2 >>= fun r => jp r
        else jp ())
      (fun _ => jp ()) s = jp () s := by
  cases hA : n.aunt with
  | none => rfl
  | some a =>
    obtain ⟨an, e1, e2⟩ := haunt a hA
    show (node a >>= _) s = _
    rw [bind_ok (node_ok e1), if_neg (fun h => e2 (Or.inr h)), if_neg (fun h => e2 (Or.inl h))]

theorem delNode_run (hp : Heap H) (nm : List (H × Nat)) (rs : List Nat) (nl ndl : U64) (f : Bool)
    (i : Nat) (n : PolNode H) (hi : hp[i]? = some n)
    (haunt : ∀ a, n.aunt = some a → ∃ an, hp[a]? = some an ∧ ¬ isKid an i)
    (hself : ¬ isKid n i) :
    delNode (some i) ⟨hp, nm, rs, nl, ndl, f⟩ = (.ok (), ⟨dnHeap hp i n, nm, rs, nl, ndl, f⟩) := by
  have h1 := modify_at (fun x => { x with aunt := none }) hi
  have h2 := modify_at (fun x => { x with lNiece := none })
    ((getElem?_modOpt_ne (g := fun x => { x with aunt := none }) (fun h => hself (Or.inl h))).trans h1)
  rw [dnHeap_eq]
  unfold delNode
  simp -zeta -zetaHave only []
  rw [bind_ok (node_run hi), delNode_aunt _ _ _ haunt, bind_ok setNode_run, bind_ok (node_run h1),
    clrAunt_step, bind_ok setNode_run, bind_ok (node_run h2), clrAunt_step]
  rfl

theorem delNode_off {hp : Heap H} {i : Nat} {n : PolNode H} {K : List Nat} (hi : hp[i]? = some n)
    (haunt : ∀ a, n.aunt = some a → ∃ an, hp[a]? = some an ∧ ¬ isKid an i) (hK : ∀ j, isKid n j → j ∈ K)
    (hiK : i ∉ K) :
    ∃ hp', (∀ (nm : List (H × Nat)) (rs : List Nat) (nl ndl : U64) (f : Bool),
        delNode (some i) ⟨hp, nm, rs, nl, ndl, f⟩ = (.ok (), ⟨hp', nm, rs, nl, ndl, f⟩)) ∧
      hp'.size = hp.size ∧ Off (i :: K) hp hp' :=
  ⟨_, fun nm rs nl ndl f => delNode_run hp nm rs nl ndl f i n hi haunt (fun k => hiK (hK i k)),
    size_dnHeap .., fun j hj =>
      getElem?_dnHeap_frame hp i n j (fun e => hj (by simp [e])) (fun k => hj (by simp [hK j k]))⟩

theorem getElem?_dnHeap_self (hp : Heap H) (i : Nat) (n : PolNode H) (hi : hp[i]? = some n)
    (hself : ¬ isKid n i) :
    (dnHeap hp i n)[i]? = some { n with aunt := none, lNiece := none, rNiece := none } := by
  rw [dnHeap_eq]
  exact modify_at _ ((getElem?_modOpt_ne (fun h => hself (Or.inr h))).trans
    (modify_at _ ((getElem?_modOpt_ne (fun h => hself (Or.inl h))).trans (modify_at _ hi))))

end UtreexoVerif.Proofs.PollardHeap
