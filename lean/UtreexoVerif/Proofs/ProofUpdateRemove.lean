/-
  `updateProofRemove` is canonical (property C07, level 3): fed the canonical proof of the cached
  leaves `C` in `F` and the block's deletion data (`newDelSpec F D tgD`), it returns the canonical
  proof of the remaining cached leaves in `F.delLeaves D` (targets ascending by position).
-/
import UtreexoVerif.Proofs.ProofUpdateHelpers
import UtreexoVerif.Proofs.LeafPositions
import UtreexoVerif.Props.C16c
import UtreexoVerif.Proofs.ProofUpdateGnp
import UtreexoVerif.Proofs.ProofUpdateDeTwin
import UtreexoVerif.Proofs.MoveDT
import UtreexoVerif.Props.C11del
import UtreexoVerif.Proofs.CanonTotal
import UtreexoVerif.Proofs.StumpAdd
import UtreexoVerif.Proofs.Labelled

namespace UtreexoVerif.Proofs.ProofUpdateRemove
open Spec Hasher Model
open UtreexoVerif.Proofs.SpecSubs
open UtreexoVerif.Proofs.SpecPlan UtreexoVerif.Proofs.CalcComplete
open UtreexoVerif.Proofs.CalcGeo UtreexoVerif.Proofs.Movement
open UtreexoVerif.Proofs.Sorted UtreexoVerif.Proofs.MovePP UtreexoVerif.Proofs.ProofUpdateHelpers
open UtreexoVerif.Proofs.ProofUpdateLists UtreexoVerif.Proofs.ProofUpdateGnp
open UtreexoVerif.Proofs.MoveFold UtreexoVerif.Proofs.MoveDT
open UtreexoVerif.Props.C11del (hashAfter hashAfter_eq_valAt)

section
variable {H : Type} [DecidableEq H] [Hasher H]

def posD (F : Forest H) (x : H) : Pos := (F.posOf x).getD (0, 0)

def enc2 (rows : Nat) (z : Pos × H) : U64 × H := (E rows z.1, z.2)

def sortedPairs (F : Forest H) (C : List H) : List (Pos × H) :=
  sortBy (fun z => E F.rows z.1) (C.map (fun x => (posD F x, x)))

theorem canon_targets_eq {F : Forest H} {C : List H} {tgC : List Pos} {hsC : List H}
    (hc : F.canon C = some (tgC, hsC)) : tgC = C.map (posD F) := (canon_spec hc).1

theorem canon_nodup_of_sorted {F : Forest H} {C : List H} {tgC : List Pos} {hsC : List H}
    (hc : F.canon C = some (tgC, hsC)) (hs : tgC.Pairwise Sorted.PLt) : C.Nodup := by
  rw [canon_targets_eq hc, List.pairwise_map] at hs
  exact hs.imp (fun {a b} hab e => by rw [e] at hab; exact PLt.irrefl _ hab)

theorem posD_sub {F : Forest H} {C : List H} {tgC : List Pos} {hsC : List H}
    (hc : F.canon C = some (tgC, hsC)) {x : H} (hx : x ∈ C) :
    ∃ h, SubAtT F h (posD F x) (.leaf x) := canon_target_leaf hc hx

theorem map_posD (F : Forest H) (D : List H) :
    D.map (posD F) = D.map (fun l => (F.posOf l).getD (0, 0)) := rfl

-- below `posD F x` is only ever compared with itself; when the two sides differ by a pair
-- projection the comparison would otherwise unfold it down to `posOf`, which is slow
attribute [local irreducible] posD

theorem posD_inj {F : Forest H} {C : List H} {tgC : List Pos} {hsC : List H}
    (hc : F.canon C = some (tgC, hsC)) {x y : H} (hx : x ∈ C) (hy : y ∈ C)
    (e : posD F x = posD F y) : x = y := by
  obtain ⟨h1, s1⟩ := posD_sub hc hx
  obtain ⟨h2, s2⟩ := posD_sub hc hy
  rw [e] at s1
  have := (s1.unique s2).2
  injection this

theorem sortedPairs_perm (F : Forest H) (C : List H) :
    (sortedPairs F C).Perm (C.map (fun x => (posD F x, x))) :=
  SortBy.sortBy_perm _ _

theorem sortedPairs_snd_perm (F : Forest H) (C : List H) : ((sortedPairs F C).map (·.2)).Perm C := by
  have h := (sortedPairs_perm F C).map (·.2)
  rw [List.map_map] at h
  have e : ((fun z : Pos × H => z.2) ∘ fun x => (posD F x, x)) = id := rfl
  rwa [e, List.map_id] at h

theorem proofPositions_model {F : Forest H} (hn : F.numLeaves ≤ 2 ^ 63) {Tg : List Pos}
    (tok : TargetsOK F Tg) (hs : Tg.Pairwise Sorted.PLt) :
    (ProofPositions (Tg.map (E F.rows)) (BitVec.ofNat 64 F.numLeaves) (H8 F.rows)).1 =
      (F.proofPositions Tg).map (E F.rows) := by
  have h := Props.C16.proofPositions_spec F (H := F.rows) (h := F.rows) (BitVec.ofNat 64 F.numLeaves)
    (EncPos.toNat_N hn) (treeRows_ofNat hn) (forestRows_small hn) (Nat.le_refl _) Tg
    (LeafPositions.leaf_PPHyp_of_ssorted tok (hs.imp fun {a b} h => (posLt_iff a b).2 h))
  have e : (encP F.rows : Pos → U64) = E F.rows := rfl
  rw [e] at h
  rw [h]

def ppPairs (F : Forest H) (tg : List Pos) : List (Pos × H) :=
  (F.proofPositions tg).map (fun q => (q, (F.nodeAt q).getD zero))

theorem pp_valid {F : Forest H} {tg : List Pos} (tok : TargetsOK F tg) {q : Pos}
    (hq : q ∈ F.proofPositions tg) : ValidH F.rows q := by
  obtain ⟨h, t, s⟩ := pp_node tok hq
  exact s.inF.valid

theorem pp_keys {F : Forest H} (hn : F.numLeaves ≤ 2 ^ 63) {tg : List Pos} (tok : TargetsOK F tg) :
    ((F.proofPositions tg).map (E F.rows)).Pairwise (· < ·) := by
  rw [List.pairwise_map]
  apply List.Pairwise.imp_of_mem _ (proofPositions_sorted F tg)
  intro a b ha hb hab
  exact (encP_lt_iff_or (forestRows_small hn) (pp_valid tok ha) (pp_valid tok hb)).2 hab

theorem ppPairs_keys {F : Forest H} (hn : F.numLeaves ≤ 2 ^ 63) {tg : List Pos}
    (tok : TargetsOK F tg) :
    ((ppPairs F tg).map (enc2 F.rows)).Pairwise (fun a b => a.1 < b.1) := by
  have := pp_keys hn tok
  unfold ppPairs
  rw [List.pairwise_map] at this
  rw [List.pairwise_map, List.pairwise_map]
  exact this

theorem mem_sortedPairs {F : Forest H} {C : List H} {x : H} (hx : x ∈ C) :
    (posD F x, x) ∈ sortedPairs F C :=
  (sortedPairs_perm _ _).mem_iff.2 (List.mem_map.2 ⟨x, hx, rfl⟩)

section cached
variable {F : Forest H} (hn : F.numLeaves ≤ 2 ^ 63) {C : List H} {tgC : List Pos} {hsC : List H}
  (hc : F.canon C = some (tgC, hsC)) (hC : C.Nodup)

include hc

theorem sortedPairs_mem {z : Pos × H} (hz : z ∈ sortedPairs F C) :
    z.2 ∈ C ∧ z.1 = posD F z.2 ∧ ∃ h, SubAtT F h z.1 (.leaf z.2) := by
  have := (sortedPairs_perm _ _).mem_iff.1 hz
  obtain ⟨x, hx, rfl⟩ := List.mem_map.1 this
  dsimp only
  exact ⟨hx, rfl, posD_sub hc hx⟩

theorem toHashAndPos_cached :
    toHashAndPos (tgC.map (E F.rows)) C = .ok ((sortedPairs F C).map (enc2 F.rows)) := by
  have e : (tgC.map (E F.rows)).zip C = (C.map (fun x => (posD F x, x))).map (enc2 F.rows) := by
    have := List.zip_map' (f := E F.rows ∘ posD F) (g := id) (l := C)
    rw [List.map_id] at this
    rw [canon_targets_eq hc, List.map_map, this, List.map_map]
    rfl
  rw [CalcSound.toHashAndPos_ok (by rw [List.length_map, canon_targets_length hc]), e]
  unfold sortHP sortedPairs
  rw [SortBy.sortBy_map_comp]
  rfl

theorem sortedPairs_targetsOK : TargetsOK F ((sortedPairs F C).map (·.1)) := by
  intro t ht
  obtain ⟨z, hz, rfl⟩ := List.mem_map.1 ht
  obtain ⟨_, _, h, s⟩ := sortedPairs_mem hc hz
  exact ⟨h, z.2, s⟩

theorem sortedPairs_fst_mem (t : Pos) : t ∈ (sortedPairs F C).map (·.1) ↔ t ∈ tgC := by
  rw [canon_targets_eq hc]
  constructor
  · intro ht
    obtain ⟨z, hz, rfl⟩ := List.mem_map.1 ht
    obtain ⟨h1, h2, _⟩ := sortedPairs_mem hc hz
    exact List.mem_map.2 ⟨z.2, h1, h2.symm⟩
  · intro ht
    obtain ⟨x, hx, rfl⟩ := List.mem_map.1 ht
    exact List.mem_map.2 ⟨_, mem_sortedPairs hx, rfl⟩

theorem sortU64_cached :
    sortU64 (tgC.map (E F.rows)) = ((sortedPairs F C).map (·.1)).map (E F.rows) := by
  have h1 := toHashAndPos_cached hc
  rw [CalcSound.toHashAndPos_ok (by rw [List.length_map, canon_targets_length hc])] at h1
  injection h1 with h1
  have h2 := toHashAndPos_positions (tgC.map (E F.rows)) C
    (by rw [List.length_map, canon_targets_length hc])
  rw [h1] at h2
  rw [← h2]
  simp [HP.positions, enc2]

include hn

theorem canon_of_mem {l : List (Pos × H)} (hl : ∀ z ∈ l, z ∈ sortedPairs F C) : ∃ hsK,
    F.canon (l.map (·.2)) = some (l.map (·.1), hsK) := by
  have hlive : ∀ x ∈ l.map (·.2), x ∈ F.liveLeaves := by
    intro x hx
    obtain ⟨z, hz, rfl⟩ := List.mem_map.1 hx
    obtain ⟨_, _, _, s⟩ := sortedPairs_mem hc (hl z hz)
    exact s.leaves_live z.2 (by simp [CTree.leaves])
  obtain ⟨tgK, hsK, hcK⟩ := CanonTotal.canon_total hn hlive
  have htgK : tgK = l.map (·.1) := by
    rw [canon_targets_eq hcK, List.map_map]
    apply List.map_congr_left
    intro z hz
    rw [Function.comp_apply, ← (sortedPairs_mem hc (hl z hz)).2.1]
  exact ⟨hsK, by rw [hcK, htgK]⟩

theorem canon_sortedPairs : ∃ hsK,
    F.canon ((sortedPairs F C).map (·.2)) = some ((sortedPairs F C).map (·.1), hsK) :=
  canon_of_mem hn hc fun _ h => h

theorem oldProofs_eq :
    toHashAndPos ((F.proofPositions tgC).map (E F.rows)) hsC =
      .ok ((ppPairs F tgC).map (enc2 F.rows)) := by
  have hh := (canon_spec hc).2.2.1
  have e : ((F.proofPositions tgC).map (E F.rows)).zip hsC = (ppPairs F tgC).map (enc2 F.rows) := by
    unfold ppPairs
    rw [hh, List.zip_map', List.map_map]
    rfl
  rw [CalcSound.toHashAndPos_ok (by rw [hh, List.length_map, List.length_map]), e,
    SortBy.sortHP_eq_self_of_strict (ppPairs_keys hn (canon_targetsOK hc))]

include hC

theorem sortedPairs_keys : (sortedPairs F C).Pairwise (fun a b => E F.rows a.1 < E F.rows b.1) := by
  apply SortBy.sortBy_strict
  rw [List.map_map]
  unfold List.Nodup
  rw [List.pairwise_map]
  apply List.Pairwise.imp_of_mem _ hC
  intro a b ha hb hab e
  simp only [Function.comp] at e
  obtain ⟨h1, s1⟩ := posD_sub hc ha
  obtain ⟨h2, s2⟩ := posD_sub hc hb
  exact hab (posD_inj hc ha hb (encP_inj (forestRows_small hn) s1.inF.valid s2.inF.valid e))

theorem sortHP_eq_sortedPairs {l : HP H}
    (hp : l.Perm (C.map (fun x => (E F.rows (posD F x), x)))) :
    sortHP l = (sortedPairs F C).map (enc2 F.rows) := by
  apply SortBy.sortBy_eq_of_perm_sorted
  · refine hp.trans (List.Perm.symm ?_)
    refine ((sortedPairs_perm _ _).map (enc2 F.rows)).trans (List.Perm.of_eq ?_)
    rw [List.map_map]; rfl
  · rw [List.pairwise_map]; exact sortedPairs_keys hn hc hC

theorem sortedPairs_sorted : ((sortedPairs F C).map (·.1)).Pairwise Sorted.PLt := by
  rw [List.pairwise_map]
  apply List.Pairwise.imp_of_mem _ (sortedPairs_keys hn hc hC)
  intro a b ha hb hab
  obtain ⟨_, _, _, sa⟩ := sortedPairs_mem hc ha
  obtain ⟨_, _, _, sb⟩ := sortedPairs_mem hc hb
  exact (encP_lt_iff_or (forestRows_small hn) sa.inF.valid sb.inF.valid).1 hab

theorem proofPos_cached :
    (ProofPositions (sortU64 (tgC.map (E F.rows))) (BitVec.ofNat 64 F.numLeaves) (H8 F.rows)).1 =
      (F.proofPositions tgC).map (E F.rows) := by
  rw [sortU64_cached hc, proofPositions_model hn (sortedPairs_targetsOK hc)
    (sortedPairs_sorted hn hc hC), proofPositions_congr F (sortedPairs_fst_mem hc)]

end cached

def keptPairs (F : Forest H) (C D : List H) : List (Pos × H) :=
  (sortedPairs F C).filter (fun z => decide (z.2 ∉ D))

theorem keptPairs_mem {F : Forest H} {C D : List H} {z : Pos × H} (hz : z ∈ keptPairs F C D) :
    z ∈ sortedPairs F C ∧ z.2 ∉ D := by
  unfold keptPairs at hz
  simpa using hz

theorem kept_all {F : Forest H} {C D : List H} {x : H} (hx : x ∈ C) (hxD : x ∉ D) :
    x ∈ (keptPairs F C D).map (·.2) := by
  refine List.mem_map.2 ⟨(posD F x, x), ?_, rfl⟩
  unfold keptPairs
  rw [List.mem_filter]
  exact ⟨mem_sortedPairs hx, by simpa using hxD⟩

theorem kept_perm {F : Forest H} {C D : List H} :
    ((keptPairs F C D).map (·.2)).Perm (C.filter (fun x => decide (x ∉ D))) := by
  unfold keptPairs
  have h1 := ((sortedPairs_perm F C).filter (fun z => decide (z.2 ∉ D))).map (·.2)
  refine h1.trans ?_
  rw [List.filter_map, List.map_map]
  have : ((fun z : Pos × H => z.2) ∘ fun x => (posD F x, x)) = id := rfl
  rw [this, List.map_id]
  exact List.Perm.refl _

section block
variable {F : Forest H} (hn : F.numLeaves ≤ 2 ^ 63) {C D : List H} {tgC tgD : List Pos}
  {hsC hsD : List H}
  (hc : F.canon C = some (tgC, hsC)) (hC : C.Nodup) (hcD : F.canon D = some (tgD, hsD))

include hc

theorem kept_live {x : H} (hx : x ∈ (keptPairs F C D).map (·.2)) : x ∈ F.liveLeaves := by
  obtain ⟨z, hz, rfl⟩ := List.mem_map.1 hx
  obtain ⟨_, _, h, s⟩ := sortedPairs_mem hc (keptPairs_mem hz).1
  exact s.leaves_live _ (by simp [CTree.leaves])

theorem kept_sub {x : H} (hx : x ∈ (keptPairs F C D).map (·.2)) : x ∈ C ∧ x ∉ D := by
  obtain ⟨z, hz, rfl⟩ := List.mem_map.1 hx
  have := keptPairs_mem hz
  exact ⟨(sortedPairs_mem hc this.1).1, this.2⟩

include hn

theorem kept_canon : ∃ hsK, F.canon ((keptPairs F C D).map (·.2)) =
    some ((keptPairs F C D).map (·.1), hsK) :=
  canon_of_mem hn hc fun _ hz => (keptPairs_mem hz).1

section
include hC

theorem keptPairs_sorted : ((keptPairs F C D).map (·.1)).Pairwise Sorted.PLt := by
  apply List.Pairwise.sublist _ (sortedPairs_sorted hn hc hC)
  exact List.Sublist.map _ List.filter_sublist

end

include hcD

theorem mem_blockTargets_iff {z : Pos × H} (hz : z ∈ sortedPairs F C) :
    E F.rows z.1 ∈ sortU64 (tgD.map (E F.rows)) ↔ z.2 ∈ D := by
  obtain ⟨hzC, hz1, h, sz⟩ := sortedPairs_mem hc hz
  rw [SortBy.mem_sortU64, List.mem_map]
  constructor
  · rintro ⟨t, ht, e⟩
    rw [canon_targets_eq hcD] at ht
    obtain ⟨d, hd, rfl⟩ := List.mem_map.1 ht
    obtain ⟨h', sd⟩ := posD_sub hcD hd
    have := encP_inj (forestRows_small hn) sd.inF.valid sz.inF.valid e
    rw [this] at sd
    have := (sd.unique sz).2
    injection this with this
    rw [← this]
    exact hd
  · intro hd
    refine ⟨posD F z.2, ?_, by rw [hz1]⟩
    rw [canon_targets_eq hcD]
    exact List.mem_map.2 ⟨z.2, hd, rfl⟩

include hC

theorem subtract_cached :
    subtractHP ((sortedPairs F C).map (enc2 F.rows)) (sortU64 (tgD.map (E F.rows))) =
      (keptPairs F C D).map (enc2 F.rows) := by
  rw [subtractHP_eq_filter _ _ (by
      rw [List.pairwise_map]; exact sortedPairs_keys hn hc hC) (SortBy.sorted_sortU64 _),
    List.filter_map]
  unfold keptPairs
  apply congrArg (List.map (enc2 F.rows))
  apply List.filter_congr
  intro z hz
  have h := mem_blockTargets_iff hn hc hcD hz
  by_cases hd : z.2 ∈ D
  · simp [hd, enc2, h.2 hd]
  · have : ¬ E F.rows z.1 ∈ sortU64 (tgD.map (E F.rows)) := fun hh => hd (h.1 hh)
    simp [hd, enc2, this]

set_option linter.unusedSectionVars false in
theorem keptPairs_targetsOK : TargetsOK F ((keptPairs F C D).map (·.1)) := by
  intro t ht
  obtain ⟨z, hz, rfl⟩ := List.mem_map.1 ht
  obtain ⟨_, _, h, s⟩ := sortedPairs_mem hc (keptPairs_mem hz).1
  exact ⟨h, z.2, s⟩

end block

-- `hashAfter F D q` is only ever compared with itself below; unfolding it in such a comparison is slow
attribute [local irreducible] Props.C11del.hashAfter

/-- the kept old proof hashes, updated.  `keepM ++ missM` is the list (`M`) of proof entries, still at
their positions in `F`, that `getNewPositions` then moves -/
def keepM (F : Forest H) (D : List H) (tgC tgK : List Pos) : List (Pos × H) :=
  (F.proofPositions tgC).filterMap (fun q =>
    if q ∈ F.proofPositions tgK ∧ hashAfter F D q ≠ zero then some (q, hashAfter F D q) else none)

/-- the newly needed proof hashes -/
def missM (F : Forest H) (D : List H) (tgC tgD tgK : List Pos) : List (Pos × H) :=
  (F.proofPositions tgK).filterMap (fun q =>
    if q ∉ F.proofPositions tgC ∧ q ∉ tgD then some (q, hashAfter F D q) else none)

section updated
variable {F : Forest H} (hn : F.numLeaves ≤ 2 ^ 63) {D : List H} {tgD : List Pos} {hsD : List H}
  (hcD : F.canon D = some (tgD, hsD))
include hn hcD

theorem lookup_updated {q : Pos} (hq : ValidH F.rows q) :
    lookupHP (Props.C11del.newDelSpec F D tgD) (E F.rows q) =
      if q ∈ pathSet F tgD then some (hashAfter F D q) else none := by
  have hv : ∀ p ∈ pathSet F tgD, ValidH F.rows p := fun p hp => by
    obtain ⟨h, t, s⟩ := pathSet_sub (canon_targetsOK hcD) hp
    exact s.inF.valid
  rw [Props.C11del.newDelSpec_eq]
  by_cases hq' : q ∈ pathSet F tgD
  · rw [if_pos hq']
    rw [hashAfter_eq_valAt]
    exact Labelled.lookup_labelled (forestRows_small hn) (valAt (dhash D) F) _ hv q hq'
  · rw [if_neg hq']
    exact Labelled.lookup_labelled_none (forestRows_small hn) (valAt (dhash D) F) _ hv q hq hq'

end updated

/-- the setting of the two loops of `updateProofRemove`: the cached leaves `C`, the deleted
leaves `D` and the remaining cached leaves `K`, each with its canonical proof in `F` -/
structure RemCtx (F : Forest H) (C D K : List H) (tgC tgD tgK : List Pos) (hsC hsD hsK : List H) :
    Prop where
  hn : F.numLeaves ≤ 2 ^ 63
  hnz : ∀ a b : H, ph a b ≠ (zero : H)
  hlive : ∀ l ∈ F.liveLeaves, l ≠ (zero : H)
  hnd : F.liveLeaves.Nodup
  hcC : F.canon C = some (tgC, hsC)
  hcD : F.canon D = some (tgD, hsD)
  hcK : F.canon K = some (tgK, hsK)
  hKC : ∀ x ∈ K, x ∈ C
  hCK : ∀ x ∈ C, x ∉ D → x ∈ K

section loops
variable {F : Forest H} {C D K : List H} {tgC tgD tgK : List Pos} {hsC hsD hsK : List H}
  (c : RemCtx F C D K tgC tgD tgK hsC hsD hsK)
include c

theorem mem_map_E_iff {l : List Pos} (hl : ∀ p ∈ l, ValidH F.rows p) {q : Pos} (hq : ValidH F.rows q) :
    E F.rows q ∈ l.map (E F.rows) ↔ q ∈ l :=
  Labelled.mem_map_enc_iff (forestRows_small c.hn) l hl q hq

theorem uprKeep_eq :
    uprKeep ((ppPairs F tgC).map (enc2 F.rows))
      (subtractU64 (sortU64 (HP.positions ((ppPairs F tgC).map (enc2 F.rows))))
        ((F.proofPositions tgK).map (E F.rows)))
      (Props.C11del.newDelSpec F D tgD) [] = (keepM F D tgC tgK).map (enc2 F.rows) := by
  have tokC := canon_targetsOK c.hcC
  have tokK := canon_targetsOK c.hcK
  have hpos : HP.positions ((ppPairs F tgC).map (enc2 F.rows)) = (F.proofPositions tgC).map (E F.rows) := by
    simp [HP.positions, ppPairs, enc2]
  have hsortC := pp_keys c.hn tokC
  have hsortK := pp_keys c.hn tokK
  rw [hpos, SortBy.sortU64_eq_self (hsortC.imp (fun h => BitVec.le_of_lt h))]
  rw [uprKeep_spec _ _ _ _ (ppPairs_keys c.hn tokC)
    ((subtractU64_sorted _ _ hsortC).imp (fun h => BitVec.le_of_lt h))
    (Props.C11del.newDelSpec_sorted c.hn c.hcD), List.nil_append]
  unfold keepM ppPairs keepFn
  rw [List.filterMap_map, List.filterMap_map, List.map_filterMap]
  apply filterMap_congr'
  intro q hq
  obtain ⟨h, t, s⟩ := pp_node tokC hq
  have hv := s.inF.valid
  simp only [Function.comp, enc2]
  have hex : E F.rows q ∈ subtractU64 ((F.proofPositions tgC).map (E F.rows))
      ((F.proofPositions tgK).map (E F.rows)) ↔ q ∉ F.proofPositions tgK := by
    rw [ProofOps.mem_subtractU64_iff _ _ hsortC (hsortK.imp (fun h => BitVec.le_of_lt h)),
      mem_map_E_iff c (fun p hp => pp_valid tokK hp) hv]
    constructor
    · exact fun h => h.2
    · exact fun h => ⟨List.mem_map.2 ⟨q, hq, rfl⟩, h⟩
  simp only [hex]
  by_cases hK : q ∈ F.proofPositions tgK
  · simp only [hK, not_true_eq_false, if_false, true_and]
    rw [lookup_updated c.hn c.hcD hv]
    by_cases hp : q ∈ pathSet F tgD
    · rw [if_pos hp]
      by_cases hz : hashAfter F D q = zero
      · simp [hz]
      · simp [hz, enc2]
    · rw [if_neg hp]
      have h1 : hashAfter F D q = t.hash := by
        rw [hashAfter_eq_valAt, valAt_of s]
        exact dhash_off_path c.hcD c.hnd s hp
      have h2 : (F.nodeAt q).getD zero = t.hash := by rw [s.nodeAt]; rfl
      have h3 : t.hash ≠ zero := CTree.hash_ne_zero c.hnz t (fun l hl => c.hlive l (s.leaves_live l hl))
      simp [h1, h2, h3, enc2]
  · simp [hK]

theorem uprMissing_eq (acc : HP H) :
    uprMissing (subtractU64 (subtractU64 (sortU64 ((F.proofPositions tgK).map (E F.rows)))
        (HP.positions ((ppPairs F tgC).map (enc2 F.rows)))) (sortU64 (tgD.map (E F.rows))))
      (Props.C11del.newDelSpec F D tgD) acc = acc ++ (missM F D tgC tgD tgK).map (enc2 F.rows) := by
  have tokC := canon_targetsOK c.hcC
  have tokK := canon_targetsOK c.hcK
  have tokD := canon_targetsOK c.hcD
  have hpos : HP.positions ((ppPairs F tgC).map (enc2 F.rows)) = (F.proofPositions tgC).map (E F.rows) := by
    simp [HP.positions, ppPairs, enc2]
  have hsortC := pp_keys c.hn tokC
  have hsortK := pp_keys c.hn tokK
  have hle : ∀ {l : List U64}, l.Pairwise (· < ·) → l.Pairwise (· ≤ ·) :=
    fun h => h.imp (fun h => BitVec.le_of_lt h)
  rw [hpos, SortBy.sortU64_eq_self (hle hsortK)]
  have hs1 := subtractU64_sorted _ ((F.proofPositions tgC).map (E F.rows)) hsortK
  have hs2 := subtractU64_sorted _ (sortU64 (tgD.map (E F.rows))) hs1
  rw [uprMissing_spec _ _ _ hs2 (Props.C11del.newDelSpec_sorted c.hn c.hcD)]
  apply congrArg (acc ++ ·)
  rw [subtractU64_eq_filter _ _ hs1 (SortBy.sorted_sortU64 _),
    subtractU64_eq_filter _ _ hsortK (hle hsortC), List.filter_filter, List.filter_map,
    List.filterMap_map]
  unfold missM
  rw [List.map_filterMap, ← List.filterMap_eq_filter, List.filterMap_filterMap]
  apply filterMap_congr'
  intro q hq
  obtain ⟨h, t, s⟩ := pp_node tokK hq
  have hv := s.inF.valid
  have e1 : E F.rows q ∈ sortU64 (tgD.map (E F.rows)) ↔ q ∈ tgD := by
    rw [SortBy.mem_sortU64]
    exact mem_map_E_iff c (fun p hp => by
      obtain ⟨h', l, s'⟩ := tokD p hp
      exact s'.inF.valid) hv
  have e2 : E F.rows q ∈ (F.proofPositions tgC).map (E F.rows) ↔ q ∈ F.proofPositions tgC :=
    mem_map_E_iff c (fun p hp => pp_valid tokC hp) hv
  simp only [Function.comp, Option.guard, Bool.and_eq_true, decide_eq_true_eq, e1, e2]
  by_cases hc1 : q ∈ F.proofPositions tgC
  · simp [hc1]
  · by_cases hc2 : q ∈ tgD
    · simp [hc1, hc2]
    · -- a newly needed position lies on the path of a deleted cached leaf
      obtain ⟨h', t', s', l, hlC, hlK, hlt⟩ := missing_on_del_path c.hnd c.hcC c.hcK c.hKC hq hc1
      have hlD : l ∈ D := by
        apply Classical.byContradiction
        intro hnD
        exact hlK (c.hCK l hlC hnD)
      have hp : q ∈ pathSet F tgD := leaf_on_path c.hcD c.hnd s' hlt hlD
      simp [hc1, hc2, lookup_updated c.hn c.hcD hv, hp, enc2]

end loops

theorem dtOK_of_isDT {F : Forest H} {D : List H} {dtp : List Pos}
    (hdt : ∀ T, T ∈ dtp ↔ IsDT F D T) {h : Nat} {p : Pos} {t : CTree H} (s : SubAtT F h p t)
    (hal : delT D t ≠ none) : DtOK F.numLeaves h dtp := by
  intro T hT
  have hT' := (hdt T).1 hT
  obtain ⟨hT0, tT, sT, _, _⟩ := id hT'
  refine ⟨hT0, sT.1, sT.under, ?_⟩
  intro e
  subst e
  exact dt_not_root s hal hT' ((inTree_iff _ _ _).2 sT.under)

theorem gnp_apply {F : Forest H} (hn : F.numLeaves ≤ 2 ^ 63) {D : List H} {dtp : List Pos}
    (hs : dtp.Pairwise Sorted.PLt) (hdt : ∀ T, T ∈ dtp ↔ IsDT F D T) (L : List (Pos × H))
    (appendRoots : Bool)
    (hL : ∀ x ∈ L, x.2 ≠ zero → ∃ h t, SubAtT F h x.1 t ∧ delT D t ≠ none)
    (hroot : appendRoots = true ∨
      ∀ x ∈ L, x.2 ≠ zero → isRootPos F.numLeaves (movePos F D x.1) = false) :
    getNewPositions (dtp.map (E F.rows)) (L.map (enc2 F.rows)) (BitVec.ofNat 64 F.numLeaves)
        appendRoots =
      sortHP ((L.filter (fun x => decide (x.2 ≠ zero))).map
        (fun x => (E F.rows (movePos F D x.1), x.2))) := by
  have hmv : ∀ x ∈ L, x.2 ≠ zero →
      moveA F.numLeaves (treeRowOf F.numLeaves x.1) dtp x.1 = movePos F D x.1 := by
    intro x hx hz
    obtain ⟨h, t, s, hal⟩ := hL x hx hz
    rw [treeRowOf_of s]
    exact moveA_eq_movePos hs hdt s hal
  have := getNewPositions_enc hn dtp appendRoots L
    (by
      intro x hx hz
      obtain ⟨h, t, s, hal⟩ := hL x hx hz
      exact ⟨h, s.1, s.under, dtOK_of_isDT hdt s hal⟩)
    (by
      rcases hroot with h | h
      · exact Or.inl h
      · right
        intro x hx hz
        rw [hmv x hx hz]
        exact h x hx hz)
  refine this.trans (congrArg sortHP (List.map_congr_left ?_))
  intro x hx
  rw [List.mem_filter] at hx
  rw [hmv x hx.1 (by simpa using hx.2)]
  rfl

theorem filterMap_fst {α β : Type} (c : α → Prop) [DecidablePred c] (g : α → β) (l : List α) :
    (l.filterMap (fun q => if c q then some (q, g q) else none)).map Prod.fst = l.filter c := by
  induction l with
  | nil => rfl
  | cons a t ih =>
    rw [List.filterMap_cons, List.filter_cons]
    by_cases h : c a
    · simp [h, ih]
    · simp [h, ih]

structure RemFinal (F : Forest H) (C D K : List H) (tgC tgD tgK tgK' : List Pos)
    (hsC hsD hsK hsK' : List H) : Prop extends RemCtx F C D K tgC tgD tgK hsC hsD hsK where
  hc' : (F.delLeaves D).canon K = some (tgK', hsK')
  hKD : ∀ x ∈ K, x ∉ D

theorem M_filter_nodup {F : Forest H} {D : List H} {tgC tgD tgK : List Pos} :
    ((keepM F D tgC tgK ++ missM F D tgC tgD tgK).filter (fun x => decide (x.2 ≠ zero))).Nodup := by
  apply List.Nodup.sublist List.filter_sublist
  refine List.Pairwise.of_map (S := (· ≠ ·)) Prod.fst (fun _ _ hab e => hab (e ▸ rfl))
    (?_ : List.Nodup _)
  rw [List.map_append]
  unfold keepM missM
  rw [filterMap_fst (fun q => q ∈ F.proofPositions tgK ∧ hashAfter F D q ≠ zero),
    filterMap_fst (fun q => q ∉ F.proofPositions tgC ∧ q ∉ tgD)]
  rw [List.nodup_append]
  refine ⟨List.Nodup.sublist List.filter_sublist ((proofPositions_sorted F tgC).imp (fun h => PLt.ne h)),
    List.Nodup.sublist List.filter_sublist ((proofPositions_sorted F tgK).imp (fun h => PLt.ne h)), ?_⟩
  intro a ha b hb hab
  subst hab
  rw [List.mem_filter] at ha hb
  have := hb.2
  simp only [decide_eq_true_eq] at this
  exact this.1 ha.1

section final
variable {F : Forest H} {C D K : List H} {tgC tgD tgK tgK' : List Pos}
  {hsC hsD hsK hsK' : List H}
  (c : RemFinal F C D K tgC tgD tgK tgK' hsC hsD hsK hsK')

include c

theorem hashAfter_ne_zero_iff {h : Nat} {q : Pos} {t : CTree H} (s : SubAtT F h q t) :
    hashAfter F D q ≠ zero ↔ delT D t ≠ none :=
  not_congr ((Props.C11del.hashAfter_eq_zero_iff c.hnz c.hlive s).trans (delT_eq_none_iff D t).symm)

/-- the entries that survive the zero-hash filter of `getNewPositions` -/
theorem mem_M_filter (x : Pos × H) :
    x ∈ (keepM F D tgC tgK ++ missM F D tgC tgD tgK).filter (fun x => decide (x.2 ≠ zero)) ↔
      ∃ q ∈ F.proofPositions tgK, hashAfter F D q ≠ zero ∧ x = (q, hashAfter F D q) := by
  rw [List.mem_filter, List.mem_append]
  unfold keepM missM
  simp only [List.mem_filterMap, decide_eq_true_eq]
  constructor
  · rintro ⟨⟨q, _, hq⟩ | ⟨q, hqK, hq⟩, hz⟩
    · split at hq
      · rename_i hc
        injection hq with hq
        exact ⟨q, hc.1, hc.2, hq.symm⟩
      · cases hq
    · split at hq
      · injection hq with hq
        subst hq
        exact ⟨q, hqK, hz, rfl⟩
      · cases hq
  · rintro ⟨q, hqK, hz, rfl⟩
    refine ⟨?_, hz⟩
    by_cases hqC : q ∈ F.proofPositions tgC
    · exact Or.inl ⟨q, hqC, by rw [if_pos ⟨hqK, hz⟩]⟩
    · right
      refine ⟨q, hqK, ?_⟩
      rw [if_pos]
      refine ⟨hqC, ?_⟩
      -- a deleted target has hash zero afterwards
      intro hqD
      rw [canon_targets_eq c.hcD] at hqD
      obtain ⟨d, hd, rfl⟩ := List.mem_map.1 hqD
      obtain ⟨h, sd⟩ := posD_sub c.hcD hd
      apply hz
      rw [hashAfter_eq_valAt, valAt_of sd]
      simp [dhash, delT, hd, hashO]

theorem M_alive {x : Pos × H} (hx : x ∈ keepM F D tgC tgK ++ missM F D tgC tgD tgK)
    (hz : x.2 ≠ zero) :
    (∃ h t, SubAtT F h x.1 t ∧ delT D t ≠ none) ∧
      isRootPos F.numLeaves (movePos F D x.1) = false := by
  obtain ⟨q, hq, hz', rfl⟩ := (mem_M_filter c x).1 (List.mem_filter.2 ⟨hx, by simpa using hz⟩)
  obtain ⟨h, t, s⟩ := pp_node (canon_targetsOK c.hcK) hq
  have hal := (hashAfter_ne_zero_iff c s).1 hz'
  refine ⟨⟨h, t, s, hal⟩, ?_⟩
  have hq' : movePos F D q ∈ (F.delLeaves D).proofPositions tgK' := by
    rw [proofPositions_del c.hnd c.hcK c.hc' c.hKD]
    exact ⟨q, hq, ⟨h, t, s, hal⟩, rfl⟩
  have := pp_not_root (canon_targetsOK c.hc') hq'
  rwa [numLeaves_delLeaves] at this

theorem proofs_final :
    sortHP (((keepM F D tgC tgK ++ missM F D tgC tgD tgK).filter
        (fun x => decide (x.2 ≠ zero))).map (fun x => (E F.rows (movePos F D x.1), x.2))) =
      (ppPairs (F.delLeaves D) tgK').map (enc2 F.rows) := by
  have hn' := numLeaves_delLeaves F D
  have hrows : (F.delLeaves D).rows = F.rows := by unfold Forest.rows; rw [hn']
  have tokK := canon_targetsOK c.hcK
  have tok' := canon_targetsOK c.hc'
  have hsorted : ((ppPairs (F.delLeaves D) tgK').map (enc2 F.rows)).Pairwise
      (fun a b => a.1 < b.1) := by
    have := ppPairs_keys (F := F.delLeaves D) (by rw [hn']; exact c.hn) tok'
    rw [hrows] at this
    exact this
  apply SortBy.sortBy_eq_of_perm_sorted _ _ hsorted
  -- both lists are duplicate-free with the same members
  have hnd2 : ((ppPairs (F.delLeaves D) tgK').map (enc2 F.rows)).Nodup :=
    hsorted.imp (fun {a b} hab e => by rw [e] at hab; exact BitVec.lt_irrefl _ hab)
  have hmem1 : ∀ z, z ∈ ((keepM F D tgC tgK ++ missM F D tgC tgD tgK).filter
        (fun x => decide (x.2 ≠ zero))).map (fun x => (E F.rows (movePos F D x.1), x.2)) ↔
      ∃ q ∈ F.proofPositions tgK, hashAfter F D q ≠ zero ∧ z = (E F.rows (movePos F D q), hashAfter F D q) := by
    intro z
    simp only [List.mem_map, mem_M_filter c]
    constructor
    · rintro ⟨_, ⟨q, hq, hz, rfl⟩, rfl⟩
      exact ⟨q, hq, hz, rfl⟩
    · rintro ⟨q, hq, hz, rfl⟩
      exact ⟨_, ⟨q, hq, hz, rfl⟩, rfl⟩
  have hnd1 : (((keepM F D tgC tgK ++ missM F D tgC tgD tgK).filter
        (fun x => decide (x.2 ≠ zero))).map (fun x => (E F.rows (movePos F D x.1), x.2))).Nodup := by
    unfold List.Nodup
    rw [List.pairwise_map]
    apply List.Pairwise.imp_of_mem _ M_filter_nodup
    intro x y hx hy hxy e
    apply hxy
    obtain ⟨q1, hq1, hz1, rfl⟩ :=
      (mem_M_filter c x).1 hx
    obtain ⟨q2, hq2, hz2, rfl⟩ :=
      (mem_M_filter c y).1 hy
    obtain ⟨h1, t1, s1⟩ := pp_node tokK hq1
    obtain ⟨h2, t2, s2⟩ := pp_node tokK hq2
    have a1 := (hashAfter_ne_zero_iff c s1).1 hz1
    have a2 := (hashAfter_ne_zero_iff c s2).1 hz2
    have e1 := (Prod.mk.inj e).1
    -- the moved positions are nodes of the forest after the deletion
    cases hd1 : delT D t1 with
    | none => exact absurd hd1 a1
    | some t1' =>
      cases hd2 : delT D t2 with
      | none => exact absurd hd2 a2
      | some t2' =>
        have m1 := (move_sub s1 hd1).inF.valid
        have m2 := (move_sub s2 hd2).inF.valid
        rw [hn', show forestRows F.numLeaves = F.rows from rfl] at m1 m2
        have := encP_inj (forestRows_small c.hn) m1 m2 e1
        have := movePos_inj_pp c.hnd c.hcK hq1 hq2 s1 s2 a1 a2 this
        rw [this]
  have hval : ∀ {h : Nat} {q : Pos} {t : CTree H}, SubAtT F h q t → delT D t ≠ none →
      ((F.delLeaves D).nodeAt (movePos F D q)).getD zero = hashAfter F D q := by
    intro h q t s hal
    rw [move_nodeAt s hal]
    rw [hashAfter_eq_valAt, valAt_of s]
    rfl
  rw [List.perm_ext_iff_of_nodup hnd1 hnd2]
  intro z
  rw [hmem1]
  unfold ppPairs
  rw [List.map_map, List.mem_map]
  constructor
  · rintro ⟨q, hq, hz, rfl⟩
    obtain ⟨h, t, s⟩ := pp_node tokK hq
    have hal := (hashAfter_ne_zero_iff c s).1 hz
    refine ⟨movePos F D q, ?_, by simp only [Function.comp, enc2]; rw [hval s hal]⟩
    rw [proofPositions_del c.hnd c.hcK c.hc' c.hKD]
    exact ⟨q, hq, ⟨h, t, s, hal⟩, rfl⟩
  · rintro ⟨q', hq', rfl⟩
    rw [proofPositions_del c.hnd c.hcK c.hc' c.hKD] at hq'
    obtain ⟨q, hq, ⟨h, t, s, hal⟩, rfl⟩ := hq'
    exact ⟨q, hq, (hashAfter_ne_zero_iff c s).2 hal, by simp only [Function.comp, enc2]; rw [hval s hal]⟩

end final

theorem ok_bind' {α β : Type} (a : α) (f : α → Out β) : (Out.ok a >>= f) = f a :=
  StumpAdd.ok_bind a f

omit [DecidableEq H] [Hasher H] in
theorem positions_enc2 (rows : Nat) (l : List (Pos × H)) :
    HP.positions (l.map (enc2 rows)) = (l.map (·.1)).map (E rows) := by
  simp [HP.positions, enc2]

omit [DecidableEq H] [Hasher H] in
theorem hashes_enc2 (rows : Nat) (l : List (Pos × H)) :
    HP.hashes (l.map (enc2 rows)) = l.map (·.2) := by
  unfold HP.hashes
  rw [List.map_map]
  rfl

/-- what both halves of `Proof.Update` return at the end -/
theorem canon_result {G : Forest H} {K : List H} {tg : List Pos} {hs : List H}
    (hc : G.canon K = some (tg, hs)) (r : Nat) {P : List U64} {Q : List H}
    (hP : P = tg.map (E r)) (hQ : Q = K) :
    (pure (⟨P, HP.hashes ((ppPairs G tg).map (enc2 r))⟩, Q) : Out (CProof H × List H)) =
      .ok (⟨tg.map (E r), hs⟩, K) := by
  have e : HP.hashes ((ppPairs G tg).map (enc2 r)) = hs := by
    rw [hashes_enc2, (canon_spec hc).2.2.1]
    unfold ppPairs
    rw [List.map_map]
    rfl
  rw [hP, hQ, e]
  rfl

/-- **`updateProofRemove` is canonical**: from the canonical proof of the cached leaves `C` of
`F` (any request order) and the block's deletion data — the targets of the deleted leaves `D`
(any order) and `NewDel = newDelSpec F D tgD` — it produces the canonical proof, in the forest
`F.delLeaves D`, of the cached leaves that were not deleted, listed by ascending position.
`hnz`, `hlive`: the code takes the all-zero hash for "deleted" (`getNewPositions` skips the entries
that carry it), so no live node may hash to zero. -/
theorem updateProofRemove_canonical {F : Forest H} (hn : F.numLeaves ≤ 2 ^ 63)
    (hnz : ∀ a b : H, ph a b ≠ (zero : H)) (hlive : ∀ l ∈ F.liveLeaves, l ≠ (zero : H))
    (hnd : F.liveLeaves.Nodup) {C D : List H} {tgC tgD : List Pos} {hsC hsD : List H}
    (hC : C.Nodup) (hD : D.Nodup)
    (hcC : F.canon C = some (tgC, hsC)) (hcD : F.canon D = some (tgD, hsD)) :
    ∃ K' tgK' hsK', K'.Perm (C.filter (fun x => decide (x ∉ D))) ∧
      (F.delLeaves D).canon K' = some (tgK', hsK') ∧ tgK'.Pairwise Sorted.PLt ∧
      updateProofRemove ⟨tgC.map (E F.rows), hsC⟩ (tgD.map (E F.rows)) C
        (Props.C11del.newDelSpec F D tgD) (BitVec.ofNat 64 F.numLeaves) =
        .ok (⟨tgK'.map (E F.rows), hsK'⟩, K') := by
  have hn' := numLeaves_delLeaves F D
  have hrows : (F.delLeaves D).rows = F.rows := by unfold Forest.rows; rw [hn']
  obtain ⟨hsK, hcK⟩ := kept_canon hn hcC (D := D)
  have tokK := canon_targetsOK hcK
  have hKsub := fun x hx => kept_sub hcC (D := D) (x := x) hx
  have hDlive : ∀ x ∈ D, x ∈ F.liveLeaves := by
    intro x hx
    obtain ⟨h, s⟩ := posD_sub hcD hx
    exact s.leaves_live _ (by simp [CTree.leaves])
  obtain ⟨dtp, hdt1, hdt2, hdt3⟩ := ProofUpdateDeTwin.deTwin_spec hn hnd hD hDlive
  have hdt1' : deTwin (sortU64 (tgD.map (E F.rows))) (H8 F.rows) = dtp.map (E F.rows) := by
    rw [canon_targets_eq hcD, map_posD]; exact hdt1
  have hKPalive : ∀ x ∈ keptPairs F C D, x.2 ≠ zero →
      ∃ h t, SubAtT F h x.1 t ∧ delT D t ≠ none := by
    intro x hx _
    obtain ⟨h1, h2⟩ := keptPairs_mem hx
    obtain ⟨_, _, h, s⟩ := sortedPairs_mem hcC h1
    exact ⟨h, _, s, by simp [delT, h2]⟩
  have hKPnz : ∀ x ∈ keptPairs F C D, x.2 ≠ zero := by
    intro x hx
    exact hlive _ (kept_live hcC (List.mem_map.2 ⟨x, hx, rfl⟩))
  have hfilt : (keptPairs F C D).filter (fun x => decide (x.2 ≠ zero)) = keptPairs F C D := by
    rw [List.filter_eq_self]
    intro x hx
    simpa using hKPnz x hx
  have hnG : (F.delLeaves D).numLeaves ≤ 2 ^ 63 := by rw [hn']; exact hn
  -- the remaining leaves `K`, and `SP`: their positions after the deletion, ascending
  obtain ⟨K, hKdef⟩ : ∃ K, K = (keptPairs F C D).map (·.2) := ⟨_, rfl⟩
  rw [← hKdef] at hcK hKsub
  have hKperm : K.Perm (C.filter (fun x => decide (x ∉ D))) := hKdef ▸ kept_perm
  have hKnd : K.Nodup := hKperm.nodup_iff.2 (hC.sublist List.filter_sublist)
  have hKlive : ∀ x ∈ K, x ∈ F.liveLeaves := fun x hx => kept_live hcC (hKdef ▸ hx)
  obtain ⟨tgKG, hsKG, hcKG⟩ := CanonTotal.canon_total (F := F.delLeaves D) hnG
    (fun x hx => LiveLeaves.mem_liveLeaves_delLeaves.2 ⟨hKlive x hx, (hKsub x hx).2⟩)
  obtain ⟨SP, hSP⟩ : ∃ SP, SP = sortedPairs (F.delLeaves D) K := ⟨_, rfl⟩
  obtain ⟨hsK', hc'⟩ := canon_sortedPairs hnG hcKG
  have hSPperm : (SP.map (·.2)).Perm K := hSP ▸ sortedPairs_snd_perm _ _
  rw [← hSP] at hc'
  have hpos' : ∀ z ∈ keptPairs F C D, posD (F.delLeaves D) z.2 = movePos F D z.1 := by
    intro z hz
    obtain ⟨h1, h2⟩ := keptPairs_mem hz
    obtain ⟨hzC, hz1, _⟩ := sortedPairs_mem hcC h1
    obtain ⟨p, hp⟩ := (canon_spec hcC).2.1 z.2 hzC
    have : z.1 = p := by rw [hz1]; unfold posD; rw [hp]; rfl
    rw [this]
    unfold posD
    rw [move_posOf (by omega) hnd hp h2]
    rfl
  refine ⟨_, SP.map (·.1), hsK', hSPperm.trans hKperm, hc',
    hSP ▸ sortedPairs_sorted hnG hcKG hKnd, ?_⟩
  have cf : RemFinal F C D K tgC tgD ((keptPairs F C D).map (·.1)) tgKG hsC hsD hsK hsKG :=
    { hn := hn, hnz := hnz, hlive := hlive, hnd := hnd, hcC := hcC, hcD := hcD, hcK := hcK,
      hKC := fun x hx => (hKsub x hx).1,
      hCK := fun x hx hxD => hKdef ▸ kept_all hx hxD,
      hc' := hcKG, hKD := fun x hx => (hKsub x hx).2 }
  have hpp : ppPairs (F.delLeaves D) tgKG = ppPairs (F.delLeaves D) (SP.map (·.1)) := by
    unfold ppPairs
    rw [hSP, proofPositions_congr _ (sortedPairs_fst_mem hcKG)]
  unfold updateProofRemove
  simp only [treeRows_ofNat hn]
  rw [show H8 (forestRows F.numLeaves) = H8 F.rows from rfl]
  simp only [toHashAndPos_cached hcC, StumpAdd.ok_bind, proofPos_cached hn hcC hC,
    oldProofs_eq hn hcC, subtract_cached hn hcC hC hcD, positions_enc2,
    proofPositions_model hn tokK (keptPairs_sorted hn hcC hC)]
  rw [← positions_enc2 F.rows (ppPairs F tgC)]
  simp only [uprKeep_eq cf.toRemCtx,
    uprMissing_eq cf.toRemCtx, hdt1', ← List.map_append,
    gnp_apply hn hdt2 hdt3 _ true hKPalive (Or.inl rfl),
    gnp_apply hn hdt2 hdt3 _ false (fun x hx hz => (M_alive cf hx hz).1)
      (Or.inr (fun x hx hz => (M_alive cf hx hz).2)), hfilt,
    proofs_final cf, hpp]
  have e1 : sortHP ((keptPairs F C D).map (fun x => (E F.rows (movePos F D x.1), x.2))) =
      SP.map (enc2 F.rows) := by
    rw [hSP, ← hrows]
    apply sortHP_eq_sortedPairs hnG hcKG hKnd
    rw [hKdef, List.map_map]
    refine List.Perm.of_eq (List.map_congr_left fun z hz => ?_)
    simp only [Function.comp]
    rw [hpos' z hz]
  rw [e1]
  exact canon_result hc' F.rows (by rw [positions_enc2]) (by rw [hashes_enc2])

end
end UtreexoVerif.Proofs.ProofUpdateRemove
