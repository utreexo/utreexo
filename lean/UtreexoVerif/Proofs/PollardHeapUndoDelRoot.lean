/-
  Pointer forest, heap model: `undoSingleDel`, branch "the original parent of the deleted node
  IS a root" — the inverse of `surgeryRoot`.

  Names: `R` = the root node of the tree (it carries `b`, which moved into the root when `a`
  died), `nd` = the root of the detached tree `a` to re-insert, `P'` = the freshly allocated
  node.  The Go code swaps the CONTENTS of `R` and `P'` (`*sibling, *parent = *parent, *sibling`):
  afterwards `P'` carries `b` and `R` is the new parent of `nd` and `P'`.
-/
import UtreexoVerif.Proofs.PollardHeapUndoDel
set_option linter.unusedSectionVars false

namespace UtreexoVerif.Proofs.PollardHeap
open UtreexoVerif.Model UtreexoVerif.Model.PollardHeap UtreexoVerif.Spec Hasher

variable {H : Type} [DecidableEq H] [Hasher H]

/-- the heap after the allocation of the parent, the exchange of the contents of the root `R`
and the new node, and the two niece assignments of the root branch of `undoSingleDel` -/
def urHeap (hp : Heap H) (R nd : Nat) (pnode rn : PolNode H) (dl : Bool) : Heap H :=
  ((((hp.push pnode).modify R (fun _ => pnode)).modify hp.size (fun _ => rn)).modify R
    (fun x => { x with lNiece := if dl then some nd else some hp.size })).modify R
    (fun x => { x with rNiece := if dl then some hp.size else some nd })

theorem getElem?_urHeap {hp : Heap H} {R nd : Nat} {pnode rn : PolNode H} {dl : Bool}
    (hR : hp[R]? = some rn) (j : Nat) :
    (urHeap hp R nd pnode rn dl)[j]? =
      if j = R then some { pnode with lNiece := (if dl then some nd else some hp.size), rNiece := (if dl then some hp.size else some nd) }
      else if j = hp.size then some rn else hp[j]? := by
  have ltR := lt_of_get hR
  unfold urHeap
  simp only [Array.getElem?_modify, Array.getElem?_push]
  by_cases h1 : j = R
  · subst h1
    have : ¬ hp.size = j := Nat.ne_of_gt ltR
    have h2 : ¬ j = hp.size := Nat.ne_of_lt ltR
    simp [this, h2, hR]
  · by_cases h2 : j = hp.size
    · subst h2; simp [h1, Ne.symm h1]
    · simp [h1, h2, Ne.symm h1, Ne.symm h2]

@[simp] theorem size_urHeap (hp : Heap H) (R nd : Nat) (pnode rn : PolNode H) (dl : Bool) :
    (urHeap hp R nd pnode rn dl).size = hp.size + 1 := by
  unfold urHeap; simp

/-- what is known about `updateAunt(x)` for a niece `x` of the root `R` that carries a root-form tree:
on every heap that shows `x` redirected to `R` and agrees with `hp` below it, it succeeds, writes
below `x` only, and `x` carries `t` in root form.  `fuel` is the fuel of THIS inner call: `updateAunt'`
runs on the heap size and each level uses one, so `adopt_swap` asks for it at `h3.size` -/
def RootProc (hp : Heap H) (nm : List (H × Nat)) (rs : List Nat) (nl ndl : U64) (f : Bool)
    (fuel R x : Nat) (xn : PolNode H) (t : CTree H) (fx : List Nat) (lx : List (H × Nat)) : Prop :=
  ∀ hq : Heap H, hq[x]? = some { xn with aunt := some R } → (∀ i ∈ fx, hq[i]? = hp[i]?) →
    ∃ hq', updateAunt fuel (some x) ⟨hq, nm, rs, nl, ndl, f⟩ = (.ok (), ⟨hq', nm, rs, nl, ndl, f⟩) ∧
      hq'.size = hq.size ∧ Off fx hq hq' ∧ Sub hq' x x t fx lx

/-- two roots become the children of `R`: `updateAunt(R)` adopts the nieces `l`, `r`, each with its
own way down (`RootProc`), `swapNieces(l, r)` makes them siblings -/
theorem adopt_swap {hp h3 : Heap H} {R l r : Nat} {x3 ln rn : PolNode H} {tl tr : CTree H}
    {fl fr : List Nat} {ll lr : List (H × Nat)}
    (nm : List (H × Nat)) (rs : List Nat) (nl ndl : U64) (f : Bool)
    (h3R : h3[R]? = some x3) (kl : x3.lNiece = some l) (kr : x3.rNiece = some r)
    (x3a : x3.aunt = none) (x3d : x3.data = ph tl.hash tr.hash)
    (h3l : h3[l]? = some ln) (h3r : h3[r]? = some rn) (al : ln.aunt ≠ some R) (ar : rn.aunt ≠ some R)
    (agl : ∀ i ∈ fl, h3[i]? = hp[i]?) (agr : ∀ i ∈ fr, h3[i]? = hp[i]?)
    (nd : (R :: l :: r :: (fl ++ fr)).Nodup)
    (pl : RootProc hp nm rs nl ndl f h3.size R l ln tl fl ll)
    (pr : RootProc hp nm rs nl ndl f h3.size R r rn tr fr lr) :
    ∃ h4 h5 : Heap H,
      updateAunt' (some R) ⟨h3, nm, rs, nl, ndl, f⟩ = (.ok (), ⟨h4, nm, rs, nl, ndl, f⟩) ∧
      h4[R]? = some x3 ∧ Settled h4 l ∧ Settled h4 r ∧
      swapNieces (some l) (some r) ⟨h4, nm, rs, nl, ndl, f⟩ = (.ok (), ⟨h5, nm, rs, nl, ndl, f⟩) ∧
      (∃ x, h5[l]? = some x ∧ x.data = ln.data) ∧ (∃ x, h5[r]? = some x ∧ x.data = rn.data) ∧
      h5.size = h3.size ∧ Off (l :: r :: (fl ++ fr)) h3 h5 ∧
      RootRepr h5 R (.node tl tr) (l :: r :: (fl ++ fr)) (ll ++ lr) := by
  have ndx := nd
  simp only [List.nodup_cons, List.mem_cons, List.mem_append, not_or, List.nodup_append] at ndx
  obtain ⟨⟨nRl, nRr, nRfl, nRfr⟩, ⟨nlr, nlfl, nlfr⟩, ⟨nrfl, nrfr⟩, _, _, dlr⟩ := ndx
  -- `updateAunt` handles the left niece completely before it looks at the right one
  have oA : Off [l] h3 (setA h3 l (some R)) := Off.modify h3 l _
  have hAl : (setA h3 l (some R))[l]? = some { ln with aunt := some R } := by
    rw [getElem?_setA, if_pos rfl, h3l]; rfl
  obtain ⟨hB, e1, szB, oB, sl⟩ := pl _ hAl (fun i hi =>
    (oA i (by simp only [List.mem_cons, List.not_mem_nil, or_false]; rintro rfl; exact nlfl hi)).trans (agl i hi))
  have oAB := oA.trans oB
  have nin : ∀ {j}, j ≠ l → j ∉ fl → j ∉ [l] ++ fl := fun h1 h2 hm => by
    simp only [List.mem_append, List.mem_cons, List.not_mem_nil, or_false] at hm
    exact hm.elim h1 h2
  have hBR := (oAB R (nin nRl nRfl)).trans h3R
  have hBr := (oAB r (nin (Ne.symm nlr) nrfl)).trans h3r
  have oC : Off [r] hB (setA hB r (some R)) := Off.modify hB r _
  have hCr : (setA hB r (some R))[r]? = some { rn with aunt := some R } := by
    rw [getElem?_setA, if_pos rfl, hBr]; rfl
  obtain ⟨h4, e2, sz4, oD, sr⟩ := pr _ hCr (fun i hi =>
    ((oC i (by simp only [List.mem_cons, List.not_mem_nil, or_false]; rintro rfl; exact nrfr hi)).trans
      (oAB i (nin (fun e => nlfr (e ▸ hi)) (fun h => dlr i h i hi rfl)))).trans (agr i hi))
  have oCD := oC.trans oD
  have nin' : ∀ {j}, j ≠ r → j ∉ fr → j ∉ [r] ++ fr := fun h1 h2 hm => by
    simp only [List.mem_append, List.mem_cons, List.not_mem_nil, or_false] at hm
    exact hm.elim h1 h2
  have hBl := (oB l nlfl).trans hAl
  have h4R := (oCD R (nin' nRr nRfr)).trans hBR
  have h4l := (oCD l (nin' nlr nlfr)).trans hBl
  have h4r := (oD r nrfr).trans hCr
  have sl4 := sl.off oCD (nin' nlr nlfr) (nin' nlr nlfr)
    (fun i hi => nin' (fun e => nrfl (e ▸ hi)) (fun h => dlr i hi i h rfl))
  have o4 : Off (l :: r :: (fl ++ fr)) h3 h4 := (oAB.trans oCD).mono fun j hj => by
    simp only [List.mem_append, List.mem_cons, List.not_mem_nil, or_false] at hj ⊢
    rcases hj with (h | h) | h | h
    · exact Or.inl h
    · exact Or.inr (Or.inr (Or.inl h))
    · exact Or.inr (Or.inl h)
    · exact Or.inr (Or.inr (Or.inr h))
  obtain ⟨h5, x6, sz5, h5l, h5r, o5, sl5, sr5⟩ :=
    swapNieces_sub h4l h4r sl4 sr (Or.inl ⟨rfl, rfl⟩) (List.nodup_cons.1 nd).2 nm rs nl ndl f
  have h5R : h5[R]? = some x3 := (o5 R (List.nodup_cons.1 nd).1).trans h4R
  refine ⟨h4, h5, ?_, h4R, sl4.settled, sr.settled, x6, ⟨_, h5l, rfl⟩, ⟨_, h5r, rfl⟩,
    sz5.trans (by rw [sz4, size_setA, szB, size_setA]),
    (o4.trans o5).mono (fun j hj => (List.mem_append.1 hj).elim id id),
    ⟨_, h5R, x3a⟩, Sub.node h5R x3d h5R kl kr h5l h5r rfl rfl sl5 sr5⟩
  unfold updateAunt'
  simp only [bind_apply, heapSize_apply]
  exact updateAunt_step h3.size R l r x3 ln rn ⟨h3, nm, rs, nl, ndl, f⟩ hB h4 h3R kl kr h3l al e1 hBR hBr ar e2

/-- **the pointer surgery of `undoSingleDel`, branch "the original parent is a root"**, on `urHeap`
(allocation of `P' = hp.size`, exchange of the contents of `R` and `P'`, the two niece pointers of `R`;
`dl` = `isLeftNiece pos`): `h4` after `updateAunt(R)` (which adopts `nd` and `P'`, each with its own
`updateAunt` below: `adopt_swap`), `updateAunt(P')` changes nothing, `h5` after `swapNieces`. -/
theorem unsurgeryRoot {hp : Heap H} {R nd : Nat} {rn ndn : PolNode H} {a b : CTree H}
    {fa fb : List Nat} {la lb : List (H × Nat)} (dl : Bool) (pnode : PolNode H)
    (hpa : pnode.aunt = none)
    (hpd : pnode.data = if dl then ph a.hash b.hash else ph b.hash a.hash)
    (hR : hp[R]? = some rn) (hnd : hp[nd]? = some ndn) (aR : rn.aunt = none) (aN : ndn.aunt = none)
    (subB : Sub hp R R b fb lb) (subA : Sub hp nd nd a fa la)
    (ndp : (R :: nd :: (fa ++ fb)).Nodup)
    (nm : List (H × Nat)) (rs : List Nat) (nl ndl : U64) (full : Bool) :
    ∃ h4 h5 : Heap H,
      updateAunt' (some R) ⟨urHeap hp R nd pnode rn dl, nm, rs, nl, ndl, full⟩ =
        (.ok (), ⟨h4, nm, rs, nl, ndl, full⟩) ∧
      updateAunt' (some hp.size) ⟨h4, nm, rs, nl, ndl, full⟩ = (.ok (), ⟨h4, nm, rs, nl, ndl, full⟩) ∧
      h4[R]? = some { pnode with lNiece := (if dl then some nd else some hp.size), rNiece := (if dl then some hp.size else some nd) } ∧
      swapNieces (if dl then some nd else some hp.size) (if dl then some hp.size else some nd)
        ⟨h4, nm, rs, nl, ndl, full⟩ = (.ok (), ⟨h5, nm, rs, nl, ndl, full⟩) ∧
      (∃ x, h5[hp.size]? = some x ∧ x.data = rn.data) ∧
      h5.size = hp.size + 1 ∧
      (∀ j, j ∉ R :: nd :: (fa ++ fb) → j ≠ hp.size → h5[j]? = hp[j]?) ∧
      RootRepr h5 R (if dl then .node a b else .node b a)
        (if dl then nd :: hp.size :: (fa ++ fb) else hp.size :: nd :: (fb ++ fa))
        (if dl then la ++ relabelTop b hp.size lb else relabelTop b hp.size lb ++ la) := by
  have ndx := ndp
  simp only [List.nodup_cons, List.mem_cons, List.mem_append, not_or, List.nodup_append] at ndx
  obtain ⟨⟨nRn, nRfa, nRfb⟩, ⟨nnfa, nnfb⟩, ndfa, ndfb, dab⟩ := ndx
  have eR : R ≠ hp.size := Nat.ne_of_lt (lt_of_get hR)
  have en : nd ≠ hp.size := Nat.ne_of_lt (lt_of_get hnd)
  have efa : hp.size ∉ fa := fun h => Nat.lt_irrefl _ (subA.fp_lt _ h)
  have efb : hp.size ∉ fb := fun h => Nat.lt_irrefl _ (subB.fp_lt _ h)
  obtain ⟨k, hk⟩ : ∃ k, hp.size = k + 1 := ⟨hp.size - 1, (Nat.sub_add_cancel (Nat.succ_le_of_lt (Nat.lt_of_le_of_lt (Nat.zero_le R) (lt_of_get hR)))).symm⟩
  obtain ⟨x3, hx3⟩ : ∃ x3 : PolNode H, x3 = { pnode with lNiece := (if dl then some nd else some hp.size), rNiece := (if dl then some hp.size else some nd) } := ⟨_, rfl⟩
  obtain ⟨h3, h3_def⟩ : ∃ h3, h3 = urHeap hp R nd pnode rn dl := ⟨_, rfl⟩
  have e3 : ∀ j, h3[j]? = if j = R then some x3 else if j = hp.size then some rn else hp[j]? := by
    intro j; rw [h3_def, hx3]; exact getElem?_urHeap hR j
  have sz3 : h3.size = hp.size + 1 := by rw [h3_def]; simp
  have o3 : Off [R, hp.size] hp h3 := fun j hj => by
    simp only [List.mem_cons, List.not_mem_nil, or_false, not_or] at hj
    rw [e3, if_neg hj.1, if_neg hj.2]
  have h3R : h3[R]? = some x3 := by rw [e3, if_pos rfl]
  have h3P : h3[hp.size]? = some rn := by rw [e3, if_neg (Ne.symm eR), if_pos rfl]
  have h3n := (o3 nd (by simp [Ne.symm nRn, en])).trans hnd
  rw [← h3_def, ← hx3]
  -- `updateAunt(nd)`: the children of `a` point back to `nd`
  have procN : RootProc hp nm rs nl ndl full (hp.size + 1) R nd ndn a fa la := by
    intro hq hqn hqfa
    have sA := subA.frame_of hnd hqn rfl hnd hqn rfl rfl hqfa
    obtain ⟨nn, h1, h2, h3⟩ := sA.settled
    exact ⟨hq, updateAunt_settled hp.size nd nn ⟨hq, nm, rs, nl, ndl, full⟩ h1 h2 h3, rfl, Off.refl _ _, sA⟩
  -- `updateAunt(P')`: the children of `b` still point to `R`; they are redirected to `P'`
  have procP : RootProc hp nm rs nl ndl full (hp.size + 1) R hp.size rn b fb (relabelTop b hp.size lb) := by
    intro hq hqP hqfb
    obtain ⟨u, o, sP⟩ := adopt_sub subB ndfb hR hqP rfl rfl efb eR hR hqP rfl hqfb
    have e := updateAunt_kids k hp.size hq nm rs nl ndl full u
    rw [show k + 2 = hp.size + 1 by rw [hk]] at e
    exact ⟨_, e, size_setAuntKids .., o, sP⟩
  have agA : ∀ i ∈ fa, h3[i]? = hp[i]? := fun i hi =>
    o3 i (by simp only [List.mem_cons, List.not_mem_nil, or_false, not_or]
             exact ⟨fun e => nRfa (e ▸ hi), fun e => efa (e ▸ hi)⟩)
  have agB : ∀ i ∈ fb, h3[i]? = hp[i]? := fun i hi =>
    o3 i (by simp only [List.mem_cons, List.not_mem_nil, or_false, not_or]
             exact ⟨fun e => nRfb (e ▸ hi), fun e => efb (e ▸ hi)⟩)
  have aN' : ndn.aunt ≠ some R := by rw [aN]; exact nofun
  have aR' : rn.aunt ≠ some R := by rw [aR]; exact nofun
  have x3a : x3.aunt = none := by rw [hx3]; exact hpa
  rw [← sz3] at procN procP
  have hfr : ∀ {h5 : Heap H} {X : List Nat}, Off X h3 h5 → (∀ j, j ∈ X → j ∈ hp.size :: R :: nd :: (fa ++ fb)) →
      ∀ j, j ∉ R :: nd :: (fa ++ fb) → j ≠ hp.size → h5[j]? = hp[j]? := fun o hX j hj hjP =>
    (o j (fun h => (List.mem_cons.1 (hX j h)).elim hjP hj)).trans
      (o3 j (by simp only [List.mem_cons, List.not_mem_nil, or_false, not_or]
                exact ⟨fun e => hj (e ▸ List.mem_cons_self), hjP⟩))
  cases dl
  · obtain ⟨h4, h5, x4, h4R, setP, _, x6, h5P, _, sz5, o5, rr⟩ :=
      adopt_swap nm rs nl ndl full h3R (by rw [hx3]; rfl) (by rw [hx3]; rfl) x3a
        (by rw [hx3]; exact hpd) h3P h3n aR' aN' agB agA
        (by simp only [List.nodup_cons, List.mem_cons, List.mem_append, not_or, List.nodup_append]
            exact ⟨⟨eR, nRn, nRfb, nRfa⟩, ⟨Ne.symm en, efb, efa⟩, ⟨nnfb, nnfa⟩, ndfb, ndfa,
              fun x hx y hy e => dab y hy x hx e.symm⟩) procP procN
    exact ⟨h4, h5, x4, updateAunt'_noop hp.size h4 nm rs nl ndl full setP, h4R, x6, h5P,
      by rw [sz5, sz3], hfr o5 (fun j hj => by
        simp only [List.mem_cons, List.mem_append] at hj ⊢
        rcases hj with h | h | h | h <;> simp [h]), rr⟩
  · obtain ⟨h4, h5, x4, h4R, _, setP, x6, _, h5P, sz5, o5, rr⟩ :=
      adopt_swap nm rs nl ndl full h3R (by rw [hx3]; rfl) (by rw [hx3]; rfl) x3a
        (by rw [hx3]; exact hpd) h3n h3P aN' aR' agA agB
        (by simp only [List.nodup_cons, List.mem_cons, List.mem_append, not_or, List.nodup_append]
            exact ⟨⟨nRn, eR, nRfa, nRfb⟩, ⟨en, nnfa, nnfb⟩, ⟨efa, efb⟩, ndfa, ndfb, dab⟩) procN procP
    exact ⟨h4, h5, x4, updateAunt'_noop hp.size h4 nm rs nl ndl full setP, h4R, x6, h5P,
      by rw [sz5, sz3], hfr o5 (fun j hj => by
        simp only [List.mem_cons, List.mem_append] at hj ⊢
        rcases hj with h | h | h | h <;> simp [h]), rr⟩

/-- `undoSingleDel` where the original parent is a root, on one represented tree;
`Props.PollardHeapC.undoSingleDel_root_refines` is this statement and describes it -/
theorem undoSingleDel_tree_root {hp : Heap H} {nm : List (H × Nat)} {rs : List Nat} {nl ndl : U64}
    {full : Bool} {r : Nat} {b : CTree H} {fb : List Nat} {lb : List (H × Nat)}
    {nd : Nat} {a : CTree H} {fa : List Nat} {la : List (H × Nat)}
    (hR : RootRepr hp r b fb lb) (hRn : RootRepr hp nd a fa la)
    (ndp : (r :: fb ++ nd :: fa).Nodup) (pos : U64) (par : Ptr)
    (hget : getNode (Parent pos (TreeRows nl)) ⟨hp, nm, rs, nl, ndl, full⟩ =
      (.ok (some r, some r, par), ⟨hp, nm, rs, nl, ndl, full⟩)) :
    ∃ hp' : Heap H,
      undoSingleDel nd pos ⟨hp, nm, rs, nl, ndl, full⟩ =
        (.ok (), ⟨hp', mapMoveTo nm b.hash hp.size, rs, nl, ndl, full⟩) ∧
      RootRepr hp' r (if isLeftNiece pos then .node a b else .node b a)
        (if isLeftNiece pos then nd :: hp.size :: (fa ++ fb) else hp.size :: nd :: (fb ++ fa))
        (if isLeftNiece pos then la ++ relabelTop b hp.size lb else relabelTop b hp.size lb ++ la) ∧
      (∀ j, j ∉ r :: fb ++ nd :: fa → j ≠ hp.size → hp'[j]? = hp[j]?) ∧ hp'.size = hp.size + 1 := by
  obtain ⟨⟨rn, hr, aR⟩, subB⟩ := hR
  obtain ⟨⟨ndn, hnd, aN⟩, subA⟩ := hRn
  have ndq : (r :: nd :: (fa ++ fb)).Nodup := by
    refine (List.Perm.nodup_iff ?_).1 ndp
    perm_count
  have hdata_a : ndn.data = a.hash := by
    obtain ⟨z, ez, dz⟩ := subA.hash; rw [hnd] at ez; cases ez; exact dz
  have hdata_b : rn.data = b.hash := by
    obtain ⟨z, ez, dz⟩ := subB.hash; rw [hr] at ez; cases ez; exact dz
  obtain ⟨pHash, hpHash⟩ : ∃ pHash : H, pHash = if isLeftNiece pos then ph ndn.data rn.data
      else ph rn.data ndn.data := ⟨_, rfl⟩
  obtain ⟨h4, h5, x4, x5, h4R, x6, ⟨xP, h5P, dP⟩, sz5, fr5, hroot5⟩ :=
    unsurgeryRoot (a := a) (b := b) (isLeftNiece pos) ({ data := pHash, remember := full } : PolNode H)
      rfl (by rw [hpHash, hdata_a, hdata_b])
      hr hnd aR aN subB subA ndq nm rs nl ndl full
  refine ⟨h5, ?_, hroot5, ?_, sz5⟩
  · have hcalc : calculateParentHash pos (some nd) (some r) ⟨hp, nm, rs, nl, ndl, full⟩ =
        (.ok pHash, ⟨hp, nm, rs, nl, ndl, full⟩) := hpHash ▸ calculateParentHash_run hnd hr pos
    have hr0 : (hp.push ({ data := pHash, remember := full } : PolNode H))[r]? = some rn := by
      rw [Array.getElem?_push, if_neg (Nat.ne_of_lt (lt_of_get hr))]; exact hr
    have hP0 : (hp.push ({ data := pHash, remember := full } : PolNode H))[hp.size]? =
        some ({ data := pHash, remember := full } : PolNode H) := by
      rw [Array.getElem?_push, if_pos rfl]
    unfold undoSingleDel
    refine (bind_ok getNumLeaves_run).trans ?_
    refine (bind_ok hget).trans ?_
    dsimp only
    refine (bind_ok hcalc).trans ?_
    refine (bind_ok (getFull_apply _)).trans ?_
    refine (bind_ok (alloc_apply _ _)).trans ?_
    refine (bind_ok (deref_some r _)).trans ?_
    refine (bind_ok (node_run hr0)).trans ?_
    simp only [aR]
    refine (bind_ok (node_run hP0)).trans ?_
    refine (bind_ok setNode_run).trans ?_
    refine (bind_ok setNode_run).trans ?_
    refine (setNieces_ite (isLeftNiece pos) r (some nd) (some hp.size) _ _ nm rs nl ndl full).trans ?_
    unfold urHeap at x4
    refine (bind_ok x4).trans ?_
    refine (bind_ok x5).trans ?_
    refine (bind_ok (node_run h4R)).trans ?_
    refine (bind_ok x6).trans ?_
    refine (bind_ok (node_run h5P)).trans ?_
    refine (bind_ok nodeMapGet_run).trans ?_
    rw [dP, hdata_b]
    unfold mapMoveTo
    cases (mapGet nm b.hash).isSome
    · simp only [Bool.false_eq_true, if_false, pure_apply]
    · simp only [if_true, nodeMapSet_apply]
  · intro j hj hjP
    apply fr5 j _ hjP
    intro hm
    apply hj
    simp only [List.mem_cons, List.mem_append] at hm ⊢
    rcases hm with h | h | h | h <;> simp [h]

end UtreexoVerif.Proofs.PollardHeap
