/-
  The streaming two-queue loop of `calculateHashes` executes a *plan*: a strictly sorted list `P` of
  in-forest positions closed under `parent` (up to the roots) and generated by its targets, with a
  value `v` on `P` satisfying the `getNextHash` recurrence (sibling value from `v` if the sibling is
  in `P`, else the proof hash `w`).  `Plan.run`: the loop ends with the root candidates `v p` of the
  roots of `P` and `done ++ next` = the computed positions of `P` with their values; `Plan.calc`: the
  result of `calculateHashes`.  Invariant (`CInv`): a prefix `D` of `P = D ++ S` is processed and the
  queues are filters of the two halves — `toProve` the targets of `S`, `next` the non-targets of `S`
  with a processed child (`queued`), `done` the non-targets of `D` — so the least queued element is
  the head of `S`, and a step appends `parent m` to one filter (`next_proof_step`, `next_pair_step`).
  Two fields of `Plan` restrict it to honest inputs: `gen` (every position is a target or the parent of
  a position of `P`: nothing is in `P` for no reason) and `notT` (a parent is never a target: no target
  above another).  `G n v p` is the queue entry `(E p, v p)`; `needsProof` = a non-root whose sibling
  is not in `P`, i.e. whose sibling hash comes from the proof.
-/
import UtreexoVerif.Proofs.CalcGeo
import UtreexoVerif.Proofs.CalcRun

namespace UtreexoVerif.Proofs.CalcPlan
open Spec Model Hasher
open UtreexoVerif.Proofs.Sorted UtreexoVerif.Proofs.CalcGeo
open UtreexoVerif.Proofs.CalcSound

section
variable {H : Type} [DecidableEq H] [Hasher H]

def G (n : Nat) (v : Pos → H) (p : Pos) : U64 × H := (E (forestRows n) p, v p)

def needsProof (n : Nat) (P : List Pos) (p : Pos) : Bool :=
  !isRootPos n p && !decide (sib p ∈ P)

structure Plan (n : Nat) (P : List Pos) (isT : Pos → Bool) (v w : Pos → H) : Prop where
  sorted : P.Pairwise PLt
  inF : ∀ p ∈ P, InF n p
  up : ∀ p ∈ P, isRootPos n p = false → p.1 < forestRows n ∧ parent p ∈ P
  gen : ∀ p ∈ P, isT p = true ∨ ∃ c ∈ P, isRootPos n c = false ∧ parent c = p
  notT : ∀ c ∈ P, isRootPos n c = false → isT (parent c) = false
  vstep : ∀ c ∈ P, isRootPos n c = false →
    v (parent c) = getNextHash (E (forestRows n) c) (v c)
      (if sib c ∈ P then v (sib c) else w (sib c))
  wnz : ∀ c ∈ P, isRootPos n c = false → sib c ∉ P → w (sib c) ≠ zero

theorem Plan.revalue {n : Nat} {P : List Pos} {isT : Pos → Bool} {v0 w0 v w : Pos → H}
    (pl : Plan n P isT v0 w0)
    (hv : ∀ c ∈ P, isRootPos n c = false →
      v (parent c) = getNextHash (E (forestRows n) c) (v c)
        (if sib c ∈ P then v (sib c) else w (sib c)))
    (hw : ∀ c ∈ P, isRootPos n c = false → sib c ∉ P → w (sib c) ≠ zero) : Plan n P isT v w :=
  ⟨pl.sorted, pl.inF, pl.up, pl.gen, pl.notT, hv, hw⟩

theorem calcStep_root {N : U64} {tr : U8} {s : CalcSt H} {b : Bool} {pp : U64} {hh : H}
    {tp1 nx1 dn1 : HP H} {row' : U8}
    (hrow : ¬ s.row > tr) (hnl : nextLeast s.toProve s.next = some b)
    (hpop : popLeast b s.toProve s.next s.done = (pp, hh, tp1, nx1, dn1))
    (hcur : rowCursor N tr pp 257 s.row = .ok row')
    (hroot : isRootPositionOnRow pp N row' = true) :
    calcStep N tr s = .ok (.cont { s with
      toProve := tp1, next := nx1, done := dn1, row := row',
      roots := s.roots ++ [hh], rootRows := s.rootRows ++ [row'] }) := by
  rw [calcStep_eq]
  unfold calcStep'
  rw [if_neg hrow]
  simp only [hnl, hpop, hcur, Out.bind, hroot, if_true]

theorem calcStep_nonroot {N : U64} {tr : U8} {s : CalcSt H} {b : Bool} {pp : U64} {hh sh : H}
    {tp1 nx1 dn1 tp2 nx2 dn2 : HP H} {pr2 : List H} {row' : U8}
    (hrow : ¬ s.row > tr) (hnl : nextLeast s.toProve s.next = some b)
    (hpop : popLeast b s.toProve s.next s.done = (pp, hh, tp1, nx1, dn1))
    (hcur : rowCursor N tr pp 257 s.row = .ok row')
    (hroot : isRootPositionOnRow pp N row' = false)
    (hsel : sibSel (sibFrom pp tp1 nx1) tp1 nx1 dn1 s.proof = .ok (sh, tp2, nx2, dn2, pr2)) :
    calcStep N tr s = .ok (.cont { s with
      toProve := tp2, next := nx2 ++ [(Parent pp tr, getNextHash pp hh sh)],
      done := dn2, proof := pr2, row := row' }) := by
  rw [calcStep_eq]
  unfold calcStep'
  rw [if_neg hrow]
  simp only [hnl, hpop, hcur, Out.bind, hroot, hsel, Bool.false_eq_true, if_false]

omit [DecidableEq H] [Hasher H] in
theorem sibFrom_none {p : U64} {tp nx : HP H}
    (h : ∀ y ∈ tp ++ nx, (p != y.1 && rightSib p == y.1) = false) : sibFrom p tp nx = none := by
  unfold sibFrom
  split
  · split
    · rename_i y ys _
      rw [h y (by simp)]
      simp
    · rfl
  · split
    · rename_i y ys _
      rw [h y (by simp)]
      simp
    · rfl
  · rfl

section pop
variable {n : Nat} (hn : n ≤ 2 ^ 63) {isT : Pos → Bool} (v : Pos → H)
include hn

omit [DecidableEq H] [Hasher H] in
theorem pop_head {m : Pos} {S' : List Pos} (q : Pos → Bool) (hS : (m :: S').Pairwise PLt)
    (hval : ∀ p ∈ m :: S', ValidH (forestRows n) p) (hm : isT m = true ∨ q m = true) :
    (isT m = true ∧
      nextLeast (G n v m :: (S'.filter isT).map (G n v)) ((S'.filter q).map (G n v)) = some false) ∨
    (isT m = false ∧ q m = true ∧
      nextLeast ((S'.filter isT).map (G n v)) (G n v m :: (S'.filter q).map (G n v)) = some true) := by
  have htr := forestRows_small hn
  have hlt := head_lt hS
  cases hT : isT m with
  | true =>
    refine Or.inl ⟨rfl, ?_⟩
    cases hf : S'.filter q with
    | nil => rfl
    | cons b rest =>
      have hb : b ∈ S' := (List.mem_filter.1 (by rw [hf]; simp : b ∈ S'.filter q)).1
      have : E (forestRows n) m < E (forestRows n) b :=
        (encP_lt_iff_or htr (hval m (by simp)) (hval b (List.mem_cons_of_mem _ hb))).2 (hlt b hb)
      simp [nextLeast, G, this]
  | false =>
    refine Or.inr ⟨rfl, hm.resolve_left (by simp [hT]), ?_⟩
    cases hf : S'.filter isT with
    | nil => rfl
    | cons a tl =>
      have ha : a ∈ S' := (List.mem_filter.1 (by rw [hf]; simp : a ∈ S'.filter isT)).1
      have : ¬ E (forestRows n) a < E (forestRows n) m := by
        intro h
        have := (encP_lt_iff_or htr (hval a (List.mem_cons_of_mem _ ha)) (hval m (by simp))).1 h
        exact PLt.asymm this (hlt a ha)
      simp [nextLeast, G, this]

end pop

def queued (n : Nat) (isT : Pos → Bool) (D : List Pos) (p : Pos) : Bool :=
  !isT p && D.any (fun c => !isRootPos n c && parent c == p)

omit [DecidableEq H] [Hasher H] in
theorem queued_iff {n : Nat} {isT : Pos → Bool} {D : List Pos} {p : Pos} :
    queued n isT D p = true ↔ isT p = false ∧ ∃ c ∈ D, isRootPos n c = false ∧ parent c = p := by
  simp [queued, List.any_eq_true]

section closed
variable {n : Nat} {P : List Pos} {isT : Pos → Bool} {v w : Pos → H} {D S' : List Pos} {m : Pos}

theorem split_facts (pl : Plan n P isT v w) (hP : P = D ++ m :: S') :
    (m :: S').Pairwise PLt ∧ (∀ d ∈ D, PLt d m) ∧ ∀ x ∈ P, PLt m x → x ∈ S' := by
  have hs := pl.sorted
  rw [hP, List.pairwise_append] at hs
  refine ⟨hs.2.1, fun d hd => hs.2.2 d hd m (by simp), fun x hx hlt => ?_⟩
  rw [hP] at hx
  rcases List.mem_append.1 hx with h | h
  · exact (PLt.asymm hlt (hs.2.2 x h m (by simp))).elim
  · rcases List.mem_cons.1 h with e | h
    · exact (PLt.irrefl m (e ▸ hlt)).elim
    · exact h

theorem next_proof_step (pl : Plan n P isT v w) (hP : P = D ++ m :: S')
    (hnr : isRootPos n m = false) (hsib : sib m ∉ P) :
    S'.filter (queued n isT (D ++ [m])) = S'.filter (queued n isT D) ++ [parent m] := by
  obtain ⟨hS, hD, hup⟩ := split_facts pl hP
  have hmP : m ∈ P := by rw [hP]; simp
  have hpar : parent m ∈ S' := hup _ (pl.up m hmP hnr).2 (lt_parent m)
  have hS' : S'.Pairwise PLt := (List.pairwise_cons.1 hS).2
  have hlt : ∀ x ∈ S'.filter (queued n isT D), PLt x (parent m) := by
    intro x hx
    obtain ⟨_, c, hc, _, rfl⟩ := queued_iff.1 (List.mem_filter.1 hx).2
    refine parent_lt (hD c hc) fun e => hsib ?_
    have hcP : c ∈ P := by rw [hP]; exact List.mem_append_left _ hc
    rw [e, sib_sib]; exact hcP
  apply eq_of_psorted (hS'.sublist List.filter_sublist)
  · rw [List.pairwise_append]
    exact ⟨hS'.sublist List.filter_sublist, by simp, fun x hx y hy => by
      rw [List.mem_singleton] at hy; subst hy; exact hlt x hx⟩
  · intro x
    simp only [List.mem_filter, List.mem_append, List.mem_singleton, queued_iff]
    constructor
    · rintro ⟨hx, hT, c, hc, hcr, rfl⟩
      rcases hc with hc | hc
      · exact Or.inl ⟨hx, hT, c, hc, hcr, rfl⟩
      · subst hc; exact Or.inr rfl
    · rintro (⟨hx, hT, c, hc, hcr, rfl⟩ | rfl)
      · exact ⟨hx, hT, c, Or.inl hc, hcr, rfl⟩
      · exact ⟨hpar, pl.notT m hmP hnr, m, Or.inr rfl, hnr, rfl⟩

theorem next_pair_step {S'' : List Pos} (pl : Plan n P isT v w) (hP : P = D ++ m :: sib m :: S'')
    (hnr : isRootPos n m = false) :
    S''.filter (queued n isT (D ++ [m, sib m])) = S''.filter (queued n isT D) ++ [parent m] := by
  obtain ⟨hS, hD, hup⟩ := split_facts pl hP
  have hmP : m ∈ P := by rw [hP]; simp
  have hS2 : (sib m :: S'').Pairwise PLt := (List.pairwise_cons.1 hS).2
  have hS'' : S''.Pairwise PLt := (List.pairwise_cons.1 hS2).2
  have hpar : parent m ∈ S'' := by
    rcases List.mem_cons.1 (hup _ (pl.up m hmP hnr).2 (lt_parent m)) with e | h
    · exact absurd e (parent_ne_sib m)
    · exact h
  have hlt : ∀ x ∈ S''.filter (queued n isT D), PLt x (parent m) := by
    intro x hx
    obtain ⟨_, c, hc, _, rfl⟩ := queued_iff.1 (List.mem_filter.1 hx).2
    refine parent_lt (hD c hc) fun e => ?_
    -- `m = sib c` would put `c = sib m` above `m`
    have : c = sib m := by rw [e, sib_sib]
    exact PLt.asymm (hD c hc) (this ▸ head_lt hS (sib m) (by simp))
  apply eq_of_psorted (hS''.sublist List.filter_sublist)
  · rw [List.pairwise_append]
    exact ⟨hS''.sublist List.filter_sublist, by simp, fun x hx y hy => by
      rw [List.mem_singleton] at hy; subst hy; exact hlt x hx⟩
  · intro x
    simp only [List.mem_filter, List.mem_append, queued_iff, List.mem_cons, List.not_mem_nil,
      or_false]
    constructor
    · rintro ⟨hx, hT, c, hc, hcr, rfl⟩
      rcases hc with hc | rfl | rfl
      · exact Or.inl ⟨hx, hT, c, hc, hcr, rfl⟩
      · exact Or.inr rfl
      · exact Or.inr (parent_sib m)
    · rintro (⟨hx, hT, c, hc, hcr, rfl⟩ | rfl)
      · exact ⟨hx, hT, c, Or.inl hc, hcr, rfl⟩
      · exact ⟨hpar, pl.notT m hmP hnr, m, Or.inr (Or.inl rfl), hnr, rfl⟩

theorem next_root_step (hroot : isRootPos n m = true) :
    S'.filter (queued n isT (D ++ [m])) = S'.filter (queued n isT D) := by
  refine List.filter_congr fun x _ => ?_
  rw [Bool.eq_iff_iff, queued_iff, queued_iff]
  simp only [List.mem_append, List.mem_singleton]
  constructor
  · rintro ⟨hT, c, hc | rfl, hcr, rfl⟩
    · exact ⟨hT, c, hc, hcr, rfl⟩
    · rw [hroot] at hcr; cases hcr
  · rintro ⟨hT, c, hc, hcr, rfl⟩
    exact ⟨hT, c, Or.inl hc, hcr, rfl⟩

theorem queued_of_lt (pl : Plan n P isT v w) {D0 : List Pos} {x : Pos} (hx : x ∈ P) (hT : isT x = false)
    (hD0 : ∀ c ∈ P, PLt c x → parent c = x → c ∈ D0) : queued n isT D0 x = true := by
  rcases pl.gen x hx with h | ⟨c, hc, hcr, hpc⟩
  · rw [hT] at h; cases h
  · exact queued_iff.2 ⟨hT, c, hD0 c hc (hpc ▸ lt_parent c) hpc, hcr, hpc⟩

theorem mem_D_of_lt (pl : Plan n P isT v w) (hP : P = D ++ m :: S') {c : Pos} (hc : c ∈ P)
    (hcm : PLt c m) : c ∈ D := by
  obtain ⟨hS, _, _⟩ := split_facts pl hP
  rw [hP] at hc
  rcases List.mem_append.1 hc with h | h
  · exact h
  · rcases List.mem_cons.1 h with e | h
    · exact (PLt.irrefl m (e ▸ hcm)).elim
    · exact (PLt.asymm hcm (head_lt hS c h)).elim

end closed

section cpop
variable {n : Nat} (hn : n ≤ 2 ^ 63) {isT : Pos → Bool} (v : Pos → H)
include hn

/-- `D0`: the processed positions whose parents count as queued, `Dn`: all processed positions -/
theorem pop_closed {m : Pos} {S' : List Pos} (D0 Dn : List Pos) (hS : (m :: S').Pairwise PLt)
    (hval : ∀ p ∈ m :: S', ValidH (forestRows n) p)
    (hm : isT m = true ∨ queued n isT D0 m = true) :
    ∃ b : Bool,
      nextLeast (((m :: S').filter isT).map (G n v)) (((m :: S').filter (queued n isT D0)).map (G n v)) =
        some b ∧
      popLeast b (((m :: S').filter isT).map (G n v)) (((m :: S').filter (queued n isT D0)).map (G n v))
          ((Dn.filter (fun p => !isT p)).map (G n v)) =
        (E (forestRows n) m, v m, (S'.filter isT).map (G n v), (S'.filter (queued n isT D0)).map (G n v),
          ((Dn ++ [m]).filter (fun p => !isT p)).map (G n v)) ∧
      (∀ (p : U64) (pr : List H),
        (p != E (forestRows n) m && rightSib p == E (forestRows n) m) = true →
        sibSel (sibFrom p (((m :: S').filter isT).map (G n v))
            (((m :: S').filter (queued n isT D0)).map (G n v)))
          (((m :: S').filter isT).map (G n v)) (((m :: S').filter (queued n isT D0)).map (G n v))
          ((Dn.filter (fun p => !isT p)).map (G n v)) pr =
          .ok (v m, (S'.filter isT).map (G n v), (S'.filter (queued n isT D0)).map (G n v),
            ((Dn ++ [m]).filter (fun p => !isT p)).map (G n v), pr)) := by
  rcases pop_head hn v (queued n isT D0) hS hval hm with ⟨hT, hnl⟩ | ⟨hT, hqm, hnl⟩
  · have hf : (m :: S').filter isT = m :: S'.filter isT := List.filter_cons_of_pos hT
    have hq : (m :: S').filter (queued n isT D0) = S'.filter (queued n isT D0) :=
      List.filter_cons_of_neg (by simp [queued, hT])
    have hd : (Dn ++ [m]).filter (fun p => !isT p) = Dn.filter (fun p => !isT p) := by
      simp [List.filter_append, hT]
    rw [hq, hf, hd]
    refine ⟨false, hnl, rfl, fun p pr htest => ?_⟩
    simp only [List.map_cons]
    have : sibFrom p (G n v m :: (S'.filter isT).map (G n v))
        ((S'.filter (queued n isT D0)).map (G n v)) = some false := by
      unfold sibFrom
      rw [hnl]
      simp only
      rw [if_pos (by simpa [G] using htest)]
    rw [this, sibSel_false]
    rfl
  · have hf : (m :: S').filter isT = S'.filter isT := List.filter_cons_of_neg (by simp [hT])
    have hq : (m :: S').filter (queued n isT D0) = m :: S'.filter (queued n isT D0) :=
      List.filter_cons_of_pos hqm
    have hd : (Dn ++ [m]).filter (fun p => !isT p) = Dn.filter (fun p => !isT p) ++ [m] := by
      simp [List.filter_append, hT]
    rw [hq, hf, hd]
    simp only [List.map_cons, List.map_append, List.map_nil] at hnl ⊢
    refine ⟨true, hnl, rfl, fun p pr htest => ?_⟩
    have : sibFrom p ((S'.filter isT).map (G n v))
        (G n v m :: (S'.filter (queued n isT D0)).map (G n v)) = some true := by
      unfold sibFrom
      rw [hnl]
      simp only
      rw [if_pos (by simpa [G] using htest)]
    rw [this, sibSel_true]
    rfl

end cpop

structure LInv (n : Nat) (P : List Pos) (isT : Pos → Bool) (D S nxS dnS : List Pos) : Prop where
  split : P = D ++ S
  nx_mem : ∀ x ∈ nxS, x ∈ S ∧ isT x = false
  cover : ∀ p ∈ S, isT p = true ∨ p ∈ nxS ∨ ∃ c ∈ S, isRootPos n c = false ∧ parent c = p
  sibc : ∀ p ∈ S, isRootPos n p = false → sib p ∈ P → sib p ∈ S
  order : ∀ x ∈ nxS, ∀ p ∈ S, isRootPos n p = false → PLt x (parent p)
  all_sorted : (dnS ++ nxS).Pairwise PLt
  all_mem : ∀ x ∈ dnS ++ nxS, x ∈ P ∧ isT x = false
  dn_D : ∀ x ∈ dnS, x ∈ D
  all_cover : ∀ c ∈ D, isRootPos n c = false → parent c ∈ dnS ++ nxS

section linv
variable {n : Nat} {P : List Pos} {isT : Pos → Bool} {v w : Pos → H}
  {D S nxS dnS : List Pos}

theorem LInv.D_sub (li : LInv n P isT D S nxS dnS) : ∀ p ∈ D, p ∈ P := by
  intro p hp; rw [li.split]; exact List.mem_append_left _ hp

end linv

/-- the loop state in closed form at a split `P = D ++ S` (`D` processed, `S` remaining) -/
structure CInv (n : Nat) (P : List Pos) (isT : Pos → Bool) (v w : Pos → H) (junk : List H)
    (D S : List Pos) (st : CalcSt H) : Prop where
  split : P = D ++ S
  sibD : ∀ d ∈ D, isRootPos n d = false → sib d ∈ P → sib d ∈ D
  tp : st.toProve = (S.filter isT).map (G n v)
  nx : st.next = (S.filter (queued n isT D)).map (G n v)
  dn : st.done = (D.filter (fun p => !isT p)).map (G n v)
  proof : st.proof = ((S.filter (needsProof n P)).map sib).map w ++ junk
  row_le : st.row.toNat ≤ forestRows n
  row_S : ∀ p ∈ S, st.row.toNat ≤ p.1
  roots : st.roots = (D.filter (isRootPos n)).map v
  rootRows : st.rootRows = (D.filter (isRootPos n)).map (fun p => H8 p.1)

section step
variable {n : Nat} (hn : n ≤ 2 ^ 63) {P : List Pos} {isT : Pos → Bool} {v w : Pos → H}
  {junk : List H} {D : List Pos}
include hn

theorem step {m : Pos} {S' : List Pos} {st : CalcSt H} (pl : Plan n P isT v w)
    (ci : CInv n P isT v w junk D (m :: S') st) :
    ∃ (st' : CalcSt H) (D' S'' : List Pos),
      calcStep (BitVec.ofNat 64 n) (H8 (forestRows n)) st = .ok (.cont st') ∧
      CInv n P isT v w junk D' S'' st' ∧ S''.length < (m :: S').length := by
  have htr := forestRows_small hn
  have hP := ci.split
  obtain ⟨hs, hD, hup⟩ := split_facts pl hP
  have hlt := head_lt hs
  have hSP : ∀ p ∈ m :: S', p ∈ P := fun p hp => by rw [hP]; exact List.mem_append_right _ hp
  have hmP : m ∈ P := hSP m (by simp)
  have hmD : m ∉ D := fun h => PLt.irrefl m (hD m h)
  have hinF : ∀ p ∈ m :: S', InF n p := fun p hp => pl.inF p (hSP p hp)
  have hval : ∀ p ∈ m :: S', ValidH (forestRows n) p := fun p hp => (hinF p hp).valid
  have hq : isT m = true ∨ queued n isT D m = true := by
    cases hT : isT m
    · exact Or.inr (queued_of_lt pl hmP hT fun c hc hcm _ => mem_D_of_lt pl hP hc hcm)
    · exact Or.inl rfl
  obtain ⟨b, hnl, hpop, _⟩ := pop_closed hn v D D hs hval hq
  rw [← ci.tp, ← ci.nx, ← ci.dn] at hpop
  rw [← ci.tp, ← ci.nx] at hnl
  have hrow : ¬ st.row > H8 (forestRows n) := by
    show ¬ (_ < _)
    rw [BitVec.lt_def, toNat_H8 htr]
    have := ci.row_le
    omega
  have hcur : rowCursor (BitVec.ofNat 64 n) (H8 (forestRows n)) (E (forestRows n) m) 257 st.row =
      .ok (H8 m.1) := by
    have h1 := ci.row_S m (by simp)
    have h2 := (hinF m (by simp)).1
    rw [U8_eq_H8 st.row]
    exact rowCursor_E hn (hinF m (by simp)) (m.1 - st.row.toNat) st.row.toNat 257 (by omega) (by omega)
  have hrt := isRootPositionOnRow_E hn (hinF m (by simp))
  have hm1 : (H8 m.1).toNat = m.1 := toNat_H8 (Nat.le_trans (hinF m (by simp)).1 htr)
  have hrle : (H8 m.1).toNat ≤ forestRows n := by
    rw [hm1]; exact (hinF m (by simp)).1
  have hrS : ∀ p ∈ S', (H8 m.1).toNat ≤ p.1 := fun p hp => by
    rw [hm1]
    have := hlt p hp
    unfold PLt at this
    omega
  cases hroot : isRootPos n m with
  | true =>
    rw [hroot] at hrt
    refine ⟨_, D ++ [m], S', calcStep_root hrow hnl hpop hcur hrt, ?_, by simp⟩
    refine ⟨by rw [hP]; simp, ?_, rfl, ?_, rfl, ?_, hrle, hrS, ?_, ?_⟩
    · intro d hd hdr hds
      rcases List.mem_append.1 hd with h | h
      · exact List.mem_append_left _ (ci.sibD d h hdr hds)
      · rw [List.mem_singleton.1 h, hroot] at hdr; cases hdr
    · show (S'.filter (queued n isT D)).map (G n v) = _
      rw [next_root_step hroot]
    · show st.proof = _
      rw [ci.proof, List.filter_cons_of_neg (by simp [needsProof, hroot])]
    · show st.roots ++ [v m] = _
      rw [ci.roots, List.filter_append]
      simp [hroot]
    · show st.rootRows ++ [H8 m.1] = _
      rw [ci.rootRows, List.filter_append]
      simp [hroot]
  | false =>
    rw [hroot] at hrt
    have hmrows : m.1 < forestRows n := (pl.up m hmP hroot).1
    have hparE : Parent (E (forestRows n) m) (H8 (forestRows n)) = E (forestRows n) (parent m) :=
      parent_E htr (hval m (by simp)) hmrows
    by_cases hsib : sib m ∈ P
    · -- the sibling is the next element of the plan
      have hnr2 : isRootPos n (sib m) = false := not_root_sib (hinF m (by simp))
      have hsibS : sib m ∈ S' := by
        rw [hP] at hsib
        rcases List.mem_append.1 hsib with h | h
        · have := ci.sibD _ h hnr2 (by rw [sib_sib]; exact hmP)
          rw [sib_sib] at this
          exact absurd this hmD
        · rcases List.mem_cons.1 h with e | h
          · exact absurd e (sib_ne m)
          · exact h
      have heven : m.2 % 2 = 0 := (sib_gt_iff m).1 (hlt _ hsibS)
      obtain ⟨S'', rfl⟩ : ∃ S'', S' = sib m :: S'' := by
        cases S' with
        | nil => simp at hsibS
        | cons q S'' =>
          refine ⟨S'', ?_⟩
          rcases List.mem_cons.1 hsibS with e | h
          · rw [e]
          · have h1 : PLt q (sib m) := head_lt (List.pairwise_cons.1 hs).2 _ h
            exact (no_between heven (hlt q (by simp)) h1).elim
      have hs2 : (sib m :: S'').Pairwise PLt := (List.pairwise_cons.1 hs).2
      have hP2 : P = (D ++ [m]) ++ sib m :: S'' := by rw [hP]; simp
      have hq2 : isT (sib m) = true ∨ queued n isT D (sib m) = true := by
        cases hT : isT (sib m)
        · refine Or.inr (queued_of_lt pl hsib hT fun c hc hcm hpc => ?_)
          rcases List.mem_append.1 (mem_D_of_lt pl hP2 hc hcm) with h | h
          · exact h
          · rw [List.mem_singleton.1 h] at hpc
            exact absurd hpc (parent_ne_sib m)
        · exact Or.inl rfl
      obtain ⟨b2, _, _, hsel⟩ := pop_closed hn v D (D ++ [m]) hs2
        (fun p hp => hval p (List.mem_cons_of_mem _ hp)) hq2
      have htest : (E (forestRows n) m != E (forestRows n) (sib m) &&
          rightSib (E (forestRows n) m) == E (forestRows n) (sib m)) = true :=
        (sibTest_E htr (hval m (by simp)) (hval (sib m) (by simp)) hmrows).2 ⟨heven, rfl⟩
      have hstep := calcStep_nonroot hrow hnl hpop hcur hrt (hsel _ st.proof htest)
      refine ⟨_, D ++ [m, sib m], S'', hstep, ?_, by simp only [List.length_cons]; omega⟩
      refine ⟨by rw [hP]; simp, ?_, rfl, ?_, ?_, ?_, hrle,
        fun p hp => hrS p (List.mem_cons_of_mem _ hp), ?_, ?_⟩
      · intro d hd hdr hds
        rcases List.mem_append.1 hd with h | h
        · exact List.mem_append_left _ (ci.sibD d h hdr hds)
        · rcases List.mem_cons.1 h with e | h
          · rw [e]; simp
          · rw [List.mem_singleton.1 h, sib_sib]; simp
      · show (S''.filter (queued n isT D)).map (G n v) ++ [(Parent _ _, getNextHash _ (v m) (v (sib m)))] = _
        rw [next_pair_step pl hP hroot, List.map_append, hparE]
        simp only [List.map_cons, List.map_nil, G]
        rw [pl.vstep m hmP hroot, if_pos hsib]
      · show ((D ++ [m] ++ [sib m]).filter _).map (G n v) = _
        rw [List.append_assoc]; rfl
      · show st.proof = _
        rw [ci.proof, List.filter_cons_of_neg (by simp [needsProof, hsib]),
          List.filter_cons_of_neg (by simp [needsProof, sib_sib, hmP])]
      · show st.roots = _
        rw [ci.roots, List.filter_append]
        simp [hroot, hnr2]
      · show st.rootRows = _
        rw [ci.rootRows, List.filter_append]
        simp [hroot, hnr2]
    · -- the sibling hash comes from the proof
      have hnone : sibFrom (E (forestRows n) m) ((S'.filter isT).map (G n v))
          ((S'.filter (queued n isT D)).map (G n v)) = none := by
        apply sibFrom_none
        intro y hy
        have : ∃ q ∈ S', y = G n v q := by
          rcases List.mem_append.1 hy with h | h <;>
          · obtain ⟨q, hq, rfl⟩ := List.mem_map.1 h
            exact ⟨q, (List.mem_filter.1 hq).1, rfl⟩
        obtain ⟨q, hq, rfl⟩ := this
        rw [Bool.eq_false_iff]
        intro ht
        have := (sibTest_E htr (hval m (by simp)) (hval q (List.mem_cons_of_mem _ hq)) hmrows).1 ht
        exact hsib (by rw [← this.2]; exact hSP q (List.mem_cons_of_mem _ hq))
      have hpr : st.proof =
          w (sib m) :: (((S'.filter (needsProof n P)).map sib).map w ++ junk) := by
        rw [ci.proof, List.filter_cons_of_pos (by simp [needsProof, hroot, hsib])]
        rfl
      have hsel : sibSel (sibFrom (E (forestRows n) m) ((S'.filter isT).map (G n v))
          ((S'.filter (queued n isT D)).map (G n v))) ((S'.filter isT).map (G n v))
          ((S'.filter (queued n isT D)).map (G n v))
          (((D ++ [m]).filter (fun p => !isT p)).map (G n v)) st.proof =
          .ok (w (sib m), (S'.filter isT).map (G n v), (S'.filter (queued n isT D)).map (G n v),
            ((D ++ [m]).filter (fun p => !isT p)).map (G n v),
            ((S'.filter (needsProof n P)).map sib).map w ++ junk) := by
        rw [hnone, hpr]
        simp only [sibSel]
        rw [if_neg (pl.wnz m hmP hroot hsib)]
      have hstep := calcStep_nonroot hrow hnl hpop hcur hrt hsel
      refine ⟨_, D ++ [m], S', hstep, ?_, by simp⟩
      refine ⟨by rw [hP]; simp, ?_, rfl, ?_, rfl, rfl, hrle, hrS, ?_, ?_⟩
      · intro d hd hdr hds
        rcases List.mem_append.1 hd with h | h
        · exact List.mem_append_left _ (ci.sibD d h hdr hds)
        · rw [List.mem_singleton.1 h] at hds; exact absurd hds hsib
      · show (S'.filter (queued n isT D)).map (G n v) ++ [(Parent _ _, getNextHash _ (v m) (w (sib m)))] = _
        rw [next_proof_step pl hP hroot hsib, List.map_append, hparE]
        simp only [List.map_cons, List.map_nil, G]
        rw [pl.vstep m hmP hroot, if_neg hsib]
      · show st.roots = _
        rw [ci.roots, List.filter_append]
        simp [hroot]
      · show st.rootRows = _
        rw [ci.rootRows, List.filter_append]
        simp [hroot]

theorem loop_run (pl : Plan n P isT v w) :
    ∀ (fuel : Nat) (D S : List Pos) (st : CalcSt H),
      CInv n P isT v w junk D S st → S.length < fuel →
      ∃ sf : CalcSt H,
        calcLoop (BitVec.ofNat 64 n) (H8 (forestRows n)) fuel st = .ok sf ∧
        CInv n P isT v w junk P [] sf := by
  intro fuel
  induction fuel with
  | zero => intro D S st _ h; omega
  | succ fuel ih =>
    intro D S st ci hlen
    cases S with
    | nil =>
      have hD : D = P := by rw [ci.split]; simp
      subst hD
      refine ⟨st, ?_, ci⟩
      unfold calcLoop
      have : calcStep (BitVec.ofNat 64 n) (H8 (forestRows n)) st = .ok (.stop st) := by
        rw [calcStep_eq]
        unfold calcStep'
        split
        · rfl
        · rw [ci.tp, ci.nx]; rfl
      simp only [bind, this, Out.bind, pure]
    | cons m S' =>
      obtain ⟨st', D', S'', hstep, ci', hlt⟩ := step hn pl ci
      obtain ⟨sf, hloop, cf⟩ := ih D' S'' st' ci' (by simp at hlen hlt; omega)
      refine ⟨sf, ?_, cf⟩
      unfold calcLoop
      simp only [bind, hstep, Out.bind]
      exact hloop

def start (n : Nat) (P : List Pos) (isT : Pos → Bool) (v w : Pos → H) (junk : List H) :
    CalcSt H :=
  { toProve := (P.filter isT).map (G n v), next := [], done := [],
    proof := ((P.filter (needsProof n P)).map sib).map w ++ junk, row := 0#8, roots := [],
    rootRows := [] }

theorem plan_keys_sorted (pl : Plan n P isT v w) :
    P.Pairwise (fun a b => (G n v a).1 < (G n v b).1) := by
  have htr := forestRows_small hn
  apply List.Pairwise.imp_of_mem _ pl.sorted
  intro a b ha hb hab
  exact (encP_lt_iff_or htr (pl.inF a ha).valid (pl.inF b hb).valid).2 hab

/-- the proof hashes a plan consumes, in the order the loop reads them -/
def Plan.proof (n : Nat) (P : List Pos) (w : Pos → H) : List H :=
  ((P.filter (needsProof n P)).map sib).map w

theorem Plan.run (pl : Plan n P isT v w) (junk : List H) (fuel : Nat) (hfuel : P.length < fuel) :
    ∃ sf : CalcSt H,
      calcLoop (BitVec.ofNat 64 n) (H8 (forestRows n)) fuel (start n P isT v w junk) = .ok sf ∧
      sf.proof = junk ∧
      sf.roots = (P.filter (isRootPos n)).map v ∧
      sf.rootRows = (P.filter (isRootPos n)).map (fun p => H8 p.1) ∧
      sf.done ++ sf.next = (P.filter (fun p => !isT p)).map (G n v) ∧
      mergeHP (sf.done ++ sf.next) ((P.filter isT).map (G n v)) = P.map (G n v) := by
  have ci0 : CInv n P isT v w junk [] P (start n P isT v w junk) :=
    ⟨rfl, fun _ h => (nomatch h), rfl, by simp [start, queued], rfl, rfl, by simp [start],
      by simp [start], rfl, rfl⟩
  obtain ⟨sf, hloop, cf⟩ := loop_run hn pl fuel [] P _ ci0 hfuel
  have hall : sf.done ++ sf.next = (P.filter (fun p => !isT p)).map (G n v) := by
    rw [cf.dn, cf.nx]; simp
  refine ⟨sf, hloop, by rw [cf.proof]; rfl, cf.roots, cf.rootRows, hall, ?_⟩
  rw [hall]
  exact mergeHP_filter (G n v) (fun p => !isT p) isT P (plan_keys_sorted hn pl) (by simp)

theorem plan_run (pl : Plan n P isT v w) (junk : List H) (fuel : Nat) (hfuel : P.length < fuel) :
    ∃ sf : CalcSt H,
      calcLoop (BitVec.ofNat 64 n) (H8 (forestRows n)) fuel (start n P isT v w junk) = .ok sf ∧
      sf.roots = (P.filter (isRootPos n)).map v ∧
      sf.rootRows = (P.filter (isRootPos n)).map (fun p => H8 p.1) ∧
      sf.done ++ sf.next = (P.filter (fun p => !isT p)).map (G n v) ∧
      mergeHP (sf.done ++ sf.next) ((P.filter isT).map (G n v)) = P.map (G n v) := by
  obtain ⟨sf, h, _, hr⟩ := Plan.run hn pl junk fuel hfuel
  exact ⟨sf, h, hr⟩

theorem Plan.start_queue (pl : Plan n P isT v w) {ts : List Pos} (hT : ∀ p, isT p = true ↔ p ∈ ts)
    (hnd : ts.Nodup) (hsub : ∀ t ∈ ts, t ∈ P) :
    sortHP ((ts.map (E (forestRows n))).zip (ts.map v)) = (P.filter isT).map (G n v) := by
  have htr := forestRows_small hn
  rw [List.zip_map']
  apply eq_of_keysorted
  · apply SortBy.sortBy_strict
    rw [List.Nodup, List.pairwise_map, List.pairwise_map]
    apply List.Pairwise.imp_of_mem _ hnd
    intro a b ha hb hab e
    exact hab (encP_inj htr (pl.inF a (hsub a ha)).valid (pl.inF b (hsub b hb)).valid e)
  · rw [List.pairwise_map]
    exact (plan_keys_sorted hn pl).sublist List.filter_sublist
  · intro x
    unfold sortHP
    rw [SortBy.mem_sortBy, List.mem_map, List.mem_map]
    constructor
    · rintro ⟨t, ht, rfl⟩
      exact ⟨t, List.mem_filter.2 ⟨hsub t ht, (hT t).2 ht⟩, rfl⟩
    · rintro ⟨t, ht, rfl⟩
      exact ⟨t, (hT t).1 (List.mem_filter.1 ht).2, rfl⟩

/-- `dh` is the `delHashes` argument; `junk`: hashes after the ones the plan consumes are ignored;
`hfuel` holds for the canonical plan by `SpecPlan.pathSet_fuel` -/
theorem Plan.calc (pl : Plan n P isT v w) {ts : List Pos} (hT : ∀ p, isT p = true ↔ p ∈ ts)
    (hnd : ts.Nodup) (hsub : ∀ t ∈ ts, t ∈ P)
    (hfuel : P.length < calcFuel ts.length (H8 (forestRows n))) (dh : Option (List H))
    (hdh : (match dh with
      | some hs => hs
      | none => (ts.map (E (forestRows n))).map (fun _ => zero)) = ts.map v)
    (junk : List H) :
    calculateHashes (BitVec.ofNat 64 n) dh (ts.map (E (forestRows n))) (Plan.proof n P w ++ junk) =
      .ok ⟨P.map (G n v), (P.filter (isRootPos n)).map v,
        (P.filter (isRootPos n)).map (fun p => H8 p.1)⟩ := by
  obtain ⟨sf, hloop, _, hroots, hrows, _, hmerge⟩ := Plan.run hn pl junk _ hfuel
  have htp : toHashAndPos (ts.map (E (forestRows n))) (ts.map v) = .ok ((P.filter isT).map (G n v)) := by
    rw [toHashAndPos_ok (by simp), Plan.start_queue hn pl hT hnd hsub]
  unfold calculateHashes
  simp only [bind, pure]
  unfold start at hloop
  cases dh <;>
  · simp only at hdh ⊢
    rw [hdh, htp]
    simp only [Out.bind]
    rw [treeRows_ofNat hn, List.length_map]
    unfold Plan.proof
    rw [hloop]
    simp only
    rw [hmerge, hroots, hrows]

end step

end
end UtreexoVerif.Proofs.CalcPlan
