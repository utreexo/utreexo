/-
  The canonical proof of the specification forest is a plan for `calculateHashes`: for a valuation `f`
  of collapsed subtrees with `f (node a b) = comb (f a) (f b)` that agrees with the hash outside the
  paths, `pathSet F targets` with values `valAt f F` is a `Plan` (`spec_plan`) consuming exactly the
  canonical proof hashes (`canon_proof`); hence `calc_generic`.
-/
import UtreexoVerif.Proofs.CalcPlan
import UtreexoVerif.Proofs.SpecSubs
import UtreexoVerif.Proofs.ListFacts

namespace UtreexoVerif.Proofs.SpecPlan
open Spec Model Hasher
open UtreexoVerif.Proofs.Sorted
open UtreexoVerif.Proofs.CalcGeo UtreexoVerif.Proofs.CalcPlan UtreexoVerif.Proofs.SpecSubs

section
set_option linter.unusedSectionVars false
variable {H : Type} [DecidableEq H] [Hasher H]

def subAt (F : Forest H) (p : Pos) : Option (CTree H) :=
  (((treeRows F.numLeaves).flatMap (treeSubs F)).find? (fun x => x.1 == p)).map (·.2)

theorem subAt_of {F : Forest H} {h : Nat} {p : Pos} {t : CTree H} (s : SubAtT F h p t) :
    subAt F p = some t := by
  unfold subAt
  cases hf : ((treeRows F.numLeaves).flatMap (treeSubs F)).find? (fun x => x.1 == p) with
  | none =>
    have := List.find?_eq_none.1 hf (p, t) (List.mem_flatMap.2 ⟨h, s.1, s.2⟩)
    simp at this
  | some y =>
    have hy := List.mem_of_find?_eq_some hf
    have hp := List.find?_some hf
    simp only [beq_iff_eq] at hp
    obtain ⟨h', hh', hy'⟩ := List.mem_flatMap.1 hy
    have s' : SubAtT F h' p y.2 := ⟨hh', by rw [← hp]; exact hy'⟩
    rw [(s.unique s').2]
    rfl

def valAt (f : CTree H → H) (F : Forest H) (p : Pos) : H :=
  match subAt F p with
  | some t => f t
  | none => zero

theorem valAt_of {f : CTree H → H} {F : Forest H} {h : Nat} {p : Pos} {t : CTree H}
    (s : SubAtT F h p t) : valAt f F p = f t := by
  unfold valAt
  rw [subAt_of s]

def trueAt (F : Forest H) (p : Pos) : H := (F.nodeAt p).getD zero

theorem trueAt_of_sub {F : Forest H} {h : Nat} {p : Pos} {t : CTree H} (s : SubAtT F h p t) :
    trueAt F p = t.hash := by
  unfold trueAt
  rw [s.nodeAt]
  rfl

/-- the combination computed by `getNextHash`: a zero operand is skipped -/
def comb (x y : H) : H := if x = zero then y else if y = zero then x else ph x y

theorem comb_nz {x y : H} (hx : x ≠ zero) (hy : y ≠ zero) : comb x y = ph x y := by
  unfold comb
  rw [if_neg hx, if_neg hy]

theorem getNextHash_comb (pos : U64) (x y : H) :
    getNextHash pos x y = if isLeftNiece pos then comb x y else comb y x := by
  unfold getNextHash comb
  by_cases hx : x = zero <;> by_cases hy : y = zero <;> cases isLeftNiece pos <;> simp [hx, hy]

def Good (t : CTree H) : Prop := ∀ l ∈ t.leaves, l ≠ zero

theorem Good.left {a b : CTree H} (h : Good (.node a b)) : Good a :=
  fun l hl => h l (by simp [CTree.leaves, hl])

theorem Good.right {a b : CTree H} (h : Good (.node a b)) : Good b :=
  fun l hl => h l (by simp [CTree.leaves, hl])

theorem hash_node_comb (hnz : ∀ a b : H, ph a b ≠ (zero : H)) {a b : CTree H} (ga : Good a)
    (gb : Good b) : (CTree.node a b).hash = comb a.hash b.hash :=
  (comb_nz (CTree.hash_ne_zero hnz a ga) (CTree.hash_ne_zero hnz b gb)).symm

def pathSet (F : Forest H) (targets : List Pos) : List Pos :=
  Forest.sortDedup (targets.flatMap (Forest.pathUp F.numLeaves (F.rows + 1)))

theorem mem_pathSet {F : Forest H} {targets : List Pos} {p : Pos} :
    p ∈ pathSet F targets ↔ ∃ t ∈ targets, p ∈ Forest.pathUp F.numLeaves (F.rows + 1) t := by
  unfold pathSet
  rw [mem_sortDedup, List.mem_flatMap]

theorem pathSet_sorted (F : Forest H) (targets : List Pos) : (pathSet F targets).Pairwise Sorted.PLt :=
  Sorted.sortDedup_sorted _

theorem length_insertSorted_le (p : Pos) (l : List Pos) :
    (Forest.insertSorted p l).length ≤ l.length + 1 := by
  induction l with
  | nil => simp [Forest.insertSorted]
  | cons q qs ih =>
    unfold Forest.insertSorted
    split
    · simp
    · split
      · simp
      · simp only [List.length_cons]; omega

theorem length_sortDedup_le (l : List Pos) : (Forest.sortDedup l).length ≤ l.length := by
  unfold Forest.sortDedup
  induction l with
  | nil => simp
  | cons a l ih =>
    simp only [List.foldr_cons, List.length_cons]
    have := length_insertSorted_le a (List.foldr Forest.insertSorted [] l)
    omega

theorem length_pathSet_le (F : Forest H) (targets : List Pos) :
    (pathSet F targets).length ≤ targets.length * (F.rows + 2) := by
  unfold pathSet
  refine Nat.le_trans (length_sortDedup_le _) ?_
  induction targets with
  | nil => simp
  | cons t ts ih =>
    rw [List.flatMap_cons, List.length_append, List.length_cons, Nat.succ_mul]
    have := pathUp_length F.numLeaves (F.rows + 1) t
    omega

def TargetsOK (F : Forest H) (targets : List Pos) : Prop :=
  ∀ t ∈ targets, ∃ h l, SubAtT F h t (.leaf l)

section paths
variable {F : Forest H} {targets : List Pos} (tok : TargetsOK F targets)
include tok

theorem pathSet_sub {p : Pos} (hp : p ∈ pathSet F targets) : ∃ h t, SubAtT F h p t := by
  obtain ⟨t, ht, hpt⟩ := mem_pathSet.1 hp
  obtain ⟨h, l, s⟩ := tok t ht
  have hh : h ≤ F.rows := le_forestRows_of_mem s.1
  obtain ⟨⟨t', s'⟩, _⟩ := pathUp_sub (F.rows + 1) t _ s (by omega) p hpt
  exact ⟨h, t', s'⟩

theorem pathSet_up {p : Pos} (hp : p ∈ pathSet F targets)
    (hr : isRootPos F.numLeaves p = false) : Spec.parent p ∈ pathSet F targets := by
  obtain ⟨t, ht, hpt⟩ := mem_pathSet.1 hp
  obtain ⟨h, l, s⟩ := tok t ht
  have hh : h ≤ F.rows := le_forestRows_of_mem s.1
  have := (pathUp_sub (F.rows + 1) t _ s (by omega) p hpt).2 hr
  exact mem_pathSet.2 ⟨t, ht, this⟩

theorem targets_sub_pathSet {t : Pos} (ht : t ∈ targets) : t ∈ pathSet F targets :=
  mem_pathSet.2 ⟨t, ht, mem_pathUp_self _ _ _⟩

theorem pathSet_gen {p : Pos} (hp : p ∈ pathSet F targets) :
    p ∈ targets ∨ ∃ c ∈ pathSet F targets, isRootPos F.numLeaves c = false ∧ Spec.parent c = p := by
  obtain ⟨t, ht, hpt⟩ := mem_pathSet.1 hp
  rcases pathUp_gen _ _ _ _ hpt with e | ⟨c, hc, hcr, hpc⟩
  · left; rw [e]; exact ht
  · right; exact ⟨c, mem_pathSet.2 ⟨t, ht, hc⟩, hcr, hpc⟩

theorem pathSet_root {p : Pos} {h : Nat} {t : CTree H} (hp : p ∈ pathSet F targets)
    (s : SubAtT F h p t) : rootPos F.numLeaves h ∈ pathSet F targets := by
  obtain ⟨tg, htg, hpt⟩ := mem_pathSet.1 hp
  obtain ⟨h', l, stg⟩ := tok tg htg
  have hh : h' ≤ F.rows := le_forestRows_of_mem stg.1
  obtain ⟨⟨t', s'⟩, _⟩ := pathUp_sub (F.rows + 1) tg _ stg (by omega) p hpt
  have e : h = h' := (s.unique s').1
  subst e
  obtain ⟨t0, ht0, _, hm⟩ := stg.tree
  have sr := SubAtT.root stg.1 ht0
  have := pathUp_anc (F.rows + 1) t0 (rootPos F.numLeaves h) tg _ sr hm (by omega)
  exact mem_pathSet.2 ⟨tg, htg, this⟩

end paths

def isTarget (targets : List Pos) (p : Pos) : Bool := decide (p ∈ targets)

theorem spec_plan {F : Forest H} {targets : List Pos} (tok : TargetsOK F targets)
    (hn : F.numLeaves ≤ 2 ^ 63) (hnz : ∀ a b : H, ph a b ≠ (zero : H)) (hlive : ∀ l ∈ F.liveLeaves, l ≠ (zero : H))
    (f : CTree H → H) (hf : ∀ a b : CTree H, Good a → Good b → f (.node a b) = comb (f a) (f b))
    (hout : ∀ c ∈ pathSet F targets, isRootPos F.numLeaves c = false → sib c ∉ pathSet F targets →
      ∀ h s', SubAtT F h (sib c) s' → f s' = s'.hash) :
    Plan F.numLeaves (pathSet F targets) (isTarget targets) (valAt f F) (valAt CTree.hash F) := by
  have good : ∀ {h p t}, SubAtT F h p t → Good t :=
    fun s l hl => hlive l (s.leaves_live l hl)
  refine ⟨pathSet_sorted F targets, ?_, ?_, ?_, ?_, ?_, ?_⟩
  · intro p hp
    obtain ⟨h, t, s⟩ := pathSet_sub tok hp
    exact s.inF
  · intro p hp hr
    obtain ⟨h, t, s⟩ := pathSet_sub tok hp
    have := (s.parent hr).1
    have hh : h ≤ F.rows := le_forestRows_of_mem s.1
    exact ⟨by show p.1 < F.rows; omega, pathSet_up tok hp hr⟩
  · intro p hp
    rcases pathSet_gen tok hp with h | h
    · left; simp [isTarget, h]
    · right; exact h
  · intro c hc hr
    obtain ⟨h, t, s⟩ := pathSet_sub tok hc
    obtain ⟨_, s', hpar, _⟩ := s.parent hr
    simp only [isTarget, decide_eq_false_iff_not]
    intro hmem
    obtain ⟨h', l, sl⟩ := tok _ hmem
    have := (hpar.unique sl).2
    split at this <;> cases this
  · intro c hc hr
    obtain ⟨h, t, s⟩ := pathSet_sub tok hc
    obtain ⟨hlt, s', hpar, hsib⟩ := s.parent hr
    have htr := forestRows_small hn
    rw [valAt_of hpar, valAt_of s, getNextHash_comb]
    have hX : (if sib c ∈ pathSet F targets then valAt f F (sib c) else valAt CTree.hash F (sib c)) =
        f s' := by
      split
      · exact valAt_of hsib
      · rename_i hns
        rw [valAt_of hsib, hout c hc hr hns h s' hsib]
    rw [hX, isLeftNiece_E htr s.inF.valid]
    by_cases he : c.2 % 2 = 0
    · rw [if_pos he, hf _ _ (good s) (good hsib)]
      simp [he]
    · rw [if_neg he, hf _ _ (good hsib) (good s)]
      simp [he]
  · intro c hc hr hns
    obtain ⟨h, t, s⟩ := pathSet_sub tok hc
    obtain ⟨_, s', _, hsib⟩ := s.parent hr
    rw [valAt_of hsib]
    exact CTree.hash_ne_zero hnz _ (good hsib)

theorem canon_spec {F : Forest H} {L : List H} {targets : List Pos} {hashes : List H}
    (hc : F.canon L = some (targets, hashes)) :
    targets = L.map (fun l => (F.posOf l).getD (0, 0)) ∧ (∀ l ∈ L, ∃ p, F.posOf l = some p) ∧
    hashes = (F.proofPositions targets).map (fun p => (F.nodeAt p).getD zero) ∧
    (∀ p ∈ F.proofPositions targets, ∃ x, F.nodeAt p = some x) := by
  unfold Forest.canon at hc
  cases h1 : L.mapM F.posOf with
  | none => rw [h1] at hc; simp at hc
  | some ts =>
    rw [h1] at hc
    simp only [bind, Option.bind] at hc
    cases h2 : (F.proofPositions ts).mapM F.nodeAt with
    | none => rw [h2] at hc; simp at hc
    | some hs =>
      rw [h2] at hc
      simp only [pure, Option.some.injEq, Prod.mk.injEq] at hc
      obtain ⟨rfl, rfl⟩ := hc
      obtain ⟨a1, a2⟩ := ListFacts.mapM_some F.posOf (0, 0) L ts h1
      obtain ⟨b1, b2⟩ := ListFacts.mapM_some F.nodeAt zero _ hs h2
      exact ⟨a1, a2, b1, b2⟩

theorem canon_mapM {F : Forest H} {L : List H} {targets : List Pos} {hashes : List H}
    (hc : F.canon L = some (targets, hashes)) : L.mapM F.posOf = some targets := by
  unfold Forest.canon at hc
  cases h1 : L.mapM F.posOf with
  | none => rw [h1] at hc; simp at hc
  | some ts =>
    rw [h1] at hc
    simp only [bind, Option.bind] at hc
    cases h2 : (F.proofPositions ts).mapM F.nodeAt with
    | none => rw [h2] at hc; simp at hc
    | some hs =>
      rw [h2] at hc
      simp only [pure, Option.some.injEq, Prod.mk.injEq] at hc
      rw [hc.1]

theorem posOf_getD_sub {F : Forest H} {l : H} (h : ∃ p, F.posOf l = some p) :
    ∃ hh, SubAtT F hh ((F.posOf l).getD (0, 0)) (.leaf l) := by
  obtain ⟨p, hpl⟩ := h
  obtain ⟨hh, s⟩ := posOf_sub hpl
  exact ⟨hh, by rw [hpl]; exact s⟩

theorem targetsOK_of_mapM {F : Forest H} {L : List H} {ps : List Pos}
    (h : L.mapM F.posOf = some ps) : TargetsOK F ps := by
  obtain ⟨e, hp⟩ := ListFacts.mapM_some F.posOf (0, 0) L ps h
  intro t ht
  rw [e] at ht
  obtain ⟨l, hl, rfl⟩ := List.mem_map.1 ht
  obtain ⟨hh, s⟩ := posOf_getD_sub (hp l hl)
  exact ⟨hh, l, s⟩

theorem nodup_of_mapM {F : Forest H} {L : List H} {ps : List Pos}
    (h : L.mapM F.posOf = some ps) (hnd : L.Nodup) : ps.Nodup := by
  obtain ⟨e, hp⟩ := ListFacts.mapM_some F.posOf (0, 0) L ps h
  rw [e]
  unfold List.Nodup
  rw [List.pairwise_map]
  apply List.Pairwise.imp_of_mem _ hnd
  intro a b ha hb hab e'
  obtain ⟨h1, s1⟩ := posOf_getD_sub (hp a ha)
  obtain ⟨h2, s2⟩ := posOf_getD_sub (hp b hb)
  rw [e'] at s1
  have := (s1.unique s2).2
  injection this with this
  exact hab this

theorem canon_targetsOK {F : Forest H} {L : List H} {targets : List Pos} {hashes : List H}
    (hc : F.canon L = some (targets, hashes)) : TargetsOK F targets :=
  targetsOK_of_mapM (canon_mapM hc)

theorem canon_target_leaf {F : Forest H} {L : List H} {targets : List Pos} {hashes : List H}
    (hc : F.canon L = some (targets, hashes)) {l : H} (hl : l ∈ L) :
    ∃ h, SubAtT F h ((F.posOf l).getD (0, 0)) (.leaf l) :=
  posOf_getD_sub ((canon_spec hc).2.1 l hl)

theorem canon_targets_nodup {F : Forest H} {L : List H} {targets : List Pos} {hashes : List H}
    (hc : F.canon L = some (targets, hashes)) (hnd : L.Nodup) : targets.Nodup :=
  nodup_of_mapM (canon_mapM hc) hnd

theorem proofPositions_eq (F : Forest H) (targets : List Pos) :
    F.proofPositions targets =
      ((pathSet F targets).filter (needsProof F.numLeaves (pathSet F targets))).map sib := by
  show Forest.sortDedup (((pathSet F targets).filter (fun p => !isRootPos F.numLeaves p)).map sib
    |>.filter (fun s => !(pathSet F targets).contains s)) = _
  have hpred : ∀ a : Pos, (((fun s => !(pathSet F targets).contains s) ∘ sib) a &&
      !isRootPos F.numLeaves a) = needsProof F.numLeaves (pathSet F targets) a := by
    intro a
    simp [needsProof, Bool.and_comm]
  rw [List.filter_map, List.filter_filter, List.filter_congr (fun a _ => hpred a)]
  apply sortDedup_eq_self
  rw [List.pairwise_map]
  have hs : ((pathSet F targets).filter (needsProof F.numLeaves (pathSet F targets))).Pairwise Sorted.PLt :=
    (pathSet_sorted F targets).sublist List.filter_sublist
  apply List.Pairwise.imp_of_mem _ hs
  intro a b ha hb hab
  apply sib_lt hab
  intro e
  have h1 := (List.mem_filter.1 ha).2
  have h2 := (List.mem_filter.1 hb).1
  simp only [needsProof, Bool.and_eq_true, Bool.not_eq_eq_eq_not, Bool.not_true,
    decide_eq_false_iff_not] at h1
  exact h1.2 (by rw [← e]; exact h2)

theorem pathSet_congr (F : Forest H) {t1 t2 : List Pos} (h : ∀ x, x ∈ t1 ↔ x ∈ t2) :
    pathSet F t1 = pathSet F t2 := by
  apply eq_of_psorted (pathSet_sorted F t1) (pathSet_sorted F t2)
  intro x
  rw [mem_pathSet, mem_pathSet]
  constructor
  · rintro ⟨t, ht, hx⟩; exact ⟨t, (h t).1 ht, hx⟩
  · rintro ⟨t, ht, hx⟩; exact ⟨t, (h t).2 ht, hx⟩

theorem proofPositions_congr (F : Forest H) {t1 t2 : List Pos} (h : ∀ x, x ∈ t1 ↔ x ∈ t2) :
    F.proofPositions t1 = F.proofPositions t2 := by
  rw [proofPositions_eq, proofPositions_eq, pathSet_congr F h]

theorem canon_proof {F : Forest H} {L : List H} {targets : List Pos} {hashes : List H}
    (hc : F.canon L = some (targets, hashes)) :
    hashes = (((pathSet F targets).filter (needsProof F.numLeaves (pathSet F targets))).map sib).map
      (valAt CTree.hash F) := by
  have tok := canon_targetsOK hc
  obtain ⟨_, _, hh, _⟩ := canon_spec hc
  rw [hh, proofPositions_eq]
  apply List.map_congr_left
  intro x hx
  obtain ⟨c, hcm, rfl⟩ := List.mem_map.1 hx
  obtain ⟨hcP, hnp⟩ := List.mem_filter.1 hcm
  simp only [needsProof, Bool.and_eq_true, Bool.not_eq_eq_eq_not, Bool.not_true,
    decide_eq_false_iff_not] at hnp
  obtain ⟨h, t, s⟩ := pathSet_sub tok hcP
  obtain ⟨_, s', _, hsib⟩ := s.parent hnp.1
  rw [hsib.nodeAt, valAt_of hsib]
  rfl

theorem pathSet_fuel (F : Forest H) (hn : F.numLeaves ≤ 2 ^ 63) (targets : List Pos) :
    (pathSet F targets).length < calcFuel targets.length (H8 (forestRows F.numLeaves)) := by
  have := length_pathSet_le F targets
  unfold calcFuel
  rw [show F.rows = forestRows F.numLeaves from rfl] at this
  rw [toNat_H8 (forestRows_small hn), Nat.succ_mul]
  omega

/-- `dh` is the `delHashes` argument: the target hashes must be the valuation of the target leaves
(the leaf hashes for `Verify`, zero for the deletion pass). -/
theorem calc_generic {F : Forest H} (hn : F.numLeaves ≤ 2 ^ 63)
    (hnz : ∀ a b : H, ph a b ≠ (zero : H)) (hlive : ∀ l ∈ F.liveLeaves, l ≠ (zero : H))
    {L : List H} {targets : List Pos} {hashes : List H} (hnd : L.Nodup)
    (hc : F.canon L = some (targets, hashes))
    (f : CTree H → H) (hf : ∀ a b : CTree H, Good a → Good b → f (.node a b) = comb (f a) (f b))
    (hout : ∀ c ∈ pathSet F targets, isRootPos F.numLeaves c = false → sib c ∉ pathSet F targets →
      ∀ h s', SubAtT F h (sib c) s' → f s' = s'.hash)
    (dh : Option (List H))
    (hdh : (match dh with
      | some hs => hs
      | none => (targets.map (E F.rows)).map (fun _ => zero)) = targets.map (valAt f F))
    (junk : List H) :
    ∃ r : CalcResult H,
      calculateHashes (BitVec.ofNat 64 F.numLeaves) dh (targets.map (E F.rows)) (hashes ++ junk) =
        .ok r ∧
      r.roots = ((pathSet F targets).filter (isRootPos F.numLeaves)).map (valAt f F) ∧
      r.rootRows = ((pathSet F targets).filter (isRootPos F.numLeaves)).map (fun p => H8 p.1) ∧
      r.nodes = (pathSet F targets).map (G F.numLeaves (valAt f F)) := by
  have tok := canon_targetsOK hc
  have h := Plan.calc hn (spec_plan tok hn hnz hlive f hf hout) (fun p => by simp [isTarget])
    (canon_targets_nodup hc hnd) (fun t ht => targets_sub_pathSet tok ht) (pathSet_fuel F hn targets)
    dh hdh junk
  rw [show Plan.proof F.numLeaves (pathSet F targets) (valAt CTree.hash F) = hashes from
    (canon_proof hc).symm] at h
  exact ⟨_, h, rfl, rfl, rfl⟩

end
end UtreexoVerif.Proofs.SpecPlan
