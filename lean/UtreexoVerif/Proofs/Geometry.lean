/-
  The position encoding `Spec.enc` as `uint64` (`encU h r o`; on a pair, `encP H p`), row counts as
  `uint8` (`H8`), and the `Nat`-level content of the bit tricks of utils.go: parent / children, `k` rows
  up and down, `DetectRow` on arbitrary 64-bit values (`Lead p h r`: `r` ones from digit `h` downwards),
  `TreeRows` against `Spec.forestRows`.  At the end `ValidH H p`, the hypothesis under which the other
  files use `encP H p`, with its closure under the moves.
-/
import UtreexoVerif.Proofs.Bits
import UtreexoVerif.Spec.Forest
import UtreexoVerif.Model.Utils

namespace UtreexoVerif.Proofs
open UtreexoVerif.GoInt

/-- the `uint64` holding position `(r, o)` of a forest allocated for `h` rows -/
def encU (h r o : Nat) : U64 := BitVec.ofNat 64 (Spec.enc h (r, o))

def encP (H : Nat) (p : Spec.Pos) : U64 := encU H p.1 p.2

/-- a row count as Go's `uint8` -/
abbrev H8 (h : Nat) : U8 := BitVec.ofNat 8 h

theorem U8_eq_H8 (r : U8) : r = H8 r.toNat :=
  ((BitVec.ofNat_toNat 8 r).trans (BitVec.setWidth_eq r)).symm

theorem H8_sub {a b : Nat} (ha : a ≤ 255) (hb : b ≤ a) : H8 a - H8 b = H8 (a - b) :=
  BitVec.ofNat_sub_ofNat_of_le a b (by omega) hb

theorem H8_inj {a b : Nat} (ha : a ≤ 255) (hb : b ≤ 255) (h : H8 a = H8 b) : a = b := by
  have := congrArg BitVec.toNat h
  rwa [toNat_H8_le ha, toNat_H8_le hb] at this

theorem H8_lt_iff {a b : Nat} (ha : a ≤ 255) (hb : b ≤ 255) : (H8 a < H8 b) ↔ a < b := by
  rw [BitVec.lt_def, BitVec.toNat_ofNat, BitVec.toNat_ofNat]; omega

theorem H8_le_iff {a b : Nat} (ha : a ≤ 255) (hb : b ≤ 255) : (H8 a ≤ H8 b) ↔ a ≤ b := by
  rw [BitVec.le_def, BitVec.toNat_ofNat, BitVec.toNat_ofNat]; omega

theorem H8_beq_zero_eq {a : Nat} (ha : a ≤ 255) : (H8 a == 0#8) = decide (a = 0) := by
  rw [U8_beq_zero, toNat_H8_le ha]

theorem ofInt_natCast (k : Nat) : ofInt 8 (k : Int) = H8 k := by
  unfold ofInt; rw [BitVec.ofInt_natCast]

theorem toNat_conv64_U8 (a : U8) : (conv 64 a : U64).toNat = a.toNat := by
  unfold conv
  rw [BitVec.toNat_setWidth]
  have := a.isLt
  omega

theorem enc_val (h r o : Nat) : Spec.enc h (r, o) = 2 ^ (h + 1) - 2 ^ (h + 1 - r) + o := rfl


/- The code in depth form: `h = a + r`, `a` offset bits below `r` ones and a zero.  Three laws
(shift left, shift right, ones in front) from which the arithmetic of every bit trick follows;
in this form no exponent is a difference (`enc_mul` and the `_nat` identities below keep `h + 1 - r`). -/

theorem pow_pred_add (r k : Nat) : 2 ^ r * (2 ^ k - 1) + (2 ^ r - 1) = 2 ^ (r + k) - 1 := by
  rw [Nat.pow_add, Nat.mul_sub_one,
    Nat.sub_add_sub_cancel (Nat.le_mul_of_pos_right _ (Nat.two_pow_pos k)) (Nat.two_pow_pos r)]

theorem enc_depth (a r o : Nat) : Spec.enc (a + r) (r, o) = 2 ^ (a + 1) * (2 ^ r - 1) + o := by
  show 2 ^ (a + r + 1) - 2 ^ (a + r + 1 - r) + o = _
  rw [show a + r + 1 - r = a + 1 by omega, show a + r + 1 = (a + 1) + r by omega,
    Nat.pow_add 2 (a + 1) r, Nat.mul_sub_one]

theorem enc_depth_lt {a r o : Nat} (ho : o < 2 ^ (a + 1)) :
    Spec.enc (a + r) (r, o) < 2 ^ (a + 1) * 2 ^ r := by
  have := Nat.le_mul_of_pos_right (2 ^ (a + 1)) (Nat.two_pow_pos r)
  rw [enc_depth, Nat.mul_sub_one]
  omega

theorem enc_shl (a r o k : Nat) :
    Spec.enc (a + r) (r, o) * 2 ^ k = Spec.enc (a + k + r) (r, o * 2 ^ k) := by
  rw [enc_depth, enc_depth, Nat.add_mul, show a + k + 1 = (a + 1) + k by omega,
    Nat.pow_add 2 (a + 1) k, Nat.mul_right_comm]

theorem enc_shr (a r o k : Nat) :
    Spec.enc (a + k + r) (r, o) / 2 ^ k = Spec.enc (a + r) (r, o / 2 ^ k) := by
  rw [enc_depth, enc_depth, show a + k + 1 = k + (a + 1) by omega, Nat.pow_add 2 k (a + 1),
    Nat.mul_assoc, Nat.mul_add_div (Nat.two_pow_pos k)]

/-- `k` ones in front of the code of `(r, o)` are the code of `(r + k, o)` -/
theorem enc_nest (a r o k : Nat) :
    Spec.enc (a + r + k) (k, Spec.enc (a + r) (r, o)) = Spec.enc (a + r + k) (r + k, o) := by
  rw [enc_depth, enc_depth, Nat.add_assoc a r k, enc_depth, ← pow_pred_add, Nat.mul_add,
    ← Nat.mul_assoc, ← Nat.pow_add, Nat.add_right_comm a 1 r, Nat.add_assoc (_ * _)]

/-- shifting the code of `(s + k, o)` left by `k` pushes `k` of the leading ones out -/
theorem enc_shl_out (a s o k : Nat) :
    Spec.enc (a + s + k) (s + k, o) * 2 ^ k =
      2 ^ (a + s + k + 1) * (2 ^ k - 1) + Spec.enc (a + k + s) (s, o * 2 ^ k) := by
  rw [← enc_nest a s o k, enc_depth (a + s) k, Nat.add_mul, enc_shl,
    Nat.mul_right_comm, ← Nat.pow_add, Nat.add_right_comm (a + s) 1 k]

theorem one_front {H y : Nat} (hy : y < 2 ^ H) : 2 ^ H ||| y = Spec.enc H (1, y) := by
  show _ = 2 ^ (H + 1) - 2 ^ (H + 1 - 1) + y
  rw [Nat.or_comm, two_pow_or_eq_add hy, Nat.add_sub_cancel, Nat.pow_succ, Nat.mul_two,
    Nat.add_sub_cancel]

/-- the linear facts about the powers of two occurring in `enc h (r, o)` -/
theorem enc_facts {h r : Nat} (hr : r ≤ h) :
    2 ^ (h + 1 - r) = 2 * 2 ^ (h - r) ∧ 2 ^ (h + 1 - r) ≤ 2 ^ (h + 1) ∧ 0 < 2 ^ (h - r) ∧
      2 ^ (h + 1) = 2 * 2 ^ h ∧ 2 ^ (h - r) ≤ 2 ^ h := by
  refine ⟨?_, two_pow_le_of_le (by omega), Nat.two_pow_pos _, two_pow_succ' h,
    two_pow_le_of_le (by omega)⟩
  rw [show h + 1 - r = (h - r) + 1 by omega, two_pow_succ']

theorem enc_facts_succ {h r : Nat} (hr : r < h) :
    2 ^ (h - r) = 2 * 2 ^ (h - (r + 1)) ∧ 2 ^ (h + 1 - (r + 1)) = 2 ^ (h - r) ∧
      0 < 2 ^ (h - (r + 1)) := by
  refine ⟨?_, by rw [show h + 1 - (r + 1) = h - r by omega], Nat.two_pow_pos _⟩
  rw [show h - r = (h - (r + 1)) + 1 by omega, two_pow_succ']

theorem enc_lt_aux {h r o : Nat} (hr : r ≤ h) (ho : o < 2 ^ (h - r)) :
    Spec.enc h (r, o) < 2 ^ (h + 1) - 1 := by
  have := enc_facts hr
  rw [enc_val]; omega

theorem enc_lt_64 {h r o : Nat} (hh : h ≤ 63) (hr : r ≤ h) (ho : o < 2 ^ (h - r)) :
    Spec.enc h (r, o) < 2 ^ 64 := by
  have h1 := enc_lt_aux hr ho
  have h2 : 2 ^ (h + 1) ≤ 2 ^ 64 := two_pow_le_of_le (by omega)
  omega

theorem toNat_encU {h r o : Nat} (hh : h ≤ 63) (hr : r ≤ h) (ho : o < 2 ^ (h - r)) :
    (encU h r o).toNat = Spec.enc h (r, o) :=
  toNat_ofNat64_of_lt (enc_lt_64 hh hr ho)

theorem encU_row_zero (h o : Nat) : encU h 0 o = BitVec.ofNat 64 o := by
  unfold encU
  rw [enc_val, Nat.sub_zero, Nat.sub_self, Nat.zero_add]

theorem enc_row_lt {h r o r' o' : Nat} (hr' : r' ≤ h) (ho : o < 2 ^ (h - r)) (hlt : r < r') :
    Spec.enc h (r, o) < Spec.enc h (r', o') := by
  have f := enc_facts (show r ≤ h by omega)
  have g : 2 ^ (h + 1 - r') ≤ 2 ^ (h - r) := two_pow_le_of_le (by omega)
  have g' : 2 ^ (h + 1 - r') ≤ 2 ^ (h + 1) := two_pow_le_of_le (by omega)
  rw [enc_val, enc_val]; omega

/-- `r` one bits, then a zero bit, then `o` -/
theorem enc_mul {h r : Nat} (hr : r ≤ h) (o : Nat) :
    Spec.enc h (r, o) = 2 ^ (h + 1 - r) * (2 ^ r - 1) + o := by
  rw [enc_val, Nat.mul_sub_one, ← two_pow_split (show r ≤ h + 1 by omega)]

theorem enc_testBit {h r o : Nat} (hr : r ≤ h) (ho : o < 2 ^ (h - r)) (j : Nat) :
    (Spec.enc h (r, o)).testBit j =
      if j < h + 1 - r then o.testBit j else decide (j - (h + 1 - r) < r) := by
  have f := enc_facts hr
  rw [enc_mul hr, Nat.testBit_two_pow_mul_add _ (by omega), Nat.testBit_two_pow_sub_one]

theorem enc_testBit_above {h r o k : Nat} (hr : r ≤ h) (ho : o < 2 ^ (h - r)) (hk : k < r) :
    (Spec.enc h (r, o)).testBit (h - k) = true := by
  rw [enc_testBit hr ho, if_neg (by omega)]
  simp; omega

theorem enc_testBit_row {h r o : Nat} (hr : r ≤ h) (ho : o < 2 ^ (h - r)) :
    (Spec.enc h (r, o)).testBit (h - r) = false := by
  rw [enc_testBit hr ho, if_pos (by omega)]
  exact Nat.testBit_lt_two_pow ho

theorem enc_div_two_pow {h r o k : Nat} (hr : r + k ≤ h) :
    2 ^ (h + 1) - 2 ^ (h + 1 - k) + Spec.enc h (r, o) / 2 ^ k = Spec.enc h (r + k, o / 2 ^ k) := by
  obtain ⟨a, rfl⟩ : ∃ a, h = a + k + r := ⟨h - (r + k), by omega⟩
  rw [enc_shr, Nat.add_right_comm a k r]
  exact enc_nest a r _ k

theorem mul_two_pow_lt {h r o k : Nat} (hr : r ≤ h) (hk : k ≤ r) (ho : o < 2 ^ (h - r)) :
    o * 2 ^ k < 2 ^ (h - (r - k)) := by
  rw [two_pow_split (show k ≤ h - (r - k) by omega), show h - (r - k) - k = h - r by omega]
  exact Nat.mul_lt_mul_of_pos_right ho (Nat.two_pow_pos _)

theorem childMany_nat {h r o k : Nat} (hr : r ≤ h) (hk : k ≤ r) (ho : o < 2 ^ (h - r)) :
    Spec.enc h (r, o) * 2 ^ k % 2 ^ (h + 1) = Spec.enc h (r - k, o * 2 ^ k) := by
  obtain ⟨a, rfl⟩ : ∃ a, h = a + r := ⟨h - r, by omega⟩
  obtain ⟨s, rfl⟩ : ∃ s, r = s + k := ⟨r - k, by omega⟩
  rw [Nat.add_sub_cancel] at ho
  have hlt : Spec.enc (a + k + s) (s, o * 2 ^ k) < 2 ^ (a + k + 1) * 2 ^ s :=
    enc_depth_lt (by
      rw [Nat.add_right_comm, Nat.pow_add]
      exact Nat.mul_lt_mul_of_pos_right (by rw [Nat.pow_succ]; omega) (Nat.two_pow_pos k))
  rw [← Nat.pow_add, show a + k + 1 + s = a + s + k + 1 by omega] at hlt
  rw [Nat.add_sub_cancel, ← Nat.add_assoc, enc_shl_out, Nat.mul_add_mod, Nat.mod_eq_of_lt hlt,
    Nat.add_right_comm a k s]

theorem parent_nat {h r o : Nat} (hr : r < h) (ho : o < 2 ^ (h - r)) :
    Spec.enc h (r, o) / 2 ^ 1 ||| 2 ^ h = Spec.enc h (r + 1, o / 2) := by
  have hlt : Spec.enc h (r, o) / 2 ^ 1 < 2 ^ h := by
    have := enc_lt_aux (show r ≤ h by omega) ho
    rw [two_pow_succ' h] at this
    omega
  have e := enc_div_two_pow (o := o) (show r + 1 ≤ h from hr)
  rw [Nat.add_sub_cancel, two_pow_succ' h] at e
  rw [two_pow_or_eq_add hlt, ← e, Nat.pow_one]
  omega

theorem leftChild_nat {h r o : Nat} (hr : r < h) (ho : o < 2 ^ (h - (r + 1))) :
    Spec.enc h (r + 1, o) * 2 ^ 1 % 2 ^ (h + 1) = Spec.enc h (r, 2 * o) := by
  rw [childMany_nat (show r + 1 ≤ h from hr) (Nat.le_add_left 1 r) ho, Nat.add_sub_cancel, Nat.pow_one,
    Nat.mul_comm]

theorem enc_add (h r o : Nat) : Spec.enc h (r, o) = Spec.enc h (r, 0) + o := by
  rw [enc_val, enc_val]; omega

theorem enc_zero_two_mul {h r : Nat} (hr : r ≤ h) :
    Spec.enc h (r, 0) = 2 * (2 ^ (h - r) * (2 ^ r - 1)) := by
  rw [enc_mul hr, show h + 1 - r = (h - r) + 1 by omega, Nat.pow_succ, Nat.mul_comm _ 2,
    Nat.mul_assoc, Nat.add_zero]

theorem enc_even {h r o : Nat} (hr : r ≤ h) : Spec.enc h (r, o) % 2 = o % 2 := by
  rw [enc_add, enc_zero_two_mul hr, Nat.mul_add_mod]

theorem pred_mul_mod {M A : Nat} (hA : 0 < A) (hAM : A ≤ M) : (M - 1) * A % M = M - A := by
  obtain ⟨a, rfl⟩ : ∃ a, A = a + 1 := ⟨A - 1, by omega⟩
  have e : (M - 1) * (a + 1) = M * a + (M - (a + 1)) := by
    rw [Nat.sub_mul, Nat.mul_add, Nat.mul_one, Nat.one_mul]
    have : a + 1 ≤ M * a + M := by
      have : a ≤ M * a := Nat.le_mul_of_pos_left a (by omega)
      omega
    omega
  rw [e, Nat.mul_add_mod]
  by_cases h : a + 1 = M
  · subst h; simp
  · exact Nat.mod_eq_of_lt (by omega)

theorem leftChild_encU {h r o : Nat} (hh : h ≤ 63) (hr : r < h) (ho : o < 2 ^ (h - (r + 1))) :
    Model.LeftChild (encU h (r + 1) o) (H8 h) = encU h r (2 * o) := by
  apply BitVec.eq_of_toNat_eq
  have ho' : 2 * o < 2 ^ (h - r) := by have := enc_facts_succ hr; omega
  show (shl (encU h (r + 1) o) 1 &&& (shl 2#64 (H8 h).toNat - 1#64)).toNat = _
  rw [toNat_H8 hh, toNat_shl_and_mask hh, toNat_encU hh (by omega) ho,
    toNat_encU hh (by omega) ho', leftChild_nat hr ho]

theorem rightChild_encU {h r o : Nat} (hh : h ≤ 63) (hr : r < h) (ho : o < 2 ^ (h - (r + 1))) :
    Model.RightChild (encU h (r + 1) o) (H8 h) = encU h r (2 * o + 1) := by
  show Model.LeftChild (encU h (r + 1) o) (H8 h) ||| 1#64 = _
  rw [leftChild_encU hh hr ho, encU, show (1#64 : U64) = BitVec.ofNat 64 1 from rfl,
    ← BitVec.ofNat_or, enc_add h r (2 * o), enc_zero_two_mul (by omega), or_one_two_mul_add,
    ← enc_zero_two_mul (by omega), ← enc_add, Nat.mul_div_cancel_left _ (by decide)]
  rfl

/-- digits `h, h - 1, …` of `p` are `r` ones, then a zero; for `r = h + 1` all of digits `0..h` are
ones and no zero is asked for -/
def Lead (p : U64) (h r : Nat) : Prop :=
  (∀ k, k < r → p.getLsbD (h - k) = true) ∧ (r ≤ h → p.getLsbD (h - r) = false)

theorem detectRow_run {p : U64} {h : Nat} (hh : h ≤ 63) :
    ∀ (d k fuel : Nat), k + d ≤ h → (∀ k', k ≤ k' → k' < k + d → p.getLsbD (h - k') = true) →
      Model.DetectRow.loop1 p (fuel + d) (BitVec.twoPow 64 (h - k)) (BitVec.ofNat 8 k) =
        Model.DetectRow.loop1 p fuel (BitVec.twoPow 64 (h - (k + d))) (BitVec.ofNat 8 (k + d))
  | 0, _, _, _, _ => rfl
  | d + 1, k, fuel, hk, hb => by
    rw [← Nat.add_assoc, Model.DetectRow.loop1, and_twoPow_ne_zero _ (by omega),
      hb k (Nat.le_refl k) (by omega)]
    simp only [if_true]
    rw [show h - k = (h - (k + 1)) + 1 by omega, twoPow_shr_one (by omega), BitVec.ofNat_add_ofNat,
      detectRow_run hh d (k + 1) fuel (by omega) (fun k' h1 h2 => hb k' (by omega) (by omega)),
      Nat.add_assoc, Nat.add_comm 1 d]

/-- `DetectRow p tr` is the number `r` of leading ones of `p` from bit `h = tr` downwards; with all
of bits `0..h` set the marker runs out and the answer is `h + 1`.  (300 is the fuel the model gives
`DetectRow.loop1`; `r + 1`, resp. `h + 2`, rounds are used.) -/
theorem detectRow_of_lead {p : U64} {tr : U8} {h r : Nat} (htr : tr.toNat = h) (hh : h ≤ 63)
    (hr : r ≤ h + 1) (hL : Lead p h r) : Model.DetectRow p tr = BitVec.ofNat 8 r := by
  unfold Model.DetectRow
  simp only [htr, one_shl_eq_twoPow]
  by_cases hrh : r ≤ h
  · have run := detectRow_run hh r 0 (300 - r) (by omega) (fun k' _ h2 => hL.1 k' (by omega))
    rw [show 300 - r + r = 300 by omega, Nat.sub_zero, Nat.zero_add] at run
    rw [run, show 300 - r = (299 - r) + 1 by omega, Model.DetectRow.loop1,
      and_twoPow_ne_zero _ (by omega), hL.2 hrh]
    rfl
  · have hr' : r = h + 1 := by omega
    subst hr'
    have run := detectRow_run hh h 0 (300 - h) (by omega) (fun k' _ h2 => hL.1 k' (by omega))
    rw [show 300 - h + h = 300 by omega, Nat.sub_zero, Nat.zero_add, Nat.sub_self] at run
    rw [run, show 300 - h = (298 - h) + 1 + 1 by omega, Model.DetectRow.loop1,
      and_twoPow_ne_zero _ (by omega)]
    have := hL.1 h (by omega)
    rw [Nat.sub_self] at this
    have e : shr (BitVec.twoPow 64 0) 1 = 0#64 := by decide
    rw [this, Model.DetectRow.loop1, e, BitVec.and_zero, BitVec.ofNat_add_ofNat]
    rfl

theorem lead_encU {h r o : Nat} (hh : h ≤ 63) (hr : r ≤ h) (ho : o < 2 ^ (h - r)) :
    Lead (encU h r o) h r :=
  ⟨fun k hk => by rw [encU, getLsbD_ofNat64 (by omega), enc_testBit_above hr ho hk],
   fun _ => by rw [encU, getLsbD_ofNat64 (by omega), enc_testBit_row hr ho]⟩

theorem treeRows_toNat (n : U64) : (Model.TreeRows n).toNat = Spec.forestRows n.toNat := by
  unfold Model.TreeRows Spec.forestRows
  rw [beq_zero_eq]
  by_cases h0 : n.toNat = 0
  · rw [h0]; rfl
  · have hsub := toNat_sub_one h0
    rw [decide_eq_false h0]
    simp only [Bool.false_eq_true, if_false]
    unfold len64 ofInt
    by_cases h1 : n.toNat = 1
    · have : n - 1#64 = 0#64 := BitVec.eq_of_toNat_eq (by rw [hsub, h1]; rfl)
      rw [this, if_pos rfl, if_pos (by omega)]; rfl
    · have hne : n - 1#64 ≠ 0#64 := fun hc => by
        have := congrArg BitVec.toNat hc
        rw [hsub] at this
        exact h1 (by have : n.toNat - 1 = 0 := this; omega)
      have hlog : (n.toNat - 1).log2 < 64 :=
        (Nat.log2_lt (by omega)).2 (by have := n.isLt; omega)
      rw [if_neg hne, if_neg (by omega), hsub, BitVec.ofInt_natCast, BitVec.toNat_ofNat]
      omega

theorem forestRows_spec_le (n : Nat) : n ≤ 2 ^ Spec.forestRows n := by
  unfold Spec.forestRows
  split
  · omega
  · have := @Nat.lt_log2_self (n - 1)
    omega

theorem forestRows_le {n k : Nat} (h : n ≤ 2 ^ k) : Spec.forestRows n ≤ k := by
  unfold Spec.forestRows
  split
  · omega
  · have : (n - 1).log2 < k := (Nat.log2_lt (by omega)).2 (by have := Nat.two_pow_pos k; omega)
    omega

theorem forestRows_small {N : Nat} (hN : N ≤ 2 ^ 63) : Spec.forestRows N ≤ 63 := forestRows_le hN

theorem treeRows_ofNat {N : Nat} (hN : N ≤ 2 ^ 63) :
    Model.TreeRows (BitVec.ofNat 64 N) = H8 (Spec.forestRows N) := by
  apply BitVec.eq_of_toNat_eq
  rw [treeRows_toNat, toNat_ofNat64_of_lt (by omega), toNat_H8 (forestRows_small hN)]

/-- `p` is a position of a forest allocated for `H` rows: its row exists and its offset lies on it -/
def ValidH (H : Nat) (p : Spec.Pos) : Prop := p.1 ≤ H ∧ p.2 < 2 ^ (H - p.1)

namespace ValidH
variable {H : Nat} {p : Spec.Pos}

theorem depth (hp : ValidH H p) : ∃ a, H = a + p.1 ∧ p.2 < 2 ^ a :=
  ⟨H - p.1, by have := hp.1; omega, hp.2⟩

theorem of_depth {a : Nat} {p : Spec.Pos} (h : p.2 < 2 ^ a) : ValidH (a + p.1) p :=
  ⟨Nat.le_add_left _ _, by rwa [Nat.add_sub_cancel]⟩

theorem mono {H' : Nat} (hp : ValidH H p) (hH : H ≤ H') : ValidH H' p :=
  ⟨Nat.le_trans hp.1 hH, Nat.lt_of_lt_of_le hp.2 (two_pow_le_of_le (by have := hp.1; omega))⟩

theorem up (hp : ValidH H p) {k : Nat} (hk : p.1 + k ≤ H) : ValidH H (p.1 + k, p.2 / 2 ^ k) := by
  obtain ⟨a, rfl, h⟩ := hp.depth
  obtain ⟨b, rfl⟩ : ∃ b, a = b + k := ⟨a - k, by omega⟩
  rw [Nat.add_assoc, Nat.add_comm k]
  exact of_depth (p := (p.1 + k, _)) (Nat.div_lt_of_lt_mul (by rwa [Nat.mul_comm, ← Nat.pow_add]))

theorem parent (hp : ValidH H p) (hlt : p.1 < H) : ValidH H (Spec.parent p) := by
  have := hp.up (k := 1) hlt
  rwa [Nat.pow_one] at this

theorem child (hp : ValidH H p) (h1 : 1 ≤ p.1) {b : Nat} (hb : b < 2) :
    ValidH H (p.1 - 1, 2 * p.2 + b) := by
  obtain ⟨a, rfl, h⟩ := hp.depth
  obtain ⟨r, hr⟩ : ∃ r, p.1 = r + 1 := ⟨p.1 - 1, by omega⟩
  rw [hr, Nat.add_sub_cancel, ← Nat.add_assoc, Nat.add_right_comm]
  exact of_depth (p := (r, _)) (by rw [Nat.pow_succ]; omega)

theorem sib (hp : ValidH H p) (hlt : p.1 < H) : ValidH H (Spec.sib p) :=
  ⟨hp.1, by
    have h2 := hp.2
    have g := enc_facts_succ hlt
    show (if p.2 % 2 = 0 then p.2 + 1 else p.2 - 1) < 2 ^ (H - p.1)
    split <;> omega⟩

end ValidH

end UtreexoVerif.Proofs
