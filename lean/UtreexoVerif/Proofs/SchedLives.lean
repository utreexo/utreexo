/-
  The Array-fold tables `Spec.Sched.lives h` (starts / birth / death) characterised by the
  recursive slot-list semantics `SchedSem.stateAt` (property C15).
-/
import UtreexoVerif.Proofs.SchedSem

namespace UtreexoVerif.Proofs.SchedLives
open Spec.Sched UtreexoVerif.Proofs.SchedSem

/-- the number of leaves added before block `t`.  The same number is `(lives h).before t`
(`before_pre`) and the length of the slot list `stateAt h t` (`stateAt_length_pre`); the lemmas on
the tables of `lives` are stated with `pre`, those on slot lists with the length. -/
def pre (h : History) (t : Nat) : Nat := ((h.take t).map (·.numAdds)).sum

theorem pre_zero (h : History) : pre h 0 = 0 := by simp [pre]

theorem pre_nil (t : Nat) : pre [] t = 0 := by simp [pre]

theorem pre_cons_succ (b : Block) (h : History) (t : Nat) : pre (b :: h) (t + 1) = b.numAdds + pre h t := by
  simp [pre]

theorem pre_succ {h : History} {t : Nat} {b : Block} (hb : h[t]? = some b) :
    pre h (t + 1) = pre h t + b.numAdds := by
  unfold pre
  rw [List.take_add_one, hb]
  simp

theorem pre_of_ge {h : History} {t : Nat} (ht : h.length ≤ t) : pre h t = total h := by
  unfold pre total
  rw [List.take_of_length_le ht]

theorem pre_length (h : History) : pre h h.length = total h := pre_of_ge (Nat.le_refl _)

theorem pre_mono (h : History) {t t' : Nat} (htt : t ≤ t') : pre h t ≤ pre h t' := by
  induction htt with
  | refl => exact Nat.le_refl _
  | step _ ih =>
    rename_i m _
    cases hb : h[m]? with
    | some b => rw [pre_succ hb]; omega
    | none =>
      have hl : h.length ≤ m := List.getElem?_eq_none_iff.mp hb
      rw [pre_of_ge (by omega : h.length ≤ m + 1), ← pre_of_ge hl]
      exact ih

theorem pre_le_total (h : History) (t : Nat) : pre h t ≤ total h := by
  rcases Nat.le_total t h.length with hle | hge
  · rw [← pre_length]; exact pre_mono h hle
  · rw [pre_of_ge hge]; exact Nat.le_refl _

theorem stateAt_zero (h : History) : stateAt h 0 = [] := by simp [stateAt]

theorem stateAt_succ {h : History} {t : Nat} {b : Block} (hb : h[t]? = some b) :
    stateAt h (t + 1) = stepS (stateAt h t) b := by
  unfold stateAt
  rw [List.take_add_one, hb]
  simp [List.foldl_append]

theorem stateAt_of_ge {h : History} {t : Nat} (ht : h.length ≤ t) : stateAt h t = stateAt h h.length := by
  unfold stateAt
  rw [List.take_of_length_le ht, List.take_of_length_le (Nat.le_refl _)]

theorem kill_length (S : List (Option Nat)) (D : List Nat) : (kill S D).length = S.length := by
  simp [kill]

theorem fresh_length (n k : Nat) : (fresh n k).length = k := by simp [fresh]

theorem stepS_length (S : List (Option Nat)) (b : Block) : (stepS S b).length = S.length + b.numAdds := by
  simp [stepS, midS, kill_length, fresh_length]

theorem kill_getElem? (S : List (Option Nat)) (D : List Nat) (i x : Nat) :
    (kill S D)[i]? = some (some x) ↔ S[i]? = some (some x) ∧ x ∉ D := by
  unfold kill
  rw [List.getElem?_map]
  cases hS : S[i]? with
  | none => simp
  | some o =>
    cases o with
    | none => simp
    | some y =>
      by_cases hy : y ∈ D
      · simp only [Option.map_some, hy, if_true]
        constructor
        · intro h; cases h
        · rintro ⟨h1, h2⟩; cases h1; exact absurd hy h2
      · simp only [Option.map_some, hy, if_false]
        constructor
        · intro h; cases h; exact ⟨rfl, hy⟩
        · rintro ⟨h1, _⟩; exact h1

theorem fresh_getElem? (n k i : Nat) : (fresh n k)[i]? = if i < k then some (some (n + i)) else none := by
  unfold fresh
  rw [List.getElem?_map]
  by_cases hik : i < k
  · rw [List.getElem?_range hik, if_pos hik]; rfl
  · rw [List.getElem?_eq_none (by simpa using hik), if_neg hik]; rfl

theorem stepS_getElem? (S : List (Option Nat)) (b : Block) (i x : Nat) :
    (stepS S b)[i]? = some (some x) ↔
      (S[i]? = some (some x) ∧ x ∉ b.delSlots) ∨ (S.length ≤ i ∧ i < S.length + b.numAdds ∧ x = i) := by
  unfold stepS midS
  rcases Nat.lt_or_ge i S.length with hlt | hge
  · rw [List.getElem?_append_left (by rw [kill_length]; exact hlt), kill_getElem?]
    constructor
    · intro h; exact Or.inl h
    · rintro (h | h)
      · exact h
      · omega
  · rw [List.getElem?_append_right (by rw [kill_length]; exact hge), kill_length, fresh_getElem?]
    have hnone : S[i]? = none := List.getElem?_eq_none hge
    constructor
    · intro h
      split at h
      · right
        have : S.length + (i - S.length) = x := by simpa using h
        omega
      · cases h
    · rintro (h | ⟨_, h2, h3⟩)
      · rw [hnone] at h; cases h.1
      · rw [if_pos (by omega)]
        subst h3
        congr 2
        omega

theorem canon_of_all {S : List (Option Nat)}
    (h : (S.zipIdx.all fun p => p.1 == none || p.1 == some p.2) = true) : Canon S := by
  intro i x hx
  have := List.all_eq_true.mp h (some x, i) (List.mem_zipIdx_iff_getElem?.mpr hx)
  simpa using this

theorem stepS_canon {S : List (Option Nat)} (hS : Canon S) (b : Block) : Canon (stepS S b) := by
  intro i x hx
  rcases (stepS_getElem? S b i x).mp hx with h | h
  · exact hS i x h.1
  · exact h.2.2

theorem foldl_stepS_canon : ∀ (l : List Block) (S : List (Option Nat)), Canon S → Canon (l.foldl stepS S) := by
  intro l
  induction l with
  | nil => intro S hS; exact hS
  | cons b l ih => intro S hS; exact ih _ (stepS_canon hS b)

theorem stateAt_canon (h : History) (t : Nat) : Canon (stateAt h t) := by
  unfold stateAt
  apply foldl_stepS_canon
  intro i x hx
  simp at hx

theorem foldl_stepS_length : ∀ (l : List Block) (S : List (Option Nat)),
    (l.foldl stepS S).length = S.length + (l.map (·.numAdds)).sum := by
  intro l
  induction l with
  | nil => intro S; simp
  | cons b l ih =>
    intro S
    simp only [List.foldl_cons, List.map_cons, List.sum_cons]
    rw [ih, stepS_length]
    omega

theorem stateAt_length_pre (h : History) (t : Nat) : (stateAt h t).length = pre h t := by
  unfold stateAt pre
  rw [foldl_stepS_length]
  simp

theorem stateAt_length_mono (h : History) {t t' : Nat} (htt : t ≤ t') :
    (stateAt h t).length ≤ (stateAt h t').length := by
  rw [stateAt_length_pre, stateAt_length_pre]
  exact pre_mono h htt

theorem live_succ {h : History} {t : Nat} {b : Block} (hb : h[t]? = some b) (s : Nat) :
    Live (stateAt h (t + 1)) s ↔
      (Live (stateAt h t) s ∧ s ∉ b.delSlots) ∨
        ((stateAt h t).length ≤ s ∧ s < (stateAt h (t + 1)).length) := by
  unfold Live
  rw [stateAt_succ hb, stepS_getElem?, stepS_length]
  constructor
  · rintro (h1 | ⟨h1, h2, _⟩)
    · exact Or.inl h1
    · exact Or.inr ⟨h1, h2⟩
  · rintro (h1 | ⟨h1, h2⟩)
    · exact Or.inl h1
    · exact Or.inr ⟨h1, h2, rfl⟩

theorem live_lt {S : List (Option Nat)} {s : Nat} (hl : Live S s) : s < S.length := by
  unfold Live at hl
  exact (List.getElem?_eq_some_iff.mp hl).1

/-- the conclusion is `pre h t' ≤ s`, not `False`: a block naming a slot that does not exist yet has
no effect on the slot list -/
theorem live_iff (h : History) (t s : Nat) :
    Live (stateAt h t) s ↔
      s < pre h t ∧ ∀ t' b, t' < t → h[t']? = some b → s ∈ b.delSlots → pre h t' ≤ s := by
  induction t with
  | zero =>
    rw [stateAt_zero, pre_zero]
    constructor
    · intro hl; exact absurd (live_lt hl) (by simp)
    · rintro ⟨h1, _⟩; omega
  | succ t ih =>
    cases hb : h[t]? with
    | none =>
      have hl : h.length ≤ t := List.getElem?_eq_none_iff.mp hb
      rw [stateAt_of_ge (by omega : h.length ≤ t + 1), ← stateAt_of_ge hl, ih,
        pre_of_ge (by omega : h.length ≤ t + 1), pre_of_ge hl]
      constructor
      · rintro ⟨h1, h2⟩
        refine ⟨h1, ?_⟩
        intro t' b' ht' hb'
        have : t' < h.length := (List.getElem?_eq_some_iff.mp hb').1
        exact h2 t' b' (by omega) hb'
      · rintro ⟨h1, h2⟩
        exact ⟨h1, fun t' b' ht' hb' => h2 t' b' (by omega) hb'⟩
    | some b =>
      rw [live_succ hb, ih, stateAt_length_pre, stateAt_length_pre, pre_succ hb]
      constructor
      · rintro (⟨⟨h1, h2⟩, h3⟩ | ⟨h1, h2⟩)
        · refine ⟨by omega, ?_⟩
          intro t' b' ht' hb' hmem
          rcases Nat.lt_or_ge t' t with hlt | hge
          · exact h2 t' b' hlt hb' hmem
          · have : t' = t := by omega
            subst this
            rw [hb] at hb'; cases hb'
            exact absurd hmem h3
        · refine ⟨h2, ?_⟩
          intro t' b' ht' hb' hmem
          have := pre_mono h (by omega : t' ≤ t)
          omega
      · rintro ⟨h1, h2⟩
        rcases Nat.lt_or_ge s (pre h t) with hlt | hge
        · left
          refine ⟨⟨hlt, fun t' b' ht' hb' => h2 t' b' (by omega) hb'⟩, ?_⟩
          intro hmem
          have := h2 t b (by omega) hb hmem
          omega
        · right; exact ⟨hge, h1⟩

/-- the principle behind the three tables of `lives` (left folds over the numbered blocks): an
invariant indexed by the number of blocks already consumed -/
theorem foldl_zipIdx_inv {β : Type} (h : History) (f : β → Block × Nat → β) (P : Nat → β → Prop)
    (hstep : ∀ k b acc, h[k]? = some b → P k acc → P (k + 1) (f acc (b, k))) :
    ∀ acc, P 0 acc → P h.length (h.zipIdx.foldl f acc) := by
  have key : ∀ (rest pre : List Block) (acc : β), h = pre ++ rest → P pre.length acc →
      P h.length ((rest.zipIdx pre.length).foldl f acc) := by
    intro rest
    induction rest with
    | nil => intro pre acc hh hp; subst hh; simpa using hp
    | cons b rest ih =>
      intro pre acc hh hp
      have hb : h[pre.length]? = some b := by subst hh; simp
      have := ih (pre ++ [b]) (f acc (b, pre.length)) (by simp [hh])
        (by simpa using hstep _ _ _ hb hp)
      simpa [List.zipIdx_cons] using this
  intro acc hp
  exact key h [] acc rfl hp

/-- the same for the fold over the blocks without numbers (`starts`) -/
theorem foldl_zipIdx_inv' {β : Type} (h : History) (f : β → Block → β) (P : Nat → β → Prop)
    (hstep : ∀ k b acc, h[k]? = some b → P k acc → P (k + 1) (f acc b)) :
    ∀ acc, P 0 acc → P h.length (h.foldl f acc) := by
  intro acc hp
  have := foldl_zipIdx_inv h (fun a bt => f a bt.1) P hstep acc hp
  rwa [show h.zipIdx.foldl (fun a bt => f a bt.1) acc = h.foldl f acc from by
    rw [← List.foldl_map (f := Prod.fst) (g := f)]; simp] at this

theorem starts_toList (h : History) :
    (lives h).starts.toList = (List.range (h.length + 1)).map (pre h) := by
  let P : Nat → Array Nat → Prop := fun k acc => acc.toList = (List.range (k + 1)).map (pre h)
  show P h.length (lives h).starts
  unfold lives
  refine foldl_zipIdx_inv' h _ P ?_ _ (by simp [P, pre_zero])
  intro k b acc hb hacc
  have hback : acc.back? = some (pre h k) := by
    rw [Array.back?_eq_getElem?, ← Array.getElem?_toList, ← Array.length_toList, hacc]
    simp
  show (acc.push _).toList = _
  rw [Array.toList_push, hacc, hback, List.range_succ (n := k + 1), List.map_append]
  simp [pre_succ hb]

theorem starts_getElem? (h : History) (t : Nat) :
    (lives h).starts[t]? = if t ≤ h.length then some (pre h t) else none := by
  rw [← Array.getElem?_toList, starts_toList, List.getElem?_map]
  by_cases ht : t ≤ h.length
  · rw [List.getElem?_range (by omega), if_pos ht]; rfl
  · rw [List.getElem?_eq_none (by simp; omega), if_neg ht]; rfl

theorem starts_back (h : History) : (lives h).starts.back? = some (total h) := by
  rw [Array.back?_eq_getElem?]
  have hs : (lives h).starts.size = h.length + 1 := by
    rw [← Array.length_toList, starts_toList]; simp
  rw [hs, starts_getElem?]
  simp [pre_length]

theorem before_pre (h : History) (t : Nat) : (lives h).before t = pre h t := by
  unfold Lives.before
  rw [starts_getElem?, starts_back]
  by_cases ht : t ≤ h.length
  · simp [ht]
  · simp [ht, pre_of_ge (by omega : h.length ≤ t)]

theorem before_eq (h : History) (t : Nat) : (lives h).before t = (stateAt h t).length := by
  rw [before_pre, stateAt_length_pre]

theorem birth_inv (h : History) :
    (lives h).birth.size = pre h h.length ∧
      ∀ s t, (lives h).birth[s]? = some t → t < h.length ∧ pre h t ≤ s ∧ s < pre h (t + 1) := by
  let P : Nat → Array Nat → Prop := fun k acc =>
    acc.size = pre h k ∧ ∀ s t, acc[s]? = some t → t < k ∧ pre h t ≤ s ∧ s < pre h (t + 1)
  show P h.length (lives h).birth
  unfold lives
  refine foldl_zipIdx_inv h _ P ?_ _ ⟨by simp [pre_zero], by intro s t hst; simp at hst⟩
  rintro k b acc hb ⟨hsz, hacc⟩
  refine ⟨by simp [hsz, pre_succ hb], ?_⟩
  intro s t hst
  rw [Array.getElem?_append] at hst
  split at hst
  · obtain ⟨h1, h2⟩ := hacc s t hst
    exact ⟨by omega, h2⟩
  · rename_i hge
    rw [Array.getElem?_replicate] at hst
    split at hst
    · rename_i hlt
      cases hst
      dsimp only at hlt ⊢
      rw [pre_succ hb]
      exact ⟨by omega, by omega, by omega⟩
    · cases hst

theorem birth_sound {h : History} {s t : Nat} (hb : (lives h).birth? s = some t) :
    t < h.length ∧ pre h t ≤ s ∧ s < pre h (t + 1) := (birth_inv h).2 s t hb

theorem total_eq (h : History) : (lives h).total = total h ∧ total h = (stateAt h h.length).length := by
  refine ⟨?_, by rw [stateAt_length_pre, pre_length]⟩
  unfold Lives.total
  rw [(birth_inv h).1, pre_length]

/-- the step of the death fold of `lives` for one deleted slot of block `d` -/
def mark (d : Nat) (acc : Array (Option Nat)) (s : Nat) : Array (Option Nat) :=
  match acc[s]? with
  | some none => acc.set! s (some d)
  | _ => acc

theorem mark_getElem? (d : Nat) (acc : Array (Option Nat)) (x s : Nat) :
    (mark d acc x)[s]? = if s = x ∧ acc[s]? = some none then some (some d) else acc[s]? := by
  unfold mark
  split
  · rename_i hx
    have hlt : x < acc.size := (Array.getElem?_eq_some_iff.mp hx).1
    rw [Array.set!_eq_setIfInBounds, Array.getElem?_setIfInBounds]
    by_cases hsx : s = x
    · subst hsx
      have hn : acc[s] = none := (Array.getElem?_eq_some_iff.mp hx).2
      simp [hlt, hn]
    · have : ¬ x = s := fun h => hsx h.symm
      simp [hsx, this]
  · rename_i hx
    by_cases hsx : s = x
    · subst hsx
      have : ¬ acc[s]? = some none := fun h => hx h
      simp [this]
    · simp [hsx]

/-- for any history; the converse is what `wellFormed` checks (`death_iff`) -/
theorem death_sound (h : History) (s d : Nat) (hd : (lives h).death? s = some d) :
    ∃ b, h[d]? = some b ∧ s ∈ b.delSlots := by
  let P : Nat → Array (Option Nat) → Prop := fun _ acc =>
    ∀ s d, acc[s]? = some (some d) → ∃ b : Block, h[d]? = some b ∧ s ∈ b.delSlots
  have hP : P h.length (lives h).death := by
    unfold lives
    refine foldl_zipIdx_inv h _ P ?_ _ ?_
    · intro k b acc hb hacc
      refine List.foldlRecOn (motive := P (k + 1)) b.delSlots _ hacc ?_
      intro acc' hacc' x hx s d hsd
      change (mark k acc' x)[s]? = some (some d) at hsd
      rw [mark_getElem?] at hsd
      split at hsd
      · rename_i hc
        cases hsd
        exact ⟨b, hb, hc.1 ▸ hx⟩
      · exact hacc' s d hsd
    · intro s d hsd
      rw [Array.getElem?_replicate] at hsd
      split at hsd <;> cases hsd
  unfold Lives.death? at hd
  cases hx : (lives h).death[s]? with
  | none => rw [hx] at hd; cases hd
  | some o =>
    rw [hx] at hd
    simp only [Option.getD_some] at hd
    subst hd
    exact hP s d hx

theorem wf_block {h : History} (hw : wellFormed h = true) {t : Nat} {b : Block} (hb : h[t]? = some b) :
    b.delSlots.eraseDups.length = b.delSlots.length ∧
      ∀ s ∈ b.delSlots, (lives h).aliveBefore t s = true ∧ (lives h).death? s = some t := by
  unfold wellFormed at hw
  simp only [List.all_eq_true] at hw
  have := hw (b, t) (List.mem_zipIdx_iff_getElem?.mpr hb)
  simp only [Bool.and_eq_true, beq_iff_eq, List.all_eq_true] at this
  exact ⟨this.1, fun s hs => this.2 s hs⟩

theorem death_iff {h : History} (hw : wellFormed h = true) (s d : Nat) :
    (lives h).death? s = some d ↔ ∃ b, h[d]? = some b ∧ s ∈ b.delSlots :=
  ⟨death_sound h s d, fun ⟨_, h2, h3⟩ => ((wf_block hw h2).2 s h3).2⟩

theorem del_unique {h : History} (hw : wellFormed h = true) {s d d' : Nat} {b b' : Block}
    (hb : h[d]? = some b) (hs : s ∈ b.delSlots) (hb' : h[d']? = some b') (hs' : s ∈ b'.delSlots) : d = d' := by
  have h1 := (death_iff hw s d).mpr ⟨b, hb, hs⟩
  have h2 := (death_iff hw s d').mpr ⟨b', hb', hs'⟩
  rw [h1] at h2
  exact Option.some.inj h2

theorem del_lt {h : History} (hw : wellFormed h = true) {s d : Nat} {b : Block}
    (hb : h[d]? = some b) (hs : s ∈ b.delSlots) : s < (stateAt h d).length := by
  have := ((wf_block hw hb).2 s hs).1
  unfold Lives.aliveBefore at this
  simp only [Bool.and_eq_true, decide_eq_true_eq] at this
  rw [← before_eq]
  exact this.1

theorem alive_iff {h : History} (hw : wellFormed h = true) (t s : Nat) :
    (lives h).aliveBefore t s = true ↔ Live (stateAt h t) s := by
  rw [live_iff]
  unfold Lives.aliveBefore
  simp only [Bool.and_eq_true, decide_eq_true_eq, before_pre]
  constructor
  · rintro ⟨h1, h2⟩
    refine ⟨h1, ?_⟩
    intro t' b ht' hb hs
    have hd := (death_iff hw s t').mpr ⟨b, hb, hs⟩
    rw [hd] at h2
    simp only [decide_eq_true_eq] at h2
    omega
  · rintro ⟨h1, h2⟩
    refine ⟨h1, ?_⟩
    cases hd : (lives h).death? s with
    | none => rfl
    | some d =>
      simp only [decide_eq_true_eq]
      obtain ⟨b, hb, hs⟩ := (death_iff hw s d).mp hd
      rcases Nat.lt_or_ge d t with hlt | hge
      · have := h2 d b hlt hb hs
        have := del_lt hw hb hs
        rw [stateAt_length_pre] at this
        omega
      · exact hge

/-- `eraseDups` recurses through `filter`, hence the fuel `n` -/
theorem eraseDups_facts : ∀ (n : Nat) (l : List Nat), l.length ≤ n →
    l.eraseDups.Nodup ∧ l.eraseDups.length ≤ l.length ∧ (l.eraseDups.length = l.length → l.Nodup) := by
  intro n
  induction n with
  | zero =>
    intro l hl
    rw [List.eq_nil_of_length_eq_zero (Nat.le_zero.mp hl)]
    simp
  | succ n ih =>
    intro l hl
    cases l with
    | nil => simp
    | cons a l =>
      have h1 : (l.filter (fun b => !b == a)).length ≤ l.length := List.length_filter_le _ _
      simp only [List.length_cons] at hl
      obtain ⟨i1, i2, _⟩ := ih (l.filter (fun b => !b == a)) (by omega)
      rw [List.eraseDups_cons]
      simp only [List.length_cons]
      refine ⟨List.nodup_cons.mpr ⟨?_, i1⟩, by omega, fun he => ?_⟩
      · intro ha
        rw [List.mem_eraseDups, List.mem_filter] at ha
        simp at ha
      · -- nothing was filtered out, so `a` does not occur in `l`
        have h3 : (l.filter (fun b => !b == a)).length = l.length := by omega
        have h4 := List.length_filter_eq_length_iff.mp h3
        rw [List.filter_eq_self.mpr h4] at he
        refine List.nodup_cons.mpr ⟨fun ha => ?_, (ih l (by omega)).2.2 (by omega)⟩
        have := h4 a ha
        simp at this

theorem eraseDups_nodup (l : List Nat) : l.eraseDups.Nodup := (eraseDups_facts _ l (Nat.le_refl _)).1

theorem wf_dels {h : History} (hw : wellFormed h = true) {t : Nat} {b : Block} (hb : h[t]? = some b) :
    b.delSlots.Nodup ∧ ∀ s ∈ b.delSlots, Live (stateAt h t) s := by
  obtain ⟨h1, h2⟩ := wf_block hw hb
  refine ⟨(eraseDups_facts _ _ (Nat.le_refl _)).2.2 h1, ?_⟩
  intro s hs
  exact (alive_iff hw t s).mp (h2 s hs).1

theorem block_facts {h : History} {B : Nat} (htot : total h ≤ B) {t : Nat} {b : Block} (hb : h[t]? = some b) :
    stateAt h (t + 1) = kill (stateAt h t) b.delSlots ++ fresh (stateAt h t).length b.numAdds ∧
    (stateAt h (t + 1)).length = (stateAt h t).length + b.numAdds ∧
    (stateAt h t).length + b.numAdds ≤ B := by
  have hsucc := stateAt_succ hb
  have hlen : (stateAt h (t + 1)).length = (stateAt h t).length + b.numAdds := by
    rw [hsucc]; exact stepS_length _ _
  refine ⟨by rw [hsucc]; rfl, hlen, ?_⟩
  rw [← hlen, stateAt_length_pre]
  exact Nat.le_trans (pre_le_total h _) htot

theorem flags_eq {h : History} (hw : wellFormed h = true) (t : Nat) :
    (List.range ((lives h).before t)).map ((lives h).aliveBefore t) = flags (stateAt h t) := by
  apply List.ext_getElem
  · simp [flags, before_eq]
  · intro i h1 h2
    simp only [List.length_map, List.length_range] at h1
    simp only [flags, List.getElem_map, List.getElem_range]
    rw [before_eq] at h1
    rw [Bool.eq_iff_iff, alive_iff hw t]
    unfold Live
    rw [List.getElem?_eq_getElem h1]
    constructor
    · intro hl
      rw [Option.some.inj hl]; rfl
    · intro hl
      cases hx : (stateAt h t)[i] with
      | none => rw [hx] at hl; cases hl
      | some x =>
        have := stateAt_canon h t i x (by rw [List.getElem?_eq_getElem h1, hx])
        rw [this]

/-- a well-formed three-block history on which the characterisations are not vacuous -/
example : wellFormed [⟨2, []⟩, ⟨1, [0]⟩, ⟨0, [2, 1]⟩] = true ∧
    stateAt [⟨2, []⟩, ⟨1, [0]⟩, ⟨0, [2, 1]⟩] 2 = [none, some 1, some 2] := by decide +kernel

end UtreexoVerif.Proofs.SchedLives
