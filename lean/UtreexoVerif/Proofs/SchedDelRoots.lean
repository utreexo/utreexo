/-
  Property C15: what `AddBlockSummary` does with the deletions of a block (`delRootInfo`, the
  translation of the targets to 63 rows) and the summaries of a well-formed history, decoded.
-/
import UtreexoVerif.Proofs.SchedLives
import UtreexoVerif.Proofs.SchedPos
import UtreexoVerif.Proofs.SchedDeTwin
import UtreexoVerif.Proofs.SchedAddU
import UtreexoVerif.Proofs.SchedUndoAdd
import UtreexoVerif.Props.C16d
import UtreexoVerif.Props.C15

namespace UtreexoVerif.Proofs.SchedDelRoots
open Spec Spec.Sched Model
open UtreexoVerif.Proofs.SchedSem
open UtreexoVerif.Proofs.SpecSubs UtreexoVerif.Proofs.CalcGeo
open UtreexoVerif.Proofs.Movement UtreexoVerif.Proofs.ChunkBridge UtreexoVerif.Proofs.CalcComplete
open UtreexoVerif.Proofs.SchedLives UtreexoVerif.Proofs.SchedPos UtreexoVerif.Proofs.SchedDeTwin

theorem foldl_mark : ∀ (L : List U64) (roots : List RootInfo),
    L.foldl (fun roots pos =>
        roots.map (fun root => if root.pos == pos then { root with isZombie := true } else root)) roots =
      roots.map (fun r => ({ r with isZombie := r.isZombie || L.contains r.pos } : RootInfo)) := by
  intro L
  induction L with
  | nil =>
    intro roots
    simp
  | cons a L ih =>
    intro roots
    rw [List.foldl_cons, ih, List.map_map]
    apply List.map_congr_left
    intro r _
    simp only [Function.comp, List.contains_cons]
    by_cases h : r.pos == a
    · simp [h]
    · simp [h]

theorem chunkAlive_kill_false_iff (S : List (Option Nat)) (D : List Nat) (l b : Nat) :
    chunkAlive (SchedSem.kill S D) l b = false ↔
      ∀ i x, b * 2 ^ l ≤ i → i < (b + 1) * 2 ^ l → S[i]? = some (some x) → x ∈ D := by
  rw [chunkAlive_eq_false_iff]
  constructor
  · intro h i x h1 h2 hi
    apply Classical.byContradiction
    intro hx
    exact h i x h1 h2 ((kill_getElem? S D i x).2 ⟨hi, hx⟩)
  · intro h i x h1 h2 hi
    obtain ⟨h3, h4⟩ := (kill_getElem? S D i x).1 hi
    exact h4 (h i x h1 h2 h3)

theorem chunkAlive_kill_of_dead {S : List (Option Nat)} {l b : Nat} (D : List Nat)
    (h : chunkAlive S l b = false) : chunkAlive (SchedSem.kill S D) l b = false := by
  rw [chunkAlive_kill_false_iff]
  intro i x h1 h2 hi
  exact absurd hi ((chunkAlive_eq_false_iff S l b).1 h i x h1 h2)

theorem kill_nil (S : List (Option Nat)) : SchedSem.kill S [] = S := by
  unfold SchedSem.kill
  conv => rhs; rw [← List.map_id S]
  apply List.map_congr_left
  intro x _
  cases x <;> simp

theorem isDT_root_iff (S : List (Option Nat)) (D : List Nat) {h : Nat} (hn : S.length < 2 ^ 64)
    (hb : S.length.testBit h = true) {t : CTree Nat}
    (ht : chunk S h (2 * (S.length / 2 ^ (h + 1))) = some t) :
    IsDT (Forest.mk S) D (h, 2 * (S.length / 2 ^ (h + 1))) ↔ delT D t = none := by
  have sroot : SubAtT (Forest.mk S) h (h, 2 * (S.length / 2 ^ (h + 1))) t := by
    have := SubAtT.root (F := Forest.mk S) (h := h) (t0 := t) (SpecView.treeRows_mem_of_bit hn hb)
      (by rw [tree_eq_chunk]; exact ht)
    rw [rootPos_eq] at this
    exact this
  constructor
  · rintro ⟨h', t', s', hd, _⟩
    rw [← (s'.unique sroot).2]
    exact hd
  · intro hd
    exact ⟨h, t, sroot, hd, Or.inl rfl⟩

theorem root_dies_iff (S : List (Option Nat)) (D : List Nat) {h : Nat} (hn : S.length < 2 ^ 64)
    (hb : S.length.testBit h = true)
    (hal : chunkAlive S h (2 * (S.length / 2 ^ (h + 1))) = true) :
    IsDT (Forest.mk S) D (h, 2 * (S.length / 2 ^ (h + 1))) ↔
      chunkAlive (SchedSem.kill S D) h (2 * (S.length / 2 ^ (h + 1))) = false := by
  cases ht : chunk S h (2 * (S.length / 2 ^ (h + 1))) with
  | none => unfold chunkAlive at hal; rw [ht] at hal; cases hal
  | some t =>
    rw [isDT_root_iff S D hn hb ht, delT_eq_none_iff, chunkAlive_kill_false_iff]
    constructor
    · intro hall i x h1 h2 hi
      exact hall x ((chunk_leaves_iff S ht x).2 ⟨i, h1, h2, hi⟩)
    · intro hall x hx
      obtain ⟨i, h1, h2, hi⟩ := (chunk_leaves_iff S ht x).1 hx
      exact hall i x h1 h2 hi

/-- For any list `rows` of tree rows; the records are `SchedRoots.rootAt S h` and, up to `kill_length`,
`rootAt (kill S D) h`, written out because `SchedRoots` is not imported here (`SchedTrack.rootsOf_kill`).
Of the bound `2^62` (see `SchedUndoAdd.htd_of_tdok`) this file uses `S.length ≤ 2^63`. -/
theorem delRootInfo_spec (S : List (Option Nat)) (hc : Canon S) (hn : S.length ≤ 2 ^ 62)
    (D : List Nat) (hD : D.Nodup) (hlive : ∀ s ∈ D, Live S s) (rows : List Nat)
    (hrows : ∀ h ∈ rows, S.length.testBit h = true) :
    Model.delRootInfo (H8 63)
        (rows.map fun h => ({ pos := E 63 (h, 2 * (S.length / 2 ^ (h + 1))),
                              isZombie := !Spec.chunkAlive S h (2 * (S.length / 2 ^ (h + 1))) } : Model.RootInfo))
        (D.map fun s => E 63 (posS S s)) =
      rows.map fun h => ({ pos := E 63 (h, 2 * (S.length / 2 ^ (h + 1))),
                           isZombie := !Spec.chunkAlive (SchedSem.kill S D) h (2 * (S.length / 2 ^ (h + 1))) } : Model.RootInfo) := by
  have hn64 : S.length < 2 ^ 64 := by omega
  by_cases hD0 : D = []
  · subst hD0
    simp [Model.delRootInfo, kill_nil]
  · have hne : (D.map fun s => E 63 (posS S s)).isEmpty = false := by
      cases D with
      | nil => exact absurd rfl hD0
      | cons a D' => rfl
    unfold Model.delRootInfo
    rw [hne]
    simp only [Bool.false_eq_true, if_false]
    obtain ⟨dtp, h1, _, h3, _⟩ := deTwin_slots hc hn hD hlive
    rw [h1, foldl_mark, List.map_map]
    apply List.map_congr_left
    intro h hh
    have hb := hrows h hh
    have h62 : h ≤ 62 := Nat.le_of_lt_succ (testBit_lt_of_lt (show S.length < 2 ^ 63 by omega) hb)
    have hv := SchedAddU.root_valid (n := S.length) (j := h) (by omega) h62
    have hdv : ∀ p ∈ dtp, ValidH 63 p := by
      intro p hp
      obtain ⟨h', t, s, _⟩ := (h3 p).1 hp
      exact ValidH.mono s.inF.valid
        (forestRows_small (N := (Forest.mk S).numLeaves) (by show S.length ≤ 2 ^ 63; omega))
    have hmem : (dtp.map (E 63)).contains (E 63 (h, 2 * (S.length / 2 ^ (h + 1)))) = true ↔
        IsDT (Forest.mk S) D (h, 2 * (S.length / 2 ^ (h + 1))) := by
      rw [List.contains_iff_mem, List.mem_map, ← h3]
      constructor
      · rintro ⟨p, hp, he⟩
        rw [← encP_inj (Nat.le_refl 63) (hdv p hp) hv he]
        exact hp
      · intro hp
        exact ⟨_, hp, rfl⟩
    simp only [Function.comp]
    congr 1
    cases hal : chunkAlive S h (2 * (S.length / 2 ^ (h + 1))) with
    | false =>
      rw [chunkAlive_kill_of_dead D hal]
      simp
    | true =>
      have hr := root_dies_iff S D hn64 hb hal
      simp only [Bool.not_true, Bool.false_or]
      rw [Bool.eq_iff_iff, hmem, hr]
      simp

theorem translate_targets (S : List (Option Nat)) (hn : S.length ≤ 2 ^ 62) (D : List Nat)
    (hD : ∀ s ∈ D, s < S.length) :
    Model.translatePositions (D.map fun s => E (forestRows S.length) (posS S s))
        (Model.TreeRows (BitVec.ofNat 64 S.length)) Model.CSTTotalRows =
      D.map fun s => E 63 (posS S s) := by
  have hn63 : S.length ≤ 2 ^ 63 := by omega
  rw [treeRows_ofNat hn63, show Model.CSTTotalRows = H8 63 from rfl]
  have := Props.C16.translatePositions_enc (H := forestRows S.length) (H' := 63) (forestRows_small hn63)
    (Nat.le_refl _) (D.map (posS S)) (by
      intro p hp
      obtain ⟨s, hs, rfl⟩ := List.mem_map.1 hp
      obtain ⟨h1, h2⟩ := posS_valid hn63 (hD s hs)
      exact ⟨h2, h1⟩)
  rw [List.map_map, List.map_map] at this
  exact this

theorem targetOf_eq {h : History} (hw : wellFormed h = true) (htot : total h ≤ 2 ^ 62) {t : Nat}
    {b : Block} (hb : h[t]? = some b) {s : Nat} (hs : s ∈ b.delSlots) :
    (lives h).targetOf t s =
      some (Spec.enc (forestRows (stateAt h t).length) (posS (stateAt h t) s)) := by
  have hl := (wf_dels hw hb).2 s hs
  have hlen : (stateAt h t).length < 2 ^ 64 := by
    have := pre_le_total h t
    rw [stateAt_length_pre]
    omega
  unfold Lives.targetOf
  simp only
  rw [flags_eq hw t, before_eq, slotPos_flags hlen hl]
  rfl

/-- the summary of block `bt.1`, the `bt.2`-th of `h` -/
def summ (h : History) (bt : Block × Nat) : List U64 × U16 :=
  (bt.1.delSlots.map (fun s => E (forestRows (stateAt h bt.2).length) (posS (stateAt h bt.2) s)),
    BitVec.ofNat 16 bt.1.numAdds)

theorem summaries_some {h : History} (hw : wellFormed h = true) (htot : total h ≤ 2 ^ 62) :
    Props.C15.summariesOf h = some (h.zipIdx.map (summ h)) := by
  unfold Props.C15.summariesOf
  simp only
  apply ListFacts.mapM_of_forall
  intro bt hbt
  have hb : h[bt.2]? = some bt.1 := List.mem_zipIdx_iff_getElem?.1 hbt
  rw [ListFacts.mapM_of_forall _ (fun s => Spec.enc (forestRows (stateAt h bt.2).length) (posS (stateAt h bt.2) s))
    bt.1.delSlots (fun s hs => targetOf_eq hw htot hb hs)]
  simp only [bind, Option.bind, pure, List.map_map]
  rfl

theorem summaries_spec {h : History} {blocks : List (List U64 × Model.U16)}
    (hw : wellFormed h = true) (htot : total h ≤ 2 ^ 62)
    (hs : Props.C15.summariesOf h = some blocks) :
    blocks = h.zipIdx.map (summ h) := by
  rw [summaries_some hw htot] at hs
  exact (Option.some.inj hs).symm

namespace Example

/-- seven slots (trees on rows 2, 1, 0), slots 1 and 4 dead -/
def exS : List (Option Nat) := [some 0, none, some 2, some 3, none, some 5, some 6]

theorem exCanon : Canon exS := SchedLives.canon_of_all (by decide)

theorem exLive : ∀ s ∈ [5, 0], Live exS s := by
  intro s hs
  simp only [List.mem_cons, List.not_mem_nil, or_false] at hs
  rcases hs with rfl | rfl <;> (unfold Live; decide)

example :
    Model.delRootInfo (H8 63)
        ([2, 1, 0].map fun h =>
          ({ pos := E 63 (h, 2 * (exS.length / 2 ^ (h + 1))),
             isZombie := !Spec.chunkAlive exS h (2 * (exS.length / 2 ^ (h + 1))) } : Model.RootInfo))
        ([5, 0].map fun s => E 63 (posS exS s)) =
      [2, 1, 0].map fun h =>
          ({ pos := E 63 (h, 2 * (exS.length / 2 ^ (h + 1))),
             isZombie := !Spec.chunkAlive (SchedSem.kill exS [5, 0]) h (2 * (exS.length / 2 ^ (h + 1))) } : Model.RootInfo) :=
  delRootInfo_spec exS exCanon (by decide) [5, 0] (by decide) exLive [2, 1, 0] (by decide)

/-- its right-hand side evaluated: the tree on row 1 (slots 4, 5) dies, the other two survive; and
the Go function computes just that -/
example :
    ([2, 1, 0].map fun h =>
          ({ pos := E 63 (h, 2 * (exS.length / 2 ^ (h + 1))),
             isZombie := !Spec.chunkAlive (SchedSem.kill exS [5, 0]) h (2 * (exS.length / 2 ^ (h + 1))) } : Model.RootInfo)) =
      [⟨E 63 (2, 0), false⟩, ⟨E 63 (1, 2), true⟩, ⟨E 63 (0, 6), false⟩] ∧
    Model.delRootInfo (H8 63)
        [⟨E 63 (2, 0), false⟩, ⟨E 63 (1, 2), false⟩, ⟨E 63 (0, 6), false⟩]
        ([5, 0].map fun s => E 63 (posS exS s)) =
      [⟨E 63 (2, 0), false⟩, ⟨E 63 (1, 2), true⟩, ⟨E 63 (0, 6), false⟩] := by decide +kernel

/-- `translate_targets` on `exS` (`forestRows 7 = 3`): slot 0 stands at `(1, 0)` (its sibling is
dead), slot 5 is the root `(1, 2)` of its tree -/
example :
    Model.translatePositions ([5, 0].map fun s => E (forestRows exS.length) (posS exS s))
        (Model.TreeRows (BitVec.ofNat 64 exS.length)) Model.CSTTotalRows =
      [5, 0].map fun s => E 63 (posS exS s) :=
  translate_targets exS (by decide) [5, 0] (by decide)

example : ([5, 0].map fun s => E (forestRows exS.length) (posS exS s)) = [10#64, 8#64] ∧
    ([5, 0].map fun s => E 63 (posS exS s)) = [9223372036854775810#64, 9223372036854775808#64] := by
  decide +kernel

/-- a well-formed three-block history: block 1 deletes slot 0, block 2 deletes slots 2 and 1 -/
def exH : History := [⟨2, []⟩, ⟨1, [0]⟩, ⟨0, [2, 1]⟩]

theorem exWF : wellFormed exH = true ∧ total exH ≤ 2 ^ 62 := by decide +kernel

example : Props.C15.summariesOf exH = some (exH.zipIdx.map fun (bt : Block × Nat) =>
      (bt.1.delSlots.map (fun s => E (forestRows (stateAt exH bt.2).length) (posS (stateAt exH bt.2) s)),
        BitVec.ofNat 16 bt.1.numAdds)) :=
  summaries_some exWF.1 exWF.2

/-- the decoded summaries, concretely: block 1 names position 0 of a 2-leaf forest (1 row),
block 2 names positions 2 and 4 (= `(1, 0)`: slot 1 moved up, slot 0 being dead) of a 3-leaf
forest (2 rows) -/
example : (exH.zipIdx.map fun (bt : Block × Nat) =>
      (bt.1.delSlots.map (fun s => E (forestRows (stateAt exH bt.2).length) (posS (stateAt exH bt.2) s)),
        (BitVec.ofNat 16 bt.1.numAdds : Model.U16))) =
    [([], 2#16), ([0#64], 1#16), ([2#64, 4#64], 0#16)] := by decide +kernel

end Example

#print axioms delRootInfo_spec
#print axioms summaries_some
#print axioms summaries_spec
#print axioms translate_targets

end UtreexoVerif.Proofs.SchedDelRoots
