/-
  What makes an `IsNode` pair believable: the chunk-level description of nodes (`IsNode`, used by
  the C11 specification) agrees with
  `Spec.Forest.nodes`: every `IsNode` pair is a node of the forest at that position.  With
  Proofs/NodesUnique this gives: a hash occurs at one position only, and a position holds one
  hash only.
-/
import UtreexoVerif.Proofs.ChunkBridge
import UtreexoVerif.Proofs.NodesUnique

namespace UtreexoVerif.Spec
open Hasher

variable {H : Type} [DecidableEq H] [Hasher H]

theorem isNode_mem_nodes (S : List (Option H)) (hS : S.length < 2 ^ 64) {pos : Pos} {h : H}
    (hn : IsNode S (pos, h)) : ∃ lf, (pos, h, lf) ∈ (Forest.mk S).nodes := by
  obtain ⟨T, l, b, hin, h4, h5⟩ := hn
  unfold chunkAlive at h4
  cases ht : chunk S l b with
  | none => rw [ht] at h4; cases h4
  | some t =>
    have hm := (Proofs.ChunkBridge.subAtT_of_chunk S hS hin ht).node_mem
    rw [(Prod.mk.inj h5).1, (Prod.mk.inj h5).2]
    unfold chunkHash
    rw [ht]
    exact ⟨_, hm⟩

theorem isNode_functional_nd (nz : NZ H) (S : List (Option H)) (hS : S.length < 2 ^ 64)
    (hnz : ∀ x : H, some x ∈ S → x ≠ (zero : H)) (hd : NodesDistinct (Forest.mk S))
    (p p' : Pos) (h : H) (h1 : IsNode S (p, h)) (h2 : IsNode S (p', h)) : p = p' := by
  obtain ⟨lf, hm⟩ := isNode_mem_nodes S hS h1
  obtain ⟨lf', hm'⟩ := isNode_mem_nodes S hS h2
  have hne : h ≠ zero := by
    obtain ⟨T, l, b, _, ha, he⟩ := h1
    have := (Prod.mk.inj he).2
    rw [this]
    intro hz
    rw [chunkHash_eq_zero_iff nz.nonzero S hnz, ha] at hz
    cases hz
  exact (hd.unique hne hm hm').1

theorem isNode_functional (cr : CR H) (S : List (Option H)) (hS : S.length < 2 ^ 64)
    (hnd : (S.filterMap id).Nodup) (hleaf : ∀ x : H, some x ∈ S → ∀ a b : H, x ≠ ph a b)
    (hnz : ∀ x : H, some x ∈ S → x ≠ (zero : H)) (p p' : Pos) (h : H)
    (h1 : IsNode S (p, h)) (h2 : IsNode S (p', h)) : p = p' :=
  isNode_functional_nd cr.toNZ S hS hnz
    (nodesDistinct_of_CR cr (Forest.mk S) hnd
      (fun x hx a b => hleaf x (Forest.mem_liveLeaves.mp hx) a b)) p p' h h1 h2

theorem isNode_pos_unique (S : List (Option H)) (hS : S.length < 2 ^ 64) (p : Pos) (h h' : H)
    (h1 : IsNode S (p, h)) (h2 : IsNode S (p, h')) : h = h' := by
  obtain ⟨lf, hm⟩ := isNode_mem_nodes S hS h1
  obtain ⟨lf', hm'⟩ := isNode_mem_nodes S hS h2
  exact (nodes_pos_unique (Forest.mk S) p h h' lf lf' hm hm').1

end UtreexoVerif.Spec
