/-
  The `uint64` level of `calculateHashes` on encoded positions: everything the loop computes
  on a position `E p = encU rows p.1 p.2` (order, row cursor, root test, parent, sibling) in
  `(row, offset)` terms, for any `rows ≤ 63`; from `section cursor` on `rows = forestRows n`, `n ≤ 2^63`.
  The first part (`sib_sib` … `sib_gt_iff`) is about `Spec.Pos` alone.
-/
import UtreexoVerif.Proofs.SpecView
import UtreexoVerif.Props.C16b
import UtreexoVerif.Proofs.EncPos

namespace UtreexoVerif.Proofs.CalcGeo
open Spec Model
open UtreexoVerif.Proofs.Sorted

def E (rows : Nat) (p : Pos) : U64 := encU rows p.1 p.2

/-- `ValidH`, under the name the worked example of `Proofs/SchedPos.lean` states it with -/
abbrev Valid (rows : Nat) (p : Pos) : Prop := ValidH rows p

/-- a position inside the forest of `n` leaves -/
def InF (n : Nat) (p : Pos) : Prop := p.1 ≤ forestRows n ∧ p.2 < n >>> p.1

theorem shiftRight_le_pow {n rows r : Nat} (hn : n ≤ 2 ^ rows) (hr : r ≤ rows) :
    n >>> r ≤ 2 ^ (rows - r) := by
  rw [Nat.shiftRight_eq_div_pow]
  exact div_two_pow_le hr hn

theorem InF.valid {n : Nat} {p : Pos} (h : InF n p) : ValidH (forestRows n) p :=
  ⟨h.1, Nat.lt_of_lt_of_le h.2 (shiftRight_le_pow (forestRows_spec_le n) h.1)⟩

theorem parent_fst (p : Pos) : (parent p).1 = p.1 + 1 := rfl
theorem parent_snd (p : Pos) : (parent p).2 = p.2 / 2 := rfl
theorem sib_fst (p : Pos) : (sib p).1 = p.1 := rfl
theorem sib_snd (p : Pos) : (sib p).2 = if p.2 % 2 = 0 then p.2 + 1 else p.2 - 1 := rfl

theorem pos_cases (p : Pos) : (∃ q, p = (p.1, 2 * q)) ∨ ∃ q, p = (p.1, 2 * q + 1) := by
  obtain ⟨r, o⟩ := p
  rcases Nat.mod_two_eq_zero_or_one o with h | h
  · exact Or.inl ⟨o / 2, by simp only [Prod.mk.injEq, true_and]; omega⟩
  · exact Or.inr ⟨o / 2, by simp only [Prod.mk.injEq, true_and]; omega⟩

theorem sib_sib (p : Pos) : sib (sib p) = p := by
  rcases pos_cases p with ⟨q, h⟩ | ⟨q, h⟩
  · rw [h, sib_left_child, sib_right_child]
  · rw [h, sib_right_child, sib_left_child]

theorem sib_ne (p : Pos) : sib p ≠ p := by
  rcases pos_cases p with ⟨q, h⟩ | ⟨q, h⟩
  · rw [h, sib_left_child]
    exact fun e => by simp only [Prod.mk.injEq, true_and] at e; omega
  · rw [h, sib_right_child]
    exact fun e => by simp only [Prod.mk.injEq, true_and] at e; omega

theorem parent_sib (p : Pos) : parent (sib p) = parent p := by
  rcases pos_cases p with ⟨q, h⟩ | ⟨q, h⟩
  · rw [h, sib_left_child]
    simp only [parent, Prod.mk.injEq, true_and]; omega
  · rw [h, sib_right_child]
    simp only [parent, Prod.mk.injEq, true_and]; omega

theorem lt_parent (p : Pos) : PLt p (parent p) := Or.inl (by simp [parent])

theorem parent_ne_sib (p : Pos) : parent p ≠ sib p := by
  intro h
  have := congrArg Prod.fst h
  simp [parent, sib] at this

theorem parent_lt {m p : Pos} (h : PLt m p) (hs : p ≠ sib m) : PLt (parent m) (parent p) := by
  obtain ⟨r, o⟩ := m
  obtain ⟨r', o'⟩ := p
  unfold PLt parent at *
  unfold sib at hs
  simp only [ne_eq, Prod.mk.injEq, not_and] at hs
  simp only at h ⊢
  rcases h with h | ⟨h1, h2⟩
  · left; omega
  · right
    refine ⟨by omega, ?_⟩
    have := hs h1.symm
    split at this <;> omega

theorem lt_of_parent_lt {x y : Pos} (h : PLt (parent x) (parent y)) : PLt x y := by
  unfold PLt parent at h
  unfold PLt
  simp only at h
  omega

theorem sib_lt {a b : Pos} (h : PLt a b) (hs : b ≠ sib a) : PLt (sib a) (sib b) :=
  lt_of_parent_lt (by rw [parent_sib, parent_sib]; exact parent_lt h hs)

theorem parent_le_of_lt {m p : Pos} (h : PLt m p) : parent m = parent p ∨ PLt (parent m) (parent p) := by
  by_cases hs : p = sib m
  · left; rw [hs, parent_sib]
  · right; exact parent_lt h hs

theorem no_between {m q : Pos} (hm : m.2 % 2 = 0) (h1 : PLt m q) (h2 : PLt q (sib m)) : False := by
  obtain ⟨r, o⟩ := m
  obtain ⟨r', o'⟩ := q
  unfold PLt sib at *
  simp only at *
  rw [if_pos hm] at h2
  omega

theorem sib_gt_iff (m : Pos) : PLt m (sib m) ↔ m.2 % 2 = 0 := by
  obtain ⟨r, o⟩ := m
  show (r < r ∨ (r = r ∧ o < (if o % 2 = 0 then o + 1 else o - 1))) ↔ o % 2 = 0
  by_cases h : o % 2 = 0
  · rw [if_pos h]; omega
  · rw [if_neg h]; omega

theorem sib_root_not_inF {n : Nat} {m q : Pos} (hm : isRootPos n m = true) (hq : InF n q)
    (h : sib q = m) : False := by
  obtain ⟨r, o⟩ := q
  unfold isRootPos at hm
  simp only [Bool.and_eq_true, beq_iff_eq] at hm
  subst h
  simp only [sib] at hm
  have hb := div_two_pow_bit n r
  rw [← Nat.shiftRight_eq_div_pow, ← Nat.shiftRight_eq_div_pow, hm.1] at hb
  simp only [if_true] at hb
  have h2 := hq.2
  simp only at h2
  obtain ⟨_, hm2⟩ := hm
  split at hm2 <;> omega

theorem not_root_sib {n : Nat} {p : Pos} (hp : InF n p) : isRootPos n (sib p) = false := by
  cases h : isRootPos n (sib p) with
  | false => rfl
  | true => exact (sib_root_not_inF h hp rfl).elim

theorem E_toNat {rows : Nat} (hr : rows ≤ 63) {p : Pos} (hp : ValidH rows p) :
    (E rows p).toNat = Spec.enc rows p := toNat_encU hr hp.1 hp.2

theorem parent_E {rows : Nat} (hr : rows ≤ 63) {p : Pos} (hp : ValidH rows p) (hlt : p.1 < rows) :
    Parent (E rows p) (H8 rows) = E rows (parent p) :=
  Props.C16.parent_enc hr hlt hp.2

theorem rightOf_valid {rows : Nat} {p : Pos} (hp : ValidH rows p) (hlt : p.1 < rows) :
    ValidH rows (p.1, 2 * (p.2 / 2) + 1) :=
  ValidH.child (ValidH.parent hp hlt) (Nat.succ_le_succ (Nat.zero_le _)) (b := 1) (by omega)

theorem rightSib_E {rows : Nat} (hr : rows ≤ 63) {p : Pos} (hp : ValidH rows p) :
    rightSib (E rows p) = E rows (p.1, 2 * (p.2 / 2) + 1) :=
  Props.C16.rightSib_enc hr hp.1 hp.2

theorem isLeftNiece_E {rows : Nat} (hr : rows ≤ 63) {p : Pos} (hp : ValidH rows p) :
    isLeftNiece (E rows p) = decide (p.2 % 2 = 0) :=
  Props.C16.isLeftNiece_enc hr hp.1 hp.2

/-- the sibling test of `calculateHashes`: the queued element `q` is taken as the sibling of `m`
exactly when `m` is a left node and `q` its right sibling -/
theorem sibTest_E {rows : Nat} (hr : rows ≤ 63) {m q : Pos} (hm : ValidH rows m) (hq : ValidH rows q)
    (hlt : m.1 < rows) :
    (E rows m != E rows q && rightSib (E rows m) == E rows q) = true ↔
      (m.2 % 2 = 0 ∧ q = sib m) := by
  rw [Bool.and_eq_true, bne_iff_ne, beq_iff_eq, rightSib_E hr hm]
  constructor
  · rintro ⟨h1, h2⟩
    have e := encP_inj hr (rightOf_valid hm hlt) hq h2
    have hne : m ≠ q := fun e' => h1 (by rw [e'])
    subst e
    obtain ⟨r, o⟩ := m
    simp only [ne_eq, Prod.mk.injEq, true_and] at hne
    simp only at *
    have ho : o % 2 = 0 := by omega
    refine ⟨ho, ?_⟩
    unfold sib
    simp only [if_pos ho, Prod.mk.injEq, true_and]
    omega
  · rintro ⟨h1, rfl⟩
    have e : (m.1, 2 * (m.2 / 2) + 1) = sib m := by
      unfold sib
      rw [if_pos h1]
      simp only [Prod.mk.injEq, true_and]
      omega
    rw [e]
    refine ⟨fun h => ?_, rfl⟩
    exact sib_ne m (encP_inj hr hm hq h).symm

section cursor
variable {n : Nat} (hn : n ≤ 2 ^ 63)
include hn

theorem maxPositionAtRow_enc {r : Nat} (hr : r ≤ forestRows n) :
    (maxPositionAtRow (H8 r) (H8 (forestRows n)) (BitVec.ofNat 64 n)).1.toNat =
      Spec.enc (forestRows n) (r, n >>> r) - 1 := by
  have hle := forestRows_spec_le n
  have f := enc_facts hr
  have hlt : (BitVec.ofNat 64 n).toNat < 2 ^ (forestRows n + 1) := by
    rw [EncPos.toNat_N hn]; omega
  rw [Props.C16.maxPositionAtRow_enc (forestRows_small hn) hr _ hlt, EncPos.toNat_N hn,
    ← Nat.shiftRight_eq_div_pow]
  apply toNat_ofNat64_of_lt
  have hsh := shiftRight_le_pow hle hr
  have h64 : 2 ^ (forestRows n + 1) ≤ 2 ^ 64 := two_pow_le_of_le (by have := forestRows_small hn; omega)
  rw [enc_val]
  omega

theorem max_lt_E_iff {p : Pos} (hp : InF n p) {k : Nat} (hk : k ≤ forestRows n) :
    (maxPositionAtRow (H8 k) (H8 (forestRows n)) (BitVec.ofNat 64 n)).1 < E (forestRows n) p ↔
      k < p.1 := by
  obtain ⟨r, o⟩ := p
  have hv := hp.valid
  have ho : o < n >>> r := hp.2
  have hr : r ≤ forestRows n := hp.1
  have hsh := shiftRight_le_pow (forestRows_spec_le n) hk
  rw [BitVec.lt_def, maxPositionAtRow_enc hn hk, E_toNat (forestRows_small hn) hv, enc_add _ k (n >>> k),
    enc_add _ r o]
  generalize hx : n >>> k = x at hsh ⊢
  clear hn hp
  -- linear in the row starts `enc (k, 0)`, `enc (r, 0)`, which `enc_row_lt` orders
  rcases Nat.lt_trichotomy k r with hlt | rfl | hgt
  · have := enc_row_lt (o := 2 ^ (forestRows n - k) - 1) (o' := 0) hr
      (Nat.sub_lt (Nat.two_pow_pos _) Nat.one_pos) hlt
    rw [enc_add] at this
    refine iff_of_true ?_ hlt
    omega
  · rw [hx] at ho
    refine iff_of_false ?_ (Nat.lt_irrefl _)
    omega
  · have := enc_row_lt (o' := 0) hk hv.2 hgt
    rw [enc_add _ r o] at this
    refine iff_of_false ?_ (Nat.lt_asymm hgt)
    omega

theorem rowCursor_E {p : Pos} (hp : InF n p) :
    ∀ (d k fuel : Nat), k + d = p.1 → d < fuel →
      rowCursor (BitVec.ofNat 64 n) (H8 (forestRows n)) (E (forestRows n) p) fuel (H8 k) =
        .ok (H8 p.1) := by
  have htr := forestRows_small hn
  have hp1 := hp.1
  intro d
  induction d with
  | zero =>
    intro k fuel hk hf
    obtain ⟨f, rfl⟩ : ∃ f, fuel = f + 1 := ⟨fuel - 1, by omega⟩
    obtain rfl : k = p.1 := by omega
    unfold rowCursor
    rw [if_neg (fun h => Nat.lt_irrefl _ ((max_lt_E_iff hn hp hp1).1 h))]
  | succ d ih =>
    intro k fuel hk hf
    obtain ⟨f, rfl⟩ : ∃ f, fuel = f + 1 := ⟨fuel - 1, by omega⟩
    unfold rowCursor
    rw [if_pos ((max_lt_E_iff hn hp (by omega)).2 (by omega))]
    have hnot : ¬ (H8 (k + 1) > H8 (forestRows n)) := by
      show ¬ (_ < _)
      rw [BitVec.lt_def, toNat_H8 htr, toNat_H8 (by omega)]
      omega
    simp only
    rw [ofNat_add_one, if_neg hnot]
    exact ih (k + 1) f (by omega) (by omega)

theorem isRootPositionOnRow_E {p : Pos} (hp : InF n p) :
    isRootPositionOnRow (E (forestRows n) p) (BitVec.ofNat 64 n) (H8 p.1) = isRootPos n p := by
  have h63 : p.1 ≤ 63 := Nat.le_trans hp.1 (forestRows_small hn)
  rw [show E (forestRows n) p = encP (forestRows n) p from rfl,
    EncPos.isRootPositionOnRow_encP hn hp.valid, toNat_H8 h63, decide_eq_true rfl, Bool.true_and]

end cursor

end UtreexoVerif.Proofs.CalcGeo
