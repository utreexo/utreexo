/-
  Pointer forest, heap model: `getNode` / `getHash` on a heap that represents a specification
  forest is the look-up model `Model/PollardAbs.lean` (`pollardGetHashNiece`, proved equal to
  the specification look-up in `Props/C10.lean`).
-/
import UtreexoVerif.Proofs.PollardHeapSub
import UtreexoVerif.Proofs.PollardHeapRun
import UtreexoVerif.Proofs.PollardLookup
set_option linter.unusedSectionVars false

namespace UtreexoVerif.Proofs.PollardHeap
open UtreexoVerif.Model UtreexoVerif.Model.PollardHeap UtreexoVerif.Spec
open UtreexoVerif.Model.PollardAbs
open UtreexoVerif.Proofs.PollardLookup (nieceWalk_node)

variable {H : Type} [DecidableEq H] [Hasher H]

theorem getNodeLoop_deadEnd (k : Nat) (bits : U64) (n : Nat) (s par : Ptr) (st : Pollard H)
    (x : PolNode H) (e : st.heap[n]? = some x) (hl : x.lNiece = none) (hr : x.rNiece = none) :
    getNodeLoop (k + 1) bits n s par st = (.ok (none, none, none), st) := by
  unfold getNodeLoop
  simp only [bind_apply, node_apply, e, hl, hr, ite_self, pure_apply]

theorem getNodeLoop_step (k : Nat) (bits : U64) (n : Nat) (s par : Ptr) (st : Pollard H)
    (x : PolNode H) {l r : Nat} (e : st.heap[n]? = some x) (hl : x.lNiece = some l)
    (hr : x.rNiece = some r) :
    getNodeLoop (k + 1) bits n s par st =
      if leftNieceAt bits k then getNodeLoop k bits l (some r) s st
      else getNodeLoop k bits r (some l) s st := by
  rw [getNodeLoop]
  simp only [bind_apply, node_apply, e, hl, hr]
  by_cases hb : leftNieceAt bits k = true
  · rw [if_pos hb, if_pos hb]
  · rw [if_neg hb, if_neg hb]

/-- the loop of `getNode` on the heap follows `PollardAbs.nieceWalk` on the collapsed trees:
`n` carries `tn`, its sibling `s` carries `ts`, each one's children hang off the other -/
theorem getNodeLoop_walk {hp : Heap H} : ∀ (k : Nat) (bits : U64) (n s : Nat) (tn ts : CTree H)
    (fn fs : List Nat) (ln ls : List (H × Nat)) (par : Ptr) (st : Pollard H),
    st.heap = hp → Sub hp n s tn fn ln → Sub hp s n ts fs ls →
    ∃ res, getNodeLoop k bits n (some s) par st = (.ok res, st) ∧
      (match nieceWalk tn ts k bits with
       | none => res.1 = none
       | some t' => ∃ n' x, res.1 = some n' ∧ hp[n']? = some x ∧ x.data = t'.hash) := by
  intro k
  induction k with
  | zero =>
    intro bits n s tn ts fn fs ln ls par st hst sn ss
    obtain ⟨x, ex, dx⟩ := sn.hash
    exact ⟨(some n, some s, par), rfl, n, x, rfl, ex, dx⟩
  | succ k ih =>
    intro bits n s tn ts fn fs ln ls par st hst sn ss
    subst hst
    -- the nieces of `n` are the children of `s`
    cases ss with
    | leaf h1 h2 h3 h4 h5 =>
      exact ⟨(none, none, none), getNodeLoop_deadEnd k bits n _ par st _ h3 h4 h5, rfl⟩
    | node h1 h2 h3 h4 h5 h6 h7 h8 h9 sa sb =>
      rw [getNodeLoop_step k bits n _ par st _ h3 h4 h5, nieceWalk_node]
      by_cases hb : leftNieceAt bits k = true
      · rw [if_pos hb, if_pos hb]
        exact ih bits _ _ _ _ _ _ _ _ _ st rfl sa sb
      · rw [if_neg hb, if_neg hb]
        exact ih bits _ _ _ _ _ _ _ _ _ st rfl sb sa

theorem ReprRoots.getElem?_some {hp : Heap H} {rs : List Nat} {ts : List (Option (CTree H))}
    {owned : List Nat} {lv : List (H × Nat)} (h : ReprRoots hp rs ts owned lv) :
    ∀ {i r : Nat}, rs[i]? = some r → ∃ t fp l, ts[i]? = some t ∧ ReprRoot hp r t fp l := by
  induction h with
  | nil => intro i r h; cases h
  | cons a b ih =>
    intro i r h
    cases i with
    | zero => cases h; exact ⟨_, _, _, rfl, a⟩
    | succ i => exact ih h

theorem ReprRoots.getElem {hp : Heap H} {rs : List Nat} {ts : List (Option (CTree H))}
    {owned : List Nat} {lv : List (H × Nat)} (h : ReprRoots hp rs ts owned lv) :
    ∀ (i : Nat) (r : Nat) (t : Option (CTree H)), rs[i]? = some r → ts[i]? = some t →
    ∃ fp l, ReprRoot hp r t fp l := by
  intro i r t hr ht
  obtain ⟨t', fp, l, ht', hrep⟩ := h.getElem?_some hr
  cases ht.symm.trans ht'
  exact ⟨fp, l, hrep⟩

theorem treeRows_length_le (n : Nat) : (treeRows n).length ≤ 65 := by
  rw [Spec.treeRows_length]
  exact Nat.le_trans List.countP_le_length (by simp)

theorem u8_ge_ofNat {t : U8} {n : Nat} (hn : n < 256) : t ≥ BitVec.ofNat 8 n ↔ n ≤ t.toNat := by
  rw [ge_iff_le, BitVec.le_def, BitVec.toNat_ofNat, Nat.mod_eq_of_lt hn]

/-- `getNode` guard by guard, in the shape of `PollardAbs.getNodeHash`.  With fewer than 256
roots the `uint8` comparison `tree >= uint8(len(p.Roots))` is the bounds check of
`p.Roots[tree]`, so the index never panics. -/
theorem getNode_eq (pos : U64) {p : Pollard H} (hL : p.roots.length < 256) :
    getNode pos p =
      if decide (pos ≥ maxPosition (TreeRows p.numLeaves)) ||
          !inForest pos p.numLeaves (TreeRows p.numLeaves) then (.err, p)
      else
        match DetectOffset pos p.numLeaves with
        | (tree, branchLen, bits, e) =>
          if e then (.err, p)
          else
            match p.roots[tree.toNat]? with
            | none => (.err, p)
            | some r => getNodeLoop branchLen.toNat bits r (some r) none p := by
  unfold getNode
  simp only [bind_apply, getNumLeaves_apply, getRoots_apply]
  generalize (decide (pos ≥ maxPosition (TreeRows p.numLeaves)) || _) = g
  rcases DetectOffset pos p.numLeaves with ⟨tree, branchLen, bits, e⟩
  cases g
  case true => rfl
  cases e
  case true => rfl
  simp only [Bool.false_eq_true, if_false]
  by_cases hge : tree ≥ BitVec.ofNat 8 p.roots.length
  · rw [if_pos hge, List.getElem?_eq_none ((u8_ge_ofNat hL).1 hge)]
    rfl
  · rw [if_neg hge, List.getElem?_eq_getElem (Nat.lt_of_not_le (mt (u8_ge_ofNat hL).2 hge))]

theorem numLeaves_eq_ofNat {nl : U64} {n : Nat} (h : nl.toNat = n) : nl = BitVec.ofNat 64 n := by
  rw [← h, BitVec.ofNat_toNat, BitVec.setWidth_eq]

theorem treeRows_eq_H8 {nl : U64} {F : Forest H} (h : nl.toNat = F.numLeaves)
    (hn : F.numLeaves < 2 ^ 63) : TreeRows nl = H8 F.rows := by
  rw [numLeaves_eq_ofNat h]
  exact SpecView.treeRows_eq hn

theorem Abs.numLeaves_eq {p : Pollard H} {F : Forest H} (a : Abs p F) :
    p.numLeaves = BitVec.ofNat 64 F.numLeaves := numLeaves_eq_ofNat a.numLeaves

theorem Abs.roots_length_le {p : Pollard H} {F : Forest H} (a : Abs p F) :
    p.roots.length ≤ 65 := by
  obtain ⟨_, _, hroots, _⟩ := a.repr
  rw [hroots.length_eq, List.length_map, Forest.trees, List.length_map]
  exact treeRows_length_le _

theorem getHash_abs {p : Pollard H} {F : Forest H} (a : Abs p F) (pos : U64) :
    getHash pos p = (.ok (pollardGetHashNiece F pos), p) := by
  obtain ⟨_, _, hroots, _⟩ := a.repr
  unfold getHash pollardGetHashNiece getNodeHash
  rw [getNode_eq pos (Nat.lt_of_le_of_lt a.roots_length_le (by decide)), ← a.numLeaves_eq]
  dsimp only
  generalize (decide (pos ≥ maxPosition (TreeRows p.numLeaves)) || _) = g
  rcases DetectOffset pos p.numLeaves with ⟨tree, branchLen, bits, e⟩
  cases g
  case true => rfl
  cases e
  case true => rfl
  simp only [Bool.false_eq_true, if_false]
  cases hr : p.roots[tree.toNat]? with
  | none =>
    -- more trees asked for than there are roots
    have hlen : F.trees.length ≤ tree.toNat := by
      rw [← List.length_map (f := (·.2)), ← hroots.length_eq]
      exact List.getElem?_eq_none_iff.1 hr
    rw [List.getElem?_eq_none hlen]
    rfl
  | some r =>
    obtain ⟨t, fp, l, ht, hrep⟩ := hroots.getElem?_some hr
    rw [List.getElem?_map] at ht
    cases hq : F.trees[tree.toNat]? with
    | none => rw [hq] at ht; cases ht
    | some q =>
      rw [hq] at ht
      cases ht
      obtain ⟨row, t⟩ := q
      cases t with
      | none =>
        obtain ⟨⟨rn, e1, _, e2, e3, e4⟩, _⟩ := hrep
        dsimp only
        cases branchLen.toNat with
        | zero => simp only [getNodeLoop, pure_apply, e1, e2, if_true, Option.getD_some]
        | succ k =>
          rw [getNodeLoop_deadEnd k bits r (some r) none p rn e1 e3 e4]
          rfl
      | some t =>
        obtain ⟨res, e1, e2⟩ :=
          getNodeLoop_walk branchLen.toNat bits r r t t fp fp l l none p rfl hrep.2 hrep.2
        obtain ⟨r1, r2, r3⟩ := res
        simp only [e1, if_true]
        cases hw : nieceWalk t t branchLen.toNat bits with
        | none =>
          rw [hw] at e2
          cases e2
          rfl
        | some t' =>
          rw [hw] at e2
          obtain ⟨n', x, e3, e4, e5⟩ := e2
          cases e3
          simp only [e4, e5, Option.map_some, Option.getD_some]

end UtreexoVerif.Proofs.PollardHeap
