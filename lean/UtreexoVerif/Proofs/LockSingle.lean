/-
  What the check `SingleSection` of `Model/Lock.lean` means in the semantics `Gen`: `Reaches` is the
  relation `reachLocking` is meant to compute (sound for every fuel, complete when its work list
  empties), `Quiet` methods execute no mutex operation; `PreSingle` and `Explored` are the two
  checks `SingleSection` lacks.  The end of section `ReachLocking` (`reachLevels`) evaluates `reachLocking`
  a breadth-first level at a time: the fuel-gap table of `Props/C12Single.lean` is checked with it.
-/
import UtreexoVerif.Proofs.Lock

namespace UtreexoVerif.Proofs.LockSingle
open UtreexoVerif.Model.Lock UtreexoVerif.Proofs.Lock

section Flat
variable {F V : Type}

def isAcquire : Instr F V → Bool
  | .acquire _ => true
  | _ => false

def isRelease : Instr F V → Bool
  | .release _ => true
  | _ => false

def isAcc : Instr F V → Bool
  | .acc _ => true
  | _ => false

def acquires (p : List (Instr F V)) : Nat := p.countP isAcquire

def releases (p : List (Instr F V)) : Nat := p.countP isRelease

def Flat (p : List (Instr F V)) : Prop := ∀ i ∈ p, isAcc i = true

theorem Flat.nil : Flat ([] : List (Instr F V)) := by intro i hi; cases hi

theorem Flat.append {p q : List (Instr F V)} (hp : Flat p) (hq : Flat q) : Flat (p ++ q) := by
  intro i hi
  rcases List.mem_append.mp hi with h | h
  · exact hp i h
  · exact hq i h

theorem Flat.cons_acc {a : Acc F V} {p : List (Instr F V)} (hp : Flat p) : Flat (.acc a :: p) := by
  intro i hi
  rcases List.mem_cons.mp hi with h | h
  · subst h; rfl
  · exact hp i h

theorem Flat.countP {p : List (Instr F V)} (hp : Flat p) {q : Instr F V → Bool} (hq : ∀ a, q (.acc a) = false) :
    p.countP q = 0 := by
  rw [List.countP_eq_zero]
  intro i hi
  have := hp i hi
  cases i with
  | acc a => simp [hq a]
  | acquire _ => cases this
  | release _ => cases this

theorem Flat.acquires {p : List (Instr F V)} (hp : Flat p) : acquires p = 0 := hp.countP fun _ => rfl

theorem Flat.releases {p : List (Instr F V)} (hp : Flat p) : releases p = 0 := hp.countP fun _ => rfl

theorem acquires_append (p q : List (Instr F V)) : acquires (p ++ q) = acquires p + acquires q := by
  simp [acquires, List.countP_append]

theorem releases_append (p q : List (Instr F V)) : releases (p ++ q) = releases p + releases q := by
  simp [releases, List.countP_append]

theorem section_counts {k : LockKind} {p1 p2 : List (Instr F V)} (h1 : Flat p1) (h2 : Flat p2) :
    acquires (p1 ++ .acquire k :: (p2 ++ [.release k])) = 1 ∧
    releases (p1 ++ .acquire k :: (p2 ++ [.release k])) = 1 ∧
    (p1 ++ Instr.acquire k :: (p2 ++ [Instr.release k])).filter (fun i => !isAcc i) =
      [Instr.acquire k, Instr.release k] := by
  have e : p1 ++ Instr.acquire k :: (p2 ++ [Instr.release k]) = p1 ++ ([Instr.acquire k] ++ (p2 ++ [Instr.release k])) := rfl
  refine ⟨?_, ?_, ?_⟩
  · rw [e, acquires_append, acquires_append, acquires_append, h1.acquires, h2.acquires]
    rfl
  · rw [e, releases_append, releases_append, releases_append, h1.releases, h2.releases]
    rfl
  · have f1 : p1.filter (fun i => !isAcc i) = [] := List.filter_eq_nil_iff.mpr fun i hi => by simp [h1 i hi]
    have f2 : p2.filter (fun i => !isAcc i) = [] := List.filter_eq_nil_iff.mpr fun i hi => by simp [h2 i hi]
    rw [List.filter_append, f1, List.filter_cons, List.filter_append, f2]
    simp [isAcc]

theorem flat_wf_ok {mu : F → Bool} {k : LockKind} {p q : List (Instr F V)} (hp : Flat p)
    (hwf : wfProg mu k (p ++ q) = true) : ∀ a, Instr.acc a ∈ p → a.ok mu k = true := by
  induction p with
  | nil => intro a ha; cases ha
  | cons i p ih =>
    have hi := hp i List.mem_cons_self
    cases i with
    | acquire k' => cases hi
    | release k' => cases hi
    | acc b =>
      rw [List.cons_append, wf_acc] at hwf
      intro a ha
      rcases List.mem_cons.mp ha with h | h
      · cases h; exact hwf.1
      · exact ih (fun j hj => hp j (List.mem_cons_of_mem _ hj)) hwf.2 a h

theorem ok_none_iff {mu : F → Bool} (a : Acc F V) :
    a.ok mu .none = true ↔ a = .hook ∨ ∃ f, a = .read f ∧ mu f = false := by
  cases a with
  | hook => simp [Acc.ok]
  | read f => simp [Acc.ok]
  | write f g => simp [Acc.ok]

end Flat

section Graph
variable {F V M : Type}

def callees (T : M → MethodInfo F M) (x : M) : List M := (T x).preCalls ++ (T x).calls

/-- `Reaches T x l`: `l` takes a lock and is called from the body of `x`, directly or through a
chain of callees that take no lock -/
inductive Reaches (T : M → MethodInfo F M) : M → M → Prop
  | direct {x l} : l ∈ callees T x → (T l).lock ≠ .none → Reaches T x l
  | step {x c l} : c ∈ callees T x → (T c).lock = .none → Reaches T c l → Reaches T x l

/-- `PlainPath T m x`: `x` is `m` or is reached from `m` through callees that take no lock -/
inductive PlainPath (T : M → MethodInfo F M) (m : M) : M → Prop
  | refl : PlainPath T m m
  | tail {x c} : PlainPath T m x → c ∈ callees T x → (T c).lock = .none → PlainPath T m c

theorem Reaches.of_path {T : M → MethodInfo F M} {m x l : M} (hp : PlainPath T m x) :
    Reaches T x l → Reaches T m l := by
  induction hp with
  | refl => exact id
  | tail _ hc hl ih => intro h; exact ih (Reaches.step hc hl h)

/-- `x → p₁ → … → pₙ → l` is a chain of calls through methods that take no lock, ending in the
lock-taking `l`: a witness of `Reaches T x l` that can be checked by evaluation -/
def chainOK [DecidableEq M] (T : M → MethodInfo F M) : M → List M → M → Bool
  | x, [], l => (callees T x).contains l && (T l).lock != .none
  | x, c :: p, l => (callees T x).contains c && (T c).lock == .none && chainOK T c p l

theorem reaches_of_chain [DecidableEq M] {T : M → MethodInfo F M} {l : M} :
    ∀ (p : List M) (x : M), chainOK T x p l = true → Reaches T x l
  | [], x, h => by
    simp only [chainOK, Bool.and_eq_true, List.contains_eq_mem, decide_eq_true_eq, bne_iff_ne, ne_eq] at h
    exact Reaches.direct h.1 h.2
  | c :: p, x, h => by
    simp only [chainOK, Bool.and_eq_true, List.contains_eq_mem, decide_eq_true_eq, beq_iff_eq] at h
    exact Reaches.step h.1.1 h.1.2 (reaches_of_chain p c h.2)

/-- a call of `x` executes no mutex operation at all -/
def Quiet (T : M → MethodInfo F M) (x : M) : Prop := (T x).lock = .none ∧ ∀ l, ¬ Reaches T x l

theorem Quiet.callee {T : M → MethodInfo F M} {x n : M} (hq : Quiet T x) (hn : n ∈ callees T x) : Quiet T n := by
  by_cases hl : (T n).lock = .none
  · exact ⟨hl, fun l hr => hq.2 l (Reaches.step hn hl hr)⟩
  · exact (hq.2 n (Reaches.direct hn hl)).elim

def ItemQuiet (T : M → MethodInfo F M) : Item F M → Prop
  | .call m => Quiet T m
  | .seg _ _ cs => ∀ n ∈ cs, Quiet T n

theorem gen_quiet {T : M → MethodInfo F M} {c : LockKind} {item : Item F M} {p : List (Instr F V)}
    (hg : Gen T c item p) : ItemQuiet T item → Flat p := by
  induction hg with
  | segNil => intro _; exact Flat.nil
  | segAcc _ _ ih => intro hq; exact (ih hq).cons_acc
  | segCall hn _ _ ih1 ih2 => intro hq; exact (ih1 (hq _ hn)).append (ih2 hq)
  | @callPlain c m p1 p2 _ _ _ _ ih1 ih2 =>
    intro hq
    have hq : Quiet T m := hq
    exact (ih1 (fun n hn => hq.callee (List.mem_append_left _ hn))).append
      (ih2 (fun n hn => hq.callee (List.mem_append_right _ hn)))
  | @callLocked c m k p1 p2 hlock hk _ _ _ _ _ =>
    intro hq
    have hq : Quiet T m := hq
    rw [hq.1] at hlock
    exact (hk hlock.symm).elim

theorem seg_replicate {T : M → MethodInfo F M} {c : LockKind} {rs ws : List F} {cs : List M} {n : M}
    {q : List (Instr F V)} (hn : n ∈ cs) (hq : Gen T c (.call n) q) (j : Nat) :
    Gen T c (.seg rs ws cs) (List.replicate j q).flatten := by
  induction j with
  | zero => exact Gen.segNil
  | succ j ih =>
    rw [List.replicate_succ, List.flatten_cons]
    exact Gen.segCall hn hq ih

theorem acquires_flatten_replicate (q : List (Instr F V)) (j : Nat) :
    acquires (List.replicate j q).flatten = j * acquires q := by
  induction j with
  | zero => simp [acquires]
  | succ j ih =>
    rw [List.replicate_succ, List.flatten_cons, acquires_append, ih, Nat.succ_mul, Nat.add_comm]

/-- a method that takes no lock and calls `n` can run `n` `j` times in a row and nothing else -/
theorem plain_call_replicate {T : M → MethodInfo F M} {c : LockKind} {x n : M} {q : List (Instr F V)}
    (hl : (T x).lock = .none) (hreg : (T x).regular = true) (hn : n ∈ callees T x)
    (hq : Gen T c (.call n) q) (j : Nat) :
    ∃ p : List (Instr F V), Gen T c (.call x) p ∧ acquires p = j * acquires q := by
  rcases List.mem_append.mp hn with h | h
  · refine ⟨(List.replicate j q).flatten ++ [], Gen.callPlain hl hreg (seg_replicate h hq j) Gen.segNil, ?_⟩
    rw [List.append_nil, acquires_flatten_replicate]
  · refine ⟨[] ++ (List.replicate j q).flatten, Gen.callPlain hl hreg Gen.segNil (seg_replicate h hq j), ?_⟩
    rw [List.nil_append, acquires_flatten_replicate]

/-- CONVERSE OF `gen_quiet`.  `P` is any invariant along the path that gives the regularity `Gen`
asks for. -/
theorem reaches_gen_core {T : M → MethodInfo F M} (P : M → Prop)
    (hPreg : ∀ x, P x → (T x).regular = true)
    (hPstep : ∀ x n, P x → (T x).lock = .none → n ∈ callees T x → P n)
    {x l : M} (hr : Reaches T x l) : P x → (T x).lock = .none →
    ∀ j, ∃ p : List (Instr F V), Gen T .none (.call x) p ∧ acquires p = j := by
  induction hr with
  | @direct x l hn hlk =>
    intro hP hl j
    have hPl := hPstep x l hP hl hn
    have hq : Gen (V := V) T .none (.call l) ([] ++ .acquire (T l).lock :: ([] ++ [.release (T l).lock])) :=
      Gen.callLocked rfl hlk (hPreg l hPl) Gen.segNil Gen.segNil
    obtain ⟨p, hp, hc⟩ := plain_call_replicate hl (hPreg x hP) hn hq j
    refine ⟨p, hp, ?_⟩
    rw [hc]
    show j * 1 = j
    omega
  | @step x c l hn hlc _ ih =>
    intro hP hl j
    obtain ⟨q, hq, hq1⟩ := ih (hPstep x c hP hl hn) hlc 1
    obtain ⟨p, hp, hc⟩ := plain_call_replicate hl (hPreg x hP) hn hq j
    exact ⟨p, hp, by rw [hc, hq1, Nat.mul_one]⟩

end Graph

section WhileHeld
variable {F V M : Type}

theorem typed_callees {T : M → MethodInfo F M} {allM : List M} {mu : F → Bool} {C : M → Ctxs}
    (hall : ∀ m, m ∈ allM) (hty : typingOK T allM mu C = true) {c : LockKind} {x : M}
    (hx : (C x).has c = true) (hl : (T x).lock = .none) : ∀ n ∈ callees T x, (C n).has c = true := by
  obtain ⟨_, hpre, hbody⟩ := typed_call hall hty hx
  rw [if_pos hl] at hbody
  intro n hn
  rcases List.mem_append.mp hn with h | h
  · exact hpre.2 n h
  · exact hbody.2 n h

/-- no re-entrancy -/
theorem quiet_of_held {T : M → MethodInfo F M} {allM : List M} {mu : F → Bool} {C : M → Ctxs}
    (hall : ∀ m, m ∈ allM) (hty : typingOK T allM mu C = true) {c : LockKind} (hc : c ≠ .none) {m : M}
    (hm : (C m).has c = true) : Quiet T m := by
  have plain : ∀ {x}, (C x).has c = true → (T x).lock = .none := fun {x} hx => by
    have h := (typed_call hall hty hx).2.2
    by_cases hl : (T x).lock = .none
    · exact hl
    · rw [if_neg hl] at h; exact (hc h.1).elim
  refine ⟨plain hm, fun l hr => ?_⟩
  induction hr with
  | direct hn hlk => exact hlk (plain (typed_callees hall hty hm (plain hm) _ hn))
  | step hn _ _ ih => exact ih (typed_callees hall hty hm (plain hm) _ hn)

theorem gen_held_flat {T : M → MethodInfo F M} {allM : List M} {mu : F → Bool} {C : M → Ctxs}
    (hall : ∀ m, m ∈ allM) (hty : typingOK T allM mu C = true)
    {c : LockKind} {item : Item F M} {p : List (Instr F V)} (hg : Gen T c item p) :
    c ≠ .none → ItemOK mu C c item → Flat p ∧ ∀ a, Instr.acc a ∈ p → a.ok mu c = true := by
  intro hc hok
  have hq : ItemQuiet T item := by
    cases item with
    | call m => exact quiet_of_held hall hty hc hok
    | seg rs ws cs => exact fun n hn => quiet_of_held hall hty hc (hok.2 n hn)
  have hf : Flat p := gen_quiet hg hq
  have hrel : wfProg (V := V) mu c [.release c] = true := by
    cases c with
    | none => exact absurd rfl hc
    | r => rfl
    | w => rfl
  exact ⟨hf, flat_wf_ok hf (gen_wf hall hty hg hok _ hrel)⟩

end WhileHeld

section ReachLocking
variable {F M : Type} [DecidableEq M]

def plainOf (T : M → MethodInfo F M) (cs : List M) : List M := cs.filter (fun c => (T c).lock == .none)

def lockingOf (T : M → MethodInfo F M) (cs : List M) : List M := cs.filter (fun c => (T c).lock != .none)

/-- does the work list of `reachLocking T n todo _` become empty before the fuel `n` runs out?
(`reachLocking` keeps no visited set: its work list enumerates, breadth first, the PATHS through
callees that take no lock, so the answer is "yes" iff the unfolding of that call graph from `todo`
into a forest has at most `n` nodes — never if the graph has a cycle.) -/
def exploreDone (T : M → MethodInfo F M) : Nat → List M → Bool
  | 0, todo => todo.isEmpty
  | _ + 1, [] => true
  | n + 1, x :: rest => exploreDone T n (rest ++ plainOf T (callees T x))

theorem reachLocking_mono (T : M → MethodInfo F M) (n : Nat) (todo acc : List M) (l : M) (h : l ∈ acc) :
    l ∈ reachLocking T n todo acc := by
  induction n generalizing todo acc with
  | zero => exact h
  | succ n ih =>
    cases todo with
    | nil => exact h
    | cons x rest =>
      simp only [reachLocking]
      exact ih _ _ (List.mem_append_left _ h)

theorem reachLocking_sound (T : M → MethodInfo F M) (m : M) (n : Nat) (todo acc : List M)
    (htodo : ∀ x ∈ todo, PlainPath T m x) (hacc : ∀ l ∈ acc, Reaches T m l) :
    ∀ l ∈ reachLocking T n todo acc, Reaches T m l := by
  induction n generalizing todo acc with
  | zero => exact hacc
  | succ n ih =>
    cases todo with
    | nil => exact hacc
    | cons x rest =>
      simp only [reachLocking]
      apply ih
      · intro y hy
        rcases List.mem_append.mp hy with h | h
        · exact htodo y (List.mem_cons_of_mem _ h)
        · simp only [List.mem_filter, beq_iff_eq] at h
          exact PlainPath.tail (htodo x List.mem_cons_self) h.1 h.2
      · intro l hl
        rcases List.mem_append.mp hl with h | h
        · exact hacc l h
        · rw [List.mem_eraseDups] at h
          simp only [List.mem_filter, Bool.and_eq_true, bne_iff_ne, ne_eq] at h
          exact Reaches.of_path (htodo x List.mem_cons_self) (Reaches.direct h.1 h.2.1)

theorem reachLocking_complete (T : M → MethodInfo F M) (n : Nat) (todo acc : List M)
    (hd : exploreDone T n todo = true) (l : M)
    (h : l ∈ acc ∨ ∃ x ∈ todo, Reaches T x l) : l ∈ reachLocking T n todo acc := by
  induction n generalizing todo acc with
  | zero =>
    simp only [exploreDone, List.isEmpty_iff] at hd
    subst hd
    rcases h with h | ⟨x, hx, _⟩
    · exact h
    · cases hx
  | succ n ih =>
    cases todo with
    | nil =>
      rcases h with h | ⟨x, hx, _⟩
      · exact h
      · cases hx
    | cons x rest =>
      simp only [exploreDone] at hd
      simp only [reachLocking]
      apply ih _ _ hd
      rcases h with h | ⟨y, hy, hr⟩
      · exact Or.inl (List.mem_append_left _ h)
      · rcases List.mem_cons.mp hy with rfl | hy
        · cases hr with
          | direct hn hlk =>
            by_cases hin : l ∈ acc
            · exact Or.inl (List.mem_append_left _ hin)
            · refine Or.inl (List.mem_append_right _ ?_)
              rw [List.mem_eraseDups]
              simp only [List.mem_filter, Bool.and_eq_true, bne_iff_ne, ne_eq, Bool.not_eq_true',
                List.contains_eq_mem, decide_eq_false_iff_not]
              exact ⟨hn, hlk, hin⟩
          | @step _ c _ hn hlc hr' =>
            refine Or.inr ⟨c, List.mem_append_right _ ?_, hr'⟩
            simp only [plainOf, List.mem_filter, beq_iff_eq]
            exact ⟨hn, hlc⟩
        · exact Or.inr ⟨y, List.mem_append_left _ hy, hr⟩

theorem reachLocking_stable (T : M → MethodInfo F M) (n : Nat) (todo acc : List M)
    (hd : exploreDone T n todo = true) (k : Nat) :
    reachLocking T (n + k) todo acc = reachLocking T n todo acc := by
  induction n generalizing todo acc with
  | zero =>
    simp only [exploreDone, List.isEmpty_iff] at hd
    subst hd
    cases k <;> simp [reachLocking]
  | succ n ih =>
    cases todo with
    | nil => rw [Nat.add_right_comm]; simp [reachLocking]
    | cons x rest =>
      simp only [exploreDone] at hd
      rw [Nat.add_right_comm]
      simp only [reachLocking]
      exact ih _ _ hd

omit [DecidableEq M] in
theorem exploreDone_mono (T : M → MethodInfo F M) (n : Nat) (todo : List M)
    (hd : exploreDone T n todo = true) (k : Nat) : exploreDone T (n + k) todo = true := by
  induction n generalizing todo with
  | zero =>
    simp only [exploreDone, List.isEmpty_iff] at hd
    subst hd
    cases k <;> simp [exploreDone]
  | succ n ih =>
    cases todo with
    | nil => rw [Nat.add_right_comm]; simp [exploreDone]
    | cons x rest =>
      simp only [exploreDone] at hd
      rw [Nat.add_right_comm]
      simp only [exploreDone]
      exact ih _ hd

omit [DecidableEq M] in
/-- NO fuel suffices when the work list contains a method on (or leading into) a cycle of calls
between methods that take no lock: `S` is any set of methods each of which calls, directly, a method
of `S` that takes no lock (e.g. a recursive helper) -/
theorem exploreDone_cycle (T : M → MethodInfo F M) (S : M → Prop)
    (hS : ∀ x, S x → ∃ c ∈ plainOf T (callees T x), S c) (n : Nat) (todo : List M)
    (h : ∃ y ∈ todo, S y) : exploreDone T n todo = false := by
  induction n generalizing todo with
  | zero =>
    obtain ⟨y, hy, _⟩ := h
    cases todo with
    | nil => cases hy
    | cons _ _ => rfl
  | succ n ih =>
    obtain ⟨y, hy, hys⟩ := h
    cases todo with
    | nil => cases hy
    | cons x rest =>
      simp only [exploreDone]
      apply ih
      rcases List.mem_cons.mp hy with rfl | hy
      · obtain ⟨c, hc, hcs⟩ := hS _ hys
        exact ⟨c, List.mem_append_right _ hc, hcs⟩
      · exact ⟨y, List.mem_append_left _ hy, hys⟩

def fuelOf (allM : List M) : Nat := allM.length * allM.length + 1

omit [DecidableEq M] in
/-- `multiSection` spells the fuel out; the proofs below name it -/
theorem fuelOf_eq (allM : List M) : allM.length * allM.length + 1 = fuelOf allM := rfl

def preReach (T : M → MethodInfo F M) (allM : List M) (m : M) : List M :=
  reachLocking T (fuelOf allM) (plainOf T (T m).preCalls) (lockingOf T (T m).preCalls)

/-- MISSING IN `SingleSection` (1): an exported method that takes a lock itself must not reach a
lock-taking method from the statements before its lock statement -/
def PreSingle (T : M → MethodInfo F M) (allM exempt : List M) : Bool :=
  allM.all fun m => !((T m).exported && (T m).lock != .none) || exempt.contains m || (preReach T allM m).isEmpty

/-- MISSING IN `SingleSection` (2): the fuel sufficed for every exploration the verdict rests on -/
def Explored (T : M → MethodInfo F M) (allM exempt : List M) : Bool :=
  allM.all fun m => !(T m).exported || exempt.contains m ||
    (if (T m).lock = .none then exploreDone T (fuelOf allM) [m]
     else exploreDone T (fuelOf allM) (plainOf T (T m).preCalls))

def SingleSectionStrong (T : M → MethodInfo F M) (allM exempt : List M) : Bool :=
  SingleSection T allM exempt && PreSingle T allM exempt && Explored T allM exempt

theorem listed_or_quiet {T : M → MethodInfo F M} {allM : List M} (hall : ∀ m, m ∈ allM) {m : M}
    (hd : exploreDone T (fuelOf allM) [m] = true)
    (hexp : (T m).exported = true) (hl : (T m).lock = .none) :
    (∃ r, (m, r) ∈ multiSection T allM) ∨ Quiet T m := by
  cases hh : reachLocking T (fuelOf allM) [m] [] with
  | nil =>
    refine Or.inr ⟨hl, ?_⟩
    intro l hr
    have hin : l ∈ reachLocking T (fuelOf allM) [m] [] :=
      reachLocking_complete T _ [m] [] hd l (Or.inr ⟨m, List.mem_cons_self, hr⟩)
    rw [hh] at hin; cases hin
  | cons l r =>
    refine Or.inl ⟨l :: r, ?_⟩
    simp only [multiSection, fuelOf_eq, List.mem_filterMap, List.mem_filter, Bool.and_eq_true, beq_iff_eq]
    exact ⟨m, ⟨hall m, hexp, hl⟩, by simp [hh]⟩

theorem quiet_of_single {T : M → MethodInfo F M} {allM exempt : List M} (hall : ∀ m, m ∈ allM)
    (hS : SingleSection T allM exempt = true) (hE : Explored T allM exempt = true) {m : M}
    (hexp : (T m).exported = true) (hne : m ∉ exempt) (hl : (T m).lock = .none) : Quiet T m := by
  have hd : exploreDone T (fuelOf allM) [m] = true := by
    simp only [Explored, List.all_eq_true] at hE
    have := hE m (hall m)
    simpa [hexp, hne, hl] using this
  rcases listed_or_quiet hall hd hexp hl with ⟨r, hmem⟩ | hq
  · simp only [SingleSection, List.all_eq_true] at hS
    have := hS _ hmem
    simp only [List.contains_eq_mem, decide_eq_true_eq] at this
    exact (hne this).elim
  · exact hq

theorem preQuiet_of_preSingle {T : M → MethodInfo F M} {allM exempt : List M} (hall : ∀ m, m ∈ allM)
    (hP : PreSingle T allM exempt = true) (hE : Explored T allM exempt = true) {m : M}
    (hexp : (T m).exported = true) (hne : m ∉ exempt) (hl : (T m).lock ≠ .none) :
    ∀ n ∈ (T m).preCalls, Quiet T n := by
  have hd : exploreDone T (fuelOf allM) (plainOf T (T m).preCalls) = true := by
    simp only [Explored, List.all_eq_true] at hE
    have := hE m (hall m)
    simpa [hexp, hne, hl] using this
  have hemp : preReach T allM m = [] := by
    simp only [PreSingle, List.all_eq_true] at hP
    have := hP m (hall m)
    simpa [hexp, hne, hl] using this
  intro n hn
  by_cases hln : (T n).lock = .none
  · refine ⟨hln, ?_⟩
    intro l hr
    have : l ∈ preReach T allM m :=
      reachLocking_complete T _ _ _ hd l (Or.inr ⟨n, by simp [plainOf, hn, hln], hr⟩)
    rw [hemp] at this; cases this
  · have : n ∈ preReach T allM m :=
      reachLocking_mono T _ _ _ n (by simp [lockingOf, hn, hln])
    rw [hemp] at this; cases this

theorem reaches_of_not_single {T : M → MethodInfo F M} {allM exempt : List M}
    (hS : SingleSection T allM exempt = false) :
    ∃ m l, (T m).exported = true ∧ m ∉ exempt ∧ (T m).lock = .none ∧ Reaches T m l := by
  simp only [SingleSection, List.all_eq_false] at hS
  obtain ⟨⟨m, r⟩, hmem, hnex⟩ := hS
  simp only [multiSection, fuelOf_eq, List.mem_filterMap, List.mem_filter, Bool.and_eq_true, beq_iff_eq] at hmem
  obtain ⟨m', ⟨_, hexp, hl⟩, hsome⟩ := hmem
  cases hr : reachLocking T (fuelOf allM) [m'] [] with
  | nil => simp [hr] at hsome
  | cons l r' =>
    simp only [hr, List.isEmpty_cons, Bool.false_eq_true, if_false, Option.some.injEq, Prod.mk.injEq] at hsome
    obtain ⟨rfl, _⟩ := hsome
    refine ⟨m', l, hexp, ?_, hl, ?_⟩
    · simpa using hnex
    · apply reachLocking_sound T m' _ [m'] []
      · intro x hx
        rcases List.mem_cons.mp hx with rfl | hx
        · exact PlainPath.refl
        · cases hx
      · intro l hl; cases hl
      · rw [hr]; exact List.mem_cons_self

/-- what one work-list item adds to the result of `reachLocking` -/
def accStep (T : M → MethodInfo F M) (acc : List M) (x : M) : List M :=
  acc ++ ((callees T x).filter (fun c => (T c).lock != .none && !acc.contains c)).eraseDups

theorem reachLocking_front (T : M → MethodInfo F M) : ∀ (a b : List M) (n : Nat) (acc : List M),
    reachLocking T (a.length + n) (a ++ b) acc =
      reachLocking T n (b ++ a.flatMap (fun x => plainOf T (callees T x))) (a.foldl (accStep T) acc)
  | [], b, n, acc => by simp
  | x :: a, b, n, acc => by
    have ih := reachLocking_front T a (b ++ plainOf T (callees T x)) n (accStep T acc x)
    rw [List.length_cons, Nat.add_right_comm, List.cons_append, reachLocking]
    simp only [List.append_assoc, List.flatMap_cons, List.foldl_cons] at ih ⊢
    exact ih

theorem reachLocking_short (T : M → MethodInfo F M) : ∀ (n : Nat) (a b : List M) (acc : List M), n ≤ a.length →
    reachLocking T n (a ++ b) acc = (a.take n).foldl (accStep T) acc
  | 0, a, b, acc, _ => rfl
  | n + 1, [], b, acc, h => by simp at h
  | n + 1, x :: a, b, acc, h => by
    have ih := reachLocking_short T n a (b ++ plainOf T (callees T x)) (accStep T acc x) (by simpa using h)
    rw [List.cons_append, reachLocking]
    simp only [List.append_assoc, List.take_succ_cons, List.foldl_cons] at ih ⊢
    exact ih

/-- `reachLocking`, a level of the breadth-first enumeration at a time (`k` bounds the number of levels) -/
def reachLevels (T : M → MethodInfo F M) : Nat → Nat → List M → List M → List M
  | 0, _, _, acc => acc
  | k + 1, n, lv, acc =>
    if n ≤ lv.length then (lv.take n).foldl (accStep T) acc
    else reachLevels T k (n - lv.length) (lv.flatMap fun x => plainOf T (callees T x)) (lv.foldl (accStep T) acc)

theorem reachLocking_nil (T : M → MethodInfo F M) (n : Nat) (acc : List M) : reachLocking T n [] acc = acc := by
  cases n <;> rfl

theorem reachLevels_nil (T : M → MethodInfo F M) : ∀ (k n : Nat) (acc : List M), reachLevels T k n [] acc = acc
  | 0, _, _ => rfl
  | k + 1, 0, _ => rfl
  | k + 1, n + 1, acc => by
    rw [reachLevels, if_neg (by simp)]
    exact reachLevels_nil T k _ acc

theorem reachLocking_eq_levels (T : M → MethodInfo F M) : ∀ (k n : Nat) (lv acc : List M), n < k →
    reachLocking T n lv acc = reachLevels T k n lv acc
  | 0, _, _, _, h => by omega
  | k + 1, n, lv, acc, h => by
    rw [reachLevels]
    by_cases hn : n ≤ lv.length
    · rw [if_pos hn, ← reachLocking_short T n lv [] acc hn, List.append_nil]
    · rw [if_neg hn]
      cases lv with
      | nil => rw [reachLocking_nil]; exact (reachLevels_nil T k _ acc).symm
      | cons x lv =>
        obtain ⟨n', rfl⟩ : ∃ n', n = (x :: lv).length + n' := ⟨n - (x :: lv).length, by omega⟩
        have := reachLocking_front T (x :: lv) [] n' acc
        rw [List.append_nil, List.nil_append] at this
        rw [this, Nat.add_sub_cancel_left]
        exact reachLocking_eq_levels T k n' _ _ (by simp at h; omega)

end ReachLocking

end UtreexoVerif.Proofs.LockSingle
