/-
  `MapPollard.ingest` and `MapPollard.verifyM` (= Go `Verify(.., remember)`) on the canonical proof of a set of
  live leaves: on the abstract state the call is `fillA` / `fillC` of `Proofs/MapFill.lean` (`ingest_spec`, any
  allocation, either kind of forest); the storage invariant `XInv fl` is kept (`xinv_ingest`, `xinv_verifyM`)
  because ingesting is filling an empty hole (`GI.fill`).
-/
import UtreexoVerif.Proofs.ProofUpdateLists
import UtreexoVerif.Proofs.MapUndoFill
import UtreexoVerif.Proofs.MapCanon
import UtreexoVerif.Proofs.MapXInv
import UtreexoVerif.Props.C02

namespace UtreexoVerif.Proofs.MapIngest
open Model Spec MapInv MapRep PForest MapAInv
  PForestSpec MapSInv Hasher
set_option linter.unusedSectionVars false

variable {H : Type} [DecidableEq H] [Hasher H]

section fill
open MapGIH
open MapGI (GI)
variable {A : Pos → Option (Leaf H)} {C : H → Option Pos} {N : List (Pos × H × Bool)} {R : Pos → Prop}

theorem _root_.UtreexoVerif.Proofs.MapGI.GI.fill {fl : Bool} (Lw : Laws N R)
    (inv : GI fl A C N R (fun x => (C x).isSome = true) (fun _ => False))
    {PS PP ts : List Pos} {tv : Pos → H} {KL : H → Prop} {C2 : H → Option Pos} (pd : PathData N R PS PP ts tv)
    (hT : ∀ t, t ∈ ts ↔ ∃ x, KL x ∧ (t, x, true) ∈ N)
    (hC2a : ∀ x t, C2 x = some t → C x = some t ∨ (KL x ∧ (t, x, true) ∈ N))
    (hC2b : ∀ x, (C2 x).isSome = true ↔ ((C x).isSome = true ∨ KL x)) :
    GI fl (fillA fl PS PP ts tv A) C2 N R (fun x => (C2 x).isSome = true) (fun _ => False) := by
  have hK : ∀ t, KLeaf N (fun x => (C2 x).isSome = true) t ↔
      (KLeaf N (fun x => (C x).isSome = true) t ∨ t ∈ ts) := by
    intro t
    unfold KLeaf
    simp only [hC2b, hT, or_and_right, exists_or]
  have hpos : ∀ x t, C2 x = some t → (t, x, true) ∈ N :=
    fun x t h => (hC2a x t h).elim (inv.cached_pos x t) (fun h => h.2)
  refine gi_of_gih ((gih_of_gi Lw inv (fun _ h => h)).fill Lw (fun _ h => h.elim) pd
    (fun t ht => (hK t).2 (Or.inl ht)) hK (fun x t h => by show (C2 x).isSome = true; rw [h]; rfl) hpos ?_)
    (fun ρ hρ => fillA_ne_none (inv.roots_stored ρ hρ))
    (fun hf t x hm => (hC2b x).2 (Or.inl (inv.fullK hf t x hm)))
  intro _ t x hm hk
  obtain ⟨t', ht'⟩ := Option.isSome_iff_exists.1 hk
  rw [ht', Lw.leaf_hash t x t' true hm (hpos x t' ht')]

/-- in a full forest every path node and proof position is already stored, flagged, with its true hash -/
theorem fillA_full_id (Lw : Laws N R) {K : H → Prop} {E : Pos → Prop} (inv : GI true A C N R K E)
    {PS PP ts : List Pos} {tv : Pos → H} (hPSn : ∀ q ∈ PS, ∃ b, (q, tv q, b) ∈ N)
    (hPPn : ∀ q ∈ PP, ∃ b, (q, tv q, b) ∈ N) (q : Pos) : fillA true PS PP ts tv A q = A q := by
  unfold fillA storeA
  split
  · rename_i hq
    obtain ⟨b, hb⟩ := hPSn q hq
    rw [inv.entry_of_full Lw hb, Bool.or_true]
  · rw [if_neg]
    rintro ⟨hq, hA⟩
    obtain ⟨b, hb⟩ := hPPn q hq
    exact inv.stored_of_full Lw hb hA

end fill

section main
open SpecPlan (pathSet pathSet_sorted canon_targets_nodup canon_spec)
open CalcComplete (calc_honest canon_targets_length)
open MapXInv (XInv xinv_false_iff)
variable {F : Forest H} {L : List H} {ts : List Pos} {ps : List H} {T : Nat}

/-- `calculateHashes` on a canonical proof (surplus hashes allowed): the nodes it returns, in storage
coordinates, are the path set with the true hashes -/
theorem calc_nodes (nz : NZ H) (hn63 : F.numLeaves < 2 ^ 63) (hT : T ≤ 63) (hfit : F.rows ≤ T) (hy : Hyg F)
    (hnd : L.Nodup) (hc : F.canon L = some (ts, ps)) (junk : List H) :
    ∃ r, calculateHashes (BitVec.ofNat 64 F.numLeaves) (some L) (ts.map (encP F.rows)) (ps ++ junk) = .ok r ∧
      (if H8 F.rows ≠ H8 T then
        sortHP (r.nodes.map (fun x => (translatePos x.1 (H8 F.rows) (H8 T), x.2))) else r.nodes) =
        (pathSet F ts).map (fun p => (encP T p, tvF F p)) := by
  exact ⟨_, calc_honest (Nat.le_of_lt hn63) nz.nonzero hy.nz hnd hc junk,
    nodes_toStor hT hfit (pathSet F ts) (pathSet_sorted F ts) (fun q hq => ps_valid hc (Nat.le_refl _) hq) (tvF F)⟩

/-- the call on a canonical proof up to the two loops that write -/
theorem ingest_run (nz : NZ H) {m m1 : MapPollard H} (hrows : m.totalRows = H8 T) (hT : T ≤ 63)
    (hn : m.numLeaves = BitVec.ofNat 64 F.numLeaves) (hn63 : F.numLeaves < 2 ^ 63) (hfit : F.rows ≤ T) (hy : Hyg F)
    (junk : List H) (hnd : L.Nodup) (hc : F.canon L = some (ts, ps))
    (h4 : MapPollard.ingest.store (ps ++ junk) ((F.proofPositions ts).map (encP T)) 0 m = (m1, .ok ()))
    (hn1 : m1.numLeaves = m.numLeaves) (hTR : m1.totalRows = m.totalRows) :
    MapPollard.ingest L (ts.map (encP F.rows)) (ps ++ junk) m =
      (MapPollard.putCalculated (fun p => (ts.map (encP T)).contains p)
        ((pathSet F ts).map (fun p => (encP T p, tvF F p))) m1, .ok ()) := by
  rw [← funext (contains_sortPos (T := T) ts)]
  have h63 : F.rows ≤ 63 := Nat.le_trans hfit hT
  have htr : TreeRows m.numLeaves = H8 F.rows := by rw [hn]; exact SpecView.treeRows_eq hn63
  have tsnd : ts.Nodup := canon_targets_nodup hc hnd
  have tsV : ∀ t ∈ ts, MapInv.Valid F.rows t := fun t ht => ts_valid hc (Nat.le_refl _) ht
  have ppV : ∀ q ∈ F.proofPositions ts, MapInv.Valid F.rows q := fun q hq => pp_valid hc (Nat.le_refl _) hq
  obtain ⟨hnp, h1, hpos⟩ := toHashAndPos_canon h63 ts L tsV (canon_targets_length hc)
  obtain ⟨r, h5, h6⟩ := calc_nodes nz hn63 hT hfit hy hnd hc junk
  have h2 : (if m.totalRows ≠ TreeRows m.numLeaves then
      sortU64 (translatePositions hnp.positions (TreeRows m.numLeaves) m.totalRows) else hnp.positions) =
      (sortPos ts).map (encP T) := by
    rw [hrows, htr, hpos]
    exact sorted_toStor hT hfit tsnd tsV
  have hP : ProofPositions ((sortPos ts).map (encP T)) m.numLeaves m.totalRows =
      ((F.proofPositions ts).map (encP T), (F.computable (sortPos ts)).map (encP T)) := by
    rw [hrows, hn]
    exact pp_enc hn63 hT hfit tsnd (ts_belowRoot hc)
  refine ingest_eq h1 h2 hP ?_ h4 (by rw [hn1, hn]; exact h5) rfl ?_
  · rw [hrows, htr, hn]
    split
    · rw [toApi_map hT hfit ppV, trimProofPos_forest hn63 (fun _ h => pp_belowRoot (ts_belowRoot hc) h), toStor_map hT hfit ppV]
    · rfl
  · rw [hTR, hrows, htr, ne_comm_ite]
    exact h6

/-- the second loop on the path set of a canonical proof, after any first loop (`A1`): `fillA` / `fillC` -/
theorem putCalculated_fill {m1 : MapPollard H} {A A1 : Pos → Option (Leaf H)} {C : H → Option Pos} {fl : Bool}
    (rep1 : Rep m1 T A1 C) (hf1 : m1.full = fl) (hn63 : F.numLeaves < 2 ^ 63) (hfit : F.rows ≤ T) (hy : Hyg F)
    (hc : F.canon L = some (ts, ps)) (hA1 : ∀ q, A1 q = storeA fl (F.proofPositions ts) (tvF F) A q) :
    Rep (MapPollard.putCalculated (fun p => (ts.map (encP T)).contains p)
        ((pathSet F ts).map (fun p => (encP T p, tvF F p))) m1) T
      (fillA fl (pathSet F ts) (F.proofPositions ts) ts (tvF F) A) (fillC F.posOf L C) ∧
    (MapPollard.putCalculated (fun p => (ts.map (encP T)).contains p)
        ((pathSet F ts).map (fun p => (encP T p, tvF F p))) m1).full = fl ∧
    (MapPollard.putCalculated (fun p => (ts.map (encP T)).contains p)
        ((pathSet F ts).map (fun p => (encP T p, tvF F p))) m1).numLeaves = m1.numLeaves := by
  have hn64 : F.numLeaves < 2 ^ 64 := Nat.lt_trans hn63 (by decide)
  obtain ⟨rep2, hf2, hn2⟩ := putCalculated_rep
    (fun p => (ts.map (encP T)).contains p) (fun p => decide (p ∈ ts)) (tvF F) F.posOf
    (pathSet F ts) m1 _ C rep1 hf1
    (fun q hq => ⟨ps_valid hc hfit hq, contains_eq rep1.T_le ts (fun t ht => ts_valid hc hfit ht) (ps_valid hc hfit hq)⟩)
    (fun q hq ht => (posOf_iff F hn64 hy).2 (ts_val hn64 hy hc (of_decide_eq_true ht)).2)
  refine ⟨rep2.congr (fun q => ?_) (fun x => ?_), hf2, hn2⟩
  · unfold fillA
    rw [hA1]
  · unfold fillC
    by_cases hx : x ∈ L
    · rw [if_pos hx, if_pos ((calc_targets_iff hn64 hy hc x).2 hx)]
    · rw [if_neg hx, if_neg (fun h => hx ((calc_targets_iff hn64 hy hc x).1 h))]

theorem ingest_spec (nz : NZ H) {m : MapPollard H} {A : Pos → Option (Leaf H)} {C : H → Option Pos} {fl : Bool}
    (rep : Rep m T A C) (hfull : m.full = fl) (hn : m.numLeaves = BitVec.ofNat 64 F.numLeaves)
    (hn63 : F.numLeaves < 2 ^ 63) (hfit : F.rows ≤ T) (hy : Hyg F) (junk : List H) (hnd : L.Nodup)
    (hc : F.canon L = some (ts, ps)) :
    ∃ m', MapPollard.ingest L (ts.map (encP F.rows)) (ps ++ junk) m = (m', .ok ()) ∧
      Rep m' T (fillA fl (pathSet F ts) (F.proofPositions ts) ts (tvF F) A) (fillC F.posOf L C) ∧
      m'.numLeaves = m.numLeaves ∧ m'.full = fl := by
  obtain ⟨m1, h4, _, rep1, hf1, hn1⟩ := store_rep (ps ++ junk) (tvF F) (F.proofPositions ts) 0 m A C rep hfull
    (fun q hq => pp_valid hc hfit hq) ⟨junk, by rw [ps_hashes hc]; rfl⟩
  have hrun := ingest_run nz rep.rows rep.T_le hn hn63 hfit hy junk hnd hc h4 hn1 (rep1.rows.trans rep.rows.symm)
  obtain ⟨rep2, hf2, hn2⟩ := putCalculated_fill rep1 hf1 hn63 hfit hy hc (fun _ => rfl)
  exact ⟨_, hrun, rep2, hn2.trans hn1, hf2⟩

theorem same_lookups {m m' : MapPollard H} {A : Pos → Option (Leaf H)} {C : H → Option Pos}
    (rep : Rep m T A C) (rep' : Rep m' T A C) :
    (∀ p, m'.getNode p = m.getNode p) ∧ (∀ x, m'.getCached x = m.getCached x) := by
  constructor
  · intro p
    cases h : m.getNode p with
    | some l =>
      obtain ⟨q, hq, rfl⟩ := rep.keys p l h
      rw [rep'.node q hq, ← rep.node q hq, h]
    | none =>
      cases h' : m'.getNode p with
      | none => rfl
      | some l =>
        obtain ⟨q, hq, rfl⟩ := rep'.keys p l h'
        rw [rep.node q hq, ← rep'.node q hq, h'] at h
        cases h
  · intro x; rw [rep'.cache x, rep.cache x]

/-- **`ingest` of the canonical proof of a duplicate-free list of live leaves** (with arbitrary surplus hashes
appended) succeeds on either kind of forest, preserves the storage invariant for the same forest and adds exactly
the leaves of `L` to the cache; on a full forest no look-up changes -/
theorem xinv_ingest (nz : NZ H) {fl : Bool} {m : MapPollard H} {F : Forest H} (s : XInv fl m F)
    (L : List H) (ts : List Pos) (ps junk : List H) (hnd : L.Nodup) (hc : F.canon L = some (ts, ps)) :
    ∃ m', MapPollard.ingest L (ts.map (encP F.rows)) (ps ++ junk) m = (m', .ok ()) ∧ XInv fl m' F ∧
      (∀ y, m'.hasCached y = true ↔ (m.hasCached y = true ∨ y ∈ L)) ∧
      (fl = true → (∀ p, m'.getNode p = m.getNode p) ∧ (∀ x, m'.getCached x = m.getCached x)) ∧
      m'.numLeaves = m.numLeaves ∧ m'.totalRows = m.totalRows := by
  have Lw := s.laws nz
  have hn64 : F.numLeaves < 2 ^ 64 := Nat.lt_trans s.n_lt (by decide)
  obtain ⟨A, C, rep, inv⟩ := s.abs
  obtain ⟨m', hrun, rep', hn', hf'⟩ := ingest_spec nz rep s.full s.n_eq s.n_lt s.rows_le s.hyg junk hnd hc
  have hdom : ∀ x, (fillC F.posOf L C x).isSome = true ↔ ((C x).isSome = true ∨ x ∈ L) := by
    intro x
    unfold fillC
    by_cases hx : x ∈ L
    · obtain ⟨p, hp⟩ := (canon_spec hc).2.1 x hx
      simp [hx, hp]
    · simp [hx]
  have inv' := inv.fill Lw (KL := fun x => x ∈ L) (pathData_canon hc) (ts_iff hn64 s.hyg hc)
    (C2 := fillC F.posOf L C)
    (fun x t h => by
      unfold fillC at h
      by_cases hx : x ∈ L
      · rw [if_pos hx] at h
        exact Or.inr ⟨hx, Spec.posOf_some_mem h⟩
      · rw [if_neg hx] at h
        exact Or.inl h) hdom
  refine ⟨m', hrun, XInv.of_abs rep' inv' s.n_lt (hn'.trans s.n_eq) s.rows_le hf' s.hyg,
    fun y => by rw [rep'.hasCached y, rep.hasCached y]; exact hdom y, fun hf => ?_, hn',
    rep'.rows.trans rep.rows.symm⟩
  subst hf
  refine same_lookups rep (rep'.congr (fun q => (fillA_full_id Lw inv (fun q hq => ps_node hc hq)
    (fun q hq => pp_node hc hq) q).symm) (fun x => ?_))
  unfold fillC
  split
  · rename_i hx
    obtain ⟨p, hp⟩ := (canon_spec hc).2.1 x hx
    obtain ⟨t', ht'⟩ := Option.isSome_iff_exists.1 (inv.fullK rfl p x (Spec.posOf_some_mem hp))
    rw [hp, ht', Lw.leaf_hash p x t' true (Spec.posOf_some_mem hp) (inv.cached_pos x t' ht')]
  · rfl

theorem sinv_ingest (nz : NZ H) {m : MapPollard H} {F : Forest H} (s : SInv m F)
    (L : List H) (ts : List Pos) (ps junk : List H) (hnd : L.Nodup) (hc : F.canon L = some (ts, ps)) :
    ∃ m', MapPollard.ingest L (ts.map (encP F.rows)) (ps ++ junk) m = (m', .ok ()) ∧ SInv m' F ∧
      (∀ y, m'.hasCached y = true ↔ (m.hasCached y = true ∨ y ∈ L)) := by
  obtain ⟨m', h1, h2, h3, _⟩ := xinv_ingest nz (xinv_false_iff.2 s) L ts ps junk hnd hc
  exact ⟨m', h1, xinv_false_iff.1 h2, h3⟩

end main

section verify
open CalcComplete (touchedIdx)
open MapXInv (XInv xinv_false_iff)

/-- a position of fewer rows than the allocation, read as a position of the allocation, is on row 0, which `translatePos`
leaves alone -/
theorem translatePos_small {h T : Nat} (hT : T ≤ 63) (hlt : h < T) {q : Pos} (hq : MapInv.Valid h q) (to : U8) :
    translatePos (encP h q) (H8 T) to = encP h q := by
  have hx : Spec.enc h (q.1, q.2) < 2 ^ (h + 1) - 1 := Props.C16.enc_lt hq.1 hq.2
  have hpow : 2 ^ (h + 1) ≤ 2 ^ T := Nat.pow_le_pow_right (by decide) (by omega)
  have hx' : Spec.enc h (q.1, q.2) < 2 ^ (T - 0) := by rw [Nat.sub_zero]; omega
  have e : encP h q = encU T 0 (Spec.enc h (q.1, q.2)) := by
    unfold encP encU
    congr 1
    show _ = 2 ^ (T + 1) - 2 ^ (T + 1 - 0) + Spec.enc h (q.1, q.2)
    rw [Nat.sub_zero, Nat.sub_self, Nat.zero_add]
  rw [e]
  unfold translatePos
  rw [Props.C16.detectRow_enc hT (Nat.zero_le _) hx']
  simp

variable {m : MapPollard H} {F : Forest H} {L : List H} {ts : List Pos} {ps : List H}

/-- `Verify` translates the targets from the allocation to the forest's rows although they are API positions already:
the translation does nothing -/
theorem targets_translate_id (I : Inv m F) (hc : F.canon L = some (ts, ps)) :
    (if TreeRows m.numLeaves ≠ m.totalRows then
      translatePositions (ts.map (encP F.rows)) m.totalRows (TreeRows m.numLeaves) else ts.map (encP F.rows)) =
      ts.map (encP F.rows) := by
  by_cases hne : TreeRows m.numLeaves ≠ m.totalRows
  · rw [if_pos hne]
    have hlt : F.rows < m.totalRows.toNat := by
      have := I.rows_le
      rcases Nat.lt_or_ge F.rows m.totalRows.toNat with h | h
      · exact h
      · exfalso
        apply hne
        rw [treeRows_numLeaves I, U8_eq_H8 m.totalRows]
        congr 1
        omega
    unfold translatePositions
    rw [List.map_map]
    apply List.map_congr_left
    intro t ht
    simp only [Function.comp]
    have := translatePos_small I.total_le hlt (ts_valid hc (Nat.le_refl _) ht) (TreeRows m.numLeaves)
    rw [← U8_eq_H8 m.totalRows] at this
    exact this
  · rw [if_neg hne]

/-- `Verify(…, remember)` on a canonical proof is `ingest` or nothing; needs `Inv` only -/
theorem verifyM_canon (nz : NZ H) (I : Inv m F) (hy : Hyg F) (junk : List H) (hnd : L.Nodup)
    (hc : F.canon L = some (ts, ps)) {remember : Bool} {m' : MapPollard H}
    (hrun : remember = true → MapPollard.ingest L (ts.map (encP F.rows)) (ps ++ junk) m = (m', .ok ()))
    (hm : remember = false → m' = m) :
    MapPollard.verifyM L (ts.map (encP F.rows)) (ps ++ junk) remember m = (m', .ok ()) := by
  have hver := Props.C02.honest_proof_verifies F (Nat.le_of_lt I.n_lt) nz.nonzero hy.nz L ts ps junk hnd hc
  have hroots : m.getRoots.1 = F.roots := Props.C09.roots_eq I
  have hver' : verify m.numLeaves m.getRoots.1 L (ts.map (encP F.rows)) (ps ++ junk) =
      .ok (touchedIdx F.numLeaves ts) := by
    rw [hroots, I.n_eq]; exact hver
  unfold MapPollard.verifyM
  simp only
  rw [targets_translate_id I hc, hver']
  simp only
  cases remember with
  | false => rw [hm rfl]; rfl
  | true =>
    simp only [if_true]
    rw [hrun rfl]

/-- **`Verify(delHashes, proof, remember)` on the canonical proof of a duplicate-free list of live leaves** (with
arbitrary surplus hashes appended) succeeds on either kind of forest, preserves the storage invariant, and caches
the leaves of `L` iff `remember` is set; on a full forest no look-up changes -/
theorem xinv_verifyM (nz : NZ H) {fl : Bool} {m : MapPollard H} {F : Forest H} (s : XInv fl m F)
    (L : List H) (ts : List Pos) (ps junk : List H) (hnd : L.Nodup) (hc : F.canon L = some (ts, ps))
    (remember : Bool) :
    ∃ m', MapPollard.verifyM L (ts.map (encP F.rows)) (ps ++ junk) remember m = (m', .ok ()) ∧ XInv fl m' F ∧
      (∀ y, m'.hasCached y = true ↔ (m.hasCached y = true ∨ (remember = true ∧ y ∈ L))) ∧
      (fl = true → (∀ p, m'.getNode p = m.getNode p) ∧ (∀ x, m'.getCached x = m.getCached x)) ∧
      m'.numLeaves = m.numLeaves ∧ m'.totalRows = m.totalRows := by
  cases remember with
  | false =>
    exact ⟨m, verifyM_canon nz (s.inv nz) s.hyg junk hnd hc (fun h => by cases h) (fun _ => rfl), s,
      fun y => by simp, fun _ => ⟨fun _ => rfl, fun _ => rfl⟩, rfl, rfl⟩
  | true =>
    obtain ⟨m', hrun, s', hcache, rest⟩ := xinv_ingest nz s L ts ps junk hnd hc
    exact ⟨m', verifyM_canon nz (s.inv nz) s.hyg junk hnd hc (fun _ => hrun) (fun h => by cases h), s',
      fun y => by rw [hcache y]; simp, rest⟩

theorem sinv_verifyM (nz : NZ H) {m : MapPollard H} {F : Forest H} (s : SInv m F)
    (L : List H) (ts : List Pos) (ps junk : List H) (hnd : L.Nodup) (hc : F.canon L = some (ts, ps))
    (remember : Bool) :
    ∃ m', MapPollard.verifyM L (ts.map (encP F.rows)) (ps ++ junk) remember m = (m', .ok ()) ∧ SInv m' F ∧
      (∀ y, m'.hasCached y = true ↔ (m.hasCached y = true ∨ (remember = true ∧ y ∈ L))) := by
  obtain ⟨m', h1, h2, h3, _⟩ := xinv_verifyM nz (xinv_false_iff.2 s) L ts ps junk hnd hc remember
  exact ⟨m', h1, xinv_false_iff.1 h2, h3⟩

end verify

/-- the checks are one hypothesis so that one evaluation of a concrete state decides them all -/
theorem sinv_of_checks (nz : NZ H) {m : MapPollard H} {F : Forest H} (hy : Hyg F)
    (h : invCheck m F = true ∧ m.full = false ∧ rootFlagsCheck m F = true) : SInv m F :=
  have inv := Props.C09.invCheck_sound h.1
  SInv.of_inv nz inv h.2.1 hy (rootFlagsCheck_sound h.2.2 inv.total_le)

/-! `m5` / `F5` of `Props/C09.lean`: five live leaves, leaves 0, 2, 4 cached, allocation
`TotalRows = 63 ≠ TreeRows = 3` (so the coordinate translations and, with a surplus hash, the
trimming branch are exercised).  `m5p`: the same forest after `Prune [leaf 0, leaf 2]`, which
stores the two roots only — there the ingest has to store proof hashes. -/

namespace Example
open MapSInv.Example
open Props.C09.Example (m5 F5 T)

theorem canon13 : F5.canon [T.leaf 1, .leaf 3] = some ([(0, 1), (0, 3)], [T.leaf 0, .leaf 2]) := by
  decide +kernel

example : ∃ m', MapPollard.verifyM [T.leaf 1, .leaf 3] (([(0, 1), (0, 3)] : List Pos).map (encP F5.rows))
      ([T.leaf 0, .leaf 2] ++ [T.leaf 77]) true m5 = (m', .ok ()) ∧ SInv m' F5 ∧
    (∀ y, m'.hasCached y = true ↔ (m5.hasCached y = true ∨ (true = true ∧ y ∈ [T.leaf 1, .leaf 3]))) :=
  sinv_verifyM crT.toNZ m5_sinv [T.leaf 1, .leaf 3] _ _ [T.leaf 77] (by decide) canon13 true

example : ∃ ts ps, F5.canon [T.leaf 1, .leaf 3] = some (ts, ps) ∧
    ∃ m', MapPollard.verifyM [T.leaf 1, .leaf 3] (ts.map (encP F5.rows)) (ps ++ []) true m5 = (m', .ok ()) ∧
      SInv m' F5 := by
  obtain ⟨ts, ps, hc⟩ := Props.C02.canon_defined (F := F5) (by decide) (L := [T.leaf 1, .leaf 3])
    (by decide +kernel)
  obtain ⟨m', h1, h2, _⟩ := sinv_verifyM crT.toNZ m5_sinv [T.leaf 1, .leaf 3] ts ps [] (by decide) hc true
  exact ⟨ts, ps, hc, m', h1, h2⟩

example : ∃ m', MapPollard.ingest [T.leaf 1, .leaf 3] (([(0, 1), (0, 3)] : List Pos).map (encP F5.rows))
      ([T.leaf 0, .leaf 2] ++ []) m5 = (m', .ok ()) ∧ SInv m' F5 ∧
    (∀ y, m'.hasCached y = true ↔ (m5.hasCached y = true ∨ y ∈ [T.leaf 1, .leaf 3])) :=
  sinv_ingest crT.toNZ m5_sinv [T.leaf 1, .leaf 3] _ _ [] (by decide) canon13

example : ([(0, 1), (0, 3)] : List Pos).map (encP F5.rows) = [1#64, 3#64] ∧
    (MapPollard.verifyM [T.leaf 1, .leaf 3] [1#64, 3#64] [T.leaf 0, .leaf 2, .leaf 77] true m5).2.isOk = true ∧
    (MapPollard.verifyM [T.leaf 1, .leaf 3] [1#64, 3#64] [T.leaf 0, .leaf 2, .leaf 77] true m5).1.cached =
      [(.leaf 3, 3#64), (.leaf 1, 1#64), (.leaf 4, 4#64), (.leaf 2, 2#64), (.leaf 0, 0#64)] ∧
    (MapPollard.verifyM [T.leaf 1, .leaf 3] [1#64, 3#64] [T.leaf 0, .leaf 2, .leaf 77] true m5).1.nodes.length = 8 ∧
    (MapPollard.verifyM [T.leaf 1, .leaf 3] [1#64, 3#64] [T.leaf 0, .leaf 2, .leaf 77] false m5).1.cached = m5.cached := by
  decide +kernel

def m5p : MapPollard T := (MapPollard.prune [T.leaf 0, T.leaf 2] m5).1

theorem m5p_sinv : SInv m5p F5 := sinv_of_checks crT.toNZ F5_hyg (by decide +kernel)

/-- on the pruned state the two proof hashes and four of the five path nodes are new (the root `(2,0)` is stored) -/
example : ∃ m', MapPollard.verifyM [T.leaf 1, .leaf 3] (([(0, 1), (0, 3)] : List Pos).map (encP F5.rows))
      ([T.leaf 0, .leaf 2] ++ [T.leaf 77]) true m5p = (m', .ok ()) ∧ SInv m' F5 ∧
    (∀ y, m'.hasCached y = true ↔ (m5p.hasCached y = true ∨ (true = true ∧ y ∈ [T.leaf 1, .leaf 3]))) :=
  sinv_verifyM crT.toNZ m5p_sinv [T.leaf 1, .leaf 3] _ _ [T.leaf 77] (by decide) canon13 true

example : m5p.nodes.length = 2 ∧ m5p.cached = [(.leaf 4, 4#64)] ∧
    (MapPollard.verifyM [T.leaf 1, .leaf 3] [1#64, 3#64] [T.leaf 0, .leaf 2, .leaf 77] true m5p).2.isOk = true ∧
    (MapPollard.verifyM [T.leaf 1, .leaf 3] [1#64, 3#64] [T.leaf 0, .leaf 2, .leaf 77] true m5p).1.cached =
      [(.leaf 3, 3#64), (.leaf 1, 1#64), (.leaf 4, 4#64)] ∧
    (MapPollard.verifyM [T.leaf 1, .leaf 3] [1#64, 3#64] [T.leaf 0, .leaf 2, .leaf 77] true m5p).1.nodes.length = 8 ∧
    -- the stored proof hashes carry no flag, the targets do
    ((MapPollard.verifyM [T.leaf 1, .leaf 3] [1#64, 3#64] [T.leaf 0, .leaf 2, .leaf 77] true m5p).1.getNode 0#64).map
      (·.remember) = some false ∧
    ((MapPollard.verifyM [T.leaf 1, .leaf 3] [1#64, 3#64] [T.leaf 0, .leaf 2, .leaf 77] true m5p).1.getNode 1#64).map
      (·.remember) = some true := by
  decide +kernel

end Example

end UtreexoVerif.Proofs.MapIngest

namespace UtreexoVerif.Proofs.MapUndoSteps
open MapIngest
open Model (Leaf)
open Spec (Pos)
open MapAInv (KLeaf)
open MapUndoDefs (HInv)
variable {H : Type} [DecidableEq H] [Hasher H]

/-! ## non-vacuity of `MapUndoSteps.hinv_fill`

(the theorem is in `Proofs/MapUndoFill.lean`; its example stands here because it needs `m5p` / `F5` of `MapIngest.Example`
above: five live leaves, only leaf 4 cached, only the two roots stored.)  The hole is the path set of the leaves 1 and 3,
which `ingA` fills. -/

namespace Example
open MapSInv.Example MapIngest.Example
open Props.C09.Example (T F5)
open SpecPlan (pathSet)
open PForestSpec (FRoot)

/-- the hypotheses of `hinv_fill` (and of `HInv.mono_hole`, which provides the holed invariant) hold
on a concrete instance with a non-empty hole (five path nodes) and two proof positions -/
example : ∃ (A : Pos → Option (Leaf T)) (C C2 : T → Option Pos),
    (pathSet F5 [(0, 1), (0, 3)]).length = 5 ∧ (F5.proofPositions [(0, 1), (0, 3)]).length = 2 ∧
    HInv A C F5.nodes (FRoot F5) (fun x => (C x).isSome = true) (fun q => q ∈ pathSet F5 [(0, 1), (0, 3)]) ∧
    HInv (ingA (pathSet F5 [(0, 1), (0, 3)]) (F5.proofPositions [(0, 1), (0, 3)]) [(0, 1), (0, 3)] (tvF F5) A)
      C2 F5.nodes (FRoot F5) (fun x => (C2 x).isSome = true) (fun _ => False) := by
  have s := m5p_sinv
  have Lw := s.laws crT.toNZ
  have hn64 := s.n_lt64
  obtain ⟨A, C, rep, inv⟩ := s.abs
  have hc := canon13
  have hleaf : ∀ e ∈ F5.nodes, e.1 ∈ pathSet F5 [(0, 1), (0, 3)] → e.2.2 = true →
      e.2.1 = T.leaf 1 ∨ e.2.1 = T.leaf 3 := by decide +kernel
  have hnc : m5p.hasCached (T.leaf 1) = false ∧ m5p.hasCached (T.leaf 3) = false := by decide +kernel
  have hk : ∀ t, KLeaf F5.nodes (fun x => (C x).isSome = true) t → ¬ t ∈ pathSet F5 [(0, 1), (0, 3)] := by
    rintro t ⟨x, hx, hm⟩ ht
    have hx' : m5p.hasCached x = true := by rw [rep.hasCached x]; exact hx
    rcases hleaf _ hm ht rfl with h | h
    · simp only at h; rw [h, hnc.1] at hx'; cases hx'
    · simp only at h; rw [h, hnc.2] at hx'; cases hx'
  have hinv : HInv A C F5.nodes (FRoot F5) (fun x => (C x).isSome = true)
      (fun q => q ∈ pathSet F5 [(0, 1), (0, 3)]) :=
    (HInv.of_ainv inv).mono_hole (fun _ h => h.elim) hk
  let C2 : T → Option Pos := fun x => if x ∈ [T.leaf 1, T.leaf 3] then F5.posOf x else C x
  refine ⟨A, C, C2, by decide +kernel, by decide +kernel, hinv, ?_⟩
  have pd := pathData_canon hc
  refine hinv_fill Lw (KL := fun x => x ∈ [T.leaf 1, T.leaf 3]) hinv
    (ts_iff hn64 s.hyg hc) pd.psn pd.pst pd.ts_ps pd.ps_of pd.pp pd.ppn ?_ ?_
  · intro x t h
    by_cases hx : x ∈ [T.leaf 1, T.leaf 3]
    · simp only [C2, if_pos hx] at h
      exact Or.inr ⟨hx, Spec.posOf_some_mem h⟩
    · simp only [C2, if_neg hx] at h
      exact Or.inl h
  · intro x
    by_cases hx : x ∈ [T.leaf 1, T.leaf 3]
    · simp only [C2, if_pos hx]
      have : (F5.posOf x).isSome = true := by
        simp only [List.mem_cons, List.not_mem_nil, or_false] at hx
        rcases hx with rfl | rfl <;> decide +kernel
      simp [this, hx]
    · simp only [C2, if_neg hx]
      simp [hx]

end Example

end UtreexoVerif.Proofs.MapUndoSteps
