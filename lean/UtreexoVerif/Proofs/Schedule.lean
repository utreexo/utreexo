/-
  Property C15: the eviction loop of `GenerateCachingSchedule` (`Model.scheduleOfTTLs`), for any
  ttl tables (the ttl bookkeeping of `genTTLs` is in `Proofs/SchedTTL.lean`).
-/
import UtreexoVerif.Model.Schedule
import UtreexoVerif.Proofs.SortBy
import UtreexoVerif.Proofs.CalcStep

namespace UtreexoVerif.Proofs.Schedule
open Model

/-- `CalcSound.bind_eq_ok` in the `>>=` spelling that unfolding a `do` block leaves -/
theorem bind_ok {α β} {x : Out α} {f : α → Out β} {b : β} :
    (x >>= f) = .ok b ↔ ∃ a, x = .ok a ∧ f a = .ok b := CalcSound.bind_eq_ok

theorem HeightMap.get_put_same (m : HeightMap) (k : U64) (v : Int) : (m.put k v).get k = v := by
  unfold HeightMap.put HeightMap.get HeightMap.delete
  rw [List.find?_append]
  have : List.find? (fun e => e.1 == k) (List.filter (fun e => !(e.1 == k)) m) = none := by
    rw [List.find?_eq_none]
    intro x hx
    have := (List.mem_filter.mp hx).2
    simpa using this
  simp [this]

theorem HeightMap.get_delete_ne (m : HeightMap) (k k' : U64) (h : k' ≠ k) :
    (m.delete k).get k' = m.get k' := by
  unfold HeightMap.get HeightMap.delete
  rw [List.find?_filter]
  congr 2
  funext e
  by_cases he : e.1 = k'
  · simp [he, h]
  · simp [he]

theorem HeightMap.get_put_ne (m : HeightMap) (k k' : U64) (v : Int) (h : k' ≠ k) :
    (m.put k v).get k' = m.get k' := by
  have h1 := HeightMap.get_delete_ne m k k' h
  unfold HeightMap.put
  unfold HeightMap.get at h1 ⊢
  rw [List.find?_append]
  have : List.find? (fun e => e.1 == k') [(k, v)] = none := by
    simp only [List.find?_cons, List.find?_nil]
    have : (k == k') = false := by
      apply beq_false_of_ne
      exact fun h' => h h'.symm
    simp [this]
  rw [this, Option.or_none]
  exact h1

/-- a schedule: per block the positions to cache, as `GenerateCachingSchedule` returns it -/
abbrev Sch := List (List U64)

/-- `e` is an entry of the ttl table of block `i`.  (`InSch` below is the same for schedules; `Inv`
and `schedule_main` write it out as `sch[h]? = some l → p ∈ l → …`, which is what their users have.) -/
def Ent (T : List (List TTLInfo)) (i : Nat) (e : TTLInfo) : Prop := ∃ l, T[i]? = some l ∧ e ∈ l

/-- hypothesis of the C15 theorems -/
def Distinct (T : List (List TTLInfo)) : Prop := (T.flatten.map (·.pos)).Nodup

/-- `genTTLs` guarantees it -/
def PosTTL (T : List (List TTLInfo)) : Prop := ∀ l ∈ T, ∀ e ∈ l, 0 < e.ttl

theorem Ent.lt {T : List (List TTLInfo)} {i e} (h : Ent T i e) : i < T.length := by
  obtain ⟨l, hl, _⟩ := h
  exact (List.getElem?_eq_some_iff.mp hl).1

theorem Ent.pos {T : List (List TTLInfo)} {i e} (hp : PosTTL T) (h : Ent T i e) : 0 < e.ttl := by
  obtain ⟨l, hl, he⟩ := h
  exact hp l (List.mem_of_getElem? hl) e he

theorem Ent.mem_flatten {T : List (List TTLInfo)} {i e} (h : Ent T i e) : e ∈ T.flatten := by
  obtain ⟨l, hl, he⟩ := h
  exact List.mem_flatten.mpr ⟨l, List.mem_of_getElem? hl, he⟩

theorem distinct_pairwise {T : List (List TTLInfo)} (hd : Distinct T) :
    T.flatten.Pairwise (fun a b => a.pos ≠ b.pos) := by
  unfold Distinct at hd
  rw [List.nodup_iff_pairwise_ne, List.pairwise_map] at hd
  exact hd

theorem distinct_block {T : List (List TTLInfo)} (hd : Distinct T) {i i' : Nat} {e e' : TTLInfo}
    (h : Ent T i e) (h' : Ent T i' e') (hpos : e.pos = e'.pos) : i = i' := by
  have hp := (List.pairwise_flatten.mp (distinct_pairwise hd)).2
  rw [List.pairwise_iff_getElem] at hp
  obtain ⟨l, hl, he⟩ := h
  obtain ⟨l', hl', he'⟩ := h'
  obtain ⟨hi, hli⟩ := List.getElem?_eq_some_iff.mp hl
  obtain ⟨hi', hli'⟩ := List.getElem?_eq_some_iff.mp hl'
  rcases Nat.lt_trichotomy i i' with hlt | heq | hgt
  · have := hp i i' hi hi' hlt e (by rw [hli]; exact he) e' (by rw [hli']; exact he')
    exact absurd hpos this
  · exact heq
  · have := hp i' i hi' hi hgt e' (by rw [hli']; exact he') e (by rw [hli]; exact he)
    exact absurd hpos.symm this

theorem distinct_within {T : List (List TTLInfo)} (hd : Distinct T) {t : Nat} {l : List TTLInfo}
    (hl : T[t]? = some l) : l.Pairwise (fun a b => a.pos ≠ b.pos) :=
  (List.pairwise_flatten.mp (distinct_pairwise hd)).1 l (List.mem_of_getElem? hl)

theorem distinct_split {T : List (List TTLInfo)} (hd : Distinct T) {t : Nat} {pre post : List TTLInfo} {e : TTLInfo}
    (hl : T[t]? = some (pre ++ e :: post)) : ∀ e' ∈ pre, e'.pos ≠ e.pos := by
  have := distinct_within hd hl
  rw [List.pairwise_append] at this
  intro e' he'
  exact this.2.2 e' he' e (by simp)

theorem distinct_entry {T : List (List TTLInfo)} (hd : Distinct T) {i : Nat} {e e' : TTLInfo}
    (h : Ent T i e) (h' : Ent T i e') (hpos : e.pos = e'.pos) : e = e' := by
  obtain ⟨l, hl, he⟩ := h
  obtain ⟨l', hl', he'⟩ := h'
  rw [hl] at hl'
  cases hl'
  have hp := distinct_within hd hl
  rw [List.pairwise_iff_getElem] at hp
  obtain ⟨a, ha, rfl⟩ := List.mem_iff_getElem.mp he
  obtain ⟨b, hb, rfl⟩ := List.mem_iff_getElem.mp he'
  rcases Nat.lt_trichotomy a b with hlt | heq | hgt
  · exact absurd hpos (hp a b ha hb hlt)
  · subst heq; rfl
  · exact absurd hpos.symm (hp b a hb ha hgt)

theorem nodup_eraseIdx_pos {cache : List TTLInfo} (hnd : (cache.map (·.pos)).Nodup) {k : Nat}
    (hk : k < cache.length) : ∀ c ∈ cache.eraseIdx k, c.pos ≠ cache[k].pos := by
  rw [List.nodup_iff_pairwise_ne, List.pairwise_map, List.pairwise_iff_getElem] at hnd
  intro c hc
  obtain ⟨i, hi, hne, rfl⟩ := List.mem_eraseIdx_iff_getElem.mp hc
  rcases Nat.lt_or_gt_of_ne hne with hlt | hgt
  · exact hnd i k hi hk hlt
  · exact fun h => hnd k i hk hi hgt h.symm

theorem schAppend_ok (sch : Sch) (h : Int) (p : U64) (l : List U64) (h0 : 0 ≤ h)
    (hl : sch[h.toNat]? = some l) :
    schAppend sch h p = .ok (sch.set h.toNat (sortU64 (l ++ [p]))) := by
  unfold schAppend
  have : ¬ h < 0 := by omega
  simp only [this, ↓reduceIte, hl]

theorem set_getElem?_cases (sch : Sch) (i : Nat) (x : List U64) (j : Nat) (l' : List U64)
    (h : (sch.set i x)[j]? = some l') : (j = i ∧ l' = x) ∨ (j ≠ i ∧ sch[j]? = some l') := by
  rw [List.getElem?_set] at h
  by_cases hij : i = j
  · subst hij
    simp only [↓reduceIte] at h
    split at h
    · left; exact ⟨rfl, (Option.some.inj h).symm⟩
    · cases h
  · simp only [hij, ↓reduceIte] at h
    right; exact ⟨fun h' => hij h'.symm, h⟩

def InSch (sch : Sch) (h : Nat) (p : U64) : Prop := ∃ l, sch[h]? = some l ∧ p ∈ l

theorem inSch_set {sch : Sch} {i : Nat} {l : List U64} (hl : sch[i]? = some l) (p : U64) {h : Nat} {q : U64} :
    InSch (sch.set i (sortU64 (l ++ [p]))) h q ↔ InSch sch h q ∨ (h = i ∧ q = p) := by
  have hi : i < sch.length := (List.getElem?_eq_some_iff.mp hl).1
  unfold InSch
  by_cases hhi : h = i
  · subst hhi
    rw [List.getElem?_set_self hi]
    constructor
    · rintro ⟨l', hl', hq⟩
      cases hl'
      rw [SortBy.mem_sortU64, List.mem_append, List.mem_singleton] at hq
      exact hq.imp (fun hq => ⟨l, hl, hq⟩) (fun hq => ⟨rfl, hq⟩)
    · rintro (⟨l0, hl0, hq⟩ | ⟨_, rfl⟩)
      · rw [hl] at hl0
        cases hl0
        exact ⟨_, rfl, by rw [SortBy.mem_sortU64]; exact List.mem_append_left _ hq⟩
      · exact ⟨_, rfl, by rw [SortBy.mem_sortU64]; simp⟩
  · rw [List.getElem?_set_ne (fun e => hhi e.symm)]
    exact ⟨Or.inl, fun h' => h'.resolve_right (fun e => hhi e.1)⟩

/-- cache entry `c` stands for the entry `e` of block `i` (`i < t`, or `i = t` and `e` is one of
the entries `pre` of block `t` already inserted); `createHeights` maps its position to `i`;
its ttl has been decremented once per block after `i` up to block `t` (`off = 1`: the
decrement of block `t` is still to come) -/
def CacheEnt (T : List (List TTLInfo)) (t : Nat) (pre : List TTLInfo) (ch : HeightMap) (off : Int)
    (c : TTLInfo) : Prop :=
  0 < c.ttl ∧ ∃ i e, ((i < t ∧ Ent T i e) ∨ (i = t ∧ e ∈ pre)) ∧ e.pos = c.pos ∧
    ch.get c.pos = (i : Int) ∧ c.ttl = e.ttl - ((t : Int) - i) + off

/-- invariant of `GenerateCachingSchedule`'s loops while block `t` is processed; `pre` = the entries
of block `t`'s table inserted so far (as in `CacheEnt`); the cache is `kept ++ rest` where `rest` is
the part the expiry loop has not visited yet; `sOff = 1` before the expiry loop of block `t` has run
(everything scheduled so far expired in a block `< t`).  Three shapes occur: `t 1 [] [] cache`
between blocks, `t 0 [] kept rest` in the expiry loop, `t 0 pre cache []` in the insertion loop. -/
structure Inv (T : List (List TTLInfo)) (m : Int) (t : Nat) (sOff : Int) (pre kept rest : List TTLInfo)
    (ch : HeightMap) (sch : Sch) : Prop where
  nodup : ((kept ++ rest).map (·.pos)).Nodup
  entK : ∀ c ∈ kept, CacheEnt T t pre ch 0 c
  entR : ∀ c ∈ rest, CacheEnt T t pre ch 1 c
  len : ((kept ++ rest).length : Int) ≤ m
  schLen : sch.length = T.length
  sorted : ∀ (h : Nat) (l : List U64), sch[h]? = some l → l.Pairwise (· ≤ ·)
  schNodup : ∀ (h : Nat) (l : List U64), sch[h]? = some l → l.Nodup
  schEnt : ∀ (h : Nat) (l : List U64) (p : U64), sch[h]? = some l → p ∈ l → ∃ e, Ent T h e ∧ e.pos = p ∧ (h : Int) + e.ttl + sOff ≤ t
  disj : ∀ (h : Nat) (l : List U64) (p : U64), sch[h]? = some l → p ∈ l → p ∉ (kept ++ rest).map (·.pos)

theorem CacheEnt.ch_congr {T t pre ch ch' off c} (h : CacheEnt T t pre ch off c)
    (hch : ch'.get c.pos = ch.get c.pos) : CacheEnt T t pre ch' off c := by
  obtain ⟨h0, i, e, h1, h2, h3, h4⟩ := h
  exact ⟨h0, i, e, h1, h2, hch.trans h3, h4⟩

theorem CacheEnt.earlier {T t ch off c} (h : CacheEnt T t [] ch off c) :
    0 < c.ttl ∧ ∃ i e, i < t ∧ Ent T i e ∧ e.pos = c.pos ∧ ch.get c.pos = (i : Int) ∧
      c.ttl = e.ttl - ((t : Int) - i) + off := by
  obtain ⟨h0, i, e, h1, h2, h3, h4⟩ := h
  rcases h1 with h1 | h1
  · exact ⟨h0, i, e, h1.1, h1.2, h2, h3, h4⟩
  · exact absurd h1.2 (by simp)

theorem Inv.pos_ne_head {T m t sOff pre kept c r ch sch} (hinv : Inv T m t sOff pre kept (c :: r) ch sch) :
    ∀ c' ∈ kept ++ r, c'.pos ≠ c.pos := by
  intro c' hc' heq
  have hperm : ((kept ++ c :: r).map (·.pos)).Perm (c.pos :: (kept ++ r).map (·.pos)) := by simp
  exact (List.nodup_cons.mp (hperm.nodup_iff.mp hinv.nodup)).1 (by rw [← heq]; exact List.mem_map_of_mem hc')

theorem Inv.expire {T m t kept c r ch sch} (hinv : Inv T m t 0 [] kept (c :: r) ch sch) (hc1 : c.ttl = 1) :
    ∃ (i : Nat) (l : List U64), ch.get c.pos = (i : Int) ∧ sch[i]? = some l ∧
      Inv T m t 0 [] kept r (ch.delete c.pos) (sch.set i (sortU64 (l ++ [c.pos]))) := by
  obtain ⟨_, i, e, hit, hE, hepos, hchget, hcttl⟩ := (hinv.entR c (by simp)).earlier
  have hcne := hinv.pos_ne_head
  have hilt : i < sch.length := by rw [hinv.schLen]; exact hE.lt
  have hl : sch[i]? = some sch[i] := List.getElem?_eq_getElem hilt
  have hsub : ((kept ++ r).map (·.pos)).Sublist ((kept ++ c :: r).map (·.pos)) :=
    (List.Sublist.append_left (List.sublist_cons_self c r) kept).map _
  refine ⟨i, sch[i], hchget, hl, hsub.nodup hinv.nodup, ?_, ?_, ?_, ?_, ?_, ?_, ?_, ?_⟩
  · intro c' hc'
    exact (hinv.entK c' hc').ch_congr (HeightMap.get_delete_ne _ _ _ (hcne c' (by simp [hc'])))
  · intro c' hc'
    exact (hinv.entR c' (by simp [hc'])).ch_congr (HeightMap.get_delete_ne _ _ _ (hcne c' (by simp [hc'])))
  · have := hinv.len
    simp only [List.length_append, List.length_cons] at this ⊢
    omega
  · rw [List.length_set]; exact hinv.schLen
  · intro h l' hl'
    rcases set_getElem?_cases _ _ _ _ _ hl' with ⟨_, rfl⟩ | ⟨_, hold⟩
    · exact SortBy.sorted_sortU64 _
    · exact hinv.sorted h l' hold
  · intro h l' hl'
    rcases set_getElem?_cases _ _ _ _ _ hl' with ⟨_, rfl⟩ | ⟨_, hold⟩
    · rw [(SortBy.perm_sortU64 _).nodup_iff, List.nodup_append]
      refine ⟨hinv.schNodup i _ hl, by simp, ?_⟩
      intro a ha b hb hab
      rw [List.mem_singleton.mp hb] at hab
      exact hinv.disj i _ c.pos hl (hab ▸ ha) (by simp)
    · exact hinv.schNodup h l' hold
  · intro h l' p hl' hp
    rcases (inSch_set hl c.pos).mp ⟨l', hl', hp⟩ with ⟨l0, hl0, hp0⟩ | ⟨rfl, rfl⟩
    · exact hinv.schEnt h l0 p hl0 hp0
    · exact ⟨e, hE, hepos, by omega⟩
  · intro h l' p hl' hp hmem
    rcases (inSch_set hl c.pos).mp ⟨l', hl', hp⟩ with ⟨l0, hl0, hp0⟩ | ⟨rfl, rfl⟩
    · exact hinv.disj h l0 p hl0 hp0 (hsub.subset hmem)
    · obtain ⟨c', hc', hpc⟩ := List.mem_map.mp hmem
      exact hcne c' hc' hpc

abbrev dec (c : TTLInfo) : TTLInfo := { c with ttl := c.ttl - 1 }

theorem Inv.keep {T m t kept c r ch sch} (hinv : Inv T m t 0 [] kept (c :: r) ch sch) (hc1 : c.ttl ≠ 1) :
    Inv T m t 0 [] (kept ++ [dec c]) r ch sch := by
  obtain ⟨hc0, i, e, hie, hepos, hchget, hcttl⟩ := hinv.entR c (by simp)
  refine ⟨?_, ?_, ?_, ?_, hinv.schLen, hinv.sorted, hinv.schNodup, hinv.schEnt, ?_⟩
  · have : ((kept ++ [dec c] ++ r).map (·.pos)) = ((kept ++ c :: r).map (·.pos)) := by
      simp
    rw [this]; exact hinv.nodup
  · intro c' hc'
    rcases List.mem_append.mp hc' with h1 | h1
    · exact hinv.entK c' h1
    · rw [List.mem_singleton.mp h1]
      exact ⟨by simp only; omega, i, e, hie, hepos, hchget, by simp only; omega⟩
  · intro c' hc'
    exact hinv.entR c' (by simp [hc'])
  · have := hinv.len
    simp only [List.length_append, List.length_cons, List.length_nil] at this ⊢
    omega
  · intro h l' p hl' hp
    simpa using hinv.disj h l' p hl' hp

def survivors (cache : List TTLInfo) : List TTLInfo := (cache.filter (fun c => c.ttl != 1)).map dec

theorem expire_inv {T : List (List TTLInfo)} {m : Int} {t : Nat} :
    ∀ (rest kept : List TTLInfo) (ch : HeightMap) (sch : Sch), Inv T m t 0 [] kept rest ch sch →
    ∃ ch' sch', schExpire rest kept ch sch = .ok (kept ++ survivors rest, ch', sch') ∧
      Inv T m t 0 [] (kept ++ survivors rest) [] ch' sch' ∧
      ∀ h p, InSch sch' h p ↔
        InSch sch h p ∨ ∃ c ∈ rest, c.ttl = 1 ∧ c.pos = p ∧ ch.get p = (h : Int) := by
  intro rest
  induction rest with
  | nil =>
    intro kept ch sch hinv
    exact ⟨ch, sch, by simp [survivors, schExpire], by simpa [survivors] using hinv, fun h p => by simp⟩
  | cons c r ih =>
    intro kept ch sch hinv
    have hcne := hinv.pos_ne_head
    by_cases hc1 : c.ttl = 1
    · obtain ⟨i, l, hget, hl, hinv'⟩ := hinv.expire hc1
      obtain ⟨ch', sch', hrun, hI, hiff⟩ := ih kept _ _ hinv'
      have htoNat : (ch.get c.pos).toNat = i := by rw [hget, Int.toNat_natCast]
      have happ := schAppend_ok sch (ch.get c.pos) c.pos l (by rw [hget]; omega) (by rw [htoNat]; exact hl)
      rw [htoNat] at happ
      rw [show survivors (c :: r) = survivors r by simp [survivors, hc1]]
      refine ⟨ch', sch', ?_, hI, ?_⟩
      · have hb : ((c.ttl - 1) == 0) = true := by simp [hc1]
        rw [schExpire]
        simp only [hb, ↓reduceIte, happ]
        exact hrun
      · intro h p
        rw [hiff h p, inSch_set hl c.pos]
        constructor
        · rintro ((h0 | ⟨rfl, rfl⟩) | ⟨c0, hc0, h1, rfl, hg⟩)
          · exact Or.inl h0
          · exact Or.inr ⟨c, List.mem_cons_self, hc1, rfl, hget⟩
          · refine Or.inr ⟨c0, List.mem_cons_of_mem _ hc0, h1, rfl, ?_⟩
            rw [← hg]; exact (HeightMap.get_delete_ne _ _ _ (hcne c0 (by simp [hc0]))).symm
        · rintro (h0 | ⟨c0, hc0, h1, rfl, hg⟩)
          · exact Or.inl (Or.inl h0)
          · rcases List.mem_cons.mp hc0 with rfl | hin
            · have : (i : Int) = h := hget.symm.trans hg
              exact Or.inl (Or.inr ⟨by omega, rfl⟩)
            · refine Or.inr ⟨c0, hin, h1, rfl, ?_⟩
              rw [HeightMap.get_delete_ne _ _ _ (hcne c0 (by simp [hin]))]; exact hg
    · have hk : Inv T m t 0 [] (kept ++ [dec c]) r ch sch := hinv.keep hc1
      obtain ⟨ch', sch', hrun, hI, hiff⟩ := ih _ ch sch hk
      have hs : kept ++ survivors (c :: r) = kept ++ [dec c] ++ survivors r := by
        rw [show survivors (c :: r) = dec c :: survivors r by simp [survivors, hc1]]; simp
      rw [hs]
      refine ⟨ch', sch', ?_, hI, ?_⟩
      · have hb : ((c.ttl - 1) == 0) = false := by simp; omega
        rw [schExpire]
        simp only [hb]
        exact hrun
      · intro h p
        rw [hiff h p]
        constructor
        · rintro (h0 | ⟨c0, hc0, hx⟩)
          · exact Or.inl h0
          · exact Or.inr ⟨c0, List.mem_cons_of_mem _ hc0, hx⟩
        · rintro (h0 | ⟨c0, hc0, h1, hx⟩)
          · exact Or.inl h0
          · rcases List.mem_cons.mp hc0 with rfl | hin
            · exact absurd h1 hc1
            · exact Or.inr ⟨c0, hin, h1, hx⟩

theorem CacheEnt.mono_pre {T t pre ch off c} (x : List TTLInfo) (h : CacheEnt T t pre ch off c) :
    CacheEnt T t (pre ++ x) ch off c := by
  obtain ⟨h0, i, e, h1, h2, h3, h4⟩ := h
  refine ⟨h0, i, e, ?_, h2, h3, h4⟩
  rcases h1 with h1 | h1
  · exact Or.inl h1
  · exact Or.inr ⟨h1.1, List.mem_append.mpr (Or.inl h1.2)⟩

theorem CacheEnt.mem_flatten {T : List (List TTLInfo)} {t pre post ch off c}
    (hT : T[t]? = some (pre ++ post)) (h : CacheEnt T t pre ch off c) :
    c.pos ∈ T.flatten.map (·.pos) := by
  obtain ⟨_, i, e, h1, h2, _, _⟩ := h
  rw [← h2]
  apply List.mem_map_of_mem
  rcases h1 with h1 | h1
  · exact h1.2.mem_flatten
  · exact List.mem_flatten.mpr ⟨_, List.mem_of_getElem? hT, List.mem_append.mpr (Or.inl h1.2)⟩

theorem Inv.fresh {T : List (List TTLInfo)} {m : Int} {t : Nat} (hd : Distinct T) (hp : PosTTL T)
    {pre post : List TTLInfo} {e : TTLInfo} (hT : T[t]? = some (pre ++ e :: post))
    {cache : List TTLInfo} {ch : HeightMap} {sch : Sch} (hinv : Inv T m t 0 pre cache [] ch sch) :
    (∀ c ∈ cache, c.pos ≠ e.pos) ∧
    ∀ (h : Nat) (l : List U64) (p : U64), sch[h]? = some l → p ∈ l → p ≠ e.pos := by
  have hEnt : Ent T t e := ⟨_, hT, by simp⟩
  constructor
  · intro c hc hpos
    obtain ⟨_, i, e', h1, h2, _, _⟩ := hinv.entK c hc
    rcases h1 with h1 | h1
    · have := distinct_block hd h1.2 hEnt (h2.trans hpos)
      omega
    · exact distinct_split hd hT e' h1.2 (h2.trans hpos)
  · intro h l p hl hpl hpos
    obtain ⟨e', he', h2, h3⟩ := hinv.schEnt h l p hl hpl
    have := distinct_block hd he' hEnt (h2.trans hpos)
    have := he'.pos hp
    omega

theorem Inv.push {T : List (List TTLInfo)} {m : Int} {t : Nat} (hd : Distinct T) (hp : PosTTL T)
    {pre post : List TTLInfo} {e : TTLInfo} (hT : T[t]? = some (pre ++ e :: post))
    {cache cache0 : List TTLInfo} {ch ch' : HeightMap} {sch : Sch} (hinv : Inv T m t 0 pre cache [] ch sch)
    (hsub : cache0.Sublist cache) (hch : ∀ c ∈ cache0, ch'.get c.pos = ch.get c.pos)
    (hnew : ch'.get e.pos = (t : Int)) (hlen : (cache0.length : Int) + 1 ≤ m) :
    Inv T m t 0 (pre ++ [e]) (cache0 ++ [e]) [] ch' sch := by
  obtain ⟨hfresh, hschfresh⟩ := hinv.fresh hd hp hT
  have hEnt : Ent T t e := ⟨_, hT, by simp⟩
  have hnd : (cache.map (·.pos)).Nodup := by simpa using hinv.nodup
  refine ⟨?_, ?_, (fun c hc => by cases hc), ?_, hinv.schLen, hinv.sorted, hinv.schNodup, hinv.schEnt, ?_⟩
  · simp only [List.append_nil, List.map_append, List.map_cons, List.map_nil]
    rw [List.nodup_append]
    refine ⟨(hsub.map _).nodup hnd, by simp, ?_⟩
    intro a ha b hb
    obtain ⟨c, hc, rfl⟩ := List.mem_map.mp ha
    rw [List.mem_singleton.mp hb]
    exact hfresh c (hsub.subset hc)
  · intro c hc
    rcases List.mem_append.mp hc with h1 | h1
    · exact ((hinv.entK c (hsub.subset h1)).mono_pre [e]).ch_congr (hch c h1)
    · rw [List.mem_singleton.mp h1]
      exact ⟨hEnt.pos hp, t, e, Or.inr ⟨rfl, by simp⟩, rfl, hnew, by omega⟩
  · simpa using hlen
  · intro h l p hl hpl hmem
    simp only [List.append_nil, List.map_append, List.map_cons, List.map_nil, List.mem_append,
      List.mem_singleton] at hmem
    rcases hmem with hmem | hmem
    · refine hinv.disj h l p hl hpl ?_
      simpa using (hsub.map _).subset hmem
    · exact hschfresh h l p hl hpl hmem

theorem insert_inv {T : List (List TTLInfo)} {m : Int} {t : Nat} (hd : Distinct T) (hp : PosTTL T)
    (pre post : List TTLInfo) (e : TTLInfo) (hT : T[t]? = some (pre ++ e :: post))
    (cache : List TTLInfo) (ch : HeightMap) (sch : Sch) (hinv : Inv T m t 0 pre cache [] ch sch) :
    Inv T m t 0 (pre ++ [e]) (schInsert m t cache ch e).1 [] (schInsert m t cache ch e).2 sch ∧
    ((T.flatten.length : Int) ≤ m → (schInsert m t cache ch e).1 = cache ++ [e]) := by
  have hfresh := (hinv.fresh hd hp hT).1
  have hnd : (cache.map (·.pos)).Nodup := by simpa using hinv.nodup
  have hlen : (cache.length : Int) ≤ m := by simpa using hinv.len
  unfold schInsert
  by_cases hfree : (cache.length : Int) < m
  · simp only [hfree, ↓reduceIte]
    refine ⟨?_, fun _ => trivial⟩
    exact hinv.push hd hp hT (List.Sublist.refl _)
      (fun c hc => HeightMap.get_put_ne _ _ _ _ (hfresh c hc)) (HeightMap.get_put_same _ _ _) (by omega)
  · simp only [hfree, ↓reduceIte]
    have hfull : ¬ (T.flatten.length : Int) ≤ m := by
      -- the cache and the new entry are distinct table entries
      intro htot
      have hsub : (e.pos :: cache.map (·.pos)) ⊆ T.flatten.map (·.pos) := by
        intro x hx
        rcases List.mem_cons.mp hx with rfl | hx
        · exact List.mem_map_of_mem (Ent.mem_flatten ⟨_, hT, by simp⟩)
        · obtain ⟨c, hc, rfl⟩ := List.mem_map.mp hx
          exact (hinv.entK c hc).mem_flatten hT
      have hnd' : (e.pos :: cache.map (·.pos)).Nodup :=
        List.nodup_cons.mpr ⟨fun hmem => by
          obtain ⟨c, hc, hpc⟩ := List.mem_map.mp hmem
          exact hfresh c hc hpc, hnd⟩
      have := hnd'.length_le_of_subset hsub
      simp only [List.length_cons, List.length_map] at this
      omega
    cases hfind : cache.findIdx? (fun c => c.ttl > e.ttl) with
    | none =>
      refine ⟨⟨hinv.nodup, fun c hc => (hinv.entK c hc).mono_pre [e], (fun c hc => by cases hc), hinv.len,
        hinv.schLen, hinv.sorted, hinv.schNodup, hinv.schEnt, hinv.disj⟩, fun htot => absurd htot hfull⟩
    | some k =>
      obtain ⟨hk, _, _⟩ := List.findIdx?_eq_some_iff_getElem.mp hfind
      have hvic : cache[k]?.getD default = cache[k] := by
        rw [List.getElem?_eq_getElem hk]; rfl
      simp only [hvic]
      have hsubl : (cache.eraseIdx k).Sublist cache := List.eraseIdx_sublist cache k
      refine ⟨?_, fun htot => absurd htot hfull⟩
      refine hinv.push hd hp hT hsubl (fun c hc => ?_) (HeightMap.get_put_same _ _ _) ?_
      · rw [HeightMap.get_put_ne _ _ _ _ (hfresh c (hsubl.subset hc))]
        exact HeightMap.get_delete_ne _ _ _ (nodup_eraseIdx_pos hnd hk c hc)
      · rw [List.length_eraseIdx_of_lt hk]
        omega

def insertAll (m : Int) (t : Nat) (post : List TTLInfo) (cache : List TTLInfo) (ch : HeightMap) :
    List TTLInfo × HeightMap :=
  post.foldl (fun (acc : List TTLInfo × HeightMap) ttl => schInsert m t acc.1 acc.2 ttl) (cache, ch)

theorem schInsert_sublist (m : Int) (t : Nat) (cache : List TTLInfo) (ch : HeightMap) (e : TTLInfo) :
    (schInsert m t cache ch e).1.Sublist (cache ++ [e]) := by
  unfold schInsert
  split
  · exact List.Sublist.refl _
  · split
    · exact List.Sublist.append_right (List.eraseIdx_sublist _ _) _
    · exact List.sublist_append_left _ _

theorem insertAll_inv {T : List (List TTLInfo)} {m : Int} {t : Nat} (hd : Distinct T) (hp : PosTTL T)
    (sch : Sch) : ∀ (post pre cache : List TTLInfo) (ch : HeightMap), T[t]? = some (pre ++ post) →
    Inv T m t 0 pre cache [] ch sch →
    Inv T m t 0 (pre ++ post) (insertAll m t post cache ch).1 [] (insertAll m t post cache ch).2 sch ∧
    (insertAll m t post cache ch).1.Sublist (cache ++ post) ∧
    ((T.flatten.length : Int) ≤ m → (insertAll m t post cache ch).1 = cache ++ post) := by
  intro post
  induction post with
  | nil =>
    intro pre cache ch _ hinv
    simp only [insertAll, List.foldl_nil, List.append_nil]
    exact ⟨hinv, List.Sublist.refl _, fun _ => trivial⟩
  | cons e post ih =>
    intro pre cache ch hT hinv
    obtain ⟨hI, h2⟩ := insert_inv hd hp pre post e hT cache ch sch hinv
    have hT' : T[t]? = some ((pre ++ [e]) ++ post) := by simpa using hT
    obtain ⟨hI', h1', h2'⟩ := ih (pre ++ [e]) _ _ hT' hI
    have hfold : insertAll m t (e :: post) cache ch =
        insertAll m t post (schInsert m t cache ch e).1 (schInsert m t cache ch e).2 := by
      simp [insertAll]
    rw [hfold]
    refine ⟨by simpa using hI', ?_, fun htot => ?_⟩
    · have := h1'.trans (List.Sublist.append_right (schInsert_sublist m t cache ch e) post)
      simpa using this
    · rw [h2' htot, h2 htot]; simp

theorem Inv.weaken {T m t pre kept rest ch sch} (h : Inv T m t 1 pre kept rest ch sch) :
    Inv T m t 0 pre kept rest ch sch := by
  refine ⟨h.nodup, h.entK, h.entR, h.len, h.schLen, h.sorted, h.schNodup, ?_, h.disj⟩
  intro hh l p hl hpl
  obtain ⟨e, he, h2, h3⟩ := h.schEnt hh l p hl hpl
  exact ⟨e, he, h2, by omega⟩

theorem Inv.next {T : List (List TTLInfo)} {m t l cache ch sch} (hT : T[t]? = some l)
    (h : Inv T m t 0 l cache [] ch sch) : Inv T m (t + 1) 1 [] [] cache ch sch := by
  refine ⟨by simpa using h.nodup, ?_, ?_, by simpa using h.len, h.schLen, h.sorted, h.schNodup, ?_, ?_⟩
  · intro c hc; cases hc
  · intro c hc
    obtain ⟨h0, i, e, h1, h2, h3, h4⟩ := h.entK c hc
    refine ⟨h0, i, e, Or.inl ?_, h2, h3, by push_cast; omega⟩
    rcases h1 with h1 | h1
    · exact ⟨by omega, h1.2⟩
    · exact ⟨by omega, ⟨l, by rw [h1.1]; exact hT, h1.2⟩⟩
  · intro hh l' p hl hpl
    obtain ⟨e, he, h2, h3⟩ := h.schEnt hh l' p hl hpl
    exact ⟨e, he, h2, by push_cast; omega⟩
  · intro hh l' p hl hpl
    simpa using h.disj hh l' p hl hpl

/-- every entry with property `Q` of a block before `t` is in the cache or has been scheduled
(kept by the loop when the tables fit into the limit).  `Q` is a parameter because a stretch may
start with entries of earlier blocks in the cache: `loop_inv` takes "of this stretch, or cached at
its start". -/
def Full (Q : Nat → TTLInfo → Prop) (T : List (List TTLInfo)) (t : Nat) (cache : List TTLInfo) (sch : Sch) :
    Prop :=
  ∀ (i : Nat) (e : TTLInfo), i < t → Ent T i e → Q i e → (∃ c ∈ cache, c.pos = e.pos) ∨ InSch sch i e.pos

theorem block_inv {T : List (List TTLInfo)} {m : Int} {t : Nat} (hd : Distinct T) (hp : PosTTL T)
    {l : List TTLInfo} (hT : T[t]? = some l) (cache : List TTLInfo) (ch : HeightMap) (sch : Sch)
    (hinv : Inv T m t 1 [] [] cache ch sch) :
    ∃ cache' ch' sch', schBlock m t l (cache, ch, sch) = .ok (cache', ch', sch') ∧
      Inv T m (t + 1) 1 [] [] cache' ch' sch' ∧
      cache'.Sublist (survivors cache ++ l) ∧
      ((T.flatten.length : Int) ≤ m → cache' = survivors cache ++ l) ∧
      ∀ h p, InSch sch' h p ↔
        InSch sch h p ∨ ∃ c ∈ cache, c.ttl = 1 ∧ c.pos = p ∧ ch.get p = (h : Int) := by
  obtain ⟨ch1, sch1, hrun, hI, hiff⟩ := expire_inv cache [] ch sch hinv.weaken
  rw [List.nil_append] at hrun hI
  have hT' : T[t]? = some ([] ++ l) := by simpa using hT
  obtain ⟨hI2, i1, i2⟩ := insertAll_inv hd hp sch1 l [] (survivors cache) ch1 hT' hI
  refine ⟨_, _, sch1, ?_, Inv.next hT (by simpa using hI2), i1, i2, hiff⟩
  unfold schBlock
  simp only [hrun]
  rfl

theorem mem_survivors {cache : List TTLInfo} {c' : TTLInfo} :
    c' ∈ survivors cache ↔ ∃ c ∈ cache, c.ttl ≠ 1 ∧ dec c = c' := by
  simp [survivors, and_assoc]

theorem Full.step {T : List (List TTLInfo)} {m : Int} {t : Nat} (hd : Distinct T)
    {l : List TTLInfo} (hT : T[t]? = some l) {cache : List TTLInfo} {ch : HeightMap} {sch sch' : Sch}
    (hinv : Inv T m t 1 [] [] cache ch sch)
    (hiff : ∀ h p, InSch sch' h p ↔
        InSch sch h p ∨ ∃ c ∈ cache, c.ttl = 1 ∧ c.pos = p ∧ ch.get p = (h : Int))
    {Q} (hf : Full Q T t cache sch) : Full Q T (t + 1) (survivors cache ++ l) sch' := by
  intro i e hi he hQ
  rcases Nat.lt_succ_iff_lt_or_eq.mp hi with hlt | rfl
  · rcases hf i e hlt he hQ with ⟨c, hc, hpos⟩ | hs
    · by_cases hc1 : c.ttl = 1
      · obtain ⟨_, i', e', _, hE', hp', hget, _⟩ := (hinv.entR c hc).earlier
        have : i' = i := distinct_block hd hE' he (hp'.trans hpos)
        exact Or.inr ((hiff i e.pos).mpr (Or.inr ⟨c, hc, hc1, hpos, by rw [← hpos, hget, this]⟩))
      · exact Or.inl ⟨dec c, List.mem_append_left _ (mem_survivors.mpr ⟨c, hc, hc1, rfl⟩), hpos⟩
    · exact Or.inr ((hiff i e.pos).mpr (Or.inl hs))
  · obtain ⟨l2, hl2, he2⟩ := he
    rw [hT] at hl2
    cases hl2
    exact Or.inl ⟨e, List.mem_append_right _ he2, rfl⟩

theorem loop_full {T : List (List TTLInfo)} {m : Int} (hd : Distinct T) (hp : PosTTL T) :
    ∀ (rest : List (List TTLInfo)) (i : Nat) (cache : List TTLInfo) (ch : HeightMap) (sch : Sch),
    (∃ more, T.drop i = rest ++ more) → Inv T m i 1 [] [] cache ch sch →
    ∃ cache' ch' sch', schLoop m i rest (cache, ch, sch) = .ok (cache', ch', sch') ∧
      Inv T m (i + rest.length) 1 [] [] cache' ch' sch' ∧
      (∀ h p, InSch sch' h p → InSch sch h p ∨ (∃ c ∈ cache, c.pos = p) ∨ i ≤ h) ∧
      (∀ h p, InSch sch h p → InSch sch' h p) ∧
      ((T.flatten.length : Int) ≤ m → ∀ Q, Full Q T i cache sch → Full Q T (i + rest.length) cache' sch') := by
  intro rest
  induction rest with
  | nil =>
    intro i cache ch sch _ hinv
    exact ⟨cache, ch, sch, rfl, by simpa using hinv, fun h p hp => Or.inl hp, fun h p hp => hp,
      fun _ _ hf => hf⟩
  | cons l rest ih =>
    intro i cache ch sch hdrop hinv
    obtain ⟨more, hmore⟩ := hdrop
    have hTi : T[i]? = some l := by
      have := List.getElem?_drop (xs := T) (i := i) (j := 0)
      rw [hmore] at this
      simpa using this.symm
    have hdrop' : ∃ more, T.drop (i + 1) = rest ++ more := by
      refine ⟨more, ?_⟩
      have : T.drop (i + 1) = (T.drop i).drop 1 := by rw [List.drop_drop]
      rw [this, hmore]; rfl
    obtain ⟨cache1, ch1, sch1, hrun1, hI1, bsub, beq, biff⟩ := block_inv hd hp hTi cache ch sch hinv
    obtain ⟨cache', ch', sch', hrun, hI, p1, p2, p3⟩ := ih (i + 1) cache1 ch1 sch1 hdrop' hI1
    have hlen : i + 1 + rest.length = i + (l :: rest).length := by simp; omega
    rw [hlen] at hI p3
    refine ⟨cache', ch', sch', ?_, hI, ?_, fun h p hs => p2 h p ((biff h p).mpr (Or.inl hs)),
      fun htot Q hf => p3 htot Q (by rw [beq htot]; exact Full.step hd hTi hinv biff hf)⟩
    · unfold schLoop
      simp only [hrun1]
      exact hrun
    · intro h p hps
      rcases p1 h p hps with h1 | ⟨c1, hc1, hpos1⟩ | hle
      · rcases (biff h p).mp h1 with h0 | ⟨c, hc, _, hpos, _⟩
        · exact Or.inl h0
        · exact Or.inr (Or.inl ⟨c, hc, hpos⟩)
      · rcases List.mem_append.mp (bsub.subset hc1) with hs | he
        · obtain ⟨c, hc, _, rfl⟩ := mem_survivors.mp hs
          exact Or.inr (Or.inl ⟨c, hc, hpos1⟩)
        · obtain ⟨l', hl', hpl⟩ := hps
          obtain ⟨e', he', hpe', _⟩ := hI.schEnt h l' p hl' hpl
          have := distinct_block hd he' ⟨l, hTi, he⟩ (by rw [hpe', hpos1])
          exact Or.inr (Or.inr (by omega))
      · exact Or.inr (Or.inr (by omega))

theorem Inv.not_cached {T : List (List TTLInfo)} {m : Int} {N : Nat} {cache ch sch} (hd : Distinct T)
    (hI : Inv T m N 1 [] [] cache ch sch) {j : Nat} {e : TTLInfo} (he : Ent T j e)
    (hlt : (j : Int) + e.ttl < N) : ¬ ∃ c ∈ cache, c.pos = e.pos := by
  rintro ⟨c, hc, hpos⟩
  obtain ⟨h0, i', e', _, hE', hp', _, httl⟩ := (hI.entR c hc).earlier
  have hii : i' = j := distinct_block hd hE' he (hp'.trans hpos)
  subst hii
  have : e' = e := distinct_entry hd hE' he (hp'.trans hpos)
  subst this
  omega

theorem loop_inv {T : List (List TTLInfo)} {m : Int} (hd : Distinct T) (hp : PosTTL T) :
    ∀ (rest : List (List TTLInfo)) (i : Nat) (cache : List TTLInfo) (ch : HeightMap) (sch : Sch),
    (∃ more, T.drop i = rest ++ more) → Inv T m i 1 [] [] cache ch sch →
    ∃ cache' ch' sch', schLoop m i rest (cache, ch, sch) = .ok (cache', ch', sch') ∧
      Inv T m (i + rest.length) 1 [] [] cache' ch' sch' ∧
      (∀ h p, InSch sch' h p → InSch sch h p ∨ (∃ c ∈ cache, c.pos = p) ∨ i ≤ h) ∧
      (∀ h p, InSch sch h p → InSch sch' h p) ∧
      ((T.flatten.length : Int) ≤ m →
        (∀ c ∈ cache, (i : Int) + c.ttl - 1 < i + rest.length → InSch sch' (ch.get c.pos).toNat c.pos) ∧
        (∀ (j : Nat) (e : TTLInfo), i ≤ j → Ent T j e → (j : Int) + e.ttl < i + rest.length →
            InSch sch' j e.pos)) := by
  intro rest i cache ch sch hdrop hinv
  obtain ⟨cache', ch', sch', hrun, hI, p1, p2, p3⟩ := loop_full hd hp rest i cache ch sch hdrop hinv
  refine ⟨cache', ch', sch', hrun, hI, p1, p2, fun htot => ?_⟩
  have hfull := p3 htot (fun j e => i ≤ j ∨ ∃ c ∈ cache, c.pos = e.pos)
    (fun j e hj _ hQ => Or.inl (hQ.resolve_left (by omega)))
  constructor
  · intro c hc hlt
    obtain ⟨_, i0, e0, hi0, hE0, hp0, hget0, httl0⟩ := (hinv.entR c hc).earlier
    have hlt0 : (i0 : Int) + e0.ttl < ((i + rest.length : Nat) : Int) := by push_cast; omega
    rw [hget0, Int.toNat_natCast, ← hp0]
    exact (hfull i0 e0 (by omega) hE0 (Or.inr ⟨c, hc, hp0.symm⟩)).resolve_left
      (hI.not_cached hd hE0 hlt0)
  · intro j e hij he hlt
    have hpos := he.pos hp
    have hlt0 : (j : Int) + e.ttl < ((i + rest.length : Nat) : Int) := by push_cast; omega
    exact (hfull j e (by omega) he (Or.inl hij)).resolve_left (hI.not_cached hd he hlt0)

theorem schLoop_append (m : Int) : ∀ (a b : List (List TTLInfo)) (i : Nat)
    (st : List TTLInfo × HeightMap × List (List U64)),
    schLoop m i (a ++ b) st = (schLoop m i a st).bind (fun st' => schLoop m (i + a.length) b st') := by
  intro a
  induction a with
  | nil => intro b i st; simp [schLoop, Out.bind]
  | cons l a ih =>
    intro b i st
    simp only [List.cons_append, schLoop, List.length_cons]
    cases hb : schBlock m i l st with
    | ok st1 =>
      simp only [bind, Out.bind]
      rw [ih b (i + 1) st1]
      have : i + 1 + a.length = i + (a.length + 1) := by omega
      rw [this]
      rfl
    | err => rfl
    | panic => rfl
    | hang => rfl

theorem inv_init (T : List (List TTLInfo)) {m : Int} (hm : 0 ≤ m) :
    Inv T m 0 1 [] [] [] [] (List.replicate T.length []) := by
  have hnil : ∀ (h : Nat) (l : List U64), (List.replicate T.length ([] : List U64))[h]? = some l → l = [] := by
    intro h l hl
    rw [List.getElem?_replicate] at hl
    split at hl
    · exact (Option.some.inj hl).symm
    · cases hl
  refine ⟨by simp, ?_, ?_, by simpa using hm, by simp, ?_, ?_, ?_, ?_⟩
  · intro c hc; cases hc
  · intro c hc; cases hc
  · intro h l hl; rw [hnil h l hl]; exact List.Pairwise.nil
  · intro h l hl; rw [hnil h l hl]; exact List.nodup_nil
  · intro h l p hl hp; rw [hnil h l hl] at hp; cases hp
  · intro h l p hl hp; rw [hnil h l hl] at hp; cases hp

theorem scheduleOfTTLs_eq (T : List (List TTLInfo)) (m : Int) (hm : 0 ≤ m) :
    scheduleOfTTLs T T.length m =
      (schLoop m 0 T ([], [], List.replicate T.length [])).bind (fun st => .ok st.2.2) := by
  unfold scheduleOfTTLs
  have : ¬ m < 0 := by omega
  simp only [this, ↓reduceIte]
  rfl

/-- **The eviction loop on tables with distinct positions and positive ttls** (what `Props/C15` and
`memory_bound` rest on): for a limit `m ≥ 0` it returns a schedule with (1) one list per block,
(2) each ascending and duplicate-free, (3) every scheduled position that of an entry of the same
block's table whose ttl ends inside the tables, and (4) every such entry scheduled when all entries
together fit into the limit. -/
theorem schedule_main {T : List (List TTLInfo)} {m : Int} (hd : Distinct T) (hp : PosTTL T) (hm : 0 ≤ m) :
    ∃ sch, scheduleOfTTLs T T.length m = .ok sch ∧ sch.length = T.length ∧
      (∀ (h : Nat) (l : List U64), sch[h]? = some l → l.Pairwise (· ≤ ·) ∧ l.Nodup) ∧
      (∀ (h : Nat) (l : List U64) (p : U64), sch[h]? = some l → p ∈ l →
          ∃ e, Ent T h e ∧ e.pos = p ∧ (h : Int) + e.ttl < T.length) ∧
      ((T.flatten.length : Int) ≤ m → ∀ (j : Nat) (e : TTLInfo), Ent T j e → (j : Int) + e.ttl < T.length →
          ∃ l, sch[j]? = some l ∧ e.pos ∈ l) := by
  obtain ⟨cache', ch', sch', hrun, hI, _, _, p3⟩ :=
    loop_inv hd hp T 0 [] [] (List.replicate T.length []) ⟨[], by simp⟩ (inv_init T hm)
  rw [Nat.zero_add] at hI
  refine ⟨sch', ?_, hI.schLen, ?_, ?_, ?_⟩
  · rw [scheduleOfTTLs_eq T m hm, hrun]; rfl
  · intro h l hl; exact ⟨hI.sorted h l hl, hI.schNodup h l hl⟩
  · intro h l p hl hpl
    obtain ⟨e, he, h2, h3⟩ := hI.schEnt h l p hl hpl
    exact ⟨e, he, h2, by omega⟩
  · intro htot j e he hlt
    exact (p3 htot).2 j e (Nat.zero_le _) he (by simpa using hlt)

/-- the scheduled entries that exist once block `τ` has been applied -/
def aliveScheduled (T : List (List TTLInfo)) (sch : Sch) (τ : Nat) : List TTLInfo :=
  T.zipIdx.flatMap fun li => li.1.filter fun e =>
    (sch[li.2]?.getD []).contains e.pos && decide (li.2 ≤ τ) && decide ((τ : Int) < li.2 + e.ttl)

theorem flatMap_filter_sublist (q : Nat → TTLInfo → Bool) : ∀ (T : List (List TTLInfo)) (k : Nat),
    ((T.zipIdx k).flatMap fun li => li.1.filter (q li.2)).Sublist T.flatten := by
  intro T
  induction T with
  | nil => intro k; simp
  | cons l T ih =>
    intro k
    simp only [List.zipIdx_cons, List.flatMap_cons, List.flatten_cons]
    exact List.Sublist.append List.filter_sublist (ih (k + 1))

theorem mem_aliveScheduled {T : List (List TTLInfo)} {sch : Sch} {τ : Nat} {e : TTLInfo}
    (h : e ∈ aliveScheduled T sch τ) :
    ∃ i l, Ent T i e ∧ sch[i]? = some l ∧ e.pos ∈ l ∧ i ≤ τ ∧ (τ : Int) < i + e.ttl := by
  unfold aliveScheduled at h
  obtain ⟨li, hli, he⟩ := List.mem_flatMap.mp h
  have hget := List.mem_zipIdx_iff_getElem?.mp hli
  obtain ⟨hel, hq⟩ := List.mem_filter.mp he
  simp only [Bool.and_eq_true, decide_eq_true_eq] at hq
  obtain ⟨⟨hc, h1⟩, h2⟩ := hq
  cases hs : sch[li.2]? with
  | none =>
    rw [hs] at hc
    simp at hc
  | some l =>
    rw [hs] at hc
    simp only [Option.getD_some, List.contains_eq_mem, decide_eq_true_eq] at hc
    exact ⟨li.2, l, ⟨li.1, hget, hel⟩, hs, hc, h1, h2⟩

/-- **Memory bound.**  At no block do more than `m` scheduled entries exist. -/
theorem memory_bound {T : List (List TTLInfo)} {m : Int} (hd : Distinct T) (hp : PosTTL T) (hm : 0 ≤ m)
    {sch : Sch} (hrun : scheduleOfTTLs T T.length m = .ok sch) (τ : Nat) :
    ((aliveScheduled T sch τ).length : Int) ≤ m := by
  by_cases hτ : τ + 1 ≤ T.length
  · -- split the run after block τ
    have hsplit : T = T.take (τ + 1) ++ T.drop (τ + 1) := (List.take_append_drop _ _).symm
    have hlenTake : (T.take (τ + 1)).length = τ + 1 := by rw [List.length_take]; omega
    obtain ⟨c1, ch1, s1, hrun1, hI1, _, _, _⟩ :=
      loop_full hd hp (T.take (τ + 1)) 0 [] [] (List.replicate T.length [])
        ⟨T.drop (τ + 1), by simp⟩ (inv_init T hm)
    rw [hlenTake, Nat.zero_add] at hI1
    obtain ⟨c2, ch2, s2, hrun2, hI2, q1, _, _⟩ :=
      loop_full hd hp (T.drop (τ + 1)) (τ + 1) c1 ch1 s1 ⟨[], by simp⟩ hI1
    have hfinal : sch = s2 := by
      rw [scheduleOfTTLs_eq T m hm] at hrun
      have h0 : schLoop m 0 T ([], [], List.replicate T.length []) = .ok (c2, ch2, s2) := by
        have happ := schLoop_append m (T.take (τ + 1)) (T.drop (τ + 1)) 0 ([], [], List.replicate T.length [])
        rw [List.take_append_drop, hrun1] at happ
        rw [happ]
        simp only [Out.bind, hlenTake, Nat.zero_add]
        exact hrun2
      rw [h0] at hrun
      simp only [Out.bind] at hrun
      exact (Out.ok.inj hrun).symm
    subst hfinal
    -- every alive scheduled entry sits in the cache after block τ
    have hsub : ∀ x ∈ (aliveScheduled T sch τ).map (·.pos), x ∈ c1.map (·.pos) := by
      intro x hx
      obtain ⟨e, he, rfl⟩ := List.mem_map.mp hx
      obtain ⟨i, l, hEnt, hl, hpl, hle, hlt⟩ := mem_aliveScheduled he
      rcases q1 i e.pos ⟨l, hl, hpl⟩ with ⟨l0, hl0, hp0⟩ | ⟨c, hc, hpos⟩ | hge
      · obtain ⟨e', he', hpe', hbound⟩ := hI1.schEnt i l0 e.pos hl0 hp0
        have : e' = e := distinct_entry hd he' hEnt hpe'
        subst this
        push_cast at hbound
        omega
      · rw [← hpos]; exact List.mem_map_of_mem hc
      · omega
    have hnd : ((aliveScheduled T sch τ).map (·.pos)).Nodup := by
      have hsl : (aliveScheduled T sch τ).Sublist T.flatten :=
        flatMap_filter_sublist (fun i e => (sch[i]?.getD []).contains e.pos && decide (i ≤ τ) &&
          decide ((τ : Int) < i + e.ttl)) T 0
      exact List.Nodup.sublist (hsl.map _) hd
    have hle := hnd.length_le_of_subset (fun x hx => hsub x hx)
    have hc1 : (c1.length : Int) ≤ m := by simpa using hI1.len
    simp only [List.length_map] at hle
    omega
  · -- after the last recorded block nothing scheduled is alive
    have hempty : aliveScheduled T sch τ = [] := by
      apply List.eq_nil_iff_forall_not_mem.mpr
      intro e he
      obtain ⟨i, l, hEnt, hl, hpl, hle, hlt⟩ := mem_aliveScheduled he
      obtain ⟨sch', hrun', _, _, hent, _⟩ := schedule_main hd hp hm (T := T) (m := m)
      rw [hrun] at hrun'
      cases hrun'
      obtain ⟨e', he', hpe', hbound⟩ := hent i l e.pos hl hpl
      have : e' = e := distinct_entry hd he' hEnt hpe'
      subst this
      omega
    rw [hempty]
    simpa using hm

/-- ascending order of every block's list needs no hypothesis on the tables (`Inv.sorted` says the
same under `Distinct`/`PosTTL`, where the lists are also duplicate-free) -/
def AllSorted (sch : Sch) : Prop := ∀ (h : Nat) (l : List U64), sch[h]? = some l → l.Pairwise (· ≤ ·)

theorem schAppend_sorted {sch sch' : Sch} {h : Int} {p : U64} (hs : AllSorted sch)
    (hrun : schAppend sch h p = .ok sch') : AllSorted sch' := by
  unfold schAppend at hrun
  split at hrun
  · cases hrun
  · split at hrun
    · cases hrun
      intro j l' hl'
      rcases set_getElem?_cases _ _ _ _ _ hl' with ⟨_, rfl⟩ | ⟨_, hold⟩
      · exact SortBy.sorted_sortU64 _
      · exact hs j l' hold
    · cases hrun

theorem schExpire_sorted : ∀ (rest kept : List TTLInfo) (ch : HeightMap) (sch : Sch) {r},
    AllSorted sch → schExpire rest kept ch sch = .ok r → AllSorted r.2.2 := by
  intro rest
  induction rest with
  | nil => intro kept ch sch r hs hrun; cases hrun; exact hs
  | cons c rest ih =>
    intro kept ch sch r hs hrun
    rw [schExpire] at hrun
    split at hrun
    · rw [bind_ok] at hrun
      obtain ⟨sch1, happ, hrun⟩ := hrun
      exact ih _ _ _ (schAppend_sorted hs happ) hrun
    · exact ih _ _ _ hs hrun

/-- **Ordering, no hypotheses.**  Whatever the ttl tables, the number of blocks and the limit:
every list of a returned schedule is in ascending order. -/
theorem scheduleOfTTLs_sorted {T : List (List TTLInfo)} {n : Nat} {m : Int} {sch : Sch}
    (hrun : scheduleOfTTLs T n m = .ok sch) : AllSorted sch := by
  have hloop : ∀ (rest : List (List TTLInfo)) (i : Nat) (st r : List TTLInfo × HeightMap × Sch),
      AllSorted st.2.2 → schLoop m i rest st = .ok r → AllSorted r.2.2 := by
    intro rest
    induction rest with
    | nil => intro i st r hs hrun; cases hrun; exact hs
    | cons l rest ih =>
      intro i st r hs hrun
      rw [schLoop, bind_ok] at hrun
      obtain ⟨st1, hb, hrun⟩ := hrun
      rw [schBlock, bind_ok] at hb
      obtain ⟨r1, hexp, hb⟩ := hb
      cases hb
      have h1 : AllSorted r1.2.2 := schExpire_sorted _ _ _ _ hs hexp
      exact ih (i + 1) _ r (by exact h1) hrun
  unfold scheduleOfTTLs at hrun
  split at hrun
  · cases hrun
  · rw [bind_ok] at hrun
    obtain ⟨st, hl, hrun⟩ := hrun
    cases hrun
    refine hloop T 0 _ st ?_ hl
    intro h l hl'
    rw [List.getElem?_replicate] at hl'
    split at hl'
    · cases hl'; exact List.Pairwise.nil
    · cases hl'

end UtreexoVerif.Proofs.Schedule
