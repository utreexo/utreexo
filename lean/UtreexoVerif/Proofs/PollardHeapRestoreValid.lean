/-
  Restoring a VALID stream on the heap.  The parse of `encodePollard F` is the record forest of
  `F` (`restoreL_encode`, `Proofs/SerialPollard.lean`), and a heap carrying that record forest in
  its niece pointers (`LRoots`, what `buildRoots` builds) REPRESENTS `F` in the sense of
  `ReprRoots` / `Abs` (`reprRoots_of_lroots`): niece pointers of a node = children of its
  sibling, inner data = parent hashes (they were written that way), `NodeMap` insertions =
  exactly the leaves.  So `RestorePollardFrom` applied to what `WriteTo` wrote for `F` returns
  a heap that represents `F` (`buildAll_abs`, `restoreH_encode`: `Abs p' F`).
  Namespace `Proofs.PollardHeapSerial`, shared by five modules: see the head of `Proofs/PollardFormat.lean`.
-/
import UtreexoVerif.Proofs.PollardHeapBuild
import UtreexoVerif.Proofs.SerialPollard
import UtreexoVerif.Proofs.PollardHeapDelAbs
set_option linter.unusedSectionVars false

namespace UtreexoVerif.Proofs.PollardHeapSerial
open UtreexoVerif.Model.PollardHeap UtreexoVerif.Spec Hasher
open UtreexoVerif.Model.Serial UtreexoVerif.Proofs.Serial UtreexoVerif.Proofs.PollardHeap

variable {H : Type} [DecidableEq H] [Hasher H] [HashBytes H]

theorem isLeafT_node (a b : CTree H) : isLeafT (CTree.node a b) = false := rfl
theorem isLeafT_leaf (x : H) : isLeafT (CTree.leaf x) = true := rfl

theorem LShape.data {hp : Heap H} {n : Nat} {t : LNode} {fp : List Nat} {ents : List (H × Nat)}
    (h : LShape hp n t fp ents) : ∃ nn, hp[n]? = some nn ∧ nn.data = ofBytes t.hb := by
  cases h with
  | dead h1 h2 => exact ⟨_, h1, h2⟩
  | fork h1 h2 => exact ⟨_, h1, h2⟩

theorem ofNode_hb (n s : CTree H) : (LNode.ofNode n s).hb = toBytes n.hash := by
  cases s <;> rfl

/-- the `NodeMap` insertions found strictly below a node: the non-zero leaves of an inner node -/
def strictNZ (t : CTree H) (la : List (H × Nat)) : List (H × Nat) :=
  if isLeafT t then [] else la.filter (fun e => e.1 != zero)

theorem sub_filter_nz (ok : HashBytesOK H) {hp : Heap H} {n s : Nat} {t : CTree H} {fa : List Nat}
    {la : List (H × Nat)} (h : Sub hp n s t fa la) :
    la.filter (fun e => e.1 != zero) = entH (toBytes t.hash) (isLeafT t) n ++ strictNZ t la := by
  cases h with
  | leaf => simp [entH, ok.rt, strictNZ, isLeafT_leaf, List.filter_cons, CTree.hash]
  | node => simp [entH, strictNZ, isLeafT_node]

/-- niece structure ⇒ child structure: if the sibling `s` of `n` carries the record tree written for
`tsib` (sibling `tn`) and `n`'s data is `tn.hash`, then `n` carries the collapsed tree `tn` with its
children hanging off `s` -/
theorem sub_of_lshape (ok : HashBytesOK H) {hp : Heap H} : ∀ (tn tsib : CTree H) (n s : Nat)
    (fps : List Nat) (es : List (H × Nat)) (nn : PolNode H),
    hp[n]? = some nn → nn.data = tn.hash → LShape hp s (LNode.ofNode tsib tn) fps es →
    ∃ fa la, Sub hp n s tn fa la ∧ fa.Perm fps ∧
      es.Perm (entH (toBytes tsib.hash) (isLeafT tsib) s ++ strictNZ tn la) := by
  intro tn
  induction tn with
  | leaf x =>
    intro tsib n s fps es nn hn hd hs
    simp only [LNode.ofNode] at hs
    cases hs with
    | dead h1 h2 h3 h4 h5 =>
      refine ⟨[], [(x, n)], Sub.leaf hn hd h1 h3 h4, List.Perm.refl _, ?_⟩
      simp [strictNZ, isLeafT_leaf]
  | node a b iha ihb =>
    intro tsib n s fps es nn hn hd hs
    simp only [LNode.ofNode] at hs
    cases hs with
    | fork h1 h2 h3 h4 h5 h6 h7 h8 h9 sl sr =>
      rename_i l r sn ln rn fl fr el er
      obtain ⟨ln', hl1, hl2⟩ := sl.data
      obtain ⟨rn', hr1, hr2⟩ := sr.data
      rw [h6] at hl1; cases hl1
      rw [h7] at hr1; cases hr1
      rw [ofNode_hb, ok.rt] at hl2 hr2
      obtain ⟨fa', la', A1, A2, A3⟩ := iha b l r fr er ln h6 hl2 sr
      obtain ⟨fb', lb', B1, B2, B3⟩ := ihb a r l fl el rn h7 hr2 sl
      refine ⟨l :: r :: (fa' ++ fb'), la' ++ lb', Sub.node hn hd h1 h3 h4 h6 h7 h8 h9 A1 B1, ?_, ?_⟩
      · refine List.Perm.cons _ (List.Perm.cons _ ?_)
        exact (A2.append B2).trans List.perm_append_comm
      · -- each child's records hold the other child's own entry: exchange them
        have e : strictNZ (.node a b) (la' ++ lb') =
            (entH (toBytes a.hash) (isLeafT a) l ++ strictNZ a la') ++
              (entH (toBytes b.hash) (isLeafT b) r ++ strictNZ b lb') := by
          rw [← sub_filter_nz ok A1, ← sub_filter_nz ok B1, ← List.filter_append]
          simp [strictNZ, isLeafT_node]
        rw [e]
        refine List.Perm.append_left _ ((B3.append A3).trans ?_)
        rw [List.perm_iff_count]
        intro x
        simp only [List.count_append]
        omega

theorem reprRoot_of_lshape (ok : HashBytesOK H) {hp : Heap H} {r : Nat} {rn : PolNode H}
    (t : Option (CTree H)) {fp : List Nat} {es : List (H × Nat)} (h1 : hp[r]? = some rn)
    (h2 : rn.aunt = none) (hs : LShape hp r (LNode.ofRoot t) fp es) :
    ∃ fp' lv, ReprRoot hp r t fp' lv ∧ fp'.Perm fp ∧ es.Perm (lv.filter (fun e => e.1 != zero)) := by
  match t, hs with
  | none, hs =>
    simp only [LNode.ofRoot, selfT, LNode.ofNode, CTree.hash] at hs
    cases hs with
    | dead g1 g2 g3 g4 g5 =>
      rw [h1] at g1; cases g1
      rw [ok.rt] at g2
      refine ⟨[], [], ⟨⟨rn, h1, h2, g2, g3, g4⟩, rfl, rfl⟩, List.Perm.refl _, ?_⟩
      simp [entH, ok.rt]
  | some t, hs =>
    simp only [LNode.ofRoot, selfT] at hs
    obtain ⟨rn', g1, g2⟩ := hs.data
    rw [h1] at g1; cases g1
    rw [ofNode_hb, ok.rt] at g2
    obtain ⟨fa, la, A1, A2, A3⟩ := sub_of_lshape ok t t r r fp es rn h1 g2 hs
    exact ⟨fa, la, ⟨⟨rn, h1, h2⟩, A1⟩, A2, by rw [sub_filter_nz ok A1]; exact A3⟩

theorem reprRoots_of_lroots (ok : HashBytesOK H) {hp : Heap H} : ∀ (ts : List (Option (CTree H)))
    (rs owned : List Nat) (ents : List (H × Nat)), LRoots hp rs (ts.map LNode.ofRoot) owned ents →
    ∃ owned' lv, ReprRoots hp rs ts owned' lv ∧ owned'.Perm owned ∧
      ents.Perm (lv.filter (fun e => e.1 != zero)) := by
  intro ts
  induction ts with
  | nil =>
    intro rs owned ents h
    cases h
    exact ⟨[], [], ReprRoots.nil, List.Perm.refl _, List.Perm.refl _⟩
  | cons t ts ih =>
    intro rs owned ents h
    simp only [List.map_cons] at h
    cases h with
    | cons h1 h2 h3 h4 =>
      rename_i r rn fp e rs' owned' es
      obtain ⟨fp', lv, A1, A2, A3⟩ := reprRoot_of_lshape ok t h1 h2 h3
      obtain ⟨owned'', lvs, B1, B2, B3⟩ := ih rs' owned' es h4
      refine ⟨r :: fp' ++ owned'', lv ++ lvs, ReprRoots.cons A1 B1, ?_, ?_⟩
      · simp only [List.cons_append]
        exact List.Perm.cons _ (A2.append B2)
      · rw [List.filter_append]
        exact A3.append B3

theorem mapSetAll_subset : ∀ (es m : List (H × Nat)) (e : H × Nat), e ∈ mapSetAll m es → e ∈ m ∨ e ∈ es := by
  intro es
  induction es with
  | nil => intro m e h; exact Or.inl h
  | cons x es ih =>
    intro m e h
    have hstep : mapSetAll m (x :: es) = mapSetAll (mapSet m x.1 x.2) es := rfl
    rw [hstep] at h
    rcases ih _ e h with h | h
    · rcases mapSet_subset h with h | h
      · exact Or.inl h
      · exact Or.inr (by rw [h]; simp)
    · exact Or.inr (by simp [h])

theorem mapSetAll_keys_nodup : ∀ (es m : List (H × Nat)), (m.map (·.1)).Nodup →
    ((mapSetAll m es).map (·.1)).Nodup := by
  intro es
  induction es with
  | nil => intro m h; exact h
  | cons x es ih =>
    intro m h
    have hstep : mapSetAll m (x :: es) = mapSetAll (mapSet m x.1 x.2) es := rfl
    rw [hstep]
    apply ih
    by_cases hk : x.1 ∈ m.map (·.1)
    · rw [mapSet_keys hk]; exact h
    · rw [mapSet_new _ _ _ hk]; exact List.nodup_cons.2 ⟨hk, h⟩

theorem mapSetAll_mem : ∀ (es m : List (H × Nat)),
    (∀ a ∈ m ++ es, ∀ b ∈ m ++ es, a.1 = b.1 → a = b) →
    ∀ e, e ∈ mapSetAll m es ↔ (e ∈ m ∨ e ∈ es) := by
  intro es
  induction es with
  | nil => intro m _; simp [mapSetAll]
  | cons x es ih =>
    intro m hf
    obtain ⟨k, v⟩ := x
    have hstep : mapSetAll m ((k, v) :: es) = mapSetAll (mapSet m k v) es := rfl
    rw [hstep]
    have up : ∀ a, a ∈ m ++ es → a ∈ m ++ (k, v) :: es := fun a h =>
      (List.mem_append.1 h).elim (List.mem_append_left _)
        (fun h => List.mem_append_right _ (List.mem_cons_of_mem _ h))
    by_cases hk : k ∈ m.map (·.1)
    · obtain ⟨a, ha, hak⟩ := List.mem_map.1 hk
      have hav : a = (k, v) := hf a (by simp [ha]) (k, v) (by simp) hak
      subst hav
      have hsame : mapSet m k v = m := mapSet_same ha (fun b hb hbk => hf b (by simp [hb]) (k, v) (by simp) hbk)
      rw [hsame]
      intro e
      rw [ih m (fun a ha' b hb' => hf a (up a ha') b (up b hb')) e]
      simp only [List.mem_cons]
      constructor
      · rintro (h | h)
        · exact Or.inl h
        · exact Or.inr (Or.inr h)
      · rintro (h | h | h)
        · exact Or.inl h
        · subst h; exact Or.inl ha
        · exact Or.inr h
    · rw [mapSet_new m k v hk]
      have up2 : ∀ a, a ∈ (k, v) :: m ++ es → a ∈ m ++ (k, v) :: es := fun a h => by
        rcases List.mem_cons.1 h with rfl | h
        · exact List.mem_append_right _ List.mem_cons_self
        · exact up a h
      intro e
      rw [ih ((k, v) :: m) (fun a ha' b hb' => hf a (up2 a ha') b (up2 b hb')) e, List.mem_cons,
        List.mem_cons, or_assoc]
      exact or_left_comm

theorem nodup_of_nodup_map {α β : Type} (f : α → β) {l : List α} (h : (l.map f).Nodup) : l.Nodup :=
  List.Pairwise.of_map f (fun _ _ hne e => hne (congrArg f e)) h

/-- the second conjunct is what the sanity check of `RestorePollardFrom` counts -/
theorem buildAll_abs (ok : Proofs.Serial.HashBytesOK H) (F : Forest H) (hF : Proofs.Serial.LeavesOK F) :
    Abs (buildAll (H := H) (BitVec.ofNat 64 F.numLeaves) (BitVec.ofNat 64 (numDead F))
      ((F.trees.map (·.2)).map LNode.ofRoot)) F ∧
    ((buildAll (H := H) (BitVec.ofNat 64 F.numLeaves) (BitVec.ofNat 64 (numDead F))
      ((F.trees.map (·.2)).map LNode.ofRoot)).nodeMap.length = F.liveLeaves.length) := by
  obtain ⟨owned, ents, r1, _, _, R2, R6, _, R7, _⟩ := buildAll_spec (H := H) (BitVec.ofNat 64 F.numLeaves)
    (BitVec.ofNat 64 (numDead F)) ((F.trees.map (·.2)).map LNode.ofRoot)
  generalize buildAll (H := H) _ _ _ = p at r1 R2 R7 ⊢
  obtain ⟨owned', lv, A1, A2, A3⟩ := reprRoots_of_lroots ok _ _ _ _ R2
  have hsmall := hF.small
  have hlive : lv.map (·.1) = F.liveLeaves := ReprRoots.liveLeaves A1 (Nat.lt_trans hsmall (by decide))
  have hnz : ∀ e ∈ lv, e.1 ≠ zero := by
    intro e he
    apply hF.nonzero
    rw [← hlive]; exact List.mem_map_of_mem he
  have hlnd : F.liveLeaves.Nodup := nodup_of_nodup_map _ hF.miniDistinct
  have hkeys : (lv.map (·.1)).Nodup := by rw [hlive]; exact hlnd
  have hents : ∀ e, e ∈ ents ↔ e ∈ lv := by
    intro e; rw [A3.mem_iff, List.mem_filter]
    exact ⟨fun h => h.1, fun h => ⟨h, by simpa using hnz e h⟩⟩
  have M1 := mapSetAll_keys_nodup ents ([] : List (H × Nat)) (by simp)
  have M2 := mapSetAll_mem ents ([] : List (H × Nat)) (by
    intro a ha b hb' hab
    simp only [List.nil_append] at ha hb'
    exact Sorted.inj_of_pairwise_ne _ _ (List.pairwise_map.1 hkeys) a ((hents a).1 ha) b ((hents b).1 hb') hab)
  have hmap : MapOK p.nodeMap lv := by
    rw [R7]
    refine ⟨M1, fun e => ?_⟩
    rw [M2 e, ← hents e]; simp
  refine ⟨⟨?_, owned', lv, A1, (A2.nodup_iff).2 R6, hmap⟩, ?_⟩
  · rw [r1]
    simp only [BitVec.toNat_ofNat]
    exact Nat.mod_eq_of_lt (Nat.lt_trans hsmall (by decide))
  · have hp : p.nodeMap.Perm lv :=
      (List.perm_ext_iff_of_nodup (nodup_of_nodup_map _ hmap.1) (nodup_of_nodup_map _ hkeys)).2 hmap.2
    rw [hp.length_eq, ← hlive, List.length_map]

theorem restoreH_encode (ok : Proofs.Serial.HashBytesOK H) (F : Forest H) (hF : Proofs.Serial.LeavesOK F)
    (r : Reader) (hd : r.data = encodePollard F) :
    ∃ p', restoreH r = ⟨(encodePollard F).length, .ok p'⟩ ∧ Abs p' F ∧ p'.full = true ∧
      p'.numDels = BitVec.ofNat 64 (numDead F) := by
  have hsmall := hF.small
  obtain ⟨hA, hlen⟩ := buildAll_abs ok F hF
  rw [restoreH_eq, restoreL_encode ok F (Nat.lt_trans hsmall (by decide)) r hd]
  simp only []
  obtain ⟨p', hp'⟩ : ∃ p', p' = buildAll (H := H) (BitVec.ofNat 64 F.numLeaves)
      (BitVec.ofNat 64 (numDead F)) ((F.trees.map (·.2)).map LNode.ofRoot) := ⟨_, rfl⟩
  rw [← hp'] at hA hlen ⊢
  obtain ⟨_, _, e1, e2, e3, _⟩ := buildAll_spec (H := H) (BitVec.ofNat 64 F.numLeaves)
    (BitVec.ofNat 64 (numDead F)) ((F.trees.map (·.2)).map LNode.ofRoot)
  rw [← hp'] at e1 e2 e3
  have hcount := Proofs.Serial.live_dead_count F
  have hsan : (p'.nodeMap.length : Int) = (p'.numLeaves - p'.numDels).toInt := by
    rw [e1, e2, Proofs.Serial.sub_toInt hsmall (hcount ▸ Nat.le_add_left _ _), hlen]
    congr 1; rw [← hcount]; exact (Nat.add_sub_cancel _ _).symm
  rw [if_neg (by rw [hsan]; simp)]
  exact ⟨p', rfl, hA, e3, e2⟩

end UtreexoVerif.Proofs.PollardHeapSerial
