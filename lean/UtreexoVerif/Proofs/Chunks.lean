/-
  Aligned chunks of the slot list (`chunk S l b` = collapsed tree of slots
  `[b * 2^l, (b+1) * 2^l)`, defined in Proofs/SpecForest.lean): their leaves are their live
  slots, the roots of the forest are the hashes of the root chunks, and `chunkAlive`/`chunkHash` of
  a chunk in terms of its two halves.
-/
import UtreexoVerif.Proofs.SpecForest
set_option linter.unusedSectionVars false

namespace UtreexoVerif.Spec
open Hasher

variable {H : Type} [DecidableEq H] [Hasher H]

theorem chunk_zero (S : List (Option H)) (b : Nat) :
    chunk S 0 b = match S[b]? with
      | some (some h) => some (.leaf h)
      | _ => none := by
  unfold chunk
  simp only [Nat.pow_zero, Nat.mul_one, collapse]
  rcases hb : S[b]? with _ | (_ | h)
  · have : S.drop b = [] := by
      rw [List.drop_eq_nil_iff]; exact List.getElem?_eq_none_iff.mp hb
    rw [this]
  · have := List.getElem?_eq_some_iff.mp hb
    obtain ⟨hlt, hv⟩ := this
    rw [List.drop_eq_getElem_cons hlt, hv]
  · have := List.getElem?_eq_some_iff.mp hb
    obtain ⟨hlt, hv⟩ := this
    rw [List.drop_eq_getElem_cons hlt, hv]

theorem chunkAlive_append_left (A B : List (Option H)) (l b : Nat) (h : (b + 1) * 2 ^ l ≤ A.length) :
    chunkAlive (A ++ B) l b = chunkAlive A l b := by
  unfold chunkAlive; rw [chunk_append_left A B l b h]

theorem chunkHash_append_left (A B : List (Option H)) (l b : Nat) (h : (b + 1) * 2 ^ l ≤ A.length) :
    chunkHash (A ++ B) l b = chunkHash A l b := by
  unfold chunkHash; rw [chunk_append_left A B l b h]

theorem mem_optLeaves_chunk (S : List (Option H)) (l b : Nat) (x : H) :
    x ∈ optLeaves (chunk S l b) ↔ ∃ i, b * 2 ^ l ≤ i ∧ i < (b + 1) * 2 ^ l ∧ S[i]? = some (some x) := by
  unfold chunk
  rw [optLeaves_collapse, List.mem_filterMap, Nat.add_mul, Nat.one_mul]
  simp only [id, exists_eq_right, List.mem_iff_getElem?, List.getElem?_take, List.getElem?_drop]
  constructor
  · rintro ⟨j, hj⟩
    split at hj
    · exact ⟨b * 2 ^ l + j, Nat.le_add_right _ _, by omega, hj⟩
    · cases hj
  · rintro ⟨i, h1, h2, h3⟩
    exact ⟨i - b * 2 ^ l, by rw [if_pos (by omega), show b * 2 ^ l + (i - b * 2 ^ l) = i by omega]; exact h3⟩

theorem chunkAlive_iff (S : List (Option H)) (l b : Nat) :
    chunkAlive S l b = true ↔ ∃ i x, b * 2 ^ l ≤ i ∧ i < (b + 1) * 2 ^ l ∧ S[i]? = some (some x) := by
  unfold chunkAlive
  rw [Option.isSome_iff_ne_none, Ne, ← optLeaves_eq_nil]
  constructor
  · intro h
    obtain ⟨x, hx⟩ := List.exists_mem_of_ne_nil _ h
    obtain ⟨i, hi⟩ := (mem_optLeaves_chunk S l b x).1 hx
    exact ⟨i, x, hi⟩
  · rintro ⟨i, x, hi⟩ h
    have := (mem_optLeaves_chunk S l b x).2 ⟨i, hi⟩
    rw [h] at this
    cases this

theorem chunkAlive_of_slot (S : List (Option H)) (l b i : Nat) (x : H) (hi : S[i]? = some (some x))
    (h1 : b * 2 ^ l ≤ i) (h2 : i < (b + 1) * 2 ^ l) : chunkAlive S l b = true :=
  (chunkAlive_iff S l b).2 ⟨i, x, h1, h2, hi⟩

theorem chunkAlive_eq_false_iff (S : List (Option H)) (l b : Nat) :
    chunkAlive S l b = false ↔ ∀ i x, b * 2 ^ l ≤ i → i < (b + 1) * 2 ^ l → S[i]? ≠ some (some x) := by
  rw [← Bool.not_eq_true, chunkAlive_iff]
  exact ⟨fun h i x h1 h2 h3 => h ⟨i, x, h1, h2, h3⟩, fun h ⟨i, x, h1, h2, h3⟩ => h i x h1 h2 h3⟩

theorem chunkHash_eq_zero_iff (hph : ∀ a b : H, ph a b ≠ (zero : H)) (S : List (Option H))
    (hS : ∀ x : H, some x ∈ S → x ≠ (zero : H)) (l b : Nat) :
    chunkHash S l b = zero ↔ chunkAlive S l b = false := by
  unfold chunkHash chunkAlive
  cases hc : chunk S l b with
  | none => simp [rootHash]
  | some t =>
    simp only [rootHash, Option.isSome_some, Bool.true_eq_false, iff_false]
    apply CTree.hash_ne_zero hph
    intro x hx
    apply hS
    apply List.mem_of_mem_drop (i := b * 2 ^ l)
    apply mem_optLeaves_collapse (k := l)
    unfold chunk at hc
    rw [hc]; exact hx

theorem roots_chunks (F : Forest H) :
    F.roots = (treeRows F.numLeaves).map fun h =>
      chunkHash F.slots h (2 * (F.numLeaves / 2 ^ (h + 1))) := by
  rw [roots_eq, show F = Forest.mk F.slots from rfl, trees_eq_chunks, List.map_map]
  rfl

theorem chunkHash_succ_alive (S : List (Option H)) (l b : Nat)
    (h1 : chunkAlive S l (2 * b) = true) (h2 : chunkAlive S l (2 * b + 1) = true) :
    chunkHash S (l + 1) b = ph (chunkHash S l (2 * b)) (chunkHash S l (2 * b + 1)) := by
  unfold chunkHash chunkAlive at *
  rw [chunk_succ]
  cases ha : chunk S l (2 * b) with
  | none => rw [ha] at h1; cases h1
  | some a =>
    cases hb : chunk S l (2 * b + 1) with
    | none => rw [hb] at h2; cases h2
    | some b' => rfl

theorem chunkHash_succ_left_dead (S : List (Option H)) (l b : Nat)
    (h1 : chunkAlive S l (2 * b) = false) :
    chunkHash S (l + 1) b = chunkHash S l (2 * b + 1) := by
  unfold chunkHash chunkAlive at *
  rw [chunk_succ]
  cases ha : chunk S l (2 * b) with
  | some a => rw [ha] at h1; cases h1
  | none => cases chunk S l (2 * b + 1) <;> rfl

theorem chunkAlive_succ (S : List (Option H)) (l b : Nat) :
    chunkAlive S (l + 1) b = (chunkAlive S l (2 * b) || chunkAlive S l (2 * b + 1)) := by
  unfold chunkAlive
  rw [chunk_succ]
  cases chunk S l (2 * b) <;> cases chunk S l (2 * b + 1) <;> rfl

end UtreexoVerif.Spec
