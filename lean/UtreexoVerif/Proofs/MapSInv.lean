/-
  The storage invariant `SInv m F` of a PARTIAL map forest (`m.full = false`): the abstract state of `m` satisfies `AInv`
  against the node list of `F`, and the live leaves are hygienic (`Hyg F`).  Under `NZ` it is `Inv` (`Proofs/MapInv.lean`) plus
  `RootFlags` (the remember flags of the stored non-empty roots, about which `Inv` is silent), `m.full = false` and `Hyg F`:
  `SInv.inv`, `SInv.rootFlags`, `SInv.of_inv`.  `inv_of_gi` (`Inv` from `GI fl`, either kind of forest) stands here because
  `SInv.inv` is its first reading; `Proofs/MapFull.lean` and `Proofs/MapXInv.lean` read it too.
-/
import UtreexoVerif.Proofs.MapRep
import UtreexoVerif.Proofs.MapGI
import UtreexoVerif.Proofs.PForestSpec
import UtreexoVerif.Props.C09

namespace UtreexoVerif.Proofs.MapSInv
open Model Spec MapAL MapInv MapPrune MapRep MapLiftGeo PForest MapAInv
  PForestSpec Hasher
set_option linter.unusedSectionVars false

variable {H : Type} [DecidableEq H] [Hasher H]

structure SInv (m : MapPollard H) (F : Forest H) : Prop where
  n_lt : F.numLeaves < 2 ^ 63
  n_eq : m.numLeaves = BitVec.ofNat 64 F.numLeaves
  rows_le : F.rows ≤ m.totalRows.toNat
  total_le : m.totalRows.toNat ≤ 63
  full : m.full = false
  hyg : Hyg F
  abs : ∃ A C, Rep m m.totalRows.toNat A C ∧
    AInv A C F.nodes (FRoot F) (fun x => (C x).isSome = true) (fun _ => False)

/-- remember flags of stored non-empty roots: set iff the root is a cached leaf -/
def RootFlags (m : MapPollard H) (F : Forest H) : Prop :=
  ∀ q l, Valid m.totalRows.toNat q → isRootPos F.numLeaves q = true →
    m.getNode (encP m.totalRows.toNat q) = some l → l.hash ≠ Hasher.zero →
    (l.remember = true ↔ ∃ x, m.getCached x = some (encP m.totalRows.toNat q))

theorem not_froot_iff {F : Forest H} {q : Pos} : ¬ FRoot F q ↔ isRootPos F.numLeaves q = false := by
  unfold FRoot
  cases isRootPos F.numLeaves q <;> simp

section abstract
variable {m : MapPollard H} {F : Forest H} {T : Nat} {A : Pos → Option (Leaf H)} {C : H → Option Pos}

theorem kleaf_cached_iff (L : Laws F.nodes (FRoot F)) (rep : Rep m T A C)
    (hcp : ∀ x t, C x = some t → (t, x, true) ∈ F.nodes) {q : Pos} (hq : Valid T q) :
    KLeaf F.nodes (fun x => (C x).isSome = true) q ↔ ∃ x, m.getCached x = some (encP T q) := by
  constructor
  · rintro ⟨x, hk, hm⟩
    cases hC : C x with
    | none => rw [hC] at hk; cases hk
    | some t' =>
      have := L.leaf_hash q x t' true hm (hcp x t' hC)
      subst this
      exact ⟨x, by rw [rep.cache x, hC]; rfl⟩
  · rintro ⟨x, hx⟩
    rw [rep.cache x] at hx
    cases hC : C x with
    | none => rw [hC] at hx; cases hx
    | some t =>
      rw [hC] at hx
      simp only [Option.map_some, Option.some.injEq] at hx
      have : t = q := encP_inj rep.T_le (rep.cdom x t hC) hq hx
      subst this
      exact ⟨x, by show (C x).isSome = true; rw [hC]; rfl, hcp x t hC⟩

theorem kleaf_iff (hn : F.numLeaves < 2 ^ 64) (hy : Hyg F) (rep : Rep m T A C) {t : Pos} :
    KLeaf F.nodes (fun x => (C x).isSome = true) t ↔ ∃ x, m.hasCached x = true ∧ F.posOf x = some t := by
  constructor
  · rintro ⟨x, hk, hm⟩
    exact ⟨x, by rw [rep.hasCached x]; exact hk, (posOf_iff F hn hy).2 hm⟩
  · rintro ⟨x, hk, hp⟩
    exact ⟨x, by show (C x).isSome = true; rw [← rep.hasCached x]; exact hk, Spec.posOf_some_mem hp⟩

end abstract

/-- the sibling is on the path from the root to `t`, hence a node, and so is its sibling -/
theorem node_of_sib_anc {F : Forest H} (L : Laws F.nodes (FRoot F)) {q t : Pos} {R : Nat} {x : H}
    (hbr : BelowRoot F.numLeaves q.1 q.2 R) (hne : q.1 ≠ R) (htm : (t, x, true) ∈ F.nodes)
    (hanc : Anc (sib q) t) : ∃ h b, (q, h, b) ∈ F.nodes := by
  have hs : BelowRoot F.numLeaves (sib q).1 (sib q).2 R := by rw [CalcGeo.sib_fst]; exact belowRoot_sib hbr hne
  have hsnr : ¬ FRoot F (sib q) :=
    not_froot_iff.2 (nonroot_of_belowRoot hs (by rw [CalcGeo.sib_fst]; exact hne))
  obtain ⟨hρh, hρb, hρm⟩ := L.root_node _ (Spec.isRootPos_rootPos hs.2.1)
  have h1 : Anc (rootPos F.numLeaves R) (sib q) := ⟨hs.1, hs.2.2.symm⟩
  have h2 : Anc (rootPos F.numLeaves R) t := Anc.trans h1 hanc
  obtain ⟨hs', bs', hsm⟩ := L.path_nodes ((rootPos F.numLeaves R).1 - t.1) hρm htm h2
    (by have := h2.1; omega) (sib q) h1 hanc
  have := L.sib_node (sib q) hs' bs' hsm hsnr
  rwa [CalcGeo.sib_sib] at this

theorem SInv.n_lt64 {m : MapPollard H} {F : Forest H} (s : SInv m F) : F.numLeaves < 2 ^ 64 := by
  have := s.n_lt; omega

theorem SInv.laws (nz : NZ H) {m : MapPollard H} {F : Forest H} (s : SInv m F) : Laws F.nodes (FRoot F) :=
  laws_forest nz F s.n_lt64 s.hyg

/-- the proof does not use that `q` is a root: `AInv.flags` speaks of every stored node with a non-zero hash -/
theorem SInv.rootFlags (nz : NZ H) {m : MapPollard H} {F : Forest H} (s : SInv m F) : RootFlags m F := by
  obtain ⟨A, C, rep, ainv⟩ := s.abs
  intro q l hv _ hg hnz
  have hA : A q = some l := by rw [← rep.node q hv]; exact hg
  rw [ainv.flags q l hA hnz]
  exact kleaf_cached_iff (s.laws nz) rep ainv.cached_pos hv

/-- **the storage invariant `Inv`** (`Proofs/MapInv.lean`) from the invariant on the abstract state, for either kind of forest
(the flag clause of `Inv` speaks of partial forests only) -/
theorem inv_of_gi (nz : NZ H) {fl : Bool} {m : MapPollard H} {F : Forest H} {A : Pos → Option (Leaf H)}
    {C : H → Option Pos} (rep : Rep m m.totalRows.toNat A C)
    (g : MapGI.GI fl A C F.nodes (FRoot F) (fun x => (C x).isSome = true) (fun _ => False))
    (n_lt : F.numLeaves < 2 ^ 63) (n_eq : m.numLeaves = BitVec.ofNat 64 F.numLeaves)
    (rows_le : F.rows ≤ m.totalRows.toNat) (total_le : m.totalRows.toNat ≤ 63) (full : m.full = fl) (hyg : Hyg F) :
    Inv m F := by
  have hn : F.numLeaves < 2 ^ 64 := by omega
  have L := laws_forest nz F hn hyg
  have stored_node : ∀ q l, Valid m.totalRows.toNat q → m.getNode (encP m.totalRows.toNat q) = some l →
      A q = some l ∧ ∃ b, (q, l.hash, b) ∈ F.nodes := by
    intro q l hv hg
    have hA : A q = some l := by rw [← rep.node q hv]; exact hg
    exact ⟨hA, g.true_hash q l hA⟩
  have hkl : ∀ t, KLeaf F.nodes (fun x => (C x).isSome = true) t ↔
      ∃ x, m.hasCached x = true ∧ F.posOf x = some t := fun t => kleaf_iff hn hyg rep
  refine { n_lt := n_lt, n_eq := n_eq, rows_le := rows_le, total_le := total_le, true_hash := ?_,
           cached_pos := ?_, only_needed := ?_, has_needed := ?_, flags := ?_ }
  · intro p l hg
    obtain ⟨q, hv, rfl⟩ := rep.keys p l hg
    obtain ⟨_, b, hb⟩ := stored_node q l hv hg
    exact ⟨q, hv, rfl, SpecNodes.nodeAt_of_mem (x := (q, l.hash, b)) hb⟩
  · intro x p hc
    rw [rep.cache x] at hc
    cases hC : C x with
    | none => rw [hC] at hc; cases hc
    | some t =>
      rw [hC] at hc
      simp only [Option.map_some, Option.some.injEq] at hc
      exact ⟨t, (posOf_iff F hn hyg).2 (g.cached_pos x t hC), hc.symm⟩
  · intro q l hv hg
    obtain ⟨hA, b, hb⟩ := stored_node q l hv hg
    cases hr : isRootPos F.numLeaves q with
    | true => exact Or.inl hr
    | false =>
      obtain ⟨R, hbr⟩ := SpecSubs.mem_nodes_belowRoot hb
      have hne : q.1 ≠ R := row_ne_of_nonroot hbr hr
      obtain ⟨t, hk, hle, hanc⟩ := g.only_needed q l hA (not_froot_iff.2 hr) (fun h => h)
      obtain ⟨x, hx, hp⟩ := (hkl t).1 hk
      exact (allowed_nonroot_iff hbr hne).2 ⟨x, t, hx, hp, hle, hanc⟩
  · intro q hreq
    obtain ⟨R, hbr⟩ := required_belowRoot hreq
    have hv : Valid m.totalRows.toNat q := belowRoot_valid' rows_le hbr
    rw [rep.hasNode hv]
    cases hr : isRootPos F.numLeaves q with
    | true => exact Option.isSome_iff_ne_none.2 (g.roots_stored q hr)
    | false =>
      have hne : q.1 ≠ R := row_ne_of_nonroot hbr hr
      have hnr : ¬ FRoot F q := not_froot_iff.2 hr
      obtain ⟨x, t, hx, hp, h⟩ := (required_nonroot_iff hbr hne).1 hreq
      have hkt : KLeaf F.nodes (fun x => (C x).isSome = true) t := (hkl t).2 ⟨x, hx, hp⟩
      have htm : (t, x, true) ∈ F.nodes := Spec.posOf_some_mem hp
      rcases h with rfl | hanc
      · exact Option.isSome_iff_ne_none.2 (g.has_needed q x true htm hnr (Or.inl hkt))
      · obtain ⟨hq', bq', hqm⟩ := node_of_sib_anc L hbr hne htm hanc
        exact Option.isSome_iff_ne_none.2 (g.has_needed q hq' bq' hqm hnr (Or.inr ⟨t, hkt, hanc⟩))
  · intro hf q l hv hr hg
    obtain ⟨hA, b, hb⟩ := stored_node q l hv hg
    have hfl : fl = false := full.symm.trans hf
    rw [g.flags q l hA (L.nonzero_of_nonroot hb (not_froot_iff.2 hr)), hfl,
      kleaf_cached_iff L rep g.cached_pos hv]
    simp

theorem SInv.inv (nz : NZ H) {m : MapPollard H} {F : Forest H} (s : SInv m F) : Inv m F := by
  obtain ⟨A, C, rep, ainv⟩ := s.abs
  exact inv_of_gi nz rep (MapGI.gi_false_iff.2 ainv) s.n_lt s.n_eq s.rows_le s.total_le s.full s.hyg

theorem rep_of_inv {m : MapPollard H} {F : Forest H} (inv : Inv m F) :
    Rep m m.totalRows.toNat (absA m m.totalRows.toNat) (absC m m.totalRows.toNat) := by
  refine rep_abs inv.total_le (U8_eq_H8 m.totalRows) ?_ ?_
  · intro p l hg
    obtain ⟨q, hv, he, _⟩ := inv.true_hash p l hg
    exact ⟨q, hv, he⟩
  · intro x p hc
    obtain ⟨t, hp, he⟩ := inv.cached_pos x p hc
    exact ⟨t, posOf_valid inv.rows_le hp, he⟩

theorem SInv.of_inv (nz : NZ H) {m : MapPollard H} {F : Forest H} (inv : Inv m F) (hfull : m.full = false)
    (hy : Hyg F) (hrf : RootFlags m F) : SInv m F := by
  have hn : F.numLeaves < 2 ^ 64 := by have := inv.n_lt; omega
  have L := laws_forest nz F hn hy
  have rep := rep_of_inv inv
  generalize hA : absA m m.totalRows.toNat = A at rep
  generalize hC : absC m m.totalRows.toNat = C at rep
  have hT := inv.total_le
  have stored : ∀ q l, A q = some l → Valid m.totalRows.toNat q ∧
      m.getNode (encP m.totalRows.toNat q) = some l ∧ ∃ b, (q, l.hash, b) ∈ F.nodes := by
    intro q l h
    have hv := rep.dom q l h
    have hg : m.getNode (encP m.totalRows.toNat q) = some l := by rw [rep.node q hv]; exact h
    exact ⟨hv, hg, mem_nodes_of_nodeAt (getNode_true inv hv hg)⟩
  have hcp : ∀ x t, C x = some t → (t, x, true) ∈ F.nodes := by
    intro x t h
    have hc : m.getCached x = some (encP m.totalRows.toNat t) := by rw [rep.cache x, h]; rfl
    obtain ⟨t', hp, he⟩ := inv.cached_pos x _ hc
    have : t = t' := encP_inj hT (rep.cdom x t h) (posOf_valid inv.rows_le hp) he
    rw [this]; exact Spec.posOf_some_mem hp
  have hkl : ∀ t, KLeaf F.nodes (fun x => (C x).isSome = true) t ↔
      ∃ x, m.hasCached x = true ∧ F.posOf x = some t := fun t => kleaf_iff hn hy rep
  refine { n_lt := inv.n_lt, n_eq := inv.n_eq, rows_le := inv.rows_le, total_le := hT, full := hfull,
           hyg := hy, abs := ⟨A, C, rep, ?_⟩ }
  refine { true_hash := ?_, cache_sub := ?_, cached_pos := hcp, roots_stored := ?_, only_needed := ?_,
           has_needed := ?_, flags := ?_ }
  · intro q l h; exact (stored q l h).2.2
  · intro x t h; show (C x).isSome = true; rw [h]; rfl
  · intro ρ hρ
    have hv : Valid m.totalRows.toNat ρ := belowRoot_valid' inv.rows_le (isRootPos_belowRoot hρ)
    have := inv.has_needed ρ (Or.inl hρ)
    rw [rep.hasNode hv] at this
    exact Option.isSome_iff_ne_none.1 this
  · intro q l h hnr _
    obtain ⟨hv, hg, b, hb⟩ := stored q l h
    obtain ⟨R, hbr⟩ := SpecSubs.mem_nodes_belowRoot hb
    have hne : q.1 ≠ R := row_ne_of_nonroot hbr (not_froot_iff.1 hnr)
    obtain ⟨x, t, hx, hp, hle, hanc⟩ := (allowed_nonroot_iff hbr hne).1 (inv.only_needed q l hv hg)
    exact ⟨t, (hkl t).2 ⟨x, hx, hp⟩, hle, hanc⟩
  · intro q h b hq hnr hreq
    obtain ⟨R, hbr⟩ := SpecSubs.mem_nodes_belowRoot hq
    have hne : q.1 ≠ R := row_ne_of_nonroot hbr (not_froot_iff.1 hnr)
    have hv : Valid m.totalRows.toNat q := belowRoot_valid' inv.rows_le hbr
    have hR : Required F (fun x => m.hasCached x = true) q := by
      apply (required_nonroot_iff hbr hne).2
      rcases hreq with hk | ⟨t, hk, hanc⟩
      · obtain ⟨x, hx, hp⟩ := (hkl q).1 hk
        exact ⟨x, q, hx, hp, Or.inl rfl⟩
      · obtain ⟨x, hx, hp⟩ := (hkl t).1 hk
        exact ⟨x, t, hx, hp, Or.inr hanc⟩
    have := inv.has_needed q hR
    rw [rep.hasNode hv] at this
    exact Option.isSome_iff_ne_none.1 this
  · intro q l h hnz
    obtain ⟨hv, hg, _⟩ := stored q l h
    rw [kleaf_cached_iff L rep hcp hv]
    cases hr : isRootPos F.numLeaves q with
    | true => exact hrf q l hv hr hg hnz
    | false => exact inv.flags hfull q l hv hr hg

def rootFlagsCheck (m : MapPollard H) (F : Forest H) : Bool :=
  m.nodes.all fun e => match decRO m.totalRows.toNat e.1.toNat with
    | some q => !isRootPos F.numLeaves q || (e.2.hash == (Hasher.zero : H)) ||
        (e.2.remember == m.cached.any fun c => AL.get? m.cached c.1 == some e.1)
    | none => true

theorem rootFlagsCheck_sound {m : MapPollard H} {F : Forest H} (h : rootFlagsCheck m F = true)
    (hT : m.totalRows.toNat ≤ 63) : RootFlags m F := by
  intro q l hv hr hg hnz
  unfold rootFlagsCheck at h
  have hmem := get?_some_mem hg
  have := List.all_eq_true.1 h _ hmem
  have hz : (l.hash == (Hasher.zero : H)) = false := by
    cases hb : (l.hash == (Hasher.zero : H)) with
    | false => rfl
    | true => exact absurd (beq_iff_eq.1 hb) hnz
  simp only [MapInvCheck.dec_encP hT hv, hr, hz, Bool.not_true, Bool.false_or, beq_iff_eq] at this
  rw [this]
  constructor
  · intro hany
    obtain ⟨c, hc, hcc⟩ := List.any_eq_true.1 hany
    exact ⟨c.1, by simpa [MapPollard.getCached] using hcc⟩
  · rintro ⟨x, hx⟩
    apply List.any_eq_true.2
    exact ⟨(x, _), get?_some_mem hx, by simpa [MapPollard.getCached] using hx⟩

namespace Example
open Props.C09.Example

theorem crT : CR T where
  inj := by
    intro a b c d h
    simp only [Hasher.ph] at h
    cases h
    exact ⟨rfl, rfl⟩
  nonzero := by
    intro a b h
    simp only [Hasher.ph, Hasher.zero] at h
    cases h

theorem F5_live : ∀ x ∈ F5.liveLeaves, x = .leaf 0 ∨ x = .leaf 1 ∨ x = .leaf 2 ∨ x = .leaf 3 ∨ x = .leaf 4 := by
  intro x hx
  simpa [F5, Forest.liveLeaves] using hx

theorem F5_hyg : Hyg F5 where
  nodup := by decide
  nz := by
    intro x hx
    rcases F5_live x hx with rfl | rfl | rfl | rfl | rfl <;>
      (simp only [Hasher.zero]; intro h; cases h)
  nph := by
    intro x hx a b
    rcases F5_live x hx with rfl | rfl | rfl | rfl | rfl <;>
      (simp only [Hasher.ph]; intro h; cases h)

theorem m5_sinv : SInv m5 F5 :=
  SInv.of_inv crT.toNZ m5_inv m5_partial F5_hyg (rootFlagsCheck_sound (by decide +kernel) m5_inv.total_le)

example : Inv m5 F5 ∧ RootFlags m5 F5 := ⟨m5_sinv.inv crT.toNZ, m5_sinv.rootFlags crT.toNZ⟩

/-- the instance is not trivial: `F5` has a root that is a cached leaf (row 0, offset 4: the
flag is set) and a root that is not (row 2, offset 0: the flag is clear), both stored with
non-zero hashes -/
example : isRootPos F5.numLeaves (0, 4) = true ∧ isRootPos F5.numLeaves (2, 0) = true ∧
    (m5.getNode (encP 63 (0, 4))).map (·.remember) = some true ∧
    (m5.getNode (encP 63 (2, 0))).map (·.remember) = some false ∧
    m5.getCached (.leaf 4) = some (encP 63 (0, 4)) := by decide +kernel

/-- `RootFlags` is independent of `Inv`: clearing the flag of the cached root leaf keeps
`invCheck` (hence `Inv`) but violates the root-flag check -/
example : invCheck (m5.putNode (encP 63 (0, 4)) ⟨.leaf 4, false⟩) F5 = true ∧
    rootFlagsCheck (m5.putNode (encP 63 (0, 4)) ⟨.leaf 4, false⟩) F5 = false ∧
    rootFlagsCheck (m5.putNode (encP 63 (2, 0)) ⟨(m5.getNodeD (encP 63 (2, 0))).hash, true⟩) F5 = false := by
  decide +kernel

/-- … and indeed that state satisfies `Inv` but not `RootFlags`, hence (by `SInv.rootFlags`) not
`SInv`: the hypothesis `hrf` of `SInv.of_inv` cannot be dropped -/
example : Inv (m5.putNode (encP 63 (0, 4)) ⟨.leaf 4, false⟩) F5 ∧
    ¬ RootFlags (m5.putNode (encP 63 (0, 4)) ⟨.leaf 4, false⟩) F5 ∧
    ¬ SInv (m5.putNode (encP 63 (0, 4)) ⟨.leaf 4, false⟩) F5 := by
  have hnot : ¬ RootFlags (m5.putNode (encP 63 (0, 4)) ⟨.leaf 4, false⟩) F5 := by
    intro hrf
    have h := hrf (0, 4) ⟨.leaf 4, false⟩ (by decide +kernel) (by decide +kernel) (by decide +kernel)
      (by simp only [Hasher.zero]; intro h; cases h)
    have h2 := h.2 ⟨.leaf 4, by decide +kernel⟩
    cases h2
  exact ⟨Props.C09.invCheck_sound (by decide +kernel), hnot, fun s => hnot (s.rootFlags crT.toNZ)⟩

end Example

end UtreexoVerif.Proofs.MapSInv
