/-
  Pointer forest, heap model: the pointer surgery of `deleteSingle`, branch "the parent of the
  deleted node is not a root": `transferAunt(from, to)`, `transferNiece(from, to)`,
  `transferNiece(toSib, fromSib)`, `updateAunt(to.aunt)`, `delNode(fromSib)`.

  Names: `A` = the node deleted (`fromNodeSib`), `B` = its sibling (`fromNode`, moves up),
  `P` = their parent (`toNode`), `S` = the sibling of `P` (`toSib`, holds the children of `P`),
  `HG` = the aunt of `P` and `S` (the niece holder of the grand-parent).
-/
import UtreexoVerif.Proofs.PollardHeapDelPrim
set_option linter.unusedSectionVars false

namespace UtreexoVerif.Proofs.PollardHeap
open UtreexoVerif.Model.PollardHeap UtreexoVerif.Spec

variable {H : Type} [DecidableEq H] [Hasher H]

/-- the branch "the parent `P` is not a root": the five runs (with the heaps `h1 … h4` between them) are part of the
statement because `deleteSingle_aunt_core` replays the body of `deleteSingle` statement by statement; what a client
builds on are the last six conjuncts — size, written set, the holder `HG`, the emptied `P`, and `B`, `S` as the new pair
under `HG` with their trees -/
theorem surgeryAunt {hp : Heap H} {A B P S HG : Nat} {d pl : Bool} {an pn hgn : PolNode H}
    {a b ts : CTree H} {fa fb fs : List Nat} {la lb ls : List (H × Nat)}
    (hA : hp[A]? = some an) (hP : hp[P]? = some pn) (hHG : hp[HG]? = some hgn)
    (kS : Kids hp S (sel d A B) (sel d B A)) (kHG : Kids hp HG (sel pl P S) (sel pl S P))
    (subA : Sub hp A B a fa la) (subB : Sub hp B A b fb lb) (subS : Sub hp S P ts fs ls)
    (nd : (HG :: P :: S :: A :: B :: (fa ++ fb ++ fs)).Nodup)
    (nm : List (H × Nat)) (rs : List Nat) (nl ndl : U64) (full : Bool) :
    ∃ h1 h2 h3 h4 : Heap H,
      transferAunt (some B) (some P) ⟨hp, nm, rs, nl, ndl, full⟩ = (.ok (), ⟨h1, nm, rs, nl, ndl, full⟩) ∧
      transferNiece (some B) (some P) ⟨h1, nm, rs, nl, ndl, full⟩ = (.ok (), ⟨h2, nm, rs, nl, ndl, full⟩) ∧
      transferNiece (some S) (some A) ⟨h2, nm, rs, nl, ndl, full⟩ = (.ok (), ⟨h3, nm, rs, nl, ndl, full⟩) ∧
      h3[P]? = some { pn with lNiece := none, rNiece := none } ∧
      updateAunt' (some HG) ⟨h3, nm, rs, nl, ndl, full⟩ = (.ok (), ⟨h3, nm, rs, nl, ndl, full⟩) ∧
      h3[A]? = some { an with lNiece := none, rNiece := none } ∧
      (∀ nm', delNode (some A) ⟨h3, nm', rs, nl, ndl, full⟩ = (.ok (), ⟨h4, nm', rs, nl, ndl, full⟩)) ∧
      h4.size = hp.size ∧ Off (HG :: P :: S :: A :: B :: (fa ++ fb ++ fs)) hp h4 ∧
      h4[HG]? = some (replK hgn P B) ∧ h4[P]? = some { pn with lNiece := none, rNiece := none } ∧
      Kids h4 HG (sel pl B S) (sel pl S B) ∧ Sub h4 B S b fb lb ∧ Sub h4 S B ts fs ls := by
  obtain ⟨sn, hS, _⟩ := kS.holder
  obtain ⟨⟨an', hA', aA⟩, ⟨bn, hB, aB⟩⟩ := kS.sel_c
  obtain ⟨⟨pn', hP', aP⟩, ⟨sn', hS', aS⟩⟩ := kHG.sel_c
  cases hA.symm.trans hA'; cases hP.symm.trans hP'; cases hS.symm.trans hS'
  have ndx := nd
  simp only [List.nodup_cons, List.mem_cons, List.mem_append, not_or, List.nodup_append] at ndx
  obtain ⟨⟨nHGP, nHGS, nHGA, nHGB, ⟨nHGfa, nHGfb⟩, nHGfs⟩, ⟨nPS, nPA, nPB, ⟨nPfa, nPfb⟩, nPfs⟩,
    ⟨nSA, nSB, ⟨nSfa, nSfb⟩, nSfs⟩, ⟨nAB, ⟨nAfa, nAfb⟩, nAfs⟩, ⟨⟨nBfa, nBfb⟩, nBfs⟩,
    ⟨ndfa, ndfb, dab⟩, ndfs, dabs⟩ := ndx
  have kan : ∀ j, isKid an j → j ∈ fb := fun j k => subB.kid_mem hA k
  have ksnB : isKid sn B := (kS.isKid hS).2
  have khgP : isKid hgn P := (kHG.isKid hHG).1
  have clearK_aunt : (clearK sn B).aunt = some HG := by unfold clearK; split <;> exact aS
  have clearK_data : (clearK sn B).data = sn.data := by unfold clearK; split <;> rfl
  -- step 1: `transferAunt(B, P)`; written `B` (aunt), `S`, `HG` (niece pointers)
  obtain ⟨o1, hB1, hHG1, hS1'⟩ := taHeap_spec (b := P) (au := bn.aunt) hB hHG (Ne.symm nHGB)
    (fun aa e => by cases aB.symm.trans e; exact ⟨Ne.symm nSB, Ne.symm nHGS⟩)
  have hS1 := hS1' S sn aB hS
  have x1 := transferAunt_run hp nm rs nl ndl full B P HG bn pn hgn hB hP hHG aP khgP (Ne.symm nHGB)
    (Ne.symm nHGP) (fun aa e => by
      cases aB.symm.trans e; exact ⟨⟨sn, hS, ksnB⟩, Ne.symm nSB, Ne.symm nPS, Ne.symm nHGS⟩)
    (kHG.replK hHG nPS hHG1 ⟨_, hB1, rfl⟩ ⟨_, hS1, clearK_aunt⟩).settled
  rw [aB] at o1 hB1 hS1 hHG1 x1
  replace o1 : Off [B, S, HG] hp (taHeap hp B (some S) P HG) := o1
  have hP1 := (o1 P (by simp [nPB, nPS, Ne.symm nHGP])).trans hP
  have hA1 := (o1 A (by simp [nAB, Ne.symm nSA, Ne.symm nHGA])).trans hA
  have sS1 := subS.off_top o1 hS hS1 clearK_data (by simp [nPB, nPS, Ne.symm nHGP])
    (fun i hi => by simp; exact ⟨fun e => nBfs (e ▸ hi), fun e => nSfs (e ▸ hi), fun e => nHGfs (e ▸ hi)⟩)
  have sB1 := subB.off_top o1 hB hB1 rfl (by simp [nAB, Ne.symm nSA, Ne.symm nHGA])
    (fun i hi => by simp; exact ⟨fun e => nBfb (e ▸ hi), fun e => nSfb (e ▸ hi), fun e => nHGfb (e ▸ hi)⟩)
  -- step 2: `transferNiece(B, P)`: `B` holds the children of `S`
  obtain ⟨h2, x2, sz2, hB2, hP2, o2, sS2⟩ :=
    transferNiece_sub sS1 ndfs hB1 hP1 (Ne.symm nPB) nBfs nPfs nm rs nl ndl full
  have hA2 := (o2 A (by simp [nAB, Ne.symm nPA, nAfs])).trans hA1
  have hS2 := (o2 S (by simp [nSB, Ne.symm nPS, nSfs])).trans hS1
  have sB2 := sB1.off_top o2 hB1 hB2 rfl (by simp [nAB, Ne.symm nPA, nAfs])
    (fun i hi => by simp; exact ⟨fun e => nBfb (e ▸ hi), fun e => nPfb (e ▸ hi), fun h => dabs i (Or.inr hi) i h rfl⟩)
  -- step 3: `transferNiece(S, A)`: `S` holds the children of `B`
  obtain ⟨h3, x3, sz3, hS3, hA3, o3, sB3⟩ :=
    transferNiece_sub sB2 ndfb hS2 hA2 nSA nSfb nAfb nm rs nl ndl full
  have hP3 := (o3 P (by simp [nPS, nPA, nPfb])).trans hP2
  have hB3 := (o3 B (by simp [Ne.symm nSB, Ne.symm nAB, nBfb])).trans hB2
  have hHG3 := (o3 HG (by simp [nHGS, nHGA, nHGfb])).trans
    ((o2 HG (by simp [nHGB, nHGP, nHGfs])).trans hHG1)
  have sS3 := sS2.off_top o3 hS2 hS3 rfl (by simp [Ne.symm nSB, Ne.symm nAB, nBfb])
    (fun i hi => by simp; exact ⟨fun e => nSfs (e ▸ hi), fun e => nAfs (e ▸ hi), fun h => dabs i (Or.inr h) i hi rfl⟩)
  -- step 4: `updateAunt(HG)` finds `B` pointing back; step 5: `delNode(A)`, written `A`
  have x4 := updateAunt'_noop HG h3 nm rs nl ndl full
    (kHG.replK hHG nPS hHG3 ⟨_, hB3, rfl⟩ ⟨_, hS3, clearK_aunt⟩).settled
  obtain ⟨h4, x5, sz4, o4⟩ := delNode_off (K := []) hA3
    (fun x hx => by cases aA.symm.trans hx; exact ⟨_, hS3, fun k => nAfb (kan A k)⟩)
    (by rintro j (k | k) <;> cases k) List.not_mem_nil
  have hB4 := (o4 B (by simp [Ne.symm nAB])).trans hB3
  have hS4 := (o4 S (by simp [nSA])).trans hS3
  have oall := (((o1.trans o2).trans o3).trans o4)
  have hHG4 := (o4 HG (by simp [nHGA])).trans hHG3
  have k4 := kHG.replK hHG nPS hHG4 ⟨_, hB4, rfl⟩ ⟨_, hS4, clearK_aunt⟩
  refine ⟨_, h2, h3, h4, x1, x2, x3, hP3, x4, hA3, fun nm' => x5 nm' rs nl ndl full,
    by rw [sz4, sz3, sz2, size_taHeap], ?_, hHG4, (o4 P (by simp [nPA])).trans hP3, k4,
    sB3.off o4 (by simp [Ne.symm nAB]) (by simp [nSA]) (fun i hi => by simp; rintro rfl; exact nAfb hi),
    sS3.off o4 (by simp [nSA]) (by simp [Ne.symm nAB]) (fun i hi => by simp; rintro rfl; exact nAfs hi)⟩
  refine oall.mono fun j hj => ?_
  simp only [List.mem_append, List.mem_cons, List.not_mem_nil, or_false] at hj ⊢
  rcases hj with (((h | h | h) | h | h | h) | h | h | h) | h <;> simp [h]

/-- the branch "the parent is a root": `*toNode = *fromNode`, `transferNiece(to, fromSib)`,
`updateAunt(to)`, `delNode(from)`, (map), `delNode(fromSib)`, `to.aunt = nil` -/
theorem surgeryRoot {hp : Heap H} {A B P : Nat} {an bn pn : PolNode H}
    {a b : CTree H} {fa fb : List Nat} {la lb : List (H × Nat)}
    (hA : hp[A]? = some an) (hB : hp[B]? = some bn) (hP : hp[P]? = some pn)
    (aA : an.aunt = some P) (aB : bn.aunt = some P)
    (subA : Sub hp A B a fa la) (subB : Sub hp B A b fb lb)
    (nd : (P :: A :: B :: (fa ++ fb)).Nodup)
    (nm : List (H × Nat)) (rs : List Nat) (nl ndl : U64) (full : Bool) :
    ∃ h2 h3 h4 : Heap H,
      transferNiece (some P) (some A) ⟨hp.modify P (fun _ => bn), nm, rs, nl, ndl, full⟩ =
        (.ok (), ⟨h2, nm, rs, nl, ndl, full⟩) ∧
      updateAunt' (some P) ⟨h2, nm, rs, nl, ndl, full⟩ = (.ok (), ⟨h2, nm, rs, nl, ndl, full⟩) ∧
      delNode (some B) ⟨h2, nm, rs, nl, ndl, full⟩ = (.ok (), ⟨h3, nm, rs, nl, ndl, full⟩) ∧
      h3[P]? = some { bn with lNiece := an.lNiece, rNiece := an.rNiece } ∧
      h3[A]? = some { an with lNiece := none, rNiece := none } ∧
      (∀ nm', delNode (some A) ⟨h3, nm', rs, nl, ndl, full⟩ = (.ok (), ⟨h4, nm', rs, nl, ndl, full⟩)) ∧
      h4.size = hp.size ∧
      Off (P :: A :: B :: (fa ++ fb)) hp (h4.modify P (fun x => { x with aunt := none })) ∧
      RootRepr (h4.modify P (fun x => { x with aunt := none })) P b fb (relabelTop b P lb) := by
  have ndx := nd
  simp only [List.nodup_cons, List.mem_cons, List.mem_append, not_or, List.nodup_append] at ndx
  obtain ⟨⟨nPA, nPB, nPfa, nPfb⟩, ⟨nAB, nAfa, nAfb⟩, ⟨nBfa, nBfb⟩, ndfa, ndfb, dab⟩ := ndx
  have kan : ∀ j, isKid an j → j ∈ fb := fun j k => subB.kid_mem hA k
  have kbn : ∀ j, isKid bn j → j ∈ fa := fun j k => subA.kid_mem hB k
  -- `*P = *B`: written `P`
  have o1 : Off [P] hp (hp.modify P (fun _ => bn)) := Off.modify _ _ _
  have hP1 : (hp.modify P (fun _ => bn))[P]? = some bn := by
    rw [Array.getElem?_modify, if_pos rfl, hP]; rfl
  have hA1 := (o1 A (by simp [Ne.symm nPA])).trans hA
  have sB1 := subB.off o1 (by simp [Ne.symm nPB]) (by simp [Ne.symm nPA])
    (fun i hi => by simp; rintro rfl; exact nPfb hi)
  -- `transferNiece(P, A)`: `P` holds the children of `B`; `updateAunt(P)` finds them settled
  obtain ⟨h2, x2, sz2, hP2, hA2, o2, sB2⟩ :=
    transferNiece_sub sB1 ndfb hP1 hA1 nPA nPfb nAfb nm rs nl ndl full
  have x3 := updateAunt'_noop P h2 nm rs nl ndl full sB2.settled
  have hB2 : h2[B]? = some bn :=
    (o2 B (by simp [Ne.symm nPB, Ne.symm nAB, nBfb])).trans ((o1 B (by simp [Ne.symm nPB])).trans hB)
  -- `delNode(B)`: written `B` and the children of `A`; `delNode(A)`: written `A`
  obtain ⟨h3, x4, sz3, o3⟩ := delNode_off (K := fa) hB2
    (fun x hx => by cases aB.symm.trans hx; exact ⟨_, hP2, fun k => nBfb (kan B k)⟩) kbn nBfa
  have hP3 := (o3 P (by simp [nPB, nPfa])).trans hP2
  have hA3 := (o3 A (by simp [nAB, nAfa])).trans hA2
  obtain ⟨h4, x5, sz4, o4⟩ := delNode_off (K := []) hA3
    (fun x hx => by cases aA.symm.trans hx; exact ⟨_, hP3, fun k => nAfb (kan A k)⟩)
    (by rintro j (k | k) <;> cases k) List.not_mem_nil
  have hP4 := (o4 P (by simp [nPA])).trans hP3
  have o5 : Off [P] h4 (h4.modify P (fun x => { x with aunt := none })) := Off.modify _ _ _
  have hP5 : (h4.modify P (fun x => { x with aunt := none }))[P]? =
      some { bn with lNiece := an.lNiece, rNiece := an.rNiece, aunt := none } := by
    rw [Array.getElem?_modify, if_pos rfl, hP4]; rfl
  -- the tree of `B`, now below `P`, through the three later writes
  have sP4 := ((sB2.retop hB2 hP2 rfl).off o3 (by simp [nPB, nPfa]) (by simp [nPB, nPfa])
    (fun i hi => by simp; exact ⟨fun e => nBfb (e ▸ hi), fun h => dab i h i hi rfl⟩)).off o4
    (by simp [nPA]) (by simp [nPA]) (fun i hi => by simp; rintro rfl; exact nAfb hi)
  refine ⟨h2, h3, h4, x2, x3, x4 nm rs nl ndl full, hP3, hA3, fun nm' => x5 nm' rs nl ndl full, by rw [sz4, sz3, sz2]; simp, ?_,
    ⟨_, hP5, rfl⟩, sP4.frame_of hP4 hP5 rfl hP4 hP5 rfl rfl
      (fun i hi => o5 i (by simp; rintro rfl; exact nPfb hi))⟩
  refine ((((o1.trans o2).trans o3).trans o4).trans o5).mono fun j hj => ?_
  simp only [List.mem_append, List.mem_cons, List.not_mem_nil, or_false] at hj ⊢
  rcases hj with ((((h | h | h | h) | h | h) | h) | h) <;> simp [h]

end UtreexoVerif.Proofs.PollardHeap
