/-
  What the loops of `Undo` read off the storage invariant: they never look at WHICH nodes are stored,
  only that stored hashes are true, that the cache points at stored leaves, and that a stored node
  whose hash is cached (every stored node, on a full forest) carries the remember flag: the Go test
  `cached || m.Full`.
  Namespace `MapUndoSteps`, shared with `MapUnliftCore`, the `HInvP` readings of `MapUnlift`/`MapUnstepB` and `MapUndoFill`.
-/
import UtreexoVerif.Proofs.MapUnliftCore
import UtreexoVerif.Proofs.MapPlaceEmpty

namespace UtreexoVerif.Proofs.MapUndoSteps
open Model Spec MapInv MapRep PForest
  MapUndoDefs MapPlaceEmpty Hasher
set_option linter.unusedSectionVars false

variable {H : Type} [DecidableEq H] [Hasher H]

/-- The state `(A, C)` tracks the node list `N` outside `Hole` (positions whose contents `Undo` still
has to re-compute; nothing is claimed there); `fl` is the `Full` flag.  The holed
invariant `GIH` of `Proofs/MapGIH.lean` implies it (`GIH.weak`), for partial and full forests. -/
structure WInv (A : Pos → Option (Leaf H)) (C : H → Option Pos) (N : List (Pos × H × Bool)) (fl : Bool)
    (Hole : Pos → Prop) : Prop where
  true_hash : ∀ q l, A q = some l → ¬ Hole q → ∃ b, (q, l.hash, b) ∈ N
  cached_pos : ∀ x t, C x = some t → (t, x, true) ∈ N ∧ ¬ Hole t
  leaf_stored : ∀ x t, C x = some t → A t ≠ none
  flag : ∀ q l, A q = some l → ¬ Hole q → ((C l.hash).isSome = true ∨ fl = true) → l.remember = true

section
variable {A : Pos → Option (Leaf H)} {C : H → Option Pos} {N : List (Pos × H × Bool)} {fl : Bool}
  {R : Pos → Prop} {Hole : Pos → Prop}

theorem WInv.sto (L : Laws N R) (w : WInv A C N fl Hole) {x : H} {t : Pos} (h : C x = some t) :
    ∃ v, A t = some v ∧ v.hash = x := by
  cases hA : A t with
  | none => exact absurd hA (w.leaf_stored x t h)
  | some v =>
    obtain ⟨b, hb⟩ := w.true_hash t v hA (w.cached_pos x t h).2
    exact ⟨v, rfl, (L.func _ _ _ _ _ hb (w.cached_pos x t h).1).1⟩

theorem WInv.pos (L : Laws N R) (w : WInv A C N fl Hole) {q t : Pos} {v : Leaf H} (hA : A q = some v)
    (hq : ¬ Hole q) (h : C v.hash = some t) : t = q := by
  obtain ⟨b, hb⟩ := w.true_hash q v hA hq
  exact (L.leaf_hash t v.hash q b (w.cached_pos _ t h).1 hb).symm

/-- the hash of an inner node is not cached: dropping it does not change the cache -/
theorem WInv.dropC_inner (L : Laws N R) (w : WInv A C N fl Hole) {P : Pos} (hP : ¬ Hole P) {h : H}
    (hPN : (P, h, false) ∈ N) : dropC P A C = C := by
  cases hA : A P with
  | none => exact dropC_of_none hA
  | some l =>
    rw [dropC_of_some hA]
    funext x
    rw [upd_apply]
    split
    · rename_i e
      subst e
      cases hCx : C l.hash with
      | none => rfl
      | some t =>
        have := w.pos L hA hP hCx
        subst this
        cases (L.func _ _ _ _ _ (w.cached_pos _ _ hCx).1 hPN).2
    · rfl

theorem WInv.drop (L : Laws N R) (w : WInv A C N fl Hole) (P : Pos) (hP : ¬ Hole P) :
    WInv (upd A P none) (dropC P A C) N fl (fun q => Hole q ∨ q = P) := by
  have hne : ∀ x t, dropC P A C x = some t → t ≠ P := by
    rintro x t hx rfl
    obtain ⟨v, hv, e⟩ := w.sto L (dropC_some hx)
    rw [dropC_of_some hv, e, upd_self] at hx
    cases hx
  refine { true_hash := ?_, cached_pos := ?_, leaf_stored := ?_, flag := ?_ }
  · intro q l hl hh
    rw [upd_ne _ _ (fun e => hh (Or.inr e))] at hl
    exact w.true_hash q l hl (fun c => hh (Or.inl c))
  · intro x t hx
    exact ⟨(w.cached_pos x t (dropC_some hx)).1,
      fun c => c.elim (w.cached_pos x t (dropC_some hx)).2 (hne x t hx)⟩
  · intro x t hx
    rw [upd_ne _ _ (hne x t hx)]
    exact w.leaf_stored x t (dropC_some hx)
  · intro q l hl hh hc
    rw [upd_ne _ _ (fun e => hh (Or.inr e))] at hl
    refine w.flag q l hl (fun c => hh (Or.inl c)) (hc.imp_left fun hs => ?_)
    obtain ⟨t, ht⟩ := Option.isSome_iff_exists.1 hs
    rw [dropC_some ht]; rfl

/-- `x` is gone from the domain of the cache whether or not the leaf was stored (`hN'`, `hpos`, `hxN` are what
`MapAddMerge.step0_facts` provides) -/
theorem WInv.drop_leaf_dom {N' : List (Pos × H × Bool)} (w : WInv A C N' fl (fun _ => False)) {t0 : Pos} {x : H}
    (hN' : ∀ e, e ∈ N' ↔ e ∈ N ∨ e = (t0, x, true)) (hpos : ∀ h b, (t0, h, b) ∉ N)
    (hxN : ∀ q b, (q, x, b) ∉ N) (y : H) :
    (dropC t0 A C y).isSome = true ↔ ((C y).isSome = true ∧ y ≠ x) := by
  cases hA : A t0 with
  | some l =>
    obtain ⟨b, hb⟩ := w.true_hash _ l hA (fun h => h)
    have hlx : l.hash = x := by
      rcases (hN' _).1 hb with h' | h'
      · exact absurd h' (hpos _ _)
      · simp only [Prod.mk.injEq] at h'; exact h'.2.1
    rw [dropC_of_some hA, hlx, upd_apply]
    by_cases hy : y = x
    · simp [hy]
    · simp [hy]
  | none =>
    rw [dropC_of_none hA]
    constructor
    · intro h
      refine ⟨h, ?_⟩
      rintro rfl
      obtain ⟨t', ht'⟩ := Option.isSome_iff_exists.1 h
      rcases (hN' _).1 (w.cached_pos y t' ht').1 with h' | h'
      · exact hxN _ _ h'
      · simp only [Prod.mk.injEq] at h'
        have := w.leaf_stored y t' ht'
        rw [h'.1] at this
        exact this hA
    · exact fun h => h.1

/-- `placeEmptyRoot (sib σ)` succeeds on a state that tracks, outside a hole away from `P = parent σ`,
a node list with a node at `P` and nothing on row 0 below it: the stored nodes below `P` are then
non-roots (hence non-zero) of rows `≥ 1` -/
theorem WInv.place (L : Laws N R) (w : WInv A C N fl Hole) {σ P : Pos} (hσP : parent σ = P) {hP : H} {bP : Bool}
    (hPN : (P, hP, bP) ∈ N) (hH : ∀ q, SUnder P q → ¬ Hole q)
    (hrow : ∀ q h b, (q, h, b) ∈ N → SUnder P q → 1 ≤ q.1)
    {m : MapPollard H} {T : Nat} (rep : Rep m T A C) (hfull : m.full = fl) (hσ : Valid T σ) (hlt : σ.1 < T) :
    ∃ m', MapPollard.placeEmptyRoot (encP T (sib σ)) m = (m', .ok ()) ∧
      Rep m' T (unliftA σ A) (unliftC σ C) ∧ m'.numLeaves = m.numLeaves ∧ m'.full = m.full := by
  subst hσP
  refine placeEmptyRoot_rep_gen rep hfull hσ hlt ?_ ?_ (fun q v hq hv hc => w.flag q v hv (hH q hq) (Or.inl hc))
    (fun hf q v hq hv => w.flag q v hv (hH q hq) (Or.inr hf)) (fun q v hq hv t ht => w.pos L hv (hH q hq) ht)
    (fun x t ht _ => w.sto L ht)
  · intro q hq h0
    cases hA : A q with
    | none => rfl
    | some v =>
      obtain ⟨b, hb⟩ := w.true_hash q v hA (hH q hq)
      have := hrow q _ b hb hq
      omega
  · intro q v hq hv hz
    obtain ⟨b, hb⟩ := w.true_hash q v hv (hH q hq)
    rw [hz] at hb
    exact L.not_root_of_sunder hPN hq (L.zero_root q b hb).1

end

end UtreexoVerif.Proofs.MapUndoSteps
