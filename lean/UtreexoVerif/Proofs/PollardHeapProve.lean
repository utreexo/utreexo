/-
  Pointer forest, heap model: `Prove` on a represented forest returns the canonical proof of
  the specification (`Spec.Forest.canon`) — the pointer-forest counterpart of
  `Proofs/MapProve.lean`.
-/
import UtreexoVerif.Proofs.PollardHeapQuery
import UtreexoVerif.Proofs.MapProve
import UtreexoVerif.Proofs.ProofUpdateDeTwin
set_option linter.unusedSectionVars false

namespace UtreexoVerif.Proofs.PollardHeap
open UtreexoVerif.Model UtreexoVerif.Model.PollardHeap UtreexoVerif.Spec Hasher
open UtreexoVerif.Model.PollardAbs UtreexoVerif.Proofs.SpecSubs
open UtreexoVerif.Proofs.SpecView
open UtreexoVerif.Proofs.MapProve UtreexoVerif.Proofs.Movement

variable {H : Type} [DecidableEq H] [Hasher H]

theorem mapM_loop_ok {α β : Type} (f : α → PM H β) (g : α → β) (st : Pollard H) :
    ∀ (l : List α) (acc : List β), (∀ a ∈ l, f a st = (.ok (g a), st)) →
    List.mapM.loop f l acc st = (.ok (acc.reverse ++ l.map g), st) := by
  intro l
  induction l with
  | nil => intro acc _; simp [List.mapM.loop]
  | cons a l ih =>
    intro acc h
    rw [List.mapM.loop]
    simp only [bind_apply, h a (by simp)]
    rw [ih _ (fun b hb => h b (by simp [hb]))]
    simp

theorem mapM_ok {α β : Type} (f : α → PM H β) (g : α → β) (st : Pollard H) (l : List α)
    (h : ∀ a ∈ l, f a st = (.ok (g a), st)) : l.mapM f st = (.ok (l.map g), st) := by
  unfold List.mapM
  rw [mapM_loop_ok f g st l [] h]
  simp

theorem proofPosition_node (hph : ∀ a b : H, ph a b ≠ (zero : H)) {F : Forest H}
    (hnz : ∀ x ∈ F.liveLeaves, x ≠ (zero : H)) {tg : List Pos}
    (hyp : PPHyp F.numLeaves tg) (htg : ∀ t ∈ tg, ∃ x, F.posOf x = some t) {q : Pos}
    (hq : q ∈ F.proofPositions tg) :
    ∃ R s, SubAtT F R q s ∧ s.hash ≠ zero := by
  obtain ⟨w, ⟨t, ht, R, hb, hanc, hle⟩, hnr, rfl, _⟩ := (mem_spec_proofPositions F hyp q).1 hq
  obtain ⟨x, hx⟩ := htg t ht
  obtain ⟨R', st⟩ := posOf_sub hx
  have hRR : R = R' := by
    have hu := st.under
    exact belowRoot_unique hb ⟨hu.1, st.bit, hu.2⟩
  subst hRR
  obtain ⟨a1, a2⟩ := hanc
  obtain ⟨ta, sa, _⟩ := anc_node st (w.1 - t.1) ((Nat.add_sub_of_le a1).symm ▸ hle)
  rw [Nat.add_sub_of_le a1, ← a2] at sa
  obtain ⟨_, s', _, ssib⟩ := sa.parent hnr
  refine ⟨R, s', ssib, ?_⟩
  apply Spec.CTree.hash_ne_zero hph
  intro y hy
  exact hnz y (ssib.leaves_live y hy)

theorem proofPosition_hash (hph : ∀ a b : H, ph a b ≠ (zero : H)) {F : Forest H}
    (hn : F.numLeaves < 2 ^ 63) (hnz : ∀ x ∈ F.liveLeaves, x ≠ (zero : H)) {tg : List Pos}
    (hyp : PPHyp F.numLeaves tg) (htg : ∀ t ∈ tg, ∃ x, F.posOf x = some t) {q : Pos}
    (hq : q ∈ F.proofPositions tg) :
    F.nodeAt q = some (pollardGetHashNiece F (encP F.rows q)) ∧
      pollardGetHashNiece F (encP F.rows q) ≠ zero := by
  obtain ⟨R, s, ss, hsz⟩ := proofPosition_node hph hnz hyp htg hq
  have e : pollardGetHashNiece F (encP F.rows q) = s.hash := by
    rw [Props.C10.pollardGetHashNiece_eq]
    exact Props.C10.getHash_node F hn ss.node_mem
  rw [e, ss.nodeAt]
  exact ⟨rfl, hsz⟩

theorem beq_false_of_toNat_ne {a b : U64} (h : a.toNat ≠ b.toNat) : (a == b) = false :=
  beq_eq_false_iff_ne.2 (fun e => h (congrArg BitVec.toNat e))

theorem prove_abs (hph : ∀ a b : H, ph a b ≠ (zero : H)) {p : Pollard H} {F : Forest H}
    (a : Abs p F) (hn : F.numLeaves < 2 ^ 63) (hroots : RootsApart F)
    (hnz : ∀ x ∈ F.liveLeaves, x ≠ (zero : H)) (hs : List H)
    (hlive : ∀ h ∈ hs, h ∈ F.liveLeaves) (hnd : hs.Nodup) (h1 : 1 < F.numLeaves) (hne : hs ≠ []) :
    ∃ ts ps, F.canon hs = some (ts, ps) ∧
      prove hs p = (.ok (ts.map (encP F.rows), ps), p) := by
  have hn64 : F.numLeaves < 2 ^ 64 := by omega
  have htr : F.rows ≤ 63 := forestRows_le_63 hn
  have hnl := a.numLeaves
  have hT : TreeRows p.numLeaves = H8 F.rows := treeRows_eq_H8 hnl hn
  obtain ⟨tgts, htg⟩ : ∃ tgts, tgts = hs.map (fun h => (F.posOf h).getD (0, 0)) := ⟨_, rfl⟩
  have hpos : ∀ h ∈ hs, F.posOf h = some ((F.posOf h).getD (0, 0)) := by
    intro h hh
    obtain ⟨q, hq⟩ := Spec.posOf_isSome_of_live hn64 (hlive h hh)
    rw [hq]
    rfl
  have hm1 : hs.mapM F.posOf = some tgts := by
    rw [htg]
    exact ListFacts.mapM_of_forall _ _ hs hpos
  have h3 : ∀ t ∈ tgts, ∃ x, F.posOf x = some t := by
    intro t ht
    rw [htg] at ht
    obtain ⟨x, hx, rfl⟩ := List.mem_map.1 ht
    exact ⟨x, hpos x hx⟩
  have h4 : tgts.Nodup := by
    rw [htg]
    exact ProofUpdateDeTwin.leafPositions_nodup (Nat.le_of_lt hn) hnd hlive
  have htv : ∀ t ∈ tgts, ValidH F.rows t := by
    intro t ht
    obtain ⟨x, hp⟩ := h3 t ht
    exact MapPrune.posOf_valid (Nat.le_refl _) hp
  -- the proof positions, by `proofPositions_spec` on the sorted targets
  have hyp : PPHyp F.numLeaves (sortPos tgts) := ppHyp_sortPos h3 h4
  have hcongr : F.proofPositions (sortPos tgts) = F.proofPositions tgts :=
    SpecPlan.proofPositions_congr _ (fun t => mem_sortPos)
  have hPP := Props.C16.proofPositions_spec F (H := F.rows) (h := F.rows) p.numLeaves hnl hT htr
    (Nat.le_refl _) (sortPos tgts) hyp
  rw [hcongr] at hPP
  have hnode : ∀ q ∈ F.proofPositions tgts,
      F.nodeAt q = some (pollardGetHashNiece F (encP F.rows q)) ∧
        pollardGetHashNiece F (encP F.rows q) ≠ zero := by
    intro q hq
    rw [← hcongr] at hq
    exact proofPosition_hash hph hn hnz hyp
      (fun t ht => h3 t (mem_sortPos.1 ht)) hq
  have hm3 := ListFacts.mapM_of_forall F.nodeAt (fun q => pollardGetHashNiece F (encP F.rows q))
    (F.proofPositions tgts) (fun q hq => (hnode q hq).1)
  obtain ⟨ps, hps⟩ : ∃ ps,
      ps = (F.proofPositions tgts).map (fun q => pollardGetHashNiece F (encP F.rows q)) := ⟨_, rfl⟩
  rw [← hps] at hm3
  refine ⟨tgts, ps, ?_, ?_⟩
  · unfold Forest.canon
    rw [hm1]
    simp only [Option.bind_eq_bind, Option.bind_some, hm3]
    rfl
  · have hemp : hs.isEmpty = false := by
      cases hs with
      | nil => exact absurd rfl hne
      | cons _ _ => rfl
    have hn0 : (p.numLeaves == 0#64) = false :=
      beq_false_of_toNat_ne (hnl ▸ Nat.ne_of_gt (Nat.lt_trans Nat.zero_lt_one h1))
    have hn1 : (p.numLeaves == 1#64) = false :=
      beq_false_of_toNat_ne (hnl ▸ Nat.ne_of_gt h1)
    have hmap2 : hs.map (fun h => encP F.rows ((F.posOf h).getD (0, 0))) =
        tgts.map (encP F.rows) := by
      rw [htg, List.map_map]
      rfl
    unfold prove
    simp only [bind_apply, getNumLeaves_apply, hemp, hn0, hn1, Bool.or_self, Bool.false_eq_true,
      if_false]
    rw [mapM_ok _ (fun h => encP F.rows ((F.posOf h).getD (0, 0))) p hs (by
      intro h hh
      obtain ⟨c, q, hget, hq, hcalc⟩ := leafLookup_abs a hn hroots (hlive h hh)
      simp only [bind_apply, nodeMapGet_apply, hget, hcalc, hq]
      rfl)]
    simp only [hmap2, sortU64_encP htr tgts htv, hT, hPP]
    by_cases he : ((F.proofPositions tgts).map (encP F.rows)).isEmpty = true
    · simp only [he, if_true, pure_apply]
      rw [hps, List.map_eq_nil_iff.1 (List.isEmpty_iff.1 he)]
      rfl
    · simp only [he, Bool.false_eq_true, if_false, bind_apply]
      rw [mapM_ok _ (pollardGetHashNiece F) p _ (by
        intro u hu
        obtain ⟨q, hq, rfl⟩ := List.mem_map.1 hu
        simp only [bind_apply, getHash_abs a, (hnode q hq).2, if_false, pure_apply]),
        List.map_map, Function.comp_def, ← hps]
      rfl

end UtreexoVerif.Proofs.PollardHeap
