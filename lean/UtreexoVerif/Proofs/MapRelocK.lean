/-
  Relocation of a subtree by `liftP σ` (the move of `moveUpDescendants`, undone by `placeEmptyRoot`).
  `AllowedAt N Kp q` and `RequiredAt N K q` are the two conditions the storage invariants put on a
  non-root position (`MapInv.Allowed`/`MapInv.Required` in the words of `Anc`): a stored node must be
  allowed, a required node must be stored.  `Reloc σ N N'`: `N'` is `N` with the subtree at `σ` moved
  onto `parent σ`.  Inside the moved subtree both conditions are the same before and after; outside
  the region of `parent σ` each direction holds under one side condition.  Lifting (`add` over an
  empty root, `remove`) and un-lifting (`Undo`) read the same lemmas in opposite directions.
-/
import UtreexoVerif.Proofs.MapAInv

namespace UtreexoVerif.Proofs.MapRelocK
open Spec MapRep MapLiftGeo MapAInv
set_option linter.unusedSectionVars false

variable {H : Type} [DecidableEq H] [Hasher H]

def AllowedAt (N : List (Pos × H × Bool)) (Kp : H → Prop) (q : Pos) : Prop :=
  ∃ t, KLeaf N Kp t ∧ t.1 ≤ q.1 ∧ Anc (parent q) t

def RequiredAt (N : List (Pos × H × Bool)) (K : H → Prop) (q : Pos) : Prop :=
  KLeaf N K q ∨ ∃ t, KLeaf N K t ∧ Anc (sib q) t

theorem AllowedAt.mono {N N' : List (Pos × H × Bool)} {K K' : H → Prop} (h : ∀ t, KLeaf N K t → KLeaf N' K' t) {q : Pos}
    (a : AllowedAt N K q) : AllowedAt N' K' q :=
  let ⟨t, ht, h1, h2⟩ := a
  ⟨t, h t ht, h1, h2⟩

theorem RequiredAt.mono {N N' : List (Pos × H × Bool)} {K K' : H → Prop} (h : ∀ t, KLeaf N K t → KLeaf N' K' t) {q : Pos}
    (r : RequiredAt N K q) : RequiredAt N' K' q :=
  r.imp (h q) fun ⟨t, ht, ha⟩ => ⟨t, h t ht, ha⟩

structure Reloc (σ : Pos) (N N' : List (Pos × H × Bool)) : Prop where
  lift : ∀ c h b, Anc σ c → ((liftP σ c, h, b) ∈ N' ↔ (c, h, b) ∈ N)
  under : ∀ z h b, (z, h, b) ∈ N' → Anc (parent σ) z → ∃ c, Anc σ c ∧ z = liftP σ c
  /-- the nodes on the path above `parent σ` may carry other hashes -/
  out : ∀ q h b, ¬ Anc (parent σ) q → ¬ Anc q (parent σ) → ((q, h, b) ∈ N' ↔ (q, h, b) ∈ N)
  out_leaf : ∀ t x, ¬ Anc (parent σ) t → ((t, x, true) ∈ N' ↔ (t, x, true) ∈ N)

section lifted
variable {N N' : List (Pos × H × Bool)} {σ : Pos}

/-- the node list right after the lift (no hash has changed yet): outside the region nothing changed -/
theorem lifted_out (hN' : ∀ e : Pos × H × Bool, e ∈ N' ↔ (¬ Anc (parent σ) e.1 ∧ e ∈ N) ∨
      (∃ c, Anc σ c ∧ e.1 = liftP σ c ∧ (c, e.2) ∈ N)) {z : Pos} (hz : ¬ Anc (parent σ) z) (h : H) (b : Bool) :
    (z, h, b) ∈ N' ↔ (z, h, b) ∈ N := by
  rw [hN']
  constructor
  · rintro (⟨_, hm⟩ | ⟨c, hc, he, _⟩)
    · exact hm
    · exact absurd (by rw [show z = liftP σ c from he]; exact anc_parent_liftP hc) hz
  · intro hm; exact Or.inl ⟨hz, hm⟩

theorem Reloc.of_lifted (hN' : ∀ e : Pos × H × Bool, e ∈ N' ↔ (¬ Anc (parent σ) e.1 ∧ e ∈ N) ∨
      (∃ c, Anc σ c ∧ e.1 = liftP σ c ∧ (c, e.2) ∈ N)) : Reloc σ N N' where
  lift := by
    intro c h b hc
    rw [hN']
    constructor
    · rintro (⟨hn, _⟩ | ⟨c', hc', he, hm⟩)
      · exact absurd (anc_parent_liftP hc) hn
      · have : c = c' := liftP_inj hc hc' he
        subst this; exact hm
    · intro hm; exact Or.inr ⟨c, hc, rfl, hm⟩
  under := by
    intro z h b hm hz
    rcases (hN' _).1 hm with ⟨hn, _⟩ | ⟨c, hc, he, _⟩
    · exact absurd hz hn
    · exact ⟨c, hc, he⟩
  out := fun q h b hq _ => lifted_out hN' hq h b
  out_leaf := fun t x ht => lifted_out hN' ht x true

end lifted

theorem anc_of_out {P q a t : Pos} (hq : ¬ Anc P q) (haq : Anc a q) (hP : Anc P t) (ha : Anc a t) : Anc a P := by
  by_cases hle : P.1 ≤ a.1
  · exact Anc.comparable hP ha hle
  · exact absurd (Anc.trans (Anc.comparable ha hP (by omega)) haq) hq

theorem anc_sib_of_out {P q t : Pos} (hq : ¬ Anc P q) (hP : Anc P t) (ha : Anc (sib q) t) : Anc (sib q) P := by
  by_cases hle : P.1 ≤ (sib q).1
  · exact Anc.comparable hP ha hle
  · exfalso
    have h1 : Anc P (sib q) := Anc.comparable ha hP (by omega)
    have h3 := sunder_iff_parent.1 (⟨h1, by omega⟩ : SUnder P (sib q))
    rw [CalcGeo.parent_sib] at h3
    exact hq (Anc.trans h3 (anc_parent_self q))

namespace Reloc
variable {N N' : List (Pos × H × Bool)} {σ : Pos} {K K' : H → Prop}

theorem under_mem (r : Reloc σ N N') {z : Pos} {h : H} {b : Bool} (hm : (z, h, b) ∈ N') (hz : Anc (parent σ) z) :
    ∃ c, Anc σ c ∧ z = liftP σ c ∧ (c, h, b) ∈ N := by
  obtain ⟨c, hc, rfl⟩ := r.under z h b hm hz
  exact ⟨c, hc, rfl, (r.lift c h b hc).1 hm⟩

/-! `K'` (for `N'`) and `K` (for `N`) agree on the leaves that survive -/

theorem kleaf_lift (r : Reloc σ N N') (hK : ∀ t x, Anc σ t → (t, x, true) ∈ N → (K' x ↔ K x)) {c : Pos}
    (hc : Anc σ c) : KLeaf N' K' (liftP σ c) ↔ KLeaf N K c := by
  constructor
  · rintro ⟨x, hk, hm⟩
    have hm' := (r.lift c x true hc).1 hm
    exact ⟨x, (hK c x hc hm').1 hk, hm'⟩
  · rintro ⟨x, hk, hm⟩
    exact ⟨x, (hK c x hc hm).2 hk, (r.lift c x true hc).2 hm⟩

theorem kleaf_out (r : Reloc σ N N') (hK : ∀ t x, ¬ Anc (parent σ) t → (t, x, true) ∈ N → (K' x ↔ K x)) {t : Pos}
    (ht : ¬ Anc (parent σ) t) : KLeaf N' K' t ↔ KLeaf N K t := by
  constructor
  · rintro ⟨x, hk, hm⟩
    have hm' := (r.out_leaf t x ht).1 hm
    exact ⟨x, (hK t x ht hm').1 hk, hm'⟩
  · rintro ⟨x, hk, hm⟩
    exact ⟨x, (hK t x ht hm).2 hk, (r.out_leaf t x ht).2 hm⟩

theorem kleaf_under (r : Reloc σ N N') (hK : ∀ t x, Anc σ t → (t, x, true) ∈ N → (K' x ↔ K x)) {t' : Pos}
    (hk : KLeaf N' K' t') (hu : Anc (parent σ) t') : ∃ t, Anc σ t ∧ t' = liftP σ t ∧ KLeaf N K t := by
  obtain ⟨x, hx, hm⟩ := hk
  obtain ⟨t, ht, rfl⟩ := r.under t' x true hm hu
  exact ⟨t, ht, rfl, (r.kleaf_lift hK ht).1 ⟨x, hx, hm⟩⟩

theorem allowed_lift (r : Reloc σ N N') (hK : ∀ t x, Anc σ t → (t, x, true) ∈ N → (K' x ↔ K x)) {c : Pos}
    (hc : SUnder σ c) : AllowedAt N' K' (liftP σ c) ↔ AllowedAt N K c := by
  have hpc : Anc σ (parent c) := anc_parent_of_sunder hc
  constructor
  · rintro ⟨t', ht', hrow, hanc⟩
    rw [← liftP_parent hc] at hanc
    obtain ⟨t, ht, rfl, hkt⟩ := r.kleaf_under hK ht' (Anc.trans (anc_parent_liftP hpc) hanc)
    exact ⟨t, hkt, by simp only [liftP_fst] at hrow; omega, (anc_liftP_iff hpc ht).1 hanc⟩
  · rintro ⟨t, ht, hrow, hanc⟩
    have hσt : Anc σ t := Anc.trans hpc hanc
    refine ⟨liftP σ t, (r.kleaf_lift hK hσt).2 ht, Nat.succ_le_succ hrow, ?_⟩
    rw [← liftP_parent hc]
    exact (anc_liftP_iff hpc hσt).2 hanc

theorem required_lift (r : Reloc σ N N') (hK : ∀ t x, Anc σ t → (t, x, true) ∈ N → (K' x ↔ K x)) {c : Pos}
    (hc : SUnder σ c) : RequiredAt N' K' (liftP σ c) ↔ RequiredAt N K c := by
  have hss := sunder_sib hc
  constructor
  · rintro (hk | ⟨t', hk, hanc⟩)
    · exact Or.inl ((r.kleaf_lift hK hc.1).1 hk)
    · rw [← liftP_sib hc] at hanc
      obtain ⟨t, ht, rfl, hkt⟩ := r.kleaf_under hK hk (Anc.trans (anc_parent_liftP hss.1) hanc)
      exact Or.inr ⟨t, hkt, (anc_liftP_iff hss.1 ht).1 hanc⟩
  · rintro (hk | ⟨t, hk, hanc⟩)
    · exact Or.inl ((r.kleaf_lift hK hc.1).2 hk)
    · have ht : Anc σ t := Anc.trans hss.1 hanc
      refine Or.inr ⟨liftP σ t, (r.kleaf_lift hK ht).2 hk, ?_⟩
      rw [← liftP_sib hc]
      exact (anc_liftP_iff hss.1 ht).2 hanc

/-- **outside the region of `parent σ`**: what is allowed after the move was allowed before (a leaf
below `parent σ` comes from a leaf below `σ`).  The converse fails exactly when the allowing leaf was in
the part of the region that disappeared: the exemptions of `liftCore`. -/
theorem allowed_out (r : Reloc σ N N') (hKσ : ∀ t x, Anc σ t → (t, x, true) ∈ N → (K' x ↔ K x))
    (hKo : ∀ t x, ¬ Anc (parent σ) t → (t, x, true) ∈ N → (K' x ↔ K x)) {q : Pos}
    (hq : ¬ Anc (parent σ) q) (h : AllowedAt N' K' q) : AllowedAt N K q := by
  obtain ⟨t', ht', hrow, hanc⟩ := h
  by_cases hu : Anc (parent σ) t'
  · obtain ⟨t, ht, rfl, hkt⟩ := r.kleaf_under hKσ ht' hu
    refine ⟨t, hkt, by simp only [liftP_fst] at hrow; omega, ?_⟩
    exact Anc.trans (anc_of_out hq (anc_parent_self q) hu hanc) (Anc.trans (anc_parent_self σ) ht)
  · exact ⟨t', (r.kleaf_out hKo hu).1 ht', hrow, hanc⟩

/-- converse of `allowed_out`: what was allowed stays allowed unless the allowing leaf was in the
region of `parent σ`; then `parent q` is a strict ancestor of `parent σ` (the exemptions of `liftCore`) -/
theorem allowed_out' (r : Reloc σ N N')
    (hKo : ∀ t x, ¬ Anc (parent σ) t → (t, x, true) ∈ N → (K' x ↔ K x)) {q : Pos}
    (hq : ¬ Anc (parent σ) q) (h : AllowedAt N K q) : AllowedAt N' K' q ∨ Anc (parent q) (parent (parent σ)) := by
  obtain ⟨t, ht, hrow, hanc⟩ := h
  by_cases hu : Anc (parent σ) t
  · right
    have hqP : Anc (parent q) (parent σ) := anc_of_out hq (anc_parent_self q) hu hanc
    have hne : parent q ≠ parent σ := fun e => hq (e ▸ anc_parent_self q)
    exact anc_parent_iff.2 (sunder_of_ne hqP (Ne.symm hne))
  · exact Or.inl ⟨t, (r.kleaf_out hKo hu).2 ht, hrow, hanc⟩

theorem required_out (r : Reloc σ N N') (hKσ : ∀ t x, Anc σ t → (t, x, true) ∈ N → (K' x ↔ K x))
    (hKo : ∀ t x, ¬ Anc (parent σ) t → (t, x, true) ∈ N → (K' x ↔ K x))
    {q : Pos} (hq : ¬ Anc (parent σ) q) (h : RequiredAt N' K' q) : RequiredAt N K q := by
  rcases h with hk | ⟨t', hk, hanc⟩
  · exact Or.inl ((r.kleaf_out hKo hq).1 hk)
  · by_cases hu : Anc (parent σ) t'
    · obtain ⟨t, ht, rfl, hkt⟩ := r.kleaf_under hKσ hk hu
      exact Or.inr ⟨t, hkt, Anc.trans (anc_sib_of_out hq hu hanc) (Anc.trans (anc_parent_self σ) ht)⟩
    · exact Or.inr ⟨t', (r.kleaf_out hKo hu).1 hk, hanc⟩

/-- the converse, provided the leaves of `K` in the region lie below `σ` (the rest of the region
holds no cached leaf: it is being deleted, or it is an empty root) -/
theorem required_out' (r : Reloc σ N N') (hKσ : ∀ t x, Anc σ t → (t, x, true) ∈ N → (K' x ↔ K x))
    (hKo : ∀ t x, ¬ Anc (parent σ) t → (t, x, true) ∈ N → (K' x ↔ K x))
    (hin : ∀ t, KLeaf N K t → Anc (parent σ) t → Anc σ t) {q : Pos} (hq : ¬ Anc (parent σ) q)
    (h : RequiredAt N K q) : RequiredAt N' K' q := by
  rcases h with hk | ⟨t, hk, hanc⟩
  · exact Or.inl ((r.kleaf_out hKo hq).2 hk)
  · by_cases hu : Anc (parent σ) t
    · have hσt := hin t hk hu
      exact Or.inr ⟨liftP σ t, (r.kleaf_lift hKσ hσt).2 hk,
        Anc.trans (anc_sib_of_out hq hu hanc) (anc_parent_liftP hσt)⟩
    · exact Or.inr ⟨t, (r.kleaf_out hKo hu).2 hk, hanc⟩

end Reloc

end UtreexoVerif.Proofs.MapRelocK
