/-
  Shared definitions for the `Undo` proofs.
    * `unliftA` / `unliftC`: the abstract effect of `placeEmptyRoot` (the inverse of
      `moveUpDescendants`): the nodes strictly below `parent σ` move one row down, below `σ`;
    * `HInv`: the storage invariant of a partial forest with a HOLE and without the guarantee that
      roots are stored; `Undo` itself is proved on `GIH` (`Proofs/MapGIH.lean`), of which `HInv` is
      the partial case with one cached set.
-/
import UtreexoVerif.Proofs.MapAInv

namespace UtreexoVerif.Proofs.MapUndoDefs
open Model Spec MapRep MapAInv Hasher
set_option linter.unusedSectionVars false

variable {H : Type} [DecidableEq H] [Hasher H]

/-- `Nodes` after `placeEmptyRoot (sib σ)` -/
def unliftA (σ : Pos) (A : Pos → Option (Leaf H)) : Pos → Option (Leaf H) := fun q =>
  if SUnder σ q then A (liftP σ q) else if SUnder (parent σ) q then none else A q

/-- `CachedLeaves` after `placeEmptyRoot (sib σ)`.  The guard `1 ≤ p.1`: the moved entries sit on rows ≥ 1 (a position of
row 0 below `parent σ` is only ever a destination). -/
def unliftC (σ : Pos) (C : H → Option Pos) : H → Option Pos := fun x =>
  (C x).map (fun p => if SUnder (parent σ) p ∧ 1 ≤ p.1 then unliftP σ p else p)

/-- the storage invariant outside a hole, roots not guaranteed -/
structure HInv (A : Pos → Option (Leaf H)) (C : H → Option Pos) (N : List (Pos × H × Bool))
    (R : Pos → Prop) (K : H → Prop) (Hole : Pos → Prop) : Prop where
  true_hash : ∀ q l, A q = some l → ¬ Hole q → ∃ b, (q, l.hash, b) ∈ N
  cache_sub : ∀ x t, C x = some t → K x
  cached_pos : ∀ x t, C x = some t → (t, x, true) ∈ N ∧ ¬ Hole t
  kleaf_out : ∀ t, KLeaf N K t → ¬ Hole t
  /-- the leaves of the cached set are stored (roots or not) -/
  leaf_stored : ∀ t, KLeaf N K t → A t ≠ none
  only_needed : ∀ q l, A q = some l → ¬ Hole q → ¬ R q → ∃ t, KLeaf N K t ∧ t.1 ≤ q.1 ∧ Anc (parent q) t
  has_needed : ∀ q h b, (q, h, b) ∈ N → ¬ Hole q → ¬ R q →
    (KLeaf N K q ∨ ∃ t, KLeaf N K t ∧ Anc (sib q) t) → A q ≠ none
  flags : ∀ q l, A q = some l → ¬ Hole q → l.hash ≠ zero → (l.remember = true ↔ KLeaf N K q)

variable {A : Pos → Option (Leaf H)} {C : H → Option Pos} {N : List (Pos × H × Bool)}
  {R : Pos → Prop} {K : H → Prop}

theorem HInv.of_ainv (inv : AInv A C N R K (fun _ => False)) : HInv A C N R K (fun _ => False) where
  true_hash := fun q l h _ => inv.true_hash q l h
  cache_sub := inv.cache_sub
  cached_pos := fun x t h => ⟨inv.cached_pos x t h, fun h => h⟩
  kleaf_out := fun _ _ h => h
  leaf_stored := by
    intro t hk
    obtain ⟨x, hx, hm⟩ := hk
    exact Classical.byCases (p := R t) (fun hr => inv.roots_stored t hr)
      (fun hr => inv.has_needed t x true hm hr (Or.inl ⟨x, hx, hm⟩))
  only_needed := fun q l h _ hnr => inv.only_needed q l h hnr (fun h => h)
  has_needed := fun q h b hm _ hnr hreq => inv.has_needed q h b hm hnr hreq
  flags := fun q l h _ hnz => inv.flags q l h hnz

end UtreexoVerif.Proofs.MapUndoDefs
