/-
  Go's "move the entry at `s` to `d`; if its hash is cached, repoint the cache" — the body of
  `moveUpChild`, of the loop of `placeEmptyRoot` and of `undoDelMoveDown` — on the model (`moveM`)
  and on the abstract state of `MapRep` (`moveA`).  On the way back (`fix`) Go also sets the flag of a
  node that is cached or lives in a full forest.  `removeSingle` and `addLoop` use the cache half
  (`recache`) alone.  Where a file quotes one Go body it names that instance: `MapPlaceEmpty.placeBody`,
  `MapUndoRep.moveDownM` / `moveDownA` are `moveM` / `moveA` (`placeBody_eq`, `moveDownM_eq`); `MapRemoveRep.cacheSib`,
  `MapAddRep.cacheUp` are `recache` (under a test, for `cacheUp`).
-/
import UtreexoVerif.Proofs.MapRep

namespace UtreexoVerif.Proofs.MapMove
open Model (Leaf MapPollard)
open Spec (Pos)
open MapInv (Valid)
open MapRep (upd Rep)
set_option linter.unusedSectionVars false

variable {H : Type} [DecidableEq H] [Hasher H]

/-- repoint the cache entry of `x`, if there is one -/
def recache (x : H) (d : Pos) (C : H → Option Pos) : H → Option Pos :=
  if (C x).isSome = true then upd C x (some d) else C

/-- the node as it is stored at the destination: on the way back (`fix`) its flag is set when its hash is
cached (`c`) or the forest is full (`fl`); otherwise it is stored as it was -/
def flagged (fix c fl : Bool) (v : Leaf H) : Leaf H := if (fix && (c || fl)) = true then ⟨v.hash, true⟩ else v

/-- the move on the abstract state: the entry at `s` (if any) goes to `d` with the flag of `flagged`, and its
cache entry follows it -/
def moveA (fix fl : Bool) (s d : Pos) (A : Pos → Option (Leaf H)) (C : H → Option Pos) :
    (Pos → Option (Leaf H)) × (H → Option Pos) :=
  match A s with
  | some v => (upd (upd A s none) d (some (flagged fix (C v.hash).isSome fl v)), recache v.hash d C)
  | none => (A, C)

theorem moveA_none {fix fl : Bool} {s d : Pos} {A : Pos → Option (Leaf H)} {C : H → Option Pos} (h : A s = none) :
    moveA fix fl s d A C = (A, C) := by
  unfold moveA
  rw [h]

theorem moveA_some {fix fl : Bool} {s d : Pos} {A : Pos → Option (Leaf H)} {C : H → Option Pos} {v : Leaf H}
    (h : A s = some v) :
    moveA fix fl s d A C =
      (upd (upd A s none) d (some (flagged fix (C v.hash).isSome fl v)), recache v.hash d C) := by
  unfold moveA
  rw [h]

/-- the move on the model: Go's `node, ok := nodes[s]; if ok { if cached { cache[hash] = d }; delete(nodes, s);
nodes[d] = node }`, with the flag of `flagged`.  This is the order of the descending loop of `undoDeletion`
(`undoDelMoveDown`); `moveUpChild` deletes, puts, then updates the cache; the loop of `placeEmptyRoot` deletes, updates
the cache, then puts (and runs only when `v.Hash != empty`).  The cache and the node map are different maps, so all
three give the same state (`moveUpChild_eq`, `placeBody_eq`) -/
def moveM (fix : Bool) (s d : U64) (m : MapPollard H) : MapPollard H :=
  match m.getNode s with
  | some v =>
    ((if m.hasCached v.hash then m.putCached v.hash d else m).delNode s).putNode d
      (flagged fix (m.hasCached v.hash) m.full v)
  | none => m

variable {m : MapPollard H} {T : Nat} {A : Pos → Option (Leaf H)} {C : H → Option Pos}

theorem moveM_frame (fix : Bool) (s d : U64) (m : MapPollard H) :
    (moveM fix s d m).totalRows = m.totalRows ∧ (moveM fix s d m).numLeaves = m.numLeaves ∧
      (moveM fix s d m).full = m.full := by
  unfold moveM
  cases m.getNode s with
  | none => exact ⟨rfl, rfl, rfl⟩
  | some v =>
    simp only
    split <;> exact ⟨rfl, rfl, rfl⟩

/-- Go's `if _, ok := cache[x]; ok { cache[x] = d }` is `recache` on the abstract cache -/
theorem rep_recache (rep : Rep m T A C) (x : H) {d : Pos} (hd : Valid T d) :
    Rep (if m.hasCached x then m.putCached x (encP T d) else m) T A (recache x d C) := by
  unfold recache
  rw [rep.hasCached]
  split
  · exact rep.putCached x hd
  · exact rep

theorem moveM_rep (rep : Rep m T A C) (fix : Bool) {s d : Pos} (hs : Valid T s) (hd : Valid T d) :
    Rep (moveM fix (encP T s) (encP T d) m) T (moveA fix m.full s d A C).1 (moveA fix m.full s d A C).2 := by
  unfold moveM moveA
  rw [rep.node s hs]
  cases A s with
  | none => exact rep
  | some v =>
    simp only
    rw [rep.hasCached]
    have r := ((rep_recache rep v.hash hd).delNode hs).putNode hd (flagged fix (C v.hash).isSome m.full v)
    rwa [rep.hasCached] at r

end UtreexoVerif.Proofs.MapMove
