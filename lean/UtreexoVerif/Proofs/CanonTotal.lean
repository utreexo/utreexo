/-
  `Forest.canon` is defined on every list of live leaves: a live leaf has a position
  (`Spec.posOf_isSome_of_live`), and every canonical proof position is the sibling of a path node,
  hence a node.
-/
import UtreexoVerif.Proofs.CalcComplete
import UtreexoVerif.Proofs.NodesUnique

namespace UtreexoVerif.Proofs.CanonTotal
open Spec Hasher
open UtreexoVerif.Proofs.SpecSubs
open UtreexoVerif.Proofs.SpecPlan
open UtreexoVerif.Proofs.CalcPlan

section
variable {H : Type} [DecidableEq H] [Hasher H]

theorem canon_total {F : Forest H} (hn : F.numLeaves ≤ 2 ^ 63) {L : List H}
    (hL : ∀ l ∈ L, l ∈ F.liveLeaves) : ∃ targets hashes, F.canon L = some (targets, hashes) := by
  have hpos : ∀ l ∈ L, ∃ p, F.posOf l = some p := fun l hl =>
    posOf_isSome_of_live (by omega) (hL l hl)
  have tok : TargetsOK F (L.map (fun l => (F.posOf l).getD (0, 0))) := by
    intro t ht
    obtain ⟨l, hl, rfl⟩ := List.mem_map.1 ht
    obtain ⟨p, hp⟩ := hpos l hl
    obtain ⟨h, s⟩ := posOf_sub hp
    exact ⟨h, l, by rw [hp]; exact s⟩
  have hnode : ∀ p ∈ F.proofPositions (L.map (fun l => (F.posOf l).getD (0, 0))),
      ∃ x, F.nodeAt p = some x := by
    intro p hp
    rw [proofPositions_eq] at hp
    obtain ⟨c, hcm, rfl⟩ := List.mem_map.1 hp
    obtain ⟨hcP, hnp⟩ := List.mem_filter.1 hcm
    simp only [needsProof, Bool.and_eq_true, Bool.not_eq_eq_eq_not, Bool.not_true,
      decide_eq_false_iff_not] at hnp
    obtain ⟨h, t, s⟩ := pathSet_sub tok hcP
    obtain ⟨_, s', _, hsib⟩ := s.parent hnp.1
    exact ⟨_, hsib.nodeAt⟩
  refine ⟨L.map (fun l => (F.posOf l).getD (0, 0)),
    (F.proofPositions (L.map (fun l => (F.posOf l).getD (0, 0)))).map
      (fun p => (F.nodeAt p).getD zero), ?_⟩
  unfold Forest.canon
  rw [ListFacts.mapM_of_forall_some F.posOf (0, 0) L hpos]
  simp only [bind, Option.bind]
  rw [ListFacts.mapM_of_forall_some F.nodeAt zero _ hnode]
  rfl

end
end UtreexoVerif.Proofs.CanonTotal
