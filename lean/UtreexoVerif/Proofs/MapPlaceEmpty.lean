/-
  `placeEmptyRoot` (the inverse of `moveUpDescendants`) on the abstract state `(A, C)` of `MapRep`,
  described by the set `M` of DESTINATION positions strictly below `σ` that have been visited
  (`AU σ A M` / `CU σ C M`), deepest row first; at the end `AU`/`CU` are `unliftA`/`unliftC`.
-/
import UtreexoVerif.Proofs.MapUndoDefs
import UtreexoVerif.Proofs.MapMoveUp

namespace UtreexoVerif.Proofs.MapPlaceEmpty
open Model (MapPollard calcNextPosition Leaf ChildMany)
open Spec (Pos parent sib)
open MapInv (Valid)
open MapPrune (valid_below valid_sib)
open MapRep (Rep liftP unliftP SUnder absA absC rep_abs_of_decode)
open MapUndoDefs (unliftA unliftC)
open Hasher (zero)
set_option linter.unusedSectionVars false

variable {H : Type} [DecidableEq H] [Hasher H]

/-- the body of the `for i` loop of `placeEmptyRoot` (after `calcNextPosition` succeeded) -/
def placeBody (pos curPos : U64) (m : MapPollard H) : MapPollard H :=
  match m.getNode curPos with
  | some v =>
    if v.hash ≠ zero then
      let m := m.delNode curPos
      let c := m.hasCached v.hash
      let m := if c then m.putCached v.hash pos else m
      let v : Leaf H := if c || m.full then ⟨v.hash, true⟩ else v
      m.putNode pos v
    else m
  | none => m

theorem placeRowLoop_zero (prev child i : U64) (m : MapPollard H) :
    MapPollard.placeRowLoop prev child 0 i m = (m, .ok ()) := rfl

theorem placeRowLoop_succ {prev child i cur : U64} {k : Nat} {m : MapPollard H}
    (h : calcNextPosition (i + child) prev m.totalRows = (cur, false)) :
    MapPollard.placeRowLoop prev child (k + 1) i m =
      MapPollard.placeRowLoop prev child k (i + 1) (placeBody (i + child) cur m) := by
  rw [MapPollard.placeRowLoop]
  simp only [h, Bool.false_eq_true, if_false]
  rfl

theorem placeBody_eq (pos cur : U64) (m : MapPollard H) :
    placeBody pos cur m =
      match m.getNode cur with
      | some v => if v.hash ≠ zero then MapMove.moveM true cur pos m else m
      | none => m := by
  unfold placeBody MapMove.moveM MapMove.flagged
  cases hg : m.getNode cur with
  | none => rfl
  | some v =>
    simp only
    split
    · have : (m.delNode cur).hasCached v.hash = m.hasCached v.hash := rfl
      rw [this]
      cases h : m.hasCached v.hash with
      | false => simp
      | true => simp; rfl
    · rfl

theorem placeBody_rep {m : MapPollard H} {T : Nat} {A : Pos → Option (Leaf H)} {C : H → Option Pos}
    (rep : Rep m T A C) {c s : Pos} (hc : Valid T c) (hs : Valid T s) (hz : ∀ v, A s = some v → v.hash ≠ zero) :
    Rep (placeBody (encP T c) (encP T s) m) T (MapMove.moveA true m.full s c A C).1 (MapMove.moveA true m.full s c A C).2 ∧
    (placeBody (encP T c) (encP T s) m).numLeaves = m.numLeaves ∧
    (placeBody (encP T c) (encP T s) m).full = m.full := by
  rw [placeBody_eq, rep.node _ hs]
  cases hA : A s with
  | none => rw [MapMove.moveA_none hA]; exact ⟨rep, rfl, rfl⟩
  | some v =>
    simp only
    rw [if_pos (hz v hA)]
    exact ⟨MapMove.moveM_rep rep true hs hc, (MapMove.moveM_frame _ _ _ m).2.1, (MapMove.moveM_frame _ _ _ m).2.2⟩

open MapMoveUp (lift_valid calcNextPosition_encP)
open MapLiftGeo MapReloc

/-- the abstract state when the destinations of `M` (strictly below `σ`) have been filled from their lifts:
`placeEmptyRoot` runs `moveUpDescendants` backwards -/
def AU (σ : Pos) (A : Pos → Option (Leaf H)) (M : Pos → Bool) : Pos → Option (Leaf H) :=
  reloc M (liftS σ M) (liftP σ) A

def CU (σ : Pos) (C : H → Option Pos) (M : Pos → Bool) : H → Option Pos := relocC (liftS σ M) (unliftP σ) C

/-- what `placeEmptyRoot (sib σ)` relies on strictly below `parent σ` -/
structure Ctx (σ : Pos) (A : Pos → Option (Leaf H)) (C : H → Option Pos) (fl : Bool) : Prop where
  h0 : ∀ q, SUnder (parent σ) q → q.1 = 0 → A q = none
  hz : ∀ q v, SUnder (parent σ) q → A q = some v → v.hash ≠ zero
  hfl : ∀ q v, SUnder (parent σ) q → A q = some v → ((C v.hash).isSome || fl) = true → v.remember = true
  ok : CacheOK (SUnder (parent σ)) A C

section step
variable {σ : Pos} {A : Pos → Option (Leaf H)} {C : H → Option Pos} {fl : Bool} {M : Pos → Bool} {c : Pos}

theorem sunder_parent_of_sunder (h : SUnder σ c) : SUnder (parent σ) c :=
  MapMoveUp.sunder_parent_iff.2 (Or.inr (Or.inr (Or.inl h)))

/-- the destination is empty before the move: vacated when the row below was done, or on row 0 -/
theorem AU_dest (ctx : Ctx σ A C fl) (hc : SUnder σ c) (hMc : M c = false)
    (hun : 1 ≤ c.1 → M (unliftP σ c) = true) : AU σ A M c = none := by
  unfold AU
  rw [reloc_not_dst _ _ _ hMc]
  by_cases h1 : 1 ≤ c.1
  · rw [if_pos]
    unfold liftS
    rw [hun h1, decide_eq_true ⟨sunder_parent_of_sunder hc, h1⟩]
    rfl
  · rw [ctx.h0 c (sunder_parent_of_sunder hc) (Nat.eq_zero_of_not_pos h1), ite_self]

theorem step (ctx : Ctx σ A C fl) (hc : SUnder σ c) (hMc : M c = false) (hMs : M (liftP σ c) = false)
    (hun : 1 ≤ c.1 → M (unliftP σ c) = true) :
    (∀ q, (MapMove.moveA true fl (liftP σ c) c (AU σ A M) (CU σ C M)).1 q = AU σ A (ins M c) q) ∧
    ∀ x, (MapMove.moveA true fl (liftP σ c) c (AU σ A M) (CU σ C M)).2 x = CU σ C (ins M c) x := by
  have hs := sunder_parent_liftP hc
  have hdest := AU_dest ctx hc hMc hun
  unfold AU CU at *
  rw [liftS_ins M hc]
  refine reloc_move ctx.ok hs rfl (unliftP_liftP hc.1) hMs ((liftS_liftP M hc).trans hMc) hdest true fl (fun v hv => ?_)
  -- the flag Go sets is already there
  unfold MapMove.flagged
  split
  · rename_i h
    have := ctx.hfl _ v hs hv h
    cases v
    simp only at this
    rw [this]
  · rfl

end step

/-- the destinations visited when the walk stands at row `ρ`, having done `j` positions of it -/
def Mset (σ : Pos) (ρ j : Nat) : Pos → Bool := fun t =>
  decide (SUnder σ t ∧ (t.1 < ρ ∨ (t.1 = ρ ∧ t.2 < σ.2 * 2 ^ (σ.1 - ρ) + j)))

/-- the `j`-th destination on row `ρ`: the `j`-th descendant of `σ` on that row -/
def dest (σ : Pos) (ρ j : Nat) : Pos := (ρ, σ.2 * 2 ^ (σ.1 - ρ) + j)

section mset
variable {σ : Pos} {ρ j : Nat}

theorem dest_sunder (hρ : ρ < σ.1) (hj : j < 2 ^ (σ.1 - ρ)) : SUnder σ (dest σ ρ j) := by
  refine ⟨⟨Nat.le_of_lt hρ, ?_⟩, hρ⟩
  show σ.2 = (σ.2 * 2 ^ (σ.1 - ρ) + j) / 2 ^ (σ.1 - ρ)
  rw [Nat.mul_comm, MapLiftGeo.mul_add_div_pow _ _ _ hj]

theorem Mset_lift : Mset σ ρ j (liftP σ (dest σ ρ j)) = false := by
  refine decide_eq_false fun h => ?_
  rcases h.2 with h | h
  · exact Nat.lt_asymm h (Nat.lt_succ_self ρ)
  · exact Nat.succ_ne_self ρ h.1

theorem Mset_unlift (hρ : ρ < σ.1) (hj : j < 2 ^ (σ.1 - ρ)) (h1 : 1 ≤ ρ) :
    Mset σ ρ j (unliftP σ (dest σ ρ j)) = true := by
  unfold Mset
  rw [decide_eq_true_iff]
  exact ⟨anc_unliftP (sunder_parent_of_sunder (dest_sunder hρ hj)) h1, Or.inl (Nat.sub_lt h1 Nat.one_pos)⟩

theorem Mset_succ (hρ : ρ < σ.1) (hj : j < 2 ^ (σ.1 - ρ)) :
    ins (Mset σ ρ j) (dest σ ρ j) = Mset σ ρ (j + 1) := by
  funext t
  by_cases e : t = dest σ ρ j
  · rw [e, ins_self]
    exact (decide_eq_true ⟨dest_sunder hρ hj, Or.inr ⟨rfl, Nat.lt_succ_self _⟩⟩).symm
  · rw [ins_ne _ e]
    refine decide_eq_decide.2 (and_congr_right fun _ => or_congr_right (and_congr_right fun hr => ?_))
    constructor
    · exact fun h => Nat.lt_succ_of_lt h
    · exact fun h => Nat.lt_of_le_of_ne (Nat.le_of_lt_succ h) fun e2 => e (Prod.ext hr e2)

theorem anc_range {t : Pos} (h : Anc σ t) :
    σ.2 * 2 ^ (σ.1 - t.1) ≤ t.2 ∧ t.2 < σ.2 * 2 ^ (σ.1 - t.1) + 2 ^ (σ.1 - t.1) := by
  rw [h.2]
  exact ⟨Nat.div_mul_le_self _ _, Nat.lt_div_mul_add (Nat.two_pow_pos _)⟩

theorem Mset_row_end : Mset σ ρ (2 ^ (σ.1 - ρ)) = Mset σ (ρ + 1) 0 := by
  funext t
  refine decide_eq_decide.2 (and_congr_right fun hs => ?_)
  have hr := anc_range hs.1
  constructor
  · rintro (h | h)
    · exact Or.inl (Nat.lt_succ_of_lt h)
    · exact Or.inl (Nat.lt_succ_of_le (Nat.le_of_eq h.1))
  · rintro (h | h)
    · rcases Nat.lt_succ_iff_lt_or_eq.1 h with h | h
      · exact Or.inl h
      · rw [h] at hr
        exact Or.inr ⟨h, hr.2⟩
    · rw [h.1] at hr
      exact absurd h.2 (Nat.not_lt.2 hr.1)

theorem Mset_zero : Mset σ 0 0 = fun _ => false := by
  funext t
  refine decide_eq_false fun h => ?_
  rcases h.2 with h2 | h2
  · exact Nat.not_lt_zero _ h2
  · have hr := anc_range h.1.1
    rw [h2.1] at hr
    exact Nat.not_lt.2 hr.1 h2.2

theorem Mset_final_iff (t : Pos) : Mset σ σ.1 0 t = true ↔ SUnder σ t := by
  unfold Mset
  rw [decide_eq_true_iff]
  exact ⟨fun h => h.1, fun h => ⟨h, Or.inl h.2⟩⟩

end mset

/-- Go's cursor `i + child`, `i++` on encoded positions -/
theorem ofNat_add_encU (T ρ b i : Nat) : BitVec.ofNat 64 i + encU T ρ b = encU T ρ (b + i) := by
  unfold encU
  rw [enc_add T ρ (b + i), enc_add T ρ b, ← BitVec.ofNat_add]
  congr 1
  omega

section loops
variable {T : Nat} {σ : Pos}

theorem row_loop (hT : T ≤ 63) (hσ : Valid T σ) (hlt : σ.1 < T) {ρ : Nat} (hρ : ρ < σ.1)
    {P : Nat → MapPollard H → Prop} (hrows : ∀ j m, P j m → m.totalRows = H8 T)
    (step : ∀ j m, j < 2 ^ (σ.1 - ρ) → SUnder σ (dest σ ρ j) → Valid T (dest σ ρ j) →
      Valid T (liftP σ (dest σ ρ j)) → P j m →
      P (j + 1) (placeBody (encP T (dest σ ρ j)) (encP T (liftP σ (dest σ ρ j))) m)) :
    ∀ (k j : Nat) (m : MapPollard H), j + k = 2 ^ (σ.1 - ρ) → P j m →
      ∃ m', MapPollard.placeRowLoop (encP T (sib σ)) (encU T ρ (σ.2 * 2 ^ (σ.1 - ρ))) k (BitVec.ofNat 64 j) m
          = (m', .ok ()) ∧ P (2 ^ (σ.1 - ρ)) m' := by
  intro k
  induction k with
  | zero =>
    intro j m hj hP
    rw [Nat.add_zero] at hj
    rw [hj] at hP
    exact ⟨m, rfl, hP⟩
  | succ k ih =>
    intro j m hj hP
    have hjlt : j < 2 ^ (σ.1 - ρ) := hj ▸ Nat.lt_add_of_pos_right k.succ_pos
    have hc := dest_sunder hρ hjlt
    have hcv : Valid T (dest σ ρ j) := valid_below hσ hc.1
    have hsv : Valid T (liftP σ (dest σ ρ j)) := lift_valid hlt hcv (Nat.le_of_lt hρ)
    have epos : BitVec.ofNat 64 j + encU T ρ (σ.2 * 2 ^ (σ.1 - ρ)) = encP T (dest σ ρ j) :=
      ofNat_add_encU T ρ _ j
    have en := calcNextPosition_encP hT hσ hlt hcv (Nat.le_of_lt hρ)
    rw [← hrows j m hP, ← epos] at en
    rw [placeRowLoop_succ en, epos, ofNat_add_one]
    exact ih (j + 1) _ ((Nat.add_right_comm j 1 k).trans hj) (step j m hjlt hc hcv hsv hP)

theorem levels_loop (hT : T ≤ 63) (hσ : Valid T σ) {Q : Nat → MapPollard H → Prop}
    (hrows : ∀ ρ m, Q ρ m → m.totalRows = H8 T)
    (row : ∀ ρ m, ρ < σ.1 → Q ρ m →
      ∃ m', MapPollard.placeRowLoop (encP T (sib σ)) (encU T ρ (σ.2 * 2 ^ (σ.1 - ρ))) (2 ^ (σ.1 - ρ)) 0#64 m
          = (m', .ok ()) ∧ Q (ρ + 1) m') :
    ∀ (h : Nat) (m : MapPollard H), h ≤ σ.1 → Q (σ.1 - h) m →
      ∃ m', MapPollard.placeLoop (encP T (sib σ)) (encP T σ) h m = (m', .ok ()) ∧ Q σ.1 m' := by
  intro h
  induction h with
  | zero =>
    intro m _ hQ
    exact ⟨m, rfl, hQ⟩
  | succ h ih =>
    intro m hh hQ
    have ech : ChildMany (encP T σ) (BitVec.ofNat 8 (h + 1)) m.totalRows
        = (encU T (σ.1 - (h + 1)) (σ.2 * 2 ^ (h + 1)), false) := by
      rw [hrows _ m hQ]
      exact Props.C16.childMany_enc hT hσ.1 hh hσ.2
    obtain ⟨m1, e1, hQ1⟩ := row (σ.1 - (h + 1)) m (Nat.sub_lt (Nat.lt_of_lt_of_le h.succ_pos hh) h.succ_pos) hQ
    rw [Nat.sub_sub_self hh] at e1
    rw [Nat.sub_add_eq, Nat.sub_add_cancel (Nat.sub_pos_of_lt hh)] at hQ1
    obtain ⟨m2, e2, hQ2⟩ := ih m1 (Nat.le_of_succ_le hh) hQ1
    refine ⟨m2, ?_, hQ2⟩
    rw [MapPollard.placeLoop]
    simp only [ech, Bool.false_eq_true, if_false, e1]
    exact e2

variable {A : Pos → Option (Leaf H)} {C : H → Option Pos}

/-- the state `m'` reached from `m` with filled set `M` -/
structure Walk (T : Nat) (σ : Pos) (A : Pos → Option (Leaf H)) (C : H → Option Pos) (m : MapPollard H)
    (M : Pos → Bool) (m' : MapPollard H) : Prop where
  rep : Rep m' T (AU σ A M) (CU σ C M)
  numLeaves : m'.numLeaves = m.numLeaves
  full : m'.full = m.full

end loops

theorem AU_full {σ : Pos} {A : Pos → Option (Leaf H)} {C : H → Option Pos} {fl : Bool} (ctx : Ctx σ A C fl)
    (q : Pos) :
    unliftA σ A q = AU σ A (Mset σ σ.1 0) q := by
  have hup := liftS_full (σ := σ) Mset_final_iff q
  unfold unliftA AU reloc
  by_cases hq : SUnder σ q
  · rw [if_pos hq, if_pos ((Mset_final_iff q).2 hq)]
  · rw [if_neg hq, if_neg (fun h => hq ((Mset_final_iff q).1 h))]
    by_cases hp : SUnder (parent σ) q
    · rw [if_pos hp]
      by_cases h1 : 1 ≤ q.1
      · rw [if_pos (hup.2 ⟨hp, h1⟩)]
      · rw [if_neg (fun h => h1 (hup.1 h).2)]
        exact (ctx.h0 q hp (Nat.eq_zero_of_not_pos h1)).symm
    · rw [if_neg hp, if_neg (fun h => hp (hup.1 h).1)]

theorem CU_full (σ : Pos) (C : H → Option Pos) (x : H) : unliftC σ C x = CU σ C (Mset σ σ.1 0) x := by
  unfold unliftC CU relocC
  congr 1
  funext t
  have hup := liftS_full (σ := σ) Mset_final_iff t
  by_cases h : SUnder (parent σ) t ∧ 1 ≤ t.1
  · rw [if_pos h, if_pos (hup.2 h)]
  · rw [if_neg h, if_neg (fun h' => h (hup.1 h'))]

theorem placeEmptyRoot_eq {m : MapPollard H} {T : Nat} {A : Pos → Option (Leaf H)} {C : H → Option Pos}
    (rep : Rep m T A C) {σ : Pos} (hσ : Valid T σ) (hlt : σ.1 < T) :
    MapPollard.placeEmptyRoot (encP T (sib σ)) m
      = MapPollard.placeLoop (encP T (sib σ)) (encP T σ) σ.1 m := by
  have hT := rep.T_le
  unfold MapPollard.placeEmptyRoot
  simp only [EncPos.sibling_encP hT (valid_sib hσ hlt), CalcGeo.sib_sib, rep.rows, EncPos.detectRow_encP hT hσ,
    toNat_H8 (Nat.le_of_lt (Nat.lt_of_lt_of_le hlt hT))]

theorem placeEmptyRoot_rep_gen {m : MapPollard H} {T : Nat} {A : Pos → Option (Leaf H)} {C : H → Option Pos}
    (rep : Rep m T A C) {fl : Bool} (hfull : m.full = fl) {σ : Pos} (hσ : Valid T σ) (hlt : σ.1 < T)
    (h0 : ∀ q, SUnder (parent σ) q → q.1 = 0 → A q = none)
    (hz : ∀ q v, SUnder (parent σ) q → A q = some v → v.hash ≠ zero)
    (hfl : ∀ q v, SUnder (parent σ) q → A q = some v → (C v.hash).isSome = true → v.remember = true)
    -- on a full forest every stored node below `parent σ` carries the flag
    (hall : fl = true → ∀ q v, SUnder (parent σ) q → A q = some v → v.remember = true)
    (hc : ∀ q v, SUnder (parent σ) q → A q = some v → ∀ t, C v.hash = some t → t = q)
    (hc2 : ∀ x t, C x = some t → SUnder (parent σ) t → ∃ v, A t = some v ∧ v.hash = x) :
    ∃ m', MapPollard.placeEmptyRoot (encP T (sib σ)) m = (m', .ok ()) ∧
      Rep m' T (unliftA σ A) (unliftC σ C) ∧ m'.numLeaves = m.numLeaves ∧ m'.full = m.full := by
  subst hfull
  have ctx : Ctx σ A C m.full := ⟨h0, hz, fun q v hq hA h =>
    (Bool.or_eq_true_iff.1 h).elim (hfl q v hq hA) (fun hf => hall hf q v hq hA), ⟨hc, hc2⟩⟩
  rw [placeEmptyRoot_eq rep hσ hlt]
  have w0 : Walk T σ A C m (Mset σ (σ.1 - σ.1) 0) m := by
    rw [Nat.sub_self, Mset_zero]
    exact ⟨rep.congr (fun _ => rfl) (relocC_empty _ C), rfl, rfl⟩
  obtain ⟨m', e, rep', n, f⟩ := levels_loop rep.T_le hσ (Q := fun ρ m' => Walk T σ A C m (Mset σ ρ 0) m')
    (fun _ _ w => w.rep.rows)
    (fun ρ m0 hρ w => by
      rw [← Mset_row_end]
      exact row_loop rep.T_le hσ hlt hρ (P := fun j m' => Walk T σ A C m (Mset σ ρ j) m')
        (fun _ _ w => w.rep.rows) (fun j m1 hj hc hcv hsv w1 => by
          have hML : Mset σ ρ j (liftP σ (dest σ ρ j)) = false := Mset_lift
          have hMd : Mset σ ρ j (dest σ ρ j) = false := by simp [Mset, dest]
          obtain ⟨rep1, f1, f2⟩ := placeBody_rep w1.rep hcv hsv (fun v hv => ctx.hz _ v (sunder_parent_liftP hc)
            ((reloc_untouched _ _ hML ((liftS_liftP _ hc).trans hMd)).symm.trans hv))
          rw [w1.full] at rep1
          have st := step ctx hc hMd hML (Mset_unlift hρ hj)
          rw [← Mset_succ hρ hj]
          exact ⟨rep1.congr (fun q => (st.1 q).symm) (fun x => (st.2 x).symm),
            f1.trans w1.numLeaves, f2.trans w1.full⟩)
        _ 0 m0 (Nat.zero_add _) w)
    σ.1 m (Nat.le_refl _) w0
  exact ⟨m', e, rep'.congr (AU_full ctx) (CU_full σ C), n, f⟩

theorem placeEmptyRoot_rep {m : MapPollard H} {T : Nat} {A : Pos → Option (Leaf H)} {C : H → Option Pos}
    (rep : Rep m T A C) (hfull : m.full = false) {σ : Pos} (hσ : Valid T σ) (hlt : σ.1 < T)
    -- row 0 below `parent σ` is empty (the lifted subtree starts on row 1)
    (h0 : ∀ q, SUnder (parent σ) q → q.1 = 0 → A q = none)
    -- no empty-root marker is stored strictly below `parent σ`
    (hz : ∀ q v, SUnder (parent σ) q → A q = some v → v.hash ≠ zero)
    -- a stored node below `parent σ` whose hash is cached carries the flag and is cached at its own position
    (hfl : ∀ q v, SUnder (parent σ) q → A q = some v → (C v.hash).isSome = true → v.remember = true)
    (hc : ∀ q v, SUnder (parent σ) q → A q = some v → ∀ t, C v.hash = some t → t = q)
    -- a cached position below `parent σ` is stored with that hash
    (hc2 : ∀ x t, C x = some t → SUnder (parent σ) t → ∃ v, A t = some v ∧ v.hash = x) :
    ∃ m', MapPollard.placeEmptyRoot (encP T (sib σ)) m = (m', .ok ()) ∧
      Rep m' T (unliftA σ A) (unliftC σ C) ∧ m'.numLeaves = m.numLeaves ∧ m'.full = m.full :=
  placeEmptyRoot_rep_gen rep hfull hσ hlt h0 hz hfl (fun h => by cases h) hc hc2

theorem placeBody_noop {m : MapPollard H} {pos cur : U64}
    (h : ∀ v, m.getNode cur = some v → v.hash = zero) : placeBody pos cur m = m := by
  unfold placeBody
  split
  · rename_i v hv
    rw [if_neg (fun hne => hne (h v hv))]
  · rfl

theorem placeEmptyRoot_noop {m : MapPollard H} {T : Nat} {A : Pos → Option (Leaf H)} {C : H → Option Pos}
    (rep : Rep m T A C) {σ : Pos} (hσ : Valid T σ) (hlt : σ.1 < T)
    (hnone : ∀ q v, SUnder (parent σ) q → A q = some v → v.hash = zero) :
    MapPollard.placeEmptyRoot (encP T (sib σ)) m = (m, .ok ()) := by
  rw [placeEmptyRoot_eq rep hσ hlt]
  -- both loops with the invariant "the state is still `m`"
  obtain ⟨m', e, rfl⟩ := levels_loop rep.T_le hσ (Q := fun _ m' => m' = m) (fun _ _ e => e ▸ rep.rows)
    (fun ρ m0 hρ e =>
      row_loop rep.T_le hσ hlt hρ (P := fun _ m' => m' = m) (fun _ _ e => e ▸ rep.rows)
        (fun j m1 _ hc _ hsv e => by
          rw [e]
          exact placeBody_noop fun v hv =>
            hnone _ v (sunder_parent_liftP hc) (by rwa [rep.node _ hsv] at hv))
        _ 0 m0 (Nat.zero_add _) e)
    σ.1 m (Nat.le_refl _) rfl
  exact e

/- non-vacuity: an 8-slot forest, `σ = (2,0)`; the lifted subtree of `σ` occupies rows 2 and 1
below `parent σ = (3,0)` (row 0 is empty); both levels move one row down -/

section example_
local instance exHasher : Hasher Nat := ⟨fun a b => a + b + 1, 0⟩

/-- a property of all positions strictly below `p` can be checked on finitely many positions -/
theorem forall_sunder {p : Pos} {P : Pos → Prop}
    (h : ∀ r, r < p.1 → ∀ o, o < (p.2 + 1) * 2 ^ p.1 → SUnder p (r, o) → P (r, o)) :
    ∀ q, SUnder p q → P q := fun q hq => by
  have h1 := (anc_range hq.1).2
  rw [← Nat.succ_mul] at h1
  exact h q.1 hq.2 q.2 (Nat.lt_of_lt_of_le h1
    (Nat.mul_le_mul_left _ (Nat.pow_le_pow_right (by decide) (Nat.sub_le _ _)))) hq

theorem forall_stored {A : Pos → Option (Leaf Nat)} {p : Pos} {P : Pos → Leaf Nat → Bool}
    (h : ∀ r, r < p.1 → ∀ o, o < (p.2 + 1) * 2 ^ p.1 → SUnder p (r, o) → (A (r, o)).all (P (r, o)) = true)
    (q : Pos) (v : Leaf Nat) (hq : SUnder p q) (hA : A q = some v) : P q v = true := by
  have := forall_sunder (P := fun q => (A q).all (P q) = true) h q hq
  rwa [hA] at this

/-- stored: `(3,0)` (outside the region), the two children `(2,0)`, `(2,1)` of the lifted root and two
grandchildren `(1,2)` (a cached leaf) and `(1,3)` -/
def exM : MapPollard Nat :=
  { nodes := [(encP 3 (3, 0), ⟨99, false⟩), (encP 3 (2, 0), ⟨10, false⟩), (encP 3 (2, 1), ⟨11, false⟩),
      (encP 3 (1, 2), ⟨7, true⟩), (encP 3 (1, 3), ⟨8, false⟩)],
    cached := [(7, encP 3 (1, 2))], numLeaves := 5#64, totalRows := H8 3, full := false }

def exA : Pos → Option (Leaf Nat) := absA exM 3
def exC : Nat → Option Pos := absC exM 3

theorem ex_rep : Rep exM 3 exA exC := rep_abs_of_decode (by decide) rfl (by decide) (by decide)

theorem ex_cached {x : Nat} {t : Pos} (h : exC x = some t) : x = 7 ∧ t = (1, 2) := by
  by_cases e : x = 7
  · subst e
    exact ⟨rfl, Option.some.inj (h.symm.trans (show exC 7 = some (1, 2) by decide +kernel))⟩
  · have : exM.getCached x = none := if_neg fun h : 7 = x => e h.symm
    unfold exC absC at h
    rw [this] at h
    cases h

example : ∃ m', MapPollard.placeEmptyRoot (encP 3 (sib (2, 0))) exM = (m', .ok ()) ∧
    Rep m' 3 (unliftA (2, 0) exA) (unliftC (2, 0) exC) ∧ m'.numLeaves = exM.numLeaves ∧ m'.full = exM.full := by
  refine placeEmptyRoot_rep ex_rep rfl (σ := (2, 0)) (by decide) (by decide) ?_ ?_ ?_ ?_ ?_
  · exact forall_sunder (P := fun q => q.1 = 0 → exA q = none) (by decide +kernel)
  · exact fun q v hq hA => of_decide_eq_true
      (forall_stored (P := fun _ v => decide (v.hash ≠ (zero : Nat))) (by decide +kernel) q v hq hA)
  · intro q v hq hA hC
    have := forall_stored (P := fun _ v => !(exC v.hash).isSome || v.remember) (by decide +kernel) q v hq hA
    simpa [hC] using this
  · intro q v hq hA t hC
    have := forall_stored (P := fun q v => (exC v.hash).all (fun t => decide (t = q))) (by decide +kernel)
      q v hq hA
    simpa [hC] using this
  · intro x t hC _
    obtain ⟨rfl, rfl⟩ := ex_cached hC
    exact ⟨⟨7, true⟩, by decide +kernel, rfl⟩

/-- two levels of the lifted subtree are stored (one node is a cached leaf), and all of them move one row down;
the node outside the region stays -/
example : SUnder (parent (2, 0)) (2, 1) ∧ SUnder (parent (2, 0)) (1, 2) ∧
    exA (2, 0) = some ⟨10, false⟩ ∧ exA (2, 1) = some ⟨11, false⟩ ∧
    exA (1, 2) = some ⟨7, true⟩ ∧ exA (1, 3) = some ⟨8, false⟩ ∧ exC 7 = some (1, 2) ∧
    unliftA (2, 0) exA (1, 0) = some ⟨10, false⟩ ∧ unliftA (2, 0) exA (1, 1) = some ⟨11, false⟩ ∧
    unliftA (2, 0) exA (0, 2) = some ⟨7, true⟩ ∧ unliftA (2, 0) exA (0, 3) = some ⟨8, false⟩ ∧
    unliftA (2, 0) exA (2, 0) = none ∧ unliftA (2, 0) exA (2, 1) = none ∧
    unliftA (2, 0) exA (1, 2) = none ∧ unliftA (2, 0) exA (1, 3) = none ∧
    unliftA (2, 0) exA (3, 0) = some ⟨99, false⟩ ∧ unliftC (2, 0) exC 7 = some (0, 2) := by
  decide +kernel

/-- the model itself, evaluated: row 0 first, then row 1 -/
example :
    (MapPollard.placeEmptyRoot (encP 3 (sib (2, 0))) exM).2.toBool = true ∧
    (MapPollard.placeEmptyRoot (encP 3 (sib (2, 0))) exM).1.nodes =
      [(encP 3 (1, 1), ⟨11, false⟩), (encP 3 (1, 0), ⟨10, false⟩), (encP 3 (0, 3), ⟨8, false⟩),
        (encP 3 (0, 2), ⟨7, true⟩), (encP 3 (3, 0), ⟨99, false⟩)] ∧
    (MapPollard.placeEmptyRoot (encP 3 (sib (2, 0))) exM).1.cached = [(7, encP 3 (0, 2))] := by
  decide +kernel

/-- two successive calls (first `σ = (2,0)`, then `σ = (1,0)`) move the node with hash 11 down two
levels: `(2,1) ↦ (1,1) ↦ (0,1)` -/
example :
    (MapPollard.placeEmptyRoot (encP 3 (sib (1, 0)))
      (MapPollard.placeEmptyRoot (encP 3 (sib (2, 0))) exM).1).1.getNode (encP 3 (0, 1)) = some ⟨11, false⟩ ∧
    exM.getNode (encP 3 (2, 1)) = some ⟨11, false⟩ ∧
    (MapPollard.placeEmptyRoot (encP 3 (sib (2, 0))) exM).1.getNode (encP 3 (1, 1)) = some ⟨11, false⟩ := by
  decide +kernel

/-- for `placeEmptyRoot_noop`: only an empty-root marker (all-zero hash) is stored below `parent σ` -/
def exM0 : MapPollard Nat :=
  { nodes := [(encP 3 (3, 0), ⟨99, false⟩), (encP 3 (2, 1), ⟨0, true⟩)],
    cached := [], numLeaves := 5#64, totalRows := H8 3, full := false }

theorem ex_rep0 : Rep exM0 3 (absA exM0 3) (absC exM0 3) :=
  rep_abs_of_decode (by decide) rfl (by decide) (by decide)

example : MapPollard.placeEmptyRoot (encP 3 (sib (2, 0))) exM0 = (exM0, .ok ()) := by
  refine placeEmptyRoot_noop ex_rep0 (σ := (2, 0)) (by decide) (by decide) ?_
  exact fun q v hq hA => of_decide_eq_true
    (forall_stored (P := fun _ v => decide (v.hash = (zero : Nat))) (by decide +kernel) q v hq hA)

/-- the hypothesis of the no-op example is not vacuous: a (zero-hash) node is stored in the region -/
example : SUnder (parent (2, 0)) (2, 1) ∧ absA exM0 3 (2, 1) = some ⟨(zero : Nat), true⟩ := by
  decide +kernel

end example_

end UtreexoVerif.Proofs.MapPlaceEmpty

#print axioms UtreexoVerif.Proofs.MapPlaceEmpty.placeEmptyRoot_rep
#print axioms UtreexoVerif.Proofs.MapPlaceEmpty.placeEmptyRoot_noop
