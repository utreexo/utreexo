/-
  Pointer forest, heap model: `hashToRoot` along a context.

  What `getParent`, `getSibling`, `getChildren` return at a context node; `setData`; `hashToRoot_ctx` and, with the
  fuel of `hashToRoot'`, `CtxRepr.close` — the common end of `deleteSingle` and `undoSingleDel`.
-/
import UtreexoVerif.Proofs.PollardHeapZip
import UtreexoVerif.Proofs.PollardHeapRun
set_option linter.unusedSectionVars false

namespace UtreexoVerif.Proofs.PollardHeap
open UtreexoVerif.Model.PollardHeap UtreexoVerif.Spec Hasher
open UtreexoVerif.Model.PollardAbs

variable {H : Type} [DecidableEq H] [Hasher H]

theorem getSibling_left {hp : Heap H} {nm : List (H × Nat)} {rs : List Nat} {nl ndl : U64} {full : Bool}
    {c h : Nat} {cn hn : PolNode H}
    (hc : hp[c]? = some cn) (ha : cn.aunt = some h) (hh : hp[h]? = some hn)
    (hl : hn.lNiece = some c) : getSibling (some c) ⟨hp, nm, rs, nl, ndl, full⟩ = (.ok hn.rNiece, ⟨hp, nm, rs, nl, ndl, full⟩) := by
  unfold getSibling rd
  simp [hc, ha, hh, hl]

theorem getSibling_right {hp : Heap H} {nm : List (H × Nat)} {rs : List Nat} {nl ndl : U64} {full : Bool}
    {c h : Nat} {cn hn : PolNode H}
    (hc : hp[c]? = some cn) (ha : cn.aunt = some h) (hh : hp[h]? = some hn)
    (hl : hn.lNiece ≠ some c) (hr : hn.rNiece = some c) :
    getSibling (some c) ⟨hp, nm, rs, nl, ndl, full⟩ = (.ok hn.lNiece, ⟨hp, nm, rs, nl, ndl, full⟩) := by
  unfold getSibling rd
  simp [hc, ha, hh, hl, hr]

theorem getSibling_root {hp : Heap H} {nm : List (H × Nat)} {rs : List Nat} {nl ndl : U64} {full : Bool}
    {c : Nat} {cn : PolNode H}
    (hc : hp[c]? = some cn) (ha : cn.aunt = none) :
    getSibling (some c) ⟨hp, nm, rs, nl, ndl, full⟩ = (.ok none, ⟨hp, nm, rs, nl, ndl, full⟩) := by
  unfold getSibling rd
  simp [hc, ha]

theorem getParent_root {hp : Heap H} {nm : List (H × Nat)} {rs : List Nat} {nl ndl : U64} {full : Bool}
    {c : Nat} {cn : PolNode H}
    (hc : hp[c]? = some cn) (ha : cn.aunt = none) :
    getParent (some c) ⟨hp, nm, rs, nl, ndl, full⟩ = (.ok none, ⟨hp, nm, rs, nl, ndl, full⟩) := by
  unfold getParent rd
  simp [hc, ha]

theorem getSibling_kids {hp : Heap H} {nm : List (H × Nat)} {rs : List Nat} {nl ndl : U64} {full : Bool}
    {h c s : Nat} {d : Bool}
    (k : Kids hp h (sel d c s) (sel d s c)) (hcs : c ≠ s) :
    getSibling (some c) ⟨hp, nm, rs, nl, ndl, full⟩ = (.ok (some s), ⟨hp, nm, rs, nl, ndl, full⟩) := by
  obtain ⟨⟨cn, h4, h6⟩, _⟩ := k.sel_c
  cases d
  · obtain ⟨hn, g1, g2, g3⟩ := (show Kids hp h c s from k).holder
    exact (getSibling_left h4 h6 g1 g2).trans (by rw [g3])
  · obtain ⟨hn, g1, g2, g3⟩ := (show Kids hp h s c from k).holder
    exact (getSibling_right h4 h6 g1 (by rw [g2]; intro e; cases e; exact hcs rfl) g3).trans (by rw [g2])

theorem getParent_child {hp : Heap H} {nm : List (H × Nat)} {rs : List Nat} {nl ndl : U64} {full : Bool}
    {root : Nat} {up : CCtx H} {c n h : Nat} {cn : PolNode H}
    {fpu : List Nat} {l1 l2 : List (H × Nat)}
    (hc : hp[c]? = some cn) (ha : cn.aunt = some h)
    (hup : CtxRepr hp root up n h fpu l1 l2) (nd : (root :: fpu).Nodup) :
    getParent (some c) ⟨hp, nm, rs, nl, ndl, full⟩ = (.ok (some n), ⟨hp, nm, rs, nl, ndl, full⟩) := by
  unfold getParent rd
  cases hup with
  | top h1 h2 => simp [hc, ha, h1, h2]
  | step d hu k hs =>
    have hne : n ≠ h := by
      simp only [List.nodup_cons, List.mem_cons, not_or] at nd
      exact nd.2.1.1
    obtain ⟨_, ⟨sn, h5, h7⟩⟩ := k.sel_c
    cases d
    · obtain ⟨hn0, g1, g2, g3⟩ := (show Kids hp _ n h from k).holder
      have : hn0.lNiece ≠ some h := by rw [g2]; intro e; cases e; exact hne rfl
      simp only [bind_apply, deref_some, node_apply, hc, ha, h5, h7, g1, g2, g3, Option.some.injEq, hne,
        ↓reduceIte, pure_apply]
    · obtain ⟨hn0, g1, g2, g3⟩ := (show Kids hp _ h n from k).holder
      simp only [bind_apply, deref_some, node_apply, hc, ha, h5, h7, g1, g2, ↓reduceIte, g3, pure_apply]

theorem getChildren_ctx {hp : Heap H} {nm : List (H × Nat)} {rs : List Nat} {nl ndl : U64} {full : Bool}
    {root : Nat} {ctx : CCtx H} {c hc : Nat} {fpc : List Nat}
    {l1 l2 : List (H × Nat)} {hn : PolNode H}
    (h : CtxRepr hp root ctx c hc fpc l1 l2) (nd : (root :: fpc).Nodup)
    (hh : hp[hc]? = some hn) :
    getChildren (some c) ⟨hp, nm, rs, nl, ndl, full⟩ = (.ok (hn.lNiece, hn.rNiece), ⟨hp, nm, rs, nl, ndl, full⟩) := by
  cases h with
  | top h1 h2 =>
    rw [hh] at h1; cases h1
    unfold getChildren rd
    simp [hh, h2]
  | step d hu k hs =>
    have hcs : c ≠ hc := by
      simp only [List.nodup_cons, List.mem_cons, not_or] at nd
      exact nd.2.1.1
    obtain ⟨⟨cn, h4, h6⟩, _⟩ := k.sel_c
    unfold getChildren rd
    simp only [bind_apply, deref_some, node_apply, h4, h6, getSibling_kids k hcs, hh, pure_apply]

def setData (hp : Heap H) (i : Nat) (d : H) : Heap H := hp.modify i (fun x => { x with data := d })

theorem getElem?_setData (hp : Heap H) (i j : Nat) (d : H) :
    (setData hp i d)[j]? = if i = j then (hp[j]?).map (fun x => { x with data := d }) else hp[j]? := by
  unfold setData; rw [Array.getElem?_modify]

@[simp] theorem size_setData (hp : Heap H) (i : Nat) (d : H) : (setData hp i d).size = hp.size := by
  unfold setData; simp

theorem setData_off (hp : Heap H) (i : Nat) (d : H) : Off [i] hp (setData hp i d) := Off.modify _ _ _

theorem getElem?_setData_self {hp : Heap H} {i : Nat} {x : PolNode H} (h : hp[i]? = some x) (d : H) :
    (setData hp i d)[i]? = some { x with data := d } := by
  rw [getElem?_setData, if_pos rfl, h]; rfl

theorem setData_ptrs {hp : Heap H} {j : Nat} {x : PolNode H} (h : hp[j]? = some x) (i : Nat) (d : H) :
    ∃ x', (setData hp i d)[j]? = some x' ∧ x'.lNiece = x.lNiece ∧ x'.rNiece = x.rNiece ∧
      x'.aunt = x.aunt := by
  rw [getElem?_setData, h]
  split
  · exact ⟨_, rfl, rfl, rfl, rfl⟩
  · exact ⟨_, rfl, rfl, rfl, rfl⟩

theorem Kids.setData {hp : Heap H} {h l r : Nat} (k : Kids hp h l r) (i : Nat) (d : H) :
    Kids (setData hp i d) h l r := by
  obtain ⟨⟨hn, e1, e2, e3⟩, ⟨ln, e4, e5⟩, ⟨rn, e6, e7⟩⟩ := k
  obtain ⟨hn', g1, g2, g3, _⟩ := setData_ptrs e1 i d
  obtain ⟨ln', g4, _, _, g5⟩ := setData_ptrs e4 i d
  obtain ⟨rn', g6, _, _, g7⟩ := setData_ptrs e6 i d
  exact ⟨⟨hn', g1, g2.trans e2, g3.trans e3⟩, ⟨ln', g4, g5.trans e5⟩, ⟨rn', g6, g7.trans e7⟩⟩

theorem Sub.setData {hp : Heap H} {n h : Nat} {t : CTree H} {fp : List Nat} {lv : List (H × Nat)}
    (hs : Sub hp n h t fp lv) {i : Nat} (hn : i ≠ n) (hfp : i ∉ fp) (d : H) :
    Sub (setData hp i d) n h t fp lv :=
  hs.frame (fun x hx => ⟨x, ((setData_off hp i d) n (by simpa using Ne.symm hn)).trans hx, rfl⟩)
    (fun x hx => by obtain ⟨x', g1, g2, g3, _⟩ := setData_ptrs hx i d; exact ⟨x', g1, g2, g3⟩)
    (fun j hj => (setData_off hp i d) j (by simp; rintro rfl; exact hfp hj))

theorem Sub.of_kids {hp : Heap H} {n h c s : Nat} (d : Bool) {nn : PolNode H} {tc ts : CTree H}
    {fc fs : List Nat} {lc ls : List (H × Nat)} (k : Kids hp h (sel d c s) (sel d s c))
    (sc : Sub hp c s tc fc lc) (ss : Sub hp s c ts fs ls) (en : hp[n]? = some nn)
    (dn : nn.data = ph (sel d tc ts).hash (sel d ts tc).hash) :
    ∃ fp, Sub hp n h (.node (sel d tc ts) (sel d ts tc)) fp (sel d (lc ++ ls) (ls ++ lc)) ∧
      fp.Perm (c :: s :: (fc ++ fs)) := by
  obtain ⟨⟨hn, h1, h2, h3⟩, ⟨ln, h4, h6⟩, ⟨rn, h5, h7⟩⟩ := k
  cases d
  · exact ⟨_, Sub.node en dn h1 h2 h3 h4 h5 h6 h7 sc ss, .refl _⟩
  · exact ⟨s :: c :: (fs ++ fc), Sub.node en dn h1 h2 h3 h4 h5 h6 h7 ss sc, by perm_count⟩

/-- the two children as `hashToRoot` reads them: through the niece holder, left then right -/
theorem Kids.read {hp : Heap H} {h c s : Nat} {d : Bool} {tc ts : CTree H} {fc fs : List Nat}
    {lc ls : List (H × Nat)} (k : Kids hp h (sel d c s) (sel d s c))
    (sc : Sub hp c s tc fc lc) (ss : Sub hp s c ts fs ls) :
    ∃ hn ln rn, hp[h]? = some hn ∧ hp[sel d c s]? = some ln ∧ hp[sel d s c]? = some rn ∧
      hn.lNiece = some (sel d c s) ∧ hn.rNiece = some (sel d s c) ∧
      ln.data = (sel d tc ts).hash ∧ rn.data = (sel d ts tc).hash := by
  obtain ⟨⟨hn, h1, h2, h3⟩, ⟨ln, h4, _⟩, ⟨rn, h5, _⟩⟩ := k
  refine ⟨hn, ln, rn, h1, h4, h5, h2, h3, ?_, ?_⟩ <;> cases d
  · exact sc.data_eq h4
  · exact ss.data_eq h4
  · exact ss.data_eq h5
  · exact sc.data_eq h5

theorem hashToRoot_step {hp : Heap H} {nm : List (H × Nat)} {rs : List Nat} {nl ndl : U64} {full : Bool}
    {root : Nat} {ctx : CCtx H} {n h0 l r : Nat} {fpc : List Nat}
    {l1 l2 : List (H × Nat)} {hn ln rn : PolNode H} (fuel : Nat)
    (h : CtxRepr hp root ctx n h0 fpc l1 l2) (nd : (root :: fpc).Nodup)
    (hh : hp[h0]? = some hn) (kl : hn.lNiece = some l) (kr : hn.rNiece = some r)
    (el : hp[l]? = some ln) (er : hp[r]? = some rn) (nxt : Ptr)
    (hpar : getParent (some n) ⟨setData hp n (ph ln.data rn.data), nm, rs, nl, ndl, full⟩ =
      (.ok nxt, ⟨setData hp n (ph ln.data rn.data), nm, rs, nl, ndl, full⟩)) :
    hashToRoot (fuel + 1) (some n) ⟨hp, nm, rs, nl, ndl, full⟩ =
      hashToRoot fuel nxt ⟨setData hp n (ph ln.data rn.data), nm, rs, nl, ndl, full⟩ := by
  rw [hashToRoot, bind_ok (getChildren_ctx h nd hh)]
  simp only [kl, kr]
  rw [bind_ok (rd_run el), bind_ok (rd_run er), bind_ok setNode_run]
  exact bind_ok hpar

/-- `n` is the node `hashToRoot` starts from: its two children are represented (the `d`-child `c` with `tc`, the
other child `s` with `ts`), its context up to the root is represented with ancestor data arbitrary.  Only `data`
fields of `n` and its ancestors are written. -/
theorem hashToRoot_ctx {root : Nat} {nm : List (H × Nat)} {rs : List Nat} {nl ndl : U64} {full : Bool} :
    ∀ (ctx : CCtx H) (hp : Heap H) (n h0 : Nat) (fpu : List Nat)
    (l1 l2 : List (H × Nat)) (d : Bool) (c s : Nat) (tc ts : CTree H) (fc fs : List Nat)
    (lc ls : List (H × Nat)) (fuel : Nat),
    CtxRepr hp root ctx n h0 fpu l1 l2 → Kids hp h0 (sel d c s) (sel d s c) →
    Sub hp c s tc fc lc → Sub hp s c ts fs ls →
    (root :: fpu ++ (c :: s :: (fc ++ fs))).Nodup → ctx.depth + 1 ≤ fuel →
    ∃ hp', hashToRoot fuel (some n) ⟨hp, nm, rs, nl, ndl, full⟩ = (.ok (), ⟨hp', nm, rs, nl, ndl, full⟩) ∧
      hp'.size = hp.size ∧ Off (root :: fpu) hp hp' ∧
      ∃ fp', RootRepr hp' root (ctx.plug (.node (sel d tc ts) (sel d ts tc))) fp'
          (l1 ++ sel d (lc ++ ls) (ls ++ lc) ++ l2) ∧
        fp'.Perm (fpu ++ (c :: s :: (fc ++ fs))) := by
  intro ctx
  induction ctx using CCtx.consInduction with
  | top =>
    intro hp n h0 fpu l1 l2 d c s tc ts fc fs lc ls fuel h kk sc ss nd hf
    obtain ⟨f, rfl⟩ : ∃ f, fuel = f + 1 := ⟨fuel - 1, by simp [CCtx.depth] at hf; omega⟩
    obtain ⟨rn, h1, h2, e1, e2, rfl, rfl, rfl⟩ := h.top_inv
    subst n h0
    obtain ⟨hn, ln, rn', hh, el, er, kl, kr, dl, dr⟩ := kk.read sc ss
    simp only [List.cons_append, List.nil_append, List.nodup_cons, List.mem_cons, List.mem_append, not_or] at nd
    obtain ⟨⟨hrc, hrs, hrfc, hrfs⟩, _⟩ := nd
    have e1 := getElem?_setData_self h1 (ph ln.data rn'.data)
    rw [hashToRoot_step f (CtxRepr.top h1 h2) (List.nodup_cons.2 ⟨List.not_mem_nil, List.nodup_nil⟩)
      hh kl kr el er none (getParent_root e1 h2)]
    obtain ⟨fp, sub, pf⟩ := Sub.of_kids (n := root) d (kk.setData root _) (sc.setData hrc hrfc _)
      (ss.setData hrs hrfs _) e1 (by rw [dl, dr])
    refine ⟨_, by simp [hashToRoot], by simp, fun i hi => setData_off _ _ _ i (by simpa using hi),
      fp, ⟨⟨_, e1, h2⟩, by simpa [CCtx.plug] using sub⟩, by simpa using pf⟩
  | cons d' up ts' ih =>
    intro hp n h0 fpc l1' l2' d c s tc ts fc fs lc ls fuel h kk sc ss nd hf
    obtain ⟨f, rfl⟩ : ∃ f, fuel = f + 1 := ⟨fuel - 1, by rw [CCtx.depth_cons] at hf; omega⟩
    obtain ⟨n', h0', fs', fpu, ls', l1, l2, hu, kk', ss', rfl, rfl, rfl⟩ := h.cons_inv
    obtain ⟨hn, ln, rn, hh, el, er, kl, kr, dl, dr⟩ := kk.read sc ss
    obtain ⟨⟨nn, en, an⟩, _⟩ := kk'.sel_c
    have nd0 : (root :: n :: h0 :: (fs' ++ fpu)).Nodup := (List.nodup_append.1 nd).1
    have ndx := nd
    simp only [List.cons_append, List.nodup_cons, List.mem_cons, List.mem_append, not_or,
      List.nodup_append] at ndx
    obtain ⟨⟨hrn, _, ⟨_, hrfpu⟩, _⟩, ⟨hnh, ⟨hnfs', hnfpu⟩, hnc, hns, hnfc, hnfs⟩, _, ⟨_, ndfpu, _⟩, _, _⟩ := ndx
    -- the recomputed node is no node of the upper context
    have hu1 := hu.frame (hp' := setData hp n (ph ln.data rn.data)) fun i hi =>
      setData_off _ _ _ i (by
        simp only [List.mem_singleton]; rintro rfl
        rcases List.mem_cons.1 hi with e | hi
        · exact hrn e.symm
        · exact hnfpu hi)
    have e1 := getElem?_setData_self en (ph ln.data rn.data)
    rw [hashToRoot_step f h nd0 hh kl kr el er (some n')
      (getParent_child e1 an hu1 (List.nodup_cons.2 ⟨hrfpu, ndfpu⟩))]
    -- one level up: `n` (recomputed) and its sibling `h0` are the children of `n'`
    obtain ⟨fpk, subN, pk⟩ := Sub.of_kids (n := n) d (kk.setData n _) (sc.setData hnc hnfc _)
      (ss.setData hns hnfs _) e1 (by rw [dl, dr])
    have p1 : (fpu ++ (n :: h0 :: (c :: s :: (fc ++ fs) ++ fs'))).Perm
        (n :: h0 :: (fs' ++ fpu) ++ (c :: s :: (fc ++ fs))) := by perm_count
    have p2 : (fpu ++ (n :: h0 :: (fpk ++ fs'))).Perm (n :: h0 :: (fs' ++ fpu) ++ (c :: s :: (fc ++ fs))) :=
      ((((pk.append_right fs').cons h0).cons n).append_left fpu).trans p1
    obtain ⟨hp', g1, g2, g3, fp', g5, g6⟩ := ih (setData hp n (ph ln.data rn.data))
      n' h0' fpu l1 l2 d' n h0 _ ts' fpk fs' _ ls' f hu1 (kk'.setData n _) subN
      (ss'.setData hnh hnfs' _) ((p2.cons root).nodup_iff.2 nd) (by rw [CCtx.depth_cons] at hf; omega)
    refine ⟨hp', g1, by rw [g2]; simp, ?_, fp', ?_, g6.trans p2⟩
    · intro i hi
      simp only [List.mem_cons, List.mem_append, not_or] at hi
      rw [g3 i (by simp only [List.mem_cons, not_or]; exact ⟨hi.1, hi.2.2.2.2⟩)]
      exact setData_off _ _ _ i (by simpa using hi.2.1)
    · rw [CCtx.plug_cons, sel_hole]
      exact g5

theorem getSibling_ctx {hp : Heap H} {nm : List (H × Nat)} {rs : List Nat} {nl ndl : U64} {full : Bool}
    {root : Nat} {ctx : CCtx H} {c hc : Nat} {fpc : List Nat}
    {l1 l2 : List (H × Nat)} (h : CtxRepr hp root ctx c hc fpc l1 l2)
    (nd : (root :: fpc).Nodup) :
    ∃ x, getSibling (some c) ⟨hp, nm, rs, nl, ndl, full⟩ = (.ok x, ⟨hp, nm, rs, nl, ndl, full⟩) := by
  cases h with
  | top h1 h2 => exact ⟨_, getSibling_root h1 h2⟩
  | step d hu k hs =>
    simp only [List.nodup_cons, List.mem_cons, not_or] at nd
    exact ⟨_, getSibling_kids k nd.2.1.1⟩

theorem childPath_append : ∀ (p q : List Bool) (t : CTree H),
    childPath t (p ++ q) = (childPath t p).bind (fun s => childPath s q) := by
  intro p
  induction p with
  | nil => intro q t; rfl
  | cons d p ih =>
    intro q t
    simp only [List.cons_append, childPath]
    cases child t d with
    | none => rfl
    | some c => exact ih q c

/-- the last step of a context taken apart (the upper context at `(n, h0)`, the `Kids` of `h0`, the sibling's
tree) and a represented sub-tree in its hole, ancestor data stale; `hashToRoot` from the parent `n` of the hole
yields the plugged tree -/
theorem CtxRepr.close {root : Nat} {d : Bool} {up : CCtx H} {ts tc : CTree H} (st : Pollard H)
    {n h0 c s : Nat} {fpu fs fc : List Nat} {l1u l2u ls lc : List (H × Nat)}
    (hu : CtxRepr st.heap root up n h0 fpu l1u l2u) (kk : Kids st.heap h0 (sel d c s) (sel d s c))
    (ss : Sub st.heap s c ts fs ls) (sc : Sub st.heap c s tc fc lc)
    (nd : (root :: fpu ++ (c :: s :: (fc ++ fs))).Nodup) :
    ∃ hp', hashToRoot' (some n) st = (.ok (), { st with heap := hp' }) ∧ hp'.size = st.heap.size ∧
      Off (root :: fpu) st.heap hp' ∧
      ∃ fp', RootRepr hp' root ((CCtx.cons d up ts).plug tc) fp'
          (l1u ++ sel d (lc ++ ls) (ls ++ lc) ++ l2u) ∧
        fp'.Perm (fpu ++ (c :: s :: (fc ++ fs))) := by
  -- the fuel `hashToRoot'` supplies, the heap size + 1, exceeds the depth of the context
  obtain ⟨hp, nm, rs, nl, ndl, full⟩ := st
  have nd0 : (root :: fpu).Nodup := (List.nodup_append.1 nd).1
  have hlen := nodup_length_le nd0 hu.lt
  have hd := hu.depth_le
  simp only [List.length_cons] at hlen
  rw [CCtx.plug_cons]
  unfold hashToRoot'
  simp only [bind_apply, heapSize_apply]
  exact hashToRoot_ctx up hp n h0 fpu l1u l2u d c s tc ts fc fs lc ls (hp.size + 1) hu kk sc ss nd
    (by omega)

end UtreexoVerif.Proofs.PollardHeap
