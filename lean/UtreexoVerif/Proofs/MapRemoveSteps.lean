/-
  The storage invariant `GI fl` across two steps of `removeSingle` (mappollard.go): the root case, and the
  replacement of the ancestors' hashes by `updateHashes`.  Node lists: `N` before the call, `N'` after the lift of the
  sibling subtree, `N''` after the re-hashing (= the node list of the forest after the deletion); `A5` is the store after
  `updateHashes` (the digit has no meaning of its own).
-/
import UtreexoVerif.Proofs.MapLiftCore
import UtreexoVerif.Proofs.MapRemoveRep

namespace UtreexoVerif.Proofs.MapRemoveSteps
open Model Spec MapRep MapLiftGeo PForest MapAInv MapGI Hasher
open MapRemoveRep
set_option linter.unusedSectionVars false

variable {H : Type} [DecidableEq H] [Hasher H]
variable {fl : Bool} {A : Pos → Option (Leaf H)} {C : H → Option Pos} {N N'' : List (Pos × H × Bool)}
  {R : Pos → Prop} {K K' : H → Prop}

theorem clearRoot_out {d : Pos} (v : Leaf H) {q : Pos} (hq : ¬ Anc d q) : upd (clearBelow d A) d (some v) q = A q := by
  have hne : q ≠ d := fun e => hq (e ▸ Anc.refl _)
  rw [upd_ne _ _ hne]
  unfold clearBelow
  rw [if_neg (fun h => hq h.1)]

theorem clearRoot_some {d : Pos} {v : Leaf H} {q : Pos} {l : Leaf H} (hl : upd (clearBelow d A) d (some v) q = some l) :
    (q = d ∧ l = v) ∨ (¬ Anc d q ∧ A q = some l) := by
  by_cases hq : q = d
  · rw [hq, upd_self] at hl
    exact Or.inl ⟨hq, (Option.some.inj hl).symm⟩
  · right
    rw [upd_ne _ _ hq] at hl
    unfold clearBelow at hl
    split at hl
    · cases hl
    · rename_i hs
      refine ⟨fun ha => hs ⟨ha, ?_⟩, hl⟩
      have := ha.1
      have hr : q.1 ≠ d.1 := fun e => hq (ha.eq_of_row e.symm).symm
      omega

/-- deleting everything below a root `d`: the tree becomes an empty root, stored as the zero hash with the flag of the kind -/
theorem rootCase (L : Laws N R) (inv : GI fl A C N R K (fun _ => False)) {d : Pos} (hdR : R d)
    (hKd : ∀ t x, (t, x, true) ∈ N → Anc d t → K x ∧ C x = none)
    (hN'' : ∀ e : Pos × H × Bool, e ∈ N'' ↔ (¬ Anc d e.1 ∧ e ∈ N) ∨ e = (d, zero, false))
    (hK' : ∀ x, K' x ↔ K x ∧ ∀ t, (t, x, true) ∈ N → ¬ Anc d t) :
    GI fl (upd (clearBelow d A) d (some ⟨zero, fl⟩)) C N'' R K' (fun _ => False) := by
  have hCd : ∀ x t, C x = some t → ¬ Anc d t := by
    intro x t hC ha
    rw [(hKd t x (inv.cached_pos x t hC) ha).2] at hC
    cases hC
  have leaf'' : ∀ t x, (t, x, true) ∈ N'' ↔ (¬ Anc d t ∧ (t, x, true) ∈ N) := by
    intro t x
    rw [hN'']
    constructor
    · rintro (h | h)
      · exact h
      · simp only [Prod.mk.injEq] at h; exact absurd h.2.2 (by simp)
    · intro h; exact Or.inl h
  have hK'of : ∀ t x, (t, x, true) ∈ N → ¬ Anc d t → K x → K' x := by
    intro t x hm hnd hk
    refine (hK' x).2 ⟨hk, fun t2 ht2 => ?_⟩
    rw [L.leaf_hash t x t2 true hm ht2]
    exact hnd
  have kleaf'' : ∀ t, KLeaf N'' K' t ↔ (KLeaf N K t ∧ ¬ Anc d t) := by
    intro t
    constructor
    · rintro ⟨x, hk, hm⟩
      obtain ⟨h1, h2⟩ := (leaf'' t x).1 hm
      exact ⟨⟨x, ((hK' x).1 hk).1, h2⟩, h1⟩
    · rintro ⟨⟨x, hk, hm⟩, hnd⟩
      exact ⟨x, hK'of t x hm hnd hk, (leaf'' t x).2 ⟨hnd, hm⟩⟩
  have par_out : ∀ q h b, (q, h, b) ∈ N → ¬ R q → ¬ Anc d q → ∀ t, Anc (parent q) t → ¬ Anc d t := by
    intro q h b hq hnr hdq t hpt hdt
    obtain ⟨hp, hpm, _⟩ := L.parent_node q h b hq hnr
    -- the root above `parent q` is a root above `t`, hence `d`
    obtain ⟨r, hr, ha⟩ := L.under_root _ hp false hpm
    have := L.root_disj r d t hr hdR (Anc.trans ha hpt) hdt
    subst this
    exact hdq (Anc.trans ha (anc_parent_self q))
  refine { true_hash := ?_, cache_sub := ?_, cached_pos := ?_, roots_stored := ?_, only_needed := ?_,
           has_needed := ?_, flags := ?_, flagsZ := ?_, fullK := ?_ }
  · intro q l hl
    rcases clearRoot_some hl with ⟨rfl, rfl⟩ | ⟨hq, hA⟩
    · exact ⟨false, (hN'' _).2 (Or.inr rfl)⟩
    · obtain ⟨b, hb⟩ := inv.true_hash q l hA
      exact ⟨b, (hN'' _).2 (Or.inl ⟨hq, hb⟩)⟩
  · intro x t hC
    exact hK'of t x (inv.cached_pos x t hC) (hCd x t hC) (inv.cache_sub x t hC)
  · intro x t hC
    exact (leaf'' t x).2 ⟨hCd x t hC, inv.cached_pos x t hC⟩
  · intro z hz
    by_cases hzd : z = d
    · subst hzd; rw [upd_self]; simp
    · have : ¬ Anc d z := fun ha => hzd (L.root_disj z d z hz hdR (Anc.refl z) ha)
      rw [clearRoot_out _ this]; exact inv.roots_stored z hz
  · intro q l hl hnr _
    rcases clearRoot_some hl with ⟨rfl, _⟩ | ⟨hq, hA⟩
    · exact absurd hdR hnr
    · obtain ⟨b, hb⟩ := inv.true_hash q l hA
      obtain ⟨t, ht, hrow, hanc⟩ := inv.only_needed q l hA hnr (fun h => h)
      exact ⟨t, (kleaf'' t).2 ⟨ht, par_out q _ b hb hnr hq t hanc⟩, hrow, hanc⟩
  · intro q h b hm hnr hreq
    have hqd : q ≠ d := fun e => hnr (e ▸ hdR)
    rcases (hN'' _).1 hm with ⟨hq, hmN⟩ | e
    · rw [clearRoot_out _ hq]
      apply inv.has_needed q h b hmN hnr
      rcases hreq with hk | ⟨t, hk, hanc⟩
      · exact Or.inl ((kleaf'' q).1 hk).1
      · exact Or.inr ⟨t, ((kleaf'' t).1 hk).1, hanc⟩
    · simp only [Prod.mk.injEq] at e; exact absurd e.1 hqd
  · intro q l hl hnz
    rcases clearRoot_some hl with ⟨_, rfl⟩ | ⟨hq, hA⟩
    · exact absurd rfl hnz
    · rw [inv.flags q l hA hnz, kleaf'']
      exact ⟨fun h => h.imp id (fun h => ⟨h, hq⟩), fun h => h.imp id (fun h => h.1)⟩
  · intro hf q l hl
    rcases clearRoot_some hl with ⟨_, rfl⟩ | ⟨_, hA⟩
    · exact hf
    · exact inv.flagsZ hf q l hA
  · intro hf t x hm
    obtain ⟨hnd, hmN⟩ := (leaf'' t x).1 hm
    exact hK'of t x hmN hnd (inv.fullK hf t x hmN)

/-- the hashes of the nodes in `Z` (inner nodes; in `removeSingle`: the strict ancestors of the
lifted subtree) are replaced, in the node list (`N'` to `N''`) and in the store (`A` to `A5`, the
new entries flagged `fl`); nothing else changes -/
structure Rehash (N' N'' : List (Pos × H × Bool)) (Z : Pos → Prop) (A A5 : Pos → Option (Leaf H)) (fl : Bool) :
    Prop where
  same : ∀ e : Pos × H × Bool, ¬ Z e.1 → (e ∈ N'' ↔ e ∈ N')
  old : ∀ z h f, Z z → (z, h, f) ∈ N' → f = false ∧ ∃ h1, (z, h1, false) ∈ N''
  new : ∀ z h f, Z z → (z, h, f) ∈ N'' → f = false ∧ ∃ h0, (z, h0, false) ∈ N'
  out : ∀ q, ¬ Z q → A5 q = A q
  dom : ∀ z, Z z → (A5 z).isSome = (A z).isSome
  val : ∀ z l, Z z → A5 z = some l → (z, l.hash, false) ∈ N'' ∧ l.remember = fl

section
variable {N' : List (Pos × H × Bool)} {A5 : Pos → Option (Leaf H)} {Z : Pos → Prop}

namespace Rehash

theorem leaf_same (r : Rehash N' N'' Z A A5 fl) (t : Pos) (x : H) : (t, x, true) ∈ N'' ↔ (t, x, true) ∈ N' := by
  by_cases hz : Z t
  · constructor
    · intro h; exact absurd (r.new t x true hz h).1 (by simp)
    · intro h; exact absurd (r.old t x true hz h).1 (by simp)
  · exact r.same (t, x, true) hz

theorem stored_iff (r : Rehash N' N'' Z A A5 fl) (q : Pos) : A5 q ≠ none ↔ A q ≠ none := by
  by_cases hz : Z q
  · rw [Option.ne_none_iff_isSome, Option.ne_none_iff_isSome, r.dom q hz]
  · rw [r.out q hz]

end Rehash

theorem rehash {E : Pos → Prop} (inv : GI fl A C N' R K E) (r : Rehash N' N'' Z A A5 fl) :
    GI fl A5 C N'' R K E := by
  have kleaf_same : ∀ t, KLeaf N'' K t ↔ KLeaf N' K t := KLeaf.congr r.leaf_same
  refine { true_hash := ?_, cache_sub := inv.cache_sub, cached_pos := ?_, roots_stored := ?_, only_needed := ?_,
           has_needed := ?_, flags := ?_, flagsZ := ?_,
           fullK := fun hf t x hm => inv.fullK hf t x ((r.leaf_same t x).1 hm) }
  · intro q l hl
    by_cases hz : Z q
    · exact ⟨false, (r.val q l hz hl).1⟩
    · rw [r.out q hz] at hl
      obtain ⟨b, hb⟩ := inv.true_hash q l hl
      exact ⟨b, (r.same _ hz).2 hb⟩
  · intro x t hC; exact (r.leaf_same t x).2 (inv.cached_pos x t hC)
  · intro z hz; exact (r.stored_iff z).2 (inv.roots_stored z hz)
  · intro q l hl hnr hE
    obtain ⟨l0, hA⟩ := Option.ne_none_iff_exists'.1 ((r.stored_iff q).1 (by rw [hl]; simp))
    obtain ⟨t, ht, hrow, hanc⟩ := inv.only_needed q l0 hA hnr hE
    exact ⟨t, (kleaf_same t).2 ht, hrow, hanc⟩
  · intro q h b hm hnr hreq
    apply (r.stored_iff q).2
    have hex : ∃ h0 b0, (q, h0, b0) ∈ N' := by
      by_cases hz : Z q
      · obtain ⟨_, h0, hh⟩ := r.new q h b hz hm
        exact ⟨h0, false, hh⟩
      · exact ⟨h, b, (r.same _ hz).1 hm⟩
    obtain ⟨h0, b0, hm0⟩ := hex
    apply inv.has_needed q h0 b0 hm0 hnr
    rcases hreq with hk | ⟨t, hk, hanc⟩
    · exact Or.inl ((kleaf_same q).1 hk)
    · exact Or.inr ⟨t, (kleaf_same t).1 hk, hanc⟩
  · intro q l hl hnz
    by_cases hz : Z q
    · obtain ⟨hm, hr⟩ := r.val q l hz hl
      rw [hr]
      constructor
      · intro h; exact Or.inl h
      · rintro (h | ⟨x, _, hx⟩)
        · exact h
        · exact absurd (r.new q x true hz hx).1 (by simp)
    · rw [r.out q hz] at hl
      rw [inv.flags q l hl hnz, kleaf_same]
  · intro hf q l hl
    by_cases hz : Z q
    · rw [(r.val q l hz hl).2]; exact hf
    · rw [r.out q hz] at hl; exact inv.flagsZ hf q l hl
end

end UtreexoVerif.Proofs.MapRemoveSteps
