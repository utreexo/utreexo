/-
  Positions of live slots for property C15: the three descriptions agree —

  * `posS S s` (`SchedSem`): `nodePos` of the leaf chunk `(0, s)` in the tree found by `treeOf`;
  * `Spec.Sched.slotPos (flags S) s`: the top-down walk of the property vocabulary;
  * `(Forest.mk S).posOf s`: the position of leaf `s` in the specification forest whose leaves
    are identified by their slot numbers (`Canon S`).
-/
import UtreexoVerif.Proofs.SchedLives
import UtreexoVerif.Proofs.ChunkBridge
import UtreexoVerif.Proofs.NodesUnique

namespace UtreexoVerif.Proofs.SchedPos
open Spec Spec.Sched UtreexoVerif.Proofs.SchedSem UtreexoVerif.Proofs.FinalPos
open UtreexoVerif.Proofs.Movement UtreexoVerif.Proofs.ChunkBridge

theorem div_mul_pow_succ (n T : Nat) : n / 2 ^ (T + 1) * 2 ^ (T + 1) = 2 * (n / 2 ^ (T + 1)) * 2 ^ T := by
  rw [Nat.pow_succ]; ac_rfl

/-- the test `slotPos` / `treeOf` use to find the tree of slot `s` is `Spec.inTree` -/
theorem inTree_iff_range {n T s : Nat} (hT : n.testBit T = true) :
    (treeStart n T ≤ s ∧ s < treeStart n T + 2 ^ T) ↔ Spec.inTree n T 0 s := by
  unfold Spec.inTree
  rw [Spec.treeStart_eq, Nat.sub_zero]
  have hpos := Nat.two_pow_pos T
  rw [div_mul_pow_succ]
  generalize 2 * (n / 2 ^ (T + 1)) = B
  constructor
  · rintro ⟨h1, h2⟩
    refine ⟨hT, Nat.zero_le _, ?_⟩
    apply Nat.le_antisymm
    · apply Nat.le_of_lt_succ
      rw [Nat.div_lt_iff_lt_mul hpos, Nat.succ_mul]; exact h2
    · rw [Nat.le_div_iff_mul_le hpos]; exact h1
  · rintro ⟨_, _, h3⟩
    subst h3
    refine ⟨Nat.div_mul_le_self s (2 ^ T), ?_⟩
    have := lt_succ_div_mul s (2 ^ T) hpos
    rw [Nat.add_mul, Nat.one_mul] at this
    exact this

theorem find_tree {n s : Nat} (hn : n < 2 ^ 64) (hs : s < n) :
    ∃ T, (treeRows n).find? (fun h => treeStart n h ≤ s && s < treeStart n h + 2 ^ h) = some T ∧
      Spec.inTree n T 0 s := by
  obtain ⟨T0, h1, h2, h3⟩ := exists_tree_of_lt n s hs
  have hin : Spec.inTree n T0 0 s := by
    simpa using inTree_of_slot h1 h2 h3 (l := 0) (Nat.zero_le _)
  have hmem := SpecView.treeRows_mem_of_bit hn h1
  cases hf : (treeRows n).find? (fun h => treeStart n h ≤ s && s < treeStart n h + 2 ^ h) with
  | none =>
    have := List.find?_eq_none.1 hf T0 hmem
    have h4 := (inTree_iff_range h1).2 hin
    simp [h4.1, h4.2] at this
  | some T =>
    refine ⟨T, rfl, ?_⟩
    have hp := List.find?_some hf
    have hm := List.mem_of_find?_eq_some hf
    simp only [Bool.and_eq_true, decide_eq_true_eq] at hp
    exact (inTree_iff_range (Spec.mem_treeRows.1 hm).2).1 hp

theorem treeOf_spec {n s : Nat} (hn : n < 2 ^ 64) (hs : s < n) : Spec.inTree n (treeOf n s) 0 s := by
  obtain ⟨T, hf, hin⟩ := find_tree hn hs
  unfold SchedSem.treeOf
  rw [hf]
  exact hin

theorem treeOf_unique {n s T : Nat} (hn : n < 2 ^ 64) (h : Spec.inTree n T 0 s) : treeOf n s = T := by
  have hs : s < n := by
    have := inTree_le h
    simp only [Nat.pow_zero, Nat.mul_one] at this
    omega
  exact inTree_unique (treeOf_spec hn hs) h

theorem posS_eq {S : List (Option Nat)} {s T : Nat} (hn : S.length < 2 ^ 64)
    (h : Spec.inTree S.length T 0 s) : posS S s = nodePos S T 0 s := by
  unfold posS
  rw [treeOf_unique hn h]

theorem any_flags_chunk (S : List (Option Nat)) (l b : Nat) :
    (((flags S).drop (b * 2 ^ l)).take (2 ^ l)).any id = chunkAlive S l b := by
  have key : (((flags S).drop (b * 2 ^ l)).take (2 ^ l)).any id = false ↔
      chunkAlive S l b = false := by
    rw [chunkAlive_eq_false_iff, List.any_eq_false]
    constructor
    · intro h i x h1 h2 hi
      rw [Nat.add_mul, Nat.one_mul] at h2
      apply h true _ rfl
      rw [List.mem_iff_getElem?]
      refine ⟨i - b * 2 ^ l, ?_⟩
      rw [List.getElem?_take, if_pos (by omega), List.getElem?_drop,
        show b * 2 ^ l + (i - b * 2 ^ l) = i by omega]
      simp [flags, hi]
    · intro h x hx hid
      rw [List.mem_iff_getElem?] at hx
      obtain ⟨j, hj⟩ := hx
      rw [List.getElem?_take] at hj
      split at hj
      · rename_i hlt
        rw [List.getElem?_drop] at hj
        simp only [id] at hid
        subst hid
        simp only [flags, List.getElem?_map, Option.map_eq_some_iff, Option.isSome_iff_exists] at hj
        obtain ⟨a, ha, y, hy⟩ := hj
        subst hy
        refine h (b * 2 ^ l + j) y (by omega) ?_ ha
        rw [Nat.add_mul, Nat.one_mul]; omega
      · cases hj
  cases h1 : (((flags S).drop (b * 2 ^ l)).take (2 ^ l)).any id <;>
    cases h2 : chunkAlive S l b <;> simp_all

theorem chunkPos_fpos (S : List (Option Nat)) : ∀ (k B i : Nat) (top : Pos) (x : Nat), i < 2 ^ k →
    S[B * 2 ^ k + i]? = some (some x) →
    chunkPos k (((flags S).drop (B * 2 ^ k)).take (2 ^ k)) i top.1 top.2 =
      some (fpos (chunkAlive S) top k 0 (B * 2 ^ k + i)) := by
  intro k
  induction k with
  | zero =>
    intro B i top x hi hx
    have : i = 0 := by simpa using hi
    subst this
    simp only [Nat.pow_zero, Nat.mul_one, Nat.add_zero] at hx ⊢
    have hh : (List.take 1 (List.drop B (flags S))).head? = some true := by
      rw [List.head?_take, if_neg (by omega), List.head?_drop]
      simp [flags, hx]
    simp [chunkPos, fpos, hh]
  | succ k ih =>
    intro B i top x hi hx
    have hpos := Nat.two_pow_pos k
    have hp : 2 ^ (k + 1) = 2 * 2 ^ k := two_pow_succ' _
    have e0 : B * 2 ^ (k + 1) = 2 * B * 2 ^ k := by rw [Nat.pow_succ]; ac_rfl
    have e1 : B * 2 ^ (k + 1) + 2 ^ k = (2 * B + 1) * 2 ^ k := by
      rw [Nat.add_mul, Nat.one_mul, e0]
    have hL : (((flags S).drop (B * 2 ^ (k + 1))).take (2 ^ (k + 1))).take (2 ^ k) =
        ((flags S).drop (2 * B * 2 ^ k)).take (2 ^ k) := by
      rw [List.take_take, Nat.min_eq_left (by omega), e0]
    have hR : (((flags S).drop (B * 2 ^ (k + 1))).take (2 ^ (k + 1))).drop (2 ^ k) =
        ((flags S).drop ((2 * B + 1) * 2 ^ k)).take (2 ^ k) := by
      rw [List.drop_take, List.drop_drop, e1, show 2 ^ (k + 1) - 2 ^ k = 2 ^ k by omega]
    rw [chunkPos]
    simp only [hL, hR, any_flags_chunk]
    rw [fpos_top]
    simp only [Nat.zero_add]
    by_cases hlt : i < 2 ^ k
    · have hslot : B * 2 ^ (k + 1) + i = 2 * B * 2 ^ k + i := by rw [e0]
      have hdiv : (B * 2 ^ (k + 1) + i) / 2 ^ k = 2 * B := by
        rw [hslot, Nat.add_comm, Nat.add_mul_div_right _ _ hpos, Nat.div_eq_of_lt hlt, Nat.zero_add]
      have hal : chunkAlive S k (2 * B) = true :=
        chunkAlive_of_slot S k (2 * B) _ x hx (by omega) (by rw [Nat.add_mul, Nat.one_mul]; omega)
      have hsib := Movement.sibIdx_even B
      rw [if_pos hlt, hal, hdiv]
      simp only [Bool.not_true, Bool.false_eq_true, if_false, childTop, hsib]
      rw [hslot] at hx ⊢
      cases hr : chunkAlive S k (2 * B + 1)
      · simp only [Bool.false_eq_true, if_false]
        exact ih (2 * B) i top x hlt hx
      · simp only [if_true]
        have := ih (2 * B) i (top.1 - 1, 2 * top.2) x hlt hx
        simp only at this
        rw [this]
        simp
    · have hslot : B * 2 ^ (k + 1) + i = (2 * B + 1) * 2 ^ k + (i - 2 ^ k) := by
        rw [← e1]; omega
      have hi' : i - 2 ^ k < 2 ^ k := by omega
      have hdiv : (B * 2 ^ (k + 1) + i) / 2 ^ k = 2 * B + 1 := by
        rw [hslot, Nat.add_comm, Nat.add_mul_div_right _ _ hpos, Nat.div_eq_of_lt hi', Nat.zero_add]
      rw [hslot] at hx ⊢
      have hal : chunkAlive S k (2 * B + 1) = true :=
        chunkAlive_of_slot S k (2 * B + 1) _ x hx (by omega) (by rw [Nat.add_mul (2 * B + 1) 1, Nat.one_mul]; omega)
      have hsib := Movement.sibIdx_odd B
      rw [if_neg hlt, hal]
      rw [← hslot, hdiv, hslot]
      simp only [Bool.not_true, Bool.false_eq_true, if_false, childTop, hsib]
      cases hr : chunkAlive S k (2 * B)
      · simp only [Bool.false_eq_true, if_false]
        exact ih (2 * B + 1) (i - 2 ^ k) top x hi' hx
      · simp only [if_true]
        have := ih (2 * B + 1) (i - 2 ^ k) (top.1 - 1, 2 * top.2 + 1) x hi' hx
        simp only at this
        rw [this]
        have : (2 * B + 1) % 2 = 1 := by omega
        simp [this]

theorem slotPos_flags {S : List (Option Nat)} {s : Nat} (hn : S.length < 2 ^ 64) (hl : Live S s) :
    slotPos (flags S) s = some (posS S s) := by
  have hs : s < S.length := SchedLives.live_lt hl
  obtain ⟨T, hf, hin⟩ := find_tree hn hs
  have hlen : (flags S).length = S.length := by simp [flags]
  have h4 := (inTree_iff_range hin.1).2 hin
  have e := div_mul_pow_succ S.length T
  rw [Spec.treeStart_eq, e] at h4
  unfold slotPos
  simp only [hlen]
  rw [hf]
  simp only
  rw [posS_eq hn hin, rootPos_eq, Spec.treeStart_eq, e]
  have hadd : 2 * (S.length / 2 ^ (T + 1)) * 2 ^ T + (s - 2 * (S.length / 2 ^ (T + 1)) * 2 ^ T) = s := by
    omega
  have := chunkPos_fpos S T (2 * (S.length / 2 ^ (T + 1)))
    (s - 2 * (S.length / 2 ^ (T + 1)) * 2 ^ T) (T, 2 * (S.length / 2 ^ (T + 1))) s (by omega)
    (by rw [hadd]; exact hl)
  rw [hadd] at this
  simp only at this
  rw [this]
  unfold nodePos
  rw [Nat.sub_zero]

private theorem filterMap_sorted : ∀ (S : List (Option Nat)) (k : Nat),
    (∀ (i x : Nat), S[i]? = some (some x) → x = k + i) →
    (S.filterMap id).Pairwise (· < ·) ∧ ∀ x ∈ S.filterMap id, k ≤ x := by
  intro S
  induction S with
  | nil => intro k _; simp
  | cons a t ih =>
    intro k h
    have ht := ih (k + 1) (by
      intro i x hi
      have := h (i + 1) x (by simpa using hi)
      omega)
    cases a with
    | none =>
      simp only [List.filterMap_cons_none, id]
      exact ⟨ht.1, fun x hx => by have := ht.2 x hx; omega⟩
    | some y =>
      have hy : y = k := by simpa using h 0 y (by simp)
      subst hy
      rw [List.filterMap_cons_some (f := id) (a := some y) (b := y) rfl]
      refine ⟨List.pairwise_cons.2 ⟨fun x hx => by have := ht.2 x hx; omega, ht.1⟩, ?_⟩
      intro x hx
      rcases List.mem_cons.1 hx with rfl | hx
      · exact Nat.le_refl _
      · have := ht.2 x hx; omega

theorem liveLeaves_nodup {S : List (Option Nat)} (hc : Canon S) : (Forest.mk S).liveLeaves.Nodup := by
  have := (filterMap_sorted S 0 (by intro i x hi; have := hc i x hi; omega)).1
  unfold Forest.liveLeaves
  exact this.imp (fun h => Nat.ne_of_lt h)

theorem mem_liveLeaves {S : List (Option Nat)} (hc : Canon S) (s : Nat) :
    s ∈ (Forest.mk S).liveLeaves ↔ Live S s := by
  rw [Spec.Forest.mem_liveLeaves]
  simp only
  unfold Live
  constructor
  · intro h
    obtain ⟨i, hi⟩ := List.mem_iff_getElem?.1 h
    have := hc i s hi
    subst this
    exact hi
  · intro h
    exact List.mem_iff_getElem?.2 ⟨s, h⟩

theorem posOf_eq {S : List (Option Nat)} {s : Nat} (hn : S.length < 2 ^ 64) (hc : Canon S)
    (hl : Live S s) : (Forest.mk S).posOf s = some (posS S s) := by
  have hin := treeOf_spec hn (SchedLives.live_lt hl)
  have hch : chunk S 0 s = some (.leaf s) := by
    rw [chunk_zero]
    unfold Live at hl
    rw [hl]
  have hsub := subAtT_of_chunk S hn hin hch
  have hmem := hsub.node_mem
  rw [posOf_eq_some_iff (F := Forest.mk S) hn (liveLeaves_nodup hc)]
  exact hmem

/-- `posS S s` is a position of the forest for every slot `s < S.length`, live or not (it is the
place of leaf `s` after the collapse of its dead siblings); `Live` is asked where the position has
to be that of the leaf itself (`slotPos_flags`, `posOf_eq`) -/
theorem posS_valid {S : List (Option Nat)} {s : Nat} (hn : S.length ≤ 2 ^ 63) (hs : s < S.length) :
    UtreexoVerif.Proofs.ValidH 63 (posS S s) ∧
      UtreexoVerif.Proofs.ValidH (forestRows S.length) (posS S s) := by
  have hn' : S.length < 2 ^ 64 := by omega
  have hin := treeOf_spec hn' hs
  have h1 := nodePos_valid S (R := 63) s hn hin.1 (Nat.zero_le _)
  have h2 := nodePos_valid S (R := forestRows S.length) s
    (forestRows_spec_le _) hin.1 (Nat.zero_le _)
  unfold ValidH posS
  exact ⟨⟨by omega, h1.2.2.2⟩, ⟨by omega, h2.2.2.2⟩⟩

private def exS : List (Option Nat) := [some 0, none, some 2, some 3, none, some 5, some 6]

private theorem exCanon : Canon exS := SchedLives.canon_of_all (by decide)

private theorem exLive : exS.length < 2 ^ 64 ∧ Live exS 0 ∧ Live exS 2 ∧ Live exS 5 ∧ Live exS 6 := by
  unfold Live; decide
example : Spec.inTree exS.length (treeOf exS.length 5) 0 5 ∧ treeOf exS.length 5 = 1 := by
  unfold Spec.inTree; decide
/-- slot 0 moved up (its sibling slot 1 is dead), slot 5 is the collapsed root of its tree -/
example : slotPos (flags exS) 0 = some (1, 0) ∧ posS exS 0 = (1, 0) ∧
    slotPos (flags exS) 2 = some (0, 2) ∧ posS exS 2 = (0, 2) ∧
    slotPos (flags exS) 5 = some (1, 2) ∧ posS exS 5 = (1, 2) ∧
    slotPos (flags exS) 6 = some (0, 6) ∧ posS exS 6 = (0, 6) := by decide
example : slotPos (flags exS) 5 = some (posS exS 5) := slotPos_flags (by decide) exLive.2.2.2.1
example : (Forest.mk exS).posOf 5 = some (posS exS 5) := posOf_eq (by decide) exCanon exLive.2.2.2.1
example : (Forest.mk exS).posOf 5 = some (1, 2) ∧ (Forest.mk exS).liveLeaves = [0, 2, 3, 5, 6] := by
  decide
example : CalcGeo.Valid 63 (posS exS 5) ∧ CalcGeo.Valid (forestRows exS.length) (posS exS 5) :=
  posS_valid (by decide) (by decide)

end UtreexoVerif.Proofs.SchedPos
