/-
  Pointer forest, heap model: `undoSingleAdd` / the `undoSingleAdd` loop of `Undo` at forest
  level.

  Undoing an addition cannot bring back the EMPTY roots the addition skipped (that is the job of
  `undoEmptyRoots`): `AbsE p G` = "`p` represents `G` up to missing empty roots".
-/
import UtreexoVerif.Proofs.PollardHeapUndoAdd
import UtreexoVerif.Proofs.PollardHeapDelAbs
import UtreexoVerif.Props.C16d
set_option linter.unusedSectionVars false

namespace UtreexoVerif.Proofs.PollardHeap
open UtreexoVerif.Model UtreexoVerif.Model.PollardHeap UtreexoVerif.Spec Hasher
open UtreexoVerif.Proofs.SpecView

variable {H : Type} [DecidableEq H] [Hasher H]

/-- `DropEmpty ts ts'`: `ts'` is `ts` with some of its `none` entries (empty roots) left out -/
inductive DropEmpty : List (Option (CTree H)) → List (Option (CTree H)) → Prop
  | nil : DropEmpty [] []
  | keep (t : Option (CTree H)) {ts ts' : List (Option (CTree H))} :
      DropEmpty ts ts' → DropEmpty (t :: ts) (t :: ts')
  | drop {ts ts' : List (Option (CTree H))} : DropEmpty ts ts' → DropEmpty (none :: ts) ts'

theorem DropEmpty.refl : ∀ ts : List (Option (CTree H)), DropEmpty ts ts
  | [] => .nil
  | t :: ts => .keep t (DropEmpty.refl ts)

theorem DropEmpty.append {a a' b b' : List (Option (CTree H))} (h1 : DropEmpty a a')
    (h2 : DropEmpty b b') : DropEmpty (a ++ b) (a' ++ b') := by
  induction h1 with
  | nil => exact h2
  | keep t _ ih => exact .keep t ih
  | drop _ ih => exact .drop ih

theorem DropEmpty.filter : ∀ ts : List (Option (CTree H)), DropEmpty ts (ts.filter (·.isSome))
  | [] => .nil
  | none :: ts => by simpa using DropEmpty.drop (DropEmpty.filter ts)
  | some t :: ts => by simpa using DropEmpty.keep (some t) (DropEmpty.filter ts)

theorem DropEmpty.snoc_some_inv : ∀ {a : List (Option (CTree H))} {m : CTree H}
    {c : List (Option (CTree H))}, DropEmpty (a ++ [some m]) c →
    ∃ a', c = a' ++ [some m] ∧ DropEmpty a a' := by
  intro a
  induction a with
  | nil =>
    intro m c h
    cases h with
    | keep _ h' => cases h'; exact ⟨[], rfl, .nil⟩
  | cons t a ih =>
    intro m c h
    cases h with
    | keep _ h' =>
      obtain ⟨a', e, d⟩ := ih h'
      exact ⟨t :: a', by rw [e]; rfl, .keep t d⟩
    | drop h' =>
      obtain ⟨a', e, d⟩ := ih h'
      exact ⟨a', e, .drop d⟩

/-- `p` represents `G` up to missing empty roots -/
structure AbsE (p : Pollard H) (G : Forest H) : Prop where
  numLeaves : p.numLeaves.toNat = G.numLeaves
  repr : ∃ ts' owned lv, DropEmpty (G.trees.map (·.2)) ts' ∧
    ReprRoots p.heap p.roots ts' owned lv ∧ owned.Nodup ∧ MapOK p.nodeMap lv

theorem Abs.toAbsE {p : Pollard H} {G : Forest H} (a : Abs p G) : AbsE p G := by
  obtain ⟨h1, owned, lv, h2, h3, h4⟩ := a
  exact ⟨h1, _, owned, lv, DropEmpty.refl _, h2, h3, h4⟩

/-- `undoSingleAdd`, heap and roots only: `NodeMap` loses `x` and the keys `ks` of the roots that
were split, all parent hashes; what it looked like before is left to the callers. -/
theorem undoSingleAdd_core {hp : Heap H} (nm : List (H × Nat)) {rs : List Nat} {nl : U64} (ndl : U64)
    (full : Bool) {G : Forest H} {x : H} {ts' : List (Option (CTree H))} {owned : List Nat}
    {lv : List (H × Nat)} (hnl : nl.toNat = (G.add x).numLeaves)
    (hdrop : DropEmpty ((G.add x).trees.map (·.2)) ts') (hrepr : ReprRoots hp rs ts' owned lv)
    (hnd : owned.Nodup) (hn : G.numLeaves + 1 < 2 ^ 63) :
    ∃ (hp' : Heap H) (rs' : List Nat) (ts'' : List (Option (CTree H))) (owned' : List Nat)
      (lv' : List (H × Nat)) (ks : List H) (Mx : Nat),
      undoSingleAdd ⟨hp, nm, rs, nl, ndl, full⟩ =
        (.ok (), ⟨hp', (ks ++ [x]).foldl mapDel nm, rs', BitVec.ofNat 64 G.numLeaves, ndl, full⟩) ∧
      DropEmpty (G.trees.map (·.2)) ts'' ∧ ReprRoots hp' rs' ts'' owned' lv' ∧ owned'.Nodup ∧
      lv = lv' ++ [(x, Mx)] ∧ (∀ k ∈ ks, ∃ u v : H, k = ph u v) := by
  -- the trees of `G.add x`: the `t` lowest trees `lo` of `G` merged with the new leaf on row `t`
  have h63 : G.numLeaves < 2 ^ 63 := Nat.lt_of_succ_lt hn
  obtain ⟨t, hi, lo, tr, ht, eG, hlo, eadd⟩ := trees_add_split G x (Nat.lt_trans h63 (by decide))
  have ht63 : t ≤ 63 := tr.le_of_lt h63
  rw [eadd, List.map_append] at hdrop
  simp only [List.map_cons, List.map_nil] at hdrop
  obtain ⟨hi', ets, dhi⟩ := hdrop.snoc_some_inv
  rw [ets] at hrepr
  obtain ⟨rsHigh, rsLow, oHigh, oLow, lHigh, lLow, e1, e2, e3, hHigh, hLow⟩ := hrepr.append_inv
  obtain ⟨M, fp, e4, e5, hM⟩ := hLow.single_inv
  subst e1 e2 e3 e4 e5
  have hRM : RootRepr hp M _ fp lLow := hM
  have ndM := (List.nodup_append.1 hnd).2.1
  have hN : nl = BitVec.ofNat 64 (G.numLeaves + 1) := by
    rw [← numLeaves_add G x, ← hnl]; simp
  have hT : TreeRows nl = H8 (forestRows (G.numLeaves + 1)) := by rw [hN]; exact treeRows_eq hn
  have hrows : forestRows (G.numLeaves + 1) ≤ 63 := forestRows_le_63 hn
  have hbit : nl.toNat.testBit t = true := by rw [hnl, numLeaves_add]; exact tr.succ_at
  have hlow : ∀ j, j < t → nl.toNat.testBit j = false := fun j hj => by
    rw [hnl, numLeaves_add]; exact tr.succ_low hj
  have htrows : t ≤ forestRows (G.numLeaves + 1) := by
    have := testBit_le_forestRows hbit
    rwa [hnl, numLeaves_add] at this
  have hlowest : getLowestRoot nl (TreeRows nl) = H8 t := by
    rw [hT]; exact Props.C16.getLowestRoot_found nl hrows htrows hbit hlow
  obtain ⟨hp', rsNew, owned', lv', ks, Mx, g1, g2, g3, g4, g5, g6, g7, g8⟩ :=
    undoAddLoop_spec x (lo.map (·.2)) hp nm rsHigh nl ndl
      full M fp lLow (t + 1) hRM ndM (by rw [List.length_map, hlo]; exact Nat.le_refl _)
  have hsub : BitVec.ofNat 64 G.numLeaves = nl - 1#64 := by
    rw [hN, BitVec.ofNat_add, BitVec.add_sub_cancel]
  obtain ⟨hr', hnd'⟩ := hHigh.replace_suffix hnd g2 g3 (fun i hi => Or.inl (g4 i hi))
    (fun i _ hi => g7 i hi)
  refine ⟨hp', rsHigh ++ rsNew, hi' ++ (lo.map (·.2)).filter (·.isSome),
    oHigh ++ owned', lHigh ++ lv', ks, Mx, ?_, ?_, hr', hnd', by rw [g5, List.append_assoc], g6⟩
  · unfold Model.PollardHeap.undoSingleAdd
    simp only [bind_apply, getNumLeaves_apply, hlowest, toNat_H8 ht63, g1, modifyS_apply, hsub]
  · rw [eG, List.map_append]
    exact dhi.append (DropEmpty.filter _)

/-- one `undoSingleAdd` on the EXACT `NodeMap` clause (needs `hsep`): what
`Props.PollardHeapB.undoSingleAdd_refines` states; `undo_abs` goes by the weak clause
(`PollardHeapUndoAddsW.lean`), which asks nothing of the added leaves -/
theorem undoSingleAdd_absE {p : Pollard H} {G : Forest H} {x : H} (a : AbsE p (G.add x))
    (hn : G.numLeaves + 1 < 2 ^ 63)
    (hsep : ∀ e ∈ p.nodeMap, ∀ u v : H, e.1 ≠ ph u v) :
    ∃ hp' nm' rs', undoSingleAdd p =
        (.ok (), ⟨hp', nm', rs', BitVec.ofNat 64 G.numLeaves, p.numDels, p.full⟩) ∧
      AbsE ⟨hp', nm', rs', BitVec.ofNat 64 G.numLeaves, p.numDels, p.full⟩ G ∧
      (∀ e ∈ nm', e ∈ p.nodeMap) := by
  obtain ⟨hp, nm, rs, nl, ndl, full⟩ := p
  obtain ⟨hnl, ts', owned, lv, hdrop, hrepr, hnd, hmk, hmm⟩ := a
  simp only at hnl hrepr hmk hmm hsep
  obtain ⟨hp', rs', ts'', owned', lv', ks, Mx, hex, hdrop', hrepr', hnd', elv, hks⟩ :=
    undoSingleAdd_core nm ndl full hnl hdrop hrepr hnd hn
  have hlvk : (lv.map (·.1)).Nodup := hrepr.keys_nodup hnd ⟨hmk, hmm⟩
  rw [elv, List.map_append, List.nodup_append] at hlvk
  refine ⟨hp', _, rs', hex, ⟨by simp [toNat_ofNat64_of_lt (Nat.lt_trans (Nat.lt_of_succ_lt hn) (by decide))],
    ts'', owned', lv', hdrop', hrepr', hnd', foldl_mapDel_keys_nodup _ _ hmk, fun e => ?_⟩,
    fun e he => ((mem_foldl_mapDel _ _ _).1 he).1⟩
  show e ∈ (ks ++ [x]).foldl mapDel nm ↔ e ∈ lv'
  rw [mem_foldl_mapDel, hmm e, elv]
  simp only [List.mem_append, List.mem_singleton, not_or]
  constructor
  · rintro ⟨h | h, _, h3⟩
    · exact h
    · subst h; exact absurd rfl h3
  · intro h1
    refine ⟨Or.inl h1, fun hk => ?_, fun hx => ?_⟩
    · obtain ⟨u, v, huv⟩ := hks e.1 hk
      exact hsep e ((hmm e).2 (by rw [elv]; exact List.mem_append_left _ h1)) u v huv
    · exact hlvk.2.2 e.1 (List.mem_map_of_mem h1) x (by simp) hx

theorem undoAdds_iter (P : Pollard H → Forest H → Prop) (Q : H → Prop)
    (hnum : ∀ p G, P p G → p.numLeaves.toNat = G.numLeaves)
    (step : ∀ (p : Pollard H) (G : Forest H) (x : H), P p (G.add x) → Q x → G.numLeaves + 1 < 2 ^ 63 →
      ∃ hp' nm' rs', undoSingleAdd p =
          (.ok (), ⟨hp', nm', rs', BitVec.ofNat 64 G.numLeaves, p.numDels, p.full⟩) ∧
        P ⟨hp', nm', rs', BitVec.ofNat 64 G.numLeaves, p.numDels, p.full⟩ G) :
    ∀ (k : Nat) (adds : List H) (G : Forest H) (p : Pollard H),
    adds.length = k → (∀ x ∈ adds, Q x) → P p (G.addMany adds) → G.numLeaves + adds.length < 2 ^ 63 →
    ∃ hp' nm' rs', undoAdds k p = (.ok (), ⟨hp', nm', rs', p.numLeaves - BitVec.ofNat 64 k,
        p.numDels, p.full⟩) ∧
      P ⟨hp', nm', rs', p.numLeaves - BitVec.ofNat 64 k, p.numDels, p.full⟩ G := by
  intro k
  induction k with
  | zero =>
    intro adds G p hk _ a hn
    have : adds = [] := List.length_eq_zero_iff.mp hk
    subst this
    refine ⟨p.heap, p.nodeMap, p.roots, ?_, ?_⟩
    · simp [undoAdds]
    · simpa [addMany_nil] using a
  | succ k ih =>
    intro adds G p hk hQ a hn
    obtain ⟨init, x, rfl, hinit⟩ := snoc_of_length hk
    have hnl := hnum _ _ a
    rw [addMany_snoc] at a
    simp only [List.length_append, List.length_cons, List.length_nil] at hn
    obtain ⟨hp1, nm1, rs1, e1, a1⟩ := step p _ x a (hQ x (by simp)) (by rw [numLeaves_addMany]; exact hn)
    rw [numLeaves_addMany, List.length_append, List.length_cons, List.length_nil] at hnl
    obtain ⟨hp2, nm2, rs2, e2, a2⟩ := ih init G _ hinit (fun y hy => hQ y (by simp [hy])) a1 (Nat.lt_of_succ_lt hn)
    simp only at e2 a2
    have hsub : BitVec.ofNat 64 (G.addMany init).numLeaves - BitVec.ofNat 64 k =
        p.numLeaves - BitVec.ofNat 64 (k + 1) := by
      have hp : p.numLeaves = BitVec.ofNat 64 G.numLeaves + BitVec.ofNat 64 (k + 1) := by
        rw [← BitVec.ofNat_add]
        apply BitVec.eq_of_toNat_eq
        rw [hnl, hinit, BitVec.toNat_ofNat, Nat.mod_eq_of_lt (Nat.lt_trans (hinit ▸ hn) (by decide))]
      rw [numLeaves_addMany, hinit, BitVec.ofNat_add, BitVec.add_sub_cancel, hp, BitVec.add_sub_cancel]
    rw [hsub] at e2 a2
    refine ⟨hp2, nm2, rs2, ?_, a2⟩
    show (undoSingleAdd >>= fun _ => undoAdds k) p = _
    simp only [bind_apply, e1]
    exact e2

/-- the loop for the exact `NodeMap` clause; the invariant remembers that `NodeMap` only shrinks -/
theorem undoAdds_absE : ∀ (k : Nat) (adds : List H) (G : Forest H) (p : Pollard H),
    adds.length = k → AbsE p (G.addMany adds) → G.numLeaves + adds.length < 2 ^ 63 →
    (∀ e ∈ p.nodeMap, ∀ u v : H, e.1 ≠ ph u v) →
    ∃ hp' nm' rs', undoAdds k p = (.ok (), ⟨hp', nm', rs', p.numLeaves - BitVec.ofNat 64 k,
        p.numDels, p.full⟩) ∧
      AbsE ⟨hp', nm', rs', p.numLeaves - BitVec.ofNat 64 k, p.numDels, p.full⟩ G ∧
      (∀ e ∈ nm', e ∈ p.nodeMap) := by
  intro k adds G p hk a hn hsep
  exact undoAdds_iter (fun q G' => AbsE q G' ∧ ∀ e ∈ q.nodeMap, e ∈ p.nodeMap) (fun _ => True)
    (fun _ _ h => h.1.numLeaves)
    (fun q G' x h _ hn' => by
      obtain ⟨hp', nm', rs', e, a', s⟩ := undoSingleAdd_absE h.1 hn' (fun e he => hsep e (h.2 e he))
      exact ⟨hp', nm', rs', e, a', fun e he => h.2 e (s e he)⟩)
    k adds G p hk (fun _ _ => trivial) ⟨a, fun _ he => he⟩ hn

end UtreexoVerif.Proofs.PollardHeap
