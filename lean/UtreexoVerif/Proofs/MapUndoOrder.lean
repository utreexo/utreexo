/-
  Which empty roots of a forest each addition of a block overwrites (specification side, for
  `Undo`): `destroyed G k` lists the rows of the empty roots of `G` that `k` additions overwrite,
  `newRows G k` those that the `(k+1)`-th addition overwrites.
-/
import UtreexoVerif.Proofs.PForestAdd
import UtreexoVerif.Proofs.Digits
import UtreexoVerif.Proofs.MapUndoRoots

namespace UtreexoVerif.Proofs.MapUndoOrder
open Spec Spec.Forest MapInv PForestSpec Hasher
set_option linter.unusedSectionVars false
variable {H : Type} [DecidableEq H] [Hasher H]

/-- the tree on row `h` of `G` has no live leaf -/
def deadB (G : Forest H) (h : Nat) : Bool :=
  (collapse h ((G.slots.drop (treeStart G.numLeaves h)).take (2 ^ h))).isNone

/-- rows (highest first) of the empty roots of `G` that `k` additions overwrite -/
def destroyed (G : Forest H) (k : Nat) : List Nat :=
  (treeRows G.numLeaves).filter (fun h =>
    deadB G h && decide ((G.numLeaves / 2 ^ (h + 1) + 1) * 2 ^ (h + 1) ≤ G.numLeaves + k))

/-- rows (highest first) of the empty roots of `G` that the `(k+1)`-th addition overwrites -/
def newRows (G : Forest H) (k : Nat) : List Nat :=
  (treeRows G.numLeaves).filter (fun h =>
    deadB G h && decide ((G.numLeaves / 2 ^ (h + 1) + 1) * 2 ^ (h + 1) = G.numLeaves + k + 1))


theorem filter_split {R : Nat → Nat → Prop} (p q : Nat → Bool) :
    ∀ (L : List Nat), L.Pairwise R → (∀ a b, R a b → ¬ (p a = true ∧ q b = true)) →
      (∀ a, ¬ (p a = true ∧ q a = true)) →
      L.filter (fun a => p a || q a) = L.filter q ++ L.filter p := by
  intro L
  induction L with
  | nil => intros; rfl
  | cons a L ih =>
    intro hpw hR hd
    rw [List.pairwise_cons] at hpw
    have ih' := ih hpw.2 hR hd
    by_cases hpa : p a = true
    · have hqa : q a = false := by
        cases hq : q a
        · rfl
        · exact absurd ⟨hpa, hq⟩ (hd a)
      have hnil : L.filter q = [] := by
        rw [List.filter_eq_nil_iff]
        intro b hb hqb
        exact hR a b (hpw.1 b hb) ⟨hpa, hqb⟩
      rw [List.filter_cons, List.filter_cons, List.filter_cons, ih']
      simp [hpa, hqa, hnil]
    · have hpa' : p a = false := by simpa using hpa
      rw [List.filter_cons, List.filter_cons, List.filter_cons, ih']
      cases hq : q a <;> simp [hpa']

/-- the rows overwritten by the `(k+1)`-th addition lie above all rows overwritten earlier -/
theorem destroyed_succ (G : Forest H) (k : Nat) : destroyed G (k + 1) = newRows G k ++ destroyed G k := by
  unfold destroyed newRows
  rw [← filter_split (R := fun a b => a > b) _ _ _ (CalcComplete.treeRows_sorted _)]
  · apply List.filter_congr
    intro h _
    cases deadB G h
    · simp
    · simp only [Bool.true_and, ← Bool.decide_or, decide_eq_decide]
      omega
  · intro a b hab ⟨h1, h2⟩
    simp only [Bool.and_eq_true, decide_eq_true_eq] at h1 h2
    have := reach_mono G.numLeaves (Nat.le_of_lt hab)
    unfold reach at this
    omega
  · intro a ⟨h1, h2⟩
    simp only [Bool.and_eq_true, decide_eq_true_eq] at h1 h2
    omega

theorem destroyed_zero (G : Forest H) : destroyed G 0 = [] := by
  unfold destroyed
  rw [List.filter_eq_nil_iff]
  intro h _
  have := reach_gt G.numLeaves h
  unfold reach at this
  simp only [Bool.and_eq_true, decide_eq_true_eq, Nat.add_zero, not_and]
  intro _
  omega


omit [DecidableEq H] [Hasher H] in
theorem mem_drop_take {α : Type} (l : List α) (s w : Nat) (a : α) :
    a ∈ (l.drop s).take w ↔ ∃ j, s ≤ j ∧ j < s + w ∧ l[j]? = some a := by
  rw [List.mem_iff_getElem?]
  constructor
  · rintro ⟨i, hi⟩
    rw [List.getElem?_take] at hi
    split at hi
    · rw [List.getElem?_drop] at hi
      exact ⟨s + i, by omega, by omega, hi⟩
    · cases hi
  · rintro ⟨j, h1, h2, h3⟩
    refine ⟨j - s, ?_⟩
    rw [List.getElem?_take, if_pos (by omega), List.getElem?_drop]
    rw [show s + (j - s) = j by omega]
    exact h3

def DeadR (l : List (Option H)) (s w : Nat) : Prop := ∀ x : H, some x ∉ (l.drop s).take w

omit [DecidableEq H] [Hasher H] in
theorem deadR_iff (l : List (Option H)) (s w : Nat) :
    DeadR l s w ↔ ∀ j x, s ≤ j → j < s + w → l[j]? ≠ some (some x) := by
  unfold DeadR
  constructor
  · intro h j x h1 h2 h3
    exact h x ((mem_drop_take l s w _).2 ⟨j, h1, h2, h3⟩)
  · intro h x hx
    obtain ⟨j, h1, h2, h3⟩ := (mem_drop_take l s w _).1 hx
    exact h j x h1 h2 h3

omit [DecidableEq H] [Hasher H] in
theorem deadR_append (A : List (Option H)) (B : List H) {s w : Nat} (hw : 0 < w)
    (hlen : s + w ≤ A.length + B.length) :
    DeadR (A ++ B.map some) s w ↔ s + w ≤ A.length ∧ DeadR A s w := by
  rw [deadR_iff, deadR_iff]
  constructor
  · intro h
    have hle : s + w ≤ A.length := by
      apply Nat.le_of_not_lt
      intro hc
      exfalso
      have hj : s + w - 1 - A.length < B.length := by omega
      refine h (s + w - 1) (B[s + w - 1 - A.length]) (by omega) (by omega) ?_
      rw [List.getElem?_append_right (by omega), List.getElem?_map, List.getElem?_eq_getElem hj]
      rfl
    refine ⟨hle, ?_⟩
    intro j x h1 h2 h3
    refine h j x h1 h2 ?_
    rw [List.getElem?_append_left (by omega)]
    exact h3
  · rintro ⟨hle, h⟩ j x h1 h2 h3
    rw [List.getElem?_append_left (by omega)] at h3
    exact h j x h1 h2 h3

theorem deadB_iff_deadR (G : Forest H) (h : Nat) :
    deadB G h = true ↔ DeadR G.slots (treeStart G.numLeaves h) (2 ^ h) := by
  unfold deadB DeadR
  rw [Option.isNone_iff_eq_none, collapse_eq_none_iff, List.take_take, Nat.min_self]

omit [DecidableEq H] [Hasher H] in
theorem treeStart_trailing {t n i : Nat} (tr : Trail n t) (hi : i < t) :
    treeStart n i + 2 ^ (i + 1) = n + 1 := by
  have := tr.succ_div_mul hi
  rw [Nat.add_mul, Nat.one_mul] at this
  rw [treeStart_eq]; exact this

theorem testBit_of_range {q i m : Nat} (h1 : q * 2 ^ (i + 1) + 2 ^ i ≤ m)
    (h2 : m < q * 2 ^ (i + 1) + 2 ^ (i + 1)) : m.testBit i = true := by
  rw [Nat.pow_succ, Nat.mul_comm (2 ^ i) 2, ← Nat.mul_assoc] at h1 h2
  have : m / 2 ^ i = q * 2 + 1 := Nat.div_eq_of_lt_le (by rw [Nat.add_mul, Nat.one_mul]; exact h1)
    (by rw [Nat.add_mul, Nat.add_mul, Nat.one_mul]; omega)
  rw [Nat.testBit_eq_decide_div_mod_eq, this, Nat.mul_add_mod_self_right]
  rfl

theorem rootPos_inj {n m h i : Nat} (e : rootPos n h = rootPos m i) :
    h = i ∧ n / 2 ^ (i + 1) = m / 2 ^ (i + 1) := by
  unfold rootPos at e
  rw [Prod.mk.injEq] at e
  obtain ⟨e1, e2⟩ := e
  subst e1
  rw [Nat.shiftRight_eq_div_pow, Nat.shiftRight_eq_div_pow] at e2
  exact ⟨rfl, by omega⟩

theorem mem_ofForest_row {F : Forest H} {i : Nat} {o : Option (CTree H)} :
    (rootPos F.numLeaves i, o) ∈ ofForest F ↔ i ∈ treeRows F.numLeaves ∧
      o = collapse i ((F.slots.drop (treeStart F.numLeaves i)).take (2 ^ i)) := by
  rw [mem_ofForest]
  constructor
  · rintro ⟨h, hh, e⟩
    rw [Prod.mk.injEq] at e
    obtain ⟨e1, e2⟩ := e
    obtain ⟨e3, _⟩ := rootPos_inj e1
    subst e3
    exact ⟨hh, e2⟩
  · rintro ⟨hh, e⟩
    exact ⟨i, hh, by rw [e]⟩

theorem mem_newRows {G : Forest H} {k i : Nat} :
    i ∈ newRows G k ↔ i ∈ treeRows G.numLeaves ∧ DeadR G.slots (treeStart G.numLeaves i) (2 ^ i) ∧
      (G.numLeaves / 2 ^ (i + 1) + 1) * 2 ^ (i + 1) = G.numLeaves + k + 1 := by
  unfold newRows
  rw [List.mem_filter, Bool.and_eq_true, deadB_iff_deadR, decide_eq_true_eq]

theorem mem_destroyed {G : Forest H} {k i : Nat} :
    i ∈ destroyed G k ↔ i ∈ treeRows G.numLeaves ∧ DeadR G.slots (treeStart G.numLeaves i) (2 ^ i) ∧
      (G.numLeaves / 2 ^ (i + 1) + 1) * 2 ^ (i + 1) ≤ G.numLeaves + k := by
  unfold destroyed
  rw [List.mem_filter, Bool.and_eq_true, deadB_iff_deadR, decide_eq_true_eq]

theorem start_eq_of_reach {n0 n t i : Nat} (tr : Trail n t) (hi : i < t)
    (hr : (n0 / 2 ^ (i + 1) + 1) * 2 ^ (i + 1) = n + 1) :
    treeStart n0 i = treeStart n i ∧ n0 / 2 ^ (i + 1) = n / 2 ^ (i + 1) := by
  have hS := treeStart_trailing tr hi
  rw [treeStart_eq] at hS
  rw [Nat.add_mul, Nat.one_mul] at hr
  have e : n0 / 2 ^ (i + 1) * 2 ^ (i + 1) = n / 2 ^ (i + 1) * 2 ^ (i + 1) := by omega
  rw [treeStart_eq, treeStart_eq]
  exact ⟨e, Nat.eq_of_mul_eq_mul_right (Nat.two_pow_pos _) e⟩

theorem reach_of_le {n0 n t i : Nat} (tr : Trail n t) (hi : i < t)
    (hle : n0 ≤ n) (hs : treeStart n i + 2 ^ i ≤ n0) :
    n0.testBit i = true ∧ treeStart n0 i = treeStart n i ∧
      (n0 / 2 ^ (i + 1) + 1) * 2 ^ (i + 1) = n + 1 := by
  have hS := treeStart_trailing tr hi
  rw [treeStart_eq] at hS hs
  have hq : n0 / 2 ^ (i + 1) = n / 2 ^ (i + 1) := by
    apply Nat.div_eq_of_lt_le
    · have := Nat.two_pow_pos i; omega
    · rw [Nat.add_mul, Nat.one_mul]; omega
  refine ⟨testBit_of_range (q := n / 2 ^ (i + 1)) hs (by omega), ?_, ?_⟩
  · rw [treeStart_eq, treeStart_eq, hq]
  · rw [hq, Nat.add_mul, Nat.one_mul]; exact hS

theorem low_tree_none_iff (G : Forest H) (xs : List H) {t : Nat} (hn63 : G.numLeaves + xs.length < 2 ^ 63)
    (tr : Trail (G.numLeaves + xs.length) t) {i : Nat} (hi : i < t) :
    ((rootPos (G.numLeaves + xs.length) i, none) ∈ ofForest (G.addMany xs) ↔ i ∈ newRows G xs.length) ∧
    (i ∈ newRows G xs.length → rootPos (G.numLeaves + xs.length) i = rootPos G.numLeaves i) := by
  have hS := treeStart_trailing tr hi
  have hbit : (G.numLeaves + xs.length).testBit i = true := by
    exact tr.low i hi
  have hi63 : i < 63 := testBit_lt_of_lt hn63 hbit
  have hrow : i ∈ treeRows (G.numLeaves + xs.length) := mem_treeRows.2 ⟨by omega, hbit⟩
  have hpos : 0 < 2 ^ i := Nat.two_pow_pos i
  have hp : 2 ^ (i + 1) = 2 * 2 ^ i := two_pow_succ' _
  have hlen : G.slots.length = G.numLeaves := rfl
  have h1 : (rootPos (G.numLeaves + xs.length) i, none) ∈ ofForest (G.addMany xs) ↔
      DeadR (G.slots ++ xs.map some) (treeStart (G.numLeaves + xs.length) i) (2 ^ i) := by
    have := mem_ofForest_row (F := G.addMany xs) (i := i) (o := none)
    rw [eq_comm, collapse_eq_none_iff, List.take_take, Nat.min_self, numLeaves_addMany] at this
    rw [this]
    exact ⟨fun h => h.2, fun h => ⟨hrow, h⟩⟩
  refine ⟨?_, ?_⟩
  · rw [h1, deadR_append _ _ hpos (by rw [hlen]; omega), mem_newRows, hlen]
    constructor
    · rintro ⟨hle, hd⟩
      obtain ⟨hb, hts, hr⟩ := reach_of_le tr hi (Nat.le_add_right _ _) hle
      exact ⟨mem_treeRows.2 ⟨by omega, hb⟩, by rw [hts]; exact hd, hr⟩
    · rintro ⟨hrow0, hd, hr⟩
      obtain ⟨hts, _⟩ := start_eq_of_reach tr hi hr
      have := treeStart_add_le (mem_treeRows.1 hrow0).2
      rw [hts] at this hd
      exact ⟨this, hd⟩
  · intro hm
    obtain ⟨_, _, hr⟩ := mem_newRows.1 hm
    obtain ⟨_, hq⟩ := start_eq_of_reach tr hi hr
    unfold rootPos
    rw [Nat.shiftRight_eq_div_pow, Nat.shiftRight_eq_div_pow, hq]

theorem low_tree_some_ne (G : Forest H) (xs : List H) {t : Nat} (hn63 : G.numLeaves + xs.length < 2 ^ 63)
    (tr : Trail (G.numLeaves + xs.length) t) {i : Nat} (hi : i < t) {tr' : CTree H}
    (hsome : (rootPos (G.numLeaves + xs.length) i, some tr') ∈ ofForest (G.addMany xs)) :
    ∀ h ∈ destroyed G (xs.length + 1), rootPos G.numLeaves h ≠ rootPos (G.numLeaves + xs.length) i := by
  intro h hh e
  obtain ⟨e1, hq⟩ := rootPos_inj e
  subst e1
  obtain ⟨hrow0, hd, hr⟩ := mem_destroyed.1 hh
  have hS := treeStart_trailing tr hi
  rw [treeStart_eq, ← hq] at hS
  have hnew : h ∈ newRows G xs.length := by
    refine mem_newRows.2 ⟨hrow0, hd, ?_⟩
    rw [Nat.add_mul, Nat.one_mul]; omega
  have hnone := ((low_tree_none_iff G xs hn63 tr hi).1).2 hnew
  rw [← numLeaves_addMany G xs] at hnone hsome
  have e1 := (mem_ofForest_row.1 hnone).2
  have e2 := (mem_ofForest_row.1 hsome).2
  rw [← e2] at e1
  cases e1

theorem newRows_lt (G : Forest H) {k t : Nat} (tr : Trail (G.numLeaves + k) t) :
    ∀ h ∈ newRows G k, h < t := by
  intro h hh
  obtain ⟨_, _, hr⟩ := mem_newRows.1 hh
  -- the next count has digit `t` set, a multiple of `2 ^ (h + 1)` with `t ≤ h` has not
  have h1 := tr.succ_at
  rw [← hr, Nat.testBit_mul_two_pow] at h1
  apply Nat.lt_of_not_le
  intro hle
  rw [decide_eq_false (by omega)] at h1
  cases h1


theorem deadB_iff (nz : NZ H) (G : Forest H) (hn : G.numLeaves < 2 ^ 64) (hy : Hyg G) {h : Nat}
    (hb : G.numLeaves.testBit h = true) :
    deadB G h = true ↔ MapUndoRoots.DeadTree G h :=
  Option.isNone_iff_eq_none.trans (MapUndoRoots.deadTree_iff nz hy (SpecView.treeRows_mem_of_bit hn hb)).symm


namespace Example
open PForestAdd.Example

theorem crT : CR T where
  inj := by
    intro a b c d h
    simp only [Hasher.ph] at h
    injection h with h1 h2
    exact ⟨h1, h2⟩
  nonzero := by intro a b h; simp [Hasher.ph, Hasher.zero] at h

/-- 7 slots `[a, b, c, d, dead, dead, dead]`: the trees on rows 1 and 0 are empty roots -/
def G7 : Forest T := ⟨[some (T.l 1), some (T.l 2), some (T.l 3), some (T.l 4), none, none, none]⟩

/-- 5 dead slots: the trees on rows 2 and 0 are empty roots, overwritten by the 3rd resp. 1st addition -/
def G5 : Forest T := ⟨[none, none, none, none, none]⟩

example : destroyed G7 1 = [1, 0] := by decide
example : deadB G7 2 = false ∧ deadB G7 1 = true ∧ deadB G7 0 = true := by decide +kernel
example : destroyed G7 0 = [] ∧ destroyed G7 1 = [1, 0] ∧ newRows G7 0 = [1, 0] ∧ newRows G7 1 = [] := by
  decide +kernel
example : destroyed G5 0 = [] ∧ destroyed G5 1 = [0] ∧ destroyed G5 2 = [0] ∧ destroyed G5 3 = [2, 0] ∧
    newRows G5 0 = [0] ∧ newRows G5 1 = [] ∧ newRows G5 2 = [2] := by
  decide +kernel

/-- `destroyed_succ` on `G5`: the third addition overwrites row 2, above the earlier row 0 -/
example : destroyed G5 3 = [2] ++ [0] := by
  have := destroyed_succ G5 2
  rw [show newRows G5 2 = [2] by decide +kernel, show destroyed G5 2 = [0] by decide +kernel] at this
  exact this

/-- `low_tree_none_iff` on `G5` after two additions (`7 = 2^4 * 0 + (2^3 - 1)`), row 2: both sides hold -/
example : (rootPos (G5.numLeaves + [T.l 1, T.l 2].length) 2, none) ∈ ofForest (G5.addMany [T.l 1, T.l 2]) ∧
    2 ∈ newRows G5 [T.l 1, T.l 2].length ∧
    rootPos (G5.numLeaves + [T.l 1, T.l 2].length) 2 = rootPos G5.numLeaves 2 := by
  have h := low_tree_none_iff G5 [T.l 1, T.l 2] (t := 3) (by decide) (Trail.of_decomp 3 0) (i := 2) (by decide)
  have h2 : 2 ∈ newRows G5 [T.l 1, T.l 2].length := by decide +kernel
  exact ⟨h.1.2 h2, h2, h.2 h2⟩

/-- … row 1 (slots `[dead, l 1]`): both sides fail -/
example : ¬ (rootPos (G5.numLeaves + [T.l 1, T.l 2].length) 1, none) ∈ ofForest (G5.addMany [T.l 1, T.l 2]) ∧
    ¬ 1 ∈ newRows G5 [T.l 1, T.l 2].length := by
  have h := low_tree_none_iff G5 [T.l 1, T.l 2] (t := 3) (by decide) (Trail.of_decomp 3 0) (i := 1) (by decide)
  have h2 : ¬ 1 ∈ newRows G5 [T.l 1, T.l 2].length := by decide +kernel
  exact ⟨fun hm => h2 (h.1.1 hm), h2⟩

/-- `low_tree_some_ne` on `G5` after two additions, row 1: its hypotheses hold, and `destroyed` is
non-empty -/
example : (∀ h ∈ destroyed G5 ([T.l 1, T.l 2].length + 1),
      rootPos G5.numLeaves h ≠ rootPos (G5.numLeaves + [T.l 1, T.l 2].length) 1) ∧
    destroyed G5 ([T.l 1, T.l 2].length + 1) = [2, 0] :=
  ⟨low_tree_some_ne G5 [T.l 1, T.l 2] (t := 3) (by decide) (Trail.of_decomp 3 0) (i := 1) (by decide)
    (tr' := CTree.leaf (T.l 1)) (by decide +kernel), by decide +kernel⟩

example : ∀ h ∈ newRows G5 2, h < 3 := newRows_lt G5 (k := 2) (t := 3) (Trail.of_decomp 3 0)

theorem hyg_G7 : Hyg G7 where
  nodup := by decide
  nz := by
    intro x hx
    simp [G7, Forest.liveLeaves] at hx
    rcases hx with rfl | rfl | rfl | rfl <;> simp [Hasher.zero]
  nph := by
    intro x hx a b
    simp [G7, Forest.liveLeaves] at hx
    rcases hx with rfl | rfl | rfl | rfl <;> simp [Hasher.ph]

/-- `deadB_iff` on `G7`: row 1 is an empty root (both sides hold), row 2 is not (both fail) -/
example : (rootPos G7.numLeaves 1, (zero : T), false) ∈ G7.nodes ∧
    ¬ (rootPos G7.numLeaves 2, (zero : T), false) ∈ G7.nodes :=
  ⟨(deadB_iff crT.toNZ G7 (by decide) hyg_G7 (h := 1) (by decide)).1 (by decide +kernel),
   fun hm => absurd ((deadB_iff crT.toNZ G7 (by decide) hyg_G7 (h := 2) (by decide)).2 hm) (by decide +kernel)⟩

end Example

end UtreexoVerif.Proofs.MapUndoOrder
