/-
  The binary digits of the leaf count at its low end: `trailingOnes n` one digits, then a zero
  (`Trail n k`).  Adding a leaf carries through exactly these digits, so the trees of `n` and of
  `n + 1` leaves differ there and nowhere else (`Trail.treeRows`, over `hiRows n k`, the rows above `k`
  that carry a tree).  Also `reach n h`, the leaf count at which the tree on row `h` is merged over;
  `treeRows` as a filter of the digits (`treeRows_eq_filter`) and its length as Go's
  `bits.OnesCount64` (`onesCount64_eq_treeRows`).
-/
import UtreexoVerif.Proofs.Bits
import UtreexoVerif.Spec.Forest

namespace UtreexoVerif.Spec
open UtreexoVerif.Proofs

def trailingOnes (n : Nat) : Nat := if h : n % 2 = 1 then trailingOnes (n / 2) + 1 else 0
decreasing_by omega

structure Trail (n k : Nat) : Prop where
  low : ∀ i, i < k → n.testBit i = true
  clear : n.testBit k = false

theorem trail_trailingOnes (n : Nat) : Trail n (trailingOnes n) := by
  induction n using Nat.strongRecOn with
  | _ n ih =>
    unfold trailingOnes
    by_cases h : n % 2 = 1
    · rw [dif_pos h]
      obtain ⟨h1, h2⟩ := ih (n / 2) (by omega)
      refine ⟨fun i hi => ?_, by rw [Nat.testBit_succ]; exact h2⟩
      cases i with
      | zero => rw [Nat.testBit_zero]; exact decide_eq_true h
      | succ i => rw [Nat.testBit_succ]; exact h1 i (by omega)
    · rw [dif_neg h]
      exact ⟨fun i hi => absurd hi (Nat.not_lt_zero i), by rw [Nat.testBit_zero]; exact decide_eq_false h⟩

theorem exists_trail (n : Nat) : ∃ k, Trail n k := ⟨_, trail_trailingOnes n⟩

namespace Trail
variable {n k : Nat}

theorem unique {k' : Nat} (h : Trail n k) (h' : Trail n k') : k = k' := by
  rcases Nat.lt_trichotomy k k' with hlt | heq | hgt
  · have := h'.low k hlt; rw [h.clear] at this; cases this
  · exact heq
  · have := h.low k' hgt; rw [h'.clear] at this; cases this

theorem eq (h : Trail n k) : k = trailingOnes n := h.unique (trail_trailingOnes n)

theorem of_decomp (t c : Nat) : Trail (2 ^ (t + 1) * c + (2 ^ t - 1)) t := by
  have hlt : 2 ^ t - 1 < 2 ^ (t + 1) := by
    have := Nat.two_pow_pos t; rw [Nat.pow_succ]; omega
  have key : ∀ j, j ≤ t → (2 ^ (t + 1) * c + (2 ^ t - 1)).testBit j = decide (j < t) := by
    intro j hj
    rw [Nat.testBit_two_pow_mul_add _ hlt, if_pos (by omega), Nat.testBit_two_pow_sub_one]
  exact ⟨fun i hi => by rw [key i (by omega)]; exact decide_eq_true hi,
    by rw [key t (Nat.le_refl t)]; exact decide_eq_false (Nat.lt_irrefl t)⟩

theorem le_of_clear (h : Trail n k) {T : Nat} (hT : n.testBit T = false) : k ≤ T := by
  apply Classical.byContradiction
  intro hc
  have := h.low T (by omega)
  rw [hT] at this
  cases this

theorem le_of_lt (h : Trail n k) {R : Nat} (hn : n < 2 ^ R) : k ≤ R :=
  h.le_of_clear (Nat.testBit_lt_two_pow hn)

theorem form (h : Trail n k) : n = n / 2 ^ k * 2 ^ k + (2 ^ k - 1) := by
  have := Nat.div_add_mod n (2 ^ k)
  rw [mod_of_low_ones h.low] at this
  rw [Nat.mul_comm]
  exact this.symm

theorem succ_div (h : Trail n k) : (n + 1) / 2 ^ k = n / 2 ^ k + 1 := by
  have hf := h.form
  have hpos := Nat.two_pow_pos k
  have : n + 1 = (n / 2 ^ k + 1) * 2 ^ k := by rw [Nat.add_mul, Nat.one_mul]; omega
  rw [this, Nat.mul_div_cancel _ hpos]

theorem succ_div_high (h : Trail n k) {j : Nat} (hj : k < j) : (n + 1) / 2 ^ j = n / 2 ^ j := by
  have hq := div_even_of_testBit_false h.clear
  rw [show j = (k + 1) + (j - (k + 1)) by omega, ← div_div_two_pow, ← div_div_two_pow n]
  congr 1
  rw [half_pow, half_pow n, h.succ_div]
  omega

theorem succ_at (h : Trail n k) : (n + 1).testBit k = true := by
  have hq := div_even_of_testBit_false h.clear
  rw [testBit_div_odd, h.succ_div]
  omega

theorem succ_high (h : Trail n k) {j : Nat} (hj : k < j) : (n + 1).testBit j = n.testBit j := by
  rw [Nat.testBit_eq_decide_div_mod_eq, Nat.testBit_eq_decide_div_mod_eq, h.succ_div_high hj]

theorem succ_low (h : Trail n k) {i : Nat} (hi : i < k) : (n + 1).testBit i = false := by
  have hf := h.form
  have hpos := Nat.two_pow_pos k
  have e : n + 1 = 2 ^ k * (n / 2 ^ k + 1) := by
    rw [Nat.mul_add, Nat.mul_one, Nat.mul_comm]; omega
  rw [e, Nat.testBit_two_pow_mul]
  simp
  omega

theorem div_even (h : Trail n k) : n / 2 ^ k = 2 * (n / 2 ^ (k + 1)) := by
  have h2 := div_even_of_testBit_false h.clear
  rw [half_pow]
  omega

theorem decomp (h : Trail n k) : n = 2 ^ (k + 1) * (n / 2 ^ (k + 1)) + (2 ^ k - 1) := by
  have h1 := h.form
  rw [h.div_even] at h1
  have e2 : 2 ^ (k + 1) * (n / 2 ^ (k + 1)) = 2 * (n / 2 ^ (k + 1)) * 2 ^ k := by
    rw [Nat.pow_succ]; ac_rfl
  rw [e2]
  exact h1

theorem div_odd (h : Trail n k) {l : Nat} (hl : l < k) : n / 2 ^ l = 2 * (n / 2 ^ (l + 1)) + 1 := by
  have h2 := testBit_div_odd.mp (h.low l hl)
  rw [half_pow]
  omega

/-- the tree on row `l < k` is completed by the next leaf -/
theorem succ_div_mul (h : Trail n k) {l : Nat} (hl : l < k) :
    (n / 2 ^ (l + 1) + 1) * 2 ^ (l + 1) = n + 1 := by
  have h1 := mod_of_low_ones (k := l + 1) fun j hj => h.low j (by omega)
  have h2 := Nat.div_add_mod n (2 ^ (l + 1))
  have hpos := Nat.two_pow_pos (l + 1)
  rw [Nat.add_mul, Nat.one_mul, Nat.mul_comm]
  omega

theorem shift {m k : Nat} (t : Trail m (k + 1)) : m.testBit 0 = true ∧ Trail (m >>> 1) k :=
  ⟨t.low 0 (Nat.succ_pos k),
    fun i hi => by rw [Nat.testBit_shiftRight, Nat.add_comm]; exact t.low (i + 1) (by omega),
    by rw [Nat.testBit_shiftRight, Nat.add_comm]; exact t.clear⟩

end Trail

/-- the leaf count at which the tree on row `h` of a forest with `n` leaves is merged over -/
abbrev reach (n h : Nat) : Nat := (n / 2 ^ (h + 1) + 1) * 2 ^ (h + 1)

theorem reach_gt (n h : Nat) : n < reach n h :=
  lt_succ_div_mul n _ (Nat.two_pow_pos _)

theorem reach_mono (n : Nat) {h h' : Nat} (hh : h ≤ h') : reach n h ≤ reach n h' := by
  have hp : 0 < 2 ^ (h + 1) := Nat.two_pow_pos _
  have e : 2 ^ (h' + 1) = 2 ^ (h' - h) * 2 ^ (h + 1) := by
    rw [two_pow_split (Nat.add_le_add_right hh 1), Nat.add_sub_add_right]
  have hgt := reach_gt n h'
  show (n / 2 ^ (h + 1) + 1) * 2 ^ (h + 1) ≤ (n / 2 ^ (h' + 1) + 1) * 2 ^ (h' + 1)
  rw [show reach n h' = (n / 2 ^ (h' + 1) + 1) * 2 ^ (h' + 1) from rfl, e, ← Nat.mul_assoc] at hgt
  rw [e, ← Nat.mul_assoc]
  apply Nat.mul_le_mul_right
  have := (Nat.div_lt_iff_lt_mul hp).2 hgt
  omega

theorem treeRows_eq_filter (n : Nat) :
    treeRows n = ((List.range 65).reverse).filter (fun j => n.testBit j) := by
  have key : ∀ h, treeRowsFrom h n = ((List.range (h + 1)).reverse).filter (fun j => n.testBit j) := by
    intro h
    induction h with
    | zero =>
      unfold treeRowsFrom
      cases hb : n.testBit 0 <;> simp [List.range_succ, hb]
    | succ h ih =>
      unfold treeRowsFrom
      rw [List.range_succ (n := h + 1), List.reverse_append, List.reverse_singleton,
        List.singleton_append, List.filter_cons, ih]
  exact key 64

/-- the rows above row `k` that carry a tree, highest first -/
def hiRows (n k : Nat) : List Nat :=
  ((List.range' (k + 1) (64 - k)).reverse).filter (fun j => n.testBit j)

theorem mem_hiRows {n k j : Nat} : j ∈ hiRows n k ↔ (k < j ∧ j ≤ 64) ∧ n.testBit j = true := by
  unfold hiRows
  rw [List.mem_filter, List.mem_reverse, List.mem_range'_1]
  constructor
  · rintro ⟨h1, h2⟩; exact ⟨⟨by omega, by omega⟩, h2⟩
  · rintro ⟨h1, h2⟩; exact ⟨⟨by omega, by omega⟩, h2⟩

theorem range65_split {k : Nat} (hk : k ≤ 64) :
    (List.range 65).reverse =
      (List.range' (k + 1) (64 - k)).reverse ++ [k] ++ (List.range k).reverse := by
  have e : List.range 65 = List.range k ++ [k] ++ List.range' (k + 1) (64 - k) := by
    rw [List.range_eq_range', List.range_eq_range']
    have h1 : [k] = List.range' k 1 := rfl
    have a := List.range'_append_1 (s := 0) (m := k) (n := 1)
    have b := List.range'_append_1 (s := 0) (m := k + 1) (n := 64 - k)
    rw [Nat.zero_add] at a b
    rw [h1, a, b]
    congr 1
    omega
  rw [e]
  simp

theorem treeRows_split (n : Nat) {k : Nat} (hk : k ≤ 64) :
    treeRows n = hiRows n k ++ (if n.testBit k then [k] else []) ++
      ((List.range k).reverse).filter (fun j => n.testBit j) := by
  unfold hiRows
  rw [treeRows_eq_filter, range65_split hk, List.filter_append, List.filter_append]
  congr 2
  simp [List.filter_cons]

theorem hiRows_succ {n k : Nat} (h : Trail n k) : hiRows (n + 1) k = hiRows n k := by
  unfold hiRows
  apply List.filter_congr
  intro j hj
  rw [List.mem_reverse, List.mem_range'_1] at hj
  exact h.succ_high (by omega)

theorem Trail.treeRows {n k : Nat} (h : Trail n k) (hk : k ≤ 64) :
    treeRows n = hiRows n k ++ (List.range k).reverse ∧ treeRows (n + 1) = hiRows n k ++ [k] := by
  constructor
  · rw [treeRows_split n hk, h.clear]
    simp only [Bool.false_eq_true, if_false, List.append_nil]
    congr 1
    rw [List.filter_eq_self]
    intro j hj
    rw [List.mem_reverse, List.mem_range] at hj
    exact h.low j hj
  · rw [treeRows_split (n + 1) hk, h.succ_at, hiRows_succ h]
    simp only [if_true]
    have e2 : ((List.range k).reverse).filter (fun j => (n + 1).testBit j) = [] := by
      rw [List.filter_eq_nil_iff]
      intro j hj
      rw [List.mem_reverse, List.mem_range] at hj
      rw [h.succ_low hj]
      simp
    rw [e2, List.append_nil]

theorem onesCount64_eq_treeRows (n : U64) :
    GoInt.onesCount64 n = ((treeRows n.toNat).length : Nat) := by
  have h64 : n.toNat.testBit 64 = false := Nat.testBit_lt_two_pow n.isLt
  unfold GoInt.onesCount64
  rw [treeRows_eq_filter, ← List.countP_eq_length_filter, List.countP_reverse,
    List.range_succ (n := 64), List.countP_append, List.countP_singleton, h64]
  simp only [BitVec.testBit_toNat, Bool.false_eq_true, if_false, Nat.add_zero]

end UtreexoVerif.Spec
