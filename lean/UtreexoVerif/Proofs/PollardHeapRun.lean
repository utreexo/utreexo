/-
  Pointer forest, heap model: running a program of the effect monad `PM`.

  A program is run one statement at a time: `refine (bind_ok h).trans ?_` (or `rw [bind_ok h]`) consumes the first
  statement, whose run is `h`, and leaves the continuation on the new state; such a chain, replaying the body of a
  function, is what the later files call a TRACE.  The `_apply` lemmas evaluate a statement on a state `s` (record
  form, for `simp`); the `_run` lemmas on a state given by its six fields, which is the form every later step
  meets again (on `{ s with heap := … }` the unifier would unfold the heap terms of every later step).
-/
import UtreexoVerif.Proofs.PollardHeapDefs
import UtreexoVerif.Proofs.PollardHeapMap
set_option linter.unusedSectionVars false

namespace UtreexoVerif.Proofs.PollardHeap
open UtreexoVerif.Model.PollardHeap

variable {H : Type} [DecidableEq H] [Hasher H]

@[simp] theorem bind_apply {α β} (x : PM H α) (f : α → PM H β) (s : Pollard H) :
    (x >>= f) s = match x s with
      | (.ok a, s') => f a s'
      | (.err, s') => (.err, s')
      | (.panic, s') => (.panic, s')
      | (.hang, s') => (.hang, s') := rfl

@[simp] theorem pure_apply {α} (a : α) (s : Pollard H) : (pure a : PM H α) s = (.ok a, s) := rfl

@[simp] theorem PMpure_apply {α} (a : α) (s : Pollard H) : (PM.pure a : PM H α) s = (.ok a, s) := rfl

@[simp] theorem node_apply (i : Nat) (s : Pollard H) :
    node i s = match s.heap[i]? with
      | some n => (.ok n, s)
      | none => (.panic, s) := rfl

@[simp] theorem setNode_apply (i : Nat) (f : PolNode H → PolNode H) (s : Pollard H) :
    setNode i f s = (.ok (), { s with heap := s.heap.modify i f }) := rfl

@[simp] theorem heapSize_apply (s : Pollard H) : heapSize s = (.ok s.heap.size, s) := rfl

@[simp] theorem getRoots_apply (s : Pollard H) : getRoots s = (.ok s.roots, s) := rfl

@[simp] theorem setRoots_apply (r : List Nat) (s : Pollard H) :
    setRoots r s = (.ok (), { s with roots := r }) := rfl

@[simp] theorem getNumLeaves_apply (s : Pollard H) : getNumLeaves s = (.ok s.numLeaves, s) := rfl

@[simp] theorem getFull_apply (s : Pollard H) : getFull s = (.ok s.full, s) := rfl

@[simp] theorem modifyS_apply (f : Pollard H → Pollard H) (s : Pollard H) :
    modifyS f s = (.ok (), f s) := rfl

@[simp] theorem alloc_apply (n : PolNode H) (s : Pollard H) :
    alloc n s = (.ok s.heap.size, { s with heap := s.heap.push n }) := rfl

@[simp] theorem deref_some (i : Nat) (s : Pollard H) : deref (some i) s = (.ok i, s) := rfl

@[simp] theorem nodeMapGet_apply (k : H) (s : Pollard H) :
    nodeMapGet k s = (.ok (mapGet s.nodeMap k), s) := rfl

@[simp] theorem nodeMapSet_apply (k : H) (v : Nat) (s : Pollard H) :
    nodeMapSet k v s = (.ok (), { s with nodeMap := mapSet s.nodeMap k v }) := rfl

@[simp] theorem nodeMapDel_apply (k : H) (s : Pollard H) :
    nodeMapDel k s = (.ok (), { s with nodeMap := mapDel s.nodeMap k }) := rfl

theorem bind_ok {α β} {x : PM H α} {f : α → PM H β} {s s' : Pollard H} {a : α}
    (h : x s = (.ok a, s')) : (x >>= f) s = f a s' := by rw [bind_apply, h]

theorem node_ok {s : Pollard H} {i : Nat} {n : PolNode H} (h : s.heap[i]? = some n) :
    node i s = (.ok n, s) := by rw [node_apply, h]

theorem node_run {i : Nat} {n : PolNode H} {hp : Heap H} {nm : List (H × Nat)} {rs : List Nat}
    {nl ndl : U64} {full : Bool} (h : hp[i]? = some n) :
    node i ⟨hp, nm, rs, nl, ndl, full⟩ = (.ok n, ⟨hp, nm, rs, nl, ndl, full⟩) := node_ok h

theorem rd_run {i : Nat} {n : PolNode H} {hp : Heap H} {nm : List (H × Nat)} {rs : List Nat}
    {nl ndl : U64} {full : Bool} (h : hp[i]? = some n) :
    rd (some i) ⟨hp, nm, rs, nl, ndl, full⟩ = (.ok n, ⟨hp, nm, rs, nl, ndl, full⟩) := by
  unfold rd; simp only [bind_apply, deref_some, node_apply, h]

theorem getNumLeaves_run {hp : Heap H} {nm : List (H × Nat)} {rs : List Nat} {nl ndl : U64}
    {full : Bool} : getNumLeaves ⟨hp, nm, rs, nl, ndl, full⟩ = (.ok nl, ⟨hp, nm, rs, nl, ndl, full⟩) := rfl

theorem getRoots_run {hp : Heap H} {nm : List (H × Nat)} {rs : List Nat} {nl ndl : U64}
    {full : Bool} : getRoots ⟨hp, nm, rs, nl, ndl, full⟩ = (.ok rs, ⟨hp, nm, rs, nl, ndl, full⟩) := rfl

theorem setNode_run {i : Nat} {f : PolNode H → PolNode H} {hp : Heap H} {nm : List (H × Nat)}
    {rs : List Nat} {nl ndl : U64} {full : Bool} :
    setNode i f ⟨hp, nm, rs, nl, ndl, full⟩ = (.ok (), ⟨hp.modify i f, nm, rs, nl, ndl, full⟩) := rfl

theorem setRoots_run {r : List Nat} {hp : Heap H} {nm : List (H × Nat)} {rs : List Nat} {nl ndl : U64}
    {full : Bool} : setRoots r ⟨hp, nm, rs, nl, ndl, full⟩ = (.ok (), ⟨hp, nm, r, nl, ndl, full⟩) := rfl

theorem getFull_run {hp : Heap H} {nm : List (H × Nat)} {rs : List Nat} {nl ndl : U64}
    {full : Bool} : getFull ⟨hp, nm, rs, nl, ndl, full⟩ = (.ok full, ⟨hp, nm, rs, nl, ndl, full⟩) := rfl

theorem alloc_run {n : PolNode H} {hp : Heap H} {nm : List (H × Nat)} {rs : List Nat} {nl ndl : U64}
    {full : Bool} :
    alloc n ⟨hp, nm, rs, nl, ndl, full⟩ = (.ok hp.size, ⟨hp.push n, nm, rs, nl, ndl, full⟩) := rfl

theorem deadEnd_run {i : Nat} {n : PolNode H} {hp : Heap H} {nm : List (H × Nat)} {rs : List Nat}
    {nl ndl : U64} {full : Bool} (h : hp[i]? = some n) :
    deadEnd (some i) ⟨hp, nm, rs, nl, ndl, full⟩ =
      (.ok (n.lNiece.isNone && n.rNiece.isNone), ⟨hp, nm, rs, nl, ndl, full⟩) := by
  unfold deadEnd; rw [bind_ok (rd_run h)]; rfl

theorem nodeMapGet_run {k : H} {hp : Heap H} {nm : List (H × Nat)} {rs : List Nat} {nl ndl : U64}
    {full : Bool} :
    nodeMapGet k ⟨hp, nm, rs, nl, ndl, full⟩ = (.ok (mapGet nm k), ⟨hp, nm, rs, nl, ndl, full⟩) := rfl

theorem nodeMapDel_run {k : H} {hp : Heap H} {nm : List (H × Nat)} {rs : List Nat} {nl ndl : U64}
    {full : Bool} :
    nodeMapDel k ⟨hp, nm, rs, nl, ndl, full⟩ = (.ok (), ⟨hp, mapDel nm k, rs, nl, ndl, full⟩) := rfl

theorem ignoreErr_ok {x : PM H Unit} {s s' : Pollard H} (h : x s = (.ok (), s')) :
    ignoreErr x s = (.ok (), s') := by
  unfold ignoreErr; rw [h]

/-- `if _, found := m[k]; found { m[k] = v }` followed by `T`, which the `do` block copies into both
branches -/
theorem moveTo_bind {β} (k : H) (v : Nat) (T : PM H β) {hp : Heap H} {nm : List (H × Nat)}
    {rs : List Nat} {nl ndl : U64} {full : Bool} :
    (if (mapGet nm k).isSome = true then nodeMapSet k v >>= fun _ => T else T)
        ⟨hp, nm, rs, nl, ndl, full⟩ = T ⟨hp, mapMoveTo nm k v, rs, nl, ndl, full⟩ := by
  unfold mapMoveTo
  by_cases h : (mapGet nm k).isSome = true
  · rw [if_pos h, if_pos h, bind_ok (nodeMapSet_apply _ _ _)]
  · rw [if_neg h, if_neg h]

end UtreexoVerif.Proofs.PollardHeap
