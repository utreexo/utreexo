/-
  Completeness of `Verify` and refinement of `Stump.del`.
  Part A: on the canonical proof the valuation is the true hash, the root candidates are the roots of
  the touched trees in ascending row order, and `matchRoots` accepts them.  Part B (the deletion
  pass): the valuation is the hash a subtree has after the deletion (`dhash`); `collapse` commutes
  with killing slots, so the candidates are the roots of `F.delLeaves L` on the touched trees.
-/
import UtreexoVerif.Proofs.SpecPlan
import UtreexoVerif.Proofs.SpecPrune
import UtreexoVerif.Proofs.NodesUnique
import UtreexoVerif.Model.Stump

namespace UtreexoVerif.Proofs.CalcComplete
open Spec Model Hasher
open UtreexoVerif.Proofs.SpecNodes UtreexoVerif.Proofs.SpecView UtreexoVerif.Proofs.Sorted
open UtreexoVerif.Proofs.CalcGeo UtreexoVerif.Proofs.CalcPlan UtreexoVerif.Proofs.SpecSubs
open UtreexoVerif.Proofs.SpecPlan

section
set_option linter.unusedSectionVars false
variable {H : Type} [DecidableEq H] [Hasher H]

/-- `p` lies in the tree on row `h` of a forest with `n` leaves (`Under`, decidable) -/
def inTree (n h : Nat) (p : Pos) : Bool :=
  decide (p.1 ≤ h) && p.2 / 2 ^ (h - p.1) == 2 * (n >>> (h + 1))

theorem inTree_iff (n h : Nat) (p : Pos) :
    inTree n h p = true ↔ Under h (2 * (n >>> (h + 1))) p := by
  unfold inTree Under
  simp

def touchedRows (n : Nat) (targets : List Pos) : List Nat :=
  (treeRows n).reverse.filter (fun h => targets.any (inTree n h))

/-- indexes in `Roots` (highest tree first) of the trees that contain a target, in the order
`Verify` produces them: lowest tree first -/
def touchedIdx (n : Nat) (targets : List Pos) : List Nat :=
  (touchedRows n targets).map (fun h => (treeRows n).idxOf h)

theorem treeRowsFrom_sorted (n : Nat) : ∀ k, (treeRowsFrom k n).Pairwise (fun a b => a > b) := by
  intro k
  induction k with
  | zero => unfold treeRowsFrom; split <;> simp
  | succ k ih =>
    unfold treeRowsFrom
    split
    · rw [List.pairwise_cons]
      refine ⟨?_, ih⟩
      intro a ha
      have := (Spec.mem_treeRowsFrom.1 ha).1
      omega
    · exact ih

theorem treeRows_sorted (n : Nat) : (treeRows n).Pairwise (fun a b => a > b) :=
  treeRowsFrom_sorted n 64

theorem treeRows_nodup (n : Nat) : (treeRows n).Nodup :=
  (treeRows_sorted n).imp (fun h => by omega)

theorem touchedRows_sorted (n : Nat) (targets : List Pos) :
    (touchedRows n targets).Pairwise (fun a b => a < b) := by
  unfold touchedRows
  apply List.Pairwise.sublist List.filter_sublist
  rw [List.pairwise_reverse]
  exact treeRows_sorted n

def pathRoots (F : Forest H) (targets : List Pos) : List Pos :=
  (pathSet F targets).filter (isRootPos F.numLeaves)

theorem root_eq_rootPos {n : Nat} {p : Pos} (h : isRootPos n p = true) : p = rootPos n p.1 := by
  unfold isRootPos at h
  simp only [Bool.and_eq_true, beq_iff_eq] at h
  obtain ⟨r, o⟩ := p
  simp only [rootPos, Prod.mk.injEq, true_and]
  exact h.2

theorem root_bit {n : Nat} {p : Pos} (h : isRootPos n p = true) : n.testBit p.1 = true := by
  unfold isRootPos at h
  simp only [Bool.and_eq_true, beq_iff_eq] at h
  exact h.1

theorem pathRoots_rows {F : Forest H} {targets : List Pos}
    (tok : TargetsOK F targets) :
    (pathRoots F targets).map (·.1) = touchedRows F.numLeaves targets := by
  apply eq_of_sorted_of_mem_iff (R := fun a b : Nat => a < b) (fun a => Nat.lt_irrefl a)
    (fun _ _ _ => Nat.lt_trans)
  · rw [List.pairwise_map]
    have hs : (pathRoots F targets).Pairwise Sorted.PLt :=
      (pathSet_sorted F targets).sublist List.filter_sublist
    apply List.Pairwise.imp_of_mem _ hs
    intro a b ha hb hab
    have ra := (List.mem_filter.1 ha).2
    have rb := (List.mem_filter.1 hb).2
    rcases hab with h | ⟨h1, h2⟩
    · exact h
    · exfalso
      have ea := root_eq_rootPos ra
      have eb := root_eq_rootPos rb
      rw [ea, eb, h1] at h2
      exact Nat.lt_irrefl _ h2
  · exact touchedRows_sorted _ _
  · intro h
    unfold touchedRows pathRoots
    rw [List.mem_map, List.mem_filter, List.mem_reverse, List.any_eq_true]
    constructor
    · rintro ⟨p, hp, rfl⟩
      obtain ⟨hpP, hroot⟩ := List.mem_filter.1 hp
      obtain ⟨tg, htg, hpt⟩ := mem_pathSet.1 hpP
      obtain ⟨h', l, stg⟩ := tok tg htg
      have hh : h' ≤ F.rows := le_forestRows_of_mem stg.1
      obtain ⟨⟨t', s'⟩, _⟩ := pathUp_sub (F.rows + 1) tg _ stg (by omega) p hpt
      have e := (s'.root_iff).1 hroot
      rw [e]
      exact ⟨stg.1, tg, htg, (inTree_iff _ _ _).2 stg.under⟩
    · rintro ⟨hh, tg, htg, hin⟩
      obtain ⟨h', l, stg⟩ := tok tg htg
      have hb : F.numLeaves.testBit h = true := (Spec.mem_treeRows.1 hh).2
      have u := (inTree_iff _ _ _).1 hin
      have e : h = h' := by
        rcases Nat.lt_trichotomy h h' with hlt | heq | hgt
        · exact (under_disjoint hlt stg.bit stg.under u).elim
        · exact heq
        · exact (under_disjoint hgt hb u stg.under).elim
      subst e
      refine ⟨rootPos F.numLeaves h, List.mem_filter.2 ⟨?_, Spec.isRootPos_rootPos hb⟩, rfl⟩
      exact pathSet_root tok (targets_sub_pathSet tok htg) stg

theorem valAt_root {F : Forest H} {targets : List Pos} (tok : TargetsOK F targets)
    (f : CTree H → H) {p : Pos} (hp : p ∈ pathRoots F targets) :
    ∃ t0, collapse p.1 ((F.slots.drop (treeStart F.numLeaves p.1)).take (2 ^ p.1)) = some t0 ∧
      valAt f F p = f t0 := by
  obtain ⟨hpP, hroot⟩ := List.mem_filter.1 hp
  obtain ⟨h, t, s⟩ := pathSet_sub tok hpP
  have e := (s.root_iff).1 hroot
  subst e
  obtain ⟨t0, ht0, _, _⟩ := s.tree
  have sr := SubAtT.root s.1 ht0
  rw [← root_eq_rootPos hroot] at sr
  exact ⟨t0, ht0, valAt_of sr⟩

theorem distinctAdj_H8 : ∀ (hs : List Nat) (prev : Option U8), hs.Pairwise (fun a b => a < b) →
    (∀ h ∈ hs, h ≤ 63) → (∀ h ∈ hs, prev ≠ some (H8 h)) → CalcSound.distinctAdj prev (hs.map H8)
  | [], _, _, _, _ => trivial
  | h :: hs, prev, hsort, h63, hprev => by
    rw [List.pairwise_cons] at hsort
    refine ⟨hprev h (by simp), distinctAdj_H8 hs _ hsort.2
      (fun x hx => h63 x (List.mem_cons_of_mem _ hx)) fun x hx e => ?_⟩
    injection e with e
    exact Nat.ne_of_lt (hsort.1 x hx) (H8_inj (Nat.le_trans (h63 h (by simp)) (by decide))
      (Nat.le_trans (h63 x (List.mem_cons_of_mem _ hx)) (by decide)) e)

theorem matchRoots_true (F : Forest H) (hn : F.numLeaves ≤ 2 ^ 63)
    (hs : List Nat) (prev : Option U8) (hsort : hs.Pairwise (fun a b => a < b))
    (hbit : ∀ h ∈ hs, F.numLeaves.testBit h = true) (hprev : ∀ h ∈ hs, prev ≠ some (H8 h)) :
    matchRoots (BitVec.ofNat 64 F.numLeaves) F.roots (hs.map (treeRoot F)) (hs.map H8) prev =
      .ok (hs.map (fun h => rootIdxOfRow (BitVec.ofNat 64 F.numLeaves) (H8 h))) := by
  have h63 : ∀ x ∈ hs, x ≤ 63 := fun x hx =>
    Nat.le_trans (testBit_le_forestRows (hbit x hx)) (forestRows_small hn)
  refine (CalcSound.matchRoots_iff _ _ _ _ (by simp)).2
    ⟨distinctAdj_H8 hs prev hsort h63 hprev, fun c hc => ?_, by rw [List.map_map]; rfl⟩
  rw [List.zip_map'] at hc
  obtain ⟨h, hh, rfl⟩ := List.mem_map.1 hc
  have hget := treeRows_getElem (n := F.numLeaves) (by omega) (h63 h hh) (hbit h hh)
  rw [SpecNodes.roots_eq, List.getElem?_map, hget]; rfl

theorem mem_touchedRows_bit {n : Nat} {targets : List Pos} {h : Nat}
    (hh : h ∈ touchedRows n targets) : n.testBit h = true := by
  unfold touchedRows at hh
  have := (List.mem_filter.1 hh).1
  rw [List.mem_reverse] at this
  exact (Spec.mem_treeRows.1 this).2

theorem canon_target_vals {F : Forest H} {L : List H} {targets : List Pos} {hashes : List H}
    (hc : F.canon L = some (targets, hashes)) (f : CTree H → H) :
    targets.map (valAt f F) = L.map (fun l => f (.leaf l)) := by
  obtain ⟨ht, _, _, _⟩ := canon_spec hc
  rw [ht, List.map_map]
  apply List.map_congr_left
  intro l hl
  obtain ⟨h, s⟩ := canon_target_leaf hc hl
  exact valAt_of s

theorem canon_targets_length {F : Forest H} {L : List H} {targets : List Pos} {hashes : List H}
    (hc : F.canon L = some (targets, hashes)) : targets.length = L.length := by
  obtain ⟨ht, _, _, _⟩ := canon_spec hc
  rw [ht, List.length_map]

theorem valAt_hash_pathSet {F : Forest H} {targets : List Pos} (tok : TargetsOK F targets) {p : Pos}
    (hp : p ∈ pathSet F targets) : valAt CTree.hash F p = trueAt F p := by
  obtain ⟨h, t, s⟩ := pathSet_sub tok hp
  rw [valAt_of s, trueAt_of_sub s]

theorem calc_honest {F : Forest H} (hn : F.numLeaves ≤ 2 ^ 63)
    (hnz : ∀ a b : H, ph a b ≠ (zero : H)) (hlive : ∀ l ∈ F.liveLeaves, l ≠ (zero : H))
    {L : List H} {ts : List Pos} {ps : List H} (hnd : L.Nodup)
    (hc : F.canon L = some (ts, ps)) (junk : List H) :
    calculateHashes (BitVec.ofNat 64 F.numLeaves) (some L) (ts.map (E F.rows)) (ps ++ junk) =
      .ok ⟨(pathSet F ts).map (fun p => (E F.rows p, trueAt F p)),
        ((pathSet F ts).filter (isRootPos F.numLeaves)).map (trueAt F),
        ((pathSet F ts).filter (isRootPos F.numLeaves)).map (fun p => H8 p.1)⟩ := by
  have tok := canon_targetsOK hc
  have hdh : L = ts.map (valAt CTree.hash F) := by
    rw [canon_target_vals hc]
    simp [CTree.hash]
  obtain ⟨⟨nodes, roots, rows⟩, h, hroots, hrows, hnodes⟩ := calc_generic hn hnz hlive hnd hc CTree.hash
    (fun a b ga gb => hash_node_comb hnz ga gb) (fun _ _ _ _ _ _ _ => rfl) (some L) hdh junk
  simp only at hroots hrows hnodes
  rw [h, hroots, hrows, hnodes]
  congr 2
  · exact List.map_congr_left fun p hp => by unfold G; rw [valAt_hash_pathSet tok hp]; rfl
  · exact List.map_congr_left fun p hp => valAt_hash_pathSet tok (List.mem_filter.1 hp).1

theorem verify_complete {F : Forest H} (hn : F.numLeaves ≤ 2 ^ 63)
    (hnz : ∀ a b : H, ph a b ≠ (zero : H)) (hlive : ∀ l ∈ F.liveLeaves, l ≠ (zero : H))
    {L : List H} {targets : List Pos} {hashes : List H} (hnd : L.Nodup)
    (hc : F.canon L = some (targets, hashes)) (junk : List H) :
    verify (BitVec.ofNat 64 F.numLeaves) F.roots L (targets.map (E F.rows)) (hashes ++ junk) =
      .ok (touchedIdx F.numLeaves targets) := by
  have tok := canon_targetsOK hc
  have hcalc := calc_honest hn hnz hlive hnd hc junk
  have hroots' : ((pathSet F targets).filter (isRootPos F.numLeaves)).map (trueAt F) =
      (touchedRows F.numLeaves targets).map (treeRoot F) := by
    rw [← pathRoots_rows tok, List.map_map]
    apply List.map_congr_left
    intro p hp
    obtain ⟨t0, ht0, hv⟩ := valAt_root tok CTree.hash hp
    rw [← valAt_hash_pathSet tok (List.mem_filter.1 hp).1, hv]
    simp only [Function.comp, treeRoot, ht0]
  have hrows' : ((pathSet F targets).filter (isRootPos F.numLeaves)).map (fun p => H8 p.1) =
      (touchedRows F.numLeaves targets).map H8 := by
    rw [← pathRoots_rows tok, List.map_map]
    rfl
  unfold verify
  rw [if_neg (by rw [List.length_map, canon_targets_length hc]; simp)]
  simp only [bind, hcalc, Out.bind]
  rw [hroots', hrows', matchRoots_true F hn _ none (touchedRows_sorted _ _)
    (fun h hh => mem_touchedRows_bit hh) (fun _ _ => by simp)]
  congr 1
  unfold touchedIdx
  apply List.map_congr_left
  intro h hh
  have hb := mem_touchedRows_bit hh
  exact rootIdxOfRow_idxOf (by omega)
    (Nat.le_trans (testBit_le_forestRows hb) (forestRows_small hn)) hb

def delT (L : List H) : CTree H → Option (CTree H)
  | .leaf h => if h ∈ L then none else some (.leaf h)
  | .node a b => join (delT L a) (delT L b)

def hashO : Option (CTree H) → H
  | some t => t.hash
  | none => zero

def dhash (L : List H) (t : CTree H) : H := hashO (delT L t)

theorem delT_eq_prune (L : List H) : ∀ t : CTree H, delT L t = prune L t
  | .leaf _ => rfl
  | .node a b => by rw [delT, prune, delT_eq_prune L a, delT_eq_prune L b]

theorem delT_eq_none_iff (L : List H) (t : CTree H) : delT L t = none ↔ ∀ l ∈ t.leaves, l ∈ L := by
  rw [delT_eq_prune]
  exact prune_eq_none_iff L t

theorem collapse_kill (L : List H) (k : Nat) (l : List (Option H)) :
    collapse k (l.map (kill L)) = (collapse k l).bind (delT L) := by
  rw [Spec.collapse_kill, show delT L = prune L from funext (delT_eq_prune L)]
  rfl

theorem treeRoot_delLeaves (F : Forest H) (L : List H) (h : Nat) :
    treeRoot (F.delLeaves L) h =
      hashO ((collapse h ((F.slots.drop (treeStart F.numLeaves h)).take (2 ^ h))).bind (delT L)) := by
  unfold treeRoot
  rw [numLeaves_delLeaves, delLeaves_slots, ← List.map_drop, ← List.map_take, collapse_kill]
  cases (collapse h ((F.slots.drop (treeStart F.numLeaves h)).take (2 ^ h))).bind (delT L) <;> rfl

theorem delT_noleaf (L : List H) (t : CTree H) (h : ∀ l ∈ t.leaves, l ∉ L) : delT L t = some t := by
  rw [delT_eq_prune]
  exact prune_eq_self L t h

theorem delT_leaves (L : List H) : ∀ (t t' : CTree H), delT L t = some t' →
    ∀ l ∈ t'.leaves, l ∈ t.leaves := by
  intro t
  induction t with
  | leaf h =>
    intro t' ht l hl
    unfold delT at ht
    split at ht
    · simp at ht
    · injection ht with ht; subst ht; exact hl
  | node a b iha ihb =>
    intro t' ht
    unfold delT at ht
    refine join_leaves (P := fun l => l ∈ (CTree.node a b).leaves) (fun ta hta l hl => ?_)
      (fun tb htb l hl => ?_) ht
    · exact List.mem_append_left _ (iha ta hta l hl)
    · exact List.mem_append_right _ (ihb tb htb l hl)

theorem dhash_noleaf (L : List H) {t : CTree H} (h : ∀ l ∈ t.leaves, l ∉ L) :
    dhash L t = t.hash := by
  unfold dhash
  rw [delT_noleaf L t h]
  rfl

theorem hashO_ne_zero (hnz : ∀ a b : H, ph a b ≠ (zero : H)) (L : List H) {t t' : CTree H}
    (g : Good t) (h : delT L t = some t') : t'.hash ≠ zero :=
  CTree.hash_ne_zero hnz t' (fun l hl => g l (delT_leaves L t t' h l hl))

theorem dhash_node (hnz : ∀ a b : H, ph a b ≠ (zero : H)) (L : List H) {a b : CTree H}
    (ga : Good a) (gb : Good b) : dhash L (.node a b) = comb (dhash L a) (dhash L b) := by
  unfold dhash comb
  simp only [delT]
  cases ha : delT L a with
  | none =>
    cases hb : delT L b with
    | none => simp [join, hashO]
    | some b' => simp [join, hashO]
  | some a' =>
    have na := hashO_ne_zero hnz L ga ha
    cases hb : delT L b with
    | none => simp [join, hashO, na]
    | some b' =>
      have nb := hashO_ne_zero hnz L gb hb
      simp [join, hashO, na, nb, CTree.hash]

section del
variable {F : Forest H} {L : List H} {targets : List Pos} {hashes : List H}
  (hc : F.canon L = some (targets, hashes)) (hd : F.liveLeaves.Nodup)
include hc hd

theorem leaf_on_path {h : Nat} {a : Pos} {ta : CTree H} (sa : SubAtT F h a ta) {l : H}
    (hl : l ∈ ta.leaves) (hL : l ∈ L) : a ∈ pathSet F targets := by
  obtain ⟨q, hq⟩ := leaf_in_subs ta a.1 a.2 l hl
  have sq := sa.sub hq
  obtain ⟨h', stg⟩ := canon_target_leaf hc hL
  have e := (SubAtT.pos_unique hd sq stg).2
  obtain ⟨ht, _, _, _⟩ := canon_spec hc
  have htg : (F.posOf l).getD (0, 0) ∈ targets := by
    rw [ht]; exact List.mem_map.2 ⟨l, hL, rfl⟩
  have hh : h ≤ F.rows := le_forestRows_of_mem sa.1
  have := pathUp_anc (F.rows + 1) ta a q _ sa hq (by omega)
  rw [e] at this
  exact mem_pathSet.2 ⟨_, htg, this⟩

theorem dhash_off_path {h : Nat} {a : Pos} {ta : CTree H} (sa : SubAtT F h a ta)
    (ha : a ∉ pathSet F targets) : dhash L ta = ta.hash :=
  dhash_noleaf L (fun _ hl hL => ha (leaf_on_path hc hd sa hl hL))

end del

/-- the second `calculateHashes` of `Stump.del` (`delHashes = nil`: zeroed target hashes) -/
theorem del_calc {F : Forest H} (hn : F.numLeaves ≤ 2 ^ 63)
    (hnz : ∀ a b : H, ph a b ≠ (zero : H)) (hlive : ∀ l ∈ F.liveLeaves, l ≠ (zero : H))
    (hd : F.liveLeaves.Nodup) {L : List H} {targets : List Pos} {hashes : List H} (hnd : L.Nodup)
    (hc : F.canon L = some (targets, hashes)) (junk : List H) :
    ∃ r : CalcResult H,
      calculateHashes (BitVec.ofNat 64 F.numLeaves) none (targets.map (E F.rows)) (hashes ++ junk) =
        .ok r ∧
      r.roots = (touchedRows F.numLeaves targets).map (treeRoot (F.delLeaves L)) ∧
      r.rootRows = (touchedRows F.numLeaves targets).map H8 ∧
      r.nodes = (pathSet F targets).map (fun p => (E F.rows p, valAt (dhash L) F p)) := by
  have tok := canon_targetsOK hc
  have hdh : (match (none : Option (List H)) with
      | some hs => hs
      | none => (targets.map (E F.rows)).map (fun _ => zero)) = targets.map (valAt (dhash L) F) := by
    rw [canon_target_vals hc]
    obtain ⟨ht, _, _, _⟩ := canon_spec hc
    simp only [List.map_map]
    rw [ht, List.map_map]
    apply List.map_congr_left
    intro l hl
    simp [dhash, delT, hl, hashO]
  obtain ⟨r, hcalc, hroots, hrows, hnodes⟩ := calc_generic hn hnz hlive hnd hc (dhash L)
    (fun a b ga gb => dhash_node hnz L ga gb)
    (fun c _ _ hns h s' hs' => dhash_off_path hc hd hs' hns) none hdh junk
  refine ⟨r, hcalc, ?_, ?_, hnodes⟩
  · rw [hroots, ← pathRoots_rows tok, List.map_map]
    apply List.map_congr_left
    intro p hp
    obtain ⟨t0, ht0, hv⟩ := valAt_root tok (dhash L) hp
    rw [hv]
    simp only [Function.comp, treeRoot_delLeaves, ht0]
    rfl
  · rw [hrows, ← pathRoots_rows tok, List.map_map]
    rfl

theorem treeRoot_untouched {F : Forest H} (hd : F.liveLeaves.Nodup) {L : List H} {targets : List Pos}
    {hashes : List H} (hc : F.canon L = some (targets, hashes)) {h : Nat}
    (hh : h ∈ treeRows F.numLeaves) (hu : h ∉ touchedRows F.numLeaves targets) :
    treeRoot (F.delLeaves L) h = treeRoot F h := by
  have tok := canon_targetsOK hc
  rw [treeRoot_delLeaves]
  unfold treeRoot
  cases ht0 : collapse h ((F.slots.drop (treeStart F.numLeaves h)).take (2 ^ h)) with
  | none => rfl
  | some t0 =>
    have sr := SubAtT.root hh ht0
    have hb := (Spec.mem_treeRows.1 hh).2
    have hnp : rootPos F.numLeaves h ∉ pathSet F targets := by
      intro hp
      apply hu
      rw [← pathRoots_rows tok]
      exact List.mem_map.2 ⟨rootPos F.numLeaves h,
        List.mem_filter.2 ⟨hp, Spec.isRootPos_rootPos hb⟩, rfl⟩
    exact dhash_off_path hc hd sr hnp

theorem set_idxOf_map {α : Type} (g : Nat → α) (h : Nat) (v : α) : ∀ (l : List Nat), l.Nodup →
    (l.map g).set (l.idxOf h) v = l.map (fun x => if x = h then v else g x) := by
  intro l
  induction l with
  | nil => intro _; rfl
  | cons a t ih =>
    intro hnd
    rw [List.nodup_cons] at hnd
    rw [List.idxOf_cons]
    by_cases e : a = h
    · subst e
      simp only [beq_self_eq_true, cond_true, List.map_cons, List.set_cons_zero, if_true]
      congr 1
      apply List.map_congr_left
      intro x hx
      have : x ≠ a := fun e => hnd.1 (e ▸ hx)
      simp [this]
    · have : (a == h) = false := beq_false_of_ne e
      simp only [this, cond_false, List.map_cons, List.set_cons_succ, if_neg e]
      rw [ih hnd.2]

theorem foldl_set_map {α : Type} (l : List Nat) (hl : l.Nodup) (g' : Nat → α)
    (fn : List α → Nat × α → List α) (hfn : ∀ rs i v, fn rs (i, v) = rs.set i v) :
    ∀ (hs : List Nat) (g : Nat → α),
      ((hs.map (fun h => l.idxOf h)).zip (hs.map g')).foldl fn (l.map g) =
        l.map (fun h => if h ∈ hs then g' h else g h) := by
  intro hs
  induction hs with
  | nil => intro g; simp
  | cons h hs ih =>
    intro g
    simp only [List.map_cons, List.zip_cons_cons, List.foldl_cons]
    rw [hfn, set_idxOf_map g h (g' h) l hl, ih]
    apply List.map_congr_left
    intro x _
    by_cases e : x = h
    · subst e; simp
    · simp only [List.mem_cons, e, false_or, if_false]

theorem delSt_complete {F : Forest H} (hn : F.numLeaves ≤ 2 ^ 63)
    (hnz : ∀ a b : H, ph a b ≠ (zero : H)) (hlive : ∀ l ∈ F.liveLeaves, l ≠ (zero : H))
    (hd : F.liveLeaves.Nodup) {L : List H} {targets : List Pos} {hashes : List H} (hnd : L.Nodup)
    (hc : F.canon L = some (targets, hashes)) (junk : List H) :
    Stump.delSt ⟨F.roots, BitVec.ofNat 64 F.numLeaves⟩ L (targets.map (E F.rows))
        (hashes ++ junk) =
      (⟨(F.delLeaves L).roots, BitVec.ofNat 64 F.numLeaves⟩,
        .ok ((pathSet F targets).map (fun p => (E F.rows p, valAt (dhash L) F p)))) := by
  obtain ⟨r, hcalc, hroots, _, hnodes⟩ := del_calc hn hnz hlive hd hnd hc junk
  unfold Stump.delSt
  simp only [verify_complete hn hnz hlive hnd hc junk, hcalc]
  have hlen : r.roots.length = (touchedIdx F.numLeaves targets).length := by
    rw [hroots]; simp [touchedIdx]
  rw [if_neg (by simp [hlen])]
  rw [hnodes]
  congr 2
  rw [hroots, SpecNodes.roots_eq, SpecNodes.roots_eq, numLeaves_delLeaves]
  unfold touchedIdx
  rw [foldl_set_map (treeRows F.numLeaves) (treeRows_nodup _) (treeRoot (F.delLeaves L)) _
    (fun _ _ _ => rfl)]
  apply List.map_congr_left
  intro h hh
  split
  · rfl
  · rename_i hu
    exact (treeRoot_untouched hd hc hh hu).symm

end
end UtreexoVerif.Proofs.CalcComplete
