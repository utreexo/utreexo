/-
  Insertion into a list sorted by a key: `insertW lt key x l` puts `x` before the first
  element with a greater key, `sortW` is the insertion sort built from it.  Facts that need no order
  (permutation, members, maps, a prefix that is skipped, a suffix that is not reached) and facts for a strict total order `lt`
  with weak form `le` (`IsOrder lt le`): sorted, strictly sorted for pairwise different keys, fixed
  on sorted lists, determined by the members.  Instances: `insertBy`/`sortBy` of the model
  (`SortBy.insertBy_eq`; `insertInOrder` on the keys is `insertBy` on the elements,
  `SortBy.insertInOrder_eq_insertBy`), `insertInt`/`sortInt` (`Proofs/SchedTTL.lean`), `insertPos`/`sortPos`
  (`ProofPosRef`), the specification's `insertSorted` for a new element (`ProofUpdateDeTwin.insertSorted_eq`).
-/
namespace UtreexoVerif.Proofs.InsertW

variable {α κ : Type}

structure IsOrder (lt le : κ → κ → Prop) : Prop where
  irrefl : ∀ a, ¬ lt a a
  trans : ∀ {a b c}, lt a b → lt b c → lt a c
  tri : ∀ a b, lt a b ∨ a = b ∨ lt b a
  le_iff : ∀ {a b}, le a b ↔ ¬ lt b a

section
variable (lt : κ → κ → Prop) [DecidableRel lt] (key : α → κ)

def insertW (x : α) : List α → List α
  | [] => [x]
  | y :: ys => if lt (key x) (key y) then x :: y :: ys else y :: insertW x ys

def sortW (l : List α) : List α := l.foldl (fun acc x => insertW lt key x acc) []

theorem insertW_perm (x : α) : ∀ l : List α, (insertW lt key x l).Perm (x :: l)
  | [] => List.Perm.refl _
  | y :: ys => by
    rw [insertW]
    split
    · exact List.Perm.refl _
    · exact ((insertW_perm x ys).cons y).trans (List.Perm.swap x y ys)

theorem foldl_insertW_perm : ∀ (l acc : List α),
    (l.foldl (fun acc x => insertW lt key x acc) acc).Perm (acc ++ l)
  | [], acc => by simp
  | x :: xs, acc => by
    rw [List.foldl_cons]
    refine (foldl_insertW_perm xs _).trans (((insertW_perm lt key x acc).append_right xs).trans ?_)
    simp only [List.cons_append]
    exact List.perm_middle.symm

theorem sortW_perm (l : List α) : (sortW lt key l).Perm l := by
  simpa [sortW] using foldl_insertW_perm lt key l []

theorem mem_insertW {x y : α} {l : List α} : y ∈ insertW lt key x l ↔ y = x ∨ y ∈ l :=
  (insertW_perm lt key x l).mem_iff.trans List.mem_cons

theorem mem_sortW {y : α} {l : List α} : y ∈ sortW lt key l ↔ y ∈ l := (sortW_perm lt key l).mem_iff

theorem insertW_append (x : α) : ∀ (l1 l2 : List α), (∀ y ∈ l1, ¬ lt (key x) (key y)) →
    insertW lt key x (l1 ++ l2) = l1 ++ insertW lt key x l2
  | [], _, _ => rfl
  | y :: ys, l2, h => by
    rw [List.cons_append, insertW, if_neg (h y List.mem_cons_self),
      insertW_append x ys l2 (fun z hz => h z (List.mem_cons_of_mem _ hz)), List.cons_append]

theorem insertW_eq_append (x : α) (l : List α) (h : ∀ y ∈ l, ¬ lt (key x) (key y)) :
    insertW lt key x l = l ++ [x] := by
  simpa [insertW] using insertW_append lt key x l [] h

theorem insertW_append_right (x : α) : ∀ (l1 l2 : List α), (∀ y ∈ l2, lt (key x) (key y)) →
    insertW lt key x (l1 ++ l2) = insertW lt key x l1 ++ l2
  | [], [], _ => rfl
  | [], y :: ys, h => by simp [insertW, h y List.mem_cons_self]
  | y :: ys, l2, h => by
    rw [List.cons_append, insertW, insertW]
    split
    · rfl
    · rw [insertW_append_right x ys l2 h]; rfl

theorem insertW_map {β κ' : Type} (lt' : κ' → κ' → Prop) [DecidableRel lt'] (key' : β → κ') (f : α → β)
    (x : α) : ∀ l : List α, (∀ y ∈ l, lt' (key' (f x)) (key' (f y)) ↔ lt (key x) (key y)) →
    insertW lt' key' (f x) (l.map f) = (insertW lt key x l).map f
  | [], _ => rfl
  | y :: ys, hk => by
    have hy := hk y List.mem_cons_self
    rw [List.map_cons, insertW, insertW]
    by_cases h : lt (key x) (key y)
    · rw [if_pos h, if_pos (hy.2 h)]; rfl
    · rw [if_neg h, if_neg (fun h' => h (hy.1 h')), List.map_cons,
        insertW_map lt' key' f x ys (fun z hz => hk z (List.mem_cons_of_mem _ hz))]

theorem sortW_map {β κ' : Type} (lt' : κ' → κ' → Prop) [DecidableRel lt'] (key' : β → κ') (f : α → β)
    (l : List α) (hk : ∀ x ∈ l, ∀ y ∈ l, lt' (key' (f x)) (key' (f y)) ↔ lt (key x) (key y)) :
    sortW lt' key' (l.map f) = (sortW lt key l).map f := by
  have : ∀ (l' acc : List α), (∀ x ∈ l', x ∈ l) → (∀ x ∈ acc, x ∈ l) →
      (l'.map f).foldl (fun acc x => insertW lt' key' x acc) (acc.map f) =
      (l'.foldl (fun acc x => insertW lt key x acc) acc).map f := by
    intro l'
    induction l' with
    | nil => intro acc _ _; rfl
    | cons x xs ih =>
      intro acc hl hacc
      have hx := hl x List.mem_cons_self
      rw [List.map_cons, List.foldl_cons, List.foldl_cons,
        insertW_map lt key lt' key' f x acc (fun y hy => hk x hx y (hacc y hy)),
        ih _ (fun y hy => hl y (List.mem_cons_of_mem _ hy))]
      intro y hy
      rcases (mem_insertW lt key).1 hy with rfl | hy
      · exact hx
      · exact hacc y hy
  exact this l [] (fun _ h => h) (fun _ h => nomatch h)

end

section
variable {lt le : κ → κ → Prop} (key : α → κ) (O : IsOrder lt le)
include O

theorem strict_of_sorted : ∀ {l : List α}, l.Pairwise (fun a b => le (key a) (key b)) →
    (l.map key).Nodup → l.Pairwise (fun a b => lt (key a) (key b))
  | [], _, _ => List.Pairwise.nil
  | a :: t, hs, hnd => by
    rw [List.pairwise_cons] at hs ⊢
    rw [List.map_cons, List.nodup_cons] at hnd
    refine ⟨fun b hb => ?_, strict_of_sorted hs.2 hnd.2⟩
    rcases O.tri (key a) (key b) with h | h | h
    · exact h
    · exact absurd (h ▸ List.mem_map_of_mem hb) hnd.1
    · exact absurd h (O.le_iff.1 (hs.1 b hb))

theorem sorted_of_strict {l : List α} (h : l.Pairwise (fun a b => lt (key a) (key b))) :
    l.Pairwise (fun a b => le (key a) (key b)) :=
  h.imp (fun hab => O.le_iff.2 (fun hc => O.irrefl _ (O.trans hab hc)))

theorem nodup_of_strict {l : List α} (h : l.Pairwise (fun a b => lt (key a) (key b))) :
    (l.map key).Nodup := by
  rw [List.Nodup, List.pairwise_map]
  exact h.imp (fun {a b} hab (e : key a = key b) => O.irrefl (key b) (by rw [e] at hab; exact hab))

end

section
variable {lt le : κ → κ → Prop} [DecidableRel lt] (key : α → κ) (O : IsOrder lt le)
include O

theorem insertW_sorted (x : α) : ∀ l : List α, l.Pairwise (fun a b => le (key a) (key b)) →
    (insertW lt key x l).Pairwise (fun a b => le (key a) (key b))
  | [], _ => by simp [insertW]
  | y :: ys, h => by
    have h' := List.pairwise_cons.1 h
    rw [insertW]
    split
    · rename_i hlt
      have hxy : le (key x) (key y) := O.le_iff.2 (fun hc => O.irrefl _ (O.trans hlt hc))
      refine List.pairwise_cons.2 ⟨fun a ha => ?_, h⟩
      rcases List.mem_cons.1 ha with rfl | ha
      · exact hxy
      · exact O.le_iff.2 (fun hc => O.le_iff.1 (h'.1 a ha) (O.trans hc hlt))
    · rename_i hnlt
      refine List.pairwise_cons.2 ⟨fun a ha => ?_, insertW_sorted x ys h'.2⟩
      rcases (mem_insertW lt key).1 ha with rfl | ha
      · exact O.le_iff.2 hnlt
      · exact h'.1 a ha

theorem sortW_sorted (l : List α) : (sortW lt key l).Pairwise (fun a b => le (key a) (key b)) := by
  have : ∀ (l acc : List α), acc.Pairwise (fun a b => le (key a) (key b)) →
      (l.foldl (fun acc x => insertW lt key x acc) acc).Pairwise (fun a b => le (key a) (key b)) := by
    intro l
    induction l with
    | nil => exact fun _ h => h
    | cons x xs ih => exact fun acc h => ih _ (insertW_sorted key O x acc h)
  exact this l [] List.Pairwise.nil

theorem sortW_strict (l : List α) (hnd : (l.map key).Nodup) :
    (sortW lt key l).Pairwise (fun a b => lt (key a) (key b)) :=
  strict_of_sorted key O (sortW_sorted key O l) (((sortW_perm lt key l).map key).nodup_iff.2 hnd)

theorem foldl_insertW_eq_append : ∀ (l acc : List α),
    (acc ++ l).Pairwise (fun a b => le (key a) (key b)) →
    l.foldl (fun acc x => insertW lt key x acc) acc = acc ++ l
  | [], acc, _ => by simp
  | x :: t, acc, h => by
    rw [List.foldl_cons, insertW_eq_append lt key x acc (fun y hy =>
      O.le_iff.1 ((List.pairwise_append.1 h).2.2 y hy x List.mem_cons_self)),
      foldl_insertW_eq_append t _ (by simpa using h)]
    simp

theorem sortW_eq_self {l : List α} (h : l.Pairwise (fun a b => le (key a) (key b))) :
    sortW lt key l = l := by
  simpa [sortW] using foldl_insertW_eq_append key O l [] (by simpa using h)

theorem sortW_eq_of_perm {l1 l2 : List α} (hp : l1.Perm l2) (hnd : (l1.map key).Nodup) :
    sortW lt key l1 = sortW lt key l2 :=
  List.Perm.eq_of_pairwise (le := fun a b => lt (key a) (key b))
    (fun _ _ _ _ h1 h2 => absurd (O.trans h1 h2) (O.irrefl _)) (sortW_strict key O l1 hnd)
    (sortW_strict key O l2 ((hp.map key).nodup_iff.1 hnd))
    ((sortW_perm lt key l1).trans (hp.trans (sortW_perm lt key l2).symm))

theorem sortW_eq_of_perm_sorted {l s : List α} (hp : l.Perm s)
    (hs : s.Pairwise (fun a b => lt (key a) (key b))) : sortW lt key l = s := by
  rw [sortW_eq_of_perm key O hp ((hp.map key).nodup_iff.2 (nodup_of_strict key O hs)),
    sortW_eq_self key O (sorted_of_strict key O hs)]

end
end UtreexoVerif.Proofs.InsertW
