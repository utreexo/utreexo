/-
  `Pollard.WriteTo` / `writeOne` ON THE HEAP (`Model/PollardHeapSerial.lean`: `writeToH`,
  `writeRootsH`, `writeOneH`) refine the shape-level writer of `Model/Serial.lean`
  (`writeTo`, `writeRoots`, `writeOne` on `PState.ofForest F`): on a heap representing `F`
  (`ReprRoots`, no node reachable twice) they return the same `Res` and leave the same sink,
  for EVERY sink.

  Namespace `Proofs.PollardHeapSerial`, shared by five modules: see the head of `Proofs/PollardFormat.lean`.
-/
import UtreexoVerif.Proofs.CTreeSubs
import UtreexoVerif.Proofs.PollardHeapSub
import UtreexoVerif.Proofs.PollardHeapRun
import UtreexoVerif.Proofs.Serial
import UtreexoVerif.Model.PollardHeapSerial
set_option linter.unusedSectionVars false

namespace UtreexoVerif.Proofs.PollardHeapSerial
open UtreexoVerif.Model.PollardHeap UtreexoVerif.Spec
open UtreexoVerif.Model.Serial UtreexoVerif.Proofs.PollardHeap

variable {H : Type} [DecidableEq H] [Hasher H] [HashBytes H]

theorem deadEnd_fork (d : H) (l r : PNode H) : (PNode.fork d l r).deadEnd = false := rfl
theorem deadEnd_dead (d : H) : (PNode.dead d).deadEnd = true := rfl

theorem sub_depth_le {hp : Heap H} {n holder : Nat} {t : CTree H} {fp : List Nat}
    {lv : List (H × Nat)} (h : Sub hp n holder t fp lv) : SpecNodes.depth t ≤ fp.length := by
  induction h with
  | leaf => simp [SpecNodes.depth]
  | node _ _ _ _ _ _ _ _ _ _ _ iha ihb =>
    simp only [SpecNodes.depth, List.length_cons, List.length_append]
    omega

/-- `getChildren` of a node with a sibling: the nieces of the sibling -/
theorem childrenOf_kids {hp : Heap H} {au n s : Nat} {d : Bool} {sn : PolNode H}
    (k : Kids hp au (sel d n s) (sel d s n)) (hs : hp[s]? = some sn) :
    childrenOf hp n = .ok (sn.lNiece, sn.rNiece) := by
  obtain ⟨aun, h3, _⟩ := k.holder
  obtain ⟨⟨nn, h1, h2⟩, _⟩ := k.sel_c
  have o := k.order h3
  unfold childrenOf getChildren rd getSibling rd
  cases d
  · simp [h1, h2, h3, o.1, o.2, hs]
  · by_cases e : s = n
    · subst e
      rw [h1] at hs; cases hs
      simp [h1, h2, h3, o.1, o.2]
    · simp [h1, h2, h3, o.1, o.2, hs, e]

theorem childrenOf_root {hp : Heap H} {n : Nat} {nn : PolNode H} (h1 : hp[n]? = some nn)
    (h2 : nn.aunt = none) : childrenOf hp n = .ok (nn.lNiece, nn.rNiece) := by
  unfold childrenOf getChildren rd
  simp [h1, h2]

theorem sub_holder_nieces {hp : Heap H} {n holder : Nat} {t : CTree H} {fp : List Nat}
    {lv : List (H × Nat)} (h : Sub hp n holder t fp lv) :
    ∃ hn, hp[holder]? = some hn ∧ (hn.lNiece.isNone && hn.rNiece.isNone) = isLeafT t := by
  cases h with
  | leaf h1 h2 h3 h4 h5 => exact ⟨_, h3, by simp [h4, h5, isLeafT]⟩
  | node h1 h2 h3 h4 h5 => exact ⟨_, h3, by simp [h4, h5, isLeafT]⟩

/-- `getChildren n` returns the nieces of `s`: `s` is the sibling of `n`, or `n = s` is a root (the
`holder` argument of `Sub`, as `getChildren` finds it) -/
def Holder (hp : Heap H) (n s : Nat) : Prop :=
  ∀ sn, hp[s]? = some sn → childrenOf hp n = .ok (sn.lNiece, sn.rNiece)

/-- **`writeOne` on the heap = `writeOne` on the shape**, for a node `n` (tree `tn`) whose children
hang off `s` (tree `tsib`): its sibling, or `n` itself when `n` is a root. -/
theorem writeOneH_pair {hp : Heap H} : ∀ (tsib tn : CTree H) (n s : Nat) (fpn fps : List Nat)
    (lvn lvs : List (H × Nat)) (fuel : Nat) (w : Sink),
    Sub hp n s tn fpn lvn → Sub hp s n tsib fps lvs → Holder hp n s → SpecNodes.depth tsib < fuel →
    writeOneH hp fuel (some n) w = writeOne (PNode.ofNode tn tsib) (isLeafT tn) w := by
  intro tsib
  induction tsib with
  | leaf x =>
    intro tn n s fpn fps lvn lvs fuel w hn hs hsib hf
    obtain ⟨f, rfl⟩ : ∃ f, fuel = f + 1 := ⟨fuel - 1, (Nat.sub_add_cancel (Nat.succ_le_of_lt (Nat.lt_of_le_of_lt (Nat.zero_le _) hf))).symm⟩
    obtain ⟨nn, e1, e2⟩ := hn.hash
    obtain ⟨sn, e3, e4⟩ := sub_holder_nieces hn
    cases hs with
    | leaf h1 h2 h3 h4 h5 =>
      rw [e1] at h3; cases h3
      rw [writeOneH, writeOne]
      simp only [e1, e2, PNode.ofNode, PNode.data, hsib _ e3, e4, h4, h5,
        Option.isSome_none, Bool.and_self, Bool.false_eq_true, if_false]
  | node a b iha ihb =>
    intro tn n s fpn fps lvn lvs fuel w hn hs hsib hf
    obtain ⟨f, rfl⟩ : ∃ f, fuel = f + 1 := ⟨fuel - 1, (Nat.sub_add_cancel (Nat.succ_le_of_lt (Nat.lt_of_le_of_lt (Nat.zero_le _) hf))).symm⟩
    obtain ⟨nn, e1, e2⟩ := hn.hash
    obtain ⟨sn, e3, e4⟩ := sub_holder_nieces hn
    simp only [SpecNodes.depth] at hf
    cases hs with
    | node h1 h2 h3 h4 h5 h6 h7 h8 h9 sa sb =>
      rename_i l r sn' hn0 ln rn fa fb la lb
      rw [e1] at h3; cases h3
      have kk : Kids hp n l r := ⟨⟨_, e1, h4, h5⟩, ⟨_, h6, h8⟩, ⟨_, h7, h9⟩⟩
      have sibl : Holder hp l r := fun _ => childrenOf_kids (d := false) kk
      have sibr : Holder hp r l := fun _ => childrenOf_kids (d := true) kk
      have el := ihb a l r fa fb la lb f
      have er := iha b r l fb fa lb la f
      rw [writeOneH, PNode.ofNode, writeOne]
      simp only [e1, e2, PNode.data, hsib _ e3, e4, h4, h5,
        Option.isSome_some, Bool.and_self, if_true, Proofs.Serial.deadEnd_ofNode]
      congr 1; funext total w1
      congr 1; funext total w2
      congr 1; funext total w3
      rw [el w3 sa sb sibl (Nat.lt_of_le_of_lt (Nat.le_max_right _ _) (Nat.lt_of_succ_lt_succ hf))]
      rcases writeOne (PNode.ofNode a b) (isLeafT a) w3 with ⟨⟨lb', o⟩, w4⟩
      cases o with
      | ok u =>
        simp only []
        rw [er w4 sb sa sibr (Nat.lt_of_le_of_lt (Nat.le_max_left _ _) (Nat.lt_of_succ_lt_succ hf))]
        rfl
      | _ => rfl

theorem writeOneH_root {hp : Heap H} {r : Nat} {t : Option (CTree H)} {fp : List Nat}
    {lv : List (H × Nat)} (h : ReprRoot hp r t fp lv) (nd : fp.Nodup) (w : Sink) :
    writeOneH hp (hp.size + 1) (some r) w =
      writeOne (PNode.ofRoot t) (PNode.ofRoot t).deadEnd w := by
  match t, h with
  | none, h =>
    obtain ⟨⟨rn, h1, h2, h3, h4, h5⟩, _, _⟩ := h
    rw [writeOneH, PNode.ofRoot, writeOne]
    simp [h1, h3, PNode.data, childrenOf_root h1 h2, h4, h5, PNode.deadEnd, flag]
  | some t, h =>
    -- a root is its own sibling
    obtain ⟨⟨rn, h1, h2⟩, hs⟩ := h
    have hlen := nodup_length_le nd hs.fp_lt
    have hh : Holder hp r r := fun sn e => by
      rw [h1] at e; cases e; exact childrenOf_root h1 h2
    rw [Proofs.Serial.ofRoot_self, Proofs.Serial.deadEnd_ofNode]
    exact writeOneH_pair t t r r fp fp lv lv _ w hs hs hh (Nat.lt_succ_of_le (Nat.le_trans (sub_depth_le hs) hlen))

theorem writeRootsH_repr {hp : Heap H} {rs : List Nat} {ts : List (Option (CTree H))}
    {owned : List Nat} {lv : List (H × Nat)} (h : ReprRoots hp rs ts owned lv) (nd : owned.Nodup) :
    ∀ (total : Nat) (w : Sink),
      writeRootsH hp rs total w = writeRoots (ts.map PNode.ofRoot) total w := by
  induction h with
  | nil => intro total w; rfl
  | @cons r t fp lv rs ts owned lvs h1 h2 ih =>
    intro total w
    have nd' := nd
    simp only [List.cons_append, List.nodup_cons, List.nodup_append] at nd'
    rw [writeRootsH, List.map_cons, writeRoots, writeOneH_root h1 nd'.2.1 w]
    rcases writeOne (PNode.ofRoot t) (PNode.ofRoot t).deadEnd w with ⟨⟨b, o⟩, w'⟩
    cases o with
    | ok u => exact ih nd'.2.2.1 _ _
    | _ => rfl

/-- `hd`: `Abs` does not constrain `NumDels`, and the header `WriteTo` writes contains it -/
theorem writeToH_abs {p : Pollard H} {F : Forest H} (a : Abs p F)
    (hd : p.numDels = BitVec.ofNat 64 (numDead F)) (w : Sink) :
    writeToH p w = writeTo (PState.ofForest F) w := by
  obtain ⟨owned, lv, h1, h2, _⟩ := a.repr
  have hN : p.numLeaves = BitVec.ofNat 64 F.numLeaves := by rw [← a.numLeaves]; simp
  have hroots : (PState.ofForest F).roots = (F.trees.map (·.2)).map PNode.ofRoot := by
    simp [PState.ofForest, List.map_map]
  unfold writeToH writeTo
  rw [hroots]
  simp only [PState.ofForest, hN, hd]
  congr 1; funext total w1
  congr 1; funext total w2
  exact writeRootsH_repr h1 h2 total w2

end UtreexoVerif.Proofs.PollardHeapSerial
