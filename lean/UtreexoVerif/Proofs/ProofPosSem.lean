/-
  The paths of the targets (`InP`, `IsProof`, `IsComp`), the hypotheses on the target list
  (`PPHyp0`, `PPHyp`) and the invariant `PPInv` of the row loop of `refPP` with its step.
  The invariant needs the targets to be nodes of the forest and strictly sorted (`PPHyp0`) —
  NOT that no target is an ancestor of another: the per-row `slices.Compact` removes the
  parent that duplicates an explicit ancestor target.
-/
import UtreexoVerif.Proofs.ProofPosSpec

namespace UtreexoVerif.Proofs
open Spec

/-- hypotheses on the target list for the general theorem (`proofPositions_spec_all`): nodes of
the forest, strictly sorted.  NO antichain hypothesis: a target may be an ancestor of another. -/
structure PPHyp0 (n : Nat) (Tg : List Pos) : Prop where
  inForest : ∀ t ∈ Tg, ∃ R, BelowRoot n t.1 t.2 R
  sorted : SSorted Tg

structure PPHyp (n : Nat) (Tg : List Pos) : Prop where
  inForest : ∀ t ∈ Tg, ∃ R, BelowRoot n t.1 t.2 R
  sorted : SSorted Tg
  anti : ∀ a ∈ Tg, ∀ b ∈ Tg, Anc a b → a = b

theorem PPHyp.toHyp0 {n : Nat} {Tg : List Pos} (h : PPHyp n Tg) : PPHyp0 n Tg := ⟨h.inForest, h.sorted⟩

/-- `p` lies on the path from some target up to the root of its tree -/
def InP (n : Nat) (Tg : List Pos) (p : Pos) : Prop :=
  ∃ t ∈ Tg, ∃ R, BelowRoot n t.1 t.2 R ∧ Anc p t ∧ p.1 ≤ R

def IsProof (n : Nat) (Tg : List Pos) (q : Pos) : Prop :=
  ∃ x, InP n Tg x ∧ isRootPos n x = false ∧ q = sib x ∧ ¬ InP n Tg q

def IsComp (n : Nat) (Tg : List Pos) (q : Pos) : Prop :=
  ∃ x, InP n Tg x ∧ isRootPos n x = false ∧ q = parent x

section
variable {n : Nat} {Tg : List Pos}

theorem InP.belowRoot {p : Pos} (h : InP n Tg p) : ∃ R, BelowRoot n p.1 p.2 R := by
  obtain ⟨t, _, R, hb, ha, hp⟩ := h
  exact ⟨R, belowRoot_anc hb ha hp⟩

theorem InP.self0 (hyp : PPHyp0 n Tg) {t : Pos} (ht : t ∈ Tg) : InP n Tg t := by
  obtain ⟨R, hb⟩ := hyp.inForest t ht
  exact ⟨t, ht, R, hb, Anc.refl t, hb.1⟩

theorem InP.parent {x : Pos} (h : InP n Tg x) (hroot : isRootPos n x = false) :
    InP n Tg (Spec.parent x) := by
  obtain ⟨t, ht, R, hb, ha, hp⟩ := h
  have hbx := belowRoot_anc hb ha hp
  have hne : x.1 ≠ R := by
    intro e
    have := belowRoot_isRootPos hbx
    rw [show (x.1, x.2) = x from rfl, hroot] at this
    simp [e] at this
  exact ⟨t, ht, R, hb, ha.parent, by show x.1 + 1 ≤ R; omega⟩

theorem InP.sib_not_root {x : Pos} (h : InP n Tg x) (hroot : isRootPos n x = false) :
    isRootPos n (sib x) = false := by
  obtain ⟨R, hbx⟩ := h.belowRoot
  have hne : x.1 ≠ R := by
    intro e
    have := belowRoot_isRootPos hbx
    rw [show (x.1, x.2) = x from rfl, hroot] at this
    simp [e] at this
  have := belowRoot_isRootPos (belowRoot_sib hbx hne)
  rw [show (x.1, (sib (x.1, x.2)).2) = sib x from rfl] at this
  rw [this]; simp [hne]

theorem InP.parent_notin (hyp : PPHyp n Tg) {x : Pos} (h : InP n Tg x) : Spec.parent x ∉ Tg := by
  intro hc
  obtain ⟨t, ht, R, hb, ha, hp⟩ := h
  have := hyp.anti (Spec.parent x) hc t ht ha.parent
  have h1 := ha.1
  have h2 : (Spec.parent x).1 = x.1 + 1 := rfl
  rw [this] at h2
  omega

theorem InP.row_succ {p : Pos} {ρ : Nat} (h : InP n Tg p) (hp : p.1 = ρ + 1) :
    p ∈ Tg ∨ ∃ x, x.1 = ρ ∧ InP n Tg x ∧ isRootPos n x = false ∧ p = Spec.parent x := by
  obtain ⟨t, ht, R, hb, ha, hpR⟩ := h
  by_cases e : p.1 = t.1
  · left; rw [ha.eq_of_row e]; exact ht
  · right
    have h1 := ha.1
    have hx : Anc (ρ, t.2 / 2 ^ (ρ - t.1)) t := ⟨by show t.1 ≤ ρ; omega, rfl⟩
    have hbx := belowRoot_anc hb hx (by show ρ ≤ R; omega)
    refine ⟨(ρ, t.2 / 2 ^ (ρ - t.1)), rfl, ⟨t, ht, R, hb, hx, by show ρ ≤ R; omega⟩, ?_, ?_⟩
    · rw [belowRoot_isRootPos hbx]; simp; omega
    · obtain ⟨a, b⟩ := p
      simp only at hp e h1 ⊢
      show (a, b) = (ρ + 1, t.2 / 2 ^ (ρ - t.1) / 2)
      have h2 : b = t.2 / 2 ^ (a - t.1) := ha.2
      subst hp
      rw [h2, Nat.div_div_eq_div_mul, ← Nat.pow_succ, show (ρ - t.1).succ = ρ + 1 - t.1 by omega]

theorem InP.row_zero {p : Pos} (h : InP n Tg p) (hp : p.1 = 0) : p ∈ Tg := by
  obtain ⟨t, ht, R, hb, ha, hpR⟩ := h
  have := ha.1
  rw [ha.eq_of_row (by omega)]; exact ht

end

theorem ssorted_split (k : Nat) {Hi : List Pos} (h : SSorted Hi) :
    Hi = Hi.filter (fun p => decide (p.1 < k)) ++ Hi.filter (fun p => !decide (p.1 < k)) := by
  have h1 := sortPos_split k Hi
  rw [sortPos_of_ssorted h, sortPos_of_ssorted (List.Pairwise.filter _ h),
    sortPos_of_ssorted (List.Pairwise.filter _ h)] at h1
  exact h1


/-- state of the row loop before row `ρ`: the target list is strictly sorted (it has just been
sorted and compacted); its entries on row `ρ` are exactly the path nodes of that row, its
entries above are the targets not yet reached (entries below row `ρ` are left behind by the
earlier scans and are skipped from now on).  In `PPInv.step` the sorted list is cut as
`Lo ++ Front ++ Fut` (rows `< ρ`, `= ρ`, `> ρ`); the scan touches `Front` only (`scanPos_front`), and
the parents it writes are re-sorted into `Fut` by the sort and compact after the row. -/
structure PPInv (n : Nat) (Tg : List Pos) (ρ : Nat) (s : List Pos × List Pos × List Pos) : Prop where
  tg_sorted : SSorted s.1
  tg_mem : ∀ p, ρ ≤ p.1 → (p ∈ s.1 ↔ ((p.1 = ρ ∧ InP n Tg p) ∨ (ρ < p.1 ∧ p ∈ Tg)))
  nx_sorted : SSorted s.2.1
  nx_mem : ∀ q, q ∈ s.2.1 ↔ q.1 ≤ ρ ∧ IsComp n Tg q
  pf_sorted : SSorted s.2.2
  pf_mem : ∀ q, q ∈ s.2.2 ↔ q.1 < ρ ∧ IsProof n Tg q

theorem ssorted_append {A B : List Pos} (hA : SSorted A) (hB : SSorted B)
    (h : ∀ a ∈ A, ∀ b ∈ B, a.1 < b.1) : SSorted (A ++ B) :=
  List.pairwise_append.2 ⟨hA, hB, fun a ha b hb => PLt_iff.2 (Or.inl (h a ha b hb))⟩

theorem PPInv.init {n : Nat} {Tg : List Pos} (hyp : PPHyp0 n Tg) : PPInv n Tg 0 (Tg, [], []) where
  tg_sorted := hyp.sorted
  tg_mem := by
    intro p _
    constructor
    · intro hp
      by_cases h0 : p.1 = 0
      · exact Or.inl ⟨h0, InP.self0 hyp hp⟩
      · exact Or.inr ⟨by omega, hp⟩
    · rintro (⟨h0, hin⟩ | ⟨_, hp⟩)
      · exact hin.row_zero h0
      · exact hp
  nx_sorted := List.Pairwise.nil
  nx_mem := by
    intro q
    simp only [List.not_mem_nil, false_iff, not_and]
    rintro h0 ⟨x, _, _, rfl⟩
    have : (parent x).1 = x.1 + 1 := rfl
    omega
  pf_sorted := List.Pairwise.nil
  pf_mem := by intro q; simp

theorem PPInv.step {n : Nat} {Tg : List Pos} {ρ : Nat} {s : List Pos × List Pos × List Pos}
    (hyp : PPHyp0 n Tg) (inv : PPInv n Tg ρ s) :
    PPInv n Tg (ρ + 1)
      (compactPos (sortPos (scanPos n ρ s.1).1), s.2.1 ++ (scanPos n ρ s.1).2.1,
        s.2.2 ++ (scanPos n ρ s.1).2.2) := by
  have hs := ssorted_split ρ inv.tg_sorted
  generalize hLoD : s.1.filter (fun p => decide (p.1 < ρ)) = Lo at hs
  generalize hHiD : s.1.filter (fun p => !decide (p.1 < ρ)) = Hi at hs
  have hLo : ∀ a ∈ Lo, a.1 < ρ := by
    intro a ha
    rw [← hLoD, List.mem_filter] at ha
    simpa using ha.2
  have hHi : SSorted Hi := by rw [← hHiD]; exact List.Pairwise.filter _ inv.tg_sorted
  have hmem : ∀ p, p ∈ Hi ↔ ((p.1 = ρ ∧ InP n Tg p) ∨ (ρ < p.1 ∧ p ∈ Tg)) := by
    intro p
    rw [← hHiD, List.mem_filter]
    simp only [Bool.not_eq_true', decide_eq_false_iff_not]
    constructor
    · rintro ⟨h1, h2⟩
      exact (inv.tg_mem p (by omega)).1 h1
    · intro h
      have hle : ρ ≤ p.1 := by rcases h with h | h <;> omega
      exact ⟨(inv.tg_mem p hle).2 h, by omega⟩
  have hsplit := ssorted_split (ρ + 1) hHi
  generalize hF : Hi.filter (fun p => decide (p.1 < ρ + 1)) = Front at hsplit
  generalize hU : Hi.filter (fun p => !decide (p.1 < ρ + 1)) = Fut at hsplit
  have hFmem : ∀ p, p ∈ Front ↔ p.1 = ρ ∧ InP n Tg p := by
    intro p
    rw [← hF, List.mem_filter, hmem]
    simp only [decide_eq_true_eq]
    constructor
    · rintro ⟨(h | h), h2⟩
      · exact h
      · omega
    · rintro ⟨h1, h2⟩; exact ⟨Or.inl ⟨h1, h2⟩, by omega⟩
  have hUmem : ∀ p, p ∈ Fut ↔ ρ < p.1 ∧ p ∈ Tg := by
    intro p
    rw [← hU, List.mem_filter, hmem]
    simp only [Bool.not_eq_true', decide_eq_false_iff_not]
    constructor
    · rintro ⟨(h | h), h2⟩
      · omega
      · exact h
    · rintro ⟨h1, h2⟩; exact ⟨Or.inr ⟨h1, h2⟩, by omega⟩
  have hFs : SSorted Front := by rw [← hF]; exact List.Pairwise.filter _ hHi
  have hFrow : OnRow ρ Front := fun p hp => ((hFmem p).1 hp).1
  have hFsc : SibClosed n Front := fun t ht hr _ => ((hFmem t).1 ht).2.sib_not_root hr
  have hscan : scanPos n ρ s.1 = (Lo ++ ((scanPos n ρ Front).1 ++ Fut), (scanPos n ρ Front).2.1,
      (scanPos n ρ Front).2.2) := by
    rw [hs, hsplit, scanPos_skip_prefix Lo _ (fun a ha => by
        have := hLo a ha
        have hne : a.1 ≠ ρ := by omega
        simp [skipP, hne]),
      scanPos_skip_suffix Fut (fun c hc => by have := ((hUmem c).1 hc).1; omega)]
  obtain ⟨hP, hS, hPs, hSs⟩ := scanPos_front Front hFrow hFs hFsc
  obtain ⟨hfil, hfilLow⟩ := scanPos_front_filter (n := n) Front hFrow
  rw [hscan]
  simp only
  have hPmem : ∀ q, q ∈ (scanPos n ρ Front).2.1 ↔ q.1 = ρ + 1 ∧ IsComp n Tg q := by
    intro q
    rw [hP]
    constructor
    · rintro ⟨x, hx, hr, rfl⟩
      obtain ⟨h1, h2⟩ := (hFmem x).1 hx
      exact ⟨by show x.1 + 1 = ρ + 1; omega, x, h2, hr, rfl⟩
    · rintro ⟨h1, x, h2, hr, rfl⟩
      exact ⟨x, (hFmem x).2 ⟨by have : x.1 + 1 = ρ + 1 := h1; omega, h2⟩, hr, rfl⟩
  have hSmem : ∀ q, q ∈ (scanPos n ρ Front).2.2 ↔ q.1 = ρ ∧ IsProof n Tg q := by
    intro q
    rw [hS]
    constructor
    · rintro ⟨x, hx, hr, rfl, hnot⟩
      obtain ⟨h1, h2⟩ := (hFmem x).1 hx
      refine ⟨h1, x, h2, hr, rfl, ?_⟩
      intro hc
      exact hnot ((hFmem _).2 ⟨h1, hc⟩)
    · rintro ⟨h1, x, h2, hr, rfl, hnot⟩
      refine ⟨x, (hFmem x).2 ⟨h1, h2⟩, hr, rfl, ?_⟩
      intro hc
      exact hnot ((hFmem _).1 hc).2
  -- of the scanned row's new entries only the parents lie above the row
  have hNew : ∀ p, ρ + 1 ≤ p.1 → (p ∈ (scanPos n ρ Front).1 ↔ p ∈ (scanPos n ρ Front).2.1) := by
    intro p hp
    rw [← hfil, List.mem_filter]
    simp only [Bool.not_eq_true', decide_eq_false_iff_not]
    constructor
    · intro h; exact ⟨h, by omega⟩
    · exact fun h => h.1
  refine ⟨compact_sortPos_ssorted _, ?_, ?_, ?_, ?_, ?_⟩
  · intro p hp
    rw [mem_compact_sortPos, List.mem_append, List.mem_append, hNew p hp, hPmem, hUmem]
    constructor
    · rintro (h0 | ⟨h1, x, hx, hr, rfl⟩ | ⟨h1, h2⟩)
      · have := hLo p h0; omega
      · exact Or.inl ⟨h1, hx.parent hr⟩
      · by_cases e : p.1 = ρ + 1
        · exact Or.inl ⟨e, InP.self0 hyp h2⟩
        · exact Or.inr ⟨by omega, h2⟩
    · rintro (⟨h1, h2⟩ | ⟨h1, h2⟩)
      · rcases h2.row_succ h1 with h3 | ⟨x, hx1, hx2, hx3, hx4⟩
        · exact Or.inr (Or.inr ⟨by omega, h3⟩)
        · exact Or.inr (Or.inl ⟨h1, x, hx2, hx3, hx4⟩)
      · exact Or.inr (Or.inr ⟨by omega, h2⟩)
  · apply ssorted_append inv.nx_sorted hPs
    intro a ha b hb
    have := ((inv.nx_mem a).1 ha).1
    have := ((hPmem b).1 hb).1
    omega
  · intro q
    rw [List.mem_append, inv.nx_mem, hPmem]
    constructor
    · rintro (⟨h1, h2⟩ | ⟨h1, h2⟩)
      · exact ⟨by omega, h2⟩
      · exact ⟨by omega, h2⟩
    · rintro ⟨h1, h2⟩
      by_cases e : q.1 = ρ + 1
      · exact Or.inr ⟨e, h2⟩
      · exact Or.inl ⟨by omega, h2⟩
  · apply ssorted_append inv.pf_sorted hSs
    intro a ha b hb
    have := ((inv.pf_mem a).1 ha).1
    have := ((hSmem b).1 hb).1
    omega
  · intro q
    rw [List.mem_append, inv.pf_mem, hSmem]
    constructor
    · rintro (⟨h1, h2⟩ | ⟨h1, h2⟩)
      · exact ⟨by omega, h2⟩
      · exact ⟨by omega, h2⟩
    · rintro ⟨h1, h2⟩
      by_cases e : q.1 = ρ
      · exact Or.inr ⟨e, h2⟩
      · exact Or.inl ⟨by omega, h2⟩

end UtreexoVerif.Proofs
