/-
  `MapPollard.ingest` (mappollard.go) stores `proof.Proof[i]` for every
  `i < len(ProofPositions(sorted targets))` and is only called after `Verify` accepted.
  `accepted_targets`: the index is in range, for arbitrary roots, hashes and hash function
  (`n ≤ 2^63`); the accepted targets are distinct nodes of the forest, none an ancestor of another.
  Method: the run of `calculateHashes` is read backwards from its final state.  A value outside the
  forest only moves to values outside and is never a root position, so everything ever queued is a
  node; `Good` and `Cover` are carried back to the start in the same pass (`run_back`).
  Vocabulary: `dq` decodes a queued `uint64` (default `(0,0)`), `Nd n p` = "`p` encodes a node of the
  forest"; `items`/`rrows` are the two queues and the recorded root rows of a state, decoded; `Shape` is
  the case analysis of one step on them; `Indep` = neither position is an ancestor of the other.
-/
import UtreexoVerif.Proofs.ProofPosFinal
import UtreexoVerif.Proofs.CalcGeo
import UtreexoVerif.Proofs.CalcRun
import UtreexoVerif.Proofs.ProofOps
import UtreexoVerif.Proofs.LiftGeo

namespace UtreexoVerif.Proofs.IngestBound
open Spec Model

def Indep (a b : Pos) : Prop := ¬ Anc a b ∧ ¬ Anc b a

theorem Indep.symm {a b : Pos} (h : Indep a b) : Indep b a := ⟨h.2, h.1⟩

theorem indep_of_parent {q l : Pos} (h : Indep (parent q) l) : Indep q l := by
  refine ⟨fun ha => h.1 ha.parent, fun ha => ?_⟩
  by_cases e : l.1 = q.1
  · have := ha.eq_of_row e
    subst this
    exact h.1 (MapLiftGeo.anc_parent_self l)
  · exact h.2 (anc_parent_iff.2 ⟨ha, Nat.lt_of_le_of_ne ha.1 (Ne.symm e)⟩)

theorem indep_sib (q : Pos) : Indep q (sib q) := by
  constructor
  · intro ha
    exact CalcGeo.sib_ne q (ha.eq_of_row rfl).symm
  · intro ha
    exact CalcGeo.sib_ne q (ha.eq_of_row rfl)

theorem indep_root {n : Nat} {q l : Pos} {Rl : Nat} (hq : BelowRoot n q.1 q.2 q.1)
    (hl : BelowRoot n l.1 l.2 Rl) (hnb : ¬ BelowRoot n l.1 l.2 q.1) : Indep q l := by
  constructor
  · intro ha
    exact hnb (MapLiftGeo.belowRoot_of_anc hq ha)
  · intro ha
    have hq' := MapLiftGeo.belowRoot_of_anc hl ha
    have := belowRoot_unique hq hq'
    have h1 := ha.1
    have h2 := hl.1
    have e : l.1 = q.1 := by omega
    have := ha.eq_of_row e
    subst this
    exact hnb hq

/-- what an accepted run's final state has trivially and what, carried back, says the targets are an
antichain -/
def Good (n : Nat) (L : List Pos) (rr : List Nat) : Prop :=
  L.Pairwise Indep ∧ (∀ q ∈ L, ∀ r ∈ rr, ¬ BelowRoot n q.1 q.2 r) ∧ rr.Nodup

theorem Good.perm {n : Nat} {L L' : List Pos} {rr : List Nat} (h : Good n L rr) (p : L.Perm L') :
    Good n L' rr :=
  ⟨(p.pairwise_iff (fun h => Indep.symm h)).1 h.1, fun q hq => h.2.1 q (p.mem_iff.2 hq), h.2.2⟩

theorem good_single {n : Nat} {q : Pos} {L : List Pos} {rr : List Nat} {R : Nat}
    (hb : BelowRoot n q.1 q.2 R) (hlt : q.1 < R) (h : Good n (parent q :: L) rr) :
    Good n (q :: L) rr := by
  obtain ⟨h1, h2, h3⟩ := h
  rw [List.pairwise_cons] at h1
  refine ⟨List.pairwise_cons.2 ⟨fun l hl => indep_of_parent (h1.1 l hl), h1.2⟩, ?_, h3⟩
  intro x hx r hr hbx
  rcases List.mem_cons.1 hx with rfl | hx
  · have e := belowRoot_unique hbx hb
    subst e
    exact h2 (parent x) List.mem_cons_self r hr (belowRoot_parent hb (Nat.ne_of_lt hlt))
  · exact h2 x (List.mem_cons_of_mem _ hx) r hr hbx

theorem belowRoot_sib' {n R : Nat} {q : Pos} (hb : BelowRoot n q.1 q.2 R) (hlt : q.1 < R) :
    BelowRoot n (sib q).1 (sib q).2 R :=
  belowRoot_sib (r := q.1) (o := q.2) hb (Nat.ne_of_lt hlt)

theorem good_pair {n : Nat} {q : Pos} {L : List Pos} {rr : List Nat} {R : Nat}
    (hb : BelowRoot n q.1 q.2 R) (hlt : q.1 < R) (h : Good n (parent q :: L) rr) :
    Good n (q :: sib q :: L) rr := by
  have hs : Good n (sib q :: L) rr := by
    apply good_single (belowRoot_sib' hb hlt) (show (sib q).1 < R from hlt)
    rw [CalcGeo.parent_sib]
    exact h
  have hq : Good n (q :: L) rr := good_single hb hlt h
  refine ⟨?_, ?_, h.2.2⟩
  · rw [List.pairwise_cons]
    refine ⟨?_, hs.1⟩
    intro l hl
    rcases List.mem_cons.1 hl with rfl | hl
    · exact indep_sib q
    · exact (List.pairwise_cons.1 hq.1).1 l hl
  · intro x hx
    rcases List.mem_cons.1 hx with rfl | hx
    · exact hq.2.1 x (by simp)
    · exact hs.2.1 x hx

theorem good_root {n : Nat} {q : Pos} {L : List Pos} {rr : List Nat}
    (hq : BelowRoot n q.1 q.2 q.1) (hL : ∀ l ∈ L, ∃ R, BelowRoot n l.1 l.2 R)
    (h : Good n L (rr ++ [q.1])) : Good n (q :: L) rr := by
  obtain ⟨h1, h2, h3⟩ := h
  refine ⟨?_, ?_, (List.nodup_append.1 h3).1⟩
  · rw [List.pairwise_cons]
    refine ⟨fun l hl => ?_, h1⟩
    obtain ⟨Rl, hbl⟩ := hL l hl
    exact indep_root hq hbl (h2 l hl q.1 (by simp))
  · intro x hx r hr hbx
    rcases List.mem_cons.1 hx with rfl | hx
    · have e := belowRoot_unique hbx hq
      exact (List.nodup_append.1 h3).2.2 r hr x.1 (by simp) e
    · exact h2 x hx r (by simp [hr]) hbx

/-- what the rest of the run owes to the queued positions: `C` lists the positions whose hash
is taken from the proof later on -/
def Cover (n : Nat) (Tg : List Pos) (L : List Pos) (C : List Pos) : Prop :=
  ∀ q ∈ L, ∀ R, BelowRoot n q.1 q.2 R → ∀ y, Anc y q → y.1 < R → ¬ InP n Tg (sib y) → sib y ∈ C

theorem Cover.perm {n : Nat} {Tg L L' C : List Pos} (h : Cover n Tg L C) (p : L.Perm L') :
    Cover n Tg L' C := fun q hq => h q (p.mem_iff.2 hq)

theorem cover_cons {n : Nat} {Tg L C C' : List Pos} {q : Pos} {R : Nat} (hsub : ∀ c ∈ C, c ∈ C')
    (hb : BelowRoot n q.1 q.2 R) (hlt : q.1 < R) (hq : ¬ InP n Tg (sib q) → sib q ∈ C')
    (h : Cover n Tg (parent q :: L) C) : Cover n Tg (q :: L) C' := by
  intro x hx R' hb' y ha hyR hn
  rcases List.mem_cons.1 hx with rfl | hx
  · by_cases e : y.1 = x.1
    · rw [ha.eq_of_row e] at hn ⊢
      exact hq hn
    · have e' := belowRoot_unique hb' hb
      subst e'
      exact hsub _ (h (parent x) (List.mem_cons_self ..) R' (belowRoot_parent hb (Nat.ne_of_lt hlt)) y
        (anc_parent_iff.2 ⟨ha, Nat.lt_of_le_of_ne ha.1 (Ne.symm e)⟩) hyR hn)
  · exact hsub _ (h x (List.mem_cons_of_mem _ hx) R' hb' y ha hyR hn)

theorem cover_pair {n : Nat} {Tg L C : List Pos} {q : Pos} {R : Nat}
    (hb : BelowRoot n q.1 q.2 R) (hlt : q.1 < R) (hq : InP n Tg q) (hs : InP n Tg (sib q))
    (h : Cover n Tg (parent q :: L) C) : Cover n Tg (q :: sib q :: L) C := by
  intro x hx
  rcases List.mem_cons.1 hx with rfl | hx
  · exact cover_cons (fun _ hc => hc) hb hlt (absurd hs) h x (List.mem_cons_self ..)
  · refine cover_cons (fun _ hc => hc) (belowRoot_sib' hb hlt) (show (sib q).1 < R from hlt) ?_
      (CalcGeo.parent_sib q ▸ h) x hx
    rw [CalcGeo.sib_sib]
    exact absurd hq

theorem cover_root {n : Nat} {Tg L C : List Pos} {q : Pos} (hq : BelowRoot n q.1 q.2 q.1)
    (h : Cover n Tg L C) : Cover n Tg (q :: L) C := by
  intro x hx R' hb' y ha hyR hn
  rcases List.mem_cons.1 hx with rfl | hx
  · have e := belowRoot_unique hb' hq
    have := ha.1
    omega
  · exact h x hx R' hb' y ha hyR hn

section
set_option linter.unusedSectionVars false
variable {H : Type} [DecidableEq H] [Hasher H]
open CalcSound CalcGeo SpecView

def dq (rows : Nat) (p : U64) : Pos := (dec rows p.toNat).getD (0, 0)

theorem dq_E {rows : Nat} (hr : rows ≤ 63) {q : Pos} (hq : ValidH rows q) :
    dq rows (E rows q) = q := by
  unfold dq
  rw [E_toNat hr hq]
  obtain ⟨r, o⟩ := q
  rw [dec_enc _ _ _ hq.1 hq.2]
  rfl

def Nd (n : Nat) (p : U64) : Prop :=
  (∃ R, BelowRoot n (dq (forestRows n) p).1 (dq (forestRows n) p).2 R) ∧
    p = E (forestRows n) (dq (forestRows n) p)

theorem nd_valid {n : Nat} {p : U64} (h : Nd n p) : ValidH (forestRows n) (dq (forestRows n) p) :=
  have ⟨⟨_, hb⟩, _⟩ := h
  hb.valid (forestRows_spec_le n)

theorem nd_E {n : Nat} (hn : n ≤ 2 ^ 63) {q : Pos} {R : Nat} (hb : BelowRoot n q.1 q.2 R) :
    Nd n (E (forestRows n) q) ∧ dq (forestRows n) (E (forestRows n) q) = q := by
  have hd := dq_E (forestRows_small hn) (hb.valid (forestRows_spec_le n))
  unfold Nd
  rw [hd]
  exact ⟨⟨⟨R, hb⟩, rfl⟩, rfl⟩

theorem nonroot_geom {n : Nat} (hn : n ≤ 2 ^ 63) {p : U64}
    (hp : p.toNat ≤ 2 ^ (forestRows n + 1) - 2)
    (hpar : Nd n (Parent p (H8 (forestRows n)))) :
    Nd n p ∧ ∃ R, BelowRoot n (dq (forestRows n) p).1 (dq (forestRows n) p).2 R ∧
      (dq (forestRows n) p).1 < R ∧
      dq (forestRows n) (Parent p (H8 (forestRows n))) = parent (dq (forestRows n) p) := by
  have htr : forestRows n ≤ 63 := forestRows_small hn
  have hv' := nd_valid hpar
  obtain ⟨q, hv, he⟩ := EncPos.exists_encP (H := forestRows n) p
    (by have := Nat.two_pow_pos (forestRows n); rw [Nat.pow_succ]; omega)
  obtain ⟨⟨R', hb'⟩, he'⟩ := hpar
  have hdq : dq (forestRows n) p = q := by rw [he]; exact dq_E htr hv
  generalize hq' : dq (forestRows n) (Parent p (H8 (forestRows n))) = q' at *
  by_cases hlt : q.1 < forestRows n
  · have hpe : Parent p (H8 (forestRows n)) = E (forestRows n) (parent q) := by
      rw [he]; exact parent_E htr hv hlt
    have hqq : q' = parent q := by
      rw [← hq', hpe]
      exact dq_E htr (ValidH.parent hv hlt)
    subst hqq
    have hbq : BelowRoot n q.1 q.2 R' := MapLiftGeo.belowRoot_of_anc hb' (MapLiftGeo.anc_parent_self q)
    have h2 : q.1 + 1 ≤ R' := hb'.1
    have hnd : Nd n p := by
      unfold Nd; rw [hdq]; exact ⟨⟨R', hbq⟩, he⟩
    rw [hdq]
    exact ⟨hnd, R', hbq, h2, rfl⟩
  · exfalso
    have e : q.1 = forestRows n := Nat.le_antisymm hv.1 (Nat.le_of_not_lt hlt)
    have h2 := hv.2
    rw [e, Nat.sub_self] at h2
    have hp0 : p = encU (forestRows n) (forestRows n) 0 := by
      rw [he]
      show encU _ q.1 q.2 = _
      rw [e, Nat.lt_one_iff.1 h2]
    have htop := parent_top htr
    rw [← hp0, he'] at htop
    exact Nat.ne_of_lt (encP_toNat_lt htr hv') htop

theorem root_geom {n : Nat} (hn : n ≤ 2 ^ 63) {p : U64} {row : U8}
    (hle : row ≤ H8 (forestRows n))
    (hroot : isRootPositionOnRow p (BitVec.ofNat 64 n) row = true) :
    Nd n p ∧ (dq (forestRows n) p).1 = row.toNat ∧
      BelowRoot n (dq (forestRows n) p).1 (dq (forestRows n) p).2 (dq (forestRows n) p).1 := by
  have htr : forestRows n ≤ 63 := forestRows_small hn
  obtain ⟨hex, hpos⟩ := isRootPositionOnRow_true hroot
  obtain ⟨hrow, hk⟩ := row_eq_H8 htr hle
  generalize row.toNat = k at hrow hk
  subst hrow
  have hb := testBit_of_rootExists (Nat.lt_of_le_of_lt hn (by decide)) (Nat.le_trans hk htr) hex
  have hlt : n < 2 ^ (forestRows n + 1) :=
    Nat.lt_of_le_of_lt (forestRows_spec_le n) (two_pow_lt_of_lt (Nat.lt_succ_self _))
  rw [treeRows_ofNat hn, rootPosition_enc htr hk hlt] at hpos
  have hbr : BelowRoot n (rootPos n k).1 (rootPos n k).2 k := ⟨Nat.le_refl _, hb, by simp [rootPos]⟩
  have hpE : p = E (forestRows n) (rootPos n k) := hpos
  obtain ⟨hnd, hd⟩ := nd_E hn hbr
  rw [hpE, hd]
  exact ⟨hnd, rfl, hbr⟩

theorem pair_geom {n : Nat} (hn : n ≤ 2 ^ 63) {p y : U64} (hp : Nd n p) {R : Nat}
    (hb : BelowRoot n (dq (forestRows n) p).1 (dq (forestRows n) p).2 R)
    (hlt : (dq (forestRows n) p).1 < R) (hne : p ≠ y) (hrs : rightSib p = y) :
    Nd n y ∧ dq (forestRows n) y = sib (dq (forestRows n) p) := by
  have htr : forestRows n ≤ 63 := forestRows_small hn
  have hv := nd_valid hp
  obtain ⟨_, he⟩ := hp
  have hRle := (belowRoot_valid (forestRows_spec_le n) hb).1
  generalize dq (forestRows n) p = q at *
  have hlt' : q.1 < forestRows n := Nat.lt_of_lt_of_le hlt hRle
  have hy : y = E (forestRows n) (q.1, 2 * (q.2 / 2) + 1) := by
    rw [← hrs, he]; exact rightSib_E htr hv
  obtain ⟨_, hs⟩ := (sibTest_E htr hv (rightOf_valid hv hlt') hlt').1 (Bool.and_eq_true_iff.2
    ⟨bne_iff_ne.2 fun e => hne (he.trans (e.trans hy.symm)), beq_iff_eq.2 (rightSib_E htr hv)⟩)
  rw [hs] at hy
  obtain ⟨hnd, hd⟩ := nd_E hn (belowRoot_sib' hb hlt)
  rw [hy, hd]
  exact ⟨hnd, rfl⟩

def items (rows : Nat) (s : CalcSt H) : List Pos :=
  (s.toProve ++ s.next).map (fun x => dq rows x.1)

def rrows (s : CalcSt H) : List Nat := s.rootRows.map (·.toNat)

def AllNd (n : Nat) (s : CalcSt H) : Prop := ∀ x ∈ s.toProve ++ s.next, Nd n x.1

/-- one step on the decoded queues `L → L'`, root rows `rr → rr'`, proof length `pl → pl'` -/
inductive Shape (n : Nat) (L : List Pos) (rr : List Nat) (pl : Nat) (L' : List Pos) (rr' : List Nat)
    (pl' : Nat) : Prop
  | root (q : Pos) : L.Perm (q :: L') → BelowRoot n q.1 q.2 q.1 → rr' = rr ++ [q.1] → pl' = pl →
      Shape n L rr pl L' rr' pl'
  | single (q : Pos) (L0 : List Pos) (R : Nat) : L.Perm (q :: L0) → BelowRoot n q.1 q.2 R → q.1 < R →
      L'.Perm (parent q :: L0) → rr' = rr → pl' + 1 = pl → Shape n L rr pl L' rr' pl'
  | pair (q : Pos) (L0 : List Pos) (R : Nat) : L.Perm (q :: sib q :: L0) → BelowRoot n q.1 q.2 R →
      q.1 < R → L'.Perm (parent q :: L0) → rr' = rr → pl' = pl → Shape n L rr pl L' rr' pl'

theorem shape_of_step {n : Nat} (hn : n ≤ 2 ^ 63) {s s' : CalcSt H}
    (hstep : calcStep (BitVec.ofNat 64 n) (H8 (forestRows n)) s = .ok (.cont s'))
    (hrow : s.row ≤ H8 (forestRows n)) (ha' : AllNd n s') :
    AllNd n s ∧ Shape n (items (forestRows n) s) (rrows s) s.proof.length
      (items (forestRows n) s') (rrows s') s'.proof.length := by
  have htr : forestRows n ≤ 63 := forestRows_small hn
  obtain ⟨x, tp, nx, hP, hcur, hcase⟩ := calcStep_cont hstep
  have hperm : (items (forestRows n) s).Perm
      (dq (forestRows n) x.1 :: (tp ++ nx).map (fun x => dq (forestRows n) x.1)) :=
    (Pop.perm hP).map _
  obtain ⟨hle, hmax⟩ := rowCursor_ok _ _ _ hcur hrow
  rcases hcase with ⟨hroot, h1, h2, h3, h4, _⟩ | ⟨sb, tp', nx', hsib, h1, h2, h3, _⟩
  · obtain ⟨hxnd, hq1, hqb⟩ := root_geom hn hle hroot
    constructor
    · intro z hz
      rcases (hP.mem_iff z).1 hz with rfl | hz
      · exact hxnd
      · exact ha' z (by rw [h1, h2]; exact hz)
    · refine Shape.root (dq (forestRows n) x.1) ?_ hqb ?_ (by rw [h4])
      · unfold items; rw [h1, h2]; exact hperm
      · unfold rrows; rw [h3, hq1]; simp
  · have hpnd : Nd n (Parent x.1 (H8 (forestRows n))) :=
      ha' (Parent x.1 (H8 (forestRows n)), getNextHash x.1 x.2 sb) (by rw [h2]; simp)
    have hxle : x.1.toNat ≤ 2 ^ (forestRows n + 1) - 2 :=
      Nat.le_trans (BitVec.le_def.1 hmax) (maxPositionAtRow_le htr s'.row (BitVec.ofNat 64 n)
        (by rw [EncPos.toNat_N hn]; exact forestRows_spec_le n))
    obtain ⟨hxnd, R, hb, hlt, hpar⟩ := nonroot_geom hn hxle hpnd
    have hrest : ∀ z ∈ tp' ++ nx', Nd n z.1 := by
      intro z hz
      apply ha' z
      rw [h1, h2, ← List.append_assoc]
      exact List.mem_append_left _ hz
    have hperm' : (items (forestRows n) s').Perm
        (parent (dq (forestRows n) x.1) :: (tp' ++ nx').map (fun x => dq (forestRows n) x.1)) := by
      unfold items
      rw [h1, h2, ← List.append_assoc, List.map_append, List.map_cons, List.map_nil, hpar]
      exact List.perm_append_comm
    rcases hsib with ⟨y, hPy, hne, hrs, _, hpr⟩ | ⟨rfl, rfl, _, hpr⟩
    · obtain ⟨hynd, hy⟩ := pair_geom hn hxnd hb hlt hne hrs
      constructor
      · intro z hz
        rcases (hP.mem_iff z).1 hz with rfl | hz
        · exact hxnd
        · rcases (hPy.mem_iff z).1 hz with rfl | hz
          · exact hynd
          · exact hrest z hz
      · refine Shape.pair (dq (forestRows n) x.1) ((tp' ++ nx').map (fun x => dq (forestRows n) x.1)) R
          ?_ hb hlt hperm' (by unfold rrows; rw [h3]) (by rw [hpr])
        refine hperm.trans (List.Perm.cons _ ?_)
        rw [← hy]
        exact (Pop.perm hPy).map _
    · constructor
      · intro z hz
        rcases (hP.mem_iff z).1 hz with rfl | hz
        · exact hxnd
        · exact hrest z hz
      · exact Shape.single (dq (forestRows n) x.1) _ R hperm hb hlt hperm' (by unfold rrows; rw [h3])
          (by rw [hpr]; simp)

theorem items_belowRoot {n : Nat} {s : CalcSt H} (h : AllNd n s) :
    ∀ q ∈ items (forestRows n) s, ∃ R, BelowRoot n q.1 q.2 R := by
  intro q hq
  obtain ⟨x, hx, rfl⟩ := List.mem_map.1 hq
  exact (h x hx).1

theorem inP_parent {n : Nat} {Tg : List Pos} {q : Pos} {R : Nat} (hb : BelowRoot n q.1 q.2 R)
    (hlt : q.1 < R) (h : InP n Tg q) : InP n Tg (parent q) := by
  apply h.parent
  rw [show q = (q.1, q.2) from rfl, belowRoot_isRootPos hb]
  simp; omega

section main
variable {n : Nat} (hn : n ≤ 2 ^ 63)
include hn

theorem run_back (Tg : List Pos) (fuel : Nat) (s sf : CalcSt H)
    (h : calcLoop (BitVec.ofNat 64 n) (H8 (forestRows n)) fuel s = .ok sf)
    (w : WF (BitVec.ofNat 64 n) (H8 (forestRows n)) s) :
    WF (BitVec.ofNat 64 n) (H8 (forestRows n)) sf ∧ AllNd n s ∧
      ((∀ q ∈ items (forestRows n) s, InP n Tg q) → (rrows sf).Nodup →
        ∃ C : List Pos, C.length + sf.proof.length ≤ s.proof.length ∧
          Good n (items (forestRows n) s) (rrows s) ∧ Cover n Tg (items (forestRows n) s) C) := by
  have htr255 : (H8 (forestRows n)).toNat < 255 := by
    rw [toNat_H8 (forestRows_small hn)]
    exact Nat.lt_of_le_of_lt (forestRows_small hn) (by decide)
  refine CalcSoundX.calcLoop_induction₂ (I := WF (BitVec.ofNat 64 n) (H8 (forestRows n)))
    (P := fun s sf => AllNd n s ∧ ((∀ q ∈ items (forestRows n) s, InP n Tg q) → (rrows sf).Nodup →
      ∃ C : List Pos, C.length + sf.proof.length ≤ s.proof.length ∧
        Good n (items (forestRows n) s) (rrows s) ∧ Cover n Tg (items (forestRows n) s) C))
    (fun _ _ hstep w => w.step htr255 hstep) ?_ ?_ fuel s sf h w
  · intro s w hstop
    have hempty : s.toProve = [] ∧ s.next = [] := by
      rcases hstop with hgt | h12
      · exact absurd w.row_le (BitVec.not_le.mpr hgt)
      · exact h12
    have hitems : items (forestRows n) s = [] := by unfold items; rw [hempty.1, hempty.2]; rfl
    refine ⟨fun x hx => by rw [hempty.1, hempty.2] at hx; simp at hx, fun _ hnd => ?_⟩
    rw [hitems]
    exact ⟨[], by simp, ⟨List.Pairwise.nil, by simp, hnd⟩, by intro q hq; simp at hq⟩
  · intro s s1 sf hstep w _ ⟨hnd1, ih⟩
    obtain ⟨hnd0, shape⟩ := shape_of_step hn hstep w.row_le hnd1
    refine ⟨hnd0, fun hinP hnd => ?_⟩
    have hbr1 := items_belowRoot hnd1
    cases shape with
    | root q hp hq hrr hpl =>
      obtain ⟨C, hlen, hgood, hcov⟩ :=
        ih (fun x hx => hinP x (hp.mem_iff.2 (List.mem_cons_of_mem _ hx))) hnd
      refine ⟨C, hpl ▸ hlen, ?_, (cover_root hq hcov).perm hp.symm⟩
      rw [hrr] at hgood
      exact (good_root hq hbr1 hgood).perm hp.symm
    | single q L0 R hp hb hlt hp' hrr hpl =>
      have hq : InP n Tg q := hinP q (hp.mem_iff.2 (by simp))
      obtain ⟨C, hlen, hgood, hcov⟩ := ih (fun x hx => by
        rcases List.mem_cons.1 (hp'.mem_iff.1 hx) with rfl | hx
        · exact inP_parent hb hlt hq
        · exact hinP x (hp.mem_iff.2 (List.mem_cons_of_mem _ hx))) hnd
      refine ⟨sib q :: C, ?_, ?_, ?_⟩
      · rw [← hpl, List.length_cons, Nat.add_right_comm]
        exact Nat.succ_le_succ hlen
      · rw [hrr] at hgood
        exact (good_single hb hlt (hgood.perm hp')).perm hp.symm
      · exact (cover_cons (fun _ hc => List.mem_cons_of_mem _ hc) hb hlt (fun _ => List.mem_cons_self ..)
          (hcov.perm hp')).perm hp.symm
    | pair q L0 R hp hb hlt hp' hrr hpl =>
      have hq : InP n Tg q := hinP q (hp.mem_iff.2 (by simp))
      have hsq : InP n Tg (sib q) := hinP (sib q) (hp.mem_iff.2 (by simp))
      obtain ⟨C, hlen, hgood, hcov⟩ := ih (fun x hx => by
        rcases List.mem_cons.1 (hp'.mem_iff.1 hx) with rfl | hx
        · exact inP_parent hb hlt hq
        · exact hinP x (hp.mem_iff.2 (List.mem_cons_of_mem _ (List.mem_cons_of_mem _ hx)))) hnd
      refine ⟨C, hpl ▸ hlen, ?_, (cover_pair hb hlt hq hsq (hcov.perm hp')).perm hp.symm⟩
      rw [hrr] at hgood
      exact (good_pair hb hlt (hgood.perm hp')).perm hp.symm

end main

omit [DecidableEq H] [Hasher H] in
theorem nodup_of_distinctAdj : ∀ (rs : List U8) (prev : Option U8), distinctAdj prev rs →
    rs.Pairwise (· ≤ ·) → (∀ p, prev = some p → ∀ r ∈ rs, p ≤ r) →
    rs.Nodup ∧ ∀ p, prev = some p → p ∉ rs
  | [], _, _, _, _ => ⟨List.nodup_nil, by simp⟩
  | r :: rs, prev, hd, hs, hp => by
    rw [List.pairwise_cons] at hs
    obtain ⟨hnd, hnot⟩ := nodup_of_distinctAdj rs (some r) hd.2 hs.2
      (fun p hp' r' hr' => by injection hp' with hp'; subst hp'; exact hs.1 r' hr')
    refine ⟨List.nodup_cons.2 ⟨hnot r rfl, hnd⟩, fun p hpp hmem => ?_⟩
    subst hpp
    rcases List.mem_cons.1 hmem with e | hmem
    · exact hd.1 (by rw [e])
    · exact hd.1 (by rw [BitVec.le_antisymm (hp p rfl r List.mem_cons_self) (hs.1 p hmem)])

section assemble

/-- a forest of `n` dead slots: only its leaf count matters below -/
def dummy (H : Type) (n : Nat) : Forest H := ⟨List.replicate n none⟩

theorem refPP_length_le (F : Forest H) {n : Nat} (hF : F.numLeaves = n) {Tg C : List Pos}
    (hyp : PPHyp n Tg) (hcov : Cover n Tg Tg C) {T : Nat} (hT : forestRows n ≤ T) :
    (refPP n T Tg).1.length ≤ C.length := by
  subst hF
  rw [refPP_eq_spec F hyp hT]
  refine (SSorted.nodup (sortDedup_ssorted _)).length_le_of_subset fun q hq => ?_
  obtain ⟨x, ⟨t, ht, R, hb, ha, hxR⟩, hroot, rfl, hnot⟩ := (mem_spec_proofPositions F hyp q).1 hq
  have hne : x.1 ≠ R :=
    of_decide_eq_false ((belowRoot_isRootPos (belowRoot_anc hb ha hxR)).symm.trans hroot)
  exact hcov t ht R hb x ha (Nat.lt_of_le_of_ne hxR hne) hnot

theorem accepted_run {n : Nat} (hn : n ≤ 2 ^ 63) {roots hs : List H} {ts : List U64}
    {ps : List H} {idx : List Nat}
    (hv : verify (BitVec.ofNat 64 n) roots hs ts ps = .ok idx) :
    ∃ (sf : CalcSt H) (Tg : List Pos),
      calcLoop (BitVec.ofNat 64 n) (H8 (forestRows n)) (calcFuel ts.length (H8 (forestRows n)))
        (initSt (sortHP (ts.zip hs)) ps) = .ok sf ∧
      matchRoots (BitVec.ofNat 64 n) roots sf.roots sf.rootRows none = .ok idx ∧
      PPHyp n Tg ∧ sortU64 ts = Tg.map (encP (forestRows n)) ∧
      ∀ T, forestRows n ≤ T → (refPP n T Tg).1.length + sf.proof.length ≤ ps.length := by
  have htr : forestRows n ≤ 63 := forestRows_small hn
  have hlen := verify_length hv
  obtain ⟨r, hc, hm⟩ := verify_ok hv
  obtain ⟨sf, hloop, rfl⟩ := CalcSoundX.calculateHashes_ok hc
  rw [treeRows_ofNat hn] at hloop
  have hloop0 := hloop
  unfold initSt at hloop
  obtain ⟨s0, hs0⟩ : ∃ s0 : CalcSt H, s0 = ⟨sortHP (ts.zip hs), [], [], ps, 0#8, [], []⟩ := ⟨_, rfl⟩
  rw [← hs0] at hloop
  have w0 : WF (BitVec.ofNat 64 n) (H8 (forestRows n)) s0 := by subst hs0; exact WF.init _ _ _ _
  obtain ⟨wf, hnd0, hback⟩ := run_back hn (items (forestRows n) s0) _ s0 sf hloop w0
  have hndf : (rrows sf).Nodup := by
    have := (nodup_of_distinctAdj _ _ ((matchRoots_iff _ _ _ _ wf.len).1 hm).1 wf.mono (by simp)).1
    unfold rrows
    exact List.Pairwise.map _ (fun a b hab h => hab (BitVec.eq_of_toNat_eq h)) this
  refine ⟨sf, items (forestRows n) s0, hloop0, hm, ?_⟩
  have hbr0 := items_belowRoot hnd0
  have hinP : ∀ q ∈ items (forestRows n) s0, InP n (items (forestRows n) s0) q := by
    intro q hq
    obtain ⟨R, hb⟩ := hbr0 q hq
    exact ⟨q, hq, R, hb, Anc.refl q, hb.1⟩
  obtain ⟨C, hlenC, hgood, hcov⟩ := hback hinP hndf
  have hitems : items (forestRows n) s0 =
      (sortHP (ts.zip hs)).map (fun x => dq (forestRows n) x.1) := by
    subst hs0; unfold items; simp
  have hproof : s0.proof = ps := by subst hs0; rfl
  have hE : ∀ x ∈ sortHP (ts.zip hs), x.1 = E (forestRows n) (dq (forestRows n) x.1) := by
    intro x hx
    exact (hnd0 x (by subst hs0; simpa using hx)).2
  have hvalid : ∀ q ∈ items (forestRows n) s0, ValidH (forestRows n) q := fun q hq =>
    have ⟨_, hb⟩ := hbr0 q hq
    hb.valid (forestRows_spec_le n)
  have hyp : PPHyp n (items (forestRows n) s0) := by
    refine ⟨hbr0, ?_, ?_⟩
    · have hsorted : (sortHP (ts.zip hs)).Pairwise (fun a b => a.1 ≤ b.1) :=
        SortBy.sortBy_sorted (fun x : U64 × H => x.1) (ts.zip hs)
      have hind := hgood.1
      rw [hitems, List.pairwise_map] at hind
      show List.Pairwise _ _
      rw [hitems, List.pairwise_map]
      refine List.Pairwise.imp_of_mem ?_ (hsorted.and hind)
      intro a b ha hb ⟨hle, hi⟩
      have hva := hvalid _ (by rw [hitems]; exact List.mem_map_of_mem ha)
      have hvb := hvalid _ (by rw [hitems]; exact List.mem_map_of_mem hb)
      show Forest.posLt _ _ = true
      rw [Sorted.posLt_iff]
      rcases Sorted.PLt.tri (dq (forestRows n) a.1) (dq (forestRows n) b.1) with e | h | h
      · rw [e] at hi; exact absurd (Anc.refl _) hi.1
      · exact h
      · have : E _ _ < E _ _ := (encP_lt_iff_or htr hvb hva).2 h
        rw [← hE a ha, ← hE b hb] at this
        exact absurd hle (BitVec.not_le.mpr this)
    · exact fun a ha b hb => List.Pairwise.forall_of_forall_of_flip
        (R := fun a b => Anc a b → a = b) (fun _ _ _ => rfl)
        (hgood.1.imp fun hi h => absurd h hi.1) (hgood.1.imp fun hi h => absurd h hi.2) ha hb
  refine ⟨hyp, ?_, ?_⟩
  · have h1 : (sortHP (ts.zip hs)).positions = sortU64 ts := by
      rw [SortBy.sortHP_positions, ProofOps.zip_positions ts hs hlen.symm]
    rw [← h1, hitems, List.map_map]
    unfold HP.positions
    apply List.map_congr_left
    intro x hx
    exact hE x hx
  · intro T hT
    rw [hproof] at hlenC
    exact Nat.le_trans
      (Nat.add_le_add_right (refPP_length_le (dummy H n) (by simp [dummy, Forest.numLeaves]) hyp hcov hT) _) hlenC

/-- **What `Verify` accepts** — for ANY roots, hashes and hash function (no collision-freeness,
no forest); `T` is any row allocation. -/
theorem accepted_targets {n : Nat} (hn : n ≤ 2 ^ 63) {roots hs : List H} {ts : List U64}
    {ps : List H} {idx : List Nat}
    (hv : verify (BitVec.ofNat 64 n) roots hs ts ps = .ok idx) :
    ∃ Tg : List Pos, PPHyp n Tg ∧ sortU64 ts = Tg.map (encP (forestRows n)) ∧
      ∀ T, forestRows n ≤ T → (refPP n T Tg).1.length ≤ ps.length := by
  obtain ⟨sf, Tg, _, _, hyp, hs, hlen⟩ := accepted_run hn hv
  exact ⟨Tg, hyp, hs, fun T hT => Nat.le_trans (Nat.le_add_right _ _) (hlen T hT)⟩

theorem proofPositions_any {n : Nat} (hn : n ≤ 2 ^ 63) {Tg : List Pos}
    (hyp : PPHyp n Tg) {T : Nat} (hT : forestRows n ≤ T) (hT63 : T ≤ 63) :
    ProofPositions (Tg.map (encP T)) (BitVec.ofNat 64 n) (H8 T) =
      ((refPP n T Tg).1.map (encP T), (refPP n T Tg).2.map (encP T)) := by
  have h := proofPositions_eq_refPP (H := T) (h := forestRows n) (BitVec.ofNat 64 n)
    (treeRows_ofNat hn) hT63 hT Tg (by rw [EncPos.toNat_N hn]; exact hyp.inForest)
  rw [EncPos.toNat_N hn] at h
  exact h

theorem refPP_spec {F : Forest H} {Tg : List Pos} (hyp : PPHyp F.numLeaves Tg) {T : Nat}
    (hT : F.rows ≤ T) : refPP F.numLeaves T Tg = (F.proofPositions Tg, F.computable Tg) :=
  refPP_eq_spec F hyp hT

end assemble

end

end UtreexoVerif.Proofs.IngestBound
