/-
  Canonical proof positions are sorted, are nodes of the forest, and are not roots.
-/
import UtreexoVerif.Proofs.MovePP

namespace UtreexoVerif.Proofs.ProofUpdateHelpers
open Spec
open UtreexoVerif.Proofs.SpecSubs
open UtreexoVerif.Proofs.SpecPlan
open UtreexoVerif.Proofs.CalcGeo
open UtreexoVerif.Proofs.Sorted UtreexoVerif.Proofs.PPContent

section
variable {H : Type} [DecidableEq H] [Hasher H]

omit [DecidableEq H] [Hasher H] in
theorem proofPositions_sorted (F : Forest H) (tg : List Pos) :
    (F.proofPositions tg).Pairwise Sorted.PLt := by
  unfold Forest.proofPositions
  exact sortDedup_sorted _

theorem pp_node {F : Forest H} {tg : List Pos} (tok : TargetsOK F tg) {q : Pos}
    (hq : q ∈ F.proofPositions tg) : ∃ h t, SubAtT F h q t := by
  obtain ⟨c, hc, hr, _, rfl⟩ := mem_proofPositions.1 hq
  obtain ⟨h, t, s⟩ := pathSet_sub tok hc
  obtain ⟨_, s', _, ss⟩ := s.parent hr
  exact ⟨h, s', ss⟩

theorem pp_not_root {F : Forest H} {tg : List Pos} (tok : TargetsOK F tg) {q : Pos}
    (hq : q ∈ F.proofPositions tg) : isRootPos F.numLeaves q = false := by
  obtain ⟨c, hc, hr, _, rfl⟩ := mem_proofPositions.1 hq
  obtain ⟨h, t, s⟩ := pathSet_sub tok hc
  exact not_root_sib s.inF

end
end UtreexoVerif.Proofs.ProofUpdateHelpers
