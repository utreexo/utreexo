/-
  Pointer forest, heap model: zippers.

  * `CCtx` — a collapsed tree with a hole (bottom-up zipper), `plug`/`depth`/`revPath`; `walkChild` — the node reached
    from a node by a child path, on the heap;
  * `CCtx.cons d up s` — one more level of a context, the side `d` of the hole as a Boolean (`sel d x y` chooses
    by that side), and the induction principle over `top`/`cons`: the zipper with ONE kind of step;
  * `CtxRepr` — the heap represents a context: `top`, or one `step d` (the `Kids` of the holder one level up,
    the `Sub` of the sibling); `cons_inv` is its inversion at a context `cons d up ts`;
  * `Sub.kids_at`, `Sub.zoom_ctx`, `RootRepr.zoom` — a represented tree and a child path split into a context and the sub-tree.
-/
import UtreexoVerif.Proofs.PollardHeapOff
set_option linter.unusedSectionVars false

namespace UtreexoVerif.Proofs.PollardHeap
open UtreexoVerif.Model.PollardHeap UtreexoVerif.Spec
open UtreexoVerif.Model.PollardAbs

variable {H : Type} [DecidableEq H] [Hasher H]

/-- a collapsed tree with a hole, bottom-up: `left up s` = the hole is the LEFT child of a node
whose right child is `s`, that node sits in `up` -/
inductive CCtx (H : Type) where
  | top
  | left (up : CCtx H) (sib : CTree H)
  | right (sib : CTree H) (up : CCtx H)

def CCtx.plug : CCtx H → CTree H → CTree H
  | .top, t => t
  | .left up s, t => up.plug (.node t s)
  | .right s up, t => up.plug (.node s t)

def CCtx.depth : CCtx H → Nat
  | .top => 0
  | .left up _ => up.depth + 1
  | .right _ up => up.depth + 1

/-- the child path of the hole, bottom first (`true` = right child) -/
def CCtx.revPath : CCtx H → List Bool
  | .top => []
  | .left up _ => false :: up.revPath
  | .right _ up => true :: up.revPath

/-- the node (with its niece holder) reached from `n` (children hanging off `h`) along a child
path (`true` = right child) -/
def walkChild (hp : Heap H) : Nat → Nat → List Bool → Option (Nat × Nat)
  | n, h, [] => some (n, h)
  | _, h, d :: rest =>
    match hp[h]? with
    | some hn =>
      match hn.lNiece, hn.rNiece with
      | some l, some r => if d then walkChild hp r l rest else walkChild hp l r rest
      | _, _ => none
    | none => none

theorem walkChild_append (hp : Heap H) : ∀ (p q : List Bool) (n h : Nat),
    walkChild hp n h (p ++ q) = (walkChild hp n h p).bind (fun x => walkChild hp x.1 x.2 q) := by
  intro p
  induction p with
  | nil => intro q n h; rfl
  | cons d p ih =>
    intro q n h
    simp only [List.cons_append, walkChild]
    cases hp[h]? with
    | none => rfl
    | some hn =>
      simp only
      cases hn.lNiece with
      | none => rfl
      | some l =>
        cases hn.rNiece with
        | none => rfl
        | some r =>
          simp only
          cases d
          · simp only [Bool.false_eq_true, if_false]; exact ih q l r
          · simp only [if_true]; exact ih q r l

theorem walkChild_flip {hp : Heap H} (π : List Bool) (d : Bool) (n h x y : Nat)
    (hw : walkChild hp n h (π ++ [d]) = some (x, y)) :
    walkChild hp n h (π ++ [!d]) = some (y, x) := by
  rw [walkChild_append] at hw ⊢
  cases hπ : walkChild hp n h π with
  | none => rw [hπ] at hw; simp at hw
  | some q =>
    rw [hπ] at hw
    simp only [Option.bind_some] at hw ⊢
    simp only [walkChild] at hw ⊢
    cases hq : hp[q.2]? with
    | none => rw [hq] at hw; simp at hw
    | some hn =>
      rw [hq] at hw
      simp only at hw ⊢
      cases hl : hn.lNiece with
      | none => rw [hl] at hw; simp at hw
      | some l =>
        cases hr : hn.rNiece with
        | none => rw [hl, hr] at hw; simp at hw
        | some r =>
          rw [hl, hr] at hw
          simp only at hw ⊢
          cases d
          · simp only [Bool.false_eq_true, if_false, Option.some.injEq, Prod.mk.injEq] at hw
            simp [hw.1, hw.2]
          · simp only [if_true, Option.some.injEq, Prod.mk.injEq] at hw
            simp [hw.1, hw.2]

def CCtx.cons (d : Bool) (up : CCtx H) (s : CTree H) : CCtx H := bif d then .right s up else .left up s

theorem CCtx.plug_cons (d : Bool) (up : CCtx H) (s t : CTree H) :
    (CCtx.cons d up s).plug t = up.plug (.node (sel d t s) (sel d s t)) := by cases d <;> rfl

theorem CCtx.depth_cons (d : Bool) (up : CCtx H) (s : CTree H) :
    (CCtx.cons d up s).depth = up.depth + 1 := by cases d <;> rfl

theorem CCtx.revPath_cons (d : Bool) (up : CCtx H) (s : CTree H) :
    (CCtx.cons d up s).revPath = d :: up.revPath := by cases d <;> rfl

theorem CCtx.cons_ne_top (d : Bool) (up : CCtx H) (s : CTree H) : CCtx.cons d up s ≠ .top := by
  cases d <;> (intro e; cases e)

theorem CCtx.exists_cons {c : CCtx H} (h : c ≠ .top) : ∃ d up s, c = CCtx.cons d up s := by
  cases c with
  | top => exact absurd rfl h
  | left up s => exact ⟨false, up, s, rfl⟩
  | right s up => exact ⟨true, up, s, rfl⟩

theorem CCtx.cons_inj {d d' : Bool} {up up' : CCtx H} {s s' : CTree H}
    (e : CCtx.cons d up s = CCtx.cons d' up' s') : d = d' ∧ up = up' ∧ s = s' := by
  cases d <;> cases d' <;> cases e <;> exact ⟨rfl, rfl, rfl⟩

theorem CCtx.consInduction {P : CCtx H → Prop} (top : P .top)
    (cons : ∀ d up s, P up → P (CCtx.cons d up s)) : ∀ c, P c
  | .top => top
  | .left up s => cons false up s (CCtx.consInduction top cons up)
  | .right s up => cons true up s (CCtx.consInduction top cons up)

/-- the heap represents the context `ctx` of node `c` (children hanging off `hc`) below `root`: the
pointer structure of every ancestor and the full `Sub` of every sibling on the way; the DATA of the
ancestors is not constrained (it is stale between a surgery and `hashToRoot`).  `fpc` = every node of
the context except `root` (`c` and its proper ancestors, the siblings on the way, their footprints),
`l1`/`l2` = the leaves to the left / right of the hole -/
inductive CtxRepr (hp : Heap H) (root : Nat) :
    CCtx H → Nat → Nat → List Nat → List (H × Nat) → List (H × Nat) → Prop
  | top {rn : PolNode H} : hp[root]? = some rn → rn.aunt = none →
      CtxRepr hp root .top root root [] [] []
  | step (d : Bool) {up : CCtx H} {n h c s : Nat} {ts : CTree H} {fs fpu : List Nat}
      {ls l1 l2 : List (H × Nat)} :
      CtxRepr hp root up n h fpu l1 l2 → Kids hp h (sel d c s) (sel d s c) → Sub hp s c ts fs ls →
      CtxRepr hp root (CCtx.cons d up ts) c s (c :: s :: (fs ++ fpu))
        (sel d l1 (l1 ++ ls)) (sel d (ls ++ l2) l2)

theorem CtxRepr.holder_mem {hp : Heap H} {root : Nat} {ctx : CCtx H} {c hc : Nat} {fpc : List Nat}
    {l1 l2 : List (H × Nat)} (h : CtxRepr hp root ctx c hc fpc l1 l2) : hc ∈ root :: fpc := by
  cases h <;> simp

theorem CtxRepr.node_mem {hp : Heap H} {root : Nat} {ctx : CCtx H} {c hc : Nat} {fpc : List Nat}
    {l1 l2 : List (H × Nat)} (h : CtxRepr hp root ctx c hc fpc l1 l2) : c ∈ root :: fpc := by
  cases h <;> simp

theorem CtxRepr.top_inv {hp : Heap H} {root c hc : Nat} {fpc : List Nat} {l1 l2 : List (H × Nat)}
    (h : CtxRepr hp root .top c hc fpc l1 l2) :
    ∃ rn, hp[root]? = some rn ∧ rn.aunt = none ∧ c = root ∧ hc = root ∧ fpc = [] ∧ l1 = [] ∧ l2 = [] := by
  generalize e : (CCtx.top : CCtx H) = ctx at h
  cases h with
  | top h1 h2 => exact ⟨_, h1, h2, rfl, rfl, rfl, rfl, rfl⟩
  | step d => exact absurd e.symm (CCtx.cons_ne_top _ _ _)

/-- inversion at a context that is not `top` (`cases` cannot see through `CCtx.cons`) -/
theorem CtxRepr.cons_inv {hp : Heap H} {root : Nat} {d : Bool} {up : CCtx H} {ts : CTree H}
    {c s : Nat} {fpc : List Nat} {l1' l2' : List (H × Nat)}
    (h : CtxRepr hp root (CCtx.cons d up ts) c s fpc l1' l2') :
    ∃ n h0 fs fpu ls l1 l2, CtxRepr hp root up n h0 fpu l1 l2 ∧ Kids hp h0 (sel d c s) (sel d s c) ∧
      Sub hp s c ts fs ls ∧ fpc = c :: s :: (fs ++ fpu) ∧ l1' = sel d l1 (l1 ++ ls) ∧
      l2' = sel d (ls ++ l2) l2 := by
  generalize e : CCtx.cons d up ts = ctx at h
  cases h with
  | top => exact absurd e (CCtx.cons_ne_top _ _ _)
  | step d' hu k hs =>
    obtain ⟨rfl, rfl, rfl⟩ := CCtx.cons_inj e
    exact ⟨_, _, _, _, _, _, _, hu, k, hs, rfl, rfl, rfl⟩

theorem CtxRepr.frame {hp hp' : Heap H} {root : Nat} {ctx : CCtx H} {c hc : Nat} {fpc : List Nat}
    {l1 l2 : List (H × Nat)} (h : CtxRepr hp root ctx c hc fpc l1 l2)
    (e : ∀ i ∈ root :: fpc, hp'[i]? = hp[i]?) : CtxRepr hp' root ctx c hc fpc l1 l2 := by
  induction h with
  | top h1 h2 => exact .top ((e root (by simp)).trans h1) h2
  | @step d up n h c s ts fs fpu ls l1 l2 hu k hs ih =>
    have eu : ∀ i ∈ root :: fpu, hp'[i]? = hp[i]? := fun i hi => e i (by
      rcases List.mem_cons.1 hi with h | h
      · simp [h]
      · simp [h])
    have ec := e c (by simp)
    have es := e s (by simp)
    have eh := eu h (hu.holder_mem)
    refine .step d (ih eu) ?_ (hs.frame (fun x hx => ⟨x, es.trans hx, rfl⟩)
      (fun x hx => ⟨x, ec.trans hx, rfl, rfl⟩) (fun i hi => e i (by simp [hi])))
    obtain ⟨hn, h1, h2⟩ := k.holder
    obtain ⟨⟨cn, h4, h6⟩, ⟨sn, h5, h7⟩⟩ := k.sel_c
    exact Kids.of_sel_c ⟨hn, eh.trans h1, h2⟩ ⟨cn, ec.trans h4, h6⟩ ⟨sn, es.trans h5, h7⟩

theorem CtxRepr.lt {hp : Heap H} {root : Nat} {ctx : CCtx H} {c hc : Nat} {fpc : List Nat}
    {l1 l2 : List (H × Nat)} (h : CtxRepr hp root ctx c hc fpc l1 l2) :
    ∀ i ∈ root :: fpc, i < hp.size := by
  induction h with
  | top h1 h2 => intro i hi; simp at hi; subst hi; exact lt_of_get h1
  | step d hu k hs ih =>
    obtain ⟨⟨_, e1, _⟩, ⟨_, e2, _⟩⟩ := k.sel_c
    intro i hi
    simp only [List.mem_cons, List.mem_append] at hi
    rcases hi with rfl | rfl | rfl | hi | hi
    · exact ih _ List.mem_cons_self
    · exact lt_of_get e1
    · exact lt_of_get e2
    · exact hs.fp_lt i hi
    · exact ih _ (List.mem_cons_of_mem _ hi)

theorem CtxRepr.depth_le {hp : Heap H} {root : Nat} {ctx : CCtx H} {c hc : Nat} {fpc : List Nat}
    {l1 l2 : List (H × Nat)} (h : CtxRepr hp root ctx c hc fpc l1 l2) : ctx.depth ≤ fpc.length := by
  induction h with
  | top => simp [CCtx.depth]
  | step d _ _ _ ih => rw [CCtx.depth_cons]; simp; omega

/-- a frame lemma that lets the niece holder `hc` of the context node change its niece pointers (and
`remember`): what `transferAunt` does to the aunt of the parent -/
theorem CtxRepr.frame_holder {hp hp' : Heap H} {root : Nat} {ctx : CCtx H} {c hc : Nat}
    {fpc : List Nat} {l1 l2 : List (H × Nat)} (h : CtxRepr hp root ctx c hc fpc l1 l2)
    (nd : (root :: fpc).Nodup)
    (e : ∀ i ∈ root :: fpc, i ≠ hc → hp'[i]? = hp[i]?)
    (eh : ∀ x, hp[hc]? = some x → ∃ x', hp'[hc]? = some x' ∧ x'.aunt = x.aunt ∧ x'.data = x.data) :
    CtxRepr hp' root ctx c hc fpc l1 l2 := by
  cases h with
  | top h1 h2 =>
    obtain ⟨x', e1, e2, _⟩ := eh _ h1
    exact .top e1 (e2.trans h2)
  | step d hu k hs =>
    simp only [List.nodup_cons, List.mem_cons, List.mem_append, not_or, List.nodup_append] at nd
    obtain ⟨⟨_, hrs, _, hrfpu⟩, ⟨hcs, _, _⟩, ⟨hsfs, hsfpu⟩, _⟩ := nd
    -- the upper context and the sibling's tree do not contain the sibling `hc`
    have eu : ∀ i ∈ root :: _, hp'[i]? = hp[i]? := fun i hi => by
      rcases List.mem_cons.1 hi with rfl | hi
      · exact e _ (by simp) hrs
      · exact e i (by simp [hi]) (fun e' => hsfpu (e' ▸ hi))
    have ec := e c (by simp) hcs
    obtain ⟨⟨cn, h4, h6⟩, ⟨sn, h5, h7⟩⟩ := k.sel_c
    obtain ⟨x', e1, e2, e3⟩ := eh _ h5
    obtain ⟨hn, g1, g2⟩ := k.holder
    refine .step d (hu.frame eu) ?_ (hs.frame (fun x hx => by cases h5.symm.trans hx; exact ⟨x', e1, e3⟩)
      (fun x hx => ⟨x, ec.trans hx, rfl, rfl⟩) (fun i hi => e i (by simp [hi]) (fun e' => hsfs (e' ▸ hi))))
    exact Kids.of_sel_c ⟨hn, (eu _ hu.holder_mem).trans g1, g2⟩ ⟨cn, ec.trans h4, h6⟩ ⟨x', e1, e2.trans h7⟩

theorem Sub.kids_at {hp : Heap H} {n h : Nat} {a b : CTree H} {fp : List Nat} {lv : List (H × Nat)}
    (d : Bool) (hs : Sub hp n h (.node a b) fp lv) :
    ∃ c s fc fs lc ls, Kids hp h (sel d c s) (sel d s c) ∧ Sub hp c s (sel d a b) fc lc ∧
      Sub hp s c (sel d b a) fs ls ∧ (c :: s :: (fc ++ fs)).Perm fp ∧ lv = sel d (lc ++ ls) (ls ++ lc) ∧
      walkChild hp n h [d] = some (c, s) := by
  cases hs with
  | node h1 h2 h3 h4 h5 h6 h7 h8 h9 sa sb =>
    have k : Kids hp h _ _ := ⟨⟨_, h3, h4, h5⟩, ⟨_, h6, h8⟩, ⟨_, h7, h9⟩⟩
    cases d
    · exact ⟨_, _, _, _, _, _, k, sa, sb, .refl _, rfl, by simp [walkChild, h3, h4, h5]⟩
    · exact ⟨_, _, _, _, _, _, k, sb, sa, by perm_count, rfl, by simp [walkChild, h3, h4, h5]⟩

theorem childPath_cons_node (a b : CTree H) (d : Bool) (π : List Bool) :
    childPath (.node a b) (d :: π) = childPath (sel d a b) π := by cases d <;> rfl

theorem childPath_zoom : ∀ (π : List Bool) (ctx0 : CCtx H) (t s : CTree H),
    childPath t π = some s →
    ∃ ctx : CCtx H, ctx.plug s = ctx0.plug t ∧ ctx.revPath = π.reverse ++ ctx0.revPath ∧
      ctx.depth = ctx0.depth + π.length := by
  intro π
  induction π with
  | nil =>
    intro ctx0 t s h
    simp only [childPath, Option.some.injEq] at h
    subst h
    exact ⟨ctx0, rfl, by simp, by simp⟩
  | cons d π ih =>
    intro ctx0 t s h
    cases t with
    | leaf x => simp [childPath, child] at h
    | node a b =>
      cases d with
      | false =>
        simp only [childPath, child] at h
        obtain ⟨ctx, e1, e2, e3⟩ := ih (.left ctx0 b) a s h
        exact ⟨ctx, by rw [e1]; rfl, by rw [e2]; simp [CCtx.revPath], by rw [e3]; simp [CCtx.depth]; omega⟩
      | true =>
        simp only [childPath, child] at h
        obtain ⟨ctx, e1, e2, e3⟩ := ih (.right a ctx0) b s h
        exact ⟨ctx, by rw [e1]; rfl, by rw [e2]; simp [CCtx.revPath], by rw [e3]; simp [CCtx.depth]; omega⟩

theorem Sub.zoom_ctx {hp : Heap H} {root : Nat} (hroot : ∃ rn, hp[root]? = some rn ∧ rn.aunt = none) :
    ∀ (ctx : CCtx H) (b : CTree H) (fp : List Nat) (lv : List (H × Nat)),
    Sub hp root root (ctx.plug b) fp lv →
    ∃ B S fb lb fpc l1 l2, CtxRepr hp root ctx B S fpc l1 l2 ∧ Sub hp B S b fb lb ∧
      (fpc ++ fb).Perm fp ∧ lv = l1 ++ lb ++ l2 ∧
      walkChild hp root root ctx.revPath.reverse = some (B, S) := by
  intro ctx
  induction ctx using CCtx.consInduction with
  | top =>
    intro b fp lv hs
    obtain ⟨rn, h1, h2⟩ := hroot
    exact ⟨root, root, fp, lv, [], [], [], .top h1 h2, hs, .refl _, by simp, rfl⟩
  | cons d up ts ih =>
    intro b fp lv hs
    rw [CCtx.plug_cons] at hs
    obtain ⟨G, HG, fG, lG, fpu, l1u, l2u, hu, sG, pG, elv, hw⟩ := ih _ fp lv hs
    obtain ⟨c, s, fc, fs, lc, ls, kk, sc, ss, pk, elG, hwk⟩ := sG.kids_at d
    have sc' : Sub hp c s b fc lc := by cases d <;> exact sc
    have ss' : Sub hp s c ts fs ls := by cases d <;> exact ss
    refine ⟨c, s, fc, lc, _, _, _, .step d hu kk ss', sc', ?_, ?_, ?_⟩
    · refine List.Perm.trans ?_ ((pk.append_left fpu).trans pG)
      perm_count
    · rw [elv, elG]; exact (sel_hole d _ _ _ _).symm
    · rw [CCtx.revPath_cons, List.reverse_cons, walkChild_append, hw]; exact hwk

theorem RootRepr.zoom {hp : Heap H} {root : Nat} {t t0 : CTree H} {fp : List Nat} {lv : List (H × Nat)}
    (hR : RootRepr hp root t fp lv) {π : List Bool} (hπ : childPath t π = some t0) :
    ∃ ctx c hc fc lc fpc l1 l2, CtxRepr hp root ctx c hc fpc l1 l2 ∧ Sub hp c hc t0 fc lc ∧
      t = ctx.plug t0 ∧ (fpc ++ fc).Perm fp ∧ lv = l1 ++ lc ++ l2 ∧
      walkChild hp root root π = some (c, hc) ∧ ctx.depth = π.length ∧ ctx.revPath = π.reverse := by
  obtain ⟨ctx, e1, e2, e3⟩ := childPath_zoom π .top t t0 hπ
  simp only [CCtx.plug, CCtx.revPath, CCtx.depth, List.append_nil, Nat.zero_add] at e1 e2 e3
  subst e1
  obtain ⟨c, hc, fc, lc, fpc, l1, l2, h1, h2, h3, h4, h5⟩ := Sub.zoom_ctx hR.1 ctx t0 fp lv hR.2
  rw [e2, List.reverse_reverse] at h5
  exact ⟨ctx, c, hc, fc, lc, fpc, l1, l2, h1, h2, rfl, h3, h4, h5, e3, e2⟩

theorem CCtx.two_deep {c : CCtx H} {d : Bool} {ρ : List Bool} (h : c.revPath = d :: ρ) (hρ : ρ ≠ []) :
    ∃ pl up ts b, c = CCtx.cons d (CCtx.cons pl up ts) b := by
  obtain ⟨d', c1, b, rfl⟩ := CCtx.exists_cons (c := c) (by rintro rfl; simp [CCtx.revPath] at h)
  rw [CCtx.revPath_cons] at h
  obtain ⟨rfl, h1⟩ := List.cons.inj h
  obtain ⟨pl, up, ts, rfl⟩ := CCtx.exists_cons (c := c1) (by rintro rfl; exact hρ (by simpa [CCtx.revPath] using h1.symm))
  exact ⟨pl, up, ts, b, rfl⟩

end UtreexoVerif.Proofs.PollardHeap
