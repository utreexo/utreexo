/-
  `DetectOffset` (C16): the loop walks down the trees (set bits of the leaf
  count, highest first) until it reaches the tree that contains the position.
-/
import UtreexoVerif.Proofs.Geometry2

namespace UtreexoVerif.Proofs
open UtreexoVerif.GoInt

/-- total size of the trees on rows `R+1 … R+d` -/
def sumBits (n R : Nat) : Nat → Nat
  | 0 => 0
  | d + 1 => sumBits n R d + (if n.testBit (R + d + 1) then 2 ^ (R + d + 1) else 0)

/-- number of trees on rows `R+1 … R+d` -/
def cntBits (n R : Nat) : Nat → Nat
  | 0 => 0
  | d + 1 => cntBits n R d + (if n.testBit (R + d + 1) then 1 else 0)

theorem sumBits_spec (n R d : Nat) : n % 2 ^ (R + d + 1) = n % 2 ^ (R + 1) + sumBits n R d := by
  induction d with
  | zero => rfl
  | succ d ih =>
    rw [show R + (d + 1) + 1 = (R + d + 1) + 1 by omega, mod_two_pow_succ_testBit, ih, sumBits]
    omega

theorem sumBits_eq_treeStart {n R d : Nat} (hn : n < 2 ^ (R + d + 1)) :
    sumBits n R d = Spec.treeStart n R := by
  have h1 := sumBits_spec n R d
  rw [Nat.mod_eq_of_lt hn] at h1
  unfold Spec.treeStart
  rw [Nat.shiftRight_eq_div_pow, Nat.shiftLeft_eq]
  have := Nat.div_add_mod n (2 ^ (R + 1))
  rw [Nat.mul_comm] at this
  omega

theorem two_pow_dvd_sumBits (n R d : Nat) : 2 ^ (R + 1) ∣ sumBits n R d := by
  induction d with
  | zero => exact Nat.dvd_zero _
  | succ d ih =>
    rw [sumBits]
    apply Nat.dvd_add ih
    split
    · exact Nat.pow_dvd_pow 2 (by omega)
    · exact Nat.dvd_zero _

theorem treeRowsFrom_succ (k n : Nat) :
    Spec.treeRowsFrom (k + 1) n =
      (if n.testBit (k + 1) then [k + 1] else []) ++ Spec.treeRowsFrom k n := by
  rw [Spec.treeRowsFrom]; split <;> rfl

theorem idxOf_treeRowsFrom {n R : Nat} (hb : n.testBit R = true) (d : Nat) :
    (Spec.treeRowsFrom (R + d) n).idxOf R = cntBits n R d := by
  induction d with
  | zero =>
    cases R with
    | zero => rw [Nat.add_zero, Spec.treeRowsFrom, if_pos hb]; rfl
    | succ R => rw [Nat.add_zero, Spec.treeRowsFrom, if_pos hb, List.idxOf_cons]; simp [cntBits]
  | succ d ih =>
    rw [show R + (d + 1) = (R + d) + 1 by omega, treeRowsFrom_succ, cntBits]
    split
    · rw [List.singleton_append, List.idxOf_cons, ih]
      have : (R + d + 1 == R) = false := by simp; omega
      rw [this]; rfl
    · rw [List.nil_append, ih]; rfl

theorem testBit_iff_mod_ge (x t : Nat) : x.testBit t = decide (2 ^ t ≤ x % 2 ^ (t + 1)) := by
  rw [mod_two_pow_succ_testBit]
  have := Nat.mod_lt x (Nat.two_pow_pos t)
  cases h : x.testBit t
  · simp; omega
  · simp

theorem one_shl_and (n : U64) (t : Nat) :
    shl 1#64 t &&& n = if n.toNat.testBit t then BitVec.twoPow 64 t else 0#64 := by
  rw [one_shl_eq_twoPow, BitVec.and_comm, BitVec.and_twoPow, ← BitVec.testBit_toNat]

theorem sub_ofNat_mod (x : U64) {j S : Nat} (hj : j ≤ 64) (hS : 2 ^ j ∣ S) :
    (x - BitVec.ofNat 64 S).toNat % 2 ^ j = x.toNat % 2 ^ j := by
  have hM64 : 2 ^ j ∣ 2 ^ 64 := Nat.pow_dvd_pow 2 hj
  have hd : 2 ^ j ∣ 2 ^ 64 - S % 2 ^ 64 :=
    Nat.dvd_sub hM64 ((Nat.dvd_mod_iff hM64).2 hS)
  obtain ⟨c, hc⟩ := hd
  rw [BitVec.toNat_sub, BitVec.toNat_ofNat, Nat.mod_mod_of_dvd _ hM64, hc, Nat.mul_add_mod]

/-- subtracting whole trees above row `t` does not change what the condition looks at -/
theorem shifted_mod {h r o t S : Nat} (hh : h ≤ 63) (hr : r ≤ h) (ho : o < 2 ^ (h - r))
    (ht : t ≤ h) (hS : 2 ^ (t + 1) ∣ S) :
    (encU h r o - BitVec.ofNat 64 S).toNat * 2 ^ r % 2 ^ (t + 1) = (o * 2 ^ r) % 2 ^ (t + 1) := by
  have hMh : 2 ^ (t + 1) ∣ 2 ^ (h + 1) := Nat.pow_dvd_pow 2 (by omega)
  rw [Nat.mul_mod, sub_ofNat_mod _ (by omega) hS, ← Nat.mul_mod, toNat_encU hh hr ho,
    ← Nat.mod_mod_of_dvd _ hMh, childMany_nat hr (Nat.le_refl r) ho, Nat.sub_self, enc_val,
    Nat.sub_zero, Nat.sub_self, Nat.zero_add]


/-- the loop condition at row `t`: continue unless there is a tree on row `t` and the
position's leftmost leaf has bit `t` clear -/
theorem detectOffset_cond {h r o t S : Nat} (n : U64) (hh : h ≤ 63) (hr : r ≤ h)
    (ho : o < 2 ^ (h - r)) (ht : t ≤ h) (hS : 2 ^ (t + 1) ∣ S) :
    decide ((shl (encU h r o - BitVec.ofNat 64 S) (H8 r).toNat &&&
        Model.maxPosition (ofInt 8 (t : Int))) ≥ (Model.maxLeafCount (ofInt 8 (t : Int)) &&& n)) =
      (!n.toNat.testBit t || (o * 2 ^ r).testBit t) := by
  unfold Model.maxPosition Model.maxLeafCount ofInt
  rw [BitVec.ofInt_natCast, toNat_H8 (by omega), toNat_H8 (by omega)]
  have key : (shl (encU h r o - BitVec.ofNat 64 S) r &&& (shl 2#64 t - 1#64) ≥ shl 1#64 t &&& n) ↔
      (if n.toNat.testBit t then 2 ^ t else 0) ≤ (o * 2 ^ r) % 2 ^ (t + 1) := by
    rw [ge_iff_le, BitVec.le_def, toNat_shl_and_mask (by omega), shifted_mod hh hr ho ht hS,
      one_shl_and]
    cases n.toNat.testBit t
    · simp
    · simp [BitVec.toNat_twoPow_of_lt (show t < 64 by omega)]
  rw [show decide (shl (encU h r o - BitVec.ofNat 64 S) r &&& (shl 2#64 t - 1#64) ≥ shl 1#64 t &&& n) =
      decide ((if n.toNat.testBit t then 2 ^ t else 0) ≤ (o * 2 ^ r) % 2 ^ (t + 1)) from
    decide_eq_decide.2 key, testBit_iff_mod_ge (o * 2 ^ r) t]
  have := Nat.two_pow_pos t
  by_cases hb : n.toNat.testBit t = true
  · simp [hb]
  · simp [hb]

/-- one round on a row `t + 1` that does not catch the position: the tree on that row, if there
is one, is subtracted and counted -/
theorem detectOffset_step {h r o t S : Nat} (n : U64) (hh : h ≤ 63) (hr : r ≤ h)
    (ho : o < 2 ^ (h - r)) (ht : t + 1 ≤ h) (hS : 2 ^ (t + 1 + 1) ∣ S)
    (hc : n.toNat.testBit (t + 1) = true → (o * 2 ^ r).testBit (t + 1) = true)
    (fuel : Nat) (big : U8) :
    Model.DetectOffset.loop1 n (H8 r) (fuel + 1) (encU h r o - BitVec.ofNat 64 S)
        ((t + 1 : Nat) : Int) big =
      Model.DetectOffset.loop1 n (H8 r) fuel
        (encU h r o - BitVec.ofNat 64 (S + if n.toNat.testBit (t + 1) then 2 ^ (t + 1) else 0))
        ((t : Nat) : Int) (big + BitVec.ofNat 8 (if n.toNat.testBit (t + 1) then 1 else 0)) := by
  have hcond : (!n.toNat.testBit (t + 1) || (o * 2 ^ r).testBit (t + 1)) = true := by
    cases hb : n.toNat.testBit (t + 1)
    · rfl
    · rw [hc hb]; rfl
  have hneg : ¬ (((t + 1 : Nat) : Int) < 0) := by omega
  have hsub : ((t + 1 : Nat) : Int) - 1 = ((t : Nat) : Int) := by omega
  rw [Model.DetectOffset.loop1, detectOffset_cond n hh hr ho ht hS, hcond]
  simp only [if_true, hneg, decide_false, Bool.false_eq_true, if_false, Int.toNat_natCast, hsub,
    one_shl_and]
  cases n.toNat.testBit (t + 1)
  · simp only [Bool.false_eq_true, if_false, bne_self_eq_false, Nat.add_zero]
    rw [show BitVec.ofNat 8 0 = 0#8 from rfl, BitVec.add_zero]
  · have hne : (BitVec.twoPow 64 (t + 1) != 0#64) = true := by
      rw [bne_zero_eq, BitVec.toNat_twoPow_of_lt (by omega)]
      exact decide_eq_true (Nat.ne_of_gt (Nat.two_pow_pos _))
    have e : encU h r o - BitVec.ofNat 64 S - BitVec.twoPow 64 (t + 1) =
        encU h r o - BitVec.ofNat 64 (S + 2 ^ (t + 1)) := by
      rw [BitVec.sub_sub, BitVec.ofNat_add]
      congr 2
      apply BitVec.eq_of_toNat_eq
      rw [BitVec.toNat_twoPow_of_lt (by omega), toNat_ofNat64_of_lt (two_pow_lt_of_lt (by omega))]
    simp only [if_true, hne]
    rw [e]

/-- the loop from row `R + d` down to the row `R` that catches the position: `R` is the highest tree
row (`hnR`) whose digit is clear in the leftmost leaf `o * 2^r` below the node (`hLR`, `habove`).
`S` is what has been subtracted from the position so far (whole trees above row `R + d`), `big` the
number of trees passed; on the way down the trees on rows `R+1 … R+d` are subtracted (`sumBits`) and
counted (`cntBits`). -/
theorem detectOffset_loop {h r o R : Nat} (n : U64) (hh : h ≤ 63) (hr : r ≤ h)
    (ho : o < 2 ^ (h - r)) (hnR : n.toNat.testBit R = true)
    (hLR : (o * 2 ^ r).testBit R = false)
    (habove : ∀ t, R < t → t ≤ h → n.toNat.testBit t = true → (o * 2 ^ r).testBit t = true) :
    ∀ (d fuel S : Nat) (big : U8), d < fuel → R + d ≤ h → 2 ^ (R + d + 1) ∣ S →
      Model.DetectOffset.loop1 n (H8 r) fuel (encU h r o - BitVec.ofNat 64 S)
          ((R + d : Nat) : Int) big =
        .done (encU h r o - BitVec.ofNat 64 (S + sumBits n.toNat R d), ((R : Nat) : Int),
          big + BitVec.ofNat 8 (cntBits n.toNat R d)) := by
  intro d
  induction d with
  | zero =>
    intro fuel S big hf hRh hS
    obtain ⟨f, rfl⟩ : ∃ f, fuel = f + 1 := ⟨fuel - 1, by omega⟩
    simp only [Nat.add_zero] at hRh hS ⊢
    unfold Model.DetectOffset.loop1
    rw [detectOffset_cond n hh hr ho hRh hS, hnR, hLR]
    simp [sumBits, cntBits]
  | succ d ih =>
    intro fuel S big hf hRh hS
    obtain ⟨f, rfl⟩ : ∃ f, fuel = f + 1 := ⟨fuel - 1, by omega⟩
    rw [← Nat.add_assoc] at hRh hS ⊢
    rw [detectOffset_step (t := R + d) n hh hr ho hRh hS (habove _ (by omega) hRh),
      ih f _ _ (by omega) (by omega) (Nat.dvd_add
        (Nat.dvd_trans (Nat.pow_dvd_pow 2 (by omega)) hS)
        (by split
            · exact Nat.pow_dvd_pow 2 (by omega)
            · exact Nat.dvd_zero _)),
      sumBits, cntBits, Nat.add_assoc S, Nat.add_comm (sumBits _ _ _), BitVec.add_assoc,
      ← BitVec.ofNat_add, Nat.add_comm (cntBits _ _ _)]

theorem sub_ofNat_getLsbD (x : U64) {j S k : Nat} (hj : j ≤ 64) (hS : 2 ^ j ∣ S) (hk : k < j) :
    (x - BitVec.ofNat 64 S).getLsbD k = x.getLsbD k := by
  have h1 := congrArg (fun v => Nat.testBit v k) (sub_ofNat_mod x hj hS)
  simp only [Nat.testBit_mod_two_pow, hk, decide_true, Bool.true_and] at h1
  rw [← BitVec.testBit_toNat, h1, BitVec.testBit_toNat]

/-- the loop when no tree "catches" the position: every tree row `t ≤ T` has bit `t` of the
leftmost leaf set; the row counter then falls below 0 and the error is returned -/
theorem detectOffset_loop_err {h r o : Nat} (n : U64) (hh : h ≤ 63) (hr : r ≤ h)
    (ho : o < 2 ^ (h - r)) :
    ∀ (T fuel S : Nat) (big : U8), T + 1 < fuel → T ≤ h → 2 ^ (T + 1) ∣ S →
      (∀ t, t ≤ T → n.toNat.testBit t = true → (o * 2 ^ r).testBit t = true) →
      Model.DetectOffset.loop1 n (H8 r) fuel (encU h r o - BitVec.ofNat 64 S) ((T : Nat) : Int) big =
        .ret (0#8, 0#8, 0#64, true) := by
  have hlast : ∀ (fuel : Nat) (P : U64) (big : U8), 0 < fuel →
      Model.DetectOffset.loop1 n (H8 r) fuel P (-1) big = .ret (0#8, 0#8, 0#64, true) := by
    intro fuel P big hf
    obtain ⟨f, rfl⟩ : ∃ f, fuel = f + 1 := ⟨fuel - 1, by omega⟩
    unfold Model.DetectOffset.loop1
    have e1 : Model.maxLeafCount (ofInt 8 (-1)) = 0#64 := by decide
    have e2 : (0#64 : U64) &&& n = 0#64 := by simp
    have e3 : ∀ x : U64, x ≥ 0#64 := by
      intro x; rw [ge_iff_le, BitVec.le_def]; simp
    simp [e1, e2, e3]
  intro T
  induction T with
  | zero =>
    intro fuel S big hf hTh hS hall
    obtain ⟨f, rfl⟩ : ∃ f, fuel = f + 1 := ⟨fuel - 1, by omega⟩
    unfold Model.DetectOffset.loop1
    have hc : (!n.toNat.testBit 0 || (o * 2 ^ r).testBit 0) = true := by
      cases hb : n.toNat.testBit 0
      · rfl
      · rw [hall 0 (Nat.le_refl _) hb]; rfl
    rw [detectOffset_cond n hh hr ho hTh hS, hc]
    have hneg : ¬ (((0 : Nat) : Int) < 0) := by omega
    have hsub : ((0 : Nat) : Int) - 1 = -1 := by omega
    simp only [if_true, hneg, decide_false, Bool.false_eq_true, if_false, hsub]
    split <;> exact hlast f _ _ (by omega)
  | succ T ih =>
    intro fuel S big hf hTh hS hall
    obtain ⟨f, rfl⟩ : ∃ f, fuel = f + 1 := ⟨fuel - 1, by omega⟩
    rw [detectOffset_step n hh hr ho hTh hS (hall _ (Nat.le_refl _))]
    exact ih f _ _ (by omega) (by omega) (Nat.dvd_add
        (Nat.dvd_trans (Nat.pow_dvd_pow 2 (by omega)) hS)
        (by split
            · exact Nat.pow_dvd_pow 2 (by omega)
            · exact Nat.dvd_zero _))
      (fun t ht => hall t (by omega))

theorem highest_or_none {P : Nat → Prop} [DecidablePred P] :
    ∀ T, (∀ t, t ≤ T → ¬ P t) ∨ ∃ R, R ≤ T ∧ P R ∧ ∀ t, R < t → t ≤ T → ¬ P t
  | 0 => by
    by_cases h0 : P 0
    · exact Or.inr ⟨0, Nat.le_refl _, h0, fun t h1 h2 => by omega⟩
    · exact Or.inl fun t ht => by rwa [Nat.le_zero.1 ht]
  | T + 1 => by
    by_cases hT : P (T + 1)
    · exact Or.inr ⟨T + 1, Nat.le_refl _, hT, fun t h1 h2 => by omega⟩
    · have hstep : ∀ t, t ≤ T + 1 → ¬ t ≤ T → ¬ P t := fun t h1 h2 => by
        rwa [show t = T + 1 by omega]
      rcases highest_or_none (P := P) T with hn | ⟨R, h1, h2, h3⟩
      · exact Or.inl fun t ht => if h : t ≤ T then hn t h else hstep t ht h
      · exact Or.inr ⟨R, by omega, h2, fun t ht1 ht2 =>
          if h : t ≤ T then h3 t ht1 h else hstep t ht2 h⟩

end UtreexoVerif.Proofs
