/-
  Soundness of the executable storage-invariant check: `invCheck m F = true → Inv m F`.
-/
import UtreexoVerif.Model.MapInvCheck
import UtreexoVerif.Proofs.MapPrune

namespace UtreexoVerif.Proofs.MapInvCheck
open Model Spec MapAL MapInv MapPrune
set_option linter.unusedSectionVars false

theorem decRO_eq_dec : ∀ (h p : Nat), decRO h p = SpecView.dec h p
  | 0, p => rfl
  | h+1, p => by
    unfold decRO SpecView.dec
    rw [decRO_eq_dec h]

theorem encPos_eq (T : Nat) (q : Pos) : encPos T q = encP T q := rfl

theorem belowRootB_iff {n r o R : Nat} : belowRootB n r o R = true ↔ BelowRoot n r o R := by
  unfold belowRootB BelowRoot
  simp [Bool.and_eq_true, and_assoc]

theorem ancB_iff {p t : Pos} : ancB p t = true ↔ Anc p t := by
  unfold ancB Anc
  simp [Bool.and_eq_true]

theorem rootRowOf_some {n : Nat} {t : Pos} {R : Nat} (h : rootRowOf n t = some R) : BelowRoot n t.1 t.2 R := by
  unfold rootRowOf at h
  exact belowRootB_iff.1 (List.find?_some h)

theorem rootRowOf_of_belowRoot {n : Nat} {t : Pos} {R : Nat} (hn : n < 2 ^ 63) (hb : BelowRoot n t.1 t.2 R) :
    rootRowOf n t = some R := by
  have hR : R < 65 := Nat.lt_trans (testBit_lt_of_lt hn hb.2.1) (by decide)
  cases h : rootRowOf n t with
  | none =>
    unfold rootRowOf at h
    have := List.find?_eq_none.1 h R (List.mem_range.2 hR)
    rw [belowRootB_iff.2 hb] at this
    simp at this
  | some R' => rw [belowRoot_unique (rootRowOf_some h) hb]

theorem onPathB_sound {n : Nat} {t q : Pos} (h : onPathB n t q = true) : OnPath n t q := by
  unfold onPathB at h
  split at h
  · rename_i R hR
    simp only [Bool.and_eq_true, decide_eq_true_eq] at h
    exact ⟨R, rootRowOf_some hR, ancB_iff.1 h.1, h.2⟩
  · cases h

theorem proofSibB_sound {n : Nat} {t q : Pos} (h : proofSibB n t q = true) : ProofSib n t q := by
  unfold proofSibB at h
  simp only [Bool.and_eq_true, Bool.not_eq_true'] at h
  exact ⟨sib q, onPathB_sound h.1, h.2, (CalcGeo.sib_sib q).symm⟩

theorem key_of_dec {T : Nat} {p : U64} {q : Pos} (hd : decRO T p.toNat = some q) :
    Valid T q ∧ p = encP T q := by
  rw [decRO_eq_dec] at hd
  obtain ⟨a, b, c⟩ := SpecView.dec_some _ _ q.1 q.2 hd
  refine ⟨⟨a, b⟩, ?_⟩
  apply BitVec.eq_of_toNat_eq
  show p.toNat = (BitVec.ofNat 64 (enc T (q.1, q.2))).toNat
  rw [c, BitVec.toNat_ofNat, Nat.mod_eq_of_lt p.isLt]

theorem dec_encP {T : Nat} (hT : T ≤ 63) {q : Pos} (hq : Valid T q) : decRO T (encP T q).toNat = some q := by
  rw [decRO_eq_dec]
  show SpecView.dec T (encU T q.1 q.2).toNat = some q
  rw [toNat_encU hT hq.1 hq.2, SpecView.dec_enc _ _ _ hq.1 hq.2]

variable {H : Type} [DecidableEq H] [Hasher H]

theorem invCheck_sound {m : MapPollard H} {F : Forest H} (h : invCheck m F = true) : Inv m F := by
  unfold invCheck at h
  simp only [Bool.and_eq_true, decide_eq_true_eq, beq_iff_eq] at h
  obtain ⟨⟨⟨⟨⟨⟨⟨⟨hn, hneq⟩, hrows⟩, hT⟩, h1⟩, h2⟩, h3⟩, h4⟩, h5⟩ := h
  refine { n_lt := hn, n_eq := hneq, rows_le := hrows, total_le := hT, true_hash := ?_, cached_pos := ?_,
           only_needed := ?_, has_needed := ?_, flags := ?_ }
  · intro p l hg
    have hmem := get?_some_mem hg
    have := List.all_eq_true.1 h1 (p, l) hmem
    simp only at this
    split at this
    · rename_i q hd
      obtain ⟨hv, he⟩ := key_of_dec hd
      exact ⟨q, hv, he, by simpa using this⟩
    · cases this
  · intro x p hg
    have hmem := get?_some_mem hg
    have := List.all_eq_true.1 h2 (x, p) hmem
    simp only at this
    split at this
    · rename_i t ht
      exact ⟨t, ht, by simpa [encPos_eq] using this⟩
    · cases this
  · intro q l hv hg
    have hmem := get?_some_mem hg
    have := List.all_eq_true.1 h3 _ hmem
    simp only [dec_encP hT hv, Bool.or_eq_true] at this
    rcases this with hr | hany
    · exact Or.inl hr
    · obtain ⟨c, hc, hcc⟩ := List.any_eq_true.1 hany
      split at hcc
      · rename_i t ht
        rw [Bool.or_eq_true] at hcc
        refine Or.inr ⟨c.1, t, get?_isSome_iff.2 ⟨c, hc, rfl⟩, ht, ?_⟩
        rcases hcc with h | h
        · exact Or.inl (onPathB_sound h)
        · exact Or.inr (proofSibB_sound h)
      · cases hcc
  · intro q hreq
    unfold chkHasNeeded at h4
    rw [Bool.and_eq_true] at h4
    rcases hreq with hr | ⟨x, t, hk, hp, hq⟩
    · obtain ⟨hb, hqe⟩ := eq_rootPos_of_isRootPos hr
      have h64 : q.1 ≤ 64 := Nat.le_of_lt (Nat.lt_trans (testBit_lt_of_lt hn hb) (by decide))
      have := List.all_eq_true.1 h4.1 q.1 (Spec.mem_treeRows.2 ⟨h64, hb⟩)
      rw [encPos_eq, ← hqe] at this
      exact this
    · obtain ⟨c, hc, hcx⟩ := get?_isSome_iff.1 hk
      have := List.all_eq_true.1 h4.2 c hc
      rw [hcx, hp] at this
      simp only at this
      obtain ⟨R, hb⟩ := posOf_belowRoot hp
      rw [rootRowOf_of_belowRoot hn hb] at this
      simp only [Bool.and_eq_true] at this
      rcases hq with rfl | hq
      · rw [← encPos_eq]; exact this.1
      · obtain ⟨j, hj, rfl⟩ := proofSib_walk hb hq
        exact List.all_eq_true.1 this.2 j (List.mem_range.2 hj)
  · intro hfull q l hv hnr hg
    unfold chkFlags at h5
    rw [hfull, Bool.false_or] at h5
    have hmem := get?_some_mem hg
    have := List.all_eq_true.1 h5 _ hmem
    simp only [dec_encP hT hv, hnr, Bool.false_or, beq_iff_eq] at this
    rw [this]
    constructor
    · intro hany
      obtain ⟨c, hc, hcc⟩ := List.any_eq_true.1 hany
      exact ⟨c.1, by simpa [MapPollard.getCached] using hcc⟩
    · rintro ⟨x, hx⟩
      apply List.any_eq_true.2
      exact ⟨(x, _), get?_some_mem hx, by simpa [MapPollard.getCached] using hx⟩

end UtreexoVerif.Proofs.MapInvCheck
