/- `MapPollard.addSingle` / `add` preserve the storage invariant of partial and of full forests: the merging loop keeps `GI fl`
   by the steps of `Proofs/MapAddSteps.lean`, walking the trajectory of the addition (`Proofs/MapAddTraj.lean`) upwards. -/
import UtreexoVerif.Proofs.LiveLeaves
import UtreexoVerif.Proofs.MapAddSteps
import UtreexoVerif.Proofs.MapAddRep
import UtreexoVerif.Proofs.PForestAdd
import UtreexoVerif.Proofs.MapAddTraj
import UtreexoVerif.Proofs.MapXInv

namespace UtreexoVerif.Proofs.MapAddMerge
open Model Spec MapPrune MapRep PForest MapLiftCore
open MapAddSteps MapAddRep PForestAdd PForestSpec SpecNodes MapSInv MapGI MapXInv MapAddTraj Hasher
set_option linter.unusedSectionVars false

variable {H : Type} [DecidableEq H] [Hasher H]

theorem head_some {V : PF H} {ρ : Pos} {tr : CTree H} (h : (ρ, some tr) ∈ V) :
    (ρ, tr.hash, isLeaf tr) ∈ PForest.nodes V :=
  PForest.mem_nodes.2 ⟨_, h, by unfold entryNodes; exact nodes_head tr _ _⟩

theorem head_none {V : PF H} {ρ : Pos} (h : (ρ, none) ∈ V) : (ρ, (zero : H), false) ∈ PForest.nodes V :=
  PForest.mem_nodes.2 ⟨_, h, by simp [entryNodes]⟩

theorem isLeaf_eq {a : CTree H} (h : isLeaf a = true) : a = .leaf a.hash := by
  cases a with
  | leaf x => rfl
  | node l r => simp [isLeaf] at h

theorem hash_leaf_mem {V : PF H} {q : Pos} {x : H} {b : Bool} (h : (q, x, b) ∈ PForest.nodes V)
    (hx0 : x ≠ zero) (hxph : ∀ u v : H, x ≠ ph u v) : x ∈ leaves V := by
  obtain ⟨e, he, hx⟩ := PForest.mem_nodes.1 h
  unfold entryNodes at hx
  cases hT : e.2 with
  | none =>
    rw [hT] at hx
    simp only [List.mem_singleton, Prod.mk.injEq] at hx
    exact absurd hx.2.1 hx0
  | some T =>
    rw [hT] at hx
    exact List.mem_flatMap.2 ⟨e, he, by rw [hT]; exact ctree_entry_leaf T _ _ _ hx hxph⟩

theorem cacheUp_eq {C : H → Option Pos} {N : List (Pos × H × Bool)} {R : Pos → Prop} (L : Laws N R)
    (hcp : ∀ x t, C x = some t → (t, x, true) ∈ N)
    {σ P : Pos} {a : CTree H} {add pNode : Leaf H}
    (hσa : (σ, a.hash, isLeaf a) ∈ N) (hp : pNode.hash = a.hash)
    (hax : ∀ y, a = .leaf y → y = add.hash) (hrem : (C add.hash).isSome = true → add.remember = true) (y : H) :
    cacheUp add pNode P C y = if C y = some σ then some P else C y := by
  unfold cacheUp
  by_cases hcond : add.remember = true ∧ pNode.hash = add.hash
  · rw [if_pos hcond]
    exact recache_eq L hcp (by rw [← hcond.2, hp]; exact hσa) y
  · -- a hash cached at `σ` is the hash of the added leaf, which is then remembered
    rw [if_neg hcond, if_neg]
    intro h
    obtain ⟨e1, e2⟩ := L.func _ _ _ _ _ (hcp y σ h) hσa
    have e := hax _ (isLeaf_eq e2.symm)
    rw [e] at e1
    subst e1
    exact hcond ⟨hrem (by rw [h]; rfl), hp.trans e⟩

theorem pruneA_at_other {A : Pos → Option (Leaf H)} {ρ P : Pos} (hP : P = parent ρ) :
    pruneA A ρ P = A P := by
  apply pruneA_other
  · intro e; have := congrArg Prod.fst e; rw [hP] at this; simp [parent] at this
  · intro e; have := congrArg Prod.fst e; rw [hP] at this; simp [parent, sib] at this

/-- the state `(A, C)` tracks the placed forest `V` -/
abbrev GV (fl : Bool) (K : H → Prop) (A : Pos → Option (Leaf H)) (C : H → Option Pos) (V : PF H) : Prop :=
  GI fl A C (PForest.nodes V) (IsRoot V) K (fun _ => False)

section loop
variable {fl : Bool} {K : H → Prop} {A : Pos → Option (Leaf H)} {C : H → Option Pos} {Y : PF H}

theorem iter_some (nz : NZ H) {ρ : Pos} {tr a : CTree H} {pNode : Leaf H}
    (heven : ρ.2 % 2 = 0) (ok : OK (Y ++ [(ρ, some tr), (sib ρ, some a)]))
    (inv : GV fl K A C (Y ++ [(ρ, some tr), (sib ρ, some a)]))
    (hA : A (sib ρ) = some pNode) :
    ∃ node, A ρ = some node ∧ node.hash = tr.hash ∧ tr.hash ≠ zero ∧ pNode.hash = a.hash ∧
      OK (Y ++ [(parent ρ, some (.node tr a))]) ∧
      GV fl K (pruneA (upd A (parent ρ) (some ⟨ph tr.hash a.hash, fl⟩)) ρ) C (Y ++ [(parent ρ, some (.node tr a))]) := by
  have L := laws_of_ok nz ok
  have hρent : (ρ, some tr) ∈ Y ++ [(ρ, some tr), (sib ρ, some a)] := by simp
  have hσent : (sib ρ, some a) ∈ Y ++ [(ρ, some tr), (sib ρ, some a)] := by simp
  have hρm := head_some hρent
  have hσm := head_some hσent
  obtain ⟨node, hnode⟩ := Option.ne_none_iff_exists'.1 (inv.roots_stored _ ⟨_, hρent, rfl⟩)
  obtain ⟨bn, hbn⟩ := inv.true_hash _ _ hnode
  obtain ⟨bp, hbp⟩ := inv.true_hash _ _ hA
  obtain ⟨ok', hN', hR', hfresh⟩ := stepA_pf Y ρ tr a heven ok
  exact ⟨node, hnode, (L.func _ _ _ _ _ hbn hρm).1,
    ctree_hash_ne_zero nz tr (fun x hx => ok.nz x (List.mem_flatMap.2 ⟨_, hρent, hx⟩)) 0 0 _ (nodes_head tr 0 0),
    (L.func _ _ _ _ _ hbp hσm).1, ok',
    stepA (laws_of_ok nz ok') inv hρm hN' hR' hfresh⟩

theorem iter_none (nz : NZ H) {σ : Pos} {a : CTree H} {add pNode : Leaf H}
    (ok : OK (Y ++ [(sib σ, none), (σ, some a)]))
    (inv : GV fl K A C (Y ++ [(sib σ, none), (σ, some a)]))
    (hA : A σ = some pNode) (hax : ∀ y, a = .leaf y → y = add.hash)
    (hrem : (C add.hash).isSome = true → add.remember = true) :
    (∃ node, A (sib σ) = some node ∧ node.hash = zero) ∧
      LiftReady (cacheUp add pNode (parent σ) C) σ (parent σ) A C ∧
      OK (Y ++ [(parent σ, some a)]) ∧
      GV fl K (pruneA (liftAll σ A) (sib σ)) (liftCAll σ C) (Y ++ [(parent σ, some a)]) := by
  have L := laws_of_ok nz ok
  have hρent : (sib σ, none) ∈ Y ++ [(sib σ, (none : Option (CTree H))), (σ, some a)] := by simp
  have hσent : (σ, some a) ∈ Y ++ [(sib σ, none), (σ, some a)] := by simp
  have hρN := head_none hρent
  have hσa := head_some hσent
  obtain ⟨node, hnode⟩ := Option.ne_none_iff_exists'.1 (inv.roots_stored _ ⟨_, hρent, rfl⟩)
  obtain ⟨bn, hbn⟩ := inv.true_hash _ _ hnode
  obtain ⟨bp, hbp⟩ := inv.true_hash _ _ hA
  obtain ⟨_, _, hρbelow⟩ := L.zero_root _ false hρN
  obtain ⟨ok', hN', hR'⟩ := stepB_pf Y σ a ok
  refine ⟨⟨node, hnode, (L.func _ _ _ _ _ hbn hρN).1⟩, ?_, ok',
    stepB L (laws_of_ok nz ok') inv hρN ⟨_, hσent, rfl⟩ hA hN' hR'⟩
  have hcu := cacheUp_eq (P := parent σ) L inv.cached_pos hσa (L.func _ _ _ _ _ hbp hσa).1 hax hrem
  have hcb := inv.cache_below L hσa (fun hs => by have := hs.2; have : (parent σ).1 = σ.1 + 1 := rfl; omega) hcu
  refine ⟨?_, hcu, hcb.1, hcb.2⟩
  intro q hq
  cases hAq : A q with
  | none => rfl
  | some l =>
    obtain ⟨b, hb⟩ := inv.true_hash _ _ hAq
    have := hρbelow q _ b hb hq.1
    have h2 := hq.2; rw [this] at h2; omega

/-- `addLoop_step_empty` with the state after the step written as `liftAll` / `liftCAll` -/
theorem addLoop_step_lift {m : MapPollard H} {T n k : Nat} (rep : Rep m T A C)
    (hn : m.numLeaves = BitVec.ofNat 64 n) (hn63 : n + 1 < 2 ^ 63) (hfit : forestRows (n + 1) ≤ T)
    (hbit : n.testBit k = true) {node : Leaf H}
    (hroot : A (sib (k, n >>> k)) = some node) (hz : node.hash = zero) (add : Leaf H) {pNode : Leaf H} (fuel : Nat)
    (hA : A (k, n >>> k) = some pNode)
    (lr : LiftReady (cacheUp add pNode (parent (k, n >>> k)) C) (k, n >>> k) (parent (k, n >>> k)) A C) :
    ∃ m', MapPollard.addLoop add (H8 T) (fuel + 1) (H8 k) (encP T (k, n >>> k)) pNode m =
        MapPollard.addLoop add (H8 T) fuel (H8 (k + 1)) (encP T (k + 1, n >>> (k + 1))) pNode m' ∧
      Rep m' T (pruneA (liftAll (k, n >>> k) A) (sib (k, n >>> k))) (liftCAll (k, n >>> k) C) ∧
      m'.numLeaves = m.numLeaves ∧ m'.full = m.full := by
  rw [parent_sigma] at lr
  rw [sib_sigma hbit] at hroot ⊢
  obtain ⟨m', hstep, rep', h⟩ := addLoop_step_empty rep hn hn63 hfit hbit hroot hz add pNode fuel lr
  refine ⟨m', hstep, rep'.congr ?_ ?_, h⟩
  · intro q
    rw [← sib_sigma hbit, ← parent_sigma, funext (liftAll_eq hA)]
  · intro x
    rw [funext lr.cu_eq, ← parent_sigma, liftC_eq]

/-- the merging loop from row `k` on, `j` steps before the end: the state tracks member `k` of the trajectory; one
step along `traj_step` is `iter_some` or `iter_none` on the invariant and `addLoop_step_nonempty` or `_lift` on the model.
`hax0` and the premise on `add.remember` serve `iter_none` and matter only while the accumulated tree is still the new
leaf (row 0 and the lifts over empty roots that follow it directly) -/
theorem addLoop_spec (nz : NZ H) {T n t : Nat} (add : Leaf H) (Y : PF H) (os : List (Option (CTree H))) (a0 : CTree H)
    (hn63 : n + 1 < 2 ^ 63) (hfit : forestRows (n + 1) ≤ T) (hlen : os.length = t)
    (tr : Trail n t) (ht : t ≤ 63)
    (hax0 : ∀ y, a0 = .leaf y → y = add.hash) :
    ∀ (j k : Nat), k + j = t → ∀ (m : MapPollard H) (A : Pos → Option (Leaf H)) (C : H → Option Pos) (pNode : Leaf H)
      (fuel : Nat), Rep m T A C → m.numLeaves = BitVec.ofNat 64 n → m.full = fl →
      OK (traj n Y os a0 k) → GV fl K A C (traj n Y os a0 k) →
      j < fuel → A (k, n >>> k) = some pNode → ((C add.hash).isSome = true → add.remember = true) →
      ∃ m' A' C', MapPollard.addLoop add (H8 T) fuel (H8 k) (encP T (k, n >>> k)) pNode m = (m', .ok ()) ∧
        Rep m' T A' C' ∧ m'.numLeaves = m.numLeaves ∧ m'.full = fl ∧
        GV fl K A' C' (traj n Y os a0 t) ∧
        (∀ y, (C' y).isSome = (C y).isSome) := by
  intro j
  induction j with
  | zero =>
    intro k hkt m A C pNode fuel rep hn hfull ok inv hfuel hA hrem
    rw [Nat.add_zero] at hkt
    subst hkt
    obtain ⟨f, rfl⟩ : ∃ f, fuel = f + 1 := Nat.exists_eq_add_one_of_ne_zero (Nat.ne_zero_of_lt hfuel)
    exact ⟨m, A, C, addLoop_done hn (by omega) ht tr.clear add (H8 T) f _ pNode, rep, rfl, hfull, inv, fun _ => rfl⟩
  | succ j ih =>
    intro k hkt m A C pNode fuel rep hn hfull ok inv hfuel hA hrem
    obtain ⟨f, rfl⟩ : ∃ f, fuel = f + 1 := Nat.exists_eq_add_one_of_ne_zero (Nat.ne_zero_of_lt hfuel)
    have hk : k < t := by omega
    have hbk := tr.low k hk
    obtain ⟨hρσ, heven, hPσ, hPρ⟩ := acc_geo hbk
    obtain ⟨Yk, o, a, _, hleaf, e0, e1⟩ := traj_step (n := n) (Y := Y) (a0 := a0) (hlen ▸ hk : k < os.length)
    rw [e0] at ok inv
    have hax : ∀ y, a = .leaf y → y = add.hash := fun y hy => hax0 y (hleaf y hy)
    have hkt' : k + 1 + j = t := by omega
    have hfuel' : j < f := Nat.lt_of_succ_lt_succ hfuel
    cases o with
    | some tr =>
      rw [show (k, n >>> k) = sib (rootPos n k) by rw [hρσ, CalcGeo.sib_sib]] at ok inv hA
      obtain ⟨node, hnode, hnh, hnz, hp, ok', inv'⟩ := iter_some nz heven ok inv hA
      obtain ⟨m', hstep, rep', hnl', hfull'⟩ :=
        addLoop_step_nonempty rep hn hn63 hfit hfull hbk hnode (hnh ▸ hnz) add pNode f
      rw [hnh, hp] at hstep rep'
      rw [hPρ, ← e1] at ok' inv'
      obtain ⟨m'', A'', C'', hloop, rep'', hnl'', h⟩ :=
        ih (k + 1) hkt' m' _ C _ f rep' (hnl'.trans hn) (hfull'.trans hfull)
          ok' inv' hfuel' (by rw [pruneA_at_other hPρ.symm, upd_self]) hrem
      exact ⟨m'', A'', C'', hstep.trans hloop, rep'', hnl''.trans hnl', h⟩
    | none =>
      rw [hρσ] at ok inv
      obtain ⟨⟨node, hnode, hz⟩, lr, ok', inv'⟩ := iter_none nz ok inv hA hax hrem
      obtain ⟨m', hstep, rep', hnl', hfull'⟩ :=
        addLoop_step_lift rep hn hn63 hfit hbk hnode hz add f hA lr
      rw [hPσ, ← e1] at ok' inv'
      obtain ⟨m'', A'', C'', hloop, rep'', hnl'', hfl'', inv'', hdom⟩ :=
        ih (k + 1) hkt' m' _ _ pNode f rep' (hnl'.trans hn) (hfull'.trans hfull)
          ok' inv' hfuel'
          (by rw [← hPσ, pruneA_at_other (CalcGeo.parent_sib _).symm, liftAll_P, hA])
          (fun h => hrem (by rwa [liftCAll_isSome] at h))
      exact ⟨m'', A'', C'', hstep.trans hloop, rep'', hnl''.trans hnl', hfl'', inv'',
        fun y => (hdom y).trans (liftCAll_isSome _ _ y)⟩

end loop

theorem hyg_add {F : Forest H} (hy : Hyg F) {x : H} (hfresh : x ∉ F.liveLeaves) (hx0 : x ≠ zero)
    (hxph : ∀ u v : H, x ≠ ph u v) : Hyg (F.add x) :=
  ⟨LiveLeaves.liveLeaves_addMany_nodup hy.nodup (adds := [x]) (by simp) (by simpa using hfresh),
   LiveLeaves.forall_liveLeaves_addMany (adds := [x]) hy.nz (by simpa using hx0),
   LiveLeaves.forall_liveLeaves_addMany (adds := [x]) hy.nph (by simpa using hxph)⟩

theorem step0_facts (F : Forest H) {x : H} (hn : F.numLeaves + 1 < 2 ^ 63) (hy : Hyg F)
    (hfresh : x ∉ F.liveLeaves) (hx0 : x ≠ zero) (hxph : ∀ u v : H, x ≠ ph u v) :
    OK (ofForest F ++ [((0, F.numLeaves), some (CTree.leaf x))]) ∧
    (∀ e, e ∈ PForest.nodes (ofForest F ++ [((0, F.numLeaves), some (CTree.leaf x))]) ↔
      e ∈ F.nodes ∨ e = ((0, F.numLeaves), x, true)) ∧
    (∀ q h b, (q, h, b) ∈ F.nodes → ¬ Anc q (0, F.numLeaves)) ∧ (∀ q b, (q, x, b) ∉ F.nodes) := by
  have hn64 : F.numLeaves < 2 ^ 64 := by omega
  obtain ⟨ok0, hnodes0⟩ := step0_pf F x (by omega) hy hfresh hx0 hxph
  refine ⟨ok0, fun e => by rw [hnodes0, List.mem_append, List.mem_singleton], ?_, ?_⟩
  · intro q h b hm ha
    have h1 := MapAdd.node_lt hm
    simp only at h1
    have h2 : q.2 = F.numLeaves / 2 ^ (q.1 - 0) := ha.2
    rw [Nat.sub_zero] at h2
    have := Nat.lt_mul_div_succ F.numLeaves (Nat.two_pow_pos q.1)
    rw [← h2, Nat.mul_comm] at this
    omega
  · intro q b hm
    rw [← nodes_ofForest] at hm
    have := hash_leaf_mem hm hx0 hxph
    rw [leaves_ofForest F hn64] at this
    exact hfresh this

/-- `addLoop_spec` as `addSingle` calls it (fuel 65, row 0, the new leaf stored as an extra root of `F`) -/
theorem addLoop_forest {fl : Bool} {K : H → Prop} (nz : NZ H) {m1 : MapPollard H} {F : Forest H} {T : Nat} {A : Pos → Option (Leaf H)}
    {C : H → Option Pos} (a : Leaf H) (hn : F.numLeaves + 1 < 2 ^ 63) (hfit : forestRows (F.numLeaves + 1) ≤ T)
    (ok0 : OK (ofForest F ++ [((0, F.numLeaves), some (CTree.leaf a.hash))]))
    (inv0 : GV fl K A C (ofForest F ++ [((0, F.numLeaves), some (CTree.leaf a.hash))]))
    (rep1 : Rep m1 T A C) (hnl : m1.numLeaves = BitVec.ofNat 64 F.numLeaves) (hfull : m1.full = fl)
    (hA0 : A (0, F.numLeaves) = some a) (hrem : (C a.hash).isSome = true → a.remember = true) :
    ∃ m2 A2 C2, MapPollard.addLoop a (H8 T) 65 0#8 (encP T (0, F.numLeaves)) a m1 = (m2, .ok ()) ∧
      Rep m2 T A2 C2 ∧ m2.numLeaves = m1.numLeaves ∧ m2.full = fl ∧
      GI fl A2 C2 (F.add a.hash).nodes (IsRoot (ofForest (F.add a.hash))) K (fun _ => False) ∧
      (∀ y, (C2 y).isSome = (C y).isSome) := by
  obtain ⟨t, Y, os, tr, hlen, hdec, hdec'⟩ := add_parts F a.hash (by omega)
  have ht63 : t ≤ 63 := tr.le_of_lt (R := 63) (by omega)
  rw [hdec, ← traj_zero] at ok0 inv0
  obtain ⟨m2, A2, C2, hloop, rep2, hnl2, hfull2, inv2, hdom⟩ :=
    addLoop_spec nz a Y os (.leaf a.hash) hn hfit hlen tr ht63 (fun y hy => by cases hy; rfl)
      t 0 (Nat.zero_add t) m1 A C a 65 rep1 hnl hfull ok0 inv0 (by omega) hA0 hrem
  rw [traj_last hlen, ← hdec', GV, nodes_ofForest] at inv2
  exact ⟨m2, A2, C2, hloop, rep2, hnl2, hfull2, inv2, hdom⟩

/-- **`addSingle` preserves the storage invariant** of a partial or a full forest (merging case, empty roots, and growth of
`TotalRows` included): the new leaf is appended to the specification forest; it is cached iff its `Remember` flag is set
or the forest is full -/
theorem xinv_addSingle {fl : Bool} (nz : NZ H) {m : MapPollard H} {F : Forest H} (s : XInv fl m F) (a : Leaf H)
    (hn : F.numLeaves + 1 < 2 ^ 63) (hfresh : a.hash ∉ F.liveLeaves) (hx0 : a.hash ≠ zero)
    (hxph : ∀ u v : H, a.hash ≠ ph u v) :
    ∃ m', MapPollard.addSingle a m = (m', .ok ()) ∧
      XInv fl { m' with numLeaves := m'.numLeaves + 1 } (F.add a.hash) ∧
      (∀ y, m'.hasCached y = true ↔ (m.hasCached y = true ∨ ((fl = true ∨ a.remember = true) ∧ y = a.hash))) := by
  obtain ⟨A, C, rep, inv⟩ := s.abs
  have hrowsF : forestRows F.numLeaves ≤ m.totalRows.toNat := s.rows_le
  -- the leaf as `addSingle` stores it: a full forest sets the flag
  obtain ⟨r, ha', hrem'⟩ : ∃ r : Bool, (if m.full then ⟨a.hash, true⟩ else a) = (⟨a.hash, r⟩ : Leaf H) ∧
      (r = true ↔ (fl = true ∨ a.remember = true)) := by
    rw [s.full]; cases fl
    · exact ⟨a.remember, by cases a; rfl, by simp⟩
    · exact ⟨true, rfl, by simp⟩
  obtain ⟨T, m1, hfit, hT63, hstart, rep1, hnl1, hfull1⟩ :=
    addSingle_start_any rep s.n_eq hn hrowsF (a := a) (a' := ⟨a.hash, r⟩) ha'
  have hn64 : F.numLeaves < 2 ^ 64 := by omega
  obtain ⟨ok0, hN0, hpos, hxN⟩ := step0_facts F hn s.hyg hfresh hx0 hxph
  have hR0 : ∀ z, IsRoot (ofForest F ++ [((0, F.numLeaves), some (CTree.leaf a.hash))]) z ↔
      FRoot F z ∨ z = (0, F.numLeaves) := by
    intro z
    rw [PForestAdd.isRoot_append, isRoot_ofForest F hn64, isRoot_single]
    rfl
  have hKx : ¬ ((C a.hash).isSome = true) := by
    intro h
    obtain ⟨t, ht⟩ := Option.isSome_iff_exists.1 h
    exact hxN t true (inv.cached_pos _ _ ht)
  have inv0 := step0 (rem := r) (s.laws nz) inv (fun hf => hrem'.2 (Or.inl hf)) hN0 hR0 hpos hxN hKx
  have hdom0 : ∀ y, ((if r = true then upd C a.hash (some (0, F.numLeaves)) else C) y).isSome = true ↔
      ((C y).isSome = true ∨ (r = true ∧ y = a.hash)) := by
    intro y
    by_cases hr : r = true
    · rw [if_pos hr, upd_apply]
      by_cases hyx : y = a.hash
      · simp [hyx, hr]
      · simp [hyx]
    · simp [hr]
  obtain ⟨m2, A2, C2, hloop, rep2, hnl2, hfull2, inv2, hdom⟩ :=
    addLoop_forest nz (⟨a.hash, r⟩ : Leaf H) hn hfit ok0 inv0 rep1 (hnl1.trans s.n_eq) (hfull1.trans s.full)
      (upd_self _ _ _) (fun h => ((hdom0 _).1 h).elim (fun h' => absurd h' hKx) (fun h' => h'.1))
  have hdomK := fun y => (congrArg (· = true) (hdom y)).to_iff.trans (hdom0 y)
  have hn64' : (F.add a.hash).numLeaves < 2 ^ 64 := by rw [Spec.numLeaves_add]; omega
  have inv2 := (inv2.congr_R (isRoot_ofForest _ hn64')).congr_K (fun y => (hdomK y).symm)
  refine ⟨m2, hstart.trans hloop, ?_, fun y => by rw [rep2.hasCached, rep.hasCached, ← hrem']; exact hdomK y⟩
  refine XInv.of_abs (T := T) (rep2.of_same rfl (fun _ => rfl) (fun _ => rfl)) inv2
    (by rw [Spec.numLeaves_add]; exact hn) ?_ (by show forestRows _ ≤ T; rw [Spec.numLeaves_add]; exact hfit)
    hfull2 (hyg_add s.hyg hfresh hx0 hxph)
  show m2.numLeaves + 1 = _
  rw [hnl2, hnl1, s.n_eq, Spec.numLeaves_add, BitVec.ofNat_add]; rfl

/-- **`add` preserves the storage invariant**: all leaves are appended to the specification forest; a partial forest caches
exactly the remembered ones, a full forest all of them -/
theorem xinv_add {fl : Bool} (nz : NZ H) : ∀ (adds : List (Leaf H)) {m : MapPollard H} {F : Forest H}, XInv fl m F →
    F.numLeaves + adds.length < 2 ^ 63 →
    (∀ a ∈ adds, a.hash ∉ F.liveLeaves ∧ a.hash ≠ zero ∧ ∀ u v : H, a.hash ≠ ph u v) →
    (adds.map (·.hash)).Nodup →
    ∃ m', MapPollard.add adds m = (m', .ok ()) ∧ XInv fl m' (F.addMany (adds.map (·.hash))) ∧
      (∀ y, m'.hasCached y = true ↔
        (m.hasCached y = true ∨ ∃ a ∈ adds, (fl = true ∨ a.remember = true) ∧ a.hash = y)) := by
  intro adds
  induction adds with
  | nil =>
    intro m F s _ _ _
    exact ⟨m, rfl, by rw [List.map_nil, Spec.addMany_nil]; exact s, by simp⟩
  | cons a rest ih =>
    intro m F s hn hfr hnd
    rw [List.length_cons] at hn
    obtain ⟨h1, h2, h3⟩ := hfr a List.mem_cons_self
    obtain ⟨m1, hadd, s1, c1⟩ := xinv_addSingle nz s a (by omega) h1 h2 h3
    rw [List.map_cons, List.nodup_cons] at hnd
    -- the remaining leaves are fresh for the forest with `a`: they differ from `a`
    have hfr' : ∀ b ∈ rest, b.hash ∉ (F.add a.hash).liveLeaves ∧ b.hash ≠ zero ∧ ∀ u v : H, b.hash ≠ ph u v := by
      intro b hb
      obtain ⟨g1, g2, g3⟩ := hfr b (List.mem_cons_of_mem _ hb)
      refine ⟨?_, g2, g3⟩
      rw [Spec.liveLeaves_add, List.mem_append, List.mem_singleton]
      rintro (h | h)
      · exact g1 h
      · exact hnd.1 (by rw [← h]; exact List.mem_map_of_mem hb)
    obtain ⟨m2, hrest, s2, c2⟩ := ih s1 (by rw [Spec.numLeaves_add]; omega) hfr' hnd.2
    refine ⟨m2, ?_, by rw [List.map_cons, Spec.addMany_cons]; exact s2, fun y => ?_⟩
    · unfold MapPollard.add
      rw [hadd]; exact hrest
    · rw [c2]
      show (m1.hasCached y = true ∨ _) ↔ _
      rw [c1]
      simp only [List.mem_cons, exists_eq_or_imp, or_assoc]
      exact or_congr_right (or_congr_left ⟨fun h => ⟨h.1, h.2.symm⟩, fun h => ⟨h.1, h.2.symm⟩⟩)

theorem sinv_add (nz : NZ H) : ∀ (adds : List (Leaf H)) {m : MapPollard H} {F : Forest H}, SInv m F →
    F.numLeaves + adds.length < 2 ^ 63 →
    (∀ a ∈ adds, a.hash ∉ F.liveLeaves ∧ a.hash ≠ zero ∧ ∀ u v : H, a.hash ≠ ph u v) →
    (adds.map (·.hash)).Nodup →
    ∃ m', MapPollard.add adds m = (m', .ok ()) ∧ SInv m' (F.addMany (adds.map (·.hash))) ∧
      (∀ y, m'.hasCached y = true ↔ (m.hasCached y = true ∨ ∃ a ∈ adds, a.remember = true ∧ a.hash = y)) := by
  intro adds m F s hn hfr hnd
  obtain ⟨m', h1, h2, h3⟩ := xinv_add nz adds (xinv_false_iff.2 s) hn hfr hnd
  exact ⟨m', h1, xinv_false_iff.1 h2, fun y => by rw [h3 y]; simp⟩

end UtreexoVerif.Proofs.MapAddMerge
