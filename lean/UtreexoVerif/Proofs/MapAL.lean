/-
  Association lists with map semantics (`Model.AL`, used by `Model/MapPollard.lean` for Go's
  two maps) and the node / cache accessors of the model: look-up after `put` / `del`.
-/
import UtreexoVerif.Model.MapPollard

namespace UtreexoVerif.Proofs.MapAL
open Model
set_option linter.unusedSectionVars false

section AL
variable {κ ν : Type} [DecidableEq κ]

theorem get?_nil (k : κ) : AL.get? ([] : List (κ × ν)) k = none := rfl

theorem get?_cons (k' : κ) (v : ν) (t : List (κ × ν)) (k : κ) :
    AL.get? ((k', v) :: t) k = if k' = k then some v else AL.get? t k := rfl

theorem get?_some_mem {l : List (κ × ν)} {k : κ} {v : ν} (h : AL.get? l k = some v) : (k, v) ∈ l := by
  induction l with
  | nil => simp [get?_nil] at h
  | cons e t ih =>
    obtain ⟨k', v'⟩ := e
    rw [get?_cons] at h
    split at h
    · rename_i hk
      subst hk
      simp only [Option.some.injEq] at h
      subst h
      exact List.mem_cons_self
    · exact List.mem_cons_of_mem _ (ih h)

theorem get?_eq_none_iff {l : List (κ × ν)} {k : κ} : AL.get? l k = none ↔ ∀ e ∈ l, e.1 ≠ k := by
  induction l with
  | nil => exact ⟨fun _ _ he => (nomatch he), fun _ => rfl⟩
  | cons e t ih =>
    obtain ⟨k', v'⟩ := e
    rw [get?_cons, List.forall_mem_cons]
    by_cases hk : k' = k
    · rw [if_pos hk]
      exact ⟨nofun, fun h => absurd hk h.1⟩
    · rw [if_neg hk, ih]
      exact ⟨fun h => ⟨hk, h⟩, fun h => h.2⟩

theorem get?_isSome_iff {l : List (κ × ν)} {k : κ} : (AL.get? l k).isSome ↔ ∃ e ∈ l, e.1 = k := by
  cases h : AL.get? l k with
  | none =>
    have := get?_eq_none_iff.1 h
    simp only [Option.isSome_none, Bool.false_eq_true, false_iff, not_exists, not_and]
    exact this
  | some v => simp only [Option.isSome_some, true_iff]; exact ⟨(k, v), get?_some_mem h, rfl⟩

theorem get?_filter_ne (l : List (κ × ν)) (k k' : κ) (hne : k' ≠ k) :
    AL.get? (l.filter (fun e => e.1 ≠ k)) k' = AL.get? l k' := by
  induction l with
  | nil => rfl
  | cons e t ih =>
    obtain ⟨a, v⟩ := e
    by_cases ha : a = k
    · subst ha
      rw [List.filter_cons_of_neg (by simp), ih, get?_cons, if_neg (fun h => hne h.symm)]
    · rw [List.filter_cons_of_pos (by simpa using ha), get?_cons, get?_cons, ih]

theorem get?_filter_self (l : List (κ × ν)) (k : κ) :
    AL.get? (l.filter (fun e => e.1 ≠ k)) k = none := by
  rw [get?_eq_none_iff]
  intro e he
  simpa using (List.mem_filter.1 he).2

theorem get?_del (l : List (κ × ν)) (k k' : κ) :
    AL.get? (AL.del l k) k' = if k' = k then none else AL.get? l k' := by
  by_cases h : k' = k
  · rw [if_pos h, h]; exact get?_filter_self l k
  · rw [if_neg h]; exact get?_filter_ne l k k' h

theorem get?_put (l : List (κ × ν)) (k k' : κ) (v : ν) :
    AL.get? (AL.put l k v) k' = if k' = k then some v else AL.get? l k' := by
  show (if k = k' then some v else AL.get? (AL.del l k) k') = _
  rw [get?_del]
  by_cases h : k' = k
  · rw [if_pos h.symm, if_pos h]
  · rw [if_neg (fun e => h e.symm), if_neg h, if_neg h]

theorem get?_map_val {κ ν : Type} [DecidableEq κ] (f : ν → ν) (l : List (κ × ν)) (k : κ) :
    AL.get? (l.map (fun (e : κ × ν) => (e.1, f e.2))) k = (AL.get? l k).map f := by
  induction l with
  | nil => rfl
  | cons e t ih =>
    obtain ⟨a, v⟩ := e
    simp only [List.map_cons, get?_cons]
    split
    · rfl
    · exact ih

end AL

section MP
variable {H : Type} [DecidableEq H] [Hasher H]

@[simp] theorem getNode_putNode (m : MapPollard H) (p q : U64) (l : Leaf H) :
    (m.putNode p l).getNode q = if q = p then some l else m.getNode q := get?_put _ _ _ _

@[simp] theorem getNode_delNode (m : MapPollard H) (p q : U64) :
    (m.delNode p).getNode q = if q = p then none else m.getNode q := get?_del _ _ _

@[simp] theorem getCached_putCached (m : MapPollard H) (x y : H) (p : U64) :
    (m.putCached x p).getCached y = if y = x then some p else m.getCached y := get?_put _ _ _ _

@[simp] theorem getCached_delCached (m : MapPollard H) (x y : H) :
    (m.delCached x).getCached y = if y = x then none else m.getCached y := get?_del _ _ _

@[simp] theorem getCached_putNode (m : MapPollard H) (p : U64) (l : Leaf H) (y : H) :
    (m.putNode p l).getCached y = m.getCached y := rfl
@[simp] theorem getCached_delNode (m : MapPollard H) (p : U64) (y : H) :
    (m.delNode p).getCached y = m.getCached y := rfl
@[simp] theorem getNode_putCached (m : MapPollard H) (x : H) (p q : U64) :
    (m.putCached x p).getNode q = m.getNode q := rfl
@[simp] theorem getNode_delCached (m : MapPollard H) (x : H) (q : U64) :
    (m.delCached x).getNode q = m.getNode q := rfl

@[simp] theorem totalRows_putNode (m : MapPollard H) (p : U64) (l : Leaf H) : (m.putNode p l).totalRows = m.totalRows := rfl
@[simp] theorem totalRows_delNode (m : MapPollard H) (p : U64) : (m.delNode p).totalRows = m.totalRows := rfl
@[simp] theorem totalRows_putCached (m : MapPollard H) (x : H) (p : U64) : (m.putCached x p).totalRows = m.totalRows := rfl
@[simp] theorem totalRows_delCached (m : MapPollard H) (x : H) : (m.delCached x).totalRows = m.totalRows := rfl
@[simp] theorem numLeaves_putNode (m : MapPollard H) (p : U64) (l : Leaf H) : (m.putNode p l).numLeaves = m.numLeaves := rfl
@[simp] theorem numLeaves_delNode (m : MapPollard H) (p : U64) : (m.delNode p).numLeaves = m.numLeaves := rfl
@[simp] theorem numLeaves_putCached (m : MapPollard H) (x : H) (p : U64) : (m.putCached x p).numLeaves = m.numLeaves := rfl
@[simp] theorem numLeaves_delCached (m : MapPollard H) (x : H) : (m.delCached x).numLeaves = m.numLeaves := rfl
@[simp] theorem full_putNode (m : MapPollard H) (p : U64) (l : Leaf H) : (m.putNode p l).full = m.full := rfl
@[simp] theorem full_delNode (m : MapPollard H) (p : U64) : (m.delNode p).full = m.full := rfl
@[simp] theorem full_putCached (m : MapPollard H) (x : H) (p : U64) : (m.putCached x p).full = m.full := rfl
@[simp] theorem full_delCached (m : MapPollard H) (x : H) : (m.delCached x).full = m.full := rfl

theorem hasNode_eq (m : MapPollard H) (p : U64) : m.hasNode p = (m.getNode p).isSome := rfl
theorem hasCached_eq (m : MapPollard H) (x : H) : m.hasCached x = (m.getCached x).isSome := rfl

end MP
end UtreexoVerif.Proofs.MapAL
