/-
  Deletion movement on the specification (property C07, level 1).  `F' = F.delLeaves D`: a node of
  `F` at `p` whose subtree keeps a survivor is found in `F'` at `movePos F D p`, the position
  obtained from `p` by deleting, for every ancestor level at which the SIBLING subtree has no
  survivor, the corresponding path bit and moving up one row (`move_sub`, `move_surj`,
  `move_posOf`, `move_nodeAt`); `movePosT` is the same walk read from the root of the tree.

  The second half is what the code's side needs.  `IsDT F D T`: `T` is a maximal fully deleted
  subtree, the positions `deTwin` computes and `getNewPositions` walks over (`Proofs/MoveDT.lean`).
  `LowGood`, `lowest_chunk`, `lowest_preimage`: several nodes of `F` are pruned to the same node of
  `F'`; the lowest of them (a leaf, or both children keep a survivor) has the same movement, and it is
  the one whose children correspond to the children in `F'` (`PPContent.nodeMap_del`, the undo).
-/
import UtreexoVerif.Proofs.CalcComplete
import UtreexoVerif.Proofs.FinalPos
import UtreexoVerif.Proofs.LiveLeaves
import UtreexoVerif.Proofs.NodesUnique
import UtreexoVerif.Proofs.ChunkBridge

namespace UtreexoVerif.Proofs.Movement
open Spec
open UtreexoVerif.Proofs.SpecNodes UtreexoVerif.Proofs.SpecSubs
open UtreexoVerif.Proofs.SpecPlan UtreexoVerif.Proofs.CalcComplete UtreexoVerif.Proofs.FinalPos

section
set_option linter.unusedSectionVars false
variable {H : Type} [DecidableEq H] [Hasher H]

theorem fpos_congr {al al' : Nat → Nat → Bool} (top : Pos) : ∀ k l b,
    (∀ j, j < k → al (l + j) (sibIdx (b / 2 ^ j)) = al' (l + j) (sibIdx (b / 2 ^ j))) →
    fpos al top k l b = fpos al' top k l b := by
  intro k
  induction k with
  | zero => intro l b _; rfl
  | succ k ih =>
    intro l b h
    have h0 := h 0 (by omega)
    simp only [Nat.add_zero, Nat.pow_zero, Nat.div_one] at h0
    have hrec := ih (l + 1) (b / 2) (by
      intro j hj
      have := h (j + 1) (by omega)
      have e : b / 2 / 2 ^ j = b / 2 ^ (j + 1) := by
        rw [Nat.div_div_eq_div_mul, ← Nat.pow_succ']
      rw [e, show l + 1 + j = l + (j + 1) by omega]
      exact this)
    simp only [fpos, h0, hrec]

theorem leavesO_delT (L : List H) : ∀ t : CTree H,
    optLeaves (delT L t) = t.leaves.filter (fun l => decide (l ∉ L)) := by
  intro t
  induction t with
  | leaf h => by_cases hh : h ∈ L <;> simp [delT, optLeaves, CTree.leaves, hh]
  | node a b iha ihb =>
    simp only [delT, optLeaves_join, iha, ihb, CTree.leaves, List.filter_append]

theorem delT_leaves_iff (L : List H) : ∀ (t t' : CTree H), delT L t = some t' →
    ∀ l, l ∈ t'.leaves ↔ l ∈ t.leaves ∧ l ∉ L := by
  intro t t' ht' l
  have h := leavesO_delT L t
  rw [ht'] at h
  simp only [optLeaves] at h
  rw [h, List.mem_filter, decide_eq_true_eq]

theorem eq_sibIdx_of_half {x b : Nat} (h : x / 2 = b / 2) (hne : x ≠ b) : x = sibIdx b := by
  unfold sibIdx
  split <;> omega

def aliveAfter (F : Forest H) (D : List H) (l b : Nat) : Bool :=
  match subAt F (l, b) with
  | some t => (delT D t).isSome
  | none => false

theorem aliveAfter_of {F : Forest H} {D : List H} {h : Nat} {p : Pos} {t : CTree H}
    (s : SubAtT F h p t) : aliveAfter F D p.1 p.2 = (delT D t).isSome := by
  unfold aliveAfter
  rw [show (p.1, p.2) = p from rfl, subAt_of s]

/-- the row of the tree that contains position `p` (its own row if `p` is in no tree: `movePos` is
meant for nodes only) -/
def treeRowOf (n : Nat) (p : Pos) : Nat := ((treeRows n).find? (fun h => inTree n h p)).getD p.1

theorem under_tree_unique {n R R' : Nat} {p : Pos} (hb : n.testBit R = true)
    (hb' : n.testBit R' = true) (u : Under R (2 * (n >>> (R + 1))) p)
    (u' : Under R' (2 * (n >>> (R' + 1))) p) : R = R' := by
  rcases Nat.lt_trichotomy R R' with h | h | h
  · exact (under_disjoint h hb' u' u).elim
  · exact h
  · exact (under_disjoint h hb u u').elim

theorem treeRowOf_under {n R : Nat} {p : Pos} (hR : R ∈ treeRows n)
    (hu : Under R (2 * (n >>> (R + 1))) p) : treeRowOf n p = R := by
  unfold treeRowOf
  cases hf : (treeRows n).find? (fun h => inTree n h p) with
  | none =>
    have := List.find?_eq_none.1 hf R hR
    rw [(inTree_iff _ _ _).2 hu] at this
    exact absurd rfl this
  | some h' =>
    have hp := List.find?_some hf
    exact under_tree_unique (Spec.mem_treeRows.1 (List.mem_of_find?_eq_some hf)).2
      (Spec.mem_treeRows.1 hR).2 ((inTree_iff _ _ _).1 hp) hu

theorem treeRowOf_of {F : Forest H} {h : Nat} {p : Pos} {t : CTree H} (s : SubAtT F h p t) :
    treeRowOf F.numLeaves p = h := treeRowOf_under s.1 s.under

def movePosT (F : Forest H) (D : List H) (h : Nat) (p : Pos) : Pos :=
  fpos (aliveAfter F D) (rootPos F.numLeaves h) (h - p.1) p.1 p.2

def deadLevelsOf (F : Forest H) (D : List H) (h : Nat) (p : Pos) : List Nat :=
  deadLevels (aliveAfter F D) (h - p.1) p.1 p.2

/-- **the movement of a position under the deletion of `D`**, bottom-up: for every ancestor
level at which the sibling subtree has no survivor, delete the corresponding path bit and move
up one row -/
def movePos (F : Forest H) (D : List H) (p : Pos) : Pos :=
  liftFold 0 p (deadLevelsOf F D (treeRowOf F.numLeaves p) p)

theorem liftFold_rows (hs : List Nat) : ∀ (r l o : Nat),
    liftFold l (r, o) hs = (r + (liftFold (l + r) (0, o) hs).1, (liftFold (l + r) (0, o) hs).2) := by
  intro r
  induction r with
  | zero => intro l o; simp
  | succ r ih =>
    intro l o
    rw [liftFold_shift, ih (l + 1) o, show l + 1 + r = l + (r + 1) by omega]
    ext
    · simp only; omega
    · rfl

theorem mem_deadLevelsOf {F : Forest H} {D : List H} {h : Nat} {p : Pos} {j : Nat} :
    j ∈ deadLevelsOf F D h p ↔
      p.1 ≤ j ∧ j < h ∧ aliveAfter F D j (sibIdx (p.2 / 2 ^ (j - p.1))) = false := by
  unfold deadLevelsOf
  rw [mem_deadLevels]
  constructor
  · rintro ⟨h1, h2, h3⟩; exact ⟨h1, by omega, h3⟩
  · rintro ⟨h1, h2, h3⟩; exact ⟨h1, by omega, h3⟩

theorem movePos_eq_T {F : Forest H} {D : List H} {h : Nat} {p : Pos} {t : CTree H}
    (s : SubAtT F h p t) : movePos F D p = movePosT F D h p := by
  unfold movePos movePosT
  rw [treeRowOf_of s]
  have hu := s.under
  have htop : rootPos F.numLeaves h = (p.1 + (h - p.1), p.2 / 2 ^ (h - p.1)) := by
    unfold rootPos
    rw [hu.2, show p.1 + (h - p.1) = h by have := hu.1; omega]
  rw [htop, fpos_eq_liftFold, show p = (p.1, p.2) from rfl, liftFold_rows]
  simp only [Nat.zero_add]
  rfl

section chunks
open UtreexoVerif.Proofs.ChunkBridge

theorem chunk_kill (S : List (Option H)) (D : List H) (l b : Nat) :
    chunk (S.map (kill D)) l b = (chunk S l b).bind (delT D) := by
  unfold chunk
  rw [← List.map_drop, Spec.collapse_kill, show delT D = prune D from funext (delT_eq_prune D)]
  rfl

theorem two_mul_add_sibIdx_mod (y b : Nat) : 2 * y + sibIdx b % 2 = sibIdx (2 * y + b % 2) := by
  rcases Nat.mod_two_eq_zero_or_one b with hb | hb
  · have : (b + 1) % 2 = 1 := by omega
    rw [sibIdx_of_even hb, hb, show 2 * y + 0 = 2 * y from rfl, sibIdx_even, this]
  · rw [sibIdx_of_odd hb, hb, sibIdx_odd]
    have : (b - 1) % 2 = 0 := by omega
    rw [this, Nat.add_zero]

theorem movePosT_root (F : Forest H) (D : List H) (h : Nat) :
    movePosT F D h (rootPos F.numLeaves h) = rootPos F.numLeaves h := by
  unfold movePosT
  simp [rootPos, fpos]

theorem movePosT_succ_alive {F : Forest H} {D : List H} {h r x c : Nat} (hr : 1 ≤ r) (hrh : r ≤ h)
    (hc : c < 2) (hs : aliveAfter F D (r - 1) (sibIdx (2 * x + c)) = true) :
    movePosT F D h (r - 1, 2 * x + c) =
      ((movePosT F D h (r, x)).1 - 1, 2 * (movePosT F D h (r, x)).2 + c) := by
  unfold movePosT
  simp only
  rw [show h - (r - 1) = (h - r) + 1 by omega, fpos_succ_alive hs, Nat.sub_add_cancel hr,
    Nat.mul_add_div (by decide), Nat.div_eq_of_lt hc, Nat.add_zero, Nat.mul_add_mod, Nat.mod_eq_of_lt hc]

theorem movePosT_succ_dead {F : Forest H} {D : List H} {h r x c : Nat} (hr : 1 ≤ r) (hrh : r ≤ h)
    (hc : c < 2) (hs : aliveAfter F D (r - 1) (sibIdx (2 * x + c)) = false) :
    movePosT F D h (r - 1, 2 * x + c) = movePosT F D h (r, x) := by
  unfold movePosT
  simp only
  rw [show h - (r - 1) = (h - r) + 1 by omega, fpos_succ_dead hs, Nat.sub_add_cancel hr,
    Nat.mul_add_div (by decide), Nat.div_eq_of_lt hc, Nat.add_zero]

/-- the sibling position of a chunk with a live sibling is the position of the sibling chunk, so
"the sibling survives `D`" can be read in chunk coordinates -/
theorem aliveAfter_sib (S : List (Option H)) (D : List H) {T l b : Nat} {t : CTree H}
    (hT : T ∈ treeRows S.length) (hin : Spec.inTree S.length T l b) (hlT : l < T)
    (ht : chunk S l b = some t) (ha : chunkAlive S l (sibIdx b) = true) :
    aliveAfter (Forest.mk S) D ((nodePos S T (l + 1) (b / 2)).1 - 1)
        (sibIdx (2 * (nodePos S T (l + 1) (b / 2)).2 + b % 2)) =
      chunkAlive (S.map (kill D)) l (sibIdx b) := by
  obtain ⟨ss, hss⟩ : ∃ ss, chunk S l (sibIdx b) = some ss := by
    unfold chunkAlive at ha
    exact Option.isSome_iff_exists.1 ha
  have ssib := subAtT_of_chunk_mem S hT (inTree_sib hin hlT) hss
  have hal : chunkAlive S l b = true := by unfold chunkAlive; rw [ht]; rfl
  have eq := nodePos_succ_alive S (b := sibIdx b) hlT (by rw [sibIdx_sibIdx]; exact hal)
  rw [sibIdx_div_two, two_mul_add_sibIdx_mod] at eq
  have := aliveAfter_of (D := D) ssib
  rw [eq] at this
  rw [this]
  unfold chunkAlive
  rw [chunk_kill, hss]
  rfl

/-- **the movement in chunk coordinates**: the position of chunk `(l,b)` of `S` moves, under the
deletion of `D`, to the position of the same chunk of the slot list after the deletion -/
theorem movePosT_nodePos (S : List (Option H)) (D : List H) {T : Nat} (hT : T ∈ treeRows S.length) :
    ∀ (k l b : Nat) (t : CTree H), l + k = T → Spec.inTree S.length T l b → chunk S l b = some t →
      movePosT (Forest.mk S) D T (nodePos S T l b) = nodePos (S.map (kill D)) T l b := by
  intro k
  induction k with
  | zero =>
    intro l b t hl hin ht
    obtain rfl : l = T := hl
    obtain ⟨h1, _, h3⟩ := hin
    rw [Nat.sub_self, Nat.pow_zero, Nat.div_one] at h3
    subst h3
    have e : ∀ S' : List (Option H), S'.length = S.length →
        nodePos S' l l (2 * (S.length / 2 ^ (l + 1))) = rootPos (Forest.mk S).numLeaves l := by
      intro S' hS'
      rw [rootPos_eq]; unfold nodePos; rw [Nat.sub_self, hS']; rfl
    rw [e S rfl, e _ (List.length_map _), movePosT_root]
  | succ k ih =>
    intro l b t hl hin ht
    have hlT : l < T := Nat.lt_of_lt_of_le (Nat.lt_add_of_pos_right (Nat.succ_pos k)) (Nat.le_of_eq hl)
    have hk : l + 1 + k = T := by rw [← hl]; exact Nat.succ_add_eq_add_succ l k
    have hp := inTree_parent hin hlT
    rcases chunk_parent S l b ht with ⟨hd, hc⟩ | ⟨ha, s, hc⟩
    · have hd' : chunkAlive (S.map (kill D)) l (sibIdx b) = false := by
        unfold chunkAlive at hd ⊢
        rw [chunk_kill]
        cases hx : chunk S l (sibIdx b) with
        | none => rfl
        | some x => rw [hx] at hd; cases hd
      rw [nodePos_dead S hlT hd, nodePos_dead _ hlT hd']
      exact ih (l + 1) (b / 2) t hk hp hc
    · have sp := subAtT_of_chunk_mem S hT hp hc
      have ihP := ih (l + 1) (b / 2) _ hk hp hc
      have hP1 : 1 ≤ (nodePos S T (l + 1) (b / 2)).1 := by
        by_cases hb : b % 2 = 0
        · rw [if_pos hb] at sp; exact sp.children.1
        · rw [if_neg hb] at sp; exact sp.children.1
      have hb2 : b % 2 < 2 := Nat.mod_lt _ (by decide)
      have hav := aliveAfter_sib S D hT hin hlT ht ha
      rw [nodePos_succ_alive S hlT ha]
      cases hs : chunkAlive (S.map (kill D)) l (sibIdx b) with
      | false => rw [movePosT_succ_dead hP1 sp.row_le hb2 (hav.trans hs), ihP, nodePos_dead _ hlT hs]
      | true => rw [movePosT_succ_alive hP1 sp.row_le hb2 (hav.trans hs), ihP, nodePos_succ_alive _ hlT hs]

theorem delLeaves_mk (S : List (Option H)) (D : List H) :
    Forest.delLeaves ⟨S⟩ D = ⟨S.map (kill D)⟩ := by
  have := Spec.delLeaves_slots ⟨S⟩ D
  cases hF : Forest.delLeaves ⟨S⟩ D
  rw [hF] at this
  simp only at this
  rw [this]

theorem move_subT {F : Forest H} {D : List H} {h : Nat} {p : Pos} {t t' : CTree H}
    (s : SubAtT F h p t) (hd : delT D t = some t') :
    SubAtT (F.delLeaves D) h (movePosT F D h p) t' := by
  obtain ⟨S⟩ := F
  obtain ⟨l, b, hin, hc, rfl, _⟩ := chunk_of_subAtT' S s
  rw [delLeaves_mk, movePosT_nodePos S D s.1 (h - l) l b t (Nat.add_sub_cancel' hin.2.1) hin hc]
  refine subAtT_of_chunk_mem _ (by rw [List.length_map]; exact s.1) (by rw [List.length_map]; exact hin) ?_
  rw [chunk_kill, hc]
  exact hd

theorem move_surj {F : Forest H} {D : List H} {h : Nat} {q : Pos} {s' : CTree H}
    (sq : SubAtT (F.delLeaves D) h q s') :
    ∃ p t, SubAtT F h p t ∧ delT D t = some s' ∧ q = movePos F D p ∧
      (p = rootPos F.numLeaves h ∨ aliveAfter F D p.1 (sibIdx p.2) = true) := by
  obtain ⟨S⟩ := F
  rw [delLeaves_mk] at sq
  have hT : h ∈ treeRows S.length := by
    have := sq.1
    rwa [show (Forest.mk (S.map (kill D))).numLeaves = S.length from List.length_map _] at this
  obtain ⟨l, b, hin, hc, rfl, hcl⟩ := chunk_of_subAtT' _ sq
  rw [List.length_map] at hin
  rw [chunk_kill] at hc
  obtain ⟨t, ht, hd⟩ := Option.bind_eq_some_iff.1 hc
  have sp := subAtT_of_chunk_mem S hT hin ht
  refine ⟨nodePos S h l b, t, sp, hd, ?_, ?_⟩
  · rw [movePos_eq_T sp, movePosT_nodePos S D hT (h - l) l b t (Nat.add_sub_cancel' hin.2.1) hin ht]
  · rcases hcl with rfl | ⟨hl, hal⟩
    · left
      obtain ⟨_, _, h3⟩ := hin
      rw [Nat.sub_self, Nat.pow_zero, Nat.div_one] at h3
      subst h3
      rw [rootPos_eq]; unfold nodePos; rw [Nat.sub_self]; rfl
    · right
      have ha : chunkAlive S l (sibIdx b) = true := by
        unfold chunkAlive at hal ⊢
        rw [chunk_kill] at hal
        cases hx : chunk S l (sibIdx b) with
        | none => rw [hx] at hal; cases hal
        | some _ => rfl
      rw [nodePos_succ_alive S hl ha, aliveAfter_sib S D hT hin hl ht ha]
      exact hal

end chunks

theorem move_sub {F : Forest H} {D : List H} {h : Nat} {p : Pos} {t t' : CTree H}
    (s : SubAtT F h p t) (hd : delT D t = some t') :
    SubAtT (F.delLeaves D) h (movePos F D p) t' := by
  rw [movePos_eq_T s]
  exact move_subT s hd

theorem sib_eq_sibIdx (p : Pos) : sib p = (p.1, sibIdx p.2) := rfl

theorem move_posOf {F : Forest H} {D : List H} (hn : F.numLeaves < 2 ^ 64)
    (hnd : F.liveLeaves.Nodup) {x : H} {p : Pos} (hp : F.posOf x = some p) (hx : x ∉ D) :
    (F.delLeaves D).posOf x = some (movePos F D p) := by
  obtain ⟨h, s⟩ := posOf_sub hp
  have hd : delT D (.leaf x) = some (.leaf x) := by simp [delT, hx]
  have s' := move_sub s hd
  rw [Spec.posOf_eq_some_iff (by rw [numLeaves_delLeaves]; exact hn)
    (LiveLeaves.liveLeaves_delLeaves_nodup hnd D)]
  exact s'.node_mem

theorem posOf_deleted {F : Forest H} {D : List H} {x : H} (hx : x ∈ D) :
    (F.delLeaves D).posOf x = none := by
  cases hp : (F.delLeaves D).posOf x with
  | none => rfl
  | some q =>
    have := (LiveLeaves.mem_liveLeaves_delLeaves.1 (Spec.live_of_posOf hp)).2
    exact absurd hx this

theorem move_nodeAt {F : Forest H} {D : List H} {h : Nat} {p : Pos} {t : CTree H}
    (s : SubAtT F h p t) (hd : delT D t ≠ none) :
    (F.delLeaves D).nodeAt (movePos F D p) = some (dhash D t) := by
  cases ht' : delT D t with
  | none => exact absurd ht' hd
  | some t' =>
    rw [(move_sub s ht').nodeAt]
    unfold dhash hashO
    rw [ht']

theorem nodeAt_delLeaves {F : Forest H} {D : List H} {h : Nat} {q : Pos} {s' : CTree H}
    (sq : SubAtT (F.delLeaves D) h q s') :
    ∃ p t, SubAtT F h p t ∧ delT D t = some s' ∧ q = movePos F D p ∧ s'.hash = dhash D t := by
  obtain ⟨p, t, s, hd, hq, _⟩ := move_surj sq
  refine ⟨p, t, s, hd, hq, ?_⟩
  unfold dhash hashO
  rw [hd]

/-- `T` is the position of a maximal fully-deleted subtree of `F`: a node all of whose leaves
are in `D` and that is the root of its tree or has a sibling that keeps a survivor.  (This is
what `deTwin` computes from the sorted deletion targets.) -/
def IsDT (F : Forest H) (D : List H) (T : Pos) : Prop :=
  ∃ h t, SubAtT F h T t ∧ delT D t = none ∧
    (T.1 = h ∨ aliveAfter F D T.1 (sibIdx T.2) = true)

theorem tree_of_under {F : Forest H} {h h' : Nat} {T : Pos} {t : CTree H} (s : SubAtT F h' T t)
    (hh : F.numLeaves.testBit h = true) (hu : Under h (2 * (F.numLeaves >>> (h + 1))) T) :
    h' = h := under_tree_unique s.bit hh s.under hu

theorem anc_node {F : Forest H} {h : Nat} {p : Pos} {t : CTree H} (s : SubAtT F h p t) :
    ∀ d, p.1 + d ≤ h → ∃ ta, SubAtT F h (p.1 + d, p.2 / 2 ^ d) ta ∧
      ∀ l ∈ t.leaves, l ∈ ta.leaves := by
  intro d hd
  obtain ⟨ta, sa, hm⟩ := s.anc hd
  exact ⟨ta, sa, subs_leaves ta _ _ _ hm⟩

theorem anc_alive {F : Forest H} {D : List H} {h : Nat} {p : Pos} {t : CTree H}
    (s : SubAtT F h p t) (hal : delT D t ≠ none) {d : Nat} (hd : p.1 + d ≤ h) :
    ∃ ta, SubAtT F h (p.1 + d, p.2 / 2 ^ d) ta ∧ delT D ta ≠ none := by
  obtain ⟨ta, sa, hl⟩ := anc_node s d hd
  refine ⟨ta, sa, ?_⟩
  intro hn
  apply hal
  rw [delT_eq_none_iff] at hn ⊢
  exact fun l hl' => hn l (hl l hl')

/-- a node that is a leaf or whose two children both keep a survivor: the LOWEST node of `F` that
is pruned to a given node of `F.delLeaves D` -/
def LowGood (D : List H) : CTree H → Prop
  | .leaf _ => True
  | .node a b => delT D a ≠ none ∧ delT D b ≠ none

section lowest
open UtreexoVerif.Proofs.ChunkBridge

theorem inTree_child {N T l b c : Nat} (hin : Spec.inTree N T (l + 1) b) (hc : c / 2 = b) :
    Spec.inTree N T l c := by
  refine ⟨hin.1, by have := hin.2.1; omega, ?_⟩
  have e : c / 2 ^ (T - l) = c / 2 / 2 ^ (T - (l + 1)) := by
    rw [Nat.div_div_eq_div_mul, ← Nat.pow_succ']
    congr 2
    have := hin.2.1
    omega
  rw [e, hc]
  exact hin.2.2

theorem lowest_chunk (S : List (Option H)) : ∀ (l b : Nat) (t : CTree H), chunk S l b = some t →
    ∃ l' b', l' ≤ l ∧ b' / 2 ^ (l - l') = b ∧ chunk S l' b' = some t ∧
      (l' = 0 ∨
        (chunkAlive S (l' - 1) (2 * b') = true ∧ chunkAlive S (l' - 1) (2 * b' + 1) = true)) ∧
      ∀ T, Spec.inTree S.length T l b → nodePos S T l' b' = nodePos S T l b := by
  intro l
  induction l with
  | zero =>
    intro b t ht
    exact ⟨0, b, Nat.le_refl _, by simp, ht, Or.inl rfl, fun _ _ => rfl⟩
  | succ l ih =>
    intro b t ht
    -- a chunk with one dead half is that of its live child `c`
    have only : ∀ c, c / 2 = b → chunk S l c = some t → chunkAlive S l (sibIdx c) = false →
        ∃ l' b', l' ≤ l + 1 ∧ b' / 2 ^ (l + 1 - l') = b ∧ chunk S l' b' = some t ∧
          (l' = 0 ∨ (chunkAlive S (l' - 1) (2 * b') = true ∧ chunkAlive S (l' - 1) (2 * b' + 1) = true)) ∧
          ∀ T, Spec.inTree S.length T (l + 1) b → nodePos S T l' b' = nodePos S T (l + 1) b := by
      intro c hcb hc hdead
      obtain ⟨l', b', h1, h2, h3, h4, h5⟩ := ih c t hc
      refine ⟨l', b', by omega, ?_, h3, h4, ?_⟩
      · rw [show l + 1 - l' = (l - l') + 1 by omega, Nat.pow_succ, ← Nat.div_div_eq_div_mul, h2, hcb]
      · intro T hin
        rw [h5 T (inTree_child hin hcb)]
        rw [← hcb]
        exact Spec.nodePos_dead S hin.2.1 hdead
    rw [chunk_succ] at ht
    cases ha : chunk S l (2 * b) with
    | none =>
      cases hb : chunk S l (2 * b + 1) with
      | none => rw [ha, hb] at ht; cases ht
      | some c =>
        rw [ha, hb] at ht
        have e : t = c := by simp only [join] at ht; injection ht with ht; exact ht.symm
        subst e
        refine only (2 * b + 1) (by omega) hb ?_
        rw [sibIdx_odd]
        unfold chunkAlive; rw [ha]; rfl
    | some a =>
      cases hb : chunk S l (2 * b + 1) with
      | none =>
        rw [ha, hb] at ht
        have e : t = a := by simp only [join] at ht; injection ht with ht; exact ht.symm
        subst e
        refine only (2 * b) (by omega) ha ?_
        rw [sibIdx_even]
        unfold chunkAlive; rw [hb]; rfl
      | some c =>
        refine ⟨l + 1, b, Nat.le_refl _, by simp, ?_, Or.inr ?_, fun _ _ => rfl⟩
        · rw [chunk_succ]; exact ht
        · simp only [Nat.add_sub_cancel]
          unfold chunkAlive
          rw [ha, hb]
          exact ⟨rfl, rfl⟩

/-- the lowest chunk, after the deletion, of the chunk of the node -/
theorem lowest_preimage {F : Forest H} {D : List H} {h : Nat} (t : CTree H) (p : Pos)
    (s' : CTree H) (s : SubAtT F h p t) (hd : delT D t = some s') :
    ∃ p' t', SubAtT F h p' t' ∧ delT D t' = some s' ∧ movePos F D p' = movePos F D p ∧
      LowGood D t' := by
  obtain ⟨S⟩ := F
  have hT : h ∈ treeRows S.length := s.1
  obtain ⟨l, b, hin, hc, rfl, _⟩ := chunk_of_subAtT' S s
  have hc' : chunk (S.map (kill D)) l b = some s' := by rw [chunk_kill, hc]; exact hd
  obtain ⟨l', b', hle, hdiv, hch', hlow, hpos⟩ := lowest_chunk (S.map (kill D)) l b s' hc'
  rw [chunk_kill] at hch'
  obtain ⟨t', ht', hd'⟩ := Option.bind_eq_some_iff.1 hch'
  have hin' : Spec.inTree S.length h l' b' := by
    obtain ⟨h1, h2, h3⟩ := hin
    refine ⟨h1, by omega, ?_⟩
    rw [← h3, ← hdiv, Nat.div_div_eq_div_mul, ← Nat.pow_add]
    congr 2; omega
  have sp' := subAtT_of_chunk_mem S hT hin' ht'
  refine ⟨_, t', sp', hd', ?_, ?_⟩
  · rw [movePos_eq_T sp', movePos_eq_T s,
      movePosT_nodePos S D hT (h - l') l' b' t' (Nat.add_sub_cancel' hin'.2.1) hin' ht',
      movePosT_nodePos S D hT (h - l) l b t (Nat.add_sub_cancel' hin.2.1) hin hc]
    exact hpos h (by rw [List.length_map]; exact hin)
  · cases l' with
    | zero => obtain ⟨x, rfl⟩ := chunk_zero_leaf S ht'; trivial
    | succ k =>
      rcases hlow with h0 | ⟨ha, hb⟩
      · cases h0
      · simp only [Nat.add_sub_cancel] at ha hb
        unfold chunkAlive at ha hb
        rw [chunk_kill] at ha hb
        rw [chunk_succ] at ht'
        cases hca : chunk S k (2 * b') with
        | none => rw [hca] at ha; cases ha
        | some a =>
          cases hcb : chunk S k (2 * b' + 1) with
          | none => rw [hcb] at hb; cases hb
          | some c =>
            rw [hca, hcb] at ht'
            simp only [join] at ht'
            injection ht' with e
            subst e
            rw [hca] at ha
            rw [hcb] at hb
            simp only [Option.bind_some] at ha hb
            exact ⟨fun hn => (by rw [hn] at ha; cases ha), fun hn => (by rw [hn] at hb; cases hb)⟩

end lowest

end
end UtreexoVerif.Proofs.Movement
