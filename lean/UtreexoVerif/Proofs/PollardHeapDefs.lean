/-
  Pointer forest, heap model (`Model/PollardHeap.lean`): the representation predicates, the
  structural well-formedness `WF` and the abstraction relation `Abs`.
-/
import UtreexoVerif.Model.PollardHeapWF
set_option linter.unusedSectionVars false

namespace UtreexoVerif.Proofs.PollardHeap
open UtreexoVerif.Model.PollardHeap UtreexoVerif.Spec Hasher

variable {H : Type} [DecidableEq H] [Hasher H]

abbrev Heap (H : Type) := Array (PolNode H)

/-- node `n` carries the collapsed tree `t`; the children of `n` hang off `holder` (= `n`'s sibling,
or `n` itself for a root); `fp` = the descendants of `n` (its footprint, `n` excluded), `lv` = the
leaves of `t` with their heap indexes -/
inductive Sub (hp : Heap H) : Nat → Nat → CTree H → List Nat → List (H × Nat) → Prop
  | leaf {n holder : Nat} {nn hn : PolNode H} {x : H} :
      hp[n]? = some nn → nn.data = x →
      hp[holder]? = some hn → hn.lNiece = none → hn.rNiece = none →
      Sub hp n holder (.leaf x) [] [(x, n)]
  | node {n holder l r : Nat} {nn hn ln rn : PolNode H} {a b : CTree H} {fa fb : List Nat}
      {la lb : List (H × Nat)} :
      hp[n]? = some nn → nn.data = ph a.hash b.hash →
      hp[holder]? = some hn → hn.lNiece = some l → hn.rNiece = some r →
      hp[l]? = some ln → hp[r]? = some rn →
      ln.aunt = some holder → rn.aunt = some holder →
      Sub hp l r a fa la → Sub hp r l b fb lb →
      Sub hp n holder (.node a b) (l :: r :: (fa ++ fb)) (la ++ lb)

/-- an empty root, as `deleteRoot` leaves it: no aunt, all-zero data, chopped -/
def EmptyRoot (hp : Heap H) (r : Nat) : Prop :=
  ∃ rn, hp[r]? = some rn ∧ rn.aunt = none ∧ rn.data = zero ∧ rn.lNiece = none ∧ rn.rNiece = none

/-- a root carrying tree `t`: no aunt, and it points to its own children -/
def RootRepr (hp : Heap H) (r : Nat) (t : CTree H) (fp : List Nat) (lv : List (H × Nat)) : Prop :=
  (∃ rn, hp[r]? = some rn ∧ rn.aunt = none) ∧ Sub hp r r t fp lv

def ReprRoot (hp : Heap H) (r : Nat) : Option (CTree H) → List Nat → List (H × Nat) → Prop
  | none, fp, lv => EmptyRoot hp r ∧ fp = [] ∧ lv = []
  | some t, fp, lv => RootRepr hp r t fp lv

/-- the roots `rs` represent the trees `ts`; `owned` = every node reachable (roots included),
`lv` = every leaf with its heap index, in tree order -/
inductive ReprRoots (hp : Heap H) : List Nat → List (Option (CTree H)) → List Nat → List (H × Nat) → Prop
  | nil : ReprRoots hp [] [] [] []
  | cons {r : Nat} {t : Option (CTree H)} {fp : List Nat} {lv : List (H × Nat)}
      {rs : List Nat} {ts : List (Option (CTree H))} {owned : List Nat} {lvs : List (H × Nat)} :
      ReprRoot hp r t fp lv → ReprRoots hp rs ts owned lvs →
      ReprRoots hp (r :: rs) (t :: ts) (r :: fp ++ owned) (lv ++ lvs)

/-- `NodeMap` of a full pollard: exactly the leaves (hash ↦ the node carrying it), keys distinct -/
def MapOK (m : List (H × Nat)) (lv : List (H × Nat)) : Prop :=
  (m.map (·.1)).Nodup ∧ ∀ e, e ∈ m ↔ e ∈ lv

/-- **Well-formedness** of the pointer forest: the roots carry collapsed trees in the
aunt/niece encoding (niece pointers of a node = children of its sibling, every niece's aunt
pointer points back, inner data = parent hash of the children), roots have no aunt, no node
is reachable twice, there is one root per set bit of `NumLeaves`, and `NodeMap` maps exactly
the leaves to the nodes carrying them. -/
def WF (p : Pollard H) : Prop :=
  ∃ ts owned lv, ReprRoots p.heap p.roots ts owned lv ∧ owned.Nodup ∧ MapOK p.nodeMap lv ∧
    ts.length = (treeRows p.numLeaves.toNat).length

/-- **Abstraction relation**: the heap represents the specification forest `F` — the same
leaf count and, root by root, the same collapsed trees (the data `Spec.Equiv` compares). -/
structure Abs (p : Pollard H) (F : Forest H) : Prop where
  numLeaves : p.numLeaves.toNat = F.numLeaves
  repr : ∃ owned lv, ReprRoots p.heap p.roots (F.trees.map (·.2)) owned lv ∧ owned.Nodup ∧
    MapOK p.nodeMap lv

theorem Abs.wf {p : Pollard H} {F : Forest H} (a : Abs p F) : WF p := by
  obtain ⟨owned, lv, h1, h2, h3⟩ := a.repr
  refine ⟨_, owned, lv, h1, h2, h3, ?_⟩
  rw [a.numLeaves]
  simp [Forest.trees]

theorem Abs.congr {p : Pollard H} {F G : Forest H} (a : Abs p F) (e : Spec.Forest.numLeaves F = G.numLeaves)
    (e' : F.trees = G.trees) : Abs p G :=
  ⟨a.numLeaves.trans e, by rw [← e']; exact a.repr⟩

end UtreexoVerif.Proofs.PollardHeap
