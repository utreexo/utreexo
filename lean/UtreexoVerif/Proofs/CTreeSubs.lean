/-
  Subtrees of a collapsed tree with their positions: `subs t r o` lists every subtree of `t`
  standing at `(r, o)` together with the position it stands at.  The facts about positions inside
  one tree (a position holds one subtree, children, parent and sibling, nothing stands below a
  leaf, subtrees sharing a leaf are nested) are proved here once, on `subs`; the node list
  `CTree.nodes` is its image under `(p, s) ↦ (p, s.hash, isLeaf s)` (`mem_nodes_iff_subs`), and
  what is needed about `CTree.nodes` is read off through that.
-/
import UtreexoVerif.Spec.Forest
import UtreexoVerif.Spec.NodePairs
import UtreexoVerif.Proofs.SpecForest
set_option linter.unusedSectionVars false

namespace UtreexoVerif.Proofs.SpecNodes
open Spec

variable {H : Type} [DecidableEq H] [Hasher H]

def depth : CTree H → Nat
  | .leaf _ => 0
  | .node l r => max (depth l) (depth r) + 1

def isLeaf : CTree H → Bool
  | .leaf _ => true
  | .node _ _ => false

/-- stated once because `omega` over `depth (node a b)` (a `max`) is dear at every use -/
theorem depth_children {a b : CTree H} {r : Nat} (hd : depth (CTree.node a b) ≤ r) :
    depth a ≤ r - 1 ∧ depth b ≤ r - 1 ∧ 1 ≤ r := by
  simp only [depth] at hd
  omega

omit [DecidableEq H] [Hasher H] in
theorem join_cases {a b : Option (CTree H)} {t : CTree H} (h : join a b = some t) :
    (a = some t ∧ b = none) ∨ (a = none ∧ b = some t) ∨
      ∃ x y, a = some x ∧ b = some y ∧ t = .node x y := by
  cases a <;> cases b <;> simp only [join, Option.some.injEq] at h
  · cases h
  · exact Or.inr (Or.inl ⟨rfl, by rw [h]⟩)
  · exact Or.inl ⟨by rw [h], rfl⟩
  · exact Or.inr (Or.inr ⟨_, _, rfl, rfl, h.symm⟩)

omit [DecidableEq H] [Hasher H] in
theorem join_depth {a b : Option (CTree H)} {t : CTree H} {k : Nat}
    (ha : ∀ t, a = some t → depth t ≤ k) (hb : ∀ t, b = some t → depth t ≤ k)
    (h : join a b = some t) : depth t ≤ k + 1 := by
  rcases join_cases h with ⟨e, _⟩ | ⟨_, e⟩ | ⟨x, y, ea, eb, rfl⟩
  · exact Nat.le_succ_of_le (ha t e)
  · exact Nat.le_succ_of_le (hb t e)
  · exact Nat.succ_le_succ (Nat.max_le.2 ⟨ha x ea, hb y eb⟩)

omit [DecidableEq H] [Hasher H] in
theorem collapse_depth : ∀ (k : Nat) (l : List (Option H)) (t : CTree H),
    collapse k l = some t → depth t ≤ k := by
  intro k
  induction k with
  | zero =>
    intro l t h
    unfold collapse at h
    split at h
    · injection h with h; subst h; simp [depth]
    · simp at h
  | succ k ih =>
    intro l t h
    unfold collapse at h
    exact join_depth (fun t ht => ih _ t ht) (fun t ht => ih _ t ht) h


/-- `p` lies in the subtree rooted at `(r, o)` -/
def Under (r o : Nat) (p : Pos) : Prop := p.1 ≤ r ∧ p.2 / 2 ^ (r - p.1) = o

theorem Under.self (r o : Nat) : Under r o (r, o) := by
  simp [Under]

theorem Under.of_child {r o c : Nat} {p : Pos} (hr : 1 ≤ r) (hc : c / 2 = o)
    (h : Under (r - 1) c p) : Under r o p := by
  obtain ⟨h1, h2⟩ := h
  refine ⟨by omega, ?_⟩
  have e : r - p.1 = (r - 1 - p.1) + 1 := by omega
  rw [e, Nat.pow_succ, ← Nat.div_div_eq_div_mul, h2, hc]


theorem Under.child {R O r o c : Nat} (h : Under R O (r + 1, o)) (hc : c / 2 = o) :
    Under R O (r, c) := by
  obtain ⟨h1, h2⟩ := h
  simp only at h1 h2
  refine ⟨by simp only; omega, ?_⟩
  simp only
  have e : R - r = (R - (r + 1)) + 1 := by omega
  rw [e, Nat.pow_succ, Nat.mul_comm, ← Nat.div_div_eq_div_mul, hc, h2]


theorem Under.trans_under {r o : Nat} {x y : Pos} (hx : Under r o x) (hy : Under x.1 x.2 y) : Under r o y := by
  obtain ⟨h1, h2⟩ := hx
  obtain ⟨h3, h4⟩ := hy
  refine ⟨Nat.le_trans h3 h1, ?_⟩
  rw [show r - y.1 = (x.1 - y.1) + (r - x.1) by omega, Nat.pow_add, ← Nat.div_div_eq_div_mul, h4, h2]

theorem Under.children_disjoint {r o : Nat} {p : Pos} (h1 : Under r (2 * o) p)
    (h2 : Under r (2 * o + 1) p) : False :=
  Nat.succ_ne_self _ (h1.2.symm.trans h2.2).symm

end UtreexoVerif.Proofs.SpecNodes

namespace UtreexoVerif.Spec

theorem parent_left_child {r : Nat} (hr : 1 ≤ r) (o : Nat) : parent (r - 1, 2 * o) = (r, o) := by
  simp only [parent, Prod.mk.injEq]; omega

theorem parent_right_child {r : Nat} (hr : 1 ≤ r) (o : Nat) : parent (r - 1, 2 * o + 1) = (r, o) := by
  simp only [parent, Prod.mk.injEq]; omega

theorem sib_left_child (r o : Nat) : sib (r, 2 * o) = (r, 2 * o + 1) := by
  simp only [sib, Prod.mk.injEq, true_and]
  rw [if_pos (Nat.mul_mod_right 2 o)]

theorem sib_right_child (r o : Nat) : sib (r, 2 * o + 1) = (r, 2 * o) := by
  simp only [sib, Prod.mk.injEq, true_and]
  rw [if_neg (by omega)]
  omega

end UtreexoVerif.Spec

namespace UtreexoVerif.Proofs.SpecSubs
open Spec
open UtreexoVerif.Proofs.SpecNodes

variable {H : Type} [DecidableEq H] [Hasher H]

def subs : CTree H → Nat → Nat → List (Pos × CTree H)
  | .leaf h, r, o => [((r, o), .leaf h)]
  | .node a b, r, o => ((r, o), .node a b) :: (subs a (r-1) (2*o) ++ subs b (r-1) (2*o+1))

theorem subs_head (t : CTree H) (r o : Nat) : ((r, o), t) ∈ subs t r o := by
  cases t <;> simp [subs]

theorem mem_subs_left {a b : CTree H} {r o : Nat} {x : Pos × CTree H}
    (h : x ∈ subs a (r - 1) (2 * o)) : x ∈ subs (CTree.node a b) r o :=
  List.mem_cons_of_mem _ (List.mem_append_left _ h)

theorem mem_subs_right {a b : CTree H} {r o : Nat} {x : Pos × CTree H}
    (h : x ∈ subs b (r - 1) (2 * o + 1)) : x ∈ subs (CTree.node a b) r o :=
  List.mem_cons_of_mem _ (List.mem_append_right _ h)

theorem subs_under : ∀ (t : CTree H) (r o : Nat), depth t ≤ r →
    ∀ x ∈ subs t r o, Under r o x.1 := by
  intro t
  induction t with
  | leaf h =>
    intro r o _ x hx
    simp only [subs, List.mem_singleton] at hx
    subst hx
    exact Under.self r o
  | node a b iha ihb =>
    intro r o hd x hx
    obtain ⟨hda, hdb, hr⟩ := depth_children hd
    simp only [subs, List.mem_cons, List.mem_append] at hx
    rcases hx with rfl | hx | hx
    · exact Under.self r o
    · exact Under.of_child hr (Nat.mul_div_cancel_left o Nat.two_pos) (iha (r - 1) (2 * o) hda x hx)
    · exact Under.of_child hr (by omega) (ihb (r - 1) (2 * o + 1) hdb x hx)

theorem subs_depth : ∀ (t : CTree H) (r o : Nat), depth t ≤ r →
    ∀ x ∈ subs t r o, depth x.2 ≤ x.1.1 := by
  intro t
  induction t with
  | leaf h =>
    intro r o _ x hx
    simp only [subs, List.mem_singleton] at hx
    subst hx
    simp [depth]
  | node a b iha ihb =>
    intro r o hd x hx
    obtain ⟨hda, hdb, _⟩ := depth_children hd
    simp only [subs, List.mem_cons, List.mem_append] at hx
    rcases hx with rfl | hx | hx
    · exact hd
    · exact iha _ _ hda x hx
    · exact ihb _ _ hdb x hx

theorem subs_sub : ∀ (t : CTree H) (r o : Nat), ∀ x ∈ subs t r o,
    ∀ y ∈ subs x.2 x.1.1 x.1.2, y ∈ subs t r o := by
  intro t
  induction t with
  | leaf h =>
    intro r o x hx y hy
    simp only [subs, List.mem_singleton] at hx
    subst hx
    exact hy
  | node a b iha ihb =>
    intro r o x hx y hy
    simp only [subs, List.mem_cons, List.mem_append] at hx
    rcases hx with rfl | hx | hx
    · exact hy
    · exact mem_subs_left (iha _ _ x hx y hy)
    · exact mem_subs_right (ihb _ _ x hx y hy)

theorem subs_children (t : CTree H) (r o : Nat) {p : Pos} {a b : CTree H}
    (h : (p, CTree.node a b) ∈ subs t r o) :
    ((p.1 - 1, 2 * p.2), a) ∈ subs t r o ∧ ((p.1 - 1, 2 * p.2 + 1), b) ∈ subs t r o := by
  exact ⟨subs_sub t r o _ h _ (mem_subs_left (subs_head a _ _)),
    subs_sub t r o _ h _ (mem_subs_right (subs_head b _ _))⟩


theorem subs_parent : ∀ (t : CTree H) (r o : Nat), depth t ≤ r → ∀ x ∈ subs t r o,
    x = ((r, o), t) ∨ (x.1.1 < r ∧ ∃ s' : CTree H,
      (parent x.1, if x.1.2 % 2 = 0 then CTree.node x.2 s' else CTree.node s' x.2) ∈ subs t r o ∧
      (sib x.1, s') ∈ subs t r o) := by
  intro t
  induction t with
  | leaf h =>
    intro r o _ x hx
    simp only [subs, List.mem_singleton] at hx
    exact Or.inl hx
  | node a b iha ihb =>
    intro r o hd x hx
    obtain ⟨hda, hdb, hr⟩ := depth_children hd
    simp only [subs, List.mem_cons, List.mem_append] at hx
    rcases hx with rfl | hx | hx
    · exact Or.inl rfl
    · right
      rcases iha _ _ hda x hx with rfl | ⟨hlt, s', h1, h2⟩
      · refine ⟨Nat.sub_lt hr Nat.one_pos, b, ?_, ?_⟩
        · rw [parent_left_child hr, if_pos (Nat.mul_mod_right 2 o)]
          exact List.mem_cons_self
        · rw [sib_left_child]
          exact mem_subs_right (subs_head b _ _)
      · exact ⟨by omega, s', mem_subs_left h1, mem_subs_left h2⟩
    · right
      rcases ihb _ _ hdb x hx with rfl | ⟨hlt, s', h1, h2⟩
      · refine ⟨Nat.sub_lt hr Nat.one_pos, a, ?_, ?_⟩
        · rw [parent_right_child hr, if_neg (by show ¬ (2 * o + 1) % 2 = 0; omega)]
          exact List.mem_cons_self
        · rw [sib_right_child]
          exact mem_subs_left (subs_head a _ _)
      · exact ⟨by omega, s', mem_subs_right h1, mem_subs_right h2⟩


theorem subs_leaves : ∀ (t : CTree H) (r o : Nat), ∀ x ∈ subs t r o,
    ∀ l ∈ x.2.leaves, l ∈ t.leaves := by
  intro t
  induction t with
  | leaf h =>
    intro r o x hx l hl
    simp only [subs, List.mem_singleton] at hx
    subst hx
    exact hl
  | node a b iha ihb =>
    intro r o x hx l hl
    simp only [subs, List.mem_cons, List.mem_append] at hx
    rcases hx with rfl | hx | hx
    · exact hl
    · simp only [CTree.leaves, List.mem_append]
      exact Or.inl (iha _ _ x hx l hl)
    · simp only [CTree.leaves, List.mem_append]
      exact Or.inr (ihb _ _ x hx l hl)

theorem leaf_in_subs : ∀ (t : CTree H) (r o : Nat), ∀ l ∈ t.leaves,
    ∃ p, (p, CTree.leaf l) ∈ subs t r o := by
  intro t
  induction t with
  | leaf h =>
    intro r o l hl
    simp only [CTree.leaves, List.mem_singleton] at hl
    subst hl
    exact ⟨(r, o), by simp [subs]⟩
  | node a b iha ihb =>
    intro r o l hl
    simp only [CTree.leaves, List.mem_append] at hl
    rcases hl with hl | hl
    · obtain ⟨p, hp⟩ := iha (r - 1) (2 * o) l hl
      exact ⟨p, by simp only [subs, List.mem_cons, List.mem_append]; exact Or.inr (Or.inl hp)⟩
    · obtain ⟨p, hp⟩ := ihb (r - 1) (2 * o + 1) l hl
      exact ⟨p, by simp only [subs, List.mem_cons, List.mem_append]; exact Or.inr (Or.inr hp)⟩


theorem subs_leaves_length : ∀ (t : CTree H) (r o : Nat), ∀ x ∈ subs t r o,
    x = ((r, o), t) ∨ x.2.leaves.length < t.leaves.length := by
  intro t
  induction t with
  | leaf h => intro r o x hx; exact Or.inl (List.mem_singleton.1 hx)
  | node a b iha ihb =>
    intro r o x hx
    simp only [subs, List.mem_cons, List.mem_append] at hx
    have ha := List.length_pos_iff.mpr (Spec.CTree.leaves_ne_nil a)
    have hb := List.length_pos_iff.mpr (Spec.CTree.leaves_ne_nil b)
    simp only [CTree.leaves, List.length_append]
    rcases hx with rfl | hx | hx
    · exact Or.inl rfl
    · right
      rcases iha _ _ _ hx with e | h
      · rw [e]; simp only; omega
      · omega
    · right
      rcases ihb _ _ _ hx with e | h
      · rw [e]; simp only; omega
      · omega

theorem subs_self {t : CTree H} {r o : Nat} {p : Pos} (h : (p, t) ∈ subs t r o) : p = (r, o) := by
  rcases subs_leaves_length t r o _ h with e | e
  · exact (Prod.mk.inj e).1
  · exact absurd e (Nat.lt_irrefl _)

/-- what stands under the position of a subtree `s` of `t` is a subtree of `s`: the law the other
uniqueness laws (`subs_unique`, `subs_leaf_below`, `SubAtT.of_under`) are read from -/
theorem subs_of_under : ∀ (t : CTree H) (r o : Nat), depth t ≤ r →
    ∀ x ∈ subs t r o, ∀ y ∈ subs t r o, Under x.1.1 x.1.2 y.1 → y ∈ subs x.2 x.1.1 x.1.2 := by
  intro t
  induction t with
  | leaf h =>
    intro r o _ x hx y hy _
    simp only [subs, List.mem_singleton] at hx hy
    rw [hx, hy]
    exact List.mem_singleton.2 rfl
  | node a b iha ihb =>
    intro r o hd x hx y hy hu
    obtain ⟨hda, hdb, hr⟩ := depth_children hd
    have hy' := hy
    simp only [subs, List.mem_cons, List.mem_append] at hx hy'
    rcases hx with rfl | hx | hx
    · exact hy
    · have ux := subs_under a (r - 1) (2 * o) hda x hx
      rcases hy' with rfl | hy' | hy'
      · exact absurd (Nat.le_trans hu.1 ux.1) (Nat.not_le_of_gt (Nat.sub_lt hr Nat.one_pos))
      · exact iha (r - 1) (2 * o) hda x hx y hy' hu
      · exact (Under.children_disjoint (ux.trans_under hu) (subs_under b (r - 1) (2 * o + 1) hdb y hy')).elim
    · have ux := subs_under b (r - 1) (2 * o + 1) hdb x hx
      rcases hy' with rfl | hy' | hy'
      · exact absurd (Nat.le_trans hu.1 ux.1) (Nat.not_le_of_gt (Nat.sub_lt hr Nat.one_pos))
      · exact (Under.children_disjoint (subs_under a (r - 1) (2 * o) hda y hy') (ux.trans_under hu)).elim
      · exact ihb (r - 1) (2 * o + 1) hdb x hx y hy' hu

/-- two subtrees at one position lie under each other, and a proper subtree has fewer leaves -/
theorem subs_unique (t : CTree H) (r o : Nat) (hd : depth t ≤ r) :
    ∀ x ∈ subs t r o, ∀ y ∈ subs t r o, x.1 = y.1 → x = y := by
  intro x hx y hy e
  have h1 := subs_of_under t r o hd x hx y hy (e ▸ Under.self _ _)
  have h2 := subs_of_under t r o hd y hy x hx (e ▸ Under.self _ _)
  rcases subs_leaves_length _ _ _ _ h1 with e1 | l1
  · exact e1.symm
  · rcases subs_leaves_length _ _ _ _ h2 with e2 | l2
    · exact e2
    · exact absurd l1 (Nat.lt_asymm l2)

theorem subs_leaf_below (t : CTree H) (r o : Nat) (hd : depth t ≤ r) :
    ∀ x ∈ subs t r o, isLeaf x.2 = true → ∀ y ∈ subs t r o, Under x.1.1 x.1.2 y.1 → y = x := by
  intro x hx hl y hy hu
  have := subs_of_under t r o hd x hx y hy hu
  obtain ⟨p, s⟩ := x
  cases s with
  | node _ _ => cases hl
  | leaf l => exact List.mem_singleton.1 this

theorem subs_nested : ∀ (t : CTree H) (r o : Nat), t.leaves.Nodup →
    ∀ x ∈ subs t r o, ∀ y ∈ subs t r o, ∀ l, l ∈ x.2.leaves → l ∈ y.2.leaves →
      y ∈ subs x.2 x.1.1 x.1.2 ∨ x ∈ subs y.2 y.1.1 y.1.2 := by
  intro t
  induction t with
  | leaf h =>
    intro r o _ x hx y hy _ _ _
    simp only [subs, List.mem_singleton] at hx hy
    subst hx hy
    exact Or.inl (subs_head _ _ _)
  | node a b iha ihb =>
    intro r o hnd x hx y hy l h1 h2
    simp only [CTree.leaves] at hnd
    obtain ⟨hnda, hndb, hdis⟩ := List.nodup_append.1 hnd
    have hx' := hx
    have hy' := hy
    simp only [subs, List.mem_cons, List.mem_append] at hx' hy'
    rcases hx' with rfl | hxa | hxb
    · exact Or.inl hy
    · rcases hy' with rfl | hya | hyb
      · exact Or.inr hx
      · exact iha _ _ hnda x hxa y hya l h1 h2
      · exact absurd rfl (hdis l (subs_leaves a _ _ x hxa l h1) l (subs_leaves b _ _ y hyb l h2))
    · rcases hy' with rfl | hya | hyb
      · exact Or.inr hx
      · exact absurd rfl (hdis l (subs_leaves a _ _ y hya l h2) l (subs_leaves b _ _ x hxb l h1))
      · exact ihb _ _ hndb x hxb y hyb l h1 h2

theorem subs_pos_unique {t : CTree H} {r o : Nat} (hnd : t.leaves.Nodup) {p p' : Pos} {s : CTree H}
    (h : (p, s) ∈ subs t r o) (h' : (p', s) ∈ subs t r o) : p = p' := by
  obtain ⟨l, hl⟩ := List.exists_mem_of_ne_nil _ (Spec.CTree.leaves_ne_nil s)
  rcases subs_nested t r o hnd _ h _ h' l hl hl with hm | hm
  · exact (subs_self hm).symm
  · exact subs_self hm

theorem nodes_eq_subs : ∀ (t : CTree H) (r o : Nat),
    t.nodes r o = (subs t r o).map (fun x => (x.1, x.2.hash, isLeaf x.2)) := by
  intro t
  induction t with
  | leaf h => intro r o; rfl
  | node a b iha ihb =>
    intro r o
    simp only [CTree.nodes, subs, List.map_cons, List.map_append, iha, ihb]
    rfl

theorem mem_nodes_iff_subs {t : CTree H} {r o : Nat} {x : Pos × H × Bool} :
    x ∈ t.nodes r o ↔ ∃ s, (x.1, s) ∈ subs t r o ∧ x.2.1 = s.hash ∧ x.2.2 = isLeaf s := by
  rw [nodes_eq_subs, List.mem_map]
  constructor
  · rintro ⟨⟨p, s⟩, hm, rfl⟩
    exact ⟨s, hm, rfl, rfl⟩
  · rintro ⟨s, hm, h1, h2⟩
    obtain ⟨p, v, f⟩ := x
    simp only at h1 h2
    exact ⟨(p, s), hm, by rw [h1, h2]⟩

theorem mem_nodes_of_subs {t : CTree H} {r o : Nat} {p : Pos} {s : CTree H} (h : (p, s) ∈ subs t r o) :
    (p, s.hash, isLeaf s) ∈ t.nodes r o := mem_nodes_iff_subs.2 ⟨s, h, rfl, rfl⟩

theorem mem_pairs_iff_subs {t : CTree H} {r o : Nat} {y : H × H} :
    y ∈ t.pairs ↔ ∃ p a b, (p, CTree.node a b) ∈ subs t r o ∧ y = (a.hash, b.hash) := by
  induction t generalizing r o with
  | leaf h => simp [CTree.pairs, subs]
  | node c d ihc ihd =>
    simp only [CTree.pairs, List.mem_cons, List.mem_append, ihc (r := r - 1) (o := 2 * o),
      ihd (r := r - 1) (o := 2 * o + 1)]
    constructor
    · rintro (rfl | ⟨p, a, b, hm, rfl⟩ | ⟨p, a, b, hm, rfl⟩)
      · exact ⟨_, c, d, subs_head _ _ _, rfl⟩
      · exact ⟨p, a, b, mem_subs_left hm, rfl⟩
      · exact ⟨p, a, b, mem_subs_right hm, rfl⟩
    · rintro ⟨p, a, b, hm, rfl⟩
      simp only [subs, List.mem_cons, List.mem_append, Prod.mk.injEq, CTree.node.injEq] at hm
      rcases hm with ⟨_, rfl, rfl⟩ | hm | hm
      · exact Or.inl rfl
      · exact Or.inr (Or.inl ⟨p, a, b, hm, rfl⟩)
      · exact Or.inr (Or.inr ⟨p, a, b, hm, rfl⟩)

end UtreexoVerif.Proofs.SpecSubs
