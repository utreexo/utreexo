/-
  Pointer forest, heap model, `Undo`, third phase: ONE re-insertion at forest level.
  `AbsP p G pend`: the heap represents the forest `G` and, detached from it, the trees `pend`
  (allocated by `undoDelsAlloc`, merged by `deTwinPolNode`) that are still to be re-inserted;
  `NodeMap` = the leaves of both.
-/
import UtreexoVerif.Proofs.PollardHeapUndoDelRoot
import UtreexoVerif.Proofs.PollardHeapUndoDefs
set_option linter.unusedSectionVars false

namespace UtreexoVerif.Proofs.PollardHeap
open UtreexoVerif.Model UtreexoVerif.Model.PollardHeap UtreexoVerif.Spec Hasher
open UtreexoVerif.Model.PollardAbs UtreexoVerif.Proofs.SpecSubs
open UtreexoVerif.Proofs.SpecView UtreexoVerif.Proofs.CalcGeo

variable {H : Type} [DecidableEq H] [Hasher H]

/-- `Abs` with Pending items (file header) -/
structure AbsP (p : Pollard H) (G : Forest H) (pend : List (PItem H)) : Prop where
  numLeaves : p.numLeaves.toNat = G.numLeaves
  repr : ∃ owned lv, ReprRoots p.heap p.roots (G.trees.map (·.2)) owned lv ∧ Pend p.heap pend ∧
    (owned ++ pendOwned pend).Nodup ∧ (p.nodeMap.map (·.1)).Nodup ∧
    ((lv ++ pendLeaves pend).map (·.1)).Nodup ∧ ∀ e, e ∈ p.nodeMap ↔ e ∈ lv ++ pendLeaves pend

theorem AbsP.toAbs {p : Pollard H} {G : Forest H} (a : AbsP p G []) : Abs p G := by
  obtain ⟨h1, owned, lv, h2, _, h3, h4, h5, h6⟩ := a
  refine ⟨h1, owned, lv, h2, by simpa [pendOwned] using h3, h4, fun e => ?_⟩
  simpa [pendLeaves] using h6 e

theorem perm_ite_mid {α : Type} (il : Bool) (pre x y post z : List α) :
    (pre ++ (if il then x ++ y else y ++ x) ++ post ++ z).Perm (pre ++ y ++ post ++ x ++ z) := by
  cases il
  · simp only [Bool.false_eq_true, if_false, List.append_assoc]
    exact ((List.perm_append_comm_assoc x post z).append_left y).append_left pre
  · simp only [if_true, List.append_assoc]
    exact ((List.perm_append_comm_assoc x y _).trans
      ((List.perm_append_comm_assoc x post z).append_left y)).append_left pre

/-- `undoSingleDel` on one represented root: the level between the pointer traces and the
forest (one tree, both branches, `NodeMap` clause included; the counterpart of `deleteSingle_mid`).
`hsep` (no `NodeMap` key is a parent hash): in the root branch Go re-points `NodeMap` BY HASH
(`if found { p.NodeMap[sibling.data.mini()] = sibling }`) whether or not `sibling` is a leaf, so a
leaf elsewhere that carries the hash of the inner node `sibling` would be re-pointed to it; every
lemma above this one hands the hypothesis down unchanged -/
theorem undoSingleDel_mid {hp : Heap H} {nm : List (H × Nat)} {rs : List Nat} {nl ndl : U64}
    {full : Bool} {root : Nat} (ctx : CCtx H) {b : CTree H} {fp : List Nat} {lk : List (H × Nat)}
    {nd : Nat} {a : CTree H} {fa : List Nat} {la : List (H × Nat)} (aRight : Bool) (pos : U64)
    (hR : RootRepr hp root (ctx.plug b) fp lk) (hRn : RootRepr hp nd a fa la)
    (ndp : (root :: fp ++ nd :: fa).Nodup) (hleft : isLeftNiece pos = !aRight)
    (hget : ∀ B S, walkChild hp root root ctx.revPath.reverse = some (B, S) →
      ∃ par, getNode (Parent pos (TreeRows nl)) ⟨hp, nm, rs, nl, ndl, full⟩ =
        (.ok (some B, some S, par), ⟨hp, nm, rs, nl, ndl, full⟩))
    (Z : List (H × Nat)) (hM : MapD nm (lk ++ la ++ Z) []) (hsep : ∀ e ∈ nm, ∀ u v : H, e.1 ≠ ph u v) :
    ∃ (hp' : Heap H) (nm' : List (H × Nat)) (fp' : List Nat) (lk' : List (H × Nat)),
      undoSingleDel nd pos ⟨hp, nm, rs, nl, ndl, full⟩ = (.ok (), ⟨hp', nm', rs, nl, ndl, full⟩) ∧
      RootRepr hp' root (ctx.plug (if aRight then .node b a else .node a b)) fp' lk' ∧
      fp'.Perm (hp.size :: nd :: (fa ++ fp)) ∧
      (∀ j, j ∉ root :: fp ++ nd :: fa → j ≠ hp.size → hp'[j]? = hp[j]?) ∧
      hp'.size = hp.size + 1 ∧
      MapD nm' (lk' ++ Z) [] ∧ nm'.map (·.1) = nm.map (·.1) := by
  have hplug : (if isLeftNiece pos then CTree.node a b else CTree.node b a) =
      (if aRight then CTree.node b a else CTree.node a b) := by
    rw [hleft]; cases aRight <;> rfl
  rcases (show ctx = .top ∨ ctx ≠ .top by cases ctx <;> simp) with rfl | hne
  · -- the parent is the root
    simp only [CCtx.plug, CCtx.revPath, List.reverse_nil] at hR hget ⊢
    obtain ⟨par, hget'⟩ := hget root root (by simp [walkChild])
    obtain ⟨hp', hex, hroot', hframe, hsz⟩ := undoSingleDel_tree_root hR hRn ndp pos par hget'
    rw [hplug] at hroot'
    have hM0 : MapD nm (lk ++ (la ++ Z)) [] := List.append_assoc lk la Z ▸ hM
    obtain ⟨hM1, -⟩ := hM0.move hR.2 (fun e he => hsep e ((hM0.mem e).2 ⟨he, List.not_mem_nil⟩)) hp.size
    refine ⟨hp', mapMoveTo nm b.hash hp.size, _, _, hex, hroot', ?_, hframe, hsz,
      hM1.perm (by simpa using (perm_ite_mid (isLeftNiece pos) [] la (relabelTop b hp.size lk) [] Z).symm), mapMoveTo_keys _ _ _⟩
    cases isLeftNiece pos
    · simp only [Bool.false_eq_true, if_false]; perm_count
    · simp only [if_true]; perm_count
  · -- the parent is not the root
    obtain ⟨B, S, fb, lb, fpc, pre, post, hc, subB, hperm0, e4, hw⟩ := Sub.zoom_ctx hR.1 ctx b fp lk hR.2
    obtain ⟨dd, up, ts, rfl⟩ := CCtx.exists_cons hne
    obtain ⟨par, hget'⟩ := hget B S hw
    obtain ⟨hp', fp', hex, hroot', hperm, hframe, hsz⟩ :=
      undoSingleDel_hole hc subB hRn hperm0 ndp pos par hget'
    rw [hplug] at hroot'
    have hP : (pre ++ (if isLeftNiece pos then la ++ lb else lb ++ la) ++ post ++ Z).Perm (lk ++ la ++ Z) := by
      rw [e4]; exact perm_ite_mid (isLeftNiece pos) pre la lb post Z
    exact ⟨hp', nm, fp', _, hex, hroot', hperm, hframe, hsz, hM.perm hP.symm, rfl⟩

/-- `AbsP` opened at the tree on row `R`, with the LAST pending item in hand, and the way back: any
root (the old one or another) representing the whole tree `t0`, made of nodes of the old root's
footprint, of the item and the one fresh index, in a heap that left everything else alone, gives
`AbsP` for `G` and the other items.  (`rs.length ≤ 65`: at most 65 trees, `treeRows_length_le`; what
lets the root's index pass through Go's `uint8`.) -/
theorem AbsP.openAt {hp : Heap H} {nm : List (H × Nat)} {rs : List Nat} {nl ndl : U64} {full : Bool}
    {G : Forest H} {others : List (PItem H)} {it : PItem H} {X : List H}
    (hA : AbsP ⟨hp, nm, rs, nl, ndl, full⟩ (G.delLeaves X) (others ++ [it])) (hn : G.numLeaves < 2 ^ 63)
    (hGnd : G.liveLeaves.Nodup) {R : Nat} (hR : R ∈ treeRows G.numLeaves) {t0 : CTree H}
    (ht0 : PollardLookup.treeOf G R = some t0) (hX : ∀ x ∈ X, x ∈ t0.leaves) :
    ∃ (root : Nat) (fp : List Nat) (lk L : List (H × Nat)),
      rs[(treeRows G.numLeaves).idxOf R]? = some root ∧
      ReprRoot hp root (pruneO X (some t0)) fp lk ∧ RootRepr hp it.nd it.t it.fp it.lv ∧
      (root :: fp ++ it.nd :: it.fp).Nodup ∧ rs.length ≤ 65 ∧ MapD nm (lk ++ it.lv ++ L) [] ∧
      ∀ (hp' : Heap H) (nm' : List (H × Nat)) (root' : Nat) (fp' : List Nat) (lk' : List (H × Nat)),
        ReprRoot hp' root' (some t0) fp' lk' →
        SubM (root' :: fp') (hp.size :: (root :: fp ++ it.nd :: it.fp)) →
        (∀ j, j ∉ root :: fp ++ it.nd :: it.fp → j < hp.size → hp'[j]? = hp[j]?) →
        MapD nm' (lk' ++ L) [] →
        AbsP ⟨hp', nm', rs.set ((treeRows G.numLeaves).idxOf R) root', nl, ndl, full⟩ G others := by
  obtain ⟨hnl, owned, lv, hroots, hpend, hnd, hmk, hlk, hmm⟩ := hA
  simp only at hnl hroots hpend hnd hmk hlk hmm
  obtain ⟨_, _, hidx, hset⟩ := trees_delLeaves_set (Nat.lt_trans hn (by decide)) hGnd hR ht0 X hX
  obtain ⟨root, fp, O, lk, L, hrootget, hrr, pO, pL, close⟩ := hroots.openAt hidx
  have hRn : RootRepr hp it.nd it.t it.fp it.lv := hpend it (by simp)
  have hpo : Pend hp others := fun it' hit' => hpend it' (by simp [hit'])
  rw [pendOwned_snoc] at hnd
  rw [pendLeaves_snoc] at hlk hmm
  have hnd' : (((root :: fp) ++ O) ++ (pendOwned others ++ it.nd :: it.fp)).Nodup :=
    ((pO.append_right _).nodup_iff).1 hnd
  obtain ⟨ndp, hout⟩ := nodup_apart hnd'
  have P := (pL.append_right (pendLeaves others ++ it.lv)).trans (perm_apart lk L (pendLeaves others) it.lv)
  have hlt1 : ∀ i, i ∈ O ∨ i ∈ pendOwned others → i < hp.size := by
    rintro i (hi | hi)
    · exact hroots.lt i (pO.mem_iff.2 (List.mem_append_right _ hi))
    · exact hpo.lt i hi
  refine ⟨root, fp, lk, L ++ pendLeaves others, hrootget, hrr, hRn, ndp, ?_,
    ⟨fun e => ((hmm e).trans P.mem_iff).trans (and_iff_left List.not_mem_nil).symm, hmk,
      (List.Perm.nodup_iff (P.map _)).1 hlk⟩, ?_⟩
  · rw [hroots.length_eq, trees_delLeaves]
    simp only [List.length_map, Forest.trees]
    exact treeRows_length_le _
  intro hp' nm' root' fp' lk' hr' hsub hframe hM'
  have hfr : ∀ i, i ∈ O ∨ i ∈ pendOwned others → hp'[i]? = hp[i]? :=
    fun i hi => hframe i (hout i hi) (hlt1 i hi)
  obtain ⟨owned', lv', hroots', pO', pL'⟩ := close hp' root' (some t0) fp' lk' hr' (fun i hi => hfr i (Or.inl hi))
  rw [hset] at hroots'
  have PL : (lv' ++ pendLeaves others).Perm (lk' ++ (L ++ pendLeaves others)) :=
    (pL'.append_right _).trans (List.append_assoc _ _ _ ▸ List.Perm.refl _)
  refine ⟨by simpa [numLeaves_delLeaves] using hnl, owned', lv', hroots',
    hpo.frame (fun i hi => hfr i (Or.inr hi)), ?_, hM'.keys, (List.Perm.nodup_iff (PL.map _)).2 hM'.lkeys,
    fun e => ((hM'.mem e).trans (and_iff_left List.not_mem_nil)).trans PL.mem_iff.symm⟩
  -- counted, the new root's nodes are among the two opened parts and the one fresh index
  have hfresh : hp.size ∉ owned ++ (pendOwned others ++ it.nd :: it.fp) := fun h =>
    Nat.lt_irrefl _ ((List.mem_append.1 h).elim (hroots.lt _) (pendOwned_snoc others it ▸ hpend.lt _))
  refine nodup_reopen (P := hp.size :: (pendOwned others ++ it.nd :: it.fp)) pO pO' (fun z => ?_)
    ((List.perm_middle.nodup_iff).2 (List.nodup_cons.2 ⟨hfresh, hnd⟩))
  have := hsub z
  simp only [List.count_append, List.count_cons, List.cons_append] at this ⊢
  omega

/-- one re-insertion at forest level, the parent not a root;
`Props.PollardHeapC.undoSingleDel_refines` is this statement -/
theorem undoSingleDel_absP {p : Pollard H} {G : Forest H} {others : List (PItem H)} {it : PItem H}
    (hA : AbsP p (G.delLeaves it.t.leaves) (others ++ [it])) (hn : G.numLeaves < 2 ^ 63)
    (hGnd : G.liveLeaves.Nodup) {R : Nat} (hs : SubAtT G R it.pos it.t)
    (hnr : isRootPos G.numLeaves it.pos = false)
    (hsep : ∀ e ∈ p.nodeMap, ∀ u v : H, e.1 ≠ ph u v) :
    ∃ hp' nm', undoSingleDel it.nd (E G.rows it.pos) p =
        (.ok (), { p with heap := hp', nodeMap := nm' }) ∧
      AbsP { p with heap := hp', nodeMap := nm' } G others ∧
      nm'.map (·.1) = p.nodeMap.map (·.1) ∧ p.heap.size ≤ hp'.size := by
  obtain ⟨hp, nm, rs, nl, ndl, full⟩ := p
  obtain ⟨nd, ⟨r, o⟩, a, fa, la⟩ := it
  have hnl := hA.numLeaves
  simp only at hnl hsep hs hnr ⊢
  rw [numLeaves_delLeaves] at hnl
  obtain ⟨t0, k, ht0, hR, hk, hw, hleaves, hroot_off, hrr, hoo, hRrows, htr, _⟩ := hs.locate hnr hn
  have hlt : r < R := Nat.lt_of_sub_pos (hk ▸ Nat.succ_pos k)
  have hkk : R - (r + 1) = k := by rw [Nat.sub_add_eq, hk]; rfl
  rw [pathBits_succ_last, childPath_append] at hw
  cases hπ : childPath t0 (pathBits k (o / 2)) with
  | none => rw [hπ] at hw; simp at hw
  | some tp =>
    rw [hπ] at hw
    simp only [Option.bind_some] at hw
    obtain ⟨ctx, ec1, ec2, ec3⟩ := childPath_zoom _ .top t0 tp hπ
    simp only [CCtx.plug, CCtx.revPath, List.append_nil] at ec1 ec2
    obtain ⟨b, etp⟩ : ∃ b, tp = if o.testBit 0 then CTree.node b a else CTree.node a b := by
      cases tp with
      | leaf x => simp [childPath, child] at hw
      | node x y =>
        cases hd : o.testBit 0
        · rw [hd] at hw
          simp only [childPath, child, Option.some.injEq] at hw
          exact ⟨y, by simp [hw]⟩
        · rw [hd] at hw
          simp only [childPath, child, Option.some.injEq] at hw
          exact ⟨x, by simp [hw]⟩
    have ht0nd : t0.leaves.Nodup := Spec.treeOf_leaves_nodup hGnd ht0
    have hprune : Spec.prune a.leaves t0 = some (ctx.plug b) := by
      rw [← ec1, etp]
      exact prune_plug ctx a b (o.testBit 0) (by rw [← etp, ec1]; exact ht0nd)
    obtain ⟨root, fp, lk, L, hrootget, hrr', hRn, ndp, hLen65, hM, close⟩ :=
      hA.openAt hn hGnd hR ht0 hleaves
    simp only [pruneO, Option.bind_some, hprune] at hrr'
    have hRootRepr : RootRepr hp root (ctx.plug b) fp lk := hrr'
    simp only at hRn ndp hM close
    have hT : TreeRows nl = H8 G.rows := treeRows_eq_H8 hnl hn
    have hLen : rs.length ≤ 255 := Nat.le_trans hLen65 (by decide)
    have hparent : Parent (E G.rows (r, o)) (TreeRows nl) = encU G.rows (r + 1) (o / 2) := by
      rw [hT]; exact Props.C16.parent_enc htr (Nat.lt_of_lt_of_le hlt hRrows) hoo
    have hleft : isLeftNiece (E G.rows (r, o)) = !(o.testBit 0) := by
      have := Props.C16.isLeftNiece_enc htr hrr hoo
      show isLeftNiece (encU G.rows r o) = _
      rw [this, Nat.testBit_zero]
      rcases Nat.mod_two_eq_zero_or_one o with h | h <;> simp [h]
    have ho2 : o / 2 / 2 ^ (R - (r + 1)) = 2 * (G.numLeaves >>> (R + 1)) := by
      rw [hkk, Nat.div_div_eq_div_mul, ← hroot_off, hk, Nat.pow_succ,
        Nat.mul_comm]
    have hget : ∀ B' S, walkChild hp root root ctx.revPath.reverse = some (B', S) →
        ∃ par, getNode (Parent (E G.rows (r, o)) (TreeRows nl)) ⟨hp, nm, rs, nl, ndl, full⟩ =
          (.ok (some B', some S, par), ⟨hp, nm, rs, nl, ndl, full⟩) := by
      intro B' S hwBS
      rw [ec2, List.reverse_reverse] at hwBS
      rw [hparent]
      exact getNode_pos_self (p := ⟨hp, nm, rs, nl, ndl, full⟩) hnl hn hR hlt ho2 hrootget hLen
        (by rw [hkk]; exact hwBS)
    obtain ⟨hp', nm', fp', lk', hex, hroot', hperm, hframe, hsz, hM', m4⟩ :=
      undoSingleDel_mid ctx (o.testBit 0) (E G.rows (r, o)) hRootRepr hRn ndp hleft hget L hM hsep
    refine ⟨hp', nm', hex, ?_, m4, by rw [hsz]; exact Nat.le_succ _⟩
    have := close hp' nm' root fp' lk' (show RootRepr hp' root t0 fp' lk' by rw [← ec1, etp]; exact hroot')
      (.of_perm ((hperm.cons root).trans (by perm_count)))
      (fun j hj hjlt => hframe j hj (Nat.ne_of_lt hjlt)) hM'
    rwa [set_getElem?_self hrootget] at this

theorem undoDelsLoop_cons_nonroot (nd : Nat) (pos : U64) (rest : List NP) (p p' : Pollard H)
    (h : isRootPosition pos p.numLeaves = false) (hex : undoSingleDel nd pos p = (.ok (), p')) :
    undoDelsLoop ((nd, pos) :: rest) p = undoDelsLoop rest p' := by
  rw [undoDelsLoop]
  simp only [bind_apply, getNumLeaves_apply, h, Bool.false_eq_true, if_false, hex]

theorem undoDelsLoop_cons_root (nd : Nat) (pos : U64) (rest : List NP) (p : Pollard H)
    (tree : U8) (x : U8) (y : U64)
    (h : isRootPosition pos p.numLeaves = true) (hdo : DetectOffset pos p.numLeaves = (tree, x, y, false))
    (hlt : tree.toNat < p.roots.length) :
    undoDelsLoop ((nd, pos) :: rest) p = undoDelsLoop rest { p with roots := p.roots.set tree.toNat nd } := by
  rw [undoDelsLoop]
  simp only [bind_apply, getNumLeaves_apply, h, if_true, hdo, Bool.false_eq_true, if_false, getRoots_apply, hlt,
    setRoots_apply]

theorem undoDelsLoop_cons_absP {p : Pollard H} {G : Forest H} {others : List (PItem H)} {it : PItem H}
    (hA : AbsP p (G.delLeaves it.t.leaves) (others ++ [it])) (hn : G.numLeaves < 2 ^ 63)
    (hGnd : G.liveLeaves.Nodup) {R : Nat} (hs : SubAtT G R it.pos it.t)
    (hsep : ∀ e ∈ p.nodeMap, ∀ u v : H, e.1 ≠ ph u v) (rest : List NP) :
    ∃ hp' nm' rs', undoDelsLoop (it.np G.rows :: rest) p =
        undoDelsLoop rest ⟨hp', nm', rs', p.numLeaves, p.numDels, p.full⟩ ∧
      AbsP ⟨hp', nm', rs', p.numLeaves, p.numDels, p.full⟩ G others ∧
      nm'.map (·.1) = p.nodeMap.map (·.1) := by
  have hnl0 := hA.numLeaves
  rw [numLeaves_delLeaves] at hnl0
  have htr : G.rows ≤ 63 := forestRows_le_63 hn
  have hb := hs.bit
  obtain ⟨⟨hrr, hoo⟩, hT, hisroot⟩ := hs.enc hn hnl0
  change isRootPosition (E G.rows it.pos) p.numLeaves = _ at hisroot
  cases hroot : isRootPos G.numLeaves it.pos with
  | false =>
    obtain ⟨hp', nm', hex, hA', hk, _⟩ := undoSingleDel_absP hA hn hGnd hs hroot hsep
    refine ⟨hp', nm', p.roots, ?_, hA', hk⟩
    exact undoDelsLoop_cons_nonroot _ _ rest p _ (by rw [hisroot, hroot]) hex
  | true =>
    obtain ⟨hp, nm, rs, nl, ndl, full⟩ := p
    obtain ⟨nd, q, a, fa, la⟩ := it
    simp only at hsep hs hroot hisroot hnl0 hT hrr hoo ⊢
    obtain ⟨rfl, ht1⟩ := hs.at_root hroot
    have hR := hs.1
    -- open at the (empty) root of row `R`, close with the pending tree as the new root
    obtain ⟨root, fp, lk, L, hrk, hrr', hRn, ndp, hLen, hM, close⟩ :=
      hA.openAt hn hGnd hR ht1 (fun x hx => hx)
    have hpr : pruneO a.leaves (some a) = none := (prune_eq_none_iff _ a).2 (fun x hx => hx)
    simp only [hpr] at hrr'
    obtain ⟨_, rfl, rfl⟩ := hrr'
    simp only [List.nil_append] at hRn ndp hM close
    have hA' := close hp nm nd fa la hRn (.of_sublist (.cons _ (.cons _ (.refl _)))) (fun _ _ _ => rfl) hM
    have hdo := Props.C16.detectOffset_enc (R := R) nl hT htr (Nat.le_refl R) hoo (by rw [hnl0]; exact hb)
      (by rw [hnl0]; simp [rootPos])
    rw [hnl0] at hdo
    have hklt : (treeRows G.numLeaves).idxOf R < rs.length := (List.getElem?_eq_some_iff.1 hrk).1
    have hidxN := (u8_index_ok hklt hLen).1
    refine ⟨hp, nm, rs.set ((treeRows G.numLeaves).idxOf R) nd, ?_, hA', rfl⟩
    have := undoDelsLoop_cons_root nd (E G.rows (rootPos G.numLeaves R)) rest
      (⟨hp, nm, rs, nl, ndl, full⟩ : Pollard H) _ _ _ (by rw [hisroot, hroot]) hdo
      (by rw [hidxN]; exact hklt)
    simp only [hidxN] at this
    exact this

end UtreexoVerif.Proofs.PollardHeap
