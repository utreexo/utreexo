/-
  The interface between the bit level of utils.go and every proof that works on `(row, offset)` pairs.
  For `ValidH H p` (Geometry.lean) `encP H` is an order embedding (`encP_toNat`, `encP_lt_iff`, `encP_inj`,
  directly in `Proofs`).  In namespace `EncPos`: every word below the bound is an encoding (`exists_encP`),
  and each function of utils.go that the proofs above the geometry use is, on `encP H p`, the `Spec`
  operation on `p`.  For a leaf count `n ≤ 2^63` the forest-level functions are stated on `n : Nat`.
-/
import UtreexoVerif.Props.C16b

namespace UtreexoVerif.Proofs
open Spec Model
open UtreexoVerif.Props


variable {H : Nat} {p q : Pos}

theorem encP_toNat (hH : H ≤ 63) (hp : ValidH H p) : (encP H p).toNat = Spec.enc H p :=
  toNat_encU hH hp.1 hp.2

/-- every code is below `2 ^ (H + 1) - 1`, the value `Parent` gives on the top position -/
theorem encP_toNat_lt (hH : H ≤ 63) (hp : ValidH H p) : (encP H p).toNat < 2 ^ (H + 1) - 1 := by
  rw [encP_toNat hH hp]
  exact enc_lt_aux hp.1 hp.2

theorem encP_lt_iff_or (hH : H ≤ 63) (hp : ValidH H p) (hq : ValidH H q) :
    encP H p < encP H q ↔ (p.1 < q.1 ∨ (p.1 = q.1 ∧ p.2 < q.2)) := by
  obtain ⟨r, o⟩ := p
  obtain ⟨r', o'⟩ := q
  have fwd : ∀ {r o r' o' : Nat}, ValidH H (r, o) → ValidH H (r', o') →
      (r < r' ∨ (r = r' ∧ o < o')) → Spec.enc H (r, o) < Spec.enc H (r', o') := by
    intro r o r' o' h1 h2 h
    rcases h with h | ⟨rfl, h⟩
    · exact enc_row_lt h2.1 h1.2 h
    · rw [enc_add H r o, enc_add H r o']; omega
  rw [BitVec.lt_def, encP_toNat hH hp, encP_toNat hH hq]
  refine ⟨fun h => ?_, fwd hp hq⟩
  apply Classical.byContradiction
  intro hc
  have : (r', o') = (r, o) ∨ (r' < r ∨ (r' = r ∧ o' < o)) := by
    simp only [Prod.mk.injEq]; simp only at hc; omega
  rcases this with e | e
  · rw [e] at h; omega
  · have := fwd hq hp e; omega

theorem encP_lt_iff (hH : H ≤ 63) (hp : ValidH H p) (hq : ValidH H q) :
    encP H p < encP H q ↔ Spec.Forest.posLt p q = true :=
  (encP_lt_iff_or hH hp hq).trans (by simp [Spec.Forest.posLt])

theorem encP_inj (hH : H ≤ 63) (hp : ValidH H p) (hq : ValidH H q) (e : encP H p = encP H q) : p = q :=
  have := C16.encU_inj hH hp.1 hp.2 hq.1 hq.2 e
  Prod.ext this.1 this.2

namespace EncPos

theorem exists_encP (x : U64) (hx : x.toNat < 2 ^ (H + 1) - 1) : ∃ p, ValidH H p ∧ x = encP H p :=
  let ⟨r, o, hr, ho, e⟩ := C16.position_exists x hx
  ⟨(r, o), ⟨hr, ho⟩, e⟩

theorem detectRow_encP (hH : H ≤ 63) (hp : ValidH H p) : DetectRow (encP H p) (H8 H) = H8 p.1 :=
  C16.detectRow_enc hH hp.1 hp.2

theorem parent_encP (hH : H ≤ 63) (hp : ValidH H p) (hlt : p.1 < H) :
    Parent (encP H p) (H8 H) = encP H (parent p) :=
  C16.parent_enc hH hlt hp.2

theorem sibling_encP (hH : H ≤ 63) (hp : ValidH H p) : sibling (encP H p) = encP H (sib p) :=
  C16.sibling_enc_sib hH hp.1 hp.2

theorem rightSib_encP (hH : H ≤ 63) (hp : ValidH H p) :
    rightSib (encP H p) = encP H (p.1, 2 * (p.2 / 2) + 1) :=
  C16.rightSib_enc hH hp.1 hp.2

theorem leftSib_encP (hH : H ≤ 63) (hp : ValidH H p) :
    leftSib (encP H p) = encP H (p.1, 2 * (p.2 / 2)) :=
  C16.leftSib_enc hH hp.1 hp.2

theorem isLeftNiece_encP (hH : H ≤ 63) (hp : ValidH H p) :
    isLeftNiece (encP H p) = decide (p.2 % 2 = 0) :=
  C16.isLeftNiece_enc hH hp.1 hp.2

theorem child_encP (hH : H ≤ 63) (hp : ValidH H p) (h1 : 1 ≤ p.1) :
    LeftChild (encP H p) (H8 H) = encP H (p.1 - 1, 2 * p.2) ∧
    RightChild (encP H p) (H8 H) = encP H (p.1 - 1, 2 * p.2 + 1) := by
  obtain ⟨r, o⟩ := p
  obtain ⟨r, rfl⟩ : ∃ r', r = r' + 1 := ⟨r - 1, by simp only at h1; omega⟩
  have h2 : o < 2 ^ (H - (r + 1)) := hp.2
  have hr : r + 1 ≤ H := hp.1
  exact ⟨C16.leftChild_enc hH (by omega) h2, C16.rightChild_enc hH (by omega) h2⟩

theorem parentMany_encP (hH : H ≤ 63) (hp : ValidH H p) {k : Nat} (hk : p.1 + k ≤ H) :
    ParentMany (encP H p) (H8 k) (H8 H) = (encP H (p.1 + k, p.2 / 2 ^ k), false) :=
  C16.parentMany_enc hH hk hp.2

theorem isAncestor_encP (hH : H ≤ 63) (hp : ValidH H p) (hq : ValidH H q) :
    isAncestor (encP H q) (encP H p) (H8 H) = decide (p.1 < q.1 ∧ p.2 / 2 ^ (q.1 - p.1) = q.2) :=
  C16.isAncestor_enc hH hp.1 hp.2 hq.1 hq.2

theorem calcNext_encP (hH : H ≤ 63) {T c : Pos} (hc : ValidH H c) (hT : ValidH H T)
    (hle : c.1 ≤ T.1) (hlt : T.1 < H) :
    calcNextPosition (encP H c) (encP H T) (H8 H) =
      (encP H (c.1 + 1, removeBitNat c.2 (T.1 - c.1)), false) :=
  C16.calcNextPosition_enc hH hle hlt hc.2 hT.2

theorem calcPrev_encP (hH : H ≤ 63) {T : Pos} (hp : ValidH H p) (hT : ValidH H T)
    (h1 : 1 ≤ p.1) (hle : p.1 - 1 ≤ T.1) (hlt : T.1 < H) :
    calcPrevPosition (encP H p) (encP H T) (H8 H) =
      encP H (p.1 - 1, addBitNat p.2 (T.1 - (p.1 - 1)) (decide (T.2 % 2 = 0))) := by
  obtain ⟨r, x⟩ := p
  obtain ⟨r, rfl⟩ : ∃ r', r = r' + 1 := ⟨r - 1, by simp only at h1; omega⟩
  exact C16.calcPrevPosition_enc hH hle hlt hp.2 hT.2

theorem startPositionAtRow_encP {r : Nat} (hH : H ≤ 63) (hr : r ≤ H) :
    startPositionAtRow (H8 r) (H8 H) = encP H (r, 0) :=
  C16.startPositionAtRow_enc hH hr

theorem maxPossiblePosAtRow_encP {r : Nat} (hH : H ≤ 63) (hr : r ≤ H) :
    maxPossiblePosAtRow (H8 r) (H8 H) = encP H (r, 2 ^ (H - r) - 1) :=
  C16.maxPossiblePosAtRow_enc hH hr

theorem translatePos_encP {H' : Nat} (hH : H ≤ 63) (hp : ValidH H p) (hH' : H' ≤ 63)
    (hp' : ValidH H' p) : translatePos (encP H p) (H8 H) (H8 H') = encP H' p :=
  C16.translatePos_enc hH hp.1 hp.2 hH' hp'.1 hp'.2

/- The forest of `n ≤ 2^63` leaves, with `n : Nat`: the `uint64` is `BitVec.ofNat 64 n`, the row count of the
forest is `forestRows n`, and the right sides speak of `n` itself. -/

section forest
variable {n : Nat} (hn : n ≤ 2 ^ 63)
include hn

theorem toNat_N : (BitVec.ofNat 64 n).toNat = n := toNat_ofNat64_of_lt (by omega)

theorem isRootPositionOnRow_encP (hp : ValidH (forestRows n) p) (row : U8) :
    isRootPositionOnRow (encP (forestRows n) p) (BitVec.ofNat 64 n) row =
      (decide (row.toNat = p.1) && isRootPos n p) := by
  have := C16.isRootPositionOnRow_enc (BitVec.ofNat 64 n) row (treeRows_ofNat hn)
    (forestRows_small hn) hp.1 hp.2
  rwa [toNat_N hn] at this

theorem isRootPositionTotalRows_encP (hH : H ≤ 63) (hpH : ValidH H p)
    (hp : ValidH (forestRows n) p) :
    isRootPositionTotalRows (encP H p) (BitVec.ofNat 64 n) (H8 H) = isRootPos n p := by
  have := C16.isRootPositionTotalRows_enc (BitVec.ofNat 64 n) (treeRows_ofNat hn) hH hpH.1 hpH.2
    (forestRows_small hn) hp.1 hp.2
  rwa [toNat_N hn] at this

theorem inForest_encP (hH : H ≤ 63) (hp : ValidH H p) :
    inForest (encP H p) (BitVec.ofNat 64 n) (H8 H) = decide ((p.2 + 1) * 2 ^ p.1 ≤ n) := by
  have := C16.inForest_enc hH hp.1 hp.2 (BitVec.ofNat 64 n)
  rwa [toNat_N hn] at this

theorem detectOffset_encP (hp : ValidH (forestRows n) p) {R : Nat} (hr : p.1 ≤ R)
    (hb : n.testBit R = true) (hroot : p.2 / 2 ^ (R - p.1) = (rootPos n R).2) :
    DetectOffset (encP (forestRows n) p) (BitVec.ofNat 64 n) =
      (BitVec.ofNat 8 ((treeRows n).idxOf R), H8 (R - p.1),
        ~~~((encP (forestRows n) p - BitVec.ofNat 64 (treeStart n R)) ^^^ 1#64), false) := by
  have := C16.detectOffset_enc (R := R) (BitVec.ofNat 64 n) (treeRows_ofNat hn) (forestRows_small hn)
    hr hp.2 (by rw [toNat_N hn]; exact hb) (by rw [toNat_N hn]; exact hroot)
  rwa [toNat_N hn] at this

end forest

theorem rootPosition_encP {n : Nat} (hH : H ≤ 63) (hnH : n ≤ 2 ^ H) {R : Nat} (hR : R ≤ H) :
    rootPosition (BitVec.ofNat 64 n) (H8 R) (H8 H) = encP H (rootPos n R) := by
  have hN := toNat_N (Nat.le_trans hnH (two_pow_le_of_le hH))
  have h1 := two_pow_succ' H
  have h2 := Nat.two_pow_pos H
  have := C16.rootPosition_enc hH hR (BitVec.ofNat 64 n) (by rw [hN]; omega)
  rwa [hN] at this

end EncPos

end UtreexoVerif.Proofs
