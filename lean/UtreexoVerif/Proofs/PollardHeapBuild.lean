/-
  `RestorePollardFrom` / `readOne` ON THE HEAP (`Model/PollardHeapSerial.lean`: `restoreH`,
  `readRootsH`, `readOneH`): they are the pure parse of the stream (`restoreL`, `readRootsL`,
  `readOneL` of `Proofs/PollardFormat.lean`) followed by a function that builds the heap from the
  parse tree (`buildH`, `buildRoots`, `buildAll`: the allocations and pointer assignments of
  `readOne` in Go's order).

  What the heap built looks like: `LShape hp n t fp ents` — node `n` of heap `hp`
  carries the record tree `t` in its NIECE pointers (data, both nieces or none, nieces point back
  with their aunt pointer, `remember = false` everywhere), `fp` = the nodes below `n`, `ents` = the
  `NodeMap` insertions (hash, node) in stream order.

  Namespace `Proofs.PollardHeapSerial`, shared by five modules: see the head of `Proofs/PollardFormat.lean`.
-/
import UtreexoVerif.Proofs.PollardFormat
import UtreexoVerif.Model.PollardHeapSerial
import UtreexoVerif.Proofs.PollardHeapSub
set_option linter.unusedSectionVars false

namespace UtreexoVerif.Proofs.PollardHeapSerial

section Equations
open UtreexoVerif.Model UtreexoVerif.Model.PollardHeap Hasher
open UtreexoVerif.Model.Serial UtreexoVerif.Proofs.Serial

variable {H : Type} [DecidableEq H] [Hasher H] [HashBytes H]

/-- what `readOne` does with the first two fields of a record: `n.data`, `NodeMap` -/
def fillH (hb : List Byte) (lf : Bool) (n : Nat) (p : Pollard H) : Pollard H :=
  let data : H := ofBytes hb
  let p := { p with heap := p.heap.modify n (fun x => { x with data := data }) }
  if lf then (if data ≠ zero then { p with nodeMap := mapSet p.nodeMap data n } else p) else p

/-- Go's `&polNode{aunt: n}` -/
def freshNiece (n : Nat) : PolNode H := { data := zero, aunt := some n }

/-- `n.lNiece = &polNode{aunt: n}` (`left`) resp. `n.rNiece = &polNode{aunt: n}` -/
def allocNiece (left : Bool) (n : Nat) (p : Pollard H) : Pollard H :=
  { p with heap := (p.heap.push (freshNiece n)).modify n (fun x =>
      if left then { x with lNiece := some p.heap.size } else { x with rNiece := some p.heap.size }) }

/-- the heap `readOne(n, …)` builds from the record tree `t` -/
def buildH : LNode → Nat → Pollard H → Pollard H
  | .dead hb lf, n, p => fillH hb lf n p
  | .fork hb lf l r, n, p =>
    let p := fillH hb lf n p
    let li := p.heap.size
    let p := buildH l li (allocNiece true n p)
    let ri := p.heap.size
    buildH r ri (allocNiece false n p)

/-- `p.Roots[i] = new(polNode)` -/
def allocRoot (p : Pollard H) : Pollard H :=
  { p with heap := p.heap.push { data := zero }, roots := p.roots ++ [p.heap.size] }

/-- the heap the root loop of `RestorePollardFrom` builds from the root records -/
def buildRoots : List LNode → Pollard H → Pollard H
  | [], p => p
  | t :: ts, p => buildRoots ts (buildH t p.heap.size (allocRoot p))

theorem readOneH_eq : ∀ (fuel n : Nat) (r : Reader) (p : Pollard H),
    readOneH fuel n r p = Res.mapOk (fun x => (x.2, buildH x.1 n p)) (readOneL fuel r)
  | 0, _, _, _ => rfl
  | f + 1, n, r, p => by
    rw [readOneH, readOneL]
    rcases readFull r 32 with ⟨a1, r1⟩
    cases a1 with
    | full hb =>
      simp only []
      rcases readFull r1 1 with ⟨a2, r2⟩
      cases a2 with
      | full lf =>
        simp only []
        rcases readFull r2 1 with ⟨a3, r3⟩
        cases a3 with
        | full nf =>
          simp only []
          have hfill : (if (lf.headD 0#8 == 1#8) = true then
              (if (ofBytes hb : H) ≠ zero then
                ({ p with heap := p.heap.modify n (fun x => { x with data := ofBytes hb }),
                          nodeMap := mapSet p.nodeMap (ofBytes hb) n } : Pollard H)
               else { p with heap := p.heap.modify n (fun x => { x with data := ofBytes hb }) })
              else { p with heap := p.heap.modify n (fun x => { x with data := ofBytes hb }) }) =
              fillH hb (lf.headD 0#8 == 1#8) n p := by
            unfold fillH
            cases (lf.headD 0#8 == 1#8) <;> simp
          rw [hfill]
          split
          · rw [readOneH_eq f]
            rcases readOneL f r3 with ⟨lb, o1⟩
            cases o1 with
            | ok x =>
              simp only [Res.mapOk]
              rw [readOneH_eq f]
              rcases readOneL f x.2 with ⟨rb, o2⟩
              cases o2 with
              -- the two allocations are `allocNiece true` and `allocNiece false` by definition
              | ok y => rfl
              | _ => rfl
            | _ => rfl
          · rfl
        | _ => rfl
      | _ => rfl
    | _ => rfl

theorem readRootsH_eq (fuel : Nat) : ∀ (k total : Nat) (r : Reader) (p : Pollard H),
    readRootsH fuel k total r p = Res.mapOk (fun x => buildRoots x.1 p) (readRootsL fuel k r total) := by
  intro k
  induction k with
  | zero => intro total r p; rfl
  | succ k ih =>
    intro total r p
    rw [readRootsH, readRootsL]
    have e : ({ p with heap := p.heap.push { data := zero }, roots := p.roots ++ [p.heap.size] } : Pollard H) =
        allocRoot p := rfl
    simp only [e]
    rw [readOneH_eq]
    rcases readOneL fuel r with ⟨b, o1⟩
    cases o1 with
    | ok x =>
      obtain ⟨t, r1⟩ := x
      simp only [Res.mapOk]
      rw [ih]
      rcases readRootsL fuel k r1 (total + b) with ⟨t', o2⟩
      cases o2 with
      | ok y => obtain ⟨ns, r2⟩ := y; rfl
      | _ => rfl
    | _ => rfl

/-- the heap `RestorePollardFrom` has built when it reaches its sanity check -/
def buildAll (nl nd : U64) (ts : List LNode) : Pollard H :=
  buildRoots ts { (newAccumulator : Pollard H) with numLeaves := nl, numDels := nd }

theorem restoreH_eq (r : Reader) :
    restoreH (H := H) r =
      match restoreL r with
      | ⟨n, .ok (nl, nd, ts)⟩ =>
        if ((buildAll (H := H) nl nd ts).nodeMap.length : Int) ≠
            ((buildAll (H := H) nl nd ts).numLeaves - (buildAll (H := H) nl nd ts).numDels).toInt
        then ⟨n, .err⟩ else ⟨n, .ok (buildAll nl nd ts)⟩
      | ⟨n, e⟩ => ⟨n, failAs e⟩ := by
  unfold restoreH restoreL
  rcases hx1 : readFull r 8 with ⟨a1, r1⟩
  cases a1 with
  | eof => rfl
  | unexpected n => rfl
  | full b1 =>
    obtain ⟨_, _, hd1⟩ := readFull_full_inv hx1
    simp only []
    rcases hx2 : readFull r1 8 with ⟨a2, r2⟩
    cases a2 with
    | eof => rfl
    | unexpected n => rfl
    | full b2 =>
      obtain ⟨_, _, hd2⟩ := readFull_full_inv hx2
      have hlen : r2.data.length ≤ r.data.length := by
        rw [hd2, hd1]; simp only [List.length_drop]; omega
      simp only []
      rw [readRootsH_eq]
      -- `restoreH` runs on fuel `r2.data.length + 2`, `restoreL` on `r.data.length + 1`; the reader left over is dropped
      have hf := congrArg (Res.mapOk fun y : List LNode × List Byte => buildRoots (H := H) y.1
          { (newAccumulator : Pollard H) with numLeaves := unle64 b1, numDels := unle64 b2 })
        (readRootsL_any (r2.data.length + 2) (r.data.length + 1) (numRoots (unle64 b1)).toNat r2 r2 16 rfl
          (by omega) (by omega)).1
      simp only [Res.mapOk_mapOk, data2] at hf
      rw [hf]
      rcases readRootsL (r.data.length + 1) (numRoots (unle64 b1)).toNat r2 (8 + 8) with ⟨t, o⟩
      cases o with
      | ok x => obtain ⟨ts, r3⟩ := x; rfl
      | _ => rfl

end Equations

section Shape
open UtreexoVerif.Model.PollardHeap Hasher
open UtreexoVerif.Model.Serial UtreexoVerif.Proofs.PollardHeap

variable {H : Type} [DecidableEq H] [Hasher H] [HashBytes H]

/-- the `NodeMap` insertion a record causes -/
def entH (hb : List Byte) (lf : Bool) (n : Nat) : List (H × Nat) :=
  if lf && ((ofBytes hb : H) != zero) then [(ofBytes hb, n)] else []

theorem eq_of_mem_entH {hb : List Byte} {lf : Bool} {n : Nat} {e : H × Nat}
    (he : e ∈ (entH hb lf n : List (H × Nat))) : e = (ofBytes hb, n) := by
  unfold entH at he
  split at he
  · exact List.mem_singleton.1 he
  · cases he

/-- `p.NodeMap[k] = v` for a list of entries, in order -/
def mapSetAll (m : List (H × Nat)) (es : List (H × Nat)) : List (H × Nat) :=
  es.foldl (fun m e => mapSet m e.1 e.2) m

theorem mapSetAll_append (m : List (H × Nat)) (a b : List (H × Nat)) :
    mapSetAll m (a ++ b) = mapSetAll (mapSetAll m a) b := by
  simp [mapSetAll, List.foldl_append]

/-- node `n` carries the record tree `t` in its niece pointers -/
inductive LShape (hp : Heap H) : Nat → LNode → List Nat → List (H × Nat) → Prop
  | dead {n : Nat} {nn : PolNode H} {hb : List Byte} {lf : Bool} :
      hp[n]? = some nn → nn.data = ofBytes hb → nn.lNiece = none → nn.rNiece = none →
      nn.remember = false → LShape hp n (.dead hb lf) [] (entH hb lf n)
  | fork {n l r : Nat} {nn ln rn : PolNode H} {hb : List Byte} {lf : Bool} {tl tr : LNode}
      {fl fr : List Nat} {el er : List (H × Nat)} :
      hp[n]? = some nn → nn.data = ofBytes hb → nn.lNiece = some l → nn.rNiece = some r →
      nn.remember = false → hp[l]? = some ln → hp[r]? = some rn →
      ln.aunt = some n → rn.aunt = some n →
      LShape hp l tl fl el → LShape hp r tr fr er →
      LShape hp n (.fork hb lf tl tr) (l :: r :: (fl ++ fr)) (entH hb lf n ++ (el ++ er))

theorem LShape.frame {hp hp' : Heap H} {n : Nat} {t : LNode} {fp : List Nat} {ents : List (H × Nat)}
    (h : LShape hp n t fp ents) (hf : ∀ i ∈ n :: fp, hp'[i]? = hp[i]?) : LShape hp' n t fp ents := by
  induction h with
  | dead h1 h2 h3 h4 h5 => exact LShape.dead ((hf _ (by simp)).trans h1) h2 h3 h4 h5
  | @fork n l r nn ln rn hb lf tl tr fl fr el er h1 h2 h3 h4 h5 h6 h7 h8 h9 sl sr ihl ihr =>
    refine LShape.fork ((hf _ (by simp)).trans h1) h2 h3 h4 h5 ((hf _ (by simp)).trans h6)
      ((hf _ (by simp)).trans h7) h8 h9 ?_ ?_
    · apply ihl
      intro i hi
      apply hf
      simp only [List.mem_cons, List.mem_append] at hi ⊢
      rcases hi with rfl | hi
      · simp
      · simp [hi]
    · apply ihr
      intro i hi
      apply hf
      simp only [List.mem_cons, List.mem_append] at hi ⊢
      rcases hi with rfl | hi
      · simp
      · simp [hi]

theorem fillH_heap (hb : List Byte) (lf : Bool) (n : Nat) (p : Pollard H) :
    (fillH hb lf n p).heap = p.heap.modify n (fun x => { x with data := ofBytes hb }) := by
  unfold fillH
  cases lf <;> simp
  split <;> rfl

theorem fillH_nodeMap (hb : List Byte) (lf : Bool) (n : Nat) (p : Pollard H) :
    (fillH hb lf n p).nodeMap = mapSetAll p.nodeMap (entH hb lf n) := by
  unfold fillH entH mapSetAll
  cases lf <;> simp
  by_cases h : (ofBytes hb : H) = zero <;> simp [h]

theorem fillH_rest (hb : List Byte) (lf : Bool) (n : Nat) (p : Pollard H) :
    (fillH hb lf n p).roots = p.roots ∧ (fillH hb lf n p).numLeaves = p.numLeaves ∧
    (fillH hb lf n p).numDels = p.numDels ∧ (fillH hb lf n p).full = p.full := by
  unfold fillH
  cases lf <;> simp
  split <;> simp

theorem fillH_size (hb : List Byte) (lf : Bool) (n : Nat) (p : Pollard H) :
    (fillH hb lf n p).heap.size = p.heap.size := by
  rw [fillH_heap]; simp

theorem fillH_get_self (hb : List Byte) (lf : Bool) (n : Nat) (p : Pollard H) {x : PolNode H}
    (h : p.heap[n]? = some x) :
    (fillH hb lf n p).heap[n]? = some { x with data := ofBytes hb } := by
  rw [fillH_heap, Array.getElem?_modify]; simp [h]

theorem fillH_get_other (hb : List Byte) (lf : Bool) (n : Nat) (p : Pollard H) {j : Nat} (h : j ≠ n) :
    (fillH hb lf n p).heap[j]? = p.heap[j]? := by
  rw [fillH_heap, Array.getElem?_modify]; simp [Ne.symm h]

theorem allocNiece_size (left : Bool) (n : Nat) (p : Pollard H) :
    (allocNiece left n p).heap.size = p.heap.size + 1 := by
  simp [allocNiece]

theorem allocNiece_get_self (left : Bool) (n : Nat) (p : Pollard H) {x : PolNode H} (h : p.heap[n]? = some x) :
    (allocNiece left n p).heap[n]? =
      some (if left then { x with lNiece := some p.heap.size } else { x with rNiece := some p.heap.size }) := by
  have hn := lt_of_get h
  simp only [allocNiece]
  rw [Array.getElem?_modify, Array.getElem?_push]
  simp [h, Nat.ne_of_lt hn]

theorem allocNiece_get_new (left : Bool) (n : Nat) (p : Pollard H) (hn : n < p.heap.size) :
    (allocNiece left n p).heap[p.heap.size]? = some (freshNiece n) := by
  simp only [allocNiece]
  rw [Array.getElem?_modify, Array.getElem?_push]
  simp [Nat.ne_of_lt hn, freshNiece]

theorem allocNiece_get_other (left : Bool) (n : Nat) (p : Pollard H) {j : Nat} (h : j ≠ n) (hj : j < p.heap.size) :
    (allocNiece left n p).heap[j]? = p.heap[j]? := by
  simp only [allocNiece]
  rw [Array.getElem?_modify, Array.getElem?_push]
  simp [Ne.symm h, Nat.ne_of_lt hj]

theorem buildH_rest : ∀ (t : LNode) (n : Nat) (p : Pollard H),
    (buildH t n p).roots = p.roots ∧ (buildH t n p).numLeaves = p.numLeaves ∧
    (buildH t n p).numDels = p.numDels ∧ (buildH t n p).full = p.full := by
  intro t
  induction t with
  | dead hb lf => intro n p; exact fillH_rest hb lf n p
  | fork hb lf l r ihl ihr =>
    intro n p
    simp only [buildH]
    have a := fillH_rest hb lf n p
    generalize fillH hb lf n p = p1 at a ⊢
    have b := ihl p1.heap.size (allocNiece true n p1)
    generalize buildH l p1.heap.size (allocNiece true n p1) = p2 at b ⊢
    have c := ihr p2.heap.size (allocNiece false n p2)
    exact ⟨c.1.trans (b.1.trans a.1), c.2.1.trans (b.2.1.trans a.2.1),
      c.2.2.1.trans (b.2.2.1.trans a.2.2.1), c.2.2.2.trans (b.2.2.2.trans a.2.2.2)⟩

theorem buildH_spec : ∀ (t : LNode) (n : Nat) (p : Pollard H) (x : PolNode H),
    p.heap[n]? = some x → x.lNiece = none → x.rNiece = none → x.remember = false →
    ∃ fp ents x',
      LShape (buildH t n p).heap n t fp ents ∧
      (∀ i ∈ fp, p.heap.size ≤ i ∧ i < (buildH t n p).heap.size) ∧
      (buildH t n p).heap.size = p.heap.size + fp.length ∧
      (∀ j, j < p.heap.size → j ≠ n → (buildH t n p).heap[j]? = p.heap[j]?) ∧
      (buildH t n p).heap[n]? = some x' ∧ x'.aunt = x.aunt ∧
      fp.Nodup ∧
      (buildH t n p).nodeMap = mapSetAll p.nodeMap ents ∧
      (∀ e ∈ ents, e.2 = n ∨ e.2 ∈ fp) := by
  intro t
  induction t with
  | dead hb lf =>
    intro n p x hx h1 h2 h3
    refine ⟨[], entH hb lf n, { x with data := ofBytes hb }, ?_, by simp, ?_, ?_, ?_, rfl, by simp, ?_, ?_⟩
    · exact LShape.dead (fillH_get_self hb lf n p hx) rfl h1 h2 h3
    · simp [buildH, fillH_size]
    · intro j _ hj; exact fillH_get_other hb lf n p hj
    · exact fillH_get_self hb lf n p hx
    · exact fillH_nodeMap hb lf n p
    · intro e he
      rw [eq_of_mem_entH he]; exact Or.inl rfl
  | fork hb lf l r ihl ihr =>
    intro n p x hx h1 h2 h3
    have hn := lt_of_get hx
    obtain ⟨p1, hp1⟩ : ∃ p1, p1 = fillH hb lf n p := ⟨_, rfl⟩
    have s1 : p1.heap.size = p.heap.size := by rw [hp1, fillH_size]
    have g1 : p1.heap[n]? = some { x with data := ofBytes hb } := by rw [hp1]; exact fillH_get_self hb lf n p hx
    have o1 : ∀ j, j ≠ n → p1.heap[j]? = p.heap[j]? := by intro j hj; rw [hp1]; exact fillH_get_other hb lf n p hj
    obtain ⟨p2, hp2⟩ : ∃ p2, p2 = allocNiece true n p1 := ⟨_, rfl⟩
    have s2 : p2.heap.size = p.heap.size + 1 := by rw [hp2, allocNiece_size, s1]
    have g2 : p2.heap[n]? = some { x with data := ofBytes hb, lNiece := some p.heap.size } := by
      rw [hp2, allocNiece_get_self true n p1 g1, s1]; rfl
    have n2 : p2.heap[p.heap.size]? = some (freshNiece n) := by
      rw [hp2, ← s1]; exact allocNiece_get_new true n p1 (by rw [s1]; exact hn)
    have o2 : ∀ j, j ≠ n → j < p.heap.size → p2.heap[j]? = p.heap[j]? := by
      intro j hj hl; rw [hp2, allocNiece_get_other true n p1 hj (by rw [s1]; exact hl)]; exact o1 j hj
    obtain ⟨fl, el, xl, L1, L2, L3, L4, L5, L6, L7, L8, L9⟩ :=
      ihl p.heap.size p2 (freshNiece n) n2 rfl rfl rfl
    obtain ⟨p3, hp3⟩ : ∃ p3, p3 = buildH l p.heap.size p2 := ⟨_, rfl⟩
    rw [← hp3] at L1 L2 L3 L4 L5 L8
    rw [s2] at L2 L3 L4
    have g3 : p3.heap[n]? = some { x with data := ofBytes hb, lNiece := some p.heap.size } := by
      rw [L4 n (Nat.lt_succ_of_lt hn) (Nat.ne_of_lt hn)]; exact g2
    have o3 : ∀ j, j ≠ n → j < p.heap.size → p3.heap[j]? = p.heap[j]? := by
      intro j hj hl; rw [L4 j (Nat.lt_succ_of_lt hl) (Nat.ne_of_lt hl)]; exact o2 j hj hl
    have le3 : p.heap.size < p3.heap.size := by rw [L3]; exact Nat.le_add_right _ _
    have hn3 : n < p3.heap.size := Nat.lt_trans hn le3
    obtain ⟨p4, hp4⟩ : ∃ p4, p4 = allocNiece false n p3 := ⟨_, rfl⟩
    have s4 : p4.heap.size = p3.heap.size + 1 := by rw [hp4, allocNiece_size]
    have g4 : p4.heap[n]? = some { x with data := ofBytes hb, lNiece := some p.heap.size, rNiece := some p3.heap.size } := by
      rw [hp4, allocNiece_get_self false n p3 g3]; rfl
    have n4 : p4.heap[p3.heap.size]? = some (freshNiece n) := by
      rw [hp4]; exact allocNiece_get_new false n p3 hn3
    have o4 : ∀ j, j ≠ n → j < p3.heap.size → p4.heap[j]? = p3.heap[j]? := by
      intro j hj hl; rw [hp4]; exact allocNiece_get_other false n p3 hj hl
    obtain ⟨fr, er, xr, R1, R2, R3, R4, R5, R6, R7, R8, R9⟩ :=
      ihr p3.heap.size p4 (freshNiece n) n4 rfl rfl rfl
    obtain ⟨p5, hp5⟩ : ∃ p5, p5 = buildH r p3.heap.size p4 := ⟨_, rfl⟩
    rw [← hp5] at R1 R2 R3 R4 R5 R8
    rw [s4] at R2 R3 R4
    have hfin : buildH (.fork hb lf l r) n p = p5 := by
      rw [hp5, hp4, hp3, hp2, hp1]
      simp only [buildH, fillH_size]
    rw [hfin]
    have g5 : p5.heap[n]? = some { x with data := ofBytes hb, lNiece := some p.heap.size, rNiece := some p3.heap.size } := by
      rw [R4 n (Nat.lt_succ_of_lt hn3) (Nat.ne_of_lt hn3)]; exact g4
    have lt5 : p3.heap.size < p5.heap.size := by
      rw [R3]; exact Nat.lt_of_lt_of_le (Nat.lt_succ_self _) (Nat.le_add_right _ _)
    have gl5 : p5.heap[p.heap.size]? = some xl := by
      rw [R4 _ (Nat.lt_succ_of_lt le3) (Nat.ne_of_lt le3), o4 _ (Nat.ne_of_gt hn) le3]; exact L5
    have hfl5 : ∀ i ∈ p.heap.size :: fl, p5.heap[i]? = p3.heap[i]? := by
      intro i hi
      have hi' : n < i ∧ i < p3.heap.size := by
        rcases List.mem_cons.1 hi with rfl | hi
        · exact ⟨hn, le3⟩
        · exact ⟨Nat.lt_of_lt_of_le hn (Nat.le_of_succ_le (L2 i hi).1), (L2 i hi).2⟩
      rw [R4 i (Nat.lt_succ_of_lt hi'.2) (Nat.ne_of_lt hi'.2), o4 i (Nat.ne_of_gt hi'.1) hi'.2]
    refine ⟨p.heap.size :: p3.heap.size :: (fl ++ fr), entH hb lf n ++ (el ++ er), _, ?_, ?_, ?_, ?_, g5, rfl, ?_, ?_, ?_⟩
    · exact LShape.fork g5 rfl rfl rfl h3 gl5 R5 L6 R6 (L1.frame hfl5) R1
    · intro i hi
      simp only [List.mem_cons, List.mem_append] at hi
      rcases hi with rfl | rfl | hi | hi
      · exact ⟨Nat.le_refl _, Nat.lt_trans le3 lt5⟩
      · exact ⟨Nat.le_of_lt le3, lt5⟩
      · exact ⟨Nat.le_of_succ_le (L2 i hi).1, Nat.lt_trans (L2 i hi).2 lt5⟩
      · exact ⟨Nat.le_trans (Nat.le_of_lt le3) (Nat.le_of_succ_le (R2 i hi).1), (R2 i hi).2⟩
    · simp only [List.length_cons, List.length_append]; rw [R3, L3]; omega
    · intro j hj hjn
      have hj3 : j < p3.heap.size := Nat.lt_trans hj le3
      rw [R4 j (Nat.lt_succ_of_lt hj3) (Nat.ne_of_lt hj3), o4 j hjn hj3]
      exact o3 j hjn hj
    · simp only [List.nodup_cons, List.mem_cons, List.mem_append, not_or, List.nodup_append]
      refine ⟨⟨Nat.ne_of_lt le3, ?_, ?_⟩, ⟨?_, ?_⟩, L7, R7, ?_⟩
      · exact fun h => Nat.lt_irrefl _ (L2 _ h).1
      · exact fun h => Nat.lt_asymm le3 (R2 _ h).1
      · exact fun h => Nat.lt_irrefl _ (L2 _ h).2
      · exact fun h => Nat.lt_irrefl _ (R2 _ h).1
      · intro a ha b hb hab
        subst hab
        exact Nat.lt_asymm (L2 a ha).2 (R2 a hb).1
    · have nm4 : p4.nodeMap = p3.nodeMap := by rw [hp4]; rfl
      have nm2 : p2.nodeMap = p1.nodeMap := by rw [hp2]; rfl
      rw [R8, nm4, L8, nm2, hp1, fillH_nodeMap, mapSetAll_append, mapSetAll_append]
    · intro e he
      simp only [List.mem_append] at he
      rcases he with he | he | he
      · rw [eq_of_mem_entH he]; exact Or.inl rfl
      · rcases L9 e he with h | h
        · right; simp [h]
        · right; simp [h]
      · rcases R9 e he with h | h
        · right; simp [h]
        · right; simp [h]

/-- the roots `rs` (no aunt) carry the record trees `ts`; `owned` = every node, `ents` = every
`NodeMap` insertion, in stream order -/
inductive LRoots (hp : Heap H) : List Nat → List LNode → List Nat → List (H × Nat) → Prop
  | nil : LRoots hp [] [] [] []
  | cons {r : Nat} {rn : PolNode H} {t : LNode} {fp : List Nat} {e : List (H × Nat)} {rs : List Nat}
      {ts : List LNode} {owned : List Nat} {es : List (H × Nat)} :
      hp[r]? = some rn → rn.aunt = none → LShape hp r t fp e → LRoots hp rs ts owned es →
      LRoots hp (r :: rs) (t :: ts) (r :: fp ++ owned) (e ++ es)

theorem allocRoot_size (p : Pollard H) : (allocRoot p).heap.size = p.heap.size + 1 := by
  simp [allocRoot]

theorem allocRoot_get_new (p : Pollard H) :
    (allocRoot p).heap[p.heap.size]? = some ({ data := zero } : PolNode H) := by
  simp [allocRoot]

theorem allocRoot_get_old (p : Pollard H) {j : Nat} (hj : j < p.heap.size) :
    (allocRoot p).heap[j]? = p.heap[j]? := by
  simp only [allocRoot]
  rw [Array.getElem?_push]
  simp [Nat.ne_of_lt hj]

theorem buildRoots_rest : ∀ (ts : List LNode) (p : Pollard H),
    (buildRoots ts p).numLeaves = p.numLeaves ∧ (buildRoots ts p).numDels = p.numDels ∧
    (buildRoots ts p).full = p.full := by
  intro ts
  induction ts with
  | nil => intro p; exact ⟨rfl, rfl, rfl⟩
  | cons t ts ih =>
    intro p
    simp only [buildRoots]
    obtain ⟨a1, a2, a3⟩ := ih (buildH t p.heap.size (allocRoot p))
    obtain ⟨_, b1, b2, b3⟩ := buildH_rest t p.heap.size (allocRoot p)
    exact ⟨a1.trans b1, a2.trans b2, a3.trans b3⟩

theorem buildRoots_spec : ∀ (ts : List LNode) (p : Pollard H),
    ∃ rs owned ents,
      (buildRoots ts p).roots = p.roots ++ rs ∧
      LRoots (buildRoots ts p).heap rs ts owned ents ∧
      (∀ i ∈ owned, p.heap.size ≤ i ∧ i < (buildRoots ts p).heap.size) ∧
      (buildRoots ts p).heap.size = p.heap.size + owned.length ∧
      (∀ j, j < p.heap.size → (buildRoots ts p).heap[j]? = p.heap[j]?) ∧
      owned.Nodup ∧
      (buildRoots ts p).nodeMap = mapSetAll p.nodeMap ents ∧
      (∀ e ∈ ents, e.2 ∈ owned) := by
  intro ts
  induction ts with
  | nil =>
    intro p
    exact ⟨[], [], [], by simp [buildRoots], LRoots.nil, by simp, by simp [buildRoots],
      fun _ _ => rfl, by simp, rfl, by simp⟩
  | cons t ts ih =>
    intro p
    obtain ⟨p1, hp1⟩ : ∃ p1, p1 = allocRoot p := ⟨_, rfl⟩
    have s1 : p1.heap.size = p.heap.size + 1 := by rw [hp1, allocRoot_size]
    have n1 : p1.heap[p.heap.size]? = some ({ data := zero } : PolNode H) := by
      rw [hp1]; exact allocRoot_get_new p
    obtain ⟨fp, e, x', B1, B2, B3, B4, B5, B6, B7, B8, B9⟩ :=
      buildH_spec t p.heap.size p1 _ n1 rfl rfl rfl
    obtain ⟨p2, hp2⟩ : ∃ p2, p2 = buildH t p.heap.size p1 := ⟨_, rfl⟩
    have hroots2 : p2.roots = p.roots ++ [p.heap.size] := by
      rw [hp2, (buildH_rest t p.heap.size p1).1, hp1]; rfl
    rw [← hp2] at B1 B2 B3 B4 B5 B8
    rw [s1] at B2 B3 B4
    obtain ⟨rs, owned, es, R1, R2, R3, R4, R5, R6, R7, R8⟩ := ih p2
    have hfin : buildRoots (t :: ts) p = buildRoots ts p2 := by
      rw [hp2, hp1]; rfl
    rw [hfin]
    have le2 : p.heap.size < p2.heap.size := by rw [B3]; exact Nat.le_add_right _ _
    have le5 : p2.heap.size ≤ (buildRoots ts p2).heap.size := by rw [R4]; exact Nat.le_add_right _ _
    refine ⟨p.heap.size :: rs, p.heap.size :: fp ++ owned, e ++ es, ?_, ?_, ?_, ?_, ?_, ?_, ?_, ?_⟩
    · rw [R1, hroots2]; simp
    · have hroot : (buildRoots ts p2).heap[p.heap.size]? = some x' := by
        rw [R5 p.heap.size le2]; exact B5
      refine LRoots.cons hroot B6 (B1.frame ?_) R2
      intro i hi
      apply R5
      simp only [List.mem_cons] at hi
      rcases hi with rfl | hi
      · exact le2
      · exact (B2 i hi).2
    · intro i hi
      simp only [List.cons_append, List.mem_cons, List.mem_append] at hi
      rcases hi with rfl | hi | hi
      · exact ⟨Nat.le_refl _, Nat.lt_of_lt_of_le le2 le5⟩
      · exact ⟨Nat.le_of_succ_le (B2 i hi).1, Nat.lt_of_lt_of_le (B2 i hi).2 le5⟩
      · exact ⟨Nat.le_trans (Nat.le_of_lt le2) (R3 i hi).1, (R3 i hi).2⟩
    · simp only [List.cons_append, List.length_cons, List.length_append]; rw [R4, B3]; omega
    · intro j hj
      rw [R5 j (Nat.lt_trans hj le2), B4 j (Nat.lt_succ_of_lt hj) (Nat.ne_of_lt hj), hp1,
        allocRoot_get_old p hj]
    · simp only [List.cons_append, List.nodup_cons, List.mem_append, not_or, List.nodup_append]
      refine ⟨⟨?_, ?_⟩, B7, R6, ?_⟩
      · exact fun h => Nat.lt_irrefl _ (B2 _ h).1
      · exact fun h => Nat.lt_irrefl _ (Nat.lt_of_lt_of_le le2 (R3 _ h).1)
      · intro a ha b hb hab
        subst hab
        exact Nat.lt_irrefl _ (Nat.lt_of_lt_of_le (B2 a ha).2 (R3 a hb).1)
    · rw [R7, B8, hp1, mapSetAll_append]; rfl
    · intro e' he
      simp only [List.mem_append] at he
      simp only [List.cons_append, List.mem_cons, List.mem_append]
      rcases he with he | he
      · rcases B9 e' he with h | h
        · exact Or.inl h
        · exact Or.inr (Or.inl h)
      · exact Or.inr (Or.inr (R8 e' he))

/-- `owned.Nodup` with `owned.length = heap.size`: every node of the heap is owned by exactly one root -/
theorem buildAll_spec (nl nd : U64) (ts : List LNode) :
    ∃ owned ents, (buildAll (H := H) nl nd ts).numLeaves = nl ∧ (buildAll (H := H) nl nd ts).numDels = nd ∧
      (buildAll (H := H) nl nd ts).full = true ∧
      LRoots (buildAll (H := H) nl nd ts).heap (buildAll (H := H) nl nd ts).roots ts owned ents ∧
      owned.Nodup ∧ owned.length = (buildAll (H := H) nl nd ts).heap.size ∧
      (buildAll (H := H) nl nd ts).nodeMap = mapSetAll [] ents ∧ (∀ e ∈ ents, e.2 ∈ owned) := by
  obtain ⟨rs, owned, ents, R1, R2, _, R4, _, R6, R7, R8⟩ := buildRoots_spec ts
    { (newAccumulator : Pollard H) with numLeaves := nl, numDels := nd }
  obtain ⟨r1, r2, r3⟩ := buildRoots_rest ts
    { (newAccumulator : Pollard H) with numLeaves := nl, numDels := nd }
  refine ⟨owned, ents, r1, r2, r3, ?_, R6, ?_, R7, R8⟩
  · unfold buildAll; rw [R1]; exact R2
  · unfold buildAll; rw [R4]; exact (Nat.zero_add _).symm

theorem LShape.ents_data {hp : Heap H} {n : Nat} {t : LNode} {fp : List Nat} {ents : List (H × Nat)}
    (h : LShape hp n t fp ents) : ∀ e ∈ ents, ∃ x, hp[e.2]? = some x ∧ x.data = e.1 := by
  induction h with
  | dead h1 h2 h3 h4 h5 =>
    intro e he
    rw [eq_of_mem_entH he]; exact ⟨_, h1, h2⟩
  | fork h1 h2 h3 h4 h5 h6 h7 h8 h9 _ _ ihl ihr =>
    intro e he
    simp only [List.mem_append] at he
    rcases he with he | he | he
    · rw [eq_of_mem_entH he]; exact ⟨_, h1, h2⟩
    · exact ihl e he
    · exact ihr e he

theorem LRoots.ents_data {hp : Heap H} {rs : List Nat} {ts : List LNode} {owned : List Nat}
    {ents : List (H × Nat)} (h : LRoots hp rs ts owned ents) :
    ∀ e ∈ ents, ∃ x, hp[e.2]? = some x ∧ x.data = e.1 := by
  induction h with
  | nil => intro e he; cases he
  | cons h1 h2 h3 _ ih =>
    intro e he
    simp only [List.mem_append] at he
    rcases he with he | he
    · exact h3.ents_data e he
    · exact ih e he

theorem LShape.ents_keys {hp : Heap H} {n : Nat} {t : LNode} {fp : List Nat} {ents : List (H × Nat)}
    (h : LShape hp n t fp ents) : ents.map (·.1) = (leafRecs H t).map ofBytes := by
  induction h with
  | dead h1 h2 h3 h4 h5 =>
    simp only [entH, leafRecs]
    split <;> simp
  | fork h1 h2 h3 h4 h5 h6 h7 h8 h9 _ _ ihl ihr =>
    simp only [entH, leafRecs, List.map_append, ihl, ihr]
    split <;> simp

theorem LRoots.ents_keys {hp : Heap H} {rs : List Nat} {ts : List LNode} {owned : List Nat}
    {ents : List (H × Nat)} (h : LRoots hp rs ts owned ents) :
    ents.map (·.1) = (ts.flatMap (leafRecs H)).map ofBytes := by
  induction h with
  | nil => rfl
  | cons h1 h2 h3 _ ih => simp only [List.map_append, List.flatMap_cons, h3.ents_keys, ih]

end Shape

end UtreexoVerif.Proofs.PollardHeapSerial
