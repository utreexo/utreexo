/-
  `updateHashes` and `forgetUnneededDel` (mappollard.go) on the abstract state, and the storage invariant
  across `removeSingle` below a non-root node.
-/
import UtreexoVerif.Proofs.MapRemoveSteps
import UtreexoVerif.Proofs.PForestDel

namespace UtreexoVerif.Proofs.MapRemoveLoops
open Model Spec MapPrune MapRep MapLiftGeo PForest MapAInv MapGI MapLiftCore Hasher
open MapRemoveRep MapRemoveSteps PForestDel
set_option linter.unusedSectionVars false

variable {H : Type} [DecidableEq H] [Hasher H]
variable {fl : Bool} {A : Pos → Option (Leaf H)} {C : H → Option Pos} {N'' : List (Pos × H × Bool)}
  {R : Pos → Prop} {K : H → Prop}

/-- `forgetUnneededDel` from `pos` up to the root `ρ`: one `GI.prune` per row removes the exemptions `Eup` row by row -/
theorem walk (L : Laws N'' R) (n : Nat) (hR : ∀ z, R z ↔ isRootPos n z = true) :
    ∀ (k : Nat) (pos : Pos) (A : Pos → Option (Leaf H)) (ρ : Pos), R ρ → Anc ρ (parent pos) →
      ρ.1 - pos.1 ≤ k → (∃ h b, (parent pos, h, b) ∈ N'') →
      GI fl A C N'' R K (Eup (parent pos)) →
      GI fl (fgLoopA n k pos A) C N'' R K (fun _ => False) := by
  intro k
  induction k with
  | zero =>
    intro pos A ρ hρ hanc hk hnode inv
    exfalso
    have := hanc.1
    have : (parent pos).1 = pos.1 + 1 := rfl
    omega
  | succ k ih =>
    intro pos A ρ hρ hanc hk hnode inv
    obtain ⟨h, b, hm⟩ := hnode
    unfold fgLoopA
    by_cases hroot : isRootPos n (parent pos) = true
    · rw [if_pos hroot]
      have hRp : R (parent pos) := (hR _).2 hroot
      apply inv.change_E
      intro q l hl hnr _
      obtain ⟨bq, hq⟩ := inv.true_hash q l hl
      exact eup_root_vacuous L hRp hq hnr
    · rw [if_neg hroot]
      have hnr : ¬ R (parent pos) := fun h => hroot ((hR _).1 h)
      have hpr := GI.prune L inv hm hnr (by
        intro c hc hE
        unfold Eup at hE
        have h1 := hE.1
        have e1 : (parent c).1 = (parent pos).1 := by
          rcases hc with hc | hc
          · rw [hc]
          · rw [hc, CalcGeo.sib_fst]
        have e2 : (parent (parent pos)).1 = (parent pos).1 + 1 := rfl
        omega)
      have hne : parent pos ≠ ρ := fun e => hnr (e ▸ hρ)
      have hanc' : Anc ρ (parent (parent pos)) := anc_parent_ne_iff.2 ⟨hanc, hne.symm⟩
      obtain ⟨hp, hpm, _⟩ := L.parent_node _ h b hm hnr
      apply ih (parent pos) _ ρ hρ hanc' (by
        show ρ.1 - (pos.1 + 1) ≤ k
        omega) ⟨hp, false, hpm⟩
      apply hpr.mono_E
      rintro z ⟨hE, h1, h2⟩
      unfold Eup at hE ⊢
      refine anc_parent_ne_iff.2 ⟨hE, fun heq => ?_⟩
      have hz1 : z.1 = (parent pos).1 := Nat.succ.inj (congrArg Prod.fst heq)
      rcases anc_parent_iff'.1 (heq ▸ anc_parent_self z) with e | e | e
      · have := congrArg Prod.fst e
        rw [hz1] at this
        exact absurd this (Nat.ne_of_lt (Nat.lt_succ_self _))
      · exact h1 (e.eq_of_row hz1.symm).symm
      · exact h2 (e.eq_of_row (by rw [CalcGeo.sib_fst]; exact hz1.symm)).symm

theorem updLoop_none (n T : Nat) : ∀ (k : Nat) (pos : Pos) (node : Leaf H) (A : Pos → Option (Leaf H)),
    (∀ z, Anc z pos → z ≠ pos → A z = none) → (∀ z, Anc z pos → z ≠ pos → isRootPos n z = false) →
    updLoopA n T k pos node A = A := by
  intro k
  induction k with
  | zero =>
    intro _ _ _ _ _
    rfl
  | succ k ih =>
    intro pos node A h1 h2
    unfold updLoopA
    simp only
    by_cases hlt : pos.1 < T
    · have hp : Anc (parent pos) pos := anc_parent_self pos
      have hne : parent pos ≠ pos := (parent_ne_row (Nat.le_refl _)).symm
      rw [if_pos hlt, h1 _ hp hne, h2 _ hp hne]
      simp only [Option.isSome_none, Bool.false_eq_true, if_false]
      apply ih
      · intro z hz _
        exact h1 z (anc_parent_ne_iff.1 hz).1 (anc_parent_ne_iff.1 hz).2
      · intro z hz _
        exact h2 z (anc_parent_ne_iff.1 hz).1 (anc_parent_ne_iff.1 hz).2
    · rw [if_neg hlt]

theorem parent_hash {N : List (Pos × H × Bool)} (L : Laws N R) {pos : Pos} {hpos hs hp : H} {f fs : Bool}
    (hpm : (pos, hpos, f) ∈ N) (hsm : (sib pos, hs, fs) ∈ N) (hparm : (parent pos, hp, false) ∈ N)
    (hpnz : hp ≠ zero) : hp = if pos.2 % 2 = 0 then ph hpos hs else ph hs hpos := by
  obtain ⟨_, a, b, fa, fb, hca, hcb, hpe⟩ := L.inner_hash _ hp hparm hpnz
  rcases (child_cases (rfl : parent pos = parent pos)).2 with e | e
  · have h2 : pos.2 = 2 * (parent pos).2 := congrArg Prod.snd e
    rw [← sib_kid0, ← e] at hcb
    rw [← e] at hca
    rw [if_pos (by rw [h2]; exact Nat.mul_mod_right 2 _), hpe, (L.func _ _ _ _ _ hca hpm).1,
      (L.func _ _ _ _ _ hcb hsm).1]
  · have h2 : pos.2 = 2 * (parent pos).2 + 1 := congrArg Prod.snd e
    have hs' : sib pos = ((parent pos).1 - 1, 2 * (parent pos).2) := by
      rw [← CalcGeo.sib_sib ((parent pos).1 - 1, 2 * (parent pos).2), sib_kid0, ← e]
    rw [← hs'] at hca
    rw [← e] at hcb
    rw [if_neg (by rw [h2, Nat.mul_add_mod]; decide), hpe, (L.func _ _ _ _ _ hca hsm).1,
      (L.func _ _ _ _ _ hcb hpm).1]

theorem updLoop_path (L : Laws N'' R) (n T : Nat) (hR : ∀ z, R z ↔ isRootPos n z = true)
    (hRT : ∀ ρ, R ρ → ρ.1 ≤ T) {ρ : Pos} (hρ : R ρ) :
    ∀ (k : Nat) (pos : Pos) (node : Leaf H) (A : Pos → Option (Leaf H)), Anc ρ pos → k + pos.1 = T + 1 →
      (∃ f, (pos, node.hash, f) ∈ N'') → (∀ z, Anc z ρ → z ≠ ρ → A z = none) →
      (∀ z, Anc z pos → Anc ρ z → z ≠ ρ → ∃ l f, A (sib z) = some l ∧ (sib z, l.hash, f) ∈ N'') →
      (∀ q, ¬ (Anc q pos ∧ q ≠ pos) → updLoopA n T k pos node A q = A q) ∧
      (∀ z, Anc z pos ∧ z ≠ pos → (updLoopA n T k pos node A z).isSome = (A z).isSome ∧
        ∀ l, updLoopA n T k pos node A z = some l → (z, l.hash, false) ∈ N'' ∧ l.remember = node.remember) := by
  intro k
  induction k with
  | zero =>
    intro pos node A hanc hk _ _ _
    exfalso
    have h1 := hanc.1
    have h2 := hRT ρ hρ
    omega
  | succ k ih =>
    intro pos node A hanc hk hnode above hsibs
    by_cases hne : pos = ρ
    · subst hne
      have hnone : updLoopA n T (k + 1) pos node A = A := by
        apply updLoop_none n T (k + 1) pos node A above
        intro z hz hzne
        cases hr : isRootPos n z with
        | false => rfl
        | true => exact absurd (L.root_disj z pos pos ((hR z).2 hr) hρ hz (Anc.refl _)) hzne
      rw [hnone]
      refine ⟨fun _ _ => rfl, fun z hz => ⟨rfl, fun l hl => ?_⟩⟩
      rw [above z hz.1 hz.2] at hl
      cases hl
    have h1 := hanc.1
    have h2 := hRT ρ hρ
    have hr : pos.1 ≠ ρ.1 := fun e => hne (hanc.eq_of_row e.symm).symm
    have hlt : pos.1 < T := by omega
    obtain ⟨f, hpm⟩ := hnode
    have hnr : ¬ R pos := by
      intro h; exact hne (L.root_disj pos ρ pos h hρ (Anc.refl _) hanc)
    obtain ⟨hp, hparm, hpnz⟩ := L.parent_node pos _ f hpm hnr
    obtain ⟨ls, fs, hAs, hsm⟩ := hsibs pos (Anc.refl _) hanc hne
    have hρp : Anc ρ (parent pos) := anc_parent_ne_iff.2 ⟨hanc, Ne.symm hne⟩
    have hppos : Anc (parent pos) pos := anc_parent_self pos
    have hpne : parent pos ≠ pos := (parent_ne_row (Nat.le_refl _)).symm
    have hnode' : ((if pos.2 % 2 = 0 then (⟨ph node.hash ((A (sib pos)).getD ⟨zero, false⟩).hash, node.remember⟩ : Leaf H)
        else ⟨ph ((A (sib pos)).getD ⟨zero, false⟩).hash node.hash, node.remember⟩)) = ⟨hp, node.remember⟩ := by
      rw [hAs, Option.getD_some, parent_hash L hpm hsm hparm hpnz]
      split <;> rfl
    unfold updLoopA
    simp only
    rw [hnode', if_pos hlt]
    generalize hA' : (if (A (parent pos)).isSome = true then upd A (parent pos) (some ⟨hp, node.remember⟩) else A) = A'
    have hA'p : (A' (parent pos)).isSome = (A (parent pos)).isSome ∧
        ∀ l, A' (parent pos) = some l → (parent pos, l.hash, false) ∈ N'' ∧ l.remember = node.remember := by
      rw [← hA']
      by_cases hs : (A (parent pos)).isSome = true
      · rw [if_pos hs, upd_self]
        refine ⟨by rw [hs]; rfl, fun l hl => ?_⟩
        rw [← Option.some.inj hl]
        exact ⟨hparm, rfl⟩
      · rw [if_neg hs]
        refine ⟨rfl, fun l hl => ?_⟩
        rw [hl] at hs; exact absurd rfl hs
    have hA'o : ∀ q, q ≠ parent pos → A' q = A q := by
      intro q hq
      rw [← hA']
      split
      · exact upd_ne _ _ hq
      · rfl
    by_cases hroot : isRootPos n (parent pos) = true
    · rw [if_pos hroot]
      have hpρ : parent pos = ρ := L.root_disj _ ρ pos ((hR _).2 hroot) hρ hppos hanc
      refine ⟨fun q hq => hA'o q (fun e => hq (e ▸ ⟨hppos, hpne⟩)), fun z hz => ?_⟩
      by_cases hzp : z = parent pos
      · rw [hzp]
        exact hA'p
      · -- `z` lies strictly above the root
        rw [hA'o z hzp, above z (hpρ ▸ anc_parent_ne_iff.2 hz) (fun e => hzp (e.trans hpρ.symm))]
        exact ⟨rfl, fun l hl => by cases hl⟩
    · rw [if_neg hroot]
      have above' : ∀ z, Anc z ρ → z ≠ ρ → A' z = none := by
        intro z hz hzρ
        rw [hA'o z (fun e => hzρ (Anc.antisymm hz (e ▸ hρp)))]
        exact above z hz hzρ
      have hsibs' : ∀ z, Anc z (parent pos) → Anc ρ z → z ≠ ρ →
          ∃ l f, A' (sib z) = some l ∧ (sib z, l.hash, f) ∈ N'' := by
        intro z hz hρz hzρ
        rw [hA'o _ (fun e : sib z = parent pos => not_anc_sib z (e ▸ hz))]
        exact hsibs z (Anc.trans hz hppos) hρz hzρ
      obtain ⟨ih1, ih2⟩ := ih (parent pos) ⟨hp, node.remember⟩ A' hρp
        (by show k + (pos.1 + 1) = T + 1; omega) ⟨false, hparm⟩ above' hsibs'
      refine ⟨fun q hq => ?_, fun z hz => ?_⟩
      · rw [ih1 q (fun h => hq (anc_parent_ne_iff.1 h.1)), hA'o q (fun e => hq (e ▸ ⟨hppos, hpne⟩))]
      · by_cases hzp : z = parent pos
        · rw [hzp, ih1 _ (fun h => h.2 rfl)]
          exact hA'p
        · have g := ih2 z ⟨anc_parent_ne_iff.2 hz, hzp⟩
          rw [hA'o z hzp] at g
          exact g

/-- the node list between the lift and the re-hashing (ancestors still carry their old hashes) -/
def liftN (σ : Pos) (N : List (Pos × H × Bool)) : List (Pos × H × Bool) :=
  N.filter (fun e => ¬ Anc (parent σ) e.1) ++ (N.filter (fun e => Anc σ e.1)).map (fun e => (liftP σ e.1, e.2))

theorem mem_liftN {σ : Pos} {N : List (Pos × H × Bool)} (e : Pos × H × Bool) :
    e ∈ liftN σ N ↔ (¬ Anc (parent σ) e.1 ∧ e ∈ N) ∨ (∃ c, Anc σ c ∧ e.1 = liftP σ c ∧ (c, e.2) ∈ N) := by
  unfold liftN
  rw [List.mem_append, List.mem_filter, List.mem_map]
  constructor
  · rintro (⟨h1, h2⟩ | ⟨e', h1, rfl⟩)
    · exact Or.inl ⟨by simpa using h2, h1⟩
    · rw [List.mem_filter] at h1
      exact Or.inr ⟨e'.1, by simpa using h1.2, rfl, h1.1⟩
  · rintro (⟨h1, h2⟩ | ⟨c, h1, h2, h3⟩)
    · exact Or.inl ⟨h2, by simpa using h1⟩
    · refine Or.inr ⟨(c, e.2), List.mem_filter.2 ⟨h3, by simpa using h1⟩, ?_⟩
      obtain ⟨p, v⟩ := e
      simp only at h2 ⊢
      rw [h2]

variable {N : List (Pos × H × Bool)} {K' : H → Prop}

/-- the re-hashing step of `removeSingle` below a non-root node `d`: it needs of the state only that stored hashes are node
hashes and that the siblings along the path from `parent d` to the root are stored -/
theorem rehash_path (L : Laws N R) (L'' : Laws N'' R) (n T : Nat)
    (hR : ∀ z, R z ↔ isRootPos n z = true) (hRT : ∀ ρ, R ρ → ρ.1 ≤ T)
    {d ρ : Pos} {h : H} {b : Bool}
    (hd : (d, h, b) ∈ N) (hnr : ¬ R d) (hρ : R ρ) (hρd : Anc ρ d)
    (hD : DelRel d (fun e => e ∈ N) (fun e => e ∈ N''))
    (mem : ∀ q l, A q = some l → ∃ b, (q, l.hash, b) ∈ N)
    (hsto : ∀ z hs bs, Anc z (parent d) → (sib z, hs, bs) ∈ N → ¬ R (sib z) → A (sib z) ≠ none)
    {node : Leaf H} (hnode : A (sib d) = some node) (fl : Bool) :
    (∃ bn, (parent d, node.hash, bn) ∈ N'') ∧ Anc ρ (parent d) ∧
    Rehash (liftN (sib d) N) N'' (fun z => Anc z (parent d) ∧ z ≠ parent d) (liftAll (sib d) A)
      (updLoopA n T (T + 1 - (d.1 + 1)) (parent d) ⟨node.hash, fl⟩ (liftAll (sib d) A)) fl := by
  obtain ⟨hD1, hD2, hD3, hD4⟩ := hD
  obtain ⟨hP, hPN, hPnz⟩ := L.parent_node d h b hd hnr
  have hPσ : parent (sib d) = parent d := CalcGeo.parent_sib d
  obtain ⟨bn, hnodeN⟩ := mem _ _ hnode
  have hρP : Anc ρ (parent d) := anc_parent_ne_iff.2 ⟨hρd, fun e => hnr (e ▸ hρ)⟩
  have hk1 : T + 1 - (d.1 + 1) + (parent d).1 = T + 1 :=
    Nat.sub_add_cancel (Nat.le_succ_of_le (Nat.le_trans hρP.1 (hRT ρ hρ)))
  have hPN'' : (parent d, node.hash, bn) ∈ N'' := by
    have := hD3 (sib d) node.hash bn (Anc.refl _) hnodeN
    rwa [liftP_self, hPσ] at this
  refine ⟨⟨bn, hPN''⟩, hρP, ?_⟩
  let Z : Pos → Prop := fun z => Anc z (parent d) ∧ z ≠ parent d
  have not_under_of_Z : ∀ z, Z z → ¬ Anc (parent d) z := by
    intro z hz ha; exact hz.2 (Anc.antisymm hz.1 ha)
  have hlA_out : ∀ q, ¬ Anc (parent d) q → liftAll (sib d) A q = A q := by
    intro q hq; exact liftAll_out (by rw [hPσ]; exact hq)
  have above_root : ∀ z, Anc z ρ → z ≠ ρ → A z = none := by
    intro z hz hne
    cases hA : A z with
    | none => rfl
    | some l =>
      exfalso
      obtain ⟨bz, hzm⟩ := mem z l hA
      obtain ⟨r', hr', ha'⟩ := L.under_root z _ bz hzm
      have := L.root_disj r' ρ ρ hr' hρ (Anc.trans ha' hz) (Anc.refl ρ)
      subst this
      exact hne (Anc.antisymm hz ha')
  have hsibs : ∀ z, Anc z (parent d) → Anc ρ z → z ≠ ρ →
      ∃ l f, liftAll (sib d) A (sib z) = some l ∧ (sib z, l.hash, f) ∈ N'' := by
    intro z hz hρz hzρ
    obtain ⟨hz', bz, hzm⟩ := L.path_nodes (ρ.1 - (parent d).1)
      (L.root_node ρ hρ).choose_spec.choose_spec hPN hρP (by have := hρP.1; omega) z hρz hz
    have hnrz : ¬ R z := fun hr => hzρ (L.root_disj z ρ z hr hρ (Anc.refl z) hρz)
    obtain ⟨hs, bs, hsm⟩ := L.sib_node z hz' bz hzm hnrz
    obtain ⟨hpz, hpzm, _⟩ := L.parent_node z hz' bz hzm hnrz
    have hnrs : ¬ R (sib z) := L.not_root_of_sunder hpzm (by
      rw [sunder_iff_parent, CalcGeo.parent_sib]; exact Anc.refl _)
    have hout : ¬ Anc (parent d) (sib z) := fun ha => not_anc_sib z (Anc.trans hz ha)
    have hnot : ¬ Anc (sib z) (parent d) := by
      intro ha
      have := Anc.comparable ha hz (by rw [CalcGeo.sib_fst]; exact Nat.le_refl _)
      exact not_anc_sib z this
    obtain ⟨l, hA⟩ := Option.ne_none_iff_exists'.1 (hsto z hs bs hz hsm hnrs)
    obtain ⟨bl, hlm⟩ := mem _ l hA
    exact ⟨l, bl, by rw [hlA_out _ hout]; exact hA, hD2 _ hout hnot hlm⟩
  obtain ⟨g1, g2⟩ := updLoop_path L'' n T hR hRT hρ (T + 1 - (d.1 + 1)) (parent d) ⟨node.hash, fl⟩
    (liftAll (sib d) A) hρP hk1 ⟨bn, hPN''⟩
    (fun z hz hne => by
      rw [hlA_out z (fun ha => hne (Anc.antisymm hz (Anc.trans hρP ha)))]
      exact above_root z hz hne) hsibs
  refine { same := ?_, old := ?_, new := ?_, out := g1, dom := fun z hz => (g2 z hz).1,
           val := fun z l hz => (g2 z hz).2 l }
  · intro e hz
    rw [mem_liftN, hPσ]
    constructor
    · intro he
      rcases hD1 e he with ⟨h1, _, h3⟩ | h | ⟨h1, h2, _⟩
      · exact Or.inl ⟨h1, h3⟩
      · exact Or.inr h
      · exact absurd ⟨h1, h2⟩ hz
    · rintro (⟨h1, h2⟩ | ⟨c, h1, h2, h3⟩)
      · refine hD2 e h1 (fun ha => ?_) h2
        by_cases he : e.1 = parent d
        · exact h1 (he ▸ Anc.refl _)
        · exact hz ⟨ha, he⟩
      · have := hD3 c e.2.1 e.2.2 h1 h3
        rw [← h2] at this
        exact this
  · intro z h' f hz hm
    rw [mem_liftN, hPσ] at hm
    rcases hm with ⟨_, hm⟩ | ⟨c, hc, he, _⟩
    · have hf : f = false := by
        cases f with
        | false => rfl
        | true =>
          exfalso
          have := L.leaf_below z h' (parent d) hP false hm hPN hz.1
          exact hz.2 this.symm
      subst hf
      exact ⟨rfl, hD4 z h' hm hz.1 hz.2⟩
    · exfalso
      apply not_under_of_Z z hz
      simp only at he
      rw [he, ← hPσ]; exact anc_parent_liftP hc
  · intro z h' f hz hm
    rcases hD1 _ hm with ⟨_, h2, _⟩ | ⟨c, hc, he, _⟩ | ⟨_, _, h3, h0, h4⟩
    · exact absurd hz.1 h2
    · exfalso
      apply not_under_of_Z z hz
      simp only at he
      rw [he, ← hPσ]; exact anc_parent_liftP hc
    · refine ⟨h3, h0, ?_⟩
      rw [mem_liftN, hPσ]
      exact Or.inl ⟨not_under_of_Z z hz, h4⟩

theorem removeSingle_nonroot_inv (L : Laws N R) (L'' : Laws N'' R) (n T : Nat)
    (hR : ∀ z, R z ↔ isRootPos n z = true) (hRT : ∀ ρ, R ρ → ρ.1 ≤ T)
    (inv : GI fl A C N R K (fun _ => False)) {d ρ : Pos} {h : H} {b : Bool}
    (hd : (d, h, b) ∈ N) (hnr : ¬ R d) (hρ : R ρ) (hρd : Anc ρ d)
    (hKd : ∀ t x, (t, x, true) ∈ N → Anc d t → K x ∧ C x = none)
    (hK' : ∀ x, K' x ↔ K x ∧ ∀ t, (t, x, true) ∈ N → ¬ Anc d t)
    (hD : DelRel d (fun e => e ∈ N) (fun e => e ∈ N'')) :
    ∃ node, A (sib d) = some node ∧
      GI fl (fgLoopA n (T + 1 - d.1) d
          (updLoopA n T (T + 1 - (d.1 + 1)) (parent d) ⟨node.hash, fl⟩ (liftAll (sib d) A)))
        (liftCAll (sib d) C) N'' R K' (fun _ => False) := by
  obtain ⟨hσ, bσ, hσN⟩ := L.sib_node d h b hd hnr
  obtain ⟨hP, hPN, hPnz⟩ := L.parent_node d h b hd hnr
  have hdnz : h ≠ zero := L.nonzero_of_nonroot hd hnr
  obtain ⟨t0, x0, ht0, hdt0⟩ := L.has_leaf d h b hd hdnz
  have hneed : ∀ z, Anc z d → ∃ t, KLeaf N K t ∧ Anc (sib (sib z)) t := fun z hz =>
    ⟨t0, ⟨x0, (hKd t0 x0 ht0 hdt0).1, ht0⟩, by rw [CalcGeo.sib_sib]; exact Anc.trans hz hdt0⟩
  have hnrσ : ¬ R (sib d) := L.not_root_of_sunder hPN (by
    rw [sunder_iff_parent, CalcGeo.parent_sib]; exact Anc.refl _)
  have hσσ : sib (sib d) = d := CalcGeo.sib_sib d
  have hPσ : parent (sib d) = parent d := CalcGeo.parent_sib d
  have hstored : A (sib d) ≠ none := inv.has_needed _ hσ bσ hσN hnrσ (Or.inr (hneed d (Anc.refl d)))
  obtain ⟨node, hnode⟩ := Option.ne_none_iff_exists'.1 hstored
  refine ⟨node, hnode, ?_⟩
  obtain ⟨hPN'', hρP, re⟩ := rehash_path L L'' n T hR hRT hd hnr hρ hρd hD inv.true_hash
    (fun z hs bs hz hsm hnrs => inv.has_needed _ hs bs hsm hnrs
      (Or.inr (hneed z (Anc.trans hz (anc_parent_self d))))) hnode fl
  have hR' : ∀ z, R z ↔ (z = parent (sib d) ∧ (R (sib d) ∨ R (parent (sib d)))) ∨ (R z ∧ ¬ Anc (parent (sib d)) z) := by
    intro z
    rw [hPσ]
    constructor
    · intro hz
      by_cases ha : Anc (parent d) z
      · -- a root below `parent d` is the root `ρ` of the tree, hence `parent d` itself
        have hzρ : z = ρ := L.root_disj z ρ z hz hρ (Anc.refl z) (Anc.trans hρP ha)
        subst hzρ
        have hzP : parent d = z := Anc.antisymm ha hρP
        exact Or.inl ⟨hzP.symm, Or.inr (hzP.symm ▸ hz)⟩
      · exact Or.inr ⟨hz, ha⟩
    · rintro (⟨e, h1 | h1⟩ | ⟨h1, _⟩)
      · exact absurd h1 hnrσ
      · exact e ▸ h1
      · exact h1
  have hCδ : ∀ x t, C x = some t → ¬ Anc (sib (sib d)) t := by
    intro x t hC ha
    rw [hσσ] at ha
    have := (hKd t x (inv.cached_pos x t hC) ha).2
    rw [this] at hC; cases hC
  have hK'' : ∀ x, K' x ↔ K x ∧ ∀ t, (t, x, true) ∈ N → ¬ Anc (sib (sib d)) t := by
    intro x; rw [hσσ]; exact hK' x
  have inv1 := liftCore (N' := liftN (sib d) N) (R' := R) (K' := K') L inv ⟨hσ, bσ, hσN⟩ hstored hCδ
    (fun e => mem_liftN e) hR' hK''
  rw [hPσ] at inv1
  have inv2 := rehash inv1 re
  have h1 : d.1 + 1 ≤ ρ.1 := hρP.1
  have hρT := hRT ρ hρ
  exact walk L'' n hR (T + 1 - d.1) d _ ρ hρ hρP (by omega) ⟨_, hPN''⟩ inv2

end UtreexoVerif.Proofs.MapRemoveLoops
