/-
  Movement of the nodes under additions (`updateProofAdd`, properties C07/C11).
  `S'` = slot list before the additions (`n` slots); after them it is `S' ++ adds.map some` (`N`
  slots; the prime marks BEFORE here and for `K'`, `K''` in `AddPP`, `ProofUpdateAdd`).  The
  additions merge over some all-zero roots of the old forest; `Stump.add` reports their rows `L`
  (`DestroySpec`).  Go's `updateProofAdd` moves every old position through `getNewPositions` for
  the destroyed roots, which on (row, offset) pairs is `moveA N T (destroyedPos n L)`.
  Above an EDGE chunk (its parent chunk holds a new slot: an old root, or a chunk with a new slot)
  the dead siblings are exactly the destroyed roots (`edge_dead_level`), so the walk lifts such a
  chunk over its dead levels (`edge_moveA`, an instance of `MoveDT.moveA_eq_collapse`); a position
  below a live old root follows the root (`moveA_old`), which gives `nodePos_add`.  In the tree
  view: every node of the old forest is a node of the new one, with the same subtree, at the
  position `addMove` (`add_sub`).
-/
import UtreexoVerif.Proofs.NewAddSpec
import UtreexoVerif.Proofs.Movement
import UtreexoVerif.Proofs.MoveFold
import UtreexoVerif.Proofs.MoveDT
import UtreexoVerif.Proofs.ProofUpdateGnp
import UtreexoVerif.Proofs.StumpAddPos
set_option linter.unusedSectionVars false

namespace UtreexoVerif.Proofs.AddMove
open Spec
open UtreexoVerif.Proofs.FinalPos UtreexoVerif.Proofs.Movement UtreexoVerif.Proofs.MoveFold
open UtreexoVerif.Proofs.SpecNodes UtreexoVerif.Proofs.ProofUpdateGnp
open UtreexoVerif.Proofs.StumpAddPos

variable {H : Type} [DecidableEq H] [Hasher H]

/-- chunk form of the `ToDestroy` part of `stump_add_updateData_statement`: `L` lists (ascending)
the rows of the all-zero roots of the old forest that the `k` additions merge over -/
structure DestroySpec (S' : List (Option H)) (k : Nat) (L : List Nat) : Prop where
  asc : AscFrom 0 L
  mem : ∀ h, h ∈ L ↔ (S'.length.testBit h = true ∧
      chunkAlive S' h (2 * (S'.length / 2 ^ (h + 1))) = false ∧
      (S'.length / 2 ^ (h + 1) + 1) * 2 ^ (h + 1) ≤ S'.length + k)

/-- `DestroySpec` of a concrete slot list, by evaluation of the rows below a bound -/
theorem DestroySpec.of_below {S' : List (Option H)} {k : Nat} {L : List Nat} (B : Nat)
    (hB : S'.length < 2 ^ B) (asc : AscFrom 0 L) (hL : ∀ h ∈ L, h < B)
    (hmem : ∀ h < B, (h ∈ L ↔ (S'.length.testBit h = true ∧
      chunkAlive S' h (2 * (S'.length / 2 ^ (h + 1))) = false ∧
      (S'.length / 2 ^ (h + 1) + 1) * 2 ^ (h + 1) ≤ S'.length + k))) : DestroySpec S' k L where
  asc := asc
  mem h := by
    by_cases hh : h < B
    · exact hmem h hh
    · have : S'.length.testBit h = false := Nat.testBit_lt_two_pow
        (Nat.lt_of_lt_of_le hB (Nat.pow_le_pow_right (by decide) (Nat.le_of_not_lt hh)))
      exact ⟨fun hm => absurd (hL h hm) hh, fun hr => by rw [this] at hr; cases hr.1⟩

def destroyedPos (n : Nat) (L : List Nat) : List Pos := L.map (fun h => (h, 2 * (n / 2 ^ (h + 1))))

theorem liftFold_down {r o β : Nat} {hs : List Nat} (hr : 1 ≤ r) (hβ : β < 2) (hasc : AscFrom r hs) :
    liftFold 0 (r - 1, 2 * o + β) hs =
      ((liftFold 0 (r, o) hs).1 - 1, 2 * (liftFold 0 (r, o) hs).2 + β) := by
  obtain ⟨r', rfl⟩ : ∃ r', r = r' + 1 := ⟨r - 1, by omega⟩
  have h1 := liftFold_low 0 β hβ hs r' o (hasc.mono (by omega))
  have h2 := liftFold_shift 0 hs r' o
  rw [Nat.add_sub_cancel, h1, h2]
  simp only [Nat.add_sub_cancel]

theorem fpos_liftFold (al : Nat → Nat → Bool) (top : Pos) (dl : List Nat)
    (hasc : AscFrom top.1 dl) : ∀ k l b, top.1 = l + k →
    fpos al (liftFold 0 top dl) k l b = liftFold 0 (fpos al top k l b) dl := by
  intro k
  induction k with
  | zero => intro l b _; rfl
  | succ k ih =>
    intro l b ht
    have hrow := fpos_row al top k (l + 1) (b / 2) (by omega)
    simp only [fpos]
    rw [ih (l + 1) (b / 2) (by omega)]
    split
    · exact (liftFold_down (by omega) (Nat.mod_lt _ (by decide)) (hasc.mono (by omega))).symm
    · rfl

theorem fpos_under (al : Nat → Nat → Bool) (top : Pos) : ∀ k l b, top.1 = l + k →
    Under top.1 top.2 (fpos al top k l b) :=
  fun k l b ht => (FinalPos.fpos_under al top k l b ht).1

theorem chunkAlive_anc (S : List (Option H)) {l b : Nat} (h : chunkAlive S l b = true) :
    ∀ m, chunkAlive S (l + m) (b / 2 ^ m) = true := by
  intro m
  induction m with
  | zero => simpa using h
  | succ m ih =>
    have e : b / 2 ^ (m + 1) = b / 2 ^ m / 2 := half_pow b m
    rw [← Nat.add_assoc, chunkAlive_succ, e]
    rcases Nat.mod_two_eq_zero_or_one (b / 2 ^ m) with h0 | h1
    · rw [Nat.mul_div_cancel' (Nat.dvd_of_mod_eq_zero h0), ih]; rfl
    · have e1 := Nat.div_add_mod (b / 2 ^ m) 2
      rw [h1] at e1
      rw [e1, ih]; simp

theorem inTree_anc {N T l b : Nat} (h : Spec.inTree N T l b) {m : Nat} (hm : l + m ≤ T) :
    Spec.inTree N T (l + m) (b / 2 ^ m) := by
  have e : m + (T - (l + m)) = T - l := by omega
  obtain ⟨h1, h2, h3⟩ := h
  refine ⟨h1, hm, ?_⟩
  rw [← h3, Nat.div_div_eq_div_mul, ← Nat.pow_add, e]

theorem root_anc (n : Nat) {h0 j : Nat} (hj : h0 < j) :
    2 * (n / 2 ^ (h0 + 1)) / 2 ^ (j - h0) = n / 2 ^ j := by
  rw [show j - h0 = (j - (h0 + 1)) + 1 by omega, ← div_two_div_pow,
    Nat.mul_div_cancel_left _ (by decide : 0 < 2), div_div_pow (by omega)]

theorem tree_le {n N h0 T l b : Nat} (hnN : n ≤ N) (hin' : Spec.inTree n h0 l b)
    (hin : Spec.inTree N T l b) : h0 ≤ T := by
  apply Classical.byContradiction
  intro hc
  obtain ⟨hb0, hl0, hr0⟩ := hin'
  obtain ⟨hbT, hlT, hrT⟩ := hin
  have e1 : b / 2 ^ (h0 - l) = b / 2 ^ (T - l) / 2 ^ (h0 - T) := div_pow_split b hlT (by omega)
  rw [hrT, root_anc N (by omega), hr0] at e1
  -- `n / 2 ^ h0` is odd, so `N / 2 ^ h0 = 2 * (n / 2 ^ (h0 + 1))` is smaller than it
  have e := Nat.div_add_mod (n / 2 ^ h0) 2
  rw [testBit_div_odd.mp hb0, ← half_pow n h0, e1] at e
  have hle := Nat.div_le_div_right (c := 2 ^ h0) hnN
  rw [← e] at hle
  exact Nat.not_succ_le_self _ hle

theorem slot_new (S' : List (Option H)) (adds : List H) {i : Nat} (h1 : S'.length ≤ i)
    (h2 : i < S'.length + adds.length) : ∃ x : H, (S' ++ adds.map some)[i]? = some (some x) := by
  refine ⟨adds[i - S'.length]'(by omega), ?_⟩
  rw [List.getElem?_append_right h1, List.getElem?_map, List.getElem?_eq_getElem (by omega)]
  rfl

theorem exists_slot_from {n b l : Nat} (h : n < (b + 1) * 2 ^ l) :
    ∃ j, n ≤ j ∧ b * 2 ^ l ≤ j ∧ j < (b + 1) * 2 ^ l := by
  have hpos := Nat.two_pow_pos l
  rw [Nat.add_mul, Nat.one_mul] at h ⊢
  rcases Nat.le_total n (b * 2 ^ l) with h' | h'
  · exact ⟨b * 2 ^ l, h', Nat.le_refl _, by omega⟩
  · exact ⟨n, Nat.le_refl _, h', h⟩

theorem chunk_anc_le {b c l m : Nat} (hc : b / 2 ^ m = c) : (b + 1) * 2 ^ l ≤ (c + 1) * 2 ^ (l + m) := by
  have h1 : b < (c + 1) * 2 ^ m := by rw [← hc]; exact lt_succ_div_mul b (2 ^ m) (Nat.two_pow_pos _)
  have h2 : (b + 1) * 2 ^ l ≤ (c + 1) * 2 ^ m * 2 ^ l := Nat.mul_le_mul_right _ h1
  rw [Nat.mul_assoc, ← Nat.pow_add, Nat.add_comm m l] at h2
  exact h2

theorem anc_chunk {N T l b j n : Nat} (hin : Spec.inTree N T l b) (hnew : n < (b + 1) * 2 ^ l)
    (hlj : l ≤ j) (hjT : j ≤ T) :
    Spec.inTree N T j (b / 2 ^ (j - l)) ∧ n < (b / 2 ^ (j - l) + 1) * 2 ^ j := by
  have h1 := inTree_anc hin (m := j - l) (by omega)
  have h2 := chunk_anc_le (b := b) (l := l) (m := j - l) rfl
  rw [show l + (j - l) = j by omega] at h1 h2
  exact ⟨h1, by omega⟩

/-- **one level**: above a chunk `(j, c)` that reaches beyond the old slots, the sibling chunk is
dead exactly when it is a destroyed root -/
theorem dead_level_core (S' : List (Option H)) (adds : List H) (L : List Nat)
    (hL : DestroySpec S' adds.length L) {T j c : Nat}
    (hinj : Spec.inTree (S'.length + adds.length) T j c) (hjT : j < T)
    (hnewc : S'.length < (c + 1) * 2 ^ j) :
    chunkAlive (S' ++ adds.map some) j (sibIdx c) = false ↔ (j ∈ L ∧ c = S'.length / 2 ^ j) := by
  have hsib := inTree_sib hinj hjT
  have hle := inTree_le hsib
  have hpos := Nat.two_pow_pos j
  constructor
  · intro hdead
    rcases Nat.lt_or_ge S'.length ((sibIdx c + 1) * 2 ^ j) with hA | hB
    · -- the sibling chunk contains an added slot
      exfalso
      obtain ⟨m, hm1, hm2, hm3⟩ := exists_slot_from hA
      obtain ⟨x, hx⟩ := slot_new S' adds hm1 (by omega)
      rw [chunkAlive_of_slot _ j _ m x hx hm2 hm3] at hdead
      cases hdead
    · -- the sibling chunk is an old root
      have hsc : sibIdx c + 1 = c := by
        have h1 : (sibIdx c + 1) * 2 ^ j < (c + 1) * 2 ^ j := by omega
        have h2 : sibIdx c + 1 < c + 1 := Nat.lt_of_mul_lt_mul_right h1
        unfold sibIdx at h2 ⊢
        by_cases hc0 : c % 2 = 0
        · rw [if_pos hc0] at h2; omega
        · rw [if_neg hc0]; omega
      have hodd : c % 2 = 1 := by
        unfold sibIdx at hsc
        split at hsc <;> omega
      have hnc : S'.length / 2 ^ j = c := by
        apply Nat.div_eq_of_lt_le
        · rw [← hsc]; exact hB
        · exact hnewc
      have hbit : S'.length.testBit j = true := testBit_div_odd.mpr (by rw [hnc]; exact hodd)
      have hroot : sibIdx c = 2 * (S'.length / 2 ^ (j + 1)) := by
        rw [half_pow, hnc]; omega
      rw [chunkAlive_append_left _ _ _ _ hB, hroot] at hdead
      have hpar := inTree_le (inTree_parent hinj hjT)
      exact ⟨(hL.mem j).mpr ⟨hbit, hdead, by rw [half_pow, hnc]; exact hpar⟩, hnc.symm⟩
  · rintro ⟨hjL, hcn⟩
    obtain ⟨hb, hdead, _⟩ := (hL.mem j).mp hjL
    rw [hcn, StumpAddPos.sibIdx_of_testBit hb, chunkAlive_append_left _ _ _ _ (root_chunk_le hb)]
    exact hdead

theorem edge_old {n l b : Nat} (hold : (b + 1) * 2 ^ l ≤ n) (hedge : n < (b / 2 + 1) * 2 ^ (l + 1)) :
    n.testBit l = true ∧ b = 2 * (n / 2 ^ (l + 1)) := by
  have hpos := Nat.two_pow_pos l
  have h1 : b + 1 ≤ n / 2 ^ l := (Nat.le_div_iff_mul_le hpos).2 hold
  have h2 : n / 2 ^ l < (b / 2 + 1) * 2 := by
    apply (Nat.div_lt_iff_lt_mul hpos).2
    rw [Nat.mul_assoc, ← Nat.pow_succ']
    exact hedge
  rw [half_pow]
  exact ⟨testBit_div_odd.2 (by omega), by omega⟩

/-- `hedge`: an edge chunk; the condition is the one in `NewAddSpec` -/
theorem edge_dead_level (S' : List (Option H)) (adds : List H) (L : List Nat)
    (hL : DestroySpec S' adds.length L) {T l b j : Nat}
    (hin : Spec.inTree (S'.length + adds.length) T l b)
    (hedge : S'.length < (b / 2 + 1) * 2 ^ (l + 1)) (hlj : l ≤ j) (hjT : j < T) :
    chunkAlive (S' ++ adds.map some) j (sibIdx (b / 2 ^ (j - l))) = false ↔
      (j ∈ L ∧ b / 2 ^ (j - l) = S'.length / 2 ^ j) := by
  rcases Nat.lt_or_ge S'.length ((b + 1) * 2 ^ l) with hnew | hold
  · obtain ⟨hinj, hnewc⟩ := anc_chunk hin hnew hlj (Nat.le_of_lt hjT)
    exact dead_level_core S' adds L hL hinj hjT hnewc
  · -- an old root `(l, 2m)`: above its own row its ancestors are the chunks `n / 2 ^ j`
    obtain ⟨hb0, hb⟩ := edge_old hold hedge
    have hinj := inTree_anc hin (m := j - l) (by omega)
    rw [show l + (j - l) = j by omega] at hinj
    rcases Nat.lt_or_ge l j with hlt | hge
    · have e : b / 2 ^ (j - l) = S'.length / 2 ^ j := by rw [hb]; exact root_anc _ hlt
      rw [e] at hinj ⊢
      exact dead_level_core S' adds L hL hinj hjT (lt_succ_div_mul _ _ (Nat.two_pow_pos j))
    · -- on its own row the sibling holds the first new slot
      have ej : j = l := by omega
      subst ej
      rw [Nat.sub_self, Nat.pow_zero, Nat.div_one] at hinj ⊢
      have hodd := testBit_div_odd.1 hb0
      have hle := inTree_le (inTree_sib hinj hjT)
      have hrc := root_chunk_le hb0
      rw [hb, sibIdx_even] at hle ⊢
      have hn : S'.length < (2 * (S'.length / 2 ^ (j + 1)) + 1 + 1) * 2 ^ j := by
        rw [← hb]
        have : (b / 2 + 1) * 2 ^ (j + 1) = (2 * (b / 2) + 1 + 1) * 2 ^ j := by
          rw [Nat.pow_succ', ← Nat.mul_assoc]; congr 1; omega
        have hbe : 2 * (b / 2) = b := by rw [hb, Nat.mul_div_cancel_left _ (by decide : 0 < 2)]
        rw [this, hbe] at hedge
        exact hedge
      obtain ⟨x, hx⟩ := slot_new S' adds (i := S'.length) (Nat.le_refl _) (by omega)
      rw [chunkAlive_of_slot _ j _ S'.length x hx hrc hn]
      constructor
      · intro h; cases h
      · rintro ⟨_, e⟩
        rw [half_pow] at e
        omega

theorem destroyedPos_pairwise {n : Nat} {L : List Nat} {a : Nat} (h : AscFrom a L) :
    (destroyedPos n L).Pairwise (fun p q => p.1 < q.1) := by
  unfold destroyedPos
  rw [List.pairwise_map]
  exact h.pairwise

theorem mem_destroyedPos {n : Nat} {L : List Nat} {p : Pos} :
    p ∈ destroyedPos n L ↔ p.1 ∈ L ∧ p.2 = 2 * (n / 2 ^ (p.1 + 1)) := by
  unfold destroyedPos
  rw [List.mem_map]
  constructor
  · rintro ⟨h, hh, rfl⟩; exact ⟨hh, rfl⟩
  · rintro ⟨h1, h2⟩; exact ⟨p.1, h1, by rw [← h2]⟩

theorem mem_destroyedPos_sib {S' : List (Option H)} {k : Nat} {L : List Nat}
    (hL : DestroySpec S' k L) {j c : Nat} :
    (j, sibIdx c) ∈ destroyedPos S'.length L ↔ (j ∈ L ∧ c = S'.length / 2 ^ j) := by
  rw [mem_destroyedPos]
  simp only
  constructor
  · rintro ⟨hjL, e⟩
    obtain ⟨hb, _, _⟩ := (hL.mem j).mp hjL
    exact ⟨hjL, by rw [← sibIdx_sibIdx c, e, ← sibIdx_of_testBit hb, sibIdx_sibIdx]⟩
  · rintro ⟨hjL, e⟩
    obtain ⟨hb, _, _⟩ := (hL.mem j).mp hjL
    exact ⟨hjL, by rw [e, sibIdx_of_testBit hb]⟩

/-- a destroyed root lies strictly inside a tree of the new forest (its parent was created) -/
theorem destroyed_under (S' : List (Option H)) (k : Nat) (L : List Nat) (hL : DestroySpec S' k L)
    (hN : S'.length + k < 2 ^ 64) : ∀ A ∈ destroyedPos S'.length L, ∃ RT,
      RT ∈ treeRows (S'.length + k) ∧ Under RT (2 * ((S'.length + k) >>> (RT + 1))) A ∧ A.1 < RT := by
  intro A hA
  obtain ⟨hjL, hA2⟩ := mem_destroyedPos.mp hA
  obtain ⟨hb, _, hpop⟩ := (hL.mem A.1).mp hjL
  have hrc := root_chunk_le hb
  have hpos := Nat.two_pow_pos A.1
  -- the first slot of the destroyed root
  have hm : 2 * (S'.length / 2 ^ (A.1 + 1)) * 2 ^ A.1 < S'.length + k := by
    rw [Nat.add_mul, Nat.one_mul] at hrc; omega
  obtain ⟨RT, h1, h2, h3⟩ := exists_tree_of_lt _ _ hm
  have hmdiv : 2 * (S'.length / 2 ^ (A.1 + 1)) * 2 ^ A.1 / 2 ^ (A.1 + 1) = S'.length / 2 ^ (A.1 + 1) := by
    rw [Nat.pow_succ, Nat.mul_comm 2, Nat.mul_assoc, Nat.mul_comm 2,
      Nat.mul_div_cancel _ (by omega)]
  have hlt : A.1 < RT := by
    apply Classical.byContradiction
    intro hc
    have e : (S'.length + k) / 2 ^ (A.1 + 1) = S'.length / 2 ^ (A.1 + 1) := by
      rw [← div_div_pow (show RT + 1 ≤ A.1 + 1 by omega), h3, div_div_pow (by omega), hmdiv]
    have := (Nat.le_div_iff_mul_le (Nat.two_pow_pos (A.1 + 1))).mpr hpop
    omega
  have hin := inTree_of_slot h1 h2 h3 (l := A.1) (by omega)
  rw [Nat.mul_div_cancel _ hpos] at hin
  refine ⟨RT, SpecView.treeRows_mem_of_bit hN h1, ?_, hlt⟩
  rw [Nat.shiftRight_eq_div_pow]
  exact ⟨hin.2.1, by rw [hA2]; exact hin.2.2⟩

theorem destroyed_dtOK (S' : List (Option H)) (k : Nat) (L : List Nat) (hL : DestroySpec S' k L)
    (hN : S'.length + k < 2 ^ 64) (R : Nat) : DtOK (S'.length + k) R (destroyedPos S'.length L) := by
  intro A hA
  obtain ⟨RT, h1, h2, h3⟩ := destroyed_under S' k L hL hN A hA
  exact ⟨RT, h1, h2, fun e => e ▸ h3⟩

theorem edge_moveA (S' : List (Option H)) (adds : List H) (L : List Nat)
    (hL : DestroySpec S' adds.length L) (hN : S'.length + adds.length < 2 ^ 64) {T l b : Nat}
    (hin : Spec.inTree (S'.length + adds.length) T l b)
    (hedge : S'.length < (b / 2 + 1) * 2 ^ (l + 1))
    (hal : chunkAlive (S' ++ adds.map some) l b = true) :
    moveA (S'.length + adds.length) T (destroyedPos S'.length L) (l, b) =
      liftFold 0 (l, b) (deadLevels (chunkAlive (S' ++ adds.map some)) (T - l) l b) := by
  have hpw := destroyedPos_pairwise (n := S'.length) hL.asc
  apply MoveDT.moveA_eq_collapse (chunkAlive (S' ++ adds.map some))
    (hpw.imp (fun h => Nat.le_of_lt h)) (hpw.imp (fun h e => by subst e; omega))
  · -- a live chunk lies inside no destroyed (empty) root
    rintro A hA _ ⟨hle, hu⟩
    simp only at hle hu
    obtain ⟨hjL, hA2⟩ := mem_destroyedPos.mp hA
    obtain ⟨hb, hdead, _⟩ := (hL.mem A.1).mp hjL
    have h1 := chunkAlive_anc _ hal (A.1 - l)
    rw [show l + (A.1 - l) = A.1 by omega, hu, hA2,
      chunkAlive_append_left _ _ _ _ (root_chunk_le hb)] at h1
    rw [h1] at hdead
    cases hdead
  · intro A hA hinA _
    exact (destroyed_dtOK S' adds.length L hL hN T).lt
      (SpecView.treeRows_mem_of_bit (by omega) hin.1) A hA hinA
  · exact ⟨hin.2.1, by rw [Nat.shiftRight_eq_div_pow]; exact hin.2.2⟩
  · intro j h1 h2
    simp only at h1 h2 ⊢
    rw [edge_dead_level S' adds L hL hin hedge h1 h2, mem_destroyedPos_sib hL]

/-- a position below a live old root lies inside no destroyed (empty) root: the old trees are
disjoint -/
theorem old_not_in_destroyed {S' : List (Option H)} {k : Nat} {L : List Nat}
    (hL : DestroySpec S' k L) {h0 : Nat} (hb0 : S'.length.testBit h0 = true)
    (halive : chunkAlive S' h0 (2 * (S'.length / 2 ^ (h0 + 1))) = true) {p0 : Pos}
    (hp0 : Under h0 (2 * (S'.length / 2 ^ (h0 + 1))) p0) {A : Pos}
    (hA : A ∈ destroyedPos S'.length L) : ¬ Under A.1 A.2 p0 := by
  intro hu
  obtain ⟨hjL, hA2⟩ := mem_destroyedPos.mp hA
  obtain ⟨hb, hdead, _⟩ := (hL.mem A.1).mp hjL
  rw [hA2, ← Nat.shiftRight_eq_div_pow] at hu
  rw [← Nat.shiftRight_eq_div_pow] at hp0
  rcases Nat.lt_trichotomy A.1 h0 with h | h | h
  · exact under_disjoint h hb0 hp0 hu
  · rw [h, halive] at hdead; cases hdead
  · exact under_disjoint h hb hu hp0

theorem moveA_old (S' : List (Option H)) (adds : List H) (L : List Nat)
    (hL : DestroySpec S' adds.length L) (hN : S'.length + adds.length < 2 ^ 64) {h0 T : Nat}
    (hb0 : S'.length.testBit h0 = true)
    (hinR : Spec.inTree (S'.length + adds.length) T h0 (2 * (S'.length / 2 ^ (h0 + 1))))
    (halive : chunkAlive S' h0 (2 * (S'.length / 2 ^ (h0 + 1))) = true)
    (p0 : Pos) (hp0 : Under h0 (2 * (S'.length / 2 ^ (h0 + 1))) p0) :
    moveA (S'.length + adds.length) T (destroyedPos S'.length L) p0 =
      liftFold 0 p0 (deadLevels (chunkAlive (S' ++ adds.map some)) (T - h0) h0
        (2 * (S'.length / 2 ^ (h0 + 1)))) := by
  have hpw := destroyedPos_pairwise (n := S'.length) hL.asc
  have hh0T : h0 ≤ T := hinR.2.1
  obtain ⟨hp1, hp2⟩ := hp0
  -- from row `h0` on the ancestors of `p0` are those of the root
  have hanc : ∀ j, h0 ≤ j → p0.2 / 2 ^ (j - p0.1) = 2 * (S'.length / 2 ^ (h0 + 1)) / 2 ^ (j - h0) := by
    intro j hj
    rw [div_pow_split p0.2 hp1 hj, hp2]
  -- a destroyed root on a row below `h0` does not lie in the old tree on row `h0`
  have hout : ∀ A ∈ destroyedPos S'.length L, A.1 < h0 →
      ¬ Under h0 (2 * (S'.length >>> (h0 + 1))) A := by
    intro A hA hlt hu
    obtain ⟨_, hA2⟩ := mem_destroyedPos.mp hA
    have hself : Under A.1 (2 * (S'.length >>> (A.1 + 1))) A := by
      rw [Nat.shiftRight_eq_div_pow, ← hA2]; exact Under.self _ _
    exact under_disjoint hlt hb0 hu hself
  have hedge : S'.length < (2 * (S'.length / 2 ^ (h0 + 1)) / 2 + 1) * 2 ^ (h0 + 1) := by
    rw [Nat.mul_div_cancel_left _ (by decide : 0 < 2)]
    exact lt_succ_div_mul _ _ (Nat.two_pow_pos _)
  have key := MoveDT.moveA_eq_collapse (n := S'.length + adds.length) (R := T)
    (dt := destroyedPos S'.length L) (c := p0)
    (fun j x => decide (j < h0) || chunkAlive (S' ++ adds.map some) j x)
    (hpw.imp (fun h => Nat.le_of_lt h)) (hpw.imp (fun h e => by subst e; omega)) ?_ ?_ ?_ ?_
  · rw [key]
    congr 1
    apply AscFrom.ext (deadLevels_asc _ _ _ _) (deadLevels_asc _ _ _ _)
    intro j
    rw [mem_deadLevels, mem_deadLevels]
    constructor
    · rintro ⟨h1, h2, h3⟩
      simp only [Bool.or_eq_false_iff, decide_eq_false_iff_not, Nat.not_lt] at h3
      rw [hanc j h3.1] at h3
      exact ⟨h3.1, by omega, h3.2⟩
    · rintro ⟨h1, h2, h3⟩
      refine ⟨by omega, by omega, ?_⟩
      simp only [Bool.or_eq_false_iff, decide_eq_false_iff_not, Nat.not_lt]
      rw [hanc j h1]
      exact ⟨h1, h3⟩
  · exact fun A hA _ => old_not_in_destroyed hL hb0 halive ⟨hp1, hp2⟩ hA
  · intro A hA hinA _
    exact (destroyed_dtOK S' adds.length L hL hN T).lt
      (SpecView.treeRows_mem_of_bit (by omega) hinR.1) A hA hinA
  · refine ⟨Nat.le_trans hp1 hh0T, ?_⟩
    rw [Nat.shiftRight_eq_div_pow, div_pow_split p0.2 hp1 hh0T, hp2]
    exact hinR.2.2
  · intro j h1 h2
    rcases Nat.lt_or_ge j h0 with hlt | hge
    · -- below row `h0` nothing is destroyed in this tree
      simp only [decide_eq_true hlt, Bool.true_or]
      constructor
      · intro hm
        exfalso
        apply hout _ hm hlt
        rw [Nat.shiftRight_eq_div_pow]
        exact MoveDT.under_anc_sib ⟨hp1, hp2⟩ h1 hlt
      · intro h; cases h
    · simp only [decide_eq_false (Nat.not_lt.2 hge), Bool.false_or]
      rw [hanc j hge, mem_destroyedPos_sib hL, edge_dead_level S' adds L hL hinR hedge hge h2]

theorem nodePos_add (S' : List (Option H)) (adds : List H) (L : List Nat)
    (hL : DestroySpec S' adds.length L) (hN : S'.length + adds.length < 2 ^ 64)
    {h0 T l b : Nat} (hin' : Spec.inTree S'.length h0 l b) (hal : chunkAlive S' l b = true)
    (hin : Spec.inTree (S'.length + adds.length) T l b) :
    nodePos (S' ++ adds.map some) T l b =
      moveA (S'.length + adds.length) T (destroyedPos S'.length L) (nodePos S' h0 l b) := by
  have hh0T : h0 ≤ T := tree_le (Nat.le_add_right _ _) hin' hin
  obtain ⟨hb0, hl0, hr0⟩ := hin'
  have hinT := hin
  obtain ⟨hbT, hlT, hrT⟩ := hin
  have hlen : (S' ++ adds.map some).length = S'.length + adds.length := by simp
  have hroot : 2 * (S'.length / 2 ^ (h0 + 1)) / 2 ^ (T - h0) =
      2 * ((S'.length + adds.length) / 2 ^ (T + 1)) := by
    rw [← hr0, ← hrT]
    exact (div_pow_split b hl0 hh0T).symm
  have hinR : Spec.inTree (S'.length + adds.length) T h0 (2 * (S'.length / 2 ^ (h0 + 1))) := by
    have := inTree_anc hinT (m := h0 - l) (by omega)
    rwa [hr0, show l + (h0 - l) = h0 by omega] at this
  have halive : chunkAlive S' h0 (2 * (S'.length / 2 ^ (h0 + 1))) = true := by
    have := chunkAlive_anc S' hal (h0 - l)
    rwa [hr0, show l + (h0 - l) = h0 by omega] at this
  -- split the walk at level `h0`
  unfold nodePos
  rw [hlen, show T - l = (T - h0) + (h0 - l) by omega, fpos_split, hr0,
    show l + (h0 - l) = h0 by omega]
  -- the upper part: bottom-up over the dead levels
  have htop : fpos (chunkAlive (S' ++ adds.map some))
      (T, 2 * ((S'.length + adds.length) / 2 ^ (T + 1))) (T - h0) h0
        (2 * (S'.length / 2 ^ (h0 + 1))) =
      liftFold 0 (h0, 2 * (S'.length / 2 ^ (h0 + 1)))
        (deadLevels (chunkAlive (S' ++ adds.map some)) (T - h0) h0
          (2 * (S'.length / 2 ^ (h0 + 1)))) := by
    rw [← hroot, liftFold_rows, Nat.zero_add, ← fpos_eq_liftFold,
      show h0 + (T - h0) = T by omega]
  rw [htop]
  -- the lower part only looks at the old slots
  have hcongr : ∀ top, fpos (chunkAlive (S' ++ adds.map some)) top (h0 - l) l b =
      fpos (chunkAlive S') top (h0 - l) l b := by
    intro top
    apply fpos_congr
    intro j hj
    apply chunkAlive_append_left
    have h1 : Spec.inTree S'.length h0 l b := ⟨hb0, hl0, hr0⟩
    exact inTree_le (inTree_sib (inTree_anc h1 (m := j) (by omega)) (by omega))
  rw [hcongr, fpos_liftFold _ _ _ (deadLevels_asc _ _ _ _) _ _ _ (by simp only; omega)]
  symm
  exact moveA_old S' adds L hL hN hb0 hinR halive _ (fpos_under _ _ _ _ _ (by simp only; omega))

section old_nodes
open UtreexoVerif.Proofs.SpecSubs UtreexoVerif.Proofs.ChunkBridge

/-- the position to which `updateProofAdd` moves an old position: all destroyed roots, applied
in the tree of the NEW forest that contains the position -/
def addMove (n k : Nat) (L : List Nat) (p : Pos) : Pos :=
  moveA (n + k) (treeRowOf (n + k) p) (destroyedPos n L) p

theorem forest_mk_slots (F : Forest H) : Forest.mk F.slots = F := by cases F; rfl

theorem under_of_inTree {N T l b : Nat} (h : Spec.inTree N T l b) :
    Under T (2 * (N >>> (T + 1))) (l, b) := by
  obtain ⟨_, h2, h3⟩ := h
  exact ⟨h2, by rw [Nat.shiftRight_eq_div_pow]; exact h3⟩

section add
variable {F : Forest H} {adds : List H} {L : List Nat}
  (hN : F.numLeaves + adds.length ≤ 2 ^ 63)
  (hL : DestroySpec F.slots adds.length L)
include hN hL

theorem add_sub_tree {h0 : Nat} {p : Pos} {t : CTree H} (s : SubAtT F h0 p t) :
    ∃ T, T ∈ treeRows (F.numLeaves + adds.length) ∧
      Under T (2 * ((F.numLeaves + adds.length) >>> (T + 1))) p ∧
      treeRowOf (F.numLeaves + adds.length) p = T ∧
      SubAtT (F.addMany adds) T (addMove F.numLeaves adds.length L p) t := by
  have hlen : (F.slots ++ adds.map some).length = F.numLeaves + adds.length := by
    simp [Forest.numLeaves]
  have s' : SubAtT (Forest.mk F.slots) h0 p t := by rw [forest_mk_slots]; exact s
  obtain ⟨l, b, hin', hch, hp, _⟩ := chunk_of_subAtT' F.slots s'
  have hal : chunkAlive F.slots l b = true := by unfold chunkAlive; rw [hch]; rfl
  have hle : (b + 1) * 2 ^ l ≤ F.numLeaves := inTree_le hin'
  obtain ⟨T, hin⟩ := exists_tree_of_chunk (N := F.numLeaves + adds.length) (l := l) (b := b)
    (Nat.le_trans hle (Nat.le_add_right _ _))
  have hch' : chunk (F.slots ++ adds.map some) l b = some t := by
    rw [Spec.chunk_append_left F.slots _ _ _ hle]; exact hch
  have hin2 : Spec.inTree (F.slots ++ adds.map some).length T l b := by rw [hlen]; exact hin
  have sG := subAtT_of_chunk (F.slots ++ adds.map some) (by rw [hlen]; omega) hin2 hch'
  have hmv := nodePos_add F.slots adds L hL (by
    have : F.slots.length = F.numLeaves := rfl
    omega) hin' hal hin
  have hT : h0 ≤ T := tree_le (Nat.le_add_right F.slots.length adds.length) hin' hin
  have hl0 : l ≤ h0 := hin'.2.1
  have hinr := inTree_anc hin (m := h0 - l) (by omega)
  rw [show l + (h0 - l) = h0 by omega, hin'.2.2] at hinr
  have hu0 : Under h0 (2 * (F.numLeaves / 2 ^ (h0 + 1))) p := by
    rw [hp]
    unfold nodePos
    exact fpos_under _ (h0, 2 * (F.slots.length / 2 ^ (h0 + 1))) (h0 - l) l b (by simp only; omega)
  have hu : Under T (2 * ((F.numLeaves + adds.length) >>> (T + 1))) p :=
    (under_of_inTree hinr).trans_under hu0
  have hTmem : T ∈ treeRows (F.numLeaves + adds.length) := SpecView.treeRows_mem_of_bit (by omega) hin.1
  have hrow := treeRowOf_under hTmem hu
  refine ⟨T, hTmem, hu, hrow, ?_⟩
  unfold addMove
  rw [hrow]
  have e : F.addMany adds = Forest.mk (F.slots ++ adds.map some) := rfl
  rw [e]
  have : F.slots.length = F.numLeaves := rfl
  rw [this] at hmv
  rw [← hp] at hmv
  rw [← hmv]
  exact sG

theorem add_sub {h0 : Nat} {p : Pos} {t : CTree H} (s : SubAtT F h0 p t) :
    ∃ T, SubAtT (F.addMany adds) T (addMove F.numLeaves adds.length L p) t :=
  let ⟨T, _, _, _, g⟩ := add_sub_tree hN hL s
  ⟨T, g⟩

theorem addMove_inj (hnd : F.liveLeaves.Nodup) {h1 h2 : Nat} {p1 p2 : Pos} {t1 t2 : CTree H}
    (s1 : SubAtT F h1 p1 t1) (s2 : SubAtT F h2 p2 t2)
    (e : addMove F.numLeaves adds.length L p1 = addMove F.numLeaves adds.length L p2) : p1 = p2 := by
  obtain ⟨T1, g1⟩ := add_sub hN hL s1
  obtain ⟨T2, g2⟩ := add_sub hN hL s2
  rw [e] at g1
  obtain ⟨_, et⟩ := g1.unique g2
  subst et
  exact (s1.pos_unique hnd s2).2

end add

end old_nodes

section examples

private inductive Hx | z | a | b | x | y
  deriving DecidableEq

private instance : Hasher Hx := ⟨fun _ _ => Hx.a, Hx.z⟩

/-- three slots: the tree on row 1 is dead, the leaf `x` on row 0 is alive -/
private def exS : List (Option Hx) := [none, none, some .x]

private theorem ex_spec : DestroySpec exS 1 [1] :=
  .of_below 2 (by decide) (by simp [AscFrom]) (by decide) (by decide)

/-- the values: the old leaf at `(0, 2)` ends up at `(1, 0)` below the new root `(2, 0)`
(its sibling is the added leaf, the dead root on row 1 is skipped) -/
example : nodePos exS 0 0 2 = (0, 2) ∧ destroyedPos 3 [1] = [(1, 0)] ∧
    moveA 4 2 [(1, 0)] (0, 2) = (1, 0) ∧ nodePos (exS ++ [Hx.y].map some) 2 0 2 = (1, 0) ∧
    chunkAlive exS 0 2 = true ∧ chunkAlive exS 1 0 = false := by decide

example : nodePos (exS ++ [Hx.y].map some) 2 0 2 =
    moveA (exS.length + [Hx.y].length) 2 (destroyedPos exS.length [1]) (nodePos exS 0 0 2) :=
  nodePos_add exS [.y] [1] ex_spec (by decide) (h0 := 0) ⟨by decide, by decide, by decide⟩
    (by decide) ⟨by decide, by decide, by decide⟩

example : DtOK (exS.length + 1) 2 (destroyedPos exS.length [1]) :=
  destroyed_dtOK exS 1 [1] ex_spec (by decide) 2

/-- seven slots: tree 2 = `[a, b, -, -]`, tree 1 dead, tree 0 = `[x]`; one addition merges all -/
private def exS7 : List (Option Hx) := [some .a, some .b, none, none, none, none, some .x]

private theorem ex_spec7 : DestroySpec exS7 1 [1] :=
  .of_below 3 (by decide) (by simp [AscFrom]) (by decide) (by decide)

/-- `x` moves from `(0, 6)` to `(1, 2)` (lifted over the dead root on row 1); `b` (tree 2, above
the destroyed row) stays at `(1, 1)` -/
example : nodePos exS7 0 0 6 = (0, 6) ∧ nodePos (exS7 ++ [Hx.y].map some) 3 0 6 = (1, 2) ∧
    moveA 8 3 (destroyedPos 7 [1]) (0, 6) = (1, 2) ∧
    nodePos exS7 2 0 1 = (1, 1) ∧ nodePos (exS7 ++ [Hx.y].map some) 3 0 1 = (1, 1) ∧
    moveA 8 3 (destroyedPos 7 [1]) (1, 1) = (1, 1) := by decide

example : nodePos (exS7 ++ [Hx.y].map some) 3 0 6 =
    moveA (exS7.length + [Hx.y].length) 3 (destroyedPos exS7.length [1]) (nodePos exS7 0 0 6) :=
  nodePos_add exS7 [.y] [1] ex_spec7 (by decide) (h0 := 0) ⟨by decide, by decide, by decide⟩
    (by decide) ⟨by decide, by decide, by decide⟩

example : nodePos (exS7 ++ [Hx.y].map some) 3 0 1 =
    moveA (exS7.length + [Hx.y].length) 3 (destroyedPos exS7.length [1]) (nodePos exS7 2 0 1) :=
  nodePos_add exS7 [.y] [1] ex_spec7 (by decide) (h0 := 2) ⟨by decide, by decide, by decide⟩
    (by decide) ⟨by decide, by decide, by decide⟩

end examples

end UtreexoVerif.Proofs.AddMove
