/-
  What `AddBlockSummary` records for a well-formed history (property C15): `TrackerOK`.
-/
import UtreexoVerif.Proofs.SchedIface
import UtreexoVerif.Proofs.SchedRoots
import UtreexoVerif.Proofs.SchedDelRoots

namespace UtreexoVerif.Proofs.SchedTrack
open Spec Spec.Sched Model
open UtreexoVerif.Proofs.SchedSem UtreexoVerif.Proofs.CalcGeo
open UtreexoVerif.Proofs.SchedRoots UtreexoVerif.Proofs.SchedDelRoots UtreexoVerif.Proofs.SchedIface
open UtreexoVerif.Proofs.SchedAddU

/-- the tracker after the first `t` summaries: `SchedIface.TrackerOK` for the blocks before `t`,
and what `AddBlockSummary` reads of the state itself (the last `numLeaves` and `roots`) -/
structure InvT (h : History) (t : Nat) (cs : Tracker) : Prop where
  len_d : cs.deletions.length = t
  len_a : cs.numAdds.length = t
  len_n : cs.numLeaves.length = t
  len_t : cs.toDestroy.length = t
  len_r : cs.roots.length = t
  ent : ∀ (t' : Nat) (b : Block), t' < t → h[t']? = some b →
    cs.deletions[t']? = some (b.delSlots.map fun s => E 63 (posS (stateAt h t') s)) ∧
    cs.numAdds[t']? = some (BitVec.ofNat 16 b.numAdds) ∧
    cs.numLeaves[t']? = some (BitVec.ofNat 64 (stateAt h (t' + 1)).length) ∧
    ∃ td, cs.toDestroy[t']? = some td ∧ TdOK (midS (stateAt h t') b) b.numAdds td
  last : 0 < t → cs.numLeaves.getLast? = some (BitVec.ofNat 64 (stateAt h t).length) ∧
    cs.roots.getLast? = some (rootsOf (stateAt h t))

theorem rootsOf_kill (S : List (Option Nat)) (D : List Nat) :
    rootsOf (SchedSem.kill S D) = (treeRows S.length).map fun h =>
      ({ pos := E 63 (h, 2 * (S.length / 2 ^ (h + 1))),
         isZombie := !Spec.chunkAlive (SchedSem.kill S D) h (2 * (S.length / 2 ^ (h + 1))) } : RootInfo) := by
  unfold rootsOf rootAt
  rw [SchedLives.kill_length]

theorem InvT.snoc {h : History} {t : Nat} {b : Block} {cs : Tracker} (inv : InvT h t cs)
    (hb : h[t]? = some b) {td : List U64} (htdok : TdOK (midS (stateAt h t) b) b.numAdds td) :
    InvT h (t + 1) { cs with
      deletions := cs.deletions ++ [b.delSlots.map fun s => E 63 (posS (stateAt h t) s)],
      numAdds := cs.numAdds ++ [BitVec.ofNat 16 b.numAdds],
      toDestroy := cs.toDestroy ++ [td],
      roots := cs.roots ++ [rootsOf (stateAt h (t + 1))],
      numLeaves := cs.numLeaves ++ [BitVec.ofNat 64 (stateAt h (t + 1)).length] } := by
  refine ⟨by simp [inv.len_d], by simp [inv.len_a], by simp [inv.len_n], by simp [inv.len_t],
    by simp [inv.len_r], ?_, fun _ => by simp⟩
  intro t' b' ht' hb'
  rcases Nat.lt_or_ge t' t with hlt | hge
  · obtain ⟨a1, a2, a3, td', a4, a5⟩ := inv.ent t' b' hlt hb'
    refine ⟨?_, ?_, ?_, td', ?_, a5⟩
    · simp only; rw [List.getElem?_append_left (by rw [inv.len_d]; exact hlt)]; exact a1
    · simp only; rw [List.getElem?_append_left (by rw [inv.len_a]; exact hlt)]; exact a2
    · simp only; rw [List.getElem?_append_left (by rw [inv.len_n]; exact hlt)]; exact a3
    · simp only; rw [List.getElem?_append_left (by rw [inv.len_t]; exact hlt)]; exact a4
  · have : t' = t := by omega
    subst this
    rw [hb] at hb'
    cases hb'
    refine ⟨?_, ?_, ?_, td, ?_, htdok⟩
    · simp only; rw [← inv.len_d]; exact List.getElem?_concat_length
    · simp only; rw [← inv.len_a]; exact List.getElem?_concat_length
    · simp only; rw [← inv.len_n]; exact List.getElem?_concat_length
    · simp only; rw [← inv.len_t]; exact List.getElem?_concat_length

theorem addBlockSummary_spec {h : History} (hw : wellFormed h = true)
    (hadds : ∀ b ∈ h, b.numAdds < 65536) (htot : total h ≤ 2 ^ 62) {t : Nat} {b : Block}
    (hb : h[t]? = some b) {cs : Tracker} (inv : InvT h t cs) :
    ∃ cs', cs.addBlockSummary
        (b.delSlots.map fun s => E (forestRows (stateAt h t).length) (posS (stateAt h t) s))
        (BitVec.ofNat 16 b.numAdds) = .ok cs' ∧ InvT h (t + 1) cs' := by
  have hD := SchedLives.wf_dels hw hb
  have hcan := SchedLives.stateAt_canon h t
  have hK : b.numAdds < 65536 := hadds b (List.mem_of_getElem? hb)
  obtain ⟨hS, hlen, hbound⟩ := SchedLives.block_facts htot hb
  have hklen : (SchedSem.kill (stateAt h t) b.delSlots).length = (stateAt h t).length :=
    SchedLives.kill_length _ _
  rcases Nat.eq_zero_or_pos t with ht0 | htpos
  · -- the first block
    subst ht0
    have hroots : cs.roots = [] := List.eq_nil_of_length_eq_zero inv.len_r
    have hS0 : stateAt h 0 = [] := SchedLives.stateAt_zero h
    have hDnil : b.delSlots = [] := by
      cases hd : b.delSlots with
      | nil => rfl
      | cons s rest =>
        have := hD.2 s (by rw [hd]; exact List.mem_cons_self)
        rw [hS0] at this
        unfold Live at this
        simp at this
    have hadd := addRootInfo_spec [] b.numAdds hK (by simpa [hS0] using hbound)
    have hr0 : rootsOf ([] : List (Option Nat)) = [] := rfl
    simp only [List.length_nil, Nat.zero_add, hr0, List.nil_append] at hadd
    have hSS : stateAt h 1 = fresh 0 b.numAdds := by
      rw [hS, hS0, hDnil]; rfl
    have htd0 : TdOK (midS (stateAt h 0) b) b.numAdds [] := by
      unfold midS
      rw [hS0, hDnil]
      refine ⟨List.nodup_nil, fun x => ⟨fun hx => (by cases hx), ?_⟩⟩
      rintro ⟨r, ⟨hbit, _, _⟩, _⟩
      simp [SchedSem.kill] at hbit
    refine ⟨_, ?_, inv.snoc hb htd0⟩
    unfold Tracker.addBlockSummary
    rw [hroots]
    simp only [List.isEmpty_nil, if_true, cst_eq]
    rw [show (0#64 : U64) = BitVec.ofNat 64 0 from rfl, hadd, hSS, SchedLives.fresh_length, hDnil]
    simp only [List.map_nil]
    rfl
  · -- a later block
    obtain ⟨hl1, hl2⟩ := inv.last htpos
    have hrne : cs.roots.isEmpty = false := by
      cases hr : cs.roots with
      | nil => rw [hr] at hl2; simp at hl2
      | cons _ _ => rfl
    have hlive : ∀ s ∈ b.delSlots, s < (stateAt h t).length := fun s hs => SchedLives.live_lt (hD.2 s hs)
    have htr := translate_targets (stateAt h t) (by omega) b.delSlots hlive
    rw [cst_eq] at htr
    have hdel := delRootInfo_spec (stateAt h t) hcan (by omega) b.delSlots hD.1 hD.2 (treeRows (stateAt h t).length)
      (fun r hr => (Spec.mem_treeRows.mp hr).2)
    rw [← rootsOf_kill] at hdel
    have hdel' : delRootInfo (H8 63) (rootsOf (stateAt h t))
        (b.delSlots.map fun s => E 63 (posS (stateAt h t) s)) =
        rootsOf (SchedSem.kill (stateAt h t) b.delSlots) := hdel
    obtain ⟨td, htd, htdok⟩ := rootInfoToDestroy_spec (SchedSem.kill (stateAt h t) b.delSlots) b.numAdds hK
      (by rw [hklen]; exact hbound)
    have hadd := addRootInfo_spec (SchedSem.kill (stateAt h t) b.delSlots) b.numAdds hK
      (by rw [hklen]; exact hbound)
    rw [hklen] at htd hadd
    rw [← hS, ← hlen] at hadd
    refine ⟨_, ?_, inv.snoc hb htdok⟩
    unfold Tracker.addBlockSummary
    rw [hrne]
    simp only [Bool.false_eq_true, if_false, hl1, hl2, bind, Out.bind, htr, cst_eq, hdel', htd, hadd]
    rfl

theorem fold_spec {h : History} (hw : wellFormed h = true) (hadds : ∀ b ∈ h, b.numAdds < 65536)
    (htot : total h ≤ 2 ^ 62) : ∀ (rest : List Block) (t : Nat) (cs : Tracker), t ≤ h.length → h.drop t = rest →
    InvT h t cs →
    ∃ tr, ((rest.zipIdx t).map (summ h)).foldlM (fun cs b => cs.addBlockSummary b.1 b.2) cs = .ok tr ∧
      InvT h h.length tr := by
  intro rest
  induction rest with
  | nil =>
    intro t cs htl hdrop inv
    have ht : h.length ≤ t := by
      have := congrArg List.length hdrop
      simp at this; omega
    have : t = h.length := by omega
    subst this
    exact ⟨cs, rfl, inv⟩
  | cons b rest ih =>
    intro t cs htl hdrop inv
    have hb : h[t]? = some b := by
      have := congrArg (fun l => l[0]?) hdrop
      simpa using this
    have hdrop' : h.drop (t + 1) = rest := by
      rw [← List.drop_drop, hdrop]; rfl
    obtain ⟨cs', h1, inv'⟩ := addBlockSummary_spec hw hadds htot hb inv
    have htlt : t < h.length := (List.getElem?_eq_some_iff.mp hb).1
    obtain ⟨tr, h2, inv''⟩ := ih (t + 1) cs' htlt hdrop' inv'
    refine ⟨tr, ?_, inv''⟩
    simp only [List.zipIdx_cons, List.map_cons, List.foldlM_cons, bind, Out.bind]
    have : (summ h (b, t)).1 = b.delSlots.map fun s =>
        E (forestRows (stateAt h t).length) (posS (stateAt h t) s) := rfl
    rw [show (summ h (b, t)).2 = BitVec.ofNat 16 b.numAdds from rfl, this, h1]
    exact h2

theorem ofBlocks_spec {h : History} {blocks : List (List U64 × U16)} (hw : wellFormed h = true)
    (hadds : ∀ b ∈ h, b.numAdds < 65536) (htot : total h ≤ 2 ^ 62)
    (hs : Props.C15.summariesOf h = some blocks) :
    ∃ tr, Tracker.ofBlocks blocks = .ok tr ∧ TrackerOK h tr := by
  have hbl := summaries_spec hw htot hs
  have inv0 : InvT h 0 Tracker.new :=
    ⟨rfl, rfl, rfl, rfl, rfl, fun t' b ht' => by omega, fun h0 => by omega⟩
  obtain ⟨tr, h1, inv⟩ := fold_spec hw hadds htot h 0 Tracker.new (Nat.zero_le _) rfl inv0
  refine ⟨tr, ?_, ?_⟩
  · unfold Tracker.ofBlocks
    rw [hbl]
    exact h1
  · refine ⟨inv.len_d, inv.len_a, inv.len_n, inv.len_t, ?_, ?_, ?_, ?_⟩
    · intro t b hb; exact (inv.ent t b (List.getElem?_eq_some_iff.mp hb).1 hb).1
    · intro t b hb; exact (inv.ent t b (List.getElem?_eq_some_iff.mp hb).1 hb).2.1
    · intro t b hb; exact (inv.ent t b (List.getElem?_eq_some_iff.mp hb).1 hb).2.2.1
    · intro t b hb; exact (inv.ent t b (List.getElem?_eq_some_iff.mp hb).1 hb).2.2.2

end UtreexoVerif.Proofs.SchedTrack
