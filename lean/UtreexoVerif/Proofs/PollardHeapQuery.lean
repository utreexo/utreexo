/-
  Pointer forest, heap model: `calculatePosition` / `GetLeafPosition` on a represented forest.
  The first loop of `calculatePosition` (along the AUNT pointers) from a context node observes
  `PollardAbs.nieceFlags` of the node's child path and ends at the root; the second loop compares
  root hashes through the heap and is the list version of `Model/PollardAbs.lean`.
-/
import UtreexoVerif.Proofs.PollardHeapOpen
import UtreexoVerif.Props.C10
import UtreexoVerif.Proofs.PollardHeapAdd
set_option linter.unusedSectionVars false

namespace UtreexoVerif.Proofs.PollardHeap
open UtreexoVerif.GoInt UtreexoVerif.Model UtreexoVerif.Model.PollardHeap UtreexoVerif.Spec
open UtreexoVerif.Model.PollardAbs UtreexoVerif.Proofs.SpecNodes UtreexoVerif.Proofs.SpecSubs
open UtreexoVerif.Proofs.PollardLookup

variable {H : Type} [DecidableEq H] [Hasher H]

theorem climb_top {st : Pollard H} {c : Nat} {cn : PolNode H} (hc : st.heap[c]? = some cn)
    (ha : cn.aunt = none) (f : Nat) (lri : U64) (r : Nat) :
    climb (f + 1) c lri r st = (.ok (c, lri, r), st) := by
  rw [climb]
  simp only [bind_apply, node_apply, hc, ha, pure_apply]

theorem climb_step {st : Pollard H} {c a : Nat} {cn an : PolNode H} (hc : st.heap[c]? = some cn)
    (ha : cn.aunt = some a) (han : st.heap[a]? = some an) (f : Nat) (lri : U64) (r : Nat) :
    climb (f + 1) c lri r st =
      climb f a (climbLoop [decide (an.lNiece = some c)] lri r).1
        (climbLoop [decide (an.lNiece = some c)] lri r).2 st := by
  rw [climb]
  simp only [bind_apply, node_apply, hc, ha, han, climbLoop, decide_eq_true_eq]

theorem nieceFlags_reverse_cons (b : Bool) (l : List Bool) :
    nieceFlags (b :: l).reverse = (!b) :: l := by
  unfold nieceFlags
  rw [List.reverse_reverse]

theorem nodup_ctx_up {root c s : Nat} {fs fpu : List Nat}
    (nd : (root :: c :: s :: (fs ++ fpu)).Nodup) : c ≠ s ∧ (root :: fpu).Nodup :=
  ⟨fun e => (List.nodup_cons.1 (List.nodup_cons.1 nd).2).1 (e ▸ List.mem_cons_self),
    nd.sublist (.cons_cons root (.cons c (.cons s (List.sublist_append_right fs fpu))))⟩

/-- the climb from the niece holder of a context node: one step per level, the flag is "the
ancestor on that level is a right child" (the holder is its sibling) -/
theorem climb_holder {root : Nat} {st : Pollard H} {up : CCtx H} {n h : Nat} {fpu : List Nat}
    {l1 l2 : List (H × Nat)} (hu : CtxRepr st.heap root up n h fpu l1 l2) :
    ∀ (fuel : Nat) (lri : U64) (r : Nat), (root :: fpu).Nodup → up.depth + 1 ≤ fuel →
    climb fuel h lri r st =
      (.ok (root, (climbLoop up.revPath lri r).1, (climbLoop up.revPath lri r).2), st) := by
  induction hu with
  | top h1 h2 =>
    intro fuel lri r _ hf
    cases fuel with
    | zero => exact absurd hf (Nat.not_succ_le_zero _)
    | succ f => exact climb_top h1 h2 f lri r
  | step d hu2 k hs ih =>
    intro fuel lri r nd hf
    rw [CCtx.depth_cons] at hf
    cases fuel with
    | zero => exact absurd hf (Nat.not_succ_le_zero _)
    | succ f =>
      obtain ⟨hcs, ndu⟩ := nodup_ctx_up nd
      obtain ⟨hn0, h1, _⟩ := k.holder
      obtain ⟨_, ⟨sn, h5, h7⟩⟩ := k.sel_c
      rw [climb_step h5 h7 h1, (k.flags hcs h1).2, ih f _ _ ndu (Nat.le_of_succ_le_succ hf),
        CCtx.revPath_cons]
      rfl

/-- the climb from a context node observes `nieceFlags` of its child path: the first step
sees the node itself, the others its ancestors' siblings -/
theorem climb_ctx {root : Nat} {ctx : CCtx H} {st : Pollard H} {c hc : Nat} {fpc : List Nat}
    {l1 l2 : List (H × Nat)} (h : CtxRepr st.heap root ctx c hc fpc l1 l2)
    (nd : (root :: fpc).Nodup) (fuel : Nat) (hf : ctx.depth + 1 ≤ fuel) :
    climb fuel c 0#64 0 st =
      (.ok (root, (climbLoop (nieceFlags ctx.revPath.reverse) 0#64 0).1,
        (climbLoop (nieceFlags ctx.revPath.reverse) 0#64 0).2), st) := by
  cases fuel with
  | zero => exact absurd hf (Nat.not_succ_le_zero _)
  | succ f =>
    cases h with
    | top h1 h2 => exact climb_top h1 h2 f _ _
    | step d hu k hs =>
      rw [CCtx.depth_cons] at hf
      obtain ⟨hcs, ndu⟩ := nodup_ctx_up nd
      obtain ⟨hn0, h1, _⟩ := k.holder
      obtain ⟨⟨cn, h4, h6⟩, _⟩ := k.sel_c
      rw [climb_step h4 h6 h1, (k.flags hcs h1).1,
        climb_holder hu f _ _ ndu (Nat.le_of_succ_le_succ hf), CCtx.revPath_cons,
        nieceFlags_reverse_cons]
      rfl

def RootsData (hp : Heap H) (roots : List Nat) (ds : List H) : Prop :=
  roots.length = ds.length ∧
    ∀ (j r : Nat), roots[j]? = some r → ∃ rn : PolNode H, hp[r]? = some rn ∧ ds[j]? = some rn.data

theorem rootsData_of_repr {hp : Heap H} {rs : List Nat} {ts : List (Option (CTree H))}
    {owned : List Nat} {lv : List (H × Nat)} (h : ReprRoots hp rs ts owned lv) :
    RootsData hp rs (ts.map rootHashO) := by
  refine ⟨h.length_eq.trans (List.length_map _).symm, ?_⟩
  intro j r hj
  have hlt : j < ts.length := h.length_eq ▸ (List.getElem?_eq_some_iff.1 hj).1
  obtain ⟨fp, l, hr⟩ := h.getElem j r ts[j] hj (List.getElem?_eq_getElem hlt)
  obtain ⟨rn, e1, e2⟩ := hr.rootHashO
  exact ⟨rn, e1, by rw [List.getElem?_map, List.getElem?_eq_getElem hlt, e2]; rfl⟩

/-- the second loop of `calculatePosition` with `k` roots not yet looked at: the hash looked for must be
among them, so that the index never runs below zero -/
theorem findRootRow_heap (nl : U64) (data : H) (roots : List Nat) (ds : List H) (st : Pollard H)
    (hd : RootsData st.heap roots ds) : ∀ (fuel h k : Nat), k ≤ roots.length →
    data ∈ ds.take k →
    PollardHeap.findRootRow nl data roots fuel h ((k : Int) - 1) st =
      (.ok (PollardAbs.findRootRow nl data fuel h (ds.take k).reverse), st) := by
  intro fuel
  induction fuel with
  | zero => intro h k _ _; rfl
  | succ fuel ih =>
    intro h k hk hmem
    rw [PollardHeap.findRootRow]
    conv => rhs; rw [PollardAbs.findRootRow.eq_def]
    simp only []
    by_cases hb : ((shr nl h &&& 1#64) == 1#64) = true
    · cases k with
      | zero => exact absurd hmem List.not_mem_nil
      | succ k =>
        obtain ⟨r, hr⟩ : ∃ r, roots[k]? = some r := ⟨_, List.getElem?_eq_getElem hk⟩
        obtain ⟨rn, e1, e2⟩ := hd.2 k r hr
        have etake : ds.take (k + 1) = ds.take k ++ [rn.data] := by
          rw [List.take_add_one, e2]
          rfl
        have hidx : ((k + 1 : Nat) : Int) - 1 = (k : Int) := Int.add_sub_cancel (k : Int) 1
        have hnn : ¬ (k : Int) < 0 := Int.not_lt.2 (Int.natCast_nonneg k)
        rw [etake] at hmem
        rw [etake, List.reverse_append, hidx]
        simp only [hb, if_true, hnn, if_false, Int.toNat_natCast, hr, bind_apply, node_apply, e1,
          List.reverse_cons, List.reverse_nil, List.nil_append, List.cons_append]
        by_cases hdata : rn.data = data
        · simp only [hdata, if_true, pure_apply]
        · simp only [hdata, if_false]
          exact ih (h + 1) k (Nat.le_of_succ_le hk)
            ((List.mem_append.1 hmem).resolve_right
              (fun e => hdata (List.mem_singleton.1 e).symm))
    · simp only [hb, Bool.false_eq_true, if_false]
      exact ih (h + 1) k hk hmem

theorem calculatePosition_heap {st : Pollard H} {F : Forest H} {root : Nat} {ctx : CCtx H}
    {c hc : Nat} {fpc : List Nat} {l1 l2 : List (H × Nat)} {rn : PolNode H}
    (hN : st.numLeaves = BitVec.ofNat 64 F.numLeaves)
    (hd : RootsData st.heap st.roots F.roots)
    (h : CtxRepr st.heap root ctx c hc fpc l1 l2) (nd : (root :: fpc).Nodup)
    (hr : st.heap[root]? = some rn) (hmem : rn.data ∈ F.roots) :
    PollardHeap.calculatePosition (some c) st =
      (.ok (PollardAbs.calculatePosition F (nieceFlags ctx.revPath.reverse) rn.data), st) := by
  have hdep := h.depth_le
  have hlen := nodup_length_le nd h.lt
  simp only [List.length_cons] at hlen
  have hclimb := climb_ctx h nd (st.heap.size + 1) (by omega)
  have hfind := findRootRow_heap st.numLeaves rn.data st.roots F.roots st hd
    ((TreeRows st.numLeaves).toNat + 1) 0 st.roots.length (Nat.le_refl _)
    (by rw [hd.1, List.take_length]; exact hmem)
  rw [hd.1, List.take_length] at hfind
  have hlenI : ((st.roots.length : Int) - 1) = ((F.roots.length : Nat) : Int) - 1 := by rw [hd.1]
  rw [hN] at hfind
  unfold PollardHeap.calculatePosition PollardAbs.calculatePosition
  simp only [bind_apply, deref_some, heapSize_apply, hclimb, getNumLeaves_apply, getRoots_apply,
    node_apply, hr, hlenI, hfind, pure_apply, hN]

theorem ReprRoots.tree_root {hp : Heap H} {rs owned : List Nat} {lv : List (H × Nat)}
    {F : Forest H} (h : ReprRoots hp rs (F.trees.map (·.2)) owned lv) (hnd : owned.Nodup)
    {R : Nat} (hR : R ∈ treeRows F.numLeaves) {t : CTree H}
    (ht : PollardLookup.treeOf F R = some t) :
    ∃ root fp lk, RootRepr hp root t fp lk ∧ (root :: fp).Nodup ∧ ∀ e ∈ lk, e ∈ lv := by
  have hidx : (F.trees.map (·.2))[(treeRows F.numLeaves).idxOf R]? = some (some t) := by
    rw [List.getElem?_map, trees_getElem F hR, ht]
    rfl
  obtain ⟨root, fp, O, lk, L, _, hrr, pO, pL, _⟩ := h.openAt hidx
  exact ⟨root, fp, lk, hrr, (List.nodup_append.1 ((pO.nodup_iff).1 hnd)).1,
    fun e he => pL.mem_iff.2 (List.mem_append_left _ he)⟩

theorem RootRepr.leaf_ctx {hp : Heap H} {root : Nat} {t : CTree H} {fp : List Nat}
    {lk : List (H × Nat)} (hrr : RootRepr hp root t fp lk) (nd : (root :: fp).Nodup)
    {π : List Bool} {x : H} (hw : childPath t π = some (.leaf x)) :
    ∃ ctx c hc fpc l1 l2, CtxRepr hp root ctx c hc fpc l1 l2 ∧ (root :: fpc).Nodup ∧
      (x, c) ∈ lk ∧ ctx.revPath = π.reverse := by
  obtain ⟨ctx, c, hc, fc, lc, fpc, l1, l2, hctx, hsubc, _, hperm, rfl, _, _, hrev⟩ := RootRepr.zoom hrr hw
  cases hsubc
  rw [List.append_nil] at hperm
  exact ⟨ctx, c, hc, fpc, l1, l2, hctx, ((hperm.cons root).nodup_iff).2 nd, by simp, hrev⟩

/-- what finding a tree by its root hash asks of the forest: the root hash of a NON-EMPTY tree stands at
no lower row (every empty tree has the root `zero`, so `F.roots.Nodup`, which implies this, fails for
a forest with two empty trees) -/
def RootsApart (F : Forest H) : Prop :=
  ∀ R ∈ treeRows F.numLeaves, PollardLookup.treeOf F R ≠ none →
    ∀ R' ∈ treeRows F.numLeaves, R' < R → treeRoot F R' ≠ treeRoot F R

theorem RootsApart.of_nodup {F : Forest H} (h : F.roots.Nodup) : RootsApart F :=
  fun R hR _ R' hR' hlt he => Nat.ne_of_lt hlt
    (Sorted.inj_of_pairwise_ne (treeRoot F) _ (List.pairwise_map.1 (SpecNodes.roots_eq F ▸ h)) R' hR' R hR he)

theorem calculatePosition_leaf {F : Forest H} (hn : F.numLeaves < 2 ^ 63) (hroots : RootsApart F)
    {x : H} {q : Pos} (hq : F.posOf x = some q) :
    ∃ R t π, R ∈ treeRows F.numLeaves ∧ PollardLookup.treeOf F R = some t ∧
      childPath t π = some (.leaf x) ∧ t.hash ∈ F.roots ∧
      PollardAbs.calculatePosition F (nieceFlags π) t.hash = encU F.rows q.1 q.2 := by
  obtain ⟨R, s⟩ := posOf_sub hq
  obtain ⟨t, ht, hd, hm⟩ := s.tree
  obtain ⟨hrR, hoff⟩ := s.under
  have hR := s.1
  have hw : childWalk t (R - q.1) q.2 = some (.leaf x) := subs_walk t R _ hd (q, _) hm
  rw [PollardCalcPos.childWalk_eq_childPath] at hw
  have hdata : t.hash = treeRoot F R := (Spec.treeRoot_some ht).symm
  have hmin : ∀ R', R' < R → F.numLeaves.testBit R' = true → treeRoot F R' ≠ treeRoot F R :=
    fun R' hlt hb' => hroots R hR (fun e => Option.some_ne_none t (ht.symm.trans e)) R'
      (Spec.mem_treeRows.2 ⟨Nat.le_trans (Nat.le_of_lt hlt) (Spec.mem_treeRows.1 hR).1, hb'⟩) hlt
  refine ⟨R, t, _, hR, ht, hw, ?_, ?_⟩
  · rw [hdata, SpecNodes.roots_eq]
    exact List.mem_map_of_mem hR
  · rw [hdata]
    exact PollardCalcPos.calculatePosition_enc F hn s.bit hrR hoff hmin

theorem leafLookup_abs {p : Pollard H} {F : Forest H} (a : Abs p F) (hn : F.numLeaves < 2 ^ 63)
    (hroots : RootsApart F) {h : H} (hl : h ∈ F.liveLeaves) :
    ∃ c q, mapGet p.nodeMap h = some c ∧ F.posOf h = some q ∧
      PollardHeap.calculatePosition (some c) p = (.ok (encU F.rows q.1 q.2), p) := by
  obtain ⟨q, hq⟩ := Spec.posOf_isSome_of_live (Nat.lt_trans hn (by decide)) hl
  obtain ⟨R, t, π, hR, ht, hw, hmemroots, hcalc⟩ := calculatePosition_leaf hn hroots hq
  obtain ⟨owned, lv, hrepr, hnd, hmk, hmm⟩ := a.repr
  obtain ⟨root, fp, lk, hrr, ndroot, hlk⟩ := hrepr.tree_root hnd hR ht
  obtain ⟨ctx, c, hc, fpc, l1, l2, hctx, ndc, hmem, hrev⟩ := hrr.leaf_ctx ndroot hw
  obtain ⟨rn, hr, dz⟩ := hrr.2.hash
  refine ⟨c, q, mapGet_of_mem hmk ((hmm _).2 (hlk _ hmem)), hq, ?_⟩
  rw [calculatePosition_heap (numLeaves_eq_ofNat a.numLeaves)
    (map_rootHashO_trees F ▸ rootsData_of_repr hrepr) hctx ndc hr (dz ▸ hmemroots),
    hrev, List.reverse_reverse, dz, hcalc]

theorem getLeafPosition_abs {p : Pollard H} {F : Forest H} (a : Abs p F)
    (hn : F.numLeaves < 2 ^ 63) (hroots : RootsApart F) (h : H) :
    getLeafPosition h p = (.ok (PollardAbs.pollardGetLeafPosition F h), p) := by
  unfold getLeafPosition PollardAbs.pollardGetLeafPosition
  by_cases hl : h ∈ F.liveLeaves
  · obtain ⟨c, q, hget, hq, hcalc⟩ := leafLookup_abs a hn hroots hl
    simp only [bind_apply, nodeMapGet_apply, hget, hcalc, pure_apply, hq]
    rfl
  · have hnone : mapGet p.nodeMap h = none :=
      mapGet_none_of_not_mem (fun hc => hl (((a.keys_iff (Nat.lt_trans hn (by decide))).2.2 _).1 hc))
    have hpos : F.posOf h = none :=
      (Props.C10.posOf_eq_none_iff F (Nat.lt_trans hn (by decide)) h).2 hl
    simp only [bind_apply, nodeMapGet_apply, hnone, pure_apply, hpos]

end UtreexoVerif.Proofs.PollardHeap
