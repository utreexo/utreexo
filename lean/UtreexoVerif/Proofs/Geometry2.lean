/-
  The `Nat` content of the remaining bit tricks of utils.go: the shifted masks of `ParentMany` and
  `rootPosition`; `treeRows` below the forest height; the `inForest` loop; `removeBit`/`addBit`
  digit-wise and `calcNextPosition`/`calcPrevPosition` on codes; the order of two numbers by their
  highest differing digit (a node's leaves lie below `n` iff it is below the root of a tree); every
  value below `2^(h+1) - 1` is a code.
-/
import UtreexoVerif.Proofs.Geometry
import UtreexoVerif.Proofs.FinalPos

namespace UtreexoVerif.Proofs
open UtreexoVerif.GoInt

theorem U8_gt_iff (a b : U8) : decide (a > b) = decide (b.toNat < a.toNat) := by
  simp [BitVec.lt_def]

/-- `Nat` content of the `ParentMany` bit trick for any value below `2^(h+1)`: `x >> k`, OR-ed with
the mask `2^(h+1) - 1` shifted left by `forestRows - (rise - 1) = h + 1 - k` (in 64 bits), AND-ed
with the mask: `k` ones in front of `x / 2^k` -/
theorem parentMany_nat {h k x : Nat} (hh : h ≤ 63) (hk : k ≤ h + 1) (hx : x < 2 ^ (h + 1)) :
    (x / 2 ^ k ||| (2 ^ (h + 1) - 1) * 2 ^ (h + 1 - k) % 2 ^ 64) % 2 ^ (h + 1)
      = 2 ^ (h + 1) - 2 ^ (h + 1 - k) + x / 2 ^ k := by
  have hs : 2 ^ (h + 1) = 2 ^ (h + 1 - k) * 2 ^ k := two_pow_split hk
  have hps : 0 < 2 ^ (h + 1 - k) := Nat.two_pow_pos _
  have hle : 2 ^ (h + 1 - k) ≤ 2 ^ (h + 1) := two_pow_le_of_le (by omega)
  have hdiv : x / 2 ^ k < 2 ^ (h + 1 - k) := div_two_pow_lt hk hx
  rw [Nat.or_mod_two_pow, mod_64_mod_two_pow _ (by omega), pred_mul_mod hps hle,
    Nat.mod_eq_of_lt (by omega)]
  have e : 2 ^ (h + 1) - 2 ^ (h + 1 - k) = 2 ^ (h + 1 - k) * (2 ^ k - 1) := by
    rw [Nat.mul_sub_one, ← hs]
  rw [e, Nat.or_comm, ← Nat.two_pow_add_eq_or_of_lt hdiv]


theorem parentMany_toNat {h k : Nat} (hh : h ≤ 63) (hk : k ≤ h) (x : U64)
    (hx : x.toNat < 2 ^ (h + 1)) :
    Model.ParentMany x (H8 k) (H8 h) =
      (BitVec.ofNat 64 (2 ^ (h + 1) - 2 ^ (h + 1 - k) + x.toNat / 2 ^ k), false) := by
  by_cases hk0 : k = 0
  · subst hk0
    rw [Nat.sub_zero, Nat.sub_self, Nat.zero_add, Nat.pow_zero, Nat.div_one, BitVec.ofNat_toNat,
      BitVec.setWidth_eq]
    rfl
  · have hle : 2 ^ (h + 1 - k) ≤ 2 ^ (h + 1) := two_pow_le_of_le (by omega)
    have h64 : 2 ^ (h + 1) ≤ 2 ^ 64 := two_pow_le_of_le (by omega)
    have hdiv : x.toNat / 2 ^ k < 2 ^ (h + 1 - k) := div_two_pow_lt (by omega) hx
    unfold Model.ParentMany
    rw [H8_beq_zero_eq (by omega), decide_eq_false hk0,
      decide_eq_false (show ¬ (H8 k > H8 h) from fun hc => by
        have := (H8_lt_iff (by omega) (by omega)).1 hc; omega)]
    simp only [Bool.false_eq_true, if_false]
    congr 1
    apply BitVec.eq_of_toNat_eq
    rw [show (1#8 : U8) = H8 1 from rfl, H8_sub (by omega) (by omega), H8_sub (by omega) (by omega),
      toNat_conv64_U8, toNat_H8 (by omega), toNat_H8 (by omega), toNat_H8 (by omega),
      toNat_and_mask hh, BitVec.toNat_or, toNat_shr, toNat_shl, toNat_mask hh,
      show h - (k - 1) = h + 1 - k by omega, parentMany_nat hh (by omega) hx,
      toNat_ofNat64_of_lt (by omega)]

theorem parentMany_err (x : U64) (rise fr : U8) :
    (Model.ParentMany x rise fr).2 = decide (fr.toNat < rise.toNat) := by
  unfold Model.ParentMany
  rw [U8_beq_zero, U8_gt_iff]
  by_cases h0 : rise.toNat = 0
  · simp [h0]
  · by_cases h1 : fr.toNat < rise.toNat <;> simp [h0, h1]

theorem childMany_err (x : U64) (drop fr : U8) :
    (Model.ChildMany x drop fr).2 = decide (fr.toNat < drop.toNat) := by
  unfold Model.ChildMany
  rw [U8_beq_zero, U8_gt_iff]
  by_cases h0 : drop.toNat = 0
  · simp [h0]
  · by_cases h1 : fr.toNat < drop.toNat <;> simp [h0, h1]


/-- AND with the mask shifted by `s` clears the low `s` digits -/
theorem and_shifted_mask {n h s : Nat} (hh : h ≤ 63) (hn : n < 2 ^ (h + 1)) :
    n &&& ((2 ^ (h + 1) - 1) * 2 ^ s % 2 ^ 64) = n / 2 ^ s * 2 ^ s := by
  apply Nat.eq_of_testBit_eq
  intro j
  rw [Nat.testBit_and, Nat.testBit_mod_two_pow, Nat.testBit_mul_two_pow, Nat.testBit_mul_two_pow,
    Nat.testBit_two_pow_sub_one, Nat.testBit_div_two_pow]
  by_cases hj : j < h + 1
  · by_cases hs : s ≤ j
    · simp [hs]; intro _; omega
    · simp [hs]
  · have : n.testBit j = false :=
      Nat.testBit_lt_two_pow (Nat.lt_of_lt_of_le hn (two_pow_le_of_le (by omega)))
    rw [this]
    by_cases hs : s ≤ j
    · simp [hs]; assumption
    · simp [hs]

theorem rootPosition_toNat {h row : Nat} (hh : h ≤ 63) (hrow : row ≤ h) (n : U64)
    (hn : n.toNat < 2 ^ (h + 1)) :
    (Model.rootPosition n (H8 row) (H8 h)).toNat =
      2 ^ (h + 1) - 2 ^ (h + 1 - row) + 2 * (n.toNat / 2 ^ (row + 1)) := by
  have hb : n.toNat / 2 ^ (row + 1) * 2 ^ (row + 1) ≤ n.toNat := Nat.div_mul_le_self _ _
  have hd : n.toNat / 2 ^ (row + 1) * 2 ^ (row + 1) / 2 ^ row = 2 * (n.toNat / 2 ^ (row + 1)) := by
    have e : n.toNat / 2 ^ (row + 1) * 2 ^ (row + 1) = 2 * (n.toNat / 2 ^ (row + 1)) * 2 ^ row := by
      rw [Nat.pow_succ]; ac_rfl
    rw [e, Nat.mul_div_cancel _ (Nat.two_pow_pos _)]
  unfold Model.rootPosition
  rw [BitVec.ofNat_add_ofNat, BitVec.ofNat_add_ofNat, H8_sub (by omega) (by omega), toNat_H8_le (by omega),
    toNat_H8_le (by omega), toNat_H8_le (by omega), toNat_H8_le (by omega), toNat_and_mask hh, BitVec.toNat_or, toNat_shr,
    toNat_shl, BitVec.toNat_and, toNat_shl, toNat_mask hh, and_shifted_mask hh hn,
    parentMany_nat hh (by omega) (by omega), hd]


theorem rootPos_offset_lt {n h row : Nat} (hn : n ≤ 2 ^ h) (hb : n.testBit row = true) :
    row ≤ h ∧ 2 * (n >>> (row + 1)) < 2 ^ (h - row) := by
  have hge := Nat.ge_two_pow_of_testBit hb
  have hrow : row ≤ h := (Nat.pow_le_pow_iff_right (a := 2) (by decide)).1 (Nat.le_trans hge hn)
  refine ⟨hrow, ?_⟩
  have hb' : n / 2 ^ row % 2 = 1 := testBit_div_odd.mp hb
  have hm : n / 2 ^ row ≤ 2 ^ (h - row) := div_two_pow_le hrow hn
  rw [Nat.shiftRight_eq_div_pow, Nat.pow_succ, ← Nat.div_div_eq_div_mul]
  omega

theorem treeRowsFrom_of_lt {n : Nat} : ∀ {k h : Nat}, n < 2 ^ (h + 1) →
    Spec.treeRowsFrom (h + k) n = Spec.treeRowsFrom h n
  | 0, h, _ => rfl
  | k + 1, h, hn => by
    have hb : n.testBit (h + k + 1) = false :=
      Nat.testBit_lt_two_pow (Nat.lt_of_lt_of_le hn (two_pow_le_of_le (by omega)))
    rw [show h + (k + 1) = (h + k) + 1 by omega, Spec.treeRowsFrom, hb]
    simp only [Bool.false_eq_true, if_false]
    exact treeRowsFrom_of_lt hn

theorem treeRows_eq_from {n h : Nat} (hh : h ≤ 64) (hn : n < 2 ^ (h + 1)) :
    Spec.treeRows n = Spec.treeRowsFrom h n := by
  unfold Spec.treeRows
  rw [show 64 = h + (64 - h) by omega]
  exact treeRowsFrom_of_lt hn

theorem rootExistsOnRow_eq (n : U64) (row : U8) :
    Model.rootExistsOnRow n row = n.toNat.testBit row.toNat := by
  unfold Model.rootExistsOnRow
  rw [shr_eq, shr_and_one_beq]

/-- `numLeaves & (1 << row) != 0` tests bit `row` -/
theorem rootPresent_eq (n : U64) (k : Nat) :
    ((n &&& shl 1#64 k) != 0#64) = n.toNat.testBit k := by
  by_cases hr : k < 64
  · rw [one_shl_eq_twoPow, and_twoPow_ne_zero _ hr]; rfl
  · have : shl 1#64 k = 0#64 := by
      unfold shl; rw [if_neg hr]
    rw [this]
    have hb : n.toNat.testBit k = false :=
      Nat.testBit_lt_two_pow (Nat.lt_of_lt_of_le n.isLt (two_pow_le_of_le (by omega)))
    simp [hb]


theorem shl_one_shl_one (h : Nat) : shl (shl 1#64 h) 1 = shl 2#64 h := by
  apply BitVec.eq_of_toNat_eq
  rw [toNat_shl, toNat_shl, toNat_two_shl, Nat.pow_one, Nat.mod_mul_mod, Nat.pow_succ 2 h]
  show 1 * 2 ^ h * 2 % 2 ^ 64 = _
  rw [Nat.one_mul]

theorem enc_and_marker {h r o : Nat} (hh : h ≤ 63) (hr : r ≤ h) (ho : o < 2 ^ (h - r)) :
    ((encU h r o &&& shl 1#64 h) != 0#64) = decide (0 < r) := by
  rw [one_shl_eq_twoPow, and_twoPow_ne_zero _ (by omega), encU, getLsbD_ofNat64 (by omega)]
  by_cases h0 : 0 < r
  · have := enc_testBit_above (k := 0) hr ho h0
    rw [Nat.sub_zero] at this
    rw [this]; simp [h0]
  · have h0' : r = 0 := by omega
    subst h0'
    have := enc_testBit_row hr ho
    rw [Nat.sub_zero] at this
    rw [this]; simp

/-- the `inForest` loop walks down right children to the last leaf below the position -/
theorem inForest_loop {h : Nat} (hh : h ≤ 63) :
    ∀ (r o fuel : Nat), r ≤ h → o < 2 ^ (h - r) → r < fuel →
      Model.inForest.loop1 (shl 1#64 h) (shl 2#64 h - 1#64) fuel (encU h r o) =
        .done (encU h 0 ((o + 1) * 2 ^ r - 1))
  | 0, o, fuel, hr, ho, hf => by
    obtain ⟨f, rfl⟩ : ∃ f, fuel = f + 1 := ⟨fuel - 1, by omega⟩
    unfold Model.inForest.loop1
    rw [enc_and_marker hh hr ho]
    simp
  | r + 1, o, fuel, hr, ho, hf => by
    obtain ⟨f, rfl⟩ : ∃ f, fuel = f + 1 := ⟨fuel - 1, by omega⟩
    have g := enc_facts_succ (show r < h by omega)
    unfold Model.inForest.loop1
    rw [enc_and_marker hh hr ho]
    simp only [Nat.zero_lt_succ, decide_true, if_true]
    have e : (shl (encU h (r + 1) o) 1 &&& (shl 2#64 h - 1#64)) ||| 1#64 =
        Model.RightChild (encU h (r + 1) o) (H8 h) := by
      unfold Model.RightChild
      rw [toNat_H8 hh]
    have hR := rightChild_encU hh (show r < h by omega) ho
    rw [e, hR, inForest_loop hh r (2 * o + 1) f (by omega) (by omega) (by omega)]
    congr 3
    rw [Nat.pow_succ]
    have : (2 * o + 1 + 1) * 2 ^ r = (o + 1) * (2 ^ r * 2) := by
      rw [show 2 * o + 1 + 1 = (o + 1) * 2 by omega, Nat.mul_assoc, Nat.mul_comm 2]
    rw [this]

theorem last_leaf_le_enc {h r o : Nat} (hr : r ≤ h) (ho : o < 2 ^ (h - r)) :
    (o + 1) * 2 ^ r - 1 ≤ Spec.enc h (r, o) ∧ (o + 1) * 2 ^ r ≤ 2 ^ h ∧ 0 < (o + 1) * 2 ^ r := by
  have f := enc_facts hr
  have e : 2 ^ h = 2 ^ (h - r) * 2 ^ r := two_pow_split hr
  have h1 : (o + 1) * 2 ^ r ≤ 2 ^ h := by
    rw [e]; exact Nat.mul_le_mul_right _ (by omega)
  have h2 : 0 < (o + 1) * 2 ^ r := Nat.mul_pos (by omega) (Nat.two_pow_pos _)
  refine ⟨?_, h1, h2⟩
  by_cases h0 : r = 0
  · subst h0
    rw [enc_val]; simp
  · have : 2 ^ (h + 1 - r) ≤ 2 ^ h := two_pow_le_of_le (by omega)
    rw [enc_val]; omega


/-- delete bit `b`: the bits above move down one place -/
def removeBitNat (v b : Nat) : Nat := 2 ^ b * (v / 2 ^ (b + 1)) + v % 2 ^ b

/-- insert `bit` at place `p`: the bits at and above `p` move up one place -/
def addBitNat (v p : Nat) (bit : Bool) : Nat :=
  2 ^ p * (2 * (v / 2 ^ p) + bit.toNat) + v % 2 ^ p

theorem testBit_removeBitNat (v b j : Nat) :
    (removeBitNat v b).testBit j = if j < b then v.testBit j else v.testBit (j + 1) :=
  FinalPos.testBit_removeBitNat v b j

theorem testBit_addBitNat (v p : Nat) (bit : Bool) (j : Nat) :
    (addBitNat v p bit).testBit j =
      if j < p then v.testBit j else if j = p then bit else v.testBit (j - 1) := by
  unfold addBitNat
  rw [Nat.testBit_two_pow_mul_add _ (Nat.mod_lt _ (Nat.two_pow_pos _)), Nat.testBit_mod_two_pow]
  split
  · simp [*]
  · split
    · rename_i h1 h2
      subst h2
      rw [Nat.sub_self, Nat.testBit_zero]
      cases bit <;> simp [Bool.toNat] <;> omega
    · obtain ⟨k, hk⟩ : ∃ k, j - p = k + 1 := ⟨j - p - 1, by omega⟩
      rw [hk, Nat.testBit_succ]
      have : (2 * (v / 2 ^ p) + bit.toNat) / 2 = v / 2 ^ p := by
        cases bit <;> simp [Bool.toNat] <;> omega
      rw [this, Nat.testBit_div_two_pow, show k + p = j - 1 by omega]

theorem removeBitNat_addBitNat (v p : Nat) (bit : Bool) : removeBitNat (addBitNat v p bit) p = v := by
  apply Nat.eq_of_testBit_eq
  intro j
  rw [testBit_removeBitNat, testBit_addBitNat, testBit_addBitNat]
  by_cases h : j < p
  · simp [h]
  · rw [if_neg h, if_neg (by omega), if_neg (by omega), Nat.add_sub_cancel]

theorem addBitNat_removeBitNat (v p : Nat) : addBitNat (removeBitNat v p) p (v.testBit p) = v := by
  apply Nat.eq_of_testBit_eq
  intro j
  rw [testBit_addBitNat, testBit_removeBitNat, testBit_removeBitNat]
  by_cases h : j < p
  · simp [h]
  · rw [if_neg h]
    by_cases h2 : j = p
    · simp [h2]
    · rw [if_neg h2, if_neg (by omega), show j - 1 + 1 = j by omega]

theorem removeBitNat_lt {v b k : Nat} (hb : b ≤ k) (hv : v < 2 ^ (k + 1)) :
    removeBitNat v b < 2 ^ k :=
  FinalPos.removeBitNat_lt hb hv

theorem addBitNat_lt {v p k : Nat} (bit : Bool) (hp : p ≤ k) (hv : v < 2 ^ k) :
    addBitNat v p bit < 2 ^ (k + 1) := by
  apply Nat.lt_pow_two_of_testBit
  intro i hi
  rw [testBit_addBitNat, if_neg (by omega), if_neg (by omega)]
  exact Nat.testBit_lt_two_pow (Nat.lt_of_lt_of_le hv (two_pow_le_of_le (by omega)))


theorem removeBitNat_row_lt {h r o d : Nat} (hd : r + d < h) (ho : o < 2 ^ (h - r)) :
    removeBitNat o d < 2 ^ (h - (r + 1)) :=
  FinalPos.removeBitNat_row_lt hd ho

theorem addBitNat_row_lt {h r x d : Nat} (bit : Bool) (hd : r + d < h) (hx : x < 2 ^ (h - (r + 1))) :
    addBitNat x d bit < 2 ^ (h - r) := by
  have := addBitNat_lt (p := d) (k := h - (r + 1)) bit (by omega) hx
  rwa [show h - (r + 1) + 1 = h - r by omega] at this

theorem shl_two_eq (b : Nat) : shl 2#64 b = shl 1#64 (b + 1) := by
  apply BitVec.eq_of_toNat_eq
  rw [toNat_two_shl, toNat_shl]
  simp

theorem mask_getLsbD (b i : Nat) :
    (shl 1#64 b - 1#64).getLsbD i = (decide (i < 64) && decide (i < b)) := by
  by_cases hb : b < 64
  · have e : shl 1#64 b - 1#64 = BitVec.ofNat 64 (2 ^ b - 1) := by
      apply BitVec.eq_of_toNat_eq
      have h1 : 2 ^ b < 2 ^ 64 := two_pow_lt_of_lt hb
      have h2 := Nat.two_pow_pos b
      rw [BitVec.toNat_sub, toNat_one_shl (by omega), toNat_ofNat64_of_lt (by omega)]
      simp only [BitVec.toNat_ofNat]
      omega
    rw [e, BitVec.getLsbD_ofNat, Nat.testBit_two_pow_sub_one]
  · have e : shl 1#64 b - 1#64 = BitVec.allOnes 64 := by
      unfold shl; rw [if_neg hb]; decide
    rw [e, BitVec.getLsbD_allOnes]
    by_cases hi : i < 64
    · have : i < b := by omega
      simp [hi, this]
    · simp [hi]

theorem removeBit_getLsbD (v bit : U64) (i : Nat) :
    (Model.removeBit v bit).getLsbD i =
      if i < bit.toNat then v.getLsbD i else v.getLsbD (i + 1) := by
  -- bit by bit: the masks of `removeBit` (and of `addBit` below) are low masks, read by `mask_getLsbD`;
  -- the rest is the case split on `i < bit`, `i < 64`, `i + 1 < 64`
  unfold Model.removeBit maxUint64
  simp only [shl_two_eq, shr_eq, BitVec.getLsbD_or, BitVec.getLsbD_ushiftRight, BitVec.getLsbD_and,
    BitVec.getLsbD_xor, BitVec.getLsbD_not, BitVec.getLsbD_allOnes, mask_getLsbD]
  by_cases hi : i < 64
  · by_cases hib : i < bit.toNat
    · by_cases hi1 : i + 1 < 64
      · have : 1 + i < bit.toNat + 1 := by omega
        have h1 : 1 + i < 64 := by omega
        simp [hi, hib, this, h1]
      · have : v.getLsbD (1 + i) = false := BitVec.getLsbD_of_ge _ _ (by omega)
        simp [hi, hib, this]
    · have : ¬ (1 + i < bit.toNat + 1) := by omega
      simp [hi, hib, Nat.add_comm 1 i]
      intro h1
      by_cases hi1 : i + 1 < 64
      · simp [hi1]
      · have : v.getLsbD (i + 1) = false := BitVec.getLsbD_of_ge _ _ (by omega)
        simp [this] at h1
  · have h1 : v.getLsbD (1 + i) = false := BitVec.getLsbD_of_ge _ _ (by omega)
    have h2 : v.getLsbD i = false := BitVec.getLsbD_of_ge _ _ (by omega)
    have h3 : v.getLsbD (i + 1) = false := BitVec.getLsbD_of_ge _ _ (by omega)
    simp [h1, h2, h3]


theorem removeBit_toNat (v bit : U64) :
    (Model.removeBit v bit).toNat = removeBitNat v.toNat bit.toNat := by
  apply Nat.eq_of_testBit_eq
  intro j
  rw [BitVec.testBit_toNat, removeBit_getLsbD, testBit_removeBitNat, BitVec.testBit_toNat,
    BitVec.testBit_toNat]

theorem addBit_getLsbD (v place : U64) (bit : Bool) (i : Nat) (hi : i < 64) :
    (Model.addBit v place bit).getLsbD i =
      if i < place.toNat then v.getLsbD i else if i = place.toNat then bit
        else v.getLsbD (i - 1) := by
  unfold Model.addBit maxUint64
  generalize place.toNat = p
  have hm : (shl 1#64 p).getLsbD i = decide (i = p) := by
    rw [one_shl_eq_twoPow, BitVec.getLsbD_twoPow]
    by_cases h : i = p <;> simp [h] <;> omega
  have key : ((shl (v &&& (BitVec.allOnes 64 ^^^ (shl 1#64 p - 1#64))) 1) |||
      (v &&& ~~~(BitVec.allOnes 64 ^^^ (shl 1#64 p - 1#64)))).getLsbD i =
      if i < p then v.getLsbD i else if i = p then false else v.getLsbD (i - 1) := by
    simp only [shl_eq (_ &&& _), BitVec.getLsbD_or,
      BitVec.getLsbD_shiftLeft, BitVec.getLsbD_and,
      BitVec.getLsbD_xor, BitVec.getLsbD_not, BitVec.getLsbD_allOnes, mask_getLsbD]
    have h64 : i - 1 < 64 := by omega
    by_cases h1 : i < p
    · have : i - 1 < p := by omega
      simp [hi, h1, this, h64]
    · by_cases h2 : i = p
      · subst h2
        by_cases h0 : i = 0
        · subst h0; simp
        · have : i - 1 < i := by omega
          simp [hi, this, h64]
      · have : ¬ (i - 1 < p) := by omega
        have h0 : ¬ (i < 1) := by omega
        simp [hi, h1, h2, this, h64, h0]
  cases bit
  · simp only [Bool.false_eq_true, if_false]
    exact key
  · simp only [if_true]
    rw [BitVec.getLsbD_or, key, hm]
    by_cases h1 : i < p
    · have : ¬ i = p := by omega
      simp [h1, this]
    · by_cases h2 : i = p <;> simp [h1, h2]

theorem addBit_toNat (v place : U64) (bit : Bool) :
    (Model.addBit v place bit).toNat = addBitNat v.toNat place.toNat bit % 2 ^ 64 := by
  apply Nat.eq_of_testBit_eq
  intro j
  rw [BitVec.testBit_toNat, Nat.testBit_mod_two_pow, testBit_addBitNat]
  by_cases hj : j < 64
  · rw [addBit_getLsbD _ _ _ _ hj]
    simp only [hj, decide_true, Bool.true_and, BitVec.testBit_toNat]
  · rw [BitVec.getLsbD_of_ge _ _ (by omega)]
    simp [hj]


theorem removeBitNat_mul_add (c o b : Nat) :
    removeBitNat (2 ^ (b + 1) * c + o) b = 2 ^ b * c + removeBitNat o b := by
  unfold removeBitNat
  rw [Nat.mul_add_div (Nat.two_pow_pos _), Nat.pow_succ, Nat.mul_assoc, Nat.mul_add_mod,
    Nat.mul_add, Nat.add_assoc]

theorem enc_removeBit (b d r o : Nat) :
    removeBitNat (Spec.enc (b + d + 1 + r) (r, o)) d = Spec.enc (b + d + r) (r, removeBitNat o d) := by
  rw [enc_depth, enc_depth, show b + d + 1 + 1 = (d + 1) + (b + 1) by omega, Nat.pow_add, Nat.mul_assoc,
    removeBitNat_mul_add, ← Nat.mul_assoc, ← Nat.pow_add, Nat.add_left_comm, Nat.add_assoc]

theorem calcNext_nat {h r o d : Nat} (hd : r + d < h) (ho : o < 2 ^ (h - r)) :
    2 ^ h ||| removeBitNat (Spec.enc h (r, o)) d = Spec.enc h (r + 1, removeBitNat o d) := by
  obtain ⟨b, rfl⟩ : ∃ b, h = b + d + 1 + r := ⟨h - (r + d + 1), by omega⟩
  rw [show b + d + 1 + r - r = b + d + 1 by omega] at ho
  have hx : removeBitNat o d < 2 ^ (b + d + 1) :=
    Nat.lt_trans (removeBitNat_lt (Nat.le_add_left d b) ho) (two_pow_lt_of_lt (Nat.lt_succ_self _))
  have hlt := enc_depth_lt (r := r) hx
  rw [← Nat.pow_add, Nat.add_right_comm (b + d) 1 r] at hlt
  rw [enc_removeBit, Nat.add_right_comm (b + d) 1 r, one_front hlt]
  exact enc_nest (b + d) r _ 1

/-- inserting a path bit at place `d` (and dropping the row marker bit `h`) moves the
node one row down: `(r + 1, x) ↦ (r, x with bit inserted at d)`; this is `calcNext_nat` read
backwards -/
theorem calcPrev_nat {h r x d : Nat} (bit : Bool) (hd : r + d < h) (hx : x < 2 ^ (h - (r + 1))) :
    ∃ R, R < 2 ^ h ∧ Spec.enc h (r + 1, x) = 2 ^ h ||| R ∧
      addBitNat R d bit = Spec.enc h (r, addBitNat x d bit) := by
  have hy := addBitNat_row_lt bit hd hx
  have hb : (Spec.enc h (r, addBitNat x d bit)).testBit d = bit := by
    rw [enc_testBit (by omega) hy, if_pos (by omega), testBit_addBitNat, if_neg (Nat.lt_irrefl d),
      if_pos rfl]
  refine ⟨removeBitNat (Spec.enc h (r, addBitNat x d bit)) d, ?_, ?_, ?_⟩
  · exact removeBitNat_lt (by omega) (by have := enc_lt_aux (show r ≤ h by omega) hy; omega)
  · rw [calcNext_nat hd hy, removeBitNat_addBitNat]
  · have := addBitNat_removeBitNat (Spec.enc h (r, addBitNat x d bit)) d
    rwa [hb] at this

theorem clear_twoPow {R h : Nat} (hR : R < 2 ^ h) :
    BitVec.ofNat 64 (2 ^ h ||| R) &&& ~~~BitVec.twoPow 64 h = BitVec.ofNat 64 R := by
  apply BitVec.eq_of_getLsbD_eq
  intro i hi
  rw [BitVec.getLsbD_and, BitVec.getLsbD_not, BitVec.getLsbD_twoPow, getLsbD_ofNat64 hi,
    getLsbD_ofNat64 hi, Nat.testBit_or, Nat.testBit_two_pow]
  by_cases hih : h = i
  · subst hih
    simp [Nat.testBit_lt_two_pow hR]
  · simp [hih, hi]


theorem exists_highest_diff : ∀ (y x : Nat), x < y →
    ∃ i, x.testBit i = false ∧ y.testBit i = true ∧ ∀ j, i < j → x.testBit j = y.testBit j := by
  intro y
  induction y using Nat.strongRecOn with
  | _ y ih =>
    intro x hxy
    by_cases hlt : x / 2 < y / 2
    · obtain ⟨i, h1, h2, h3⟩ := ih (y / 2) (by omega) (x / 2) hlt
      refine ⟨i + 1, ?_, ?_, ?_⟩
      · rw [Nat.testBit_succ]; exact h1
      · rw [Nat.testBit_succ]; exact h2
      · intro j hj
        obtain ⟨j', rfl⟩ : ∃ j', j = j' + 1 := ⟨j - 1, by omega⟩
        rw [Nat.testBit_succ, Nat.testBit_succ]
        exact h3 j' (by omega)
    · have heq : x / 2 = y / 2 := by omega
      refine ⟨0, ?_, ?_, ?_⟩
      · rw [Nat.testBit_zero]; simp; omega
      · rw [Nat.testBit_zero]; simp; omega
      · intro j hj
        obtain ⟨j', rfl⟩ : ∃ j', j = j' + 1 := ⟨j - 1, by omega⟩
        rw [Nat.testBit_succ, Nat.testBit_succ, heq]

theorem lt_of_highest_diff {x y i : Nat} (hx : x.testBit i = false) (hy : y.testBit i = true)
    (hj : ∀ j, i < j → x.testBit j = y.testBit j) : x < y := by
  have e : x / 2 ^ (i + 1) = y / 2 ^ (i + 1) := by
    apply Nat.eq_of_testBit_eq
    intro j
    rw [Nat.testBit_div_two_pow, Nat.testBit_div_two_pow, hj _ (by omega)]
  have h1 := mod_two_pow_succ_testBit x i
  have h2 := mod_two_pow_succ_testBit y i
  rw [hx] at h1
  rw [hy] at h2
  simp only [Bool.false_eq_true, if_false, if_true] at h1 h2
  have h3 := Nat.div_add_mod x (2 ^ (i + 1))
  have h4 := Nat.div_add_mod y (2 ^ (i + 1))
  have h5 := Nat.mod_lt x (Nat.two_pow_pos i)
  rw [e] at h3
  omega

/-- the leftmost leaf `o * 2^r` of a node below the root of the tree on row `R` agrees with
the leaf count above bit `R` and has bit `R` clear -/
theorem leftmost_leaf_bits {n r o R : Nat} (hr : r ≤ R) (hroot : o / 2 ^ (R - r) = 2 * (n >>> (R + 1))) :
    (o * 2 ^ r).testBit R = false ∧ ∀ t, R < t → (o * 2 ^ r).testBit t = n.testBit t := by
  have hdiv : o * 2 ^ r / 2 ^ R = 2 * (n / 2 ^ (R + 1)) := by
    rw [two_pow_split hr, Nat.mul_div_mul_right _ _ (Nat.two_pow_pos r), hroot,
      Nat.shiftRight_eq_div_pow]
  have key : ∀ i, (o * 2 ^ r).testBit (i + R) = (2 * (n / 2 ^ (R + 1))).testBit i := by
    intro i; rw [← Nat.testBit_div_two_pow, hdiv]
  constructor
  · have := key 0
    rw [Nat.zero_add] at this
    rw [this, Nat.testBit_zero]; simp
  · intro t ht
    obtain ⟨i, rfl⟩ : ∃ i, t = (i + 1) + R := ⟨t - R - 1, by omega⟩
    rw [key, Nat.testBit_succ, Nat.mul_div_cancel_left _ (by decide : 0 < 2),
      Nat.testBit_div_two_pow]
    congr 1
    omega


/-- a node's leaves lie within `[0, n)` iff one of its ancestors-or-self is the root of
one of the trees given by the set bits of `n` -/
theorem below_root_iff {n r o : Nat} :
    (o + 1) * 2 ^ r ≤ n ↔
      ∃ R, r ≤ R ∧ n.testBit R = true ∧ o / 2 ^ (R - r) = 2 * (n >>> (R + 1)) := by
  constructor
  · intro hle
    have hom : o < n / 2 ^ r := by
      have := (Nat.le_div_iff_mul_le (Nat.two_pow_pos r)).2 hle
      omega
    obtain ⟨i, h1, h2, h3⟩ := exists_highest_diff _ _ hom
    refine ⟨r + i, by omega, ?_, ?_⟩
    · rw [Nat.testBit_div_two_pow] at h2
      rw [Nat.add_comm]; exact h2
    · rw [show r + i - r = i by omega, Nat.shiftRight_eq_div_pow]
      have e : o / 2 ^ i / 2 = n / 2 ^ (r + i + 1) := by
        apply Nat.eq_of_testBit_eq
        intro j
        rw [← Nat.testBit_succ, Nat.testBit_div_two_pow, Nat.testBit_div_two_pow, h3 _ (by omega),
          Nat.testBit_div_two_pow]
        congr 1; omega
      have e0 : o / 2 ^ i % 2 = 0 := div_even_of_testBit_false h1
      omega
  · rintro ⟨R, hr, hb, hroot⟩
    obtain ⟨hLR, habove⟩ := leftmost_leaf_bits hr hroot
    -- the last leaf below the node
    have hx : ∀ t, r ≤ t → (2 ^ r * o + (2 ^ r - 1)).testBit t = (o * 2 ^ r).testBit t := by
      intro t ht
      rw [Nat.testBit_two_pow_mul_add _ (by have := Nat.two_pow_pos r; omega), if_neg (by omega),
        Nat.testBit_mul_two_pow]
      simp [ht]
    have hlt : 2 ^ r * o + (2 ^ r - 1) < n := by
      apply lt_of_highest_diff (i := R)
      · rw [hx R hr]; exact hLR
      · exact hb
      · intro j hj
        rw [hx j (by omega), habove j hj]
    have := Nat.two_pow_pos r
    rw [Nat.add_mul, Nat.one_mul, Nat.mul_comm]
    omega

theorem enc_surjective {h x : Nat} (hx : x < 2 ^ (h + 1) - 1) :
    ∃ r o, r ≤ h ∧ o < 2 ^ (h - r) ∧ Spec.enc h (r, o) = x := by
  have key : ∀ k, k ≤ h + 1 → x < 2 ^ (h + 1) - 2 ^ (h + 1 - k) →
      ∃ r o, r ≤ h ∧ o < 2 ^ (h - r) ∧ Spec.enc h (r, o) = x := by
    intro k
    induction k with
    | zero => intro _ hlt; rw [Nat.sub_zero, Nat.sub_self] at hlt; omega
    | succ k ih =>
      intro hk hlt
      by_cases hlt' : x < 2 ^ (h + 1) - 2 ^ (h + 1 - k)
      · exact ih (by omega) hlt'
      · have f := enc_facts (show k ≤ h by omega)
        rw [show h + 1 - (k + 1) = h - k by omega] at hlt
        refine ⟨k, x - (2 ^ (h + 1) - 2 ^ (h + 1 - k)), by omega, by omega, ?_⟩
        rw [enc_val]; omega
  exact key (h + 1) (Nat.le_refl _) (by rw [Nat.sub_self]; simpa using hx)

end UtreexoVerif.Proofs
