/-
  What a canonical proof `F.canon L = some (ts, ps)` says about its targets `ts`, their path set and proof
  positions, in the vocabulary of the node list `F.nodes`: the facts the fill takes (`pathData_canon`).
  Namespace: `MapIngest`.
-/
import UtreexoVerif.Proofs.MapFill
import UtreexoVerif.Proofs.MapCoords
import UtreexoVerif.Proofs.MapSInv

namespace UtreexoVerif.Proofs.MapIngest
open Spec MapInv MapPrune
  PForestSpec MapSInv Hasher

variable {H : Type} [DecidableEq H] [Hasher H]

open SpecPlan (canon_spec pathSet pathSet_sub canon_targetsOK proofPositions_eq targets_sub_pathSet)
open CalcPlan (needsProof)
variable {F : Forest H} {L : List H} {ts : List Pos} {ps : List H}

/-- the hash of the node at a position (zero where there is none): the map proofs' name for `SpecPlan.trueAt` -/
abbrev tvF (F : Forest H) (q : Pos) : H := SpecPlan.trueAt F q

theorem tvF_of_mem {q : Pos} {x : H} {b : Bool} (hm : (q, x, b) ∈ F.nodes) : tvF F q = x := by
  unfold tvF SpecPlan.trueAt
  rw [SpecNodes.nodeAt_eq_some_iff.2 ⟨b, hm⟩]
  rfl

theorem ts_iff (hn : F.numLeaves < 2 ^ 64) (hy : Hyg F) (hc : F.canon L = some (ts, ps)) (t : Pos) :
    t ∈ ts ↔ ∃ x, x ∈ L ∧ (t, x, true) ∈ F.nodes := by
  obtain ⟨ht, hp, _, _⟩ := canon_spec hc
  rw [ht, List.mem_map]
  constructor
  · rintro ⟨l, hl, rfl⟩
    obtain ⟨p, hpl⟩ := hp l hl
    rw [hpl]
    exact ⟨l, hl, Spec.posOf_some_mem hpl⟩
  · rintro ⟨x, hx, hm⟩
    have := (posOf_iff F hn hy).2 hm
    exact ⟨x, hx, by rw [this]; rfl⟩

theorem ps_node (hc : F.canon L = some (ts, ps)) {q : Pos} (hq : q ∈ pathSet F ts) :
    ∃ b, (q, tvF F q, b) ∈ F.nodes := by
  obtain ⟨h, t, s⟩ := pathSet_sub (canon_targetsOK hc) hq
  refine ⟨SpecNodes.isLeaf t, ?_⟩
  unfold tvF SpecPlan.trueAt
  rw [s.nodeAt]
  exact s.node_mem

theorem ts_node (hc : F.canon L = some (ts, ps)) {t : Pos} (ht : t ∈ ts) : ∃ x, (t, x, true) ∈ F.nodes := by
  obtain ⟨h, l, s⟩ := canon_targetsOK hc t ht
  exact ⟨l, s.node_mem⟩

theorem ts_belowRoot (hc : F.canon L = some (ts, ps)) : ∀ t ∈ ts, ∃ R, BelowRoot F.numLeaves t.1 t.2 R := by
  intro t ht
  obtain ⟨x, hx⟩ := ts_node hc ht
  exact SpecSubs.mem_nodes_belowRoot hx

theorem mem_ps_iff (hc : F.canon L = some (ts, ps)) (q : Pos) :
    q ∈ pathSet F ts ↔ ∃ t ∈ ts, ∃ R, BelowRoot F.numLeaves t.1 t.2 R ∧ Anc q t ∧ q.1 ≤ R :=
  mem_paths_of F (ts_belowRoot hc) q

theorem ps_anc (hc : F.canon L = some (ts, ps)) {q : Pos} (hq : q ∈ pathSet F ts) : ∃ t ∈ ts, Anc q t := by
  obtain ⟨t, ht, R, _, ha, _⟩ := (mem_ps_iff hc q).1 hq
  exact ⟨t, ht, ha⟩

theorem ps_of_anc (hc : F.canon L = some (ts, ps)) {q t : Pos} {h : H} {b : Bool} (hq : (q, h, b) ∈ F.nodes)
    (ht : t ∈ ts) (ha : Anc q t) : q ∈ pathSet F ts := by
  obtain ⟨R, hb⟩ := SpecSubs.mem_nodes_belowRoot hq
  simp only at hb
  exact (mem_ps_iff hc q).2 ⟨t, ht, R, MapLiftGeo.belowRoot_of_anc hb ha, ha, hb.1⟩

theorem pp_iff (q : Pos) : q ∈ F.proofPositions ts ↔
    q ∉ pathSet F ts ∧ ∃ x ∈ pathSet F ts, ¬ FRoot F x ∧ q = sib x := by
  rw [proofPositions_eq, List.mem_map]
  constructor
  · rintro ⟨x, hx, rfl⟩
    obtain ⟨h1, h2⟩ := List.mem_filter.1 hx
    simp only [needsProof, Bool.and_eq_true, Bool.not_eq_eq_eq_not, Bool.not_true,
      decide_eq_false_iff_not] at h2
    exact ⟨h2.2, x, h1, by unfold FRoot; rw [h2.1]; simp, rfl⟩
  · rintro ⟨h1, x, hx, hnr, rfl⟩
    refine ⟨x, List.mem_filter.2 ⟨hx, ?_⟩, rfl⟩
    simp only [needsProof, Bool.and_eq_true, Bool.not_eq_eq_eq_not, Bool.not_true,
      decide_eq_false_iff_not]
    exact ⟨not_froot_iff.1 hnr, h1⟩

theorem pp_node (hc : F.canon L = some (ts, ps)) {q : Pos} (hq : q ∈ F.proofPositions ts) :
    ∃ b, (q, tvF F q, b) ∈ F.nodes := by
  obtain ⟨_, _, _, h4⟩ := canon_spec hc
  obtain ⟨x, hx⟩ := h4 q hq
  unfold tvF SpecPlan.trueAt
  rw [hx]
  exact SpecNodes.nodeAt_eq_some_iff.1 hx

theorem ps_hashes (hc : F.canon L = some (ts, ps)) : ps = (F.proofPositions ts).map (tvF F) :=
  (canon_spec hc).2.2.1

theorem ts_val (hn : F.numLeaves < 2 ^ 64) (hy : Hyg F) (hc : F.canon L = some (ts, ps))
    {t : Pos} (ht : t ∈ ts) : tvF F t ∈ L ∧ (t, tvF F t, true) ∈ F.nodes := by
  obtain ⟨x, hx, hm⟩ := (ts_iff hn hy hc t).1 ht
  rw [tvF_of_mem hm]
  exact ⟨hx, hm⟩

theorem pathData_canon (hc : F.canon L = some (ts, ps)) :
    PathData F.nodes (FRoot F) (pathSet F ts) (F.proofPositions ts) ts (tvF F) where
  leaf := fun _ ht => ts_node hc ht
  psn := fun _ hq => ps_node hc hq
  pst := fun _ hq => ps_anc hc hq
  ts_ps := fun _ ht => targets_sub_pathSet (canon_targetsOK hc) ht
  ps_of := fun _ _ _ _ hq ht ha => ps_of_anc hc hq ht ha
  pp := pp_iff
  ppn := fun _ hq => pp_node hc hq

omit [DecidableEq H] [Hasher H] in
theorem pp_belowRoot {ts : List Pos} (hb : ∀ t ∈ ts, ∃ R, BelowRoot F.numLeaves t.1 t.2 R) {q : Pos}
    (hq : q ∈ F.proofPositions ts) : ∃ R, BelowRoot F.numLeaves q.1 q.2 R := by
  obtain ⟨w, ⟨t, ht, R, hbt, hanc, hle⟩, hnr, rfl, _⟩ := (mem_spec_proofPositions_of F hb q).1 hq
  have hw := belowRoot_anc hbt hanc hle
  have hne : w.1 ≠ R := by
    intro e
    have := belowRoot_isRootPos hw
    rw [hnr] at this
    simp [e] at this
  exact ⟨R, by rw [CalcGeo.sib_fst]; exact belowRoot_sib hw hne⟩

variable {T : Nat}

theorem ts_valid (hc : F.canon L = some (ts, ps)) (hT : F.rows ≤ T) {t : Pos} (ht : t ∈ ts) :
    MapInv.Valid T t := by
  obtain ⟨x, hx⟩ := ts_node hc ht
  exact MapInv.node_valid hT hx

theorem ps_valid (hc : F.canon L = some (ts, ps)) (hT : F.rows ≤ T) {q : Pos} (hq : q ∈ pathSet F ts) :
    MapInv.Valid T q := by
  obtain ⟨b, hb⟩ := ps_node hc hq
  exact MapInv.node_valid hT hb

theorem pp_valid (hc : F.canon L = some (ts, ps)) (hT : F.rows ≤ T) {q : Pos}
    (hq : q ∈ F.proofPositions ts) : MapInv.Valid T q := by
  obtain ⟨b, hb⟩ := pp_node hc hq
  exact MapInv.node_valid hT hb

/-- the hashes that `putCalculated` caches (those of the calculated nodes that are targets) are the leaves `L` -/
theorem calc_targets_iff (hn64 : F.numLeaves < 2 ^ 64) (hy : Hyg F)
    (hc : F.canon L = some (ts, ps)) (x : H) :
    (∃ t ∈ pathSet F ts, decide (t ∈ ts) = true ∧ tvF F t = x) ↔ x ∈ L := by
  constructor
  · rintro ⟨t, h1, h2, h3⟩
    have := ts_val hn64 hy hc (of_decide_eq_true h2)
    rw [h3] at this
    exact this.1
  · intro h
    obtain ⟨_, hp, _, _⟩ := canon_spec hc
    obtain ⟨p, hpl⟩ := hp x h
    have hm := Spec.posOf_some_mem hpl
    have hpts : p ∈ ts := (ts_iff hn64 hy hc p).2 ⟨x, h, hm⟩
    exact ⟨p, targets_sub_pathSet (canon_targetsOK hc) hpts, decide_eq_true hpts, tvF_of_mem hm⟩

end UtreexoVerif.Proofs.MapIngest
