/-
  `Nat` / `BitVec` arithmetic for the whole development: powers of two and division by them, binary
  digits (`testBit`), xor / or / and with `1`, `BitVec.ofNat` and `toNat` at widths 8 and 64, shifts and
  masks.  A goal about a bit trick of utils.go is moved to `Nat` with `BitVec.eq_of_toNat_eq` and
  closed by `omega` over the powers of two as atoms.
-/
import UtreexoVerif.Go.Int

namespace UtreexoVerif.Proofs
open UtreexoVerif.GoInt

theorem two_pow_le_of_le {a b : Nat} (h : a ≤ b) : 2 ^ a ≤ 2 ^ b :=
  Nat.pow_le_pow_right (by decide) h

theorem two_pow_lt_of_lt {a b : Nat} (h : a < b) : 2 ^ a < 2 ^ b :=
  Nat.pow_lt_pow_right (by decide) h

theorem two_pow_succ' (a : Nat) : 2 ^ (a + 1) = 2 * 2 ^ a := by
  rw [Nat.pow_succ, Nat.mul_comm]

theorem two_pow_split {a b : Nat} (h : a ≤ b) : 2 ^ b = 2 ^ (b - a) * 2 ^ a := by
  rw [← Nat.pow_add]; congr 1; omega

theorem div_two_pow_lt {x a k : Nat} (hk : k ≤ a) (hx : x < 2 ^ a) : x / 2 ^ k < 2 ^ (a - k) := by
  apply Nat.div_lt_of_lt_mul
  rw [← Nat.pow_add, show k + (a - k) = a by omega]
  exact hx

theorem div_two_pow_le {x a k : Nat} (hk : k ≤ a) (hx : x ≤ 2 ^ a) : x / 2 ^ k ≤ 2 ^ (a - k) := by
  rw [← Nat.pow_div hk (by decide)]
  exact Nat.div_le_div_right hx

theorem div_div_two_pow (o a b : Nat) : o / 2 ^ a / 2 ^ b = o / 2 ^ (a + b) := by
  rw [Nat.div_div_eq_div_mul, ← Nat.pow_add]

theorem half_pow (n h : Nat) : n / 2 ^ (h + 1) = n / 2 ^ h / 2 :=
  (div_div_two_pow n h 1).symm

theorem div_two_div_pow (b k : Nat) : b / 2 / 2 ^ k = b / 2 ^ (k + 1) := by
  rw [Nat.div_div_eq_div_mul, ← Nat.pow_succ']

theorem div_div_pow {m l T : Nat} (h : l ≤ T) : m / 2 ^ l / 2 ^ (T - l) = m / 2 ^ T := by
  rw [div_div_two_pow, Nat.add_sub_cancel' h]

theorem div_pow_split (x : Nat) {a b c : Nat} (h1 : a ≤ b) (h2 : b ≤ c) :
    x / 2 ^ (c - a) = x / 2 ^ (b - a) / 2 ^ (c - b) := by
  rw [div_div_two_pow, Nat.add_comm, Nat.sub_add_sub_cancel h2 h1]

theorem lt_succ_div_mul (n d : Nat) (hd : 0 < d) : n < (n / d + 1) * d := by
  rw [Nat.mul_comm]; exact Nat.lt_mul_div_succ n hd

theorem mod_64_mod_two_pow (x : Nat) {k : Nat} (h : k ≤ 64) :
    x % 2 ^ 64 % 2 ^ k = x % 2 ^ k :=
  Nat.mod_mod_of_dvd x (Nat.pow_dvd_pow 2 h)

theorem mod_of_low_ones {n k : Nat} (h : ∀ j < k, n.testBit j = true) : n % 2 ^ k = 2 ^ k - 1 := by
  apply Nat.eq_of_testBit_eq
  intro i
  rw [Nat.testBit_mod_two_pow, Nat.testBit_two_pow_sub_one]
  by_cases hi : i < k
  · simp [hi, h i hi]
  · simp [hi]

theorem xor_one_xor_one (o : Nat) : (o ^^^ 1) ^^^ 1 = o := by
  rw [Nat.xor_assoc]; simp

theorem xor_one_div_two (o : Nat) : (o ^^^ 1) / 2 = o / 2 := by
  rw [Nat.xor_div_two]; simp

theorem xor_one_div_pow (o k : Nat) (hk : 1 ≤ k) : (o ^^^ 1) / 2 ^ k = o / 2 ^ k := by
  obtain ⟨j, rfl⟩ : ∃ j, k = j + 1 := ⟨k - 1, by omega⟩
  rw [← div_two_div_pow, ← div_two_div_pow, xor_one_div_two]

theorem testBit_xor_one_zero (x : Nat) : (x ^^^ 1).testBit 0 = !x.testBit 0 := by
  rw [Nat.testBit_xor]
  simp

theorem nat_xor_one (n : Nat) : n ^^^ 1 = if n % 2 = 0 then n + 1 else n - 1 := by
  have h1 := xor_one_div_two n
  have h2 : ((n ^^^ 1) % 2 = 1) ↔ ¬ ((n % 2 = 1) ↔ (1 % 2 = 1)) := Nat.xor_mod_two_eq_one
  split <;> omega

theorem nat_or_one (n : Nat) : n ||| 1 = n - n % 2 + 1 := by
  have h1 : (n ||| 1) / 2 = n / 2 := by rw [Nat.or_div_two]; simp
  have h2 : ((n ||| 1) % 2 = 1) ↔ (n % 2 = 1 ∨ 1 % 2 = 1) := Nat.or_mod_two_eq_one
  omega

/-- clearing bit 0 with the 64-bit constant `^1` -/
theorem nat_and_not_one (n : Nat) (hn : n < 2 ^ 64) : n &&& (2 ^ 64 - 1 - 1) = n - n % 2 := by
  have h1 : (n &&& (2 ^ 64 - 1 - 1)) / 2 = n / 2 := by
    rw [Nat.and_div_two]
    have : (2 ^ 64 - 1 - 1) / 2 = 2 ^ 63 - 1 := by decide
    rw [this, Nat.and_two_pow_sub_one_eq_mod]
    apply Nat.mod_eq_of_lt
    omega
  have h2 : ((n &&& (2 ^ 64 - 1 - 1)) % 2 = 1) ↔ (n % 2 = 1 ∧ (2 ^ 64 - 1 - 1) % 2 = 1) :=
    Nat.and_mod_two_eq_one
  have h3 : (2 ^ 64 - 1 - 1) % 2 = 0 := by decide
  omega

theorem xor_one_two_mul_add (b o : Nat) : (2 * b + o) ^^^ 1 = 2 * b + (o ^^^ 1) := by
  rw [nat_xor_one, nat_xor_one o, Nat.mul_add_mod]
  by_cases h : o % 2 = 0
  · rw [if_pos h, if_pos h, Nat.add_assoc]
  · rw [if_neg h, if_neg h, Nat.add_sub_assoc (Nat.pos_of_ne_zero fun h0 => h (by rw [h0]))]

theorem or_one_two_mul_add (b o : Nat) : (2 * b + o) ||| 1 = 2 * b + (2 * (o / 2) + 1) := by
  rw [nat_or_one, Nat.mul_add_mod]
  omega

theorem and_not_one_two_mul_add {b o : Nat} (hn : 2 * b + o < 2 ^ 64) :
    (2 * b + o) &&& (2 ^ 64 - 1 - 1) = 2 * b + 2 * (o / 2) := by
  rw [nat_and_not_one _ hn, Nat.mul_add_mod]
  omega

theorem two_pow_or_eq_add {i b : Nat} (hb : b < 2 ^ i) : b ||| 2 ^ i = 2 ^ i + b := by
  have := Nat.two_pow_add_eq_or_of_lt hb 1
  rw [Nat.mul_one] at this
  rw [Nat.or_comm, this]

theorem toNat_H8_le {h : Nat} (hh : h ≤ 255) : (BitVec.ofNat 8 h).toNat = h := by
  rw [BitVec.toNat_ofNat]; omega

theorem toNat_H8 {h : Nat} (hh : h ≤ 63) : (BitVec.ofNat 8 h).toNat = h :=
  toNat_H8_le (by omega)

theorem toNat_H8_sub {h r : Nat} (hh : h ≤ 63) (hr : r ≤ h) :
    (BitVec.ofNat 8 h - BitVec.ofNat 8 r).toNat = h - r := by
  rw [BitVec.ofNat_sub_ofNat_of_le h r (by omega) hr, toNat_H8 (by omega)]

/-- with the literal `1` (`OfNat`), which `rw [BitVec.ofNat_add_ofNat]` does not match; for `1#w` use that -/
theorem ofNat_add_one {w : Nat} (n : Nat) : BitVec.ofNat w n + 1 = BitVec.ofNat w (n + 1) :=
  BitVec.ofNat_add_ofNat n 1

theorem toNat_ofNat64_of_lt {n : Nat} (hn : n < 2 ^ 64) : (BitVec.ofNat 64 n).toNat = n := by
  rw [BitVec.toNat_ofNat]; exact Nat.mod_eq_of_lt hn

theorem beq_zero_eq (x : U64) : (x == 0#64) = decide (x.toNat = 0) := by
  rw [Bool.eq_iff_iff, beq_iff_eq, decide_eq_true_iff, ← BitVec.toNat_inj]
  rfl

theorem bne_zero_eq (x : U64) : (x != 0#64) = decide (x.toNat ≠ 0) := by
  rw [bne, beq_zero_eq, decide_not]

theorem U8_beq_zero (a : U8) : (a == 0#8) = decide (a.toNat = 0) := by
  by_cases h : a = 0#8
  · subst h; rfl
  · have : a.toNat ≠ 0 := fun hc => h (BitVec.eq_of_toNat_eq hc)
    simp [h, this]

theorem toNat_sub_one {x : U64} (h : x.toNat ≠ 0) : (x - 1#64).toNat = x.toNat - 1 := by
  have := x.isLt
  rw [BitVec.toNat_sub, BitVec.toNat_one (by decide)]
  omega

theorem toNat_one_shl {h : Nat} (hh : h ≤ 63) : (shl 1#64 h).toNat = 2 ^ h := by
  rw [shl_eq, BitVec.toNat_shiftLeft, Nat.shiftLeft_eq]
  have : 2 ^ h < 2 ^ 64 := two_pow_lt_of_lt (by omega)
  simp only [BitVec.toNat_ofNat, Nat.reducePow, Nat.reduceMod, Nat.one_mul]
  exact Nat.mod_eq_of_lt this

/-- `2 << h` (wraps to 0 for `h = 63`) -/
theorem toNat_two_shl (h : Nat) : (shl 2#64 h).toNat = 2 ^ (h + 1) % 2 ^ 64 := by
  rw [shl_eq, BitVec.toNat_shiftLeft, Nat.shiftLeft_eq]
  simp only [BitVec.toNat_ofNat, Nat.reducePow, Nat.reduceMod]
  rw [Nat.pow_succ, Nat.mul_comm]

/-- the mask `(2 << h) - 1` is `2^(h+1) - 1`, also for `h = 63` -/
theorem toNat_mask {h : Nat} (hh : h ≤ 63) : (shl 2#64 h - 1#64).toNat = 2 ^ (h + 1) - 1 := by
  rw [BitVec.toNat_sub, toNat_two_shl]
  have h1 : 2 ^ (h + 1) ≤ 2 ^ 64 := two_pow_le_of_le (by omega)
  have h2 : 0 < 2 ^ (h + 1) := Nat.two_pow_pos _
  simp only [BitVec.toNat_ofNat, Nat.reducePow, Nat.reduceMod] at *
  omega

theorem toNat_and_mask {h : Nat} (hh : h ≤ 63) (x : U64) :
    (x &&& (shl 2#64 h - 1#64)).toNat = x.toNat % 2 ^ (h + 1) := by
  rw [BitVec.toNat_and, toNat_mask hh, Nat.and_two_pow_sub_one_eq_mod]

theorem toNat_shl (x : U64) (s : Nat) : (shl x s).toNat = x.toNat * 2 ^ s % 2 ^ 64 := by
  rw [shl_eq, BitVec.toNat_shiftLeft, Nat.shiftLeft_eq]

theorem toNat_shr (x : U64) (s : Nat) : (shr x s).toNat = x.toNat / 2 ^ s := by
  rw [shr_eq, BitVec.toNat_ushiftRight, Nat.shiftRight_eq_div_pow]

theorem toNat_shl_and_mask {h : Nat} (hh : h ≤ 63) (x : U64) (s : Nat) :
    (shl x s &&& (shl 2#64 h - 1#64)).toNat = x.toNat * 2 ^ s % 2 ^ (h + 1) := by
  rw [toNat_and_mask hh, toNat_shl, mod_64_mod_two_pow _ (by omega)]

theorem one_shl_eq_twoPow (j : Nat) : shl 1#64 j = BitVec.twoPow 64 j := by
  rw [shl_eq, BitVec.twoPow_eq]

theorem shl_one_shl {a b : Nat} (h : a + b ≤ 63) :
    shl (shl 1#64 a) b = BitVec.twoPow 64 (a + b) := by
  apply BitVec.eq_of_toNat_eq
  rw [toNat_shl, toNat_one_shl (by omega), ← Nat.pow_add, BitVec.toNat_twoPow_of_lt (by omega)]
  exact Nat.mod_eq_of_lt (two_pow_lt_of_lt (by omega))

theorem twoPow_shr_one {j : Nat} (hj : j + 1 < 64) :
    shr (BitVec.twoPow 64 (j + 1)) 1 = BitVec.twoPow 64 j := by
  apply BitVec.eq_of_toNat_eq
  rw [toNat_shr, BitVec.toNat_twoPow_of_lt hj, BitVec.toNat_twoPow_of_lt (by omega),
    Nat.pow_succ]
  omega

theorem and_twoPow_ne_zero (x : U64) {j : Nat} (hj : j < 64) :
    ((x &&& BitVec.twoPow 64 j) != 0#64) = x.getLsbD j := by
  rw [BitVec.and_twoPow]
  cases hx : x.getLsbD j
  · simp
  · simp only [if_true]
    rw [bne_zero_eq, BitVec.toNat_twoPow_of_lt hj]
    exact decide_eq_true (Nat.ne_of_gt (Nat.two_pow_pos j))

theorem testBit_div_odd {n h : Nat} : n.testBit h = true ↔ n / 2 ^ h % 2 = 1 := by
  rw [Nat.testBit_eq_decide_div_mod_eq]; simp

theorem div_even_of_testBit_false {n k : Nat} (h : n.testBit k = false) : n / 2 ^ k % 2 = 0 := by
  have : ¬ n / 2 ^ k % 2 = 1 := fun h' => by rw [testBit_div_odd.mpr h'] at h; cases h
  omega

/-- digit `k` of `n` is what `n / 2 ^ k` has over twice `n / 2 ^ (k + 1)` -/
theorem div_two_pow_bit (n k : Nat) :
    n / 2 ^ k = 2 * (n / 2 ^ (k + 1)) + (if n.testBit k then 1 else 0) := by
  rw [half_pow]
  cases h : n.testBit k
  · have := div_even_of_testBit_false h
    rw [if_neg Bool.false_ne_true]; omega
  · have := testBit_div_odd.mp h
    rw [if_pos rfl]; omega

/-- digit `t` of `x`, with its weight `2 ^ t`, is what `x % 2 ^ (t + 1)` has over `x % 2 ^ t` -/
theorem mod_two_pow_succ_testBit (x t : Nat) :
    x % 2 ^ (t + 1) = x % 2 ^ t + (if x.testBit t then 2 ^ t else 0) := by
  rw [Nat.mod_pow_succ]
  cases h : x.testBit t
  · rw [div_even_of_testBit_false h, if_neg Bool.false_ne_true, Nat.mul_zero]
  · rw [testBit_div_odd.mp h, if_pos rfl, Nat.mul_one]

/-- a set digit of `n < 2 ^ k` is below `k` -/
theorem testBit_lt_of_lt {n r k : Nat} (hn : n < 2 ^ k) (hb : n.testBit r = true) : r < k :=
  (Nat.pow_lt_pow_iff_right (by decide)).1 (Nat.lt_of_le_of_lt (Nat.ge_two_pow_of_testBit hb) hn)

/-- Go's `(x >> j) & 1 == 1` tests binary digit `j` -/
theorem shr_and_one_beq (x : U64) (j : Nat) : ((x >>> j) &&& 1#64 == 1#64) = x.toNat.testBit j := by
  rw [Bool.eq_iff_iff, beq_iff_eq, ← BitVec.toNat_inj, BitVec.toNat_and, BitVec.toNat_ushiftRight,
    Nat.testBit_eq_decide_div_mod_eq, Nat.shiftRight_eq_div_pow]
  simp [Nat.and_one_is_mod]

theorem bit_test {n : Nat} (hn : n < 2 ^ 64) (j : Nat) :
    ((BitVec.ofNat 64 n >>> j) &&& 1#64 == 1#64) = n.testBit j := by
  rw [shr_and_one_beq, toNat_ofNat64_of_lt hn]

theorem getLsbD_ofNat64 {n j : Nat} (hj : j < 64) :
    (BitVec.ofNat 64 n).getLsbD j = n.testBit j := by
  rw [BitVec.getLsbD_ofNat]; simp [hj]

end UtreexoVerif.Proofs
