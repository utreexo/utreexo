/-
  `liveLeaves` of `delLeaves` / `addMany` / `modify` / the empty forest: the lists themselves
  (`*_eq`), their members (`mem_*`), what holds of all their members after a block (`forall_*`), when
  they stay duplicate-free (`*_nodup`); `numLeaves_run`.  At the head two counting facts on lists in
  general: a filter and its complement split the length (`filter_split_length`), and filtering the
  members of a duplicate-free `d` out of a duplicate-free `l` that holds them all removes `d.length`
  elements (`filter_notin_length`).
-/
import UtreexoVerif.Proofs.SpecForest

namespace UtreexoVerif.Proofs.LiveLeaves
open Spec Spec.Forest

variable {H : Type} [DecidableEq H]

theorem filter_split_length {α : Type} (p : α → Bool) : ∀ (l : List α),
    (l.filter p).length + (l.filter (fun a => !p a)).length = l.length := by
  intro l
  induction l with
  | nil => rfl
  | cons a l ih => cases h : p a <;> simp [h] <;> omega

theorem filter_notin_length {α : Type} [DecidableEq α] {l d : List α} (hl : l.Nodup) (hd : d.Nodup)
    (hsub : ∀ x ∈ d, x ∈ l) : (l.filter (fun x => decide (x ∉ d))).length + d.length = l.length := by
  have h1 := filter_split_length (fun x => decide (x ∉ d)) l
  have h2 : (l.filter (fun a => !decide (a ∉ d))).Perm d := by
    apply (List.perm_ext_iff_of_nodup (hl.filter _) hd).2
    intro a
    simp only [List.mem_filter, decide_not, Bool.not_not, decide_eq_true_eq]
    exact ⟨fun h => h.2, fun h => ⟨hsub a h, h⟩⟩
  have h3 := h2.length_eq
  omega

theorem liveLeaves_delLeaves_eq (F : Forest H) (L : List H) :
    (F.delLeaves L).liveLeaves = F.liveLeaves.filter (fun x => decide (x ∉ L)) := by
  cases F with
  | mk slots =>
    simp only [Forest.delLeaves, Forest.liveLeaves]
    induction slots with
    | nil => rfl
    | cons s rest ih =>
      cases s with
      | none => simpa using ih
      | some x =>
        by_cases hx : x ∈ L
        · simpa [hx] using ih
        · simpa [hx] using ih

omit [DecidableEq H] in
theorem liveLeaves_addMany_eq (F : Forest H) (adds : List H) :
    (F.addMany adds).liveLeaves = F.liveLeaves ++ adds := by
  simp only [Forest.addMany, Forest.liveLeaves, List.filterMap_append]
  congr 1
  induction adds with
  | nil => rfl
  | cons a r ih => simp [ih]

theorem liveLeaves_modify_eq (F : Forest H) (dels adds : List H) :
    (F.modify dels adds).liveLeaves = F.liveLeaves.filter (fun x => decide (x ∉ dels)) ++ adds := by
  unfold Forest.modify
  rw [liveLeaves_addMany_eq, liveLeaves_delLeaves_eq]

theorem mem_liveLeaves_delLeaves {F : Forest H} {L : List H} {x : H} :
    x ∈ (F.delLeaves L).liveLeaves ↔ x ∈ F.liveLeaves ∧ x ∉ L := by
  rw [liveLeaves_delLeaves_eq, List.mem_filter]
  simp

theorem mem_liveLeaves_modify {F : Forest H} {dels adds : List H} {x : H} :
    x ∈ (F.modify dels adds).liveLeaves ↔ (x ∈ F.liveLeaves ∧ x ∉ dels) ∨ x ∈ adds := by
  rw [liveLeaves_modify_eq, List.mem_append, List.mem_filter]
  simp

theorem forall_liveLeaves_modify {P : H → Prop} {F : Forest H} {dels adds : List H}
    (hF : ∀ x ∈ F.liveLeaves, P x) (ha : ∀ x ∈ adds, P x) :
    ∀ x ∈ (F.modify dels adds).liveLeaves, P x := by
  intro x hx
  rcases mem_liveLeaves_modify.1 hx with ⟨hx, _⟩ | hx
  · exact hF x hx
  · exact ha x hx

theorem liveLeaves_delLeaves_nodup {F : Forest H} (h : F.liveLeaves.Nodup) (L : List H) :
    (F.delLeaves L).liveLeaves.Nodup := by
  rw [liveLeaves_delLeaves_eq]
  exact h.filter _

omit [DecidableEq H] in
theorem liveLeaves_addMany_nodup {F : Forest H} (h : F.liveLeaves.Nodup) {adds : List H} (ha : adds.Nodup)
    (hd : ∀ x ∈ adds, x ∉ F.liveLeaves) : (F.addMany adds).liveLeaves.Nodup := by
  rw [liveLeaves_addMany_eq, List.nodup_append]
  exact ⟨h, ha, fun a ha' b hb hab => hd b hb (hab ▸ ha')⟩

omit [DecidableEq H] in
theorem forall_liveLeaves_addMany {P : H → Prop} {F : Forest H} {adds : List H}
    (hF : ∀ x ∈ F.liveLeaves, P x) (ha : ∀ x ∈ adds, P x) : ∀ x ∈ (F.addMany adds).liveLeaves, P x := by
  intro x hx
  rw [liveLeaves_addMany_eq, List.mem_append] at hx
  exact hx.elim (hF x) (ha x)

theorem liveLeaves_modify_nodup_of {F : Forest H} (h : F.liveLeaves.Nodup) {dels adds : List H} (ha : adds.Nodup)
    (hnew : ∀ x ∈ adds, x ∈ F.liveLeaves → x ∈ dels) : (F.modify dels adds).liveLeaves.Nodup :=
  liveLeaves_addMany_nodup (liveLeaves_delLeaves_nodup h dels) ha fun x hx hl =>
    (mem_liveLeaves_delLeaves.1 hl).2 (hnew x hx (mem_liveLeaves_delLeaves.1 hl).1)

theorem liveLeaves_modify_nodup {F : Forest H} (h : F.liveLeaves.Nodup) (dels : List H)
    {adds : List H} (ha : adds.Nodup) (hd : ∀ x ∈ adds, x ∉ F.liveLeaves) :
    (F.modify dels adds).liveLeaves.Nodup :=
  liveLeaves_modify_nodup_of h ha fun x hx hl => absurd hl (hd x hx)

theorem numLeaves_run [Hasher H] (F : Forest H) (hist : List (Block H)) :
    (run F hist).numLeaves = F.numLeaves + (allAdds hist).length := by
  induction hist generalizing F with
  | nil => rfl
  | cons b rest ih =>
    rw [run, ih, numLeaves_modify, allAdds_cons, List.length_append, Nat.add_assoc]

variable [Hasher H] in
set_option linter.unusedSectionVars false in
theorem liveLeaves_empty : (Forest.empty : Forest H).liveLeaves = [] := rfl

end UtreexoVerif.Proofs.LiveLeaves
