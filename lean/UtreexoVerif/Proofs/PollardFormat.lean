/-
  The wire parse of `RestorePollardFrom`/`readOne` as a function of the stream alone (`readOneL`,
  `readRootsL`, `restoreL`): the tree of records read, each with its raw 32 data bytes and its leaf
  flag (`LNode`); `encL` prints such a tree.  Everything about the FORMAT is proved here, once, for
  the parse, in two statements: on a valid stream it inverts `encL` and fails on every strict prefix
  (`*_spec`, as `Reads`); on ANY stream it returns and depends on the stream alone — not on the
  chunking, not on the fuel (`*_any`, as `Alike`).  Both decoders are this parse followed by a
  function of the record tree (`readOne_eq`, `readRoots_eq`, `restorePollard_eq` here for the
  shape-level one).
  The declarations of the five modules PollardFormat, PollardHeapBuild, PollardHeapRestoreValid,
  PollardHeapRestoreAny, PollardHeapWrite stand in the namespace `Proofs.PollardHeapSerial`, named
  after the model file they are about (`Model/PollardHeapSerial.lean`).
-/
import UtreexoVerif.Proofs.Serial
set_option linter.unusedSectionVars false

namespace UtreexoVerif.Proofs.PollardHeapSerial
open UtreexoVerif.Model Hasher
open UtreexoVerif.Model.Serial UtreexoVerif.Proofs.Serial

/-- a record of the stream as `readOne` reads it: the raw 32 data bytes, the leaf flag
(`buf[0] == 1` of the second read), and the two nieces when the niece flag is 1 -/
inductive LNode where
  | dead (hb : List Byte) (leaf : Bool)
  | fork (hb : List Byte) (leaf : Bool) (l r : LNode)
deriving Repr, DecidableEq

namespace LNode
def hb : LNode → List Byte
  | .dead hb _ => hb
  | .fork hb _ _ _ => hb
def leaf : LNode → Bool
  | .dead _ lf => lf
  | .fork _ lf _ _ => lf
def count : LNode → Nat
  | .dead _ _ => 1
  | .fork _ _ l r => l.count + 1 + r.count
end LNode

/-- the pure parse of one node (the reads of `readOne`, nothing else) -/
def readOneL : Nat → Reader → Res (LNode × Reader)
  | 0, _ => ⟨0, .hang⟩
  | fuel+1, r =>
    match readFull r 32 with
    | (.eof, _) => ⟨0, .err⟩
    | (.unexpected _, _) => ⟨0, .err⟩
    | (.full hb, r) =>
      match readFull r 1 with
      | (.full lf, r) =>
        match readFull r 1 with
        | (.full nf, r) =>
          if nf.headD 0#8 == 1#8 then
            match readOneL fuel r with
            | ⟨lb, .ok (l, r)⟩ =>
              match readOneL fuel r with
              | ⟨rb, .ok (rn, r)⟩ => ⟨32 + 1 + 1 + lb + rb, .ok (.fork hb (lf.headD 0#8 == 1#8) l rn, r)⟩
              | ⟨_, e⟩ => ⟨32 + 1 + 1 + lb, failAs e⟩
            | ⟨_, e⟩ => ⟨32 + 1 + 1, failAs e⟩
          else ⟨32 + 1 + 1, .ok (.dead hb (lf.headD 0#8 == 1#8), r)⟩
        | _ => ⟨32 + 1, .err⟩
      | _ => ⟨32, .err⟩

/-- the root loop of `RestorePollardFrom`: `k` records, the byte count running in `total` -/
def readRootsL (fuel : Nat) : Nat → Reader → Nat → Res (List LNode × Reader)
  | 0, r, total => ⟨total, .ok ([], r)⟩
  | k+1, r, total =>
    match readOneL fuel r with
    | ⟨b, .ok (n, r)⟩ =>
      match readRootsL fuel k r (total + b) with
      | ⟨t, .ok (ns, r)⟩ => ⟨t, .ok (n :: ns, r)⟩
      | ⟨t, e⟩ => ⟨t, failAs e⟩
    | ⟨_, e⟩ => ⟨total, failAs e⟩

/-- the pure parse of a whole stream: `NumLeaves`, `NumDels`, the root records — everything
`RestorePollardFrom` does before its sanity check.  The fuel is the length of the whole stream `+ 1`;
the heap-level model (`restoreH`, Model/PollardHeapSerial.lean) runs on the length left after the
header `+ 2`: `restoreH_eq` bridges the two through `readRootsL_any`. -/
def restoreL (r : Reader) : Res (U64 × U64 × List LNode) :=
  let fuel := r.data.length + 1
  match readFull r 8 with
  | (.full b1, r) =>
    match readFull r 8 with
    | (.full b2, r) =>
      match readRootsL fuel (numRoots (unle64 b1)).toNat r (8 + 8) with
      | ⟨total, .ok (roots, _)⟩ => ⟨total, .ok (unle64 b1, unle64 b2, roots)⟩
      | ⟨total, e⟩ => ⟨total, failAs e⟩
    | _ => ⟨8, .err⟩
  | _ => ⟨0, .err⟩

/-- the bytes of a record tree, as `writeOne` lays them out -/
def encL : LNode → List Byte
  | .dead hb lf => hb ++ [flag lf, 0#8]
  | .fork hb lf l r => hb ++ [flag lf, 1#8] ++ (encL l ++ encL r)

/-- well sized (`W` for width): every data field has 32 bytes -/
def LNode.W : LNode → Prop
  | .dead hb _ => hb.length = 32
  | .fork hb _ l r => hb.length = 32 ∧ l.W ∧ r.W

/-- the bytes of a record field by field, right-nested: the form `Reads.field` consumes one field at a
time (likewise `encL_fork`) -/
theorem encL_dead (hb : List Byte) (lf : Bool) : encL (.dead hb lf) = hb ++ ([flag lf] ++ ([0#8] ++ [])) := by
  simp [encL]

theorem encL_fork (hb : List Byte) (lf : Bool) (l r : LNode) :
    encL (.fork hb lf l r) = hb ++ ([flag lf] ++ ([1#8] ++ (encL l ++ (encL r ++ [])))) := by
  simp [encL]

/-- The fuel must cover the tree (enough when it is all there) or the stream (enough in any case:
every level consumes 34 bytes). -/
theorem readOneL_spec : ∀ (t : LNode), t.W → ∀ (fuel : Nat) (r : Reader),
    (encL t).length ≤ fuel ∨ r.data.length < fuel →
    Reads (readOneL fuel r) 0 r.data (encL t) (fun rest x => ∃ r',
      x = ⟨(encL t).length, .ok (t, r')⟩ ∧ r'.data = rest ∧ r'.eofWithData = r.eofWithData)
  | t, _, 0, r, hf => by
    have : 0 < (encL t).length := by
      cases t <;> simp only [encL, List.length_append, List.length_cons, List.length_nil] <;> omega
    omega
  | .dead hb lf, hW, f + 1, r, hf => by
    rw [readOneL, encL_dead]
    generalize hy : readFull r 32 = y
    revert y
    refine Reads.ofReadFull hW (fun r1 h1 => ?_) (fun _ => ⟨_, rfl, Nat.le_refl _⟩) (fun _ _ => ⟨_, rfl, Nat.zero_le _⟩)
    dsimp only
    refine Reads.field (p := [_]) rfl (by omega) fun r2 h2 => ?_
    refine Reads.field (p := [_]) rfl (by omega) fun r3 h3 => ?_
    simp only [List.headD_cons, flag_eq_one]
    exact Reads.done ⟨r3, by simp [LNode.W] at hW ⊢; omega, rfl, by rw [h3.2, h2.2, h1.2]⟩
  | .fork hb lf l rn, hW, f + 1, r, hf => by
    rw [readOneL, encL_fork]
    generalize hy : readFull r 32 = y
    revert y
    refine Reads.ofReadFull hW.1 (fun r1 h1 => ?_) (fun _ => ⟨_, rfl, Nat.le_refl _⟩) (fun _ _ => ⟨_, rfl, Nat.zero_le _⟩)
    dsimp only
    refine Reads.field (p := [_]) rfl (by omega) fun r2 h2 => ?_
    refine Reads.field (p := [_]) rfl (by omega) fun r3 h3 => ?_
    simp only [List.headD_cons, flag_eq_one, beq_self_eq_true, if_true]
    have hf3 : (encL l).length + (encL rn).length ≤ f ∨ r3.data.length < f := by
      rw [h1.1, h2.1, h3.1, encL_fork] at hf
      simp only [List.length_append, hW.1, List.length_singleton, List.length_nil] at hf
      omega
    have hx := readOneL_spec l hW.2.1 f r3 (hf3.imp (fun h => by omega) id)
    generalize readOneL f r3 = x at hx ⊢
    revert x
    refine Reads.ofCall (fun n t h => ?_) (fun rest x hd hq => ?_)
    · exact ⟨_, rfl, by omega⟩
    obtain ⟨r4, rfl, rfl, h4⟩ := hq
    have hx := readOneL_spec rn hW.2.2 f r4
      (hf3.imp (fun h => by omega) (fun h => by rw [hd, List.length_append] at h; omega))
    dsimp only
    generalize readOneL f r4 = x at hx ⊢
    revert x
    refine Reads.ofCall (fun n t h => ?_) (fun rest x _ hq => ?_)
    · exact ⟨_, rfl, by omega⟩
    obtain ⟨r5, rfl, rfl, h5⟩ := hq
    refine Reads.done ⟨r5, ?_, rfl, by rw [h5, h4, h3.2, h2.2, h1.2]⟩
    simp only [List.length_append, hW.1, List.length_cons, List.length_nil]
    congr 1
    omega

theorem readRootsL_spec (fuel : Nat) : ∀ (ts : List LNode), (∀ t ∈ ts, t.W) → ∀ (r : Reader) (total : Nat),
    r.data.length < fuel →
    Reads (readRootsL fuel ts.length r total) total r.data (ts.flatMap encL) (fun rest x => ∃ r',
      x = ⟨total + (ts.flatMap encL).length, .ok (ts, r')⟩ ∧ r'.data = rest)
  | [], _, r, total, _ => Reads.done ⟨r, by simp [readRootsL], rfl⟩
  | t :: ts, hW, r, total, hf => by
    rw [List.length_cons, readRootsL, List.flatMap_cons]
    have hx := readOneL_spec t (hW t List.mem_cons_self) fuel r (Or.inr hf)
    generalize readOneL fuel r = x at hx ⊢
    revert x
    refine Reads.ofCall (fun n t h => ?_) (fun rest x hd hq => ?_)
    · exact ⟨_, rfl, by omega⟩
    obtain ⟨r1, rfl, rfl, _⟩ := hq
    have hx := readRootsL_spec fuel ts (fun t' h => hW t' (List.mem_cons_of_mem _ h)) r1 (total + (encL t).length)
      (by rw [hd, List.length_append] at hf; omega)
    dsimp only
    rw [← List.append_nil (ts.flatMap encL)]
    generalize readRootsL fuel ts.length r1 _ = x at hx ⊢
    revert x
    refine Reads.ofCall (fun n t h => ?_) (fun rest x _ hq => ?_)
    · exact ⟨_, rfl, by omega⟩
    obtain ⟨r2, rfl, rfl⟩ := hq
    refine Reads.done ⟨r2, ?_, rfl⟩
    simp only [List.length_append, List.length_nil, Nat.add_zero, Nat.add_assoc]

theorem restoreL_spec (nl nd : U64) (ts : List LNode) (hW : ∀ t ∈ ts, t.W) (hlen : (numRoots nl).toNat = ts.length)
    (r : Reader) :
    Reads (restoreL r) 0 r.data (le64 nl ++ (le64 nd ++ ts.flatMap encL))
      (fun _ x => x = ⟨16 + (ts.flatMap encL).length, .ok (nl, nd, ts)⟩) := by
  rw [restoreL]
  refine Reads.field (le64_length _) (Nat.le_refl _) fun r1 ⟨h1, _⟩ => ?_
  refine Reads.field (le64_length _) (by omega) fun r2 ⟨h2, _⟩ => ?_
  rw [unle64_le64, unle64_le64, hlen, ← List.append_nil (List.flatMap _ _)]
  have hx := readRootsL_spec (r.data.length + 1) ts hW r2 (8 + 8)
    (by rw [h1, h2]; simp only [List.length_append]; omega)
  generalize readRootsL _ _ r2 _ = x at hx ⊢
  revert x
  refine Reads.ofCall (fun n t h => ?_) (fun rest x _ hq => ?_)
  · exact ⟨_, rfl, by omega⟩
  obtain ⟨r3, rfl, rfl⟩ := hq
  refine Reads.done ?_
  simp only [List.append_nil]

theorem readOneL_any : ∀ (f1 f2 : Nat) (r1 r2 : Reader), r1.data = r2.data → r1.data.length < f1 →
    r1.data.length < f2 →
    Alike data2 (fun v => v.2.data.length + 34 ≤ r1.data.length) (readOneL f1 r1) (readOneL f2 r2)
  | 0, _, r1, _, _, h1, _ => by omega
  | _ + 1, 0, r1, _, _, _, h2 => by omega
  | f1 + 1, f2 + 1, r1, r2, h, hf1, hf2 => by
    rw [readOneL, readOneL]
    generalize hy1 : readFull r1 32 = y1
    generalize hy2 : readFull r2 32 = y2
    revert y2
    revert y1
    refine Alike.ofReadFull h (fun hb s1 t1 k1 d1 e1 => ?_) (fun _ _ => Alike.err) (fun _ _ _ => Alike.err)
    dsimp only
    refine Alike.field e1 fun lf s2 t2 k2 d2 e2 => ?_
    refine Alike.field e2 fun nf s3 t3 k3 d3 e3 => ?_
    have hl : s3.data.length + 34 = r1.data.length := by
      rw [d2, d1] at k3
      rw [d1] at k2
      rw [d3, d2, d1]
      simp only [List.length_drop] at k2 k3 ⊢
      omega
    split
    · have hx := readOneL_any f1 f2 s3 t3 e3 (by omega) (by omega)
      generalize readOneL f1 s3 = x1 at hx ⊢
      generalize readOneL f2 t3 = x2 at hx ⊢
      revert x1 x2
      refine Alike.call (fun n => Alike.err) fun n ⟨l, s4⟩ ⟨l', t4⟩ hv hp => ?_
      obtain ⟨rfl, e4⟩ := data2_eq hv
      have hp : s4.data.length + 34 ≤ s3.data.length := hp
      have hx := readOneL_any f1 f2 s4 t4 e4 (by omega) (by omega)
      dsimp only
      generalize readOneL f1 s4 = x1 at hx ⊢
      generalize readOneL f2 t4 = x2 at hx ⊢
      revert x1 x2
      refine Alike.call (fun n => Alike.err) fun n ⟨rn, s5⟩ ⟨rn', t5⟩ hw hq => ?_
      obtain ⟨rfl, e5⟩ := data2_eq hw
      have hq : s5.data.length + 34 ≤ s4.data.length := hq
      exact Alike.ok (by simp only [data2, e5]) (show s5.data.length + 34 ≤ r1.data.length by omega)
    · exact Alike.ok (by simp only [data2, e3]) (show s3.data.length + 34 ≤ r1.data.length by omega)

theorem readRootsL_any (f1 f2 : Nat) : ∀ (k : Nat) (r1 r2 : Reader) (total : Nat), r1.data = r2.data →
    r1.data.length < f1 → r1.data.length < f2 →
    Alike data2 (fun v => v.2.data.length ≤ r1.data.length) (readRootsL f1 k r1 total) (readRootsL f2 k r2 total)
  | 0, r1, r2, total, h, _, _ => Alike.ok (by simp only [data2, h]) (Nat.le_refl _)
  | k + 1, r1, r2, total, h, hf1, hf2 => by
    rw [readRootsL, readRootsL]
    have hx := readOneL_any f1 f2 r1 r2 h hf1 hf2
    generalize readOneL f1 r1 = x1 at hx ⊢
    generalize readOneL f2 r2 = x2 at hx ⊢
    revert x1 x2
    refine Alike.call (fun n => Alike.err) fun n ⟨p, s2⟩ ⟨p', t2⟩ hv hp => ?_
    obtain ⟨rfl, hd⟩ := data2_eq hv
    have hp : s2.data.length + 34 ≤ r1.data.length := hp
    have hx := readRootsL_any f1 f2 k s2 t2 (total + n) hd (by omega) (by omega)
    dsimp only
    generalize readRootsL f1 k s2 (total + n) = x1 at hx ⊢
    generalize readRootsL f2 k t2 (total + n) = x2 at hx ⊢
    revert x1 x2
    refine Alike.call (fun n => Alike.err) fun n ⟨ps, s3⟩ ⟨ps', t3⟩ hw hq => ?_
    obtain ⟨rfl, hd'⟩ := data2_eq hw
    have hq : s3.data.length ≤ s2.data.length := hq
    exact Alike.ok (by simp only [data2, hd']) (show s3.data.length ≤ r1.data.length by omega)

/-- `r1`, `r2` may differ in the chunking and in whether the last read carries `io.EOF` -/
theorem restoreL_any (r1 r2 : Reader) (h : r1.data = r2.data) :
    Alike id (fun _ => True) (restoreL r1) (restoreL r2) := by
  rw [restoreL, restoreL, h]
  refine Alike.field h fun b1 s1 t1 _ d1 e1 => ?_
  refine Alike.field e1 fun b2 s2 t2 _ d2 e2 => ?_
  have hlen : s2.data.length < r2.data.length + 1 := by
    rw [d2, d1, h]; simp only [List.length_drop]; omega
  have hx := readRootsL_any (r2.data.length + 1) (r2.data.length + 1) (numRoots (unle64 b1)).toNat s2 t2
    (8 + 8) e2 hlen hlen
  generalize readRootsL _ _ s2 _ = x1 at hx ⊢
  generalize readRootsL _ _ t2 _ = x2 at hx ⊢
  revert x1 x2
  refine Alike.call (fun n => Alike.err) fun n ⟨roots, s3⟩ ⟨roots', t3⟩ hv _ => ?_
  obtain ⟨rfl, _⟩ := data2_eq hv
  exact Alike.ok rfl trivial

theorem restoreL_total (r : Reader) : (restoreL r).out ≠ .hang ∧ (restoreL r).out ≠ .panic :=
  (restoreL_any r r rfl).total

theorem restoreL_chunking (r1 r2 : Reader) (h : r1.data = r2.data) : restoreL r1 = restoreL r2 :=
  (restoreL_any r1 r2 h).eq

section
variable {H : Type} [DecidableEq H] [Hasher H] [HashBytes H]

def LNode.erase : LNode → PNode H
  | .dead hb _ => .dead (ofBytes hb)
  | .fork hb _ l r => .fork (ofBytes hb) l.erase r.erase

/-- the records `readOne` enters into `NodeMap`: leaf flag set, data not all-zero; in stream order -/
def leafRecs (H : Type) [DecidableEq H] [Hasher H] [HashBytes H] : LNode → List (List Byte)
  | .dead hb lf => if lf && ((ofBytes hb : H) != zero) then [hb] else []
  | .fork hb lf l r => (if lf && ((ofBytes hb : H) != zero) then [hb] else []) ++ (leafRecs H l ++ leafRecs H r)

/-- `p.NodeMap[n.data.mini()] = n` of the shape-level decoder for a list of raw 32-byte records
(`Proofs.Serial.putRecs`, of the same short name, is the fold on association lists of the map format) -/
def putRecs (nm : NodeMap H) (recs : List (List Byte)) : NodeMap H :=
  recs.foldl (fun m hb => m.put (hb.take 12) (ofBytes hb)) nm

theorem putRecs_append (nm : NodeMap H) (a b : List (List Byte)) :
    putRecs nm (a ++ b) = putRecs (putRecs nm a) b := by
  simp [putRecs, List.foldl_append]

def putL (nm : NodeMap H) (t : LNode) : NodeMap H := putRecs nm (leafRecs H t)

theorem readOne_eq : ∀ (fuel : Nat) (r : Reader) (nm : NodeMap H),
    readOne fuel r nm = Res.mapOk (fun x => (x.1.erase, putL nm x.1, x.2)) (readOneL fuel r)
  | 0, _, _ => rfl
  | f + 1, r, nm => by
    rw [readOne, readOneL]
    -- the two sides fail alike (`rfl`) wherever a read or a recursive call fails
    rcases readFull r 32 with ⟨a1, r1⟩
    cases a1 with
    | full hb =>
      simp only []
      rcases readFull r1 1 with ⟨a2, r2⟩
      cases a2 with
      | full lf =>
        simp only []
        rcases readFull r2 1 with ⟨a3, r3⟩
        cases a3 with
        | full nf =>
          have hnm : (if (lf.headD 0#8 == 1#8) = true then
              (if ((ofBytes hb : H) != zero) = true then NodeMap.put nm (hb.take 12) (ofBytes hb) else nm)
              else nm) =
              putRecs nm (if (lf.headD 0#8 == 1#8) && ((ofBytes hb : H) != zero) then [hb] else []) := by
            cases (lf.headD 0#8 == 1#8) <;> cases ((ofBytes hb : H) != zero) <;> simp [putRecs]
          simp only [hnm]
          split
          · rw [readOne_eq f]
            rcases readOneL f r3 with ⟨lb, o1⟩
            cases o1 with
            | ok x =>
              simp only [Res.mapOk]
              rw [readOne_eq f]
              rcases readOneL f x.2 with ⟨rb, o2⟩
              cases o2 with
              | ok y => simp only [Res.mapOk, LNode.erase, putL, leafRecs, putRecs_append]
              | _ => rfl
            | _ => rfl
          · simp only [Res.mapOk, LNode.erase, putL, leafRecs]
        | _ => rfl
      | _ => rfl
    | _ => rfl

def putLs (nm : NodeMap H) (ts : List LNode) : NodeMap H := putRecs nm (ts.flatMap (leafRecs H))

theorem readRoots_eq (fuel : Nat) : ∀ (k : Nat) (r : Reader) (nm : NodeMap H) (total : Nat),
    readRoots fuel k r nm total =
      Res.mapOk (fun x => (x.1.map LNode.erase, putLs nm x.1, x.2)) (readRootsL fuel k r total)
  | 0, r, nm, total => by simp [readRoots, readRootsL, Res.mapOk, putLs, putRecs]
  | k + 1, r, nm, total => by
    rw [readRoots, readRootsL, readOne_eq]
    rcases readOneL fuel r with ⟨b, o1⟩
    cases o1 with
    | ok x =>
      simp only [Res.mapOk]
      rw [readRoots_eq fuel k]
      rcases readRootsL fuel k x.2 (total + b) with ⟨t, o2⟩
      cases o2 with
      | ok y => simp only [Res.mapOk, List.map_cons, putLs, putL, List.flatMap_cons, putRecs_append]
      | _ => rfl
    | _ => rfl

theorem restorePollard_eq (r : Reader) :
    restorePollard (H := H) r =
      match restoreL r with
      | ⟨n, .ok (nl, nd, ts)⟩ =>
        if ((putLs ([] : NodeMap H) ts).length : Int) != (nl - nd).toInt then ⟨n, .err⟩
        else ⟨n, .ok (PState.mk nl nd (ts.map LNode.erase) (putLs [] ts))⟩
      | ⟨n, e⟩ => ⟨n, failAs e⟩ := by
  unfold restorePollard restoreL
  rcases readFull r 8 with ⟨a1, r1⟩
  cases a1 with
  | full b1 =>
    simp only []
    rcases readFull r1 8 with ⟨a2, r2⟩
    cases a2 with
    | full b2 =>
      simp only []
      rw [readRoots_eq]
      rcases readRootsL (r.data.length + 1) (numRoots (unle64 b1)).toNat r2 (8 + 8) with ⟨t, o⟩
      cases o <;> rfl
    | _ => rfl
  | _ => rfl

end

end UtreexoVerif.Proofs.PollardHeapSerial
