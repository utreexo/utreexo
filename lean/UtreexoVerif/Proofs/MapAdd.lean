/-
  `MapPollard.add` of ONE leaf when the leaf count is even (the new leaf becomes a root on
  row 0, no merge happens) and no re-allocation is needed: the storage invariant is preserved.
  The merging case (odd leaf count: parents are created, nieces pruned, empty roots skipped) is
  `Proofs/MapAddMerge.lean`.
-/
import UtreexoVerif.Proofs.MapInv
import UtreexoVerif.Proofs.StumpAdd

namespace UtreexoVerif.Proofs.MapAdd
open Model Spec MapAL MapInv
set_option linter.unusedSectionVars false

variable {H : Type} [DecidableEq H] [Hasher H]

theorem succ_div_two_even {N : Nat} (he : N % 2 = 0) : (N + 1) / 2 = N / 2 := by omega

theorem shift_succ_even {N : Nat} (he : N % 2 = 0) (h : Nat) : (N + 1) >>> (h + 1) = N >>> (h + 1) := by
  rw [Nat.shiftRight_succ_inside, Nat.shiftRight_succ_inside, succ_div_two_even he]

theorem rootPos_zero_even {N : Nat} (he : N % 2 = 0) : rootPos N 0 = (0, N) := by
  show (0, 2 * (N >>> (0 + 1))) = (0, N)
  rw [Nat.shiftRight_succ_inside, show 2 * ((N / 2) >>> 0) = N from (by omega : 2 * (N / 2) = N)]

theorem rootPos_succ_even {N : Nat} (he : N % 2 = 0) (h : Nat) : rootPos (N + 1) h = rootPos N h := by
  unfold rootPos; rw [shift_succ_even he]

theorem testBit_succ_even {N : Nat} (he : N % 2 = 0) (R : Nat) :
    (N + 1).testBit R = (decide (R = 0) || N.testBit R) := by
  cases R with
  | zero =>
    rw [Nat.testBit_zero]
    exact decide_eq_true (by omega)
  | succ k =>
    rw [Nat.testBit_succ, Nat.testBit_succ, succ_div_two_even he]
    rfl

theorem testBit_zero_even {N : Nat} (he : N % 2 = 0) : N.testBit 0 = false := by
  rw [Nat.testBit_zero]; simp [he]

theorem nodes_add_even (F : Forest H) (x : H) (he : F.numLeaves % 2 = 0) :
    (F.add x).nodes = F.nodes ++ [((0, F.numLeaves), x, true)] := by
  unfold Forest.nodes
  rw [trees_add_even F x he, List.flatMap_append, Spec.numLeaves_add]
  simp only [rootPos_succ_even he]
  refine congrArg (_ ++ ·) ?_
  show [((0, (rootPos F.numLeaves 0).2), x, true)] ++ [] = _
  rw [rootPos_zero_even he]
  rfl

/-- a node of the forest covers slots below the leaf count -/
theorem node_lt {F : Forest H} {e : Pos × H × Bool} (he : e ∈ F.nodes) : (e.1.2 + 1) * 2 ^ e.1.1 ≤ F.numLeaves := by
  obtain ⟨R, hb⟩ := SpecSubs.mem_nodes_belowRoot he
  exact below_root_iff.2 ⟨R, hb⟩

theorem belowRoot_ne_end {N r o R : Nat} (hb : BelowRoot N r o R) : (r, o) ≠ (0, N) := by
  intro h
  have := below_root_iff.2 ⟨R, hb⟩
  have h1 : r = 0 := congrArg Prod.fst h
  have h2 : o = N := congrArg Prod.snd h
  subst h1 h2
  simp only [Nat.pow_zero, Nat.mul_one] at this
  omega

theorem find?_snoc {α β : Type} {p : α → Bool} {l : List α} {e : α} (f : α → β) {c : Prop} [Decidable c]
    (hl : c → l.find? p = none) (he : p e = decide c) :
    ((l ++ [e]).find? p).map f = if c then some (f e) else (l.find? p).map f := by
  rw [List.find?_append, List.find?_singleton, he]
  by_cases hc : c
  · rw [hl hc, if_pos hc, decide_eq_true hc, if_pos rfl]
    rfl
  · rw [if_neg hc, decide_eq_false hc, if_neg Bool.false_ne_true, Option.or_none]

theorem nodeAt_add_even (F : Forest H) (x : H) (he : F.numLeaves % 2 = 0) (q : Pos) :
    (F.add x).nodeAt q = if q = (0, F.numLeaves) then some x else F.nodeAt q := by
  unfold Forest.nodeAt
  rw [nodes_add_even F x he]
  exact find?_snoc _
    (fun hq => List.find?_eq_none.2 fun e hm h =>
      belowRoot_ne_end (SpecSubs.mem_nodes_belowRoot hm).choose_spec ((beq_iff_eq.1 h).trans hq))
    ((Bool.beq_eq_decide_eq _ _).trans (decide_eq_decide.2 eq_comm))

theorem posOf_add_even (F : Forest H) (x : H) (he : F.numLeaves % 2 = 0) (hfresh : F.posOf x = none) (y : H) :
    (F.add x).posOf y = if y = x then some (0, F.numLeaves) else F.posOf y := by
  unfold Forest.posOf at hfresh ⊢
  rw [nodes_add_even F x he]
  exact find?_snoc _ (fun hy => by rw [hy]; exact Option.map_eq_none_iff.1 hfresh)
    ((Bool.beq_eq_decide_eq x y).trans (decide_eq_decide.2 eq_comm))

theorem isRootPos_succ_even {N : Nat} (he : N % 2 = 0) (q : Pos) :
    isRootPos (N + 1) q = (isRootPos N q || (q == (0, N))) := by
  obtain ⟨r, o⟩ := q
  unfold isRootPos
  simp only
  rw [testBit_succ_even he, shift_succ_even he]
  cases r with
  | zero =>
    rw [testBit_zero_even he, show 2 * (N >>> (0 + 1)) = N from congrArg Prod.snd (rootPos_zero_even he)]
    rfl
  | succ k =>
    rw [show (((k + 1, o) : Pos) == (0, N)) = false from rfl, Bool.or_false]
    rfl

theorem belowRoot_succ_even {N : Nat} (he : N % 2 = 0) {r o R : Nat} :
    BelowRoot (N + 1) r o R ↔ BelowRoot N r o R ∨ (R = 0 ∧ r = 0 ∧ o = N) := by
  unfold BelowRoot
  rw [testBit_succ_even he, rootPos_succ_even he]
  constructor
  · rintro ⟨h1, h2, h3⟩
    rcases Bool.or_eq_true_iff.1 h2 with h2 | h2
    · have hR := of_decide_eq_true h2
      subst hR
      have hr : r = 0 := Nat.le_zero.1 h1
      subst hr
      rw [rootPos_zero_even he] at h3
      exact Or.inr ⟨rfl, rfl, (Nat.div_one o).symm.trans h3⟩
    · exact Or.inl ⟨h1, h2, h3⟩
  · rintro (⟨h1, h2, h3⟩ | ⟨rfl, rfl, rfl⟩)
    · exact ⟨h1, by rw [h2]; exact Bool.or_true _, h3⟩
    · rw [rootPos_zero_even he]
      exact ⟨Nat.le_refl _, rfl, Nat.div_one _⟩

theorem onPath_succ_even {N : Nat} (he : N % 2 = 0) {t q : Pos} {R0 : Nat} (ht : BelowRoot N t.1 t.2 R0) :
    OnPath (N + 1) t q ↔ OnPath N t q := by
  constructor
  · rintro ⟨R, hb, hanc, hle⟩
    rcases (belowRoot_succ_even he).1 hb with h | ⟨_, h1, h2⟩
    · exact ⟨R, h, hanc, hle⟩
    · exact absurd (Prod.ext h1 h2 : t = (0, N)) (belowRoot_ne_end ht)
  · rintro ⟨R, hb, hanc, hle⟩
    exact ⟨R, (belowRoot_succ_even he).2 (Or.inl hb), hanc, hle⟩

theorem proofSib_succ_even {N : Nat} (he : N % 2 = 0) {t q : Pos} {R0 : Nat} (ht : BelowRoot N t.1 t.2 R0) :
    ProofSib (N + 1) t q ↔ ProofSib N t q := by
  have key : ∀ w, OnPath N t w → isRootPos (N + 1) w = isRootPos N w := by
    rintro w ⟨R, hb, hanc, hle⟩
    have hw := belowRoot_anc hb hanc hle
    have hne : w ≠ (0, N) := belowRoot_ne_end hw
    rw [isRootPos_succ_even he]
    have : (w == ((0, N) : Pos)) = false := by rw [beq_eq_false_iff_ne]; exact hne
    rw [this, Bool.or_false]
  constructor
  · rintro ⟨w, hon, hnr, rfl⟩
    have hon' := (onPath_succ_even he ht).1 hon
    exact ⟨w, hon', by rw [← key w hon']; exact hnr, rfl⟩
  · rintro ⟨w, hon, hnr, rfl⟩
    exact ⟨w, (onPath_succ_even he ht).2 hon, by rw [key w hon]; exact hnr, rfl⟩

theorem proofSib_new {N : Nat} (he : N % 2 = 0) {q : Pos} : ¬ ProofSib (N + 1) (0, N) q := by
  rintro ⟨w, ⟨R, hb, ⟨a1, a2⟩, hle⟩, hnr, _⟩
  rcases (belowRoot_succ_even he).1 hb with h | ⟨hR, _, _⟩
  · exact absurd rfl (belowRoot_ne_end h)
  · simp only at a1 a2
    subst hR
    have h0 : w.1 = 0 := by omega
    have hw : w = (0, N) := Prod.ext h0 (by rw [a2, h0]; simp)
    rw [hw, isRootPos_succ_even he] at hnr
    simp at hnr

theorem add_one_eval {m : MapPollard H} (a : Leaf H) (hfull : m.full = false)
    (hremap : TreeRows (m.numLeaves + 1) ≤ m.totalRows)
    (heven : ((m.numLeaves >>> (0#8).toNat) &&& 1#64 == 1#64) = false) :
    MapPollard.add [a] m =
      ({ (if a.remember then (m.putNode m.numLeaves ⟨a.hash, a.remember⟩).putCached a.hash m.numLeaves
          else m.putNode m.numLeaves ⟨a.hash, a.remember⟩) with numLeaves := m.numLeaves + 1 }, .ok ()) := by
  unfold MapPollard.add MapPollard.addSingle MapPollard.remap
  simp only [hremap, if_true, hfull, Bool.false_eq_true, if_false]
  unfold MapPollard.addLoop
  cases hr : a.remember
  · simp only [Bool.false_eq_true, if_false]
    have : ((m.putNode m.numLeaves ⟨a.hash, false⟩).numLeaves >>> (0#8).toNat &&& 1#64 == 1#64) = false := heven
    rw [this]
    simp only [Bool.false_eq_true, if_false]
    rfl
  · simp only [if_true]
    have : (((m.putNode m.numLeaves ⟨a.hash, true⟩).putCached a.hash m.numLeaves).numLeaves >>> (0#8).toNat &&& 1#64 == 1#64) = false := heven
    rw [this]
    simp only [Bool.false_eq_true, if_false]
    rfl

/-- **adding one leaf to a forest with an even number of slots preserves the invariant**
(no re-allocation: `TreeRows(n+1) ≤ TotalRows`, always true for the default 63 rows) -/
theorem inv_add_even {m : MapPollard H} {F : Forest H} (inv : Inv m F) (hfull : m.full = false)
    (x : H) (rem : Bool) (he : F.numLeaves % 2 = 0) (hn : F.numLeaves + 1 < 2 ^ 63)
    (hrows : forestRows (F.numLeaves + 1) ≤ m.totalRows.toNat) (hfresh : F.posOf x = none) :
    ∃ m', MapPollard.add [⟨x, rem⟩] m = (m', .ok ()) ∧ Inv m' (F.add x) ∧ m'.full = false ∧
      (∀ y, m'.getCached y =
        if rem = true ∧ y = x then some (encP m.totalRows.toNat (0, F.numLeaves)) else m.getCached y) := by
  have hT := inv.total_le
  have hN : m.numLeaves = BitVec.ofNat 64 F.numLeaves := inv.n_eq
  have hN1 : m.numLeaves + 1 = BitVec.ofNat 64 (F.numLeaves + 1) := by
    rw [hN]; exact ofNat_add_one _
  have hrm : TreeRows (m.numLeaves + 1) ≤ m.totalRows := by
    rw [hN1, SpecView.treeRows_eq hn, BitVec.le_def, toNat_H8 (SpecView.forestRows_le_63 hn)]
    exact hrows
  have hev : ((m.numLeaves >>> (0#8).toNat) &&& 1#64 == 1#64) = false := by
    rw [hN]
    exact (bit_test (Nat.lt_trans (Nat.lt_succ_self _) (Nat.lt_trans hn (by decide))) 0).trans
      (testBit_zero_even he)
  have heval := add_one_eval (m := m) ⟨x, rem⟩ hfull hrm hev
  simp only at heval
  have hencN : encP m.totalRows.toNat (0, F.numLeaves) = m.numLeaves := by
    rw [hN]; show BitVec.ofNat 64 (enc m.totalRows.toNat (0, F.numLeaves)) = _
    rw [SpecView.enc_zero_row]
  have hvN : Valid m.totalRows.toNat (0, F.numLeaves) :=
    ⟨Nat.zero_le _, Nat.lt_of_lt_of_le (forestRows_spec_le (F.numLeaves + 1))
      (two_pow_le_of_le hrows)⟩
  generalize hm' : ({ (if rem then (m.putNode m.numLeaves ⟨x, rem⟩).putCached x m.numLeaves
          else m.putNode m.numLeaves ⟨x, rem⟩) with numLeaves := m.numLeaves + 1 } : MapPollard H) = m' at heval
  have hT' : m'.totalRows = m.totalRows := by rw [← hm']; cases rem <;> rfl
  have hg' : ∀ p, m'.getNode p = if p = m.numLeaves then some ⟨x, rem⟩ else m.getNode p := by
    intro p; rw [← hm']; cases rem <;> simp [MapPollard.getNode, MapPollard.putNode, MapPollard.putCached, get?_put]
  have hc' : ∀ y, m'.getCached y = if rem = true ∧ y = x then some m.numLeaves else m.getCached y := by
    intro y; rw [← hm']
    cases rem
    · simp [MapPollard.getCached, MapPollard.putNode]
    · simp [MapPollard.getCached, MapPollard.putNode, MapPollard.putCached, get?_put]
  have hnotx : ∀ y p, m.getCached y = some p → y ≠ x := by
    rintro y p hy rfl
    obtain ⟨t, ht, _⟩ := inv.cached_pos y p hy
    rw [hfresh] at ht; cases ht
  have hK : ∀ y, y ≠ x → (m'.hasCached y = m.hasCached y) := by
    intro y hy
    rw [hasCached_eq, hasCached_eq, hc', if_neg (fun h => hy h.2)]
  have hnl : (F.add x).numLeaves = F.numLeaves + 1 := Spec.numLeaves_add F x
  have hnodeAt := nodeAt_add_even F x he
  have hposOf := posOf_add_even F x he hfresh
  refine ⟨m', heval, ?_, by rw [← hm']; cases rem <;> exact hfull, by intro y; rw [hc', hencN]⟩
  refine { n_lt := by rw [hnl]; exact hn, n_eq := by rw [hnl, ← hN1, ← hm'],
           rows_le := by rw [hT']; show forestRows (F.add x).numLeaves ≤ _; rw [hnl]; exact hrows,
           total_le := by rw [hT']; exact hT, true_hash := ?_, cached_pos := ?_, only_needed := ?_,
           has_needed := ?_, flags := ?_ }
  · intro p l hg
    rw [hT']
    rw [hg'] at hg
    split at hg
    · rename_i hp
      simp only [Option.some.injEq] at hg
      refine ⟨(0, F.numLeaves), hvN, by rw [hp, hencN], ?_⟩
      rw [hnodeAt, if_pos rfl, ← hg]
    · obtain ⟨q, hv, hpe, hq⟩ := inv.true_hash p l hg
      refine ⟨q, hv, hpe, ?_⟩
      rw [hnodeAt]
      split
      · rename_i hq0
        obtain ⟨R, hb⟩ := belowRoot_of_nodeAt hq
        exact absurd hq0 (belowRoot_ne_end hb)
      · exact hq
  · intro y p hy
    rw [hT']
    rw [hc'] at hy
    split at hy
    · rename_i h
      simp only [Option.some.injEq] at hy
      refine ⟨(0, F.numLeaves), by rw [hposOf, if_pos h.2], by rw [← hy, hencN]⟩
    · obtain ⟨t, ht, hp⟩ := inv.cached_pos y p hy
      exact ⟨t, by rw [hposOf, if_neg (hnotx y p hy)]; exact ht, hp⟩
  · intro q l hv hg
    rw [hT'] at hv hg
    unfold Allowed
    rw [hnl]
    rw [hg'] at hg
    split at hg
    · rename_i hp
      have hq : q = (0, F.numLeaves) := encP_inj hT hv hvN (by rw [hp, hencN])
      left
      rw [hq, isRootPos_succ_even he]; simp
    · rcases inv.only_needed q l hv hg with hr | ⟨y, t, hk, hp, h⟩
      · left; rw [isRootPos_succ_even he, hr]; rfl
      · have hyx : y ≠ x := by
          rintro rfl; rw [hfresh] at hp; cases hp
        obtain ⟨R0, hb0⟩ := posOf_belowRoot hp
        refine Or.inr ⟨y, t, by show m'.hasCached y = true; rw [hK y hyx]; exact hk,
          by rw [hposOf, if_neg hyx]; exact hp, ?_⟩
        rcases h with h | h
        · exact Or.inl ((onPath_succ_even he hb0).2 h)
        · exact Or.inr ((proofSib_succ_even he hb0).2 h)
  · intro q hreq
    rw [hT', hasNode_eq, hg']
    unfold Required at hreq
    rw [hnl] at hreq
    split
    · rfl
    · rw [← hasNode_eq]
      apply inv.has_needed
      rcases hreq with hr | ⟨y, t, hk, hp, h⟩
      · rw [isRootPos_succ_even he, Bool.or_eq_true] at hr
        rcases hr with hr | hr
        · exact Or.inl hr
        · rename_i hne
          exfalso
          rw [beq_iff_eq] at hr
          exact hne (by rw [hr, hencN])
      · rw [hposOf] at hp
        split at hp
        · rename_i hyx
          simp only [Option.some.injEq] at hp
          subst hp
          rcases h with h | h
          · rename_i hne; exact absurd (by rw [h, hencN]) hne
          · exact absurd h (proofSib_new he)
        · rename_i hyx
          obtain ⟨R0, hb0⟩ := posOf_belowRoot hp
          refine Or.inr ⟨y, t, by show m.hasCached y = true; rw [← hK y hyx]; exact hk, hp, ?_⟩
          rcases h with h | h
          · exact Or.inl h
          · exact Or.inr ((proofSib_succ_even he hb0).1 h)
  · intro _ q l hv hnr hg
    rw [hT'] at hv hg ⊢
    rw [hnl, isRootPos_succ_even he, Bool.or_eq_false_iff] at hnr
    rw [hg'] at hg
    split at hg
    · rename_i hp
      have hq : q = (0, F.numLeaves) := encP_inj hT hv hvN (by rw [hp, hencN])
      rw [hq] at hnr
      simp at hnr
    · rename_i hp
      rw [inv.flags hfull q l hv hnr.1 hg]
      constructor
      · rintro ⟨y, hy⟩
        exact ⟨y, by rw [hc', if_neg (fun h => hnotx y _ hy h.2)]; exact hy⟩
      · rintro ⟨y, hy⟩
        rw [hc'] at hy
        split at hy
        · simp only [Option.some.injEq] at hy
          exact absurd hy.symm hp
        · exact ⟨y, hy⟩

end UtreexoVerif.Proofs.MapAdd
