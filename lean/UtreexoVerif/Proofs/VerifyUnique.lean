/-
  An accepted proof on canonical positions carries the canonical proof hashes (under CR).
  Route: the loop executes any plan (`CalcPlan.Plan.run`); take the geometry of the canonical plan
  (`SpecPlan.spec_plan`) with the valuation `val` determined by the leaf hashes and the GIVEN proof
  hashes.  An accepting `matchRoots` says `val` is the true hash at the touched roots; under `CR.inj`
  this propagates down the paths (`step_down`) to the path nodes and the proof hashes.  A zero proof
  hash is rejected and an accepted run consumes at least the canonical number of hashes
  (`IngestBound.accepted_run`), which removes the non-zero and the length hypotheses.
  Names: `verify_proof_unique_nz` is the form WITH both hypotheses; `verify_proof_unique_len` the one
  WITHOUT either (the strongest: the accepted list starts with the canonical proof);
  `verify_proof_unique` its corollary for a list of the canonical length.
-/
import UtreexoVerif.Proofs.CalcComplete
import UtreexoVerif.Proofs.IngestBound
import UtreexoVerif.Proofs.PForestSpec
import UtreexoVerif.Proofs.MapSInv

namespace UtreexoVerif.Proofs.VerifyUnique
open Spec Model Hasher
open UtreexoVerif.Proofs.SpecNodes UtreexoVerif.Proofs.SpecView UtreexoVerif.Proofs.Sorted
open UtreexoVerif.Proofs.CalcGeo UtreexoVerif.Proofs.CalcPlan
open UtreexoVerif.Proofs.SpecPlan UtreexoVerif.Proofs.CalcSound UtreexoVerif.Proofs.CalcComplete
open UtreexoVerif.Proofs.PForestSpec

section
set_option linter.unusedSectionVars false
variable {H : Type} [DecidableEq H] [Hasher H]

def valR (hv w : Pos → H) (P ts : List Pos) : Nat → Nat → H
  | 0, o => hv (0, o)
  | r+1, o =>
    if (r+1, o) ∈ ts then hv (r+1, o)
    else comb (if (r, 2*o) ∈ P then valR hv w P ts r (2*o) else w (r, 2*o))
              (if (r, 2*o+1) ∈ P then valR hv w P ts r (2*o+1) else w (r, 2*o+1))

def val (hv w : Pos → H) (P ts : List Pos) (p : Pos) : H := valR hv w P ts p.1 p.2

theorem val_target (hv w : Pos → H) (P ts : List Pos) {p : Pos} (hp : p ∈ ts) :
    val hv w P ts p = hv p := by
  obtain ⟨r, o⟩ := p
  cases r with
  | zero => rfl
  | succ r =>
    show valR hv w P ts (r+1) o = _
    rw [valR, if_pos hp]

theorem val_parent (hv w : Pos → H) (P ts : List Pos) {c : Pos} (hc : c ∈ P)
    (hnt : parent c ∉ ts) :
    val hv w P ts (parent c) =
      if c.2 % 2 = 0 then
        comb (val hv w P ts c) (if sib c ∈ P then val hv w P ts (sib c) else w (sib c))
      else
        comb (if sib c ∈ P then val hv w P ts (sib c) else w (sib c)) (val hv w P ts c) := by
  obtain ⟨r, o⟩ := c
  show valR hv w P ts (r+1) (o/2) = _
  have hnt' : (r+1, o/2) ∉ ts := hnt
  rw [valR, if_neg hnt']
  by_cases he : o % 2 = 0
  · have e1 : 2 * (o / 2) = o := by omega
    have e2 : sib (r, o) = (r, o + 1) := by simp [sib, he]
    rw [e1, e2]
    simp only [he, if_true, if_pos hc]
    rfl
  · have e1 : 2 * (o / 2) + 1 = o := by omega
    have e2 : sib (r, o) = (r, 2 * (o / 2)) := by
      simp only [sib, if_neg he, Prod.mk.injEq, true_and]; omega
    rw [e1, e2]
    simp only [he, if_false, if_pos hc]
    rfl

theorem val_plan {n : Nat} (hn : n ≤ 2 ^ 63) {P ts : List Pos} {v0 w0 : Pos → H}
    (pl0 : Plan n P (isTarget ts) v0 w0) (hv w : Pos → H)
    (hw : ∀ c ∈ P, isRootPos n c = false → sib c ∉ P → w (sib c) ≠ zero) :
    Plan n P (isTarget ts) (val hv w P ts) w := by
  refine pl0.revalue (fun c hc hr => ?_) hw
  have hnt : parent c ∉ ts := by
    have := pl0.notT c hc hr
    simpa [isTarget] using this
  rw [val_parent hv w P ts hc hnt, getNextHash_comb,
    isLeftNiece_E (forestRows_small hn) (pl0.inF c hc).valid]
  by_cases he : c.2 % 2 = 0 <;> simp [he]

theorem getNextHash_ne_zero (nz : ∀ a b : H, ph a b ≠ (zero : H)) (pos : U64) {h : H} (s : H)
    (hh : h ≠ zero) : getNextHash pos h s ≠ zero := by
  unfold getNextHash
  rw [if_neg hh]
  split
  · exact hh
  · split <;> exact nz _ _

theorem plan_nonzero (nz : ∀ a b : H, ph a b ≠ (zero : H)) {n : Nat} {P : List Pos}
    {isT : Pos → Bool} {v w : Pos → H} (pl : Plan n P isT v w)
    (ht : ∀ p ∈ P, isT p = true → v p ≠ zero) : ∀ p ∈ P, v p ≠ zero := by
  have : ∀ k, ∀ p ∈ P, p.1 ≤ k → v p ≠ zero := by
    intro k
    induction k with
    | zero =>
      intro p hp hk
      rcases pl.gen p hp with h | ⟨c, _, _, hpc⟩
      · exact ht p hp h
      · have := congrArg Prod.fst hpc
        simp only [parent_fst] at this
        omega
    | succ k ih =>
      intro p hp hk
      rcases pl.gen p hp with h | ⟨c, hc, hcr, hpc⟩
      · exact ht p hp h
      · have h1 := congrArg Prod.fst hpc
        simp only [parent_fst] at h1
        rw [← hpc, pl.vstep c hc hcr]
        exact getNextHash_ne_zero nz _ _ (ih c hc (by omega))
  intro p hp
  exact this p.1 p hp (Nat.le_refl _)

theorem step_down (cr : CR H) {F : Forest H} (hn : F.numLeaves ≤ 2 ^ 63) {ts : List Pos}
    (tok : TargetsOK F ts) {isT : Pos → Bool} {v w : Pos → H}
    (pl : Plan F.numLeaves (pathSet F ts) isT v w) (hnzv : ∀ p ∈ pathSet F ts, v p ≠ zero)
    {c : Pos} (hc : c ∈ pathSet F ts) (hr : isRootPos F.numLeaves c = false)
    (hpar : v (parent c) = valAt CTree.hash F (parent c)) :
    v c = valAt CTree.hash F c ∧
      (if sib c ∈ pathSet F ts then v (sib c) else w (sib c)) = valAt CTree.hash F (sib c) := by
  obtain ⟨h, t, s⟩ := pathSet_sub tok hc
  obtain ⟨_, s', hp, hs⟩ := s.parent hr
  have hX : (if sib c ∈ pathSet F ts then v (sib c) else w (sib c)) ≠ zero := by
    split
    · rename_i hm; exact hnzv _ hm
    · rename_i hm; exact pl.wnz c hc hr hm
  have hvc := hnzv c hc
  have hstep := pl.vstep c hc hr
  rw [hpar, valAt_of hp, getNextHash_comb, isLeftNiece_E (forestRows_small hn) s.inF.valid] at hstep
  rw [valAt_of s, valAt_of hs]
  by_cases he : c.2 % 2 = 0
  · simp only [he, if_true, decide_true] at hstep
    rw [comb_nz hvc hX] at hstep
    have := cr.inj _ _ _ _ hstep
    exact ⟨this.1.symm, this.2.symm⟩
  · simp only [he, if_false, decide_false, Bool.false_eq_true] at hstep
    rw [comb_nz hX hvc] at hstep
    have := cr.inj _ _ _ _ hstep
    exact ⟨this.2.symm, this.1.symm⟩

theorem all_true (cr : CR H) {F : Forest H} (hn : F.numLeaves ≤ 2 ^ 63) {ts : List Pos}
    (tok : TargetsOK F ts) {isT : Pos → Bool} {v w : Pos → H}
    (pl : Plan F.numLeaves (pathSet F ts) isT v w) (hnzv : ∀ p ∈ pathSet F ts, v p ≠ zero)
    (hroots : ∀ p ∈ pathSet F ts, isRootPos F.numLeaves p = true → v p = valAt CTree.hash F p) :
    ∀ p ∈ pathSet F ts, v p = valAt CTree.hash F p := by
  have : ∀ k, ∀ p ∈ pathSet F ts, p.1 + k = forestRows F.numLeaves →
      v p = valAt CTree.hash F p := by
    intro k
    induction k with
    | zero =>
      intro p hp hk
      cases hr : isRootPos F.numLeaves p with
      | true => exact hroots p hp hr
      | false => have := (pl.up p hp hr).1; omega
    | succ k ih =>
      intro p hp hk
      cases hr : isRootPos F.numLeaves p with
      | true => exact hroots p hp hr
      | false =>
        have hpp := (pl.up p hp hr).2
        have := ih (parent p) hpp (by rw [parent_fst]; omega)
        exact (step_down cr hn tok pl hnzv hp hr this).1
  intro p hp
  have hle := (pl.inF p hp).1
  exact this (forestRows F.numLeaves - p.1) p hp (by omega)

theorem roots_true {F : Forest H} (hn : F.numLeaves ≤ 2 ^ 63) {ts : List Pos}
    (tok : TargetsOK F ts) (v : Pos → H) {prev : Option U8} {idx : List Nat}
    (hm : matchRoots (BitVec.ofNat 64 F.numLeaves) F.roots
      (((pathSet F ts).filter (isRootPos F.numLeaves)).map v)
      (((pathSet F ts).filter (isRootPos F.numLeaves)).map (fun p => H8 p.1)) prev = .ok idx) :
    ∀ p ∈ pathSet F ts, isRootPos F.numLeaves p = true → v p = valAt CTree.hash F p := by
  intro p hp hr
  have hpr : p ∈ pathRoots F ts := List.mem_filter.2 ⟨hp, hr⟩
  have hz : (v p, H8 p.1) ∈ (((pathSet F ts).filter (isRootPos F.numLeaves)).map v).zip
      (((pathSet F ts).filter (isRootPos F.numLeaves)).map (fun p => H8 p.1)) := by
    rw [List.zip_map']
    exact List.mem_map.2 ⟨p, hpr, rfl⟩
  have h1 := matchRoots_ok _ _ _ _ hm (by simp) _ hz
  simp only at h1
  have hb := root_bit hr
  have h63 : p.1 ≤ 63 := Nat.le_trans (testBit_le_forestRows hb) (forestRows_small hn)
  have hget := treeRows_getElem (n := F.numLeaves) (by omega) h63 hb
  rw [SpecNodes.roots_eq, List.getElem?_map, hget] at h1
  simp only [Option.map_some, Option.some.injEq] at h1
  obtain ⟨t0, ht0, hv⟩ := valAt_root tok CTree.hash hpr
  rw [hv, ← h1]
  simp only [treeRoot, ht0]

def wOf (PP : List Pos) (all : List H) (q : Pos) : H := all.getD (PP.idxOf q) zero

theorem map_wOf : ∀ (PP : List Pos) (all : List H), PP.Nodup → PP.length = all.length →
    PP.map (wOf PP all) = all := by
  intro PP
  induction PP with
  | nil => intro all _ h; cases all with
    | nil => rfl
    | cons _ _ => simp at h
  | cons x l ih =>
    intro all hnd hlen
    cases all with
    | nil => simp at hlen
    | cons y a =>
      rw [List.nodup_cons] at hnd
      simp only [List.length_cons, Nat.add_right_cancel_iff] at hlen
      rw [List.map_cons]
      congr 1
      · simp [wOf]
      · refine Eq.trans ?_ (ih a hnd.2 hlen)
        apply List.map_congr_left
        intro q hq
        have hne : (x == q) = false := beq_false_of_ne (fun e => hnd.1 (e ▸ hq))
        simp [wOf, List.idxOf_cons, hne]

theorem wOf_mem {PP : List Pos} {all : List H} (hlen : PP.length = all.length) {q : Pos}
    (hq : q ∈ PP) : wOf PP all q ∈ all := by
  unfold wOf
  have := List.idxOf_lt_length_of_mem hq
  have h2 : PP.idxOf q < all.length := by omega
  rw [List.getD_eq_getElem?_getD, List.getElem?_eq_getElem h2]
  exact List.getElem_mem _

/-- the canonical proof positions, as the plan consumes them -/
def ppos (F : Forest H) (ts : List Pos) : List Pos :=
  ((pathSet F ts).filter (needsProof F.numLeaves (pathSet F ts))).map sib

theorem ppos_nodup (F : Forest H) (ts : List Pos) : (ppos F ts).Nodup := by
  unfold ppos
  rw [← proofPositions_eq]
  have hs : (F.proofPositions ts).Pairwise Sorted.PLt := by
    unfold Forest.proofPositions
    exact sortDedup_sorted _
  refine hs.imp ?_
  intro a b h e
  subst e
  exact Sorted.PLt.irrefl _ h

theorem sib_mem_ppos {F : Forest H} {ts : List Pos} {c : Pos} (hc : c ∈ pathSet F ts)
    (hr : isRootPos F.numLeaves c = false) (hs : sib c ∉ pathSet F ts) : sib c ∈ ppos F ts := by
  unfold ppos
  exact List.mem_map.2 ⟨c, List.mem_filter.2 ⟨hc, by simp [needsProof, hr, hs]⟩, rfl⟩

def valOf (F : Forest H) (ts : List Pos) (all : List H) : Pos → H :=
  val (valAt CTree.hash F) (wOf (ppos F ts) all) (pathSet F ts) ts

section run
variable (cr : CR H) {F : Forest H} (hn : F.numLeaves ≤ 2 ^ 63) (hy : Hyg F)
  {L : List H} {ts : List Pos} {ps : List H} (hnd : L.Nodup) (hc : F.canon L = some (ts, ps))

theorem ps_eq (hc : F.canon L = some (ts, ps)) : ps = (ppos F ts).map (valAt CTree.hash F) :=
  canon_proof hc

theorem ps_length (hc : F.canon L = some (ts, ps)) : ps.length = (ppos F ts).length := by
  rw [ps_eq hc, List.length_map]

include cr hn hy hc in
theorem plan_of (all : List H) (hlen : all.length = ps.length) (hnz : ∀ h ∈ all, h ≠ zero) :
    Plan F.numLeaves (pathSet F ts) (isTarget ts) (valOf F ts all) (wOf (ppos F ts) all) := by
  have tok := canon_targetsOK hc
  have pl0 := spec_plan tok hn cr.nonzero hy.nz CTree.hash
    (fun a b ga gb => hash_node_comb cr.nonzero ga gb) (fun _ _ _ _ _ _ _ => rfl)
  apply val_plan hn pl0
  intro c hcP hr hs
  exact hnz _ (wOf_mem (by rw [hlen, ps_length hc]) (sib_mem_ppos hcP hr hs))

include cr hn hy hc in
theorem valOf_nonzero (all : List H) (hlen : all.length = ps.length) (hnz : ∀ h ∈ all, h ≠ zero) :
    ∀ p ∈ pathSet F ts, valOf F ts all p ≠ zero := by
  have tok := canon_targetsOK hc
  apply plan_nonzero cr.nonzero (plan_of cr hn hy hc all hlen hnz)
  intro p _ hT
  have hpt : p ∈ ts := by simpa [isTarget] using hT
  unfold valOf
  rw [val_target _ _ _ _ hpt]
  obtain ⟨h, l, s⟩ := tok p hpt
  rw [valAt_of s]
  exact hy.nz l (s.leaves_live l (by simp [CTree.leaves]))

theorem targets_vals (hc : F.canon L = some (ts, ps)) (all : List H) :
    L = ts.map (valOf F ts all) := by
  have h1 := canon_target_vals hc CTree.hash
  have h2 : L.map (fun l => CTree.hash (.leaf l)) = L := by
    simp [CTree.hash]
  rw [← h2, ← h1]
  apply List.map_congr_left
  intro t ht
  unfold valOf
  rw [val_target _ _ _ _ ht]

include cr hn hy hnd hc in
theorem run_nz (all junk : List H) (hlen : all.length = ps.length) (hnz : ∀ h ∈ all, h ≠ zero) :
    ∃ sf : CalcSt H,
      calcLoop (BitVec.ofNat 64 F.numLeaves) (H8 F.rows)
        (calcFuel (ts.map (E F.rows)).length (H8 F.rows))
        (initSt (sortHP ((ts.map (E F.rows)).zip L)) (all ++ junk)) = .ok sf ∧
      sf.proof = junk ∧
      sf.roots = ((pathSet F ts).filter (isRootPos F.numLeaves)).map (valOf F ts all) ∧
      sf.rootRows = ((pathSet F ts).filter (isRootPos F.numLeaves)).map (fun p => H8 p.1) := by
  have tok := canon_targetsOK hc
  have pl := plan_of cr hn hy hc all hlen hnz
  have hq := pl.start_queue hn (fun p => by simp [isTarget]) (canon_targets_nodup hc hnd)
    (fun t ht => targets_sub_pathSet tok ht)
  have hpr : all ++ junk = Plan.proof F.numLeaves (pathSet F ts) (wOf (ppos F ts) all) ++ junk :=
    congrArg (· ++ junk) (map_wOf _ _ (ppos_nodup F ts) (by rw [hlen, ps_length hc])).symm
  obtain ⟨sf, hloop, hrest⟩ := pl.run hn junk (calcFuel (ts.map (E F.rows)).length (H8 F.rows))
    (by rw [List.length_map]; exact pathSet_fuel F hn ts)
  refine ⟨sf, ?_, hrest.1, hrest.2.1, hrest.2.2.1⟩
  rw [targets_vals hc all, hpr]
  show calcLoop _ _ _ (initSt (sortHP ((ts.map (E (forestRows F.numLeaves))).zip _)) _) = _
  rw [hq]
  exact hloop

include cr hn hy hc in
theorem match_nz (all : List H) (hlen : all.length = ps.length) (hnz : ∀ h ∈ all, h ≠ zero)
    {prev : Option U8} {idx : List Nat}
    (hm : matchRoots (BitVec.ofNat 64 F.numLeaves) F.roots
      (((pathSet F ts).filter (isRootPos F.numLeaves)).map (valOf F ts all))
      (((pathSet F ts).filter (isRootPos F.numLeaves)).map (fun p => H8 p.1)) prev = .ok idx) :
    all = ps := by
  have tok := canon_targetsOK hc
  have pl := plan_of cr hn hy hc all hlen hnz
  have hnzv := valOf_nonzero cr hn hy hc all hlen hnz
  have htrue := all_true cr hn tok pl hnzv (roots_true hn tok _ hm)
  have hall : (ppos F ts).map (wOf (ppos F ts) all) = all :=
    map_wOf _ _ (ppos_nodup F ts) (by rw [hlen, ps_length hc])
  rw [ps_eq hc, ← hall]
  apply List.map_congr_left
  intro q hq
  obtain ⟨c, hcm, rfl⟩ := List.mem_map.1 hq
  obtain ⟨hcP, hnp⟩ := List.mem_filter.1 hcm
  simp only [needsProof, Bool.and_eq_true, Bool.not_eq_eq_eq_not, Bool.not_true,
    decide_eq_false_iff_not] at hnp
  have hpar := htrue _ (pl.up c hcP hnp.1).2
  have := (step_down cr hn tok pl hnzv hcP hnp.1 hpar).2
  rw [if_neg hnp.2] at this
  exact this

end run

theorem verify_proof_unique_nz (cr : CR H) {F : Forest H} (hn : F.numLeaves ≤ 2 ^ 63) (hy : Hyg F)
    {L : List H} {ts : List Pos} {ps : List H} (hnd : L.Nodup) (hc : F.canon L = some (ts, ps))
    (all : List H) (hlen : all.length = ps.length) (hnz : ∀ h ∈ all, h ≠ zero) {idx : List Nat}
    (hok : verify (BitVec.ofNat 64 F.numLeaves) F.roots L (ts.map (E F.rows)) all = .ok idx) :
    all = ps := by
  obtain ⟨r, hcalc, hm⟩ := verify_ok hok
  obtain ⟨sf, hloop, rfl⟩ := CalcSoundX.calculateHashes_ok hcalc
  obtain ⟨sf', hloop', _, hroots, hrows⟩ := run_nz cr hn hy hnd hc all [] hlen hnz
  rw [treeRows_ofNat hn] at hloop
  rw [List.append_nil] at hloop'
  have e : Out.ok sf = Out.ok sf' := hloop.symm.trans hloop'
  injection e with e
  subst e
  rw [hroots, hrows] at hm
  exact match_nz cr hn hy hc all hlen hnz hm

/-- the run read a non-zero prefix of `all` (`calcLoop_consumed`) that is at least as long as the
canonical proof (`IngestBound.accepted_run`), so it is the run of the plan built from that prefix -/
theorem verify_proof_unique_len (cr : CR H) {F : Forest H} (hn : F.numLeaves ≤ 2 ^ 63)
    (hy : Hyg F) {L : List H} {ts : List Pos} {ps : List H} (hnd : L.Nodup)
    (hc : F.canon L = some (ts, ps)) (all : List H) {idx : List Nat}
    (hok : verify (BitVec.ofNat 64 F.numLeaves) F.roots L (ts.map (E F.rows)) all = .ok idx) :
    ∃ junk : List H, all = ps ++ junk := by
  have htr := forestRows_small hn
  have tok := canon_targetsOK hc
  obtain ⟨sf, Tg, hloop, hm, hyp, hsort, hlen⟩ := IngestBound.accepted_run hn hok
  obtain ⟨used, hall, hnzu⟩ := CalcSoundX.calcLoop_consumed _ _ _ hloop
  have hall' : all = used ++ sf.proof := hall
  have hmem : ∀ x, x ∈ Tg ↔ x ∈ ts := by
    have hvT : ∀ t ∈ ts, ValidH F.rows t := fun t ht =>
      have ⟨_, _, s⟩ := tok t ht
      s.inF.valid
    have hvG : ∀ g ∈ Tg, ValidH F.rows g := fun g hg =>
      have ⟨_, hb⟩ := hyp.inForest g hg
      hb.valid (forestRows_spec_le _)
    intro x
    constructor
    · intro hx
      have : encP (forestRows F.numLeaves) x ∈ sortU64 (ts.map (E F.rows)) := by
        rw [hsort]; exact List.mem_map_of_mem hx
      rw [SortBy.mem_sortU64] at this
      obtain ⟨t, ht, e⟩ := List.mem_map.1 this
      exact encP_inj htr (hvT t ht) (hvG x hx) e ▸ ht
    · intro hx
      have : E F.rows x ∈ Tg.map (encP (forestRows F.numLeaves)) := by
        rw [← hsort, SortBy.mem_sortU64]; exact List.mem_map_of_mem hx
      obtain ⟨g, hg, e⟩ := List.mem_map.1 this
      exact encP_inj htr (hvG g hg) (hvT x hx) e ▸ hg
  have hlu : ps.length ≤ used.length := by
    have := hlen F.rows (Nat.le_refl _)
    rw [IngestBound.refPP_spec hyp (Nat.le_refl _), hall', List.length_append] at this
    dsimp only at this
    rw [proofPositions_congr F hmem] at this
    have hps : ps.length = (F.proofPositions ts).length := by
      rw [(canon_spec hc).2.2.1, List.length_map]
    omega
  have ha : (all.take ps.length).length = ps.length := by
    rw [List.length_take, hall', List.length_append]; omega
  have hanz : ∀ h ∈ all.take ps.length, h ≠ zero := by
    intro h hh
    rw [hall', List.take_append_of_le_length hlu] at hh
    exact hnzu h (List.mem_of_mem_take hh)
  obtain ⟨sf', hloop', _, hroots, hrows⟩ :=
    run_nz cr hn hy hnd hc (all.take ps.length) (all.drop ps.length) ha hanz
  rw [List.take_append_drop] at hloop'
  have e : Out.ok sf = Out.ok sf' := hloop.symm.trans hloop'
  injection e with e
  subst e
  rw [hroots, hrows] at hm
  have := match_nz cr hn hy hc (all.take ps.length) ha hanz hm
  exact ⟨all.drop ps.length, by conv => lhs; rw [← List.take_append_drop ps.length all, this]⟩

theorem verify_proof_unique (cr : CR H) {F : Forest H} (hn : F.numLeaves ≤ 2 ^ 63) (hy : Hyg F)
    {L : List H} {ts : List Pos} {ps : List H} (hnd : L.Nodup) (hc : F.canon L = some (ts, ps))
    (all : List H) (hlen : all.length = ps.length) {idx : List Nat}
    (hok : verify (BitVec.ofNat 64 F.numLeaves) F.roots L (ts.map (E F.rows)) all = .ok idx) :
    all = ps := by
  obtain ⟨junk, hj⟩ := verify_proof_unique_len cr hn hy hnd hc all hok
  have : junk = [] := by
    have := congrArg List.length hj
    rw [List.length_append, hlen] at this
    exact List.eq_nil_of_length_eq_zero (by omega)
  rw [hj, this, List.append_nil]

theorem verify_rejects (cr : CR H) {F : Forest H} (hn : F.numLeaves ≤ 2 ^ 63) (hy : Hyg F)
    {L : List H} {ts : List Pos} {ps : List H} (hnd : L.Nodup) (hc : F.canon L = some (ts, ps))
    (all : List H) (hne : ¬ ∃ junk, all = ps ++ junk) :
    ∀ idx, verify (BitVec.ofNat 64 F.numLeaves) F.roots L (ts.map (E F.rows)) all ≠ .ok idx :=
  fun _ hok => hne (verify_proof_unique_len cr hn hy hnd hc all hok)

theorem verify_proof_hashes (cr : CR H) {F : Forest H} (hn : F.numLeaves ≤ 2 ^ 63) (hy : Hyg F)
    {L : List H} {ts : List Pos} {ps : List H} (hnd : L.Nodup) (hc : F.canon L = some (ts, ps))
    (all : List H) (hlen : all.length = ps.length) {idx : List Nat}
    (hok : verify (BitVec.ofNat 64 F.numLeaves) F.roots L (ts.map (E F.rows)) all = .ok idx) :
    all = (F.proofPositions ts).map (fun p => (F.nodeAt p).getD zero) := by
  rw [verify_proof_unique cr hn hy hnd hc all hlen hok]
  exact (canon_spec hc).2.2.1

end

/-! ## non-vacuity

`F5` of `Props/C09.lean` (five live leaves, term-algebra hash `T`, `crT : CR T`): the canonical
proof of leaves 1 and 3 is `[leaf 0, leaf 2]`. -/

namespace Example
open Props.C09.Example MapSInv.Example

theorem canon13 : F5.canon [T.leaf 1, .leaf 3] = some ([(0, 1), (0, 3)], [T.leaf 0, .leaf 2]) := by
  decide +kernel

theorem accept13 : verify (BitVec.ofNat 64 F5.numLeaves) F5.roots [T.leaf 1, .leaf 3]
    (([(0, 1), (0, 3)] : List Pos).map (E F5.rows)) [T.leaf 0, .leaf 2] = .ok [0] := by
  decide +kernel

example : [T.leaf 0, .leaf 2] = [T.leaf 0, .leaf 2] :=
  verify_proof_unique crT (by decide) F5_hyg (by decide) canon13 [T.leaf 0, .leaf 2] rfl accept13

example (all : List T) (hlen : all.length = 2) (idx : List Nat)
    (hok : verify (BitVec.ofNat 64 F5.numLeaves) F5.roots [T.leaf 1, .leaf 3]
      (([(0, 1), (0, 3)] : List Pos).map (E F5.rows)) all = .ok idx) :
    all = [T.leaf 0, .leaf 2] :=
  verify_proof_unique crT (by decide) F5_hyg (by decide) canon13 all hlen hok

example : ∃ junk, [T.leaf 0, .leaf 2, .leaf 77] = [T.leaf 0, .leaf 2] ++ junk :=
  verify_proof_unique_len crT (by decide) F5_hyg (by decide) canon13 [T.leaf 0, .leaf 2, .leaf 77]
    (idx := [0]) (by decide +kernel)

example :
    verify (BitVec.ofNat 64 F5.numLeaves) F5.roots [T.leaf 1, .leaf 3]
      (([(0, 1), (0, 3)] : List Pos).map (E F5.rows)) [T.leaf 0, .leaf 7] = .err ∧
    verify (BitVec.ofNat 64 F5.numLeaves) F5.roots [T.leaf 1, .leaf 3]
      (([(0, 1), (0, 3)] : List Pos).map (E F5.rows)) [T.z, .leaf 2] = .err ∧
    verify (BitVec.ofNat 64 F5.numLeaves) F5.roots [T.leaf 1, .leaf 3]
      (([(0, 1), (0, 3)] : List Pos).map (E F5.rows)) [T.leaf 0] = .err := by
  decide +kernel

example : ∀ idx, verify (BitVec.ofNat 64 F5.numLeaves) F5.roots [T.leaf 1, .leaf 3]
    (([(0, 1), (0, 3)] : List Pos).map (E F5.rows)) [T.leaf 0, .leaf 7] ≠ .ok idx :=
  verify_rejects crT (by decide) F5_hyg (by decide) canon13 _ (by
    rintro ⟨junk, h⟩
    simp at h)

end Example
end UtreexoVerif.Proofs.VerifyUnique

