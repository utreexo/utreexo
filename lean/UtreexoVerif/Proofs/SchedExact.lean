/-
  `genTTLs` is exact (property C15): on the summaries of a well-formed history with at most
  `2^62` leaves, the tracker of /repo (`getPrevPosFixed` = what `getPrevPos` of prove.go does)
  computes exactly the lifetime tables.  The second part is the witness on which the hypotheses of
  `SchedGen.genTTLs_exact_of_step` hold: it keeps that module's namespace and stands here because it
  needs `SchedTrack` and `SchedGpp`.
-/
import UtreexoVerif.Proofs.SchedTrack
import UtreexoVerif.Proofs.SchedGpp
import UtreexoVerif.Proofs.SchedGen

namespace UtreexoVerif.Proofs.SchedExact
open Spec.Sched Model

theorem genTTLs_exact {h : History} {blocks : List (List U64 × U16)} (hw : wellFormed h = true)
    (hadds : ∀ b ∈ h, b.numAdds < 65536) (htot : total h ≤ 2 ^ 62)
    (hs : Props.C15.summariesOf h = some blocks) :
    ∃ tr cs, Tracker.ofBlocks blocks = .ok tr ∧ tr.genTTLsWith getPrevPosFixed = .ok cs ∧
      cs.ttls = Props.C15.lifetimeTables h := by
  obtain ⟨tr, h1, hok⟩ := SchedTrack.ofBlocks_spec hw hadds htot hs
  have hstep := SchedGpp.stepOK_fixed hw hadds htot hok
  obtain ⟨cs, h2, h3⟩ := SchedGen.genTTLs_exact_of_step getPrevPosFixed h tr hw hok hstep
  exact ⟨tr, cs, h1, h2, h3⟩

end UtreexoVerif.Proofs.SchedExact

namespace UtreexoVerif.Proofs.SchedGen
open Model
open UtreexoVerif.Proofs.SchedIface UtreexoVerif.Props.C15

/-- what `Tracker.ofBlocks witnessBlocks` holds (without the `roots`, which neither `genTTLs` nor
`TrackerOK` looks at) -/
def witnessTracker : Tracker :=
  { deletions := [[], [0#64], [0x8000000000000000#64]],
    numAdds := [1#16, 1#16, 0#16],
    numLeaves := [1#64, 2#64, 2#64],
    toDestroy := [[], [0#64], []] }

theorem witnessTracker_eq :
    (Tracker.ofBlocks witnessBlocks).toOption.map
        (fun tr => (tr.deletions, tr.numAdds, tr.numLeaves, tr.toDestroy)) =
      some (witnessTracker.deletions, witnessTracker.numAdds, witnessTracker.numLeaves,
        witnessTracker.toDestroy) := by decide +kernel

theorem witness_trackerOK : TrackerOK witness witnessTracker := by
  obtain ⟨tr, htr, hok⟩ := SchedTrack.ofBlocks_spec (h := witness) (by decide +kernel) (by decide)
    (by decide) witness_summaries
  have he := witnessTracker_eq
  rw [htr] at he
  simp only [Out.toOption, Option.map_some, Option.some.injEq, Prod.mk.injEq] at he
  obtain ⟨e1, e2, e3, e4⟩ := he
  exact ⟨e1 ▸ hok.len_d, e2 ▸ hok.len_a, e3 ▸ hok.len_n, e4 ▸ hok.len_t, e1 ▸ hok.dels, e2 ▸ hok.adds,
    e3 ▸ hok.leaves, e4 ▸ hok.td⟩

theorem witness_stepOK : StepOK getPrevPosFixed witness witnessTracker :=
  SchedGpp.stepOK_fixed (by decide +kernel) (by decide) (by decide) witness_trackerOK

/-- the hypotheses of `genTTLs_exact_of_step` are satisfiable -/
example : ∃ cs, witnessTracker.genTTLsWith getPrevPosFixed = .ok cs ∧
    cs.ttls = [[⟨0#64, 1⟩], [⟨1#64, 1⟩], []] := by
  obtain ⟨cs, h1, h2⟩ := genTTLs_exact_of_step getPrevPosFixed witness witnessTracker
    (by decide +kernel) witness_trackerOK witness_stepOK
  refine ⟨cs, h1, ?_⟩
  rw [h2]
  decide +kernel

end UtreexoVerif.Proofs.SchedGen
