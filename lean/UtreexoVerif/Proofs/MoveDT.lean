/-
  `getNewPositions`' inner loop over the maximal fully-deleted subtrees computes the deletion
  movement (property C07, level 2): for a list `dt` that is strictly ascending and contains
  exactly the positions `IsDT F D`, and a node `p` of `F` that keeps a survivor,
  `moveA n h dt p = movePos F D p` (`moveA_eq_movePos`).  It is an instance of `moveA_eq_collapse`:
  over ANY list that holds, on every row, the sibling of the ancestor of `c` exactly when that
  sibling is dead, the fold lifts `c` over its dead levels (the additions are the other instance).
-/
import UtreexoVerif.Proofs.Movement
import UtreexoVerif.Proofs.MoveFold
import UtreexoVerif.Proofs.SortedLists

namespace UtreexoVerif.Proofs.MoveDT
open Spec
open UtreexoVerif.Proofs.SpecNodes UtreexoVerif.Proofs.SpecSubs
open UtreexoVerif.Proofs.CalcComplete UtreexoVerif.Proofs.FinalPos
open UtreexoVerif.Proofs.Movement UtreexoVerif.Proofs.MoveFold

theorem hit_sibling {T c : Pos} (h : hitA T c = true) (hg : ¬ Under T.1 T.2 c) :
    c.1 ≤ T.1 ∧ T = (T.1, sibIdx (c.2 / 2 ^ (T.1 - c.1))) := by
  unfold hitA at h
  simp only [decide_eq_true_eq] at h
  obtain ⟨hle, hdiv⟩ := h
  have hhalf : T.2 / 2 = c.2 / 2 ^ (T.1 - c.1) / 2 := by
    rw [← hdiv, show T.1 + 1 - c.1 = (T.1 - c.1) + 1 from Nat.succ_sub hle, Nat.pow_succ,
      Nat.div_div_eq_div_mul]
  have hne : T.2 ≠ c.2 / 2 ^ (T.1 - c.1) := fun e => hg ⟨hle, e.symm⟩
  exact ⟨hle, Prod.ext rfl (eq_sibIdx_of_half hhalf hne)⟩

theorem under_anc_sib {R o : Nat} {c : Pos} (hu : Under R o c) {j : Nat} (h1 : c.1 ≤ j) (h2 : j < R) :
    Under R o (j, sibIdx (c.2 / 2 ^ (j - c.1))) := by
  refine ⟨Nat.le_of_lt h2, ?_⟩
  show sibIdx (c.2 / 2 ^ (j - c.1)) / 2 ^ (R - j) = o
  rw [show R - j = 1 + (R - (j + 1)) by omega, Nat.pow_add, ← Nat.div_div_eq_div_mul, Nat.pow_one,
    sibIdx_div_two, Nat.div_div_eq_div_mul, Nat.div_div_eq_div_mul, ← Nat.pow_succ', ← Nat.pow_add,
    ← hu.2]
  congr 2
  have := hu.1
  omega

theorem moveA_eq_collapse {n R : Nat} {dt : List Pos} {c : Pos} (al : Nat → Nat → Bool)
    (hrows : dt.Pairwise (fun a b => a.1 ≤ b.1)) (hnd : dt.Nodup)
    (hgood : ∀ T ∈ dt, inTree n R T = true → ¬ Under T.1 T.2 c)
    (hlt : ∀ T ∈ dt, inTree n R T = true → hitA T c = true → T.1 < R)
    (hu : Under R (2 * (n >>> (R + 1))) c)
    (hdead : ∀ j, c.1 ≤ j → j < R →
      ((j, sibIdx (c.2 / 2 ^ (j - c.1))) ∈ dt ↔ al j (sibIdx (c.2 / 2 ^ (j - c.1))) = false)) :
    moveA n R dt c = liftFold 0 c (deadLevels al (R - c.1) c.1 c.2) := by
  refine moveA_eq_liftFold ⟨hrows, hnd, ?_⟩ (deadLevels_asc al _ _ _) (fun j => ?_)
  · intro T hT T' hT' hin hin' hh hh' hrow
    have e1 := (hit_sibling hh (hgood T hT hin)).2
    have e2 := (hit_sibling hh' (hgood T' hT' hin')).2
    rw [e1, e2, hrow]
  · rw [mem_deadLevels]
    constructor
    · rintro ⟨h1, h2, h3⟩
      have hjR : j < R := by omega
      refine ⟨_, (hdead j h1 hjR).2 h3, (inTree_iff _ _ _).2 (under_anc_sib hu h1 hjR), ?_, rfl⟩
      unfold hitA
      simp only [decide_eq_true_eq]
      refine ⟨h1, ?_⟩
      rw [sibIdx_div_two, show j + 1 - c.1 = (j - c.1) + 1 from Nat.succ_sub h1, Nat.pow_succ,
        Nat.div_div_eq_div_mul]
    · rintro ⟨T, hT, hin, hhit, rfl⟩
      obtain ⟨hle, e⟩ := hit_sibling hhit (hgood T hT hin)
      have hTR := hlt T hT hin hhit
      rw [e] at hT
      exact ⟨hle, by omega, (hdead T.1 hle hTR).1 hT⟩

section
variable {H : Type} [DecidableEq H] [Hasher H]

theorem dt_not_root {F : Forest H} {D : List H} {h : Nat} {p : Pos} {t : CTree H}
    (s : SubAtT F h p t) (hal : delT D t ≠ none) {T : Pos} (hT : IsDT F D T)
    (hin : inTree F.numLeaves h T = true) : T.1 < h := by
  obtain ⟨hT', tT, sT, hdead, _⟩ := hT
  have hu := (inTree_iff _ _ _).1 hin
  have hh' : hT' = h := tree_of_under sT s.bit hu
  rw [hh'] at sT
  rcases Nat.lt_or_ge T.1 h with hlt | hge
  · exact hlt
  · exfalso
    have e : T.1 = h := by have := sT.row_le; omega
    obtain ⟨ta, sa, hala⟩ := anc_alive s hal (d := h - p.1) (by have := s.row_le; omega)
    have h1 := sT.under.2
    have h2 := s.under.2
    rw [e, Nat.sub_self, Nat.pow_zero, Nat.div_one] at h1
    have : T = (p.1 + (h - p.1), p.2 / 2 ^ (h - p.1)) := by
      apply Prod.ext
      · simp only; have := s.row_le; omega
      · simp only; rw [h1, h2]
    rw [this] at sT
    have := (sT.unique sa).2
    rw [this] at hdead
    exact hala hdead

theorem moveA_eq_movePos {F : Forest H} {D : List H} {dt : List Pos} (hs : dt.Pairwise Sorted.PLt)
    (hdt : ∀ T, T ∈ dt ↔ IsDT F D T) {h : Nat} {p : Pos} {t : CTree H} (s : SubAtT F h p t)
    (hal : delT D t ≠ none) : moveA F.numLeaves h dt p = movePos F D p := by
  unfold movePos deadLevelsOf
  rw [treeRowOf_of s]
  have anc : ∀ j, p.1 ≤ j → j ≤ h → ∃ ta, SubAtT F h (j, p.2 / 2 ^ (j - p.1)) ta ∧ delT D ta ≠ none := by
    intro j h1 h2
    obtain ⟨ta, sa, hala⟩ := anc_alive s hal (d := j - p.1) (by omega)
    rw [show p.1 + (j - p.1) = j by omega] at sa
    exact ⟨ta, sa, hala⟩
  have sibn : ∀ j, p.1 ≤ j → j < h → ∃ ts, SubAtT F h (j, sibIdx (p.2 / 2 ^ (j - p.1))) ts := by
    intro j h1 h2
    obtain ⟨ta, sa, _⟩ := anc j h1 (Nat.le_of_lt h2)
    have hnr : isRootPos F.numLeaves (j, p.2 / 2 ^ (j - p.1)) = false := by
      cases hr : isRootPos F.numLeaves (j, p.2 / 2 ^ (j - p.1)) with
      | false => rfl
      | true => have := (sa.root_iff).1 hr; simp only at this; omega
    obtain ⟨_, s', _, ssib⟩ := sa.parent hnr
    exact ⟨s', ssib⟩
  apply moveA_eq_collapse (aliveAfter F D)
    (hs.imp (fun {a b} hab => by rcases hab with h1 | h1 <;> omega))
    (hs.imp (fun {a b} hab => Sorted.PLt.ne hab))
  · -- `p` is inside no fully deleted subtree
    rintro T hT hin ⟨hle, hu⟩
    obtain ⟨hT', tT, sT, hdead, _⟩ := (hdt T).1 hT
    have hh' : hT' = h := tree_of_under sT s.bit ((inTree_iff _ _ _).1 hin)
    subst hh'
    obtain ⟨ta, sa, hala⟩ := anc T.1 hle sT.row_le
    rw [hu] at sa
    rw [(sT.unique sa).2] at hdead
    exact hala hdead
  · intro T hT hin _
    exact dt_not_root s hal ((hdt T).1 hT) hin
  · exact s.under
  · intro j h1 h2
    obtain ⟨ts, ss⟩ := sibn j h1 h2
    obtain ⟨ta, sa, hala⟩ := anc j h1 (Nat.le_of_lt h2)
    rw [hdt, aliveAfter_of ss]
    constructor
    · rintro ⟨h', t', s', hd', _⟩
      rw [(s'.unique ss).2] at hd'
      rw [hd']; rfl
    · intro hd
      refine ⟨h, ts, ss, ?_, Or.inr ?_⟩
      · cases hx : delT D ts with
        | none => rfl
        | some x => rw [hx] at hd; cases hd
      · simp only [sibIdx_sibIdx]
        rw [aliveAfter_of sa]
        cases hx : delT D ta with
        | none => exact absurd hx hala
        | some x => rfl

end
end UtreexoVerif.Proofs.MoveDT
