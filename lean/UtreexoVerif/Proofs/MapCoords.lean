/-
  Storage and API coordinates of a map forest: API positions are those of `F.rows` rows, stored positions those of
  the allocation `T ≥ F.rows`; Go translates between the two only when the row counts differ.  The lemmas hold for
  every allocation (the `if` on the row counts is disposed of by `ite_rows`), so that `ingest`, `undoDeletion`,
  `GetMissingPositions` and `VerifyPartialProof` share them.
  At the end `ingest_eq`: `MapPollard.ingest` opened once, step by step, about variables (model only).
  Namespace: `MapIngest`.
-/
import UtreexoVerif.Proofs.MapInv
import UtreexoVerif.Proofs.SpecPlan
import UtreexoVerif.Props.C16c
import UtreexoVerif.Props.C16d
import UtreexoVerif.Proofs.ProofOps

namespace UtreexoVerif.Proofs.MapIngest
open Model (toHashAndPos sortHP translatePos translatePositions sortU64 MapPollard.trimProofPos ProofPositions)
open Spec (Pos Forest)
open MapInv (belowRoot_valid')
set_option linter.unusedSectionVars false

variable {H : Type} [DecidableEq H] [Hasher H]

section geo

theorem toHashAndPos_canon {h : Nat} (h63 : h ≤ 63) (ts : List Pos) (L : List H)
    (hv : ∀ t ∈ ts, MapInv.Valid h t) (hlen : ts.length = L.length) :
    ∃ hnp, toHashAndPos (ts.map (encP h)) L = .ok hnp ∧ hnp.positions = (sortPos ts).map (encP h) := by
  refine ⟨sortHP ((ts.map (encP h)).zip L), ?_, ?_⟩
  · unfold toHashAndPos
    rw [if_pos (by rw [List.length_map]; exact hlen)]
  · rw [SortBy.sortHP_positions, ProofOps.zip_positions _ _ (by rw [List.length_map]; exact hlen)]
    exact sortU64_encP h63 ts hv

theorem takeWhile_all {α : Type} (p : α → Bool) : ∀ (l : List α), (∀ x ∈ l, p x = true) → l.takeWhile p = l
  | [], _ => rfl
  | a :: l, h => by
    rw [List.takeWhile_cons, h a List.mem_cons_self]
    simp only [if_true]
    rw [takeWhile_all p l (fun x hx => h x (List.mem_cons_of_mem _ hx))]

variable {rows T : Nat}

theorem h8_ne_iff (hT : T ≤ 63) (hfit : rows ≤ T) : H8 rows ≠ H8 T ↔ rows ≠ T := by
  constructor
  · intro h e; exact h (by rw [e])
  · intro h e
    exact h (H8_inj (by omega) (by omega) e)

theorem ne_comm_ite {α β : Type} [DecidableEq α] (a b : α) (x y : β) :
    (if a ≠ b then x else y) = if b ≠ a then x else y := by
  by_cases h : a = b
  · subst h; rfl
  · rw [if_pos h, if_pos (Ne.symm h)]

/-- Go's `if rows != allocation { translate }`: when the translated value is `z T` and the untranslated one is
`z rows`, the result is `z T` either way (`ne_comm_ite` turns the test round) -/
theorem ite_rows {α : Type} (hT : T ≤ 63) (hfit : rows ≤ T) {x : α} {y z : Nat → α} (hx : x = z T) (hy : ∀ r, y r = z r) :
    (if H8 rows ≠ H8 T then x else y rows) = z T := by
  split
  · exact hx
  · rename_i hc
    rw [hy, Decidable.byContradiction (fun h => hc ((h8_ne_iff hT hfit).2 h))]

theorem toStor1 (hT : T ≤ 63) (hfit : rows ≤ T) {q : Pos} (hq : MapInv.Valid rows q) :
    translatePos (encP rows q) (H8 rows) (H8 T) = encP T q :=
  EncPos.translatePos_encP (Nat.le_trans hfit hT) hq hT (hq.mono hfit)

theorem toStor_map (hT : T ≤ 63) (hfit : rows ≤ T) {qs : List Pos} (hv : ∀ q ∈ qs, MapInv.Valid rows q) :
    translatePositions (qs.map (encP rows)) (H8 rows) (H8 T) = qs.map (encP T) :=
  Props.C16.translatePositions_enc (Nat.le_trans hfit hT) hT qs fun q hq => ⟨hv q hq, (hv q hq).mono hfit⟩

theorem toApi_map (hT : T ≤ 63) (hfit : rows ≤ T) {qs : List Pos} (hv : ∀ q ∈ qs, MapInv.Valid rows q) :
    translatePositions (qs.map (encP T)) (H8 T) (H8 rows) = qs.map (encP rows) :=
  Props.C16.translatePositions_enc hT (Nat.le_trans hfit hT) qs fun q hq => ⟨(hv q hq).mono hfit, hv q hq⟩

theorem toStor (hT : T ≤ 63) (hfit : rows ≤ T) (qs : List Pos) (hv : ∀ q ∈ qs, MapInv.Valid rows q) :
    (if H8 rows ≠ H8 T then translatePositions (qs.map (encP rows)) (H8 rows) (H8 T)
      else qs.map (encP rows)) = qs.map (encP T) :=
  ite_rows hT hfit (y := fun r => qs.map (encP r)) (z := fun r => qs.map (encP r)) (toStor_map hT hfit hv) (fun _ => rfl)

theorem sorted_toStor (hT : T ≤ 63) (hfit : rows ≤ T) {ts : List Pos} (hnd : ts.Nodup)
    (hv : ∀ t ∈ ts, MapInv.Valid rows t) :
    (if H8 T ≠ H8 rows then
      sortU64 (translatePositions ((sortPos ts).map (encP rows)) (H8 rows) (H8 T))
     else (sortPos ts).map (encP rows)) = (sortPos ts).map (encP T) := by
  have hvs : ∀ t ∈ sortPos ts, MapInv.Valid rows t := fun t ht => hv t (mem_sortPos.1 ht)
  rw [ne_comm_ite]
  refine ite_rows hT hfit (y := fun r => (sortPos ts).map (encP r)) (z := fun r => (sortPos ts).map (encP r)) ?_ (fun _ => rfl)
  rw [toStor_map hT hfit hvs, sortU64_encP hT _ (fun t ht => (hvs t ht).mono hfit), sortPos_of_ssorted (sortPos_ssorted hnd)]

theorem nodes_toStor (hT : T ≤ 63) (hfit : rows ≤ T) (PS : List Pos) (hs : PS.Pairwise Sorted.PLt)
    (hv : ∀ q ∈ PS, MapInv.Valid rows q) (v : Pos → H) :
    (if H8 rows ≠ H8 T then
      sortHP ((PS.map (fun p => (encP rows p, v p))).map
        (fun x => (translatePos x.1 (H8 rows) (H8 T), x.2)))
     else PS.map (fun p => (encP rows p, v p))) = PS.map (fun p => (encP T p, v p)) := by
  refine ite_rows hT hfit (y := fun r => PS.map (fun p => (encP r p, v p)))
    (z := fun r => PS.map (fun p => (encP r p, v p))) ?_ (fun _ => rfl)
  rw [List.map_map]
  have : PS.map ((fun x : U64 × H => (translatePos x.1 (H8 rows) (H8 T), x.2)) ∘
      (fun p => (encP rows p, v p))) = PS.map (fun p => (encP T p, v p)) :=
    List.map_congr_left fun q hq => by simp only [Function.comp, toStor1 hT hfit (hv q hq)]
  rw [this]
  apply SortBy.sortHP_eq_self_of_strict
  rw [List.pairwise_map]
  exact hs.imp_of_mem fun ha hb hab => (encP_lt_iff_or hT ((hv _ ha).mono hfit) ((hv _ hb).mono hfit)).2 hab

variable {F : Forest H}

theorem contains_eq (hT : T ≤ 63) (ts : List Pos) (hv : ∀ t ∈ ts, MapInv.Valid T t) {p : Pos}
    (hp : MapInv.Valid T p) : (ts.map (encP T)).contains (encP T p) = decide (p ∈ ts) := by
  rw [List.contains_eq_mem]
  congr 1
  apply propext
  rw [List.mem_map]
  constructor
  · rintro ⟨t, ht, e⟩
    rw [← encP_inj hT (hv t ht) hp e]; exact ht
  · intro h
    exact ⟨p, h, rfl⟩

theorem valid_of_belowRoot {q : Pos} (h : ∃ R, BelowRoot F.numLeaves q.1 q.2 R) : MapInv.Valid F.rows q :=
  h.elim fun _ hb => belowRoot_valid' (Nat.le_refl _) hb

theorem trimProofPos_forest (hn63 : F.numLeaves < 2 ^ 63) {qs : List Pos}
    (hv : ∀ q ∈ qs, ∃ R, BelowRoot F.numLeaves q.1 q.2 R) :
    MapPollard.trimProofPos (qs.map (encP F.rows)) (BitVec.ofNat 64 F.numLeaves) = qs.map (encP F.rows) := by
  unfold MapPollard.trimProofPos
  apply takeWhile_all
  intro x hx
  obtain ⟨q, hq, rfl⟩ := List.mem_map.1 hx
  have hvq := valid_of_belowRoot (hv q hq)
  rw [SpecView.treeRows_eq hn63]
  apply (Props.C16.inForest_iff_below_root (SpecView.forestRows_le_63 hn63) hvq.1 hvq.2 _).2
  rw [toNat_ofNat64_of_lt (Nat.lt_trans hn63 (by decide))]
  exact hv q hq

theorem pp_enc (hn63 : F.numLeaves < 2 ^ 63) (hT : T ≤ 63) (hfit : F.rows ≤ T) {ts : List Pos} (hnd : ts.Nodup)
    (hb : ∀ t ∈ ts, ∃ R, BelowRoot F.numLeaves t.1 t.2 R) :
    ProofPositions ((sortPos ts).map (encP T)) (BitVec.ofNat 64 F.numLeaves) (H8 T) =
      ((F.proofPositions ts).map (encP T), (F.computable (sortPos ts)).map (encP T)) := by
  have := Props.C16.proofPositions_spec_all F (H := T) (h := F.rows)
    (BitVec.ofNat 64 F.numLeaves) (toNat_ofNat64_of_lt (Nat.lt_trans hn63 (by decide))) (SpecView.treeRows_eq hn63) hT hfit
    (sortPos ts) ⟨fun t ht => hb t (mem_sortPos.1 ht), sortPos_ssorted hnd⟩
  rwa [SpecPlan.proofPositions_congr F (fun t => mem_sortPos (l := ts))] at this

/-- `ProofPositions` as the API-side callers run it: on the sorted encoded targets, in `F.rows` rows -/
theorem pp_api (hn63 : F.numLeaves < 2 ^ 63) {ts : List Pos} (hnd : ts.Nodup)
    (hb : ∀ t ∈ ts, ∃ R, BelowRoot F.numLeaves t.1 t.2 R) :
    (ProofPositions (sortU64 (ts.map (encP F.rows))) (BitVec.ofNat 64 F.numLeaves) (H8 F.rows)).1 =
      (F.proofPositions ts).map (encP F.rows) := by
  have h63 : F.rows ≤ 63 := SpecView.forestRows_le_63 hn63
  rw [sortU64_encP h63 ts (fun t ht => valid_of_belowRoot (hb t ht)), pp_enc hn63 h63 (Nat.le_refl _) hnd hb]

theorem contains_sortPos (ts : List Pos) (p : U64) :
    ((sortPos ts).map (encP T)).contains p = (ts.map (encP T)).contains p := by
  rw [List.contains_eq_mem, List.contains_eq_mem]
  congr 1
  exact propext ⟨fun h => (List.mem_map.1 h).elim fun t ht => List.mem_map.2 ⟨t, mem_sortPos.1 ht.1, ht.2⟩,
    fun h => (List.mem_map.1 h).elim fun t ht => List.mem_map.2 ⟨t, mem_sortPos.2 ht.1, ht.2⟩⟩

end geo

section
open Model

/-- `ProofPositions` and the calculated nodes enter through equations, so that their post-processing
is stated about variables -/
theorem ingest_eq {m m1 : MapPollard H} {L : List H} {tg : List U64} {pr : List H} {hnp : HP H}
    {X P PPe : List U64} {Q : List U64} {r : CalcResult H} {N Y : HP H}
    (h1 : toHashAndPos tg L = .ok hnp)
    (h2 : (if m.totalRows ≠ TreeRows m.numLeaves then
        sortU64 (translatePositions hnp.positions (TreeRows m.numLeaves) m.totalRows) else hnp.positions) = X)
    (hP : ProofPositions X m.numLeaves m.totalRows = (P, Q))
    (h3 : (if (decide (TreeRows m.numLeaves ≠ m.totalRows) && decide (P.length ≠ pr.length)) = true then
        translatePositions (MapPollard.trimProofPos (translatePositions P m.totalRows (TreeRows m.numLeaves))
          m.numLeaves) (TreeRows m.numLeaves) m.totalRows
       else P) = PPe)
    (h4 : MapPollard.ingest.store pr PPe 0 m = (m1, .ok ()))
    (h5 : calculateHashes m1.numLeaves (some L) tg pr = .ok r) (hN : r.nodes = N)
    (h6 : (if m1.totalRows ≠ TreeRows m.numLeaves then
        sortHP (N.map (fun x => (translatePos x.1 (TreeRows m.numLeaves) m1.totalRows, x.2))) else N) = Y) :
    MapPollard.ingest L tg pr m = (MapPollard.putCalculated (fun p => X.contains p) Y m1, .ok ()) := by
  unfold MapPollard.ingest
  rw [h1]
  simp only
  rw [h2, hP]
  simp only
  rw [h3, h4]
  simp only
  rw [h5]
  simp only
  rw [hN, h6]

end

end UtreexoVerif.Proofs.MapIngest
