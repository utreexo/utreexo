/-
  Runs of `calcLoop` and of its instrumented twin `calcLoopX` (`Model/CalcX.lean`), whatever the input:
  forgetting the log (`calcLoopX_fst`, `calculateHashesX_fst`), induction along a run that ends
  (`calcLoopX_induction`; `calcLoop_induction` is its projection, `calcLoop_induction₂` the form with an
  invariant carried forwards), the forward invariant `WF` of every run, what a run read of the proof
  (`calcLoop_consumed`), and the openings of `calculateHashes`, `matchRoots` and the verifiers.
-/
import UtreexoVerif.Model.Verifiers
import UtreexoVerif.Proofs.CalcStep

namespace UtreexoVerif.Proofs.CalcSound
open Model

section
variable {H : Type} [DecidableEq H] [Hasher H]

/-- what every state of a run satisfies, whatever the hashes -/
structure WF (n : U64) (tr : U8) (s : CalcSt H) : Prop where
  row_le : s.row ≤ tr
  len : s.roots.length = s.rootRows.length
  rows : ∀ r ∈ s.rootRows, r ≤ tr ∧ rootExistsOnRow n r = true
  mono : s.rootRows.Pairwise (· ≤ ·)
  below : ∀ r ∈ s.rootRows, r ≤ s.row

omit [DecidableEq H] [Hasher H] in
theorem WF.init (n : U64) (tr : U8) (tp : HP H) (pr : List H) : WF n tr (initSt tp pr) :=
  ⟨by simp [initSt, BitVec.le_def], rfl, fun _ h => (nomatch h), List.Pairwise.nil,
    fun _ h => (nomatch h)⟩

theorem WF.step {n : U64} {tr : U8} (htr : tr.toNat < 255) {s s' : CalcSt H}
    (h : calcStep n tr s = .ok (.cont s')) (w : WF n tr s) : WF n tr s' := by
  obtain ⟨x, tp, nx, _, hcur, hcase⟩ := calcStep_cont h
  have hle := (rowCursor_ok _ _ _ hcur w.row_le).1
  have hall : ∀ r ∈ s.rootRows, r ≤ s'.row := fun r hr =>
    BitVec.le_trans (w.below r hr) (rowCursor_ge htr _ _ _ hcur w.row_le)
  rcases hcase with ⟨hroot, _, _, h3, _, h5⟩ | ⟨_, _, _, _, _, _, h3, h5⟩
  · have hmem : ∀ r ∈ s'.rootRows, r ∈ s.rootRows ∨ r = s'.row := fun r hr => by
      rw [h3] at hr; simpa using hr
    refine ⟨hle, by rw [h3, h5]; simp [w.len], fun r hr => ?_, ?_, fun r hr => ?_⟩
    · rcases hmem r hr with hr | rfl
      · exact w.rows r hr
      · exact ⟨hle, (isRootPositionOnRow_true hroot).1⟩
    · rw [h3]
      exact List.pairwise_append.2 ⟨w.mono, by simp, fun a ha b hb => by
        rw [List.mem_singleton] at hb; subst hb; exact hall a ha⟩
    · rcases hmem r hr with hr | rfl
      · exact hall r hr
      · exact BitVec.le_refl _
  · exact ⟨hle, by rw [h3, h5]; exact w.len, by rw [h3]; exact w.rows, by rw [h3]; exact w.mono,
      by rw [h3]; exact hall⟩

/-- no recorded row equals the one before it (`prev`: the row before the first) -/
def distinctAdj : Option U8 → List U8 → Prop
  | _, [] => True
  | prev, r :: rs => prev ≠ some r ∧ distinctAdj (some r) rs

omit [Hasher H] in
theorem matchRoots_iff {n : U64} {roots : List H} :
    ∀ (cs : List H) (rs : List U8) (prev : Option U8) (idx : List Nat), cs.length = rs.length →
      (matchRoots n roots cs rs prev = .ok idx ↔
        distinctAdj prev rs ∧ (∀ c ∈ cs.zip rs, roots[rootIdxOfRow n c.2]? = some c.1) ∧
          idx = rs.map (rootIdxOfRow n)) := by
  intro cs
  induction cs with
  | nil =>
    intro rs prev idx hlen
    obtain rfl : rs = [] := List.eq_nil_of_length_eq_zero hlen.symm
    simp [matchRoots, distinctAdj, eq_comm]
  | cons c cs ih =>
    intro rs prev idx hlen
    cases rs with
    | nil => simp at hlen
    | cons r rs =>
      have hlen' : cs.length = rs.length := by simpa using hlen
      unfold matchRoots
      simp only [distinctAdj, List.zip_cons_cons, List.mem_cons, forall_eq_or_imp, List.map_cons]
      by_cases hp : prev = some r
      · simp [hp]
      rw [if_neg hp]
      cases hget : roots[rootIdxOfRow n r]? with
      | none => simp
      | some h =>
        simp only [Option.some.injEq]
        by_cases hc : h = c
        · rw [if_pos hc, bind_eq_ok]
          constructor
          · rintro ⟨l, hl, e⟩
            obtain ⟨h1, h2, rfl⟩ := (ih rs (some r) l hlen').1 hl
            injection e with e
            exact ⟨⟨hp, h1⟩, ⟨hc, h2⟩, e.symm⟩
          · rintro ⟨⟨_, h1⟩, ⟨_, h2⟩, rfl⟩
            exact ⟨_, (ih rs (some r) _ hlen').2 ⟨h1, h2, rfl⟩, rfl⟩
        · rw [if_neg hc]
          simp [hc]

omit [Hasher H] in
theorem matchRoots_ok {n : U64} {roots : List H} (cs : List H) (rs : List U8) (prev : Option U8)
    (idx : List Nat) (h : matchRoots n roots cs rs prev = .ok idx) (hlen : cs.length = rs.length) :
    ∀ c ∈ cs.zip rs, roots[rootIdxOfRow n c.2]? = some c.1 :=
  ((matchRoots_iff cs rs prev idx hlen).1 h).2.1

theorem verify_ok {n : U64} {roots hs : List H} {ts : List U64} {ps : List H} {idx : List Nat}
    (h : verify n roots hs ts ps = .ok idx) :
    ∃ r, calculateHashes n (some hs) ts ps = .ok r ∧
      matchRoots n roots r.roots r.rootRows none = .ok idx := by
  unfold verify at h
  split at h
  · cases h
  · exact bind_eq_ok.1 h

theorem verify_length {n : U64} {roots hs : List H} {ts : List U64} {ps : List H} {idx : List Nat}
    (h : verify n roots hs ts ps = .ok idx) : hs.length = ts.length := by
  unfold verify at h
  split at h
  · cases h
  · exact Decidable.not_not.mp (by assumption)

theorem pollardVerify_ok {n : U64} {roots hs : List H} {ts : List U64} {ps : List H}
    (h : pollardVerify n roots hs ts ps = .ok ()) :
    hs = [] ∨ ∃ idx, verify n roots hs ts ps = .ok idx := by
  unfold pollardVerify at h
  split at h
  · exact Or.inl (List.isEmpty_iff.1 (by assumption))
  right
  unfold verify
  split at h
  · cases h
  · rename_i hlen
    rw [if_neg hlen]
    obtain ⟨r, hc, h⟩ := bind_eq_ok.1 h
    split at h
    · cases h
    · obtain ⟨idx, hm, _⟩ := bind_eq_ok.1 h
      exact ⟨idx, bind_eq_ok.2 ⟨r, hc, hm⟩⟩

theorem mapVerify_treeRows (n : U64) (roots hs : List H) (ts : List U64) (ps : List H) :
    mapVerify n (TreeRows n) roots hs ts ps = verify n roots hs ts ps := by
  simp only [mapVerify, ne_eq, not_true_eq_false, if_false]

end
end UtreexoVerif.Proofs.CalcSound

namespace UtreexoVerif.Proofs.CalcSoundX
open Model Hasher
open UtreexoVerif.Proofs.CalcSound

section
variable {H : Type} [DecidableEq H] [Hasher H]

theorem calcLoopX_fst (n : U64) (tr : U8) :
    ∀ (fuel : Nat) (s : CalcSt H), fstO (calcLoopX n tr fuel s) = calcLoop n tr fuel s := by
  intro fuel
  induction fuel with
  | zero => intro s; rfl
  | succ fuel ih =>
    intro s
    unfold calcLoopX calcLoop
    rw [← calcStepX_fst]
    simp only [bind, pure]
    cases calcStepX n tr s with
    | ok r =>
      obtain ⟨so, l⟩ := r
      cases so with
      | stop s1 => rfl
      | cont s1 =>
        simp only [fstO, Out.bind]
        rw [← ih s1]
        cases calcLoopX n tr fuel s1 with
        | ok r2 => rfl
        | err => rfl
        | panic => rfl
        | hang => rfl
    | err => rfl
    | panic => rfl
    | hang => rfl

theorem calcLoopX_induction {n : U64} {tr : U8} {P : CalcSt H → CalcSt H → List (H × H) → Prop}
    (stop : ∀ s, (s.row > tr ∨ (s.toProve = [] ∧ s.next = [])) → P s s [])
    (cont : ∀ s s1 sf l l', calcStepX n tr s = .ok (.cont s1, l) → P s1 sf l' → P s sf (l ++ l')) :
    ∀ (fuel : Nat) (s sf : CalcSt H) (L : List (H × H)),
      calcLoopX n tr fuel s = .ok (sf, L) → P s sf L := by
  intro fuel
  induction fuel with
  | zero => intro s sf L h; cases h
  | succ fuel ih =>
    intro s sf L h
    unfold calcLoopX at h
    simp only [bind, pure] at h
    rw [bind_eq_ok] at h
    obtain ⟨⟨so, l⟩, hstep, h⟩ := h
    cases so with
    | cont s1 =>
      simp only at h
      rw [bind_eq_ok] at h
      obtain ⟨⟨sf', l'⟩, hloop, h⟩ := h
      cases h
      exact cont s s1 sf' l l' hstep (ih s1 sf' l' hloop)
    | stop s1 =>
      cases h
      obtain ⟨rfl, rfl, hstop⟩ := calcStepX_stop hstep
      exact stop _ hstop

theorem calcLoop_induction {n : U64} {tr : U8} {P : CalcSt H → CalcSt H → Prop}
    (stop : ∀ s, (s.row > tr ∨ (s.toProve = [] ∧ s.next = [])) → P s s)
    (cont : ∀ s s1 sf, calcStep n tr s = .ok (.cont s1) → P s1 sf → P s sf)
    (fuel : Nat) (s sf : CalcSt H) (h : calcLoop n tr fuel s = .ok sf) : P s sf := by
  rw [← calcLoopX_fst] at h
  obtain ⟨L, hX⟩ := fstO_ok.1 h
  refine calcLoopX_induction (P := fun s sf _ => P s sf) stop (fun s s1 sf l l' hs ih => ?_) fuel s sf L hX
  exact cont s s1 sf (by rw [← calcStepX_fst, hs]; rfl) ih

/-- two-sided form: `I` is carried forwards along the run, `P` backwards -/
theorem calcLoop_induction₂ {n : U64} {tr : U8} {I : CalcSt H → Prop} {P : CalcSt H → CalcSt H → Prop}
    (fwd : ∀ s s1, calcStep n tr s = .ok (.cont s1) → I s → I s1)
    (stop : ∀ s, I s → (s.row > tr ∨ (s.toProve = [] ∧ s.next = [])) → P s s)
    (back : ∀ s s1 sf, calcStep n tr s = .ok (.cont s1) → I s → I sf → P s1 sf → P s sf)
    (fuel : Nat) (s sf : CalcSt H) (h : calcLoop n tr fuel s = .ok sf) (hI : I s) : I sf ∧ P s sf :=
  calcLoop_induction (P := fun s sf => I s → I sf ∧ P s sf) (fun s hs hI => ⟨hI, stop s hI hs⟩)
    (fun s s1 sf hstep ih hI =>
      have ⟨hf, hp⟩ := ih (fwd s s1 hstep hI)
      ⟨hf, back s s1 sf hstep hI hf hp⟩) fuel s sf h hI

theorem _root_.UtreexoVerif.Proofs.CalcSound.WF.loop {n : U64} {tr : U8} (htr : tr.toNat < 255) :
    ∀ (fuel : Nat) (s sf : CalcSt H), calcLoop n tr fuel s = .ok sf → WF n tr s → WF n tr sf :=
  calcLoop_induction (fun _ _ w => w) (fun _ _ _ hstep ih w => ih (w.step htr hstep))

theorem calcLoop_consumed {n : U64} {tr : U8} :
    ∀ (fuel : Nat) (s sf : CalcSt H), calcLoop n tr fuel s = .ok sf →
      ∃ used : List H, s.proof = used ++ sf.proof ∧ ∀ x ∈ used, x ≠ (zero : H) := by
  refine calcLoop_induction (fun s _ => ⟨[], rfl, fun _ h => (nomatch h)⟩)
    (fun s s1 sf hstep ⟨used, h1, h2⟩ => ?_)
  obtain ⟨x, tp, nx, _, _, hcase⟩ := calcStep_cont hstep
  rcases hcase with ⟨_, _, _, _, hpr, _⟩ | ⟨sib, tp', nx', hsib, _⟩
  · exact ⟨used, by rw [← hpr, h1], h2⟩
  · rcases hsib with ⟨_, _, _, _, _, hpr⟩ | ⟨_, _, hnz, hpr⟩
    · exact ⟨used, by rw [← hpr, h1], h2⟩
    · refine ⟨sib :: used, by rw [hpr, h1]; rfl, fun y hy => ?_⟩
      rcases List.mem_cons.1 hy with rfl | hy
      · exact hnz
      · exact h2 y hy

theorem calculateHashesX_fst (n : U64) (dh : Option (List H)) (ts : List U64) (ps : List H) :
    fstO (calculateHashesX n dh ts ps) = calculateHashes n dh ts ps := by
  unfold calculateHashesX calculateHashes
  simp only [bind, pure]
  cases toHashAndPos ts _ with
  | ok tp =>
    simp only [Out.bind]
    rw [← calcLoopX_fst]
    generalize calcLoopX (H := H) n (TreeRows n) _ _ = x
    cases x <;> rfl
  | err => rfl
  | panic => rfl
  | hang => rfl

theorem calculateHashesX_of_ok {n : U64} {hs : List H} {ts : List U64} {ps : List H}
    {r : CalcResult H} (h : calculateHashes n (some hs) ts ps = .ok r) :
    calculateHashesX n (some hs) ts ps = .ok (r, hashedPairs n hs ts ps) := by
  rw [← calculateHashesX_fst, fstO_ok] at h
  obtain ⟨l, hl⟩ := h
  unfold hashedPairs
  rw [hl]

theorem calculateHashesX_ok {n : U64} {hs : List H} {ts : List U64} {ps : List H}
    {r : CalcResult H} {L : List (H × H)}
    (h : calculateHashesX n (some hs) ts ps = .ok (r, L)) :
    ∃ sf, calcLoopX n (TreeRows n) (calcFuel ts.length (TreeRows n))
        (initSt (sortHP (ts.zip hs)) ps) = .ok (sf, L) ∧
      r = { nodes := mergeHP (sf.done ++ sf.next) (sortHP (ts.zip hs)), roots := sf.roots,
            rootRows := sf.rootRows } := by
  unfold calculateHashesX at h
  simp only [bind, pure] at h
  rw [bind_eq_ok] at h
  obtain ⟨tp, htp, h⟩ := h
  rw [bind_eq_ok] at h
  obtain ⟨⟨sf, L'⟩, hloop, h⟩ := h
  injection h with h
  injection h with hr hL
  subst hL
  obtain rfl := (toHashAndPos_eq_ok htp).2
  exact ⟨sf, hloop, hr.symm⟩

theorem calculateHashes_ok {n : U64} {hs : List H} {ts : List U64} {ps : List H}
    {r : CalcResult H} (h : calculateHashes n (some hs) ts ps = .ok r) :
    ∃ sf, calcLoop n (TreeRows n) (calcFuel ts.length (TreeRows n))
        (initSt (sortHP (ts.zip hs)) ps) = .ok sf ∧
      r = { nodes := mergeHP (sf.done ++ sf.next) (sortHP (ts.zip hs)), roots := sf.roots,
            rootRows := sf.rootRows } := by
  obtain ⟨sf, hloop, hr⟩ := calculateHashesX_ok (calculateHashesX_of_ok h)
  exact ⟨sf, by rw [← calcLoopX_fst]; exact fstO_ok.2 ⟨_, hloop⟩, hr⟩

end
end UtreexoVerif.Proofs.CalcSoundX
