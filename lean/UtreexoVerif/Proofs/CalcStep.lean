/-
  One iteration of the main loop of `calculateHashes` (`calcStep`) and of its instrumented twin
  (`calcStepX`, `Model/CalcX.lean`): what a successful step did (`calcStepX_cont`, `calcStepX_stop`;
  `calcStep_cont` is the projection of the first), for soundness, totality, plan execution
  and the ingest bounds alike.
-/
import UtreexoVerif.Model.CalcX
import UtreexoVerif.Proofs.Geometry2

namespace UtreexoVerif.Proofs.CalcSound
open Model Hasher GoInt

theorem bind_eq_ok {α β} {x : Out α} {f : α → Out β} {b : β} :
    x.bind f = .ok b ↔ ∃ a, x = .ok a ∧ f a = .ok b := by
  cases x <;> simp [Out.bind]

theorem and_one_eq_zero_iff (p : U64) : p &&& 1#64 = 0#64 ↔ p[0] = false := by
  constructor
  · intro h
    have := congrArg (·[0]) h
    simpa using this
  · intro h
    ext i hi
    by_cases h0 : i = 0
    · subst h0; simp [h]
    · simp [h0]

theorem or_one_eq_self {p : U64} (hb : p[0] = true) : p ||| 1#64 = p := by
  ext i hi
  by_cases h0 : i = 0
  · subst h0; simp [hb]
  · simp [h0]

theorem isLeftNiece_of_ne_rightSib {p : U64} (h : p ≠ rightSib p) : isLeftNiece p = true := by
  unfold isLeftNiece
  rw [beq_iff_eq, and_one_eq_zero_iff]
  cases hb : p[0]
  · rfl
  · exact absurd (or_one_eq_self hb).symm h

theorem leftSib_of_isLeftNiece {p : U64} (h : isLeftNiece p = true) : leftSib p = p := by
  unfold isLeftNiece at h
  rw [beq_iff_eq, and_one_eq_zero_iff] at h
  unfold leftSib
  ext i hi
  simp only [BitVec.getElem_and, BitVec.getElem_not, BitVec.getElem_one]
  by_cases h0 : i = 0
  · subst h0; simp [h]
  · simp [h0]

theorem rightSib_of_not_isLeftNiece {p : U64} (h : isLeftNiece p = false) : rightSib p = p := by
  unfold isLeftNiece at h
  have h' : ¬ (p &&& 1#64 = 0#64) := by simpa using h
  rw [and_one_eq_zero_iff] at h'
  exact or_one_eq_self (by simpa using h')

theorem rootExists_of_present {n : U64} {row : U8}
    (h : (n &&& shl 1#64 row.toNat != 0#64) = true) : rootExistsOnRow n row = true := by
  rw [rootExistsOnRow_eq, BitVec.testBit_toNat]
  by_cases hk : row.toNat < 64
  · rwa [one_shl_eq_twoPow, and_twoPow_ne_zero _ hk] at h
  · rw [shl_eq, BitVec.shiftLeft_eq_zero (by omega)] at h
    simp at h

theorem isRootPositionOnRow_true {p n : U64} {row : U8}
    (h : isRootPositionOnRow p n row = true) :
    rootExistsOnRow n row = true ∧ p = rootPosition n row (TreeRows n) := by
  unfold isRootPositionOnRow at h
  simp only [Bool.and_eq_true, beq_iff_eq] at h
  exact ⟨rootExists_of_present h.1, h.2.symm⟩

section
variable {H : Type} [DecidableEq H] [Hasher H]

-- `calcStep` with its `match`es named (`popLeast`, `sibFrom`, `sibSel`), so that lemmas can be stated
-- about the pieces; equal to the model by `rfl` (`calcStep_eq`).

/-- result: `(position, hash, toProve', next', done')` -/
def popLeast (fromNext : Bool) (stp snx dn : HP H) : U64 × H × HP H × HP H × HP H :=
  match fromNext, stp, snx with
  | false, x :: xs, nx => (x.1, x.2, xs, nx, dn)
  | true, tp, x :: xs => (x.1, x.2, tp, xs, dn ++ [x])
  | _, tp, nx => (0#64, zero, tp, nx, dn)

/-- where the sibling of `provePos` comes from: `some false` = head of `toProve`, `some true` = head
of `next` (the least queued position, if it is the right sibling), `none` = the proof list -/
def sibFrom (provePos : U64) (toProve next : HP H) : Option Bool :=
  match nextLeast toProve next with
  | some false => match toProve with
    | y :: _ => if provePos != y.1 && rightSib provePos == y.1 then some false else none
    | [] => none
  | some true => match next with
    | y :: _ => if provePos != y.1 && rightSib provePos == y.1 then some true else none
    | [] => none
  | none => none

/-- result: `(sibling hash, toProve', next', done', proof')` -/
def sibSel (sf : Option Bool) (toProve next done : HP H) (proof : List H) :
    Out (H × HP H × HP H × HP H × List H) :=
  match sf, toProve, next, proof with
  | some false, y :: ys, nx, pr => Out.ok (y.2, ys, nx, done, pr)
  | some true, tp, y :: ys, pr => Out.ok (y.2, tp, ys, done ++ [y], pr)
  | some _, _, _, _ => Out.panic
  | none, tp, nx, p :: ps => if p = zero then Out.err else Out.ok (p, tp, nx, done, ps)
  | none, _, _, [] => Out.err

def calcStep' (n : U64) (tr : U8) (s : CalcSt H) : Out (StepOut H) :=
  if s.row > tr then .ok (.stop s)
  else match nextLeast s.toProve s.next with
  | none => .ok (.stop s)
  | some fromNext =>
    let pop := popLeast fromNext s.toProve s.next s.done
    (rowCursor n tr pop.1 257 s.row).bind fun row =>
      if isRootPositionOnRow pop.1 n row then
        .ok (.cont { s with
          toProve := pop.2.2.1, next := pop.2.2.2.1, done := pop.2.2.2.2, row := row,
          roots := s.roots ++ [pop.2.1], rootRows := s.rootRows ++ [row] })
      else
        (sibSel (sibFrom pop.1 pop.2.2.1 pop.2.2.2.1) pop.2.2.1 pop.2.2.2.1 pop.2.2.2.2
            s.proof).bind fun r =>
          .ok (.cont { s with
            toProve := r.2.1,
            next := r.2.2.1 ++ [(Parent pop.1 tr, getNextHash pop.1 pop.2.1 r.1)],
            done := r.2.2.2.1, proof := r.2.2.2.2, row := row })

theorem calcStep_eq (n : U64) (tr : U8) (s : CalcSt H) : calcStep n tr s = calcStep' n tr s := rfl

def Pop (tp nx : HP H) (x : U64 × H) (tp' nx' : HP H) : Prop :=
  (tp = x :: tp' ∧ nx' = nx) ∨ (nx = x :: nx' ∧ tp' = tp)

omit [DecidableEq H] [Hasher H] in
theorem Pop.perm {tp nx tp' nx' : HP H} {x : U64 × H} (h : Pop tp nx x tp' nx') :
    (tp ++ nx).Perm (x :: (tp' ++ nx')) := by
  rcases h with ⟨rfl, rfl⟩ | ⟨rfl, rfl⟩
  · exact List.Perm.refl _
  · exact List.perm_middle

omit [DecidableEq H] [Hasher H] in
theorem Pop.mem_iff {tp nx tp' nx' : HP H} {x : U64 × H} (h : Pop tp nx x tp' nx')
    (z : U64 × H) : z ∈ tp ++ nx ↔ z = x ∨ z ∈ tp' ++ nx' := by
  rw [h.perm.mem_iff, List.mem_cons]

omit [DecidableEq H] [Hasher H] in
theorem nextLeast_none {tp nx : HP H} (h : nextLeast tp nx = none) : tp = [] ∧ nx = [] := by
  cases tp <;> cases nx <;> simp [nextLeast] at h ⊢

omit [DecidableEq H] in
theorem popLeast_pop {b : Bool} {stp snx : HP H} (dn : HP H) (h : nextLeast stp snx = some b) :
    Pop stp snx ((popLeast b stp snx dn).1, (popLeast b stp snx dn).2.1)
      (popLeast b stp snx dn).2.2.1 (popLeast b stp snx dn).2.2.2.1 := by
  cases b <;> cases stp <;> cases snx <;> simp_all [nextLeast, popLeast, Pop]

def SibOK (p : U64) (tp nx : HP H) (pr : List H) (sib : H) (tp' nx' : HP H) (pr' : List H) : Prop :=
  (∃ y, Pop tp nx y tp' nx' ∧ p ≠ y.1 ∧ rightSib p = y.1 ∧ sib = y.2 ∧ pr' = pr) ∨
  (tp' = tp ∧ nx' = nx ∧ sib ≠ zero ∧ pr = sib :: pr')

theorem sibSel_none {tp nx dn : HP H} {pr : List H} {r}
    (h : sibSel none tp nx dn pr = .ok r) :
    r.2.1 = tp ∧ r.2.2.1 = nx ∧ r.1 ≠ zero ∧ pr = r.1 :: r.2.2.2.2 := by
  cases pr with
  | nil => simp [sibSel] at h
  | cons a pr =>
    simp only [sibSel] at h
    split at h
    · simp at h
    · rename_i hne
      injection h with h
      subst h
      exact ⟨rfl, rfl, hne, rfl⟩

theorem sibSel_false {y : U64 × H} {ys nx dn : HP H} {pr : List H} :
    sibSel (some false) (y :: ys) nx dn pr = .ok (y.2, ys, nx, dn, pr) := rfl

theorem sibSel_true {y : U64 × H} {tp ys dn : HP H} {pr : List H} :
    sibSel (some true) tp (y :: ys) dn pr = .ok (y.2, tp, ys, dn ++ [y], pr) := rfl

omit [DecidableEq H] [Hasher H] in
theorem sibFrom_cases (p : U64) (tp nx : HP H) :
    sibFrom p tp nx = none ∨
    (∃ y ys, tp = y :: ys ∧ sibFrom p tp nx = some false ∧ p ≠ y.1 ∧ rightSib p = y.1) ∨
    (∃ y ys, nx = y :: ys ∧ sibFrom p tp nx = some true ∧ p ≠ y.1 ∧ rightSib p = y.1) := by
  unfold sibFrom
  split
  · split
    · split
      · rename_i y ys _ hc
        simp only [Bool.and_eq_true, bne_iff_ne, beq_iff_eq] at hc
        exact Or.inr (Or.inl ⟨y, ys, rfl, rfl, hc.1, hc.2⟩)
      · exact Or.inl rfl
    · exact Or.inl rfl
  · split
    · split
      · rename_i y ys _ hc
        simp only [Bool.and_eq_true, bne_iff_ne, beq_iff_eq] at hc
        exact Or.inr (Or.inr ⟨y, ys, rfl, rfl, hc.1, hc.2⟩)
      · exact Or.inl rfl
    · exact Or.inl rfl
  · exact Or.inl rfl

theorem sibSel_ok {p : U64} {tp nx dn : HP H} {pr : List H} {r}
    (h : sibSel (sibFrom p tp nx) tp nx dn pr = .ok r) :
    SibOK p tp nx pr r.1 r.2.1 r.2.2.1 r.2.2.2.2 := by
  rcases sibFrom_cases p tp nx with h0 | ⟨y, ys, rfl, h0, h1, h2⟩ | ⟨y, ys, rfl, h0, h1, h2⟩
  · rw [h0] at h
    exact Or.inr (sibSel_none h)
  · rw [h0, sibSel_false] at h
    cases h
    exact Or.inl ⟨y, Or.inl ⟨rfl, rfl⟩, h1, h2, rfl, rfl⟩
  · rw [h0, sibSel_true] at h
    cases h
    exact Or.inl ⟨y, Or.inr ⟨rfl, rfl⟩, h1, h2, rfl, rfl⟩

theorem rowCursor_ok {n : U64} {tr : U8} {p : U64} :
    ∀ (fuel : Nat) (row row' : U8), rowCursor n tr p fuel row = .ok row' → row ≤ tr →
      row' ≤ tr ∧ p ≤ (maxPositionAtRow row' tr n).1 := by
  intro fuel
  induction fuel with
  | zero => intro row row' h; simp [rowCursor] at h
  | succ fuel ih =>
    intro row row' h hle
    unfold rowCursor at h
    split at h
    · simp only at h
      split at h
      · simp at h
      · rename_i hnot
        exact ih _ _ h (BitVec.not_lt.mp hnot)
    · rename_i hnot
      injection h with h
      subst h
      exact ⟨hle, BitVec.not_lt.mp hnot⟩

theorem rowCursor_ge {n : U64} {tr : U8} {p : U64} (htr : tr.toNat < 255) :
    ∀ (fuel : Nat) (row row' : U8), rowCursor n tr p fuel row = .ok row' → row ≤ tr → row ≤ row' := by
  intro fuel
  induction fuel with
  | zero => intro row row' h; simp [rowCursor] at h
  | succ fuel ih =>
    intro row row' h hle
    unfold rowCursor at h
    split at h
    · simp only at h
      split at h
      · simp at h
      · rename_i hnot
        -- `row + 1` does not wrap: `row ≤ tr < 255`
        have h1 := BitVec.le_def.1 (ih _ _ h (BitVec.not_lt.mp hnot))
        have h2 := BitVec.le_def.1 hle
        rw [BitVec.toNat_add, show BitVec.toNat (1 : U8) = 1 from rfl, Nat.mod_eq_of_lt (by omega)] at h1
        exact BitVec.le_def.2 (Nat.le_of_succ_le h1)
    · injection h with h
      subst h
      exact BitVec.le_refl _

omit [DecidableEq H] [Hasher H] in
theorem treeRows_le_64 (n : U64) : (TreeRows n).toNat ≤ 64 := by
  unfold TreeRows
  split
  · simp
  · unfold len64 ofInt
    split
    · simp
    · rename_i hne
      have hlog : (n - 1#64).toNat.log2 < 64 := by
        by_cases h0 : (n - 1#64).toNat = 0
        · exact absurd (BitVec.eq_of_toNat_eq (by simpa using h0)) hne
        · exact (Nat.log2_lt h0).2 (n - 1#64).isLt
      rw [BitVec.ofInt_natCast, BitVec.toNat_ofNat]
      omega

theorem getNextHash_nonzero {p : U64} {h sib : H} (h1 : h ≠ zero) (h2 : sib ≠ zero) :
    getNextHash p h sib = if isLeftNiece p then ph h sib else ph sib h := by
  simp [getNextHash, h1, h2]

omit [DecidableEq H] [Hasher H] in
theorem toHashAndPos_ok {ts : List U64} {hs : List H} (h : ts.length = hs.length) :
    toHashAndPos ts hs = .ok (sortHP (ts.zip hs)) := if_pos h

omit [DecidableEq H] [Hasher H] in
theorem toHashAndPos_eq_ok {ts : List U64} {hs : List H} {tp : HP H}
    (h : toHashAndPos ts hs = .ok tp) : ts.length = hs.length ∧ tp = sortHP (ts.zip hs) := by
  unfold toHashAndPos at h
  split at h
  · injection h with h; exact ⟨by assumption, h.symm⟩
  · cases h

def initSt (tp : HP H) (pr : List H) : CalcSt H :=
  { toProve := tp, next := [], done := [], proof := pr, row := 0#8, roots := [], rootRows := [] }

end
end UtreexoVerif.Proofs.CalcSound

namespace UtreexoVerif.Proofs.CalcSoundX
open Model Hasher
open UtreexoVerif.Proofs.CalcSound

def fstO {α β : Type} (x : Out (α × β)) : Out α := x.bind fun r => .ok r.1

theorem fstO_ok {α β : Type} {x : Out (α × β)} {a : α} :
    fstO x = .ok a ↔ ∃ b, x = .ok (a, b) := by
  cases x with
  | ok r =>
    obtain ⟨r1, r2⟩ := r
    simp [fstO, Out.bind]
  | err => simp [fstO, Out.bind]
  | panic => simp [fstO, Out.bind]
  | hang => simp [fstO, Out.bind]

section
variable {H : Type} [DecidableEq H] [Hasher H]

theorem getNextHashX_fst (p : U64) (h sib : H) : (getNextHashX p h sib).1 = getNextHash p h sib := by
  unfold getNextHashX getNextHash
  split
  · rfl
  · split
    · rfl
    · split <;> rfl

theorem getNextHashX_nonzero {p : U64} {h sib : H} (h1 : h ≠ zero) (h2 : sib ≠ zero) :
    getNextHashX p h sib =
      if isLeftNiece p then (ph h sib, [(h, sib)]) else (ph sib h, [(sib, h)]) := by
  simp [getNextHashX, h1, h2]

def calcStepX' (n : U64) (tr : U8) (s : CalcSt H) : Out (StepOut H × List (H × H)) :=
  if s.row > tr then .ok (.stop s, [])
  else match nextLeast s.toProve s.next with
  | none => .ok (.stop s, [])
  | some fromNext =>
    let pop := popLeast fromNext s.toProve s.next s.done
    (rowCursor n tr pop.1 257 s.row).bind fun row =>
      if isRootPositionOnRow pop.1 n row then
        .ok (.cont { s with
          toProve := pop.2.2.1, next := pop.2.2.2.1, done := pop.2.2.2.2, row := row,
          roots := s.roots ++ [pop.2.1], rootRows := s.rootRows ++ [row] }, [])
      else
        (sibSel (sibFrom pop.1 pop.2.2.1 pop.2.2.2.1) pop.2.2.1 pop.2.2.2.1 pop.2.2.2.2
            s.proof).bind fun r =>
          .ok (.cont { s with
            toProve := r.2.1,
            next := r.2.2.1 ++ [(Parent pop.1 tr, (getNextHashX pop.1 pop.2.1 r.1).1)],
            done := r.2.2.2.1, proof := r.2.2.2.2, row := row },
            (getNextHashX pop.1 pop.2.1 r.1).2)

theorem calcStepX_eq (n : U64) (tr : U8) (s : CalcSt H) : calcStepX n tr s = calcStepX' n tr s := rfl

theorem calcStepX_fst (n : U64) (tr : U8) (s : CalcSt H) :
    fstO (calcStepX n tr s) = calcStep n tr s := by
  rw [calcStepX_eq, calcStep_eq]
  unfold calcStepX' calcStep' fstO
  by_cases hr : s.row > tr
  · rw [if_pos hr, if_pos hr]; rfl
  rw [if_neg hr, if_neg hr]
  cases nextLeast s.toProve s.next with
  | none => rfl
  | some fromNext =>
    simp only
    cases rowCursor n tr _ 257 s.row with
    | ok row =>
      simp only [Out.bind]
      by_cases hroot : isRootPositionOnRow (popLeast fromNext s.toProve s.next s.done).1 n row = true
      · rw [if_pos hroot, if_pos hroot]
      · rw [if_neg hroot, if_neg hroot]
        cases sibSel _ _ _ _ s.proof with
        | ok r => simp only [getNextHashX_fst]
        | err => rfl
        | panic => rfl
        | hang => rfl
    | err => rfl
    | panic => rfl
    | hang => rfl

/-- `s'.done` is not described: it feeds only `nodes` of the result, which no statement about arbitrary
input reads (`CalcPlan.Plan.run` says what it holds on an honest run) -/
theorem calcStepX_cont {n : U64} {tr : U8} {s s' : CalcSt H} {l : List (H × H)}
    (h : calcStepX n tr s = .ok (.cont s', l)) :
    ∃ x tp nx, Pop s.toProve s.next x tp nx ∧ rowCursor n tr x.1 257 s.row = .ok s'.row ∧
      ((isRootPositionOnRow x.1 n s'.row = true ∧ s'.toProve = tp ∧ s'.next = nx ∧
          s'.rootRows = s.rootRows ++ [s'.row] ∧ s'.proof = s.proof ∧
          s'.roots = s.roots ++ [x.2] ∧ l = []) ∨
       (∃ sib tp' nx', SibOK x.1 tp nx s.proof sib tp' nx' s'.proof ∧ s'.toProve = tp' ∧
          s'.next = nx' ++ [(Parent x.1 tr, getNextHash x.1 x.2 sib)] ∧
          s'.rootRows = s.rootRows ∧ s'.roots = s.roots ∧
          l = (getNextHashX x.1 x.2 sib).2)) := by
  rw [calcStepX_eq] at h
  unfold calcStepX' at h
  split at h
  · simp at h
  split at h
  · simp at h
  rename_i fromNext hnl
  have hP := popLeast_pop s.done hnl
  generalize popLeast fromNext s.toProve s.next s.done = pop at h hP
  obtain ⟨p, hsh, tp, nx, dn⟩ := pop
  simp only at h hP
  rw [bind_eq_ok] at h
  obtain ⟨row, hrow, h⟩ := h
  refine ⟨(p, hsh), tp, nx, hP, ?_⟩
  split at h
  · rename_i hroot
    injection h with h
    injection h with h hl
    injection h with h
    subst h
    exact ⟨hrow, Or.inl ⟨hroot, rfl, rfl, rfl, rfl, rfl, hl.symm⟩⟩
  · rw [bind_eq_ok] at h
    obtain ⟨r, hsel, h⟩ := h
    injection h with h
    injection h with h hl
    injection h with h
    subst h
    exact ⟨hrow, Or.inr ⟨r.1, r.2.1, r.2.2.1, sibSel_ok hsel, rfl, by rw [← getNextHashX_fst], rfl, rfl,
      hl.symm⟩⟩

theorem calcStepX_stop {n : U64} {tr : U8} {s s' : CalcSt H} {l : List (H × H)}
    (h : calcStepX n tr s = .ok (.stop s', l)) :
    s' = s ∧ l = [] ∧ (s.row > tr ∨ (s.toProve = [] ∧ s.next = [])) := by
  rw [calcStepX_eq] at h
  unfold calcStepX' at h
  split at h
  · rename_i hr
    injection h with h
    injection h with h hl
    injection h with h
    exact ⟨h.symm, hl.symm, Or.inl hr⟩
  split at h
  · rename_i hnl
    injection h with h
    injection h with h hl
    injection h with h
    exact ⟨h.symm, hl.symm, Or.inr (nextLeast_none hnl)⟩
  · rw [bind_eq_ok] at h
    obtain ⟨row, _, h⟩ := h
    split at h
    · simp at h
    · rw [bind_eq_ok] at h
      obtain ⟨r, _, h⟩ := h
      simp at h

end
end UtreexoVerif.Proofs.CalcSoundX

namespace UtreexoVerif.Proofs.CalcSound
open Model
open UtreexoVerif.Proofs.CalcSoundX

section
variable {H : Type} [DecidableEq H] [Hasher H]

theorem calcStep_cont {n : U64} {tr : U8} {s s' : CalcSt H}
    (h : calcStep n tr s = .ok (.cont s')) :
    ∃ x tp nx, Pop s.toProve s.next x tp nx ∧ rowCursor n tr x.1 257 s.row = .ok s'.row ∧
      ((isRootPositionOnRow x.1 n s'.row = true ∧ s'.toProve = tp ∧ s'.next = nx ∧
          s'.rootRows = s.rootRows ++ [s'.row] ∧ s'.proof = s.proof ∧
          s'.roots = s.roots ++ [x.2]) ∨
       (∃ sib tp' nx', SibOK x.1 tp nx s.proof sib tp' nx' s'.proof ∧ s'.toProve = tp' ∧
          s'.next = nx' ++ [(Parent x.1 tr, getNextHash x.1 x.2 sib)] ∧
          s'.rootRows = s.rootRows ∧ s'.roots = s.roots)) := by
  obtain ⟨l, hX⟩ := fstO_ok.1 (calcStepX_fst n tr s ▸ h)
  obtain ⟨x, tp, nx, hP, hrow, hcase⟩ := calcStepX_cont hX
  refine ⟨x, tp, nx, hP, hrow, ?_⟩
  rcases hcase with ⟨h1, h2, h3, h4, h5, h6, _⟩ | ⟨sib, tp', nx', h1, h2, h3, h4, h5, _⟩
  · exact Or.inl ⟨h1, h2, h3, h4, h5, h6⟩
  · exact Or.inr ⟨sib, tp', nx', h1, h2, h3, h4, h5⟩

end
end UtreexoVerif.Proofs.CalcSound
