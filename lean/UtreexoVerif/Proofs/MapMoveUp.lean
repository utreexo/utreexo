/-
  `moveUpDescendants` of the map-forest model on the abstract state `(A, C)` of `MapRep`, described by
  the set `M` of positions strictly below `σ` that have already moved (`AM σ A M` / `CM σ C M`); after
  the last level `M` is everything strictly below `σ`, and `AM`/`CM` are `liftA`/`liftC`.
-/
import UtreexoVerif.Proofs.MapReloc

namespace UtreexoVerif.Proofs.MapMoveUp
open Model MapPrune MapRep MapReloc MapMove
open Spec (Pos sib parent)
open MapInv (Valid)
open MapLiftGeo (sunder_of_ne childP sunder_childP unliftP_liftP anc_parent_of_sunder sunder_parent_liftP not_anc_both)
set_option linter.unusedSectionVars false

variable {H : Type} [DecidableEq H] [Hasher H]

theorem pow_split {a b : Nat} (h : b ≤ a) : 2 ^ a = 2 ^ (a - b) * 2 ^ b := two_pow_split h

theorem lift_valid {T : Nat} {σ c : Pos} (hlt : σ.1 < T) (hc : Valid T c) (hle : c.1 ≤ σ.1) :
    Valid T (liftP σ c) := by
  have hcT : c.1 < T := Nat.lt_of_le_of_lt hle hlt
  refine ⟨hcT, ?_⟩
  show removeBitNat c.2 (σ.1 - c.1) < 2 ^ (T - (c.1 + 1))
  rw [Nat.sub_add_eq]
  apply removeBitNat_lt (Nat.le_sub_one_of_lt (Nat.sub_lt_sub_right hle hlt))
  rw [Nat.sub_add_cancel (Nat.sub_pos_of_lt hcT)]
  exact hc.2

theorem calcNextPosition_encP {T : Nat} {σ c : Pos} (hT : T ≤ 63) (hσ : Valid T σ) (hlt : σ.1 < T)
    (hc : Valid T c) (hle : c.1 ≤ σ.1) :
    calcNextPosition (encP T c) (encP T (sib σ)) (H8 T) = (encP T (liftP σ c), false) :=
  EncPos.calcNext_encP hT hc (valid_sib hσ hlt) hle hlt

theorem anc_iff_eq_or_sunder {p q : Pos} : Anc p q ↔ q = p ∨ SUnder p q :=
  ⟨fun h => (Decidable.em (q = p)).imp_right (sunder_of_ne h), fun h => h.elim (· ▸ Anc.refl _) (·.1)⟩

theorem sunder_parent_iff {σ q : Pos} :
    SUnder (parent σ) q ↔ (q = σ ∨ q = sib σ ∨ SUnder σ q ∨ SUnder (sib σ) q) := by
  rw [MapLiftGeo.sunder_parent_iff, anc_iff_eq_or_sunder, anc_iff_eq_or_sunder, or_or_or_comm, or_assoc]

theorem child_of_parent (q : Pos) : q = ((parent q).1 - 1, 2 * (parent q).2 + q.2 % 2) :=
  (MapLiftGeo.childP_low q).symm

/-- the left or right child, as `moveUpChild` chooses it -/
def kid (p : Pos) (left : Bool) : Pos := childP p (if left then 0 else 1)

theorem kid_sunder {σ p : Pos} (h : Anc σ p) (h1 : 1 ≤ p.1) (left : Bool) : SUnder σ (kid p left) :=
  sunder_childP h h1 (by cases left <;> decide)

theorem moveUpChild_eq (position delPos : U64) (left : Bool) (m : MapPollard H) :
    MapPollard.moveUpChild position delPos left m =
      if (calcNextPosition (if left then LeftChild (sibling position) m.totalRows else RightChild (sibling position) m.totalRows)
          delPos m.totalRows).2 then (m, .error .err)
      else (moveM false (if left then LeftChild (sibling position) m.totalRows else RightChild (sibling position) m.totalRows)
        (calcNextPosition (if left then LeftChild (sibling position) m.totalRows else RightChild (sibling position) m.totalRows)
          delPos m.totalRows).1 m,
        .ok (if left then LeftChild (sibling position) m.totalRows else RightChild (sibling position) m.totalRows)) := by
  unfold MapPollard.moveUpChild moveM flagged
  simp only
  generalize (if left = true then LeftChild (sibling position) m.totalRows
    else RightChild (sibling position) m.totalRows) = c
  generalize calcNextPosition c delPos m.totalRows = r
  split
  · rfl
  · cases hg : m.getNode c with
    | none => rfl
    | some v =>
      have : ((m.delNode c).putNode r.1 v).hasCached v.hash = m.hasCached v.hash := rfl
      simp only [this, Bool.false_and, Bool.false_eq_true, if_false]
      cases h : m.hasCached v.hash <;> rfl

theorem moveUpChild_rep {m : MapPollard H} {T : Nat} {A : Pos → Option (Leaf H)} {C : H → Option Pos}
    (rep : Rep m T A C) {σ p : Pos} (hσ : Valid T σ) (hlt : σ.1 < T) (hp : Valid T p) (h1 : 1 ≤ p.1)
    (hle : p.1 ≤ σ.1) (left : Bool) :
    ∃ m', MapPollard.moveUpChild (sibling (encP T p)) (encP T (sib σ)) left m = (m', .ok (encP T (kid p left))) ∧
      m'.numLeaves = m.numLeaves ∧ m'.full = m.full ∧
      Rep m' T (moveA false m.full (kid p left) (liftP σ (kid p left)) A C).1
        (moveA false m.full (kid p left) (liftP σ (kid p left)) A C).2 := by
  have hT := rep.T_le
  have e1 : sibling (sibling (encP T p)) = encP T p := by
    unfold sibling
    rw [BitVec.xor_assoc, BitVec.xor_self, BitVec.xor_zero]
  have hcv : Valid T (kid p left) := ValidH.child hp h1 (by cases left <;> decide)
  have hkσ : (kid p left).1 ≤ σ.1 := Nat.le_trans (Nat.sub_le p.1 1) hle
  have hdv : Valid T (liftP σ (kid p left)) := lift_valid hlt hcv hkσ
  have ec : (if left = true then LeftChild (encP T p) (H8 T) else RightChild (encP T p) (H8 T))
      = encP T (kid p left) := by
    cases left
    · simp only [Bool.false_eq_true, if_false]; exact (EncPos.child_encP hT hp h1).2
    · simp only [if_true]; rw [(EncPos.child_encP hT hp h1).1]; rfl
  have en := calcNextPosition_encP hT hσ hlt hcv hkσ
  rw [moveUpChild_eq]
  simp only [rep.rows, e1, ec, en, Bool.false_eq_true, if_false]
  exact ⟨_, rfl, (moveM_frame _ _ _ m).2.1, (moveM_frame _ _ _ m).2.2, moveM_rep rep false hcv hdv⟩

/-- the abstract state when the entries at the positions of `M` (strictly below `σ`) have moved to their lifts -/
def AM (σ : Pos) (A : Pos → Option (Leaf H)) (M : Pos → Bool) : Pos → Option (Leaf H) :=
  reloc (liftS σ M) M (unliftP σ) A

def CM (σ : Pos) (C : H → Option Pos) (M : Pos → Bool) : H → Option Pos := relocC M (liftP σ) C

/-- what `moveUpDescendants` relies on -/
structure Ctx (σ : Pos) (A : Pos → Option (Leaf H)) (C : H → Option Pos) : Prop where
  h1 : A σ = none
  h2 : A (sib σ) = none
  h3 : ∀ q, SUnder (sib σ) q → A q = none
  ok : CacheOK (SUnder σ) A C

section step
variable {σ : Pos} {A : Pos → Option (Leaf H)} {C : H → Option Pos} {M : Pos → Bool} {c : Pos}

/-- `c` may have been visited before (`M c`): then nothing is stored there any more -/
theorem step (ctx : Ctx σ A C) (hc : SUnder σ c) (ha : liftS σ M c = false)
    (hd : M (liftP σ c) = true ∨ A (liftP σ c) = none) {fl : Bool} :
    (∀ q, (moveA false fl c (liftP σ c) (AM σ A M) (CM σ C M)).1 q = AM σ A (ins M c) q) ∧
    ∀ x, (moveA false fl c (liftP σ c) (AM σ A M) (CM σ C M)).2 x = CM σ C (ins M c) x := by
  unfold AM CM
  cases hM : M c with
  | true =>
    rw [MapMove.moveA_none (by rw [reloc_not_dst _ _ _ ha, hM, if_pos rfl]), ins_of_mem hM]
    exact ⟨fun _ => rfl, fun _ => rfl⟩
  | false =>
    rw [liftS_ins M hc]
    refine reloc_move ctx.ok hc (unliftP_liftP hc.1) rfl ha hM ?_ false fl (fun _ _ => rfl)
    rw [reloc_not_dst _ _ _ ((liftS_liftP M hc).trans hM)]
    rcases hd with h | h
    · rw [if_pos h]
    · rw [h, ite_self]

end step

theorem Ctx.hA {σ : Pos} {A : Pos → Option (Leaf H)} {C : H → Option Pos} (ctx : Ctx σ A C)
    (q : Pos) (hq : SUnder (parent σ) q) (hn : ¬ SUnder σ q) : A q = none := by
  rcases sunder_parent_iff.1 hq with rfl | rfl | h | h
  · exact ctx.h1
  · exact ctx.h2
  · exact absurd h hn
  · exact ctx.h3 q h

theorem valid_of_sunder_parent {T : Nat} {σ p : Pos} (hσ : Valid T σ) (hlt : σ.1 < T)
    (h : SUnder (parent σ) p) : Valid T p := valid_below (valid_parent hσ hlt) h.1

/-- invariant of the moved set while the parents on row `ρ` are visited -/
structure LI (σ : Pos) (ρ : Nat) (M : Pos → Bool) : Prop where
  sub : ∀ t, M t = true → SUnder σ t ∧ ρ ≤ t.1 + 1
  sup : ∀ t, SUnder σ t → ρ ≤ t.1 → M t = true

theorem LI.ins {σ : Pos} {ρ : Nat} {M : Pos → Bool} (li : LI σ ρ M) {c : Pos} (hc : SUnder σ c)
    (hr : ρ ≤ c.1 + 1) : LI σ ρ (ins M c) where
  sub := by
    intro t ht
    by_cases e : t = c
    · rw [e]; exact ⟨hc, hr⟩
    · rw [ins_ne M e] at ht; exact li.sub t ht
  sup := fun t h1 h2 => ins_mono M c t (li.sup t h1 h2)

theorem LI.mem_iff {σ : Pos} {M : Pos → Bool} (li : LI σ 0 M) (t : Pos) : M t = true ↔ SUnder σ t :=
  ⟨fun h => (li.sub t h).1, fun h => li.sup t h (Nat.zero_le _)⟩

theorem kid_of_parent (q : Pos) : q = kid (parent q) (decide (q.2 % 2 = 0)) := by
  have e : (if decide (q.2 % 2 = 0) = true then 0 else 1) = q.2 % 2 := by
    rcases Nat.mod_two_eq_zero_or_one q.2 with h | h
    · rw [h]; rfl
    · rw [h]; rfl
  show q = ((parent q).1 - 1, 2 * (parent q).2 + _)
  rw [e]
  exact child_of_parent q

theorem LI.next {σ : Pos} {ρ : Nat} {M : Pos → Bool} (li : LI σ (ρ + 1) M)
    (hk : ∀ p, p.1 = ρ + 1 → Anc σ p → ∀ left, M (kid p left) = true) : LI σ ρ M where
  sub := fun t ht => ⟨(li.sub t ht).1, Nat.le_of_succ_le (li.sub t ht).2⟩
  sup := by
    intro t hs hr
    by_cases e : ρ + 1 ≤ t.1
    · exact li.sup t hs e
    · have hr' : t.1 = ρ := Nat.le_antisymm (Nat.le_of_lt_succ (Nat.lt_of_not_le e)) hr
      have := hk (parent t) (congrArg Nat.succ hr') (anc_parent_of_sunder hs) (decide (t.2 % 2 = 0))
      rwa [← kid_of_parent] at this

/-- the state `m'` reached from `m` while row `ρ` is visited, with moved set `M` -/
structure Walk (T : Nat) (σ : Pos) (A : Pos → Option (Leaf H)) (C : H → Option Pos) (m : MapPollard H)
    (ρ : Nat) (M : Pos → Bool) (m' : MapPollard H) : Prop where
  rep : Rep m' T (AM σ A M) (CM σ C M)
  li : LI σ ρ M
  numLeaves : m'.numLeaves = m.numLeaves
  full : m'.full = m.full

section levels
variable {T : Nat} {σ : Pos} {A : Pos → Option (Leaf H)} {C : H → Option Pos} {m0 : MapPollard H}

/-- one call of `moveUpChild` inside the walk: the moved set grows by the child when `p` is below-or-equal `σ`,
and nothing happens when `p` is on the sibling's side (nothing is stored there) -/
theorem child_step (ctx : Ctx σ A C) {m : MapPollard H} {M : Pos → Bool} {ρ : Nat} {p : Pos}
    (w : Walk T σ A C m0 ρ M m)
    (hσ : Valid T σ) (hlt : σ.1 < T) (hpρ : p.1 = ρ) (h1 : 1 ≤ ρ) (hfam : SUnder (parent σ) p) (left : Bool) :
    ∃ m' M', MapPollard.moveUpChild (sibling (encP T p)) (encP T (sib σ)) left m
        = (m', .ok (encP T (kid p left))) ∧
      Walk T σ A C m0 ρ M' m' ∧ (∀ t, M t = true → M' t = true) ∧ (Anc σ p → M' (kid p left) = true) := by
  subst hpρ
  obtain ⟨m', hm, hn, hf, rep'⟩ := moveUpChild_rep w.rep hσ hlt
    (valid_of_sunder_parent hσ hlt hfam) h1 (Nat.le_of_lt_succ hfam.2) left
  have hrow : p.1 ≤ (kid p left).1 + 1 := Nat.le_of_eq (Nat.sub_add_cancel h1).symm
  have ha : liftS σ M (kid p left) = false := by
    rw [Bool.eq_false_iff]
    intro h
    obtain ⟨hk, hM⟩ := of_liftS h
    have hk' : 1 ≤ p.1 - 1 := hk
    have : p.1 ≤ p.1 - 1 - 1 + 1 := (w.li.sub _ hM).2
    omega
  rcases MapLiftGeo.sunder_parent_iff.1 hfam with hanc | hanc
  · have hc := kid_sunder hanc h1 left
    have hd : M (liftP σ (kid p left)) = true ∨ A (liftP σ (kid p left)) = none := by
      by_cases hs : SUnder σ (liftP σ (kid p left))
      · exact Or.inl (w.li.sup _ hs hrow)
      · exact Or.inr (ctx.hA _ (sunder_parent_liftP hc) hs)
    have st := step ctx hc ha hd (fl := m.full)
    exact ⟨m', ins M (kid p left), hm,
      ⟨rep'.congr (fun q => (st.1 q).symm) (fun x => (st.2 x).symm),
        w.li.ins hc hrow, hn.trans w.numLeaves, hf.trans w.full⟩,
      ins_mono M _, fun _ => ins_self _ _⟩
  · have hnone : AM σ A M (kid p left) = none := by
      unfold AM
      rw [reloc_not_dst _ _ _ ha, ctx.h3 _ (kid_sunder hanc h1 left), ite_self]
    rw [moveA_none hnone] at rep'
    exact ⟨m', M, hm, ⟨rep', w.li, hn.trans w.numLeaves, hf.trans w.full⟩, fun _ h => h,
      fun h => (not_anc_both h hanc).elim⟩

/-- the children positions a visit of `p` (row `ρ`) reports -/
def kidsEnc (T : Nat) (ρ : Nat) (p : Pos) : List U64 :=
  if ρ = 0 then [] else [encP T (kid p true), encP T (kid p false)]

theorem mem_kidsEnc {ρ : Nat} {p : Pos} {x : U64} :
    x ∈ kidsEnc T (ρ + 1) p ↔ ∃ left, x = encP T (kid p left) := by
  unfold kidsEnc
  rw [if_neg (Nat.succ_ne_zero ρ)]
  constructor
  · intro h
    rcases List.mem_cons.1 h with h | h
    · exact ⟨true, h⟩
    · exact ⟨false, List.mem_singleton.1 h⟩
  · rintro ⟨left, rfl⟩
    cases left
    · exact List.mem_cons_of_mem _ List.mem_cons_self
    · exact List.mem_cons_self

theorem nieces_step (ctx : Ctx σ A C) {m : MapPollard H} {M : Pos → Bool} {ρ : Nat} {p : Pos}
    (w : Walk T σ A C m0 ρ M m)
    (hσ : Valid T σ) (hlt : σ.1 < T) (hpρ : p.1 = ρ) (hfam : SUnder (parent σ) p) :
    ∃ m' M', MapPollard.moveUpNieces (encP T p) (encP T (sib σ)) m = (m', .ok (kidsEnc T ρ p)) ∧
      Walk T σ A C m0 ρ M' m' ∧ (∀ t, M t = true → M' t = true) ∧
      (Anc σ p → 1 ≤ ρ → ∀ left, M' (kid p left) = true) := by
  have hT := w.rep.T_le
  have h63 : ρ ≤ 63 := hpρ ▸ Nat.le_trans (Nat.le_of_lt_succ hfam.2) (Nat.le_of_lt (Nat.lt_of_lt_of_le hlt hT))
  unfold MapPollard.moveUpNieces kidsEnc
  rw [w.rep.rows, EncPos.detectRow_encP hT (valid_of_sunder_parent hσ hlt hfam), hpρ]
  by_cases h0 : ρ = 0
  · rw [if_pos ((H8_beq_zero h63).2 h0), if_pos h0]
    exact ⟨m, M, rfl, w, fun _ h => h, fun _ h => absurd h0 (Nat.ne_of_gt h)⟩
  · have hne : ¬ ((H8 ρ == 0#8) = true) := fun h => h0 ((H8_beq_zero h63).1 h)
    have h1 : 1 ≤ ρ := Nat.pos_of_ne_zero h0
    rw [if_neg hne, if_neg h0]
    obtain ⟨m1, M1, e1, w1, mono1, k1⟩ := child_step ctx w hσ hlt hpρ h1 hfam true
    obtain ⟨m2, M2, e2, w2, mono2, k2⟩ := child_step ctx w1 hσ hlt hpρ h1 hfam false
    simp only [e1, e2]
    refine ⟨m2, M2, rfl, w2, fun t h => mono2 t (mono1 t h), ?_⟩
    intro ha _ left
    cases left
    · exact k2 ha
    · exact mono2 _ (k1 ha)

theorem level_rep (ctx : Ctx σ A C) (hσ : Valid T σ) (hlt : σ.1 < T) {ρ : Nat} :
    ∀ (L acc : List U64) (m : MapPollard H) (M : Pos → Bool),
      Walk T σ A C m0 ρ M m → (∀ x ∈ L, ∃ p, p.1 = ρ ∧ SUnder (parent σ) p ∧ x = encP T p) →
      ∃ m' M' out, MapPollard.moveUpLevel (encP T (sib σ)) L acc m = (m', .ok out) ∧
        Walk T σ A C m0 ρ M' m' ∧ (∀ t, M t = true → M' t = true) ∧
        (∀ p, Anc σ p → 1 ≤ ρ → encP T p ∈ L → ∀ left, M' (kid p left) = true) ∧
        (∀ x, x ∈ out ↔ x ∈ acc ∨ ∃ p, p.1 = ρ ∧ SUnder (parent σ) p ∧ encP T p ∈ L ∧ x ∈ kidsEnc T ρ p) := by
  intro L
  induction L with
  | nil =>
    intro acc m M w _
    refine ⟨m, M, acc, rfl, w, fun _ h => h, ?_, ?_⟩
    · intro p _ _ h; cases h
    · intro x
      constructor
      · exact Or.inl
      · rintro (h | ⟨p, _, _, h, _⟩)
        · exact h
        · cases h
  | cons x L ih =>
    intro acc m M w hL
    obtain ⟨p, hpρ, hfam, rfl⟩ := hL x List.mem_cons_self
    have hp := valid_of_sunder_parent hσ hlt hfam
    obtain ⟨m1, M1, e1, w1, mono1, k1⟩ := nieces_step ctx w hσ hlt hpρ hfam
    obtain ⟨m2, M2, out, e2, w2, mono2, k2, ho⟩ :=
      ih (acc ++ kidsEnc T ρ p) m1 M1 w1 (fun y hy => hL y (List.mem_cons_of_mem _ hy))
    refine ⟨m2, M2, out, ?_, w2, fun t h => mono2 t (mono1 t h), ?_, ?_⟩
    · unfold MapPollard.moveUpLevel
      simp only [e1]
      exact e2
    · intro p' ha h1 hmem left
      rcases List.mem_cons.1 hmem with h | h
      · have := encP_inj w.rep.T_le (valid_below hσ ha) hp h
        subst this
        exact mono2 _ (k1 ha h1 left)
      · exact k2 p' ha h1 h left
    · intro y
      rw [ho y, List.mem_append]
      constructor
      · rintro ((h | h) | ⟨p', a, b, d, e⟩)
        · exact Or.inl h
        · exact Or.inr ⟨p, hpρ, hfam, List.mem_cons_self, h⟩
        · exact Or.inr ⟨p', a, b, List.mem_cons_of_mem _ d, e⟩
      · rintro (h | ⟨p', a, b, d, e⟩)
        · exact Or.inl (Or.inl h)
        · rcases List.mem_cons.1 d with h | h
          · have := encP_inj w.rep.T_le (valid_of_sunder_parent hσ hlt b) hp h
            subst this
            exact Or.inl (Or.inr e)
          · exact Or.inr ⟨p', a, b, h, e⟩

theorem mem_dedupSorted (x : U64) : ∀ l : List U64, x ∈ MapPollard.dedupSorted l ↔ x ∈ l := by
  intro l
  fun_induction MapPollard.dedupSorted l with
  | case1 a t ih => rw [ih]; simp
  | case2 a b t hne ih => rw [List.mem_cons, ih]; simp
  | case3 l h => rfl

/-- `L` is the work list of row `ρ` -/
def Level (T : Nat) (σ : Pos) (ρ : Nat) (L : List U64) : Prop :=
  ∀ x, x ∈ L ↔ ∃ p, p.1 = ρ ∧ SUnder (parent σ) p ∧ x = encP T p

theorem Level.next {ρ : Nat} {L L' : List U64} (hL : Level T σ (ρ + 1) L) (hρ : ρ < σ.1)
    (hmem : ∀ x, x ∈ L' ↔
      ∃ p, p.1 = ρ + 1 ∧ SUnder (parent σ) p ∧ encP T p ∈ L ∧ x ∈ kidsEnc T (ρ + 1) p) :
    Level T σ ρ L' := by
  intro x
  rw [hmem]
  constructor
  · rintro ⟨p, hpρ, hfam, _, hk⟩
    obtain ⟨left, rfl⟩ := mem_kidsEnc.1 hk
    exact ⟨kid p left, by show p.1 - 1 = ρ; rw [hpρ, Nat.add_sub_cancel],
      kid_sunder hfam.1 (hpρ ▸ Nat.succ_pos ρ) left, rfl⟩
  · rintro ⟨q, hqρ, hfam, rfl⟩
    have hpρ : (parent q).1 = ρ + 1 := by rw [CalcGeo.parent_fst, hqρ]
    have hpf : SUnder (parent σ) (parent q) := ⟨anc_parent_of_sunder hfam, Nat.succ_lt_succ (hqρ ▸ hρ)⟩
    exact ⟨parent q, hpρ, hpf, (hL _).2 ⟨_, hpρ, hpf, rfl⟩,
      mem_kidsEnc.2 ⟨_, congrArg (encP T) (kid_of_parent q)⟩⟩

/-- the counter `orderDep` is not part of the abstract state -/
theorem Walk.orderDep {m : MapPollard H} {ρ : Nat} {M : Pos → Bool} (w : Walk T σ A C m0 ρ M m) (b : Bool) :
    Walk T σ A C m0 ρ M (if b = true then { m with orderDep := m.orderDep + 1 } else m) := by
  cases b
  · exact w
  · exact ⟨w.rep.of_same rfl (fun _ => rfl) (fun _ => rfl), w.li, w.numLeaves, w.full⟩

theorem levels_rep (ctx : Ctx σ A C) (hσ : Valid T σ) (hlt : σ.1 < T) :
    ∀ (ρ : Nat) (L : List U64) (m : MapPollard H) (M : Pos → Bool), ρ ≤ σ.1 →
      Walk T σ A C m0 ρ M m → Level T σ ρ L →
      ∃ m' M', MapPollard.moveUpLevels (encP T (sib σ)) (ρ + 1) L m = (m', .ok ()) ∧
        Walk T σ A C m0 0 M' m' := by
  intro ρ
  induction ρ with
  | zero =>
    intro L m M hρ w hL
    obtain ⟨m1, M1, out, e1, w1, _, _, _⟩ :=
      level_rep ctx hσ hlt L [] _ M (w.orderDep (MapPollard.levelOrderSensitive m (encP T (sib σ)) L))
        (fun x hx => (hL x).1 hx)
    refine ⟨m1, M1, ?_, w1⟩
    unfold MapPollard.moveUpLevels
    simp only [e1]
    rfl
  | succ ρ ih =>
    intro L m M hρ w hL
    obtain ⟨m1, M1, out, e1, w1, _, k1, ho⟩ :=
      level_rep ctx hσ hlt L [] _ M (w.orderDep (MapPollard.levelOrderSensitive m (encP T (sib σ)) L))
        (fun x hx => (hL x).1 hx)
    have hmem : ∀ x, x ∈ MapPollard.dedupSorted (sortU64 out) ↔
        ∃ p, p.1 = ρ + 1 ∧ SUnder (parent σ) p ∧ encP T p ∈ L ∧ x ∈ kidsEnc T (ρ + 1) p := by
      intro x
      rw [mem_dedupSorted, SortBy.mem_sortU64, ho x]
      exact or_iff_right List.not_mem_nil
    have li' : LI σ ρ M1 := w1.li.next fun p hpρ ha left =>
      k1 p ha (Nat.succ_pos ρ) ((hL _).2 ⟨p, hpρ, MapLiftGeo.sunder_parent_iff.2 (Or.inl ha), rfl⟩) left
    obtain ⟨m2, M2, e2, w2⟩ := ih (MapPollard.dedupSorted (sortU64 out)) m1 M1 (Nat.le_of_succ_le hρ)
      ⟨w1.rep, li', w1.numLeaves, w1.full⟩ (hL.next hρ hmem)
    refine ⟨m2, M2, ?_, w2⟩
    rw [MapPollard.moveUpLevels]
    simp only [e1]
    exact e2

end levels

theorem AM_full {σ : Pos} {A : Pos → Option (Leaf H)} {C : H → Option Pos} (ctx : Ctx σ A C)
    {M : Pos → Bool} (li : LI σ 0 M) (q : Pos) : liftA σ A q = AM σ A M q := by
  have hup := liftS_full li.mem_iff q
  unfold liftA AM reloc
  by_cases hq : SUnder (parent σ) q
  · rw [if_pos hq]
    by_cases h0 : q.1 = 0
    · rw [if_pos h0, if_neg (fun h => Nat.ne_of_gt (hup.1 h).2 h0)]
      split
      · rfl
      · rename_i h
        exact (ctx.hA q hq (fun hs => h ((li.mem_iff q).2 hs))).symm
    · rw [if_neg h0, if_pos (hup.2 ⟨hq, Nat.pos_of_ne_zero h0⟩)]
  · rw [if_neg hq, if_neg (fun h => hq (hup.1 h).1),
      if_neg (fun h => hq (sunder_parent_iff.2 (Or.inr (Or.inr (Or.inl ((li.mem_iff q).1 h))))))]

theorem CM_full {σ : Pos} (C : H → Option Pos) {M : Pos → Bool} (li : LI σ 0 M) (x : H) :
    liftC σ C x = CM σ C M x := by
  unfold liftC CM relocC
  congr 1
  funext t
  by_cases h : SUnder σ t
  · rw [if_pos h, if_pos ((li.mem_iff t).2 h)]
  · rw [if_neg h, if_neg (fun h' => h ((li.mem_iff t).1 h'))]

theorem moveUpDescendants_rep {m : MapPollard H} {T : Nat} {A : Pos → Option (Leaf H)} {C : H → Option Pos}
    (rep : Rep m T A C) {σ : Pos} (hσ : Valid T σ) (hlt : σ.1 < T)
    (h1 : A σ = none) (h2 : A (sib σ) = none) (h3 : ∀ q, SUnder (sib σ) q → A q = none)
    -- a stored node below σ whose hash is cached is cached at its own position
    (hc : ∀ c v, SUnder σ c → A c = some v → ∀ t, C v.hash = some t → t = c)
    -- a cached position below σ is stored with that hash
    (hc2 : ∀ x t, C x = some t → SUnder σ t → ∃ v, A t = some v ∧ v.hash = x) :
    ∃ m', MapPollard.moveUpDescendants (encP T σ) (encP T (sib σ)) m = (m', .ok ()) ∧
      Rep m' T (liftA σ A) (liftC σ C) ∧ m'.numLeaves = m.numLeaves ∧ m'.full = m.full := by
  have hT := rep.T_le
  have ctx : Ctx σ A C := ⟨h1, h2, h3, ⟨hc, hc2⟩⟩
  have w0 : Walk T σ A C m σ.1 (fun _ => false) m := by
    refine ⟨rep.congr (fun _ => rfl) (relocC_empty _ C), ⟨?_, ?_⟩, rfl, rfl⟩
    · intro t h; cases h
    · exact fun t hs hr => absurd hs.2 (Nat.not_lt.2 hr)
  unfold MapPollard.moveUpDescendants
  simp only [rep.rows, EncPos.detectRow_encP hT hσ, toNat_H8 (Nat.le_of_lt (Nat.lt_of_lt_of_le hlt hT))]
  by_cases h0 : σ.1 = 0
  · -- nothing lies strictly below `σ`: the empty moved set is already the full one
    rw [if_pos h0]
    rw [h0] at w0
    exact ⟨m, rfl, rep.congr (AM_full ctx w0.li) (fun x => (CM_full C w0.li x).trans (relocC_empty _ C x)),
      rfl, rfl⟩
  · rw [if_neg h0, EncPos.sibling_encP hT hσ]
    have hL : Level T σ σ.1 (sortU64 [encP T σ, encP T (sib σ)]) := by
      intro x
      rw [SortBy.mem_sortU64, List.mem_cons, List.mem_singleton]
      constructor
      · rintro (rfl | rfl)
        · exact ⟨σ, rfl, MapLiftGeo.sunder_parent_iff.2 (Or.inl (Anc.refl _)), rfl⟩
        · exact ⟨sib σ, CalcGeo.sib_fst σ, MapLiftGeo.sunder_parent_iff.2 (Or.inr (Anc.refl _)), rfl⟩
      · rintro ⟨p, hpρ, hfam, rfl⟩
        rcases MapLiftGeo.sunder_parent_iff.1 hfam with h | h
        · exact Or.inl (congrArg _ (h.eq_of_row hpρ.symm).symm)
        · exact Or.inr (congrArg _ (h.eq_of_row ((CalcGeo.sib_fst σ).trans hpρ.symm)).symm)
    obtain ⟨m', M', e, w'⟩ := levels_rep ctx hσ hlt σ.1 _ m _ (Nat.le_refl _) w0 hL
    exact ⟨m', e, w'.rep.congr (AM_full ctx w'.li) (CM_full C w'.li), w'.numLeaves, w'.full⟩

/-- the same with the side conditions stated about a state `A` that the given one agrees with below row `σ.1`
(the callers have just cleared `σ`, its sibling or its parent) -/
theorem moveUpDescendants_rep_of_agree {m : MapPollard H} {T : Nat} {A₀ A : Pos → Option (Leaf H)} {C : H → Option Pos}
    (rep : Rep m T A₀ C) {σ : Pos} (hσ : Valid T σ) (hlt : σ.1 < T) (h1 : A₀ σ = none) (h2 : A₀ (sib σ) = none)
    (agree : ∀ q, q.1 < σ.1 → A₀ q = A q) (h3 : ∀ q, SUnder (sib σ) q → A q = none)
    (hc : ∀ c v, SUnder σ c → A c = some v → ∀ t, C v.hash = some t → t = c)
    (hc2 : ∀ x t, C x = some t → SUnder σ t → ∃ v, A t = some v ∧ v.hash = x) :
    ∃ m', MapPollard.moveUpDescendants (encP T σ) (encP T (sib σ)) m = (m', .ok ()) ∧
      Rep m' T (liftA σ A₀) (liftC σ C) ∧ m'.numLeaves = m.numLeaves ∧ m'.full = m.full :=
  moveUpDescendants_rep rep hσ hlt h1 h2
    (fun q hq => (agree q (by have := hq.2; rwa [CalcGeo.sib_fst] at this)).trans (h3 q hq))
    (fun c v hsc hA => hc c v hsc ((agree c hsc.2).symm.trans hA))
    (fun x t ht hst => (agree t hst.2).symm ▸ hc2 x t ht hst)

/- non-vacuity: a 4-slot forest storing the cached leaf `(0,1)` below `σ = (1,0)`; it moves to `(1,1)` -/

section example_
local instance exHasher : Hasher Nat := ⟨fun a b => a + b + 1, 0⟩

def exM : MapPollard Nat :=
  { nodes := [(encP 2 (0, 1), ⟨7, true⟩)], cached := [(7, encP 2 (0, 1))], numLeaves := 2#64,
    totalRows := H8 2, full := false }

def exA : Pos → Option (Leaf Nat) := fun q => if q = (0, 1) then some ⟨7, true⟩ else none
def exC : Nat → Option Pos := fun x => if x = 7 then some (0, 1) else none

theorem ex_rep : Rep exM 2 exA exC := by
  refine (rep_abs_of_decode (m := exM) (T := 2) (by decide) rfl (by decide) (by decide)).congr ?_ ?_
  · intro q
    unfold exA absA
    by_cases e : q = (0, 1)
    · subst e; decide
    · rw [if_neg e]
      split
      · rename_i hq
        have : encP 2 (0, 1) ≠ encP 2 q := fun h => e (encP_inj (by decide) ⟨by decide, by decide⟩ hq h).symm
        exact (if_neg this).symm
      · rfl
  · intro x
    unfold exC absC
    by_cases e : x = 7
    · subst e; decide
    · rw [if_neg e]
      have : exM.getCached x = none := if_neg fun h : 7 = x => e h.symm
      rw [this]
      rfl

example : ∃ m', MapPollard.moveUpDescendants (encP 2 (1, 0)) (encP 2 (sib (1, 0))) exM = (m', .ok ()) ∧
    Rep m' 2 (liftA (1, 0) exA) (liftC (1, 0) exC) ∧ m'.numLeaves = exM.numLeaves ∧ m'.full = exM.full := by
  refine moveUpDescendants_rep ex_rep (σ := (1, 0)) (by decide) (by decide) (by decide) (by decide) ?_ ?_ ?_
  · exact fun q hq => if_neg fun e => absurd (e ▸ hq) (by decide)
  · intro c v _ hA t hC
    by_cases e : c = (0, 1)
    · subst e
      cases Option.some.inj ((if_pos rfl).symm.trans hA)
      exact (Option.some.inj hC).symm
    · exact absurd ((if_neg e).symm.trans hA) nofun
  · intro x t hC _
    by_cases e : x = 7
    · subst e
      cases Option.some.inj hC
      exact ⟨⟨7, true⟩, rfl, rfl⟩
    · exact absurd ((if_neg e).symm.trans hC) nofun

example : SUnder (1, 0) (0, 1) ∧ exA (0, 1) = some ⟨7, true⟩ ∧ exC 7 = some (0, 1) ∧
    liftA (1, 0) exA (1, 1) = some ⟨7, true⟩ ∧ liftA (1, 0) exA (0, 1) = none ∧
    liftC (1, 0) exC 7 = some (1, 1) := by
  refine ⟨by decide, by decide, by decide, by decide, by decide, by decide⟩

end example_

end UtreexoVerif.Proofs.MapMoveUp

#print axioms UtreexoVerif.Proofs.MapMoveUp.moveUpDescendants_rep
