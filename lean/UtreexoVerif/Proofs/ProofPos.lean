/-
  Nodes of the forest in pair terms: `BelowRoot n r o R` (the node lies in the tree on row `R`; a
  node belongs to one tree, its ancestors up to the root stay in it, it is a position of the
  geometry), and `Anc` with the description of `Spec.Forest.pathUp`.
-/
import UtreexoVerif.Props.C16b

namespace UtreexoVerif.Proofs
open UtreexoVerif.Props.C16

/-- `(r, o)` is, or lies below, the root of the tree on row `R` of a forest with `n` leaves -/
def BelowRoot (n r o R : Nat) : Prop :=
  r ≤ R ∧ n.testBit R = true ∧ o / 2 ^ (R - r) = (Spec.rootPos n R).2

theorem belowRoot_unique {n r o R R' : Nat} (h : BelowRoot n r o R) (h' : BelowRoot n r o R') :
    R = R' := by
  obtain ⟨hr, hb, hroot⟩ := h
  obtain ⟨hr', hb', hroot'⟩ := h'
  obtain ⟨hL, habove⟩ := leftmost_leaf_bits hr hroot
  obtain ⟨hL', habove'⟩ := leftmost_leaf_bits hr' hroot'
  rcases Nat.lt_trichotomy R R' with hlt | heq | hgt
  · have := habove R' hlt
    rw [hL', hb'] at this
    exact absurd this (by decide)
  · exact heq
  · have := habove' R hgt
    rw [hL, hb] at this
    exact absurd this (by decide)

theorem belowRoot_isRootPos {n r o R : Nat} (h : BelowRoot n r o R) :
    Spec.isRootPos n (r, o) = decide (r = R) := by
  by_cases hrR : r = R
  · subst hrR
    obtain ⟨_, hb, hroot⟩ := h
    rw [Nat.sub_self, Nat.pow_zero, Nat.div_one] at hroot
    simp [Spec.isRootPos, hb, hroot, Spec.rootPos]
  · simp only [hrR, decide_false]
    cases hroot : Spec.isRootPos n (r, o)
    · rfl
    · exfalso
      simp only [Spec.isRootPos, Bool.and_eq_true, beq_iff_eq] at hroot
      have h2 : BelowRoot n r o r := ⟨Nat.le_refl _, hroot.1, by
        rw [Nat.sub_self, Nat.pow_zero, Nat.div_one]; exact hroot.2⟩
      exact hrR (belowRoot_unique h2 h)

theorem belowRoot_parent {n r o R : Nat} (h : BelowRoot n r o R) (hne : r ≠ R) :
    BelowRoot n (r + 1) (o / 2) R := by
  obtain ⟨hr, hb, hroot⟩ := h
  refine ⟨by omega, hb, ?_⟩
  rw [← hroot, Nat.div_div_eq_div_mul, ← Nat.pow_succ', show (R - (r + 1)).succ = R - r by omega]

theorem belowRoot_valid {n h r o R : Nat} (hn : n ≤ 2 ^ h) (hb : BelowRoot n r o R) :
    R ≤ h ∧ r ≤ h ∧ o < 2 ^ (h - r) := by
  have h1 : (o + 1) * 2 ^ r ≤ n := below_root_iff.2 ⟨R, hb⟩
  obtain ⟨hRh, _⟩ := rootPos_valid hn hb.2.1
  have hr : r ≤ h := Nat.le_trans hb.1 hRh
  refine ⟨hRh, hr, ?_⟩
  have e : 2 ^ h = 2 ^ (h - r) * 2 ^ r := two_pow_split hr
  have : (o + 1) * 2 ^ r ≤ 2 ^ (h - r) * 2 ^ r := by rw [← e]; omega
  have := Nat.le_of_mul_le_mul_right this (Nat.two_pow_pos r)
  omega

theorem BelowRoot.valid {n H : Nat} {p : Spec.Pos} {R : Nat} (hb : BelowRoot n p.1 p.2 R)
    (hn : n ≤ 2 ^ H) : ValidH H p := (belowRoot_valid hn hb).2

section anc
open Spec Spec.Forest

/-- `p` is `t` or an ancestor of `t` -/
def Anc (p t : Pos) : Prop := t.1 ≤ p.1 ∧ p.2 = t.2 / 2 ^ (p.1 - t.1)

theorem Anc.refl (t : Pos) : Anc t t := ⟨Nat.le_refl _, by simp⟩

theorem anc_iff {p t : Pos} : Anc p t ↔ ∃ k, p = (t.1 + k, t.2 / 2 ^ k) := by
  constructor
  · rintro ⟨h1, h2⟩
    exact ⟨p.1 - t.1, Prod.ext (by show p.1 = t.1 + (p.1 - t.1); omega) h2⟩
  · rintro ⟨k, rfl⟩
    exact ⟨Nat.le_add_right _ _, by show _ = t.2 / 2 ^ (t.1 + k - t.1); rw [Nat.add_sub_cancel_left]⟩

theorem Anc.parent {p t : Pos} (h : Anc p t) : Anc (parent p) t := by
  obtain ⟨k, rfl⟩ := anc_iff.1 h
  exact anc_iff.2 ⟨k + 1, by
    show (t.1 + k + 1, t.2 / 2 ^ k / 2) = _; rw [Nat.div_div_eq_div_mul, ← Nat.pow_succ]; rfl⟩

theorem anc_parent_iff {q t : Pos} : Anc q (parent t) ↔ Anc q t ∧ t.1 < q.1 := by
  rw [anc_iff, anc_iff]
  constructor
  · rintro ⟨k, rfl⟩
    refine ⟨⟨k + 1, ?_⟩, by show t.1 < t.1 + 1 + k; omega⟩
    show (t.1 + 1 + k, t.2 / 2 / 2 ^ k) = (t.1 + (k + 1), t.2 / 2 ^ (k + 1))
    rw [Nat.div_div_eq_div_mul, ← Nat.pow_succ', Nat.add_assoc, Nat.add_comm 1 k]
  · rintro ⟨⟨k, rfl⟩, hlt⟩
    obtain ⟨j, rfl⟩ : ∃ j, k = j + 1 := ⟨k - 1, by have : t.1 < t.1 + k := hlt; omega⟩
    refine ⟨j, ?_⟩
    show (t.1 + (j + 1), t.2 / 2 ^ (j + 1)) = (t.1 + 1 + j, t.2 / 2 / 2 ^ j)
    rw [Nat.div_div_eq_div_mul, ← Nat.pow_succ', Nat.add_assoc, Nat.add_comm 1 j]

theorem Anc.eq_of_row {p t : Pos} (h : Anc p t) (e : p.1 = t.1) : p = t := by
  obtain ⟨h1, h2⟩ := h
  obtain ⟨a, b⟩ := p
  obtain ⟨c, d⟩ := t
  simp only at e h2 ⊢
  subst e
  simp at h2
  rw [h2]

theorem sib_snd_div (p : Pos) : (sib p).2 / 2 = p.2 / 2 := by
  show (if p.2 % 2 = 0 then p.2 + 1 else p.2 - 1) / 2 = p.2 / 2
  split <;> omega

theorem belowRoot_sib {n r o R : Nat} (hb : BelowRoot n r o R) (hne : r ≠ R) :
    BelowRoot n r (sib (r, o)).2 R := by
  obtain ⟨h1, h2, h3⟩ := hb
  refine ⟨h1, h2, ?_⟩
  rw [← h3]
  have e : R - r = (R - r - 1) + 1 := by omega
  rw [e, Nat.pow_succ, Nat.mul_comm, ← Nat.div_div_eq_div_mul, ← Nat.div_div_eq_div_mul,
    sib_snd_div]

theorem belowRoot_anc {n R : Nat} {p t : Pos} (hb : BelowRoot n t.1 t.2 R) (ha : Anc p t)
    (hp : p.1 ≤ R) : BelowRoot n p.1 p.2 R := by
  obtain ⟨h1, h2, h3⟩ := hb
  obtain ⟨a1, a2⟩ := ha
  refine ⟨hp, h2, ?_⟩
  rw [a2, Nat.div_div_eq_div_mul, ← Nat.pow_add, show p.1 - t.1 + (R - p.1) = R - t.1 by omega]
  exact h3

theorem mem_pathUp {n R : Nat} : ∀ (d r o fuel : Nat), BelowRoot n r o R → r + d = R → d ≤ fuel →
    ∀ p, p ∈ pathUp n fuel (r, o) ↔ Anc p (r, o) ∧ p.1 ≤ R := by
  intro d
  induction d with
  | zero =>
    intro r o fuel hb hrd _ p
    have hroot : isRootPos n (r, o) = true := by rw [belowRoot_isRootPos hb]; simp; omega
    have e : pathUp n fuel (r, o) = [(r, o)] := by
      cases fuel <;> simp [pathUp, hroot]
    rw [e, List.mem_singleton]
    constructor
    · rintro rfl; exact ⟨Anc.refl _, by show r ≤ R; omega⟩
    · rintro ⟨ha, hp⟩
      exact ha.eq_of_row (by have := ha.1; show p.1 = r; simp only at this; omega)
  | succ d ih =>
    intro r o fuel hb hrd hf p
    obtain ⟨g, rfl⟩ : ∃ g, fuel = g + 1 := ⟨fuel - 1, by omega⟩
    have hroot : isRootPos n (r, o) = false := by rw [belowRoot_isRootPos hb]; simp; omega
    have hb' := belowRoot_parent hb (by omega)
    rw [pathUp, hroot]
    simp only [Bool.false_eq_true, if_false, List.mem_cons]
    rw [show Spec.parent (r, o) = (r + 1, o / 2) from rfl, ih (r + 1) (o / 2) g hb' (by omega) (by omega)]
    constructor
    · rintro (rfl | ⟨ha, hp⟩)
      · exact ⟨Anc.refl _, by show r ≤ R; omega⟩
      · exact ⟨(anc_parent_iff (t := (r, o))).1 ha |>.1, hp⟩
    · rintro ⟨ha, hp⟩
      by_cases e : p.1 = r
      · exact Or.inl (ha.eq_of_row e)
      · have h1 := ha.1
        exact Or.inr ⟨(anc_parent_iff (t := (r, o))).2 ⟨ha, by simp only at h1 ⊢; omega⟩, hp⟩

end anc

end UtreexoVerif.Proofs
