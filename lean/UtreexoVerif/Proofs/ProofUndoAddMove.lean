/-
  The inverse of the addition movement (property C08, `Proof.undoAdd`).

  Forward (`updateProofAdd`, `Proofs/AddMove.lean`, `Proofs/AddPP.lean`): every node of the forest
  `F` before the additions sits in `G = F.addMany adds` at `addMove n k L p = moveA N T dp p`, where
  `dp = destroyedPos n L` are the positions of the all-zero roots the additions merged over
  (ascending rows).

  Backward (`proofUndoAdd`): walk through `toDestroy` in DESCENDING order and apply
  `moveDownPosition(forestRows, Parent(destroyed), destroyed, pos)` to every position.

  * `mdp_test`, `moveBack_suffix` (any row count up to 63), `moveBack_origin`: on the encoded forward
    image `moveA N R dp p` of an `Origin` `p` (`Proofs/UndoPass.lean`) the walk over a suffix of
    `dp` returns the image under the rest, the whole walk the encoded `p`;
  * `chunk_origin_old`, `old_origin`: every node of `F` is an origin (and its image is its node in `G`);
  * `chunk_origin_new`, `new_origin`: every node of `G` that contains an added leaf is the image of an
    origin that does NOT exist in the forest of `n` leaves (the lowest chunk of the node, uncollapsed
    over the destroyed roots).
-/
import UtreexoVerif.Proofs.ProofUndoDel
import UtreexoVerif.Proofs.ProofUndoAdd
import UtreexoVerif.Proofs.AddPP

namespace UtreexoVerif.Proofs.ProofUndoAddMove
open Spec Model
open UtreexoVerif.Proofs.SpecNodes UtreexoVerif.Proofs.SpecSubs
open UtreexoVerif.Proofs.CalcComplete
open UtreexoVerif.Proofs.CalcGeo UtreexoVerif.Proofs.Movement
open UtreexoVerif.Proofs.ProofUpdateGnp
open UtreexoVerif.Proofs.MoveFold
open UtreexoVerif.Proofs.AddMove UtreexoVerif.Proofs.AddPP UtreexoVerif.Proofs.FinalPos
open UtreexoVerif.Proofs.StumpAddPos
open UtreexoVerif.Proofs.ChunkBridge
open UtreexoVerif.Proofs.ProofUndoMove UtreexoVerif.Proofs.ProofUndoDel

/-- a destroyed root as the walk meets it: a position of some tree of the forest, never its root -/
def TStrict (n : Nat) (T : Pos) : Prop :=
  ∃ RT, RT ∈ treeRows n ∧ Under RT (2 * (n >>> (RT + 1))) T ∧ T.1 < RT

theorem TStrict.tok {n R : Nat} {T : Pos} (h : TStrict n T) : TOK n R T := by
  obtain ⟨RT, h1, h2, h3⟩ := h
  exact ⟨RT, h1, h2, fun e => by omega⟩

section rows
variable {n rows : Nat} (hF : forestRows n ≤ rows) (hr : rows ≤ 63)
include hF hr

/-- the test of `moveDownPosition (Parent T) T`, for a destroyed root (never the root of its tree) -/
theorem mdp_test {R : Nat} (hR : R ∈ treeRows n) {T c : Pos}
    (hu : Under R (2 * (n >>> (R + 1))) c) (hT : TStrict n T) :
    (E rows c == Parent (E rows T) (H8 rows) ||
      isAncestor (Parent (E rows T) (H8 rows)) (E rows c) (H8 rows)) =
    (inTree n R T && atOrUnderP T c) := by
  obtain ⟨RT, hRT, huT, hlt⟩ := hT
  have hvc := ValidH.mono (under_valid hR hu) hF
  have hvT := ValidH.mono (under_valid hRT huT) hF
  have hTrows : T.1 < rows :=
    Nat.lt_of_lt_of_le hlt (Nat.le_trans (under_valid hRT (Under.self _ _)).1 hF)
  rw [mdpTest_enc hr hvc hvT hTrows]
  cases ha : atOrUnderP T c with
  | false => simp
  | true =>
    have hup : Under RT (2 * (n >>> (RT + 1))) (parent T) := under_parent huT hlt
    have hcu : Under (parent T).1 (parent T).2 c := SpecNodes.under_iff_anc.2 (atOrUnderP_anc.1 ha)
    have huc := hup.trans_under hcu
    have hRR : RT = R := tree_unique hRT hR huc hu
    subst hRR
    rw [(inTree_iff _ _ _).2 huT]
    rfl

/-- **`moveBack` over a suffix** (the repaired `Proof.undoAdd` walk; also one `undoSingleAdd`
of the tracker), any row count between `forestRows n` and 63 -/
theorem moveBack_suffix (ds2 ds1 : List Pos) {p : Pos} {R : Nat}
    (hdt : DtList (ds1 ++ ds2)) (hst : ∀ T ∈ ds2, TStrict n T) (o : Origin n (ds1 ++ ds2) p R) :
    moveBack (H8 rows) (ds2.map (E rows)) (E rows (moveA n R (ds1 ++ ds2) p)) =
      E rows (moveA n R ds1 p) := by
  have h := undo_suffix hF hr
    (fun T x => x == Parent T (H8 rows) || isAncestor (Parent T (H8 rows)) x (H8 rows))
    ds2 ds1 hdt o (fun T hT c hc => mdp_test hF hr o.tree hc (hst T hT))
  rw [← h]
  unfold moveBack moveDownPosition
  rw [List.foldl_reverse]

end rows

theorem moveBack_origin {n : Nat} (hn : n ≤ 2 ^ 63) (dp : List Pos) {p : Pos} {R : Nat}
    (hdt : DtList dp) (hst : ∀ T ∈ dp, TStrict n T) (o : Origin n dp p R) :
    moveBack (H8 (forestRows n)) (dp.map (E (forestRows n))) (E (forestRows n) (moveA n R dp p)) =
      E (forestRows n) p :=
  moveBack_suffix (Nat.le_refl _) (forestRows_small hn) dp [] (by simpa using hdt) hst (by simpa using o)

section destroyed
variable {H : Type} [DecidableEq H] [Hasher H]

theorem destroyed_strict (S' : List (Option H)) (k : Nat) (L : List Nat) (hL : DestroySpec S' k L)
    (hN : S'.length + k < 2 ^ 64) : ∀ A ∈ destroyedPos S'.length L, TStrict (S'.length + k) A :=
  destroyed_under S' k L hL hN

theorem destroyed_dtList {n : Nat} {L : List Nat} {a : Nat} (h : AscFrom a L) :
    DtList (destroyedPos n L) := by
  have hpw := destroyedPos_pairwise (n := n) h
  refine ⟨hpw.imp (fun h => Nat.le_of_lt h), hpw.imp (fun h e => by subst e; omega), ?_⟩
  intro x hx hs
  have hrow : ∀ y ∈ destroyedPos n L, y.1 = x.1 → y = x := by
    intro y hy e
    rw [mem_destroyedPos] at hx hy
    exact Prod.ext e (by rw [hx.2, hy.2, e])
  have := hrow (sib x) hs (sib_fst x)
  have h2 : (sib x).2 = x.2 := congrArg Prod.snd this
  simp only [sib_snd] at h2
  split at h2 <;> omega

end destroyed

section chunkold
variable {H : Type} [DecidableEq H] [Hasher H]

/-- Any hash type; `ProofUndoAddMove.old_origin` (through `chunk_of_subAtT'`) is the instance for
the cached proof.  It is `Good` for a destroyed root `A` because the parent of `A` is no position of
the old forest, and nothing live lies below `A`, an empty root (`old_not_in_destroyed`). -/
theorem chunk_origin_old (S : List (Option H)) (adds : List H) (L : List Nat)
    (hL : DestroySpec S adds.length L) (hN : S.length + adds.length ≤ 2 ^ 63)
    {h0 T l b : Nat} (hin' : Spec.inTree S.length h0 l b) (hal : chunkAlive S l b = true)
    (hin : Spec.inTree (S.length + adds.length) T l b) :
    Origin (S.length + adds.length) (destroyedPos S.length L) (nodePos S h0 l b) T ∧
      nodePos (S ++ adds.map some) T l b =
        moveA (S.length + adds.length) T (destroyedPos S.length L) (nodePos S h0 l b) := by
  refine ⟨?_, nodePos_add S adds L hL (by omega) hin' hal hin⟩
  have hh0T : h0 ≤ T := tree_le (Nat.le_add_right _ _) hin' hin
  obtain ⟨hb0, hl0, hr0⟩ := hin'
  have hrT := hin.2.2
  have hroot : 2 * (S.length / 2 ^ (h0 + 1)) / 2 ^ (T - h0) =
      2 * ((S.length + adds.length) / 2 ^ (T + 1)) := by
    rw [← hr0, ← hrT]
    exact (div_pow_split b hl0 hh0T).symm
  have hu0 : Under h0 (2 * (S.length >>> (h0 + 1))) (nodePos S h0 l b) := by
    rw [Nat.shiftRight_eq_div_pow]
    unfold nodePos
    exact fpos_under _ (h0, _) _ l b (by simp only; omega)
  have halive : chunkAlive S h0 (2 * (S.length / 2 ^ (h0 + 1))) = true := by
    have := chunkAlive_anc S hal (h0 - l)
    rwa [hr0, show l + (h0 - l) = h0 by omega] at this
  refine ⟨SpecView.treeRows_mem_of_bit (by omega) hin.1, ?_, destroyed_dtOK S adds.length L hL (by omega) T, ?_⟩
  · have hroot' : Under T (2 * ((S.length + adds.length) >>> (T + 1))) (h0, 2 * (S.length >>> (h0 + 1))) := by
      rw [Nat.shiftRight_eq_div_pow, Nat.shiftRight_eq_div_pow]
      exact ⟨hh0T, hroot⟩
    exact hroot'.trans_under hu0
  · intro A hA _
    obtain ⟨hjL, hA2⟩ := mem_destroyedPos.mp hA
    obtain ⟨hb, hdead, _⟩ := (hL.mem A.1).mp hjL
    constructor
    · intro e
      have hinF := (SpecSubs.under_inF hb0 hu0).2
      rw [e, Nat.shiftRight_eq_div_pow] at hinF
      simp only [parent_fst, parent_snd, hA2] at hinF
      omega
    · rw [Nat.shiftRight_eq_div_pow] at hu0
      exact old_not_in_destroyed hL hb0 halive hu0 hA

end chunkold

section old
variable {H : Type} [DecidableEq H] [Hasher H]
variable {F : Forest H} {adds : List H} {L : List Nat}
  (hN : F.numLeaves + adds.length ≤ 2 ^ 63)
  (hL : DestroySpec F.slots adds.length L)
include hN hL

theorem old_origin {h0 : Nat} {p : Pos} {t : CTree H} (s : SubAtT F h0 p t) :
    ∃ T, Origin (F.numLeaves + adds.length) (destroyedPos F.numLeaves L) p T ∧
      moveA (F.numLeaves + adds.length) T (destroyedPos F.numLeaves L) p =
        addMove F.numLeaves adds.length L p ∧
      SubAtT (F.addMany adds) T (addMove F.numLeaves adds.length L p) t := by
  have hlen : F.slots.length = F.numLeaves := rfl
  obtain ⟨T, hT, hu, hrow, g⟩ := add_sub_tree hN hL s
  refine ⟨T, ?_, by unfold addMove; rw [hrow], g⟩
  have s' : SubAtT (Forest.mk F.slots) h0 p t := by rw [forest_mk_slots]; exact s
  obtain ⟨l, b, hin', hch, hp, _⟩ := chunk_of_subAtT' F.slots s'
  have hal : chunkAlive F.slots l b = true := by unfold chunkAlive; rw [hch]; rfl
  obtain ⟨T', hin⟩ := exists_tree_of_chunk (N := F.numLeaves + adds.length) (l := l) (b := b)
    (Nat.le_trans (inTree_le hin') (Nat.le_add_right _ _))
  obtain ⟨o, _⟩ := chunk_origin_old F.slots adds L hL (by omega) hin' hal (by rw [hlen]; exact hin)
  rw [hlen, ← hp] at o
  rwa [tree_unique hT o.tree hu o.under]

end old

section lowest
variable {H : Type}

def LowChunk (S : List (Option H)) (l b : Nat) : Prop :=
  l = 0 ∨ (chunkAlive S (l - 1) (2 * b) = true ∧ chunkAlive S (l - 1) (2 * b + 1) = true)

end lowest

section newchunks
variable {H : Type} [DecidableEq H] [Hasher H]

theorem new_chunk_moveA (S' : List (Option H)) (adds : List H) (L : List Nat)
    (hL : DestroySpec S' adds.length L) (hN : S'.length + adds.length < 2 ^ 64) {T l b : Nat}
    (hin : Spec.inTree (S'.length + adds.length) T l b) (hnew : S'.length < (b + 1) * 2 ^ l) :
    nodePos (S' ++ adds.map some) T l b =
      moveA (S'.length + adds.length) T (destroyedPos S'.length L) (l, b) := by
  have hlen : (S' ++ adds.map some).length = S'.length + adds.length := by simp
  have hlT : l ≤ T := hin.2.1
  have hedge : S'.length < (b / 2 + 1) * 2 ^ (l + 1) := by
    have h1 : (b + 1) * 2 ^ l ≤ (b / 2 + 1) * 2 * 2 ^ l := Nat.mul_le_mul_right _ (by omega)
    rw [Nat.pow_succ', ← Nat.mul_assoc]
    omega
  have hal : chunkAlive (S' ++ adds.map some) l b = true := by
    obtain ⟨m, hm1, hm2, hm3⟩ := exists_slot_from hnew
    obtain ⟨x, hx⟩ := slot_new S' adds hm1 (by have := inTree_le hin; omega)
    exact chunkAlive_of_slot _ l b m x hx hm2 hm3
  rw [edge_moveA S' adds L hL hN hin hedge hal]
  unfold nodePos
  rw [hlen, ← hin.2.2, liftFold_rows, Nat.zero_add, ← fpos_eq_liftFold,
    show l + (T - l) = T by omega]

/-- `ProofUndoAddMove.new_origin` (through `lowest_chunk`) and the tracker's
`SchedUndoAdd.slot_origin` (`l = 0`) are instances. -/
theorem chunk_origin_new (S : List (Option H)) (adds : List H) (L : List Nat)
    (hL : DestroySpec S adds.length L) (hN : S.length + adds.length ≤ 2 ^ 63) {T l b : Nat}
    (hin : Spec.inTree (S.length + adds.length) T l b) (hnew : S.length < (b + 1) * 2 ^ l)
    (hlow : LowChunk (S ++ adds.map some) l b) :
    Origin (S.length + adds.length) (destroyedPos S.length L) (l, b) T ∧
      nodePos (S ++ adds.map some) T l b =
        moveA (S.length + adds.length) T (destroyedPos S.length L) (l, b) := by
  refine ⟨⟨SpecView.treeRows_mem_of_bit (by omega) hin.1, AddMove.under_of_inTree hin,
    destroyed_dtOK S adds.length L hL (by omega) T, ?_⟩, new_chunk_moveA S adds L hL (by omega) hin hnew⟩
  intro A hA _
  obtain ⟨hjL, hA2⟩ := mem_destroyedPos.mp hA
  obtain ⟨hb, hdead, _⟩ := (hL.mem A.1).mp hjL
  have hrc := root_chunk_le hb
  constructor
  · intro e
    have e1 : l = A.1 + 1 := congrArg Prod.fst e
    have e2 : b = A.2 / 2 := congrArg Prod.snd e
    rcases hlow with h0 | ⟨h1, _⟩
    · omega
    · rw [e1, Nat.add_sub_cancel, e2, hA2, Nat.mul_div_cancel_left _ (by decide : 0 < 2),
        chunkAlive_append_left _ _ _ _ hrc, hdead] at h1
      cases h1
  · rintro ⟨h1, h2⟩
    simp only at h1 h2
    have := chunk_anc_le (b := b) (l := l) (m := A.1 - l) h2
    rw [show l + (A.1 - l) = A.1 by omega, hA2] at this
    omega

end newchunks

section neworigin
variable {H : Type} [DecidableEq H] [Hasher H]
variable {F : Forest H} {adds : List H} {L : List Nat}
  (hN : F.numLeaves + adds.length ≤ 2 ^ 63)
  (hL : DestroySpec F.slots adds.length L)
  (hndG : (F.addMany adds).liveLeaves.Nodup)
include hN hL hndG

theorem new_origin {T : Nat} {q : Pos} {t : CTree H} (s : SubAtT (F.addMany adds) T q t)
    {a : H} (ha : a ∈ adds) (hat : a ∈ t.leaves) :
    ∃ p, Origin (F.numLeaves + adds.length) (destroyedPos F.numLeaves L) p T ∧
      moveA (F.numLeaves + adds.length) T (destroyedPos F.numLeaves L) p = q ∧
      ¬ p.2 < F.numLeaves / 2 ^ p.1 := by
  have hlenF : F.slots.length = F.numLeaves := rfl
  have hlen : (F.slots ++ adds.map some).length = F.numLeaves + adds.length := by
    simp [Forest.numLeaves]
  have hGe : F.addMany adds = Forest.mk (F.slots ++ adds.map some) := rfl
  rw [hGe] at s
  obtain ⟨l0, b0, hin0, hch0, hq0, _⟩ := chunk_of_subAtT' _ s
  obtain ⟨l, b, hle, hdiv, hch, hlow, hpos⟩ := lowest_chunk _ l0 b0 t hch0
  have hq : q = nodePos (F.slots ++ adds.map some) T l b := by rw [hq0, hpos T hin0]
  rw [hlen] at hin0
  -- the lowest chunk lies in the same tree
  have hin : Spec.inTree (F.numLeaves + adds.length) T l b := by
    obtain ⟨h1, h2, h3⟩ := hin0
    refine ⟨h1, by omega, ?_⟩
    rw [← h3, ← hdiv, Nat.div_div_eq_div_mul, ← Nat.pow_add]
    congr 2; omega
  -- it contains an added slot
  have hnew : F.numLeaves < (b + 1) * 2 ^ l := by
    obtain ⟨j, hj1, hj2, hj3⟩ := chunk_leaf_slot _ hch hat
    obtain ⟨i, hi, hi3⟩ := added_slot (F := F) ha
    have hji := slot_index_unique _ hndG j (F.numLeaves + i) a hj3 hi3
    omega
  obtain ⟨o, hmv⟩ := chunk_origin_new F.slots adds L hL (by rw [hlenF]; exact hN)
    (by rw [hlenF]; exact hin) (by rw [hlenF]; exact hnew) hlow
  rw [hlenF] at o hmv
  refine ⟨(l, b), o, by rw [hq, hmv], ?_⟩
  simp only
  intro hlt
  have h1 : (b + 1) * 2 ^ l ≤ F.numLeaves / 2 ^ l * 2 ^ l := Nat.mul_le_mul_right _ hlt
  have h2 := Nat.div_mul_le_self F.numLeaves (2 ^ l)
  omega

end neworigin

end UtreexoVerif.Proofs.ProofUndoAddMove
