/-
  `undoDelMoveDown` over the detwinned targets: the model run is the chain of un-lifts
  `moveBackAll`, which takes a state tracking `F.delLeaves …` back to a state tracking `F` outside a
  hole (the nodes at or below the targets and the nodes at or above their parents).
-/
import UtreexoVerif.Proofs.MapUnlift
import UtreexoVerif.Proofs.MapRemoveAll
import UtreexoVerif.Proofs.MapPlaceEmpty
import UtreexoVerif.Proofs.MapUndoRep

namespace UtreexoVerif.Proofs.MapUndoChain
open Model Spec MapInv MapPrune MapRep MapLiftGeo PForest MapAInv
open MapUndoDefs MapUndoSteps PForestSpec PForestDel MapRemoveAll MapUndoRep MapGIH
set_option linter.unusedSectionVars false

variable {H : Type} [DecidableEq H] [Hasher H]

/-- one step of `undoDelMoveDown` on the abstract state -/
def stepBack (n : Nat) (d : Pos) (AC : (Pos → Option (Leaf H)) × (H → Option Pos)) :
    (Pos → Option (Leaf H)) × (H → Option Pos) :=
  if isRootPos n d = true then AC else (unliftAll (sib d) AC.1, unliftCAll (sib d) AC.2)

/-- `undoDelMoveDown` over the detwinned targets `ds` (Go order, ascending), which the loop processes from the END:
the last target first -/
def moveBackAll (n : Nat) : List Pos → (Pos → Option (Leaf H)) × (H → Option Pos) →
    (Pos → Option (Leaf H)) × (H → Option Pos)
  | [], AC => AC
  | d :: rest, AC => stepBack n d (moveBackAll n rest AC)

/-- separated targets: a hole position of `d'` does not lie in the region of `parent d` -/
theorem sep_out {d d' q : Pos} (hs : ¬ Anc (parent d) d' ∧ ¬ Anc d' (parent d))
    (hq : Anc d' q ∨ Anc q (parent d')) : ¬ Anc (parent d) q := by
  intro hu
  rcases hq with hq | hq
  · by_cases hle : d'.1 ≤ (parent d).1
    · exact hs.1 (Anc.comparable hq hu hle)
    · exact hs.2 (Anc.comparable hu hq (by omega))
  · exact hs.1 (Anc.trans (Anc.trans hu hq) (anc_parent_self d'))

theorem nodepos_back (F : Forest H) (hn : F.numLeaves < 2 ^ 64) (hy : Hyg F) {d : Pos} {h : H} {b : Bool}
    (hd : (d, h, b) ∈ F.nodes) {d' : Pos}
    (hs : ¬ Anc (parent d) d' ∧ ¬ Anc d' (parent d)) {q : Pos}
    (hq : Anc d' q ∨ Anc q (parent d'))
    (hm : ∃ h0 f, (q, h0, f) ∈ (F.delLeaves (leavesUnder F d)).nodes) : ∃ h0 f, (q, h0, f) ∈ F.nodes := by
  obtain ⟨h0, f, hm⟩ := hm
  by_cases hroot : isRootPos F.numLeaves d = true
  · have D := del_root F hn hy hroot (leavesUnder F d) (fun x => mem_leavesUnder)
    rcases (D _).1 hm with ⟨_, hN⟩ | e
    · exact ⟨h0, f, hN⟩
    · simp only [Prod.mk.injEq] at e
      rw [e.1]; exact ⟨h, b, hd⟩
  · have hnr : isRootPos F.numLeaves d = false := by
      cases hx : isRootPos F.numLeaves d with
      | false => rfl
      | true => exact absurd hx hroot
    obtain ⟨D1, _, _, _⟩ := del_nonroot F hn hy hd hnr (leavesUnder F d) (fun x => mem_leavesUnder)
    rcases D1 _ hm with ⟨_, _, hN⟩ | ⟨c, hc, he, _⟩ | ⟨_, _, _, h1, hN⟩
    · exact ⟨h0, f, hN⟩
    · exfalso
      simp only at he
      exact sep_out hs hq (by rw [he, ← CalcGeo.parent_sib]; exact anc_parent_liftP hc)
    · exact ⟨h1, false, hN⟩

theorem undoDelMoveDown_append : ∀ (l1 l2 : List U64) (m m1 : MapPollard H),
    MapPollard.undoDelMoveDown l1 m = (m1, .ok ()) →
    MapPollard.undoDelMoveDown (l1 ++ l2) m = MapPollard.undoDelMoveDown l2 m1
  | [], l2, m, m1, h => by
    have : m = m1 := by
      unfold MapPollard.undoDelMoveDown at h
      exact (Prod.mk.inj h).1
    rw [List.nil_append, this]
  | t :: ts, l2, m, m1, h => by
    rw [List.cons_append, undoDelMoveDown_cons]
    rw [undoDelMoveDown_cons] at h
    generalize (if inForest (sibling t) m.numLeaves m.totalRows then MapPollard.placeEmptyRoot t m else (m, .ok ())) = r at h ⊢
    obtain ⟨m', res⟩ := r
    cases res with
    | error e => simp only at h; cases (Prod.mk.inj h).2
    | ok u =>
      simp only at h ⊢
      exact undoDelMoveDown_append ts l2 _ m1 h

theorem unliftA_parent (A : Pos → Option (Leaf H)) (d : Pos) : unliftA (sib d) A (parent d) = A (parent d) := by
  have hrow : (parent d).1 = d.1 + 1 := rfl
  unfold unliftA
  rw [if_neg (fun h : SUnder (sib d) (parent d) => by have := h.2; rw [CalcGeo.sib_fst] at this; omega), CalcGeo.parent_sib,
    if_neg (fun h : SUnder (parent d) (parent d) => Nat.lt_irrefl _ h.2)]

/-- of the state only this is used: what is cached at `parent d` is the hash stored there, and that
hash is cached nowhere else -/
theorem moveDown_eq {A : Pos → Option (Leaf H)} {C : H → Option Pos} {d : Pos}
    (hsto : ∀ x, C x = some (parent d) → ∃ v, A (parent d) = some v ∧ v.hash = x)
    (hpos : ∀ v t, A (parent d) = some v → C v.hash = some t → t = parent d) :
    (∀ q, (moveDownA d (unliftA (sib d) A) (unliftC (sib d) C)).1 q = unliftAll (sib d) A q) ∧
    (∀ x, (moveDownA d (unliftA (sib d) A) (unliftC (sib d) C)).2 x = unliftCAll (sib d) C x) := by
  have hPσ : parent (sib d) = parent d := CalcGeo.parent_sib d
  have hrow : (parent d).1 = d.1 + 1 := rfl
  have hnu : ¬ SUnder (sib d) (parent d) := by
    intro h; have := h.2; rw [CalcGeo.sib_fst] at this; omega
  have hne : sib d ≠ parent d := by
    intro e; have := congrArg Prod.fst e; rw [CalcGeo.sib_fst] at this; omega
  have hσP : SUnder (parent d) (sib d) := ⟨anc_parent_sib d, by rw [CalcGeo.sib_fst]; omega⟩
  have hAP := unliftA_parent A d
  have hAσ : unliftA (sib d) A (sib d) = none := by
    unfold unliftA
    rw [if_neg (fun h : SUnder (sib d) (sib d) => Nat.lt_irrefl _ h.2), hPσ, if_pos hσP]
  have hst : ∀ q, q ≠ sib d → q ≠ parent d → unliftA (sib d) A q = unliftAll (sib d) A q :=
    fun q h1 h2 => unliftA_eq_all A h1 (by rw [hPσ]; exact h2)
  have hstP : unliftAll (sib d) A (parent d) = none := by
    unfold unliftAll
    rw [if_neg hne.symm, if_neg hnu, hPσ, if_pos (Anc.refl _)]
  have hca : ∀ x, C x ≠ some (parent d) → unliftC (sib d) C x = unliftCAll (sib d) C x :=
    fun x hx => unliftC_eq_all (by rw [hPσ]; exact hx)
  unfold moveDownA
  rw [hAP]
  cases hA : A (parent d) with
  | none =>
    refine ⟨fun q => ?_, fun x => hca x (fun hx => ?_)⟩
    · show unliftA (sib d) A q = _
      by_cases h1 : q = sib d
      · rw [h1, hAσ, unliftAll_sib, hA]
      · by_cases h2 : q = parent d
        · rw [h2, hAP, hA, hstP]
        · exact hst q h1 h2
    · obtain ⟨v, hv, _⟩ := hsto x hx
      rw [hA] at hv; cases hv
  | some v =>
    refine ⟨fun q => ?_, fun x => ?_⟩
    · show upd (upd (unliftA (sib d) A) (parent d) none) (sib d) (some v) q = _
      by_cases h1 : q = sib d
      · rw [h1, upd_self, unliftAll_sib, hA]
      · rw [upd_ne _ _ h1]
        by_cases h2 : q = parent d
        · rw [h2, upd_self, hstP]
        · rw [upd_ne _ _ h2]; exact hst q h1 h2
    · have hdom : (unliftC (sib d) C v.hash).isSome = (C v.hash).isSome := by
        unfold unliftC; cases C v.hash <;> rfl
      show (if (unliftC (sib d) C v.hash).isSome = true then upd (unliftC (sib d) C) v.hash (some (sib d))
        else unliftC (sib d) C) x = _
      rw [hdom]
      by_cases hx : C x = some (parent d)
      · obtain ⟨v', hv', e⟩ := hsto x hx
        rw [hA] at hv'
        cases hv'
        subst e
        rw [if_pos (by rw [hx]; rfl), upd_self]
        unfold unliftCAll
        rw [hx, hPσ]
        simp
      · rw [← hca x hx]
        split
        · rename_i hs
          obtain ⟨t, ht⟩ := Option.isSome_iff_exists.1 hs
          have hxv : x ≠ v.hash := by
            rintro rfl
            exact hx (by rw [ht, hpos v t hA ht])
          rw [upd_ne _ _ hxv]
        · rfl

/-- `placeEmptyRoot d`, then the node at `parent d` goes back to `sib d` -/
theorem undoDelMoveDown_nonroot {N N'' : List (Pos × H × Bool)} {R : Pos → Prop} {d : Pos} (D : Del N N'' R d)
    {A : Pos → Option (Leaf H)} {C : H → Option Pos} {fl : Bool} {Hole : Pos → Prop}
    (w : WInv A C N'' fl Hole) (hHP : ∀ q, Hole q → ¬ Anc (parent d) q)
    {m : MapPollard H} {T n : Nat} (rep : Rep m T A C) (hfull : m.full = fl)
    (hn : m.numLeaves = BitVec.ofNat 64 n) (hn63 : n < 2 ^ 63) (hfit : forestRows n ≤ T)
    (hdv : Valid (forestRows n) d) (hdlt : d.1 < forestRows n)
    (hin : (d.2 + 1) * 2 ^ d.1 ≤ n ∧ ((sib d).2 + 1) * 2 ^ d.1 ≤ n) :
    ∃ m2, MapPollard.undoDelMoveDown [encP T d] m = (m2, .ok ()) ∧
      Rep m2 T (unliftAll (sib d) A) (unliftCAll (sib d) C) ∧ m2.numLeaves = m.numLeaves ∧ m2.full = fl := by
  have hPσ : parent (sib d) = parent d := CalcGeo.parent_sib d
  obtain ⟨hP, bP, hPN⟩ := D.P_node''
  have hdT : Valid T d := hdv.mono hfit
  have hltT : d.1 < T := by omega
  have hout : ∀ q, Anc (parent d) q → ¬ Hole q := fun q ha hh => hHP q hh ha
  obtain ⟨m1, hpl, rep1, hnl1, hfull1⟩ := w.place D.L'' hPσ hPN (fun q hq => hout q hq.1)
    (by
      intro q h b hm hq
      obtain ⟨c, _, he, _⟩ := D.mem_under hm hq.1
      rw [he, liftP_fst]; omega)
    rep hfull (valid_sib hdT hltT) (by rw [CalcGeo.sib_fst]; exact hltT)
  rw [CalcGeo.sib_sib] at hpl
  have hflP : ∀ v, unliftA (sib d) A (parent d) = some v →
      ((unliftC (sib d) C v.hash).isSome = true ∨ fl = true) → v.remember = true := by
    intro v hv hc
    rw [unliftA_parent] at hv
    refine w.flag _ v hv (hout _ (Anc.refl _)) (hc.imp_left fun hs => ?_)
    unfold unliftC at hs
    cases hC : C v.hash with
    | none => rw [hC] at hs; cases hs
    | some _ => rfl
  obtain ⟨m2, hstep, rep2, hnl2, hfull2⟩ := undoDelMoveDown_step (m := m) rep.rows rep.T_le hn hn63 hfit
    hdv hdlt hin hpl rep1 (hfull1.trans hfull) hflP []
  obtain ⟨e1, e2⟩ := moveDown_eq (A := A) (C := C) (d := d) (fun x hx => w.sto D.L'' hx)
    (fun v t hv ht => w.pos D.L'' hv (hout _ (Anc.refl _)) ht)
  exact ⟨m2, hstep, rep2.congr (fun q => (e1 q).symm) (fun x => (e2 x).symm), by rw [hnl2, hnl1],
    hfull2.trans (hfull1.trans hfull)⟩

/-- By induction on `ds`: the tail is undone in the forest `F` minus the leaves below the head `d`,
where the separated later targets have the same leaves below them. -/
theorem unremove_walk (nz : NZ H) {fl : Bool} {K Kp : H → Prop} :
    ∀ (ds : List Pos) (F : Forest H), F.numLeaves < 2 ^ 63 → Hyg F →
    (∀ d ∈ ds, ∃ h b, (d, h, b) ∈ F.nodes) →
    ds.Pairwise (fun a b => ¬ Anc (parent a) b ∧ ¬ Anc b (parent a)) →
    (∀ d ∈ ds, ∀ t x, (t, x, true) ∈ F.nodes → Anc d t → ¬ K x) →
    (∀ d ∈ ds, isRootPos F.numLeaves d = false → ∃ t x, (t, x, true) ∈ F.nodes ∧ Anc d t ∧ Kp x) →
    ∀ (m : MapPollard H) (T : Nat) (A : Pos → Option (Leaf H)) (C : H → Option Pos),
    Rep m T A C → m.numLeaves = BitVec.ofNat 64 F.numLeaves → F.rows ≤ T → m.full = fl →
    GIH fl A C (F.delLeaves (ds.flatMap (leavesUnder F))).nodes (FRoot F) K Kp (fun _ => False) →
    ∃ m2, MapPollard.undoDelMoveDown (ds.map (encP T)).reverse m = (m2, .ok ()) ∧
      Rep m2 T (moveBackAll F.numLeaves ds (A, C)).1 (moveBackAll F.numLeaves ds (A, C)).2 ∧
      m2.numLeaves = m.numLeaves ∧ m2.full = fl ∧
      GIH fl (moveBackAll F.numLeaves ds (A, C)).1 (moveBackAll F.numLeaves ds (A, C)).2 F.nodes (FRoot F) K Kp
        (fun q => ∃ d ∈ ds, holeOf F.nodes d q) := by
  intro ds
  induction ds with
  | nil =>
    intro F hn63 hy hnode hsep hKd hKpd m T A C rep hnl hfit hfull inv
    rw [List.flatMap_nil, delLeaves_nil] at inv
    exact ⟨m, rfl, rep, rfl, hfull, inv.mono_hole (fun q h => h.elim) (fun _ t _ ⟨d, hd, _⟩ => by cases hd)⟩
  | cons d ds ih =>
    intro F hn63 hy hnode hsep hKd hKpd m T A C rep hnl hfit hfull inv
    have hn : F.numLeaves < 2 ^ 64 := by omega
    obtain ⟨h, b, hd⟩ := hnode d List.mem_cons_self
    rw [List.pairwise_cons] at hsep
    have L := laws_forest nz F hn hy
    have hy1 := hyg_delLeaves hy (leavesUnder F d)
    have hnl1 : (F.delLeaves (leavesUnder F d)).numLeaves = F.numLeaves := numLeaves_delLeaves F _
    have hn1 : (F.delLeaves (leavesUnder F d)).numLeaves < 2 ^ 64 := by rw [hnl1]; exact hn
    have L1 : Laws (F.delLeaves (leavesUnder F d)).nodes (FRoot F) := by
      have := laws_forest nz (F.delLeaves (leavesUnder F d)) hn1 hy1
      rwa [froot_del] at this
    obtain ⟨hnode1, hleaf1, hFall, _⟩ := targets_after nz F hn hy hd
      (fun d' hd' => hnode d' (List.mem_cons_of_mem _ hd')) hsep.1 rfl
    rw [← hFall] at inv
    obtain ⟨m1, hmd1, rep1, hnl1', hfull1, ih⟩ := ih (F.delLeaves (leavesUnder F d))
      (by rw [hnl1]; exact hn63) hy1
      hnode1
      hsep.2
      (fun d' hd' t x ht ha => hKd d' (List.mem_cons_of_mem _ hd') t x ((hleaf1 d' hd' t x ha).1 ht) ha)
      (fun d' hd' hr' => by
        rw [hnl1] at hr'
        obtain ⟨t, x, ht, ha, hk⟩ := hKpd d' (List.mem_cons_of_mem _ hd') hr'
        exact ⟨t, x, (hleaf1 d' hd' t x ha).2 ht, ha, hk⟩)
      m T A C rep (by rw [hnl1]; exact hnl)
      (by show forestRows (F.delLeaves (leavesUnder F d)).numLeaves ≤ T; rw [hnl1]; exact hfit) hfull
      (by rw [froot_del]; exact inv)
    rw [hnl1] at rep1 ih
    rw [froot_del] at ih
    show ∃ m2, _ ∧ Rep m2 T (stepBack F.numLeaves d (moveBackAll F.numLeaves ds (A, C))).1
      (stepBack F.numLeaves d (moveBackAll F.numLeaves ds (A, C))).2 ∧ _ ∧ _ ∧
      GIH fl (stepBack F.numLeaves d (moveBackAll F.numLeaves ds (A, C))).1
        (stepBack F.numLeaves d (moveBackAll F.numLeaves ds (A, C))).2 _ _ _ _ _
    generalize moveBackAll F.numLeaves ds (A, C) = AC at rep1 ih
    obtain ⟨A1, C1⟩ := AC
    simp only at rep1 ih
    rw [List.map_cons, List.reverse_cons, undoDelMoveDown_append _ _ _ _ hmd1]
    have hnm1 : m1.numLeaves = BitVec.ofNat 64 F.numLeaves := hnl1'.trans hnl
    have hole_rest_out : ∀ q, (∃ d' ∈ ds, holeOf (F.delLeaves (leavesUnder F d)).nodes d' q) →
        ¬ Anc (parent d) q := by
      rintro q ⟨d', hd', hq, _⟩
      exact sep_out (hsep.1 d' hd') hq
    have hkout : ∀ t, KLeaf F.nodes K t → ¬ ∃ d' ∈ d :: ds, holeOf F.nodes d' t := by
      rintro t ⟨x, hk, hm⟩ ⟨d', hd', hq, _⟩
      obtain ⟨h', b', hd'm⟩ := hnode d' hd'
      rcases hq with hq | hq
      · exact hKd d' hd' t x hm hq hk
      · have := L.leaf_below t x d' h' b' hm hd'm (Anc.trans hq (anc_parent_self d'))
        rw [this] at hd'
        exact hKd t hd' t x hm (Anc.refl t) hk
    have conv : ∀ q, (∃ d' ∈ ds, holeOf (F.delLeaves (leavesUnder F d)).nodes d' q) →
        ∃ d' ∈ d :: ds, holeOf F.nodes d' q := by
      rintro q ⟨d', hd', hq, hm⟩
      exact ⟨d', List.mem_cons_of_mem _ hd', hq, nodepos_back F hn hy hd (hsep.1 d' hd') hq hm⟩
    unfold stepBack
    by_cases hroot : isRootPos F.numLeaves d = true
    · rw [if_pos hroot]
      have w1 := ih.weak L1
      have habove : d.1 < T → A1 (parent d) = none := by
        intro _
        cases hA : A1 (parent d) with
        | none => rfl
        | some l =>
          exfalso
          obtain ⟨bl, hl⟩ := w1.true_hash _ l hA (fun hh => hole_rest_out _ hh (Anc.refl _))
          obtain ⟨r, hr, ha⟩ := L1.under_root _ _ bl hl
          have := L1.root_disj r d d hr hroot (Anc.trans ha (anc_parent_self d)) (Anc.refl d)
          subst this
          have h1 := ha.1
          have : (parent r).1 = r.1 + 1 := rfl
          omega
      rw [undoDelMoveDown_root rep1 hnm1 hn63 hfit hroot habove []]
      refine ⟨m1, rfl, rep1, hnl1', hfull1, ?_⟩
      have r := ih.unroot L (d := d) hroot (hKd d List.mem_cons_self)
        (del_root F hn hy hroot (leavesUnder F d) (fun x => mem_leavesUnder))
      refine r.mono_hole ?_ (fun x t hC => hkout t ⟨x, r.cache_sub x t hC, (r.cached_pos x t hC).1⟩)
      rintro q (hq | ⟨ha, hm⟩)
      · exact conv q hq
      · exact ⟨d, List.mem_cons_self, Or.inl ha, hm⟩
    · rw [if_neg hroot]
      have hnr : isRootPos F.numLeaves d = false := Bool.eq_false_iff.2 hroot
      have hnrR : ¬ FRoot F d := by unfold FRoot; rw [hnr]; simp
      obtain ⟨D1, D2, D3, D4⟩ := del_nonroot F hn hy hd hnr (leavesUnder F d) (fun x => mem_leavesUnder)
      have D : Del F.nodes (F.delLeaves (leavesUnder F d)).nodes (FRoot F) d :=
        ⟨L, L1, ⟨h, b, hd⟩, hnrR, D1, D2, D3, D4⟩
      obtain ⟨ρ, hρ, hρd⟩ := L.under_root d h b hd
      obtain ⟨hσ0, bσ0, hσN⟩ := D.sib_node
      obtain ⟨hρh, bρ, hρN⟩ := L.root_node ρ hρ
      have hdv : Valid F.rows d := node_valid (Nat.le_refl _) hd
      have hρv : Valid F.rows ρ := node_valid (Nat.le_refl _) hρN
      have hdlt : d.1 < F.rows := by
        have h1 := hρd.1
        have h2 := hρv.1
        have hr : d.1 ≠ ρ.1 := fun e => hnrR ((hρd.eq_of_row e.symm) ▸ hρ)
        omega
      have hin : (d.2 + 1) * 2 ^ d.1 ≤ F.numLeaves ∧ ((sib d).2 + 1) * 2 ^ d.1 ≤ F.numLeaves := by
        have h1 := MapAdd.node_lt hd
        have h2 := MapAdd.node_lt hσN
        simp only [CalcGeo.sib_fst] at h1 h2
        exact ⟨h1, h2⟩
      obtain ⟨m2, hstep, rep2, hnl2, hfull2⟩ := undoDelMoveDown_nonroot D (ih.weak L1) hole_rest_out rep1 hfull1
        hnm1 hn63 hfit hdv hdlt hin
      refine ⟨m2, hstep, rep2, hnl2.trans hnl1', hfull2, ?_⟩
      obtain ⟨t0, x0, hm0, ha0, hk0⟩ := hKpd d List.mem_cons_self hnr
      have r := ih.unlift D (hKd d List.mem_cons_self) hole_rest_out
        (fun _ _ => ⟨t0, ⟨x0, hk0, hm0⟩, ha0.1, Anc.trans (anc_parent_self d) ha0⟩)
      refine r.mono_hole ?_ (fun x t hC => hkout t ⟨x, r.cache_sub x t hC, (r.cached_pos x t hC).1⟩)
      rintro q (hq | ⟨ha, hm⟩)
      · exact conv q hq
      · exact ⟨d, List.mem_cons_self, ha, hm⟩

end UtreexoVerif.Proofs.MapUndoChain
