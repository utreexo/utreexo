/-
  Specification of the addition part of `UpdateData` (property C11): the set of
  (final position, hash) pairs of every added leaf and every node that became a child of a
  parent created by the additions, in terms of aligned chunks of the final slot list.
-/
import UtreexoVerif.Proofs.Chunks
import UtreexoVerif.Proofs.FinalPos
import UtreexoVerif.Proofs.Bits
import UtreexoVerif.Proofs.ProofPos
set_option linter.unusedSectionVars false

namespace UtreexoVerif.Spec
open UtreexoVerif.Proofs.FinalPos

variable {H : Type} [DecidableEq H] [Hasher H]

/-- chunk `(l, b)` lies in the tree on row `T` of a forest with `N` leaves -/
def inTree (N T l b : Nat) : Prop :=
  N.testBit T = true ∧ l ≤ T ∧ b / 2 ^ (T - l) = 2 * (N / 2 ^ (T + 1))

/-- final position of the collapsed root of chunk `(l, b)` of the tree on row `T` -/
def nodePos (S : List (Option H)) (T l b : Nat) : Pos :=
  fpos (chunkAlive S) (T, 2 * (S.length / 2 ^ (T + 1))) (T - l) l b

def IsNode (S : List (Option H)) (e : Pos × H) : Prop :=
  ∃ T l b, inTree S.length T l b ∧ chunkAlive S l b = true ∧
    e = (nodePos S T l b, chunkHash S l b)

/-- **Specification of `NewAdd`**: the nodes of the final forest `S` that are added leaves
(slot index `≥ n`) or children of a parent created by the additions (a chunk with two live
halves that contains a slot `≥ n`), with their final positions. -/
def NewAddSpec (n : Nat) (S : List (Option H)) (e : Pos × H) : Prop :=
  ∃ T l b, inTree S.length T l b ∧ chunkAlive S l b = true ∧
    e = (nodePos S T l b, chunkHash S l b) ∧
    ((l = 0 ∧ n ≤ b) ∨
     (l < T ∧ chunkAlive S l (sibIdx b) = true ∧ n < (b / 2 + 1) * 2 ^ (l + 1)))

theorem NewAddSpec.isNode {n : Nat} {S : List (Option H)} {e : Pos × H} (h : NewAddSpec n S e) :
    IsNode S e := by
  obtain ⟨T, l, b, h1, h2, h3, _⟩ := h
  exact ⟨T, l, b, h1, h2, h3⟩

theorem NewAddSpec.mono {n n' : Nat} {S : List (Option H)} {e : Pos × H} (hn : n ≤ n')
    (h : NewAddSpec n' S e) : NewAddSpec n S e := by
  obtain ⟨T, l, b, h1, h2, h3, h4⟩ := h
  refine ⟨T, l, b, h1, h2, h3, ?_⟩
  rcases h4 with ⟨h5, h6⟩ | ⟨h5, h6, h7⟩
  · exact Or.inl ⟨h5, by omega⟩
  · exact Or.inr ⟨h5, h6, by omega⟩

theorem inTree_iff_belowRoot {N T l b : Nat} : inTree N T l b ↔ Proofs.BelowRoot N l b T := by
  unfold inTree Proofs.BelowRoot rootPos
  simp only [Nat.shiftRight_eq_div_pow]
  exact ⟨fun ⟨a, b, c⟩ => ⟨b, a, c⟩, fun ⟨a, b, c⟩ => ⟨b, a, c⟩⟩

/-- the tree of a forest with `N` leaves that contains slot `m < N`: the highest binary digit
in which `N` and `m` differ -/
theorem exists_tree_of_lt (N m : Nat) (hm : m < N) :
    ∃ T, N.testBit T = true ∧ m.testBit T = false ∧ N / 2 ^ (T + 1) = m / 2 ^ (T + 1) := by
  obtain ⟨T, _, hb, he⟩ := Proofs.below_root_iff.1 (show (m + 1) * 2 ^ 0 ≤ N by omega)
  rw [Nat.sub_zero, Nat.shiftRight_eq_div_pow] at he
  refine ⟨T, hb, ?_, ?_⟩
  · rw [Nat.testBit_eq_decide_div_mod_eq, he]
    simp
  · rw [Proofs.half_pow m T, he, Nat.mul_div_cancel_left _ (by decide : 0 < 2)]

theorem inTree_of_slot {N m T : Nat} (h1 : N.testBit T = true) (h2 : m.testBit T = false)
    (h3 : N / 2 ^ (T + 1) = m / 2 ^ (T + 1)) {l : Nat} (hl : l ≤ T) : inTree N T l (m / 2 ^ l) := by
  refine ⟨h1, hl, ?_⟩
  rw [Proofs.div_div_pow hl, h3]
  have e := Proofs.half_pow m T
  have hb := Proofs.div_even_of_testBit_false h2
  omega

theorem inTree_slot {N m T : Nat} (h1 : N.testBit T = true) (h2 : m.testBit T = false)
    (h3 : N / 2 ^ (T + 1) = m / 2 ^ (T + 1)) : inTree N T 0 m := by
  simpa using inTree_of_slot h1 h2 h3 (l := 0) (Nat.zero_le _)

theorem inTree_unique {N m T T' : Nat} (h : inTree N T 0 m) (h' : inTree N T' 0 m) : T = T' :=
  Proofs.belowRoot_unique (inTree_iff_belowRoot.1 h) (inTree_iff_belowRoot.1 h')

theorem inTree_parent {N T l b : Nat} (h : inTree N T l b) (hl : l < T) : inTree N T (l + 1) (b / 2) :=
  inTree_iff_belowRoot.2 (Proofs.belowRoot_parent (inTree_iff_belowRoot.1 h) (Nat.ne_of_lt hl))

theorem inTree_sib {N T l b : Nat} (h : inTree N T l b) (hl : l < T) : inTree N T l (sibIdx b) := by
  obtain ⟨h1, h2, h3⟩ := h
  refine ⟨h1, h2, ?_⟩
  have e : 2 ^ (T - l) = 2 * 2 ^ (T - (l + 1)) := by
    rw [show T - l = (T - (l + 1)) + 1 by omega, Nat.pow_succ]; omega
  rw [← h3, e, ← Nat.div_div_eq_div_mul, ← Nat.div_div_eq_div_mul, sibIdx_div_two]

theorem inTree_le {N T l b : Nat} (h : inTree N T l b) : (b + 1) * 2 ^ l ≤ N :=
  Proofs.below_root_iff.2 ⟨T, h.2.1, h.1, by rw [Nat.shiftRight_eq_div_pow]; exact h.2.2⟩

theorem nodePos_parent (S : List (Option H)) {T l b : Nat} (hl : l < T)
    (h : chunkAlive S l (sibIdx b) = true) :
    ((nodePos S T l b).1 + 1, (nodePos S T l b).2 / 2) = nodePos S T (l + 1) (b / 2) := by
  unfold nodePos
  rw [show T - l = (T - (l + 1)) + 1 by omega]
  exact fpos_parent (by simp only; omega) h

theorem nodePos_dead (S : List (Option H)) {T l b : Nat} (hl : l < T)
    (h : chunkAlive S l (sibIdx b) = false) :
    nodePos S T l b = nodePos S T (l + 1) (b / 2) := by
  unfold nodePos
  rw [show T - l = (T - (l + 1)) + 1 by omega]
  exact fpos_succ_dead h

theorem nodePos_succ_alive (S : List (Option H)) {T l b : Nat} (hl : l < T)
    (h : chunkAlive S l (sibIdx b) = true) :
    nodePos S T l b =
      ((nodePos S T (l + 1) (b / 2)).1 - 1, 2 * (nodePos S T (l + 1) (b / 2)).2 + b % 2) := by
  unfold nodePos
  rw [show T - l = (T - (l + 1)) + 1 by omega]
  exact fpos_succ_alive h

theorem nodePos_left (S : List (Option H)) {T l b : Nat} (hl : l < T) (hb : b % 2 = 1)
    (h : chunkAlive S l (sibIdx b) = true) (h' : chunkAlive S l b = true) :
    nodePos S T l (sibIdx b) = ((nodePos S T l b).1, 2 * ((nodePos S T l b).2 / 2)) := by
  unfold nodePos
  rw [show T - l = (T - (l + 1)) + 1 by omega]
  exact fpos_left_sib hb h h'

theorem nodePos_belowRoot (S : List (Option H)) {T l : Nat} (b : Nat)
    (hT : S.length.testBit T = true) (hl : l ≤ T) :
    Proofs.BelowRoot S.length (nodePos S T l b).1 (nodePos S T l b).2 T ∧ l ≤ (nodePos S T l b).1 := by
  obtain ⟨u, h1⟩ := fpos_under (chunkAlive S) (T, 2 * (S.length / 2 ^ (T + 1))) (T - l) l b
    (by simp only; omega)
  exact ⟨⟨u.1, hT, by rw [rootPos, Nat.shiftRight_eq_div_pow]; exact u.2⟩, h1⟩

theorem nodePos_valid (S : List (Option H)) {R T l : Nat} (b : Nat) (hN : S.length ≤ 2 ^ R)
    (hT : S.length.testBit T = true) (hl : l ≤ T) :
    l ≤ (nodePos S T l b).1 ∧ (nodePos S T l b).1 ≤ T ∧ T ≤ R ∧
      (nodePos S T l b).2 < 2 ^ (R - (nodePos S T l b).1) := by
  obtain ⟨hb, h1⟩ := nodePos_belowRoot S b hT hl
  obtain ⟨h2, _, h3⟩ := Proofs.belowRoot_valid hN hb
  exact ⟨h1, hb.1, h2, h3⟩

theorem nodePos_row_lt (S : List (Option H)) {T l b : Nat} (hl : l < T)
    (h : chunkAlive S l (sibIdx b) = true) : (nodePos S T l b).1 < T := by
  unfold nodePos
  rw [show T - l = (T - (l + 1)) + 1 by omega, fpos_succ_alive h]
  have := fpos_row (chunkAlive S) (T, 2 * (S.length / 2 ^ (T + 1))) (T - (l + 1)) (l + 1) (b / 2)
    (by simp only; omega)
  simp only
  omega

/-- the entries contributed on the levels `j ≤ l < t` by the addition into slot `n` (tree `T`):
for every level whose left sibling chunk is alive, the two children of the parent created there -/
def LevelSpec (S : List (Option H)) (n T j t : Nat) (e : Pos × H) : Prop :=
  ∃ l, j ≤ l ∧ l < t ∧ chunkAlive S l (sibIdx (n / 2 ^ l)) = true ∧
    (e = (nodePos S T l (n / 2 ^ l), chunkHash S l (n / 2 ^ l)) ∨
     e = (nodePos S T l (sibIdx (n / 2 ^ l)), chunkHash S l (sibIdx (n / 2 ^ l))))

def StepSpec (S : List (Option H)) (n T t : Nat) (e : Pos × H) : Prop :=
  e = (nodePos S T 0 n, chunkHash S 0 n) ∨ LevelSpec S n T 0 t e

theorem levelSpec_succ (S : List (Option H)) (n T j t : Nat) (e : Pos × H) :
    LevelSpec S n T j t e ↔
      (j < t ∧ chunkAlive S j (sibIdx (n / 2 ^ j)) = true ∧
        (e = (nodePos S T j (n / 2 ^ j), chunkHash S j (n / 2 ^ j)) ∨
         e = (nodePos S T j (sibIdx (n / 2 ^ j)), chunkHash S j (sibIdx (n / 2 ^ j))))) ∨
      LevelSpec S n T (j + 1) t e := by
  constructor
  · rintro ⟨l, h1, h2, h3, h4⟩
    by_cases hlj : l = j
    · subst hlj; exact Or.inl ⟨h2, h3, h4⟩
    · exact Or.inr ⟨l, by omega, h2, h3, h4⟩
  · rintro (⟨h2, h3, h4⟩ | ⟨l, h1, h2, h3, h4⟩)
    · exact ⟨j, Nat.le_refl j, h2, h3, h4⟩
    · exact ⟨l, by omega, h2, h3, h4⟩

/-- the chunks that slot `n` completes are those of the rows below its trailing ones -/
theorem Trail.completes {n t q l : Nat} (tr : Trail n t) (e : (q + 1) * 2 ^ (l + 1) = n + 1) :
    l < t ∧ n / 2 ^ (l + 1) = q := by
  have hlt : l < t := by
    apply Classical.byContradiction
    intro hc
    have := tr.succ_at
    rw [← e, Nat.mul_comm, Nat.testBit_two_pow_mul] at this
    simp at this
    omega
  exact ⟨hlt, Nat.succ.inj (Nat.eq_of_mul_eq_mul_right (Nat.two_pow_pos _)
    ((tr.succ_div_mul hlt).trans e.symm))⟩

theorem chunkAlive_above_slot (S : List (Option H)) {n : Nat} {x : H} (hx : S[n]? = some (some x))
    (l : Nat) : chunkAlive S l (n / 2 ^ l) = true :=
  chunkAlive_of_slot S l (n / 2 ^ l) n x hx (Nat.div_mul_le_self n (2 ^ l))
    (Proofs.lt_succ_div_mul n _ (Nat.two_pow_pos l))

/-- `S` is the FINAL slot list, `n` the slot of the added leaf, `T` the row of the tree of `S` that
contains slot `n` -/
theorem newAddSpec_step (S : List (Option H)) {n T t : Nat} {x : H}
    (hx : S[n]? = some (some x))
    (h1 : S.length.testBit T = true) (h2 : n.testBit T = false)
    (h3 : S.length / 2 ^ (T + 1) = n / 2 ^ (T + 1))
    (tr : Trail n t) (e : Pos × H) :
    NewAddSpec n S e ↔ StepSpec S n T t e ∨ NewAddSpec (n + 1) S e := by
  have htT := tr.le_of_clear h2
  have hcur := chunkAlive_above_slot S hx
  constructor
  · rintro ⟨T', l, b, i1, i2, i3, i4⟩
    rcases i4 with ⟨i5, i6⟩ | ⟨i5, i6, i7⟩
    · -- an added leaf
      subst i5
      by_cases hb : b = n
      · subst hb
        left; left
        have hT : T' = T := inTree_unique i1 (inTree_slot h1 h2 h3)
        subst hT
        exact i3
      · right
        exact ⟨T', 0, b, i1, i2, i3, Or.inl ⟨rfl, by omega⟩⟩
    · by_cases hlast : n + 1 < (b / 2 + 1) * 2 ^ (l + 1)
      · right
        exact ⟨T', l, b, i1, i2, i3, Or.inr ⟨i5, i6, hlast⟩⟩
      · left; right
        obtain ⟨hlt, hdiv⟩ := tr.completes (q := b / 2) (l := l) (by omega)
        have hodd := tr.div_odd hlt
        -- the tree is the tree of slot `n`
        have hT : T' = T := by
          apply inTree_unique (N := S.length) (m := n) _ (inTree_slot h1 h2 h3)
          obtain ⟨a1, a2, a3⟩ := inTree_parent i1 i5
          refine ⟨a1, Nat.zero_le _, ?_⟩
          rw [← a3, ← hdiv, Nat.sub_zero]
          exact (Proofs.div_div_pow (by omega)).symm
        subst hT
        by_cases hb : b % 2 = 1
        · have : b = n / 2 ^ l := by omega
          subst this
          exact ⟨l, Nat.zero_le l, hlt, i6, Or.inl i3⟩
        · have : b = sibIdx (n / 2 ^ l) := by unfold sibIdx; rw [if_neg (by omega)]; omega
          subst this
          exact ⟨l, Nat.zero_le l, hlt, i2, Or.inr i3⟩
  · rintro (hs | hs)
    · rcases hs with hs | ⟨l, _, hl, hal, hs⟩
      · exact ⟨T, 0, n, inTree_slot h1 h2 h3,
          by simpa using hcur 0, hs, Or.inl ⟨rfl, Nat.le_refl _⟩⟩
      · have hin := inTree_of_slot h1 h2 h3 (l := l) (by omega)
        have hnew : n < (n / 2 ^ l / 2 + 1) * 2 ^ (l + 1) := by
          rw [← Proofs.half_pow, tr.succ_div_mul hl]; omega
        have hlT : l < T := by omega
        rcases hs with hs | hs
        · exact ⟨T, l, n / 2 ^ l, hin, hcur l, hs, Or.inr ⟨hlT, hal, hnew⟩⟩
        · refine ⟨T, l, sibIdx (n / 2 ^ l), inTree_sib hin hlT, hal, hs, Or.inr ⟨hlT, ?_, ?_⟩⟩
          · rw [sibIdx_sibIdx]; exact hcur l
          · rw [sibIdx_div_two]; exact hnew
    · exact hs.mono (Nat.le_succ n)

end UtreexoVerif.Spec
