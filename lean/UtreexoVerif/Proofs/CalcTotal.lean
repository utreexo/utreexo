/-
  Totality of `calculateHashes`, `Verify` and `Pollard.Verify` (for Props/C04, which adds
  `MapPollard.verify`).  The measure: a queued position on row `r` weighs `rows + 2 - r`; every
  continuing step of `calcStep` lowers the total weight of the two queues (`calcStep_decr`), so
  `|targets|·(rows+2) + 1` units of fuel suffice, which is below `calcFuel`.  The two output lists of
  the loop have the same length, so `matchRoots` cannot panic.
-/
import UtreexoVerif.Props.C04_statement
import UtreexoVerif.Proofs.CalcRun

namespace UtreexoVerif.Proofs.CalcTotal
open Model
open UtreexoVerif.Proofs.CalcSound
open UtreexoVerif.Props.C04 (Total RowFacts)

theorem total_ok {α} (a : α) : Total (Out.ok a) := ⟨by simp, by simp⟩
theorem total_err {α} : Total (Out.err : Out α) := ⟨by simp, by simp⟩

theorem total_bind {α β} {x : Out α} {f : α → Out β} (hx : Total x)
    (hf : ∀ a, x = .ok a → Total (f a)) : Total (x.bind f) := by
  cases x with
  | ok a => exact hf a rfl
  | err => exact total_err
  | panic => exact absurd rfl hx.2
  | hang => exact absurd rfl hx.1

theorem rowCursor_total (n : U64) (tr : U8) (p : U64) (htr : tr.toNat < 255) :
    ∀ (fuel : Nat) (row : U8), row ≤ tr → tr.toNat - row.toNat < fuel →
      Total (rowCursor n tr p fuel row) := by
  intro fuel
  induction fuel with
  | zero => intro row _ h; omega
  | succ fuel ih =>
    intro row hle hf
    unfold rowCursor
    split
    · simp only
      split
      · exact total_err
      · rename_i hnot
        have hle' : row + 1 ≤ tr := BitVec.not_lt.mp hnot
        apply ih _ hle'
        have h1 : row.toNat ≤ tr.toNat := BitVec.le_def.mp hle
        have h2 : (row + 1).toNat = row.toNat + 1 := by
          rw [BitVec.toNat_add]; simp; omega
        have h3 : (row + 1).toNat ≤ tr.toNat := BitVec.le_def.mp hle'
        omega
    · exact total_ok _

section
variable {H : Type} [DecidableEq H] [Hasher H]

theorem sibSel_none_total (tp nx dn : HP H) (pr : List H) : Total (sibSel none tp nx dn pr) := by
  cases pr with
  | nil => exact total_err
  | cons a pr =>
    simp only [sibSel]
    split
    · exact total_err
    · exact total_ok _

theorem sibSel_total (p : U64) (tp nx dn : HP H) (pr : List H) :
    Total (sibSel (sibFrom p tp nx) tp nx dn pr) := by
  rcases sibFrom_cases p tp nx with h0 | ⟨y, ys, rfl, h0, _, _⟩ | ⟨y, ys, rfl, h0, _, _⟩
  · rw [h0]
    exact sibSel_none_total _ _ _ _
  · rw [h0, sibSel_false]
    exact total_ok _
  · rw [h0, sibSel_true]
    exact total_ok _

theorem calcStep_total (n : U64) (tr : U8) (htr : tr.toNat < 255) (s : CalcSt H) :
    Total (calcStep n tr s) := by
  rw [calcStep_eq]
  unfold calcStep'
  split
  · exact total_ok _
  rename_i hrow
  split
  · exact total_ok _
  apply total_bind
  · exact rowCursor_total n tr _ htr 257 s.row (BitVec.not_lt.mp hrow) (by omega)
  · intro row _
    split
    · exact total_ok _
    · apply total_bind (sibSel_total _ _ _ _ _)
      intro r _
      exact total_ok _

def wt (tr : U8) (p : U64) : Nat := tr.toNat + 2 - (DetectRow p tr).toNat

omit [DecidableEq H] [Hasher H] in
def W (tr : U8) (l : HP H) : Nat := (l.map (fun e => wt tr e.1)).sum

omit [DecidableEq H] [Hasher H] in
theorem W_cons (tr : U8) (x : U64 × H) (l : HP H) : W tr (x :: l) = wt tr x.1 + W tr l := by
  simp [W]

omit [DecidableEq H] [Hasher H] in
theorem W_snoc (tr : U8) (x : U64 × H) (l : HP H) : W tr (l ++ [x]) = W tr l + wt tr x.1 := by
  simp [W]

omit [DecidableEq H] [Hasher H] in
theorem W_le (tr : U8) (l : HP H) : W tr l ≤ l.length * (tr.toNat + 2) := by
  induction l with
  | nil => simp [W]
  | cons x l ih =>
    rw [W_cons, List.length_cons, Nat.succ_mul]
    have : wt tr x.1 ≤ tr.toNat + 2 := by unfold wt; omega
    omega

omit [DecidableEq H] [Hasher H] in
theorem pop_W_eq {tr : U8} {tp nx tp' nx' : HP H} {x : U64 × H} (h : Pop tp nx x tp' nx') :
    W tr tp + W tr nx = wt tr x.1 + (W tr tp' + W tr nx') := by
  rcases h with ⟨rfl, rfl⟩ | ⟨rfl, rfl⟩
  · rw [W_cons]; omega
  · rw [W_cons]; omega

omit [DecidableEq H] in
theorem sibOK_W_le {tr : U8} {p : U64} {tp nx tp' nx' : HP H} {pr pr' : List H} {sib : H}
    (h : SibOK p tp nx pr sib tp' nx' pr') : W tr tp' + W tr nx' ≤ W tr tp + W tr nx := by
  rcases h with ⟨y, hP, _, _, _, _⟩ | ⟨rfl, rfl, _, _⟩
  · have := pop_W_eq (tr := tr) hP; omega
  · exact Nat.le_refl _

theorem calcStep_decr {n : U64} (rf : RowFacts n) {s s' : CalcSt H}
    (h : calcStep n (TreeRows n) s = .ok (.cont s')) :
    W (TreeRows n) s'.toProve + W (TreeRows n) s'.next <
      W (TreeRows n) s.toProve + W (TreeRows n) s.next := by
  have hrow : s.row ≤ TreeRows n := by
    apply BitVec.not_lt.mp
    intro hgt
    rw [calcStep_eq] at h
    unfold calcStep' at h
    rw [if_pos hgt] at h
    simp at h
  obtain ⟨x, tp, nx, hP, hcur, hcase⟩ := calcStep_cont h
  have hc := rowCursor_ok _ _ _ hcur hrow
  have hd := rf.detectRow_le x.1 s'.row hc.1 hc.2
  have hpar := rf.detectRow_parent x.1 hd
  have hd' : (DetectRow x.1 (TreeRows n)).toNat ≤ (TreeRows n).toNat := BitVec.le_def.mp hd
  have hW := pop_W_eq (tr := TreeRows n) hP
  rcases hcase with ⟨_, h1, h2, _, _, _⟩ | ⟨sib, tp', nx', hsib, h1, h2, _, _⟩
  · rw [h1, h2]
    have : 2 ≤ wt (TreeRows n) x.1 := by unfold wt; omega
    omega
  · have hsn : W (TreeRows n) (nx' ++ [(Parent x.1 (TreeRows n), getNextHash x.1 x.2 sib)]) =
        W (TreeRows n) nx' + wt (TreeRows n) (Parent x.1 (TreeRows n)) := W_snoc _ _ _
    rw [h1, h2, hsn]
    have hs := sibOK_W_le (tr := TreeRows n) hsib
    have h3 : wt (TreeRows n) (Parent x.1 (TreeRows n)) + 1 = wt (TreeRows n) x.1 := by
      unfold wt; omega
    omega

theorem calcLoop_total {n : U64} (rf : RowFacts n) (htr : (TreeRows n).toNat < 255) :
    ∀ (fuel : Nat) (s : CalcSt H),
      W (TreeRows n) s.toProve + W (TreeRows n) s.next < fuel →
      Total (calcLoop n (TreeRows n) fuel s) := by
  intro fuel
  induction fuel with
  | zero => intro s h; omega
  | succ fuel ih =>
    intro s hW
    unfold calcLoop
    simp only [bind]
    apply total_bind (calcStep_total n _ htr s)
    intro so hso
    cases so with
    | stop s1 => exact total_ok _
    | cont s1 =>
      simp only
      apply ih
      have := calcStep_decr rf hso
      omega

theorem calc_core_total {n : U64} (rf : RowFacts n) (hashes : List H)
    (ts : List U64) (ps : List H) (hl : ts.length = hashes.length) :
    Total ((toHashAndPos ts hashes).bind fun toProve =>
      (calcLoop n (TreeRows n) (calcFuel ts.length (TreeRows n))
        { toProve := toProve, next := [], done := [], proof := ps, row := 0#8,
          roots := [], rootRows := [] }).bind fun s =>
      (Out.ok { nodes := mergeHP (s.done ++ s.next) toProve, roots := s.roots,
                rootRows := s.rootRows } : Out (CalcResult H))) := by
  have htr := treeRows_le_64 n
  apply total_bind
  · rw [toHashAndPos_ok hl]
    exact total_ok _
  intro tp htp
  have htp' : tp.length ≤ ts.length := by
    rw [(toHashAndPos_eq_ok htp).2, SortBy.length_sortHP, List.length_zip]
    omega
  apply total_bind
  · apply calcLoop_total rf (by omega)
    show W (TreeRows n) tp + W (TreeRows n) [] < _
    have h1 := W_le (TreeRows n) tp
    have h2 : tp.length * ((TreeRows n).toNat + 2) ≤ ts.length * ((TreeRows n).toNat + 2) :=
      Nat.mul_le_mul_right _ htp'
    unfold calcFuel
    rw [Nat.succ_mul]
    simp only [W, List.map_nil, List.sum_nil] at h1 ⊢
    omega
  · intro s _
    exact total_ok _

theorem calculateHashes_total {n : U64} (rf : RowFacts n) (hs : Option (List H))
    (ts : List U64) (ps : List H) (hlen : ∀ l, hs = some l → l.length = ts.length) :
    Total (calculateHashes n hs ts ps) := by
  cases hs with
  | none => exact calc_core_total rf _ ts ps (by simp)
  | some l => exact calc_core_total rf l ts ps (hlen l rfl).symm

theorem calculateHashes_len {n : U64} {hs : List H} {ts : List U64} {ps : List H}
    {r : CalcResult H} (h : calculateHashes n (some hs) ts ps = .ok r) :
    r.roots.length = r.rootRows.length := by
  obtain ⟨sf, hloop, rfl⟩ := CalcSoundX.calculateHashes_ok h
  have h64 := treeRows_le_64 n
  exact (WF.loop (by omega) _ _ _ hloop (WF.init n _ _ ps)).len

omit [Hasher H] in
theorem matchRoots_total (n : U64) (roots : List H) :
    ∀ (cs : List H) (rs : List U8) (prev : Option U8), cs.length = rs.length →
      Total (matchRoots n roots cs rs prev) := by
  intro cs
  induction cs with
  | nil => intro rs prev _; cases rs <;> exact total_ok _
  | cons c cs ih =>
    intro rs prev hlen
    cases rs with
    | nil => simp at hlen
    | cons r rs =>
      unfold matchRoots
      simp only
      split
      · exact total_err
      split
      · split
        · apply total_bind (ih rs _ (by simpa using hlen))
          intro l _
          exact total_ok _
        · exact total_err
      · exact total_err

theorem verify_total' {n : U64} (rf : RowFacts n) (roots hs : List H) (ts : List U64)
    (ps : List H) : Total (verify n roots hs ts ps) := by
  unfold verify
  split
  · exact total_err
  · rename_i hlen
    simp only [bind]
    apply total_bind (calculateHashes_total rf _ _ _ ?_)
    · intro r hr
      exact matchRoots_total _ _ _ _ _ (calculateHashes_len hr)
    · intro l hl
      injection hl with hl
      subst hl
      exact Decidable.not_not.mp hlen

theorem pollardVerify_total' {n : U64} (rf : RowFacts n) (roots hs : List H) (ts : List U64)
    (ps : List H) : Total (pollardVerify n roots hs ts ps) := by
  unfold pollardVerify
  split
  · exact total_ok _
  split
  · exact total_err
  · rename_i hlen
    simp only [bind]
    apply total_bind (calculateHashes_total rf _ _ _ ?_)
    · intro r hr
      split
      · exact total_err
      · apply total_bind (matchRoots_total _ _ _ _ _ (calculateHashes_len hr))
        intro _ _
        exact total_ok _
    · intro l hl
      injection hl with hl
      subst hl
      exact Decidable.not_not.mp hlen

end
end UtreexoVerif.Proofs.CalcTotal
