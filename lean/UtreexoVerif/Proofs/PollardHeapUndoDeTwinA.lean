/-
  Pointer forest, heap model, first half of `undoDels`: the sort, `sort.Search` and
  `insertSortNodeAndPos` (= sorted insertion), `undoDelsAlloc`, and one merge step of
  `deTwinPolNode` on the heap (`joinHeap`).
-/
import UtreexoVerif.Proofs.PollardHeapUndoDefs
set_option linter.unusedSectionVars false


namespace UtreexoVerif.Proofs.PollardHeap
open UtreexoVerif.Model UtreexoVerif.Model.PollardHeap UtreexoVerif.Spec Hasher
open UtreexoVerif.Proofs.CalcGeo
open UtreexoVerif.Proofs.ProofUpdateDeTwin

variable {H : Type} [DecidableEq H] [Hasher H]

theorem map_E_inj {rows : Nat} (hr : rows ≤ 63) : ∀ (l1 l2 : List Pos), (∀ p ∈ l1, ValidH rows p) →
    (∀ p ∈ l2, ValidH rows p) → l1.map (E rows) = l2.map (E rows) → l1 = l2 := by
  intro l1
  induction l1 with
  | nil =>
    intro l2 _ _ h
    cases l2 with
    | nil => rfl
    | cons _ _ => simp at h
  | cons p ps ih =>
    intro l2 h1 h2 h
    cases l2 with
    | nil => simp at h
    | cons q qs =>
      simp only [List.map_cons, List.cons.injEq] at h
      have e := encP_inj hr (h1 p (by simp)) (h2 q (by simp)) h.1
      subst e
      rw [ih qs (fun x hx => h1 x (List.mem_cons_of_mem _ hx))
        (fun x hx => h2 x (List.mem_cons_of_mem _ hx)) h.2]

theorem sortBy_items_pos {rows : Nat} (hr : rows ≤ 63) (its : List (PItem H))
    (hv : ∀ p ∈ its.map (·.pos), ValidH rows p) (hnd : (its.map (·.pos)).Nodup) :
    (sortBy (fun it : PItem H => E rows it.pos) its).map (·.pos) = Forest.sortDedup (its.map (·.pos)) := by
  apply map_E_inj hr
  · intro p hp
    obtain ⟨it, hit, rfl⟩ := List.mem_map.1 hp
    exact hv _ (List.mem_map_of_mem ((SortBy.mem_sortBy _ it its).1 hit))
  · intro p hp
    exact hv p ((Sorted.mem_sortDedup p _).1 hp)
  · rw [← sortU64_map_E hr _ hv hnd, List.map_map, List.map_map]
    exact SortBy.map_sortBy (fun it : PItem H => E rows it.pos) its

theorem sortBy_np (rows : Nat) (its : List (PItem H)) :
    sortBy (fun x : NP => x.2) (its.map (PItem.np rows)) =
      (sortBy (fun it : PItem H => E rows it.pos) its).map (PItem.np rows) :=
  SortBy.sortBy_map _ _ _ (fun _ => rfl) its

/-- Go's `sort.Search` on `[i, j)` for a monotone predicate: the result is the first true index -/
theorem searchLoop_spec (f : Nat → Bool) (n : Nat)
    (mono : ∀ a b, a ≤ b → b < n → f a = true → f b = true) :
    ∀ (fuel i j : Nat), i ≤ j → j ≤ n → j - i < fuel →
    (∀ k, k < i → f k = false) → (j < n → f j = true) →
    searchLoop f fuel i j ≤ n ∧ (∀ k, k < searchLoop f fuel i j → f k = false) ∧
      (searchLoop f fuel i j < n → f (searchLoop f fuel i j) = true) := by
  intro fuel
  induction fuel with
  | zero => intro i j _ _ h; omega
  | succ fuel ih =>
    intro i j hij hjn hf h1 h2
    unfold searchLoop
    by_cases hlt : i < j
    · rw [if_pos hlt]
      simp only []
      have hh1 : i ≤ (i + j) / 2 := by omega
      have hh2 : (i + j) / 2 < j := by omega
      cases hfh : f ((i + j) / 2) with
      | false =>
        simp only [Bool.not_false, if_true]
        apply ih _ _ (by omega) hjn (by omega) _ h2
        intro k hk
        cases hfk : f k with
        | false => rfl
        | true =>
          have := mono k ((i + j) / 2) (by omega) (by omega) hfk
          rw [hfh] at this
          cases this
      | true =>
        simp only [Bool.not_true, Bool.false_eq_true, if_false]
        exact ih _ _ hh1 (by omega) (by omega) h1 (fun _ => hfh)
    · rw [if_neg hlt]
      have : i = j := by omega
      subst this
      exact ⟨hjn, h1, h2⟩

theorem insertSort_aux (nodes : List NP) (el : NP) (f : Nat → Bool)
    (fsome : ∀ i x, nodes[i]? = some x → f i = decide (el.2 < x.2))
    (hs : nodes.Pairwise (fun a b => a.2 ≤ b.2)) :
    nodes.take (searchLoop f (nodes.length + 1) 0 nodes.length) ++
        el :: nodes.drop (searchLoop f (nodes.length + 1) 0 nodes.length) =
      insertBy (fun x : NP => x.2) el nodes := by
  have mono : ∀ a b, a ≤ b → b < nodes.length → f a = true → f b = true := by
    intro a b hab hb ha
    have ha' : a < nodes.length := by omega
    rw [fsome a nodes[a] (List.getElem?_eq_getElem ha')] at ha
    rw [fsome b nodes[b] (List.getElem?_eq_getElem hb)]
    rcases Nat.lt_or_ge a b with h | h
    · have := List.pairwise_iff_getElem.1 hs a b ha' hb h
      simp only [decide_eq_true_eq] at ha ⊢
      bv_omega
    · have : a = b := by omega
      subst this; exact ha
  obtain ⟨h1, h2, h3⟩ := searchLoop_spec f nodes.length mono (nodes.length + 1) 0 nodes.length
    (by omega) (by omega) (by omega) (by intro k hk; omega) (by intro h; omega)
  symm
  apply SortBy.insertBy_eq_take_drop _ _ _ _ h1
  · intro i y hi hy
    have := h2 i hi
    rw [fsome i y hy] at this
    simpa using this
  · intro y hy
    have hlt : searchLoop f (nodes.length + 1) 0 nodes.length < nodes.length := by
      rcases Nat.lt_or_ge (searchLoop f (nodes.length + 1) 0 nodes.length) nodes.length with h | h
      · exact h
      · rw [List.getElem?_eq_none h] at hy; cases hy
    have := h3 hlt
    rw [fsome _ y hy] at this
    simpa using this

theorem insertSortNodeAndPos_eq (nodes : List NP) (el : NP)
    (hs : nodes.Pairwise (fun a b => a.2 ≤ b.2)) :
    insertSortNodeAndPos nodes el = insertBy (fun x : NP => x.2) el nodes := by
  unfold insertSortNodeAndPos
  simp only []
  apply insertSort_aux _ _ _ _ hs
  intro i x h
  simp only [h]

theorem insertSortNodeAndPos_spec (nodes : List NP) (el : NP)
    (hs : nodes.Pairwise (fun a b => a.2 < b.2)) :
    (insertSortNodeAndPos nodes el).map (·.2) = insertInOrder (nodes.map (·.2)) el.2 ∧
    ∃ pre post, nodes = pre ++ post ∧ insertSortNodeAndPos nodes el = pre ++ el :: post := by
  have hs' : nodes.Pairwise (fun a b => a.2 ≤ b.2) := hs.imp (fun h => by bv_omega)
  rw [insertSortNodeAndPos_eq nodes el hs']
  exact ⟨(SortBy.insertInOrder_eq_insertBy (fun x : NP => x.2) el nodes).symm, SortBy.insertBy_split _ _ _⟩

/-- the items `undoDelsAlloc` creates: one fresh leaf node per deleted hash -/
def allocItems (base : Nat) : List Pos → List H → List (PItem H)
  | q :: qs, h :: hs => ⟨base, q, .leaf h, [], [(h, base)]⟩ :: allocItems (base + 1) qs hs
  | _, _ => []

theorem allocItems_owned : ∀ (qs : List Pos) (hs : List H) (base : Nat),
    (∀ i ∈ pendOwned (allocItems base qs hs), base ≤ i) ∧ (pendOwned (allocItems base qs hs)).Nodup := by
  intro qs
  induction qs with
  | nil => intro hs base; simp [allocItems, pendOwned]
  | cons q qs ih =>
    intro hs base
    cases hs with
    | nil => simp [allocItems, pendOwned]
    | cons h hs =>
      obtain ⟨h1, h2⟩ := ih hs (base + 1)
      have e : pendOwned (allocItems base (q :: qs) (h :: hs)) =
          base :: pendOwned (allocItems (base + 1) qs hs) := by
        simp only [allocItems]; rw [pendOwned_cons]; rfl
      rw [e]
      simp only [List.mem_cons, List.nodup_cons]
      refine ⟨?_, ?_, h2⟩
      · rintro i (rfl | hi)
        · exact Nat.le_refl _
        · have := h1 i hi; omega
      · intro hb
        have := h1 _ hb
        omega

theorem allocItems_pos : ∀ (qs : List Pos) (hs : List H) (base : Nat), qs.length = hs.length →
    (allocItems base qs hs).map (·.pos) = qs := by
  intro qs
  induction qs with
  | nil => intro hs base _; simp [allocItems]
  | cons q qs ih =>
    intro hs base hl
    cases hs with
    | nil => simp at hl
    | cons h hs =>
      simp only [allocItems, List.map_cons]
      rw [ih hs (base + 1) (by simpa using hl)]

theorem allocItems_keys : ∀ (qs : List Pos) (hs : List H) (base : Nat), qs.length = hs.length →
    (pendLeaves (allocItems base qs hs)).map (·.1) = hs := by
  intro qs
  induction qs with
  | nil =>
    intro hs base hl
    cases hs with
    | nil => simp [allocItems, pendLeaves]
    | cons _ _ => simp at hl
  | cons q qs ih =>
    intro hs base hl
    cases hs with
    | nil => simp at hl
    | cons h hs =>
      simp only [allocItems, pendLeaves_cons, List.cons_append, List.nil_append, List.map_cons]
      rw [ih hs (base + 1) (by simpa using hl)]

theorem mem_allocItems_map (f : H → Pos) : ∀ (hs : List H) (base : Nat) (it : PItem H),
    it ∈ allocItems base (hs.map f) hs →
    ∃ h ∈ hs, ∃ i, base ≤ i ∧ it = ⟨i, f h, .leaf h, [], [(h, i)]⟩ := by
  intro hs
  induction hs with
  | nil => intro base it h; simp [allocItems] at h
  | cons h hs ih =>
    intro base it hit
    simp only [List.map_cons, allocItems, List.mem_cons] at hit
    rcases hit with rfl | hit
    · exact ⟨h, by simp, base, Nat.le_refl _, rfl⟩
    · obtain ⟨h', hh', i, hi, e⟩ := ih (base + 1) it hit
      exact ⟨h', List.mem_cons_of_mem _ hh', i, by omega, e⟩

theorem undoDelsAlloc_spec (rows : Nat) (rs : List Nat) (nl ndl : U64) (full : Bool) :
    ∀ (qs : List Pos) (hs : List H) (hp : Heap H) (nm : List (H × Nat)),
      qs.length = hs.length → hs.Nodup → (∀ h ∈ hs, h ∉ nm.map (·.1)) → (nm.map (·.1)).Nodup →
      ∃ (hp1 : Heap H) (nm' : List (H × Nat)),
        undoDelsAlloc (qs.map (E rows)) hs ⟨hp, nm, rs, nl, ndl, full⟩ =
          (.ok ((allocItems hp.size qs hs).map (PItem.np rows)), ⟨hp1, nm', rs, nl, ndl, full⟩) ∧
        hp1.size = hp.size + hs.length ∧ (∀ j, j < hp.size → hp1[j]? = hp[j]?) ∧
        Pend hp1 (allocItems hp.size qs hs) ∧
        (nm'.map (·.1)).Nodup ∧
        (∀ e, e ∈ nm' ↔ e ∈ nm ∨ e ∈ pendLeaves (allocItems hp.size qs hs)) := by
  intro qs
  induction qs with
  | nil =>
    intro hs hp nm hl _ _ hk
    cases hs with
    | cons _ _ => simp at hl
    | nil =>
      refine ⟨hp, nm, rfl, rfl, fun _ _ => rfl, ?_, hk, ?_⟩
      · intro it hit; simp [allocItems] at hit
      · intro e; simp [allocItems, pendLeaves]
  | cons q qs ih =>
    intro hs hp nm hl hnd hfresh hk
    cases hs with
    | nil => simp at hl
    | cons h hs =>
      rw [List.nodup_cons] at hnd
      have hnew : h ∉ nm.map (·.1) := hfresh h (by simp)
      obtain ⟨hp1, nm', e, hsz, hfr, hpend, hk', hmem⟩ := ih hs
        (hp.push { data := h, remember := full }) ((h, hp.size) :: nm) (by simpa using hl) hnd.2
        (by
          intro h' hh' hc
          simp only [List.map_cons, List.mem_cons] at hc
          rcases hc with rfl | hc
          · exact hnd.1 hh'
          · exact hfresh h' (List.mem_cons_of_mem _ hh') hc)
        (by simp only [List.map_cons, List.nodup_cons]; exact ⟨hnew, hk⟩)
      rw [Array.size_push] at e hsz hpend hmem
      refine ⟨hp1, nm', ?_, ?_, ?_, ?_, hk', ?_⟩
      · simp only [List.map_cons, undoDelsAlloc, bind_apply, getFull_apply, alloc_apply,
          nodeMapSet, modifyS_apply, mapSet_new nm h hp.size hnew, e, pure_apply, allocItems]
        rfl
      · rw [hsz]; simp only [List.length_cons]; omega
      · intro j hj
        rw [hfr j (by rw [Array.size_push]; omega), Array.getElem?_push, if_neg (by omega)]
      · intro it hit
        simp only [allocItems, List.mem_cons] at hit
        rcases hit with rfl | hit
        · have e0 : hp1[hp.size]? = some { data := h, remember := full } := by
            rw [hfr hp.size (by rw [Array.size_push]; omega), Array.getElem?_push, if_pos rfl]
          exact ⟨⟨_, e0, rfl⟩, Sub.leaf e0 rfl e0 rfl rfl⟩
        · exact hpend it hit
      · intro e'
        rw [hmem]
        simp only [allocItems, pendLeaves_cons, List.mem_cons, List.mem_append, List.not_mem_nil,
          or_false]
        constructor
        · rintro ((h1 | h1) | h1)
          · exact Or.inr (Or.inl h1)
          · exact Or.inl h1
          · exact Or.inr (Or.inr h1)
        · rintro (h1 | h1 | h1)
          · exact Or.inl (Or.inr h1)
          · exact Or.inl (Or.inl h1)
          · exact Or.inr h1

/-- `undoDelsAlloc_spec` with the two facts the loop of `deTwinPolNode` starts from -/
theorem undoDelsAlloc_full (rows : Nat) (rs : List Nat) (nl ndl : U64) (full : Bool)
    (qs : List Pos) (hs : List H) (hp : Heap H) (nm : List (H × Nat))
    (hl : qs.length = hs.length) (hnd : hs.Nodup) (hfresh : ∀ h ∈ hs, h ∉ nm.map (·.1))
    (hk : (nm.map (·.1)).Nodup) :
    ∃ (hp1 : Heap H) (nm' : List (H × Nat)),
      undoDelsAlloc (qs.map (E rows)) hs ⟨hp, nm, rs, nl, ndl, full⟩ =
        (.ok ((allocItems hp.size qs hs).map (PItem.np rows)), ⟨hp1, nm', rs, nl, ndl, full⟩) ∧
      hp1.size = hp.size + hs.length ∧ (∀ j, j < hp.size → hp1[j]? = hp[j]?) ∧
      Pend hp1 (allocItems hp.size qs hs) ∧
      (pendOwned (allocItems hp.size qs hs)).Nodup ∧
      (∀ i ∈ pendOwned (allocItems hp.size qs hs), hp.size ≤ i) ∧
      (nm'.map (·.1)).Nodup ∧
      (∀ e, e ∈ nm' ↔ e ∈ nm ∨ e ∈ pendLeaves (allocItems hp.size qs hs)) := by
  obtain ⟨hp1, nm', h1, h2, h3, h4, h5, h6⟩ :=
    undoDelsAlloc_spec rows rs nl ndl full qs hs hp nm hl hnd hfresh hk
  obtain ⟨h7, h8⟩ := allocItems_owned qs hs hp.size
  exact ⟨hp1, nm', h1, h2, h3, h4, h8, h7, h5, h6⟩

example : insertSortNodeAndPos [(0, 1#64), (1, 5#64)] (2, 3#64) = [(0, 1#64), (2, 3#64), (1, 5#64)] := by
  decide +kernel

/-- the parent node `deTwinPolNode` allocates for two sibling nodes -/
def joinNode (ln rn : PolNode H) (L Rr : Nat) : PolNode H :=
  { data := ph ln.data rn.data, lNiece := some L, rNiece := some Rr, aunt := none, remember := false }

/-- the heap after one merge step of `deTwinPolNode` (left node `L`, right node `Rr`) -/
def joinHeap (hp : Heap H) (L Rr : Nat) (ln rn : PolNode H) : Heap H :=
  setAuntKids ((((swapped hp L Rr ln rn).push { data := ph ln.data rn.data }).modify hp.size
    (fun x => { x with lNiece := some L })).modify hp.size (fun x => { x with rNiece := some Rr })) hp.size

theorem size_joinHeap (hp : Heap H) (L Rr : Nat) (ln rn : PolNode H) :
    (joinHeap hp L Rr ln rn).size = hp.size + 1 := by
  unfold joinHeap; simp

/-- the heap after the parent node has been pushed and given its two children, before the children learn their
aunt (`joinHeap` = `setAuntKids` of this heap, `joinHeap_def`) -/
theorem getElem?_planted (hp : Heap H) (L Rr : Nat) (ln rn : PolNode H) (j : Nat) :
    ((((swapped hp L Rr ln rn).push { data := ph ln.data rn.data }).modify hp.size
      (fun x => { x with lNiece := some L })).modify hp.size (fun x => { x with rNiece := some Rr }))[j]? =
      if j = hp.size then some (joinNode ln rn L Rr) else (swapped hp L Rr ln rn)[j]? := by
  rw [Array.getElem?_modify, Array.getElem?_modify, Array.getElem?_push, size_swapped]
  by_cases hj : j = hp.size
  · subst hj; simp [joinNode]
  · simp [hj, Ne.symm hj]

theorem joinHeap_repr {hp : Heap H} {L Rr : Nat} {tL tR : CTree H} {fL fR : List Nat}
    {lL lR : List (H × Nat)} {ln rn : PolNode H}
    (hL : RootRepr hp L tL fL lL) (hR : RootRepr hp Rr tR fR lR)
    (hl : hp[L]? = some ln) (hr : hp[Rr]? = some rn)
    (ndp : (L :: Rr :: (fL ++ fR)).Nodup) :
    RootRepr (joinHeap hp L Rr ln rn) hp.size (.node tL tR) (L :: Rr :: (fL ++ fR)) (lL ++ lR) ∧
    (∀ i, i ≠ L → i ≠ Rr → i ∉ fL → i ∉ fR → i ≠ hp.size →
      (joinHeap hp L Rr ln rn)[i]? = hp[i]?) := by
  obtain ⟨_, h1, h2, _⟩ := planted_repr hL hR hl hr ndp (getElem?_planted hp L Rr ln rn)
    (N := joinNode ln rn L Rr) rfl rfl rfl rfl
  refine ⟨h1, fun i i1 i2 i3 i4 i5 => h2 i ?_ i5⟩
  simp only [List.mem_cons, List.mem_append, not_or]
  exact ⟨i1, i2, i3, i4⟩

theorem joinHeap_def (hp : Heap H) (L Rr : Nat) (ln rn : PolNode H) :
    joinHeap hp L Rr ln rn =
      setAuntKids ((((swapped hp L Rr ln rn).push { data := ph ln.data rn.data }).modify hp.size
        (fun x => { x with lNiece := some L })).modify hp.size
        (fun x => { x with rNiece := some Rr })) hp.size := rfl

-- from here on `joinHeap` is opaque (its body is four nested array updates that no statement below needs to see);
-- `joinHeap_def` is the way in
attribute [irreducible] joinHeap

theorem deTwinPolNodeLoop_merge (rows : U8) (fuel i : Nat) (polNodes : List NP) (pn nx : NP)
    (hp : Heap H) (nm : List (H × Nat)) (rs : List Nat) (nl ndl : U64) (full : Bool)
    {tL tR : CTree H} {fL fR : List Nat} {lL lR : List (H × Nat)} {ln rn : PolNode H}
    (h1 : polNodes[i]? = some pn) (h2 : polNodes[i+1]? = some nx)
    (h3 : (rightSib pn.2 == nx.2) = true)
    (hL : RootRepr hp pn.1 tL fL lL) (hR : RootRepr hp nx.1 tR fR lR)
    (hl : hp[pn.1]? = some ln) (hr : hp[nx.1]? = some rn)
    (ndp : (pn.1 :: nx.1 :: (fL ++ fR)).Nodup) :
    deTwinPolNodeLoop rows (fuel + 1) i polNodes ⟨hp, nm, rs, nl, ndl, full⟩ =
      deTwinPolNodeLoop rows fuel i
        (insertSortNodeAndPos ((polNodes.eraseIdx i).eraseIdx i) (hp.size, Parent pn.2 rows))
        ⟨joinHeap hp pn.1 nx.1 ln rn, nm, rs, nl, ndl, full⟩ := by
  obtain ⟨L, pL⟩ := pn
  obtain ⟨Rr, pR⟩ := nx
  simp only [] at h3 hL hR hl hr ndp ⊢
  have eSwap := swapNieces_subs hl hr hL.2 hR.2 ndp nm rs nl ndl full
  obtain ⟨hCL, hCR, _⟩ := swapped_subs hl hr hL.2 hR.2 (Or.inl ⟨rfl, rfl⟩) ndp
  obtain ⟨hpE, hpE_def⟩ : ∃ hpE : Heap H, hpE =
      (((swapped hp L Rr ln rn).push { data := ph ln.data rn.data }).modify hp.size
        (fun x => { x with lNiece := some L })).modify hp.size
        (fun x => { x with rNiece := some Rr }) := ⟨_, rfl⟩
  have hE : ∀ j, hpE[j]? = if j = hp.size then some (joinNode ln rn L Rr)
      else (swapped hp L Rr ln rn)[j]? := by
    intro j; rw [hpE_def]; exact getElem?_planted hp L Rr ln rn j
  obtain ⟨u3, _⟩ := planted_repr hL hR hl hr ndp hE rfl rfl rfl rfl
  have eUpd := updateAunt'_kids hp.size hpE nm rs nl ndl full u3
  have hF : setAuntKids hpE hp.size = joinHeap hp L Rr ln rn := by
    rw [hpE_def, joinHeap_def]
  rw [deTwinPolNodeLoop]
  simp only [h1, h2, h3, if_true, bind_apply]
  rw [eSwap]
  simp only [node_apply, hCL, hCR, alloc_apply, setNode_apply, size_swapped]
  rw [← hpE_def, eUpd]
  simp only [hF]

theorem deTwinPolNodeLoop_adv {rows : U8} {fuel i : Nat} {polNodes : List NP} {pn : NP}
    (h1 : polNodes[i]? = some pn)
    (h2 : ∀ nx, polNodes[i+1]? = some nx → (rightSib pn.2 == nx.2) = false) :
    deTwinPolNodeLoop (H := H) rows (fuel + 1) i polNodes =
      deTwinPolNodeLoop rows fuel (i + 1) polNodes := by
  rw [deTwinPolNodeLoop]
  cases h : polNodes[i+1]? with
  | none => simp only [h1]
  | some nx => simp only [h1, h2 nx h, Bool.false_eq_true, if_false]

theorem deTwinPolNodeLoop_end {rows : U8} {fuel i : Nat} {polNodes : List NP}
    (h1 : polNodes[i]? = none) (s : Pollard H) :
    deTwinPolNodeLoop (H := H) rows (fuel + 1) i polNodes s = (.ok polNodes, s) := by
  rw [deTwinPolNodeLoop]
  simp only [h1]
  rfl

end UtreexoVerif.Proofs.PollardHeap
