/-
  The specification forest at positions.  `SubAtT F h p t`: `t` is the subtree standing at position
  `p` of the tree on row `h` — the tree-level facts of `Proofs/CTreeSubs.lean` plus the fact that
  trees of different rows have no position in common (`under_disjoint`).  The node list
  `Spec.Forest.nodes` is read through `mem_nodes_iff`: an entry is a subtree at its position with
  its hash and leaf flag, or an empty root.  So a position determines the node
  (`nodes_functional`); a node with hash `ph a b` has the children `a`, `b` unless the pair is
  `ForestBad` (`nodeAt_children_x`); under collision-freeness and `LeafOK` no pair is
  (`nodeAt_children`), and `LeafOK` is necessary for that (`LeafOK.necessary`).
  The declarations stand in the namespaces `Proofs.SpecNodes` (node list), `Proofs.SpecSubs`
  (`SubAtT`), `Proofs.SpecViewX` (`ForestBad`), `Spec` and `Proofs.PollardLookup` (`treeOf`), in the
  order in which they depend on each other.
-/
import UtreexoVerif.Proofs.CTreeSubs
import UtreexoVerif.Proofs.Geometry2

namespace UtreexoVerif
open Spec Hasher Proofs.SpecNodes Proofs.SpecSubs
set_option linter.unusedSectionVars false

variable {H : Type} [DecidableEq H] [Hasher H]

namespace Proofs.SpecNodes

theorem nodes_head (t : CTree H) (r o : Nat) : ((r, o), t.hash, isLeaf t) ∈ t.nodes r o := by
  cases t <;> simp [CTree.nodes, isLeaf, CTree.hash]

theorem nodes_under (t : CTree H) (r o : Nat) (hd : depth t ≤ r) :
    ∀ x ∈ t.nodes r o, Under r o x.1 := by
  intro x hx
  obtain ⟨s, hm, _⟩ := mem_nodes_iff_subs.1 hx
  exact subs_under t r o hd _ hm

theorem nodes_unique (t : CTree H) (r o : Nat) (hd : depth t ≤ r) :
    ∀ x ∈ t.nodes r o, ∀ y ∈ t.nodes r o, x.1 = y.1 → x = y := by
  intro x hx y hy e
  obtain ⟨s, hm, h1, h2⟩ := mem_nodes_iff_subs.1 hx
  obtain ⟨s', hm', h1', h2'⟩ := mem_nodes_iff_subs.1 hy
  obtain rfl : s = s' := (Prod.mk.inj (subs_unique t r o hd _ hm _ hm' e)).2
  obtain ⟨p, v, f⟩ := x
  obtain ⟨q, w, g⟩ := y
  simp only at e h1 h2 h1' h2'
  rw [e, h1, h2, h1', h2']

theorem nodes_internal (t : CTree H) (r o : Nat) (x : Pos × H × Bool) (hx : x ∈ t.nodes r o)
    (hf : x.2.2 = false) :
    ∃ a b : CTree H, x.2.1 = ph a.hash b.hash ∧
      ((x.1.1 - 1, 2 * x.1.2), a.hash, isLeaf a) ∈ t.nodes r o ∧
      ((x.1.1 - 1, 2 * x.1.2 + 1), b.hash, isLeaf b) ∈ t.nodes r o := by
  obtain ⟨s, hm, h1, h2⟩ := mem_nodes_iff_subs.1 hx
  cases s with
  | leaf l => rw [hf] at h2; cases h2
  | node a b =>
    obtain ⟨ha, hb⟩ := subs_children t r o hm
    exact ⟨a, b, h1, mem_nodes_of_subs ha, mem_nodes_of_subs hb⟩

theorem nodes_leaf_mem (t : CTree H) (r o : Nat) : ∀ x ∈ t.nodes r o, x.2.2 = true →
    x.2.1 ∈ t.leaves := by
  intro x hx hf
  obtain ⟨s, hm, h1, h2⟩ := mem_nodes_iff_subs.1 hx
  cases s with
  | node a b => rw [hf] at h2; cases h2
  | leaf l => rw [h1]; exact subs_leaves t r o _ hm l (List.mem_singleton.2 rfl)

omit [DecidableEq H] [Hasher H] in
theorem join_leaves {a b : Option (CTree H)} {t : CTree H} {P : H → Prop}
    (ha : ∀ t, a = some t → ∀ h ∈ t.leaves, P h) (hb : ∀ t, b = some t → ∀ h ∈ t.leaves, P h)
    (h : join a b = some t) : ∀ h ∈ t.leaves, P h := by
  rcases join_cases h with ⟨e, _⟩ | ⟨_, e⟩ | ⟨x, y, ea, eb, rfl⟩
  · exact ha t e
  · exact hb t e
  · intro l hl
    rcases List.mem_append.1 hl with hl | hl
    · exact ha x ea l hl
    · exact hb y eb l hl

theorem collapse_leaves (k : Nat) (l : List (Option H)) (t : CTree H) (h : collapse k l = some t) :
    ∀ x ∈ t.leaves, some x ∈ l :=
  fun x hx => Spec.mem_optLeaves_collapse (k := k) (by rw [h]; exact hx)

def treeNodes (F : Forest H) (h : Nat) : List (Pos × H × Bool) :=
  match collapse h ((F.slots.drop (treeStart F.numLeaves h)).take (2 ^ h)) with
  | some t => t.nodes h (rootPos F.numLeaves h).2
  | none => [(rootPos F.numLeaves h, zero, false)]

def treeRoot (F : Forest H) (h : Nat) : H :=
  match collapse h ((F.slots.drop (treeStart F.numLeaves h)).take (2 ^ h)) with
  | some t => t.hash
  | none => zero

theorem nodes_eq (F : Forest H) :
    F.nodes = (treeRows F.numLeaves).flatMap (treeNodes F) := by
  unfold Forest.nodes Forest.trees treeNodes
  rw [List.flatMap_map]
  rfl

theorem roots_eq (F : Forest H) : F.roots = (treeRows F.numLeaves).map (treeRoot F) := by
  unfold Forest.roots Forest.trees treeRoot
  rw [List.map_map]
  rfl

theorem mem_nodes {F : Forest H} {x : Pos × H × Bool} :
    x ∈ F.nodes ↔ ∃ h, (F.numLeaves.testBit h = true ∧ h ∈ treeRows F.numLeaves) ∧
      x ∈ treeNodes F h := by
  rw [nodes_eq, List.mem_flatMap]
  constructor
  · rintro ⟨h, hh, hx⟩
    exact ⟨h, ⟨(Spec.mem_treeRows.1 hh).2, hh⟩, hx⟩
  · rintro ⟨h, ⟨_, hh⟩, hx⟩
    exact ⟨h, hh, hx⟩

theorem treeNodes_under (F : Forest H) (h : Nat) :
    ∀ x ∈ treeNodes F h, Under h (2 * (F.numLeaves >>> (h + 1))) x.1 := by
  intro x hx
  unfold treeNodes at hx
  split at hx
  · rename_i t ht
    exact nodes_under t h _ (collapse_depth _ _ _ ht) x hx
  · simp only [List.mem_singleton] at hx
    subst hx
    exact Under.self _ _

/-- the leftmost leaf under `p` has bit `h1` clear (it lies under the root of row `h1`) and agrees
with `n` above bit `h2` -/
theorem under_disjoint {n h1 h2 : Nat} {p : Pos} (hlt : h2 < h1) (hb1 : n.testBit h1 = true)
    (u1 : Under h1 (2 * (n >>> (h1 + 1))) p) (u2 : Under h2 (2 * (n >>> (h2 + 1))) p) : False := by
  have e1 := (leftmost_leaf_bits u1.1 u1.2).1
  have e2 := (leftmost_leaf_bits u2.1 u2.2).2 h1 hlt
  rw [e1, hb1] at e2
  cases e2

end Proofs.SpecNodes

namespace Proofs.PollardLookup

/-- the collapsed tree on row `R` of the forest (`none`: no survivors) -/
def treeOf (F : Forest H) (R : Nat) : Option (CTree H) :=
  collapse R ((F.slots.drop (treeStart F.numLeaves R)).take (2 ^ R))

end Proofs.PollardLookup

namespace Spec

export Proofs.PollardLookup (treeOf)

theorem treeNodes_some {F : Forest H} {h : Nat} {t : CTree H} (ht : treeOf F h = some t) :
    treeNodes F h = t.nodes h (rootPos F.numLeaves h).2 := by
  unfold treeNodes; unfold treeOf at ht; rw [ht]

theorem treeNodes_none {F : Forest H} {h : Nat} (ht : treeOf F h = none) :
    treeNodes F h = [(rootPos F.numLeaves h, zero, false)] := by
  unfold treeNodes; unfold treeOf at ht; rw [ht]

theorem treeRoot_def (F : Forest H) (h : Nat) : treeRoot F h = rootHash (treeOf F h) := by
  unfold treeRoot treeOf rootHash
  cases collapse h ((F.slots.drop (treeStart F.numLeaves h)).take (2 ^ h)) <;> rfl

theorem treeRoot_some {F : Forest H} {h : Nat} {t : CTree H} (ht : treeOf F h = some t) :
    treeRoot F h = t.hash := by
  rw [treeRoot_def, ht]; rfl

theorem treeRoot_none {F : Forest H} {h : Nat} (ht : treeOf F h = none) : treeRoot F h = zero := by
  rw [treeRoot_def, ht]; rfl

theorem treeOf_leaves_live {F : Forest H} {h : Nat} {t : CTree H} (ht : treeOf F h = some t) :
    ∀ x ∈ t.leaves, x ∈ F.liveLeaves := by
  intro x hx
  unfold treeOf at ht
  have := collapse_leaves _ _ _ ht x hx
  rw [Forest.mem_liveLeaves]
  exact List.mem_of_mem_drop (List.mem_of_mem_take this)

theorem mem_treeNodes_of_under {F : Forest H} {h : Nat} (hb : F.numLeaves.testBit h = true)
    {e : Pos × H × Bool} (he : e ∈ F.nodes)
    (hu : Under h (2 * (F.numLeaves >>> (h + 1))) e.1) : e ∈ treeNodes F h := by
  obtain ⟨h', ⟨hb', _⟩, he'⟩ := mem_nodes.1 he
  have u' := treeNodes_under F h' e he'
  rcases Nat.lt_trichotomy h h' with hlt | heq | hgt
  · exact (under_disjoint hlt hb' u' hu).elim
  · subst heq; exact he'
  · exact (under_disjoint hgt hb hu u').elim

end Spec

namespace Proofs.SpecSubs

def treeSubs (F : Forest H) (h : Nat) : List (Pos × CTree H) :=
  match collapse h ((F.slots.drop (treeStart F.numLeaves h)).take (2 ^ h)) with
  | some t => subs t h (rootPos F.numLeaves h).2
  | none => []

def SubAtT (F : Forest H) (h : Nat) (p : Pos) (t : CTree H) : Prop :=
  h ∈ treeRows F.numLeaves ∧ (p, t) ∈ treeSubs F h

theorem SubAtT.bit {F : Forest H} {h : Nat} {p : Pos} {t : CTree H} (s : SubAtT F h p t) :
    F.numLeaves.testBit h = true := (Spec.mem_treeRows.1 s.1).2

theorem SubAtT.tree {F : Forest H} {h : Nat} {p : Pos} {t : CTree H} (s : SubAtT F h p t) :
    ∃ t0, collapse h ((F.slots.drop (treeStart F.numLeaves h)).take (2 ^ h)) = some t0 ∧
      depth t0 ≤ h ∧ (p, t) ∈ subs t0 h (rootPos F.numLeaves h).2 := by
  have := s.2
  unfold treeSubs at this
  split at this
  · rename_i t0 ht0
    exact ⟨t0, ht0, collapse_depth _ _ _ ht0, this⟩
  · simp at this

theorem SubAtT.of_tree {F : Forest H} {h : Nat} {p : Pos} {t t0 : CTree H}
    (hh : h ∈ treeRows F.numLeaves)
    (ht0 : collapse h ((F.slots.drop (treeStart F.numLeaves h)).take (2 ^ h)) = some t0)
    (hm : (p, t) ∈ subs t0 h (rootPos F.numLeaves h).2) : SubAtT F h p t := by
  refine ⟨hh, ?_⟩
  unfold treeSubs
  rw [ht0]
  exact hm

theorem SubAtT.under {F : Forest H} {h : Nat} {p : Pos} {t : CTree H} (s : SubAtT F h p t) :
    Under h (2 * (F.numLeaves >>> (h + 1))) p := by
  obtain ⟨t0, _, hd, hm⟩ := s.tree
  exact subs_under t0 h _ hd _ hm

theorem SubAtT.node_mem {F : Forest H} {h : Nat} {p : Pos} {t : CTree H} (s : SubAtT F h p t) :
    (p, t.hash, isLeaf t) ∈ F.nodes := by
  obtain ⟨t0, ht0, _, hm⟩ := s.tree
  refine mem_nodes.2 ⟨h, ⟨s.bit, s.1⟩, ?_⟩
  unfold treeNodes
  rw [ht0]
  simp only
  rw [nodes_eq_subs]
  exact List.mem_map.2 ⟨(p, t), hm, rfl⟩

theorem SubAtT.unique {F : Forest H} {h h' : Nat} {p : Pos} {t t' : CTree H}
    (s : SubAtT F h p t) (s' : SubAtT F h' p t') : h = h' ∧ t = t' := by
  have hh : h = h' := by
    rcases Nat.lt_trichotomy h h' with hlt | heq | hgt
    · exact (under_disjoint hlt s'.bit s'.under s.under).elim
    · exact heq
    · exact (under_disjoint hgt s.bit s.under s'.under).elim
  subst hh
  refine ⟨rfl, ?_⟩
  obtain ⟨t0, ht0, hd, hm⟩ := s.tree
  obtain ⟨t0', ht0', _, hm'⟩ := s'.tree
  rw [ht0] at ht0'
  injection ht0' with e
  subst e
  have := subs_unique t0 h _ hd _ hm _ hm' rfl
  exact (Prod.mk.inj this).2

theorem SubAtT.row_le {F : Forest H} {h : Nat} {p : Pos} {t : CTree H} (s : SubAtT F h p t) :
    p.1 ≤ h := s.under.1

theorem SubAtT.root_iff {F : Forest H} {h : Nat} {p : Pos} {t : CTree H} (s : SubAtT F h p t) :
    isRootPos F.numLeaves p = true ↔ p.1 = h := by
  constructor
  · intro hr
    unfold isRootPos at hr
    simp only [Bool.and_eq_true, beq_iff_eq] at hr
    rcases Nat.lt_or_ge p.1 h with hlt | hge
    · exfalso
      have u : Under p.1 (2 * (F.numLeaves >>> (p.1 + 1))) p := by
        rw [← hr.2]; exact Under.self _ _
      exact under_disjoint hlt s.bit s.under u
    · have := s.row_le; omega
  · intro e
    have u := s.under
    unfold isRootPos
    simp only [Bool.and_eq_true, beq_iff_eq]
    rw [e]
    refine ⟨s.bit, ?_⟩
    have := u.2
    rw [e, Nat.sub_self, Nat.pow_zero, Nat.div_one] at this
    exact this

theorem SubAtT.root {F : Forest H} {h : Nat} {t0 : CTree H} (hh : h ∈ treeRows F.numLeaves)
    (ht0 : collapse h ((F.slots.drop (treeStart F.numLeaves h)).take (2 ^ h)) = some t0) :
    SubAtT F h (rootPos F.numLeaves h) t0 :=
  SubAtT.of_tree hh ht0 (subs_head t0 _ _)

theorem SubAtT.children {F : Forest H} {h : Nat} {p : Pos} {a b : CTree H}
    (s : SubAtT F h p (.node a b)) :
    1 ≤ p.1 ∧ SubAtT F h (p.1 - 1, 2 * p.2) a ∧ SubAtT F h (p.1 - 1, 2 * p.2 + 1) b := by
  obtain ⟨t0, ht0, hd, hm⟩ := s.tree
  obtain ⟨h1, h2⟩ := subs_children t0 h _ hm
  exact ⟨(depth_children (subs_depth t0 h _ hd _ hm)).2.2, SubAtT.of_tree s.1 ht0 h1,
    SubAtT.of_tree s.1 ht0 h2⟩

theorem SubAtT.parent {F : Forest H} {h : Nat} {p : Pos} {t : CTree H} (s : SubAtT F h p t)
    (hr : isRootPos F.numLeaves p = false) :
    p.1 < h ∧ ∃ s' : CTree H,
      SubAtT F h (Spec.parent p) (if p.2 % 2 = 0 then CTree.node t s' else CTree.node s' t) ∧
      SubAtT F h (sib p) s' := by
  obtain ⟨t0, ht0, hd, hm⟩ := s.tree
  rcases subs_parent t0 h _ hd _ hm with e | ⟨hlt, s', h1, h2⟩
  · exfalso
    have : p.1 = h := by
      have := congrArg (fun x => x.1.1) e
      simpa using this
    rw [(s.root_iff).2 this] at hr
    cases hr
  · exact ⟨hlt, s', SubAtT.of_tree s.1 ht0 h1, SubAtT.of_tree s.1 ht0 h2⟩

theorem SubAtT.sub {F : Forest H} {h : Nat} {p q : Pos} {t s : CTree H} (st : SubAtT F h p t)
    (hq : (q, s) ∈ subs t p.1 p.2) : SubAtT F h q s := by
  obtain ⟨t0, ht0, _, hm⟩ := st.tree
  exact SubAtT.of_tree st.1 ht0 (subs_sub t0 h _ _ hm _ hq)

theorem SubAtT.leaves_live {F : Forest H} {h : Nat} {p : Pos} {t : CTree H} (s : SubAtT F h p t) :
    ∀ l ∈ t.leaves, l ∈ F.liveLeaves := by
  intro l hl
  obtain ⟨t0, ht0, _, hm⟩ := s.tree
  exact treeOf_leaves_live ht0 l (subs_leaves t0 h _ _ hm l hl)

theorem SubAtT.of_under {F : Forest H} {h h' : Nat} {p q : Pos} {t s : CTree H}
    (st : SubAtT F h p t) (ss : SubAtT F h' q s) (hu : Under p.1 p.2 q) :
    h = h' ∧ (q, s) ∈ subs t p.1 p.2 := by
  have uq := st.under.trans_under hu
  have hh : h = h' := by
    rcases Nat.lt_trichotomy h h' with hlt | heq | hgt
    · exact (under_disjoint hlt ss.bit ss.under uq).elim
    · exact heq
    · exact (under_disjoint hgt st.bit uq ss.under).elim
  subst hh
  obtain ⟨t0, ht0, hd, hm⟩ := st.tree
  obtain ⟨t0', ht0', _, hm'⟩ := ss.tree
  rw [ht0] at ht0'
  cases ht0'
  exact ⟨rfl, subs_of_under t0 h _ hd _ hm _ hm' hu⟩

theorem SubAtT.anc {F : Forest H} {h : Nat} {p : Pos} {t : CTree H} (s : SubAtT F h p t) {d : Nat}
    (hd : p.1 + d ≤ h) : ∃ ta, SubAtT F h (p.1 + d, p.2 / 2 ^ d) ta ∧
      (p, t) ∈ subs ta (p.1 + d) (p.2 / 2 ^ d) := by
  have ex : ∃ ta, SubAtT F h (p.1 + d, p.2 / 2 ^ d) ta := by
    induction d with
    | zero => exact ⟨t, by simpa using s⟩
    | succ d ih =>
      obtain ⟨ta, sa⟩ := ih (by omega)
      have hnr : isRootPos F.numLeaves (p.1 + d, p.2 / 2 ^ d) = false := by
        cases hr : isRootPos F.numLeaves (p.1 + d, p.2 / 2 ^ d) with
        | false => rfl
        | true => have := (sa.root_iff).1 hr; simp only at this; omega
      obtain ⟨_, s', hpar, _⟩ := sa.parent hnr
      have e : Spec.parent (p.1 + d, p.2 / 2 ^ d) = (p.1 + (d + 1), p.2 / 2 ^ (d + 1)) := by
        simp only [Spec.parent, Prod.mk.injEq]
        refine ⟨by omega, ?_⟩
        rw [Nat.div_div_eq_div_mul, ← Nat.pow_succ]
      rw [e] at hpar
      exact ⟨_, hpar⟩
  obtain ⟨ta, sa⟩ := ex
  refine ⟨ta, sa, (sa.of_under s ⟨Nat.le_add_right _ _, ?_⟩).2⟩
  show p.2 / 2 ^ (p.1 + d - p.1) = p.2 / 2 ^ d
  rw [Nat.add_sub_cancel_left]

inductive NodeOf (F : Forest H) : Pos × H × Bool → Prop
  | sub {h p t} : SubAtT F h p t → NodeOf F (p, t.hash, isLeaf t)
  | empty {h} : h ∈ treeRows F.numLeaves → PollardLookup.treeOf F h = none →
      NodeOf F (rootPos F.numLeaves h, zero, false)

theorem mem_nodes_iff {F : Forest H} {x : Pos × H × Bool} : x ∈ F.nodes ↔ NodeOf F x := by
  constructor
  · intro hx
    obtain ⟨h, hh, hx'⟩ := mem_nodes.1 hx
    unfold treeNodes at hx'
    split at hx'
    · rename_i t0 ht0
      obtain ⟨s, hm, h1, h2⟩ := mem_nodes_iff_subs.1 hx'
      obtain ⟨p, v, f⟩ := x
      simp only at hm h1 h2
      rw [h1, h2]
      exact .sub (SubAtT.of_tree hh.2 ht0 hm)
    · rename_i ht0
      rw [List.mem_singleton] at hx'
      subst hx'
      exact .empty hh.2 ht0
  · intro hx
    cases hx with
    | sub s => exact s.node_mem
    | empty hh ht0 =>
      refine mem_nodes.2 ⟨_, ⟨(Spec.mem_treeRows.1 hh).2, hh⟩, ?_⟩
      unfold treeNodes
      rw [show collapse _ _ = none from ht0]
      exact List.mem_singleton.2 rfl

theorem mem_nodes_sub {F : Forest H} {p : Pos} {v : H} {lf : Bool} (hm : (p, v, lf) ∈ F.nodes)
    (hz : v ≠ zero ∨ lf = true) : ∃ h t, SubAtT F h p t ∧ t.hash = v ∧ isLeaf t = lf := by
  generalize he : (p, v, lf) = x at hm
  cases mem_nodes_iff.1 hm with
  | empty _ _ =>
    obtain ⟨_, e⟩ := Prod.mk.inj he
    obtain ⟨rfl, rfl⟩ := Prod.mk.inj e
    rcases hz with hz | hz
    · exact absurd rfl hz
    · cases hz
  | @sub h q t s =>
    obtain ⟨rfl, e⟩ := Prod.mk.inj he
    obtain ⟨rfl, rfl⟩ := Prod.mk.inj e
    exact ⟨h, t, s, rfl, rfl⟩

theorem SubAtT.no_empty_under {F : Forest H} {h h' : Nat} {p q : Pos} {t : CTree H}
    (s : SubAtT F h p t) (u : Under h (2 * (F.numLeaves >>> (h + 1))) q)
    (hh : h' ∈ treeRows F.numLeaves) (ht : PollardLookup.treeOf F h' = none) : q ≠ rootPos F.numLeaves h' := by
  intro e
  have hb := (Spec.mem_treeRows.1 hh).2
  have u' : Under h' (2 * (F.numLeaves >>> (h' + 1))) q := by rw [e]; exact Under.self _ _
  have : h = h' := by
    rcases Nat.lt_trichotomy h h' with hlt | heq | hgt
    · exact (under_disjoint hlt hb u' u).elim
    · exact heq
    · exact (under_disjoint hgt s.bit u u').elim
  subst this
  obtain ⟨t0, ht0, _, _⟩ := s.tree
  rw [show collapse _ _ = none from ht] at ht0
  cases ht0

theorem SubAtT.leaf_below {F : Forest H} {h h' : Nat} {p q : Pos} {l : H} {t : CTree H}
    (s : SubAtT F h p (.leaf l)) (s' : SubAtT F h' q t) (hu : Under p.1 p.2 q) : q = p :=
  congrArg Prod.fst (List.mem_singleton.1 (s.of_under s' hu).2)

theorem leaf_entry_below {F : Forest H} {x y : Pos × H × Bool} (hx : x ∈ F.nodes) (hy : y ∈ F.nodes)
    (hl : x.2.2 = true) (hu : Under x.1.1 x.1.2 y.1) : y.1 = x.1 := by
  cases mem_nodes_iff.1 hx with
  | empty _ _ => cases hl
  | @sub h p t s =>
    cases t with
    | node _ _ => cases hl
    | leaf l =>
      cases mem_nodes_iff.1 hy with
      | sub s' => exact s.leaf_below s' hu
      | empty hh ht => exact (s.no_empty_under (s.under.trans_under hu) hh ht rfl).elim

end Proofs.SpecSubs

namespace Proofs.SpecNodes

theorem nodes_functional (F : Forest H) :
    ∀ x ∈ F.nodes, ∀ y ∈ F.nodes, x.1 = y.1 → x = y := by
  intro x hx y hy e
  cases mem_nodes_iff.1 hx with
  | sub s =>
    cases mem_nodes_iff.1 hy with
    | sub s' => cases e; rw [(s.unique s').2]
    | empty hh ht => exact (s.no_empty_under s.under hh ht e).elim
  | empty hh ht =>
    cases mem_nodes_iff.1 hy with
    | sub s' => exact (s'.no_empty_under s'.under hh ht e.symm).elim
    | empty hh' ht' => rw [Prod.ext_iff]; exact ⟨e, rfl⟩

/-- Trap: the conclusion mentions `x` only through projections, so `exact nodeAt_of_mem h` against a
goal `F.nodeAt p = some c` is unified before `h` is elaborated, which is dear; put it in a `have` first. -/
theorem nodeAt_of_mem {F : Forest H} {x : Pos × H × Bool} (hx : x ∈ F.nodes) :
    F.nodeAt x.1 = some x.2.1 := by
  unfold Forest.nodeAt
  cases hf : F.nodes.find? (fun y => y.1 == x.1) with
  | none =>
    have := List.find?_eq_none.1 hf x hx
    simp at this
  | some y =>
    have hy := List.mem_of_find?_eq_some hf
    have hp := List.find?_some hf
    simp only [beq_iff_eq] at hp
    have := nodes_functional F y hy x hx hp
    subst this
    rfl

theorem nodeAt_eq_some_iff {F : Forest H} {p : Pos} {h : H} :
    F.nodeAt p = some h ↔ ∃ b, (p, h, b) ∈ F.nodes := by
  constructor
  · intro hn
    unfold Forest.nodeAt at hn
    cases hf : F.nodes.find? (fun y => y.1 == p) with
    | none => rw [hf] at hn; simp at hn
    | some y =>
      rw [hf] at hn
      simp only [Option.map_some, Option.some.injEq] at hn
      have hy := List.mem_of_find?_eq_some hf
      have hp := List.find?_some hf
      simp only [beq_iff_eq] at hp
      refine ⟨y.2.2, ?_⟩
      rw [← hp, ← hn]
      exact hy
  · rintro ⟨b, hb⟩
    have := nodeAt_of_mem hb
    exact this

theorem rootNode_mem (F : Forest H) (h : Nat) :
    ∃ b, (rootPos F.numLeaves h, treeRoot F h, b) ∈ treeNodes F h := by
  unfold treeNodes treeRoot
  split
  · rename_i t _
    exact ⟨isLeaf t, nodes_head t _ _⟩
  · exact ⟨false, by simp⟩

theorem nodeAt_rootPos (F : Forest H) {h : Nat} (hh : h ∈ treeRows F.numLeaves) :
    F.nodeAt (rootPos F.numLeaves h) = some (treeRoot F h) := by
  obtain ⟨b, hb⟩ := rootNode_mem F h
  exact nodeAt_eq_some_iff.2 ⟨b, mem_nodes.2 ⟨h, ⟨(Spec.mem_treeRows.1 hh).2, hh⟩, hb⟩⟩

/-- The hypothesis on leaves needed for soundness, at its weakest: a live leaf that has moved
up (sits on a row `≥ 1` of the collapsed forest) does not carry a hash of the form `ph a b`
with `a`, `b` non-zero.  (Leaves on row 0 are never a parent position, so they are
unconstrained.  Under `CR` this is also necessary for `children_ok`: the child positions of a
leaf are empty.) -/
def LeafOK (F : Forest H) : Prop :=
  ∀ x ∈ F.nodes, x.2.2 = true → 1 ≤ x.1.1 →
    ∀ a b : H, a ≠ zero → b ≠ zero → x.2.1 ≠ ph a b

theorem leaf_node_live {F : Forest H} {x : Pos × H × Bool} (hx : x ∈ F.nodes)
    (hl : x.2.2 = true) : x.2.1 ∈ F.liveLeaves := by
  cases mem_nodes_iff.1 hx with
  | empty _ _ => cases hl
  | @sub h p t s =>
    cases t with
    | node _ _ => cases hl
    | leaf l => exact s.leaves_live l (List.mem_singleton.2 rfl)

theorem LeafOK.of_liveLeaves {F : Forest H}
    (h : ∀ l ∈ F.liveLeaves, ∀ a b : H, a ≠ zero → b ≠ zero → l ≠ ph a b) : LeafOK F :=
  fun _ hx hl _ => h _ (leaf_node_live hx hl)

theorem nodeAt_below_leaf {F : Forest H} {x : Pos × H × Bool} (hx : x ∈ F.nodes)
    (hl : x.2.2 = true) (h1 : 1 ≤ x.1.1) : F.nodeAt (x.1.1 - 1, 2 * x.1.2) = none := by
  cases hq : F.nodeAt (x.1.1 - 1, 2 * x.1.2) with
  | none => rfl
  | some v =>
    obtain ⟨fl, hy⟩ := nodeAt_eq_some_iff.1 hq
    have hu : Under x.1.1 x.1.2 ((x.1.1 - 1, 2 * x.1.2), v, fl).1 :=
      ⟨Nat.sub_le _ _, by
        show 2 * x.1.2 / 2 ^ (x.1.1 - (x.1.1 - 1)) = x.1.2
        rw [show x.1.1 - (x.1.1 - 1) = 1 by omega, Nat.pow_one, Nat.mul_div_cancel_left _ (by decide)]⟩
    have := congrArg Prod.fst (leaf_entry_below hx hy hl hu)
    simp only at this
    omega

theorem LeafOK.necessary {F : Forest H}
    (hc : ∀ (r o : Nat) (a b : H), F.nodeAt (r + 1, o) = some (ph a b) → a ≠ zero → b ≠ zero →
      F.nodeAt (r, 2 * o) = some a) : LeafOK F := by
  intro x hx hl h1 a b ha hb he
  have hn := nodeAt_of_mem hx
  have hx1 : x.1 = ((x.1.1 - 1) + 1, x.1.2) := by rw [Nat.sub_add_cancel h1]
  rw [hx1, he] at hn
  have := hc _ _ a b hn ha hb
  rw [nodeAt_below_leaf hx hl h1] at this
  cases this

end Proofs.SpecNodes

namespace Proofs.SpecSubs

theorem SubAtT.nodeAt {F : Forest H} {h : Nat} {p : Pos} {t : CTree H} (s : SubAtT F h p t) :
    F.nodeAt p = some t.hash := by
  have := nodeAt_of_mem s.node_mem
  exact this

theorem posOf_sub {F : Forest H} {l : H} {p : Pos} (h : F.posOf l = some p) :
    ∃ hh, SubAtT F hh p (.leaf l) := by
  unfold Forest.posOf at h
  cases hf : F.nodes.find? (fun x => x.2.2 && x.2.1 == l) with
  | none => rw [hf] at h; simp at h
  | some y =>
    rw [hf] at h
    simp only [Option.map_some, Option.some.injEq] at h
    have hp := List.find?_some hf
    simp only [Bool.and_eq_true, beq_iff_eq] at hp
    cases mem_nodes_iff.1 (List.mem_of_find?_eq_some hf) with
    | empty _ _ => cases hp.1
    | @sub hh q t s =>
      cases t with
      | node _ _ => cases hp.1
      | leaf l' =>
        obtain rfl : l' = l := hp.2
        exact ⟨hh, h ▸ s⟩

theorem nodeAt_cases {F : Forest H} {p : Pos} {v : H} (hn : F.nodeAt p = some v) :
    (∃ h t, SubAtT F h p t ∧ t.hash = v) ∨ v = zero := by
  obtain ⟨fl, hx⟩ := nodeAt_eq_some_iff.1 hn
  generalize hxe : (p, v, fl) = x at hx
  cases mem_nodes_iff.1 hx with
  | sub s => cases hxe; exact Or.inl ⟨_, _, s, rfl⟩
  | empty _ _ => cases hxe; exact Or.inr rfl

end Proofs.SpecSubs

namespace Proofs.SpecViewX

/-- the three ways in which a hashed pair `(a, b)` can break the children property of `F` -/
def ForestBad (F : Forest H) (a b : H) : Prop :=
  ph a b = (zero : H) ∨ ph a b ∈ F.upLeaves ∨
    ∃ y ∈ F.nodePairs, ph a b = ph y.1 y.2 ∧ (a, b) ≠ y

instance (F : Forest H) (a b : H) : Decidable (ForestBad F a b) := by
  unfold ForestBad; infer_instance

theorem mem_nodePairs {F : Forest H} {h : Nat} {t : CTree H} {y : H × H}
    (hh : h ∈ treeRows F.numLeaves)
    (ht : collapse h ((F.slots.drop (treeStart F.numLeaves h)).take (2 ^ h)) = some t)
    (hy : y ∈ t.pairs) : y ∈ F.nodePairs := by
  unfold Forest.nodePairs Forest.trees
  rw [List.flatMap_map, List.mem_flatMap]
  refine ⟨h, hh, ?_⟩
  simp only [ht]
  exact hy

theorem mem_upLeaves {F : Forest H} {x : Pos × H × Bool} (hx : x ∈ F.nodes) (hl : x.2.2 = true)
    (h1 : 1 ≤ x.1.1) : x.2.1 ∈ F.upLeaves := by
  unfold Forest.upLeaves
  rw [List.mem_map]
  refine ⟨x, ?_, rfl⟩
  rw [List.mem_filter]
  exact ⟨hx, by simp [hl, h1]⟩

theorem pair_mem {F : Forest H} {h : Nat} {p : Pos} {a b : CTree H}
    (s : SubAtT F h p (.node a b)) : (a.hash, b.hash) ∈ F.nodePairs := by
  obtain ⟨t0, ht0, _, hm⟩ := s.tree
  exact mem_nodePairs s.1 ht0 (mem_pairs_iff_subs.2 ⟨_, _, _, hm, rfl⟩)

theorem nodeAt_children_x {F : Forest H} {r o : Nat} {a b : H}
    (hn : F.nodeAt (r + 1, o) = some (ph a b)) :
    (F.nodeAt (r, 2 * o) = some a ∧ F.nodeAt (r, 2 * o + 1) = some b ∧ (a, b) ∈ F.nodePairs) ∨
      ForestBad F a b := by
  rcases nodeAt_cases hn with ⟨h, t, s, ht⟩ | hz
  · cases t with
    | leaf l =>
      have := mem_upLeaves s.node_mem rfl (Nat.succ_pos r)
      rw [show (CTree.leaf l).hash = ph a b from ht] at this
      exact Or.inr (Or.inr (Or.inl this))
    | node c d =>
      have hp := pair_mem s
      by_cases hab : (a, b) = (c.hash, d.hash)
      · injection hab with h1 h2
        subst h1 h2
        obtain ⟨_, sc, sd⟩ := s.children
        exact Or.inl ⟨sc.nodeAt, sd.nodeAt, hp⟩
      · exact Or.inr (Or.inr (Or.inr ⟨_, hp, ht.symm, hab⟩))
  · exact Or.inr (Or.inl hz)

theorem not_upLeaf_of_leafOK {F : Forest H} (hF : LeafOK F) {a b : H} (ha : a ≠ zero)
    (hb : b ≠ zero) : ph a b ∉ F.upLeaves := by
  intro hmem
  unfold Forest.upLeaves at hmem
  rw [List.mem_map] at hmem
  obtain ⟨x, hx, he⟩ := hmem
  rw [List.mem_filter] at hx
  obtain ⟨hx, hc⟩ := hx
  simp only [Bool.and_eq_true, decide_eq_true_eq] at hc
  exact hF x hx hc.1 hc.2 a b ha hb he

theorem not_forestBad {F : Forest H} (inj : ∀ a b c d : H, ph a b = ph c d → a = c ∧ b = d)
    (nonzero : ∀ a b : H, ph a b ≠ (zero : H)) (hF : LeafOK F) {a b : H} (ha : a ≠ zero)
    (hb : b ≠ zero) : ¬ ForestBad F a b := by
  rintro (h0 | hl | ⟨y, _, he, hne⟩)
  · exact nonzero a b h0
  · exact not_upLeaf_of_leafOK hF ha hb hl
  · exact hne (Prod.ext (inj _ _ _ _ he).1 (inj _ _ _ _ he).2)

end Proofs.SpecViewX

namespace Proofs.SpecNodes

/-- collision-freeness, spelled out (to keep this file independent of `Spec/View.lean`) -/
theorem nodeAt_children {H : Type} [DecidableEq H] [Hasher H] {F : Forest H}
    (inj : ∀ a b c d : H, ph a b = ph c d → a = c ∧ b = d)
    (nonzero : ∀ a b : H, ph a b ≠ (zero : H)) (hF : LeafOK F)
    {r o : Nat} {a b : H} (hn : F.nodeAt (r + 1, o) = some (ph a b))
    (ha : a ≠ zero) (hb : b ≠ zero) :
    F.nodeAt (r, 2 * o) = some a ∧ F.nodeAt (r, 2 * o + 1) = some b := by
  rcases SpecViewX.nodeAt_children_x hn with ⟨h1, h2, _⟩ | hbad
  · exact ⟨h1, h2⟩
  · exact absurd hbad (SpecViewX.not_forestBad inj nonzero hF ha hb)

end Proofs.SpecNodes

end UtreexoVerif
