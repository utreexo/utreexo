/-
  Pointer forest, heap model: the addition path.
  `loop_spec`: the loop of `calculateNewRoot` merges the carried node with the popped roots
  exactly as `Spec`'s `mergeTrees` merges the trailing trees; `addOne_abs_full`: one addition
  preserves the abstraction relation and commutes with `Forest.add`.  At the end `GetRoots`
  (`getRoots_abs`) and the empty accumulator (`abs_new`).
-/
import UtreexoVerif.Proofs.PollardHeapAunt
import UtreexoVerif.Proofs.SpecForest
import UtreexoVerif.Proofs.PollardCalcPos
set_option linter.unusedSectionVars false

namespace UtreexoVerif.Proofs.PollardHeap
open UtreexoVerif.Model.PollardHeap UtreexoVerif.Spec Hasher

variable {H : Type} [DecidableEq H] [Hasher H]

/-- a fresh parent planted above two roots.  `hpE` is the heap `swapNieces(L, R)` left, with a
new node `N` (nieces `L`, `R`, no aunt, the parent hash) at the fresh index; that node is `Unsettled`,
so `updateAunt` of it redirects `L` and `R`: the new node is a root carrying `node tL tR`. -/
theorem planted_repr {hp hpE : Heap H} {L R : Nat} {tL tR : CTree H} {fL fR : List Nat}
    {lL lR : List (H × Nat)} {ln rn N : PolNode H}
    (hL : RootRepr hp L tL fL lL) (hR : RootRepr hp R tR fR lR)
    (hl : hp[L]? = some ln) (hr : hp[R]? = some rn) (ndp : (L :: R :: (fL ++ fR)).Nodup)
    (hE : ∀ j, hpE[j]? = if j = hp.size then some N else (swapped hp L R ln rn)[j]?)
    (hNd : N.data = ph ln.data rn.data) (hNl : N.lNiece = some L) (hNr : N.rNiece = some R)
    (hNa : N.aunt = none) :
    Unsettled hpE hp.size ∧
    RootRepr (setAuntKids hpE hp.size) hp.size (.node tL tR) (L :: R :: (fL ++ fR)) (lL ++ lR) ∧
    (∀ i, i ∉ L :: R :: (fL ++ fR) → i ≠ hp.size → (setAuntKids hpE hp.size)[i]? = hp[i]?) ∧
    (setAuntKids hpE hp.size)[hp.size]? = some N ∧
    (setAuntKids hpE hp.size)[L]? =
      some { ln with lNiece := rn.lNiece, rNiece := rn.rNiece, aunt := some hp.size } ∧
    (setAuntKids hpE hp.size)[R]? =
      some { rn with lNiece := ln.lNiece, rNiece := ln.rNiece, aunt := some hp.size } := by
  obtain ⟨⟨ln0, el0, al0⟩, sL⟩ := hL
  obtain ⟨⟨rn0, er0, ar0⟩, sR⟩ := hR
  cases hl.symm.trans el0
  cases hr.symm.trans er0
  obtain ⟨hCL, hCR, frC, sLs, sRs⟩ := swapped_subs hl hr sL sR (Or.inl ⟨rfl, rfl⟩) ndp
  have lt : ∀ i ∈ L :: R :: (fL ++ fR), i ∉ [hp.size] := fun i hi => by
    have : i < hp.size := by
      simp only [List.mem_cons, List.mem_append] at hi
      rcases hi with rfl | rfl | hi | hi
      · exact lt_of_get hl
      · exact lt_of_get hr
      · exact sL.fp_lt i hi
      · exact sR.fp_lt i hi
    exact fun h => Nat.ne_of_lt this (List.mem_singleton.1 h)
  have oE : Off [hp.size] (swapped hp L R ln rn) hpE := fun j hj => by
    rw [hE, if_neg (by simpa using hj)]
  have eN : hpE[hp.size]? = some N := by rw [hE, if_pos rfl]
  have nL := lt L (by simp)
  have nR := lt R (by simp)
  have sLE := sLs.off oE nL nR (fun i hi => lt i (by simp [hi]))
  have sRE := sRs.off oE nR nL (fun i hi => lt i (by simp [hi]))
  have ndE : (hp.size :: L :: R :: (fL ++ fR)).Nodup :=
    List.nodup_cons.2 ⟨fun h => lt _ h (by simp), ndp⟩
  have eL := (oE L nL).trans hCL
  have eR := (oE R nR).trans hCR
  simp only [List.nodup_cons, List.mem_cons, List.mem_append, not_or, List.nodup_append] at ndE
  obtain ⟨⟨nhl, nhr, _, _⟩, ⟨nlr, nlfa, nlfb⟩, ⟨nrfa, nrfb⟩, _⟩ := ndE
  have wl : HoldsSub hpE L L R { ln with lNiece := rn.lNiece, rNiece := rn.rNiece } := Or.inr ⟨R, tR, fR, lR, sRE, nlfb, nrfb⟩
  have wr : HoldsSub hpE R L R { rn with lNiece := ln.lNiece, rNiece := ln.rNiece } := Or.inr ⟨L, tL, fL, lL, sLE, nlfa, nrfa⟩
  have aL : ({ ln with lNiece := rn.lNiece, rNiece := rn.rNiece } : PolNode H).aunt ≠ some hp.size := by
    simp [al0]
  have aR : ({ rn with lNiece := ln.lNiece, rNiece := ln.rNiece } : PolNode H).aunt ≠ some hp.size := by
    simp [ar0]
  obtain ⟨o, _, eL', eR'⟩ := setAuntKids_pair eN hNl hNr eL eR (Ne.symm nhl) (Ne.symm nhr)
  have eN' := (o hp.size (by simp [nhl, nhr])).trans eN
  refine ⟨unsettled_of_holds eN hNl hNr eL eR aL aR nlr (Ne.symm nhl) (Ne.symm nhr) wl wr,
    ⟨⟨_, eN', hNa⟩, Sub.node eN' ?_ eN' hNl hNr eL' eR' rfl rfl
      (sLE.frame_of eL eL' rfl eR eR' rfl rfl fun i hi => o i (by simp; exact ⟨fun e => nlfa (e ▸ hi), fun e => nrfa (e ▸ hi)⟩))
      (sRE.frame_of eR eR' rfl eL eL' rfl rfl fun i hi => o i (by simp; exact ⟨fun e => nlfb (e ▸ hi), fun e => nrfb (e ▸ hi)⟩))⟩,
    ?_, eN', eL', eR'⟩
  · rw [hNd, sL.data_eq hl, sR.data_eq hr]
  · intro i hi h5
    have hi' := hi
    simp only [List.mem_cons, List.mem_append, not_or] at hi'
    rw [o i (by simp [hi'.1, hi'.2.1]), oE i (by simpa using h5), frC i hi]

theorem mergeHeap_repr {hp : Heap H} {root nd : Nat} {tR tN : CTree H} {fR fN : List Nat}
    {lR lN : List (H × Nat)} {rn nn : PolNode H}
    (hR : RootRepr hp root tR fR lR) (hN : RootRepr hp nd tN fN lN)
    (hr : hp[root]? = some rn) (hn : hp[nd]? = some nn)
    (ndp : (root :: nd :: (fR ++ fN)).Nodup) :
    RootRepr (mergeHeap hp root nd rn nn) hp.size (.node tR tN) (root :: nd :: (fR ++ fN)) (lR ++ lN) ∧
    (∀ i, i ∉ root :: nd :: (fR ++ fN) → i ≠ hp.size →
      (mergeHeap hp root nd rn nn)[i]? = hp[i]?) ∧
    (∃ x, (mergeHeap hp root nd rn nn)[hp.size]? = some x ∧ x.remember = true) := by
  rw [mergeHeap_def]
  obtain ⟨_, h1, h2, h3, _⟩ := planted_repr hR hN hr hn ndp (getElem?_mergePre hp root nd rn nn)
    (N := newRootNode rn nn root nd) rfl rfl rfl rfl
  exact ⟨h1, h2, _, h3, rfl⟩

theorem loop_merge (fuel h : Nat) (hp : Heap H) (nm : List (H × Nat)) (nl ndl : U64)
    (nd root : Nat) (rs : List Nat) (rn nn : PolNode H)
    {tR tN : CTree H} {fR fN : List Nat} {lR lN : List (H × Nat)}
    (hbit : nl.toNat.testBit h = true)
    (hR : RootRepr hp root tR fR lR) (hN : RootRepr hp nd tN fN lN)
    (hr : hp[root]? = some rn) (hn : hp[nd]? = some nn)
    (ndp : (root :: nd :: (fR ++ fN)).Nodup)
    (hnz : rn.data ≠ zero) (hrem : nn.remember = true) :
    calculateNewRootLoop (fuel + 1) h nd ⟨hp, nm, rs ++ [root], nl, ndl, true⟩ =
      calculateNewRootLoop fuel (h + 1) hp.size
        ⟨mergeHeap hp root nd rn nn, nm, rs, nl, ndl, true⟩ := by
  have eSwap := swapNieces_subs hr hn hR.2 hN.2 ndp nm rs nl ndl true
  obtain ⟨hCroot, hCnd, _⟩ := swapped_subs hr hn hR.2 hN.2 (Or.inl ⟨rfl, rfl⟩) ndp
  obtain ⟨hpE, hpE_def⟩ : ∃ hpE : Heap H, hpE = ((swapped hp root nd rn nn).push
      { data := ph rn.data nn.data, lNiece := some root, rNiece := some nd }).modify hp.size
      (fun x => { x with remember := true }) := ⟨_, rfl⟩
  have hE : ∀ j, hpE[j]? = if j = hp.size then some (newRootNode rn nn root nd)
      else (swapped hp root nd rn nn)[j]? := by
    intro j; rw [hpE_def]; exact getElem?_mergePre hp root nd rn nn j
  obtain ⟨u3, _, _, e_size, e_root, e_nd⟩ := planted_repr hR hN hr hn ndp hE rfl rfl rfl rfl
  have eUpd := updateAunt'_kids hp.size hpE nm rs nl ndl true u3
  have hF : setAuntKids hpE hp.size = mergeHeap hp root nd rn nn := by
    rw [hpE_def, mergeHeap_def]
  rw [hF] at e_size e_root e_nd
  have ePrune := prune_noop (mergeHeap hp root nd rn nn) nm rs nl ndl true hp.size root nd _ _ _
    e_size rfl rfl e_root e_nd (Or.inr hrem)
  rw [calculateNewRootLoop, bind_ok getNumLeaves_run, PollardCalcPos.bit_test_eq, hbit, if_pos rfl,
    bind_ok getRoots_run]
  simp only [List.getLast?_concat, List.dropLast_concat]
  refine (bind_ok setRoots_run).trans ?_
  rw [bind_ok (node_run hr), if_neg hnz, bind_ok eSwap, bind_ok (node_run hCroot), bind_ok (node_run hCnd),
    bind_ok alloc_run, bind_ok getFull_run, if_pos rfl, bind_ok setNode_run, size_swapped, ← hpE_def,
    bind_ok eUpd, hF, bind_ok ePrune]

theorem loop_done (fuel h nd : Nat) (s : Pollard H) (hbit : s.numLeaves.toNat.testBit h = false) :
    calculateNewRootLoop (fuel + 1) h nd s = (.ok nd, s) := by
  obtain ⟨hp, nm, rs, nl, ndl, full⟩ := s
  rw [calculateNewRootLoop, bind_ok getNumLeaves_run, PollardCalcPos.bit_test_eq, hbit]
  rfl

theorem loop_skip (fuel h : Nat) (hp : Heap H) (nm : List (H × Nat)) (nl ndl : U64) (f : Bool)
    (nd root : Nat) (rs : List Nat) (rn : PolNode H)
    (hbit : nl.toNat.testBit h = true) (hr : hp[root]? = some rn) (hz : rn.data = zero) :
    calculateNewRootLoop (fuel + 1) h nd ⟨hp, nm, rs ++ [root], nl, ndl, f⟩ =
      calculateNewRootLoop fuel (h + 1) nd ⟨hp, nm, rs, nl, ndl, f⟩ := by
  rw [calculateNewRootLoop, bind_ok getNumLeaves_run, PollardCalcPos.bit_test_eq, hbit, if_pos rfl,
    bind_ok getRoots_run]
  simp only [List.getLast?_concat, List.dropLast_concat]
  refine (bind_ok setRoots_run).trans ?_
  rw [bind_ok (node_run hr), if_pos hz]

/-- merging popped roots (highest first) into the carried tree, from the right; an empty root
is skipped -/
def mergeC (ts : List (Option (CTree H))) (acc : CTree H) : CTree H :=
  ts.foldr (fun t acc => match t with
    | some t => .node t acc
    | none => acc) acc

theorem mergeC_append (a b : List (Option (CTree H))) (acc : CTree H) :
    mergeC (a ++ b) acc = mergeC a (mergeC b acc) := by
  unfold mergeC; rw [List.foldr_append]

theorem mergeTrees_eq_mergeC (ts : List (Nat × Option (CTree H))) (acc : CTree H) :
    mergeTrees ts (some acc) = some (mergeC (ts.map (·.2)) acc) := by
  induction ts with
  | nil => rfl
  | cons p ts ih =>
    unfold mergeTrees at ih ⊢
    simp only [List.foldr_cons, List.map_cons, mergeC] at ih ⊢
    rw [ih]
    cases p.2 <;> rfl

/-- the loop of `calculateNewRoot` on the `k` trailing roots `rsLow`: `Trail (nl >>> h) k` says that from row `h` on the
leaf count has exactly `k` one digits, so the loop pops `k` roots and stops.  The footprint `fp'` of the new root is made
of nodes of the popped trees, of the carried tree and of freshly allocated ones (`hp.size ≤ i`). -/
theorem loop_spec : ∀ (k : Nat) (tsLow : List (Option (CTree H))), tsLow.length = k →
    ∀ (rsLow rsHigh : List Nat) (fuel h : Nat) (hp : Heap H) (nm : List (H × Nat)) (nl ndl : U64)
      (nd : Nat) (acc : CTree H) (fN : List Nat) (lN : List (H × Nat)) (ownedLow : List Nat)
      (lvLow : List (H × Nat)),
    k + 1 ≤ fuel → Trail (nl.toNat >>> h) k →
    ReprRoots hp rsLow tsLow ownedLow lvLow →
    RootRepr hp nd acc fN lN →
    (nd :: fN ++ ownedLow).Nodup →
    (∀ t', some t' ∈ tsLow → t'.hash ≠ zero) →
    (∃ x, hp[nd]? = some x ∧ x.remember = true) →
    ∃ nd' hp' fp',
      calculateNewRootLoop fuel h nd ⟨hp, nm, rsHigh ++ rsLow, nl, ndl, true⟩ =
        (.ok nd', ⟨hp', nm, rsHigh, nl, ndl, true⟩) ∧
      RootRepr hp' nd' (mergeC tsLow acc) fp' (lvLow ++ lN) ∧
      (nd' :: fp').Nodup ∧
      (∀ i ∈ nd' :: fp', i ∈ nd :: fN ++ ownedLow ∨ hp.size ≤ i) ∧
      hp.size ≤ hp'.size ∧
      (∀ i, i < hp.size → i ∉ nd :: fN ++ ownedLow → hp'[i]? = hp[i]?) := by
  intro k
  induction k with
  | zero =>
    intro tsLow hk rsLow rsHigh fuel h hp nm nl ndl nd acc fN lN ownedLow lvLow hfuel tr
      hroots hN ndp hnz hrem
    have : tsLow = [] := List.length_eq_zero_iff.mp hk
    subst this
    cases hroots
    obtain ⟨f, rfl⟩ : ∃ f, fuel = f + 1 :=
      ⟨fuel - 1, (Nat.sub_add_cancel (Nat.le_trans (Nat.le_add_left 1 _) hfuel)).symm⟩
    refine ⟨nd, hp, fN, ?_, ?_, ?_, ?_, Nat.le_refl _, fun _ _ _ => rfl⟩
    · rw [loop_done f h nd _ (by have := tr.clear; rwa [Nat.testBit_shiftRight] at this)]; simp
    · simpa [mergeC] using hN
    · simp only [List.append_nil] at ndp; exact ndp
    · intro i hi; left; simpa using hi
  | succ k ih =>
    intro tsLow hk rsLow rsHigh fuel h hp nm nl ndl nd acc fN lN ownedLow lvLow hfuel tr
      hroots hN ndp hnz hrem
    obtain ⟨init, tl, rfl, hinit⟩ := snoc_of_length hk
    obtain ⟨rinit, r2, o1, o2, l1, l2, e1, e2, e3, hr1, hr2⟩ := hroots.append_inv
    obtain ⟨rl, fpl, e4, e5, hrl⟩ := hr2.single_inv
    subst e1 e2 e3 e4 e5
    obtain ⟨f, rfl⟩ : ∃ f, fuel = f + 1 :=
      ⟨fuel - 1, (Nat.sub_add_cancel (Nat.le_trans (Nat.le_add_left 1 _) hfuel)).symm⟩
    obtain ⟨hb0, tr'⟩ := tr.shift
    rw [Nat.testBit_shiftRight] at hb0
    rw [← Nat.shiftRight_add] at tr'
    have hlt : ∀ i ∈ nd :: fN ++ (o1 ++ rl :: fpl), i < hp.size := by
      intro i hi
      rcases List.mem_append.1 hi with hi | hi
      · obtain ⟨⟨x, ex, _⟩, sN⟩ := hN
        rcases List.mem_cons.1 hi with rfl | hi
        · exact lt_of_get ex
        · exact sN.fp_lt i hi
      · exact hroots.lt i hi
    rw [← List.append_assoc]
    cases tl with
    | none =>
      -- an empty root: skipped; its node leaves the footprint
      obtain ⟨⟨rn, hr, _, hz, _, _⟩, hfp, hlv⟩ := hrl
      subst hfp hlv
      rw [loop_skip f h hp nm nl ndl true nd rl (rsHigh ++ rinit) rn hb0 hr hz]
      rw [List.append_assoc]
      have sub : (nd :: fN ++ o1).Sublist (nd :: fN ++ (o1 ++ [rl])) :=
        (List.Sublist.refl _).append (List.sublist_append_left o1 [rl])
      obtain ⟨nd', hp', fp', h1, h2, h3, h4, h5, h6⟩ := ih init hinit rinit rsHigh f (h + 1) hp nm nl
        ndl nd acc fN lN o1 l1 (Nat.le_of_succ_le_succ hfuel) tr' hr1 hN (ndp.sublist sub)
        (fun t' ht => hnz t' (by simp [ht])) hrem
      refine ⟨nd', hp', fp', h1, ?_, h3, ?_, h5, ?_⟩
      · simpa [mergeC_append, mergeC] using h2
      · intro i hi
        exact (h4 i hi).imp (fun h => sub.subset h) id
      · intro i hi hni
        exact h6 i hi (fun h => hni (sub.subset h))
    | some t =>
      -- a live root: merged.  The footprints of the step are those of the invariant, reordered.
      have hRl : RootRepr hp rl t fpl l2 := hrl
      obtain ⟨⟨rn, hr, _⟩, sR⟩ := hRl
      obtain ⟨x, hx, hxrem⟩ := hrem
      have hdata : rn.data ≠ zero := by
        rw [sR.data_eq hr]; exact hnz t (by simp)
      have P : (rl :: nd :: (fpl ++ fN) ++ o1).Perm (nd :: fN ++ (o1 ++ rl :: fpl)) := by perm_count
      have ndP := P.nodup_iff.2 ndp
      obtain ⟨ndm, _, hdisj⟩ := List.nodup_append.1 ndP
      rw [loop_merge f h hp nm nl ndl nd rl (rsHigh ++ rinit) rn x hb0 hrl hN hr hx ndm hdata hxrem]
      obtain ⟨m1, m2, m3⟩ := mergeHeap_repr hrl hN hr hx ndm
      have hsz := size_mergeHeap hp rl nd rn x
      rw [List.append_assoc]
      have hr1' : ReprRoots (mergeHeap hp rl nd rn x) rinit init o1 l1 :=
        hr1.frame fun i hi => m2 i (fun h => hdisj i h i hi rfl) (Nat.ne_of_lt (hr1.lt i hi))
      obtain ⟨nd', hp', fp', h1, h2, h3, h4, h5, h6⟩ := ih init hinit rinit rsHigh f (h + 1)
        (mergeHeap hp rl nd rn x) nm nl ndl hp.size (.node t acc) (rl :: nd :: (fpl ++ fN)) (l2 ++ lN)
        o1 l1 (Nat.le_of_succ_le_succ hfuel) tr' hr1' m1
        (List.nodup_cons.2 ⟨fun h => Nat.lt_irrefl _ (hlt _ (P.mem_iff.1 h)), ndP⟩)
        (fun t' ht => hnz t' (by simp [ht])) m3
      refine ⟨nd', hp', fp', h1, ?_, h3, ?_, Nat.le_of_succ_le (hsz ▸ h5 : hp.size + 1 ≤ hp'.size), ?_⟩
      · simpa [mergeC_append, mergeC, List.append_assoc] using h2
      · intro i hi
        rcases h4 i hi with h | h
        · rcases List.mem_cons.1 h with rfl | h
          · exact Or.inr (Nat.le_refl _)
          · exact Or.inl (P.mem_iff.1 h)
        · exact Or.inr (Nat.le_of_succ_le (hsz ▸ h : hp.size + 1 ≤ i))
      · intro i hi hni
        have hni' : i ∉ rl :: nd :: (fpl ++ fN) ++ o1 := fun h => hni (P.mem_iff.1 h)
        rw [h6 i (by rw [hsz]; exact Nat.lt_succ_of_lt hi)
          (fun h => (List.mem_cons.1 h).elim (fun e => Nat.lt_irrefl _ (e ▸ hi)) hni')]
        exact m2 i (fun h => hni' (List.mem_append_left _ h)) (Nat.ne_of_lt hi)

theorem ReprRoots.replace_suffix {hp hp' : Heap H} {rsHi rsLo' : List Nat}
    {hi lo' : List (Option (CTree H))} {oHi oLo oLo' : List Nat} {lHi lLo' : List (H × Nat)}
    (hHi : ReprRoots hp rsHi hi oHi lHi) (nd : (oHi ++ oLo).Nodup)
    (hLo' : ReprRoots hp' rsLo' lo' oLo' lLo') (ndLo' : oLo'.Nodup)
    (hsub : ∀ i ∈ oLo', i ∈ oLo ∨ hp.size ≤ i)
    (hframe : ∀ i, i < hp.size → i ∉ oLo → hp'[i]? = hp[i]?) :
    ReprRoots hp' (rsHi ++ rsLo') (hi ++ lo') (oHi ++ oLo') (lHi ++ lLo') ∧ (oHi ++ oLo').Nodup := by
  rw [List.nodup_append] at nd ⊢
  obtain ⟨ndHi, _, dis⟩ := nd
  refine ⟨(hHi.frame fun i hi => hframe i (hHi.lt i hi) (fun h => dis i hi i h rfl)).append hLo',
    ndHi, ndLo', ?_⟩
  intro i hi j hj e
  subst e
  rcases hsub i hj with h | h
  · exact dis i hi i h rfl
  · exact Nat.lt_irrefl _ (Nat.lt_of_lt_of_le (hHi.lt i hi) h)

/-- what lets `calculateNewRoot` recognise empty roots by their all-zero data -/
def TreesNZ (F : Forest H) : Prop := ∀ q ∈ F.trees, ∀ t', q.2 = some t' → t'.hash ≠ (zero : H)

theorem hash_mergeC_ne_zero (hph : NZ H) (ts : List (Option (CTree H)))
    (acc : CTree H) (hacc : acc.hash ≠ zero) : (mergeC ts acc).hash ≠ zero := by
  induction ts with
  | nil => exact hacc
  | cons t ts ih =>
    unfold mergeC at ih ⊢
    simp only [List.foldr_cons]
    cases t with
    | none => exact ih
    | some t => exact hph.nonzero _ _

theorem trees_add_split (F : Forest H) (x : H) (hn : F.numLeaves < 2 ^ 64) :
    ∃ (t : Nat) (hi lo : List (Nat × Option (CTree H))), Trail F.numLeaves t ∧ t ≤ 64 ∧
      F.trees = hi ++ lo ∧ lo.length = t ∧
      (F.add x).trees = hi ++ [(t, some (mergeC (lo.map (·.2)) (.leaf x)))] := by
  obtain ⟨t, hi, lo, tr, ht, e, _, hlo, eadd⟩ := trees_add_parts F x hn
  refine ⟨t, hi, lo, tr, ht, e, ?_, by rw [eadd, mergeTrees_eq_mergeC]⟩
  rw [← List.length_map (f := (·.1)), hlo, List.length_reverse, List.length_range]

theorem treesNZ_add (hph : NZ H) {F : Forest H} (h : TreesNZ F) (x : H)
    (hx : x ≠ zero) (hn : F.numLeaves < 2 ^ 64) : TreesNZ (F.add x) := by
  obtain ⟨t, hi, lo, _, _, e1, _, e2⟩ := trees_add_split F x hn
  intro q hq t' ht'
  rw [e2, List.mem_append] at hq
  rcases hq with hq | hq
  · exact h q (by rw [e1]; exact List.mem_append_left _ hq) t' ht'
  · simp only [List.mem_singleton] at hq
    subst hq
    simp only [Option.some.injEq] at ht'
    subst ht'
    exact hash_mergeC_ne_zero hph _ _ hx

theorem addOne_abs_full {p : Pollard H} {F : Forest H} (a : Abs p F) (hfull : p.full = true)
    (hn : F.numLeaves + 1 < 2 ^ 64) (x : H) (rem : Bool) (hx : x ∉ p.nodeMap.map (·.1))
    (hnz : TreesNZ F) :
    ∃ p', addOne (x, rem) p = (.ok (), p') ∧ Abs p' (F.add x) ∧ p'.full = true ∧
      p'.nodeMap = (x, p.heap.size) :: p.nodeMap ∧ p'.numDels = p.numDels := by
  obtain ⟨hp, nm, roots, nl, ndl, full⟩ := p
  simp only at hfull hx
  subst hfull
  obtain ⟨hnl, owned, lv, hroots, hnd, hmk, hm⟩ := a
  simp only at hnl hroots hm hmk
  obtain ⟨t, tsHigh, tsLow, tr, ht, esplit, hlen, eadd⟩ := trees_add_split F x (Nat.lt_of_succ_lt hn)
  rw [esplit, List.map_append] at hroots
  obtain ⟨rsHigh, rsLow, oHigh, oLow, lHigh, lLow, e1, e2, e3, hHigh, hLow⟩ := hroots.append_inv
  subst e1 e2 e3
  obtain ⟨hp0, hp0_def⟩ : ∃ hp0 : Heap H, hp0 = (hp.push { data := x, remember := rem }).modify hp.size
      (fun y => { y with remember := true }) := ⟨_, rfl⟩
  have e0 : ∀ j, hp0[j]? = if j = hp.size then some { data := x, remember := true } else hp[j]? := by
    intro j
    rw [hp0_def, Array.getElem?_modify, Array.getElem?_push]
    by_cases hj : j = hp.size
    · subst hj; simp
    · simp [hj, Ne.symm hj]
  have hsz0 : hp0.size = hp.size + 1 := by rw [hp0_def]; simp
  have e0' : ∀ j, j < hp.size → hp0[j]? = hp[j]? := by
    intro j hj; rw [e0, if_neg (Nat.ne_of_lt hj)]
  have eleaf : hp0[hp.size]? = some { data := x, remember := true } := by rw [e0]; simp
  have hLow0 : ReprRoots hp0 rsLow _ oLow lLow := hLow.frame (fun i hi => e0' i (hLow.lt i hi))
  have hN0 : RootRepr hp0 hp.size (.leaf x) [] [(x, hp.size)] :=
    ⟨⟨_, eleaf, rfl⟩, Sub.leaf eleaf rfl eleaf rfl rfl⟩
  obtain ⟨nd', hp', fp', h1, h2, h3, h4, h5, h6⟩ := loop_spec t (tsLow.map (·.2))
    (by rw [List.length_map, hlen]) rsLow rsHigh 65 0 hp0 ((x, hp.size) :: nm) nl ndl hp.size (.leaf x) []
    [(x, hp.size)] oLow lLow (Nat.succ_le_succ ht) (by rw [hnl]; exact tr)
    hLow0 hN0
    (by
      have := hLow.lt
      simp only [List.nil_append, List.cons_append, List.nodup_cons]
      refine ⟨fun h => ?_, ?_⟩
      · exact Nat.lt_irrefl _ (this _ h)
      · simp only [List.nodup_append] at hnd; exact hnd.2.1)
    (by
      intro t' ht'
      simp only [List.mem_map] at ht'
      obtain ⟨q, hq, e⟩ := ht'
      exact hnz q (by rw [esplit]; exact List.mem_append_right _ hq) t' e)
    ⟨_, eleaf, rfl⟩
  refine ⟨⟨hp', (x, hp.size) :: nm, rsHigh ++ [nd'], nl + 1#64, ndl, true⟩, ?_, ?_, rfl, rfl, rfl⟩
  · -- the fuel 65 of `calculateNewRoot`: one iteration per row of a `uint64` leaf count, and the one that stops
    unfold addOne calculateNewRoot
    simp only [bind_apply, alloc_apply, getFull_apply, if_true, setNode_apply, node_apply,
      ← hp0_def, eleaf, nodeMapSet, modifyS_apply, mapSet_new nm x hp.size hx, h1]
  · refine ⟨?_, ?_⟩
    · show (nl + 1#64).toNat = (F.add x).numLeaves
      rw [numLeaves_add, BitVec.toNat_add, hnl]; exact Nat.mod_eq_of_lt hn
    · show ∃ owned lv, ReprRoots hp' (rsHigh ++ [nd']) ((F.add x).trees.map (·.2)) owned lv ∧ _ ∧ _
      rw [eadd, List.map_append]
      simp only [List.map_cons, List.map_nil]
      obtain ⟨hr', hnd'⟩ := hHigh.replace_suffix hnd (ReprRoots.single (t := some _) h2) h3
        (fun i hi => (h4 i hi).elim
          (fun h => (List.mem_cons.1 h).elim (fun e => Or.inr (Nat.le_of_eq e.symm)) Or.inl)
          (fun h => Or.inr (Nat.le_of_succ_le (by rw [hsz0] at h; exact h))))
        (fun i hi hni => by
          rw [h6 i (by rw [hsz0]; exact Nat.lt_succ_of_lt hi)
            (fun h => (List.mem_cons.1 h).elim (fun e => Nat.lt_irrefl _ (e ▸ hi)) hni), e0' i hi])
      refine ⟨oHigh ++ (nd' :: fp'), lHigh ++ (lLow ++ [(x, hp.size)]), hr', hnd', ?_⟩
      · refine ⟨?_, ?_⟩
        · simp only [List.map_cons, List.nodup_cons]
          exact ⟨hx, hmk⟩
        · intro e
          simp only [List.mem_cons, List.mem_append, hm e, List.not_mem_nil, or_false]
          rw [or_comm, or_assoc]

theorem add_abs_full (hph : NZ H) : ∀ (adds : List (H × Bool)) {p : Pollard H}
    {F : Forest H}, Abs p F → p.full = true → F.numLeaves + adds.length < 2 ^ 64 →
    (adds.map (·.1)).Nodup → (∀ e ∈ adds, e.1 ∉ p.nodeMap.map (·.1) ∧ e.1 ≠ zero) → TreesNZ F →
    ∃ p', add adds p = (.ok (), p') ∧ Abs p' (F.addMany (adds.map (·.1))) ∧ p'.full = true ∧
      TreesNZ (F.addMany (adds.map (·.1))) ∧ p'.numDels = p.numDels := by
  intro adds
  induction adds with
  | nil =>
    intro p F a hfull hn hnd hx hnz
    exact ⟨p, rfl, by simpa [addMany_nil] using a, hfull, by simpa [addMany_nil] using hnz, rfl⟩
  | cons e adds ih =>
    intro p F a hfull hn hnd hx hnz
    simp only [List.length_cons] at hn
    simp only [List.map_cons, List.nodup_cons] at hnd
    obtain ⟨p1, h1, a1, f1, m1, d1⟩ := addOne_abs_full a hfull (Nat.lt_of_le_of_lt (Nat.succ_le_succ (Nat.le_add_right _ _)) hn) e.1 e.2
      (hx e (by simp)).1 hnz
    have hnz1 := treesNZ_add hph hnz e.1 (hx e (by simp)).2 (Nat.lt_of_le_of_lt (Nat.le_add_right _ _) hn)
    obtain ⟨p2, h2, a2, f2, z2, d2⟩ := ih a1 f1 (by rw [numLeaves_add, Nat.add_assoc, Nat.add_comm 1]; exact hn) hnd.2
      (by
        intro e' he'
        refine ⟨?_, (hx e' (by simp [he'])).2⟩
        rw [m1]
        simp only [List.map_cons, List.mem_cons, not_or]
        refine ⟨?_, (hx e' (by simp [he'])).1⟩
        intro h
        exact hnd.1 (by rw [← h]; exact List.mem_map_of_mem he'))
      hnz1
    refine ⟨p2, ?_, ?_, f2, ?_, d2.trans d1⟩
    · show (addOne e >>= fun _ => add adds) p = _
      simp only [bind_apply]
      rw [show addOne e p = (Out.ok (), p1) from h1]
      exact h2
    · rw [List.map_cons, addMany_cons]; exact a2
    · rw [List.map_cons, addMany_cons]; exact z2

theorem abs_new : Abs (newAccumulator : Pollard H) Forest.empty := by
  refine ⟨rfl, [], [], ?_, List.nodup_nil, ⟨List.nodup_nil, fun e => Iff.rfl⟩⟩
  have : (Forest.empty : Forest H).trees = [] := by
    simp [Forest.trees, Forest.empty, Forest.numLeaves, treeRows]
    decide
  rw [this]
  exact ReprRoots.nil

theorem treesNZ_empty : TreesNZ (Forest.empty : Forest H) := by
  intro q hq
  have : (Forest.empty : Forest H).trees = [] := by
    simp [Forest.trees, Forest.empty, Forest.numLeaves, treeRows]
    decide
  rw [this] at hq; cases hq

/-- the root hash `GetRoots` reports for a tree of the forest: all-zero for an empty root -/
def rootHashO : Option (CTree H) → H
  | some t => t.hash
  | none => zero

theorem ReprRoot.rootHashO {hp : Heap H} {r : Nat} {t : Option (CTree H)} {fp : List Nat}
    {lv : List (H × Nat)} (h : ReprRoot hp r t fp lv) :
    ∃ rn, hp[r]? = some rn ∧ rn.data = rootHashO t := by
  cases t with
  | none =>
    obtain ⟨⟨rn, e1, _, e2, _⟩, _⟩ := h
    exact ⟨rn, e1, e2⟩
  | some t => exact h.2.hash

theorem map_rootHashO_trees (F : Forest H) : (F.trees.map (·.2)).map rootHashO = F.roots := by
  unfold Forest.roots
  rw [List.map_map]
  apply List.map_congr_left
  intro q _
  obtain ⟨a, b⟩ := q
  cases b <;> rfl

theorem rootData_repr {hp : Heap H} {rs : List Nat} {ts : List (Option (CTree H))} {owned : List Nat}
    {lv : List (H × Nat)} (h : ReprRoots hp rs ts owned lv) (s : Pollard H) (hs : s.heap = hp) :
    rootData rs s = (.ok (ts.map rootHashO), s) := by
  induction h with
  | nil => rfl
  | @cons r t fp lv rs ts owned lvs h1 h2 ih =>
    obtain ⟨rn, e1, e2⟩ := h1.rootHashO
    unfold rootData
    simp only [bind_apply, node_apply, hs, e1, ih, pure_apply, List.map_cons, e2]

/-- `GetRoots` of the Go API is `getRootHashes` of the model (the model's `getRoots` is the accessor of the root list) -/
theorem getRoots_abs {p : Pollard H} {F : Forest H} (a : Abs p F) :
    getRootHashes p = (.ok F.roots, p) := by
  obtain ⟨_, owned, lv, h, _⟩ := a
  unfold getRootHashes
  simp only [bind_apply, getRoots_apply, rootData_repr h p rfl, map_rootHashO_trees]

end UtreexoVerif.Proofs.PollardHeap
