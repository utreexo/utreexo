/-
  Pointer forest, heap model: `undoSingleAdd` — the inverse of one merge step of
  `calculateNewRoot` (`undoAdd_split`), and the loop over the rows.
-/
import UtreexoVerif.Proofs.PollardHeapDelSingle
import UtreexoVerif.Proofs.PollardHeapAdd

namespace UtreexoVerif.Proofs.PollardHeap
open UtreexoVerif.Model.PollardHeap UtreexoVerif.Spec Hasher

variable {H : Type} [DecidableEq H] [Hasher H]

theorem undoAdd_split {hp : Heap H} {nm : List (H × Nat)} {rsHigh : List Nat} {nl ndl : U64}
    {full : Bool} {M : Nat} {A B : CTree H} {fp : List Nat} {lv : List (H × Nat)} (f : Nat)
    (hR : RootRepr hp M (.node A B) fp lv) (nd : (M :: fp).Nodup) :
    ∃ (hp' : Heap H) (l r : Nat) (fa fb : List Nat) (la lb : List (H × Nat)) (mn : PolNode H),
      fp = l :: r :: (fa ++ fb) ∧ lv = la ++ lb ∧ hp[M]? = some mn ∧
      undoSingleAddLoop (f + 1) ⟨hp, nm, rsHigh ++ [M], nl, ndl, full⟩ =
        undoSingleAddLoop f ⟨hp', mapDel nm mn.data, rsHigh ++ [l, r], nl, ndl, full⟩ ∧
      mn.data = (CTree.node A B).hash ∧
      RootRepr hp' l A fa la ∧ RootRepr hp' r B fb lb ∧
      (∀ j, j ∉ M :: fp → hp'[j]? = hp[j]?) ∧ hp'.size = hp.size := by
  obtain ⟨⟨mn, hM, aM⟩, hs⟩ := hR
  cases hs with
  | node h1 h2 h3 h4 h5 h6 h7 h8 h9 sa sb =>
    rename_i l r nn hn0 ln rn fa fb la lb
    rw [hM] at h1 h3; cases h1; cases h3
    have ndx := nd
    simp only [List.nodup_cons, List.mem_cons, List.mem_append, not_or, List.nodup_append] at ndx
    obtain ⟨⟨nMl, nMr, nMfa, nMfb⟩, ⟨nlr, nlfa, nlfb⟩, ⟨nrfa, nrfb⟩, ndfa, ndfb, dab⟩ := ndx
    -- `swapNieces(l, r)`: the two siblings hold their own children again
    have ndq : (l :: r :: (fb ++ fa)).Nodup := by
      simp only [List.nodup_cons, List.mem_cons, List.mem_append, not_or, List.nodup_append]
      exact ⟨⟨nlr, nlfb, nlfa⟩, ⟨nrfb, nrfa⟩, ndfb, ndfa, fun x hx y hy e => dab y hy x hx e.symm⟩
    obtain ⟨h', eSwap, sz', hl', hr', fr', sB', sA'⟩ :=
      swapNieces_sub h6 h7 sb sa (Or.inr ⟨rfl, rfl⟩) ndq nm rsHigh nl ndl full
    have hM' : h'[M]? = some mn := by
      rw [fr' M (by
        simp only [List.mem_cons, List.mem_append, not_or]
        exact ⟨nMl, nMr, nMfb, nMfa⟩)]
      exact hM
    -- `aunt = nil` twice, then `M` is deleted
    obtain ⟨g1, g1_def⟩ : ∃ g1 : Heap H, g1 = (h'.modify l
        (fun x => { x with aunt := none })).modify r (fun x => { x with aunt := none }) := ⟨_, rfl⟩
    have o1 : Off ([l] ++ [r]) h' g1 := g1_def ▸ (Off.modify h' l _).trans (Off.modify _ r _)
    have hl1 : g1[l]? = some { ln with lNiece := rn.lNiece, rNiece := rn.rNiece, aunt := none } := by
      rw [g1_def]; simp [Array.getElem?_modify, hl']
    have hr1 : g1[r]? = some { rn with lNiece := ln.lNiece, rNiece := ln.rNiece, aunt := none } := by
      rw [g1_def]; simp [Array.getElem?_modify, hr', nlr]
    have hM1 : g1[M]? = some mn := (o1 M (by simp [nMl, nMr])).trans hM'
    have selfM : ¬ isKid mn M := by
      rintro (k | k)
      · rw [h4] at k; cases k; exact nMl rfl
      · rw [h5] at k; cases k; exact nMr rfl
    -- `delNode(M)` clears the aunts of `l` and `r` once more and touches nothing else
    obtain ⟨g2, g2_def⟩ : ∃ g2, g2 = dnHeap g1 M mn := ⟨_, rfl⟩
    have x2 : ∀ nm', delNode (some M) ⟨g1, nm', rsHigh ++ [l, r], nl, ndl, full⟩ =
        (.ok (), ⟨g2, nm', rsHigh ++ [l, r], nl, ndl, full⟩) := fun nm' =>
      g2_def ▸ delNode_run g1 nm' (rsHigh ++ [l, r]) nl ndl full M mn hM1
        (by intro a ha; rw [aM] at ha; cases ha) selfM
    have o2 : Off [M, l, r] g1 g2 := fun j hj => by
      simp only [List.mem_cons, List.not_mem_nil, or_false, not_or] at hj
      rw [g2_def, getElem?_dnHeap_frame g1 M mn j hj.1 (by
        rintro (k | k)
        · rw [h4] at k; cases k; exact hj.2.1 rfl
        · rw [h5] at k; cases k; exact hj.2.2 rfl)]
    have hl2 : g2[l]? = some { ln with lNiece := rn.lNiece, rNiece := rn.rNiece, aunt := none } := by
      rw [g2_def, getElem?_dnHeap_kid g1 M mn l (Ne.symm nMl) (Or.inl h4), hl1]; rfl
    have hr2 : g2[r]? = some { rn with lNiece := ln.lNiece, rNiece := ln.rNiece, aunt := none } := by
      rw [g2_def, getElem?_dnHeap_kid g1 M mn r (Ne.symm nMr) (Or.inr h5), hr1]; rfl
    have o12 := o1.trans o2
    have subA : Sub g2 l l A fa la := sA'.frame_of hl' hl2 rfl hl' hl2 rfl rfl (fun i hi => o12 i (by
      simp only [List.mem_append, List.mem_cons, List.not_mem_nil, or_false, not_or]
      exact ⟨⟨fun e => nlfa (e ▸ hi), fun e => nrfa (e ▸ hi)⟩, fun e => nMfa (e ▸ hi),
        fun e => nlfa (e ▸ hi), fun e => nrfa (e ▸ hi)⟩))
    have subB : Sub g2 r r B fb lb := sB'.frame_of hr' hr2 rfl hr' hr2 rfl rfl (fun i hi => o12 i (by
      simp only [List.mem_append, List.mem_cons, List.not_mem_nil, or_false, not_or]
      exact ⟨⟨fun e => nlfb (e ▸ hi), fun e => nrfb (e ▸ hi)⟩, fun e => nMfb (e ▸ hi),
        fun e => nlfb (e ▸ hi), fun e => nrfb (e ▸ hi)⟩))
    refine ⟨g2, l, r, fa, fb, la, lb, mn, rfl, rfl, hM, ?_, h2, ⟨⟨_, hl2, rfl⟩, subA⟩,
      ⟨⟨_, hr2, rfl⟩, subB⟩, ?_, ?_⟩
    ·
      rw [Model.PollardHeap.undoSingleAddLoop, bind_ok getRoots_run]
      simp only [List.getLast?_concat, List.dropLast_concat]
      refine (bind_ok setRoots_run).trans ?_
      rw [bind_ok (node_run hM)]
      simp only [h4, h5]
      rw [bind_ok eSwap, bind_ok (deref_some r _), bind_ok setNode_run, bind_ok setNode_run, ← g1_def]
      refine (bind_ok (modifyS_apply ..)).trans ((bind_ok (pure_apply ..)).trans ?_)
      rw [bind_ok (node_run hM1), bind_ok nodeMapDel_run, bind_ok (x2 _), if_pos rfl]
    · intro j hj
      simp only [List.mem_cons, List.mem_append, not_or] at hj
      obtain ⟨j0, j1, j2, j3, j4⟩ := hj
      rw [o12 j (by
        simp only [List.mem_append, List.mem_cons, List.not_mem_nil, or_false, not_or]
        exact ⟨⟨j1, j2⟩, j0, j1, j2⟩), fr' j (by
        simp only [List.mem_cons, List.mem_append, not_or]
        exact ⟨j1, j2, j4, j3⟩)]
    · rw [g2_def, size_dnHeap, g1_def]; simp [sz']

theorem undoAdd_leaf {hp : Heap H} {nm : List (H × Nat)} {rsHigh : List Nat} {nl ndl : U64}
    {full : Bool} {M : Nat} {x : H} {fp : List Nat} {lv : List (H × Nat)} (f : Nat)
    (hR : RootRepr hp M (.leaf x) fp lv) :
    ∃ (hp' : Heap H), fp = [] ∧ lv = [(x, M)] ∧
      undoSingleAddLoop (f + 1) ⟨hp, nm, rsHigh ++ [M], nl, ndl, full⟩ =
        (.ok (), ⟨hp', mapDel nm x, rsHigh, nl, ndl, full⟩) ∧
      (∀ j, j ≠ M → hp'[j]? = hp[j]?) ∧ hp'.size = hp.size := by
  obtain ⟨⟨mn, hM, aM⟩, hs⟩ := hR
  cases hs with
  | leaf h1 h2 h3 h4 h5 =>
    rw [hM] at h1 h3; cases h1; cases h3
    have x2 := delNode_run hp (mapDel nm mn.data) rsHigh nl ndl full M mn hM
      (by intro a ha; rw [aM] at ha; cases ha)
      (by rintro (k | k) <;> simp [h4, h5] at k)
    refine ⟨dnHeap hp M mn, rfl, rfl, ?_, ?_, by simp⟩
    · rw [Model.PollardHeap.undoSingleAddLoop, bind_ok getRoots_run]
      simp only [List.getLast?_concat, List.dropLast_concat]
      refine (bind_ok setRoots_run).trans ?_
      rw [bind_ok (node_run hM)]
      simp only [h4]
      refine (bind_ok (pure_apply ..)).trans ?_
      rw [bind_ok (node_run hM), bind_ok nodeMapDel_run, bind_ok x2, if_neg Bool.false_ne_true, ← h2]
      rfl
    · intro j hj
      exact getElem?_dnHeap_frame hp M mn j hj (by rintro (k | k) <;> simp [h4, h5] at k)

/-- the loop of `undoSingleAdd`: the lowest root carries the popped trees `ts` (highest
first, `none` = an empty root that the addition skipped) merged with the new leaf `x`.  The
`NodeMap` side is left loose on purpose (`Mx` and the deleted keys `ks` are only said to be the
leaf's node and parent hashes): what `NodeMap` holds afterwards is settled above
`undoSingleAdd_core`, in `undoSingleAdd_absE` and `undoSingleAdd_absEW` -/
theorem undoAddLoop_spec (x : H) : ∀ (ts : List (Option (CTree H))) (hp : Heap H)
    (nm : List (H × Nat)) (rsHigh : List Nat) (nl ndl : U64) (full : Bool) (M : Nat)
    (fp : List Nat) (lv : List (H × Nat)) (f : Nat),
    RootRepr hp M (mergeC ts (.leaf x)) fp lv → (M :: fp).Nodup → ts.length + 1 ≤ f →
    ∃ (hp' : Heap H) (rsNew owned' : List Nat) (lv' : List (H × Nat)) (ks : List H) (Mx : Nat),
      undoSingleAddLoop f ⟨hp, nm, rsHigh ++ [M], nl, ndl, full⟩ =
        (.ok (), ⟨hp', (ks ++ [x]).foldl mapDel nm, rsHigh ++ rsNew, nl, ndl, full⟩) ∧
      ReprRoots hp' rsNew (ts.filter (·.isSome)) owned' lv' ∧ owned'.Nodup ∧
      (∀ i ∈ owned', i ∈ M :: fp) ∧ lv = lv' ++ [(x, Mx)] ∧
      (∀ k ∈ ks, ∃ u v : H, k = ph u v) ∧
      (∀ j, j ∉ M :: fp → hp'[j]? = hp[j]?) ∧ hp'.size = hp.size := by
  intro ts
  induction ts with
  | nil =>
    intro hp nm rsHigh nl ndl full M fp lv f hR nd hf
    obtain ⟨f', rfl⟩ : ∃ f', f = f' + 1 := ⟨f - 1, (Nat.sub_add_cancel (Nat.le_trans (Nat.le_add_left 1 _) hf)).symm⟩
    simp only [mergeC, List.foldr_nil] at hR
    obtain ⟨hp', e1, e2, e3, e4, e5⟩ := undoAdd_leaf (nm := nm) (rsHigh := rsHigh) (nl := nl)
      (ndl := ndl) (full := full) f' hR
    refine ⟨hp', [], [], [], [], M, by simpa using e3, by simpa using ReprRoots.nil, by simp, by simp,
      by simp [e2], by simp, ?_, e5⟩
    intro j hj
    exact e4 j (fun e => hj (by simp [e]))
  | cons t ts ih =>
    intro hp nm rsHigh nl ndl full M fp lv f hR nd hf
    cases t with
    | none =>
      -- an empty root: skipped by the addition, nothing to split
      have : mergeC (none :: ts) (.leaf x) = mergeC ts (.leaf x) := by simp [mergeC]
      rw [this] at hR
      obtain ⟨hp', rsNew, owned', lv', ks, Mx, g1, g2, g3, g4, g5, g6, g7, g8⟩ :=
        ih hp nm rsHigh nl ndl full M fp lv f hR nd (Nat.le_of_succ_le hf)
      exact ⟨hp', rsNew, owned', lv', ks, Mx, g1, by simpa using g2, g3, g4, g5, g6, g7, g8⟩
    | some T =>
      obtain ⟨f', rfl⟩ : ∃ f', f = f' + 1 := ⟨f - 1, (Nat.sub_add_cancel (Nat.le_trans (Nat.le_add_left 1 _) hf)).symm⟩
      have : mergeC (some T :: ts) (.leaf x) = .node T (mergeC ts (.leaf x)) := by simp [mergeC]
      rw [this] at hR
      obtain ⟨hp1, l, r, fa, fb, la, lb, mn, efp, elv, hM, hstep, hdata, hRl, hRr, hframe1, hsz1⟩ :=
        undoAdd_split (nm := nm) (rsHigh := rsHigh) (nl := nl) (ndl := ndl) (full := full) f' hR nd
      have ndx := nd
      rw [efp] at ndx
      simp only [List.nodup_cons, List.mem_cons, List.mem_append, not_or, List.nodup_append] at ndx
      obtain ⟨⟨nMl, nMr, nMfa, nMfb⟩, ⟨nlr, nlfa, nlfb⟩, ⟨nrfa, nrfb⟩, ndfa, ndfb, dab⟩ := ndx
      have hstep' : undoSingleAddLoop (f' + 1) ⟨hp, nm, rsHigh ++ [M], nl, ndl, full⟩ =
          undoSingleAddLoop f' ⟨hp1, mapDel nm mn.data, (rsHigh ++ [l]) ++ [r], nl, ndl, full⟩ := by
        rw [hstep]; simp
      obtain ⟨hp', rsNew, owned', lv', ks, Mx, g1, g2, g3, g4, g5, g6, g7, g8⟩ :=
        ih hp1 (mapDel nm mn.data) (rsHigh ++ [l]) nl ndl full r fb lb f' hRr
          (List.nodup_cons.2 ⟨nrfb, ndfb⟩) (Nat.le_of_succ_le_succ hf)
      have hRl' : RootRepr hp' l T fa la := by
        refine ReprRoot.frame (t := some T) hRl (fun i hi => (g7 i ?_).trans rfl)
        simp only [List.mem_cons] at hi ⊢
        rcases hi with rfl | hi
        · exact fun h => h.elim (fun e => nlr e) (fun e => nlfb e)
        · exact fun h => h.elim (fun e => nrfa (e ▸ hi)) (fun e => dab i hi i e rfl)
      refine ⟨hp', l :: rsNew, (l :: fa) ++ owned', la ++ lv', mn.data :: ks, Mx, ?_, ?_, ?_, ?_, ?_,
        ?_, ?_, by rw [g8, hsz1]⟩
      · rw [hstep', g1]
        simp [List.append_assoc]
      · simp only [List.filter_cons, Option.isSome_some, if_true]
        have := ReprRoots.cons (t := some T) hRl' g2
        simpa using this
      · rw [List.nodup_append]
        refine ⟨List.nodup_cons.2 ⟨nlfa, ndfa⟩, g3, ?_⟩
        intro i hi j hj e
        subst e
        have := g4 i hj
        simp only [List.mem_cons] at hi this
        rcases hi with rfl | hi <;> rcases this with h | h
        · exact nlr h
        · exact nlfb h
        · exact nrfa (h ▸ hi)
        · exact dab i hi i h rfl
      · intro i hi
        rw [efp]
        simp only [List.mem_append, List.mem_cons] at hi ⊢
        rcases hi with (rfl | hi) | hi
        · simp
        · simp [hi]
        · have := g4 i hi
          simp only [List.mem_cons] at this
          rcases this with h | h <;> simp [h]
      · rw [elv, g5]; simp
      · intro k hk
        simp only [List.mem_cons] at hk
        rcases hk with rfl | hk
        · exact ⟨_, _, hdata⟩
        · exact g6 k hk
      · intro j hj
        rw [g7 j (by
          intro hm; apply hj; rw [efp]
          simp only [List.mem_cons, List.mem_append] at hm ⊢
          rcases hm with h | h <;> simp [h])]
        exact hframe1 j hj

end UtreexoVerif.Proofs.PollardHeap
