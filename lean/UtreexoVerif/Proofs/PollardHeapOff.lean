/-
  Pointer forest, heap model: written sets.

  `Off X hp hp'` says that `hp'` was written only inside `X`.  A step of a program is specified by its run, the
  new values of the nodes it names and ONE written set; every represented sub-tree disjoint from it survives by
  the frame rule `Sub.off`, and written sets compose (`Off.trans`).
-/
import UtreexoVerif.Proofs.PollardHeapSub
set_option linter.unusedSectionVars false

namespace UtreexoVerif.Proofs.PollardHeap
open UtreexoVerif.Model.PollardHeap UtreexoVerif.Spec

variable {H : Type} [DecidableEq H] [Hasher H]

def Off (X : List Nat) (hp hp' : Heap H) : Prop := ∀ j, j ∉ X → hp'[j]? = hp[j]?

theorem Off.refl (X : List Nat) (hp : Heap H) : Off X hp hp := fun _ _ => rfl

theorem Off.trans {X Y : List Nat} {h1 h2 h3 : Heap H} (a : Off X h1 h2) (b : Off Y h2 h3) :
    Off (X ++ Y) h1 h3 := fun j hj =>
  (b j (fun h => hj (List.mem_append_right _ h))).trans (a j (fun h => hj (List.mem_append_left _ h)))

theorem Off.mono {X Y : List Nat} {h1 h2 : Heap H} (a : Off X h1 h2) (s : ∀ j ∈ X, j ∈ Y) :
    Off Y h1 h2 := fun j hj => a j (fun h => hj (s j h))

theorem Off.modify (hp : Heap H) (i : Nat) (f : PolNode H → PolNode H) : Off [i] hp (hp.modify i f) := by
  intro j hj
  rw [Array.getElem?_modify, if_neg (fun e => hj (by simp [e]))]

theorem Off.push (hp : Heap H) (n : PolNode H) : Off [hp.size] hp (hp.push n) := by
  intro j hj
  rw [Array.getElem?_push, if_neg (by simpa using hj)]

theorem Sub.off {X : List Nat} {hp hp' : Heap H} {n h : Nat} {t : CTree H} {fp : List Nat}
    {lv : List (H × Nat)} (hs : Sub hp n h t fp lv) (o : Off X hp hp')
    (hn : n ∉ X) (hh : h ∉ X) (hfp : ∀ i ∈ fp, i ∉ X) : Sub hp' n h t fp lv :=
  hs.frame (fun x hx => ⟨x, (o n hn).trans hx, rfl⟩) (fun x hx => ⟨x, (o h hh).trans hx, rfl, rfl⟩)
    (fun i hi => o i (hfp i hi))

/-- frame rule when the top node itself is written but keeps its data (`transferAunt`, `transferNiece`
write pointer fields of the node that moves) -/
theorem Sub.off_top {X : List Nat} {hp hp' : Heap H} {n h : Nat} {t : CTree H} {fp : List Nat}
    {lv : List (H × Nat)} {x x' : PolNode H} (hs : Sub hp n h t fp lv) (o : Off X hp hp')
    (e : hp[n]? = some x) (e' : hp'[n]? = some x') (d : x'.data = x.data)
    (hh : h ∉ X) (hfp : ∀ i ∈ fp, i ∉ X) : Sub hp' n h t fp lv :=
  hs.frame (fun y hy => by cases e.symm.trans hy; exact ⟨x', e', d⟩)
    (fun x hx => ⟨x, (o h hh).trans hx, rfl, rfl⟩) (fun i hi => o i (hfp i hi))

theorem Kids.off {X : List Nat} {hp hp' : Heap H} {h l r : Nat} (k : Kids hp h l r) (o : Off X hp hp')
    (hh : h ∉ X) (hl : l ∉ X) (hr : r ∉ X) : Kids hp' h l r := by
  obtain ⟨⟨hn, e1, e2⟩, ⟨ln, e3, e4⟩, ⟨rn, e5, e6⟩⟩ := k
  exact ⟨⟨hn, (o h hh).trans e1, e2⟩, ⟨ln, (o l hl).trans e3, e4⟩, ⟨rn, (o r hr).trans e5, e6⟩⟩

end UtreexoVerif.Proofs.PollardHeap
