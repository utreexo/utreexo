/-
  Specification level (no heap in this file; it stands with the `PollardHeap` modules because its two
  users are the heap's `remove` and `undoDels`): the DELETION CHAIN of a block.

  The maximal fully-deleted sub-trees of a block, in ascending order of their positions, can be
  taken out of the forest one after the other, each one at its position in the forest the earlier
  ones left behind: `DelChain D F l`.  `remove` walks the chain from the head (`DelChain.delSeq`:
  the `DelSeq` of `PollardHeapDelSeq.lean`), `undoDels` from the tail (`DelChain.snoc_inv`).
  `chain_of_inv`: the pairs at the positions `deTwin` computes form a chain whose leaves are the
  deleted ones (`DTE.step` iterated).
-/
import UtreexoVerif.Proofs.PollardHeapDelSeq

namespace UtreexoVerif.Proofs.PollardHeap
open UtreexoVerif.Spec
open UtreexoVerif.Proofs.SpecSubs
open UtreexoVerif.Proofs.CalcGeo
open UtreexoVerif.Proofs.Movement UtreexoVerif.Proofs.ProofUpdateDeTwin

variable {H : Type} [DecidableEq H] [Hasher H]

def chainLeaves (l : List (Pos × CTree H)) : List H := l.flatMap (fun e => e.2.leaves)

/-- **deletion chain**: the sub-trees `l` can be deleted one after the other, each one sitting at its
position in the forest the earlier deletions left -/
inductive DelChain (D : List H) : Forest H → List (Pos × CTree H) → Prop
  | nil (F : Forest H) : DelChain D F []
  | cons {F : Forest H} {R : Nat} {q : Pos} {a : CTree H} {rest : List (Pos × CTree H)} :
      SubAtT F R q a → (∀ x ∈ a.leaves, x ∈ D) → DelChain D (F.delLeaves a.leaves) rest →
      DelChain D F ((q, a) :: rest)

theorem DelChain.delSeq {D : List H} : ∀ {l : List (Pos × CTree H)} {F : Forest H}, DelChain D F l →
    DelSeq D F (l.map (fun e => E F.rows e.1)) (F.delLeaves (chainLeaves l)) := by
  intro l
  induction l with
  | nil => intro F _; simpa [chainLeaves, delLeaves_nil] using DelSeq.nil F
  | cons e rest ih =>
    intro F h
    cases h with
    | cons hs hD hrest =>
      have := ih hrest
      rw [rows_delLeaves, delLeaves_delLeaves] at this
      have h2 := DelSeq.cons hs hD this
      simp only [chainLeaves, List.map_cons, List.flatMap_cons]
      exact h2

theorem DelChain.snoc_inv {D : List H} : ∀ {init : List (Pos × CTree H)} {F : Forest H} {e : Pos × CTree H},
    DelChain D F (init ++ [e]) →
    DelChain D F init ∧ ∃ R, SubAtT (F.delLeaves (chainLeaves init)) R e.1 e.2 := by
  intro init
  induction init with
  | nil =>
    intro F e h
    cases h with
    | cons hs _ _ => exact ⟨.nil F, _, by simpa [chainLeaves, delLeaves_nil] using hs⟩
  | cons e0 rest ih =>
    intro F e h
    cases h with
    | cons hs hD hrest =>
      obtain ⟨c, R, s⟩ := ih hrest
      rw [delLeaves_delLeaves] at s
      exact ⟨.cons hs hD c, R, by simpa [chainLeaves] using s⟩

theorem chain_of_inv {F : Forest H} {D : List H} (hnd : F.liveLeaves.Nodup) {l : List (Pos × CTree H)}
    (inv : Inv F D (l.map (·.1))) (hdt : ∀ T ∈ l.map (·.1), IsDT F D T)
    (hsub : ∀ e ∈ l, ∃ R, SubAtT F R e.1 e.2) :
    DelChain D F l ∧ ∀ x, x ∈ chainLeaves l ↔ x ∈ D := by
  have hdte : ∀ e ∈ l, ∃ R, DTE F D (e.1, R, e.2) := by
    intro e he
    obtain ⟨h, t, s, hd, htop⟩ := hdt e.1 (List.mem_map_of_mem he)
    obtain ⟨R, s'⟩ := hsub e he
    obtain ⟨_, et⟩ := s.unique s'
    subst et
    exact ⟨h, s, (CalcComplete.delT_eq_none_iff D _).1 hd, htop⟩
  have hs : l.Pairwise (fun x y => Sorted.PLt x.1 y.1) := by
    have := inv.sorted; rw [List.pairwise_map] at this; exact this
  have hdj : l.Pairwise (fun x y => ∀ z ∈ x.2.leaves, z ∉ y.2.leaves) := by
    refine hs.imp_of_mem ?_
    intro x y hx hy hlt z h1 h2
    obtain ⟨Rx, sx⟩ := hsub x hx
    obtain ⟨Ry, sy⟩ := hsub y hy
    have := inv.disj x.1 (List.mem_map_of_mem hx) y.1 (List.mem_map_of_mem hy) _ _ _ _ z sx sy h1 h2
    rw [this] at hlt
    exact Sorted.PLt.irrefl _ hlt
  refine ⟨?_, fun x => ?_⟩
  ·
    clear inv hdt hsub
    induction l generalizing F with
    | nil => exact .nil F
    | cons e0 rest ih =>
      rw [List.pairwise_cons] at hs hdj
      obtain ⟨R0, d0⟩ := hdte e0 (by simp)
      refine .cons d0.sub d0.dead (ih (LiveLeaves.liveLeaves_delLeaves_nodup hnd _) (fun e he => ?_) hs.2 hdj.2)
      obtain ⟨R, d⟩ := hdte e (by simp [he])
      exact ⟨R, DTE.step hnd d0 d (hs.1 e he) (hdj.1 e he)⟩
  · unfold chainLeaves
    rw [List.mem_flatMap]
    constructor
    · rintro ⟨e, he, hx⟩
      obtain ⟨R, d⟩ := hdte e he
      exact d.dead x hx
    · intro hx
      obtain ⟨T, hT, h, t, s, hxt⟩ := inv.cov x hx
      obtain ⟨e, he, rfl⟩ := List.mem_map.1 hT
      obtain ⟨R, s'⟩ := hsub e he
      exact ⟨e, he, by rw [← (s.unique s').2]; exact hxt⟩

end UtreexoVerif.Proofs.PollardHeap
