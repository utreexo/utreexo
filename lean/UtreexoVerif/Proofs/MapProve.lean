/-
  `MapPollard.Prove` (model) on a state satisfying the storage invariant returns the
  canonical proof of the specification forest (`prove_canon`).
-/
import UtreexoVerif.Proofs.MapPrune
import UtreexoVerif.Proofs.SpecPlan
import UtreexoVerif.Props.C16c
import UtreexoVerif.Proofs.PForest

namespace UtreexoVerif.Proofs.MapProve
open Model Spec MapAL MapInv MapPrune
set_option linter.unusedSectionVars false

variable {H : Type} [DecidableEq H] [Hasher H]

theorem leaf_antichain {F : Forest H} {x y : Pos × H × Bool} (hx : x ∈ F.nodes) (hy : y ∈ F.nodes)
    (hl : x.2.2 = true) (hu : SpecNodes.Under x.1.1 x.1.2 y.1) : y = x := by
  obtain ⟨h1, ⟨hb1, _⟩, hx'⟩ := SpecNodes.mem_nodes.1 hx
  obtain ⟨h2, ⟨hb2, _⟩, hy'⟩ := SpecNodes.mem_nodes.1 hy
  have ux := SpecNodes.treeNodes_under F h1 x hx'
  have uy := SpecNodes.treeNodes_under F h2 y hy'
  have uxy := SpecNodes.Under.trans_under ux hu
  rcases Nat.lt_trichotomy h1 h2 with hlt | heq | hgt
  · exact (SpecNodes.under_disjoint hlt hb2 uy uxy).elim
  · subst heq
    unfold SpecNodes.treeNodes at hx' hy'
    cases ht : collapse h1 ((F.slots.drop (treeStart F.numLeaves h1)).take (2 ^ h1)) with
    | some t =>
      rw [ht] at hx' hy'
      exact PForest.nodes_leaf_antichain t _ _ (SpecNodes.collapse_depth _ _ _ ht) x hx' hl y hy' hu
    | none =>
      rw [ht] at hx'
      simp only [List.mem_singleton] at hx'
      subst hx'
      simp at hl
  · exact (SpecNodes.under_disjoint hgt hb1 uxy uy).elim

variable {F : Forest H}

theorem posOf_antichain {x y : H} {a b : Pos} (hx : F.posOf x = some a) (hy : F.posOf y = some b)
    (h : Anc a b) : a = b := by
  have := leaf_antichain (Spec.posOf_some_mem hx) (Spec.posOf_some_mem hy) rfl (PForest.anc_iff_under.1 h)
  exact (congrArg Prod.fst this).symm

theorem cached_targets {m : MapPollard H} (inv : Inv m F) (L : List H) (hL : ∀ x ∈ L, m.hasCached x = true) :
    ∃ tgts : List Pos, L.mapM F.posOf = some tgts ∧
      L.map (fun h => (m.getCached h).getD 0#64) = tgts.map (encP m.totalRows.toNat) ∧
      (∀ t ∈ tgts, ∃ x ∈ L, F.posOf x = some t) ∧ (L.Nodup → tgts.Nodup) := by
  induction L with
  | nil => exact ⟨[], rfl, rfl, nofun, fun _ => List.nodup_nil⟩
  | cons x L ih =>
    obtain ⟨tgts, h1, h2, h3, h4⟩ := ih (fun y hy => hL y (List.mem_cons_of_mem _ hy))
    have hx := hL x List.mem_cons_self
    rw [hasCached_eq] at hx
    cases hc : m.getCached x with
    | none => rw [hc] at hx; cases hx
    | some p =>
      obtain ⟨t, ht, hp⟩ := inv.cached_pos x p hc
      refine ⟨t :: tgts, ?_, ?_, ?_, ?_⟩
      · rw [List.mapM_cons, ht, h1]; rfl
      · rw [List.map_cons, List.map_cons, h2, hc, hp]; rfl
      · intro t' ht'
        rcases List.mem_cons.1 ht' with rfl | h
        · exact ⟨x, List.mem_cons_self, ht⟩
        · obtain ⟨y, hy, hyp⟩ := h3 t' h
          exact ⟨y, List.mem_cons_of_mem _ hy, hyp⟩
      · intro hnd
        rw [List.nodup_cons] at hnd ⊢
        refine ⟨?_, h4 hnd.2⟩
        intro hmem
        obtain ⟨y, hy, hyp⟩ := h3 t hmem
        have := posOf_inj hyp ht
        rw [this] at hy
        exact hnd.1 hy

theorem stored_hashes {m : MapPollard H} (inv : Inv m F) (qs : List Pos)
    (h : ∀ q ∈ qs, Required F (fun x => m.hasCached x = true) q) :
    ∃ ls : List (Leaf H), (qs.map (encP m.totalRows.toNat)).mapM (fun p => m.getNode p) = some ls ∧
      qs.mapM F.nodeAt = some (ls.map (·.hash)) := by
  induction qs with
  | nil => exact ⟨[], rfl, rfl⟩
  | cons q qs ih =>
    obtain ⟨ls, h1, h2⟩ := ih (fun q' hq' => h q' (List.mem_cons_of_mem _ hq'))
    have hreq := h q List.mem_cons_self
    have hst := inv.has_needed q hreq
    obtain ⟨R, hb⟩ := required_belowRoot hreq
    have hv : Valid m.totalRows.toNat q := belowRoot_valid' inv.rows_le hb
    rw [hasNode_eq] at hst
    cases hg : m.getNode (encP m.totalRows.toNat q) with
    | none => rw [hg] at hst; cases hst
    | some l =>
      have htrue := getNode_true inv hv hg
      refine ⟨l :: ls, ?_, ?_⟩
      · rw [List.map_cons, List.mapM_cons, hg, h1]; rfl
      · rw [List.mapM_cons, htrue, h2]; rfl

theorem ppHyp_sortPos {tgts : List Pos} (h3 : ∀ t ∈ tgts, ∃ x, F.posOf x = some t) (h4 : tgts.Nodup) :
    PPHyp F.numLeaves (sortPos tgts) where
  inForest := by
    intro t ht
    obtain ⟨x, hp⟩ := h3 t (mem_sortPos.1 ht)
    exact posOf_belowRoot hp
  sorted := sortPos_ssorted h4
  anti := by
    intro a ha b hb hab
    obtain ⟨x, hpa⟩ := h3 a (mem_sortPos.1 ha)
    obtain ⟨y, hpb⟩ := h3 b (mem_sortPos.1 hb)
    exact posOf_antichain hpa hpb hab

/-- **`Prove` of cached leaves returns the canonical proof**: for a state satisfying the
invariant and any duplicate-free list `L` of cached leaves, `Prove L` succeeds and returns
the targets of `canon F L` (positions of the leaves, in the order of `L`, in API
coordinates) with exactly the proof hashes of `canon F L`. -/
theorem prove_canon {m : MapPollard H} (inv : Inv m F) (L : List H)
    (hL : ∀ x ∈ L, m.hasCached x = true) (hnd : L.Nodup) :
    ∃ tgts hashes, F.canon L = some (tgts, hashes) ∧
      m.prove L = .ok (tgts.map (encP F.rows), hashes) := by
  have hT := inv.total_le
  obtain ⟨tgts, h1, h2, h3, h4⟩ := cached_targets inv L hL
  have htv : ∀ t ∈ tgts, Valid m.totalRows.toNat t := by
    intro t ht
    obtain ⟨x, _, hp⟩ := h3 t ht
    exact posOf_valid inv.rows_le hp
  have htv' : ∀ t ∈ tgts, Valid F.rows t := by
    intro t ht
    obtain ⟨x, _, hp⟩ := h3 t ht
    exact posOf_valid (Nat.le_refl _) hp
  have hyp := ppHyp_sortPos (fun t ht => let ⟨x, _, hp⟩ := h3 t ht; ⟨x, hp⟩) (h4 hnd)
  have hn64 : F.numLeaves < 2 ^ 64 := Nat.lt_trans inv.n_lt (by decide)
  have hPP := Props.C16.proofPositions_spec F (H := m.totalRows.toNat) (h := F.rows)
    (BitVec.ofNat 64 F.numLeaves) (toNat_ofNat64_of_lt hn64) (SpecView.treeRows_eq inv.n_lt) hT inv.rows_le
    (sortPos tgts) hyp
  have hcongr : F.proofPositions (sortPos tgts) = F.proofPositions tgts :=
    SpecPlan.proofPositions_congr _ (fun t => mem_sortPos)
  rw [hcongr] at hPP
  -- every canonical proof position is required, hence stored with its true hash
  have hreq : ∀ q ∈ F.proofPositions tgts, Required F (fun x => m.hasCached x = true) q := by
    intro q hq
    rw [← hcongr] at hq
    obtain ⟨w, ⟨t, ht, R, hb, hanc, hle⟩, hnr, rfl, _⟩ := (mem_spec_proofPositions F hyp q).1 hq
    obtain ⟨x, hx, hp⟩ := h3 t (mem_sortPos.1 ht)
    exact Or.inr ⟨x, t, hL x hx, hp, Or.inr ⟨w, ⟨R, hb, hanc, hle⟩, hnr, rfl⟩⟩
  obtain ⟨ls, hs1, hs2⟩ := stored_hashes inv (F.proofPositions tgts) hreq
  refine ⟨tgts, ls.map (·.hash), ?_, ?_⟩
  · unfold Forest.canon
    rw [h1]
    simp only [Option.bind_eq_bind, Option.bind_some, hs2]
    rfl
  · unfold MapPollard.prove
    have hall : m.allCached L = true := by
      unfold MapPollard.allCached
      exact List.all_eq_true.2 hL
    rw [hall]
    simp only [Bool.not_true, Bool.false_eq_true, if_false]
    rw [h2, sortU64_encP hT tgts htv, inv.n_eq]
    have hm := U8_eq_H8 m.totalRows
    have e : (ProofPositions (List.map (encP m.totalRows.toNat) (sortPos tgts)) (BitVec.ofNat 64 F.numLeaves) m.totalRows) =
        (ProofPositions (List.map (encP m.totalRows.toNat) (sortPos tgts)) (BitVec.ofNat 64 F.numLeaves) (H8 m.totalRows.toNat)) := by
      rw [← hm]
    rw [e, hPP]
    simp only [hs1]
    refine congrArg (fun a => Except.ok (a, List.map (fun x => x.hash) ls)) ?_
    have key := fun t ht => inv.n_eq ▸ toApi inv (htv' t ht)
    split
    · rename_i hc
      rw [List.map_map]
      refine List.map_congr_left fun t ht => ?_
      rw [← key t ht, if_pos hc]
      rfl
    · rename_i hc
      refine List.map_congr_left fun t ht => ?_
      rw [← key t ht, if_neg hc]

end UtreexoVerif.Proofs.MapProve
