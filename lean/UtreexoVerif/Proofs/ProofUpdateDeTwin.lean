/-
  What `deTwin` computes from the sorted deletion targets (property C07, helper).
  `deTwin` (utils.go) scans a sorted slice of positions; whenever an element is followed by its
  right sibling, both are replaced by their parent (`insertInOrder`).  Applied to the sorted
  encoded positions of a duplicate-free list `D` of live leaves of a specification forest `F`
  it returns exactly the positions of the MAXIMAL FULLY-DELETED SUBTREES (`Movement.IsDT`),
  strictly ascending, no two of them siblings (`deTwin_spec_full`, for any encoding with
  `F.rows ≤ rows ≤ 63`).

  The encoding facts (`twinTest_E`, `E_gt_iff`, `insertInOrder_map`, `sortU64_map_E`) serve the
  proof update, the map forest and the schedule as well.  The invariant `Inv F D d` moves by two steps on the
  zipper `pre ++ rest`, free of the loop, the encoding and the row count (`Inv.zip_merge`, `Inv.zip_adv`);
  the loops on positions with hashes (`ProofUndoDeTwin`) and on heap items (`PollardHeapUndoDeTwin`) use them too.
-/
import UtreexoVerif.Proofs.Movement
import UtreexoVerif.Model.ProofUpdate
import UtreexoVerif.Proofs.ProofOps
import UtreexoVerif.Proofs.SortedLists

namespace UtreexoVerif.Proofs.ProofUpdateDeTwin
open Spec Model
open UtreexoVerif.Proofs.SpecNodes UtreexoVerif.Proofs.SpecSubs
open UtreexoVerif.Proofs.CalcComplete UtreexoVerif.Proofs.FinalPos
open UtreexoVerif.Proofs.CalcGeo UtreexoVerif.Proofs.Sorted UtreexoVerif.Proofs.Movement

theorem deTwinLoop_zero (rows : U8) (i : Nat) (d : List U64) : deTwinLoop rows 0 i d = d := rfl

theorem deTwinLoop_merge {rows : U8} {fuel i : Nat} {d : List U64} {a b : U64}
    (h1 : d[i]? = some a) (h2 : d[i+1]? = some b) (h3 : (rightSib a == b) = true) :
    deTwinLoop rows (fuel + 1) i d =
      deTwinLoop rows fuel i (insertInOrder ((d.eraseIdx i).eraseIdx i) (Parent a rows)) := by
  simp only [deTwinLoop, h1, h2, h3, if_true]

theorem deTwinLoop_skip {rows : U8} {fuel i : Nat} {d : List U64} {a b : U64}
    (h1 : d[i]? = some a) (h2 : d[i+1]? = some b) (h3 : (rightSib a == b) = false) :
    deTwinLoop rows (fuel + 1) i d = deTwinLoop rows fuel (i + 1) d := by
  simp only [deTwinLoop, h1, h2, h3, Bool.false_eq_true, if_false]

theorem deTwinLoop_last {rows : U8} {fuel i : Nat} {d : List U64} {a : U64}
    (h1 : d[i]? = some a) (h2 : d[i+1]? = none) : deTwinLoop rows (fuel + 1) i d = d := by
  simp only [deTwinLoop, h1, h2]

theorem deTwinLoop_end {rows : U8} {fuel i : Nat} {d : List U64}
    (h1 : d[i]? = none) : deTwinLoop rows (fuel + 1) i d = d := by
  simp only [deTwinLoop, h1]

section lists
variable {α : Type}

theorem getElem?_at (pre : List α) (x : α) (rest : List α) :
    (pre ++ x :: rest)[pre.length]? = some x := by
  simp

theorem getElem?_at_succ (pre : List α) (x y : α) (rest : List α) :
    (pre ++ x :: y :: rest)[pre.length + 1]? = some y := by
  rw [List.getElem?_append_right (by omega)]
  simp

theorem getElem?_at_succ_none (pre : List α) (x : α) :
    (pre ++ [x])[pre.length + 1]? = none := by
  simp

theorem getElem?_at_none (pre : List α) : (pre ++ ([] : List α))[pre.length]? = none := by
  simp

theorem eraseIdx_twice (pre : List α) (x y : α) (rest : List α) :
    ((pre ++ x :: y :: rest).eraseIdx pre.length).eraseIdx pre.length = pre ++ rest := by
  rw [List.eraseIdx_append_of_length_le (Nat.le_refl _), Nat.sub_self, List.eraseIdx_cons_zero,
    List.eraseIdx_append_of_length_le (Nat.le_refl _), Nat.sub_self, List.eraseIdx_cons_zero]

variable {β : Type}

theorem map_getElem?_at (f : α → β) (pre : List α) (x : α) (rest : List α) :
    ((pre ++ x :: rest).map f)[pre.length]? = some (f x) := by
  simp

theorem map_getElem?_at_succ (f : α → β) (pre : List α) (x y : α) (rest : List α) :
    ((pre ++ x :: y :: rest).map f)[pre.length + 1]? = some (f y) := by
  rw [List.getElem?_map, getElem?_at_succ]
  rfl

theorem map_eraseIdx (f : α → β) : ∀ (l : List α) (i : Nat),
    (l.eraseIdx i).map f = (l.map f).eraseIdx i := by
  intro l
  induction l with
  | nil => intro i; rfl
  | cons x t ih =>
    intro i
    cases i with
    | zero => rfl
    | succ i => simp only [List.eraseIdx_cons_succ, List.map_cons, ih]

theorem split_at (l : List α) (i : Nat) (x y : α) (h1 : l[i]? = some x)
    (h2 : l[i + 1]? = some y) :
    l = l.take i ++ x :: y :: l.drop (i + 2) ∧ (l.take i).length = i := by
  have hi : i + 1 < l.length := by
    rcases Nat.lt_or_ge (i + 1) l.length with h | h
    · exact h
    · rw [List.getElem?_eq_none h] at h2; cases h2
  refine ⟨?_, by rw [List.length_take]; omega⟩
  have e1 : l.drop i = x :: l.drop (i + 1) := by
    rw [List.drop_eq_getElem_cons (by omega)]
    congr 1
    rw [List.getElem?_eq_getElem (by omega)] at h1
    injection h1
  have e2 : l.drop (i + 1) = y :: l.drop (i + 2) := by
    rw [List.drop_eq_getElem_cons hi]
    congr 1
    rw [List.getElem?_eq_getElem hi] at h2
    injection h2
  conv => lhs; rw [← List.take_append_drop i l, e1, e2]

theorem map_eraseIdx_twice (f : α → β) (pre : List α) (x y : α) (rest : List α) :
    (((pre ++ x :: y :: rest).map f).eraseIdx pre.length).eraseIdx pre.length =
      (pre ++ rest).map f := by
  have := eraseIdx_twice (pre.map f) (f x) (f y) (rest.map f)
  rw [List.length_map] at this
  simp only [List.map_append, List.map_cons]
  exact this

end lists

theorem row_lt_of_PLt {rows : Nat} {a b : Pos} (hb : ValidH rows b) (h : PLt a b) : a.1 < rows := by
  obtain ⟨h1, h2⟩ := hb
  rcases h with h | ⟨e, h⟩
  · omega
  · rcases Nat.lt_or_ge a.1 rows with hlt | hge
    · exact hlt
    · exfalso
      have : rows - b.1 = 0 := by omega
      rw [this] at h2
      omega

theorem twinTest_E {rows : Nat} (hr : rows ≤ 63) {a b : Pos} (ha : ValidH rows a) (hb : ValidH rows b)
    (hlt : PLt a b) : (rightSib (E rows a) == E rows b) = true ↔ (a.2 % 2 = 0 ∧ b = sib a) := by
  have hrow := row_lt_of_PLt hb hlt
  have hne : (E rows a != E rows b) = true := by
    rw [bne_iff_ne]
    intro e
    exact PLt.ne hlt (encP_inj hr ha hb e)
  rw [← sibTest_E hr ha hb hrow, hne, Bool.true_and]

theorem E_gt_iff {rows : Nat} (hr : rows ≤ 63) {p q : Pos} (hp : ValidH rows p) (hq : ValidH rows q) :
    E rows q > E rows p ↔ Forest.posLt p q = true :=
  encP_lt_iff hr hp hq

/-- for a position that is not in the list `insertSorted` never meets its duplicate test -/
theorem insertSorted_eq {P : Pos} : ∀ (l : List Pos), P ∉ l →
    Forest.insertSorted P l = InsertW.insertW (fun a b => Forest.posLt a b = true) id P l
  | [], _ => rfl
  | q :: qs, hn => by
    have hne : (P == q) = false := beq_false_of_ne (fun e => hn (by simp [e]))
    rw [Forest.insertSorted, InsertW.insertW, hne, insertSorted_eq qs (fun h => hn (List.mem_cons_of_mem _ h))]
    rfl

theorem insertInOrder_map {rows : Nat} (hr : rows ≤ 63) {P : Pos} (hP : ValidH rows P)
    (l : List Pos) (hv : ∀ q ∈ l, ValidH rows q) (hn : P ∉ l) :
    insertInOrder (l.map (E rows)) (E rows P) = (Forest.insertSorted P l).map (E rows) := by
  rw [SortBy.insertInOrder_eq_insertBy, SortBy.insertBy_eq, insertSorted_eq l hn]
  have := InsertW.insertW_map (fun a b => Forest.posLt a b = true) id (fun a b : U64 => a < b) (E rows) id P l
    (fun y hy => E_gt_iff hr hP (hv y hy))
  rw [List.map_id, List.map_id] at this
  exact congrArg _ this

theorem insertSorted_append {P : Pos} (l1 l2 : List Pos) (h : ∀ x ∈ l1, PLt x P) (hn : P ∉ l1 ++ l2) :
    Forest.insertSorted P (l1 ++ l2) = l1 ++ Forest.insertSorted P l2 := by
  rw [insertSorted_eq _ hn, insertSorted_eq _ (fun h => hn (List.mem_append_right _ h))]
  exact InsertW.insertW_append _ id P l1 l2 (fun y hy hlt => PLt.asymm ((posLt_iff _ _).1 hlt) (h y hy))

theorem sortU64_map_E {rows : Nat} (hr : rows ≤ 63) (ps : List Pos) (hv : ∀ p ∈ ps, ValidH rows p)
    (hnd : ps.Nodup) :
    sortU64 (ps.map (E rows)) = (Forest.sortDedup ps).map (E rows) := by
  have hv' : ∀ p ∈ Forest.sortDedup ps, ValidH rows p := fun p hp => hv p ((mem_sortDedup p ps).1 hp)
  apply eq_of_sorted_of_mem_iff (R := fun a b : U64 => a < b) (fun a => BitVec.lt_irrefl a)
    (fun _ _ _ => BitVec.lt_trans)
  · apply SortBy.strict_sortU64
    unfold List.Nodup at hnd ⊢
    rw [List.pairwise_map]
    exact hnd.imp_of_mem (fun {a b} ha hb hne e => hne (encP_inj hr (hv a ha) (hv b hb) e))
  · rw [List.pairwise_map]
    exact (sortDedup_sorted ps).imp_of_mem
      (fun {a b} ha hb h => (encP_lt_iff_or hr (hv' a ha) (hv' b hb)).2 h)
  · intro x
    rw [SortBy.mem_sortU64, List.mem_map, List.mem_map]
    constructor
    · rintro ⟨p, hp, rfl⟩; exact ⟨p, (mem_sortDedup p ps).2 hp, rfl⟩
    · rintro ⟨p, hp, rfl⟩; exact ⟨p, (mem_sortDedup p ps).1 hp, rfl⟩

section forest
variable {H : Type} [DecidableEq H] [Hasher H]

theorem SubAtT.depth_le {F : Forest H} {h : Nat} {p : Pos} {t : CTree H} (s : SubAtT F h p t) :
    depth t ≤ p.1 := by
  obtain ⟨t0, _, hd, hm⟩ := s.tree
  exact subs_depth t0 h _ hd _ hm

theorem strict_sub {F : Forest H} {hU : Nat} {U T : Pos} {tU tT : CTree H} (sU : SubAtT F hU U tU)
    (hm : (T, tT) ∈ subs tU U.1 U.2) (hne : U ≠ T) :
    T.1 < U.1 ∧ ∃ s' : CTree H, SubAtT F hU (sib T) s' ∧ (sib T, s') ∈ subs tU U.1 U.2 ∧
      (Spec.parent T, if T.2 % 2 = 0 then CTree.node tT s' else CTree.node s' tT) ∈ subs tU U.1 U.2 := by
  rcases subs_parent tU U.1 U.2 (SubAtT.depth_le sU) _ hm with e | ⟨hlt, s', h1, h2⟩
  · exact absurd (Prod.mk.inj e).1.symm hne
  · exact ⟨hlt, s', sU.sub h2, h2, h1⟩

theorem merge_node {F : Forest H} {hL hR : Nat} {L : Pos} {tL tR : CTree H}
    (sL : SubAtT F hL L tL) (sR : SubAtT F hR (sib L) tR) :
    L.1 < hL ∧ ∃ tP, SubAtT F hL (Spec.parent L) tP ∧
      ∀ x, x ∈ tP.leaves ↔ (x ∈ tL.leaves ∨ x ∈ tR.leaves) := by
  have hr : isRootPos F.numLeaves L = false := by
    cases h : isRootPos F.numLeaves L with
    | false => rfl
    | true => exact (sib_root_not_inF h sR.inF (sib_sib L)).elim
  obtain ⟨hlt, s', hpar, hsib⟩ := sL.parent hr
  have e : s' = tR := (hsib.unique sR).2
  subst e
  refine ⟨hlt, _, hpar, ?_⟩
  intro x
  split
  · simp [CTree.leaves]
  · simp only [CTree.leaves, List.mem_append]
    exact Or.comm

/-- `T` is a node of `F` all of whose leaves are in `D` -/
def FDn (F : Forest H) (D : List H) (T : Pos) : Prop :=
  ∃ h t, SubAtT F h T t ∧ delT D t = none

/-- the invariant of `deTwin`'s loop: the list consists of fully deleted nodes, covers `D`, is
strictly sorted, and no leaf lies below two of its elements -/
structure Inv (F : Forest H) (D : List H) (d : List Pos) : Prop where
  fd : ∀ T ∈ d, FDn F D T
  cov : ∀ x ∈ D, ∃ T ∈ d, ∃ h t, SubAtT F h T t ∧ x ∈ t.leaves
  sorted : d.Pairwise PLt
  disj : ∀ U ∈ d, ∀ T ∈ d, ∀ (hU hT : Nat) (tU tT : CTree H) (x : H),
    SubAtT F hU U tU → SubAtT F hT T tT → x ∈ tU.leaves → x ∈ tT.leaves → U = T

theorem Inv.valid {F : Forest H} {D : List H} {d : List Pos} (inv : Inv F D d) {T : Pos}
    (hT : T ∈ d) : ValidH F.rows T := by
  obtain ⟨h, t, s, _⟩ := inv.fd T hT
  exact s.inF.valid

theorem Inv.merge {F : Forest H} {D : List H} {d d' : List Pos} (inv : Inv F D d) {L : Pos}
    (hL : L ∈ d) (hR : sib L ∈ d) (hs : d'.Pairwise PLt)
    (hm : ∀ x, x ∈ d' ↔ x = Spec.parent L ∨ (x ∈ d ∧ x ≠ L ∧ x ≠ sib L)) : Inv F D d' := by
  obtain ⟨hL', tL, sL, dL⟩ := inv.fd L hL
  obtain ⟨hR', tR, sR, dR⟩ := inv.fd _ hR
  obtain ⟨_, tP, sP, hlv⟩ := merge_node sL sR
  have dP : delT D tP = none := by
    rw [delT_eq_none_iff] at dL dR ⊢
    intro l hl
    rcases (hlv l).1 hl with h | h
    · exact dL l h
    · exact dR l h
  have key : ∀ V ∈ d, ∀ (hV : Nat) (tV : CTree H) (x : H), SubAtT F hV V tV → x ∈ tV.leaves →
      x ∈ tP.leaves → V = L ∨ V = sib L := by
    intro V hV hV' tV x sV hxV hxP
    rcases (hlv x).1 hxP with h | h
    · exact Or.inl (inv.disj V hV L hL _ _ _ _ x sV sL hxV h)
    · exact Or.inr (inv.disj V hV _ hR _ _ _ _ x sV sR hxV h)
  refine ⟨?_, ?_, hs, ?_⟩
  · intro T hT
    rcases (hm T).1 hT with rfl | ⟨h, _, _⟩
    · exact ⟨_, _, sP, dP⟩
    · exact inv.fd T h
  · intro x hx
    obtain ⟨T, hT, h, t, s, hxt⟩ := inv.cov x hx
    by_cases e1 : T = L
    · subst e1
      have e := (s.unique sL).2
      subst e
      exact ⟨_, (hm _).2 (Or.inl rfl), _, _, sP, (hlv x).2 (Or.inl hxt)⟩
    · by_cases e2 : T = sib L
      · subst e2
        have e := (s.unique sR).2
        subst e
        exact ⟨_, (hm _).2 (Or.inl rfl), _, _, sP, (hlv x).2 (Or.inr hxt)⟩
      · exact ⟨T, (hm T).2 (Or.inr ⟨hT, e1, e2⟩), h, t, s, hxt⟩
  · intro U hU T hT hU' hT' tU tT x sU sT hxU hxT
    rcases (hm U).1 hU with eU | ⟨hUd, nU1, nU2⟩ <;> rcases (hm T).1 hT with eT | ⟨hTd, nT1, nT2⟩
    · rw [eU, eT]
    · exfalso
      subst eU
      have e := (sU.unique sP).2
      subst e
      rcases key T hTd _ _ x sT hxT hxU with h | h
      · exact nT1 h
      · exact nT2 h
    · exfalso
      subst eT
      have e := (sT.unique sP).2
      subst e
      rcases key U hUd _ _ x sU hxU hxT with h | h
      · exact nU1 h
      · exact nU2 h
    · exact inv.disj U hUd T hTd _ _ _ _ x sU sT hxU hxT

/-- a fully deleted node with no strict ancestor in the list belongs to the list, once no two
siblings are left -/
theorem Inv.inside {F : Forest H} {D : List H} {d : List Pos} (hnd : F.liveLeaves.Nodup)
    (inv : Inv F D d) (ns : ∀ x ∈ d, sib x ∉ d) :
    ∀ (t : CTree H) (h : Nat) (p : Pos), SubAtT F h p t → delT D t = none →
      (∀ U ∈ d, ∀ (hU : Nat) (tU : CTree H), SubAtT F hU U tU → (p, t) ∈ subs tU U.1 U.2 → U = p) →
      p ∈ d := by
  intro t
  induction t with
  | leaf l =>
    intro h p s hd hyp
    have hl : l ∈ D := (delT_eq_none_iff D _).1 hd l (by simp [CTree.leaves])
    obtain ⟨U, hU, hU', tU, sU, hlU⟩ := inv.cov l hl
    rcases (sU.nested hnd s hlU (by simp [CTree.leaves])).2 with h1 | h1
    · rw [← hyp U hU hU' tU sU h1]
      exact hU
    · simp only [subs, List.mem_singleton, Prod.mk.injEq] at h1
      have e : U = p := h1.1
      rw [← e]
      exact hU
  | node a b iha ihb =>
    intro h p s hd hyp
    by_cases hp : p ∈ d
    · exact hp
    · exfalso
      obtain ⟨h1, ca, cb⟩ := s.children
      have hall := (delT_eq_none_iff D _).1 hd
      have hda : delT D a = none :=
        (delT_eq_none_iff D a).2 (fun l hl => hall l (by simp [CTree.leaves, hl]))
      have hdb : delT D b = none :=
        (delT_eq_none_iff D b).2 (fun l hl => hall l (by simp [CTree.leaves, hl]))
      have epa : Spec.parent (p.1 - 1, 2 * p.2) = p := by
        obtain ⟨p1, p2⟩ := p
        simp only [Spec.parent, Prod.mk.injEq]
        simp only at h1
        omega
      have epb : Spec.parent (p.1 - 1, 2 * p.2 + 1) = p := by
        obtain ⟨p1, p2⟩ := p
        simp only [Spec.parent, Prod.mk.injEq]
        simp only at h1
        omega
      -- a node of the list above a child of `p` would lie above `p`
      have hup : ∀ (c : Pos) (tc : CTree H), Spec.parent c = p → ∀ U ∈ d, ∀ (hU : Nat)
          (tU : CTree H), SubAtT F hU U tU → (c, tc) ∈ subs tU U.1 U.2 → U = c := by
        intro c tc epc U hU hU' tU sU hm
        apply Classical.byContradiction
        intro e
        obtain ⟨_, s', _, _, hpar⟩ := strict_sub sU hm e
        rw [epc] at hpar
        have e2 := ((sU.sub hpar).unique s).2
        rw [e2] at hpar
        exact hp (hyp U hU hU' tU sU hpar ▸ hU)
      have hina := iha h _ ca hda (hup _ a epa)
      have hinb := ihb h _ cb hdb (hup _ b epb)
      exact ns _ hina (Spec.sib_left_child _ _ ▸ hinb)

theorem Inv.final {F : Forest H} {D : List H} {d : List Pos} (hnd : F.liveLeaves.Nodup)
    (inv : Inv F D d) (ns : ∀ x ∈ d, sib x ∉ d) : ∀ T, T ∈ d ↔ IsDT F D T := by
  intro T
  constructor
  · intro hT
    obtain ⟨h, t, s, hd⟩ := inv.fd T hT
    refine ⟨h, t, s, hd, ?_⟩
    by_cases hr : T.1 = h
    · exact Or.inl hr
    · right
      have hnr : isRootPos F.numLeaves T = false := by
        cases hq : isRootPos F.numLeaves T with
        | false => rfl
        | true => exact absurd (s.root_iff.1 hq) hr
      obtain ⟨hlt, s', hpar, hsib⟩ := s.parent hnr
      have hal := aliveAfter_of (D := D) hsib
      show aliveAfter F D (sib T).1 (sib T).2 = true
      rw [hal]
      cases hds : delT D s' with
      | some _ => rfl
      | none =>
        exfalso
        apply ns T hT
        apply inv.inside hnd ns s' h (sib T) hsib hds
        intro U hU hU' tU sU hm
        by_cases e : U = sib T
        · exact e
        · exfalso
          obtain ⟨hlt', s'', ss'', hm'', _⟩ := strict_sub sU hm e
          rw [sib_sib] at ss'' hm''
          have e2 := (ss''.unique s).2
          subst e2
          obtain ⟨x, hx⟩ := List.exists_mem_of_ne_nil _ (CTree.leaves_ne_nil s'')
          have hxU := subs_leaves tU _ _ _ hm'' x hx
          have e3 := inv.disj U hU T hT _ _ _ _ x sU s hxU hx
          subst e3
          simp [sib] at hlt'
  · rintro ⟨h, t, s, hd, hmax⟩
    apply inv.inside hnd ns t h T s hd
    intro U hU hU' tU sU hm
    by_cases e : U = T
    · exact e
    · exfalso
      obtain ⟨hlt', s', ss', hm', _⟩ := strict_sub sU hm e
      have hh : hU' = h := ((sU.sub hm).unique s).1
      subst hh
      rcases hmax with hroot | hal
      · have := sU.row_le
        omega
      · obtain ⟨_, tU', sU2, dU⟩ := inv.fd U hU
        have e2 := (sU2.unique sU).2
        subst e2
        have hds : delT D s' = none := by
          rw [delT_eq_none_iff] at dU ⊢
          intro l hl
          exact dU l (subs_leaves tU' _ _ _ hm' l hl)
        have h2 := aliveAfter_of (D := D) ss'
        rw [hds] at h2
        have h3 : aliveAfter F D T.1 (sibIdx T.2) = false := h2
        rw [h3] at hal
        cases hal

/-- the position list handed to `deTwin` (before encoding and sorting); `deTwin_spec` and its siblings write it out -/
def leafPositions (F : Forest H) (D : List H) : List Pos :=
  D.map (fun l => (F.posOf l).getD (0, 0))

theorem pos_of_live {F : Forest H} (hn : F.numLeaves ≤ 2 ^ 63) {l : H} (hl : l ∈ F.liveLeaves) :
    ∃ h, SubAtT F h ((F.posOf l).getD (0, 0)) (.leaf l) := by
  obtain ⟨p, hp⟩ := Spec.posOf_isSome_of_live (by omega) hl
  rw [hp]
  exact posOf_sub hp

theorem leafPositions_nodup {F : Forest H} (hn : F.numLeaves ≤ 2 ^ 63) {D : List H} (hD : D.Nodup)
    (hlive : ∀ x ∈ D, x ∈ F.liveLeaves) : (leafPositions F D).Nodup := by
  unfold leafPositions List.Nodup at *
  rw [List.pairwise_map]
  refine hD.imp_of_mem (fun {a b} ha hb hne e => hne ?_)
  obtain ⟨h1, s1⟩ := pos_of_live hn (hlive a ha)
  obtain ⟨h2, s2⟩ := pos_of_live hn (hlive b hb)
  rw [e] at s1
  have := (s1.unique s2).2
  injection this

theorem leafPositions_valid {F : Forest H} (hn : F.numLeaves ≤ 2 ^ 63) {D : List H}
    (hlive : ∀ x ∈ D, x ∈ F.liveLeaves) : ∀ p ∈ leafPositions F D, ValidH F.rows p := by
  intro p hp
  unfold leafPositions at hp
  obtain ⟨l, hl, rfl⟩ := List.mem_map.1 hp
  obtain ⟨h, s⟩ := pos_of_live hn (hlive l hl)
  exact s.inF.valid

theorem Inv.init {F : Forest H} (hn : F.numLeaves ≤ 2 ^ 63) {D : List H}
    (hlive : ∀ x ∈ D, x ∈ F.liveLeaves) : Inv F D (Forest.sortDedup (leafPositions F D)) := by
  have hmem : ∀ T, T ∈ Forest.sortDedup (leafPositions F D) ↔
      ∃ l ∈ D, (F.posOf l).getD (0, 0) = T := by
    intro T
    rw [mem_sortDedup]
    unfold leafPositions
    rw [List.mem_map]
  refine ⟨?_, ?_, sortDedup_sorted _, ?_⟩
  · intro T hT
    obtain ⟨l, hl, rfl⟩ := (hmem T).1 hT
    obtain ⟨h, s⟩ := pos_of_live hn (hlive l hl)
    exact ⟨h, _, s, by simp [delT, hl]⟩
  · intro x hx
    obtain ⟨h, s⟩ := pos_of_live hn (hlive x hx)
    exact ⟨_, (hmem _).2 ⟨x, hx, rfl⟩, h, _, s, by simp [CTree.leaves]⟩
  · intro U hU T hT hU' hT' tU tT x sU sT hxU hxT
    obtain ⟨l, hl, rfl⟩ := (hmem U).1 hU
    obtain ⟨l', hl', rfl⟩ := (hmem T).1 hT
    obtain ⟨h, s⟩ := pos_of_live hn (hlive l hl)
    obtain ⟨h', s'⟩ := pos_of_live hn (hlive l' hl')
    have e1 := (sU.unique s).2
    have e2 := (sT.unique s').2
    subst e1
    subst e2
    simp only [CTree.leaves, List.mem_singleton] at hxU hxT
    rw [← hxU, ← hxT]

/-! ### the scan on the zipper `(pre, rest)`

`pre` has been scanned (no element of it has its sibling in the list), the scan stands at the head
of `rest`.  The two steps below are all the position-level content of the scan: the loops of
`deTwin` on encoded positions (`loop_spec_rows`) and of `deTwinPolNode` on heap items
(`PollardHeap.deTwinPolNodeLoop_zip`) only add their own bookkeeping. -/

/-- **merge step**: `a` and its sibling leave the list, their parent is inserted in order, which
is behind `pre` -/
theorem Inv.zip_merge {F : Forest H} {D : List H} {pre rest' : List Pos} {a : Pos}
    (inv : Inv F D (pre ++ a :: sib a :: rest')) :
    Spec.parent a ∉ pre ++ rest' ∧ (∀ x ∈ pre ++ rest', x ∈ pre ++ a :: sib a :: rest') ∧
    Forest.insertSorted (Spec.parent a) (pre ++ rest') = pre ++ Forest.insertSorted (Spec.parent a) rest' ∧
    Inv F D (pre ++ Forest.insertSorted (Spec.parent a) rest') ∧
    ((∀ x ∈ pre, sib x ∉ pre ++ a :: sib a :: rest') →
      ∀ x ∈ pre, sib x ∉ pre ++ Forest.insertSorted (Spec.parent a) rest') ∧
    (pre ++ rest').Pairwise PLt ∧ (∀ x ∈ pre, PLt x (Spec.parent a)) := by
  have ha : a ∈ pre ++ a :: sib a :: rest' := by simp
  have hb : sib a ∈ pre ++ a :: sib a :: rest' := by simp
  have hso := inv.sorted
  rw [List.pairwise_append, List.pairwise_cons, List.pairwise_cons] at hso
  obtain ⟨sPre, ⟨hA, hB, sRest⟩, hPR⟩ := hso
  -- the parent is not in the list: it would share a leaf with `a`
  have hPnot : Spec.parent a ∉ pre ++ a :: sib a :: rest' := by
    intro hP
    obtain ⟨hL', tL, sL, _⟩ := inv.fd a ha
    obtain ⟨hR', tR, sR, _⟩ := inv.fd _ hb
    obtain ⟨_, tP, sP, hlv⟩ := merge_node sL sR
    obtain ⟨x, hx⟩ := List.exists_mem_of_ne_nil _ (CTree.leaves_ne_nil tL)
    have := inv.disj _ hP a ha _ _ _ _ x sP sL ((hlv x).2 (Or.inl hx)) hx
    have := congrArg Prod.fst this
    simp [Spec.parent] at this
  have hsub : ∀ x ∈ pre ++ rest', x ∈ pre ++ a :: sib a :: rest' := by
    intro x h
    rcases List.mem_append.1 h with h | h
    · exact List.mem_append_left _ h
    · exact List.mem_append_right _ (List.mem_cons_of_mem _ (List.mem_cons_of_mem _ h))
  have hsort' : (pre ++ rest').Pairwise PLt := by
    rw [List.pairwise_append]
    exact ⟨sPre, sRest, fun x hx y hy => hPR x hx y (by simp [hy])⟩
  have hmem : ∀ x, x ∈ Forest.insertSorted (Spec.parent a) (pre ++ rest') ↔
      x = Spec.parent a ∨ (x ∈ pre ++ a :: sib a :: rest' ∧ x ≠ a ∧ x ≠ sib a) := by
    intro x
    rw [mem_insertSorted]
    have hna : ∀ x ∈ pre ++ rest', x ≠ a ∧ x ≠ sib a := by
      intro x hx
      rcases List.mem_append.1 hx with hx | hx
      · exact ⟨PLt.ne (hPR x hx a (by simp)), PLt.ne (hPR x hx _ (by simp))⟩
      · exact ⟨(PLt.ne (hA x (by simp [hx]))).symm, (PLt.ne (hB x hx)).symm⟩
    constructor
    · rintro (h | h)
      · exact Or.inl h
      · exact Or.inr ⟨hsub x h, hna x h⟩
    · rintro (h | ⟨h, n1, n2⟩)
      · exact Or.inl h
      · right
        rcases List.mem_append.1 h with h | h
        · exact List.mem_append_left _ h
        · simp only [List.mem_cons] at h
          rcases h with h | h | h
          · exact absurd h n1
          · exact absurd h n2
          · exact List.mem_append_right _ h
  have inv' : Inv F D (Forest.insertSorted (Spec.parent a) (pre ++ rest')) :=
    inv.merge ha hb (insertSorted_sorted _ _ hsort') hmem
  have hpreP : ∀ x ∈ pre, PLt x (Spec.parent a) :=
    fun x hx => PLt.trans _ _ _ (hPR x hx a (by simp)) (lt_parent a)
  have eins := insertSorted_append pre rest' hpreP (fun h => hPnot (hsub _ h))
  refine ⟨fun h => hPnot (hsub _ h), hsub, eins, eins ▸ inv', ?_, hsort', hpreP⟩
  intro ns x hx hs
  rw [← eins] at hs
  rcases (hmem _).1 hs with h | ⟨h, _, _⟩
  · -- the sibling of an element before `a` lies on a lower row than the parent of `a`
    have hlt := hPR x hx a (by simp)
    have := congrArg Prod.fst h
    simp only [sib, Spec.parent] at this
    rcases hlt with h' | ⟨h', _⟩ <;> omega
  · exact ns x hx h

omit [Hasher H] in
theorem Inv.zip_adv {F : Forest H} {D : List H} {pre rest : List Pos} {a : Pos}
    (inv : Inv F D (pre ++ a :: rest)) (ns : ∀ x ∈ pre, sib x ∉ pre ++ a :: rest)
    (hne : ∀ b ∈ rest.head?, ¬ (a.2 % 2 = 0 ∧ b = sib a)) :
    ∀ x ∈ pre ++ [a], sib x ∉ (pre ++ [a]) ++ rest := by
  have ha : a ∈ pre ++ a :: rest := by simp
  have hso := inv.sorted
  rw [List.pairwise_append, List.pairwise_cons] at hso
  obtain ⟨_, ⟨hA, sRest⟩, _⟩ := hso
  have e : pre ++ a :: rest = (pre ++ [a]) ++ rest := by simp
  have nsa : sib a ∉ pre ++ a :: rest := by
    intro hs
    rcases List.mem_append.1 hs with hs | hs
    · have := ns _ hs
      rw [sib_sib] at this
      exact this ha
    · rcases List.mem_cons.1 hs with hs | hs
      · exact sib_ne _ hs
      · -- `sib a` lies behind `a`, so it is the right sibling, and nothing lies between the two
        have hev : a.2 % 2 = 0 := (sib_gt_iff a).1 (hA _ hs)
        cases rest with
        | nil => cases hs
        | cons b rest' =>
          rcases List.mem_cons.1 hs with hs | hs
          · exact hne b rfl ⟨hev, hs.symm⟩
          · exact no_between hev (hA b (by simp)) ((List.pairwise_cons.1 sRest).1 _ hs)
  intro x hx
  rw [← e]
  rcases List.mem_append.1 hx with hx | hx
  · exact ns x hx
  · rw [List.mem_singleton.1 hx]
    exact nsa

/-- the zipper `(pre, rest)` is the loop's list cut at its index `i = pre.length` -/
theorem loop_spec_rows {F : Forest H} {D : List H} {rows : Nat} (hF : F.rows ≤ rows)
    (hr : rows ≤ 63) :
    ∀ (fuel : Nat) (pre rest : List Pos), Inv F D (pre ++ rest) →
      (∀ x ∈ pre, sib x ∉ pre ++ rest) → rest.length ≤ fuel →
      ∃ dtp, deTwinLoop (H8 rows) fuel pre.length ((pre ++ rest).map (E rows)) =
          dtp.map (E rows) ∧ Inv F D dtp ∧ ∀ x ∈ dtp, sib x ∉ dtp := by
  intro fuel
  induction fuel with
  | zero =>
    intro pre rest inv ns hf
    have : rest = [] := List.eq_nil_of_length_eq_zero (by omega)
    subst this
    exact ⟨pre ++ [], rfl, inv, fun x hx => ns x (by simpa using hx)⟩
  | succ f ih =>
    intro pre rest inv ns hf
    match rest, inv, ns, hf with
    | [], inv, ns, _ =>
      exact ⟨pre ++ [], deTwinLoop_end (by simp), inv,
        fun x hx => ns x (by simpa using hx)⟩
    | [a], inv, ns, _ =>
      exact ⟨pre ++ [a], deTwinLoop_last (map_getElem?_at _ _ _ _) (by simp),
        inv, by simpa using inv.zip_adv ns (by simp)⟩
    | a :: b :: rest', inv, ns, hf =>
      have va := ValidH.mono (inv.valid (show a ∈ pre ++ a :: b :: rest' by simp)) hF
      have vb := ValidH.mono (inv.valid (show b ∈ pre ++ a :: b :: rest' by simp)) hF
      have hlt : PLt a b := by
        have hso := inv.sorted
        rw [List.pairwise_append, List.pairwise_cons] at hso
        exact hso.2.1.1 b (by simp)
      cases htest : (rightSib (E rows a) == E rows b) with
      | true =>
        obtain ⟨hev, hbs⟩ := (twinTest_E hr va vb hlt).1 htest
        subst hbs
        have hrow := row_lt_of_PLt vb hlt
        obtain ⟨hPnot', hsub, eins, inv', ns', _, _⟩ := inv.zip_merge
        have hlen : (Forest.insertSorted (Spec.parent a) rest').length ≤ f := by
          have := SpecPlan.length_insertSorted_le (Spec.parent a) rest'
          simp only [List.length_cons] at hf
          omega
        obtain ⟨dtp, h1, h2, h3⟩ := ih pre _ inv' (ns' ns) hlen
        refine ⟨dtp, ?_, h2, h3⟩
        rw [deTwinLoop_merge (map_getElem?_at _ _ _ _) (map_getElem?_at_succ _ _ _ _ _) htest,
          map_eraseIdx_twice, parent_E hr va hrow,
          insertInOrder_map hr (ValidH.parent va hrow) _
            (fun q hq => ValidH.mono (inv.valid (hsub q hq)) hF) hPnot', eins]
        exact h1
      | false =>
        have e : pre ++ a :: b :: rest' = (pre ++ [a]) ++ b :: rest' := by simp
        have elen : pre.length + 1 = (pre ++ [a]).length := by simp
        have ns' := inv.zip_adv ns (by
          intro b' hb' h
          cases Option.mem_some_iff.1 hb'
          have := (twinTest_E hr va vb hlt).2 h
          rw [htest] at this; cases this)
        obtain ⟨dtp, h1, h2, h3⟩ := ih (pre ++ [a]) (b :: rest') (e ▸ inv) ns'
          (by simp only [List.length_cons] at hf ⊢; omega)
        refine ⟨dtp, ?_, h2, h3⟩
        rw [deTwinLoop_skip (map_getElem?_at _ _ _ _) (map_getElem?_at_succ _ _ _ _ _) htest, elen, e]
        exact h1

theorem deTwin_inv {F : Forest H} (hn : F.numLeaves ≤ 2 ^ 63)
    {D : List H} (hD : D.Nodup) (hlive : ∀ x ∈ D, x ∈ F.liveLeaves) {rows : Nat}
    (hF : F.rows ≤ rows) (hr : rows ≤ 63) :
    ∃ dtp : List Pos,
      Model.deTwin (Model.sortU64 ((D.map (fun l => (F.posOf l).getD (0, 0))).map (E rows)))
        (H8 rows) = dtp.map (E rows) ∧
      Inv F D dtp ∧ ∀ x ∈ dtp, sib x ∉ dtp := by
  obtain ⟨dtp, h1, h2, h3⟩ := loop_spec_rows (F := F) (D := D) hF hr
    (2 * (Forest.sortDedup (leafPositions F D)).length + 1) []
    (Forest.sortDedup (leafPositions F D)) (Inv.init hn hlive) (by simp) (by omega)
  refine ⟨dtp, ?_, h2, h3⟩
  show Model.deTwin (Model.sortU64 ((leafPositions F D).map (E rows))) (H8 rows) = _
  rw [sortU64_map_E hr (leafPositions F D)
    (fun p hp => ValidH.mono (leafPositions_valid hn hlive p hp) hF) (leafPositions_nodup hn hD hlive)]
  unfold Model.deTwin
  rw [List.length_map]
  exact h1

theorem deTwin_spec_full {F : Forest H} (hn : F.numLeaves ≤ 2 ^ 63) (hnd : F.liveLeaves.Nodup)
    {D : List H} (hD : D.Nodup) (hlive : ∀ x ∈ D, x ∈ F.liveLeaves) {rows : Nat}
    (hF : F.rows ≤ rows) (hr : rows ≤ 63) :
    ∃ dtp : List Pos,
      Model.deTwin (Model.sortU64 ((D.map (fun l => (F.posOf l).getD (0, 0))).map (E rows)))
        (H8 rows) = dtp.map (E rows) ∧
      Inv F D dtp ∧ (∀ x ∈ dtp, sib x ∉ dtp) ∧ dtp.Pairwise PLt ∧ ∀ T, T ∈ dtp ↔ IsDT F D T := by
  obtain ⟨dtp, h1, h2, h3⟩ := deTwin_inv hn hD hlive hF hr
  exact ⟨dtp, h1, h2, h3, h2.sorted, h2.final hnd h3⟩

theorem deTwin_spec_rows {F : Forest H} (hn : F.numLeaves ≤ 2 ^ 63) (hnd : F.liveLeaves.Nodup)
    {D : List H} (hD : D.Nodup) (hlive : ∀ x ∈ D, x ∈ F.liveLeaves) {rows : Nat}
    (hF : F.rows ≤ rows) (hr : rows ≤ 63) :
    ∃ dtp : List Pos,
      Model.deTwin (Model.sortU64 ((D.map (fun l => (F.posOf l).getD (0, 0))).map (E rows)))
        (H8 rows) = dtp.map (E rows) ∧
      dtp.Pairwise PLt ∧ ∀ T, T ∈ dtp ↔ IsDT F D T := by
  obtain ⟨dtp, h1, _, _, h4, h5⟩ := deTwin_spec_full hn hnd hD hlive hF hr
  exact ⟨dtp, h1, h4, h5⟩

theorem deTwin_spec {F : Forest H} (hn : F.numLeaves ≤ 2 ^ 63) (hnd : F.liveLeaves.Nodup)
    {D : List H} (hD : D.Nodup) (hlive : ∀ x ∈ D, x ∈ F.liveLeaves) :
    ∃ dtp : List Pos,
      Model.deTwin (Model.sortU64 ((D.map (fun l => (F.posOf l).getD (0, 0))).map (E F.rows)))
        (H8 F.rows) = dtp.map (E F.rows) ∧
      dtp.Pairwise PLt ∧ ∀ T, T ∈ dtp ↔ IsDT F D T :=
  deTwin_spec_rows hn hnd hD hlive (Nat.le_refl _) (forestRows_small hn)

end forest

/-! ### a concrete instance

Five slots (trees on rows 2 and 0, `F.rows = 3`), all alive.  Deleting the leaves 3, 0, 1 (in
that order): the sorted encoded targets are `[0, 1, 3]`; `deTwin` merges the sibling leaves
`0`, `1` into their parent `8 = E 3 (1, 0)` and keeps `3`, whose sibling `2` survives. -/

namespace Example

inductive T where
  | z
  | leaf (n : Nat)
  | node (l r : T)
deriving DecidableEq

instance : Hasher T := ⟨T.node, T.z⟩

def F5 : Forest T := ⟨[some (.leaf 0), some (.leaf 1), some (.leaf 2), some (.leaf 3), some (.leaf 4)]⟩

def D5 : List T := [.leaf 3, .leaf 0, .leaf 1]

theorem targets5 :
    Model.sortU64 ((D5.map (fun l => (F5.posOf l).getD (0, 0))).map (E F5.rows)) =
      [0#64, 1#64, 3#64] := by decide +kernel

theorem deTwin5 :
    Model.deTwin (Model.sortU64 ((D5.map (fun l => (F5.posOf l).getD (0, 0))).map (E F5.rows)))
      (H8 F5.rows) = [3#64, 8#64] := by decide +kernel

theorem deTwin5_pos : [3#64, 8#64] = [((0, 3) : Pos), (1, 0)].map (E F5.rows) := by decide +kernel

/-- the hypotheses of `deTwin_spec` hold for this instance, so the list it describes is
`[(0,3), (1,0)]`: these are exactly the maximal fully-deleted subtrees -/
example : ∀ T, T ∈ [((0, 3) : Pos), (1, 0)] ↔ IsDT F5 D5 T := by
  obtain ⟨dtp, h1, h2, h3⟩ := deTwin_spec (F := F5) (by decide) (by decide) (D := D5) (by decide)
    (by decide)
  rw [deTwin5, deTwin5_pos] at h1
  have hv : ∀ p ∈ dtp, ValidH F5.rows p := by
    intro p hp
    obtain ⟨h, t, s, _⟩ := (h3 p).1 hp
    exact s.inF.valid
  have hr : F5.rows ≤ 63 := by decide +kernel
  have e : [((0, 3) : Pos), (1, 0)] = dtp := by
    have hlen := congrArg List.length h1
    simp only [List.length_map, List.length_cons, List.length_nil] at hlen
    match dtp, hlen, h1, hv with
    | [p, q], _, h1, hv =>
      simp only [List.map_cons, List.map_nil, List.cons.injEq, and_true] at h1
      have e1 := encP_inj hr (by unfold ValidH; decide +kernel) (hv p (by simp)) h1.1
      have e2 := encP_inj hr (by unfold ValidH; decide +kernel) (hv q (by simp)) h1.2
      rw [e1, e2]
  rw [e]
  exact h3

end Example

/-- `deTwin_spec` once more, as a check that the name carries exactly this statement -/
example {H : Type} [DecidableEq H] [Hasher H] {F : Forest H} (hn : F.numLeaves ≤ 2 ^ 63)
    (hnd : F.liveLeaves.Nodup) {D : List H} (hD : D.Nodup) (hlive : ∀ x ∈ D, x ∈ F.liveLeaves) :
    ∃ dtp : List Pos,
      Model.deTwin (Model.sortU64 ((D.map (fun l => (F.posOf l).getD (0, 0))).map (E F.rows))) (H8 F.rows)
        = dtp.map (E F.rows) ∧
      dtp.Pairwise PLt ∧ ∀ T, T ∈ dtp ↔ IsDT F D T :=
  deTwin_spec hn hnd hD hlive

end UtreexoVerif.Proofs.ProofUpdateDeTwin
