/-
  `RestorePollardFrom` on the heap versus the shape-level decoder, for ARBITRARY streams (the
  statements themselves: `Props/C13Heap.lean`): `restoreH_total`; `PShape` / `PRoots` ("this heap
  node carries this `PNode`": `LShape` / `LRoots` of `Proofs/PollardHeapBuild.lean` without the
  record data and the `NodeMap` entries) with `buildAll_shape`; the two node maps (`maps_agree`,
  `no_collision_encode`).
  Namespace `Proofs.PollardHeapSerial`, shared by five modules: see the head of `Proofs/PollardFormat.lean`.
-/
import UtreexoVerif.Proofs.PollardHeapRestoreValid
set_option linter.unusedSectionVars false

namespace UtreexoVerif.Proofs.PollardHeapSerial
open UtreexoVerif.Model.PollardHeap UtreexoVerif.Spec
open UtreexoVerif.Model.Serial UtreexoVerif.Proofs.Serial UtreexoVerif.Proofs.PollardHeap

variable {H : Type} [DecidableEq H] [Hasher H] [HashBytes H]

theorem restoreH_total (r : Reader) :
    (restoreH (H := H) r).out ≠ .panic ∧ (restoreH (H := H) r).out ≠ .hang := by
  have h := restoreL_total r
  rw [restoreH_eq]
  rcases hy : restoreL r with ⟨n, o⟩
  rw [hy] at h
  cases o with
  | ok x =>
    obtain ⟨nl, nd, ts⟩ := x
    simp only []
    split <;> simp
  | err => simp [failAs]
  | panic => exact absurd rfl h.2
  | hang => exact absurd rfl h.1

/-- heap node `n` carries the `polNode` shape `t`: data, both nieces or none (pointing back
with their aunt pointers), `remember = false` as `readOne` leaves it; `fp` = the nodes below.
(`LShape` of `Proofs/PollardHeapBuild.lean` without the raw record data and the `NodeMap` entries,
obtained from it by `LShape.pshape`.) -/
inductive PShape (hp : Heap H) : Nat → PNode H → List Nat → Prop
  | dead {n : Nat} {nn : PolNode H} {d : H} :
      hp[n]? = some nn → nn.data = d → nn.lNiece = none → nn.rNiece = none →
      nn.remember = false → PShape hp n (.dead d) []
  | fork {n l r : Nat} {nn ln rn : PolNode H} {d : H} {tl tr : PNode H} {fl fr : List Nat} :
      hp[n]? = some nn → nn.data = d → nn.lNiece = some l → nn.rNiece = some r →
      nn.remember = false → hp[l]? = some ln → hp[r]? = some rn →
      ln.aunt = some n → rn.aunt = some n →
      PShape hp l tl fl → PShape hp r tr fr →
      PShape hp n (.fork d tl tr) (l :: r :: (fl ++ fr))

/-- the roots `rs` (no aunt) carry the shapes `ts`; `owned` = every node reachable -/
inductive PRoots (hp : Heap H) : List Nat → List (PNode H) → List Nat → Prop
  | nil : PRoots hp [] [] []
  | cons {r : Nat} {rn : PolNode H} {t : PNode H} {fp : List Nat} {rs : List Nat}
      {ts : List (PNode H)} {owned : List Nat} :
      hp[r]? = some rn → rn.aunt = none → PShape hp r t fp → PRoots hp rs ts owned →
      PRoots hp (r :: rs) (t :: ts) (r :: fp ++ owned)

theorem LShape.pshape {hp : Heap H} {n : Nat} {t : LNode} {fp : List Nat} {ents : List (H × Nat)}
    (h : LShape hp n t fp ents) : PShape hp n t.erase fp := by
  induction h with
  | dead h1 h2 h3 h4 h5 => exact PShape.dead h1 h2 h3 h4 h5
  | fork h1 h2 h3 h4 h5 h6 h7 h8 h9 _ _ ihl ihr => exact PShape.fork h1 h2 h3 h4 h5 h6 h7 h8 h9 ihl ihr

theorem LRoots.proots {hp : Heap H} {rs : List Nat} {ts : List LNode} {owned : List Nat}
    {ents : List (H × Nat)} (h : LRoots hp rs ts owned ents) :
    PRoots hp rs (ts.map LNode.erase) owned := by
  induction h with
  | nil => exact PRoots.nil
  | cons h1 h2 h3 _ ih => exact PRoots.cons h1 h2 h3.pshape ih

/-- **the two node maps agree** when no two inserted records collide: processing the same
records, the keys of the heap map (full hashes, new keys prepended) are the values of the
shape map (new keys appended), reversed -/
theorem maps_agree (all : List (List Byte))
    (hnc : ∀ a ∈ all, ∀ b ∈ all, (a.take 12 = b.take 12 ↔ (ofBytes a : H) = ofBytes b)) :
    ∀ (recs : List (List Byte)) (ents : List (H × Nat)) (nm : NodeMap H) (hm : List (H × Nat)),
      ents.map (·.1) = recs.map ofBytes → (∀ a ∈ recs, a ∈ all) →
      hm.map (·.1) = (nm.map (·.2)).reverse →
      (∀ e ∈ nm, ∃ a ∈ all, e = (a.take 12, ofBytes a)) →
      (mapSetAll hm ents).map (·.1) = ((putRecs nm recs).map (·.2)).reverse := by
  intro recs
  induction recs with
  | nil =>
    intro ents nm hm he _ h1 _
    have : ents = [] := by simpa using he
    subst this
    exact h1
  | cons a recs ih =>
    intro ents nm hm he hall h1 h2
    match ents, he with
    | x :: ents, he =>
      obtain ⟨d, i⟩ := x
      simp only [List.map_cons, List.cons.injEq] at he
      obtain ⟨hd, he⟩ := he
      subst hd
      have ha : a ∈ all := hall a (by simp)
      have hstepH : mapSetAll hm ((ofBytes a, i) :: ents) = mapSetAll (mapSet hm (ofBytes a) i) ents := rfl
      have hstepN : putRecs nm (a :: recs) = putRecs (nm.put (a.take 12) (ofBytes a)) recs := rfl
      rw [hstepH, hstepN]
      have hfun : ∀ e ∈ nm, e.1 = a.take 12 → e = (a.take 12, ofBytes a) := by
        intro e he' hek
        obtain ⟨a', ha', rfl⟩ := h2 e he'
        simp only at hek
        have := (hnc a' ha' a ha).1 hek
        rw [hek, this]
      apply ih ents _ _ he (fun b hb => hall b (by simp [hb]))
      · by_cases hk : a.take 12 ∈ nm.map (·.1)
        · -- the key is there already: both maps keep their keys
          obtain ⟨e, he', hek⟩ := List.mem_map.1 hk
          have hin : (ofBytes a : H) ∈ hm.map (·.1) := by
            rw [h1, List.mem_reverse]
            have := hfun e he' hek
            exact List.mem_map.2 ⟨e, he', by rw [this]⟩
          rw [put_same nm _ _ hk hfun, mapSet_keys hin]; exact h1
        · -- a new key in both
          have hnin : (ofBytes a : H) ∉ hm.map (·.1) := by
            rw [h1, List.mem_reverse]
            intro hc
            obtain ⟨e, he', hev⟩ := List.mem_map.1 hc
            obtain ⟨a', ha', rfl⟩ := h2 e he'
            simp only at hev
            have := (hnc a' ha' a ha).2 hev
            exact hk (List.mem_map.2 ⟨_, he', this⟩)
          rw [put_fresh nm _ _ hk, mapSet_new _ _ _ hnin, List.map_cons, h1]
          simp
      · intro e he'
        by_cases hk : a.take 12 ∈ nm.map (·.1)
        · rw [put_same nm _ _ hk hfun] at he'
          exact h2 e he'
        · rw [put_fresh nm _ _ hk] at he'
          simp only [List.mem_append, List.mem_singleton] at he'
          rcases he' with he' | he'
          · exact h2 e he'
          · exact ⟨a, ha, he'⟩

theorem buildAll_shape (nl nd : U64) (ts : List LNode) :
    (buildAll (H := H) nl nd ts).numLeaves = nl ∧ (buildAll (H := H) nl nd ts).numDels = nd ∧
    (buildAll (H := H) nl nd ts).full = true ∧
    ∃ owned ents, PRoots (buildAll (H := H) nl nd ts).heap (buildAll (H := H) nl nd ts).roots
        (ts.map LNode.erase) owned ∧ owned.Nodup ∧
      owned.length = (buildAll (H := H) nl nd ts).heap.size ∧
      (buildAll (H := H) nl nd ts).nodeMap = mapSetAll [] ents ∧
      ents.map (·.1) = (ts.flatMap (leafRecs H)).map ofBytes ∧
      ((buildAll (H := H) nl nd ts).nodeMap.map (·.1)).Nodup ∧
      ∀ e ∈ (buildAll (H := H) nl nd ts).nodeMap, e.2 ∈ owned ∧
        ∃ x, (buildAll (H := H) nl nd ts).heap[e.2]? = some x ∧ x.data = e.1 := by
  obtain ⟨owned, ents, e1, e2, e3, R2, R6, R4, R7, R8⟩ := buildAll_spec (H := H) nl nd ts
  refine ⟨e1, e2, e3, owned, ents, R2.proots, R6, R4, R7, R2.ents_keys, ?_, ?_⟩
  · rw [R7]; exact mapSetAll_keys_nodup ents [] (by simp)
  · intro e he
    rw [R7] at he
    rcases mapSetAll_subset ents [] e he with h | h
    · cases h
    · exact ⟨R8 e h, R2.ents_data e h⟩

theorem no_collision_encode (ok : HashBytesOK H) (F : Forest H) (hF : Serial.LeavesOK F) :
    ∀ a ∈ ((F.trees.map (·.2)).map (LNode.ofRoot (H := H))).flatMap (leafRecs H),
    ∀ b ∈ ((F.trees.map (·.2)).map (LNode.ofRoot (H := H))).flatMap (leafRecs H),
      (a.take 12 = b.take 12 ↔ (ofBytes a : H) = ofBytes b) := by
  rw [leafRecs_ofRoots ok, ← wireLeaves_eq]
  have hp := wireLeaves_perm F (by have := hF.small; omega)
  have hnd : ((wireLeaves F).map mini).Nodup := ((hp.map mini).nodup_iff).mpr hF.miniDistinct
  intro a ha b hb
  obtain ⟨x, hx, rfl⟩ := List.mem_map.1 ha
  obtain ⟨y, hy, rfl⟩ := List.mem_map.1 hb
  have hx' : x ∈ wireLeaves F := (List.mem_filter.1 hx).1
  have hy' : y ∈ wireLeaves F := (List.mem_filter.1 hy).1
  rw [ok.rt, ok.rt]
  constructor
  · intro h; exact Sorted.inj_of_pairwise_ne mini _ (List.pairwise_map.1 hnd) x hx' y hy' h
  · intro h; rw [h]

end UtreexoVerif.Proofs.PollardHeapSerial
