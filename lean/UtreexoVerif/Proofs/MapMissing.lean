/-
  `MapPollard.GetMissingPositions` and `MapPollard.VerifyPartialProof` on a state satisfying the
  storage invariant: the lemmas behind `Props/C14Map.lean`.
-/
import UtreexoVerif.Proofs.MapIngest
import UtreexoVerif.Proofs.MapFull
import UtreexoVerif.Proofs.NodesUnique
import UtreexoVerif.Props.C03c

namespace UtreexoVerif.Proofs.MapMissing
open Model Spec MapAL MapInv
  PForestSpec MapSInv MapIngest Hasher
set_option linter.unusedSectionVars false

variable {H : Type} [DecidableEq H] [Hasher H]
variable {m : MapPollard H} {F : Forest H}

def unstored (m : MapPollard H) (T : Nat) (qs : List Pos) : List Pos :=
  qs.filter (fun q => !m.hasNode (encP T q))

/-- the canonical proof positions of `ts` whose node the map forest `m` does NOT store -/
def missingQ (m : MapPollard H) (F : Forest H) (ts : List Pos) : List Pos :=
  unstored m m.totalRows.toNat (F.proofPositions ts)

theorem proofPositions_nil : F.proofPositions [] = [] := by
  simp [Forest.proofPositions, Forest.sortDedup]

theorem pp_enc_sorted {T : Nat} (hT : T ≤ 63) (hrows : F.rows ≤ T) {ts : List Pos}
    (hb : ∀ t ∈ ts, ∃ R, BelowRoot F.numLeaves t.1 t.2 R) :
    ((F.proofPositions ts).map (encP T)).Pairwise (· < ·) := by
  rw [List.pairwise_map]
  have hs : SSorted (F.proofPositions ts) := by
    unfold Forest.proofPositions; exact sortDedup_ssorted _
  apply List.Pairwise.imp_of_mem _ hs
  intro a b ha hb' hab
  obtain ⟨Ra, hba⟩ := pp_belowRoot hb ha
  obtain ⟨Rb, hbb⟩ := pp_belowRoot hb hb'
  have va := belowRoot_valid' hrows hba
  have vb := belowRoot_valid' hrows hbb
  exact (encP_lt_iff hT (valid_iff_validH.1 va) (valid_iff_validH.1 vb)).2 hab

/-- the proof positions both calls compute are the canonical ones, in storage coordinates -/
theorem storagePP (I : Inv m F) (ts : List Pos) (hnd : ts.Nodup)
    (hb : ∀ t ∈ ts, ∃ R, BelowRoot F.numLeaves t.1 t.2 R) :
    (if TreeRows m.numLeaves ≠ m.totalRows then
        translatePositions (ProofPositions (sortU64 (ts.map (encP F.rows))) m.numLeaves (TreeRows m.numLeaves)).1
          (TreeRows m.numLeaves) m.totalRows
      else (ProofPositions (sortU64 (ts.map (encP F.rows))) m.numLeaves (TreeRows m.numLeaves)).1) =
      (F.proofPositions ts).map (encP m.totalRows.toNat) := by
  have hvq : ∀ q ∈ F.proofPositions ts, MapInv.Valid F.rows q := fun q hq => valid_of_belowRoot (pp_belowRoot hb hq)
  have hT := I.total_le
  have hfit := I.rows_le
  have hm := U8_eq_H8 m.totalRows
  rw [treeRows_numLeaves I, I.n_eq, pp_api I.n_lt hnd hb]
  generalize m.totalRows.toNat = T at hT hfit hm ⊢
  rw [hm]
  exact toStor hT hfit _ hvq

/-- Go's translation of stored positions back to API coordinates, trimming included -/
theorem apiBack (I : Inv m F) (qs : List Pos) (hb : ∀ q ∈ qs, ∃ R, BelowRoot F.numLeaves q.1 q.2 R) :
    (if TreeRows m.numLeaves ≠ m.totalRows then
        MapPollard.trimProofPos
          (translatePositions (qs.map (encP m.totalRows.toNat)) m.totalRows (TreeRows m.numLeaves)) m.numLeaves
      else qs.map (encP m.totalRows.toNat)) = qs.map (encP F.rows) := by
  have hv : ∀ q ∈ qs, MapInv.Valid F.rows q := fun q hq => valid_of_belowRoot (hb q hq)
  have hT := I.total_le
  have hfit := I.rows_le
  have hm := U8_eq_H8 m.totalRows
  rw [treeRows_numLeaves I, I.n_eq]
  generalize m.totalRows.toNat = T at hT hfit hm ⊢
  rw [hm]
  split
  · rw [toApi_map hT hfit hv, trimProofPos_forest I.n_lt hb]
  · rename_i hc
    rw [Decidable.byContradiction (fun h => hc ((h8_ne_iff hT hfit).2 h))]

/-- `ts`: any duplicate-free list of positions of the forest, leaves or inner nodes, in any order -/
theorem getMissing_eq (I : Inv m F) (ts : List Pos) (hnd : ts.Nodup)
    (hb : ∀ t ∈ ts, ∃ R, BelowRoot F.numLeaves t.1 t.2 R) :
    m.getMissingPositions (ts.map (encP F.rows)) = (missingQ m F ts).map (encP F.rows) := by
  unfold MapPollard.getMissingPositions missingQ unstored
  cases ts with
  | nil => simp [proofPositions_nil]
  | cons t ts' =>
    rw [if_neg (by simp)]
    simp only
    rw [storagePP I (t :: ts') hnd hb, List.filter_map]
    exact apiBack I _ (fun q hq => pp_belowRoot hb (List.mem_filter.1 hq).1)

theorem getNodeD_hash_none {p : U64} (h : m.getNode p = none) : (m.getNodeD p).hash = zero := by
  unfold MapPollard.getNodeD; rw [h]; rfl

theorem getNodeD_hash_some {p : U64} {l : Leaf H} (h : m.getNode p = some l) : (m.getNodeD p).hash = l.hash := by
  unfold MapPollard.getNodeD; rw [h]; rfl

theorem merge_shape : ∀ (ps : List U64) (sup acc r : List H),
    MapPollard.verifyPartialProof.merge m ps sup acc = some r → ∃ l, r = acc ++ l ∧ l.length = ps.length := by
  intro ps
  induction ps with
  | nil =>
    intro sup acc r h
    simp only [MapPollard.verifyPartialProof.merge, Option.some.injEq] at h
    exact ⟨[], by simp [h], rfl⟩
  | cons p ps ih =>
    intro sup acc r h
    simp only [MapPollard.verifyPartialProof.merge] at h
    split at h
    · cases sup with
      | nil => simp at h
      | cons s rest =>
        simp only at h
        obtain ⟨l, rfl, hl⟩ := ih rest _ r h
        exact ⟨s :: l, by simp, by simp [hl]⟩
    · obtain ⟨l, rfl, hl⟩ := ih sup _ r h
      exact ⟨(m.getNodeD p).hash :: l, by simp, by simp [hl]⟩

section merge
variable {T : Nat}

theorem merge_acc (ps : List U64) (sup acc : List H) :
    MapPollard.verifyPartialProof.merge m ps sup acc =
      (MapPollard.verifyPartialProof.merge m ps sup []).map (acc ++ ·) := by
  rw [Props.C03c.merge_eq, Props.C03c.merge_eq m ps sup []]
  cases partialProofHashes (Props.C03c.storedHash m) ps sup <;> rfl

theorem merge_unstored {q : Pos} (hg : m.getNode (encP T q) = none) (ps : List U64) (sup : List H) :
    MapPollard.verifyPartialProof.merge m (encP T q :: ps) sup [] =
      match sup with
      | [] => none
      | s :: rest => (MapPollard.verifyPartialProof.merge m ps rest []).map (s :: ·) := by
  simp only [MapPollard.verifyPartialProof.merge]
  rw [if_pos (getNodeD_hash_none hg)]
  cases sup with
  | nil => rfl
  | cons s rest => exact merge_acc ps rest _

theorem merge_stored {q : Pos} {l : Leaf H} (hg : m.getNode (encP T q) = some l) (hnz : l.hash ≠ zero)
    (ps : List U64) (sup : List H) :
    MapPollard.verifyPartialProof.merge m (encP T q :: ps) sup [] =
      (MapPollard.verifyPartialProof.merge m ps sup []).map (l.hash :: ·) := by
  simp only [MapPollard.verifyPartialProof.merge]
  rw [getNodeD_hash_some hg, if_neg hnz]
  exact merge_acc ps sup _

theorem unstored_cons_none {q : Pos} (hg : m.getNode (encP T q) = none) (qs : List Pos) :
    unstored m T (q :: qs) = q :: unstored m T qs := by
  unfold unstored
  rw [List.filter_cons, if_pos (by rw [hasNode_eq, hg]; rfl)]

theorem unstored_cons_some {q : Pos} {l : Leaf H} (hg : m.getNode (encP T q) = some l) (qs : List Pos) :
    unstored m T (q :: qs) = unstored m T qs := by
  unfold unstored
  rw [List.filter_cons, if_neg (by rw [hasNode_eq, hg]; simp)]

/-- what the merge loop accepts (a stored zero hash would read as "not stored"; surplus supplied hashes
are never looked at) -/
theorem merge_iff (tv : Pos → H) : ∀ (qs : List Pos),
    (∀ q ∈ qs, ∀ l, m.getNode (encP T q) = some l → l.hash ≠ zero) → ∀ (sup : List H),
    (MapPollard.verifyPartialProof.merge m (qs.map (encP T)) sup [] = some (qs.map tv) ↔
      (∀ q ∈ qs, ∀ l, m.getNode (encP T q) = some l → l.hash = tv q) ∧
        ∃ junk, sup = (unstored m T qs).map tv ++ junk) := by
  intro qs
  induction qs with
  | nil => intro _ sup; simp [MapPollard.verifyPartialProof.merge, unstored]
  | cons q qs ih =>
    intro hst sup
    replace ih := ih (fun q' hq' => hst q' (List.mem_cons_of_mem _ hq'))
    rw [List.map_cons, List.map_cons, List.forall_mem_cons]
    cases hg : m.getNode (encP T q) with
    | none =>
      rw [merge_unstored hg, unstored_cons_none hg]
      cases sup with
      | nil => simp
      | cons s rest =>
        simp only [Option.map_eq_some_iff, List.cons.injEq, List.map_cons, List.cons_append]
        constructor
        · rintro ⟨l, hl, rfl, rfl⟩
          obtain ⟨h1, junk, hj⟩ := (ih rest).1 hl
          exact ⟨⟨fun _ h => (nomatch h), h1⟩, junk, rfl, hj⟩
        · rintro ⟨⟨_, h1⟩, junk, rfl, hj⟩
          exact ⟨_, (ih rest).2 ⟨h1, junk, hj⟩, rfl, rfl⟩
    | some l =>
      rw [merge_stored hg (hst q List.mem_cons_self l hg), unstored_cons_some hg]
      simp only [Option.map_eq_some_iff, List.cons.injEq]
      constructor
      · rintro ⟨l', hl, e, rfl⟩
        exact ⟨⟨fun l'' h => (by rw [← Option.some.inj h]; exact e), ((ih sup).1 hl).1⟩, ((ih sup).1 hl).2⟩
      · rintro ⟨⟨h0, h1⟩, h2⟩
        exact ⟨_, (ih sup).2 ⟨h1, h2⟩, h0 l rfl, rfl⟩

theorem merge_short : ∀ (qs : List Pos),
    (∀ q ∈ qs, ∀ l, m.getNode (encP T q) = some l → l.hash ≠ zero) →
    ∀ (sup : List H), sup.length < (unstored m T qs).length →
    MapPollard.verifyPartialProof.merge m (qs.map (encP T)) sup [] = none := by
  intro qs
  induction qs with
  | nil => intro _ sup h; simp [unstored] at h
  | cons q qs ih =>
    intro hst sup h
    replace ih := ih (fun q' hq' => hst q' (List.mem_cons_of_mem _ hq'))
    rw [List.map_cons]
    cases hg : m.getNode (encP T q) with
    | none =>
      rw [merge_unstored hg]
      rw [unstored_cons_none hg, List.length_cons] at h
      cases sup with
      | nil => rfl
      | cons s rest =>
        simp only
        rw [ih rest (Nat.lt_of_succ_lt_succ h)]
        rfl
    | some l =>
      rw [unstored_cons_some hg] at h
      rw [merge_stored hg (hst q List.mem_cons_self l hg), ih sup h]
      rfl

end merge

section canon
open SpecPlan (canon_targets_nodup canon_spec)
variable {L : List H} {ts : List Pos} {ps : List H}

/-- a canonical proof position is never a root, so its node carries a non-zero hash -/
theorem pp_nonzero (nz : NZ H) (hn : F.numLeaves < 2 ^ 64) (hy : Hyg F) (hc : F.canon L = some (ts, ps))
    {q : Pos} (hq : q ∈ F.proofPositions ts) : tvF F q ≠ zero := by
  have Lw := laws_forest nz F hn hy
  obtain ⟨_, x, hx, hnr, rfl⟩ := (pp_iff q).1 hq
  obtain ⟨bx, hxn⟩ := ps_node hc hx
  obtain ⟨b, hqn⟩ := pp_node hc hq
  intro hz
  rw [hz] at hqn
  obtain ⟨_, _, _, hsr⟩ := MapGI.GI.sib_not_root Lw hxn hnr
  exact hsr (Lw.zero_root _ _ hqn).1

theorem stored_true (I : Inv m F) {q : Pos} (hv : MapInv.Valid m.totalRows.toNat q) {l : Leaf H}
    (hg : m.getNode (encP m.totalRows.toNat q) = some l) : l.hash = tvF F q := by
  unfold tvF SpecPlan.trueAt
  rw [getNode_true I hv hg]; rfl

theorem getMissing_canon (I : Inv m F) (hnd : L.Nodup) (hc : F.canon L = some (ts, ps)) :
    m.getMissingPositions (ts.map (encP F.rows)) = (missingQ m F ts).map (encP F.rows) :=
  getMissing_eq I ts (canon_targets_nodup hc hnd) (ts_belowRoot hc)

theorem missingQ_eq : missingQ m F ts = unstored m m.totalRows.toNat (F.proofPositions ts) := rfl

theorem mem_missingQ {q : Pos} : q ∈ missingQ m F ts ↔
    q ∈ F.proofPositions ts ∧ m.hasNode (encP m.totalRows.toNat q) = false := by
  unfold missingQ unstored
  rw [List.mem_filter]
  simp

theorem verifyPartial_eq_verifyM (nz : NZ H) (I : Inv m F) (hy : Hyg F) (hnd : L.Nodup)
    (hc : F.canon L = some (ts, ps)) (junk : List H) (remember : Bool) :
    MapPollard.verifyPartialProof (ts.map (encP F.rows)) L ((missingQ m F ts).map (tvF F) ++ junk) remember m =
      MapPollard.verifyM L (ts.map (encP F.rows)) ps remember m := by
  have hn64 : F.numLeaves < 2 ^ 64 := by have := I.n_lt; omega
  unfold MapPollard.verifyPartialProof
  simp only
  have hst : ∀ q ∈ F.proofPositions ts, ∀ l, m.getNode (encP m.totalRows.toNat q) = some l → l.hash = tvF F q :=
    fun q hq l hg => stored_true I (pp_valid hc I.rows_le hq) hg
  rw [storagePP I ts (canon_targets_nodup hc hnd) (ts_belowRoot hc), missingQ_eq,
    (merge_iff (tvF F) (F.proofPositions ts)
      (fun q hq l hg => by rw [hst q hq l hg]; exact pp_nonzero nz hn64 hy hc hq) _).2 ⟨hst, junk, rfl⟩]
  simp only
  rw [← ps_hashes hc]

theorem verifyPartial_short (nz : NZ H) (I : Inv m F) (hy : Hyg F) (hnd : L.Nodup)
    (hc : F.canon L = some (ts, ps)) (sup : List H) (hlen : sup.length < (missingQ m F ts).length)
    (remember : Bool) :
    MapPollard.verifyPartialProof (ts.map (encP F.rows)) L sup remember m = (m, .error .err) := by
  have hn64 : F.numLeaves < 2 ^ 64 := by have := I.n_lt; omega
  unfold MapPollard.verifyPartialProof
  simp only
  rw [storagePP I ts (canon_targets_nodup hc hnd) (ts_belowRoot hc),
    merge_short (F.proofPositions ts)
      (fun q hq l hg => by
        rw [stored_true I (pp_valid hc I.rows_le hq) hg]; exact pp_nonzero nz hn64 hy hc hq)
      sup (by rw [← missingQ_eq]; exact hlen)]

theorem missingQ_nil_of_cached (I : Inv m F) (hc : F.canon L = some (ts, ps))
    (hL : ∀ x ∈ L, m.hasCached x = true) : missingQ m F ts = [] := by
  unfold missingQ unstored
  rw [List.filter_eq_nil_iff]
  intro q hq
  obtain ⟨htL, hpos, _, _⟩ := canon_spec hc
  obtain ⟨w, ⟨t, ht, R, hbt, hanc, hle⟩, hnr, rfl, _⟩ :=
    (mem_spec_proofPositions_of F (ts_belowRoot hc) q).1 hq
  rw [htL] at ht
  obtain ⟨x, hx, rfl⟩ := List.mem_map.1 ht
  obtain ⟨p, hp⟩ := hpos x hx
  rw [hp] at hbt hanc
  simp only [Option.getD_some] at hbt hanc
  have hreq : Required F (fun x => m.hasCached x = true) (sib w) :=
    Or.inr ⟨x, p, hL x hx, hp, Or.inr ⟨w, ⟨R, hbt, hanc, hle⟩, hnr, rfl⟩⟩
  rw [I.has_needed _ hreq]
  simp

theorem missingQ_nil_full (s : MapFull.FInv m F) (hc : F.canon L = some (ts, ps)) : missingQ m F ts = [] := by
  unfold missingQ unstored
  rw [List.filter_eq_nil_iff]
  intro q hq
  obtain ⟨b, hqn⟩ := pp_node hc hq
  obtain ⟨A, C, rep, fa⟩ := s.abs
  rw [rep.hasNode (pp_valid hc s.rows_le hq), fa.sto q _ b hqn]
  simp

/-- the hash of the node of `F` at the API position `p` (zero where there is none) -/
def apiHash (F : Forest H) (p : U64) : H :=
  ((F.nodes.find? (fun e => encP F.rows e.1 == p)).map (·.2.1)).getD zero

theorem apiHash_true (hn : F.numLeaves < 2 ^ 63) {q : Pos} {h : H} (hq : F.nodeAt q = some h) :
    apiHash F (encP F.rows q) = h := by
  obtain ⟨b, hb⟩ := SpecNodes.nodeAt_eq_some_iff.1 hq
  have h63 : F.rows ≤ 63 := SpecView.forestRows_le_63 hn
  unfold apiHash
  cases hf : F.nodes.find? (fun e => encP F.rows e.1 == encP F.rows q) with
  | none =>
    have := List.find?_eq_none.1 hf _ hb
    simp at this
  | some e =>
    have he := List.mem_of_find?_eq_some hf
    have hp := List.find?_some hf
    simp only [beq_iff_eq] at hp
    obtain ⟨⟨r, o⟩, h', b'⟩ := e
    have hv1 : MapInv.Valid F.rows (r, o) := MapInv.node_valid (Nat.le_refl _) he
    have hv2 : MapInv.Valid F.rows q := MapInv.node_valid (Nat.le_refl _) hb
    have := encP_inj h63 hv1 hv2 hp
    subst this
    have := (Spec.nodes_pos_unique F _ _ _ _ _ he hb).1
    simp [this]

theorem supplied_eq (I : Inv m F) (hnd : L.Nodup) (hc : F.canon L = some (ts, ps)) (hashAt : U64 → H)
    (htrue : ∀ q h, F.nodeAt q = some h → hashAt (encP F.rows q) = h) :
    (m.getMissingPositions (ts.map (encP F.rows))).map hashAt = (missingQ m F ts).map (tvF F) := by
  rw [getMissing_canon I hnd hc, List.map_map]
  apply List.map_congr_left
  intro q hq
  obtain ⟨b, hb⟩ := pp_node hc (mem_missingQ.1 hq).1
  exact htrue q _ (SpecNodes.nodeAt_eq_some_iff.2 ⟨b, hb⟩)

theorem getHash_zero_iff (nz : NZ H) (I : Inv m F) (hy : Hyg F) (hc : F.canon L = some (ts, ps)) {q : Pos}
    (hq : q ∈ F.proofPositions ts) :
    m.getHash (encP F.rows q) = zero ↔ m.hasNode (encP m.totalRows.toNat q) = false := by
  have hn64 : F.numLeaves < 2 ^ 64 := by have := I.n_lt; omega
  unfold MapPollard.getHash
  simp only [toStorage I (pp_valid hc (Nat.le_refl _) hq)]
  rw [hasNode_eq]
  cases hg : m.getNode (encP m.totalRows.toNat q) with
  | none => simp [getNodeD_hash_none hg]
  | some l =>
    rw [getNodeD_hash_some hg, stored_true I (pp_valid hc I.rows_le hq) hg]
    simp [pp_nonzero nz hn64 hy hc hq]

theorem verifyPartial_accepts (I : Inv m F) (hnd : L.Nodup) (hc : F.canon L = some (ts, ps)) (sup : List H)
    (remember : Bool)
    (h : (MapPollard.verifyPartialProof (ts.map (encP F.rows)) L sup remember m).2 = .ok ()) :
    ∃ all idx, MapPollard.verifyPartialProof.merge m ((F.proofPositions ts).map (encP m.totalRows.toNat)) sup [] =
        some all ∧ all.length = ps.length ∧
      verify (BitVec.ofNat 64 F.numLeaves) F.roots L (ts.map (encP F.rows)) all = .ok idx := by
  unfold MapPollard.verifyPartialProof at h
  simp only at h
  rw [storagePP I ts (canon_targets_nodup hc hnd) (ts_belowRoot hc)] at h
  cases hm : MapPollard.verifyPartialProof.merge m ((F.proofPositions ts).map (encP m.totalRows.toNat)) sup [] with
  | none => rw [hm] at h; cases h
  | some all =>
    rw [hm] at h
    simp only at h
    obtain ⟨l, hl, hlen⟩ := merge_shape _ _ _ _ hm
    obtain ⟨idx, hv⟩ := Props.C03c.verifyM_ok h
    unfold mapVerify at hv
    simp only at hv
    have hroots : m.getRoots.1 = F.roots := Props.C09.roots_eq I
    rw [targets_translate_id I hc, hroots, I.n_eq] at hv
    refine ⟨all, idx, rfl, ?_, hv⟩
    rw [hl, ps_hashes hc]
    simpa using hlen

end canon

end UtreexoVerif.Proofs.MapMissing
