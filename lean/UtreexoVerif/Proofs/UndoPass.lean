/-
  The descending pass that undoes a movement, in any encoding (`forestRows n ≤ rows ≤ 63`).

  The forward movement of a block is `moveA n R ds` (deletions `ds`, rows ascending).  The undo code of
  prove.go (the proof's and the schedule tracker's `undoDel`, and with another test their `undoAdd`)
  walks over `ds` last first and moves every position that passes a test back by
  `calcPrevPosition`.  `pass_step_order`: one step of that walk on the forward image of a position
  that is `Good` for the deletion undone, with the hypotheses unpacked (`ProofUndoDel.step_of_origin`
  is the same on an `Origin`, a position that is good for every deletion still to be undone, in the
  cached proof's encoding); `undo_suffix`: the walk over a suffix of `ds`, for any test that agrees
  with `inTree ∧ atOrUnderP` on forward images; `undo_origin`: the whole walk with the test of
  `undoDel` returns the origin.

  The file has two namespaces and none of its own.  `ProofUndoMove`: the notions on (row, offset)
  pairs, `atOrUnderP T c`, the test of the backward loops (`c` is the parent of the deleted subtree
  `T` or lies below it), and `Good T p`, an origin that one backward step returns
  (`PosMove.insP_delP`), with their readings as `Anc`.  `ProofUndoDel`: the pass; the namespace goes
  on in `Proofs/ProofUndoDel.lean`, which instantiates the pass for the cached proof (`forestRows`
  rows, `DetectOffset`), so `ProofUndoDel.undo_suffix`, `ProofUndoDel.Origin` are declared here.
-/
import UtreexoVerif.Proofs.MoveFold
import UtreexoVerif.Proofs.PosMove
import UtreexoVerif.Proofs.ProofUpdateGnp
import UtreexoVerif.Proofs.ProofUpdateDeTwin
import UtreexoVerif.Proofs.LiftEnc

namespace UtreexoVerif.Proofs.ProofUndoMove
open Spec
open UtreexoVerif.Proofs.MoveFold
open UtreexoVerif.Proofs.MapLiftGeo UtreexoVerif.Proofs.PosMove

/-- `c` is the parent of `T` or lies below it: `isAncestor (Parent T) c || Parent T == c` -/
def atOrUnderP (T c : Pos) : Bool := decide (c.1 ≤ T.1 + 1 ∧ c.2 / 2 ^ (T.1 + 1 - c.1) = T.2 / 2)

/-- `c` is `T` or lies below it (`underT_iff`: this is `Anc T c`) -/
def underT (T c : Pos) : Prop := c.1 ≤ T.1 ∧ c.2 / 2 ^ (T.1 - c.1) = T.2

/-- `p` is a position that deleting `T` moves and the backward step for `T` returns: neither the
parent of `T` (which the deletion overwrites with the sibling) nor inside the deleted subtree -/
def Good (T p : Pos) : Prop := p ≠ parent T ∧ ¬ underT T p

theorem atOrUnderP_anc {T c : Pos} : atOrUnderP T c = true ↔ Anc (parent T) c := by
  unfold atOrUnderP Anc
  simp only [decide_eq_true_eq, parent]
  exact ⟨fun ⟨a, b⟩ => ⟨a, b.symm⟩, fun ⟨a, b⟩ => ⟨a, b.symm⟩⟩

theorem underT_iff {T c : Pos} : underT T c ↔ Anc T c :=
  ⟨fun ⟨a, b⟩ => ⟨a, b.symm⟩, fun ⟨a, b⟩ => ⟨a, b.symm⟩⟩

theorem moveA_high (n R : Nat) (ds : List Pos) (c : Pos) (h : ∀ T' ∈ ds, T'.1 < c.1) :
    moveA n R ds c = c := by
  rw [moveA_eq_delAll]
  exact delAll_of_high _ fun T' hT' => h T' (List.mem_filter.1 hT').1

theorem good_parent {T T' : Pos} (hrow : T'.1 ≤ T.1) (hne1 : T' ≠ T) (hne2 : T' ≠ sib T) :
    Good T' (parent T) := by
  refine ⟨fun e => ?_, fun h => ?_⟩
  · rcases eq_or_sib_of_parent e with e | e
    · exact hne1 e.symm
    · exact hne2 (by rw [e, CalcGeo.sib_sib])
  · have := (underT_iff.1 h).1
    simp only [parent] at this
    omega

end UtreexoVerif.Proofs.ProofUndoMove

namespace UtreexoVerif.Proofs.ProofUndoDel
open Spec Model
open UtreexoVerif.Proofs.SpecNodes
open UtreexoVerif.Proofs.CalcComplete
open UtreexoVerif.Proofs.CalcGeo UtreexoVerif.Proofs.Movement
open UtreexoVerif.Proofs.ProofUpdateGnp
open UtreexoVerif.Proofs.MoveFold
open UtreexoVerif.Proofs.ProofUndoMove
open UtreexoVerif.Proofs.ProofUpdateDeTwin
open UtreexoVerif.Proofs.MapRep UtreexoVerif.Proofs.MapLiftGeo UtreexoVerif.Proofs.PosMove

/-- the test of `moveDownPosition` (`pos == position || isAncestor(position, pos)`) with
`position = Parent(T)`: `c` is the parent of `T` or lies below it -/
theorem mdpTest_enc {rows : Nat} (hrows : rows ≤ 63) {T c : Pos} (hvc : ValidH rows c)
    (hvT : ValidH rows T) (hT : T.1 < rows) :
    (E rows c == Parent (E rows T) (H8 rows) ||
      isAncestor (Parent (E rows T) (H8 rows)) (E rows c) (H8 rows)) = atOrUnderP T c := by
  rw [parent_E hrows hvT hT, LiftEnc.mdpTest_E hrows (ValidH.parent hvT hT) hvc]
  exact Bool.eq_iff_iff.2 ⟨fun h => atOrUnderP_anc.2 (of_decide_eq_true h),
    fun h => decide_eq_true (atOrUnderP_anc.1 h)⟩

/-- a deletion as the inner loops may meet it (one element of `DtOK`) -/
def TOK (n R : Nat) (T : Pos) : Prop :=
  ∃ RT, RT ∈ treeRows n ∧ Under RT (2 * (n >>> (RT + 1))) T ∧ (RT = R → T.1 < R)

/-- the test the inner loops of `undoDel` apply to a position (prove.go: both the proof's and the
caching schedule's `undoDel`): same tree as the deletion `bt`, and at or below its parent `sib`.
`det` computes the tree index: `DetectOffset` directly for the proof (positions in `forestRows`
rows), after `translatePos` to `TreeRows(numLeaves)` for the schedule tracker (63 rows). -/
def udTest (rows : U8) (det : U64 → U8) (bt sib target : U64) : Bool :=
  !(det target != det bt) && (isAncestor sib target rows || sib == target)

/-- `det` finds the tree of every position encoded with `rows` rows -/
def DetOK (n rows : Nat) (det : U64 → U8) : Prop :=
  ∀ R ∈ treeRows n, ∀ p, Under R (2 * (n >>> (R + 1))) p →
    det (E rows p) = BitVec.ofNat 8 ((treeRows n).idxOf R)

section rows
variable {n rows : Nat} {det : U64 → U8} (hF : forestRows n ≤ rows) (hr : rows ≤ 63)
  (hdet : DetOK n rows det)
include hF hr hdet

theorem udTest_enc {R : Nat} (hR : R ∈ treeRows n) {T c : Pos}
    (hu : Under R (2 * (n >>> (R + 1))) c) (hT : TOK n R T) :
    udTest (H8 rows) det (E rows T) (Parent (E rows T) (H8 rows)) (E rows c) =
      (inTree n R T && atOrUnderP T c) := by
  obtain ⟨RT, hRT, huT, hRTlt⟩ := hT
  unfold udTest
  rw [hdet RT hRT T huT, hdet R hR c hu, bne_comm, treeIdx_bne hR hRT huT, Bool.not_not]
  cases hin : inTree n R T with
  | false => rfl
  | true =>
    obtain rfl : RT = R := tree_unique hRT hR huT ((inTree_iff _ _ _).1 hin)
    have hTrows : T.1 < rows :=
      Nat.lt_of_lt_of_le (hRTlt rfl) (Nat.le_trans (under_valid hRT (Under.self _ _)).1 hF)
    rw [Bool.true_and, Bool.true_and, Bool.or_comm, BEq.comm]
    exact mdpTest_enc hr (ValidH.mono (under_valid hRT hu) hF) (ValidH.mono (under_valid hRT huT) hF)
      hTrows

end rows

section step
variable {n rows : Nat} (hF : forestRows n ≤ rows) (hr : rows ≤ 63)
include hF hr

/-- `b` is the value of whatever test the code applies to the image; all that matters is that
it agrees with the pair-level test `Anc (parent T)` (`atOrUnderP`) when `T` lies in the tree. -/
theorem pass_step_order {R : Nat} (hR : R ∈ treeRows n) {ds : List Pos}
    {T p : Pos} (hu : Under R (2 * (n >>> (R + 1))) p) (hT : TOK n R T)
    (hdsOK : ∀ T' ∈ ds, inTree n R T' = true → T'.1 < R)
    (hds : ∀ T' ∈ ds, T'.1 ≤ T.1 ∧ T' ≠ T ∧ T' ≠ sib T)
    (hgood : inTree n R T = true → Good T p) {b : Bool}
    (hb : b = (inTree n R T && atOrUnderP T (moveA n R (ds ++ [T]) p))) :
    (if b then calcPrevPosition (E rows (moveA n R (ds ++ [T]) p)) (E rows T) (H8 rows)
      else E rows (moveA n R (ds ++ [T]) p)) = E rows (moveA n R ds p) ∧
    (b = true →
      E rows (moveA n R ds p) < E rows (moveA n R (ds ++ [T]) p) ∧
      E rows (moveA n R (ds ++ [T]) p) ≤ Parent (E rows T) (H8 rows) ∧
      inTree n R T = true ∧ T.1 < R) := by
  have hu0 := moveA_under ds p hu hdsOK
  have hv0 := ValidH.mono (under_valid hR hu0) hF
  have hTin : inTree n R T = true → T.1 < R := by
    intro hin
    obtain ⟨RT, hRT, huT, hRTlt⟩ := hT
    exact hRTlt (tree_unique hRT hR huT
      ((inTree_iff _ _ _).1 hin))
  have huc : Under R (2 * (n >>> (R + 1))) (moveA n R (ds ++ [T]) p) := by
    apply moveA_under _ p hu
    intro T' hT' hin
    rcases List.mem_append.1 hT' with h1 | h1
    · exact hdsOK T' h1 hin
    · simp only [List.mem_singleton] at h1; subst h1; exact hTin hin
  have hvc := ValidH.mono (under_valid hR huc) hF
  -- the pair level: the image is `delP T` of the earlier image when `T` lies in the tree
  rw [moveA_eq_delAll n R (ds ++ [T]), List.filter_append] at hb hvc ⊢
  rw [moveA_eq_delAll n R ds] at hv0 ⊢
  subst hb
  by_cases hin : inTree n R T = true
  · rw [List.filter_cons_of_pos hin, List.filter_nil, delAll_append] at hvc ⊢
    obtain ⟨g2, g1⟩ := hgood hin
    rw [underT_iff] at g1
    obtain ⟨k1, k2⟩ := good_delAll (ds := ds.filter (inTree n R)) (fun d hd => by
      obtain ⟨a, b, c⟩ := hds d (List.mem_filter.1 hd).1
      exact ⟨a, b.symm, fun e => c (by rw [e, sib_sib])⟩) g1 g2
    have hTR := hTin hin
    have hTrows : T.1 < rows :=
      Nat.lt_of_lt_of_le hTR (Nat.le_trans (under_valid hR (Under.self _ _)).1 hF)
    have hvT : ValidH rows T := ValidH.mono (under_valid hR ((inTree_iff _ _ _).1 hin)) hF
    rw [show ∀ x : Bool, (inTree n R T && x) = x from fun x => by rw [hin, Bool.true_and]]
    by_cases hat : atOrUnderP T (delP T (delAll (ds.filter (inTree n R)) p)) = true
    · -- the test fires: the image was lifted, `calcPrevPosition` puts the bit back
      have ha := atOrUnderP_anc.1 hat
      have hs : SUnder (parent T) (delAll (ds.filter (inTree n R)) p) := by
        apply Classical.byContradiction
        intro hs
        rw [delP_of_not hs] at ha
        exact hs (sunder_of_ne ha k2)
      rw [hat]
      simp only [if_true]
      have h1 : 1 ≤ (delP T (delAll (ds.filter (inTree n R)) p)).1 := by
        rw [delP_of_sunder hs]; exact Nat.succ_le_succ (Nat.zero_le _)
      refine ⟨?_, fun _ => ⟨?_, ?_, hin, hTR⟩⟩
      · rw [LiftEnc.calcPrev_E hr hvT hTrows hvc h1 ha.1]
        have := insP_delP k1 k2
        unfold insP at this
        rw [if_pos ha] at this
        rw [this]
      · apply (encP_lt_iff_or hr hv0 hvc).2
        rw [delP_of_sunder hs]
        exact Or.inl (Nat.lt_succ_self _)
      · rw [parent_E hr hvT hTrows]
        by_cases e : delP T (delAll (ds.filter (inTree n R)) p) = parent T
        · rw [e]; exact BitVec.le_refl _
        · exact BitVec.le_of_lt ((encP_lt_iff_or hr hvc (ValidH.parent hvT hTrows)).2
            (Or.inl (sunder_of_ne ha e).2))
    · -- the test does not fire: nothing was lifted
      have hat' : atOrUnderP T (delP T (delAll (ds.filter (inTree n R)) p)) = false := by
        simpa using hat
      have hs : ¬ SUnder (parent T) (delAll (ds.filter (inTree n R)) p) :=
        fun hs => hat (atOrUnderP_anc.2 (anc_parent_delP hs))
      rw [hat']
      simp only [Bool.false_eq_true, if_false]
      exact ⟨by rw [delP_of_not hs], fun h' => h'.elim⟩
  · have hin' : inTree n R T = false := by simpa using hin
    rw [List.filter_cons_of_neg hin, List.filter_nil, List.append_nil, hin', Bool.false_and]
    simp only [Bool.false_eq_true, if_false]
    exact ⟨trivial, fun h' => h'.elim⟩

theorem pass_step {R : Nat} (hR : R ∈ treeRows n) {ds : List Pos}
    {T p : Pos} (hu : Under R (2 * (n >>> (R + 1))) p) (hT : TOK n R T)
    (hdsOK : ∀ T' ∈ ds, inTree n R T' = true → T'.1 < R)
    (hds : ∀ T' ∈ ds, T'.1 ≤ T.1 ∧ T' ≠ T ∧ T' ≠ sib T)
    (hgood : inTree n R T = true → Good T p) {b : Bool}
    (hb : b = (inTree n R T && atOrUnderP T (moveA n R (ds ++ [T]) p))) :
    (if b then calcPrevPosition (E rows (moveA n R (ds ++ [T]) p)) (E rows T) (H8 rows)
      else E rows (moveA n R (ds ++ [T]) p)) = E rows (moveA n R ds p) :=
  (pass_step_order hF hr hR hu hT hdsOK hds hgood hb).1

end step

theorem detOK_forest {n : Nat} (hn : n ≤ 2 ^ 63) :
    DetOK n (forestRows n) (fun x => (DetectOffset x (BitVec.ofNat 64 n)).1) :=
  fun _ hR _ hu => detect_fst hn hR hu

/-- the list of maximal deleted subtrees as the loops need it: rows ascending, no element twice,
no two siblings -/
abbrev DtList (dtp : List Pos) : Prop := PosMove.Asc dtp

theorem DtList.last {ds : List Pos} {T : Pos} (h : DtList (ds ++ [T])) :
    ∀ T' ∈ ds, T'.1 ≤ T.1 ∧ T' ≠ T ∧ T' ≠ sib T := by
  intro T' hT'
  refine ⟨(List.pairwise_append.1 h.rows).2.2 T' hT' T (by simp), ?_, ?_⟩
  · intro e
    exact (List.nodup_append.1 h.nodup).2.2 T' hT' T (by simp) e
  · intro e
    apply h.nosib T (by simp)
    rw [← e]
    exact List.mem_append_left _ hT'

/-- an origin of an entry of the loops: a position of the tree on row `R` that is good for every
deletion still to be undone -/
structure Origin (n : Nat) (cur : List Pos) (p : Pos) (R : Nat) : Prop where
  tree : R ∈ treeRows n
  under : Under R (2 * (n >>> (R + 1))) p
  dtok : DtOK n R cur
  good : ∀ T ∈ cur, inTree n R T = true → Good T p

theorem Origin.pre {n : Nat} {ds1 ds2 : List Pos} {p : Pos} {R : Nat} (o : Origin n (ds1 ++ ds2) p R) :
    Origin n ds1 p R where
  tree := o.tree
  under := o.under
  dtok := fun T' hT' => o.dtok T' (List.mem_append_left _ hT')
  good := fun T' hT' => o.good T' (List.mem_append_left _ hT')

theorem Origin.init {n : Nat} {ds : List Pos} {T p : Pos} {R : Nat} (o : Origin n (ds ++ [T]) p R) :
    Origin n ds p R := o.pre

theorem Origin.image_under {n : Nat} {cur : List Pos} {p : Pos} {R : Nat} (o : Origin n cur p R) :
    Under R (2 * (n >>> (R + 1))) (moveA n R cur p) :=
  moveA_under cur p o.under (o.dtok.lt o.tree)

theorem moveA_fix (n R : Nat) : ∀ (ds : List Pos) (c : Pos), (∀ T ∈ ds, hitA T c = false) →
    moveA n R ds c = c := by
  intro ds
  induction ds with
  | nil => intro c _; rfl
  | cons T rest ih =>
    intro c h
    unfold moveA
    rw [h T List.mem_cons_self]
    simp only [Bool.and_false, Bool.false_eq_true, if_false]
    exact ih c (fun T' hT' => h T' (List.mem_cons_of_mem _ hT'))

def mv (n : Nat) (ds : List Pos) (p : Pos) : Pos := moveA n (treeRowOf n p) ds p

theorem mv_eq {n : Nat} {cur : List Pos} {p : Pos} {R : Nat} (o : Origin n cur p R) (ds : List Pos) :
    mv n ds p = moveA n R ds p := by
  unfold mv
  rw [treeRowOf_under o.tree o.under]

theorem undo_suffix {n rows : Nat} (hF : forestRows n ≤ rows) (hr : rows ≤ 63)
    (test : U64 → U64 → Bool) : ∀ (ds2 ds1 : List Pos) {p : Pos} {R : Nat},
    DtList (ds1 ++ ds2) → Origin n (ds1 ++ ds2) p R →
    (∀ T ∈ ds2, ∀ c, Under R (2 * (n >>> (R + 1))) c →
      test (E rows T) (E rows c) = (inTree n R T && atOrUnderP T c)) →
    (ds2.map (E rows)).foldr (fun T x => if test T x then calcPrevPosition x T (H8 rows) else x)
      (E rows (moveA n R (ds1 ++ ds2) p)) = E rows (moveA n R ds1 p) := by
  intro ds2
  induction ds2 using snoc_ind with
  | h0 => intro ds1 p R _ _ _; simp
  | h1 ds T ih =>
    intro ds1 p R hdt o htest
    rw [← List.append_assoc] at hdt o ⊢
    rw [List.map_append, List.foldr_append, List.map_cons, List.map_nil, List.foldr_cons, List.foldr_nil,
      pass_step hF hr o.tree o.under (o.dtok T (by simp))
        (fun T' hT' => o.dtok.lt o.tree T' (List.mem_append_left _ hT')) hdt.last (o.good T (by simp))
        (htest T (by simp) _ o.image_under)]
    exact ih ds1 hdt.init o.init (fun T' hT' => htest T' (List.mem_append_left _ hT'))

theorem undo_origin {n rows : Nat} {det : U64 → U8} (hF : forestRows n ≤ rows)
    (hr : rows ≤ 63) (hdet : DetOK n rows det) (dp : List Pos) {p : Pos} {R : Nat}
    (hdt : DtList dp) (o : Origin n dp p R) :
    (dp.map (E rows)).foldr (fun T x =>
        if udTest (H8 rows) det T (Parent T (H8 rows)) x then calcPrevPosition x T (H8 rows) else x)
      (E rows (moveA n R dp p)) = E rows p :=
  undo_suffix hF hr (fun T x => udTest (H8 rows) det T (Parent T (H8 rows)) x) dp []
    (by simpa using hdt) (by simpa using o)
    (fun T hT c hc => udTest_enc hF hr hdet o.tree hc (o.dtok T hT))

end UtreexoVerif.Proofs.ProofUndoDel
