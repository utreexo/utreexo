/-
  Invariants of the RWMutex interleaving semantics (Model/Lock.lean).

  `ThreadsOK`  every thread's remaining program respects the discipline (`wfProg`);
  `LockInv`    the mutex state agrees with what the threads hold (mutual exclusion);
  `Atomic`     (Model) sections are atomic and start from the committed (whole-block) state;
  `Frozen`     never-written fields keep their initial value.
  All are preserved by every step; the property theorems of `Props/C12.lean` follow.

  Last section (`Typing`): what the typing check of a method table means: every execution the table
  allows for an admissible item is well formed, so `ThreadsOK` holds of goroutines that call
  exported methods.
-/
import UtreexoVerif.Model.Lock

namespace UtreexoVerif.Proofs.Lock
open UtreexoVerif.Model.Lock

variable {F V : Type}

theorem lt_of_get {α : Type} {l : List α} {i : Nat} {t : α} (ht : l[i]? = some t) : i < l.length :=
  let ⟨h, _⟩ := List.getElem?_eq_some_iff.1 ht; h

theorem get_set_cases {α : Type} {l : List α} {i j : Nat} {t t' x : α} (ht : l[i]? = some t)
    (h : (l.set i t')[j]? = some x) : (j = i ∧ x = t') ∨ (j ≠ i ∧ l[j]? = some x) := by
  rw [List.getElem?_set] at h
  by_cases hij : i = j
  · subst hij
    simp [lt_of_get ht] at h
    exact Or.inl ⟨rfl, h.symm⟩
  · simp [hij] at h
    exact Or.inr ⟨fun e => hij e.symm, h⟩

theorem forall_set {α : Type} {l : List α} {i : Nat} {t t' : α} {P Q : Nat → α → Prop} (ht : l[i]? = some t)
    (hP : ∀ j x, l[j]? = some x → P j x) (hi : Q i t') (ho : ∀ j x, j ≠ i → P j x → Q j x) :
    ∀ j x, (l.set i t')[j]? = some x → Q j x := by
  intro j x hx
  rcases get_set_cases ht hx with ⟨rfl, rfl⟩ | ⟨hne, hj⟩
  · exact hi
  · exact ho j x hne (hP j x hj)

theorem get_set_self {α : Type} {l : List α} {i : Nat} {t t' : α} (ht : l[i]? = some t) :
    (l.set i t')[i]? = some t' := by
  rw [List.getElem?_set]; simp [lt_of_get ht]

theorem get_set_other {α : Type} {l : List α} {i j : Nat} {t' : α} (h : j ≠ i) :
    (l.set i t')[j]? = l[j]? := by
  rw [List.getElem?_set, if_neg (fun e : i = j => h e.symm)]

theorem countP_set_add {α : Type} (p : α → Bool) {l : List α} {i : Nat} {t t' : α} (ht : l[i]? = some t) :
    (l.set i t').countP p + (if p t then 1 else 0) = l.countP p + (if p t' then 1 else 0) := by
  have hlt := lt_of_get ht
  have hget : l[i] = t := by
    have := List.getElem?_eq_getElem hlt
    rw [this] at ht; exact Option.some.inj ht
  rw [List.countP_set hlt, hget]
  by_cases hp : p t = true
  · have hmem : t ∈ l := List.mem_of_getElem? ht
    have hpos : 0 < l.countP p := List.countP_pos_iff.mpr ⟨t, hmem, hp⟩
    simp [hp]; omega
  · simp [hp]

theorem countP_set_eq {α : Type} (p : α → Bool) {l : List α} {i : Nat} {t t' : α} (ht : l[i]? = some t) :
    (l.set i t').countP p = l.countP p + (if p t' then 1 else 0) - (if p t then 1 else 0) := by
  have := countP_set_add p (t' := t') ht
  omega

theorem wf_acc {mu : F → Bool} {k : LockKind} {a : Acc F V} {p : List (Instr F V)} :
    wfProg mu k (.acc a :: p) = true ↔ a.ok mu k = true ∧ wfProg mu k p = true := by
  simp [wfProg]

theorem wf_acquire {mu : F → Bool} {k k' : LockKind} {p : List (Instr F V)} :
    wfProg mu k (.acquire k' :: p) = true ↔ k = .none ∧ k' ≠ .none ∧ wfProg mu k' p = true := by
  simp [wfProg, and_assoc]

theorem wf_release {mu : F → Bool} {k k' : LockKind} {p : List (Instr F V)} :
    wfProg mu k (.release k' :: p) = true ↔ k ≠ .none ∧ k = k' ∧ wfProg mu .none p = true := by
  simp [wfProg, and_assoc]

theorem wf_nil {mu : F → Bool} {k : LockKind} : wfProg (F := F) (V := V) mu k [] = true ↔ k = .none := by
  simp [wfProg]

theorem run_mem_of_not_w [DecidableEq F] {mu : F → Bool} {k : LockKind} {a : Acc F V} (hok : a.ok mu k = true)
    (hk : k ≠ .w) (m : Mem F V) (l : List V) : (a.run (m, l)).1 = m := by
  cases a with
  | read f => rfl
  | hook => rfl
  | write f g => cases k <;> simp [Acc.ok] at hok; exact absurd rfl hk

theorem runOps_snoc [DecidableEq F] (ops : List (Acc F V)) (a : Acc F V) (x : Mem F V × List V) :
    runOps (ops ++ [a]) x = a.run (runOps ops x) := by
  simp [runOps, List.foldl_append]

theorem replay_snoc [DecidableEq F] (m0 : Mem F V) (h : List (List (Acc F V) × List V)) (sec : List (Acc F V) × List V) :
    replay m0 (h ++ [sec]) = (runOps sec.1 (replay m0 h, sec.2)).1 := by
  simp [replay, List.foldl_append]

def ThreadOK (mu : F → Bool) (t : Thread F V) : Prop :=
  wfProg mu t.held.ctx t.prog = true ∧ (t.held = .pend → ∃ p, t.prog = .acquire .w :: p)

def ThreadsOK (mu : F → Bool) (s : State F V) : Prop :=
  ∀ (i : Nat) (t : Thread F V), s.threads[i]? = some t → ThreadOK mu t

structure LockInv (s : State F V) : Prop where
  readers : s.lock.readers = s.threads.countP (fun t => t.held == .r)
  writer : ∀ (i : Nat) (t : Thread F V), s.threads[i]? = some t → (t.held = .w ↔ s.lock.writer = some i)
  wmutex : ∀ (i : Nat) (t : Thread F V), s.threads[i]? = some t →
    ((t.held = .pend ∨ t.held = .w) ↔ s.lock.wmutex = some i)
  excl : s.lock.writer ≠ none → s.lock.readers = 0
  owner : ∀ i, s.lock.wmutex = some i → i < s.threads.length
  sub : ∀ i, s.lock.writer = some i → s.lock.wmutex = some i

def Frozen (mu : F → Bool) (s : State F V) : Prop := ∀ f, mu f = false → s.mem f = s.init f

theorem mutual_exclusion {s : State F V} (hl : LockInv s) {i j : Nat} {ti tj : Thread F V}
    (hi : s.threads[i]? = some ti) (hj : s.threads[j]? = some tj) (hne : j ≠ i)
    (hw : ti.held = .w) (hin : tj.held = .r ∨ tj.held = .w) : False := by
  have hwi : s.lock.writer = some i := (hl.writer i ti hi).mp hw
  rcases hin with hr | hw2
  · have hmem : tj ∈ s.threads := List.mem_of_getElem? hj
    have hpos : 0 < s.threads.countP (fun t => t.held == .r) :=
      List.countP_pos_iff.mpr ⟨tj, hmem, by simp [hr]⟩
    have h0 := hl.excl (by rw [hwi]; simp)
    rw [hl.readers] at h0
    omega
  · have hwj : s.lock.writer = some j := (hl.writer j tj hj).mp hw2
    rw [hwi] at hwj
    exact hne (Option.some.inj hwj).symm

theorem writer_none_of_wmutex_none {s : State F V} (hl : LockInv s) (h : s.lock.wmutex = none) :
    s.lock.writer = none := by
  cases hw : s.lock.writer with
  | none => rfl
  | some k => have := hl.sub k hw; rw [h] at this; cases this

/-- a pending writer is the owner of the writer mutex, hence nobody is inside a write section -/
theorem writer_none_of_pend {s : State F V} (hl : LockInv s) {i : Nat} {t : Thread F V}
    (ht : s.threads[i]? = some t) (hh : t.held = .pend) : s.lock.writer = none := by
  cases hw : s.lock.writer with
  | none => rfl
  | some k =>
    have h1 := hl.sub k hw
    have h2 := (hl.wmutex i t ht).mp (Or.inl hh)
    rw [h1] at h2
    have hk : k = i := Option.some.inj h2
    subst hk
    have := (hl.writer k t ht).mpr hw
    rw [hh] at this; cases this

section Preservation
variable [DecidableEq F]

theorem threadsOK_step {mu : F → Bool} {s s' : State F V} {i : Nat} (h : ThreadsOK mu s) (st : Step s i s') :
    ThreadsOK mu s' := by
  cases st with
  | @acc t a p ht hp =>
    have ⟨hwf, hpend⟩ := h i t ht
    rw [hp] at hwf
    refine forall_set ht h ⟨(wf_acc.mp hwf).2, fun hh => ?_⟩ (fun _ _ _ hx => hx)
    obtain ⟨p', hp'⟩ := hpend hh
    rw [hp] at hp'; cases hp'
  | @rlock t p ht hp hh hw =>
    have ⟨hwf, _⟩ := h i t ht
    rw [hp, hh] at hwf
    exact forall_set ht h ⟨(wf_acquire.mp hwf).2.2, nofun⟩ (fun _ _ _ hx => hx)
  | @wannounce t p ht hp hh hw =>
    have ⟨hwf, _⟩ := h i t ht
    rw [hh] at hwf
    exact forall_set ht h ⟨hwf, fun _ => ⟨p, hp⟩⟩ (fun _ _ _ hx => hx)
  | @wenter t p ht hp hh hr =>
    have ⟨hwf, _⟩ := h i t ht
    rw [hp, hh] at hwf
    exact forall_set ht h ⟨(wf_acquire.mp hwf).2.2, nofun⟩ (fun _ _ _ hx => hx)
  | @runlock t p ht hp hh =>
    have ⟨hwf, _⟩ := h i t ht
    rw [hp, hh] at hwf
    exact forall_set ht h ⟨(wf_release.mp hwf).2.2, nofun⟩ (fun _ _ _ hx => hx)
  | @wunlock t p ht hp hh =>
    have ⟨hwf, _⟩ := h i t ht
    rw [hp, hh] at hwf
    exact forall_set ht h ⟨(wf_release.mp hwf).2.2, nofun⟩ (fun _ _ _ hx => hx)

/-- a part of the mutex that was free (or `i`'s) goes to thread `i`: what said of another thread
`j` that it owns the part stays false -/
theorem owner_iff {j i : Nat} {b : Prop} {o : Option Nat} (hne : j ≠ i) (h : b ↔ o = some j)
    (ho : o = none ∨ o = some i) : b ↔ some i = some j := by
  refine iff_of_false (fun hb => ?_) (fun e => hne (Option.some.inj e).symm)
  rcases ho with ho | ho <;> rw [ho] at h
  · exact absurd (h.mp hb) nofun
  · exact hne (Option.some.inj (h.mp hb)).symm

/-- case by case, which part of the mutex changes owner: `acc` none; `rlock` / `runlock` the reader
count (±1; a reader owns no part); `wannounce` the writer mutex goes from free to `i`, `wenter` the
writer slot goes from free to `i`, who owns the writer mutex already (for the other threads:
`owner_iff`); `wunlock` both parts go from `i` to free (`free`) -/
theorem lockInv_step {s s' : State F V} {i : Nat} (hl : LockInv s) (st : Step s i s') : LockInv s' := by
  cases st with
  | @acc t a p ht hp =>
    refine ⟨?_, forall_set ht hl.writer (hl.writer i t ht) (fun _ _ _ h => h),
      forall_set ht hl.wmutex (hl.wmutex i t ht) (fun _ _ _ h => h), hl.excl, ?_, hl.sub⟩
    · dsimp only
      rw [countP_set_eq _ ht, hl.readers]
      dsimp only
      by_cases hr : (t.held == Held.r) = true <;> simp [hr]
    · intro k hk; simpa using hl.owner k hk
  | @rlock t p ht hp hh hw =>
    have hwn : s.lock.writer = none := writer_none_of_wmutex_none hl hw
    refine ⟨?_, forall_set ht hl.writer (by simp [hwn]) (fun _ _ _ h => h),
      forall_set ht hl.wmutex (by simp [hw]) (fun _ _ _ h => h), fun hne => absurd hwn hne, ?_, hl.sub⟩
    · dsimp only
      rw [countP_set_eq _ ht, hl.readers]
      simp [hh]
    · intro k hk; simpa using hl.owner k hk
  | @wannounce t p ht hp hh hw =>
    have hwn : s.lock.writer = none := writer_none_of_wmutex_none hl hw
    refine ⟨?_, forall_set ht hl.writer (by simp [hwn]) (fun _ _ _ h => h),
      forall_set ht hl.wmutex (by simp) (fun j x hne h => owner_iff hne h (Or.inl hw)), hl.excl, ?_, ?_⟩
    · dsimp only
      rw [countP_set_eq _ ht, hl.readers]
      simp [hh]
    · intro k hk
      obtain rfl : i = k := Option.some.inj hk
      simpa using lt_of_get ht
    · intro k hk
      have : s.lock.writer = some k := hk
      rw [hwn] at this; cases this
  | @wenter t p ht hp hh hr =>
    have hwn : s.lock.writer = none := writer_none_of_pend hl ht hh
    have hwm : s.lock.wmutex = some i := (hl.wmutex i t ht).mp (Or.inl hh)
    refine ⟨?_, forall_set ht hl.writer (by simp) (fun j x hne h => owner_iff hne h (Or.inl hwn)),
      forall_set ht hl.wmutex (by simp [hwm]) (fun _ _ _ h => h), fun _ => hr, ?_, ?_⟩
    · dsimp only
      rw [countP_set_eq _ ht, hl.readers]
      simp [hh]
    · intro k hk; simpa using hl.owner k hk
    · intro k hk
      obtain rfl : i = k := Option.some.inj hk
      exact hwm
  | @runlock t p ht hp hh =>
    have hnw : s.lock.writer ≠ some i := by
      intro h1; have := (hl.writer i t ht).mpr h1; rw [hh] at this; cases this
    have hnm : s.lock.wmutex ≠ some i := by
      intro h1; have := (hl.wmutex i t ht).mpr h1; rw [hh] at this; rcases this with h2 | h2 <;> cases h2
    refine ⟨?_, forall_set ht hl.writer (by simp [hnw]) (fun _ _ _ h => h),
      forall_set ht hl.wmutex (by simp [hnm]) (fun _ _ _ h => h), ?_, ?_, hl.sub⟩
    · dsimp only
      rw [countP_set_eq _ ht, hl.readers]
      simp [hh]
    · intro hne
      have := hl.excl hne
      show s.lock.readers - 1 = 0
      omega
    · intro k hk; simpa using hl.owner k hk
  | @wunlock t p ht hp hh =>
    have hw : s.lock.writer = some i := (hl.writer i t ht).mp hh
    have hm : s.lock.wmutex = some i := (hl.wmutex i t ht).mp (Or.inr hh)
    -- the lock is free again: nobody but `i` held any part of it
    have free : ∀ {b : Prop} {j : Nat}, j ≠ i → (b ↔ some i = some j) → (b ↔ (none : Option Nat) = some j) :=
      fun hne h => iff_of_false (fun hb => hne (Option.some.inj (h.mp hb)).symm) nofun
    refine ⟨?_, forall_set ht hl.writer (by simp) (fun j x hne h => free hne (hw ▸ h)),
      forall_set ht hl.wmutex (by simp) (fun j x hne h => free hne (hm ▸ h)), fun hne => absurd rfl hne, nofun, nofun⟩
    dsimp only
    rw [countP_set_eq _ ht, hl.readers]
    simp [hh]

omit [DecidableEq F] in
theorem held_w_of_write {mu : F → Bool} {t : Thread F V} {f : F} {g : List V → V} {p : List (Instr F V)}
    (hok : ThreadOK mu t) (hp : t.prog = .acc (.write f g) :: p) : t.held = .w ∧ mu f = true := by
  have h1 := hok.1
  rw [hp] at h1
  have h2 := (wf_acc.mp h1).1
  cases hh : t.held <;> rw [hh] at h2 <;> simp [Held.ctx, Acc.ok] at h2
  exact ⟨rfl, h2⟩

theorem acc_mem_unchanged {mu : F → Bool} {t : Thread F V} {a : Acc F V} {p : List (Instr F V)}
    (hok : ThreadOK mu t) (hp : t.prog = .acc a :: p) (hnw : t.held ≠ .w) (m : Mem F V) :
    (a.run (m, t.log)).1 = m := by
  cases a with
  | read f => rfl
  | hook => rfl
  | write f g => exact absurd (held_w_of_write hok hp).1 hnw

/-- two ideas: an access of a thread that is not inside a write section leaves the memory alone
(`acc_mem_unchanged`), and a thread inside a write section excludes every other thread from every
section (`mutual_exclusion`) — so the memory moves only under the one thread whose sequential run
the third clause of `Atomic` speaks of, and a completed write section commits exactly that run -/
theorem atomic_step {mu : F → Bool} {s s' : State F V} {i : Nat} (hok : ThreadsOK mu s) (hl : LockInv s)
    (ha : Atomic s) (st : Step s i s') : Atomic s' := by
  obtain ⟨hc, hm, hs⟩ := ha
  cases st with
  | @acc t a p ht hp =>
    refine ⟨hc, ?_, ?_⟩
    · intro hwn
      have hwn' : s.lock.writer = none := hwn
      have hnw : t.held ≠ .w := by
        intro h1; have := (hl.writer i t ht).mp h1; rw [hwn'] at this; cases this
      show (a.run (s.mem, t.log)).1 = s.committed
      rw [acc_mem_unchanged (hok i t ht) hp hnw]; exact hm hwn'
    · intro j x hx hin
      rcases get_set_cases ht hx with ⟨rfl, rfl⟩ | ⟨hne, hj⟩
      · show runOps (t.done ++ [a]) (s.committed, t.log0) = ((a.run (s.mem, t.log)).1, (a.run (s.mem, t.log)).2)
        rw [runOps_snoc, hs _ t ht hin]
      · show runOps x.done (s.committed, x.log0) = ((a.run (s.mem, t.log)).1, x.log)
        have hnw : t.held ≠ .w := fun h1 => mutual_exclusion hl ht hj hne h1 hin
        rw [acc_mem_unchanged (hok i t ht) hp hnw]; exact hs j x hj hin
  | @rlock t p ht hp hh hw =>
    have hwn : s.lock.writer = none := writer_none_of_wmutex_none hl hw
    refine ⟨hc, hm, forall_set ht hs (fun _ => ?_) (fun _ _ _ h => h)⟩
    show runOps [] (s.committed, t.log) = (s.mem, t.log)
    rw [hm hwn]; rfl
  | @wannounce t p ht hp hh hw =>
    exact ⟨hc, hm, forall_set ht hs (fun hin => by rcases hin with h1 | h1 <;> cases h1) (fun _ _ _ h => h)⟩
  | @wenter t p ht hp hh hr =>
    have hwn : s.lock.writer = none := writer_none_of_pend hl ht hh
    refine ⟨hc, nofun, forall_set ht hs (fun _ => ?_) (fun _ _ _ h => h)⟩
    show runOps [] (s.committed, t.log) = (s.mem, t.log)
    rw [hm hwn]; rfl
  | @runlock t p ht hp hh =>
    exact ⟨hc, hm, forall_set ht hs (fun hin => by rcases hin with h1 | h1 <;> cases h1) (fun _ _ _ h => h)⟩
  | @wunlock t p ht hp hh =>
    refine ⟨?_, ?_, ?_⟩
    · show s.mem = replay s.init (s.hist ++ [(t.done, t.log0)])
      rw [replay_snoc, ← hc]
      show s.mem = (runOps t.done (s.committed, t.log0)).1
      rw [hs i t ht (Or.inr hh)]
    · intro _; rfl
    · intro j x hx hin
      rcases get_set_cases ht hx with ⟨rfl, rfl⟩ | ⟨hne, hj⟩
      · rcases hin with h1 | h1 <;> cases h1
      · exact (mutual_exclusion hl ht hj hne hh hin).elim

theorem frozen_step {mu : F → Bool} {s s' : State F V} {i : Nat} (hok : ThreadsOK mu s)
    (hf : Frozen mu s) (st : Step s i s') : Frozen mu s' := by
  cases st with
  | @acc t a p ht hp =>
    intro f hmu
    show (a.run (s.mem, t.log)).1 f = s.init f
    cases a with
    | read f' => exact hf f hmu
    | hook => exact hf f hmu
    | write f' g =>
      have := (held_w_of_write (hok i t ht) hp).2
      have hne : f ≠ f' := by intro e; subst e; rw [hmu] at this; cases this
      show Mem.upd s.mem f' _ f = _
      simp [Mem.upd, hne]; exact hf f hmu
  | rlock ht hp hh hw => exact hf
  | wannounce ht hp hh hw => exact hf
  | wenter ht hp hh hr => exact hf
  | runlock ht hp hh => exact hf
  | wunlock ht hp hh => exact hf

omit [DecidableEq F] in
theorem raceFree_of_inv {mu : F → Bool} {s : State F V} (hok : ThreadsOK mu s) (hl : LockInv s) : RaceFree s := by
  -- wlog the first access is a write
  have key : ∀ (i j : Nat) (ti tj : Thread F V) (f : F) (g : List V → V) (b : Acc F V) (pi pj : List (Instr F V)),
      i ≠ j → s.threads[i]? = some ti → s.threads[j]? = some tj → ti.prog = .acc (.write f g) :: pi →
      tj.prog = .acc b :: pj → (b = .read f ∨ ∃ g', b = .write f g') → False := by
    intro i j ti tj f g b pi pj hne hi hj hpi hpj hb
    obtain ⟨hw, hmu⟩ := held_w_of_write (hok i ti hi) hpi
    have hokj := hok j tj hj
    cases hh : tj.held with
    | w => exact mutual_exclusion hl hi hj (fun e => hne e.symm) hw (Or.inr hh)
    | r => exact mutual_exclusion hl hi hj (fun e => hne e.symm) hw (Or.inl hh)
    | pend =>
      obtain ⟨p', hp'⟩ := hokj.2 hh
      rw [hpj] at hp'; cases hp'
    | out =>
      have h1 := hokj.1
      rw [hpj, hh] at h1
      have h2 := (wf_acc.mp h1).1
      rcases hb with rfl | ⟨g', rfl⟩
      · simp [Held.ctx, Acc.ok, hmu] at h2
      · simp [Held.ctx, Acc.ok] at h2
  intro i j ti tj a b pi pj hne hi hj hpi hpj hconf
  cases a with
  | hook => cases b <;> exact hconf
  | write f g =>
    cases b with
    | hook => exact hconf
    | read f' =>
      have : f = f' := hconf
      subst this
      exact key i j ti tj f g _ pi pj hne hi hj hpi hpj (Or.inl rfl)
    | write f' g' =>
      have : f = f' := hconf
      subst this
      exact key i j ti tj f g _ pi pj hne hi hj hpi hpj (Or.inr ⟨g', rfl⟩)
  | read f =>
    cases b with
    | hook => exact hconf
    | read f' => exact hconf
    | write f' g' =>
      have : f = f' := hconf
      subst this
      exact key j i tj ti f g' _ pj pi (fun e => hne e.symm) hj hi hpj hpi (Or.inl rfl)

theorem step_of_inside {mu : F → Bool} {s : State F V} {i : Nat} {t : Thread F V} (hok : ThreadOK mu t)
    (ht : s.threads[i]? = some t) (hin : t.held = .r ∨ t.held = .w) : ∃ s', Step s i s' := by
  have h1 := hok.1
  cases hp : t.prog with
  | nil =>
    rw [hp] at h1
    rcases hin with hh | hh <;> rw [hh] at h1 <;> simp [Held.ctx, wfProg] at h1
  | cons ins p =>
    rw [hp] at h1
    cases ins with
    | acc a => exact ⟨_, Step.acc ht hp⟩
    | acquire k =>
      rcases hin with hh | hh <;> rw [hh] at h1 <;> simp [Held.ctx, wfProg] at h1
    | release k =>
      have h2 := wf_release.mp h1
      rcases hin with hh | hh
      · rw [hh] at h2
        have : k = .r := h2.2.1.symm
        subst this
        exact ⟨_, Step.runlock ht hp hh⟩
      · rw [hh] at h2
        have : k = .w := h2.2.1.symm
        subst this
        exact ⟨_, Step.wunlock ht hp hh⟩

theorem deadlockFree_of_inv {mu : F → Bool} {s : State F V} (hok : ThreadsOK mu s) (hl : LockInv s) : DeadlockFree s := by
  -- somebody inside a write section?
  cases hw : s.lock.writer with
  | some k =>
    have hm := hl.sub k hw
    have hlt := hl.owner k hm
    have ht : s.threads[k]? = some s.threads[k] := List.getElem?_eq_getElem hlt
    have hh := (hl.writer k _ ht).mpr hw
    obtain ⟨s', hs'⟩ := step_of_inside (hok k _ ht) ht (Or.inr hh)
    exact Or.inr ⟨k, s', hs'⟩
  | none =>
    -- somebody inside a read section?
    by_cases hr : 0 < s.lock.readers
    · rw [hl.readers] at hr
      obtain ⟨t, hmem, hp⟩ := List.countP_pos_iff.mp hr
      obtain ⟨k, ht⟩ := List.mem_iff_getElem?.mp hmem
      have hh : t.held = .r := by simpa using hp
      obtain ⟨s', hs'⟩ := step_of_inside (hok k t ht) ht (Or.inl hh)
      exact Or.inr ⟨k, s', hs'⟩
    · have hr0 : s.lock.readers = 0 := by omega
      -- a pending writer can enter
      cases hm : s.lock.wmutex with
      | some k =>
        have hlt := hl.owner k hm
        have ht : s.threads[k]? = some s.threads[k] := List.getElem?_eq_getElem hlt
        have hh := (hl.wmutex k _ ht).mpr hm
        rcases hh with hh | hh
        · obtain ⟨p, hp⟩ := (hok k _ ht).2 hh
          exact Or.inr ⟨k, _, Step.wenter ht hp hh hr0⟩
        · have := (hl.writer k _ ht).mp hh
          rw [hw] at this; cases this
      | none =>
        -- the mutex is completely free: every unfinished thread can move
        by_cases hall : ∀ t ∈ s.threads, t.prog = []
        · exact Or.inl hall
        · obtain ⟨t, ht⟩ := Classical.not_forall.mp hall
          obtain ⟨hmem, hne⟩ := Classical.not_imp.mp ht
          obtain ⟨k, ht⟩ := List.mem_iff_getElem?.mp hmem
          have hokt := hok k t ht
          have hout : t.held = .out := by
            cases hh : t.held with
            | out => rfl
            | pend => have := (hl.wmutex k t ht).mp (Or.inl hh); rw [hm] at this; cases this
            | w => have := (hl.wmutex k t ht).mp (Or.inr hh); rw [hm] at this; cases this
            | r =>
              have hpos : 0 < s.threads.countP (fun t => t.held == .r) :=
                List.countP_pos_iff.mpr ⟨t, hmem, by simp [hh]⟩
              rw [← hl.readers] at hpos; omega
          cases hp : t.prog with
          | nil => exact absurd hp hne
          | cons ins p =>
            have h1 := hokt.1
            rw [hp, hout] at h1
            cases ins with
            | acc a => exact Or.inr ⟨k, _, Step.acc ht hp⟩
            | release k' => simp [Held.ctx, wfProg] at h1
            | acquire k' =>
              have h2 := wf_acquire.mp h1
              cases k' with
              | none => exact absurd rfl h2.2.1
              | r => exact Or.inr ⟨k, _, Step.rlock ht hp hout hm⟩
              | w => exact Or.inr ⟨k, _, Step.wannounce ht hp hout hm⟩

end Preservation

structure Inv [DecidableEq F] (mu : F → Bool) (s : State F V) : Prop where
  ok : ThreadsOK mu s
  lock : LockInv s
  atomic : Atomic s
  frozen : Frozen mu s

section Reach
variable [DecidableEq F]

omit [DecidableEq F] in
theorem get_initial {mem0 : Mem F V} {progs : List (List (Instr F V))} {i : Nat} {t : Thread F V}
    (h : (State.initial mem0 progs).threads[i]? = some t) : ∃ p ∈ progs, t = { prog := p } := by
  simp only [State.initial, List.getElem?_map] at h
  cases hp : progs[i]? with
  | none => rw [hp] at h; cases h
  | some p =>
    rw [hp] at h
    exact ⟨p, List.mem_of_getElem? hp, (Option.some.inj h).symm⟩

theorem inv_initial {mu : F → Bool} (mem0 : Mem F V) (progs : List (List (Instr F V)))
    (hwf : ∀ p ∈ progs, wfProg mu .none p = true) : Inv mu (State.initial mem0 progs) := by
  have hout : ∀ (i : Nat) (t : Thread F V), (State.initial mem0 progs).threads[i]? = some t → t.held = .out := by
    intro i t ht
    obtain ⟨p, _, rfl⟩ := get_initial ht
    rfl
  refine ⟨?_, ⟨?_, ?_, ?_, ?_, ?_, ?_⟩, ⟨rfl, fun _ => rfl, ?_⟩, fun _ _ => rfl⟩
  · intro i t ht
    obtain ⟨p, hp, rfl⟩ := get_initial ht
    exact ⟨hwf p hp, by intro h; cases h⟩
  · show 0 = _
    symm
    rw [List.countP_eq_zero]
    intro t hmem
    obtain ⟨i, ht⟩ := List.mem_iff_getElem?.mp hmem
    simp [hout i t ht]
  · intro i t ht
    rw [hout i t ht]
    constructor
    · intro h; cases h
    · intro h; cases h
  · intro i t ht
    rw [hout i t ht]
    constructor
    · intro h; rcases h with h | h <;> cases h
    · intro h; cases h
  · intro h; exact absurd rfl h
  · intro i h; cases h
  · intro i h; cases h
  · intro i t ht hin
    rw [hout i t ht] at hin
    rcases hin with h | h <;> cases h

theorem inv_step {mu : F → Bool} {s s' : State F V} {i : Nat} (h : Inv mu s) (st : Step s i s') : Inv mu s' :=
  ⟨threadsOK_step h.ok st, lockInv_step h.lock st, atomic_step h.ok h.lock h.atomic st, frozen_step h.ok h.frozen st⟩

theorem inv_reachable {mu : F → Bool} {mem0 : Mem F V} {progs : List (List (Instr F V))}
    (hwf : ∀ p ∈ progs, wfProg mu .none p = true) {s : State F V}
    (hr : Reachable (State.initial mem0 progs) s) : Inv mu s := by
  induction hr with
  | refl => exact inv_initial mem0 progs hwf
  | step _ st ih => exact inv_step ih st

theorem init_const {s0 s : State F V} (hr : Reachable s0 s) : s.init = s0.init := by
  induction hr with
  | refl => rfl
  | step _ st ih => cases st <;> exact ih

theorem stable_while_reading {mu : F → Bool} {s s' : State F V} {i j : Nat} {tj : Thread F V} (h : Inv mu s)
    (st : Step s i s') (hj : s.threads[j]? = some tj) (hr : tj.held = .r) :
    s'.committed = s.committed ∧ s'.mem = s.mem := by
  have hnw : ∀ (t : Thread F V), s.threads[i]? = some t → t.held ≠ .w := by
    intro t ht hw
    by_cases hij : j = i
    · subst hij; rw [hj] at ht; cases ht; rw [hr] at hw; cases hw
    · exact mutual_exclusion h.lock ht hj hij hw (Or.inl hr)
  cases st with
  | @acc t a p ht hp => exact ⟨rfl, acc_mem_unchanged (h.ok i t ht) hp (hnw t ht) s.mem⟩
  | rlock ht hp hh hw => exact ⟨rfl, rfl⟩
  | wannounce ht hp hh hw => exact ⟨rfl, rfl⟩
  | wenter ht hp hh hr => exact ⟨rfl, rfl⟩
  | runlock ht hp hh => exact ⟨rfl, rfl⟩
  | @wunlock t p ht hp hh => exact absurd hh (hnw t ht)

theorem reader_view {mu : F → Bool} {s : State F V} {j : Nat} {tj : Thread F V} (h : Inv mu s)
    (hj : s.threads[j]? = some tj) (hr : tj.held = .r) :
    s.mem = s.committed ∧ runOps tj.done (s.committed, tj.log0) = (s.committed, tj.log) := by
  have hwn : s.lock.writer = none := by
    cases hw : s.lock.writer with
    | none => rfl
    | some k =>
      have hm := h.lock.sub k hw
      have hlt := h.lock.owner k hm
      have ht : s.threads[k]? = some s.threads[k] := List.getElem?_eq_getElem hlt
      have hh := (h.lock.writer k _ ht).mpr hw
      by_cases hjk : j = k
      · subst hjk; rw [hj] at ht; cases ht; rw [hr] at hh; cases hh
      · exact (mutual_exclusion h.lock ht hj hjk hh (Or.inl hr)).elim
  have hm := h.atomic.2.1 hwn
  refine ⟨hm, ?_⟩
  have := h.atomic.2.2 j tj hj (Or.inl hr)
  rw [hm] at this
  exact this

end Reach

section Typing
variable {M : Type}

theorem mem_toList_iff (C : Ctxs) (c : LockKind) : c ∈ C.toList ↔ C.has c = true := by
  cases c <;> simp [Ctxs.toList, Ctxs.has, List.mem_ite_nil_right]

theorem ok_of_within {mu : F → Bool} {c : LockKind} {rs ws : List F} {a : Acc F V}
    (hacc : accOK mu c rs ws = true) (hin : a.within rs ws) : a.ok mu c = true := by
  cases a with
  | hook => cases c <;> rfl
  | read f =>
    cases c with
    | none =>
      simp only [accOK, Bool.and_eq_true, List.all_eq_true] at hacc
      simpa [Acc.ok] using hacc.2 f hin
    | r => rfl
    | w => rfl
  | write f g =>
    have hin' : f ∈ ws := hin
    cases c with
    | none =>
      simp only [accOK, Bool.and_eq_true, List.isEmpty_iff] at hacc
      rw [hacc.1] at hin'; cases hin'
    | r =>
      simp only [accOK, List.isEmpty_iff] at hacc
      rw [hacc] at hin'; cases hin'
    | w =>
      simp only [accOK, List.all_eq_true] at hacc
      simpa [Acc.ok] using hacc f hin'

/-- what the check guarantees for the item being executed while holding `c` -/
def ItemOK (mu : F → Bool) (C : M → Ctxs) (c : LockKind) : Item F M → Prop
  | .call m => (C m).has c = true
  | .seg rs ws cs => accOK mu c rs ws = true ∧ ∀ n ∈ cs, (C n).has c = true

theorem methodOK_of_typing {T : M → MethodInfo F M} {allM : List M} {mu : F → Bool} {C : M → Ctxs}
    (hall : ∀ m, m ∈ allM) (hty : typingOK T allM mu C = true) (m : M) :
    ((T m).exported = true → (C m).has .none = true) ∧ methodOK T mu C m = true := by
  simp only [typingOK, List.all_eq_true, Bool.and_eq_true, Bool.or_eq_true, Bool.not_eq_true'] at hty
  have := hty m (hall m)
  refine ⟨?_, this.2⟩
  intro he
  rcases this.1 with h | h
  · rw [he] at h; cases h
  · exact h

theorem typed_call {T : M → MethodInfo F M} {allM : List M} {mu : F → Bool} {C : M → Ctxs}
    (hall : ∀ m, m ∈ allM) (hty : typingOK T allM mu C = true) {c : LockKind} {m : M} (hc : (C m).has c = true) :
    (T m).regular = true ∧ ItemOK mu C c (.seg (T m).preReads (T m).preWrites (T m).preCalls) ∧
    (if (T m).lock = .none then ItemOK mu C c (.seg (T m).reads (T m).writes (T m).calls)
     else c = .none ∧ ItemOK mu C (T m).lock (.seg (T m).reads (T m).writes (T m).calls)) := by
  have hm := (methodOK_of_typing hall hty m).2
  simp only [methodOK, List.all_eq_true] at hm
  have h := hm c ((mem_toList_iff _ _).mpr hc)
  simp only [Bool.and_eq_true, List.all_eq_true] at h
  refine ⟨h.1.2, ⟨h.1.1.1, h.1.1.2⟩, ?_⟩
  split <;> rename_i hl
  · simpa [hl, ItemOK] using h.2
  · simpa [hl, ItemOK, and_assoc] using h.2

/-- the fragment `p` returns to the lock state it started in: hence the continuation `q` -/
theorem gen_wf {T : M → MethodInfo F M} {allM : List M} {mu : F → Bool} {C : M → Ctxs}
    (hall : ∀ m, m ∈ allM) (hty : typingOK T allM mu C = true)
    {c : LockKind} {item : Item F M} {p : List (Instr F V)} (hg : Gen T c item p) :
    ItemOK mu C c item → ∀ q, wfProg mu c q = true → wfProg mu c (p ++ q) = true := by
  induction hg with
  | segNil => intro _ q hq; simpa using hq
  | segAcc hin _ ih =>
    intro hok q hq
    rw [List.cons_append, wf_acc]
    exact ⟨ok_of_within hok.1 hin, ih hok q hq⟩
  | segCall hn _ _ ih1 ih2 =>
    intro hok q hq
    rw [List.append_assoc]
    exact ih1 (hok.2 _ hn) _ (ih2 hok q hq)
  | @callPlain c m p1 p2 hlock hreg _ _ ih1 ih2 =>
    intro hok q hq
    obtain ⟨_, hpre, hbody⟩ := typed_call hall hty (show (C m).has c = true from hok)
    rw [if_pos hlock] at hbody
    rw [List.append_assoc]
    exact ih1 hpre _ (ih2 hbody q hq)
  | @callLocked c m k p1 p2 hlock hk hreg _ _ ih1 ih2 =>
    intro hok q hq
    obtain ⟨_, hpre, hbody⟩ := typed_call hall hty (show (C m).has c = true from hok)
    rw [if_neg (by rw [hlock]; exact hk), hlock] at hbody
    obtain ⟨rfl, hbody⟩ := hbody
    rw [List.append_assoc, List.cons_append, List.append_assoc]
    exact ih1 hpre _ (wf_acquire.mpr ⟨rfl, hk, ih2 hbody _ (wf_release.mpr ⟨hk, rfl, hq⟩)⟩)

theorem apiProg_wf {T : M → MethodInfo F M} {allM : List M} {mu : F → Bool} {C : M → Ctxs}
    (hall : ∀ m, m ∈ allM) (hty : typingOK T allM mu C = true)
    {p : List (Instr F V)} (hp : ApiProg T p) : wfProg mu .none p = true := by
  induction hp with
  | nil => rfl
  | @call m q p hexp hg _ ih =>
    exact gen_wf hall hty hg ((methodOK_of_typing hall hty m).1 hexp) p ih

end Typing

end UtreexoVerif.Proofs.Lock
