/-
  The order `PLt` on (row, offset) pairs and lists sorted by it (`SSorted`, `WSorted`; `sortPos`,
  `compactPos` on them), and what the scan `scanPos` of one row does to a strictly sorted row of
  path nodes (`scanPos_front`).  Pure `Nat` / `List` reasoning, no bit vectors.
-/
import UtreexoVerif.Proofs.ProofPosRef
import UtreexoVerif.Proofs.CalcGeo
import UtreexoVerif.Proofs.SortedLists

namespace UtreexoVerif.Proofs
open Spec

theorem PLt_irrefl (a : Pos) : ¬ PLt a a := by rw [PLt_iff]; omega

theorem PLt_trans {a b c : Pos} (h1 : PLt a b) (h2 : PLt b c) : PLt a c := by
  rw [PLt_iff] at *; omega

theorem PLt_asymm {a b : Pos} (h1 : PLt a b) : ¬ PLt b a := by
  rw [PLt_iff] at *; omega

theorem PLt_total (a b : Pos) : PLt a b ∨ a = b ∨ PLt b a := by
  rw [PLt_iff, PLt_iff]
  obtain ⟨a1, a2⟩ := a
  obtain ⟨b1, b2⟩ := b
  simp only [Prod.mk.injEq]
  omega

abbrev SSorted (l : List Pos) : Prop := l.Pairwise PLt

theorem eq_of_ssorted {l l' : List Pos} (hl : SSorted l) (hl' : SSorted l')
    (h : ∀ a, a ∈ l ↔ a ∈ l') : l = l' :=
  Sorted.eq_of_sorted_of_mem_iff PLt_irrefl (fun _ _ _ => PLt_trans) l l' hl hl' h

theorem SSorted.nodup {l : List Pos} (h : SSorted l) : l.Nodup :=
  List.Pairwise.imp (fun {a b} hab e => by subst e; exact PLt_irrefl a hab) h

abbrev PLe (a b : Pos) : Prop := ¬ PLt b a

theorem posOrder : InsertW.IsOrder PLt PLe where
  irrefl := PLt_irrefl
  trans := PLt_trans
  tri := PLt_total
  le_iff := Iff.rfl

theorem sortPos_ssorted {l : List Pos} (h : l.Nodup) : SSorted (sortPos l) :=
  sortPos_eq l ▸ InsertW.sortW_strict id posOrder l (by simpa using h)

theorem sortPos_of_ssorted {l : List Pos} (h : SSorted l) : sortPos l = l :=
  eq_of_ssorted (sortPos_ssorted h.nodup) h (fun _ => mem_sortPos)

theorem PLe_iff {a b : Pos} : PLe a b ↔ a.1 < b.1 ∨ (a.1 = b.1 ∧ a.2 ≤ b.2) := by
  rw [PLe, PLt_iff]; omega

theorem PLt_of_PLe_ne {a b : Pos} (h : PLe a b) (hne : a ≠ b) : PLt a b := by
  rcases PLt_total a b with h1 | h1 | h1
  · exact h1
  · exact absurd h1 hne
  · exact absurd h1 h

theorem PLt_of_PLt_PLe {a b c : Pos} (h1 : PLt a b) (h2 : PLe b c) : PLt a c := by
  rw [PLe_iff] at h2; rw [PLt_iff] at *; omega

abbrev WSorted (l : List Pos) : Prop := l.Pairwise PLe

theorem sortPos_wsorted (l : List Pos) : WSorted (sortPos l) :=
  sortPos_eq l ▸ InsertW.sortW_sorted id posOrder l

theorem compactPosAux_ssorted : ∀ (l : List Pos) (prev : Pos), WSorted (prev :: l) →
    SSorted (prev :: compactPosAux prev l)
  | [], _, _ => by simp [compactPosAux, SSorted]
  | x :: xs, prev, h => by
    have h1 := List.pairwise_cons.1 h
    have h2 := List.pairwise_cons.1 h1.2
    rw [compactPosAux]
    by_cases e : (x == prev) = true
    · rw [if_pos e]
      exact compactPosAux_ssorted xs prev
        (List.pairwise_cons.2 ⟨fun z hz => h1.1 z (List.mem_cons_of_mem _ hz), h2.2⟩)
    · rw [if_neg e]
      have hne : prev ≠ x := fun hc => e (by rw [hc]; simp)
      have hlt : PLt prev x := PLt_of_PLe_ne (h1.1 x (by simp)) hne
      have ih := compactPosAux_ssorted xs x h1.2
      refine List.pairwise_cons.2 ⟨?_, ih⟩
      intro z hz
      rcases List.mem_cons.1 ((mem_cons_compactPosAux xs x).1 hz) with rfl | hz
      · exact hlt
      · exact PLt_of_PLt_PLe hlt (h2.1 z hz)

theorem compactPos_ssorted {l : List Pos} (h : WSorted l) : SSorted (compactPos l) := by
  cases l with
  | nil => exact List.Pairwise.nil
  | cons x xs => rw [compactPos]; exact compactPosAux_ssorted xs x h

theorem compact_sortPos_ssorted (l : List Pos) : SSorted (compactPos (sortPos l)) :=
  compactPos_ssorted (sortPos_wsorted l)

theorem mem_compact_sortPos {y : Pos} {l : List Pos} : y ∈ compactPos (sortPos l) ↔ y ∈ l := by
  rw [mem_compactPos, mem_sortPos]

theorem compactPos_of_ssorted {l : List Pos} (h : SSorted l) : compactPos l = l :=
  eq_of_ssorted (compactPos_ssorted (List.Pairwise.imp (fun hab => PLt_asymm hab) h)) h
    (fun _ => mem_compactPos)

theorem insertPos_append_low {k : Nat} {x : Pos} (hx : x.1 < k) (A B : List Pos)
    (hB : ∀ b ∈ B, k ≤ b.1) : insertPos x (A ++ B) = insertPos x A ++ B := by
  rw [insertPos_eq, insertPos_eq]
  exact InsertW.insertW_append_right PLt id x A B
    (fun b hb => PLt_iff.2 (Or.inl (Nat.lt_of_lt_of_le hx (hB b hb))))

theorem insertPos_append_high {k : Nat} {x : Pos} (hx : k ≤ x.1) (A B : List Pos)
    (hA : ∀ a ∈ A, a.1 < k) : insertPos x (A ++ B) = A ++ insertPos x B := by
  rw [insertPos_eq, insertPos_eq]
  exact InsertW.insertW_append PLt id x A B
    (fun a ha hc => by have := PLt_iff.1 hc; have := hA a ha; simp only [id] at *; omega)

theorem foldl_insertPos_split (k : Nat) : ∀ (l A B : List Pos), (∀ a ∈ A, a.1 < k) →
    (∀ b ∈ B, k ≤ b.1) →
    l.foldl (fun a x => insertPos x a) (A ++ B) =
      (l.filter (fun p => decide (p.1 < k))).foldl (fun a x => insertPos x a) A ++
        (l.filter (fun p => !decide (p.1 < k))).foldl (fun a x => insertPos x a) B
  | [], A, B, _, _ => rfl
  | x :: l, A, B, hA, hB => by
    rw [List.foldl_cons]
    by_cases hx : x.1 < k
    · rw [insertPos_append_low hx A B hB, foldl_insertPos_split k l (insertPos x A) B
        (by intro a ha; rcases mem_insertPos.1 ha with rfl | ha; exact hx; exact hA a ha) hB]
      simp [hx]
    · rw [insertPos_append_high (by omega) A B hA, foldl_insertPos_split k l A (insertPos x B) hA
        (by intro b hb; rcases mem_insertPos.1 hb with rfl | hb; omega; exact hB b hb)]
      simp [hx]

theorem sortPos_split (k : Nat) (l : List Pos) :
    sortPos l = sortPos (l.filter (fun p => decide (p.1 < k))) ++
      sortPos (l.filter (fun p => !decide (p.1 < k))) := by
  unfold sortPos
  exact foldl_insertPos_split k l [] [] (by simp) (by simp)


theorem scanPos_skip_prefix {n ρ : Nat} : ∀ (A X : List Pos), (∀ a ∈ A, skipP n ρ a = true) →
    scanPos n ρ (A ++ X) =
      (A ++ (scanPos n ρ X).1, (scanPos n ρ X).2.1, (scanPos n ρ X).2.2)
  | [], X, _ => rfl
  | a :: A, X, hA => by
    rw [List.cons_append, scanPos_cons_skip _ (hA a (by simp)),
      scanPos_skip_prefix A X (fun a' h => hA a' (List.mem_cons_of_mem _ h))]
    rfl

theorem scanPos_all_skip {n ρ : Nat} (A : List Pos) (hA : ∀ a ∈ A, skipP n ρ a = true) :
    scanPos n ρ A = (A, [], []) := by
  have := scanPos_skip_prefix A [] hA
  simpa [scanPos] using this

theorem scanPos_skip_suffix {n ρ : Nat} (C : List Pos) (hC : ∀ c ∈ C, c.1 ≠ ρ) :
    ∀ (X : List Pos), scanPos n ρ (X ++ C) =
      ((scanPos n ρ X).1 ++ C, (scanPos n ρ X).2.1, (scanPos n ρ X).2.2) := by
  intro X
  induction X using scanPos_induction (n := n) (ρ := ρ) with
  | nil =>
    rw [List.nil_append, scanPos_all_skip C (fun c hc => by simp [skipP, hC c hc])]
    rfl
  | skip t rest hs ih =>
    rw [List.cons_append, scanPos_cons_skip _ hs, scanPos_cons_skip _ hs, ih]
    rfl
  | paired t rest hs ih =>
    rw [List.cons_append, List.cons_append, scanPos_cons_paired _ hs, scanPos_cons_paired _ hs, ih]
    rfl
  | unpaired t rest hs hnx ih =>
    have hnx' : ∀ nxt ∈ (rest ++ C).head?, nxt ≠ (ρ, 2 * (t.2 / 2) + 1) := by
      intro nxt hn
      cases rest with
      | nil =>
        -- the next entry is the first of `C`, on another row
        intro e
        exact hC nxt (List.mem_of_mem_head? hn) (by rw [e])
      | cons x rest' => exact hnx nxt hn
    rw [List.cons_append, scanPos_cons_unpaired _ hs hnx', scanPos_cons_unpaired _ hs hnx, ih]
    rfl


def OnRow (ρ : Nat) (L : List Pos) : Prop := ∀ p ∈ L, p.1 = ρ

def SibClosed (n : Nat) (L : List Pos) : Prop :=
  ∀ t ∈ L, isRootPos n t = false → sib t ∈ L → isRootPos n (sib t) = false

theorem SibClosed.tail {n : Nat} {t : Pos} {L : List Pos} (h : SibClosed n (t :: L)) : SibClosed n L :=
  fun x hx hr hs => h x (List.mem_cons_of_mem _ hx) hr (List.mem_cons_of_mem _ hs)

theorem ssorted_row_cons {ρ : Nat} {t : Pos} {L : List Pos} (hrow : OnRow ρ (t :: L))
    (hs : SSorted (t :: L)) :
    t.1 = ρ ∧ OnRow ρ L ∧ SSorted L ∧ ∀ x ∈ L, x.1 = ρ ∧ t.2 < x.2 := by
  have hs' := List.pairwise_cons.1 hs
  refine ⟨hrow t (by simp), fun p hp => hrow p (List.mem_cons_of_mem _ hp), hs'.2, ?_⟩
  intro x hx
  have h1 := hrow x (List.mem_cons_of_mem _ hx)
  have h2 := hrow t (by simp)
  have := PLt_iff.1 (hs'.1 x hx)
  exact ⟨h1, by omega⟩

theorem scan_unpaired_step {n ρ : Nat} {t : Pos} {L : List Pos} {P S : List Pos}
    (ht : t.1 = ρ) (hroot : isRootPos n t = false)
    (hfar : ∀ x ∈ L, x.1 = ρ ∧ t.2 / 2 < x.2 / 2)
    (hP : ∀ q, q ∈ P ↔ ∃ x ∈ L, isRootPos n x = false ∧ q = parent x)
    (hS : ∀ q, q ∈ S ↔ ∃ x ∈ L, isRootPos n x = false ∧ q = sib x ∧ sib x ∉ L)
    (hPs : SSorted P) (hSs : SSorted S) :
    (∀ q, q ∈ parent t :: P ↔ ∃ x ∈ t :: L, isRootPos n x = false ∧ q = parent x) ∧
    (∀ q, q ∈ sib t :: S ↔ ∃ x ∈ t :: L, isRootPos n x = false ∧ q = sib x ∧ sib x ∉ t :: L) ∧
    SSorted (parent t :: P) ∧ SSorted (sib t :: S) := by
  have hsibt : sib t ∉ L := by
    intro hc
    have := (hfar _ hc).2
    rw [sib_snd_div] at this
    omega
  have hsibx : ∀ x ∈ L, sib x ≠ t := by
    intro x hx e
    have := (hfar x hx).2
    rw [← e, sib_snd_div] at this
    omega
  refine ⟨?_, ?_, ?_, ?_⟩
  · intro q
    rw [List.mem_cons, hP]
    constructor
    · rintro (rfl | ⟨x, hx, h1, h2⟩)
      · exact ⟨t, by simp, hroot, rfl⟩
      · exact ⟨x, List.mem_cons_of_mem _ hx, h1, h2⟩
    · rintro ⟨x, hx, h1, h2⟩
      rcases List.mem_cons.1 hx with rfl | hx
      · exact Or.inl h2
      · exact Or.inr ⟨x, hx, h1, h2⟩
  · intro q
    rw [List.mem_cons, hS]
    constructor
    · rintro (rfl | ⟨x, hx, h1, h2, h3⟩)
      · refine ⟨t, by simp, hroot, rfl, ?_⟩
        intro hc
        rcases List.mem_cons.1 hc with e | hc
        · exact CalcGeo.sib_ne t e
        · exact hsibt hc
      · refine ⟨x, List.mem_cons_of_mem _ hx, h1, h2, ?_⟩
        intro hc
        rcases List.mem_cons.1 hc with e | hc
        · exact hsibx x hx e
        · exact h3 hc
    · rintro ⟨x, hx, h1, h2, h3⟩
      rcases List.mem_cons.1 hx with rfl | hx
      · exact Or.inl h2
      · exact Or.inr ⟨x, hx, h1, h2, fun hc => h3 (List.mem_cons_of_mem _ hc)⟩
  · refine List.pairwise_cons.2 ⟨?_, hPs⟩
    intro q hq
    obtain ⟨x, hx, _, rfl⟩ := (hP q).1 hq
    have := hfar x hx
    rw [PLt_iff]
    show t.1 + 1 < x.1 + 1 ∨ (t.1 + 1 = x.1 + 1 ∧ t.2 / 2 < x.2 / 2)
    omega
  · refine List.pairwise_cons.2 ⟨?_, hSs⟩
    intro q hq
    obtain ⟨x, hx, _, rfl, _⟩ := (hS q).1 hq
    have h1 := hfar x hx
    have h2 := sib_snd_div t
    have h3 := sib_snd_div x
    rw [PLt_iff, CalcGeo.sib_fst, CalcGeo.sib_fst]
    omega


/-- what a row scan appends, for a strictly sorted list of nodes of that row -/
def FrontSpec (n ρ : Nat) (L : List Pos) : Prop :=
  (∀ q, q ∈ (scanPos n ρ L).2.1 ↔ ∃ x ∈ L, isRootPos n x = false ∧ q = parent x) ∧
  (∀ q, q ∈ (scanPos n ρ L).2.2 ↔ ∃ x ∈ L, isRootPos n x = false ∧ q = sib x ∧ sib x ∉ L) ∧
  SSorted (scanPos n ρ L).2.1 ∧ SSorted (scanPos n ρ L).2.2

theorem frontSpec_skip {n ρ : Nat} {t : Pos} {L : List Pos} (hroot : isRootPos n t = true)
    (hsc : SibClosed n (t :: L)) (ih : FrontSpec n ρ L) : FrontSpec n ρ (t :: L) := by
  obtain ⟨hP, hS, hPs, hSs⟩ := ih
  have hsk : skipP n ρ t = true := by simp [skipP, hroot]
  rw [FrontSpec, scanPos_cons_skip L hsk]
  refine ⟨?_, ?_, hPs, hSs⟩
  · intro q
    rw [hP]
    constructor
    · rintro ⟨x, hx, h1, h2⟩; exact ⟨x, List.mem_cons_of_mem _ hx, h1, h2⟩
    · rintro ⟨x, hx, h1, h2⟩
      rcases List.mem_cons.1 hx with rfl | hx
      · rw [hroot] at h1; exact absurd h1 (by decide)
      · exact ⟨x, hx, h1, h2⟩
  · intro q
    rw [hS]
    constructor
    · rintro ⟨x, hx, h1, h2, h3⟩
      refine ⟨x, List.mem_cons_of_mem _ hx, h1, h2, ?_⟩
      intro hc
      rcases List.mem_cons.1 hc with e | hc
      · have := hsc x (List.mem_cons_of_mem _ hx) h1 (by rw [e]; simp)
        rw [e, hroot] at this
        exact absurd this (by decide)
      · exact h3 hc
    · rintro ⟨x, hx, h1, h2, h3⟩
      rcases List.mem_cons.1 hx with rfl | hx
      · rw [hroot] at h1; exact absurd h1 (by decide)
      · exact ⟨x, hx, h1, h2, fun hc => h3 (List.mem_cons_of_mem _ hc)⟩

theorem frontSpec_paired {n ρ : Nat} {t : Pos} {L : List Pos} (hsk : skipP n ρ t = false)
    (hrow : OnRow ρ (t :: (ρ, 2 * (t.2 / 2) + 1) :: L))
    (hs : SSorted (t :: (ρ, 2 * (t.2 / 2) + 1) :: L))
    (hsc : SibClosed n (t :: (ρ, 2 * (t.2 / 2) + 1) :: L)) (ih : FrontSpec n ρ L) :
    FrontSpec n ρ (t :: (ρ, 2 * (t.2 / 2) + 1) :: L) := by
  obtain ⟨ht, hrow1, hs1, hgt1⟩ := ssorted_row_cons hrow hs
  obtain ⟨_, _, _, hgt2⟩ := ssorted_row_cons hrow1 hs1
  have hroot : isRootPos n t = false := by
    simp only [skipP, Bool.or_eq_false_iff] at hsk
    exact hsk.2
  have hlt := (hgt1 (ρ, 2 * (t.2 / 2) + 1) (by simp)).2
  have ho : t.2 % 2 = 0 := by simp only at hlt; omega
  have hsibt : sib t = (ρ, 2 * (t.2 / 2) + 1) := by
    obtain ⟨r, o⟩ := t
    simp only at ht ho ⊢
    subst ht
    show (r, if o % 2 = 0 then o + 1 else o - 1) = _
    rw [if_pos ho]; congr 1; omega
  have hsibn : sib (ρ, 2 * (t.2 / 2) + 1) = t := by rw [← hsibt, CalcGeo.sib_sib]
  have hfar : ∀ x ∈ L, x.1 = ρ ∧ t.2 / 2 < x.2 / 2 := by
    intro x hx
    have := hgt2 x hx
    simp only at this
    refine ⟨this.1, ?_⟩
    omega
  obtain ⟨hP, hS, hPs, hSs⟩ := ih
  have hnotin : ∀ x ∈ L, sib x ≠ t ∧ sib x ≠ (ρ, 2 * (t.2 / 2) + 1) := by
    intro x hx
    have h1 := (hfar x hx).2
    have h2 := sib_snd_div x
    constructor
    · intro e'; rw [e'] at h2; omega
    · intro e'; rw [e'] at h2; simp only at h2; omega
  rw [FrontSpec, scanPos_cons_paired L hsk]
  refine ⟨?_, ?_, ?_, hSs⟩
  · intro q
    rw [List.mem_cons, hP]
    constructor
    · rintro (rfl | ⟨x, hx, h1, h2⟩)
      · exact ⟨t, by simp, hroot, rfl⟩
      · exact ⟨x, by simp [hx], h1, h2⟩
    · rintro ⟨x, hx, h1, h2⟩
      rcases List.mem_cons.1 hx with rfl | hx
      · exact Or.inl h2
      · rcases List.mem_cons.1 hx with rfl | hx
        · left; rw [h2, ← hsibt, CalcGeo.parent_sib]
        · exact Or.inr ⟨x, hx, h1, h2⟩
  · intro q
    rw [hS]
    constructor
    · rintro ⟨x, hx, h1, h2, h3⟩
      refine ⟨x, by simp [hx], h1, h2, ?_⟩
      intro hc
      rcases List.mem_cons.1 hc with e' | hc
      · exact (hnotin x hx).1 e'
      · rcases List.mem_cons.1 hc with e' | hc
        · exact (hnotin x hx).2 e'
        · exact h3 hc
    · rintro ⟨x, hx, h1, h2, h3⟩
      rcases List.mem_cons.1 hx with rfl | hx
      · exact absurd (by rw [hsibt]; simp) h3
      · rcases List.mem_cons.1 hx with rfl | hx
        · exact absurd (by rw [hsibn]; simp) h3
        · exact ⟨x, hx, h1, h2, fun hc => h3 (by simp [hc])⟩
  · refine List.pairwise_cons.2 ⟨?_, hPs⟩
    intro q hq
    obtain ⟨x, hx, _, rfl⟩ := (hP q).1 hq
    have := hfar x hx
    rw [PLt_iff]
    show t.1 + 1 < x.1 + 1 ∨ (t.1 + 1 = x.1 + 1 ∧ t.2 / 2 < x.2 / 2)
    omega

theorem scanPos_front {n ρ : Nat} : ∀ (L : List Pos), OnRow ρ L → SSorted L → SibClosed n L →
    FrontSpec n ρ L := by
  intro L
  induction L using scanPos_induction (n := n) (ρ := ρ) with
  | nil =>
    intro _ _ _
    refine ⟨?_, ?_, ?_, ?_⟩ <;> simp [scanPos, SSorted]
  | skip t rest hsk ih =>
    intro hrow hs hsc
    obtain ⟨ht, hrow1, hs1, _⟩ := ssorted_row_cons hrow hs
    have hroot : isRootPos n t = true := by simpa [skipP, ht] using hsk
    exact frontSpec_skip hroot hsc (ih hrow1 hs1 hsc.tail)
  | paired t rest hsk ih =>
    intro hrow hs hsc
    obtain ⟨_, hrow1, hs1, _⟩ := ssorted_row_cons hrow hs
    obtain ⟨_, hrow2, hs2, _⟩ := ssorted_row_cons hrow1 hs1
    exact frontSpec_paired hsk hrow hs hsc (ih hrow2 hs2 hsc.tail.tail)
  | unpaired t rest hsk hnx ih =>
    intro hrow hs hsc
    obtain ⟨ht, hrow1, hs1, hgt1⟩ := ssorted_row_cons hrow hs
    have hroot : isRootPos n t = false := by
      simp only [skipP, Bool.or_eq_false_iff] at hsk
      exact hsk.2
    -- the next entry is not the sibling, so everything that follows lies under another parent
    have hfar : ∀ x ∈ rest, x.1 = ρ ∧ t.2 / 2 < x.2 / 2 := by
      cases rest with
      | nil => intro x hx; cases hx
      | cons nxt rest' =>
        obtain ⟨_, _, _, hgt2⟩ := ssorted_row_cons hrow1 hs1
        have hn1 := hgt1 nxt (by simp)
        have hne : nxt.2 ≠ 2 * (t.2 / 2) + 1 := by
          intro e'
          apply hnx nxt rfl
          obtain ⟨a, b⟩ := nxt
          simp only at hn1 e' ⊢
          rw [hn1.1, e']
        intro x hx
        rcases List.mem_cons.1 hx with rfl | hx
        · exact ⟨hn1.1, by omega⟩
        · have := hgt2 x hx
          exact ⟨this.1, by omega⟩
    obtain ⟨hP, hS, hPs, hSs⟩ := ih hrow1 hs1 hsc.tail
    rw [FrontSpec, scanPos_cons_unpaired rest hsk hnx]
    exact scan_unpaired_step ht hroot hfar hP hS hPs hSs


/-- of the new target entries of a scanned row only the parents lie above that row -/
theorem scanPos_front_filter {n ρ : Nat} : ∀ (L : List Pos), OnRow ρ L →
    (scanPos n ρ L).1.filter (fun p => !decide (p.1 < ρ + 1)) = (scanPos n ρ L).2.1 ∧
    ∀ p ∈ (scanPos n ρ L).1.filter (fun p => decide (p.1 < ρ + 1)), p.1 = ρ := by
  intro L
  induction L using scanPos_induction (n := n) (ρ := ρ) with
  | nil => intro _; simp [scanPos]
  | skip t rest hsk ih =>
    intro hrow
    have ht : t.1 = ρ := hrow t (by simp)
    obtain ⟨a1, a2⟩ := ih (fun p hp => hrow p (List.mem_cons_of_mem _ hp))
    rw [scanPos_cons_skip rest hsk]
    simp only [List.filter_cons, ht, Nat.lt_succ_self, decide_true, Bool.not_true,
      Bool.false_eq_true, if_false, if_true, a1, true_and]
    intro p hp
    rcases List.mem_cons.1 hp with rfl | hp
    · exact ht
    · exact a2 p hp
  | paired t rest hsk ih =>
    intro hrow
    have ht : t.1 = ρ := hrow t (by simp)
    have hp : (parent t).1 = ρ + 1 := by show t.1 + 1 = ρ + 1; omega
    obtain ⟨b1, b2⟩ := ih
      (fun p hp => hrow p (List.mem_cons_of_mem _ (List.mem_cons_of_mem _ hp)))
    rw [scanPos_cons_paired rest hsk]
    simp only [List.filter_cons, hp, Nat.lt_irrefl, decide_false, Bool.not_false, if_true,
      Nat.lt_succ_self, decide_true, Bool.not_true, Bool.false_eq_true, if_false, b1, true_and]
    intro p hp
    rcases List.mem_cons.1 hp with rfl | hp
    · rfl
    · exact b2 p hp
  | unpaired t rest hsk hnx ih =>
    intro hrow
    have ht : t.1 = ρ := hrow t (by simp)
    have hp : (parent t).1 = ρ + 1 := by show t.1 + 1 = ρ + 1; omega
    obtain ⟨a1, a2⟩ := ih (fun p hp => hrow p (List.mem_cons_of_mem _ hp))
    rw [scanPos_cons_unpaired rest hsk hnx]
    simp only [List.filter_cons, hp, Nat.lt_irrefl, decide_false, Bool.not_false, if_true,
      Bool.false_eq_true, if_false, a1, true_and]
    exact a2

end UtreexoVerif.Proofs
