/-
  Pointer forest, heap model: `NodeMap` as an association list — `mapGet`, `mapSet`, `mapDel` (Model/PollardHeap.lean)
  and the update `mapMoveTo` of `deleteSingle`, without any heap.
-/
import UtreexoVerif.Model.PollardHeap
set_option linter.unusedSectionVars false

namespace UtreexoVerif.Proofs.PollardHeap
open UtreexoVerif.Model.PollardHeap

variable {H : Type} [DecidableEq H] [Hasher H]

theorem mapGet_isSome_iff {m : List (H × Nat)} {k : H} :
    (mapGet m k).isSome = true ↔ k ∈ m.map (·.1) := by
  unfold mapGet
  rw [List.lookup_isSome_iff, List.mem_map]
  exact ⟨fun ⟨p, hp, e⟩ => ⟨p, hp, (eq_of_beq e).symm⟩, fun ⟨p, hp, e⟩ => ⟨p, hp, beq_iff_eq.2 e.symm⟩⟩

theorem mapSet_new (m : List (H × Nat)) (k : H) (v : Nat) (hk : k ∉ m.map (·.1)) :
    mapSet m k v = (k, v) :: m := by
  unfold mapSet
  have : m.lookup k = none := by
    rw [List.lookup_eq_none_iff]
    intro q hq
    simp only [bne_iff_ne, ne_eq]
    intro e; exact hk (by rw [e]; exact List.mem_map_of_mem hq)
  simp [this]

theorem mem_mapSet_of_mem {m : List (H × Nat)} {k : H} {v : Nat} (hk : k ∈ m.map (·.1))
    {e : H × Nat} : e ∈ mapSet m k v ↔ (e ∈ m ∧ e.1 ≠ k) ∨ e = (k, v) := by
  unfold mapSet
  have : (m.lookup k).isSome = true := (mapGet_isSome_iff (m := m)).2 hk
  rw [if_pos this]
  simp only [List.mem_map]
  constructor
  · rintro ⟨x, hx, rfl⟩
    by_cases hxk : x.1 = k
    · right; simp [hxk]
    · left; simp [hxk, hx]
  · rintro (⟨he, hne⟩ | rfl)
    · exact ⟨e, he, by simp [hne]⟩
    · simp only [List.mem_map] at hk
      obtain ⟨x, hx, hxk⟩ := hk
      exact ⟨x, hx, by simp [hxk]⟩

theorem mapSet_keys {m : List (H × Nat)} {k : H} {v : Nat} (hk : k ∈ m.map (·.1)) :
    (mapSet m k v).map (·.1) = m.map (·.1) := by
  unfold mapSet
  have : (m.lookup k).isSome = true := (mapGet_isSome_iff (m := m)).2 hk
  rw [if_pos this, List.map_map]
  apply List.map_congr_left
  intro x _
  simp only [Function.comp]
  split <;> simp_all

theorem mapSet_subset {m : List (H × Nat)} {k : H} {v : Nat} {e : H × Nat} (h : e ∈ mapSet m k v) :
    e ∈ m ∨ e = (k, v) := by
  by_cases hk : k ∈ m.map (·.1)
  · exact ((mem_mapSet_of_mem hk).1 h).imp_left (·.1)
  · rw [mapSet_new m k v hk] at h
    exact (List.mem_cons.1 h).symm

theorem mapSet_same {m : List (H × Nat)} {k : H} {v : Nat} (h : (k, v) ∈ m)
    (hf : ∀ a ∈ m, a.1 = k → a = (k, v)) : mapSet m k v = m := by
  unfold mapSet
  have : (m.lookup k).isSome = true := (mapGet_isSome_iff (m := m)).2 (List.mem_map_of_mem (f := (·.1)) h)
  rw [if_pos this]
  conv => rhs; rw [← List.map_id m]
  apply List.map_congr_left
  intro a ha
  by_cases e : a.1 = k
  · simp [hf a ha e]
  · simp [e]

theorem mem_mapDel {m : List (H × Nat)} {k : H} {e : H × Nat} :
    e ∈ mapDel m k ↔ e ∈ m ∧ e.1 ≠ k := by
  unfold mapDel
  simp [List.mem_filter]

theorem mapDel_keys_nodup {m : List (H × Nat)} (k : H) (h : (m.map (·.1)).Nodup) :
    ((mapDel m k).map (·.1)).Nodup := by
  unfold mapDel
  exact List.Nodup.sublist (List.Sublist.map _ List.filter_sublist) h

/-- the `NodeMap` update of the root branch of `deleteSingle`: "if the node was a leaf, update
the map to point to the root" -/
def mapMoveTo (m : List (H × Nat)) (k : H) (v : Nat) : List (H × Nat) :=
  if (mapGet m k).isSome then mapSet m k v else m

theorem mapGet_of_mem {m : List (H × Nat)} (hk : (m.map (·.1)).Nodup) {k : H} {v : Nat}
    (h : (k, v) ∈ m) : mapGet m k = some v := by
  unfold mapGet
  induction m with
  | nil => cases h
  | cons e m ih =>
    obtain ⟨a, b⟩ := e
    simp only [List.map_cons, List.nodup_cons] at hk
    simp only [List.mem_cons, Prod.mk.injEq] at h
    rw [List.lookup_cons]
    rcases h with ⟨rfl, rfl⟩ | h
    · simp
    · have : (k == a) = false := by
        simp only [beq_eq_false_iff_ne, ne_eq]
        intro e; subst e
        exact hk.1 (List.mem_map_of_mem (f := fun x : H × Nat => x.1) h)
      rw [this]
      exact ih hk.2 h

theorem mapGet_none_of_not_mem {m : List (H × Nat)} {k : H} (h : k ∉ m.map (·.1)) :
    mapGet m k = none :=
  Option.not_isSome_iff_eq_none.1 (fun c => h (mapGet_isSome_iff.1 c))

theorem mem_foldl_mapDel (ks : List H) : ∀ (m : List (H × Nat)) (e : H × Nat),
    e ∈ ks.foldl mapDel m ↔ e ∈ m ∧ e.1 ∉ ks := by
  induction ks with
  | nil => intro m e; simp
  | cons k ks ih =>
    intro m e
    rw [List.foldl_cons, ih, mem_mapDel]
    simp only [List.mem_cons, not_or]
    constructor
    · rintro ⟨⟨h1, h2⟩, h3⟩; exact ⟨h1, h2, h3⟩
    · rintro ⟨h1, h2, h3⟩; exact ⟨⟨h1, h2⟩, h3⟩

theorem foldl_mapDel_keys_nodup (ks : List H) : ∀ (m : List (H × Nat)), (m.map (·.1)).Nodup →
    ((ks.foldl mapDel m).map (·.1)).Nodup := by
  induction ks with
  | nil => intro m h; exact h
  | cons k ks ih => intro m h; exact ih _ (mapDel_keys_nodup k h)

theorem mapMoveTo_keys (nm : List (H × Nat)) (k : H) (v : Nat) :
    (mapMoveTo nm k v).map (·.1) = nm.map (·.1) := by
  unfold mapMoveTo
  split
  · rename_i h
    exact mapSet_keys (mapGet_isSome_iff.1 h)
  · rfl

end UtreexoVerif.Proofs.PollardHeap
