/-
  Placed forests: the steps of `MapPollard.addSingle` on the specification side (step A: two sibling roots
  are joined under their parent; step B: a root is lifted over its empty sibling root; step 0: the new leaf is
  placed on row 0 — the names are those of `Proofs/MapAddSteps.lean`), and the forest before / after one addition
  as `Y ++ low trees` / `Y ++ [merged tree]`.
-/
import UtreexoVerif.Proofs.PForestSpec

open UtreexoVerif Spec Proofs MapRep MapLiftGeo PForest Hasher SpecNodes PForestSpec

namespace UtreexoVerif.Proofs.PForestAdd
set_option linter.unusedSectionVars false
variable {H : Type} [DecidableEq H] [Hasher H]

theorem nodes_append (Y Z : PF H) : PForest.nodes (Y ++ Z) = PForest.nodes Y ++ PForest.nodes Z :=
  List.flatMap_append

theorem leaves_append (Y Z : PF H) : leaves (Y ++ Z) = leaves Y ++ leaves Z :=
  List.flatMap_append

theorem isRoot_append (Y Z : PF H) (q : Pos) : IsRoot (Y ++ Z) q ↔ IsRoot Y q ∨ IsRoot Z q := by
  rw [isRoot_iff, isRoot_iff, isRoot_iff, List.map_append, List.mem_append]

theorem nodes_single (e : Pos × Option (CTree H)) : PForest.nodes [e] = entryNodes e :=
  List.append_nil _

theorem nodes_pair (e e' : Pos × Option (CTree H)) : PForest.nodes [e, e'] = entryNodes e ++ entryNodes e' :=
  congrArg (entryNodes e ++ ·) (nodes_single e')

theorem nodes_single_none (p : Pos) :
    PForest.nodes [((p, none) : Pos × Option (CTree H))] = [(p, zero, false)] :=
  nodes_single _

theorem leaves_single (p : Pos) (o : Option (CTree H)) : leaves [(p, o)] = optLeaves o :=
  List.append_nil _

theorem leaves_pair (p p' : Pos) (o o' : Option (CTree H)) : leaves [(p, o), (p', o')] = optLeaves o ++ optLeaves o' :=
  congrArg (optLeaves o ++ ·) (leaves_single p' o')

theorem isRoot_single (p : Pos) (o : Option (CTree H)) (z : Pos) : IsRoot [(p, o)] z ↔ z = p := by
  rw [isRoot_iff]
  exact List.mem_singleton

theorem isRoot_pair (p p' : Pos) (o o' : Option (CTree H)) (z : Pos) :
    IsRoot [(p, o), (p', o')] z ↔ z = p ∨ z = p' := by
  rw [isRoot_iff, List.map_cons, List.map_cons, List.map_nil, List.mem_cons, List.mem_singleton]

theorem disj_parent {p ρ : Pos} (h1 : ∀ q, ¬ (Anc p q ∧ Anc ρ q)) (h2 : ∀ q, ¬ (Anc p q ∧ Anc (sib ρ) q)) :
    ∀ q, ¬ (Anc p q ∧ Anc (parent ρ) q) := by
  rintro q ⟨ha, hb⟩
  rcases anc_parent_iff'.1 hb with rfl | h | h
  · exact h1 ρ ⟨Anc.trans ha (anc_parent_self ρ), Anc.refl ρ⟩
  · exact h1 q ⟨ha, h⟩
  · exact h2 q ⟨ha, h⟩

theorem ok_replace {Y Z Z' : PF H} (ok : OK (Y ++ Z))
    (hd : ∀ e ∈ Z', ∀ t, e.2 = some t → depth t ≤ e.1.1)
    (hp : Z'.Pairwise (fun e e' => ∀ q, ¬ (Anc e.1 q ∧ Anc e'.1 q)))
    (hyz : ∀ e ∈ Y, ∀ e' ∈ Z', ∀ q, ¬ (Anc e.1 q ∧ Anc e'.1 q))
    (hl : leaves Z' = leaves Z) : OK (Y ++ Z') := by
  have hpw := List.pairwise_append.1 ok.pw
  have hle : leaves (Y ++ Z') = leaves (Y ++ Z) := by rw [leaves_append, hl, ← leaves_append]
  refine { depth := ?_, pw := ?_, nodup := ?_, nz := ?_, nph := ?_ }
  · intro e he t ht
    rcases List.mem_append.1 he with h | h
    · exact ok.depth e (List.mem_append_left _ h) t ht
    · exact hd e h t ht
  · exact List.pairwise_append.2 ⟨hpw.1, hp, hyz⟩
  · rw [hle]; exact ok.nodup
  · rw [hle]; exact ok.nz
  · rw [hle]; exact ok.nph

theorem join_pair {Y : PF H} {ρ : Pos} {o o' : Option (CTree H)} {t : CTree H}
    (ok : OK (Y ++ [(ρ, o), (sib ρ, o')])) (hd : depth t ≤ ρ.1 + 1) (hl : t.leaves = optLeaves o ++ optLeaves o') :
    OK (Y ++ [(parent ρ, some t)]) ∧
    ∀ z, IsRoot (Y ++ [(parent ρ, some t)]) z ↔
      z = parent ρ ∨ (IsRoot (Y ++ [(ρ, o), (sib ρ, o')]) z ∧ z ≠ ρ ∧ z ≠ sib ρ) := by
  have hpw := (List.pairwise_append.1 ok.pw).2.2
  have hYρ : ∀ e ∈ Y, ∀ q, ¬ (Anc e.1 q ∧ Anc ρ q) :=
    fun e he => hpw e he (ρ, o) List.mem_cons_self
  have hYs : ∀ e ∈ Y, ∀ q, ¬ (Anc e.1 q ∧ Anc (sib ρ) q) :=
    fun e he => hpw e he (sib ρ, o') (List.mem_cons_of_mem _ List.mem_cons_self)
  constructor
  · apply ok_replace ok
    · intro e he t' ht
      cases List.mem_singleton.1 he
      cases ht
      exact hd
    · exact List.pairwise_singleton _ _
    · intro e he e' he'
      cases List.mem_singleton.1 he'
      exact disj_parent (hYρ e he) (hYs e he)
    · rw [leaves_single, leaves_pair]
      exact hl
  · intro z
    rw [isRoot_append, isRoot_append, isRoot_single, isRoot_pair]
    constructor
    · rintro (⟨e, he, rfl⟩ | h)
      · refine Or.inr ⟨Or.inl ⟨e, he, rfl⟩, ?_, ?_⟩
        · intro h'
          exact hYρ e he ρ ⟨by rw [h']; exact Anc.refl _, Anc.refl _⟩
        · intro h'
          exact hYs e he (sib ρ) ⟨by rw [h']; exact Anc.refl _, Anc.refl _⟩
      · exact Or.inl h
    · rintro (h | ⟨h | h | h, h1, h2⟩)
      · exact Or.inr h
      · exact Or.inl h
      · exact absurd h h1
      · exact absurd h h2

theorem shiftRight_odd_of_testBit {n k : Nat} (hb : n.testBit k = true) : (n >>> k) % 2 = 1 := by
  rw [Nat.shiftRight_eq_div_pow]
  exact testBit_div_odd.mp hb

/-- geometry of the accumulated tree's position: while bit `k` of `n` is set, the root of the
tree on row `k` is the LEFT sibling of `(k, n >>> k)` -/
theorem acc_geo {n k : Nat} (hb : n.testBit k = true) :
    rootPos n k = sib (k, n >>> k) ∧ (rootPos n k).2 % 2 = 0 ∧ parent (k, n >>> k) = (k + 1, n >>> (k + 1)) ∧
    parent (rootPos n k) = (k + 1, n >>> (k + 1)) := by
  have hodd := shiftRight_odd_of_testBit hb
  have hs : n >>> (k + 1) = (n >>> k) / 2 := Nat.shiftRight_succ n k
  refine ⟨?_, Nat.mul_mod_right 2 _, ?_, ?_⟩
  · show (k, 2 * (n >>> (k + 1))) = (k, if (n >>> k) % 2 = 0 then n >>> k + 1 else n >>> k - 1)
    rw [if_neg (by rw [hodd]; decide), hs]
    congr 1
    omega
  · show (k + 1, (n >>> k) / 2) = _
    rw [hs]
  · show (k + 1, 2 * (n >>> (k + 1)) / 2) = _
    rw [Nat.mul_div_cancel_left _ Nat.zero_lt_two]

theorem stepA_pf (Y : PF H) (ρ : Pos) (a b : CTree H) (heven : ρ.2 % 2 = 0)
    (ok : OK (Y ++ [(ρ, some a), (sib ρ, some b)])) :
    OK (Y ++ [(parent ρ, some (CTree.node a b))]) ∧
    (∀ e, e ∈ nodes (Y ++ [(parent ρ, some (CTree.node a b))]) ↔
      e = (parent ρ, ph a.hash b.hash, false) ∨ e ∈ nodes (Y ++ [(ρ, some a), (sib ρ, some b)])) ∧
    (∀ z, IsRoot (Y ++ [(parent ρ, some (CTree.node a b))]) z ↔
      z = parent ρ ∨ (IsRoot (Y ++ [(ρ, some a), (sib ρ, some b)]) z ∧ z ≠ ρ ∧ z ≠ sib ρ)) ∧
    (∀ h f, (parent ρ, h, f) ∉ nodes (Y ++ [(ρ, some a), (sib ρ, some b)])) := by
  have hρ : (ρ, some a) ∈ Y ++ [(ρ, some a), (sib ρ, some b)] := List.mem_append_right _ List.mem_cons_self
  have hs : (sib ρ, some b) ∈ Y ++ [(ρ, some a), (sib ρ, some b)] :=
    List.mem_append_right _ (List.mem_cons_of_mem _ List.mem_cons_self)
  have hdep : depth (CTree.node a b) ≤ ρ.1 + 1 :=
    (depth_node_le (c := parent ρ)).2 ⟨Nat.le_add_left 1 ρ.1, ok.depth _ hρ a rfl, ok.depth _ hs b rfl⟩
  obtain ⟨ok', hroot⟩ := join_pair ok hdep rfl
  have hc0 : childP (parent ρ) 0 = ρ := heven ▸ childP_low ρ
  have hc1 : childP (parent ρ) 1 = sib ρ := (sib_childP _ Nat.zero_lt_two).symm.trans (congrArg sib hc0)
  refine ⟨ok', ?_, hroot, ?_⟩
  · intro e
    rw [nodes_append, nodes_append, nodes_single, nodes_pair, entryNodes_some, entryNodes_some, entryNodes_some,
      ctree_nodes_node, hc0, hc1, List.mem_append, List.mem_cons, List.mem_append, List.mem_append, List.mem_append]
    exact or_left_comm
  · intro h f hm
    obtain ⟨e, he, hx⟩ := PForest.mem_nodes.1 hm
    have ha : Anc e.1 (parent ρ) := entry_anc ok he hx
    cases ok.disj e he _ hρ ρ (Anc.trans ha (anc_parent_self ρ)) (Anc.refl ρ)
    exact Nat.not_succ_le_self ρ.1 ha.1

theorem stepB_pf (Y : PF H) (σ : Pos) (b : CTree H)
    (ok : OK (Y ++ [(sib σ, none), (σ, some b)])) :
    OK (Y ++ [(parent σ, some b)]) ∧
    (∀ e : Pos × H × Bool, e ∈ nodes (Y ++ [(parent σ, some b)]) ↔
      (¬ Anc (parent σ) e.1 ∧ e ∈ nodes (Y ++ [(sib σ, none), (σ, some b)])) ∨
      (∃ c, Anc σ c ∧ e.1 = liftP σ c ∧ (c, e.2) ∈ nodes (Y ++ [(sib σ, none), (σ, some b)]))) ∧
    (∀ z, IsRoot (Y ++ [(parent σ, some b)]) z ↔
      z = parent σ ∨ (IsRoot (Y ++ [(sib σ, none), (σ, some b)]) z ∧ z ≠ sib σ ∧ z ≠ σ)) := by
  have hpw := (List.pairwise_append.1 ok.pw).2.2
  have hYσ : ∀ e ∈ Y, ∀ q, ¬ (Anc e.1 q ∧ Anc σ q) :=
    fun e he => hpw e he (σ, some b) (List.mem_cons_of_mem _ List.mem_cons_self)
  have hdb : depth b ≤ σ.1 :=
    ok.depth (σ, some b) (List.mem_append_right _ (List.mem_cons_of_mem _ List.mem_cons_self)) b rfl
  have hjoin := join_pair (ρ := sib σ) (o := none) (o' := some b) (t := b) (by rw [CalcGeo.sib_sib]; exact ok)
    (Nat.le_succ_of_le hdb) rfl
  rw [CalcGeo.sib_sib, CalcGeo.parent_sib] at hjoin
  obtain ⟨ok', hroot⟩ := hjoin
  have hYp : ∀ e ∈ Y, ∀ q, ¬ (Anc e.1 q ∧ Anc (parent σ) q) :=
    fun e he => (List.pairwise_append.1 ok'.pw).2.2 e he _ List.mem_cons_self
  have hlift : b.nodes (parent σ).1 (parent σ).2 = (b.nodes σ.1 σ.2).map (fun e => (liftP σ e.1, e.2)) := by
    have := nodes_liftP σ b σ (Anc.refl σ) hdb
    rwa [liftP_self] at this
  have hunder : ∀ c ∈ b.nodes σ.1 σ.2, Anc σ c.1 := fun c hc => ctree_anc b hdb hc
  have hYroot : ∀ x ∈ nodes Y, ∃ e0 ∈ Y, Anc e0.1 x.1 := by
    intro x hx
    obtain ⟨e0, he0, hx0⟩ := PForest.mem_nodes.1 hx
    exact ⟨e0, he0, entry_anc ok (List.mem_append_left _ he0) hx0⟩
  refine ⟨ok', ?_, hroot⟩
  intro e
  rw [nodes_append, nodes_append, nodes_single, nodes_pair, entryNodes_some, entryNodes_some, entryNodes_none, hlift]
  simp only [List.mem_append, List.mem_cons, List.mem_map, List.mem_nil_iff, or_false]
  constructor
  · rintro (h | ⟨c, hc, rfl⟩)
    · left
      obtain ⟨e0, he0, ha⟩ := hYroot e h
      exact ⟨fun hp => hYp e0 he0 e.1 ⟨ha, hp⟩, Or.inl h⟩
    · right
      exact ⟨c.1, hunder c hc, rfl, Or.inr (Or.inr hc)⟩
  · rintro (⟨hn, h | h | h⟩ | ⟨c, hc, he, h | h | h⟩)
    · exact Or.inl h
    · exfalso
      apply hn
      rw [h]
      exact anc_parent_sib σ
    · exfalso
      exact hn (hunder e h).parent
    · exfalso
      obtain ⟨e0, he0, ha⟩ := hYroot _ h
      exact hYσ e0 he0 c ⟨ha, hc⟩
    · exfalso
      have : c = sib σ := congrArg Prod.fst h
      rw [this] at hc
      exact not_anc_sib σ hc
    · right
      exact ⟨(c, e.2), h, Prod.ext he.symm rfl⟩

theorem not_anc_rootPos_end {n h : Nat} (hb : n.testBit h = true) : ¬ Anc (rootPos n h) (0, n) := by
  intro ha
  have h2 : 2 * (n >>> (h + 1)) = n / 2 ^ (h - 0) := ha.2
  have hodd := shiftRight_odd_of_testBit hb
  rw [Nat.shiftRight_succ, Nat.shiftRight_eq_div_pow] at h2
  rw [Nat.shiftRight_eq_div_pow] at hodd
  simp only [Nat.sub_zero] at h2
  omega

theorem step0_pf (F : Forest H) (x : H) (hn : F.numLeaves + 1 < 2 ^ 64) (hy : Hyg F)
    (hfresh : x ∉ F.liveLeaves) (hx0 : x ≠ (zero : H)) (hxph : ∀ a b : H, x ≠ ph a b) :
    OK (ofForest F ++ [((0, F.numLeaves), some (CTree.leaf x))]) ∧
    PForest.nodes (ofForest F ++ [((0, F.numLeaves), some (CTree.leaf x))]) = F.nodes ++ [((0, F.numLeaves), x, true)] := by
  have hn' : F.numLeaves < 2 ^ 64 := Nat.lt_of_succ_lt hn
  have okF := ok_ofForest F hn' hy
  have hle : leaves (ofForest F ++ [((0, F.numLeaves), some (CTree.leaf x))]) = F.liveLeaves ++ [x] := by
    rw [leaves_append, leaves_ofForest F hn', leaves_single]
    rfl
  refine ⟨{ depth := ?_, pw := ?_, nodup := ?_, nz := ?_, nph := ?_ }, ?_⟩
  · intro e he t ht
    rcases List.mem_append.1 he with h | h
    · exact okF.depth e h t ht
    · cases List.mem_singleton.1 h
      cases ht
      exact Nat.le_refl _
  · refine List.pairwise_append.2 ⟨okF.pw, List.pairwise_singleton _ _, ?_⟩
    intro e he e' he' q ⟨h1, h2⟩
    cases List.mem_singleton.1 he'
    obtain ⟨h, hh, rfl⟩ := mem_ofForest.1 he
    cases h2.eq_of_row (Nat.le_antisymm (Nat.zero_le _) h2.1)
    exact not_anc_rootPos_end (mem_treeRows.1 hh).2 h1
  · rw [hle]
    refine List.nodup_append.2 ⟨hy.nodup, List.pairwise_singleton _ x, fun a ha b hb hab => ?_⟩
    cases List.mem_singleton.1 hb
    cases hab
    exact hfresh ha
  · rw [hle]
    exact List.forall_mem_append.2 ⟨hy.nz, List.forall_mem_singleton.2 hx0⟩
  · rw [hle]
    exact List.forall_mem_append.2 ⟨hy.nph, List.forall_mem_singleton.2 hxph⟩
  · rw [nodes_append, nodes_ofForest, nodes_single]
    rfl

/-- low trees (row `k` first in the argument list, highest row first in the result) at the
root positions of a forest with `n` leaves -/
def lowV (n : Nat) : Nat → List (Option (CTree H)) → PF H
  | _, [] => []
  | k, o :: os => lowV n (k + 1) os ++ [(rootPos n k, o)]

/-- merging the accumulated tree with the low trees, lowest first; empty trees are skipped -/
def mergeLow : List (Option (CTree H)) → CTree H → CTree H
  | [], a => a
  | some t :: os, a => mergeLow os (.node t a)
  | none :: os, a => mergeLow os a

theorem lowV_snoc (n : Nat) : ∀ (os : List (Option (CTree H))) (k : Nat) (o : Option (CTree H)),
    lowV n k (os ++ [o]) = (rootPos n (k + os.length), o) :: lowV n k os
  | [], k, o => rfl
  | o' :: os, k, o => by
    simp only [List.cons_append, lowV, lowV_snoc n os (k + 1) o, List.length_cons, List.cons_append]
    congr 3
    omega

theorem mergeLow_snoc : ∀ (os : List (Option (CTree H))) (o : Option (CTree H)) (a : CTree H),
    some (mergeLow (os ++ [o]) a) = join o (some (mergeLow os a))
  | [], o, a => by cases o <;> rfl
  | some t :: os, o, a => by simp only [List.cons_append, mergeLow]; exact mergeLow_snoc os o _
  | none :: os, o, a => by simp only [List.cons_append, mergeLow]; exact mergeLow_snoc os o _

theorem mergeTrees_eq_mergeLow (ts : List (Nat × Option (CTree H))) (a : CTree H) :
    mergeTrees ts (some a) = some (mergeLow (ts.map (·.2)).reverse a) := by
  induction ts with
  | nil => rfl
  | cons p rest ih =>
    simp only [List.map_cons, List.reverse_cons, mergeLow_snoc]
    rw [← ih]
    rfl

theorem lowV_rows (n : Nat) : ∀ (t : Nat) (lo : List (Nat × Option (CTree H))),
    lo.map (·.1) = (List.range t).reverse →
    lowV n 0 (lo.map (·.2)).reverse = lo.map (fun p => (rootPos n p.1, p.2))
  | 0, lo, h => by
    rw [List.range_zero, List.reverse_nil, List.map_eq_nil_iff] at h
    rw [h]; rfl
  | t + 1, lo, h => by
    rw [List.range_succ, List.reverse_append, List.reverse_singleton, List.singleton_append] at h
    obtain ⟨p, lo', rfl, hp, hlo'⟩ := List.map_eq_cons_iff.1 h
    have hlen : (lo'.map (·.2)).reverse.length = t := by
      rw [List.length_reverse, List.length_map, ← List.length_map (f := (·.1)), hlo', List.length_reverse,
        List.length_range]
    rw [List.map_cons, List.reverse_cons, lowV_snoc, lowV_rows n t lo' hlo', hlen, Nat.zero_add, List.map_cons, hp]

theorem add_parts (F : Forest H) (x : H) (hn : F.numLeaves < 2 ^ 64) :
    ∃ (t : Nat) (Y : PF H) (os : List (Option (CTree H))), Trail F.numLeaves t ∧ os.length = t ∧
      ofForest F = Y ++ lowV F.numLeaves 0 os ∧
      ofForest (F.add x) = Y ++ [((t, F.numLeaves >>> t), some (mergeLow os (CTree.leaf x)))] := by
  obtain ⟨t, hi, lo, tr, _, hF, hhi, hlo, hadd⟩ := trees_add_parts F x hn
  refine ⟨t, hi.map (fun p => (rootPos F.numLeaves p.1, p.2)), (lo.map (·.2)).reverse, tr, ?_, ?_, ?_⟩
  · rw [List.length_reverse, List.length_map, ← List.length_map (f := (·.1)), hlo, List.length_reverse,
      List.length_range]
  · rw [lowV_rows _ t lo hlo]
    unfold ofForest
    rw [hF, List.map_append]
  · unfold ofForest
    rw [hadd, List.map_append, Spec.numLeaves_add, mergeTrees_eq_mergeLow]
    congr 1
    · -- the rows of `hi` lie above the carry
      apply List.map_congr_left
      intro p hp
      have hrow : t < p.1 := (mem_hiRows.1 (hhi ▸ List.mem_map_of_mem (f := Prod.fst) hp)).1.1
      show (rootPos (F.numLeaves + 1) p.1, p.2) = (rootPos F.numLeaves p.1, p.2)
      unfold rootPos
      rw [Nat.shiftRight_eq_div_pow, Nat.shiftRight_eq_div_pow, tr.succ_div_high (Nat.lt_succ_of_lt hrow)]
    · simp only [List.map_cons, List.map_nil]
      unfold rootPos
      rw [Nat.shiftRight_eq_div_pow, Nat.shiftRight_eq_div_pow, tr.succ_div_high (Nat.lt_succ_self t), ← tr.div_even]

/-! ### non-vacuity: concrete instances over a term algebra -/

namespace Example

inductive T where
  | z
  | l (n : Nat)
  | p (a b : T)
deriving DecidableEq, Repr

instance : Hasher T := ⟨T.p, T.z⟩

/-- three slots, the middle one dead: the leaf count 3 has `t = 2` trailing one digits -/
def F3 : Forest T := ⟨[some (T.l 1), none, some (T.l 3)]⟩

example : ∃ (Y : PF T) (os : List (Option (CTree T))), os.length = 2 ∧
    ofForest F3 = Y ++ lowV F3.numLeaves 0 os ∧
    ofForest (F3.add (T.l 4)) = Y ++ [((2, F3.numLeaves >>> 2), some (mergeLow os (CTree.leaf (T.l 4))))] ∧
    (∀ i, i < 2 → F3.numLeaves.testBit i = true) ∧ F3.numLeaves.testBit 2 = false := by
  obtain ⟨t, Y, os, tr, hlen, h1, h2⟩ := add_parts F3 (T.l 4) (by decide)
  have tr2 : Trail F3.numLeaves 2 := ⟨by decide, by decide⟩
  cases tr.unique tr2
  exact ⟨Y, os, hlen, h1, h2, tr2.low, tr2.clear⟩

example : ofForest F3 = [] ++ lowV F3.numLeaves 0 [some (CTree.leaf (T.l 3)), some (CTree.leaf (T.l 1))] ∧
    ofForest (F3.add (T.l 4)) =
      [] ++ [((2, F3.numLeaves >>> 2),
        some (mergeLow [some (CTree.leaf (T.l 3)), some (CTree.leaf (T.l 1))] (CTree.leaf (T.l 4))))] ∧
    mergeLow [some (CTree.leaf (T.l 3)), some (CTree.leaf (T.l 1))] (CTree.leaf (T.l 4)) =
      CTree.node (CTree.leaf (T.l 1)) (CTree.node (CTree.leaf (T.l 3)) (CTree.leaf (T.l 4))) := by
  decide +kernel

def F1 : Forest T := ⟨[some (T.l 1)]⟩

theorem hyg_F1 : Hyg F1 where
  nodup := by decide
  nz := by intro x hx; simp [F1, Forest.liveLeaves] at hx; subst hx; simp [Hasher.zero]
  nph := by intro x hx a b; simp [F1, Forest.liveLeaves] at hx; subst hx; simp [Hasher.ph]

theorem ok_A : OK (([] : PF T) ++ [(((0, 0) : Pos), some (CTree.leaf (T.l 1))), (sib (0, 0), some (CTree.leaf (T.l 2)))]) :=
  (step0_pf F1 (T.l 2) (by decide) hyg_F1 (by decide) nofun nofun).1

example := stepA_pf ([] : PF T) (0, 0) (CTree.leaf (T.l 1)) (CTree.leaf (T.l 2)) (by decide) ok_A

/-- one dead slot: the forest has an empty root -/
def F0 : Forest T := ⟨[none]⟩

theorem hyg_F0 : Hyg F0 where
  nodup := by decide
  nz := by intro x hx; simp [F0, Forest.liveLeaves] at hx
  nph := by intro x hx; simp [F0, Forest.liveLeaves] at hx

theorem ok_B : OK (([] : PF T) ++ [(sib ((0, 1) : Pos), none), ((0, 1), some (CTree.leaf (T.l 2)))]) :=
  (step0_pf F0 (T.l 2) (by decide) hyg_F0 (by decide) nofun nofun).1

example := stepB_pf ([] : PF T) (0, 1) (CTree.leaf (T.l 2)) ok_B

example : rootPos 3 1 = sib (1, 3 >>> 1) ∧ (rootPos 3 1).2 % 2 = 0 ∧
    parent (1, 3 >>> 1) = (1 + 1, 3 >>> (1 + 1)) ∧ parent (rootPos 3 1) = (1 + 1, 3 >>> (1 + 1)) :=
  acc_geo (by decide)

end Example

end UtreexoVerif.Proofs.PForestAdd
