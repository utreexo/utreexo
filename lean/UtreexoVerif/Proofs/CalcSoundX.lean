/-
  Collision-EXTRACTING soundness of `calculateHashes` + root matching (for `Props/C03x.lean`): no
  hypothesis on the hash.  Where an argument under `CR H` would use `cr.nonzero`/`cr.inj`, this one
  either continues or stops with an explicit witness drawn from the list of pairs the verifier hashed
  (`hashedPairs`); the `CR` form `calc_sound` (for Props/C03) is the instance in which no witness
  exists: a `ForestView` is a `ForestViewX` with `Bad := fun _ _ => False`.
-/
import UtreexoVerif.Spec.View
import UtreexoVerif.Proofs.CalcRun

namespace UtreexoVerif.Proofs.CalcSound
open Model Hasher

section
variable {H : Type} [DecidableEq H] [Hasher H]

structure Inv (n : U64) (s : CalcSt H) : Prop where
  wf : WF n (TreeRows n) s
  nonzero : ∀ x ∈ s.toProve ++ s.next, x.2 ≠ (zero : H)

omit [DecidableEq H] in
theorem SibOK.nonzero {p : U64} {tp nx tp' nx' : HP H} {pr pr' : List H} {sib : H}
    (h : SibOK p tp nx pr sib tp' nx' pr') (hnz : ∀ x ∈ tp ++ nx, x.2 ≠ (zero : H)) :
    sib ≠ zero ∧ ∀ x ∈ tp' ++ nx', x.2 ≠ (zero : H) := by
  rcases h with ⟨y, hP, _, _, rfl, _⟩ | ⟨rfl, rfl, h, _⟩
  · exact ⟨hnz y ((hP.mem_iff y).2 (Or.inl rfl)), fun x hx => hnz x ((hP.mem_iff x).2 (Or.inr hx))⟩
  · exact ⟨h, hnz⟩

omit [DecidableEq H] in
theorem Inv.init {n : U64} {hs : List H} {ts : List U64} (ps : List H)
    (hnz : ∀ h ∈ hs, h ≠ (zero : H)) : Inv n (initSt (sortHP (ts.zip hs)) ps) := by
  refine ⟨WF.init _ _ _ _, fun x hx => ?_⟩
  rw [initSt, List.append_nil, SortBy.mem_sortHP] at hx
  exact hnz _ (List.of_mem_zip hx).2

end
end UtreexoVerif.Proofs.CalcSound

namespace UtreexoVerif.Proofs.CalcSoundX
open Model Hasher
open UtreexoVerif.Proofs.CalcSound

section
variable {H : Type} [DecidableEq H] [Hasher H]

/-- `ForestView` (`Spec/View.lean`) without collision-freeness built in: a node whose hash is
`ph a b` (`a`, `b` non-zero) has children `a`, `b` and the pair `(a, b)` is `Good` (for the
specification forest: it is the pair the node's hash was made from) — or the pair is `Bad`. -/
structure ForestViewX (H : Type) [Hasher H] (numLeaves : U64) (roots : List H)
    (Good Bad : H → H → Prop) where
  nodeAt : U64 → Option H
  root_ok : ∀ (row : U8) (h : H), row ≤ TreeRows numLeaves →
    (rootExistsOnRow numLeaves row = true) →
    roots[rootIdxOfRow numLeaves row]? = some h →
    nodeAt (rootPosition numLeaves row (TreeRows numLeaves)) = some h
  children_ok : ∀ (p : U64) (row : U8) (a b : H), row ≤ TreeRows numLeaves →
    p ≤ (maxPositionAtRow row (TreeRows numLeaves) numLeaves).1 →
    nodeAt (Parent p (TreeRows numLeaves)) = some (ph a b) → a ≠ zero → b ≠ zero →
    (nodeAt (leftSib p) = some a ∧ nodeAt (rightSib p) = some b ∧ Good a b) ∨ Bad a b

def ForestViewX.ofView {n : U64} {roots : List H} (V : ForestView H n roots) :
    ForestViewX H n roots (fun _ _ => True) (fun _ _ => False) where
  nodeAt := V.nodeAt
  root_ok := V.root_ok
  children_ok := fun p row a b h1 h2 h3 h4 h5 =>
    Or.inl ⟨(V.children_ok p row a b h1 h2 h3 h4 h5).1, (V.children_ok p row a b h1 h2 h3 h4 h5).2,
      trivial⟩

theorem getNextHashX_log_nonzero (p : U64) (h sib : H) :
    ∀ x ∈ (getNextHashX p h sib).2, x.1 ≠ (zero : H) ∧ x.2 ≠ (zero : H) := by
  intro x hx
  unfold getNextHashX at hx
  split at hx
  · simp at hx
  · split at hx
    · simp at hx
    · split at hx
      · simp only [List.mem_singleton] at hx
        subst hx
        exact ⟨by assumption, by assumption⟩
      · simp only [List.mem_singleton] at hx
        subst hx
        exact ⟨by assumption, by assumption⟩

theorem calcLoopX_log_nonzero {n : U64} {tr : U8} :
    ∀ (fuel : Nat) (s sf : CalcSt H) (L : List (H × H)),
      calcLoopX n tr fuel s = .ok (sf, L) → ∀ x ∈ L, x.1 ≠ (zero : H) ∧ x.2 ≠ (zero : H) := by
  refine calcLoopX_induction (fun _ _ x hx => (nomatch hx)) (fun s s1 sf l l' hstep ih x hx => ?_)
  rcases List.mem_append.1 hx with hx | hx
  · obtain ⟨y, tp, nx, _, _, hcase⟩ := calcStepX_cont hstep
    rcases hcase with ⟨_, _, _, _, _, _, h5⟩ | ⟨sib, _, _, _, _, _, _, _, h5⟩
    · rw [h5] at hx; cases hx
    · rw [h5] at hx
      exact getNextHashX_log_nonzero _ _ _ x hx
  · exact ih x hx

/-- `getNextHash` passes a zero hash through without hashing -/
theorem hashedPairs_nonzero (n : U64) (hs : List H) (ts : List U64) (ps : List H) :
    ∀ x ∈ hashedPairs n hs ts ps, x.1 ≠ (zero : H) ∧ x.2 ≠ (zero : H) := by
  unfold hashedPairs
  split
  · rename_i r hr
    obtain ⟨sf, hloop, _⟩ := calculateHashesX_ok (r := r.1) (L := r.2) hr
    exact calcLoopX_log_nonzero _ _ _ _ hloop
  · intro x hx
    simp at hx

theorem Inv.stepX {n : U64} {s s' : CalcSt H} {l : List (H × H)}
    (h : calcStepX n (TreeRows n) s = .ok (.cont s', l)) (inv : Inv n s)
    (hl : ∀ x ∈ l, ph x.1 x.2 ≠ (zero : H)) : Inv n s' := by
  have h64 := treeRows_le_64 n
  refine ⟨inv.wf.step (by omega) (by rw [← calcStepX_fst, h]; rfl), ?_⟩
  obtain ⟨x, tp, nx, hP, _, hcase⟩ := calcStepX_cont h
  have hx : x.2 ≠ zero := inv.nonzero x ((hP.mem_iff x).2 (Or.inl rfl))
  have hrest : ∀ z ∈ tp ++ nx, z.2 ≠ (zero : H) :=
    fun z hz => inv.nonzero z ((hP.mem_iff z).2 (Or.inr hz))
  rcases hcase with ⟨_, h1, h2, _⟩ | ⟨sib, tp', nx', hsib, h1, h2, _, _, h5⟩
  · rw [h1, h2]; exact hrest
  · obtain ⟨hs, hrest'⟩ := hsib.nonzero hrest
    intro z hz
    rw [h1, h2, ← List.append_assoc, List.mem_append, List.mem_singleton] at hz
    rcases hz with hz | rfl
    · exact hrest' z hz
    · show getNextHash x.1 x.2 sib ≠ zero
      rw [getNextHashX_nonzero hx hs] at h5
      rw [getNextHash_nonzero hx hs]
      split
      · rename_i hc
        rw [if_pos hc] at h5
        exact hl (x.2, sib) (by rw [h5]; simp)
      · rename_i hc
        rw [if_neg hc] at h5
        exact hl (sib, x.2) (by rw [h5]; simp)

section view
variable {n : U64} {roots : List H} {Good Bad : H → H → Prop}
  (V : ForestViewX H n roots Good Bad)

def AllTrueX (s : CalcSt H) : Prop := ∀ x ∈ s.toProve ++ s.next, V.nodeAt x.1 = some x.2

def RootsTrueX (s : CalcSt H) : Prop :=
  ∀ c ∈ s.roots.zip s.rootRows, V.nodeAt (rootPosition n c.2 (TreeRows n)) = some c.1

/-- truth travels BACKWARDS over a step (the popped element is a child of the queued parent, by
`children_ok`) — unless a pair hashed in the step is `Bad`.  `Inv` is needed at the state before the
step only: it travels forwards (`Inv.stepX`). -/
theorem back_stepX {s s' : CalcSt H} {l : List (H × H)}
    (h : calcStepX n (TreeRows n) s = .ok (.cont s', l)) (inv : Inv n s)
    (hl : ∀ x ∈ l, ¬ Bad x.1 x.2)
    (hall : AllTrueX V s') (hroots : RootsTrueX V s') :
    AllTrueX V s ∧ RootsTrueX V s ∧ ∀ x ∈ l, Good x.1 x.2 := by
  obtain ⟨x, tp, nx, hP, hrow, hcase⟩ := calcStepX_cont h
  have hcur := rowCursor_ok _ _ _ hrow inv.wf.row_le
  have hx : x.2 ≠ zero := inv.nonzero x ((hP.mem_iff x).2 (Or.inl rfl))
  have hrest : ∀ z ∈ tp ++ nx, z.2 ≠ (zero : H) :=
    fun z hz => inv.nonzero z ((hP.mem_iff z).2 (Or.inr hz))
  rcases hcase with ⟨hroot, h1, h2, h4, _, h3, h5⟩ | ⟨sib, tp', nx', hsib, h1, h2, h4, h3, h5⟩
  · have hzip : s'.roots.zip s'.rootRows = s.roots.zip s.rootRows ++ [(x.2, s'.row)] := by
      rw [h3, h4, List.zip_append inv.wf.len]; rfl
    refine ⟨?_, ?_, ?_⟩
    · intro z hz
      rcases (hP.mem_iff z).1 hz with rfl | hz
      · have := hroots (z.2, s'.row) (by rw [hzip]; simp)
        rw [← (isRootPositionOnRow_true hroot).2] at this
        exact this
      · exact hall z (by rw [h1, h2]; exact hz)
    · intro c hc
      exact hroots c (by rw [hzip]; exact List.mem_append_left _ hc)
    · intro z hz
      rw [h5] at hz
      simp at hz
  · obtain ⟨hs, _⟩ := hsib.nonzero hrest
    have hnew : V.nodeAt (Parent x.1 (TreeRows n)) = some (getNextHash x.1 x.2 sib) :=
      hall (Parent x.1 (TreeRows n), getNextHash x.1 x.2 sib) (by rw [h2]; simp)
    rw [getNextHash_nonzero hx hs] at hnew
    rw [getNextHashX_nonzero hx hs] at h5
    have hrest' : ∀ z ∈ tp' ++ nx', V.nodeAt z.1 = some z.2 := by
      intro z hz
      apply hall z
      rw [h1, h2, ← List.append_assoc]
      exact List.mem_append_left _ hz
    -- the children of the parent node, whichever side the popped element is on
    have hkids : V.nodeAt x.1 = some x.2 ∧
        ((isLeftNiece x.1 = true ∧ V.nodeAt (rightSib x.1) = some sib) ∨
          isLeftNiece x.1 = false) ∧ ∀ z ∈ l, Good z.1 z.2 := by
      cases hln : isLeftNiece x.1
      · rw [hln] at hnew h5
        simp only [Bool.false_eq_true, if_false] at hnew h5
        rcases V.children_ok x.1 s'.row sib x.2 hcur.1 hcur.2 hnew hs hx with hc | hb
        · rw [rightSib_of_not_isLeftNiece hln] at hc
          refine ⟨hc.2.1, Or.inr rfl, ?_⟩
          intro z hz
          rw [h5, List.mem_singleton] at hz
          subst hz
          exact hc.2.2
        · exact absurd hb (hl (sib, x.2) (by rw [h5]; simp))
      · rw [hln] at hnew h5
        simp only [if_true] at hnew h5
        rcases V.children_ok x.1 s'.row x.2 sib hcur.1 hcur.2 hnew hx hs with hc | hb
        · rw [leftSib_of_isLeftNiece hln] at hc
          refine ⟨hc.1, Or.inl ⟨rfl, hc.2.1⟩, ?_⟩
          intro z hz
          rw [h5, List.mem_singleton] at hz
          subst hz
          exact hc.2.2
        · exact absurd hb (hl (x.2, sib) (by rw [h5]; simp))
    refine ⟨?_, ?_, hkids.2.2⟩
    · have hxtrue : V.nodeAt x.1 = some x.2 ∧ ∀ z ∈ tp ++ nx, V.nodeAt z.1 = some z.2 := by
        refine ⟨hkids.1, ?_⟩
        rcases hsib with ⟨y, hPy, hne, hrs, rfl, _⟩ | ⟨rfl, rfl, _, _⟩
        · have hne' : x.1 ≠ rightSib x.1 := by rw [hrs]; exact hne
          have hln := isLeftNiece_of_ne_rightSib hne'
          intro z hz
          rcases (hPy.mem_iff z).1 hz with rfl | hz
          · rcases hkids.2.1 with ⟨_, hr⟩ | hf
            · rw [hrs] at hr; exact hr
            · rw [hln] at hf; cases hf
          · exact hrest' z hz
        · exact hrest'
      intro z hz
      rcases (hP.mem_iff z).1 hz with rfl | hz
      · exact hxtrue.1
      · exact hxtrue.2 z hz
    · intro c hc
      exact hroots c (by rw [h3, h4]; exact hc)

/-- the two directions along a run: `Inv` is carried forwards to the final state; that the candidates
are the stored roots is known only there (`matchRoots`), and comes back to the start by `back_stepX` -/
theorem calcLoopX_sound :
    ∀ (fuel : Nat) (s sf : CalcSt H) (L : List (H × H)),
      calcLoopX n (TreeRows n) fuel s = .ok (sf, L) → Inv n s →
      (∀ x ∈ L, ph x.1 x.2 ≠ (zero : H) ∧ ¬ Bad x.1 x.2) →
      Inv n sf ∧ (RootsTrueX V sf →
        AllTrueX V s ∧ RootsTrueX V s ∧ ∀ x ∈ L, Good x.1 x.2) := by
  refine calcLoopX_induction (fun s hstop inv _ => ⟨inv, fun hr => ⟨?_, hr, fun x hx => (nomatch hx)⟩⟩)
    (fun s s1 sf l l' hstep ih inv hL => ?_)
  · rcases hstop with hgt | ⟨h1, h2⟩
    · exact absurd inv.wf.row_le (BitVec.not_le.mpr hgt)
    · intro x hx
      rw [h1, h2] at hx
      cases hx
  · have hl : ∀ x ∈ l, ph x.1 x.2 ≠ (zero : H) ∧ ¬ Bad x.1 x.2 :=
      fun x hx => hL x (List.mem_append_left _ hx)
    obtain ⟨invf, hback⟩ := ih (Inv.stepX hstep inv (fun x hx => (hl x hx).1))
      (fun x hx => hL x (List.mem_append_right _ hx))
    refine ⟨invf, fun hr => ?_⟩
    obtain ⟨ha1, hr1, hg1⟩ := hback hr
    obtain ⟨ha, hr0, hg⟩ := back_stepX V hstep inv (fun x hx => (hl x hx).2) ha1 hr1
    exact ⟨ha, hr0, fun x hx => (List.mem_append.1 hx).elim (hg x) (hg1 x)⟩

end view

theorem calc_sound_x {n : U64} {roots : List H} {Good Bad : H → H → Prop}
    (V : ForestViewX H n roots Good Bad)
    {hs : List H} {ts : List U64} {ps : List H} {r : CalcResult H} {idx : List Nat}
    (hnz : ∀ h ∈ hs, h ≠ (zero : H))
    (hc : calculateHashes n (some hs) ts ps = .ok r)
    (hm : matchRoots n roots r.roots r.rootRows none = .ok idx) :
    ((∀ x ∈ ts.zip hs, V.nodeAt x.1 = some x.2) ∧
      ∀ x ∈ hashedPairs n hs ts ps, Good x.1 x.2) ∨
    (∃ x ∈ hashedPairs n hs ts ps, ph x.1 x.2 = (zero : H) ∨ Bad x.1 x.2) := by
  have hcx := calculateHashesX_of_ok hc
  generalize hashedPairs n hs ts ps = L at hcx ⊢
  by_cases hbad : ∃ x ∈ L, ph x.1 x.2 = (zero : H) ∨ Bad x.1 x.2
  · exact Or.inr hbad
  left
  have hgood : ∀ x ∈ L, ph x.1 x.2 ≠ (zero : H) ∧ ¬ Bad x.1 x.2 := by
    intro x hx
    constructor
    · intro h0; exact hbad ⟨x, hx, Or.inl h0⟩
    · intro hb; exact hbad ⟨x, hx, Or.inr hb⟩
  obtain ⟨sf, hloop, rfl⟩ := calculateHashesX_ok hcx
  obtain ⟨invf, hback⟩ := calcLoopX_sound V _ _ _ _ hloop (Inv.init ps hnz) hgood
  have hrt : RootsTrueX V sf := by
    intro c hc
    have hidx := matchRoots_ok _ _ _ _ hm invf.wf.len c hc
    obtain ⟨hle, hex⟩ := invf.wf.rows c.2 (List.of_mem_zip hc).2
    exact V.root_ok c.2 c.1 hle hex hidx
  obtain ⟨hat, _, hg⟩ := hback hrt
  refine ⟨?_, hg⟩
  exact fun x hx => hat x (List.mem_append_left _ ((SortBy.mem_sortHP x _).2 hx))

theorem hashedPairs_nil (n : U64) (ts : List U64) (ps : List H) :
    hashedPairs n ([] : List H) ts ps = [] := by
  -- a zip of unequal lengths is rejected and the empty zip gives an empty queue: the loop stops at once
  cases ts with
  | cons t ts => simp [hashedPairs, calculateHashesX, toHashAndPos, bind, Out.bind]
  | nil =>
    have h0 : ¬ ((0#8 : U8) > TreeRows n) := by simp [BitVec.lt_def]
    simp [hashedPairs, calculateHashesX, toHashAndPos, bind, pure, Out.bind, sortHP, sortBy,
      calcFuel, calcLoopX, calcStepX, nextLeast, h0]

theorem verify_sound_x {n : U64} {roots : List H} {Good Bad : H → H → Prop}
    (V : ForestViewX H n roots Good Bad)
    {hs : List H} {ts : List U64} {ps : List H} {idx : List Nat}
    (hnz : ∀ h ∈ hs, h ≠ (zero : H))
    (h : verify n roots hs ts ps = .ok idx) :
    ((∀ x ∈ ts.zip hs, V.nodeAt x.1 = some x.2) ∧
      ∀ x ∈ hashedPairs n hs ts ps, Good x.1 x.2) ∨
    (∃ x ∈ hashedPairs n hs ts ps, ph x.1 x.2 = (zero : H) ∨ Bad x.1 x.2) := by
  obtain ⟨r, hc, hm⟩ := verify_ok h
  exact calc_sound_x V hnz hc hm

end
end UtreexoVerif.Proofs.CalcSoundX

namespace UtreexoVerif.Proofs.CalcSound
open Model Hasher
open UtreexoVerif.Proofs.CalcSoundX

section
variable {H : Type} [DecidableEq H] [Hasher H]

/-- of `cr` only `cr.nonzero` is used here; injectivity is what makes a `ForestView` exist -/
theorem calc_sound {n : U64} {roots : List H} (V : ForestView H n roots) (cr : CR H)
    {hs : List H} {ts : List U64} {ps : List H} {r : CalcResult H} {idx : List Nat}
    (hnz : ∀ h ∈ hs, h ≠ (zero : H))
    (hc : calculateHashes n (some hs) ts ps = .ok r)
    (hm : matchRoots n roots r.roots r.rootRows none = .ok idx) :
    ∀ x ∈ ts.zip hs, V.nodeAt x.1 = some x.2 := by
  rcases calc_sound_x (ForestViewX.ofView V) hnz hc hm with ⟨ht, _⟩ | ⟨x, _, h0 | hb⟩
  · exact ht
  · exact absurd h0 (cr.nonzero _ _)
  · exact hb.elim

end
end UtreexoVerif.Proofs.CalcSound
