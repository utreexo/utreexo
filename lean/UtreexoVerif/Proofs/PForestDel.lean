/-
  The node list of a specification forest after deleting ALL leaves below one node `d`
  (`del_root`, `del_nonroot`), hygiene and live leaves after a deletion (`hyg_delLeaves`,
  `liveLeaves_delLeaves`).

  Route: `DelRel d P P'` states, for two node predicates, the four-part relation of
  `del_nonroot`.  It is established for one collapsed tree by induction (`prune_inside`), with
  `delRel_top` for the step at the top; the relation is closed under unions of node sets
  (`DelRel.or`), which adds the unchanged nodes (`delRel_same`) and the ancestors whose hashes
  change (`delRel_single`); it is transported to the forest through `ofForest`.
-/
import UtreexoVerif.Proofs.PForestSpec
import UtreexoVerif.Proofs.SpecUndo
import UtreexoVerif.Proofs.LiveLeaves
import UtreexoVerif.Proofs.MapSInv

namespace UtreexoVerif.Proofs.PForestDel
open Spec MapRep MapLiftGeo PForest PForestSpec Hasher SpecNodes
set_option linter.unusedSectionVars false
variable {H : Type} [DecidableEq H] [Hasher H]

/-- `P` = nodes before, `P'` = nodes after deleting everything below `d` (non-root):
(A) nodes incomparable with `parent d` are unchanged, (B) the subtree at `sib d` is lifted onto
`parent d`, (C) strict ancestors of `parent d` stay inner nodes; nothing else exists. -/
def DelRel (d : Pos) (P P' : Pos × H × Bool → Prop) : Prop :=
  (∀ e : Pos × H × Bool, P' e →
      (¬ Anc (parent d) e.1 ∧ ¬ Anc e.1 (parent d) ∧ P e) ∨
      (∃ c, Anc (sib d) c ∧ e.1 = liftP (sib d) c ∧ P (c, e.2)) ∨
      (Anc e.1 (parent d) ∧ e.1 ≠ parent d ∧ e.2.2 = false ∧ ∃ h0, P (e.1, h0, false))) ∧
  (∀ e : Pos × H × Bool, ¬ Anc (parent d) e.1 → ¬ Anc e.1 (parent d) → P e → P' e) ∧
  (∀ c h' b', Anc (sib d) c → P (c, h', b') → P' (liftP (sib d) c, h', b')) ∧
  (∀ z h0, P (z, h0, false) → Anc z (parent d) → z ≠ parent d → ∃ h1, P' (z, h1, false))

theorem DelRel.congr {d : Pos} {P P' Q Q' : Pos × H × Bool → Prop} (h : ∀ e, P e ↔ Q e)
    (h' : ∀ e, P' e ↔ Q' e) (r : DelRel d P P') : DelRel d Q Q' := by
  have e1 : P = Q := funext fun e => propext (h e)
  have e2 : P' = Q' := funext fun e => propext (h' e)
  rw [← e1, ← e2]; exact r

theorem DelRel.or {d : Pos} {X X' A A' : Pos × H × Bool → Prop} (r : DelRel d X X') (s : DelRel d A A') :
    DelRel d (fun e => X e ∨ A e) (fun e => X' e ∨ A' e) := by
  obtain ⟨r1, r2, r3, r4⟩ := r
  obtain ⟨s1, s2, s3, s4⟩ := s
  refine ⟨?_, ?_, ?_, ?_⟩
  · rintro e (he | he)
    · exact (r1 e he).imp (fun h => ⟨h.1, h.2.1, Or.inl h.2.2⟩)
        (Or.imp (Exists.imp fun c h => ⟨h.1, h.2.1, Or.inl h.2.2⟩)
          fun h => ⟨h.1, h.2.1, h.2.2.1, h.2.2.2.imp fun _ => Or.inl⟩)
    · exact (s1 e he).imp (fun h => ⟨h.1, h.2.1, Or.inr h.2.2⟩)
        (Or.imp (Exists.imp fun c h => ⟨h.1, h.2.1, Or.inr h.2.2⟩)
          fun h => ⟨h.1, h.2.1, h.2.2.1, h.2.2.2.imp fun _ => Or.inr⟩)
  · rintro e h1 h2 (he | he)
    · exact Or.inl (r2 e h1 h2 he)
    · exact Or.inr (s2 e h1 h2 he)
  · rintro c h' b' hc (he | he)
    · exact Or.inl (r3 c h' b' hc he)
    · exact Or.inr (s3 c h' b' hc he)
  · rintro z h0 (he | he) hz hne
    · exact (r4 z h0 he hz hne).imp fun _ => Or.inl
    · exact (s4 z h0 he hz hne).imp fun _ => Or.inr

theorem delRel_same {d : Pos} {O : Pos × H × Bool → Prop}
    (hO : ∀ e, O e → ¬ Anc (parent d) e.1 ∧ ¬ Anc e.1 (parent d)) : DelRel d O O :=
  ⟨fun e he => Or.inl ⟨(hO e he).1, (hO e he).2, he⟩, fun _ _ _ he => he,
    fun _ _ _ hc he => absurd (Anc.trans (anc_parent_sib d) hc) (hO _ he).1,
    fun _ _ he hz _ => absurd hz (hO _ he).2⟩

theorem delRel_single {d ρ : Pos} (h h' : H) (hρ : Anc ρ (parent d)) (hne : ρ ≠ parent d) :
    DelRel d (fun e => e = (ρ, h, false)) (fun e => e = (ρ, h', false)) := by
  refine ⟨?_, ?_, ?_, ?_⟩
  · rintro e rfl
    exact Or.inr (Or.inr ⟨hρ, hne, rfl, h, rfl⟩)
  · rintro e _ h2 rfl
    exact absurd hρ h2
  · rintro c h'' b' hc he
    cases he
    exact (sib_not_anc_parent (Anc.trans hc hρ)).elim
  · rintro z h0 he _ _
    cases he
    exact ⟨h', rfl⟩

/-- `d` is a child of the tree root `parent d`, the subtree `s` sits at `sib d`, everything
else below `d` goes: `s` re-placed at `parent d` -/
theorem delRel_top {d : Pos} (s : CTree H) (hs : depth s ≤ d.1) {N : Pos × H × Bool → Prop}
    (hN : ∀ e, N e → Anc (parent d) e.1)
    (hσ : ∀ e, Anc (sib d) e.1 → (N e ↔ e ∈ s.nodes (sib d).1 (sib d).2)) :
    DelRel d N (fun e => e ∈ s.nodes (parent d).1 (parent d).2) := by
  have hmap : s.nodes (parent d).1 (parent d).2 =
      (s.nodes (sib d).1 (sib d).2).map (fun e => (liftP (sib d) e.1, e.2)) := by
    have := nodes_liftP (sib d) s (sib d) (Anc.refl _) hs
    rw [liftP_self, CalcGeo.parent_sib] at this
    exact this
  have hunder : ∀ e ∈ s.nodes (sib d).1 (sib d).2, Anc (sib d) e.1 := fun e he => ctree_anc s (c := sib d) hs he
  refine ⟨?_, ?_, ?_, ?_⟩
  · intro e he
    rw [hmap, List.mem_map] at he
    obtain ⟨e0, he0, rfl⟩ := he
    exact Or.inr (Or.inl ⟨e0.1, hunder e0 he0, rfl, (hσ e0 (hunder e0 he0)).2 he0⟩)
  · intro e h1 _ he
    exact absurd (hN e he) h1
  · intro c h' b' hc he
    show _ ∈ _
    rw [hmap, List.mem_map]
    exact ⟨(c, h', b'), (hσ _ hc).1 he, rfl⟩
  · intro z h0 he hz hne
    exact absurd (Anc.antisymm hz (hN _ he)) hne

section step
variable {R : List H} {X Y : CTree H} {c cx cy d : Pos} {hr : H} {N : Pos × H × Bool → Prop}

theorem other_clean (hs : sib cx = cy) (hY : depth Y ≤ cy.1)
    (hN : ∀ e, N e ↔ e = (c, hr, false) ∨ e ∈ X.nodes cx.1 cx.2 ∨ e ∈ Y.nodes cy.1 cy.2)
    (hdis : ∀ x ∈ X.leaves, x ∉ Y.leaves) (hd : Anc cx d)
    (hR : ∀ x, (x ∈ X.leaves ∨ x ∈ Y.leaves) → (x ∈ R ↔ ∃ p, N (p, x, true) ∧ Anc d p)) :
    ∀ x ∈ Y.leaves, x ∉ R := by
  subst hs
  intro x hx hxR
  obtain ⟨p, hp, hdp⟩ := (hR x (Or.inr hx)).1 hxR
  rcases (hN _).1 hp with he | he | he
  · cases he
  · exact hdis x (nodes_leaf_mem X _ _ _ he rfl) hx
  · exact not_anc_both (Anc.trans hd hdp) (ctree_anc Y hY he)

theorem restrict_R (hs : sib cx = cy) (hY : depth Y ≤ cy.1)
    (hN : ∀ e, N e ↔ e = (c, hr, false) ∨ e ∈ X.nodes cx.1 cx.2 ∨ e ∈ Y.nodes cy.1 cy.2)
    (hd : Anc cx d)
    (hR : ∀ x, (x ∈ X.leaves ∨ x ∈ Y.leaves) → (x ∈ R ↔ ∃ p, N (p, x, true) ∧ Anc d p)) :
    ∀ x ∈ X.leaves, x ∈ R ↔ ∃ p, (p, x, true) ∈ X.nodes cx.1 cx.2 ∧ Anc d p := by
  subst hs
  intro x hx
  rw [hR x (Or.inl hx)]
  constructor
  · rintro ⟨p, hp, hdp⟩
    rcases (hN _).1 hp with he | he | he
    · cases he
    · exact ⟨p, he, hdp⟩
    · exact (not_anc_both (Anc.trans hd hdp) (ctree_anc Y hY he)).elim
  · rintro ⟨p, hp, hdp⟩
    exact ⟨p, (hN _).2 (Or.inr (Or.inl hp)), hdp⟩

theorem prune_root (R : List H) (t : CTree H) (c : Pos) (hd : depth t ≤ c.1)
    (hR : ∀ x ∈ t.leaves, (∃ p, (p, x, true) ∈ t.nodes c.1 c.2 ∧ Anc c p) → x ∈ R) :
    prune R t = none := by
  rw [prune_eq_none_iff]
  intro x hx
  obtain ⟨p, hp⟩ := ctree_leaf_entry t c x hx
  exact hR x hx ⟨p, hp, ctree_anc t hd hp⟩

theorem step_top (hp : parent d = c) (hs : sib d = cy) (hX : depth X ≤ d.1) (hY : depth Y ≤ cy.1)
    (hN : ∀ e, N e ↔ e = (c, hr, false) ∨ e ∈ X.nodes d.1 d.2 ∨ e ∈ Y.nodes cy.1 cy.2)
    (hdis : ∀ x ∈ X.leaves, x ∉ Y.leaves)
    (hR : ∀ x, (x ∈ X.leaves ∨ x ∈ Y.leaves) → (x ∈ R ↔ ∃ p, N (p, x, true) ∧ Anc d p)) :
    prune R X = none ∧ prune R Y = some Y ∧ DelRel d N (fun e => e ∈ Y.nodes c.1 c.2) := by
  refine ⟨?_, prune_eq_self R Y (other_clean hs hY hN hdis (Anc.refl d) hR), ?_⟩
  · exact prune_root R X d hX fun x hx ⟨p, hp, ha⟩ => (hR x (Or.inl hx)).2 ⟨p, (hN _).2 (Or.inr (Or.inl hp)), ha⟩
  subst hp hs
  apply delRel_top (d := d) Y hY
  · intro e he
    rcases (hN e).1 he with he | he | he
    · rw [he]; exact Anc.refl _
    · exact (ctree_anc X hX he).parent
    · rw [← CalcGeo.parent_sib]
      exact (ctree_anc Y hY he).parent
  · intro e hσ
    constructor
    · intro he
      rcases (hN e).1 he with he | he | he
      · rw [he] at hσ
        exact (sib_not_anc_parent hσ).elim
      · exact (not_anc_both (ctree_anc X hX he) hσ).elim
      · exact he
    · intro he; exact (hN e).2 (Or.inr (Or.inr he))

theorem step_in {X' : CTree H} {N' : Pos × H × Bool → Prop} {hr' : H} (hp : parent cx = c) (hs : sib cx = cy)
    (hY : depth Y ≤ cy.1) (hd : Anc cx d) (hne : d ≠ cx)
    (r : DelRel d (fun e => e ∈ X.nodes cx.1 cx.2) (fun e => e ∈ X'.nodes cx.1 cx.2))
    (hN : ∀ e, N e ↔ e = (c, hr, false) ∨ e ∈ X.nodes cx.1 cx.2 ∨ e ∈ Y.nodes cy.1 cy.2)
    (hN' : ∀ e, N' e ↔ e = (c, hr', false) ∨ e ∈ X'.nodes cx.1 cx.2 ∨ e ∈ Y.nodes cy.1 cy.2) :
    DelRel d N N' := by
  subst hp hs
  have hlt : d.1 < cx.1 := anc_row_lt hd (Ne.symm hne)
  have hcp : Anc cx (parent d) := sunder_iff_parent.1 ⟨hd, hlt⟩
  refine DelRel.congr (fun e => (hN e).symm) (fun e => (hN' e).symm)
    ((delRel_single hr hr' hcp.parent ?_).or (r.or (delRel_same ?_)))
  · intro e
    have h2 : cx.1 + 1 = d.1 + 1 := congrArg Prod.fst e
    omega
  · intro e he
    have hy := ctree_anc Y hY he
    exact ⟨fun h1 => not_anc_both (Anc.trans hcp h1) hy, fun h1 => not_anc_both hcp (Anc.trans hy h1)⟩

end step

theorem prune_inside (R : List H) : ∀ (t : CTree H) (r o : Nat), depth t ≤ r → t.leaves.Nodup →
    ∀ (d : Pos) (h : H) (b : Bool), (d, h, b) ∈ t.nodes r o → d ≠ (r, o) →
    (∀ x ∈ t.leaves, x ∈ R ↔ ∃ p, (p, x, true) ∈ t.nodes r o ∧ Anc d p) →
    ∃ t', prune R t = some t' ∧ depth t' ≤ r ∧
      DelRel d (fun e => e ∈ t.nodes r o) (fun e => e ∈ t'.nodes r o) := by
  intro t
  induction t with
  | leaf x =>
    intro r o _ _ d h b hd hne _
    exact absurd (congrArg Prod.fst (List.mem_singleton.1 hd)) hne
  | node A B ihA ihB =>
    intro r o hdep hnd d h b hd hne hR
    obtain ⟨h1, hA, hB⟩ := (depth_node_le (c := (r, o))).1 hdep
    obtain ⟨hndA, hndB, hdis⟩ := List.nodup_append.mp hnd
    have hR' : ∀ x, (x ∈ A.leaves ∨ x ∈ B.leaves) →
        (x ∈ R ↔ ∃ p, (p, x, true) ∈ (CTree.node A B).nodes r o ∧ Anc d p) :=
      fun x hx => hR x (List.mem_append.2 hx)
    rcases (mem_ctree_node (c := (r, o))).1 hd with hd' | hd' | hd'
    · exact absurd (congrArg Prod.fst hd') hne
    ·
      have hp := parent_childP (c := (r, o)) h1 Nat.zero_lt_two
      have hs : sib (childP (r, o) 0) = childP (r, o) 1 := sib_childP _ Nat.zero_lt_two
      have hN := fun e : Pos × H × Bool => mem_ctree_node (a := A) (b := B) (c := (r, o)) (x := e)
      have hdis' : ∀ x ∈ A.leaves, x ∉ B.leaves := fun x hx hx' => hdis x hx x hx' rfl
      by_cases hdc : d = childP (r, o) 0
      · subst hdc
        obtain ⟨p1, p2, p3⟩ := step_top (R := R) hp hs hA hB hN hdis' hR'
        exact ⟨B, by simp only [prune, p1, p2, join], Nat.le_trans hB (Nat.sub_le r 1), p3⟩
      · have hanc := ctree_anc A hA hd'
        obtain ⟨A', q1, q2, q3⟩ := ihA _ _ hA hndA d h b hd' hdc (restrict_R hs hB hN hanc hR')
        have q4 := prune_eq_self R B (other_clean hs hB hN hdis' hanc hR')
        exact ⟨.node A' B, by simp only [prune, q1, q4, join], (depth_node_le (c := (r, o))).2 ⟨h1, q2, hB⟩,
          step_in hp hs hB hanc hdc q3 hN fun e => mem_ctree_node (c := (r, o))⟩
    ·
      have hp := parent_childP (c := (r, o)) h1 Nat.one_lt_two
      have hs : sib (childP (r, o) 1) = childP (r, o) 0 := sib_childP _ Nat.one_lt_two
      have hN := fun e : Pos × H × Bool => mem_ctree_node_swap (a := A) (b := B) (c := (r, o)) (x := e)
      have hdis' : ∀ x ∈ B.leaves, x ∉ A.leaves := fun x hx hx' => hdis x hx' x hx rfl
      have hR'' : ∀ x, (x ∈ B.leaves ∨ x ∈ A.leaves) →
          (x ∈ R ↔ ∃ p, (p, x, true) ∈ (CTree.node A B).nodes r o ∧ Anc d p) :=
        fun x hx => hR' x hx.symm
      by_cases hdc : d = childP (r, o) 1
      · subst hdc
        obtain ⟨p1, p2, p3⟩ := step_top (R := R) hp hs hB hA hN hdis' hR''
        exact ⟨A, by simp only [prune, p1, p2, join], Nat.le_trans hA (Nat.sub_le r 1), p3⟩
      · have hanc := ctree_anc B hB hd'
        obtain ⟨B', q1, q2, q3⟩ := ihB _ _ hB hndB d h b hd' hdc (restrict_R hs hA hN hanc hR'')
        have q4 := prune_eq_self R A (other_clean hs hA hN hdis' hanc hR'')
        exact ⟨.node A B', by simp only [prune, q1, q4, join], (depth_node_le (c := (r, o))).2 ⟨h1, hA, q2⟩,
          step_in hp hs hA hanc hdc q3 hN fun e => mem_ctree_node_swap (c := (r, o))⟩

theorem liveLeaves_delLeaves (F : Forest H) (R : List H) :
    (F.delLeaves R).liveLeaves = F.liveLeaves.filter (fun x => x ∉ R) :=
  LiveLeaves.liveLeaves_delLeaves_eq F R

theorem hyg_delLeaves {F : Forest H} (hy : Hyg F) (R : List H) : Hyg (F.delLeaves R) :=
  ⟨LiveLeaves.liveLeaves_delLeaves_nodup hy.nodup R,
    fun x hx => hy.nz x (LiveLeaves.mem_liveLeaves_delLeaves.1 hx).1,
    fun x hx => hy.nph x (LiveLeaves.mem_liveLeaves_delLeaves.1 hx).1⟩

theorem ofForest_delLeaves (F : Forest H) (R : List H) :
    ofForest (F.delLeaves R) = (ofForest F).map (fun e => (e.1, pruneO R e.2)) := by
  unfold ofForest
  rw [trees_delLeaves, numLeaves_delLeaves, List.map_map, List.map_map]
  rfl

section frame
variable {F : Forest H} {E : Pos × Option (CTree H)} {d : Pos} {R : List H}

theorem mem_nodes_forest {e : Pos × H × Bool} : e ∈ F.nodes ↔ ∃ E ∈ ofForest F, e ∈ entryNodes E := by
  rw [← nodes_ofForest]
  exact PForest.mem_nodes

theorem entryNodes_other (ok : OK (ofForest F)) (hE : E ∈ ofForest F) (hd : Anc E.1 d)
    (hR : ∀ x, x ∈ R → ∃ t, (t, x, true) ∈ F.nodes ∧ Anc d t) {E' : Pos × Option (CTree H)}
    (hE' : E' ∈ ofForest F) (hne : E' ≠ E) :
    entryNodes (E'.1, pruneO R E'.2) = (entryNodes E' : List (Pos × H × Bool)) := by
  obtain ⟨p', o'⟩ := E'
  cases o' with
  | none => rfl
  | some T' =>
    suffices h : prune R T' = some T' by show entryNodes (p', prune R T') = _; rw [h]
    refine prune_eq_self R T' fun x hx hxR => hne ?_
    obtain ⟨t, ht, hdt⟩ := hR x hxR
    have hin := mem_entry_of_anc ok hE (by rw [nodes_ofForest]; exact ht) (Anc.trans hd hdt)
    obtain ⟨p, o⟩ := E
    cases o with
    | none => cases List.mem_singleton.1 hin
    | some T => exact Spec.flatMap_nodup_common _ _ ok.nodup _ hE' _ hE x hx (nodes_leaf_mem T _ _ _ hin rfl)

def Others (F : Forest H) (E : Pos × Option (CTree H)) (e : Pos × H × Bool) : Prop :=
  ∃ E' ∈ ofForest F, E' ≠ E ∧ e ∈ entryNodes E'

theorem mem_nodes_split (hE : E ∈ ofForest F) (e : Pos × H × Bool) :
    e ∈ F.nodes ↔ e ∈ entryNodes E ∨ Others F E e := by
  rw [mem_nodes_forest]
  constructor
  · rintro ⟨E', hE', he⟩
    by_cases h : E' = E
    · subst h; exact Or.inl he
    · exact Or.inr ⟨E', hE', h, he⟩
  · rintro (he | ⟨E', hE', _, he⟩)
    · exact ⟨E, hE, he⟩
    · exact ⟨E', hE', he⟩

theorem mem_nodes_del_split (ok : OK (ofForest F)) (hE : E ∈ ofForest F) (hd : Anc E.1 d)
    (hR : ∀ x, x ∈ R → ∃ t, (t, x, true) ∈ F.nodes ∧ Anc d t) (e : Pos × H × Bool) :
    e ∈ (F.delLeaves R).nodes ↔ e ∈ entryNodes (E.1, pruneO R E.2) ∨ Others F E e := by
  rw [mem_nodes_forest, ofForest_delLeaves]
  constructor
  · rintro ⟨E0, hE0, he⟩
    obtain ⟨E', hE', rfl⟩ := List.mem_map.1 hE0
    by_cases h : E' = E
    · subst h; exact Or.inl he
    · rw [entryNodes_other ok hE hd hR hE' h] at he
      exact Or.inr ⟨E', hE', h, he⟩
  · rintro (he | ⟨E', hE', h, he⟩)
    · exact ⟨_, List.mem_map.2 ⟨E, hE, rfl⟩, he⟩
    · refine ⟨_, List.mem_map.2 ⟨E', hE', rfl⟩, ?_⟩
      rw [entryNodes_other ok hE hd hR hE' h]; exact he

theorem others_incomparable (ok : OK (ofForest F)) (hE : E ∈ ofForest F) {e : Pos × H × Bool}
    (he : Others F E e) {q : Pos} (hq : Anc E.1 q) : ¬ Anc q e.1 ∧ ¬ Anc e.1 q := by
  obtain ⟨E', hE', hne, hx⟩ := he
  have ha := entry_anc ok hE' hx
  exact ⟨fun h => hne (ok.disj E' hE' E hE e.1 ha (Anc.trans hq h)),
    fun h => hne (ok.disj E' hE' E hE q (Anc.trans ha h) hq)⟩

end frame

theorem del_root (F : Forest H) (hn : F.numLeaves < 2 ^ 64) (hy : Hyg F) {d : Pos}
    (hroot : isRootPos F.numLeaves d = true) (R : List H)
    (hR : ∀ x, x ∈ R ↔ ∃ t, (t, x, true) ∈ F.nodes ∧ Anc d t) :
    ∀ e : Pos × H × Bool, e ∈ (F.delLeaves R).nodes ↔ (¬ Anc d e.1 ∧ e ∈ F.nodes) ∨ e = (d, zero, false) := by
  have ok := ok_ofForest F hn hy
  obtain ⟨E, hE, hEd⟩ := (isRoot_ofForest F hn d).2 hroot
  subst hEd
  have hR1 : ∀ x, x ∈ R → ∃ t, (t, x, true) ∈ F.nodes ∧ Anc E.1 t := fun x hx => (hR x).1 hx
  have hnone : pruneO R E.2 = none := by
    cases hT : E.2 with
    | none => rfl
    | some T =>
      refine prune_root R T E.1 (ok.depth E hE T hT) fun x hx ⟨p, hp, hdp⟩ => (hR x).2 ⟨p, ?_, hdp⟩
      exact mem_nodes_forest.2 ⟨E, hE, by unfold entryNodes; rw [hT]; exact hp⟩
  intro e
  rw [mem_nodes_del_split ok hE (Anc.refl _) hR1 e, hnone, entryNodes_none, List.mem_singleton]
  constructor
  · rintro (he | he)
    · exact Or.inr he
    · exact Or.inl ⟨(others_incomparable ok hE he (Anc.refl _)).1, (mem_nodes_split hE e).2 (Or.inr he)⟩
  · rintro (⟨h1, h2⟩ | he)
    · rcases (mem_nodes_split hE e).1 h2 with h3 | h3
      · exact absurd (entry_anc ok hE h3) h1
      · exact Or.inr h3
    · exact Or.inl he

theorem del_nonroot_rel (F : Forest H) (hn : F.numLeaves < 2 ^ 64) (hy : Hyg F) {d : Pos} {h : H} {b : Bool}
    (hd : (d, h, b) ∈ F.nodes) (hnr : isRootPos F.numLeaves d = false) (R : List H)
    (hR : ∀ x, x ∈ R ↔ ∃ t, (t, x, true) ∈ F.nodes ∧ Anc d t) :
    DelRel d (fun e => e ∈ F.nodes) (fun e => e ∈ (F.delLeaves R).nodes) := by
  have ok := ok_ofForest F hn hy
  have hnr' : ¬ IsRoot (ofForest F) d := fun hr => by
    rw [(isRoot_ofForest F hn d).1 hr] at hnr
    cases hnr
  rcases mem_nodes_cases ok (by rw [nodes_ofForest]; exact hd) with ⟨p, hE, h0⟩ | ⟨p, T, hE, hdep, hdT⟩
  · cases h0
    exact absurd ⟨_, hE, rfl⟩ hnr'
  have hanc : Anc p d := ctree_anc T hdep hdT
  have hne : d ≠ p := fun e => hnr' ⟨_, hE, e.symm⟩
  have hR1 : ∀ x, x ∈ R → ∃ t, (t, x, true) ∈ F.nodes ∧ Anc d t := fun x hx => (hR x).1 hx
  have hpar : Anc p (parent d) := sunder_iff_parent.1 ⟨hanc, anc_row_lt hanc (Ne.symm hne)⟩
  have hndT : T.leaves.Nodup := Spec.flatMap_nodup_block _ _ ok.nodup _ hE
  have hRT : ∀ x ∈ T.leaves, x ∈ R ↔ ∃ q, (q, x, true) ∈ T.nodes p.1 p.2 ∧ Anc d q := by
    intro x hx
    rw [hR x]
    constructor
    · rintro ⟨t, ht, hdt⟩
      exact ⟨t, mem_entry_of_anc ok hE (by rw [nodes_ofForest]; exact ht) (Anc.trans hanc hdt), hdt⟩
    · rintro ⟨q, hq, hdq⟩
      exact ⟨q, mem_nodes_forest.2 ⟨_, hE, hq⟩, hdq⟩
  obtain ⟨T', hp1, hp2, hp3⟩ := prune_inside R T p.1 p.2 hdep hndT d h b hdT hne hRT
  refine DelRel.congr (fun e => (mem_nodes_split hE e).symm) ?_
    (hp3.or (delRel_same fun e he => others_incomparable ok hE he hpar))
  intro e
  rw [mem_nodes_del_split ok hE hanc hR1 e]
  show _ ↔ e ∈ entryNodes (p, prune R T) ∨ _
  rw [hp1]
  rfl

theorem del_nonroot (F : Forest H) (hn : F.numLeaves < 2 ^ 64) (hy : Hyg F) {d : Pos} {h : H} {b : Bool}
    (hd : (d, h, b) ∈ F.nodes) (hnr : isRootPos F.numLeaves d = false) (R : List H)
    (hR : ∀ x, x ∈ R ↔ ∃ t, (t, x, true) ∈ F.nodes ∧ Anc d t) :
    (∀ e : Pos × H × Bool, e ∈ (F.delLeaves R).nodes →
      (¬ Anc (parent d) e.1 ∧ ¬ Anc e.1 (parent d) ∧ e ∈ F.nodes) ∨
      (∃ c, Anc (sib d) c ∧ e.1 = liftP (sib d) c ∧ (c, e.2) ∈ F.nodes) ∨
      (Anc e.1 (parent d) ∧ e.1 ≠ parent d ∧ e.2.2 = false ∧ ∃ h0, (e.1, h0, false) ∈ F.nodes)) ∧
    (∀ e : Pos × H × Bool, ¬ Anc (parent d) e.1 → ¬ Anc e.1 (parent d) → e ∈ F.nodes → e ∈ (F.delLeaves R).nodes) ∧
    (∀ c h' b', Anc (sib d) c → (c, h', b') ∈ F.nodes → (liftP (sib d) c, h', b') ∈ (F.delLeaves R).nodes) ∧
    (∀ z h0, (z, h0, false) ∈ F.nodes → Anc z (parent d) → z ≠ parent d →
      ∃ h1, (z, h1, false) ∈ (F.delLeaves R).nodes) :=
  del_nonroot_rel F hn hy hd hnr R hR

theorem leaves_below_iff {N : List (Pos × H × Bool)} {d : Pos} {x : H} :
    (∃ t, (t, x, true) ∈ N ∧ Anc d t) ↔
      x ∈ (N.filter fun e => e.2.2 && decide (Anc d e.1)).map (·.2.1) := by
  rw [List.mem_map]
  constructor
  · rintro ⟨t, ht, ha⟩
    exact ⟨_, List.mem_filter.2 ⟨ht, Bool.and_eq_true_iff.2 ⟨rfl, decide_eq_true ha⟩⟩, rfl⟩
  · rintro ⟨⟨t, y, f⟩, he, rfl⟩
    obtain ⟨hm, hp⟩ := List.mem_filter.1 he
    obtain ⟨hf, ha⟩ := Bool.and_eq_true_iff.1 hp
    cases (hf : f = true)
    exact ⟨t, hm, of_decide_eq_true ha⟩

/-! ### non-vacuity: the forest `F5` of `Props/C09.lean` (five live leaves, term-algebra hash) -/

namespace Example
open Props.C09.Example MapSInv.Example

theorem F5_nodes : F5.nodes =
    [((2, 0), .node (.node (.leaf 0) (.leaf 1)) (.node (.leaf 2) (.leaf 3)), false),
     ((1, 0), .node (.leaf 0) (.leaf 1), false), ((0, 0), .leaf 0, true), ((0, 1), .leaf 1, true),
     ((1, 1), .node (.leaf 2) (.leaf 3), false), ((0, 2), .leaf 2, true), ((0, 3), .leaf 3, true),
     ((0, 4), .leaf 4, true)] := by decide +kernel

/-- after deleting leaf 2 (`d = (0, 2)`): (A) `(1,0)`, `(0,0)`, `(0,1)`, `(0,4)` unchanged,
(B) the sibling `(0,3)` lifted to `(1,1)`, (C) the root `(2,0)` with a new hash -/
example : (F5.delLeaves [T.leaf 2]).nodes =
    [((2, 0), .node (.node (.leaf 0) (.leaf 1)) (.leaf 3), false),
     ((1, 0), .node (.leaf 0) (.leaf 1), false), ((0, 0), .leaf 0, true), ((0, 1), .leaf 1, true),
     ((1, 1), .leaf 3, true), ((0, 4), .leaf 4, true)] := by decide +kernel

/-- after deleting everything below the inner node `d = (1, 0)`: the subtree at `(1,1)` is lifted
onto the root -/
example : (F5.delLeaves [T.leaf 0, T.leaf 1]).nodes =
    [((2, 0), .node (.leaf 2) (.leaf 3), false), ((1, 0), .leaf 2, true), ((1, 1), .leaf 3, true),
     ((0, 4), .leaf 4, true)] := by decide +kernel

/-- after deleting everything below the root `d = (2, 0)`: an empty root -/
example : (F5.delLeaves [T.leaf 0, T.leaf 1, T.leaf 2, T.leaf 3]).nodes =
    [((2, 0), T.z, false), ((0, 4), .leaf 4, true)] := by decide +kernel

theorem R2_spec : ∀ x, x ∈ [T.leaf 2] ↔ ∃ t, (t, x, true) ∈ F5.nodes ∧ Anc (0, 2) t := by
  intro x
  rw [leaves_below_iff, F5_nodes]
  exact Iff.rfl

theorem R10_spec : ∀ x, x ∈ [T.leaf 0, T.leaf 1] ↔ ∃ t, (t, x, true) ∈ F5.nodes ∧ Anc (1, 0) t := by
  intro x
  rw [leaves_below_iff, F5_nodes]
  exact Iff.rfl

theorem R20_spec : ∀ x, x ∈ [T.leaf 0, T.leaf 1, T.leaf 2, T.leaf 3] ↔
    ∃ t, (t, x, true) ∈ F5.nodes ∧ Anc (2, 0) t := by
  intro x
  rw [leaves_below_iff, F5_nodes]
  exact Iff.rfl

example : Hyg (F5.delLeaves [T.leaf 2]) ∧
    (F5.delLeaves [T.leaf 2]).liveLeaves = [T.leaf 0, T.leaf 1, T.leaf 3, T.leaf 4] :=
  ⟨hyg_delLeaves F5_hyg _, by rw [liveLeaves_delLeaves]; decide⟩

example := del_nonroot F5 (by decide) F5_hyg (d := (0, 2)) (h := T.leaf 2) (b := true)
  (by rw [F5_nodes]; decide) (by decide) [T.leaf 2] R2_spec

example : ((1, 1), T.leaf 3, true) ∈ (F5.delLeaves [T.leaf 0, T.leaf 1]).nodes :=
  (del_nonroot F5 (by decide) F5_hyg (d := (1, 0)) (h := .node (.leaf 0) (.leaf 1)) (b := false)
    (by rw [F5_nodes]; decide) (by decide) [T.leaf 0, T.leaf 1] R10_spec).2.2.1 (0, 3) (.leaf 3) true
      (by decide) (by rw [F5_nodes]; decide)

example : ∀ e : Pos × T × Bool, e ∈ (F5.delLeaves [T.leaf 0, T.leaf 1, T.leaf 2, T.leaf 3]).nodes ↔
    (¬ Anc (2, 0) e.1 ∧ e ∈ F5.nodes) ∨ e = ((2, 0), T.z, false) :=
  del_root F5 (by decide) F5_hyg (d := (2, 0)) (by decide) _ R20_spec

end Example

#print axioms hyg_delLeaves
#print axioms liveLeaves_delLeaves
#print axioms del_root
#print axioms del_nonroot
#print axioms prune_inside
end UtreexoVerif.Proofs.PForestDel
