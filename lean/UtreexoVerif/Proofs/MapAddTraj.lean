/-
  The trajectory of one addition, by index: `traj n Y os a0 k` is the placed forest after `k` merge steps of
  `addSingle` (the untouched trees `Y`, the low trees on the rows `k, k+1, …` still to be merged, the tree merged
  so far at the spine position `(k, n >>> k)`).  `traj_step` is the link between two neighbours, `traj_ok` the
  well-formedness of every member.  The merging loop of `addSingle` walks the trajectory upwards, the loop of
  `undoSingleAdd` downwards.
-/
import UtreexoVerif.Proofs.PForestAdd


namespace UtreexoVerif.Proofs.MapAddTraj
open Spec PForest
open PForestAdd
set_option linter.unusedSectionVars false
variable {H : Type} [DecidableEq H] [Hasher H]

def traj (n : Nat) (Y : PF H) (os : List (Option (CTree H))) (a0 : CTree H) (k : Nat) : PF H :=
  Y ++ lowV n k (os.drop k) ++ [((k, n >>> k), some (mergeLow (os.take k) a0))]

variable {n : Nat} {Y : PF H} {os : List (Option (CTree H))} {a0 : CTree H}

theorem traj_zero : traj n Y os a0 0 = Y ++ lowV n 0 os ++ [((0, n), some a0)] := rfl

theorem traj_last {t : Nat} (hlen : os.length = t) :
    traj n Y os a0 t = Y ++ [((t, n >>> t), some (mergeLow os a0))] := by
  unfold traj
  rw [List.drop_of_length_le (Nat.le_of_eq hlen), List.take_of_length_le (Nat.le_of_eq hlen)]
  show Y ++ [] ++ _ = _
  rw [List.append_nil]

theorem mergeLow_leaf : ∀ (os : List (Option (CTree H))) (a : CTree H) (y : H),
    mergeLow os a = .leaf y → a = .leaf y
  | [], a, y, h => h
  | some t :: os, a, y, h => by
    have := mergeLow_leaf os (.node t a) y h
    cases this
  | none :: os, a, y, h => mergeLow_leaf os a y h

theorem lowV_getElem (n : Nat) : ∀ (os : List (Option (CTree H))) (k0 i : Nat) (h : i < os.length),
    (rootPos n (k0 + i), os[i]) ∈ lowV n k0 os
  | o :: os, k0, 0, _ => List.mem_append_right _ List.mem_cons_self
  | o :: os, k0, i + 1, h => by
    have := lowV_getElem n os (k0 + 1) i (Nat.lt_of_succ_lt_succ h)
    rw [show k0 + 1 + i = k0 + (i + 1) by omega] at this
    exact List.mem_append_left _ this

theorem traj_step {k : Nat} (hk : k < os.length) :
    ∃ (Yk : PF H) (o : Option (CTree H)) (a : CTree H),
      (rootPos n k, o) ∈ Y ++ lowV n 0 os ∧ (∀ y, a = .leaf y → a0 = .leaf y) ∧
      traj n Y os a0 k = Yk ++ [(rootPos n k, o), ((k, n >>> k), some a)] ∧
      traj n Y os a0 (k + 1) = Yk ++ [((k + 1, n >>> (k + 1)), some (match o with | some tr => .node tr a | none => a))] := by
  refine ⟨Y ++ lowV n (k + 1) (os.drop (k + 1)), os[k], mergeLow (os.take k) a0, ?_, fun y => mergeLow_leaf _ _ y, ?_, ?_⟩
  · have := lowV_getElem n os 0 k hk
    rw [Nat.zero_add] at this
    exact List.mem_append_right _ this
  · unfold traj
    rw [List.drop_eq_getElem_cons hk]
    show Y ++ (lowV n (k + 1) (os.drop (k + 1)) ++ [(rootPos n k, os[k])]) ++ _ = _
    rw [← List.append_assoc Y, List.append_assoc (Y ++ _)]
    rfl
  · unfold traj
    rw [List.take_succ_eq_append_getElem hk]
    have := mergeLow_snoc (os.take k) os[k] a0
    cases ho : os[k] with
    | some tr => rw [ho] at this; rw [Option.some.inj this]
    | none => rw [ho] at this; rw [Option.some.inj this]

theorem traj_ok (ok0 : OK (traj n Y os a0 0)) (hbits : ∀ i, i < os.length → n.testBit i = true) :
    ∀ k, k ≤ os.length → OK (traj n Y os a0 k)
  | 0, _ => ok0
  | k + 1, hk => by
    have ok := traj_ok ok0 hbits k (Nat.le_of_succ_le hk)
    obtain ⟨Yk, o, a, _, _, e0, e1⟩ := traj_step (n := n) (Y := Y) (a0 := a0) hk
    obtain ⟨hρσ, heven, hPσ, hPρ⟩ := acc_geo (hbits k hk)
    rw [e0] at ok
    rw [e1]
    cases o with
    | some tr =>
      rw [show (k, n >>> k) = sib (rootPos n k) by rw [hρσ, CalcGeo.sib_sib]] at ok
      obtain ⟨ok', _⟩ := stepA_pf Yk (rootPos n k) tr a heven ok
      rwa [hPρ] at ok'
    | none =>
      rw [hρσ] at ok
      obtain ⟨ok', _⟩ := stepB_pf Yk (k, n >>> k) a ok
      rwa [hPσ] at ok'

end UtreexoVerif.Proofs.MapAddTraj
