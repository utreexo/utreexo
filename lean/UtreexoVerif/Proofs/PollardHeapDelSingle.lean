/-
  Pointer forest, heap model: `deleteSingle` on one represented tree (collapsed-tree level).

  * `deleteSingle_tree_root`: the deleted node is a child of the root — its sibling's content
    moves into the root node;
  * `deleteSingle_tree_aunt`: the deleted node lies deeper — its sibling takes the place of the
    parent, `hashToRoot` re-computes the ancestors.

  The position side comes in as ONE hypothesis `hget`: "whatever pair `(A, B)` the child path of the deleted
  node reaches on the heap, `getNode (sibling del)` returns it" — the tree-level lemmas need nothing else about
  positions, and `deleteSingle_absD` discharges it by `getNode_pos`.
-/
import UtreexoVerif.Proofs.PollardHeapDelSurg
import UtreexoVerif.Proofs.PollardHeapDelHash

namespace UtreexoVerif.Proofs.PollardHeap
open UtreexoVerif.Model UtreexoVerif.Model.PollardHeap UtreexoVerif.Spec
open UtreexoVerif.Model.PollardAbs

variable {H : Type} [DecidableEq H] [Hasher H]

theorem deleteSingle_tree_root {hp : Heap H} {nm : List (H × Nat)} {rs : List Nat} {nl ndl : U64}
    {full : Bool} {r : Nat} {x y : CTree H} {fp : List Nat} {lv : List (H × Nat)} (d : Bool)
    (hR : RootRepr hp r (.node x y) fp lv) (nd : (r :: fp).Nodup) (del : U64)
    (hget : ∀ A B, walkChild hp r r [d] = some (A, B) →
      ∃ par, getNode (sibling del) ⟨hp, nm, rs, nl, ndl, full⟩ =
        (.ok (some B, some A, par), ⟨hp, nm, rs, nl, ndl, full⟩))
    (hroot : isRootPosition (Parent del (TreeRows nl)) nl = true) :
    ∃ (hp' : Heap H) (A B : Nat) (fa fb : List Nat) (la lb : List (H × Nat)),
      Sub hp A B (sel d x y) fa la ∧ Sub hp B A (sel d y x) fb lb ∧
      (A :: B :: (fa ++ fb)).Perm fp ∧ lv = sel d (la ++ lb) (lb ++ la) ∧
      deleteSingle del ⟨hp, nm, rs, nl, ndl, full⟩ =
        (.ok (), ⟨hp', mapDel (mapMoveTo nm (sel d y x).hash r) (sel d x y).hash, rs, nl, ndl, full⟩) ∧
      RootRepr hp' r (sel d y x) fb (relabelTop (sel d y x) r lb) ∧
      Off (r :: fp) hp hp' ∧ hp'.size = hp.size := by
  obtain ⟨⟨rn, hr, ar⟩, hs⟩ := hR
  -- `A` = the node deleted, `B` = its sibling
  obtain ⟨A, B, fA, fB, lA, lB, k, subA, subB, pf, elv, hw⟩ := hs.kids_at d
  obtain ⟨⟨an, hA, aA⟩, ⟨bn, hB, aB⟩⟩ := k.sel_c
  obtain ⟨par, hget'⟩ := hget A B hw
  have ndAB : (r :: A :: B :: (fA ++ fB)).Nodup := ((pf.cons r).nodup_iff).2 nd
  obtain ⟨h2', h3', h4', x2, x3, x4, hP3, hA3, x5, hsz, hframe, hroot'⟩ :=
    surgeryRoot hA hB hr aA aB subA subB ndAB nm rs nl ndl full
  have hpar : getParent (some A) ⟨hp, nm, rs, nl, ndl, full⟩ =
      (.ok (some r), ⟨hp, nm, rs, nl, ndl, full⟩) :=
    getParent_child (up := .top) hA aA (CtxRepr.top hr ar)
      (by simp)
  refine ⟨h4'.modify r (fun x => { x with aunt := none }), A, B, fA, fB, lA, lB,
    subA, subB, pf, elv, ?_, hroot', hframe.mono fun j hm => (pf.cons r).mem_iff.1 hm,
    by simp [hsz]⟩
  rw [← subB.data_eq hB, ← subA.data_eq hA]
  unfold deleteSingle
  refine (bind_ok hget').trans ?_
  dsimp only
  refine (bind_ok hpar).trans ?_
  refine (bind_ok (rd_run hA)).trans ?_
  refine (bind_ok (rd_run hr)).trans ?_
  simp only [ar]
  refine (bind_ok (rd_run hB)).trans ?_
  refine (bind_ok (deref_some r _)).trans ?_
  refine (bind_ok setNode_run).trans ?_
  refine (bind_ok x2).trans ?_
  refine (bind_ok x3).trans ?_
  refine (bind_ok x4).trans ?_
  refine (bind_ok (node_run hP3)).trans ?_
  refine (bind_ok nodeMapGet_run).trans ?_
  refine (moveTo_bind _ _ _).trans ?_
  refine (bind_ok (rd_run hA3)).trans ?_
  refine (bind_ok nodeMapDel_run).trans ?_
  refine (bind_ok (x5 _)).trans ?_
  refine (bind_ok getNumLeaves_run).trans ?_
  refine (bind_ok (deref_some r _)).trans ?_
  simp only [hroot, if_true, setNode_apply]

/-- `deleteSingle`, the parent `P` of the deleted node `A` is not the root: the picture is a context two
levels deep — `A` with its sibling `B` below `P`, `P` with its sibling `S` below the grand-parent.  After the
surgery `B` stands where `P` stood; `hashToRoot` from the grand-parent closes the context. -/
theorem deleteSingle_aunt_core {hp : Heap H} {nm : List (H × Nat)} {rs : List Nat} {nl ndl : U64}
    {full : Bool} {r : Nat} {up : CCtx H} {d pl : Bool} {ts a b : CTree H} {A B : Nat}
    {fpc fa : List Nat} {l1 l2 la : List (H × Nat)}
    (hctx : CtxRepr hp r (CCtx.cons d (CCtx.cons pl up ts) b) A B fpc l1 l2)
    (subA : Sub hp A B a fa la) {fp : List Nat} (nd0 : (r :: fp).Nodup) (hfp : (fpc ++ fa).Perm fp)
    (del : U64) (par : Ptr)
    (hget : getNode (sibling del) ⟨hp, nm, rs, nl, ndl, full⟩ =
      (.ok (some B, some A, par), ⟨hp, nm, rs, nl, ndl, full⟩))
    (hroot : isRootPosition (Parent del (TreeRows nl)) nl = false) :
    ∃ hp' fp', deleteSingle del ⟨hp, nm, rs, nl, ndl, full⟩ =
        (.ok (), ⟨hp', mapDel nm a.hash, rs, nl, ndl, full⟩) ∧
      RootRepr hp' r ((CCtx.cons pl up ts).plug b) fp' (l1 ++ l2) ∧
      (r :: fp').Nodup ∧ (∀ i ∈ fp', i ∈ fp) ∧
      Off (r :: fp) hp hp' ∧ hp'.size = hp.size := by
  obtain ⟨P, S, fb, fpu1, lb, l1a, l2a, hctx1, kS, subB, rfl, rfl, rfl⟩ := hctx.cons_inv
  obtain ⟨G, HG, fs, fpu, ls, l1u, l2u, hu, kHG, subS, rfl, rfl, rfl⟩ := hctx1.cons_inv
  obtain ⟨hgn, hHG, _⟩ := kHG.holder
  obtain ⟨⟨an, hA, aA⟩, _⟩ := kS.sel_c
  obtain ⟨⟨pn, hP, aP⟩, _⟩ := kHG.sel_c
  -- distinctness: the upper context, the five nodes, the three footprints
  have hp0 : (fpu ++ (P :: S :: A :: B :: (fa ++ fb ++ fs))).Perm
      (A :: B :: (fb ++ (P :: S :: (fs ++ fpu))) ++ fa) := by perm_count
  have hfp' : ((r :: fpu) ++ (P :: S :: A :: B :: (fa ++ fb ++ fs))).Perm (r :: fp) :=
    (hp0.trans hfp).cons r
  have nd := hfp'.nodup_iff.2 nd0
  obtain ⟨ndu, ndlow, hdis⟩ := List.nodup_append.1 nd
  have ndS : (HG :: P :: S :: A :: B :: (fa ++ fb ++ fs)).Nodup :=
    List.nodup_cons.2 ⟨fun h => hdis HG (hu.holder_mem) HG h rfl, ndlow⟩
  have nHGP : HG ≠ P := hdis HG (hu.holder_mem) P List.mem_cons_self
  have ndc : (r :: (A :: B :: (fb ++ (P :: S :: (fs ++ fpu))) ++ fa)).Nodup := (hfp.cons r).nodup_iff.2 nd0
  have nd1 : (r :: P :: S :: (fs ++ fpu)).Nodup :=
    ndc.sublist (.cons_cons r (.cons A (.cons B ((List.sublist_append_right fb _).trans
      (List.sublist_append_left _ fa)))))
  simp only [List.nodup_cons, List.mem_cons, List.mem_append, not_or] at ndlow
  obtain ⟨⟨nPS, _, nPB, ⟨_, nPfb⟩, nPfs⟩, _⟩ := ndlow
  obtain ⟨h1, h2, h3, h4, x1, x2, x3, hP3, x4, hA3, x5, hsz4, hframe4, hHG4, hP4, k4, subB4, subS4⟩ :=
    surgeryAunt hA hP hHG kS kHG subA subB subS ndS nm rs nl ndl full
  have hparA : getParent (some A) ⟨hp, nm, rs, nl, ndl, full⟩ = _ := getParent_child hA aA hctx1 nd1
  have hdata_a : an.data = a.hash := subA.data_eq hA
  -- the upper context survives: only its niece holder `HG` was written (niece pointer)
  have hu4 : CtxRepr h4 r up G HG fpu l1u l2u := by
    apply hu.frame_holder ndu
    · intro i hi hne
      exact hframe4 i fun h => (List.mem_cons.1 h).elim hne (fun h' => hdis i hi i h' rfl)
    · intro x hx
      rw [hHG] at hx; cases hx
      refine ⟨_, hHG4, ?_, ?_⟩ <;> (unfold replK; split <;> rfl)
  have hparP : ∀ nm', getParent (some P) ⟨h4, nm', rs, nl, ndl, full⟩ =
      (.ok (some G), ⟨h4, nm', rs, nl, ndl, full⟩) := fun nm' =>
    getParent_child hP4 aP hu4 ndu
  obtain ⟨sibG, hsib⟩ : ∃ x, getSibling (some G) ⟨h4, mapDel nm an.data, rs, nl, ndl, full⟩ = (.ok x, _) :=
    getSibling_ctx hu4 ndu
  -- the writes to the detached `P`
  obtain ⟨h5, h5_def⟩ : ∃ h5 : Heap H, h5 = (if sibG.isNone
      then (h4.modify P (fun x => { x with aunt := sibG })).modify P (fun x => { x with aunt := some G })
      else h4.modify P (fun x => { x with aunt := sibG })) := ⟨_, rfl⟩
  have o5 : Off [P] h4 h5 := by
    rw [h5_def]; split
    · exact ((Off.modify h4 P _).trans (Off.modify _ P _)).mono (by simp)
    · exact Off.modify h4 P _
  have hsz5 : h5.size = hp.size := by rw [h5_def]; split <;> simp only [Array.size_modify, hsz4]
  have nP : ∀ {i}, i ≠ P → i ∉ [P] := fun h => by simpa using h
  have hu5 : CtxRepr h5 r up G HG fpu l1u l2u :=
    hu4.frame (fun i hi => o5 i (nP fun e => hdis i hi P List.mem_cons_self e))
  have kids5 : Kids h5 HG (sel pl B S) (sel pl S B) :=
    k4.off o5 (nP nHGP) (sel_ind (P := (· ∉ [P])) pl (nP (Ne.symm nPB)) (nP (Ne.symm nPS)))
      (sel_ind (P := (· ∉ [P])) pl (nP (Ne.symm nPS)) (nP (Ne.symm nPB)))
  have subB5 := subB4.off o5 (nP (Ne.symm nPB)) (nP (Ne.symm nPS)) (fun i hi => nP fun e => nPfb (e ▸ hi))
  have subS5 := subS4.off o5 (nP (Ne.symm nPS)) (nP (Ne.symm nPB)) (fun i hi => nP fun e => nPfs (e ▸ hi))
  -- what is left is, reordered, a sub-list of the old footprint
  have hperm : (fpu ++ (B :: S :: (fb ++ fs))).Perm (B :: (fb ++ (S :: (fs ++ fpu)))) := by perm_count
  have hsub : (B :: (fb ++ (S :: (fs ++ fpu)))).Sublist (A :: B :: (fb ++ (P :: S :: (fs ++ fpu))) ++ fa) :=
    .cons A (.cons_cons B (((List.Sublist.refl fb).append (.cons P (List.Sublist.refl _))).trans
      (List.sublist_append_left _ fa)))
  have nd5 : (r :: fpu ++ (B :: S :: (fb ++ fs))).Nodup :=
    ((hperm.cons r).nodup_iff).2 (ndc.sublist (hsub.cons_cons r))
  obtain ⟨hp', g1, g2, g3, fp', g5, g6⟩ := CtxRepr.close (d := pl)
    ⟨h5, mapDel nm an.data, rs, nl, ndl, full⟩ hu5 kids5 subS5 subB5 nd5
  refine ⟨hp', fp', ?_, ?_, ((g6.cons r).nodup_iff).2 nd5,
    fun i hi => hfp.mem_iff.1 (hsub.subset (hperm.mem_iff.1 (g6.mem_iff.1 hi))), ?_,
    by rw [g2]; exact hsz5⟩
  · rw [← hdata_a]
    unfold deleteSingle
    refine (bind_ok hget).trans ?_
    dsimp only
    refine (bind_ok hparA).trans ?_
    refine (bind_ok (rd_run hA)).trans ?_
    refine (bind_ok (rd_run hP)).trans ?_
    simp only [aP, aA]
    refine (bind_ok (ignoreErr_ok x1)).trans ?_
    refine (bind_ok x2).trans ?_
    refine (bind_ok x3).trans ?_
    refine (bind_ok (rd_run hP3)).trans ?_
    simp only [aP]
    refine (bind_ok x4).trans ?_
    refine (bind_ok (rd_run hA3)).trans ?_
    refine (bind_ok nodeMapDel_run).trans ?_
    refine (bind_ok (x5 _)).trans ?_
    refine (bind_ok getNumLeaves_run).trans ?_
    refine (bind_ok (deref_some P _)).trans ?_
    simp only [hroot, Bool.false_eq_true, if_false]
    refine (bind_ok (hparP _)).trans ?_
    -- `toNode.aunt, err = parentNode.getSibling()`
    refine (bind_ok (a := (sibG, false)) (s' := ⟨h4, mapDel nm an.data, rs, nl, ndl, full⟩) ?_).trans ?_
    · show (match getSibling (some G) ⟨h4, mapDel nm an.data, rs, nl, ndl, full⟩ with
        | (.ok a, s') => ((.ok (a, false), s') : Out (Ptr × Bool) × Pollard H)
        | (.err, s') => (.ok (none, true), s')
        | (.panic, s') => (.panic, s')
        | (.hang, s') => (.hang, s')) = _
      rw [hsib]
    refine (bind_ok setNode_run).trans ?_
    simp only [Bool.false_eq_true, if_false]
    refine (bind_ok (node_ok (n := { pn with lNiece := none, rNiece := none, aunt := sibG }) ?_)).trans ?_
    · show (h4.modify P _)[P]? = _
      rw [Array.getElem?_modify, if_pos rfl, hP4]; rfl
    cases hx : sibG with
    | none =>
      rw [hx] at h5_def
      simp only [Option.isNone_none, if_true] at h5_def ⊢
      refine (bind_ok setNode_run).trans ?_
      rw [← h5_def]
      exact g1
    | some q =>
      rw [hx] at h5_def
      simp only [Option.isNone_some, Bool.false_eq_true, if_false] at h5_def ⊢
      rw [← h5_def]
      exact g1
  · rw [sel_hole_nil, sel_hole]
    exact g5
  · intro j hj0
    have hj : j ∉ (r :: fpu) ++ (P :: S :: A :: B :: (fa ++ fb ++ fs)) := fun h => hj0 (hfp'.mem_iff.1 h)
    have hju : j ∉ r :: fpu := fun h => hj (List.mem_append_left _ h)
    have hjl : j ∉ P :: S :: A :: B :: (fa ++ fb ++ fs) := fun h => hj (List.mem_append_right _ h)
    rw [g3 j hju]
    show h5[j]? = hp[j]?
    rw [o5 j (nP fun e => hjl (e ▸ List.mem_cons_self))]
    exact hframe4 j fun h => (List.mem_cons.1 h).elim (fun e => hju (e ▸ hu.holder_mem)) hjl

theorem deleteSingle_tree_aunt {hp : Heap H} {nm : List (H × Nat)} {rs : List Nat} {nl ndl : U64}
    {full : Bool} {r : Nat} {t : CTree H} {fp : List Nat} {lv : List (H × Nat)} (π1 : List Bool)
    (d : Bool) (a : CTree H)
    (hR : RootRepr hp r t fp lv) (nd : (r :: fp).Nodup) (hne : π1 ≠ [])
    (hpath : childPath t (π1 ++ [d]) = some a) (del : U64)
    (hget : ∀ A B, walkChild hp r r (π1 ++ [d]) = some (A, B) →
      ∃ par, getNode (sibling del) ⟨hp, nm, rs, nl, ndl, full⟩ =
        (.ok (some B, some A, par), ⟨hp, nm, rs, nl, ndl, full⟩))
    (hroot : isRootPosition (Parent del (TreeRows nl)) nl = false) :
    ∃ (hp' : Heap H) (ctx : CCtx H) (b : CTree H) (fp' : List Nat) (pre la post : List (H × Nat)),
      t = ctx.plug (if d then .node b a else .node a b) ∧ ctx.depth = π1.length ∧
      lv = pre ++ la ++ post ∧ la.map (·.1) = a.leaves ∧
      deleteSingle del ⟨hp, nm, rs, nl, ndl, full⟩ =
        (.ok (), ⟨hp', mapDel nm a.hash, rs, nl, ndl, full⟩) ∧
      RootRepr hp' r (ctx.plug b) fp' (pre ++ post) ∧ (r :: fp').Nodup ∧ (∀ i ∈ fp', i ∈ fp) ∧
      Off (r :: fp) hp hp' ∧ hp'.size = hp.size := by
  obtain ⟨ctx', A, B, fa, la, fpc, l1, l2, hctx, subA, eplug, hperm, elv, hwalk, hdepth, hrev⟩ := RootRepr.zoom hR hpath
  obtain ⟨par, hget'⟩ := hget A B hwalk
  rw [List.reverse_append, List.reverse_cons, List.reverse_nil, List.nil_append, List.singleton_append] at hrev
  obtain ⟨pl, up, ts, b, rfl⟩ := CCtx.two_deep hrev (by simpa using hne)
  obtain ⟨hp', fp', g1, g2, g3, g4, g5, g6⟩ := deleteSingle_aunt_core hctx subA nd hperm del par hget' hroot
  refine ⟨hp', _, b, fp', _, la, _, ?_, ?_, elv, subA.leaves, g1, g2, g3, g4, g5, g6⟩
  · rw [eplug, CCtx.plug_cons]; cases d <;> rfl
  · rw [CCtx.depth_cons] at hdepth; simpa using hdepth

end UtreexoVerif.Proofs.PollardHeap
