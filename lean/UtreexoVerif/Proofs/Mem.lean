/-
  The frame theorem of C17 over Model/Mem.lean and the soundness of the provenance discipline.
  `Frame base h h'`: every array below `base` is untouched; one operation whose destination (if any)
  is rooted at or above `base` keeps it (`step_frame`), so does a run (`run_frame`; `Props/C17.frame`
  is its projection).  `TagInv`: the static tags describe the registers; a well-tagged program meets
  the dynamic condition of the frame theorem (`wellTagged_writesFresh`).
-/
import UtreexoVerif.Model.Mem

namespace UtreexoVerif.Proofs.Mem
open UtreexoVerif.Model.Mem

variable {α : Type}

def Frame (base : Nat) (h h' : Heap α) : Prop :=
  h.arrays.length ≤ h'.arrays.length ∧ ∀ id, id < base → h'.arrays[id]? = h.arrays[id]?

theorem Frame.refl (base : Nat) (h : Heap α) : Frame base h h := ⟨Nat.le_refl _, fun _ _ => rfl⟩

theorem Frame.trans {base : Nat} {h1 h2 h3 : Heap α} (a : Frame base h1 h2) (b : Frame base h2 h3) :
    Frame base h1 h3 :=
  ⟨Nat.le_trans a.1 b.1, fun id hid => (b.2 id hid).trans (a.2 id hid)⟩

theorem frame_writeArr {base : Nat} (h : Heap α) (id off : Nat) (vs : List α) (hid : base ≤ id) :
    Frame base h (h.writeArr id off vs) := by
  refine ⟨by simp [Heap.writeArr], fun j hj => ?_⟩
  have hne : id ≠ j := by omega
  simp [Heap.writeArr, List.getElem?_set_ne hne]

theorem frame_alloc {base : Nat} (h : Heap α) (n c : Nat) (zero : α) (hb : base ≤ h.arrays.length) :
    Frame base h (h.alloc n c zero).1 := by
  refine ⟨by simp [Heap.alloc], fun j hj => ?_⟩
  have : j < h.arrays.length := by omega
  simp [Heap.alloc, List.getElem?_append_left this]

theorem frame_store {base : Nat} (h h' : Heap α) (s : Slice) (i : Nat) (v : α) (hs : base ≤ s.arr)
    (e : h.store s i v = some h') : Frame base h h' := by
  unfold Heap.store at e
  split at e
  · cases e; exact frame_writeArr h _ _ _ hs
  · cases e

theorem frame_append {base : Nat} (h : Heap α) (s : Slice) (vs : List α) (zero : α) (hs : base ≤ s.arr)
    (hb : base ≤ h.arrays.length) : Frame base h (h.append s vs zero).1 := by
  unfold Heap.append
  split
  · exact frame_writeArr h _ _ _ hs
  · refine ⟨by simp, fun j hj => ?_⟩
    have : j < h.arrays.length := by omega
    simp [List.getElem?_append_left this]

theorem frame_copy {base : Nat} (h : Heap α) (d q : Slice) (hs : base ≤ d.arr) :
    Frame base h (h.copy d q).1 := by
  unfold Heap.copy
  exact frame_writeArr h _ _ _ hs

theorem append_arr (h : Heap α) (s : Slice) (vs : List α) (zero : α) :
    (h.append s vs zero).2.arr = s.arr ∨ (h.append s vs zero).2.arr = h.arrays.length := by
  unfold Heap.append
  split
  · exact Or.inl rfl
  · exact Or.inr rfl

theorem step_frame {base : Nat} (zero : α) (st st' : St α) (op : Op α)
    (e : step zero st op = some st') (hd : destFresh base st op = true)
    (hb : base ≤ st.heap.arrays.length) : Frame base st.heap st'.heap := by
  cases op with
  | make n c =>
    simp only [step, Option.some.injEq] at e
    subst e
    exact frame_alloc _ _ _ _ hb
  | reslice r lo hi =>
    simp only [step] at e
    split at e
    · split at e
      · cases e; exact Frame.refl _ _
      · cases e
    · cases e
  | store r i v =>
    simp only [step] at e
    split at e
    · rename_i s hs
      split at e
      · rename_i h' hh
        cases e
        have : base ≤ s.arr := by simpa [destFresh, Op.dest, hs] using hd
        exact frame_store _ _ _ _ _ this hh
      · cases e
    · cases e
  | storeFrom r i q j =>
    simp only [step] at e
    split at e
    · rename_i s t hs ht
      split at e
      · split at e
        · rename_i h' hh
          cases e
          have : base ≤ s.arr := by simpa [destFresh, Op.dest, hs] using hd
          exact frame_store _ _ _ _ _ this hh
        · cases e
      · cases e
    · cases e
  | appendVals r vs =>
    simp only [step] at e
    split at e
    · rename_i s hs
      cases e
      have : base ≤ s.arr := by simpa [destFresh, Op.dest, hs] using hd
      exact frame_append _ _ _ _ this hb
    · cases e
  | appendSlice r q =>
    simp only [step] at e
    split at e
    · rename_i s t hs ht
      cases e
      have : base ≤ s.arr := by simpa [destFresh, Op.dest, hs] using hd
      exact frame_append _ _ _ _ this hb
    · cases e
  | copy d q =>
    simp only [step] at e
    split at e
    · rename_i s t hs ht
      cases e
      have : base ≤ s.arr := by simpa [destFresh, Op.dest, hs] using hd
      exact frame_copy _ _ _ this
    · cases e

theorem run_frame {base : Nat} (zero : α) (ops : List (Op α)) :
    ∀ (st st' : St α), run zero st ops = some st' → writesFresh zero base st ops = true →
      base ≤ st.heap.arrays.length → Frame base st.heap st'.heap := by
  induction ops with
  | nil =>
    intro st st' e _ _
    simp only [run, Option.some.injEq] at e
    subst e
    exact Frame.refl _ _
  | cons op rest ih =>
    intro st st' e hw hb
    simp only [run] at e
    split at e
    · rename_i st1 h1
      simp only [writesFresh, h1, Bool.and_eq_true] at hw
      have f1 := step_frame zero st st1 op h1 hw.1 hb
      have f2 := ih st1 st' e hw.2 (Nat.le_trans hb f1.1)
      exact f1.trans f2
    · cases e

def TagInv (base : Nat) (st : St α) (tags : List Tag) : Prop :=
  tags.length = st.regs.length ∧
  ∀ (r : Nat) (s : Slice), st.regs[r]? = some s → tags[r]? = some Tag.fresh → base ≤ s.arr

theorem TagInv.push {base : Nat} {st : St α} {tags : List Tag} (inv : TagInv base st tags) (h : Heap α)
    (s : Slice) (t : Tag) (hs : t = Tag.fresh → base ≤ s.arr) :
    TagInv base ⟨h, st.regs ++ [s]⟩ (tags ++ [t]) := by
  refine ⟨by simp [inv.1], fun r s' hr ht => ?_⟩
  by_cases hlt : r < st.regs.length
  · have hlt' : r < tags.length := by rw [inv.1]; exact hlt
    rw [List.getElem?_append_left hlt] at hr
    rw [List.getElem?_append_left hlt'] at ht
    exact inv.2 r s' hr ht
  · have hge : st.regs.length ≤ r := by omega
    have hge' : tags.length ≤ r := by rw [inv.1]; exact hge
    rw [List.getElem?_append_right hge] at hr
    rw [List.getElem?_append_right hge'] at ht
    have h0 : r - st.regs.length = 0 := by
      cases hh : r - st.regs.length with
      | zero => rfl
      | succ k => rw [hh] at hr; simp at hr
    rw [h0] at hr
    rw [inv.1, h0] at ht
    simp at hr ht
    subst hr
    exact hs ht

theorem TagInv.heap {base : Nat} {st : St α} {tags : List Tag} (inv : TagInv base st tags) (h : Heap α) :
    TagInv base ⟨h, st.regs⟩ tags := ⟨inv.1, inv.2⟩

theorem destFresh_of {base : Nat} (st : St α) (op : Op α) (r : Nat) (hd : op.dest = some r)
    (h : ∀ s : Slice, st.regs[r]? = some s → base ≤ s.arr) : destFresh base st op = true := by
  unfold destFresh
  rw [hd]
  show (match st.regs[r]? with | some s => decide (base ≤ s.arr) | none => true) = true
  split
  · rename_i s hs
    simpa using h s hs
  · rfl

theorem tagStep_dest {tags tags' : List Tag} {op : Op α} (ht : tagStep tags op = some tags') {r : Nat}
    (hd : op.dest = some r) : tags[r]? = some Tag.fresh := by
  cases op with
  | make _ _ | reslice _ _ _ => cases hd
  | store _ _ _ | storeFrom _ _ _ _ | appendVals _ _ | appendSlice _ _ | copy _ _ =>
    cases hd
    simp only [tagStep] at ht
    split at ht
    · assumption
    · cases ht

theorem tagStep_destFresh {base : Nat} (st : St α) (tags tags' : List Tag) (op : Op α)
    (inv : TagInv base st tags) (ht : tagStep tags op = some tags') : destFresh base st op = true := by
  cases hd : op.dest with
  | none => simp only [destFresh, hd]
  | some r => exact destFresh_of st op r hd (fun s hs => inv.2 r s hs (tagStep_dest ht hd))

theorem reslice_arr (s s' : Slice) (lo hi : Nat) (e : s.reslice lo hi = some s') : s'.arr = s.arr := by
  unfold Slice.reslice at e
  split at e
  · cases e; rfl
  · cases e

theorem tagStep_inv {base : Nat} (zero : α) (st st' : St α) (tags tags' : List Tag) (op : Op α)
    (e : step zero st op = some st') (ht : tagStep tags op = some tags') (inv : TagInv base st tags)
    (hb : base ≤ st.heap.arrays.length) : TagInv base st' tags' := by
  cases op with
  | make n c =>
    simp only [step, Option.some.injEq] at e
    simp only [tagStep, Option.some.injEq] at ht
    subst e; subst ht
    exact inv.push _ _ _ (fun _ => by simpa [Heap.alloc] using hb)
  | reslice r lo hi =>
    simp only [step] at e
    simp only [tagStep] at ht
    split at e
    · rename_i s hs
      split at e
      · rename_i s' hs'
        split at ht
        · rename_i t htr
          cases e; cases ht
          refine inv.push _ _ _ (fun htf => ?_)
          rw [reslice_arr s s' lo hi hs']
          exact inv.2 r s hs (by rw [htr, htf])
        · cases ht
      · cases e
    · cases e
  | store r i v =>
    simp only [step] at e
    simp only [tagStep] at ht
    split at ht
    · cases ht
      split at e
      · split at e
        · cases e; exact inv.heap _
        · cases e
      · cases e
    · cases ht
  | storeFrom r i q j =>
    simp only [step] at e
    simp only [tagStep] at ht
    split at ht
    · cases ht
      split at e
      · split at e
        · split at e
          · cases e; exact inv.heap _
          · cases e
        · cases e
      · cases e
    · cases ht
  | appendVals r vs =>
    simp only [step] at e
    simp only [tagStep] at ht
    split at ht
    · rename_i hf
      cases ht
      split at e
      · rename_i s hs
        cases e
        refine inv.push _ _ _ (fun _ => ?_)
        have hsb : base ≤ s.arr := inv.2 r s hs hf
        rcases append_arr st.heap s vs zero with h | h <;> rw [h] <;> assumption
      · cases e
    · cases ht
  | appendSlice r q =>
    simp only [step] at e
    simp only [tagStep] at ht
    split at ht
    · rename_i hf
      cases ht
      split at e
      · rename_i s t hs hq
        cases e
        refine inv.push _ _ _ (fun _ => ?_)
        have hsb : base ≤ s.arr := inv.2 r s hs hf
        rcases append_arr st.heap s (st.heap.read t) zero with h | h <;> rw [h] <;> assumption
      · cases e
    · cases ht
  | copy d q =>
    simp only [step] at e
    simp only [tagStep] at ht
    split at ht
    · cases ht
      split at e
      · cases e; exact inv.heap _
      · cases e
    · cases ht

theorem wellTagged_writesFresh {base : Nat} (zero : α) (ops : List (Op α)) :
    ∀ (st : St α) (tags : List Tag), wellTagged tags ops = true → TagInv base st tags →
      base ≤ st.heap.arrays.length → writesFresh zero base st ops = true := by
  induction ops with
  | nil => intro _ _ _ _ _; rfl
  | cons op rest ih =>
    intro st tags hw inv hb
    simp only [wellTagged] at hw
    split at hw
    · rename_i tags' ht
      have hd := tagStep_destFresh st tags tags' op inv ht
      simp only [writesFresh, hd, Bool.true_and]
      split
      · rename_i st1 h1
        have f1 := step_frame zero st st1 op h1 hd hb
        exact ih st1 tags' hw (tagStep_inv zero st st1 tags tags' op h1 ht inv hb) (Nat.le_trans hb f1.1)
      · rfl
    · cases hw

end UtreexoVerif.Proofs.Mem
