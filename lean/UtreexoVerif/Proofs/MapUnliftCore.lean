/-
  What un-lifting (one step of the descending loop of `undoDeletion`: `placeEmptyRoot d`, then the node
  at `parent d` goes back down to `sib d`) does to the abstract state (`unliftAll`, `unliftCAll`) and to
  the node list (`Del`); the step on the invariant is `GIH.unlift` in `Proofs/MapUnlift.lean`.

  `HInvP` is `HInv` of `Proofs/MapUndoDefs.lean` with "nothing unneeded" (`only_needed`) stated for a
  second cached set `Kp` (the cache at the END of `Undo`: old cache + re-inserted leaves); every other
  field speaks about `K`.  With one set (`Kp = K`) the step is false (`unliftCore_statement_false` in
  `Proofs/MapUnlift.lean`).
  `Undo` itself is proved on `MapGIH.GIH`; `HInv`/`HInvP` serve its readings for a partial forest and the examples.

  At the end `dropC`, the cache after a node has been dropped by `undoSingleAddLoop` (here because `MapUndoWeak` and
  `MapGIH` need it).  Namespace `MapUndoSteps`.
-/
import UtreexoVerif.Proofs.MapUndoDefs
import UtreexoVerif.Proofs.PForestDel
import UtreexoVerif.Proofs.MapRelocK

namespace UtreexoVerif.Proofs.MapUndoSteps
open Model Spec MapRep MapLiftGeo PForest MapAInv
  MapUndoDefs Hasher
set_option linter.unusedSectionVars false

variable {H : Type} [DecidableEq H] [Hasher H]

/-- the store after un-lifting at `d` (`σ = sib d`, `P = parent d`): `placeEmptyRoot d`, then the
node at `P` goes back to `σ` -/
def unliftAll (σ : Pos) (A : Pos → Option (Leaf H)) : Pos → Option (Leaf H) := fun q =>
  if q = σ then A (parent σ)
  else if SUnder σ q then A (liftP σ q)
  else if Anc (parent σ) q then none
  else A q

/-- the cache after un-lifting (including the entry of `parent σ` itself) -/
def unliftCAll (σ : Pos) (C : H → Option Pos) : H → Option Pos := fun x =>
  (C x).map (fun p => if p = parent σ then σ else if SUnder (parent σ) p ∧ 1 ≤ p.1 then unliftP σ p else p)


theorem unliftA_eq_all {σ q : Pos} (A : Pos → Option (Leaf H)) (h1 : q ≠ σ) (h2 : q ≠ parent σ) :
    unliftA σ A q = unliftAll σ A q := by
  unfold unliftA unliftAll
  rw [if_neg h1]
  have : SUnder (parent σ) q ↔ Anc (parent σ) q := ⟨fun h => h.1, fun h => sunder_of_ne h h2⟩
  simp only [this]

theorem unliftC_eq_all {σ : Pos} {C : H → Option Pos} {x : H} (hx : C x ≠ some (parent σ)) :
    unliftC σ C x = unliftCAll σ C x := by
  unfold unliftC unliftCAll
  cases hC : C x with
  | none => rfl
  | some p =>
    simp only [Option.map_some]
    rw [if_neg (fun e : p = parent σ => hx (by rw [hC, e]))]

/-- `HInv` with `only_needed` ("nothing unneeded is stored") relative to a second set `Kp` -/
structure HInvP (A : Pos → Option (Leaf H)) (C : H → Option Pos) (N : List (Pos × H × Bool))
    (R : Pos → Prop) (K Kp : H → Prop) (Hole : Pos → Prop) : Prop where
  true_hash : ∀ q l, A q = some l → ¬ Hole q → ∃ b, (q, l.hash, b) ∈ N
  cache_sub : ∀ x t, C x = some t → K x
  cached_pos : ∀ x t, C x = some t → (t, x, true) ∈ N ∧ ¬ Hole t
  kleaf_out : ∀ t, KLeaf N K t → ¬ Hole t
  leaf_stored : ∀ t, KLeaf N K t → A t ≠ none
  only_needed : ∀ q l, A q = some l → ¬ Hole q → ¬ R q → ∃ t, KLeaf N Kp t ∧ t.1 ≤ q.1 ∧ Anc (parent q) t
  has_needed : ∀ q h b, (q, h, b) ∈ N → ¬ Hole q → ¬ R q →
    (KLeaf N K q ∨ ∃ t, KLeaf N K t ∧ Anc (sib q) t) → A q ≠ none
  flags : ∀ q l, A q = some l → ¬ Hole q → l.hash ≠ zero → (l.remember = true ↔ KLeaf N K q)

section
variable {A : Pos → Option (Leaf H)} {C : H → Option Pos} {N : List (Pos × H × Bool)}
  {R : Pos → Prop} {K Kp : H → Prop} {Hole : Pos → Prop}

theorem KLeaf.mono {K K' : H → Prop} (h : ∀ x, K x → K' x) {t : Pos} (hk : KLeaf N K t) : KLeaf N K' t := by
  obtain ⟨x, hx, hm⟩ := hk
  exact ⟨x, h x hx, hm⟩

theorem HInvP.mono_Kp {Kp' : H → Prop} (inv : HInvP A C N R K Kp Hole) (hK : ∀ x, Kp x → Kp' x) :
    HInvP A C N R K Kp' Hole :=
  { inv with only_needed := fun q l hl hh hr =>
      let ⟨t, ht, h1, h2⟩ := inv.only_needed q l hl hh hr
      ⟨t, KLeaf.mono hK ht, h1, h2⟩ }

theorem HInvP.of_hinv (inv : HInv A C N R K Hole) (hK : ∀ x, K x → Kp x) : HInvP A C N R K Kp Hole :=
  HInvP.mono_Kp ⟨inv.true_hash, inv.cache_sub, inv.cached_pos, inv.kleaf_out, inv.leaf_stored, inv.only_needed,
    inv.has_needed, inv.flags⟩ hK

theorem HInvP.to_hinv (inv : HInvP A C N R K Kp Hole) (hK : ∀ x, Kp x → K x) : HInv A C N R K Hole :=
  let i := inv.mono_Kp hK
  ⟨i.true_hash, i.cache_sub, i.cached_pos, i.kleaf_out, i.leaf_stored, i.only_needed, i.has_needed, i.flags⟩

theorem HInvP.mono_hole {Hole' : Pos → Prop} (inv : HInvP A C N R K Kp Hole) (h : ∀ q, Hole q → Hole' q)
    (hk : ∀ t, KLeaf N K t → ¬ Hole' t) : HInvP A C N R K Kp Hole' where
  true_hash := fun q l hl hh => inv.true_hash q l hl (fun c => hh (h q c))
  cache_sub := inv.cache_sub
  cached_pos := fun x t hC =>
    ⟨(inv.cached_pos x t hC).1, hk t ⟨x, inv.cache_sub x t hC, (inv.cached_pos x t hC).1⟩⟩
  kleaf_out := hk
  leaf_stored := inv.leaf_stored
  only_needed := fun q l hl hh hr => inv.only_needed q l hl (fun c => hh (h q c)) hr
  has_needed := fun q h' b hm hh hr hreq => inv.has_needed q h' b hm (fun c => hh (h q c)) hr hreq
  flags := fun q l hl hh hnz => inv.flags q l hl (fun c => hh (h q c)) hnz

end


section
variable {A : Pos → Option (Leaf H)} {d : Pos}

theorem unliftAll_sib : unliftAll (sib d) A (sib d) = A (parent d) := by
  simp [unliftAll, CalcGeo.parent_sib]

theorem unliftAll_under {q : Pos} (hq : SUnder (sib d) q) : unliftAll (sib d) A q = A (liftP (sib d) q) := by
  have hne : q ≠ sib d := by
    intro e; have := hq.2; rw [e] at this; omega
  unfold unliftAll
  rw [if_neg hne, if_pos hq]

theorem unliftAll_out {q : Pos} (hq : ¬ Anc (parent d) q) : unliftAll (sib d) A q = A q := by
  have hne : q ≠ sib d := fun e => hq (by rw [e]; exact anc_parent_sib d)
  have hns : ¬ SUnder (sib d) q := fun h => hq (Anc.trans (anc_parent_sib d) h.1)
  unfold unliftAll
  rw [if_neg hne, if_neg hns, CalcGeo.parent_sib, if_neg hq]

theorem unliftAll_none {q : Pos} (hq : Anc (parent d) q) (hs : ¬ Anc (sib d) q) :
    unliftAll (sib d) A q = none := by
  have hne : q ≠ sib d := fun e => hs (by rw [e]; exact Anc.refl _)
  have hns : ¬ SUnder (sib d) q := fun h => hs h.1
  unfold unliftAll
  rw [if_neg hne, if_neg hns, CalcGeo.parent_sib, if_pos hq]

/-- the hole an un-lift at `d` leaves in the node list `N`: the nodes at or below `d` (to be re-ingested) and at or above
`parent d` (their hashes are stale) -/
def holeOf (N : List (Pos × H × Bool)) (d q : Pos) : Prop :=
  (Anc d q ∨ Anc q (parent d)) ∧ ∃ h f, (q, h, f) ∈ N

/-- the four regions of a position `q` every field of the un-lifted invariant is proved by: `sib d` (gets the node of
`parent d`), strictly below `sib d` (moved down), the rest of the region of `parent d` (empty), outside (untouched) -/
theorem unlift_cases (d q : Pos) : q = sib d ∨ SUnder (sib d) q ∨ (Anc (parent d) q ∧ ¬ Anc (sib d) q) ∨
    ¬ Anc (parent d) q := by
  by_cases h : Anc (parent d) q
  · by_cases hs : Anc (sib d) q
    · by_cases he : q = sib d
      · exact Or.inl he
      · refine Or.inr (Or.inl ⟨hs, ?_⟩)
        have := hs.1
        have hr : q.1 ≠ (sib d).1 := fun e => he (hs.eq_of_row e.symm).symm
        omega
    · exact Or.inr (Or.inr (Or.inl ⟨h, hs⟩))
  · exact Or.inr (Or.inr (Or.inr h))

theorem anc_P_iff {z : Pos} : Anc (parent d) z ↔ z = parent d ∨ Anc (sib d) z ∨ Anc d z := by
  rw [anc_parent_iff']
  constructor
  · rintro (h | h | h)
    · exact Or.inl h
    · exact Or.inr (Or.inr h)
    · exact Or.inr (Or.inl h)
  · rintro (h | h | h)
    · exact Or.inl h
    · exact Or.inr (Or.inr h)
    · exact Or.inr (Or.inl h)

theorem anc_P_lift {c : Pos} (hc : Anc (sib d) c) : Anc (parent d) (liftP (sib d) c) := by
  have := anc_parent_liftP hc
  rwa [CalcGeo.parent_sib] at this

theorem liftP_sib_self : liftP (sib d) (sib d) = parent d := by
  rw [liftP_self, CalcGeo.parent_sib]

theorem not_anc_d_of_sib {c : Pos} (hc : Anc (sib d) c) : ¬ Anc d c := fun h => not_anc_both h hc

theorem not_above_of_sib {c : Pos} (hc : Anc (sib d) c) : ¬ Anc c (parent d) := by
  intro h
  have h1 := hc.1
  have h2 := h.1
  rw [CalcGeo.sib_fst] at h1
  have : (parent d).1 = d.1 + 1 := rfl
  omega

end


/-- `N''` is `N` after the deletion of everything at and below the non-root node `d`
(the facts `PForestDel.del_nonroot` provides) -/
structure Del (N N'' : List (Pos × H × Bool)) (R : Pos → Prop) (d : Pos) : Prop where
  L : Laws N R
  L'' : Laws N'' R
  hd : ∃ h b, (d, h, b) ∈ N
  hnr : ¬ R d
  hD1 : ∀ e : Pos × H × Bool, e ∈ N'' →
      (¬ Anc (parent d) e.1 ∧ ¬ Anc e.1 (parent d) ∧ e ∈ N) ∨
      (∃ c, Anc (sib d) c ∧ e.1 = liftP (sib d) c ∧ (c, e.2) ∈ N) ∨
      (Anc e.1 (parent d) ∧ e.1 ≠ parent d ∧ e.2.2 = false ∧ ∃ h0, (e.1, h0, false) ∈ N)
  hD2 : ∀ e : Pos × H × Bool, ¬ Anc (parent d) e.1 → ¬ Anc e.1 (parent d) → e ∈ N → e ∈ N''
  hD3 : ∀ c h' b', Anc (sib d) c → (c, h', b') ∈ N → (liftP (sib d) c, h', b') ∈ N''
  hD4 : ∀ z h0, (z, h0, false) ∈ N → Anc z (parent d) → z ≠ parent d → ∃ h1, (z, h1, false) ∈ N''

namespace Del
variable {N N'' : List (Pos × H × Bool)} {R : Pos → Prop} {d : Pos}

theorem sib_node (D : Del N N'' R d) : ∃ h b, (sib d, h, b) ∈ N := by
  obtain ⟨h, b, hd⟩ := D.hd
  exact D.L.sib_node d h b hd D.hnr

theorem sib_not_root (D : Del N N'' R d) : ¬ R (sib d) := by
  obtain ⟨h, b, hd⟩ := D.hd
  obtain ⟨hP, hPN, _⟩ := D.L.parent_node d h b hd D.hnr
  obtain ⟨hσ, bσ, hσN⟩ := D.sib_node
  exact D.L.not_root_of_sunder hPN (by rw [sunder_iff_parent, CalcGeo.parent_sib]; exact Anc.refl _)

theorem mem_lift (D : Del N N'' R d) {c : Pos} (hc : Anc (sib d) c) (h : H) (b : Bool) :
    (liftP (sib d) c, h, b) ∈ N'' ↔ (c, h, b) ∈ N := by
  constructor
  · intro hm
    rcases D.hD1 _ hm with ⟨hn, _, _⟩ | ⟨c', hc', he, hm'⟩ | ⟨ha, hne, _, _⟩
    · exact absurd (anc_P_lift hc) hn
    · have : c = c' := liftP_inj hc hc' he
      subst this; exact hm'
    · exact absurd (Anc.antisymm ha (anc_P_lift hc)) hne
  · exact D.hD3 c h b hc

theorem P_node'' (D : Del N N'' R d) : ∃ h b, (parent d, h, b) ∈ N'' := by
  obtain ⟨h, b, hm⟩ := D.sib_node
  exact ⟨h, b, by rw [← liftP_sib_self]; exact (D.mem_lift (Anc.refl _) h b).2 hm⟩

theorem mem_under (D : Del N N'' R d) {z : Pos} {h : H} {b : Bool} (hm : (z, h, b) ∈ N'') (hz : Anc (parent d) z) :
    ∃ c, Anc (sib d) c ∧ z = liftP (sib d) c ∧ (c, h, b) ∈ N := by
  rcases D.hD1 _ hm with ⟨hn, _, _⟩ | ⟨c, hc, he, hm'⟩ | ⟨ha, hne, _, _⟩
  · exact absurd hz hn
  · exact ⟨c, hc, he, hm'⟩
  · exact absurd (Anc.antisymm ha hz) hne

theorem mem_out (D : Del N N'' R d) {q : Pos} (h1 : ¬ Anc (parent d) q) (h2 : ¬ Anc q (parent d)) (h : H) (b : Bool) :
    (q, h, b) ∈ N'' ↔ (q, h, b) ∈ N := by
  constructor
  · intro hm
    rcases D.hD1 _ hm with ⟨_, _, hm'⟩ | ⟨c, hc, he, _⟩ | ⟨ha, _, _, _⟩
    · exact hm'
    · exact absurd (by rw [show q = liftP (sib d) c from he]; exact anc_P_lift hc) h1
    · exact absurd ha h2
  · exact D.hD2 _ h1 h2

theorem mem_out'' (D : Del N N'' R d) {q : Pos} {h : H} {b : Bool} (hm : (q, h, b) ∈ N'') (h1 : ¬ Anc (parent d) q) :
    (¬ Anc q (parent d) ∧ (q, h, b) ∈ N) ∨ (Anc q (parent d) ∧ b = false ∧ ∃ h0, (q, h0, false) ∈ N) := by
  rcases D.hD1 _ hm with ⟨_, h2, hm'⟩ | ⟨c, hc, he, _⟩ | ⟨ha, _, hf, h0⟩
  · exact Or.inl ⟨h2, hm'⟩
  · exact absurd (by rw [show q = liftP (sib d) c from he]; exact anc_P_lift hc) h1
  · exact Or.inr ⟨ha, hf, h0⟩

theorem leaf_not_above (D : Del N N'' R d) {t : Pos} {x : H} (ht : (t, x, true) ∈ N) (hdt : ¬ Anc d t) :
    ¬ Anc t (parent d) := by
  intro ha
  obtain ⟨h, b, hd⟩ := D.hd
  have := D.L.leaf_below t x d h b ht hd (Anc.trans ha (anc_parent_self d))
  exact hdt (this ▸ Anc.refl _)


variable {K : H → Prop}

open MapRelocK in
theorem reloc (D : Del N N'' R d) : Reloc (sib d) N N'' where
  lift := fun c h b hc => D.mem_lift hc h b
  under := fun z h b hm hz => by
    rw [CalcGeo.parent_sib] at hz
    obtain ⟨c, hc, he, _⟩ := D.mem_under hm hz
    exact ⟨c, hc, he⟩
  out := fun q h b h1 h2 => by
    rw [CalcGeo.parent_sib] at h1 h2
    exact D.mem_out h1 h2 h b
  out_leaf := fun t x ht => by
    rw [CalcGeo.parent_sib] at ht
    constructor
    · intro hm
      rcases D.mem_out'' hm ht with ⟨_, hm'⟩ | ⟨_, hf, _⟩
      · exact hm'
      · cases hf
    · intro hm
      have hdt : ¬ Anc d t := fun h => ht (Anc.trans (anc_parent_self d) h)
      exact (D.mem_out ht (D.leaf_not_above hm hdt) x true).2 hm

theorem kleaf_cases (D : Del N N'' R d) (hKd : ∀ t x, (t, x, true) ∈ N → Anc d t → ¬ K x) {t : Pos}
    (hk : KLeaf N K t) : ¬ Anc d t ∧ ¬ Anc t (parent d) ∧ (Anc (sib d) t ∨ ¬ Anc (parent d) t) := by
  obtain ⟨x, hx, hm⟩ := hk
  have h1 : ¬ Anc d t := fun h => hKd t x hm h hx
  have h2 := D.leaf_not_above hm h1
  refine ⟨h1, h2, ?_⟩
  by_cases hu : Anc (parent d) t
  · rcases anc_P_iff.1 hu with e | e | e
    · exact absurd (e ▸ Anc.refl _) h2
    · exact Or.inl e
    · exact absurd e h1
  · exact Or.inr hu

end Del


theorem sunder_P_lift {d c : Pos} (hc : SUnder (sib d) c) : SUnder (parent d) (liftP (sib d) c) := by
  have := sunder_parent_liftP hc
  rwa [CalcGeo.parent_sib] at this

section
variable {A : Pos → Option (Leaf H)} {C : H → Option Pos} {N : List (Pos × H × Bool)} {d : Pos}

theorem unliftCAll_some {x : H} {t : Pos} (h : unliftCAll (sib d) C x = some t) :
    ∃ p, C x = some p ∧
      t = if p = parent d then sib d else if SUnder (parent d) p ∧ 1 ≤ p.1 then unliftP (sib d) p else p := by
  unfold unliftCAll at h
  cases hC : C x with
  | none => rw [hC] at h; cases h
  | some p =>
    rw [hC] at h
    simp only [Option.map_some, Option.some.injEq, CalcGeo.parent_sib] at h
    exact ⟨p, rfl, h.symm⟩

open MapRelocK in
/-- where a stored node of the un-lifted store comes from: outside the new hole it is a node of `N`,
stored before at a position outside the old hole.  `hh`: `q` lies outside the new hole (the old one moved with the
subtree, and the nodes of `N` at or below `d` and at or above `parent d`) -/
theorem unlift_stored {N' : List (Pos × H × Bool)} {Hole' : Pos → Prop} (r : Reloc (sib d) N N')
    (hpath : ∀ q h b, (q, h, b) ∈ N' → Anc q (parent d) → q ≠ parent d → ∃ h0 f, (q, h0, f) ∈ N)
    (hHP : ∀ q, Hole' q → q = parent d ∨ ¬ Anc (parent d) q)
    (hth : ∀ q l, A q = some l → ¬ Hole' q → ∃ b, (q, l.hash, b) ∈ N') {q : Pos} {l : Leaf H}
    (hl : unliftAll (sib d) A q = some l)
    (hh : ¬ ((Hole' q ∧ q ≠ parent d) ∨ (Hole' (parent d) ∧ q = sib d) ∨
      holeOf N d q)) :
    ∃ q', A q' = some l ∧ ¬ Hole' q' ∧ ∃ b, (q, l.hash, b) ∈ N := by
  rcases unlift_cases d q with rfl | hs | ⟨hu, hs⟩ | hout
  · rw [unliftAll_sib] at hl
    have hP : ¬ Hole' (parent d) := fun c => hh (Or.inr (Or.inl ⟨c, rfl⟩))
    obtain ⟨b, hb⟩ := hth _ l hl hP
    rw [← liftP_sib_self] at hb
    exact ⟨_, hl, hP, b, (r.lift _ _ _ (Anc.refl _)).1 hb⟩
  · rw [unliftAll_under hs] at hl
    have hq : ¬ Hole' (liftP (sib d) q) := fun c =>
      (hHP _ c).elim (fun e => Nat.ne_of_lt (sunder_P_lift hs).2 (congrArg Prod.fst e)) (fun n => n (anc_P_lift hs.1))
    obtain ⟨b, hb⟩ := hth _ l hl hq
    exact ⟨_, hl, hq, b, (r.lift q _ _ hs.1).1 hb⟩
  · rw [unliftAll_none hu hs] at hl; cases hl
  · rw [unliftAll_out hout] at hl
    have hq : ¬ Hole' q := fun c => hh (Or.inl ⟨c, fun e => hout (e ▸ Anc.refl _)⟩)
    obtain ⟨b, hb⟩ := hth q l hl hq
    by_cases ha : Anc q (parent d)
    · exact absurd (Or.inr (Or.inr ⟨Or.inr ha, hpath q _ b hb ha (fun e => hout (e ▸ Anc.refl _))⟩)) hh
    · exact ⟨q, hl, hq, b, (r.out q _ b (by rw [CalcGeo.parent_sib]; exact hout)
        (by rw [CalcGeo.parent_sib]; exact ha)).1 hb⟩

open MapRelocK in
theorem unlift_cached {N' : List (Pos × H × Bool)} (r : Reloc (sib d) N N') {x : H} {t p : Pos} (hm : (p, x, true) ∈ N')
    (ht : t = if p = parent d then sib d else if SUnder (parent d) p ∧ 1 ≤ p.1 then unliftP (sib d) p else p) :
    (t, x, true) ∈ N ∧ (Anc (sib d) t ∨ (¬ Anc (parent d) t ∧ t = p)) := by
  by_cases hu : Anc (parent d) p
  · obtain ⟨c, hc, he, hm'⟩ := r.under_mem hm (by rw [CalcGeo.parent_sib]; exact hu)
    by_cases hcσ : c = sib d
    · subst hcσ
      rw [liftP_sib_self] at he
      rw [if_pos he] at ht
      rw [ht]; exact ⟨hm', Or.inl (Anc.refl _)⟩
    · have hcs := sunder_of_ne hc hcσ
      have hps : SUnder (parent d) p := by rw [he]; exact sunder_P_lift hcs
      have hne : p ≠ parent d := by
        intro e; have := hps.2; rw [e] at this; omega
      have h1 : 1 ≤ p.1 := by rw [he, liftP_fst]; omega
      rw [if_neg hne, if_pos ⟨hps, h1⟩, he, unliftP_liftP hc] at ht
      rw [ht]; exact ⟨hm', Or.inl hc⟩
  · have hne : p ≠ parent d := fun e => hu (e ▸ Anc.refl _)
    rw [if_neg hne, if_neg (fun c => hu c.1.1)] at ht
    rw [ht]
    exact ⟨(r.out_leaf p x (by rw [CalcGeo.parent_sib]; exact hu)).1 hm, Or.inr ⟨hu, rfl⟩⟩

end

/-- the cache after the node at `q` has been dropped by `undoSingleAddLoop` -/
def dropC (q : Pos) (A : Pos → Option (Leaf H)) (C : H → Option Pos) : H → Option Pos :=
  match A q with
  | some l => upd C l.hash none
  | none => C

theorem dropC_of_none {A : Pos → Option (Leaf H)} {C : H → Option Pos} {q : Pos} (h : A q = none) :
    dropC q A C = C := by
  unfold dropC; rw [h]

theorem dropC_of_some {A : Pos → Option (Leaf H)} {C : H → Option Pos} {q : Pos} {l : Leaf H}
    (h : A q = some l) : dropC q A C = upd C l.hash none := by
  unfold dropC; rw [h]

theorem dropC_some {A : Pos → Option (Leaf H)} {C : H → Option Pos} {P : Pos} {x : H} {t : Pos}
    (h : dropC P A C x = some t) : C x = some t := by
  cases hA : A P with
  | none => rwa [dropC_of_none hA] at h
  | some l =>
    rw [dropC_of_some hA, upd_apply] at h
    split at h
    · cases h
    · exact h

end UtreexoVerif.Proofs.MapUndoSteps
