/-
  The specification forest as a `ForestViewX` (`Proofs/CalcSoundX.lean`): no `CR H`, no `LeafOK F`,
  `F.numLeaves ≤ 2^63`.  A node whose hash is `ph a b` has the children `a`, `b`, or `(a, b)` is
  `ForestBad` for `F` (`Proofs/SpecNodes.lean`).  `nodePairs_spec` / `upLeaves_spec`: the two lists
  `ForestBad` refers to contain nothing but what their names say.
-/
import UtreexoVerif.Proofs.SpecView
import UtreexoVerif.Proofs.CalcSoundX
import UtreexoVerif.Spec.NodePairs

namespace UtreexoVerif.Proofs.SpecViewX
open Spec Hasher
open UtreexoVerif.Proofs.SpecNodes UtreexoVerif.Proofs.SpecView UtreexoVerif.Proofs.CalcSoundX
open UtreexoVerif.Proofs.SpecSubs

variable {H : Type} [DecidableEq H] [Hasher H]

theorem nodePairs_spec {F : Forest H} {y : H × H} (hy : y ∈ F.nodePairs) :
    ∃ r o, F.nodeAt (r + 1, o) = some (ph y.1 y.2) ∧ F.nodeAt (r, 2 * o) = some y.1 ∧
      F.nodeAt (r, 2 * o + 1) = some y.2 := by
  unfold Forest.nodePairs Forest.trees at hy
  rw [List.flatMap_map, List.mem_flatMap] at hy
  obtain ⟨h, hh, hy⟩ := hy
  simp only at hy
  split at hy
  · rename_i t ht
    obtain ⟨p, a, b, hm, rfl⟩ := (mem_pairs_iff_subs (r := h) (o := (rootPos F.numLeaves h).2)).1 hy
    have s := SubAtT.of_tree hh ht hm
    obtain ⟨h1, sa, sb⟩ := s.children
    have e := s.nodeAt
    rw [show p = (p.1 - 1 + 1, p.2) by rw [Nat.sub_add_cancel h1]] at e
    exact ⟨p.1 - 1, p.2, e, sa.nodeAt, sb.nodeAt⟩
  · simp at hy

theorem upLeaves_spec {F : Forest H} {l : H} (hl : l ∈ F.upLeaves) :
    l ∈ F.liveLeaves ∧ ∃ r o, F.nodeAt (r + 1, o) = some l := by
  unfold Forest.upLeaves at hl
  rw [List.mem_map] at hl
  obtain ⟨x, hx, rfl⟩ := hl
  rw [List.mem_filter] at hx
  obtain ⟨hx, hc⟩ := hx
  simp only [Bool.and_eq_true, decide_eq_true_eq] at hc
  refine ⟨leaf_node_live hx hc.1, x.1.1 - 1, x.1.2, ?_⟩
  have := nodeAt_of_mem hx
  rwa [show x.1 = (x.1.1 - 1 + 1, x.1.2) from by rw [Nat.sub_add_cancel hc.2]] at this

def specViewX (F : Forest H) (hn : F.numLeaves ≤ 2 ^ 63) :
    ForestViewX H (BitVec.ofNat 64 F.numLeaves) F.roots (fun a b => (a, b) ∈ F.nodePairs)
      (ForestBad F) where
  nodeAt := viewNodeAt F
  root_ok := view_root_ok' F hn
  children_ok := view_children_ok_x F hn

theorem specViewX_nodeAt (F : Forest H) (hn : F.numLeaves ≤ 2 ^ 63) (p : U64) :
    (specViewX F hn).nodeAt p = viewNodeAt F p := rfl

end UtreexoVerif.Proofs.SpecViewX
