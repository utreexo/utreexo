/-
  `removeSingle` of the map-forest model on the abstract state `(A, C)` of `MapRep`: its helpers (`forgetBelow`,
  `isRoot`, `updateHashes`, `forgetUnneededDel`), the root branch and the branch where the sibling is stored.  The
  third branch of the model (nothing stored at the sibling) has no lemma here: under the invariant a non-root's
  sibling is stored, so `MapRemove*` never meets it.
-/
import UtreexoVerif.Proofs.MapMoveUp

namespace UtreexoVerif.Proofs.MapRemoveRep
open Model MapRep
open Spec (Pos sib parent isRootPos forestRows enc)
open MapAL (hasNode_eq)
open MapInv (Valid eq_rootPos_of_isRootPos)
open MapPrune (pruneA H8_beq_zero valid_parent valid_sib prunePosition_frame toNat_rowIters)
open Hasher (zero ph)
open GoInt (shl)
set_option linter.unusedSectionVars false
variable {H : Type} [DecidableEq H] [Hasher H]

/-- `forgetBelow d`: everything strictly below `d` is dropped -/
def clearBelow (d : Pos) (A : Pos → Option (Leaf H)) : Pos → Option (Leaf H) :=
  fun q => if SUnder d q then none else A q

/-- the loop of `updateHashes` on the abstract state (`T` = allocated rows, `n` = leaf count):
`pos` is the position whose new hash is `node.hash` -/
def updLoopA (n T : Nat) : Nat → Pos → Leaf H → (Pos → Option (Leaf H)) → (Pos → Option (Leaf H))
  | 0, _, _, A => A
  | k+1, pos, node, A =>
    let sibN := (A (sib pos)).getD ⟨zero, false⟩
    let node' : Leaf H :=
      if pos.2 % 2 = 0 then ⟨ph node.hash sibN.hash, node.remember⟩ else ⟨ph sibN.hash node.hash, node.remember⟩
    if pos.1 < T then
      let A' := if (A (parent pos)).isSome = true then upd A (parent pos) (some node') else A
      if isRootPos n (parent pos) = true then A' else updLoopA n T k (parent pos) node' A'
    else A

/-- the loop of `forgetUnneededDel` on the abstract state -/
def fgLoopA (n : Nat) : Nat → Pos → (Pos → Option (Leaf H)) → (Pos → Option (Leaf H))
  | 0, _, A => A
  | k+1, pos, A =>
    if isRootPos n (parent pos) = true then A else fgLoopA n k (parent pos) (pruneA A (parent pos))

theorem anc_parent_ne_iff {q t : Pos} : Anc q (parent t) ↔ Anc q t ∧ q ≠ t := by
  rw [anc_parent_iff]
  constructor
  · rintro ⟨h, hlt⟩
    refine ⟨h, fun e => ?_⟩
    rw [e] at hlt
    exact Nat.lt_irrefl _ hlt
  · rintro ⟨h, hne⟩
    exact ⟨h, Nat.lt_of_le_of_ne h.1 (fun e => hne (h.eq_of_row e.symm))⟩

theorem sib_kid0 (d : Pos) : sib (d.1 - 1, 2 * d.2) = (d.1 - 1, 2 * d.2 + 1) :=
  MapLiftGeo.sib_childP d (b := 0) Nat.two_pos

theorem clear_step (d : Pos) (h1 : 1 ≤ d.1) (A : Pos → Option (Leaf H)) (q : Pos) :
    clearBelow (d.1 - 1, 2 * d.2 + 1) (clearBelow (d.1 - 1, 2 * d.2)
      (upd (upd A (d.1 - 1, 2 * d.2) none) (d.1 - 1, 2 * d.2 + 1) none)) q = clearBelow d A q := by
  have hiff := MapMoveUp.sunder_parent_iff (σ := (d.1 - 1, 2 * d.2)) (q := q)
  rw [show parent (d.1 - 1, 2 * d.2) = d from MapPrune.parent_kid h1 (b := 0) (by decide), sib_kid0] at hiff
  unfold clearBelow
  by_cases h : SUnder d q
  · rw [if_pos h]
    by_cases c1 : SUnder (d.1 - 1, 2 * d.2 + 1) q
    · exact if_pos c1
    · rw [if_neg c1]
      by_cases c2 : SUnder (d.1 - 1, 2 * d.2) q
      · exact if_pos c2
      · rw [if_neg c2]
        rcases hiff.1 h with e | e | e | e
        · rw [upd_apply]
          split
          · rfl
          · rw [e, upd_self]
        · rw [e, upd_self]
        · exact absurd e c2
        · exact absurd e c1
  · rw [if_neg h]
    have n1 : ¬ SUnder (d.1 - 1, 2 * d.2 + 1) q := fun e => h (hiff.2 (Or.inr (Or.inr (Or.inr e))))
    have n2 : ¬ SUnder (d.1 - 1, 2 * d.2) q := fun e => h (hiff.2 (Or.inr (Or.inr (Or.inl e))))
    have n3 : q ≠ (d.1 - 1, 2 * d.2 + 1) := fun e => h (hiff.2 (Or.inr (Or.inl e)))
    have n4 : q ≠ (d.1 - 1, 2 * d.2) := fun e => h (hiff.2 (Or.inl e))
    rw [if_neg n1, if_neg n2, upd_ne _ _ n3, upd_ne _ _ n4]

theorem forgetBelowAux_rep : ∀ (k : Nat) {m : MapPollard H} {T : Nat} {A : Pos → Option (Leaf H)}
    {C : H → Option Pos}, Rep m T A C → ∀ {d : Pos}, Valid T d → d.1 = k →
    Rep (MapPollard.forgetBelowAux k (encP T d) m) T (clearBelow d A) C ∧
      (MapPollard.forgetBelowAux k (encP T d) m).numLeaves = m.numLeaves ∧
      (MapPollard.forgetBelowAux k (encP T d) m).full = m.full := by
  intro k
  induction k with
  | zero =>
    intro m T A C rep d hd hk
    refine ⟨rep.congr ?_ (fun _ => rfl), rfl, rfl⟩
    intro q
    unfold clearBelow
    rw [if_neg]
    intro h; have := h.2; omega
  | succ k ih =>
    intro m T A C rep d hd hk
    have hT := rep.T_le
    have h1 : 1 ≤ d.1 := by omega
    have hne : ¬ ((H8 d.1 == 0#8) = true) := by
      rw [H8_beq_zero (by have := hd.1; omega)]; omega
    have hl : Valid T (d.1 - 1, 2 * d.2) := ValidH.child hd h1 (b := 0) (by decide)
    have hr : Valid T (d.1 - 1, 2 * d.2 + 1) := ValidH.child hd h1 (b := 1) (by decide)
    unfold MapPollard.forgetBelowAux
    rw [rep.rows, EncPos.detectRow_encP hT hd, if_neg hne]
    simp only
    rw [(EncPos.child_encP hT hd h1).1, EncPos.sibling_encP hT hl, sib_kid0]
    have rep1 := (rep.delNode hl).delNode hr
    obtain ⟨rep2, a2, b2⟩ := ih rep1 hl (by show d.1 - 1 = k; omega)
    obtain ⟨rep3, a3, b3⟩ := ih rep2 hr (by show d.1 - 1 = k; omega)
    exact ⟨rep3.congr (fun q => (clear_step d h1 A q).symm) (fun _ => rfl), a3.trans a2, b3.trans b2⟩

theorem forgetBelow_rep {m : MapPollard H} {T : Nat} {A : Pos → Option (Leaf H)} {C : H → Option Pos}
    (rep : Rep m T A C) {d : Pos} (hd : Valid T d) :
    Rep (m.forgetBelow (encP T d)) T (clearBelow d A) C ∧
      (m.forgetBelow (encP T d)).numLeaves = m.numLeaves ∧ (m.forgetBelow (encP T d)).full = m.full := by
  unfold MapPollard.forgetBelow
  rw [rep.rows, EncPos.detectRow_encP rep.T_le hd, toNat_H8 (by have := hd.1; have := rep.T_le; omega)]
  exact forgetBelowAux_rep d.1 rep hd rfl

theorem isRootPos_above {n : Nat} {q : Pos} (h : forestRows n < q.1) : isRootPos n q = false := by
  have h1 := forestRows_spec_le n
  have h2 : 2 ^ forestRows n < 2 ^ q.1 := two_pow_lt_of_lt h
  have : n.testBit q.1 = false := Nat.testBit_lt_two_pow (by omega)
  simp [isRootPos, this]

theorem rootPosition_lt (leaves : U64) (h : U8) {fr : Nat} (hfr : fr ≤ 63) :
    (rootPosition leaves h (H8 fr)).toNat < 2 ^ (fr + 1) := by
  unfold rootPosition
  simp only [toNat_H8 hfr]
  rw [toNat_and_mask hfr]
  exact Nat.mod_lt _ (Nat.two_pow_pos _)

/-- for a row above the forest the row difference wraps around (`uint8`), the shift by it clears
the word, and the row "starts" just above the whole forest -/
theorem startPositionAtRow_above {fr r : Nat} (hr : r ≤ 63) (hab : fr < r) :
    (startPositionAtRow (H8 r) (H8 fr)).toNat = 2 ^ (fr + 1) := by
  have hs : (H8 fr - H8 r).toNat = 256 + fr - r := by
    rw [BitVec.toNat_sub, toNat_H8 hr, toNat_H8 (Nat.le_trans (Nat.le_of_lt hab) hr), Nat.mod_eq_of_lt (by omega)]
    omega
  have z : shl 2#64 (H8 fr - H8 r).toNat = 0#64 := by
    apply BitVec.eq_of_toNat_eq
    rw [toNat_two_shl, hs]
    exact Nat.mod_eq_zero_of_dvd (Nat.pow_dvd_pow 2 (by omega))
  unfold startPositionAtRow
  rw [z, BitVec.sub_zero, toNat_two_shl, toNat_H8 (by omega)]
  exact Nat.mod_eq_of_lt (two_pow_lt_of_lt (by omega))

/-- a position of a row above the forest's is translated to a value `≥ 2 ^ (forestRows n + 1)`, beyond every root
position -/
theorem isRoot_above {m : MapPollard H} {T n : Nat} (hT : T ≤ 63) (hrows : m.totalRows = H8 T)
    (hn : m.numLeaves = BitVec.ofNat 64 n) (hn63 : n < 2 ^ 63)
    {q : Pos} (hq : Valid T q) (hab : forestRows n < q.1) : m.isRoot (encP T q) = false := by
  have hh : forestRows n ≤ 63 := SpecView.forestRows_le_63 hn63
  have hq1 := hq.1
  have hq63 : q.1 ≤ 63 := Nat.le_trans hq1 hT
  have hne : (H8 T != H8 (forestRows n)) = true := by
    rw [bne_iff_ne]
    intro e
    have := H8_inj (by omega) (by omega) e
    omega
  have hr0 : (H8 q.1 == 0#8) = false := by
    cases h : (H8 q.1 == 0#8)
    · rfl
    · have := (H8_beq_zero hq63).1 h; omega
  have hoff : encP T q - startPositionAtRow (H8 q.1) (H8 T) = BitVec.ofNat 64 q.2 := by
    rw [Props.C16.startPositionAtRow_enc hT hq1]
    show encU T q.1 q.2 - encU T q.1 0 = _
    unfold encU
    rw [enc_add T q.1 q.2, BitVec.ofNat_add, BitVec.add_comm, BitVec.add_sub_cancel]
  have ho63 : q.2 < 2 ^ 63 := Nat.lt_of_lt_of_le hq.2 (two_pow_le_of_le (Nat.le_trans (Nat.sub_le _ _) hT))
  have hpow : 2 ^ (forestRows n + 1) ≤ 2 ^ 63 := two_pow_le_of_le (Nat.succ_le_of_lt (Nat.lt_of_lt_of_le hab hq63))
  have htr : (BitVec.ofNat 64 q.2 + startPositionAtRow (H8 q.1) (H8 (forestRows n))).toNat =
      q.2 + 2 ^ (forestRows n + 1) := by
    rw [BitVec.toNat_add, startPositionAtRow_above hq63 hab, toNat_ofNat64_of_lt (Nat.lt_trans ho63 (by decide))]
    apply Nat.mod_eq_of_lt
    have : (2:Nat) ^ 64 = 2 * 2 ^ 63 := by decide
    omega
  unfold MapPollard.isRoot isRootPositionTotalRows
  rw [hn, hrows, SpecView.treeRows_eq hn63, if_pos hne]
  unfold translatePos
  simp only [EncPos.detectRow_encP hT hq, hr0, Bool.false_eq_true, if_false]
  rw [hoff]
  unfold isRootPosition isRootPositionOnRow
  simp only [SpecView.treeRows_eq hn63]
  rw [Bool.and_eq_false_iff]
  right
  rw [beq_eq_false_iff_ne]
  intro e
  have e' := congrArg BitVec.toNat e
  rw [htr] at e'
  have := rootPosition_lt (BitVec.ofNat 64 n) (DetectRow (BitVec.ofNat 64 q.2 + startPositionAtRow (H8 q.1) (H8 (forestRows n))) (H8 (forestRows n))) hh
  omega

/-- the second alternative of `hq'`: the allocation may be larger than the forest needs -/
theorem isRoot_gen {m : MapPollard H} {T n : Nat} (hT : T ≤ 63) (hrows : m.totalRows = H8 T)
    (hn : m.numLeaves = BitVec.ofNat 64 n) (hn63 : n < 2 ^ 63)
    {q : Pos} (hq : Valid T q) (hq' : Valid (forestRows n) q ∨ forestRows n < q.1) :
    m.isRoot (encP T q) = isRootPos n q := by
  rcases hq' with hv | hab
  · exact MapPrune.isRoot_encP hn63 hn hT hrows hq hv
  · rw [isRoot_above hT hrows hn hn63 hq hab, isRootPos_above hab]

set_option linter.unusedVariables false in
/-- without `hq'` the statement is false: `isRoot_rep_false` (`hfit` is not used; the lemma in use is `isRoot_gen`) -/
theorem isRoot_rep {m : MapPollard H} {T n : Nat} {A : Pos → Option (Leaf H)} {C : H → Option Pos}
    (rep : Rep m T A C) (hn : m.numLeaves = BitVec.ofNat 64 n) (hn63 : n < 2 ^ 63) (hfit : forestRows n ≤ T)
    {q : Pos} (hq : Valid T q) (hq' : Valid (forestRows n) q) : m.isRoot (encP T q) = isRootPos n q :=
  isRoot_gen rep.T_le rep.rows hn hn63 hq (Or.inl hq')

/-- the `Parent` of the top position encodes no position -/
theorem hasNode_top {m : MapPollard H} {T : Nat} {A : Pos → Option (Leaf H)} {C : H → Option Pos}
    (rep : Rep m T A C) : m.hasNode (Parent (encP T (T, 0)) (H8 T)) = false := by
  rw [hasNode_eq]
  cases h : m.getNode (Parent (encP T (T, 0)) (H8 T)) with
  | none => rfl
  | some l =>
    exfalso
    obtain ⟨q, hq, e⟩ := rep.keys _ l h
    have e' := congrArg BitVec.toNat e
    have h1 : (Parent (encP T (T, 0)) (H8 T)).toNat = 2 ^ (T + 1) - 1 := SpecView.parent_top rep.T_le
    have h2 := encP_toNat_lt rep.T_le hq
    omega

theorem good_parent {h : Nat} {p : Pos} (hp : Valid h p ∨ h < p.1) : Valid h (parent p) ∨ h < (parent p).1 := by
  rcases hp with hv | hab
  · by_cases e : p.1 < h
    · exact Or.inl (valid_parent hv e)
    · right; show h < p.1 + 1; have := hv.1; omega
  · right; show h < p.1 + 1; omega

/-- The alternative "a position of the forest's rows, or a row above them" is what `isRoot_gen` needs and `parent` keeps
(`good_parent`); for a position of the allocation that is neither, `isRoot` is wrong: `isRoot_rep_false` below -/
theorem updLoop_rep {T n : Nat} {C : H → Option Pos} (hn63 : n < 2 ^ 63) :
    ∀ (k : Nat) {m : MapPollard H} {A : Pos → Option (Leaf H)} (pos : Pos) (node : Leaf H),
      Rep m T A C → m.numLeaves = BitVec.ofNat 64 n → Valid T pos →
      (Valid (forestRows n) pos ∨ forestRows n < pos.1) → k = T + 1 - pos.1 →
      Rep (MapPollard.updateHashesLoop k (encP T pos) node m) T (updLoopA n T k pos node A) C ∧
        (MapPollard.updateHashesLoop k (encP T pos) node m).numLeaves = m.numLeaves ∧
        (MapPollard.updateHashesLoop k (encP T pos) node m).full = m.full := by
  intro k
  induction k with
  | zero =>
    intro m A pos node rep hn hv hg hk
    exact ⟨rep, rfl, rfl⟩
  | succ k ih =>
    intro m A pos node rep hn hv hg hk
    have hT := rep.T_le
    unfold MapPollard.updateHashesLoop
    simp only
    rw [rep.rows]
    by_cases hlt : pos.1 < T
    · have hs := valid_sib hv hlt
      have hP := valid_parent hv hlt
      rw [EncPos.sibling_encP hT hv, rep.getNodeD hs, EncPos.parent_encP hT hv hlt, rep.hasNode hP]
      rw [EncPos.isLeftNiece_encP hT hv]
      unfold updLoopA
      simp only [decide_eq_true_eq]
      rw [if_pos hlt]
      generalize hnode' : (if pos.2 % 2 = 0 then
          (⟨ph node.hash ((A (sib pos)).getD ⟨zero, false⟩).hash, node.remember⟩ : Leaf H)
        else ⟨ph ((A (sib pos)).getD ⟨zero, false⟩).hash node.hash, node.remember⟩) = node'
      have key : ∀ (m' : MapPollard H) (A' : Pos → Option (Leaf H)), Rep m' T A' C → m'.numLeaves = m.numLeaves →
          m'.full = m.full →
          Rep (if m'.isRoot (encP T (parent pos)) then m'
               else MapPollard.updateHashesLoop k (encP T (parent pos)) node' m') T
              (if isRootPos n (parent pos) = true then A' else updLoopA n T k (parent pos) node' A') C ∧
            (if m'.isRoot (encP T (parent pos)) then m'
               else MapPollard.updateHashesLoop k (encP T (parent pos)) node' m').numLeaves = m.numLeaves ∧
            (if m'.isRoot (encP T (parent pos)) then m'
               else MapPollard.updateHashesLoop k (encP T (parent pos)) node' m').full = m.full := by
        intro m' A' rep' e1 e2
        rw [isRoot_gen hT rep'.rows (e1.trans hn) hn63 hP (good_parent hg)]
        by_cases hr : isRootPos n (parent pos) = true
        · rw [if_pos hr, if_pos hr]; exact ⟨rep', e1, e2⟩
        · rw [if_neg hr, if_neg hr]
          obtain ⟨r, a, b⟩ := ih (parent pos) node' rep' (e1.trans hn) hP (good_parent hg)
            (by show k = T + 1 - (pos.1 + 1); omega)
          exact ⟨r, a.trans e1, b.trans e2⟩
      by_cases hs' : (A (parent pos)).isSome = true
      · simp only [hs', if_true]
        exact key _ _ (rep.putNode hP node') rfl rfl
      · simp only [hs', Bool.false_eq_true, if_false]
        exact key _ _ rep rfl rfl
    · have hrow : pos.1 = T := by have := hv.1; omega
      have hk0 : k = 0 := by omega
      have ho : pos.2 = 0 := by
        have := hv.2; rw [hrow, Nat.sub_self] at this; omega
      have hpos : pos = (T, 0) := Prod.ext hrow ho
      subst hk0
      rw [hpos, hasNode_top rep]
      simp only [Bool.false_eq_true, if_false]
      have : updLoopA n T (0 + 1) (T, 0) node A = A := by
        unfold updLoopA
        simp
      rw [this, MapPollard.updateHashesLoop, ite_self]
      exact ⟨rep, rfl, rfl⟩

/-- without `hdv` the statement is false: `updateHashes_rep_false` -/
theorem updateHashes_rep {m : MapPollard H} {T n : Nat} {A : Pos → Option (Leaf H)} {C : H → Option Pos}
    (rep : Rep m T A C) (hn : m.numLeaves = BitVec.ofNat 64 n) (hn63 : n < 2 ^ 63)
    {fl : Bool} (hfull : m.full = fl) {d : Pos} (hd : Valid T d) (hlt : d.1 < T) (hdv : Valid (forestRows n) d) (hash : H) :
    Rep (m.updateHashes (encP T d) hash) T
      (updLoopA n T (T + 1 - (d.1 + 1)) (parent d) ⟨hash, fl⟩ A) C ∧
      (m.updateHashes (encP T d) hash).numLeaves = m.numLeaves ∧ (m.updateHashes (encP T d) hash).full = m.full := by
  have hT := rep.T_le
  have hP := valid_parent hd hlt
  unfold MapPollard.updateHashes
  rw [rep.rows, EncPos.parent_encP hT hd hlt]
  simp only
  rw [EncPos.detectRow_encP hT hP, hfull, toNat_rowIters (by have := hP.1; omega) hT]
  obtain ⟨r, a, b⟩ := updLoop_rep hn63 (T + 1 - (d.1 + 1)) (parent d) ⟨hash, fl⟩ rep hn hP
    (good_parent (Or.inl hdv)) rfl
  exact ⟨r, a, b.trans hfull⟩

theorem root_valid {n : Nat} {ρ : Pos} (hρ : isRootPos n ρ = true) : Valid (forestRows n) ρ := by
  obtain ⟨hb, e⟩ := eq_rootPos_of_isRootPos hρ
  have := Props.C16.rootPos_valid (forestRows_spec_le n) hb
  rw [← e] at this
  exact this

theorem root_of_anc_row {n : Nat} {ρ p : Pos} (hρ : isRootPos n ρ = true) (ha : Anc ρ p)
    (hnr : isRootPos n p = false) : p.1 < ρ.1 := by
  by_cases e : ρ.1 = p.1
  · rw [← ha.eq_of_row e, hρ] at hnr; cases hnr
  · have := ha.1; omega

theorem fgLoop_rep {T n : Nat} {C : H → Option Pos} (hn63 : n < 2 ^ 63) (hfit : forestRows n ≤ T)
    {ρ : Pos} (hρ : isRootPos n ρ = true) :
    ∀ (k : Nat) {m : MapPollard H} {A : Pos → Option (Leaf H)} (pos : Pos),
      Rep m T A C → m.numLeaves = BitVec.ofNat 64 n → Anc ρ pos → pos.1 < ρ.1 →
      Rep (MapPollard.forgetUnneededLoop k (encP T pos) m) T (fgLoopA n k pos A) C ∧
        (MapPollard.forgetUnneededLoop k (encP T pos) m).numLeaves = m.numLeaves ∧
        (MapPollard.forgetUnneededLoop k (encP T pos) m).full = m.full := by
  intro k
  induction k with
  | zero =>
    intro m A pos rep hn ha hlt
    exact ⟨rep, rfl, rfl⟩
  | succ k ih =>
    intro m A pos rep hn ha hlt
    have hT := rep.T_le
    have hρh := root_valid hρ
    have hρT : Valid T ρ := hρh.mono hfit
    have hv : Valid T pos := MapPrune.valid_below hρT ha
    have hltT : pos.1 < T := by have := hρT.1; omega
    have hPa : Anc ρ (parent pos) := MapLiftGeo.anc_parent_of_sunder ⟨ha, hlt⟩
    have hPT : Valid T (parent pos) := valid_parent hv hltT
    have hPh : Valid (forestRows n) (parent pos) := MapPrune.valid_below hρh hPa
    unfold MapPollard.forgetUnneededLoop fgLoopA
    simp only
    rw [rep.rows, EncPos.parent_encP hT hv hltT, isRoot_gen hT rep.rows hn hn63 hPT (Or.inl hPh)]
    by_cases hr : isRootPos n (parent pos) = true
    · rw [if_pos hr, if_pos hr]; exact ⟨rep, rfl, rfl⟩
    · rw [if_neg hr, if_neg hr]
      have hr' : isRootPos n (parent pos) = false := by simpa using hr
      have hPlt := root_of_anc_row hρ hPa hr'
      have rep' := rep.prunePosition hPT (by have := hρT.1; omega)
      obtain ⟨f1, f2, f3, f4⟩ := prunePosition_frame m (encP T (parent pos))
      obtain ⟨r, a, b⟩ := ih (parent pos) rep' (f2.trans hn) hPa hPlt
      exact ⟨r, a.trans f2, b.trans f4⟩

theorem forgetUnneededDel_rep {m : MapPollard H} {T n : Nat} {A : Pos → Option (Leaf H)} {C : H → Option Pos}
    (rep : Rep m T A C) (hn : m.numLeaves = BitVec.ofNat 64 n) (hn63 : n < 2 ^ 63) (hfit : forestRows n ≤ T)
    {d ρ : Pos} (hd : Valid T d) (hρ : isRootPos n ρ = true) (hρd : Anc ρ d) :
    Rep (m.forgetUnneededDel (encP T d)) T
      (if isRootPos n d = true then A else fgLoopA n (T + 1 - d.1) d A) C ∧
      (m.forgetUnneededDel (encP T d)).numLeaves = m.numLeaves ∧ (m.forgetUnneededDel (encP T d)).full = m.full := by
  have hT := rep.T_le
  have hdh : Valid (forestRows n) d := MapPrune.valid_below (root_valid hρ) hρd
  unfold MapPollard.forgetUnneededDel
  rw [isRoot_gen hT rep.rows hn hn63 hd (Or.inl hdh)]
  by_cases hr : isRootPos n d = true
  · rw [if_pos hr, if_pos hr]; exact ⟨rep, rfl, rfl⟩
  · rw [if_neg hr, if_neg hr]
    have hr' : isRootPos n d = false := by simpa using hr
    rw [rep.rows, EncPos.detectRow_encP hT hd, toNat_rowIters (by have := hd.1; omega) hT]
    exact fgLoop_rep hn63 hfit hρ _ d rep hn hρd (root_of_anc_row hρ hρd hr')

/-- `removeSingle` of a root: its subtree is dropped and the root becomes an empty-root marker -/
theorem removeSingle_root_rep {m : MapPollard H} {T n : Nat} {A : Pos → Option (Leaf H)} {C : H → Option Pos}
    (rep : Rep m T A C) (hn : m.numLeaves = BitVec.ofNat 64 n) (hn63 : n < 2 ^ 63)
    {fl : Bool} (hfull : m.full = fl) {d : Pos} (hd : Valid T d) (hroot : isRootPos n d = true) :
    ∃ m', MapPollard.removeSingle (encP T d) m = (m', .ok ()) ∧
      Rep m' T (upd (clearBelow d A) d (some ⟨zero, fl⟩)) C ∧ m'.numLeaves = m.numLeaves ∧ m'.full = m.full := by
  have hT := rep.T_le
  obtain ⟨rep1, a1, b1⟩ := forgetBelow_rep rep hd
  have hr : (m.forgetBelow (encP T d)).isRoot (encP T d) = true := by
    rw [isRoot_gen hT rep1.rows (a1.trans hn) hn63 hd (Or.inl (root_valid hroot)), hroot]
  generalize hm1 : m.forgetBelow (encP T d) = m1 at rep1 a1 b1 hr
  unfold MapPollard.removeSingle
  simp only
  rw [hm1, if_pos hr, b1, hfull]
  exact ⟨_, rfl, rep1.putNode hd _, a1, b1.trans hfull⟩

/-- the cache update of `removeSingle` (the sibling's entry moves to the parent) -/
def cacheSib (node : Leaf H) (P : Pos) (C : H → Option Pos) : H → Option Pos :=
  if (C node.hash).isSome = true then upd C node.hash (some P) else C

theorem cacheSib_rep {μ : MapPollard H} {T : Nat} {X : Pos → Option (Leaf H)} {C : H → Option Pos}
    (r : Rep μ T X C) {P : Pos} (hP : Valid T P) (node : Leaf H) :
    Rep (if μ.hasCached node.hash then μ.putCached node.hash (encP T P) else μ) T X (cacheSib node P C) ∧
      (if μ.hasCached node.hash then μ.putCached node.hash (encP T P) else μ).numLeaves = μ.numLeaves ∧
      (if μ.hasCached node.hash then μ.putCached node.hash (encP T P) else μ).full = μ.full :=
  ⟨MapMove.rep_recache r node.hash hP, by split <;> rfl, by split <;> rfl⟩

theorem calcNext_sib {T : Nat} (hT : T ≤ 63) {d : Pos} (hd : Valid T d) (hlt : d.1 < T) :
    calcNextPosition (encP T (sib d)) (encP T d) (H8 T) = (encP T (parent d), false) := by
  have hs := valid_sib hd hlt
  have := MapMoveUp.calcNextPosition_encP hT hs (show (sib d).1 < T from hlt) hs (Nat.le_refl _)
  rwa [CalcGeo.sib_sib, MapLiftGeo.liftP_self, CalcGeo.parent_sib] at this

theorem parent_ne_row {d q : Pos} (h : q.1 ≤ d.1) : q ≠ parent d := by
  intro e
  rw [e] at h
  have : (parent d).1 = d.1 + 1 := rfl
  omega

/-- the three `upd`s are the writes of `removeSingle` before `moveUpDescendants` -/
theorem pre_low {X : Pos → Option (Leaf H)} {d c : Pos} (node : Leaf H) (hrow : c.1 < d.1) :
    upd (upd (upd X d none) (sib d) none) (parent d) (some node) c = X c := by
  have n1 : c ≠ parent d := parent_ne_row (Nat.le_of_lt hrow)
  have n2 : c ≠ sib d := by intro e; rw [e, CalcGeo.sib_fst] at hrow; exact Nat.lt_irrefl _ hrow
  have n3 : c ≠ d := by intro e; rw [e] at hrow; exact Nat.lt_irrefl _ hrow
  rw [upd_ne _ _ n1, upd_ne _ _ n2, upd_ne _ _ n3]

theorem pre_below {A : Pos → Option (Leaf H)} {d c : Pos} (node : Leaf H) (hc : SUnder (sib d) c) :
    upd (upd (upd (clearBelow d A) d none) (sib d) none) (parent d) (some node) c = A c := by
  rw [pre_low node (show c.1 < d.1 from hc.2)]
  unfold clearBelow
  rw [if_neg]
  intro h
  exact MapLiftGeo.not_anc_both h.1 hc.1

/-- `removeSingle` of a non-root `d` whose sibling stores `node`: the subtree of `d` is dropped, the sibling's subtree moves
up one row (`liftA (sib d)`), the hashes above are recomputed (`updLoopA`) and what is no longer needed is pruned (`fgLoopA`) -/
theorem removeSingle_nonroot_rep {m : MapPollard H} {T n : Nat} {A : Pos → Option (Leaf H)} {C : H → Option Pos}
    (rep : Rep m T A C) (hn : m.numLeaves = BitVec.ofNat 64 n) (hn63 : n < 2 ^ 63) (hfit : forestRows n ≤ T)
    {fl : Bool} (hfull : m.full = fl) {d ρ : Pos} (hd : Valid T d) (hnr : isRootPos n d = false)
    (hρ : isRootPos n ρ = true) (hρd : Anc ρ d) {node : Leaf H} (hsib : A (sib d) = some node)
    -- both about the cache AFTER `cacheSib` (the caller pushes its invariant through that update first):
    -- a stored node below the sibling whose hash is cached is cached at its own position
    (hc : ∀ c v, SUnder (sib d) c → A c = some v → ∀ t, cacheSib node (parent d) C v.hash = some t → t = c)
    -- a cached position below the sibling is stored with that hash
    (hc2 : ∀ x t, cacheSib node (parent d) C x = some t → SUnder (sib d) t → ∃ v, A t = some v ∧ v.hash = x) :
    ∃ m', MapPollard.removeSingle (encP T d) m = (m', .ok ()) ∧
      Rep m' T
        (fgLoopA n (T + 1 - d.1) d
          (updLoopA n T (T + 1 - (d.1 + 1)) (parent d) ⟨node.hash, fl⟩
            (liftA (sib d) (upd (upd (upd (clearBelow d A) d none) (sib d) none) (parent d) (some node)))))
        (liftC (sib d) (cacheSib node (parent d) C)) ∧
      m'.numLeaves = m.numLeaves ∧ m'.full = m.full := by
  have hT := rep.T_le
  have hρh := root_valid hρ
  have hρT : Valid T ρ := hρh.mono hfit
  have hdh : Valid (forestRows n) d := MapPrune.valid_below hρh hρd
  have hdρ := root_of_anc_row hρ hρd hnr
  have hlt : d.1 < T := by have := hρT.1; omega
  have hσ := valid_sib hd hlt
  have hP := valid_parent hd hlt
  have hσd : sib d ≠ d := CalcGeo.sib_ne d
  have hdP : d ≠ parent d := parent_ne_row (Nat.le_refl _)
  have hσP : sib d ≠ parent d := parent_ne_row (by rw [CalcGeo.sib_fst]; exact Nat.le_refl _)
  obtain ⟨rep1, a1, b1⟩ := forgetBelow_rep rep hd
  have hr : (m.forgetBelow (encP T d)).isRoot (encP T d) = false := by
    rw [isRoot_gen hT rep1.rows (a1.trans hn) hn63 hd (Or.inl hdh), hnr]
  generalize hm1 : m.forgetBelow (encP T d) = m1 at rep1 a1 b1 hr
  have rep2 := rep1.delNode hd
  have hget : (m1.delNode (encP T d)).getNode (encP T (sib d)) = some node := by
    rw [rep2.node _ hσ, upd_ne _ _ hσd]
    unfold clearBelow
    rw [if_neg, hsib]
    intro h; have := h.2; rw [CalcGeo.sib_fst] at this; omega
  have rep3 := (rep2.delNode hσ).putNode hP node
  obtain ⟨rep4', a4, b4⟩ := cacheSib_rep rep3 hP node
  obtain ⟨m5, e5, rep5, a5, b5⟩ := MapMoveUp.moveUpDescendants_rep rep4' hσ (by rw [CalcGeo.sib_fst]; exact hlt)
    (by rw [upd_ne _ _ hσP, upd_self])
    (by rw [CalcGeo.sib_sib, upd_ne _ _ hdP, upd_ne _ _ hσd.symm, upd_self])
    (by
      intro q hq
      rw [CalcGeo.sib_sib] at hq
      rw [pre_low node hq.2]
      unfold clearBelow
      rw [if_pos hq])
    (by
      intro c v hsc hA t ht
      rw [pre_below node hsc] at hA
      exact hc c v hsc hA t ht)
    (by
      intro x t ht hst
      rw [pre_below node hst]
      exact hc2 x t ht hst)
  rw [CalcGeo.sib_sib] at e5
  have n5 : m5.numLeaves = BitVec.ofNat 64 n := by
    rw [a5, a4]; exact a1.trans hn
  have f5 : m5.full = fl := by
    rw [b5, b4]; exact b1.trans hfull
  obtain ⟨rep6, a6, b6⟩ := updateHashes_rep rep5 n5 hn63 f5 hd hlt hdh node.hash
  obtain ⟨rep7, a7, b7⟩ := forgetUnneededDel_rep rep6 (a6.trans n5) hn63 hfit hd hρ hρd
  rw [if_neg (by rw [hnr]; simp)] at rep7
  refine ⟨_, ?_, rep7, ?_, ?_⟩
  · unfold MapPollard.removeSingle
    simp only
    rw [hm1, hr]
    simp only [Bool.false_eq_true, if_false]
    rw [EncPos.sibling_encP hT hd, hget]
    simp only
    rw [rep2.rows, EncPos.parent_encP hT hd hlt, rep3.rows, calcNext_sib hT hd hlt]
    simp only [Bool.false_eq_true, if_false]
    by_cases hcs : (((m1.delNode (encP T d)).delNode (encP T (sib d))).putNode (encP T (parent d)) node).hasCached
        node.hash = true
    · rw [if_pos hcs] at e5
      rw [if_pos hcs]
      simp only
      rw [e5]
    · rw [if_neg hcs] at e5
      rw [if_neg hcs]
      simp only
      rw [e5]
  · rw [a7, a6, n5, hn]
  · rw [b7, b6, f5, hfull]

section Example
local instance exHasher : Hasher Nat := ⟨fun a b => a + b + 1, 0⟩

def mX : MapPollard Nat :=
  { nodes := [(encP 2 (2, 0), ⟨100, false⟩), (encP 2 (1, 0), ⟨50, false⟩), (encP 2 (1, 1), ⟨60, false⟩),
              (encP 2 (0, 2), ⟨30, true⟩), (encP 2 (0, 3), ⟨31, false⟩)],
    cached := [(30, encP 2 (0, 2))], numLeaves := 4#64, totalRows := H8 2, full := false }

theorem mX_rep : Rep mX 2 (absA mX 2) (absC mX 2) :=
  rep_abs_of_decode (by decide) rfl (by decide) (by decide)

theorem fr4 : forestRows 4 ≤ 2 := forestRows_le (by decide)

theorem valid_fr4 {q : Pos} (h : Valid 2 q) : Valid (forestRows 4) q := by
  have : forestRows 4 = 2 := by
    have a := fr4
    have b := forestRows_spec_le 4
    have : ¬ forestRows 4 ≤ 1 := by
      intro h1
      have : 2 ^ forestRows 4 ≤ 2 ^ 1 := two_pow_le_of_le h1
      omega
    omega
  rw [this]; exact h

example : Rep (mX.forgetBelow (encP 2 (1, 1))) 2 (clearBelow (1, 1) (absA mX 2)) (absC mX 2) ∧
    (mX.forgetBelow (encP 2 (1, 1))).numLeaves = mX.numLeaves ∧ (mX.forgetBelow (encP 2 (1, 1))).full = mX.full :=
  forgetBelow_rep mX_rep (by decide)

example : absA mX 2 (0, 2) = some ⟨30, true⟩ ∧ clearBelow (1, 1) (absA mX 2) (0, 2) = none ∧
    clearBelow (1, 1) (absA mX 2) (1, 1) = some ⟨60, false⟩ := by
  refine ⟨by decide, by decide, by decide⟩

example : mX.isRoot (encP 2 (2, 0)) = isRootPos 4 (2, 0) :=
  isRoot_rep (n := 4) mX_rep rfl (by decide) fr4 (by decide) (valid_fr4 (by decide))

example : Rep (mX.updateHashes (encP 2 (0, 2)) 77) 2
      (updLoopA 4 2 (2 + 1 - ((0, 2) : Pos).1.succ) (parent (0, 2)) ⟨77, false⟩ (absA mX 2)) (absC mX 2) ∧
    (mX.updateHashes (encP 2 (0, 2)) 77).numLeaves = mX.numLeaves ∧
    (mX.updateHashes (encP 2 (0, 2)) 77).full = mX.full :=
  updateHashes_rep (n := 4) mX_rep rfl (by decide) rfl (d := (0, 2)) (by decide) (by decide)
    (valid_fr4 (by decide)) 77

/-- the walk of `updateHashes` from `(1,1)` (new hash 77): the root becomes `ph 50 77 = 128` -/
example : updLoopA 4 2 2 (1, 1) ⟨77, false⟩ (absA mX 2) (2, 0) = some ⟨128, false⟩ := by decide

example : Rep (mX.forgetUnneededDel (encP 2 (0, 3))) 2
      (if isRootPos 4 (0, 3) = true then absA mX 2 else fgLoopA 4 (2 + 1 - ((0, 3) : Pos).1) (0, 3) (absA mX 2))
      (absC mX 2) ∧
    (mX.forgetUnneededDel (encP 2 (0, 3))).numLeaves = mX.numLeaves ∧
    (mX.forgetUnneededDel (encP 2 (0, 3))).full = mX.full :=
  forgetUnneededDel_rep (n := 4) (ρ := (2, 0)) mX_rep rfl (by decide) fr4 (by decide) (by decide) (by decide)

example : ∃ m', MapPollard.removeSingle (encP 2 (2, 0)) mX = (m', .ok ()) ∧
    Rep m' 2 (upd (clearBelow (2, 0) (absA mX 2)) (2, 0) (some ⟨zero, false⟩)) (absC mX 2) ∧
    m'.numLeaves = mX.numLeaves ∧ m'.full = mX.full :=
  removeSingle_root_rep (n := 4) mX_rep rfl (by decide) rfl (by decide) (by decide)

theorem under_11 {c : Pos} (h : SUnder (sib (1, 0)) c) : c = (0, 2) ∨ c = (0, 3) := by
  obtain ⟨r, o⟩ := c
  obtain ⟨⟨h1, h2⟩, h3⟩ := h
  have e : sib (1, 0) = (1, 1) := by decide
  rw [e] at h1 h2 h3
  simp only at h1 h2 h3
  have hr : r = 0 := by omega
  subst hr
  simp at h2
  have : o = 2 ∨ o = 3 := by omega
  rcases this with rfl | rfl <;> simp

theorem exC_eq (x : Nat) : absC mX 2 x = if x = 30 then some (0, 2) else none := by
  unfold absC MapPollard.getCached mX
  simp only [AL.get?]
  by_cases e : x = 30
  · subst e; decide
  · have : ¬ (30 = x) := fun h => e h.symm
    rw [if_neg this, if_neg e]; rfl

/-- deleting `(1,0)`: its sibling `(1,1)` (hash 60) moves onto the root position, the leaves below it one row up -/
example : ∃ m', MapPollard.removeSingle (encP 2 (1, 0)) mX = (m', .ok ()) ∧
    Rep m' 2
      (fgLoopA 4 (2 + 1 - ((1, 0) : Pos).1) (1, 0)
        (updLoopA 4 2 (2 + 1 - (((1, 0) : Pos).1 + 1)) (parent (1, 0)) ⟨(⟨60, false⟩ : Leaf Nat).hash, false⟩
          (liftA (sib (1, 0)) (upd (upd (upd (clearBelow (1, 0) (absA mX 2)) (1, 0) none) (sib (1, 0)) none)
            (parent (1, 0)) (some ⟨60, false⟩)))))
      (liftC (sib (1, 0)) (cacheSib ⟨60, false⟩ (parent (1, 0)) (absC mX 2))) ∧
    m'.numLeaves = mX.numLeaves ∧ m'.full = mX.full := by
  have hcu : cacheSib (⟨60, false⟩ : Leaf Nat) (parent (1, 0)) (absC mX 2) = absC mX 2 := by
    unfold cacheSib
    rw [if_neg]
    rw [exC_eq]; decide
  refine removeSingle_nonroot_rep (n := 4) (ρ := (2, 0)) (node := ⟨60, false⟩) mX_rep rfl (by decide) fr4 rfl
    (by decide) (by decide) (by decide) (by decide) (by decide) ?_ ?_
  · intro c v hsc hA t ht
    rw [hcu, exC_eq] at ht
    rcases under_11 hsc with rfl | rfl
    · have : absA mX 2 (0, 2) = some ⟨30, true⟩ := by decide
      rw [this] at hA
      cases hA
      simpa using ht.symm
    · have : absA mX 2 (0, 3) = some ⟨31, false⟩ := by decide
      rw [this] at hA
      cases hA
      simp at ht
  · intro x t ht hst
    rw [hcu, exC_eq] at ht
    split at ht
    · rename_i e
      simp only [Option.some.injEq] at ht
      subst ht e
      exact ⟨⟨30, true⟩, by decide, rfl⟩
    · cases ht

example :
    let A' := fgLoopA 4 (2 + 1 - 1) (1, 0)
        (updLoopA 4 2 (2 + 1 - (1 + 1)) (parent (1, 0)) ⟨60, false⟩
          (liftA (sib (1, 0)) (upd (upd (upd (clearBelow (1, 0) (absA mX 2)) (1, 0) none) (sib (1, 0)) none)
            (parent (1, 0)) (some (⟨60, false⟩ : Leaf Nat)))))
    A' (2, 0) = some ⟨60, false⟩ ∧ A' (1, 0) = some ⟨30, true⟩ ∧ A' (1, 1) = some ⟨31, false⟩ ∧
      A' (0, 2) = none ∧ A' (0, 3) = none ∧ liftC (sib (1, 0)) (absC mX 2) 30 = some (1, 0) := by
  refine ⟨by decide, by decide, by decide, by decide, by decide, by decide⟩

/-- the model itself on that input, evaluated (keys: `(2,0)` = 6, `(1,0)` = 4, `(1,1)` = 5) -/
example : (MapPollard.removeSingle (encP 2 (1, 0)) mX).1.nodes =
      [(5#64, ⟨31, false⟩), (4#64, ⟨30, true⟩), (6#64, ⟨60, false⟩)] ∧
    (MapPollard.removeSingle (encP 2 (1, 0)) mX).1.cached = [(30, 4#64)] ∧
    (match (MapPollard.removeSingle (encP 2 (1, 0)) mX).2 with | .ok _ => true | .error _ => false) = true := by
  decide +kernel

def mY : MapPollard Nat :=
  { nodes := [(encP 2 (2, 0), ⟨100, false⟩), (encP 2 (1, 1), ⟨60, false⟩),
              (encP 2 (0, 0), ⟨10, false⟩), (encP 2 (0, 1), ⟨11, true⟩)],
    cached := [(11, encP 2 (0, 1))], numLeaves := 4#64, totalRows := H8 2, full := false }

/-- deleting `(0,0)`: the cached sibling `(0,1)` moves to `(1,0)` = 4 (node and cache entry), and
`updateHashes` stores `ph 11 60 = 72` in the root -/
example : (MapPollard.removeSingle (encP 2 (0, 0)) mY).1.nodes =
      [(6#64, ⟨72, false⟩), (4#64, ⟨11, true⟩), (5#64, ⟨60, false⟩)] ∧
    (MapPollard.removeSingle (encP 2 (0, 0)) mY).1.cached = [(11, 4#64)] ∧
    (match (MapPollard.removeSingle (encP 2 (0, 0)) mY).2 with | .ok _ => true | .error _ => false) = true := by
  decide +kernel

/-! `isRoot_rep` for every `Valid T q` and `updateHashes_rep` for every `Valid T d` are false.  A position
that is valid in the allocated geometry (`T` rows) but not in the geometry of the forest
(`forestRows n` rows) is translated by `translatePos` onto a position of a HIGHER row of the small
geometry, which can be a root.  Such positions lie outside the forest, so this is not a defect
of the Go code, but the hypothesis `Valid (forestRows n) q` is needed. -/

def mZ : MapPollard Nat :=
  { nodes := [], cached := [], numLeaves := 3#64, totalRows := H8 3, full := false }

theorem mZ_rep : Rep mZ 3 (fun _ => none) (fun _ => none) where
  T_le := by decide
  rows := rfl
  keys := by intro p l h; cases h
  node := by intro q hq; rfl
  dom := by intro q l h; cases h
  cache := by intro x; rfl
  cdom := by intro x t h; cases h

/-- `(0,4)` is valid for 3 rows; with 3 leaves (2 rows) its key `4` is the key of the root `(1,0)` -/
theorem isRoot_rep_false :
    ∃ (m : MapPollard Nat) (T n : Nat) (A : Pos → Option (Leaf Nat)) (C : Nat → Option Pos) (q : Pos),
      Rep m T A C ∧ m.numLeaves = BitVec.ofNat 64 n ∧ n < 2 ^ 63 ∧ forestRows n ≤ T ∧ Valid T q ∧
      m.isRoot (encP T q) ≠ isRootPos n q :=
  ⟨mZ, 3, 3, _, _, (0, 4), mZ_rep, rfl, by decide, forestRows_le (by decide), by decide, by decide +kernel⟩

/-- 8 leaves (3 rows) in a 4-row allocation, something stored at `(3,1)` (outside the forest) -/
def mW : MapPollard Nat :=
  { nodes := [(encP 4 (3, 1), ⟨5, false⟩)], cached := [], numLeaves := 8#64, totalRows := H8 4, full := false }

theorem mW_rep : Rep mW 4 (absA mW 4) (absC mW 4) :=
  rep_abs_of_decode (by decide) rfl (by decide) (by decide)

/-- `d = (0,8)` is valid for 4 rows but not a position of the 8-leaf forest: the model takes its
grandparent `(2,2)` (key 26, translated to 14 = the root `(3,0)` of the forest) for a root and stops,
the abstract loop goes on and would overwrite `(3,1)` -/
theorem updateHashes_rep_false :
    ∃ (m : MapPollard Nat) (T n : Nat) (A : Pos → Option (Leaf Nat)) (C : Nat → Option Pos) (d : Pos) (hash : Nat),
      Rep m T A C ∧ m.numLeaves = BitVec.ofNat 64 n ∧ n < 2 ^ 63 ∧ forestRows n ≤ T ∧ m.full = false ∧
      Valid T d ∧ d.1 < T ∧
      ¬ Rep (m.updateHashes (encP T d) hash) T
          (updLoopA n T (T + 1 - (d.1 + 1)) (parent d) ⟨hash, false⟩ A) C := by
  refine ⟨mW, 4, 8, _, _, (0, 8), 7, mW_rep, rfl, by decide, forestRows_le (by decide), rfl,
    by decide, by decide, ?_⟩
  intro r
  have h := r.node (3, 1) (by decide)
  have e1 : (mW.updateHashes (encP 4 (0, 8)) 7).getNode (encP 4 (3, 1)) = some ⟨5, false⟩ := by decide +kernel
  have e2 : updLoopA 8 4 (4 + 1 - (((0, 8) : Pos).1 + 1)) (parent (0, 8)) ⟨7, false⟩ (absA mW 4) (3, 1) =
      some ⟨9, false⟩ := by decide +kernel
  rw [e1, e2] at h
  exact absurd h (by decide)

end Example

end UtreexoVerif.Proofs.MapRemoveRep

section Axioms
open UtreexoVerif.Proofs.MapRemoveRep
#print axioms forgetBelow_rep
#print axioms isRoot_rep
#print axioms isRoot_gen
#print axioms updateHashes_rep
#print axioms forgetUnneededDel_rep
#print axioms removeSingle_root_rep
#print axioms removeSingle_nonroot_rep
#print axioms isRoot_rep_false
#print axioms updateHashes_rep_false
end Axioms
