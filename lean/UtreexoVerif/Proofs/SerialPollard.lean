/-
  `RestorePollardFrom`/`readOne` on what `WriteTo`/`writeOne` wrote for a specification forest.
  The bytes of a node are the bytes of its record tree (`encNode_eq_encL`), so every statement
  here is the image of the corresponding statement about the parse
  (`Proofs/PollardFormat.lean`) through `readOne_eq` / `restorePollard_eq`.  First half, namespace
  `Proofs.PollardHeapSerial`: the record forest of `F` and the parse on it; second half, namespace
  `Proofs.Serial`: the images for the shape-level decoder of `Model/Serial.lean`.
-/
import UtreexoVerif.Proofs.PollardFormat
set_option linter.unusedSectionVars false

namespace UtreexoVerif.Proofs.PollardHeapSerial
open UtreexoVerif.Spec Hasher
open UtreexoVerif.Model.Serial UtreexoVerif.Proofs.Serial

variable {H : Type} [DecidableEq H] [Hasher H] [HashBytes H]

/-- the records `writeOne` writes for the non-root node `n` with sibling `s` -/
def LNode.ofNode : CTree H → CTree H → LNode
  | n, .leaf _ => .dead (toBytes n.hash) (isLeafT n)
  | n, .node sl sr => .fork (toBytes n.hash) (isLeafT n) (LNode.ofNode sl sr) (LNode.ofNode sr sl)

def LNode.ofRoot (t : Option (CTree H)) : LNode := LNode.ofNode (selfT t) (selfT t)

theorem encNode_eq_encL : ∀ (s n : CTree H), encNode n s = encL (LNode.ofNode n s)
  | .leaf _, n => rfl
  | .node sl sr, n => by
    rw [encNode, LNode.ofNode, encL, encNode_eq_encL sr sl, encNode_eq_encL sl sr]

theorem encRoot_eq_encL (t : Option (CTree H)) : encRoot t = encL (LNode.ofRoot t) := by
  rw [encRoot_self, LNode.ofRoot, encNode_eq_encL]

theorem LNode.ofNode_W (ok : HashBytesOK H) : ∀ (s n : CTree H), (LNode.ofNode n s).W
  | .leaf _, _ => ok.len _
  | .node sl sr, _ => ⟨ok.len _, LNode.ofNode_W ok sr sl, LNode.ofNode_W ok sl sr⟩

theorem erase_ofNode (ok : HashBytesOK H) : ∀ (s n : CTree H), (LNode.ofNode n s).erase = PNode.ofNode n s
  | .leaf _, n => by simp [LNode.ofNode, LNode.erase, PNode.ofNode, ok.rt]
  | .node sl sr, n => by
    simp [LNode.ofNode, LNode.erase, PNode.ofNode, ok.rt, erase_ofNode ok sr sl, erase_ofNode ok sl sr]

theorem erase_ofRoot (ok : HashBytesOK H) (t : Option (CTree H)) : (LNode.ofRoot t).erase = PNode.ofRoot t := by
  rw [LNode.ofRoot, erase_ofNode ok, ofRoot_self]

theorem leafRecs_ofNode (ok : HashBytesOK H) : ∀ (s n : CTree H),
    leafRecs H (LNode.ofNode n s) = (nonzeros (wireLeavesNode n s)).map toBytes := by
  intro s
  induction s with
  | leaf x =>
    intro n
    simp only [LNode.ofNode, leafRecs, wireLeavesNode, ok.rt, nonzeros]
    cases isLeafT n <;> by_cases hz : n.hash = zero <;> simp [hz]
  | node sl sr ihl ihr =>
    intro n
    simp only [LNode.ofNode, leafRecs, wireLeavesNode, ok.rt, nonzeros_append, List.map_append, ihr sl, ihl sr]
    congr 1
    simp only [nonzeros]
    cases isLeafT n <;> by_cases hz : n.hash = zero <;> simp [hz]

theorem leafRecs_ofRoots (ok : HashBytesOK H) (ts : List (Option (CTree H))) :
    (ts.map (LNode.ofRoot (H := H))).flatMap (leafRecs H) = (nonzeros (ts.flatMap wireLeavesRoot)).map toBytes := by
  induction ts with
  | nil => simp [nonzeros]
  | cons t ts ih =>
    simp only [List.map_cons, List.flatMap_cons, nonzeros_append, List.map_append, ih, LNode.ofRoot,
      leafRecs_ofNode ok, wireLeaves_self]

theorem putL_ofNode (ok : HashBytesOK H) (nm : NodeMap H) (s n : CTree H) :
    putL nm (LNode.ofNode n s) = putAll nm (nonzeros (wireLeavesNode n s)) := by
  simp only [putL, leafRecs_ofNode ok, putRecs, putAll, List.foldl_map, ok.rt, mini]

theorem putLs_ofRoots (ok : HashBytesOK H) (nm : NodeMap H) (ts : List (Option (CTree H))) :
    putLs nm (ts.map LNode.ofRoot) = putAll nm (nonzeros (ts.flatMap wireLeavesRoot)) := by
  simp only [putLs, leafRecs_ofRoots ok, putRecs, putAll, List.foldl_map, ok.rt, mini]

/-- the record forest `WriteTo` writes for `F`: what the parse of `encodePollard F` returns -/
def rootRecs (F : Forest H) : List LNode := (F.trees.map (·.2)).map LNode.ofRoot

theorem encodePollard_eq_encL (F : Forest H) :
    encodePollard F = le64 (BitVec.ofNat 64 F.numLeaves) ++ (le64 (BitVec.ofNat 64 (numDead F)) ++
      (rootRecs F).flatMap encL) := by
  simp only [encodePollard_eq, rootRecs, List.flatMap_map, encRoot_eq_encL]

theorem restoreL_forest (ok : HashBytesOK H) (F : Forest H) (hn : F.numLeaves < 2 ^ 64) (r : Reader) :
    Reads (restoreL r) 0 r.data (encodePollard F) (fun _ x => x = ⟨(encodePollard F).length,
      .ok (BitVec.ofNat 64 F.numLeaves, BitVec.ofNat 64 (numDead F), rootRecs F)⟩) := by
  have hlen : (encodePollard F).length = 16 + ((rootRecs F).flatMap encL).length := by
    rw [encodePollard_eq_encL]
    simp only [List.length_append, le64_length]
    omega
  rw [hlen, encodePollard_eq_encL]
  refine restoreL_spec _ _ _ (fun t ht => ?_) ?_ r
  · obtain ⟨o, _, rfl⟩ := List.mem_map.mp ht
    exact LNode.ofNode_W ok _ _
  · rw [numRoots_eq hn]
    simp [rootRecs, Forest.trees]

theorem restoreL_encode (ok : HashBytesOK H) (F : Forest H) (hn : F.numLeaves < 2 ^ 64)
    (r : Reader) (hd : r.data = encodePollard F) :
    restoreL r = ⟨(encodePollard F).length, .ok (BitVec.ofNat 64 F.numLeaves,
      BitVec.ofNat 64 (numDead F), (F.trees.map (·.2)).map LNode.ofRoot)⟩ :=
  (restoreL_forest ok F hn r).1 [] (by rw [hd, List.append_nil])

theorem restoreL_prefix (ok : HashBytesOK H) (F : Forest H) (hn : F.numLeaves < 2 ^ 64)
    (r : Reader) (t : Nat) (ht : t < (encodePollard F).length) (hd : r.data = (encodePollard F).take t) :
    (restoreL r).out = .err ∧ (restoreL r).n ≤ t := by
  obtain ⟨n, hx, hle⟩ := (restoreL_forest ok F hn r).2 t ht hd
  rw [hx]
  exact ⟨rfl, by simpa using hle⟩

end UtreexoVerif.Proofs.PollardHeapSerial

namespace UtreexoVerif.Proofs.Serial
open Model.Serial Spec Hasher
open UtreexoVerif.Proofs.PollardHeapSerial

variable {H : Type} [DecidableEq H] [Hasher H] [HashBytes H]

theorem readOne_encNode (ok : HashBytesOK H) : ∀ (s n : CTree H) (fuel : Nat) (r : Reader) (nm : NodeMap H)
    (rest : List Byte), r.data = encNode n s ++ rest → (encNode n s).length ≤ fuel →
    ∃ r', readOne fuel r nm = ⟨(encNode n s).length, .ok (PNode.ofNode n s, putAll nm (nonzeros (wireLeavesNode n s)), r')⟩ ∧
      r'.data = rest ∧ r'.eofWithData = r.eofWithData := by
  intro s n fuel r nm rest hd hf
  rw [encNode_eq_encL] at hd hf
  obtain ⟨r', hx, hr, he⟩ := (readOneL_spec _ (LNode.ofNode_W ok s n) fuel r (Or.inl hf)).1 rest hd
  refine ⟨r', ?_, hr, he⟩
  rw [readOne_eq, hx, encNode_eq_encL]
  simp only [Res.mapOk, erase_ofNode ok, putL_ofNode ok]

theorem readOne_prefix (ok : HashBytesOK H) : ∀ (s n : CTree H) (fuel : Nat) (r : Reader) (nm : NodeMap H) (t : Nat),
    t < (encNode n s).length → r.data = (encNode n s).take t → r.data.length < fuel →
    (readOne fuel r nm).out = .err ∧ (readOne fuel r nm).n ≤ t := by
  intro s n fuel r nm t ht hd hf
  rw [encNode_eq_encL] at ht hd
  obtain ⟨k, hx, hle⟩ := (readOneL_spec _ (LNode.ofNode_W ok s n) fuel r (Or.inr hf)).2 t ht hd
  rw [readOne_eq, hx]
  exact ⟨rfl, by simpa using hle⟩

/-- the round trip with the hypotheses on the leaves in STREAM order (`wireLeaves F`), as the decoder
meets them; `restorePollard_encode` restates them on `F.liveLeaves` through `wireLeaves_perm` -/
theorem restorePollard_encode_wire (ok : HashBytesOK H) (F : Forest H) (hn : F.numLeaves < 2 ^ 63)
    (hz : ∀ h ∈ wireLeaves F, h ≠ zero) (hm : ((wireLeaves F).map mini).Nodup)
    (hcount : (wireLeaves F).length + numDead F = F.numLeaves)
    (r : Reader) (hd : r.data = encodePollard F) :
    restorePollard r = ⟨(encodePollard F).length, .ok (PState.ofForest F)⟩ := by
  have hnm : putLs ([] : NodeMap H) (rootRecs F) = (wireLeaves F).map (fun h => (mini h, h)) := by
    rw [rootRecs, putLs_ofRoots ok, ← wireLeaves_eq, nonzeros_eq_self hz, putAll_fresh _ _ (by simpa using hm)]
    simp
  have hlen : ((List.map (fun h => (mini h, h)) (wireLeaves F)).length : Int) = ((F.numLeaves - numDead F : Nat) : Int) := by
    rw [List.length_map]; congr 1; omega
  rw [restorePollard_eq, restoreL_encode ok F (by omega) r hd]
  simp only []
  rw [show (F.trees.map (·.2)).map LNode.ofRoot = rootRecs F from rfl, hnm, sub_toInt hn (by omega), hlen]
  simp [PState.ofForest, rootRecs, List.map_map, Function.comp_def, erase_ofRoot ok]

theorem restorePollard_prefix (ok : HashBytesOK H) (F : Forest H) (hn : F.numLeaves < 2 ^ 64)
    (r : Reader) (t : Nat) (ht : t < (encodePollard F).length) (hd : r.data = (encodePollard F).take t) :
    (restorePollard (H := H) r).out = .err ∧ (restorePollard (H := H) r).n ≤ t := by
  obtain ⟨n, hx, hle⟩ := (restoreL_forest ok F hn r).2 t ht hd
  rw [restorePollard_eq, hx]
  exact ⟨rfl, by simpa using hle⟩

theorem restorePollard_encode (ok : HashBytesOK H) (F : Forest H) (hF : LeavesOK F)
    (r : Reader) (hd : r.data = encodePollard F) :
    restorePollard r = ⟨(encodePollard F).length, .ok (PState.ofForest F)⟩ := by
  have hp := wireLeaves_perm F (by have := hF.small; omega)
  apply restorePollard_encode_wire ok F hF.small
  · intro h hh; exact hF.nonzero h (hp.mem_iff.mp hh)
  · exact ((hp.map mini).nodup_iff).mpr hF.miniDistinct
  · rw [hp.length_eq]; exact live_dead_count F
  · exact hd

theorem restorePollard_total (r : Reader) :
    (restorePollard (H := H) r).out ≠ .hang ∧ (restorePollard (H := H) r).out ≠ .panic := by
  have h := restoreL_total r
  rw [restorePollard_eq]
  revert h
  rcases restoreL r with ⟨n, _ | _ | _ | _⟩ <;> intro h
  · simp only []
    split <;> exact ⟨nofun, nofun⟩
  · exact ⟨nofun, nofun⟩
  · exact absurd rfl h.2
  · exact absurd rfl h.1

theorem restorePollard_chunking (r1 r2 : Reader) (h : r1.data = r2.data) :
    restorePollard (H := H) r1 = restorePollard r2 := by
  rw [restorePollard_eq, restorePollard_eq, restoreL_chunking r1 r2 h]

end UtreexoVerif.Proofs.Serial
