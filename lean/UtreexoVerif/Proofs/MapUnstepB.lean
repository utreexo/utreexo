/-
  The inverse of `MapAddSteps.stepB`: one iteration of `undoSingleAddLoop` that restores an empty root
  (`GIH.unsplit`: the spine node is dropped, then `GIH.unlift_root`, an instance of `GIH.unlift_reloc`); its reading
  on `HInvP` (`unstepB`) with an example.  The moves are `MapGIH.GIH.…`; `unsplitA`, `unstepB` and the example are
  `MapUndoSteps.…`.
-/
import UtreexoVerif.Proofs.MapUnstepA
import UtreexoVerif.Proofs.MapUnlift
import UtreexoVerif.Proofs.PForestAdd

namespace UtreexoVerif.Proofs.MapUndoSteps
open Model Spec MapRep MapLiftGeo PForest
  MapUndoDefs MapRelocK Hasher
set_option linter.unusedSectionVars false

variable {H : Type} [DecidableEq H] [Hasher H]


section
variable {A : Pos → Option (Leaf H)} {C : H → Option Pos} {σ : Pos}

/-- the store after the un-split step at `σ` -/
abbrev unsplitA (σ : Pos) (A : Pos → Option (Leaf H)) : Pos → Option (Leaf H) :=
  upd (unliftA σ (upd A (parent σ) none)) (sib σ) (some ⟨zero, true⟩)

theorem unsplitA_none {q : Pos} (hq : Anc (parent σ) q) (h1 : ¬ SUnder σ q) (h2 : q ≠ sib σ) :
    unsplitA σ A q = none := by
  unfold unsplitA
  rw [upd_ne _ _ h2]
  unfold unliftA
  rw [if_neg h1]
  by_cases h4 : SUnder (parent σ) q
  · rw [if_pos h4]
  · rw [if_neg h4]
    have : q = parent σ := by
      apply Classical.byContradiction
      intro hne
      exact h4 (sunder_of_ne hq hne)
    rw [this, upd_self]

theorem unsplitC_dom (x : H) : (unliftC σ (dropC (parent σ) A C) x).isSome = true ↔
    ((C x).isSome = true ∧ ∀ l, A (parent σ) = some l → l.hash ≠ x) := by
  unfold unliftC dropC
  rw [Option.isSome_map]
  cases hA : A (parent σ) with
  | none => simp
  | some l =>
    simp only [Option.some.injEq, forall_eq']
    by_cases hx : x = l.hash
    · subst hx; simp [upd_self]
    · rw [upd_ne _ _ hx]
      constructor
      · intro h; exact ⟨h, fun e => hx e.symm⟩
      · intro h; exact h.1

end


section

theorem split_roots {N : List (Pos × H × Bool)} {R : Pos → Prop} {σ : Pos} (L : Laws N R)
    (hρN : (sib σ, (zero : H), false) ∈ N) (hσR : R σ) :
    (∀ h f, (parent σ, h, f) ∉ N) ∧
    (∀ q h b, (q, h, b) ∈ N → Anc (parent σ) q → ¬ SUnder σ q → q ≠ sib σ → q = σ) := by
  have hPnot : ∀ h f, (parent σ, h, f) ∉ N := by
    intro h f hm
    obtain ⟨r, hr, ha⟩ := L.under_root _ h f hm
    have := L.root_disj r σ σ hr hσR (Anc.trans ha (anc_parent_self σ)) (Anc.refl σ)
    subst this
    have h1 := ha.1
    have : (parent r).1 = r.1 + 1 := rfl
    omega
  refine ⟨hPnot, ?_⟩
  intro q h b hm ha h1 h2
  rcases anc_parent_iff'.1 ha with e | e | e
  · rw [e] at hm; exact absurd hm (hPnot h b)
  · apply Classical.byContradiction
    intro hne
    exact h1 (sunder_of_ne e hne)
  · exact absurd ((L.zero_root (sib σ) false hρN).2.2 q h b hm e) h2

theorem unsplitA_drop {A : Pos → Option (Leaf H)} {σ : Pos} : unsplitA σ (upd A (parent σ) none) = unsplitA σ A := by
  have : upd (upd A (parent σ) none) (parent σ) none = upd A (parent σ) none := funext fun q => by
    rw [upd_apply, upd_apply]; split <;> rfl
  unfold unsplitA
  rw [this]

end

end UtreexoVerif.Proofs.MapUndoSteps

namespace UtreexoVerif.Proofs.MapGIH.GIH
open Model Spec MapRep MapLiftGeo PForest
  MapUndoDefs MapUndoSteps MapRelocK Hasher

variable {H : Type} [DecidableEq H] [Hasher H]
variable {fl : Bool} {A : Pos → Option (Leaf H)} {C : H → Option Pos} {N N' : List (Pos × H × Bool)}
  {R R' : Pos → Prop} {K Kp : H → Prop} {σ : Pos} {x : H}

/-- The move back down below `σ` after the root `parent σ` has been dropped (`A (parent σ) = none`): the state tracks
`N'`, in which the accumulated tree sits at the root `parent σ` (lifted over the empty root `sib σ`), outside that
position; the rest of the subtree is moved below `σ` (`placeEmptyRoot`: `GIH.unlift_reloc`) and the empty root is
re-created at `sib σ` (`put_root`).  Afterwards the state tracks `N`, whose roots are `σ` and `sib σ`, outside `σ`,
which stays empty. -/
theorem unlift_root (L : Laws N R) (L' : Laws N' R') (g : GIH fl A C N' R' K Kp (fun q => q = parent σ))
    (hA : A (parent σ) = none)
    (hρN : (sib σ, (zero : H), false) ∈ N) (hσR : R σ)
    (hN' : ∀ e : Pos × H × Bool, e ∈ N' ↔ (¬ Anc (parent σ) e.1 ∧ e ∈ N) ∨
      (∃ c, Anc σ c ∧ e.1 = liftP σ c ∧ (c, e.2) ∈ N))
    (hR' : ∀ z, R' z ↔ z = parent σ ∨ (R z ∧ z ≠ sib σ ∧ z ≠ σ)) :
    GIH fl (unsplitA σ A) (unliftC σ C) N R K Kp (fun q => q = σ) := by
  obtain ⟨hρR, _, hρbelow⟩ := L.zero_root (sib σ) false hρN
  obtain ⟨hσh, hσb, hσN⟩ := L.root_node σ hσR
  obtain ⟨hPnot, node_mid⟩ := split_roots L hρN hσR
  have hRP : R' (parent σ) := (hR' _).2 (Or.inl rfl)
  have hPN' : (parent σ, hσh, hσb) ∈ N' := by
    rw [← liftP_self]; exact ((Reloc.of_lifted hN').lift σ _ _ (Anc.refl σ)).2 hσN
  have above : ∀ q h b, (q, h, b) ∈ N' → Anc q (parent σ) → q = parent σ := by
    intro q h b hm ha
    obtain ⟨ρ, hρ, hq⟩ := L'.under_root q h b hm
    have := L'.root_disj ρ (parent σ) (parent σ) hρ hRP (Anc.trans hq ha) (Anc.refl _)
    subst this
    exact Anc.antisymm ha hq
  have u := g.unlift_reloc (d := sib σ) (N := N) (R := R) L' (by rw [CalcGeo.sib_sib]; exact Reloc.of_lifted hN')
    ⟨hσh, hσb, by rw [CalcGeo.parent_sib]; exact hPN'⟩ (fun q hq => Or.inl (by rw [CalcGeo.parent_sib]; exact hq))
    (fun q h b hm ha hne => absurd (above q h b hm (by rw [CalcGeo.parent_sib] at ha; exact ha))
      (by rw [CalcGeo.parent_sib] at hne; exact hne))
    (fun q hq hnr hr' => by
      rw [CalcGeo.parent_sib] at hq
      rcases (hR' q).1 hr' with e | ⟨hr, _, _⟩
      · exact hq (e ▸ Anc.refl _)
      · exact hnr hr)
    (fun t ⟨y, _, hmt⟩ => by
      rw [CalcGeo.parent_sib]
      refine ⟨fun e => ?_, fun e => ?_⟩
      · have := hρbelow t y true hmt e
        subst this
        cases (L.func _ _ _ _ _ hmt hρN).2
      · have := L.leaf_below t y σ hσh hσb hmt hσN (Anc.trans e (anc_parent_self σ))
        rw [← this] at e
        exact Nat.not_succ_le_self _ e.1)
    (fun l hl => by rw [CalcGeo.parent_sib, hA] at hl; cases hl)
  rw [CalcGeo.sib_sib, CalcGeo.parent_sib] at u
  -- with `parent σ` empty the two forms of the un-lifted state agree
  have eA : upd (unliftAll σ A) (sib σ) (some ⟨zero, true⟩) = unsplitA σ A := by
    have e0 : upd A (parent σ) none = A := funext fun q => by
      rw [upd_apply]; split
      · rename_i e; rw [e, hA]
      · rfl
    unfold unsplitA
    rw [e0]
    congr 1
    funext q
    by_cases h1 : q = σ
    · unfold unliftAll unliftA
      rw [if_pos h1, h1, hA, if_neg (fun h : SUnder σ σ => Nat.lt_irrefl _ h.2),
        if_pos ⟨anc_parent_self σ, Nat.lt_succ_self _⟩]
    · by_cases h3 : q = parent σ
      · unfold unliftAll unliftA
        rw [if_neg h1]
        by_cases h2 : SUnder σ q
        · rw [if_pos h2, if_pos h2]
        · rw [if_neg h2, if_neg h2, h3, if_pos (Anc.refl _),
            if_neg (fun h : SUnder (parent σ) (parent σ) => Nat.lt_irrefl _ h.2), hA]
      · exact (unliftA_eq_all A h1 h3).symm
  have eC : unliftCAll σ C = unliftC σ C :=
    funext fun y => (unliftC_eq_all fun e => (g.cached_pos y _ e).2 rfl).symm
  rw [eC] at u
  refine eA ▸ (u.put_root L hρR hρN).congr_hole fun q => ⟨fun h => ⟨Or.inr (Or.inl ⟨rfl, h⟩), fun e => ?_⟩, fun h => ?_⟩
  · rw [h] at e; exact CalcGeo.sib_ne σ e.symm
  · rcases h with ⟨⟨e, hne⟩ | ⟨_, e⟩ | ⟨ha | ha, h0, f, hm⟩, hq⟩
    · exact absurd e hne
    · exact e
    · exact absurd (hρbelow q h0 f hm ha) hq
    · exfalso
      rw [CalcGeo.parent_sib] at ha
      by_cases e : q = parent σ
      · exact hPnot h0 f (e ▸ hm)
      · obtain ⟨ρ, hρ, hqρ⟩ := L.under_root q h0 f hm
        have := L.root_disj ρ σ σ hρ hσR (Anc.trans hqρ (Anc.trans ha (anc_parent_self σ))) (Anc.refl σ)
        subst this
        exact Nat.not_succ_le_self _ (Nat.le_trans ha.1 hqρ.1)

/-- **one iteration of `undoSingleAddLoop` that restores an empty root** (the inverse of `MapAddSteps.stepB`): the
node at the root `parent σ` is dropped (its hash leaves the cache), then `unlift_root`.  `hx`: if the accumulated
tree is a single leaf, it is the leaf `x` that is being taken back. -/
theorem unsplit (L : Laws N R) (L' : Laws N' R') (g : GIH fl A C N' R' (Kw fl x C) Kp (fun q => q = parent σ ∧ A q = none))
    (hρN : (sib σ, (zero : H), false) ∈ N) (hσR : R σ)
    (hN' : ∀ e : Pos × H × Bool, e ∈ N' ↔ (¬ Anc (parent σ) e.1 ∧ e ∈ N) ∨
      (∃ c, Anc σ c ∧ e.1 = liftP σ c ∧ (c, e.2) ∈ N))
    (hR' : ∀ z, R' z ↔ z = parent σ ∨ (R z ∧ z ≠ sib σ ∧ z ≠ σ))
    (hx : ∀ y, (σ, y, true) ∈ N → y = x) :
    GIH fl (unsplitA σ A) (unliftC σ (dropC (parent σ) A C)) N R (Kw fl x (unliftC σ (dropC (parent σ) A C))) Kp
      (fun q => q = σ ∧ unsplitA σ A q = none) := by
  have hσe : unsplitA σ A σ = none := unsplitA_none (anc_parent_self σ) (fun h => Nat.lt_irrefl _ h.2) (CalcGeo.sib_ne σ).symm
  have u := (g.drop_at L').unlift_root L L' (upd_self _ _ _) hρN hσR hN' hR'
  rw [unsplitA_drop] at u
  refine (u.congr_hole (fun q => ⟨fun h => h.1, fun h => ⟨h, h ▸ hσe⟩⟩)).congr_K fun t y hm => ?_
  have e : Kw fl x (unliftC σ (dropC (parent σ) A C)) y ↔ Kw fl x (dropC (parent σ) A C) y := by
    unfold Kw unliftC; rw [Option.isSome_map]
  rw [e]
  refine kw_drop (fun l hA => ?_) hm
  obtain ⟨bl, hb⟩ := g.true_hash _ l hA (fun c => by rw [hA] at c; cases c.2)
  rw [← liftP_self] at hb
  have hσl := ((Reloc.of_lifted hN').lift σ _ _ (Anc.refl σ)).1 hb
  by_cases hleaf : ∃ t', (t', l.hash, true) ∈ N
  · obtain ⟨t', hm'⟩ := hleaf
    have := L.leaf_hash t' l.hash σ bl hm' hσl
    rw [← this] at hm'
    exact Or.inl (hx _ hm')
  · exact Or.inr fun t' hm' => hleaf ⟨t', hm'⟩

end UtreexoVerif.Proofs.MapGIH.GIH

namespace UtreexoVerif.Proofs.MapUndoSteps
open Model Spec MapRep MapLiftGeo PForest
  MapUndoDefs Hasher

variable {H : Type} [DecidableEq H] [Hasher H]

section
variable {A : Pos → Option (Leaf H)} {C : H → Option Pos} {N N' : List (Pos × H × Bool)}
  {R R' : Pos → Prop} {Kp : H → Prop}

/-- `GIH.unsplit` for a partial forest, with the empty root `σ` out of the hole again -/
theorem unstepB (L : Laws N R) (L' : Laws N' R')
    (inv : HInvP A C N' R' (fun x => (C x).isSome = true) Kp (fun _ => False)) {σ : Pos}
    (hρN : (sib σ, (zero : H), false) ∈ N) (hσR : R σ)
    (hN' : ∀ e : Pos × H × Bool, e ∈ N' ↔ (¬ Anc (parent σ) e.1 ∧ e ∈ N) ∨
      (∃ c, Anc σ c ∧ e.1 = liftP σ c ∧ (c, e.2) ∈ N))
    (hR' : ∀ z, R' z ↔ z = parent σ ∨ (R z ∧ z ≠ sib σ ∧ z ≠ σ)) :
    HInvP (upd (unliftA σ (upd A (parent σ) none)) (sib σ) (some ⟨zero, true⟩))
      (unliftC σ (dropC (parent σ) A C)) N R
      (fun x => (unliftC σ (dropC (parent σ) A C) x).isSome = true) Kp (fun _ => False) := by
  obtain ⟨hσh, hσb, hσN⟩ := L.root_node σ hσR
  have kw : ∀ (C' : H → Option Pos) (t : Pos) (y : H), MapGIH.Kw false hσh C' y ↔ (C' y).isSome = true := fun C' _ y =>
    ⟨fun h => h.elim id (fun c => Bool.noConfusion c.1), Or.inl⟩
  have g := (((MapGIH.gih_of_hinvP inv).congr_K fun t y _ => kw C t y).open_at (parent σ)).unsplit L L' hρN hσR hN' hR'
    (fun y hm => (L.func _ _ _ _ _ hm hσN).1)
  refine MapGIH.hinvP_of_gih ((g.close_root (Hole' := fun _ => False) (fun _ h => h.elim) (fun q hq _ => ?_)).congr_K
    fun t y _ => (kw _ t y).symm) (fun _ _ h => h)
  refine ⟨hq.2, hq.1 ▸ hσR, ?_⟩
  rintro ⟨y, hk, hm⟩
  obtain ⟨t, ht⟩ := Option.isSome_iff_exists.1 ((kw _ q y).1 hk)
  obtain ⟨hmt, hne⟩ := g.cached_pos y t ht
  exact hne (by rw [L.leaf_hash q y t true hm hmt]; exact hq)

end

/-! ### non-vacuity

The placed forest `V = [((1,0), empty root), ((1,1), node (leaf 1) (leaf 2))]` (`σ = (1,1)`); after
step B the tree sits at the root `P = (2,0)`: `V' = [((2,0), node (leaf 1) (leaf 2))]`.  The state
for `V'` caches leaf 1 (at `(1,0)`) and stores its sibling; un-step B drops the inner node at `(2,0)`
(its hash is not cached), moves the two leaves back to `(0,2)`, `(0,3)` and re-creates the empty
root at `(1,0)`. -/

namespace UnstepExample
open Props.C09.Example MapSInv.Example PForestAdd MapHCheck

def exB : CTree T := .node (.leaf (.leaf 1)) (.leaf (.leaf 2))

def exV : PF T := [] ++ [(sib ((1, 1) : Pos), none), ((1, 1), some exB)]
def exV' : PF T := [] ++ [(parent ((1, 1) : Pos), some exB)]

theorem exV_nodes : nodes exV =
    [((1, 0), T.z, false), ((1, 1), .node (.leaf 1) (.leaf 2), false), ((0, 2), .leaf 1, true), ((0, 3), .leaf 2, true)] := by
  decide +kernel

theorem exV_ok : OK exV where
  depth := by
    intro e he t ht
    simp only [exV, List.nil_append, List.mem_cons, List.mem_nil_iff, or_false] at he
    rcases he with rfl | rfl
    · cases ht
    · simp only [Option.some.injEq] at ht
      subst ht
      decide
  pw := by
    simp only [exV, List.nil_append, List.pairwise_cons, List.mem_cons, List.mem_nil_iff, or_false,
      forall_eq, List.Pairwise.nil, and_true]
    refine ⟨?_, fun _ h => h.elim⟩
    intro q hq
    exact not_anc_both (σ := sib (1, 1)) hq.1 (by rw [CalcGeo.sib_sib]; exact hq.2)
  nodup := by decide
  nz := by
    intro x hx
    have : x = T.leaf 1 ∨ x = T.leaf 2 := by
      simpa [leaves, exV, exB, optLeaves, CTree.leaves] using hx
    rcases this with rfl | rfl <;> (simp only [Hasher.zero]; intro h; cases h)
  nph := by
    intro x hx a b
    have : x = T.leaf 1 ∨ x = T.leaf 2 := by
      simpa [leaves, exV, exB, optLeaves, CTree.leaves] using hx
    rcases this with rfl | rfl <;> (simp only [Hasher.ph]; intro h; cases h)


def exAL : List (Pos × Leaf T) :=
  [((2, 0), ⟨.node (.leaf 1) (.leaf 2), false⟩), ((1, 0), ⟨.leaf 1, true⟩), ((1, 1), ⟨.leaf 2, false⟩)]
def exA : Pos → Option (Leaf T) := fun q => AL.get? exAL q
def exC : T → Option Pos := fun x => AL.get? [(T.leaf 1, ((1, 0) : Pos))] x

instance : DecidablePred (IsRoot exV') := fun z => by unfold IsRoot; infer_instance

theorem exInv : HInvP exA exC (nodes exV') (IsRoot exV') (fun x => (exC x).isSome = true)
    (fun x => (exC x).isSome = true) (fun _ => False) :=
  hcheck_sound' (al := exAL) (cl := [(T.leaf 1, ((1, 0) : Pos))]) (IsRoot exV') _ _ (by decide +kernel)

/-- **non-vacuity of `unstepB`** -/
theorem exInv' : HInvP (upd (unliftA (1, 1) (upd exA (parent (1, 1)) none)) (sib (1, 1)) (some ⟨zero, true⟩))
    (unliftC (1, 1) (dropC (parent (1, 1)) exA exC)) (nodes exV) (IsRoot exV)
    (fun x => (unliftC (1, 1) (dropC (parent (1, 1)) exA exC) x).isSome = true)
    (fun x => (exC x).isSome = true) (fun _ => False) :=
  have s := stepB_pf ([] : PF T) (1, 1) exB exV_ok
  unstepB (laws_of_ok crT.toNZ exV_ok) (laws_of_ok crT.toNZ s.1) exInv (by rw [exV_nodes]; decide)
    ⟨((1, 1), some exB), by simp [exV], rfl⟩ s.2.1 s.2.2

/-- the step does something: the inner node at `(2,0)` is dropped, the leaves are back on row 0, the
empty root is back at `(1,0)`, `σ = (1,1)` is empty, the cached leaf 1 is now cached at `(0,2)` -/
example :
    let A' := upd (unliftA (1, 1) (upd exA (parent (1, 1)) none)) (sib (1, 1)) (some ⟨zero, true⟩)
    A' (2, 0) = none ∧ A' (1, 0) = some ⟨T.z, true⟩ ∧ A' (1, 1) = none ∧ A' (0, 2) = some ⟨.leaf 1, true⟩ ∧
    A' (0, 3) = some ⟨.leaf 2, false⟩ ∧ unliftC (1, 1) (dropC (parent (1, 1)) exA exC) (.leaf 1) = some (0, 2) := by
  refine ⟨by decide, by decide, by decide, by decide, by decide, by decide⟩

end UnstepExample

end UtreexoVerif.Proofs.MapUndoSteps

#print axioms UtreexoVerif.Proofs.MapUndoSteps.unstepB
#print axioms UtreexoVerif.Proofs.MapUndoSteps.UnstepExample.exInv'
