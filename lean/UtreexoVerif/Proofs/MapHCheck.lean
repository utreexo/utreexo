/-
  A Boolean check of `HInvP` (no hole) for a store, a cache and a node list given as lists, sound once
  (`hcheck_sound`): the finite instances of the examples are then `decide`d instead of proved field by field.
-/
import UtreexoVerif.Proofs.MapUnliftCore

namespace UtreexoVerif.Proofs.MapHCheck
open Model Spec MapAL MapAInv MapUndoDefs MapUndoSteps Hasher
variable {H : Type} [DecidableEq H] [Hasher H]

def kleafB (N : List (Pos × H × Bool)) (k : H → Bool) (t : Pos) : Bool :=
  N.any fun e => e.2.2 && k e.2.1 && decide (e.1 = t)

omit [DecidableEq H] [Hasher H] in
theorem kleafB_iff {N : List (Pos × H × Bool)} {k : H → Bool} {t : Pos} :
    kleafB N k t = true ↔ KLeaf N (fun x => k x = true) t := by
  unfold kleafB KLeaf
  rw [List.any_eq_true]
  constructor
  · rintro ⟨⟨p, x, b⟩, hm, h⟩
    simp only [Bool.and_eq_true, decide_eq_true_eq] at h
    obtain ⟨⟨rfl, hk⟩, rfl⟩ := h
    exact ⟨x, hk, hm⟩
  · rintro ⟨x, hk, hm⟩
    exact ⟨_, hm, by simp [hk]⟩

def hcheck (al : List (Pos × Leaf H)) (cl : List (H × Pos)) (N : List (Pos × H × Bool)) (r : Pos → Bool)
    (k kp : H → Bool) : Bool :=
  al.all (fun a => N.any fun e => decide (e.1 = a.1) && decide (e.2.1 = a.2.hash)) &&
  cl.all (fun c => k c.1 && N.contains (c.2, c.1, true)) &&
  N.all (fun e => !(kleafB N k e.1) || (AL.get? al e.1).isSome) &&
  al.all (fun a => r a.1 || N.any fun e => e.2.2 && kp e.2.1 && decide (e.1.1 ≤ a.1.1) && decide (Anc (parent a.1) e.1)) &&
  N.all (fun e => r e.1 || !(kleafB N k e.1 || N.any fun e' => kleafB N k e'.1 && decide (Anc (sib e.1) e'.1)) ||
    (AL.get? al e.1).isSome) &&
  al.all (fun a => decide (a.2.hash = zero) || (a.2.remember == kleafB N k a.1))

theorem hcheck_sound {al : List (Pos × Leaf H)} {cl : List (H × Pos)} {N : List (Pos × H × Bool)} {r : Pos → Bool}
    {k kp : H → Bool} (h : hcheck al cl N r k kp = true) :
    HInvP (fun q => AL.get? al q) (fun x => AL.get? cl x) N (fun q => r q = true) (fun x => k x = true)
      (fun x => kp x = true) (fun _ => False) := by
  unfold hcheck at h
  simp only [Bool.and_eq_true, List.all_eq_true] at h
  obtain ⟨⟨⟨⟨⟨h1, h2⟩, h3⟩, h4⟩, h5⟩, h6⟩ := h
  have kl : ∀ t, KLeaf N (fun x => k x = true) t → ∃ x b, (t, x, b) ∈ N := fun t ⟨x, _, hm⟩ => ⟨x, true, hm⟩
  refine { true_hash := ?_, cache_sub := ?_, cached_pos := ?_, kleaf_out := fun _ _ c => c, leaf_stored := ?_,
           only_needed := ?_, has_needed := ?_, flags := ?_ }
  · intro q l hl _
    have := h1 _ (get?_some_mem hl)
    rw [List.any_eq_true] at this
    obtain ⟨⟨p, x, b⟩, hm, he⟩ := this
    simp only [Bool.and_eq_true, decide_eq_true_eq] at he
    obtain ⟨rfl, rfl⟩ := he
    exact ⟨b, hm⟩
  · intro x t hx
    have := h2 _ (get?_some_mem hx)
    simp only at this
    exact this.1
  · intro x t hx
    have := h2 _ (get?_some_mem hx)
    simp only [List.contains_iff_mem] at this
    exact ⟨this.2, fun c => c⟩
  · intro t hk
    obtain ⟨x, b, hm⟩ := kl t hk
    have := h3 _ hm
    simp only [Bool.or_eq_true, Bool.not_eq_true', ← Bool.not_eq_true, kleafB_iff] at this
    intro hn
    rcases this with h | h
    · exact h hk
    · rw [hn] at h; cases h
  · intro q l hl _ hnr
    have := h4 _ (get?_some_mem hl)
    simp only [Bool.or_eq_true, List.any_eq_true, Bool.and_eq_true, decide_eq_true_eq] at this
    rcases this with h | ⟨⟨t, x, b⟩, hm, ⟨⟨⟨rfl, hk⟩, hle⟩, ha⟩⟩
    · exact absurd h hnr
    · exact ⟨t, ⟨x, hk, hm⟩, hle, ha⟩
  · intro q x b hm _ hnr hreq hn
    have := h5 _ hm
    simp only [Bool.or_eq_true, Bool.not_eq_true', ← Bool.not_eq_true, kleafB_iff, List.any_eq_true, Bool.and_eq_true,
      decide_eq_true_eq, not_or, not_exists, not_and] at this
    rcases this with (h | h) | h
    · exact hnr h
    · rcases hreq with hq | ⟨t, hk, ha⟩
      · exact h.1 hq
      · obtain ⟨y, b', hm'⟩ := kl t hk
        exact h.2 _ hm' hk ha
    · rw [hn] at h; cases h
  · intro q l hl _ hz
    have := h6 _ (get?_some_mem hl)
    simp only [Bool.or_eq_true, decide_eq_true_eq, beq_iff_eq] at this
    rcases this with h | h
    · exact absurd h hz
    · rw [← kleafB_iff, ← h]

theorem hcheck_sound' {al : List (Pos × Leaf H)} {cl : List (H × Pos)} {N : List (Pos × H × Bool)}
    (R : Pos → Prop) (K Kp : H → Prop) [DecidablePred R] [DecidablePred K] [DecidablePred Kp]
    (h : hcheck al cl N (fun q => decide (R q)) (fun x => decide (K x)) (fun x => decide (Kp x)) = true) :
    HInvP (fun q => AL.get? al q) (fun x => AL.get? cl x) N R K Kp (fun _ => False) := by
  have := hcheck_sound h
  simp only [decide_eq_true_eq] at this
  exact this

theorem hinv_of_check {al : List (Pos × Leaf H)} {cl : List (H × Pos)} {N : List (Pos × H × Bool)}
    (R : Pos → Prop) (K : H → Prop) [DecidablePred R] [DecidablePred K]
    (h : hcheck al cl N (fun q => decide (R q)) (fun x => decide (K x)) (fun x => decide (K x)) = true) :
    HInv (fun q => AL.get? al q) (fun x => AL.get? cl x) N R K (fun _ => False) :=
  let i := hcheck_sound' R K K h
  ⟨i.true_hash, i.cache_sub, i.cached_pos, i.kleaf_out, i.leaf_stored, i.only_needed, i.has_needed, i.flags⟩

end UtreexoVerif.Proofs.MapHCheck
