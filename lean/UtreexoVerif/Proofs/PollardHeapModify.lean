/-
  Pointer forest, heap model: `remove` and `Modify` on a represented forest.

  `deTwin_spec_inv`, `delSeq_targets`: the sorted, de-twinned targets of a block are a deletable sequence; `remove_absD`;
  `LeavesOK F` (no live leaf is the all-zero hash or a parent hash: the hypothesis of `modify_refines`); `modify_abs`.
  The bound `2^63` of this file and of the deletion files is that of the position encoding: `TreeRows nl = H8 F.rows`
  (`treeRows_eq_H8`) needs `F.rows ≤ 63`, i.e. fewer than `2^63` leaves; the addition path alone gets by with `2^64`.
  In `(F.posOf l).getD (0, 0)` the default is never taken: the leaves asked for are live (`hlive`).
-/
import UtreexoVerif.Proofs.PollardHeapDelChain
import UtreexoVerif.Proofs.PollardHeapAdd
import UtreexoVerif.Proofs.LiveLeaves
set_option linter.unusedSectionVars false

namespace UtreexoVerif.Proofs.PollardHeap
open UtreexoVerif.Model UtreexoVerif.Model.PollardHeap UtreexoVerif.Spec Hasher
open UtreexoVerif.Proofs.CalcGeo UtreexoVerif.Proofs.SpecSubs
open UtreexoVerif.Proofs.Movement UtreexoVerif.Proofs.ProofUpdateDeTwin

variable {H : Type} [DecidableEq H] [Hasher H]

theorem deTwin_spec_inv {F : Forest H} (hn : F.numLeaves ≤ 2 ^ 63) (hnd : F.liveLeaves.Nodup)
    {D : List H} (hD : D.Nodup) (hlive : ∀ x ∈ D, x ∈ F.liveLeaves) :
    ∃ dtp : List Pos,
      Model.deTwin (Model.sortU64 ((D.map (fun l => (F.posOf l).getD (0, 0))).map (E F.rows)))
        (H8 F.rows) = dtp.map (E F.rows) ∧
      Inv F D dtp ∧ ∀ T, T ∈ dtp ↔ IsDT F D T := by
  obtain ⟨dtp, h1, h2, _, _, h5⟩ :=
    ProofUpdateDeTwin.deTwin_spec_full hn hnd hD hlive (Nat.le_refl _) (forestRows_small hn)
  exact ⟨dtp, h1, h2, h5⟩

theorem subs_of_dt {F : Forest H} {D : List H} : ∀ (dtp : List Pos), (∀ T ∈ dtp, IsDT F D T) →
    ∃ l : List (Pos × CTree H), l.map (·.1) = dtp ∧ ∀ e ∈ l, ∃ R, SubAtT F R e.1 e.2 := by
  intro dtp
  induction dtp with
  | nil => intro _; exact ⟨[], rfl, fun _ he => absurd he List.not_mem_nil⟩
  | cons T dtp ih =>
    intro h
    obtain ⟨l, e1, e2⟩ := ih (fun T' hT' => h T' (List.mem_cons_of_mem _ hT'))
    obtain ⟨hh, t, s, _⟩ := h T List.mem_cons_self
    refine ⟨(T, t) :: l, by rw [List.map_cons, e1], fun e he => ?_⟩
    rcases List.mem_cons.1 he with rfl | he
    · exact ⟨hh, s⟩
    · exact e2 e he

theorem delSeq_targets {F : Forest H} (hn : F.numLeaves ≤ 2 ^ 63) (hnd : F.liveLeaves.Nodup)
    {D : List H} (hD : D.Nodup) (hlive : ∀ x ∈ D, x ∈ F.liveLeaves) :
    DelSeq D F
      (Model.deTwin (Model.sortU64 ((D.map (fun l => (F.posOf l).getD (0, 0))).map (E F.rows)))
        (H8 F.rows)) (F.delLeaves D) := by
  obtain ⟨dtp, e1, inv, hdt⟩ := deTwin_spec_inv hn hnd hD hlive
  obtain ⟨l, el, hl⟩ := subs_of_dt dtp (fun T hT => (hdt T).1 hT)
  obtain ⟨ch, hL⟩ := chain_of_inv hnd (el ▸ inv) (fun T hT => (hdt T).1 (el ▸ hT)) hl
  have := ch.delSeq
  rw [delLeaves_congr F hL] at this
  rw [e1, ← el, List.map_map]
  exact this

theorem AbsD.liveLeaves_nodup {p : Pollard H} {F : Forest H} {D : List H} (a : AbsD p F D)
    (hn : F.numLeaves < 2 ^ 64) : F.liveLeaves.Nodup := by
  obtain ⟨owned, lv, h1, _, _, h4, _⟩ := a.repr
  exact h1.liveLeaves hn ▸ h4

theorem remove_absD {p : Pollard H} {F : Forest H} {D : List H} (hA : AbsD p F D)
    (hn : F.numLeaves < 2 ^ 63) (hsep : ∀ x ∈ F.liveLeaves, ∀ u v : H, x ≠ ph u v)
    (hD : D.Nodup) (hlive : ∀ x ∈ D, x ∈ F.liveLeaves) :
    ∃ hp' nm', remove ((D.map (fun l => (F.posOf l).getD (0, 0))).map (E F.rows)) p =
        (.ok (), { p with heap := hp', nodeMap := nm' }) ∧
      AbsD { p with heap := hp', nodeMap := nm' } (F.delLeaves D) D := by
  have hnd : F.liveLeaves.Nodup := hA.liveLeaves_nodup (by omega)
  obtain ⟨hp', nm', e1, a1⟩ := removeLoop_absD _ p F _ hA hn hsep
    (delSeq_targets (by omega) hnd hD hlive)
  refine ⟨hp', nm', ?_, a1⟩
  unfold remove
  simp only [bind_apply, getNumLeaves_apply, treeRows_eq_H8 hA.numLeaves hn]
  exact e1

def LeavesOK (F : Forest H) : Prop :=
  ∀ x ∈ F.liveLeaves, x ≠ (zero : H) ∧ ∀ u v : H, x ≠ ph u v

theorem LeavesOK.treesNZ (hph : NZ H) {F : Forest H} (h : LeavesOK F)
    (hn : F.numLeaves < 2 ^ 64) : TreesNZ F := by
  intro q hq t' ht'
  apply Spec.CTree.hash_ne_zero hph.nonzero
  intro x hx
  apply (h x _).1
  rw [← trees_leaves F hn, List.mem_flatMap]
  exact ⟨q, hq, by rw [ht']; exact hx⟩

theorem LeavesOK.delLeaves {F : Forest H} (h : LeavesOK F) (D : List H) : LeavesOK (F.delLeaves D) :=
  fun x hx => h x (LiveLeaves.mem_liveLeaves_delLeaves.1 hx).1

/-- the deletion list `D` is what `deleteFromMap` sees; the targets may come from any list `D'` with the same elements
(a block lists its targets in the order of the proof, not of the hashes) -/
theorem modify_abs (hph : NZ H) {p : Pollard H} {F : Forest H}
    (a : Abs p F) (hfull : p.full = true) (hok : LeavesOK F)
    (D D' : List H) (adds : List (H × Bool))
    (hn : F.numLeaves + adds.length < 2 ^ 63)
    (hD : D.Nodup) (hlive : ∀ x ∈ D, x ∈ F.liveLeaves) (hDD : D'.Perm D)
    (hadd : (adds.map (·.1)).Nodup) (hfresh : ∀ e ∈ adds, e.1 ∉ F.liveLeaves ∧ e.1 ≠ zero) :
    ∃ p', PollardHeap.modify adds D ((D'.map (fun l => (F.posOf l).getD (0, 0))).map (E F.rows)) p = (.ok (), p') ∧
      Abs p' (F.modify D (adds.map (·.1))) ∧ p'.full = true ∧
      p'.numDels = p.numDels + BitVec.ofNat 64 D.length := by
  have hsep : ∀ x ∈ F.liveLeaves, ∀ u v : H, x ≠ ph u v := fun x hx => (hok x hx).2
  have eF : F.delLeaves D' = F.delLeaves D := delLeaves_congr F (fun x => hDD.mem_iff)
  have hnD : (F.delLeaves D).numLeaves + adds.length < 2 ^ 64 := by
    rw [numLeaves_delLeaves]
    omega
  have hnD' : (F.delLeaves D).numLeaves < 2 ^ 64 := Nat.lt_of_le_of_lt (Nat.le_add_right _ _) hnD
  obtain ⟨nm1, e1, a1⟩ := deleteFromMap_absD D [] p a.toAbsD
  simp only [List.nil_append] at a1
  obtain ⟨hp2, nm2, e2, a2⟩ := remove_absD (a1.congr_D fun x => hDD.mem_iff.symm) (by omega) hsep
    (hDD.nodup_iff.2 hD) (fun x hx => hlive x (hDD.mem_iff.1 hx))
  simp only at e2 a2
  rw [eF] at a2
  have a3 : Abs { p with heap := hp2, nodeMap := nm2 } (F.delLeaves D) :=
    a2.toAbs hnD'
      (fun x hx => fun h => (LiveLeaves.mem_liveLeaves_delLeaves.1 hx).2 (hDD.mem_iff.1 h))
  obtain ⟨p3, hp3⟩ : ∃ p3 : Pollard H,
      p3 = ⟨hp2, nm2, p.roots, p.numLeaves, p.numDels + BitVec.ofNat 64 D.length, p.full⟩ := ⟨_, rfl⟩
  have a4 : Abs p3 (F.delLeaves D) := by
    rw [hp3]
    exact ⟨a3.numLeaves, a3.repr⟩
  have hkeys : ∀ x, x ∈ p3.nodeMap.map (·.1) → x ∈ F.liveLeaves := fun x hx =>
    (LiveLeaves.mem_liveLeaves_delLeaves.1
      (((a4.keys_iff hnD').2.2 x).1 hx)).1
  obtain ⟨p', e4, a5, f5, _, d5⟩ := add_abs_full hph adds a4 (by rw [hp3]; exact hfull)
    hnD hadd
    (fun e he => ⟨fun hc => (hfresh e he).1 (hkeys _ hc), (hfresh e he).2⟩)
    ((hok.delLeaves D).treesNZ hph hnD')
  refine ⟨p', ?_, a5, f5, by rw [d5, hp3]⟩
  unfold PollardHeap.modify
  simp only [bind_apply, e1, e2, modifyS_apply, List.length_map, hDD.length_eq]
  rw [← hp3]
  exact e4

end UtreexoVerif.Proofs.PollardHeap
