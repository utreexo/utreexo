/-
  The model of mappollard.go (`Model/MapPollard.lean`) respects `Equiv` (`Proofs/SerialMapInv.lean`):
  every function reads the two association lists only through `AL.get?` and changes them only by
  `AL.put` / `AL.del` / a map over the values, so two states that denote the same finite maps (with
  the same `NumLeaves`, `TotalRows`, `Full`) are taken to such states again, with the same result.

  Here: the primitives, pruning, moving subtrees up, `remap`, `add`, `remove`, `Modify`.
  No hypothesis on the hash type (no collision-freeness), no invariant.
-/
import UtreexoVerif.Proofs.SerialMapInv
import UtreexoVerif.Proofs.MapMoveUp

namespace UtreexoVerif.Proofs.SerialMapInv
open Model
open MapAL (getNode_putNode getNode_delNode getCached_putCached getCached_delCached get?_map_val)
set_option linter.unusedSectionVars false
variable {H : Type} [DecidableEq H] [Hasher H]

section Prim
variable {m m' : MapPollard H}

theorem Equiv.putNode (h : Equiv m m') (p : U64) (l : Leaf H) : Equiv (m.putNode p l) (m'.putNode p l) :=
  ⟨fun q => by rw [getNode_putNode, getNode_putNode, h.node], fun x => h.cache x, h.numLeaves, h.totalRows, h.full⟩

theorem Equiv.delNode (h : Equiv m m') (p : U64) : Equiv (m.delNode p) (m'.delNode p) :=
  ⟨fun q => by rw [getNode_delNode, getNode_delNode, h.node], fun x => h.cache x, h.numLeaves, h.totalRows, h.full⟩

theorem Equiv.putCached (h : Equiv m m') (x : H) (p : U64) : Equiv (m.putCached x p) (m'.putCached x p) :=
  ⟨fun q => h.node q, fun y => by rw [getCached_putCached, getCached_putCached, h.cache], h.numLeaves,
    h.totalRows, h.full⟩

theorem Equiv.delCached (h : Equiv m m') (x : H) : Equiv (m.delCached x) (m'.delCached x) :=
  ⟨fun q => h.node q, fun y => by rw [getCached_delCached, getCached_delCached, h.cache], h.numLeaves,
    h.totalRows, h.full⟩

theorem Equiv.setNumLeaves (h : Equiv m m') (n : U64) :
    Equiv { m with numLeaves := n } { m' with numLeaves := n } :=
  ⟨fun q => h.node q, fun x => h.cache x, rfl, h.totalRows, h.full⟩

/-- the ghost counter is not part of the state -/
theorem Equiv.orderDep (h : Equiv m m') (k k' : Nat) :
    Equiv { m with orderDep := k } { m' with orderDep := k' } :=
  ⟨fun q => h.node q, fun x => h.cache x, h.numLeaves, h.totalRows, h.full⟩

theorem Equiv.orderDep_ite (h : Equiv m m') (c c' : Bool) (k k' : Nat) :
    Equiv (if c then { m with orderDep := k } else m) (if c' then { m' with orderDep := k' } else m') := by
  have h1 : Equiv (if c then { m with orderDep := k } else m) m := by
    split
    · exact (Equiv.refl m).orderDep k m.orderDep
    · exact Equiv.refl m
  have h2 : Equiv m' (if c' then { m' with orderDep := k' } else m') := by
    split
    · exact (Equiv.refl m').orderDep m'.orderDep k'
    · exact Equiv.refl m'
  exact (h1.trans h).trans h2

/-- the re-keying of the cache values in `remap` -/
theorem Equiv.mapCached (h : Equiv m m') (f : U64 → U64) (t : U8) :
    Equiv { m with cached := m.cached.map (fun (e : H × U64) => (e.1, f e.2)), totalRows := t }
      { m' with cached := m'.cached.map (fun (e : H × U64) => (e.1, f e.2)), totalRows := t } := by
  refine ⟨fun q => h.node q, fun x => ?_, h.numLeaves, rfl, h.full⟩
  show AL.get? (m.cached.map _) x = AL.get? (m'.cached.map _) x
  rw [get?_map_val, get?_map_val]
  have := h.cache x
  unfold MapPollard.getCached at this
  rw [this]

theorem Equiv.getNodeD (h : Equiv m m') (p : U64) : m.getNodeD p = m'.getNodeD p := by
  unfold MapPollard.getNodeD; rw [h.node]

theorem Equiv.isRoot (h : Equiv m m') (p : U64) : m.isRoot p = m'.isRoot p := by
  unfold MapPollard.isRoot; rw [h.numLeaves, h.totalRows]

theorem Equiv.niecesPresent (h : Equiv m m') (p : U64) : m.niecesPresent p = m'.niecesPresent p := by
  unfold MapPollard.niecesPresent
  simp only [h.totalRows, h.hasNode]

theorem Equiv.ite (h : Equiv m m') {m1 m1' : MapPollard H} (h1 : Equiv m1 m1') (c : Bool) :
    Equiv (if c then m1 else m) (if c then m1' else m') := by
  cases c <;> simpa

theorem Equiv.ite' {a a' b b' : MapPollard H} (ha : Equiv a a') (hb : Equiv b b') (c : Prop) [Decidable c] :
    Equiv (if c then a else b) (if c then a' else b') := by
  split
  · exact ha
  · exact hb

theorem Equiv.moveM (h : Equiv m m') (fix : Bool) (s d : U64) :
    Equiv (MapMove.moveM fix s d m) (MapMove.moveM fix s d m') := by
  unfold MapMove.moveM
  rw [h.node, h.full]
  cases m'.getNode s with
  | none => exact h
  | some v =>
    dsimp only
    rw [h.hasCached]
    exact ((Equiv.ite' (h.putCached _ _) h _).delNode s).putNode d _

end Prim

end UtreexoVerif.Proofs.SerialMapInv

namespace UtreexoVerif.Proofs.MapSim
open Model
open Proofs.SerialMapInv (Equiv)
set_option linter.unusedSectionVars false

variable {H : Type} [DecidableEq H] [Hasher H]

/-- two outcomes of a call: the same result (value or failure) and equivalent states left behind -/
def SimR {α : Type} (r r' : MapPollard H × Except Fail α) : Prop := r.2 = r'.2 ∧ Equiv r.1 r'.1

theorem SimR.mk_ok {α : Type} {m m' : MapPollard H} (h : Equiv m m') (a : α) :
    SimR (m, (.ok a : Except Fail α)) (m', .ok a) := ⟨rfl, h⟩

theorem SimR.mk_err {α : Type} {m m' : MapPollard H} (h : Equiv m m') (e : Fail) :
    SimR (m, (.error e : Except Fail α)) (m', .error e) := ⟨rfl, h⟩

theorem SimR.cases {α : Type} {r r' : MapPollard H × Except Fail α} (h : SimR r r') :
    (∃ m1 m1' e, r = (m1, .error e) ∧ r' = (m1', .error e) ∧ Equiv m1 m1') ∨
    (∃ m1 m1' a, r = (m1, .ok a) ∧ r' = (m1', .ok a) ∧ Equiv m1 m1') := by
  obtain ⟨m1, x⟩ := r
  obtain ⟨m1', x'⟩ := r'
  obtain ⟨h1, h2⟩ := h
  simp only at h1 h2
  subst h1
  cases x with
  | error e => exact Or.inl ⟨m1, m1', e, rfl, rfl, h2⟩
  | ok a => exact Or.inr ⟨m1, m1', a, rfl, rfl, h2⟩

/-- `sim_bind t with m1 m1' a hs`: `t : SimR (f m) (f m')` and the goal matches on `f m` / `f m'`
(Go's `x, err := f(); if err != nil { return err }`): closes the error case, leaves the `ok` case -/
syntax "sim_bind " term " with " ident ident ident ident : tactic
macro_rules
  | `(tactic| sim_bind $t with $m1 $m1' $a $hs) =>
    `(tactic| (rcases SimR.cases $t with ⟨$m1:ident, $m1':ident, e, h1, h2, $hs:ident⟩ | ⟨$m1:ident, $m1':ident, $a:ident, h1, h2, $hs:ident⟩
               · rw [h1, h2]; exact SimR.mk_err $hs e
               rw [h1, h2]; try dsimp only))

theorem sim_prunePosition {m m' : MapPollard H} (h : Equiv m m') (pos : U64) :
    Equiv (m.prunePosition pos) (m'.prunePosition pos) := by
  unfold MapPollard.prunePosition
  simp only [h.getNodeD]
  apply Equiv.ite' _ h
  have h1 : Equiv (if (!m.niecesPresent (sibling pos)) = true then m.delNode (sibling pos) else m)
      (if (!m'.niecesPresent (sibling pos)) = true then m'.delNode (sibling pos) else m') := by
    rw [h.niecesPresent]
    exact Equiv.ite' (h.delNode _) h _
  rw [h1.niecesPresent]
  exact Equiv.ite' (h1.delNode _) h1 _

theorem sim_pruneNieces {m m' : MapPollard H} (h : Equiv m m') (pos : U64) :
    Equiv (m.pruneNieces pos) (m'.pruneNieces pos) := by
  unfold MapPollard.pruneNieces
  rw [h.totalRows]
  exact Equiv.ite' h (sim_prunePosition h _) _

theorem sim_forgetUnneededLoop (k : Nat) : ∀ (p : U64) {m m' : MapPollard H}, Equiv m m' →
    Equiv (MapPollard.forgetUnneededLoop k p m) (MapPollard.forgetUnneededLoop k p m') := by
  induction k with
  | zero => intro p m m' h; exact h
  | succ k ih =>
    intro p m m' h
    simp only [MapPollard.forgetUnneededLoop]
    rw [h.totalRows, h.isRoot]
    exact Equiv.ite' h (ih _ (sim_prunePosition h _)) _

theorem sim_forgetUnneededDel {m m' : MapPollard H} (h : Equiv m m') (del : U64) :
    Equiv (m.forgetUnneededDel del) (m'.forgetUnneededDel del) := by
  unfold MapPollard.forgetUnneededDel
  rw [h.isRoot, h.totalRows]
  exact Equiv.ite' h (sim_forgetUnneededLoop _ _ h) _

theorem sim_forgetBelowAux (k : Nat) : ∀ (p : U64) {m m' : MapPollard H}, Equiv m m' →
    Equiv (MapPollard.forgetBelowAux k p m) (MapPollard.forgetBelowAux k p m') := by
  induction k with
  | zero => intro p m m' h; exact h
  | succ k ih =>
    intro p m m' h
    simp only [MapPollard.forgetBelowAux]
    rw [h.totalRows]
    apply Equiv.ite' h
    exact ih _ (ih _ ((h.delNode _).delNode _))

theorem sim_forgetBelow {m m' : MapPollard H} (h : Equiv m m') (p : U64) :
    Equiv (m.forgetBelow p) (m'.forgetBelow p) := by
  unfold MapPollard.forgetBelow
  rw [h.totalRows]
  exact sim_forgetBelowAux _ _ h

theorem sim_pruneUp (k : Nat) : ∀ (p : U64) {m m' : MapPollard H}, Equiv m m' →
    Equiv (MapPollard.pruneUp k p m) (MapPollard.pruneUp k p m') := by
  induction k with
  | zero => intro p m m' h; exact h
  | succ k ih =>
    intro p m m' h
    simp only [MapPollard.pruneUp]
    rw [h.isRoot, h.totalRows]
    exact Equiv.ite' h (ih _ (sim_prunePosition h _)) _

theorem sim_moveUpChild {m m' : MapPollard H} (h : Equiv m m') (position delPos : U64) (left : Bool) :
    SimR (MapPollard.moveUpChild position delPos left m) (MapPollard.moveUpChild position delPos left m') := by
  rw [MapMoveUp.moveUpChild_eq, MapMoveUp.moveUpChild_eq, h.totalRows]
  generalize (if left = true then LeftChild (sibling position) m'.totalRows
    else RightChild (sibling position) m'.totalRows) = c
  split
  · exact SimR.mk_err h _
  · exact SimR.mk_ok (h.moveM _ _ _) _

theorem sim_moveUpNieces {m m' : MapPollard H} (h : Equiv m m') (position delPos : U64) :
    SimR (MapPollard.moveUpNieces position delPos m) (MapPollard.moveUpNieces position delPos m') := by
  unfold MapPollard.moveUpNieces
  rw [h.totalRows]
  split
  · exact SimR.mk_ok h _
  · sim_bind (sim_moveUpChild h (sibling position) delPos true) with m1 m1' l h1
    sim_bind (sim_moveUpChild h1 (sibling position) delPos false) with m2 m2' r h2
    exact SimR.mk_ok h2 _

theorem sim_moveUpLevel (delPos : U64) : ∀ (ps acc : List U64) {m m' : MapPollard H}, Equiv m m' →
    SimR (MapPollard.moveUpLevel delPos ps acc m) (MapPollard.moveUpLevel delPos ps acc m')
  | [], acc, m, m', h => SimR.mk_ok h _
  | p :: ps, acc, m, m', h => by
    simp only [MapPollard.moveUpLevel]
    sim_bind (sim_moveUpNieces h p delPos) with m1 m1' cs h1
    exact sim_moveUpLevel delPos ps _ h1

theorem sim_moveUpLevels (delPos : U64) : ∀ (k : Nat) (l : List U64) {m m' : MapPollard H}, Equiv m m' →
    SimR (MapPollard.moveUpLevels delPos k l m) (MapPollard.moveUpLevels delPos k l m')
  | 0, l, m, m', h => SimR.mk_ok h _
  | k+1, l, m, m', h => by
    simp only [MapPollard.moveUpLevels]
    have h0 := h.orderDep_ite (MapPollard.levelOrderSensitive m delPos l) (MapPollard.levelOrderSensitive m' delPos l)
      (m.orderDep + 1) (m'.orderDep + 1)
    sim_bind (sim_moveUpLevel delPos l [] h0) with m1 m1' next h1
    exact sim_moveUpLevels delPos k _ h1

theorem sim_moveUpDescendants {m m' : MapPollard H} (h : Equiv m m') (position delPos : U64) :
    SimR (MapPollard.moveUpDescendants position delPos m) (MapPollard.moveUpDescendants position delPos m') := by
  unfold MapPollard.moveUpDescendants
  simp only [h.totalRows]
  split
  · exact SimR.mk_ok h _
  · exact sim_moveUpLevels delPos _ _ h

theorem SimR.ite {α : Type} {a a' b b' : MapPollard H × Except Fail α} (c : Prop) [Decidable c]
    (ha : c → SimR a a') (hb : ¬ c → SimR b b') : SimR (if c then a else b) (if c then a' else b') := by
  split
  · exact ha ‹_›
  · exact hb ‹_›

theorem sim_remapRow : ∀ (k : Nat) (i j : U64) {m m' : MapPollard H}, Equiv m m' →
    Equiv (MapPollard.remapRow k i j m) (MapPollard.remapRow k i j m')
  | 0, _, _, _, _, h => h
  | k+1, i, j, m, m', h => by
    simp only [MapPollard.remapRow]
    apply sim_remapRow k
    rw [h.node]
    cases m'.getNode i with
    | none => exact h
    | some leaf => exact (h.delNode i).putNode j leaf

theorem sim_remapRows (nextRows : U8) : ∀ (k : Nat) (hh : U8) {m m' : MapPollard H}, Equiv m m' →
    SimR (MapPollard.remapRows nextRows k hh m) (MapPollard.remapRows nextRows k hh m')
  | 0, _, _, _, h => SimR.mk_ok h _
  | k+1, hh, m, m', h => by
    simp only [MapPollard.remapRows, h.totalRows, h.numLeaves]
    apply SimR.ite
    · intro _; exact SimR.mk_err h _
    · intro _; exact sim_remapRows nextRows k _ (sim_remapRow _ _ _ h)

theorem sim_remap {m m' : MapPollard H} (h : Equiv m m') : SimR (MapPollard.remap m) (MapPollard.remap m') := by
  unfold MapPollard.remap
  simp only [h.totalRows, h.numLeaves]
  apply SimR.ite
  · intro _; exact SimR.mk_ok h _
  · intro _
    sim_bind (sim_remapRows (TreeRows (m'.numLeaves + 1)) (MapPollard.rowIters 1#8 m'.totalRows) 1#8 h) with m1 m1' _u h1
    rw [h1.totalRows]
    have e : ∀ T : U8, (fun (x : H × U64) => match x with | (k, v) => (k, translatePos v T (TreeRows (m'.numLeaves + 1)))) =
        fun (e : H × U64) => (e.1, (fun v => translatePos v T (TreeRows (m'.numLeaves + 1))) e.2) := by
      intro T; funext x; obtain ⟨k, v⟩ := x; rfl
    rw [e]
    exact SimR.mk_ok (h1.mapCached (fun v => translatePos v m1'.totalRows (TreeRows (m'.numLeaves + 1))) _) _

theorem sim_addLoop (add : Leaf H) (T : U8) : ∀ (fuel : Nat) (hh : U8) (position : U64) (pNode : Leaf H)
    {m m' : MapPollard H}, Equiv m m' →
    SimR (MapPollard.addLoop add T fuel hh position pNode m) (MapPollard.addLoop add T fuel hh position pNode m')
  | 0, _, _, _, _, _, h => SimR.mk_err h _
  | fuel+1, hh, position, pNode, m, m', h => by
    simp only [MapPollard.addLoop, h.numLeaves, h.node, h.full]
    apply SimR.ite
    · intro _
      cases m'.getNode (rootPosition m'.numLeaves hh T) with
      | none => exact SimR.mk_err h _
      | some node =>
        dsimp only
        apply SimR.ite
        · intro _
          have h1 := (h.delNode (rootPosition m'.numLeaves hh T)).delNode position
          have h2 : Equiv
              (if (add.remember && decide (pNode.hash = add.hash)) = true then
                (if ((m.delNode (rootPosition m'.numLeaves hh T)).delNode position).hasCached add.hash = true then
                  ((m.delNode (rootPosition m'.numLeaves hh T)).delNode position).putCached add.hash (Parent position T)
                else (m.delNode (rootPosition m'.numLeaves hh T)).delNode position)
              else (m.delNode (rootPosition m'.numLeaves hh T)).delNode position)
              (if (add.remember && decide (pNode.hash = add.hash)) = true then
                (if ((m'.delNode (rootPosition m'.numLeaves hh T)).delNode position).hasCached add.hash = true then
                  ((m'.delNode (rootPosition m'.numLeaves hh T)).delNode position).putCached add.hash (Parent position T)
                else (m'.delNode (rootPosition m'.numLeaves hh T)).delNode position)
              else (m'.delNode (rootPosition m'.numLeaves hh T)).delNode position) := by
            apply Equiv.ite' _ h1
            rw [h1.hasCached]
            exact Equiv.ite' (h1.putCached _ _) h1 _
          sim_bind (sim_moveUpDescendants h2 position (rootPosition m'.numLeaves hh T)) with m1 m1' _u h3
          exact sim_addLoop add T fuel _ _ _ (sim_pruneNieces (h3.putNode _ _) _)
        · intro _
          exact sim_addLoop add T fuel _ _ _ (sim_pruneNieces (h.putNode _ _) _)
    · intro _; exact SimR.mk_ok h _

theorem sim_addSingle {m m' : MapPollard H} (h : Equiv m m') (a : Leaf H) :
    SimR (MapPollard.addSingle a m) (MapPollard.addSingle a m') := by
  unfold MapPollard.addSingle
  sim_bind (sim_remap h) with m1 m1' T h1
  simp only [h1.full, h1.numLeaves]
  apply sim_addLoop
  have h2 := h1.putNode m1'.numLeaves ⟨(if m1'.full = true then ({ hash := a.hash, remember := true } : Leaf H) else a).hash,
    (if m1'.full = true then ({ hash := a.hash, remember := true } : Leaf H) else a).remember⟩
  exact Equiv.ite' (h2.putCached _ _) h2 _

theorem sim_add : ∀ (adds : List (Leaf H)) {m m' : MapPollard H}, Equiv m m' →
    SimR (MapPollard.add adds m) (MapPollard.add adds m')
  | [], _, _, h => SimR.mk_ok h _
  | a :: rest, m, m', h => by
    simp only [MapPollard.add]
    sim_bind (sim_addSingle h a) with m1 m1' _u h1
    rw [h1.numLeaves]
    exact sim_add rest (h1.setNumLeaves _)

theorem Equiv.ite_isRoot {X X' Y Y' : MapPollard H} (hX : Equiv X X') (p : U64) (hY : Equiv Y Y') :
    Equiv (if X.isRoot p = true then X else Y) (if X'.isRoot p = true then X' else Y') := by
  rw [hX.isRoot]
  exact Equiv.ite' hX hY _

theorem sim_updateHashesLoop : ∀ (k : Nat) (pos : U64) (node : Leaf H) {m m' : MapPollard H}, Equiv m m' →
    Equiv (MapPollard.updateHashesLoop k pos node m) (MapPollard.updateHashesLoop k pos node m')
  | 0, _, _, _, _, h => h
  | k+1, pos, node, m, m', h => by
    simp only [MapPollard.updateHashesLoop, h.getNodeD, h.totalRows, h.hasNode]
    exact Equiv.ite_isRoot (Equiv.ite' (h.putNode _ _) h _) _
      (sim_updateHashesLoop k _ _ (Equiv.ite' (h.putNode _ _) h _))

theorem sim_updateHashes {m m' : MapPollard H} (h : Equiv m m') (position : U64) (hash : H) :
    Equiv (m.updateHashes position hash) (m'.updateHashes position hash) := by
  unfold MapPollard.updateHashes
  simp only [h.totalRows, h.full]
  exact sim_updateHashesLoop _ _ _ h

theorem sim_removeSingle {m m' : MapPollard H} (h : Equiv m m') (del : U64) :
    SimR (MapPollard.removeSingle del m) (MapPollard.removeSingle del m') := by
  unfold MapPollard.removeSingle
  dsimp only
  have h1 := sim_forgetBelow h del
  rw [h1.isRoot, h1.full]
  apply SimR.ite
  · intro _; exact SimR.mk_ok (h1.putNode _ _) _
  · intro _
    have h2 := h1.delNode del
    rw [h2.node]
    cases ((m'.forgetBelow del).delNode del).getNode (sibling del) with
    | none => exact SimR.mk_ok (sim_forgetUnneededDel (sim_updateHashes h2 _ _) _) _
    | some node =>
      dsimp only
      rw [h2.totalRows]
      have hX := (h2.delNode (sibling del)).putNode (Parent del ((m'.forgetBelow del).delNode del).totalRows) node
      generalize (((m.forgetBelow del).delNode del).delNode (sibling del)).putNode _ node = X,
        (((m'.forgetBelow del).delNode del).delNode (sibling del)).putNode _ node = X' at hX ⊢
      rw [hX.hasCached, hX.totalRows]
      have key : ∀ {Y Y' : MapPollard H}, Equiv Y Y' →
          SimR (match MapPollard.moveUpDescendants (sibling del) del Y with
            | (m, .error e) => (m, .error e)
            | (m, .ok ()) => ((m.updateHashes del node.hash).forgetUnneededDel del, (.ok () : Except Fail Unit)))
          (match MapPollard.moveUpDescendants (sibling del) del Y' with
            | (m, .error e) => (m, .error e)
            | (m, .ok ()) => ((m.updateHashes del node.hash).forgetUnneededDel del, (.ok () : Except Fail Unit))) := by
        intro Y Y' hY
        sim_bind (sim_moveUpDescendants hY (sibling del) del) with m1 m1' _u h1
        exact SimR.mk_ok (sim_forgetUnneededDel (sim_updateHashes h1 _ _) _) _
      by_cases hc : X'.hasCached node.hash = true
      · rw [if_pos hc, if_pos hc]
        by_cases he : (calcNextPosition (sibling del) del X'.totalRows).snd = true
        · rw [if_pos he, if_pos he]; exact SimR.mk_err hX _
        · rw [if_neg he, if_neg he]; exact key (hX.putCached _ _)
      · rw [if_neg hc, if_neg hc]; exact key hX

theorem equiv_allCached {m m' : MapPollard H} (h : Equiv m m') (l : List H) : m.allCached l = m'.allCached l := by
  unfold MapPollard.allCached
  have : m.hasCached = m'.hasCached := funext h.hasCached
  rw [this]

theorem sim_uncacheLeaves : ∀ (dels : List H) {m m' : MapPollard H}, Equiv m m' →
    Equiv (m.uncacheLeaves dels) (m'.uncacheLeaves dels)
  | [], _, _, h => h
  | d :: ds, m, m', h => by
    simp only [MapPollard.uncacheLeaves, List.foldl_cons]
    exact sim_uncacheLeaves ds (h.delCached d)

theorem sim_removeAll : ∀ (ds : List U64) {m m' : MapPollard H}, Equiv m m' →
    Equiv (MapPollard.removeAll ds m) (MapPollard.removeAll ds m')
  | [], _, _, h => h
  | d :: ds, m, m', h => by
    simp only [MapPollard.removeAll]
    exact sim_removeAll ds (sim_removeSingle h d).2

theorem sim_remove {m m' : MapPollard H} (h : Equiv m m') (targets : List U64) (delHashes : List H) :
    SimR (MapPollard.remove targets delHashes m) (MapPollard.remove targets delHashes m') := by
  unfold MapPollard.remove
  rw [equiv_allCached h]
  apply SimR.ite
  · intro _; exact SimR.mk_err h _
  · intro _
    dsimp only
    have h1 := sim_uncacheLeaves delHashes h
    rw [h1.totalRows, h1.numLeaves]
    exact SimR.mk_ok (sim_removeAll _ h1) _

theorem sim_modify {m m' : MapPollard H} (h : Equiv m m') (adds : List (Leaf H)) (delHashes : List H)
    (targets : List U64) :
    SimR (MapPollard.modify adds delHashes targets m) (MapPollard.modify adds delHashes targets m') := by
  unfold MapPollard.modify
  sim_bind (sim_remove h targets delHashes) with m1 m1' _u h1
  exact sim_add adds h1

end UtreexoVerif.Proofs.MapSim
