/-
  `Proof.undoAdd` and `Proof.undoDel` (property C08) end with the same stage: the proof hashes at the
  needed positions are picked out of a sorted pile.  That stage is `undoTail`
  (`Proofs/ProofUndoLists.lean`); this file proves that it returns the canonical proof.
-/
import UtreexoVerif.Proofs.ProofUndoLists
import UtreexoVerif.Proofs.ProofUpdateRemove

namespace UtreexoVerif.Proofs.ProofUndoTail
open Spec Hasher Model
open UtreexoVerif.Proofs.SpecPlan
open UtreexoVerif.Proofs.CalcGeo
open UtreexoVerif.Proofs.ProofUpdateLists UtreexoVerif.Proofs.ProofUpdateRemove
open UtreexoVerif.Proofs.ProofUndoLists

section
variable {H : Type} [DecidableEq H] [Hasher H]

omit [DecidableEq H] [Hasher H] in
/-- `pruneEdges` on a fresh accumulator is a filter: `maxPositionAtRow` reports an error only for a
row above `prevForestRows`, and `pruneEdges` drops the entries of those rows before it calls it -/
theorem pruneEdges_filter (a n : U64) (fr pfr : U8) (l : HP H) :
    pruneEdges a n fr pfr l [] = .ok (l.filter (fun x => pruneKeep a n fr pfr x.1)) := by
  have hnoerr : ∀ x ∈ l, ¬ DetectRow x.1 fr > pfr →
      (maxPositionAtRow (DetectRow x.1 fr) pfr (n - a)).2 = false := by
    intro x _ hrow
    cases hm : (maxPositionAtRow (DetectRow x.1 fr) pfr (n - a)).2 with
    | false => rfl
    | true => exact absurd ((Props.C16.maxPositionAtRow_error_iff _ _ _).1 hm) hrow
  rw [pruneEdges_eq a n fr pfr l [] hnoerr, List.nil_append]

section cached
variable {F : Forest H} (hn : F.numLeaves ≤ 2 ^ 63) {C : List H} {tgC : List Pos} {hsC : List H}
  (hc : F.canon C = some (tgC, hsC)) (hC : C.Nodup)
include hn hc hC

theorem proofPos_sortedPairs :
    (ProofPositions (HP.positions ((sortedPairs F C).map (enc2 F.rows)))
      (BitVec.ofNat 64 F.numLeaves) (H8 F.rows)).1 = (F.proofPositions tgC).map (E F.rows) := by
  rw [positions_enc2, proofPositions_model hn (sortedPairs_targetsOK hc)
    (sortedPairs_sorted hn hc hC), proofPositions_congr F (sortedPairs_fst_mem hc)]

theorem undoTail_canon {pw : HP H} (hpw : pw.Pairwise (fun a b => a.1 ≤ b.1))
    (hlook : ∀ q ∈ F.proofPositions tgC,
      lookupHP pw (E F.rows q) = some ((F.nodeAt q).getD zero)) :
    ∃ hsK, F.canon ((sortedPairs F C).map (·.2)) = some ((sortedPairs F C).map (·.1), hsK) ∧
      undoTail (BitVec.ofNat 64 F.numLeaves) (H8 F.rows) ((sortedPairs F C).map (enc2 F.rows)) pw =
        (⟨((sortedPairs F C).map (·.1)).map (E F.rows), hsK⟩, (sortedPairs F C).map (·.2)) := by
  obtain ⟨hsK, hcK⟩ := canon_sortedPairs hn hc
  refine ⟨hsK, hcK, ?_⟩
  have hpp : F.proofPositions ((sortedPairs F C).map (·.1)) = F.proofPositions tgC :=
    proofPositions_congr F (sortedPairs_fst_mem hc)
  have e7 : subsetHP pw ((F.proofPositions tgC).map (E F.rows)) =
      (ppPairs F tgC).map (enc2 F.rows) := by
    rw [subsetHP_eq_filterMap _ _ hpw (pp_keys hn (canon_targetsOK hc)), List.filterMap_map]
    unfold ppPairs
    rw [List.map_map]
    conv => rhs; rw [← List.filterMap_eq_map]
    apply filterMap_congr'
    intro q hq
    simp only [Function.comp]
    rw [hlook q hq]
    rfl
  have h1 : HP.hashes ((ppPairs F tgC).map (enc2 F.rows)) = hsK := by
    rw [(canon_spec hcK).2.2.1, hpp]
    simp [HP.hashes, ppPairs, enc2]
  have h2 : HP.hashes ((sortedPairs F C).map (enc2 F.rows)) = (sortedPairs F C).map (·.2) := by
    simp only [HP.hashes, List.map_map]
    rfl
  unfold undoTail
  rw [proofPos_sortedPairs hn hc hC, e7, h1, h2, positions_enc2]

end cached

end
end UtreexoVerif.Proofs.ProofUndoTail
