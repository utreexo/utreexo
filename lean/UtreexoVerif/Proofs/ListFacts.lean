/-
  `List.mapM` into `Option`: it returns `some r` exactly when `f` is `some` of the matching entry of `r` at every
  element (`mapM_eq_some_iff`); the readings the proofs about `Forest.canon` and the schedule summaries use
  follow from it.
-/
namespace UtreexoVerif.Proofs.ListFacts

theorem mapM_eq_some_iff {α β : Type} (f : α → Option β) : ∀ (l : List α) (r : List β),
    l.mapM f = some r ↔ l.map f = r.map some := by
  intro l
  induction l with
  | nil => intro r; cases r <;> simp
  | cons a l ih =>
    intro r
    rw [List.mapM_cons, List.map_cons]
    cases r with
    | nil => cases f a <;> cases l.mapM f <;> simp
    | cons c r' =>
      rw [List.map_cons, List.cons.injEq, ← ih r']
      cases f a <;> cases l.mapM f <;> simp

theorem mapM_of_forall {α β : Type} (f : α → Option β) (g : α → β) (l : List α)
    (h : ∀ x ∈ l, f x = some (g x)) : l.mapM f = some (l.map g) :=
  (mapM_eq_some_iff f l _).2 (by rw [List.map_map]; exact List.map_congr_left h)

theorem mapM_of_forall_some {α β : Type} (f : α → Option β) (d : β) (l : List α)
    (h : ∀ a ∈ l, ∃ b, f a = some b) : l.mapM f = some (l.map (fun a => (f a).getD d)) := by
  refine mapM_of_forall f _ l (fun a ha => ?_)
  obtain ⟨b, hb⟩ := h a ha
  rw [hb]
  rfl

theorem mapM_some {α β : Type} (f : α → Option β) (d : β) (l : List α) (r : List β)
    (h : l.mapM f = some r) : r = l.map (fun a => (f a).getD d) ∧ ∀ a ∈ l, ∃ b, f a = some b := by
  have e := (mapM_eq_some_iff f l r).1 h
  constructor
  · have := congrArg (List.map (·.getD d)) e
    simpa [Function.comp_def] using this.symm
  · intro a ha
    have : f a ∈ r.map some := e ▸ List.mem_map_of_mem ha
    obtain ⟨b, _, hb⟩ := List.mem_map.1 this
    exact ⟨b, hb.symm⟩

end UtreexoVerif.Proofs.ListFacts
