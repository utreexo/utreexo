/-
  `Pollard.calculatePosition` (model in `Model/PollardAbs.lean`) returns the position of the
  node: the three loops, then the assembly `calculatePosition_enc`.
-/
import UtreexoVerif.Proofs.PollardLookup

namespace UtreexoVerif.Proofs.PollardCalcPos
open UtreexoVerif.GoInt Spec Hasher Model
open UtreexoVerif.Proofs.SpecNodes UtreexoVerif.Proofs.SpecView UtreexoVerif.Proofs.PollardLookup
open UtreexoVerif.Model.PollardAbs

/-- one iteration's update of `leftRightIndicator` -/
def stepLri (isL : Bool) (c : Nat) (lri : U64) : U64 :=
  let lri := if isL then shl lri 1 else (shl lri 1) ||| 1#64
  if c = 0 then lri ^^^ 1#64 else lri

theorem one_getLsbD (m : Nat) : (1#64 : U64).getLsbD m = decide (m = 0) := by
  rw [← BitVec.testBit_toNat, BitVec.toNat_one (by decide)]
  cases m with
  | zero => rfl
  | succ k => rw [Nat.testBit_succ]; simp

theorem stepLri_getLsbD (isL : Bool) (c : Nat) (lri : U64) (m : Nat) (hm : m < 64) :
    (stepLri isL c lri).getLsbD m =
      if m = 0 then (if c = 0 then isL else !isL) else lri.getLsbD (m - 1) := by
  unfold stepLri
  rw [shl_eq]
  cases isL <;> by_cases hc : c = 0 <;> by_cases h0 : m = 0 <;>
    simp [hc, h0, hm]
  all_goals (rw [BitVec.getLsbD_eq_getElem])

theorem climbLoop_cons (isL : Bool) (rest : List Bool) (lri : U64) (c : Nat) :
    climbLoop (isL :: rest) lri c = climbLoop rest (stepLri isL c lri) (c + 1) := rfl

theorem climbLoop_spec : ∀ (fs : List Bool) (lri : U64) (c : Nat),
    (climbLoop fs lri c).2 = c + fs.length ∧
    (∀ i, fs.length ≤ i → i < 64 → (climbLoop fs lri c).1.getLsbD i = lri.getLsbD (i - fs.length)) ∧
    (∀ i, i < fs.length → i < 64 → (climbLoop fs lri c).1.getLsbD i =
      if c = 0 ∧ fs.length - 1 - i = 0 then fs.getD (fs.length - 1 - i) false
      else !fs.getD (fs.length - 1 - i) false) := by
  intro fs
  induction fs with
  | nil =>
    intro lri c
    refine ⟨rfl, fun i _ _ => by simp [climbLoop], fun i hi _ => by simp at hi⟩
  | cons f rest ih =>
    intro lri c
    rw [climbLoop_cons]
    obtain ⟨h1, h2, h3⟩ := ih (stepLri f c lri) (c + 1)
    refine ⟨by rw [h1, List.length_cons]; omega, ?_, ?_⟩
    · intro i hi hi64
      rw [List.length_cons] at hi
      rw [h2 i (by omega) hi64, stepLri_getLsbD _ _ _ _ (by omega), if_neg (by omega),
        List.length_cons, show i - rest.length - 1 = i - (rest.length + 1) by omega]
    · intro i hi hi64
      rw [List.length_cons] at hi
      rw [List.length_cons]
      by_cases hlast : i = rest.length
      · subst hlast
        rw [h2 _ (Nat.le_refl _) hi64, Nat.sub_self, stepLri_getLsbD _ _ _ _ (by omega), if_pos rfl,
          show rest.length + 1 - 1 - rest.length = 0 by omega]
        by_cases hc : c = 0 <;> simp [hc]
      · rw [h3 i (by omega) hi64, if_neg (by omega), if_neg (by omega)]
        have e : rest.length + 1 - 1 - i = (rest.length - 1 - i) + 1 := by omega
        rw [e, List.getD_cons_succ]

theorem pathBits_length (k o : Nat) : (pathBits k o).length = k := by
  induction k with
  | zero => rfl
  | succ k ih => simp [pathBits, ih]

theorem pathBits_reverse (k o : Nat) : (pathBits k o).reverse = (List.range k).map o.testBit := by
  induction k with
  | zero => rfl
  | succ k ih => rw [pathBits, List.reverse_cons, ih, List.range_succ, List.map_append]; rfl

theorem nieceFlags_pathBits (k o : Nat) :
    nieceFlags (pathBits (k + 1) o) =
      (!o.testBit 0) :: (List.range k).map (fun i => o.testBit (i + 1)) := by
  unfold nieceFlags
  rw [pathBits_reverse, List.range_succ_eq_map, List.map_cons, List.map_map]
  rfl

theorem nieceFlags_pathBits_length (k o : Nat) : (nieceFlags (pathBits k o)).length = k := by
  cases k with
  | zero => rfl
  | succ k => rw [nieceFlags_pathBits]; simp

theorem nieceFlags_pathBits_getD (k o j : Nat) (hj : j < k) :
    (nieceFlags (pathBits k o)).getD j false = if j = 0 then !o.testBit 0 else o.testBit j := by
  cases k with
  | zero => omega
  | succ k =>
    rw [nieceFlags_pathBits]
    cases j with
    | zero => rfl
    | succ j =>
      rw [List.getD_cons_succ, if_neg (by omega), List.getD_eq_getElem?_getD, List.getElem?_map,
        List.getElem?_range (by omega)]
      rfl

theorem climb_bits (k o : Nat) (hk : k ≤ 64) :
    (climbLoop (nieceFlags (pathBits k o)) 0#64 0).2 = k ∧
    ∀ i, i < k → (climbLoop (nieceFlags (pathBits k o)) 0#64 0).1.getLsbD i = !o.testBit (k - 1 - i) := by
  obtain ⟨h1, _, h3⟩ := climbLoop_spec (nieceFlags (pathBits k o)) 0#64 0
  rw [nieceFlags_pathBits_length] at h1 h3
  refine ⟨by omega, ?_⟩
  intro i hi
  rw [h3 i hi (by omega), nieceFlags_pathBits_getD k o _ (by omega)]
  by_cases h0 : k - 1 - i = 0
  · simp [h0]
  · simp [h0]

theorem and_shl_one_beq (x : U64) {i : Nat} (hi : i < 64) :
    ((x &&& shl 1#64 i) == shl 1#64 i) = x.getLsbD i := by
  rw [BitVec.and_comm, one_shl_and, one_shl_eq_twoPow, ← BitVec.testBit_toNat]
  cases x.toNat.testBit i
  · have hne : (0#64 : U64) ≠ BitVec.twoPow 64 i := by
      intro hc
      have := congrArg BitVec.toNat hc
      rw [BitVec.toNat_twoPow_of_lt hi] at this
      have := Nat.two_pow_pos i
      simp at *
      omega
    simp [hne]
  · simp

/-- one iteration: from `(r + 1, x)` down to the child chosen by the bit `b` of the offset; the
loop takes the sibling of the other child -/
theorem descend_step {h r x : Nat} (hh : h ≤ 63) (hr : r < h) (hx : x < 2 ^ (h - (r + 1)))
    (b : Bool) :
    (if (!b) = true then sibling (RightChild (encU h (r + 1) x) (H8 h))
      else sibling (LeftChild (encU h (r + 1) x) (H8 h))) =
      encU h r (2 * x + (if b then 1 else 0)) := by
  have g := enc_facts_succ hr
  have hle : r ≤ h := Nat.le_of_lt hr
  cases b
  · have h1 : 2 * x + 1 < 2 ^ (h - r) := by omega
    simp only [Bool.not_false, if_true, Bool.false_eq_true, if_false, Nat.add_zero]
    rw [Props.C16.rightChild_enc hh hr hx, Props.C16.sibling_enc hh hle h1, nat_xor_one,
      if_neg (by omega), Nat.add_sub_cancel]
  · have h1 : 2 * x < 2 ^ (h - r) := by omega
    simp only [Bool.not_true, Bool.false_eq_true, if_false, if_true]
    rw [Props.C16.leftChild_enc hh hr hx, Props.C16.sibling_enc hh hle h1, nat_xor_one,
      if_pos (by omega)]

theorem descendLoop_enc {h : Nat} (hh : h ≤ 63) (lri : U64) (o : Nat) :
    ∀ m r i, r + m ≤ h → i + m ≤ 64 → o / 2 ^ m < 2 ^ (h - (r + m)) →
      (∀ j, j < m → lri.getLsbD (i + j) = !o.testBit (m - 1 - j)) →
      descendLoop (H8 h) lri m i (encU h (r + m) (o / 2 ^ m)) = encU h r o := by
  intro m
  induction m with
  | zero => intro r i _ _ _ _; rw [descendLoop, Nat.pow_zero, Nat.div_one, Nat.add_zero]
  | succ m ih =>
    intro r i hr hi hx hbits
    have hb := hbits 0 (Nat.succ_pos m)
    rw [Nat.add_zero, Nat.add_sub_cancel, Nat.sub_zero] at hb
    rw [descendLoop]
    simp only [and_shl_one_beq lri (show i < 64 by omega), hb]
    rw [← Nat.add_assoc] at hx ⊢
    rw [descend_step hh (by omega) hx, ← div_two_pow_bit]
    apply ih r (i + 1) (by omega) (by omega)
    · have g := enc_facts_succ (show r + m < h by omega)
      rw [div_two_pow_bit o m]
      split <;> omega
    · intro j hj
      have := hbits (j + 1) (by omega)
      rwa [Nat.add_sub_cancel, show i + (j + 1) = i + 1 + j by omega,
        show m - (j + 1) = m - 1 - j by omega] at this

theorem bit_test_eq (N : U64) (h : Nat) : (((shr N h) &&& 1#64) == 1#64) = N.toNat.testBit h :=
  shr_eq N h ▸ shr_and_one_beq N h

section
set_option linter.unusedSectionVars false
variable {H : Type} [DecidableEq H] [Hasher H]

theorem findRootRow_spec (N : U64) (g : Nat → H) (data : H) {R : Nat}
    (hbR : N.toNat.testBit R = true) (hg : g R = data)
    (hmin : ∀ R', R' < R → N.toNat.testBit R' = true → g R' ≠ data) :
    ∀ fuel h m, h ≤ R → R < h + m → R - h < fuel →
      findRootRow N data fuel h
        (((List.range' h m).filter (fun j => N.toNat.testBit j)).map g) = (R : Int) := by
  intro fuel
  induction fuel with
  | zero => intro h m _ _ hf; omega
  | succ fuel ih =>
    intro h m hh hm hf
    obtain ⟨m', rfl⟩ : ∃ m', m = m' + 1 := ⟨m - 1, by omega⟩
    rw [List.range'_succ]
    simp only [findRootRow, bit_test_eq]
    by_cases hb : N.toNat.testBit h = true
    · rw [List.filter_cons_of_pos (by simpa using hb), List.map_cons]
      simp only [hb, if_true]
      by_cases hR : h = R
      · subst hR
        rw [if_pos hg]
      · rw [if_neg (hmin h (by omega) hb)]
        exact ih (h + 1) m' (by omega) (by omega) (by omega)
    · have hR : h ≠ R := by intro e; subst e; exact hb hbR
      rw [List.filter_cons_of_neg (by simpa using hb)]
      simp only [hb, Bool.false_eq_true, if_false]
      exact ih (h + 1) m' (by omega) (by omega) (by omega)

theorem roots_reverse (F : Forest H) :
    F.roots.reverse =
      ((List.range' 0 65).filter (fun j => F.numLeaves.testBit j)).map (treeRoot F) := by
  rw [SpecNodes.roots_eq, ← List.map_reverse]
  unfold treeRows
  rw [Spec.treeRowsFrom_eq_filter, List.filter_reverse, List.reverse_reverse, List.range_eq_range']

/-- The arguments are what the climb from the node at `(r, o)` observes: `nieceFlags` of its child
path, and the root it ends at.  `hmin`: the Go code identifies the tree by comparing root hashes,
lowest tree first, so no lower tree may have the same root hash. -/
theorem calculatePosition_enc (F : Forest H) (hn : F.numLeaves < 2 ^ 63) {R r o : Nat}
    (hb : F.numLeaves.testBit R = true) (hr : r ≤ R)
    (ho : o / 2 ^ (R - r) = 2 * (F.numLeaves >>> (R + 1)))
    (hmin : ∀ R', R' < R → F.numLeaves.testBit R' = true → treeRoot F R' ≠ treeRoot F R) :
    calculatePosition F (nieceFlags (pathBits (R - r) o)) (treeRoot F R) = encU F.rows r o := by
  have htr : F.rows ≤ 63 := forestRows_le_63 hn
  have hT : TreeRows (BitVec.ofNat 64 F.numLeaves) = H8 F.rows := treeRows_eq hn
  have hnn : (BitVec.ofNat 64 F.numLeaves).toNat = F.numLeaves := toNat_ofNat64_of_lt (by omega)
  have hRrows : R ≤ F.rows := testBit_le_forestRows hb
  obtain ⟨hc2, hcbits⟩ := climb_bits (R - r) o (by omega)
  unfold calculatePosition
  generalize climbLoop (nieceFlags (pathBits (R - r) o)) 0#64 0 = cl at hc2 hcbits
  obtain ⟨lri, rtt⟩ := cl
  simp only at hc2 hcbits
  subst hc2
  simp only [hT, toNat_H8 htr, roots_reverse]
  have hfind := findRootRow_spec (BitVec.ofNat 64 F.numLeaves) (treeRoot F) (treeRoot F R)
    (R := R) (by rw [hnn]; exact hb) rfl (by rw [hnn]; exact hmin) (F.rows + 1) 0 65
    (by omega) (by omega) (by omega)
  rw [hnn] at hfind
  rw [hfind]
  have e3 : ofInt 8 (R : Int) = H8 R := by unfold ofInt; rw [BitVec.ofInt_natCast]
  have hlt : (BitVec.ofNat 64 F.numLeaves).toNat < 2 ^ (F.rows + 1) := by
    rw [hnn]
    have h1 := forestRows_spec_le F.numLeaves
    have h2 := two_pow_succ' (forestRows F.numLeaves)
    have h3 := Nat.two_pow_pos (forestRows F.numLeaves)
    show F.numLeaves < 2 ^ (forestRows F.numLeaves + 1)
    omega
  rw [e3, Props.C16.rootPosition_enc htr hRrows _ hlt, hnn]
  have hroot : (rootPos F.numLeaves R).2 = o / 2 ^ (R - r) := by rw [ho]; rfl
  have := descendLoop_enc htr lri o (R - r) r 0 (by omega) (by omega)
    (by rw [ho, show r + (R - r) = R by omega]; exact rootOffset_lt hb)
    (fun j hj => by rw [Nat.zero_add]; exact hcbits j hj)
  rw [show r + (R - r) = R by omega] at this
  rw [hroot, this]

theorem childWalk_eq_childPath : ∀ (k : Nat) (t : CTree H) (o : Nat),
    childWalk t k o = childPath t (pathBits k o) := by
  intro k
  induction k with
  | zero => intro t o; cases t <;> rfl
  | succ k ih =>
    intro t o
    cases t with
    | leaf h => rfl
    | node a b =>
      rw [childWalk, pathBits, childPath]
      cases o.testBit k
      · simp only [Bool.false_eq_true, if_false, child]; exact ih a o
      · simp only [if_true, child]; exact ih b o

theorem roots_distinct_nd (F : Forest H) (hn : F.numLeaves < 2 ^ 64) (hd : NodesDistinct F)
    {R R' : Nat} (hb : F.numLeaves.testBit R = true) (hb' : F.numLeaves.testBit R' = true)
    (hne : R' ≠ R) (hz : treeRoot F R ≠ zero) : treeRoot F R' ≠ treeRoot F R := by
  intro he
  have hmem : ∀ Q, F.numLeaves.testBit Q = true → Q ∈ treeRows F.numLeaves :=
    fun Q hq => treeRows_mem_of_bit hn hq
  obtain ⟨b, hx⟩ := rootNode_mem F R
  obtain ⟨b', hx'⟩ := rootNode_mem F R'
  have h1 := mem_nodes.2 ⟨R, ⟨hb, hmem R hb⟩, hx⟩
  have h2 := mem_nodes.2 ⟨R', ⟨hb', hmem R' hb'⟩, hx'⟩
  rw [he] at h2
  have := (hd.unique hz h1 h2).1
  simp only [rootPos, Prod.mk.injEq] at this
  exact hne this.1.symm

theorem roots_distinct (cr : CR H) (F : Forest H) (hn : F.numLeaves < 2 ^ 64)
    (hnd : F.liveLeaves.Nodup) (hleaf : ∀ x ∈ F.liveLeaves, ∀ a b : H, x ≠ ph a b)
    {R R' : Nat} (hb : F.numLeaves.testBit R = true) (hb' : F.numLeaves.testBit R' = true)
    (hne : R' ≠ R) (hz : treeRoot F R ≠ zero) : treeRoot F R' ≠ treeRoot F R :=
  roots_distinct_nd F hn (nodesDistinct_of_CR cr F hnd hleaf) hb hb' hne hz

/-- `GetLeafPosition` through `calculatePosition`: run on what the climb from the leaf node of `h`
observes, it returns the position the abstract look-up (`posOf`) reports. -/
theorem getLeafPosition_calculatePosition_nd (nz : NZ H) (F : Forest H) (hn : F.numLeaves < 2 ^ 63)
    (hleaf : ∀ x ∈ F.liveLeaves, x ≠ (zero : H))
    (hd : NodesDistinct F) {h : H} (hl : h ∈ F.liveLeaves) :
    ∃ R t path, R ∈ treeRows F.numLeaves ∧ treeOf F R = some t ∧
      childPath t path = some (.leaf h) ∧
      calculatePosition F (nieceFlags path) t.hash = (pollardGetLeafPosition F h).1 ∧
      (pollardGetLeafPosition F h).2 = true := by
  have hn64 : F.numLeaves < 2 ^ 64 := by omega
  obtain ⟨p, hpos⟩ := posOf_isSome_of_live hn64 hl
  obtain ⟨R, s⟩ := SpecSubs.posOf_sub hpos
  obtain ⟨t, ht, hw⟩ := s.walk
  refine ⟨R, t, pathBits (R - p.1) p.2, s.1, ht, ?_, ?_, ?_⟩
  · rw [← childWalk_eq_childPath]; exact hw
  · have hroot := Spec.treeRoot_some ht
    have hz : treeRoot F R ≠ zero := by
      rw [hroot]
      exact CTree.hash_ne_zero nz.nonzero t (fun x hx => hleaf x (treeOf_leaves_live ht x hx))
    have := calculatePosition_enc F hn s.bit s.under.1 s.under.2 (fun R' hlt hb' =>
      roots_distinct_nd F hn64 hd s.bit hb' (by omega) hz)
    rw [hroot] at this
    rw [this]
    unfold pollardGetLeafPosition
    rw [hpos]
    rfl
  · unfold pollardGetLeafPosition
    rw [hpos]

theorem getLeafPosition_calculatePosition (cr : CR H) (F : Forest H) (hn : F.numLeaves < 2 ^ 63)
    (hnd : F.liveLeaves.Nodup)
    (hleaf : ∀ x ∈ F.liveLeaves, x ≠ (zero : H) ∧ ∀ a b : H, x ≠ ph a b)
    {h : H} (hl : h ∈ F.liveLeaves) :
    ∃ R t path, R ∈ treeRows F.numLeaves ∧ treeOf F R = some t ∧
      childPath t path = some (.leaf h) ∧
      calculatePosition F (nieceFlags path) t.hash = (pollardGetLeafPosition F h).1 ∧
      (pollardGetLeafPosition F h).2 = true :=
  getLeafPosition_calculatePosition_nd cr.toNZ F hn (fun x hx => (hleaf x hx).1)
    (nodesDistinct_of_CR cr F hnd (fun x hx => (hleaf x hx).2)) hl

end

end UtreexoVerif.Proofs.PollardCalcPos
