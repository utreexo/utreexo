/-
  Un-lifting on `GIH`, the inverse of `MapLiftCore.liftCore`: `GIH.unlift_reloc` for any relocation of the
  node list; its instance for one step of the descending loop of `undoDeletion` (`GIH.unlift`; the instance for
  `undoSingleAdd` is `GIH.unlift_root` in `Proofs/MapUnstepB.lean`); the step at a root target, where nothing
  moves (`GIH.unroot`); the readings for a partial forest and the counterexample to the step with one cached set.
  The moves are `MapGIH.GIH.…`; the readings on `HInvP`/`HInv` and the examples are `MapUndoSteps.…`.
-/
import UtreexoVerif.Proofs.MapGIH
import UtreexoVerif.Proofs.MapHCheck
import UtreexoVerif.Proofs.MapRemoveAll

namespace UtreexoVerif.Proofs.MapGIH
open Model Spec MapRep MapLiftGeo PForest MapAInv
  MapUndoDefs MapUndoSteps MapRelocK Hasher

variable {H : Type} [DecidableEq H] [Hasher H]
variable {fl : Bool} {A : Pos → Option (Leaf H)} {C : H → Option Pos} {N N'' : List (Pos × H × Bool)}
  {R : Pos → Prop} {K Kp : H → Prop} {d : Pos} {Hole'' : Pos → Prop}

/-- **un-lifting**: the subtree at `parent d` goes back down to `sib d`.  The state tracks the node list `N'`, in
which the subtree that `N` has at `sib d` sits at `parent d` (`Reloc`), outside a hole that meets the region of
`parent d` at most at `parent d`; afterwards it tracks `N` outside the old hole (moved with the subtree) and the nodes
of `N` at or below `d` and at or above `parent d` (nothing is known of them).  `hkl`: no leaf of `K` lies there;
`hσa`: what is stored at `parent d` is allowed to be stored at `sib d`. -/
theorem GIH.unlift_reloc {N' : List (Pos × H × Bool)} {R' : Pos → Prop} {Hole' : Pos → Prop}
    (L' : Laws N' R') (r : Reloc (sib d) N N') (g : GIH fl A C N' R' K Kp Hole')
    (hPN' : ∃ h b, (parent d, h, b) ∈ N')
    (hHP : ∀ q, Hole' q → q = parent d ∨ ¬ Anc (parent d) q)
    (hpath : ∀ q h b, (q, h, b) ∈ N' → Anc q (parent d) → q ≠ parent d → ∃ h0 f, (q, h0, f) ∈ N)
    (hRo : ∀ q, ¬ Anc (parent d) q → ¬ R q → ¬ R' q)
    (hkl : ∀ t, KLeaf N K t → ¬ Anc d t ∧ ¬ Anc t (parent d))
    (hσa : ∀ l, A (parent d) = some l → ¬ R (sib d) → AllowedAt N Kp (sib d)) :
    GIH fl (unliftAll (sib d) A) (unliftCAll (sib d) C) N R K Kp
      (fun q => (Hole' q ∧ q ≠ parent d) ∨ (Hole' (parent d) ∧ q = sib d) ∨
        holeOf N d q) := by
  have hPσ : parent (sib d) = parent d := CalcGeo.parent_sib d
  have rout : ∀ q h b, ¬ Anc (parent d) q → ¬ Anc q (parent d) → ((q, h, b) ∈ N' ↔ (q, h, b) ∈ N) := by
    have := r.out; rwa [hPσ] at this
  -- the transport lemmas of `Reloc` compare two cached sets; here both are the same (`P` is their region, unused)
  have same : ∀ (Q : H → Prop) (P : Pos → Prop) t x, P t → (t, x, true) ∈ N → (Q x ↔ Q x) :=
    fun _ _ _ _ _ _ => Iff.rfl
  have kcases : ∀ t, KLeaf N K t → Anc (sib d) t ∨ ¬ Anc (parent d) t := by
    intro t hk
    by_cases hu : Anc (parent d) t
    · rcases anc_P_iff.1 hu with e | e | e
      · exact absurd (e ▸ Anc.refl _) (hkl t hk).2
      · exact Or.inl e
      · exact absurd e (hkl t hk).1
    · exact Or.inr hu
  have hin : ∀ t, KLeaf N K t → Anc (parent (sib d)) t → Anc (sib d) t := by
    intro t hk hu
    rw [hPσ] at hu
    exact (kcases t hk).resolve_right (fun h => h hu)
  have hole_P : ¬ ((Hole' (sib d) ∧ sib d ≠ parent d) ∨ (Hole' (parent d) ∧ sib d = sib d) ∨
      holeOf N d (sib d)) → ¬ Hole' (parent d) :=
    fun hh c => hh (Or.inr (Or.inl ⟨c, rfl⟩))
  have hole_lift : ∀ c, SUnder (sib d) c → ¬ Hole' (liftP (sib d) c) := fun c hc h =>
    (hHP _ h).elim (fun e => Nat.ne_of_lt (sunder_P_lift hc).2 (congrArg Prod.fst e)) (fun n => n (anc_P_lift hc.1))
  have hole_out : ∀ {q : Pos}, ¬ Anc (parent d) q → ¬ ((Hole' q ∧ q ≠ parent d) ∨ (Hole' (parent d) ∧ q = sib d) ∨
      holeOf N d q) → ¬ Hole' q :=
    fun hout hh c => hh (Or.inl ⟨c, fun e => hout (e ▸ Anc.refl _)⟩)
  obtain ⟨hP, bP, hPN'⟩ := hPN'
  have nr_lift : ∀ c h b, SUnder (sib d) c → (liftP (sib d) c, h, b) ∈ N' → ¬ R' (liftP (sib d) c) :=
    fun c h b hc hm => L'.not_root_of_sunder hPN' (sunder_P_lift hc)
  have mid : ∀ {q : Pos} {h : H} {b : Bool}, (q, h, b) ∈ N → Anc (parent d) q → ¬ Anc (sib d) q →
      ¬ ((Hole' q ∧ q ≠ parent d) ∨ (Hole' (parent d) ∧ q = sib d) ∨
        holeOf N d q) → False := by
    intro q h b hm hu hs hh
    rcases anc_P_iff.1 hu with e | e | e
    · exact hh (Or.inr (Or.inr ⟨Or.inr (e ▸ Anc.refl _), h, b, hm⟩))
    · exact hs e
    · exact hh (Or.inr (Or.inr ⟨Or.inl e, h, b, hm⟩))
  refine { true_hash := ?_, cache_sub := ?_, cached_pos := ?_, leaf_stored := ?_,
           only_needed := ?_, has_needed := ?_, flags := ?_, flagsZ := ?_, fullS := ?_, fullC := ?_ }
  · intro q l hl hh
    obtain ⟨_, _, _, hb⟩ := unlift_stored r hpath hHP g.true_hash hl hh
    exact hb
  · intro x t h
    obtain ⟨p, hC, _⟩ := unliftCAll_some h
    exact g.cache_sub x p hC
  · intro x t h
    obtain ⟨p, hC, ht⟩ := unliftCAll_some h
    obtain ⟨hmt, hreg⟩ := unlift_cached r (g.cached_pos x p hC).1 ht
    obtain ⟨h1, h2⟩ := hkl t ⟨x, g.cache_sub x p hC, hmt⟩
    refine ⟨hmt, ?_⟩
    rintro (⟨c, hne⟩ | ⟨c, rfl⟩ | ⟨c | c, _⟩)
    · rcases hreg with hs | ⟨_, e⟩
      · exact (hHP t c).elim hne (fun n => n (Anc.trans (anc_parent_sib d) hs))
      · exact (g.cached_pos x p hC).2 (e ▸ c)
    · -- the entry came from `parent d`, which is outside the old hole
      have hmP : (parent d, x, true) ∈ N' := by rw [← liftP_sib_self]; exact (r.lift _ x true (Anc.refl _)).2 hmt
      rw [L'.leaf_hash p x _ true (g.cached_pos x p hC).1 hmP] at c
      exact (g.cached_pos x p hC).2 c
    · exact h1 c
    · exact h2 c
  · intro t hk hh
    rcases kcases t hk with hs | hout
    · by_cases hts : t = sib d
      · subst hts
        rw [unliftAll_sib]
        exact g.leaf_stored _ (by rw [← liftP_sib_self]; exact (r.kleaf_lift (same K _) (Anc.refl _)).2 hk) (hole_P hh)
      · rw [unliftAll_under (sunder_of_ne hs hts)]
        exact g.leaf_stored _ ((r.kleaf_lift (same K _) hs).2 hk) (hole_lift t (sunder_of_ne hs hts))
    · rw [unliftAll_out hout]
      exact g.leaf_stored t ((r.kleaf_out (same K _) (by rw [hPσ]; exact hout)).2 hk) (hole_out hout hh)
  · intro q l hl hh hnr
    rcases unlift_cases d q with rfl | hs | ⟨hu, hs⟩ | hout
    · rw [unliftAll_sib] at hl
      exact hσa l hl hnr
    · rw [unliftAll_under hs] at hl
      obtain ⟨bq, hqm⟩ := g.true_hash _ l hl (hole_lift q hs)
      exact (r.allowed_lift (same Kp _) hs).1 (g.only_needed _ l hl (hole_lift q hs) (nr_lift q _ bq hs hqm))
    · rw [unliftAll_none hu hs] at hl; cases hl
    · rw [unliftAll_out hout] at hl
      exact r.allowed_out (same Kp _) (same Kp _) (by rw [hPσ]; exact hout)
        (g.only_needed q l hl (hole_out hout hh) (hRo q hout hnr))
  · intro q h b hm hh hnr hreq
    rcases unlift_cases d q with rfl | hs | ⟨hu, hs⟩ | hout
    · rw [unliftAll_sib]
      rcases hreq with hk | ⟨t, hk, hanc⟩
      · exact g.leaf_stored _ (by rw [← liftP_sib_self]; exact (r.kleaf_lift (same K _) (Anc.refl _)).2 hk) (hole_P hh)
      · rw [CalcGeo.sib_sib] at hanc
        exact absurd hanc (hkl t hk).1
    · rw [unliftAll_under hs]
      have hm'' := (r.lift q h b hs.1).2 hm
      exact g.has_needed _ h b hm'' (hole_lift q hs) (nr_lift q h b hs hm'')
        ((r.required_lift (same K _) hs).2 hreq)
    · exact (mid hm hu hs hh).elim
    · rw [unliftAll_out hout]
      exact g.has_needed q h b
        ((rout q h b hout (fun c => hh (Or.inr (Or.inr ⟨Or.inr c, h, b, hm⟩)))).2 hm) (hole_out hout hh) (hRo q hout hnr)
        (r.required_out' (same K _) (same K _) hin (by rw [hPσ]; exact hout) hreq)
  · intro q l hl hh hnz
    rcases unlift_cases d q with rfl | hs | ⟨hu, hs⟩ | hout
    · rw [unliftAll_sib] at hl
      rw [g.flags _ l hl (hole_P hh) hnz, ← liftP_sib_self, r.kleaf_lift (same K _) (Anc.refl _)]
    · rw [unliftAll_under hs] at hl
      rw [g.flags _ l hl (hole_lift q hs) hnz, r.kleaf_lift (same K _) hs.1]
    · rw [unliftAll_none hu hs] at hl; cases hl
    · rw [unliftAll_out hout] at hl
      rw [g.flags q l hl (hole_out hout hh) hnz, r.kleaf_out (same K _) (by rw [hPσ]; exact hout)]
  · intro hf q l hl hh
    obtain ⟨q', hl', hq', _⟩ := unlift_stored r hpath hHP g.true_hash hl hh
    exact g.flagsZ hf q' l hl' hq'
  · intro hf q h b hm hh
    rcases unlift_cases d q with rfl | hs | ⟨hu, hs⟩ | hout
    · rw [unliftAll_sib]
      exact g.fullS hf _ h b (by rw [← liftP_sib_self]; exact (r.lift _ h b (Anc.refl _)).2 hm) (hole_P hh)
    · rw [unliftAll_under hs]
      exact g.fullS hf _ h b ((r.lift q h b hs.1).2 hm) (hole_lift q hs)
    · exact (mid hm hu hs hh).elim
    · rw [unliftAll_out hout]
      exact g.fullS hf q h b
        ((rout q h b hout (fun c => hh (Or.inr (Or.inr ⟨Or.inr c, h, b, hm⟩)))).2 hm) (hole_out hout hh)
  · intro hf t x hm hh hk
    obtain ⟨h1, h2⟩ := hkl t ⟨x, hk, hm⟩
    unfold unliftCAll
    by_cases hu : Anc (parent d) t
    · have hs : Anc (sib d) t := by
        rcases anc_P_iff.1 hu with e | e | e
        · exact absurd (e ▸ Anc.refl _) h2
        · exact e
        · exact absurd e h1
      by_cases hts : t = sib d
      · subst hts
        rw [g.fullC hf _ x (by rw [← liftP_sib_self]; exact (r.lift _ x true (Anc.refl _)).2 hm) (hole_P hh) hk]
        simp only [Option.map_some, CalcGeo.parent_sib, if_true]
      · have hcs := sunder_of_ne hs hts
        have hps : SUnder (parent d) (liftP (sib d) t) := sunder_P_lift hcs
        have hne : liftP (sib d) t ≠ parent d := by
          intro e; have := hps.2; rw [e] at this; omega
        rw [g.fullC hf _ x ((r.lift t x true hs).2 hm) (hole_lift t hcs) hk]
        simp only [Option.map_some, Option.some.injEq, CalcGeo.parent_sib]
        rw [if_neg hne, if_pos ⟨hps, by simp [liftP_fst]⟩, unliftP_liftP hs]
    · rw [g.fullC hf t x ((rout t x true hu h2).2 hm) (hole_out hu hh) hk]
      simp only [Option.map_some, Option.some.injEq, CalcGeo.parent_sib]
      have hne : t ≠ parent d := fun e => hu (e ▸ Anc.refl _)
      rw [if_neg hne, if_neg (fun c => hu c.1.1)]

/-- **un-lifting at a non-root target** (one step of `undoDelMoveDown`): `N''` is `N` AFTER the deletion of
everything below `d`.  No leaf below `d` is in `K` (`hKd`); `hσa`: if something is stored at `parent d`, a leaf of the
final set `Kp` lies at or below `parent d`, not above the row of `d` (it allows `sib d` to be stored; `unliftCoreP`
gets it from a leaf of `Kp` below `d`, which will be re-inserted, `unliftCore` from a cached leaf). -/
theorem GIH.unlift (D : Del N N'' R d) (g : GIH fl A C N'' R K Kp Hole'')
    (hKd : ∀ t x, (t, x, true) ∈ N → Anc d t → ¬ K x)
    (hHP : ∀ q, Hole'' q → ¬ Anc (parent d) q)
    (hσa : ∀ l, A (parent d) = some l → ∃ t, KLeaf N Kp t ∧ t.1 ≤ d.1 ∧ Anc (parent d) t) :
    GIH fl (unliftAll (sib d) A) (unliftCAll (sib d) C) N R K Kp
      (fun q => Hole'' q ∨ holeOf N d q) := by
  have hP : ¬ Hole'' (parent d) := fun c => hHP _ c (Anc.refl _)
  refine (g.unlift_reloc D.L'' D.reloc D.P_node'' (fun q h => Or.inr (hHP q h)) (fun q h b hm ha hne => ?_) (fun _ _ h => h)
    (fun t hk => ?_) (fun l hl _ => ?_)).congr_hole fun q =>
      ⟨fun h => h.elim (fun c => Or.inl ⟨c, fun e => hP (e ▸ c)⟩) (fun c => Or.inr (Or.inr c)),
        fun h => h.elim (fun c => Or.inl c.1) (fun c => c.elim (fun c => absurd c.1 hP) Or.inr)⟩
  · rcases D.mem_out'' hm (fun c => hne (Anc.antisymm ha c)) with ⟨h2, _⟩ | ⟨_, _, h0, hm0⟩
    · exact absurd ha h2
    · exact ⟨h0, false, hm0⟩
  · obtain ⟨x, hx, hm⟩ := hk
    have h1 : ¬ Anc d t := fun c => hKd t x hm c hx
    exact ⟨h1, D.leaf_not_above hm h1⟩
  · unfold AllowedAt
    rw [CalcGeo.parent_sib]
    exact hσa l hl

/-- un-deleting a whole tree (root target `d`): nothing moves; the hole grows over the tree, inside which the
node list changes -/
theorem GIH.unroot (L : Laws N R) (g : GIH fl A C N'' R K Kp Hole'') (hdR : R d)
    (hKd : ∀ t x, (t, x, true) ∈ N → Anc d t → ¬ K x)
    (hN'' : ∀ e : Pos × H × Bool, e ∈ N'' ↔ (¬ Anc d e.1 ∧ e ∈ N) ∨ e = (d, zero, false)) :
    GIH fl A C N R K Kp (fun q => Hole'' q ∨ (Anc d q ∧ ∃ h0 f, (q, h0, f) ∈ N)) := by
  obtain ⟨hd0, bd0, hdN⟩ := L.root_node d hdR
  have leaf'' : ∀ t x, (t, x, true) ∈ N'' → ¬ Anc d t ∧ (t, x, true) ∈ N := fun t x hm =>
    ((hN'' _).1 hm).resolve_right (fun e => by cases (Prod.mk.inj (Prod.mk.inj e).2).2)
  refine (g.mono_hole (fun q h => Or.inl h) ?_).change_N ?_ ?_ ?_ (fun _ _ r => r)
  · rintro x t hC (c | ⟨c, _⟩)
    · exact (g.cached_pos x t hC).2 c
    · exact (leaf'' t x (g.cached_pos x t hC).1).1 c
  · intro q h b hh
    constructor
    · intro hm
      rcases (hN'' _).1 hm with ⟨_, h2⟩ | e
      · exact h2
      · exact absurd (Or.inr ⟨(Prod.mk.inj e).1 ▸ Anc.refl d, hd0, bd0, (Prod.mk.inj e).1 ▸ hdN⟩) hh
    · intro hm
      exact (hN'' _).2 (Or.inl ⟨fun c => hh (Or.inr ⟨c, h, b, hm⟩), hm⟩)
  · exact fun t x hm hk => (hN'' _).2 (Or.inl ⟨fun c => hKd t x hm c hk, hm⟩)
  · exact fun q l _ _ _ a => a.mono fun t ⟨x, hk, hm⟩ => ⟨x, hk, (leaf'' t x hm).2⟩

end UtreexoVerif.Proofs.MapGIH

namespace UtreexoVerif.Proofs.MapUndoSteps
open Model Spec MapRep MapLiftGeo PForest MapAInv
  MapUndoDefs Hasher

variable {H : Type} [DecidableEq H] [Hasher H]

section
variable {A : Pos → Option (Leaf H)} {C : H → Option Pos} {N N'' : List (Pos × H × Bool)}
  {R : Pos → Prop} {K Kp : H → Prop} {d : Pos} {Hole'' : Pos → Prop}

theorem unliftCoreG (D : Del N N'' R d) (inv : HInvP A C N'' R K Kp Hole'')
    (hKd : ∀ t x, (t, x, true) ∈ N → Anc d t → ¬ K x)
    (hHP : ∀ q, Hole'' q → ¬ Anc (parent d) q)
    (hσa : ∀ l, A (parent d) = some l → ∃ t, KLeaf N Kp t ∧ t.1 ≤ d.1 ∧ Anc (parent d) t) :
    HInvP (unliftAll (sib d) A) (unliftCAll (sib d) C) N R K Kp
      (fun q => Hole'' q ∨ ((Anc d q ∨ Anc q (parent d)) ∧ ∃ h0 f, (q, h0, f) ∈ N)) :=
  MapGIH.hinvP_of_gih ((MapGIH.gih_of_hinvP inv).unlift D hKd hHP hσa) (by
    intro t hk
    obtain ⟨h1, h2, _⟩ := D.kleaf_cases hKd hk
    rintro (c | ⟨c | c, _⟩)
    · exact inv.kleaf_out t ((D.reloc.kleaf_out (fun _ _ _ _ => Iff.rfl) (by rw [CalcGeo.parent_sib]; exact hHP t c)).2 hk) c
    · exact h1 c
    · exact h2 c)

/-- `GIH.unlift` read on `HInvP`, whose "nothing unneeded" clause refers to the FINAL cached set `Kp`.
`hKpd`: some leaf below `d` is in `Kp` (it will be re-inserted and cached) — this is what allows `sib d` to be stored. -/
theorem unliftCoreP (D : Del N N'' R d) (inv : HInvP A C N'' R K Kp Hole'')
    (hKd : ∀ t x, (t, x, true) ∈ N → Anc d t → ¬ K x)
    (hKpd : ∃ t x, (t, x, true) ∈ N ∧ Anc d t ∧ Kp x)
    (hHP : ∀ q, Hole'' q → ¬ Anc (parent d) q) :
    HInvP (unliftAll (sib d) A) (unliftCAll (sib d) C) N R K Kp
      (fun q => Hole'' q ∨ ((Anc d q ∨ Anc q (parent d)) ∧ ∃ h0 f, (q, h0, f) ∈ N)) := by
  refine unliftCoreG D inv hKd hHP ?_
  intro l _
  obtain ⟨t, x, hm, ha, hk⟩ := hKpd
  exact ⟨t, ⟨x, hk, hm⟩, ha.1, Anc.trans (anc_parent_self d) ha⟩

/-- **un-lifting for `HInv`** (one cached set), with the ONE extra hypothesis `hσ` without which it is
false, see `unliftCore_statement_false`: if something is stored at `parent d`, then a leaf of the
cached set lies at or below `parent d` in `N''` (so that `sib d` is allowed to be stored afterwards). -/
theorem unliftCore (D : Del N N'' R d) (inv : HInv A C N'' R K Hole'')
    (hKd : ∀ t x, (t, x, true) ∈ N → Anc d t → ¬ K x)
    (hHP : ∀ q, Hole'' q → ¬ Anc (parent d) q)
    (hσ : A (parent d) ≠ none → ∃ t, KLeaf N'' K t ∧ Anc (parent d) t) :
    HInv (unliftAll (sib d) A) (unliftCAll (sib d) C) N R K
      (fun q => Hole'' q ∨ ((Anc d q ∨ Anc q (parent d)) ∧ ∃ h0 f, (q, h0, f) ∈ N)) := by
  refine (unliftCoreG D (HInvP.of_hinv inv (fun _ hx => hx)) hKd hHP ?_).to_hinv (fun _ hx => hx)
  intro l hl
  obtain ⟨t', hk', hu⟩ := hσ (by rw [hl]; intro e; cases e)
  obtain ⟨t, ht, _, hk⟩ := D.reloc.kleaf_under (fun _ _ _ _ => Iff.rfl) hk' (by rw [CalcGeo.parent_sib]; exact hu)
  exact ⟨t, hk, by have := ht.1; rwa [CalcGeo.sib_fst] at this, Anc.trans (anc_parent_sib d) ht⟩

end

/-! ### non-vacuity, and the counterexample to the statement without `hKpd` / `hσ`

`F5` of `Props/C09.lean` (leaves 0‥4; a four-leaf tree rooted at `(2,0)` and the root leaf `(0,4)`),
`d = (0,2)` (leaf 2), `σ = sib d = (0,3)`, `P = parent d = (1,1)`.  `N''` = `F5` without leaf 2:
leaf 3 sits at `(1,1)`.  Cached set `K = {leaf 0}`. -/

namespace UnliftExample
open Props.C09.Example MapSInv.Example PForestDel PForestDel.Example PForestSpec MapRemoveAll MapHCheck

theorem L5 : Laws F5.nodes (FRoot F5) := laws_forest crT.toNZ F5 (by decide) F5_hyg

theorem L5'' : Laws (F5.delLeaves [T.leaf 2]).nodes (FRoot F5) := by
  have := laws_forest crT.toNZ (F5.delLeaves [T.leaf 2]) (by rw [Spec.numLeaves_delLeaves]; decide)
    (hyg_delLeaves F5_hyg _)
  rwa [froot_del] at this

theorem kleaf_eq {N : List (Pos × T × Bool)} {R : Pos → Prop} (L : Laws N R) {y : T} {p : Pos}
    (hm : (p, y, true) ∈ N) (t : Pos) : KLeaf N (fun x => x = y) t ↔ t = p :=
  ⟨fun ⟨_, hx, hxm⟩ => L.leaf_hash p y t true hm (hx ▸ hxm), fun e => e ▸ ⟨y, rfl, hm⟩⟩

def exK : T → Prop := fun x => x = T.leaf 0
def exKp : T → Prop := fun x => x = T.leaf 0 ∨ x = T.leaf 2

/-- the store for `N''`: the roots, the cached leaf 0 and its sibling, and leaf 3 at `(1,1)` (required:
the cached leaf lies below its sibling `(1,0)`) -/
def exAL : List (Pos × Leaf T) :=
  [((2, 0), ⟨.node (.node (.leaf 0) (.leaf 1)) (.leaf 3), false⟩), ((0, 0), ⟨.leaf 0, true⟩),
   ((0, 1), ⟨.leaf 1, false⟩), ((1, 1), ⟨.leaf 3, false⟩), ((0, 4), ⟨.leaf 4, false⟩)]
def exA : Pos → Option (Leaf T) := fun q => AL.get? exAL q
def exC : T → Option Pos := fun x => AL.get? [(T.leaf 0, ((0, 0) : Pos))] x

theorem exK_iff (t : Pos) : KLeaf F5.nodes exK t ↔ t = (0, 0) :=
  kleaf_eq L5 (by rw [F5_nodes]; decide) t

instance : DecidablePred exK := fun x => inferInstanceAs (Decidable (x = T.leaf 0))
instance : DecidablePred (FRoot F5) := fun q => inferInstanceAs (Decidable (isRootPos F5.numLeaves q = true))

theorem exInv : HInv exA exC (F5.delLeaves [T.leaf 2]).nodes (FRoot F5) exK (fun _ => False) :=
  hinv_of_check (al := exAL) (cl := [(T.leaf 0, ((0, 0) : Pos))]) (FRoot F5) exK (by decide +kernel)

theorem ex_hd : (((0, 2) : Pos), T.leaf 2, true) ∈ F5.nodes := by rw [F5_nodes]; decide

theorem ex_hnr : ¬ FRoot F5 (0, 2) := by
  show ¬ (isRootPos _ _ = true); decide

theorem exDel : Del F5.nodes (F5.delLeaves [T.leaf 2]).nodes (FRoot F5) (0, 2) := by
  have hdel := del_nonroot F5 (by decide) F5_hyg (d := (0, 2)) (h := T.leaf 2) (b := true)
    ex_hd (by decide) [T.leaf 2] R2_spec
  exact ⟨L5, L5'', ⟨_, _, ex_hd⟩, ex_hnr, hdel.1, hdel.2.1, hdel.2.2.1, hdel.2.2.2⟩

theorem ex_hKd : ∀ t x, (t, x, true) ∈ F5.nodes → Anc (0, 2) t → ¬ exK x := by
  intro t x hm ha hk
  have := (exK_iff t).1 ⟨x, hk, hm⟩
  subst this
  exact absurd ha (by decide)

theorem ex_hKpd : ∃ t x, (t, x, true) ∈ F5.nodes ∧ Anc (0, 2) t ∧ exKp x :=
  ⟨(0, 2), T.leaf 2, ex_hd, by decide, Or.inr rfl⟩

/-- **non-vacuity of `unliftCoreP`**: all hypotheses hold on `F5`, `d = (0,2)` -/
theorem exInvP' : HInvP (unliftAll (sib (0, 2)) exA) (unliftCAll (sib (0, 2)) exC) F5.nodes (FRoot F5) exK exKp
    (fun q => False ∨ ((Anc (0, 2) q ∨ Anc q (parent (0, 2))) ∧ ∃ h0 f, (q, h0, f) ∈ F5.nodes)) :=
  unliftCoreP exDel (HInvP.of_hinv exInv (fun _ hx => Or.inl hx)) ex_hKd ex_hKpd (fun _ c => c.elim)

/-- the step does something: leaf 3 moved from `(1,1)` back to `(0,3)`, `(1,1)` and `(0,2)` are empty,
the cached leaf 0 stayed -/
example : unliftAll (sib (0, 2)) exA (0, 3) = some ⟨.leaf 3, false⟩ ∧ unliftAll (sib (0, 2)) exA (1, 1) = none ∧
    unliftAll (sib (0, 2)) exA (0, 2) = none ∧ unliftAll (sib (0, 2)) exA (0, 0) = some ⟨.leaf 0, true⟩ ∧
    unliftCAll (sib (0, 2)) exC (.leaf 0) = some (0, 0) := by
  refine ⟨by decide, by decide, by decide, by decide, by decide⟩

/-- `unliftCore` WITHOUT the hypothesis `hσ` (the record `Del` written out as its fields) -/
def unliftCore_statement : Prop :=
  ∀ (H : Type) [DecidableEq H] [Hasher H] (A : Pos → Option (Leaf H)) (C : H → Option Pos)
    (N N'' : List (Pos × H × Bool)) (R : Pos → Prop) (K : H → Prop) (Hole'' : Pos → Prop) (d : Pos) (h : H) (b : Bool),
    Laws N R → Laws N'' R → HInv A C N'' R K Hole'' → (d, h, b) ∈ N → ¬ R d →
    (∀ t x, (t, x, true) ∈ N → Anc d t → ¬ K x) →
    (∀ q, Hole'' q → ¬ Anc (parent d) q) →
    (∀ e : Pos × H × Bool, e ∈ N'' →
      (¬ Anc (parent d) e.1 ∧ ¬ Anc e.1 (parent d) ∧ e ∈ N) ∨
      (∃ c, Anc (sib d) c ∧ e.1 = liftP (sib d) c ∧ (c, e.2) ∈ N) ∨
      (Anc e.1 (parent d) ∧ e.1 ≠ parent d ∧ e.2.2 = false ∧ ∃ h0, (e.1, h0, false) ∈ N)) →
    (∀ e : Pos × H × Bool, ¬ Anc (parent d) e.1 → ¬ Anc e.1 (parent d) → e ∈ N → e ∈ N'') →
    (∀ c h' b', Anc (sib d) c → (c, h', b') ∈ N → (liftP (sib d) c, h', b') ∈ N'') →
    (∀ z h0, (z, h0, false) ∈ N → Anc z (parent d) → z ≠ parent d → ∃ h1, (z, h1, false) ∈ N'') →
    HInv (unliftAll (sib d) A) (unliftCAll (sib d) C) N R K
      (fun q => Hole'' q ∨ ((Anc d q ∨ Anc q (parent d)) ∧ ∃ h0 f, (q, h0, f) ∈ N))

/-- **without `hσ` the step is false**: on `F5` with cached set `{leaf 0}`, after leaf 2 has been
deleted, leaf 3 is stored at `(1,1)` because the cached leaf lies below its SIBLING `(1,0)`; moved back
to `(0,3)` it is stored although no leaf of the cached set lies below its parent `(1,1)` (the leaf 2
that justifies it joins the cache only at the end of `Undo`). -/
theorem unliftCore_statement_false : ¬ unliftCore_statement := by
  intro hst
  have inv' := hst T exA exC F5.nodes (F5.delLeaves [T.leaf 2]).nodes (FRoot F5) exK (fun _ => False) (0, 2)
    (T.leaf 2) true L5 L5'' exInv ex_hd ex_hnr ex_hKd (fun _ c => c.elim) exDel.hD1 exDel.hD2 exDel.hD3 exDel.hD4
  have hst : unliftAll (sib (0, 2)) exA (0, 3) = some ⟨.leaf 3, false⟩ := by decide
  obtain ⟨t, hk, _, ha⟩ := inv'.only_needed (0, 3) _ hst
    (by
      rintro (c | ⟨c | c, _⟩)
      · exact c
      · exact absurd c (by decide)
      · exact absurd c (by decide))
    (by show ¬ (isRootPos _ _ = true); decide)
  rw [exK_iff] at hk
  subst hk
  exact absurd ha (by decide)

/-! #### a second state, for `unliftCore` (with `hσ`): cached set `{leaf 3}`, the cached leaf itself moves -/

def exK2 : T → Prop := fun x => x = T.leaf 3

def exAL2 : List (Pos × Leaf T) :=
  [((2, 0), ⟨.node (.node (.leaf 0) (.leaf 1)) (.leaf 3), false⟩), ((1, 0), ⟨.node (.leaf 0) (.leaf 1), false⟩),
   ((1, 1), ⟨.leaf 3, true⟩), ((0, 4), ⟨.leaf 4, false⟩)]
def exA2 : Pos → Option (Leaf T) := fun q => AL.get? exAL2 q
def exC2 : T → Option Pos := fun x => AL.get? [(T.leaf 3, ((1, 1) : Pos))] x

theorem exK2_iff (t : Pos) : KLeaf F5.nodes exK2 t ↔ t = (0, 3) :=
  kleaf_eq L5 (by rw [F5_nodes]; decide) t

instance : DecidablePred exK2 := fun x => inferInstanceAs (Decidable (x = T.leaf 3))

theorem exInv2 : HInv exA2 exC2 (F5.delLeaves [T.leaf 2]).nodes (FRoot F5) exK2 (fun _ => False) :=
  hinv_of_check (al := exAL2) (cl := [(T.leaf 3, ((1, 1) : Pos))]) (FRoot F5) exK2 (by decide +kernel)

theorem ex_hKd2 : ∀ t x, (t, x, true) ∈ F5.nodes → Anc (0, 2) t → ¬ exK2 x := by
  intro t x hm ha hk
  have := (exK2_iff t).1 ⟨x, hk, hm⟩
  subst this
  exact absurd ha (by decide)

/-- **non-vacuity of `unliftCore`** (with `hσ`: the cached leaf 3 sits at `parent d = (1,1)`) -/
theorem exInv2' : HInv (unliftAll (sib (0, 2)) exA2) (unliftCAll (sib (0, 2)) exC2) F5.nodes (FRoot F5) exK2
    (fun q => False ∨ ((Anc (0, 2) q ∨ Anc q (parent (0, 2))) ∧ ∃ h0 f, (q, h0, f) ∈ F5.nodes)) :=
  unliftCore exDel exInv2 ex_hKd2 (fun _ c => c.elim) (fun _ => ⟨(1, 1), ⟨_, rfl, by decide +kernel⟩, by decide⟩)

example : unliftAll (sib (0, 2)) exA2 (0, 3) = some ⟨.leaf 3, true⟩ ∧ unliftAll (sib (0, 2)) exA2 (1, 1) = none ∧
    unliftCAll (sib (0, 2)) exC2 (.leaf 3) = some (0, 3) ∧ exC2 (.leaf 3) = some (1, 1) := by
  refine ⟨by decide, by decide, by decide, by decide⟩

end UnliftExample

end UtreexoVerif.Proofs.MapUndoSteps


#print axioms UtreexoVerif.Proofs.MapUndoSteps.unliftCoreG
#print axioms UtreexoVerif.Proofs.MapUndoSteps.unliftCoreP
#print axioms UtreexoVerif.Proofs.MapUndoSteps.unliftCore
#print axioms UtreexoVerif.Proofs.MapUndoSteps.HInvP.mono_hole
#print axioms UtreexoVerif.Proofs.MapUndoSteps.UnliftExample.exInvP'
#print axioms UtreexoVerif.Proofs.MapUndoSteps.UnliftExample.unliftCore_statement_false
#print axioms UtreexoVerif.Proofs.MapUndoSteps.UnliftExample.exInv2'
