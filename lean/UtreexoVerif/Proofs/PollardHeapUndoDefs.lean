/-
  Pointer forest, heap model, `Undo`, third phase (`undoDels`): shared definitions.

  `undoDels` first allocates one node per deleted leaf, merges sibling nodes into detached trees
  (`deTwinPolNode`) and then re-inserts the detached trees from the highest position down.  In
  between, the heap holds, next to the represented roots, a list of DETACHED represented trees
  waiting to be re-inserted: `PItem` (node, position, tree, footprint, leaves).

  The relations between a heap and a forest, in one place:
  `Abs p F` (`PollardHeapDefs`) — the roots represent the trees of `F`, no node twice, `NodeMap` = the leaves;
  `AbsD p F D` (`PollardHeapDelAbs`) — during `remove`: `NodeMap` without the keys in `D` (D = deletion set);
  `AbsE p G` (`PollardHeapUndoAdds`) — during `Undo`: up to missing EMPTY roots (what `undoAdds` leaves behind);
  `AbsEW p G A` (`PollardHeapUndoAddsW`) — `AbsE` with the Weak map clause: `NodeMap` up to the added leaves `A`;
  `AbsP p G pend` (`PollardHeapUndoStep`) — `Abs` plus the Pending detached trees `pend`, `NodeMap` = the leaves of both.
-/
import UtreexoVerif.Proofs.PollardHeapModify
set_option linter.unusedSectionVars false

namespace UtreexoVerif.Proofs.PollardHeap
open UtreexoVerif.Model.PollardHeap UtreexoVerif.Spec
open UtreexoVerif.Proofs.CalcGeo

variable {H : Type} [DecidableEq H] [Hasher H]

/-- a detached represented tree waiting to be re-inserted; `pos` is the position of its top node `nd`
in the forest before the block.  `fp` (descendants, `nd` excluded) and `lv` are determined by `nd`
and `t` (`Pend`: the readings of `Sub`); they are carried along so that `pendOwned`, `pendLeaves`
are functions of the list -/
structure PItem (H : Type) where
  nd : Nat
  pos : Pos
  t : CTree H
  fp : List Nat
  lv : List (H × Nat)

def PItem.owned (it : PItem H) : List Nat := it.nd :: it.fp

/-- the `nodeAndPos` of the Go code (`rows` = rows of the forest) -/
def PItem.np (rows : Nat) (it : PItem H) : NP := (it.nd, E rows it.pos)

def Pend (hp : Heap H) (its : List (PItem H)) : Prop :=
  ∀ it ∈ its, RootRepr hp it.nd it.t it.fp it.lv

def pendOwned (its : List (PItem H)) : List Nat := its.flatMap PItem.owned
def pendLeaves (its : List (PItem H)) : List (H × Nat) := its.flatMap (·.lv)

theorem Pend.frame {hp hp' : Heap H} {its : List (PItem H)} (h : Pend hp its)
    (e : ∀ i ∈ pendOwned its, hp'[i]? = hp[i]?) : Pend hp' its := by
  intro it hit
  have hR : ReprRoot hp it.nd (some it.t) it.fp it.lv := h it hit
  have := hR.frame (hp' := hp') (by
    intro i hi
    apply e
    unfold pendOwned
    rw [List.mem_flatMap]
    exact ⟨it, hit, hi⟩)
  exact this

theorem Pend.lt {hp : Heap H} {its : List (PItem H)} (h : Pend hp its) :
    ∀ i ∈ pendOwned its, i < hp.size := by
  intro i hi
  unfold pendOwned at hi
  rw [List.mem_flatMap] at hi
  obtain ⟨it, hit, hi⟩ := hi
  have hR : ReprRoot hp it.nd (some it.t) it.fp it.lv := h it hit
  exact hR.lt i hi

theorem pendOwned_append (a b : List (PItem H)) : pendOwned (a ++ b) = pendOwned a ++ pendOwned b := by
  unfold pendOwned; simp

theorem pendLeaves_append (a b : List (PItem H)) : pendLeaves (a ++ b) = pendLeaves a ++ pendLeaves b := by
  unfold pendLeaves; simp

theorem pendOwned_cons (a : PItem H) (b : List (PItem H)) :
    pendOwned (a :: b) = a.nd :: a.fp ++ pendOwned b := by
  unfold pendOwned PItem.owned; simp

theorem pendLeaves_cons (a : PItem H) (b : List (PItem H)) :
    pendLeaves (a :: b) = a.lv ++ pendLeaves b := by
  unfold pendLeaves; simp

theorem pendOwned_snoc (others : List (PItem H)) (it : PItem H) :
    pendOwned (others ++ [it]) = pendOwned others ++ it.nd :: it.fp := by
  rw [pendOwned_append, pendOwned_cons]; simp [pendOwned]

theorem pendLeaves_snoc (others : List (PItem H)) (it : PItem H) :
    pendLeaves (others ++ [it]) = pendLeaves others ++ it.lv := by
  rw [pendLeaves_append, pendLeaves_cons]; simp [pendLeaves]

theorem Pend.append {hp : Heap H} {a b : List (PItem H)} (h1 : Pend hp a) (h2 : Pend hp b) :
    Pend hp (a ++ b) := by
  intro it hit
  rcases List.mem_append.1 hit with h | h
  · exact h1 it h
  · exact h2 it h

end UtreexoVerif.Proofs.PollardHeap
