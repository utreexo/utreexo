/-
  Filling the hole: after `placeProof` / `ingest.store` + `calculateHashes` + `putCalculated` the holed
  invariant `GIH fl` (hole inside the path set of the targets) becomes the hole-free one (`GIH.fill`).
  `Undo` uses it with the hole left by the deletion, `ingest` with the empty hole; `hinv_fill` is its reading for
  `HInv` on a partial forest.  Namespace: `MapUndoSteps` (`hinv_fill`), `MapGIH` (`GIH.fill`); the example of `hinv_fill` is at
  the end of `MapIngest.lean`, whose example state it needs.
-/
import UtreexoVerif.Proofs.MapGIH
import UtreexoVerif.Proofs.MapFill

namespace UtreexoVerif.Proofs.MapUndoSteps
open MapIngest
open Model (Leaf)
open Spec (Pos sib)
open PForest (Laws)
open MapAInv (KLeaf)
open MapUndoDefs (HInv)
open MapGIH
set_option linter.unusedSectionVars false
variable {H : Type} [DecidableEq H] [Hasher H]
variable {A : Pos → Option (Leaf H)} {C : H → Option Pos} {N : List (Pos × H × Bool)}
  {R : Pos → Prop} {K : H → Prop}

theorem _root_.UtreexoVerif.Proofs.MapUndoDefs.HInv.mono_hole {Hole Hole' : Pos → Prop} (inv : HInv A C N R K Hole) (h : ∀ q, Hole q → Hole' q)
    (hk : ∀ t, KLeaf N K t → ¬ Hole' t) : HInv A C N R K Hole' :=
  ((HInvP.of_hinv inv (fun _ h => h)).mono_hole h hk).to_hinv (fun _ h => h)

/-- **filling the hole** (`placeProof` + `calculateHashes` + `putCalculated` of `undoDeletion`; with an empty hole:
`ingest`), for partial and full forests: the hole lies inside the path set `PS` of the targets `ts`; `fillA`
(Proofs/MapFill.lean) overwrites `PS` with the true hashes and stores the missing proof positions `PP`; the
targets join the cached set: `hK` says the leaves of `K2` are those of `K` and the targets, `hKp` that the planned
cache `Kp` of the holed invariant lies inside `K2` -/
theorem _root_.UtreexoVerif.Proofs.MapGIH.GIH.fill {fl : Bool} {K2 Kp : H → Prop} {Hole : Pos → Prop} (Lw : Laws N R)
    {PS PP ts : List Pos} {tv : Pos → H} {C2 : H → Option Pos}
    (g : GIH fl A C N R K Kp Hole) (hsub : ∀ q, Hole q → q ∈ PS) (pd : PathData N R PS PP ts tv)
    (hKp : ∀ t, KLeaf N Kp t → KLeaf N K2 t)
    (hK : ∀ t, KLeaf N K2 t ↔ (KLeaf N K t ∨ t ∈ ts))
    (hC2sub : ∀ x t, C2 x = some t → K2 x)
    (hC2pos : ∀ x t, C2 x = some t → (t, x, true) ∈ N)
    (hC2full : fl = true → ∀ t x, (t, x, true) ∈ N → K2 x → C2 x = some t) :
    GIH fl (fillA fl PS PP ts tv A) C2 N R K2 K2 (fun _ => False) := by
  obtain ⟨hT, hPSn, hPSt, hPS2, hPS3, hPP, hPPn⟩ := pd
  have out : ∀ {q}, q ∉ PS → ¬ Hole q := fun hq h => hq (hsub _ h)
  have tsK : ∀ t ∈ ts, KLeaf N K2 t := fun t ht => (hK t).2 (Or.inr ht)
  -- a path node that is a leaf node is a target
  have leaf_PS : ∀ q ∈ PS, ∀ x, (q, x, true) ∈ N → q ∈ ts := by
    intro q hq x hm
    obtain ⟨t, ht, ha⟩ := hPSt q hq
    obtain ⟨y, hy⟩ := hT t ht
    rw [← Lw.leaf_below q x t y true hm hy ha]; exact ht
  have stored_K : ∀ t, KLeaf N K2 t → fillA fl PS PP ts tv A t ≠ none := by
    intro t hk
    by_cases htPS : t ∈ PS
    · exact fillA_ne_none_of_mem (Or.inl htPS)
    · rcases (hK t).1 hk with hk | hk
      · exact fillA_ne_none (g.leaf_stored t hk (out htPS))
      · exact absurd (hPS2 t hk) htPS
  refine { true_hash := ?_, cache_sub := hC2sub, cached_pos := fun x t h => ⟨hC2pos x t h, fun h => h⟩,
           leaf_stored := fun t hk _ => stored_K t hk, only_needed := ?_, has_needed := ?_, flags := ?_,
           flagsZ := ?_, fullS := ?_, fullC := fun hf t x hm _ hk => hC2full hf t x hm hk }
  · intro q l hl _
    rcases fillA_some hl with ⟨hq, rfl⟩ | ⟨_, hq, _, rfl⟩ | ⟨hq, hl⟩
    · exact hPSn q hq
    · exact hPPn q hq
    · exact g.true_hash q l hl (out hq)
  · intro q l hl _ hnr
    rcases fillA_some hl with ⟨hq, _⟩ | ⟨_, hq, _, _⟩ | ⟨hq, hl⟩
    · obtain ⟨t, ht, ha⟩ := hPSt q hq
      exact ⟨t, tsK t ht, ha.1, ha.parent⟩
    · obtain ⟨_, x, hx, _, rfl⟩ := (hPP q).1 hq
      obtain ⟨t, ht, ha⟩ := hPSt x hx
      exact ⟨t, tsK t ht, by rw [CalcGeo.sib_fst]; exact ha.1, by rw [CalcGeo.parent_sib]; exact ha.parent⟩
    · exact (g.only_needed q l hl (out hq) hnr).mono hKp
  · intro q h b hq _ hnr hreq
    by_cases hqPS : q ∈ PS
    · exact fillA_ne_none_of_mem (Or.inl hqPS)
    rcases hreq with hk | ⟨t, hk, hanc⟩
    · exact stored_K q hk
    · rcases (hK t).1 hk with hk | hk
      · exact fillA_ne_none (g.has_needed q h b hq (out hqPS) hnr (Or.inr ⟨t, hk, hanc⟩))
      · -- the sibling of `q` is on the path of the new target `t`
        obtain ⟨hs, bs, hsq, hsr⟩ := MapGI.GI.sib_not_root Lw hq hnr
        exact fillA_ne_none_of_mem (Or.inr ((hPP q).2 ⟨hqPS, sib q, hPS3 (sib q) hs bs t hsq hk hanc,
          hsr, (CalcGeo.sib_sib q).symm⟩))
  · intro q l hl _ hnz
    rcases fillA_some hl with ⟨hq, rfl⟩ | ⟨hqPS, hq, hA, rfl⟩ | ⟨hqPS, hl⟩
    · simp only [Bool.or_eq_true, decide_eq_true_eq]
      rw [hK]
      constructor
      · rintro (h | h)
        · exact Or.inr (Or.inr h)
        · exact Or.inl h
      · rintro (h | ⟨x, _, hm⟩ | h)
        · exact Or.inr h
        · exact Or.inl (leaf_PS q hq x hm)
        · exact Or.inl h
    · refine ⟨Or.inl, fun h => h.elim id fun hk => ?_⟩
      rcases (hK q).1 hk with hk | hk
      · exact absurd hA (g.leaf_stored q hk (out hqPS))
      · exact absurd (hPS2 q hk) hqPS
    · rw [g.flags q l hl (out hqPS) hnz, hK]
      exact ⟨fun h => h.imp id Or.inl, fun h => h.imp id fun h => h.resolve_right fun h => hqPS (hPS2 q h)⟩
  · intro hf q l hl _
    rcases fillA_some hl with ⟨_, rfl⟩ | ⟨_, _, _, rfl⟩ | ⟨hq, hl⟩
    · simp [hf]
    · exact hf
    · exact g.flagsZ hf q l hl (out hq)
  · intro hf q h b hm _
    by_cases hq : q ∈ PS
    · exact fillA_ne_none_of_mem (Or.inl hq)
    · exact fillA_ne_none (g.fullS hf q h b hm (out hq))

/-- `GIH.fill` on a partial forest whose hole is the whole path set, in the vocabulary of `HInv` (cached set = domain of the cache) -/
theorem hinv_fill (Lw : Laws N R) {PS PP ts : List Pos} {tv : Pos → H} {KL : H → Prop} {C2 : H → Option Pos}
    (inv : HInv A C N R (fun x => (C x).isSome = true) (fun q => q ∈ PS))
    (hT : ∀ t, t ∈ ts ↔ ∃ x, KL x ∧ (t, x, true) ∈ N)
    (hPSn : ∀ q ∈ PS, ∃ b, (q, tv q, b) ∈ N)
    (hPSt : ∀ q ∈ PS, ∃ t ∈ ts, Anc q t)
    (hPS2 : ∀ t ∈ ts, t ∈ PS)
    (hPS3 : ∀ q h b t, (q, h, b) ∈ N → t ∈ ts → Anc q t → q ∈ PS)
    (hPP : ∀ q, q ∈ PP ↔ q ∉ PS ∧ ∃ x ∈ PS, ¬ R x ∧ q = sib x)
    (hPPn : ∀ q ∈ PP, ∃ b, (q, tv q, b) ∈ N)
    (hC2a : ∀ x t, C2 x = some t → C x = some t ∨ (KL x ∧ (t, x, true) ∈ N))
    (hC2b : ∀ x, (C2 x).isSome = true ↔ ((C x).isSome = true ∨ KL x)) :
    HInv (ingA PS PP ts tv A) C2 N R (fun x => (C2 x).isSome = true) (fun _ => False) := by
  have hK : ∀ t, KLeaf N (fun x => (C2 x).isSome = true) t ↔
      (KLeaf N (fun x => (C x).isSome = true) t ∨ t ∈ ts) := by
    intro t
    unfold KLeaf
    simp only [hC2b, hT, or_and_right, exists_or]
  have g := (gih_of_hinvP (HInvP.of_hinv inv (fun _ hx => hx))).fill Lw (fun _ h => h)
    ⟨fun t ht => ((hT t).1 ht).elim fun x hx => ⟨x, hx.2⟩, hPSn, hPSt, hPS2, hPS3, hPP, hPPn⟩
    (fun t ht => (hK t).2 (Or.inl ht)) hK (fun x t h => by show (C2 x).isSome = true; rw [h]; rfl)
    (fun x t h => (hC2a x t h).elim (fun h => (inv.cached_pos x t h).1) (fun h => h.2)) (fun h => Bool.noConfusion h)
  rw [fillA_false] at g
  exact (hinvP_of_gih g (fun _ _ h => h)).to_hinv (fun _ h => h)

#print axioms HInv.mono_hole
#print axioms hinv_fill

end UtreexoVerif.Proofs.MapUndoSteps
