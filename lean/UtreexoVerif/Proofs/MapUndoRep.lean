/-
  `MapPollard.Undo` on the abstract state `(A, C)` of `MapRep`, one iteration at a time: `undoSingleAddLoop` (last,
  skipping, or placing an empty root) with the entry `undoSingleAdd_start`; `undoDelMoveDown` for a non-root
  (`placeEmptyRoot`, then the node at the parent goes back to the sibling: the move of `MapMove`) and for a root
  (nothing happens); `restoreRoots`.  The inductions over the loops are in `MapUndo*`, on the invariant.
-/
import UtreexoVerif.Proofs.MapRemoveRep
import UtreexoVerif.Proofs.MapUnliftCore
import UtreexoVerif.Proofs.MapPlaceEmpty
import UtreexoVerif.Proofs.LiftEnc
import UtreexoVerif.Proofs.Digits
import UtreexoVerif.Props.C16d

namespace UtreexoVerif.Proofs.MapUndoRep
open Model MapLiftGeo
open Spec (Pos forestRows rootPos parent sib isRootPos)
open MapAL (hasNode_eq)
open MapInv (Valid eq_rootPos_of_isRootPos)
open MapPrune (valid_parent valid_sib)
open MapRep (upd Rep unliftP upd_ne rep_abs_of_decode absA absC)
open Hasher (zero)
open GoInt (shl)
set_option linter.unusedSectionVars false
variable {H : Type} [DecidableEq H] [Hasher H]


/-- the node at `q` is removed and its hash leaves the cache (first statement of every iteration of
`undoSingleAddLoop`) -/
def dropNode (q : Pos) (A : Pos → Option (Leaf H)) (C : H → Option Pos) :
    (Pos → Option (Leaf H)) × (H → Option Pos) :=
  match A q with
  | some l => (upd A q none, upd C l.hash none)
  | none => (A, C)

theorem dropNode_fst (q : Pos) (A : Pos → Option (Leaf H)) (C : H → Option Pos) :
    (dropNode q A C).1 = upd A q none := by
  unfold dropNode
  cases h : A q with
  | some l => rfl
  | none =>
    funext p
    show A p = upd A q none p
    rw [MapRep.upd_apply]
    split
    · rename_i e; rw [e, h]
    · rfl

theorem dropNode_snd (q : Pos) (A : Pos → Option (Leaf H)) (C : H → Option Pos) :
    (dropNode q A C).2 = MapUndoSteps.dropC q A C := by
  unfold dropNode MapUndoSteps.dropC
  cases A q <;> rfl

def dropNodeM (T : Nat) (q : Pos) (m : MapPollard H) : MapPollard H :=
  match m.getNode (encP T q) with
  | some leaf => (m.delNode (encP T q)).delCached leaf.hash
  | none => m

theorem dropNodeM_rep {m : MapPollard H} {T : Nat} {A : Pos → Option (Leaf H)} {C : H → Option Pos}
    (rep : Rep m T A C) {q : Pos} (hq : Valid T q) :
    Rep (dropNodeM T q m) T (dropNode q A C).1 (dropNode q A C).2 ∧
      (dropNodeM T q m).numLeaves = m.numLeaves ∧ (dropNodeM T q m).full = m.full := by
  unfold dropNodeM dropNode
  rw [rep.node q hq]
  cases h : A q with
  | none => exact ⟨rep, rfl, rfl⟩
  | some l => exact ⟨(rep.delNode hq).delCached l.hash, rfl, rfl⟩

omit [Hasher H] in
theorem dropNodeM_rows (T : Nat) (q : Pos) (m : MapPollard H) : (dropNodeM T q m).totalRows = m.totalRows := by
  unfold dropNodeM
  cases m.getNode (encP T q) <;> rfl

/-- the rest of an iteration of `undoSingleAddLoop` at `pos` once the node there has been dropped (state `X`), with fuel `k`
left: if the next recorded position is the left child, the empty root goes back there; then on to the right child -/
def undoIter (k : Nat) (pos lChild : U64) (e : List U64) (X : MapPollard H) : MapPollard H × Except Fail (List U64) :=
  if k ≠ 0 then
    match e with
    | e0 :: erest =>
      if e0 = lChild then
        match MapPollard.placeEmptyRoot lChild X with
        | (m', .error er) => (m', .error er)
        | (m', .ok ()) =>
          MapPollard.undoSingleAddLoop k (RightChild pos (m'.putNode lChild ⟨zero, true⟩).totalRows)
            (LeftChild (RightChild pos (m'.putNode lChild ⟨zero, true⟩).totalRows)
              (m'.putNode lChild ⟨zero, true⟩).totalRows) erest (m'.putNode lChild ⟨zero, true⟩)
      else
        MapPollard.undoSingleAddLoop k (RightChild pos X.totalRows) (LeftChild (RightChild pos X.totalRows) X.totalRows) e X
    | [] =>
      MapPollard.undoSingleAddLoop k (RightChild pos X.totalRows) (LeftChild (RightChild pos X.totalRows) X.totalRows) e X
  else
    MapPollard.undoSingleAddLoop k (RightChild pos X.totalRows) (LeftChild (RightChild pos X.totalRows) X.totalRows) e X

theorem undoSingleAddLoop_succU (pos lChild : U64) (k : Nat) (e : List U64) (m : MapPollard H) :
    MapPollard.undoSingleAddLoop (k + 1) pos lChild e m =
      undoIter k pos lChild e (match m.getNode pos with
        | some leaf => (m.delNode pos).delCached leaf.hash
        | none => m) := by
  cases e <;> rfl

theorem undoSingleAddLoop_succ (T : Nat) (q : Pos) (k : Nat) (lChild : U64) (e : List U64) (m : MapPollard H) :
    MapPollard.undoSingleAddLoop (k + 1) (encP T q) lChild e m = undoIter k (encP T q) lChild e (dropNodeM T q m) :=
  undoSingleAddLoop_succU _ _ _ _ _

theorem undoSingleAddLoop_last {m : MapPollard H} {T : Nat} {q : Pos} (lc : U64) (e : List U64) :
    MapPollard.undoSingleAddLoop 1 (encP T q) lc e m = (dropNodeM T q m, .ok e) := by
  rw [undoSingleAddLoop_succ]
  rfl

/-- any row: on row 0 the Go formula happens to give the encoding of `(0, 2 * o)`, which is what `childP` computes
with truncated subtraction -/
theorem leftChild_childP {T : Nat} (hT : T ≤ 63) {q : Pos} (hq : Valid T q) :
    LeftChild (encP T q) (H8 T) = encP T (childP q 0) := by
  by_cases h1 : 1 ≤ q.1
  · exact (EncPos.child_encP hT hq h1).1
  · obtain ⟨r, o⟩ := q
    have hr : r = 0 := by simp only at h1; omega
    subst hr
    have ho : o < 2 ^ T := by have := hq.2; simpa using this
    have h64 : 2 ^ (T + 1) ≤ 2 ^ 64 := two_pow_le_of_le (by omega)
    have f := two_pow_succ' T
    apply BitVec.eq_of_toNat_eq
    show (shl (encU T 0 o) 1 &&& (shl 2#64 (H8 T).toNat - 1#64)).toNat = (encU T (0 - 1) (2 * o + 0)).toNat
    rw [toNat_H8 hT, toNat_shl_and_mask hT, toNat_encU hT (Nat.zero_le _) (by simpa using ho)]
    show _ = (BitVec.ofNat 64 (Spec.enc T (0, 2 * o + 0))).toNat
    rw [SpecView.enc_zero_row, SpecView.enc_zero_row, toNat_ofNat64_of_lt (by omega)]
    rw [Nat.mod_eq_of_lt (by omega)]
    omega

theorem rightChild_childP {T : Nat} (hT : T ≤ 63) {q : Pos} (hq : Valid T q) (h1 : 1 ≤ q.1) :
    RightChild (encP T q) (H8 T) = encP T (childP q 1) := (EncPos.child_encP hT hq h1).2

theorem undoSingleAddLoop_skip {m : MapPollard H} {T : Nat} (hrows : m.totalRows = H8 T) (hT : T ≤ 63)
    {q : Pos} (hq : Valid T q) (h1 : 1 ≤ q.1) (k : Nat) (e : List U64)
    (hne : ∀ e0 er, e = e0 :: er → e0 ≠ encP T (childP q 0)) :
    MapPollard.undoSingleAddLoop (k + 2) (encP T q) (encP T (childP q 0)) e m =
      MapPollard.undoSingleAddLoop (k + 1) (encP T (childP q 1)) (encP T (childP (childP q 1) 0)) e
        (dropNodeM T q m) := by
  have hc : Valid T (childP q 1) := ValidH.child hq h1 (by decide)
  rw [undoSingleAddLoop_succ]
  unfold undoIter
  rw [if_pos (by omega), dropNodeM_rows, hrows, rightChild_childP hT hq h1, leftChild_childP hT hc]
  cases e with
  | nil => rfl
  | cons e0 er =>
    simp only
    rw [if_neg (hne e0 er rfl)]


theorem placeRowLoop_frame (prev child : U64) : ∀ (k : Nat) (i : U64) (m : MapPollard H),
    (MapPollard.placeRowLoop prev child k i m).1.totalRows = m.totalRows ∧
    (MapPollard.placeRowLoop prev child k i m).1.numLeaves = m.numLeaves ∧
    (MapPollard.placeRowLoop prev child k i m).1.full = m.full
  | 0, i, m => ⟨rfl, rfl, rfl⟩
  | k+1, i, m => by
    cases hn : calcNextPosition (i + child) prev m.totalRows with
    | mk cur err =>
      cases err with
      | true =>
        rw [MapPollard.placeRowLoop]
        simp only [hn, if_true, and_self]
      | false =>
        rw [MapPlaceEmpty.placeRowLoop_succ hn]
        obtain ⟨a, b, c⟩ := placeRowLoop_frame prev child k (i + 1) (MapPlaceEmpty.placeBody (i + child) cur m)
        have f : (MapPlaceEmpty.placeBody (i + child) cur m).totalRows = m.totalRows ∧
            (MapPlaceEmpty.placeBody (i + child) cur m).numLeaves = m.numLeaves ∧
            (MapPlaceEmpty.placeBody (i + child) cur m).full = m.full := by
          rw [MapPlaceEmpty.placeBody_eq]
          split
          · split
            · exact MapMove.moveM_frame _ _ _ m
            · exact ⟨rfl, rfl, rfl⟩
          · exact ⟨rfl, rfl, rfl⟩
        exact ⟨a.trans f.1, b.trans f.2.1, c.trans f.2.2⟩

theorem placeLoop_frame (prev sib : U64) : ∀ (h : Nat) (m : MapPollard H),
    (MapPollard.placeLoop prev sib h m).1.totalRows = m.totalRows ∧
    (MapPollard.placeLoop prev sib h m).1.numLeaves = m.numLeaves ∧
    (MapPollard.placeLoop prev sib h m).1.full = m.full
  | 0, m => ⟨rfl, rfl, rfl⟩
  | h+1, m => by
    rw [MapPollard.placeLoop]
    simp only
    split
    · exact ⟨rfl, rfl, rfl⟩
    · have f := placeRowLoop_frame prev (ChildMany sib (BitVec.ofNat 8 (h+1)) m.totalRows).1 (2 ^ (h+1)) 0#64 m
      split
      · rename_i m' e he
        rw [he] at f; exact f
      · rename_i m' he
        rw [he] at f
        obtain ⟨a, b, c⟩ := placeLoop_frame prev sib h m'
        exact ⟨a.trans f.1, b.trans f.2.1, c.trans f.2.2⟩

theorem placeEmptyRoot_frame (p : U64) (m : MapPollard H) :
    (MapPollard.placeEmptyRoot p m).1.totalRows = m.totalRows ∧
    (MapPollard.placeEmptyRoot p m).1.numLeaves = m.numLeaves ∧
    (MapPollard.placeEmptyRoot p m).1.full = m.full :=
  placeLoop_frame p (sibling p) _ m

/-- `m2.totalRows = H8 T` need not be assumed: `placeEmptyRoot_frame` -/
theorem undoSingleAddLoop_place {m : MapPollard H} {T : Nat} (hrows : m.totalRows = H8 T) (hT : T ≤ 63)
    {q : Pos} (hq : Valid T q) (h1 : 1 ≤ q.1) (k : Nat) (er : List U64) {m2 : MapPollard H}
    (hpl : MapPollard.placeEmptyRoot (encP T (childP q 0)) (dropNodeM T q m) = (m2, .ok ())) :
    MapPollard.undoSingleAddLoop (k + 2) (encP T q) (encP T (childP q 0)) (encP T (childP q 0) :: er) m =
      MapPollard.undoSingleAddLoop (k + 1) (encP T (childP q 1)) (encP T (childP (childP q 1) 0)) er
        (m2.putNode (encP T (childP q 0)) ⟨zero, true⟩) := by
  have hc : Valid T (childP q 1) := ValidH.child hq h1 (by decide)
  have hT2 : m2.totalRows = H8 T := by
    have := (placeEmptyRoot_frame (encP T (childP q 0)) (dropNodeM T q m)).1
    rw [hpl, dropNodeM_rows, hrows] at this
    exact this
  have hr : (m2.putNode (encP T (childP q 0)) (⟨zero, true⟩ : Leaf H)).totalRows = H8 T := hT2
  rw [undoSingleAddLoop_succ]
  unfold undoIter
  rw [if_pos (by omega)]
  simp only
  rw [if_pos trivial, hpl]
  simp only
  rw [hr, rightChild_childP hT hq h1, leftChild_childP hT hc]


theorem low_tree_facts {T n t c : Nat} (hfit : forestRows (n + 1) ≤ T)
    (htc : n = 2 ^ (t + 1) * c + (2 ^ t - 1)) :
    n + 1 = 2 ^ t * (2 * c + 1) ∧ t ≤ T ∧ n < 2 ^ T ∧ n >>> (t + 1) = c ∧ Valid T (t, 2 * c) := by
  have tr : Spec.Trail n t := htc ▸ Spec.Trail.of_decomp t c
  have hn : n < 2 ^ T := Nat.lt_of_lt_of_le (forestRows_spec_le (n + 1)) (two_pow_le_of_le hfit)
  have ht : t ≤ T := tr.le_of_lt hn
  have hc : n / 2 ^ (t + 1) = c := by
    rw [htc, Nat.mul_add_div (Nat.two_pow_pos _), Nat.div_eq_of_lt (Nat.lt_of_le_of_lt (Nat.sub_le _ _)
      (Nat.pow_lt_pow_right (by decide) (Nat.lt_succ_self t))), Nat.add_zero]
  refine ⟨?_, ht, hn, (Nat.shiftRight_eq_div_pow _ _).trans hc, ht, ?_⟩
  · rw [htc, Nat.add_assoc, Nat.sub_add_cancel (Nat.two_pow_pos t), Nat.pow_succ, Nat.mul_add, Nat.mul_one,
      Nat.mul_assoc]
  · show 2 * c < 2 ^ (T - t)
    rw [← hc, ← tr.div_even]
    exact div_two_pow_lt ht hn

/-- entry of `undoSingleAdd`: the current leaf count is `n + 1` with `n = 2^(t+1)*c + (2^t - 1)`
(`t` = row of the lowest tree of `n + 1`); the loop starts at that tree's root `(t, 2c)` -/
theorem undoSingleAdd_start {m : MapPollard H} {T n t c : Nat} (hrows : m.totalRows = H8 T) (hT : T ≤ 63)
    (hn : m.numLeaves = BitVec.ofNat 64 (n + 1)) (hn63 : n + 1 < 2 ^ 63) (hfit : forestRows (n + 1) ≤ T)
    (htc : n = 2 ^ (t + 1) * c + (2 ^ t - 1)) (e : List U64) :
    MapPollard.undoSingleAdd e m =
      (match MapPollard.undoSingleAddLoop (t + 1) (encP T (t, 2 * c)) (encP T (childP (t, 2 * c) 0)) e m with
       | (m', .error er) => (m', .error er)
       | (m', .ok e') => ({ m' with numLeaves := m'.numLeaves - 1 }, .ok e')) := by
  obtain ⟨e1, ht, hnT, hc, hv⟩ := low_tree_facts hfit htc
  have tr : Spec.Trail n t := htc ▸ Spec.Trail.of_decomp t c
  have hb := tr.succ_at
  have hlow : ∀ j, j < t → (n + 1).testBit j = false := fun j hj => tr.succ_low hj
  have hN : (BitVec.ofNat 64 (n + 1)).toNat = n + 1 := toNat_ofNat64_of_lt (by omega)
  have hrow : getLowestRoot (BitVec.ofNat 64 (n + 1)) (H8 T) = H8 t :=
    Props.C16.getLowestRoot_found _ hT ht (by rw [hN]; exact hb) (by intro j hj; rw [hN]; exact hlow j hj)
  have hsub : (BitVec.ofNat 64 (n + 1) : U64) - 1 = BitVec.ofNat 64 n := by
    rw [BitVec.ofNat_add]
    exact BitVec.add_sub_cancel _ _
  have hpos : rootPosition (BitVec.ofNat 64 n) (H8 t) (H8 T) = encP T (t, 2 * c) := by
    have := EncPos.rootPosition_encP hT (Nat.le_of_lt hnT) ht
    rwa [show rootPos n t = (t, 2 * c) from congrArg (fun x => (t, 2 * x)) hc] at this
  unfold MapPollard.undoSingleAdd
  simp only
  rw [hn, hrows, hrow, hsub, hpos, leftChild_childP hT hv, toNat_H8 (by omega)]
  rfl


/-- moving the node at `parent d` back down to `sib d` (second half of one iteration of
`undoDelMoveDown`), on the abstract state -/
def moveDownA (d : Pos) (A : Pos → Option (Leaf H)) (C : H → Option Pos) :
    (Pos → Option (Leaf H)) × (H → Option Pos) :=
  match A (parent d) with
  | some v => (upd (upd A (parent d) none) (sib d) (some v),
      if (C v.hash).isSome = true then upd C v.hash (some (sib d)) else C)
  | none => (A, C)

/-- the second half of one iteration of `undoDelMoveDown` on the model: the move of `MapMove` with the flag fixed -/
def moveDownM (s p : U64) (m : MapPollard H) : MapPollard H :=
  match m.getNode s with
  | some v =>
    (((if m.hasCached v.hash then m.putCached v.hash p else m).delNode s).putNode p
      (if m.hasCached v.hash || (if m.hasCached v.hash then m.putCached v.hash p else m).full
        then ⟨v.hash, true⟩ else v))
  | none => m

theorem moveDownM_eq (s p : U64) (m : MapPollard H) : moveDownM s p m = MapMove.moveM true s p m := by
  unfold moveDownM MapMove.moveM MapMove.flagged
  cases m.getNode s with
  | none => rfl
  | some v => cases h : m.hasCached v.hash <;> simp [h]

theorem undoDelMoveDown_cons (t : U64) (ts : List U64) (m : MapPollard H) :
    MapPollard.undoDelMoveDown (t :: ts) m =
      match (if inForest (sibling t) m.numLeaves m.totalRows then MapPollard.placeEmptyRoot t m else (m, .ok ())) with
      | (m', .error e) => (m', .error e)
      | (m', .ok ()) =>
        MapPollard.undoDelMoveDown ts
          (moveDownM (Parent t m'.totalRows) (calcPrevPosition (Parent t m'.totalRows) t m'.totalRows) m') := rfl

theorem calcPrev_sib {T : Nat} (hT : T ≤ 63) {d : Pos} (hd : Valid T d) (hlt : d.1 < T) :
    calcPrevPosition (encP T (parent d)) (encP T d) (H8 T) = encP T (sib d) := by
  have := LiftEnc.calcPrev_E hT hd hlt (valid_parent hd hlt) (Nat.succ_le_succ (Nat.zero_le _)) (Nat.le_refl _)
  have e : unliftP (sib d) (parent d) = sib d := by
    have := unliftP_liftP (Anc.refl (sib d))
    rwa [liftP_self, CalcGeo.parent_sib] at this
  rwa [e] at this

/-- the moved node keeps its flag: it is remembered when its hash is cached or the forest is full
(`fl`), which is when `undoDelMoveDown` sets the flag -/
theorem moveDownM_rep {m1 : MapPollard H} {T : Nat} {A1 : Pos → Option (Leaf H)} {C1 : H → Option Pos}
    (rep1 : Rep m1 T A1 C1) {fl : Bool} (hfull : m1.full = fl) {d : Pos} (hd : Valid T d) (hlt : d.1 < T)
    (hfl : ∀ v, A1 (parent d) = some v → ((C1 v.hash).isSome = true ∨ fl = true) → v.remember = true) :
    Rep (moveDownM (encP T (parent d)) (encP T (sib d)) m1) T (moveDownA d A1 C1).1 (moveDownA d A1 C1).2 ∧
      (moveDownM (encP T (parent d)) (encP T (sib d)) m1).numLeaves = m1.numLeaves ∧
      (moveDownM (encP T (parent d)) (encP T (sib d)) m1).full = m1.full := by
  rw [moveDownM_eq]
  have e : moveDownA d A1 C1 = MapMove.moveA true m1.full (parent d) (sib d) A1 C1 := by
    unfold moveDownA MapMove.moveA MapMove.flagged MapMove.recache
    cases hA : A1 (parent d) with
    | none => rfl
    | some v =>
      have := hfl v hA
      obtain ⟨h, r⟩ := v
      by_cases hc : ((C1 h).isSome || m1.full) = true
      · have hr : r = true := this (by simpa [hfull] using hc)
        simp [hc, hr]
      · simp [hc]
  rw [e]
  exact ⟨MapMove.moveM_rep rep1 true (valid_parent hd hlt) (valid_sib hd hlt),
    (MapMove.moveM_frame _ _ _ m1).2.1, (MapMove.moveM_frame _ _ _ m1).2.2⟩

theorem undoDelMoveDown_step {m : MapPollard H} {T n : Nat} {A1 : Pos → Option (Leaf H)} {C1 : H → Option Pos}
    (hrows : m.totalRows = H8 T) (hT : T ≤ 63)
    (hn : m.numLeaves = BitVec.ofNat 64 n) (hn63 : n < 2 ^ 63) (hfit : forestRows n ≤ T)
    {d : Pos} (hd : Valid (forestRows n) d) (hlt : d.1 < forestRows n)
    (hin : (d.2 + 1) * 2 ^ d.1 ≤ n ∧ ((sib d).2 + 1) * 2 ^ d.1 ≤ n)
    {m1 : MapPollard H} (hpl : MapPollard.placeEmptyRoot (encP T d) m = (m1, .ok ()))
    (rep1 : Rep m1 T A1 C1) {fl : Bool} (hfull : m1.full = fl)
    (hfl : ∀ v, A1 (parent d) = some v → ((C1 v.hash).isSome = true ∨ fl = true) → v.remember = true)
    (ts : List U64) :
    ∃ m2, MapPollard.undoDelMoveDown (encP T d :: ts) m = MapPollard.undoDelMoveDown ts m2 ∧
      Rep m2 T (moveDownA d A1 C1).1 (moveDownA d A1 C1).2 ∧
      m2.numLeaves = m1.numLeaves ∧ m2.full = m1.full := by
  have hdT : Valid T d := hd.mono hfit
  have hltT : d.1 < T := by omega
  have hS := valid_sib hdT hltT
  have hinf : inForest (sibling (encP T d)) m.numLeaves m.totalRows = true := by
    rw [EncPos.sibling_encP hT hdT, hn, hrows, EncPos.inForest_encP (Nat.le_of_lt hn63) hT hS, decide_eq_true_iff]
    exact hin.2
  obtain ⟨r, a, b⟩ := moveDownM_rep rep1 hfull hdT hltT hfl
  refine ⟨_, ?_, r, a, b⟩
  rw [undoDelMoveDown_cons, hinf, if_pos rfl, hpl]
  simp only
  rw [rep1.rows, EncPos.parent_encP hT hdT hltT, calcPrev_sib hT hdT hltT]

/-- the sibling of a root (below the top row) is not in the forest -/
theorem root_sib_out {n : Nat} {d : Pos} (hroot : isRootPos n d = true) : ¬ ((sib d).2 + 1) * 2 ^ d.1 ≤ n := by
  obtain ⟨h, o⟩ := d
  have e : (h, o) = childP (h + 1, n >>> (h + 1)) 0 := (eq_rootPos_of_isRootPos hroot).2
  rw [e, MapLiftGeo.sib_childP _ Nat.two_pos, Nat.shiftRight_eq_div_pow]
  show ¬ 2 * (n / 2 ^ (h + 1) + 1) * 2 ^ h ≤ n
  rw [Nat.mul_comm, ← Nat.mul_assoc, ← Nat.pow_succ]
  exact Nat.not_le_of_lt (Nat.lt_mul_div_succ n (Nat.two_pow_pos _))

theorem inForest_top_sib {T n : Nat} (hT : T ≤ 63) (hnT : n ≤ 2 ^ T) :
    inForest (sibling (encP T (T, 0))) (BitVec.ofNat 64 n) (H8 T) = false := by
  have f := two_pow_succ' T
  have g := Nat.two_pow_pos T
  have h64 : 2 ^ (T + 1) ≤ 2 ^ 64 := two_pow_le_of_le (Nat.succ_le_succ hT)
  have hv : Valid T (T, 0) := ⟨Nat.le_refl _, by show 0 < 2 ^ (T - T); exact Nat.two_pow_pos _⟩
  have hs : (sibling (encP T (T, 0))).toNat = 2 ^ (T + 1) - 1 := by
    rw [EncPos.sibling_encP hT hv]
    show (BitVec.ofNat 64 (2 ^ (T + 1) - 2 ^ (T + 1 - T) + 1)).toNat = _
    rw [Nat.add_sub_cancel_left, toNat_ofNat64_of_lt (by omega)]
    omega
  have hN : (BitVec.ofNat 64 n).toNat = n := toNat_ofNat64_of_lt (by omega)
  have h1 : decide (sibling (encP T (T, 0)) < BitVec.ofNat 64 n) = false :=
    decide_eq_false (by rw [BitVec.lt_def, hs, hN]; omega)
  have h2 : decide (sibling (encP T (T, 0)) ≥ shl (shl 1#64 T) 1 - 1#64) = true :=
    decide_eq_true (by rw [shl_one_shl_one, ge_iff_le, BitVec.le_def, hs, toNat_mask hT]; omega)
  unfold inForest
  rw [h1, toNat_H8 hT]
  simp only [h2]
  rfl

theorem moveDownM_none {m : MapPollard H} {s : U64} (p : U64) (h : m.getNode s = none) : moveDownM s p m = m := by
  unfold moveDownM; rw [h]

/-- one iteration of `undoDelMoveDown` for a ROOT target: nothing happens (the sibling of a root is
not in the forest, and nothing is stored above a root) -/
theorem undoDelMoveDown_root {m : MapPollard H} {T n : Nat} {A : Pos → Option (Leaf H)} {C : H → Option Pos}
    (rep : Rep m T A C) (hn : m.numLeaves = BitVec.ofNat 64 n) (hn63 : n < 2 ^ 63) (hfit : forestRows n ≤ T)
    {d : Pos} (hroot : isRootPos n d = true) (habove : d.1 < T → A (parent d) = none) (ts : List U64) :
    MapPollard.undoDelMoveDown (encP T d :: ts) m = MapPollard.undoDelMoveDown ts m := by
  have hT := rep.T_le
  have hdT : Valid T d := (MapRemoveRep.root_valid hroot).mono hfit
  have hnT : n ≤ 2 ^ T := Nat.le_trans (forestRows_spec_le n) (two_pow_le_of_le hfit)
  have hinf : inForest (sibling (encP T d)) m.numLeaves m.totalRows = false := by
    rw [hn, rep.rows]
    by_cases hlt : d.1 < T
    · rw [EncPos.sibling_encP hT hdT, EncPos.inForest_encP (Nat.le_of_lt hn63) hT (valid_sib hdT hlt), decide_eq_false_iff_not]
      exact root_sib_out hroot
    · have hrow : d.1 = T := by have := hdT.1; omega
      have ho : d.2 = 0 := by
        have := hdT.2; rw [hrow, Nat.sub_self] at this; omega
      have hpos : d = (T, 0) := Prod.ext hrow ho
      rw [hpos]
      exact inForest_top_sib hT hnT
  rw [undoDelMoveDown_cons, hinf]
  simp only [Bool.false_eq_true, if_false]
  rw [moveDownM_none]
  rw [rep.rows]
  by_cases hlt : d.1 < T
  · rw [EncPos.parent_encP hT hdT hlt, rep.node _ (valid_parent hdT hlt)]
    exact habove hlt
  · have hrow : d.1 = T := by have := hdT.1; omega
    have ho : d.2 = 0 := by
      have := hdT.2; rw [hrow, Nat.sub_self] at this; omega
    have hpos : d = (T, 0) := Prod.ext hrow ho
    rw [hpos]
    have := MapRemoveRep.hasNode_top rep
    rw [hasNode_eq] at this
    cases h : m.getNode (Parent (encP T (T, 0)) (H8 T)) with
    | none => rfl
    | some l => rw [h] at this; cases this


/-- the abstract effect of `restoreRoots`: the listed positions receive the listed hashes -/
def restoreA (ps : List (Pos × H)) (A : Pos → Option (Leaf H)) (C : H → Option Pos) : Pos → Option (Leaf H) :=
  fun q => match ps.find? (fun e => e.1 = q) with
    | some e => some ⟨e.2, (C e.2).isSome⟩
    | none => A q

/-- `restoreA` for a forest with `Full = fl`: Go flags a restored root when its hash is cached or the forest is full -/
def restoreAf (fl : Bool) (ps : List (Pos × H)) (A : Pos → Option (Leaf H)) (C : H → Option Pos) : Pos → Option (Leaf H) :=
  fun q => match ps.find? (fun e => e.1 = q) with
    | some e => some ⟨e.2, (C e.2).isSome || fl⟩
    | none => A q

theorem restoreAf_false (ps : List (Pos × H)) (A : Pos → Option (Leaf H)) (C : H → Option Pos) :
    restoreAf false ps A C = restoreA ps A C := by
  funext q
  unfold restoreAf restoreA
  cases ps.find? (fun e => e.1 = q) <;> simp only [Bool.or_false]

theorem restoreAf_cons (fl : Bool) (rp : Pos) (h : H) (ps : List (Pos × H)) (hnot : ∀ e ∈ ps, e.1 ≠ rp)
    (A : Pos → Option (Leaf H)) (C : H → Option Pos) (q : Pos) :
    restoreAf fl ((rp, h) :: ps) A C q = restoreAf fl ps (upd A rp (some ⟨h, (C h).isSome || fl⟩)) C q := by
  unfold restoreAf
  rw [List.find?_cons]
  by_cases e : rp = q
  · subst e
    have : ps.find? (fun e => decide (e.1 = rp)) = none := by
      rw [List.find?_eq_none]
      intro x hx
      simpa using hnot x hx
    simp [this]
  · have e' : q ≠ rp := fun h => e h.symm
    simp only [e, decide_false, upd_ne _ _ e']

theorem restoreRoots_fl {T : Nat} {C : H → Option Pos} {fl : Bool} (hs : List H) :
    ∀ (rs : List Pos) (i : Nat) {m : MapPollard H} {A : Pos → Option (Leaf H)},
      Rep m T A C → m.full = fl → (∀ q ∈ rs, Valid T q) → rs.Nodup → rs.length + i = hs.length →
      ∃ m', MapPollard.restoreRoots hs (rs.map (encP T)) i m = (m', .ok ()) ∧
        Rep m' T (restoreAf fl (rs.zip (hs.drop i)) A C) C ∧ m'.numLeaves = m.numLeaves ∧ m'.full = m.full := by
  intro rs
  induction rs with
  | nil => exact fun i m A rep hfull hv hnd hlen => ⟨m, rfl, rep, rfl, rfl⟩
  | cons rp rest ih =>
    intro i m A rep hfull hv hnd hlen
    have hi : i < hs.length := by simp only [List.length_cons] at hlen; omega
    have hget : hs[i]? = some hs[i] := List.getElem?_eq_getElem hi
    have hdrop : hs.drop i = hs[i] :: hs.drop (i + 1) := List.drop_eq_getElem_cons hi
    have hrp : Valid T rp := hv rp (List.mem_cons_self ..)
    have rep1 := rep.putNode hrp (⟨hs[i], (C hs[i]).isSome || fl⟩ : Leaf H)
    obtain ⟨m', e', rep', a, b⟩ := ih (i + 1) rep1 hfull
      (fun q hq => hv q (List.mem_cons_of_mem _ hq)) (List.nodup_cons.1 hnd).2
      (by simp only [List.length_cons] at hlen; omega)
    refine ⟨m', ?_, rep'.congr ?_ (fun _ => rfl), a, b⟩
    · rw [List.map_cons]
      unfold MapPollard.restoreRoots
      rw [hget]
      simp only
      rw [rep.hasCached, hfull]
      exact e'
    · intro q
      rw [hdrop, List.zip_cons_cons]
      apply restoreAf_cons
      intro e he hc
      have := (List.of_mem_zip he).1
      rw [hc] at this
      exact (List.nodup_cons.1 hnd).1 this

theorem restoreRoots_rep {m : MapPollard H} {T : Nat} {A : Pos → Option (Leaf H)} {C : H → Option Pos}
    (rep : Rep m T A C) (hfull : m.full = false) (rs : List Pos) (hs : List H)
    (hv : ∀ q ∈ rs, Valid T q) (hnd : rs.Nodup) (hlen : rs.length = hs.length) :
    ∃ m', MapPollard.restoreRoots hs (rs.map (encP T)) 0 m = (m', .ok ()) ∧
      Rep m' T (fun q => match (rs.zip hs).find? (fun e => e.1 = q) with
        | some e => some ⟨e.2, (C e.2).isSome⟩
        | none => A q) C ∧
      m'.numLeaves = m.numLeaves ∧ m'.full = m.full := by
  obtain ⟨m', e, r, a, b⟩ := restoreRoots_fl hs rs 0 rep hfull hv hnd (by omega)
  rw [List.drop_zero, restoreAf_false] at r
  exact ⟨m', e, r, a, b⟩


section Example
local instance exHasher : Hasher Nat := ⟨fun a b => a + b + 1, 0⟩

/-- 4 leaves `10, 20, 30, 40` in a 2-row allocation, leaf `(0,2)` (hash 30) cached: the state after the
addition of the 4th leaf (`ph 10 20 = 31`, `ph 30 40 = 71`, `ph 31 71 = 103`) -/
def mU : MapPollard Nat :=
  { nodes := [(encP 2 (2, 0), ⟨103, false⟩), (encP 2 (1, 0), ⟨31, false⟩), (encP 2 (1, 1), ⟨71, false⟩),
              (encP 2 (0, 2), ⟨30, true⟩), (encP 2 (0, 3), ⟨40, false⟩)],
    cached := [(30, encP 2 (0, 2))], numLeaves := 4#64, totalRows := H8 2, full := false }

theorem mU_rep : Rep mU 2 (absA mU 2) (absC mU 2) :=
  rep_abs_of_decode (by decide) (rfl) (by decide) (by decide)

/-- `undoSingleAdd_start` at `n + 1 = 4 = 2^2 * (2*0 + 1)`: the loop runs `2 + 1` times from the root `(2, 0)` -/
example (e : List U64) : MapPollard.undoSingleAdd e mU =
    (match MapPollard.undoSingleAddLoop (2 + 1) (encP 2 (2, 2 * 0)) (encP 2 (childP (2, 2 * 0) 0)) e mU with
     | (m', .error er) => (m', .error er)
     | (m', .ok e') => ({ m' with numLeaves := m'.numLeaves - 1 }, .ok e')) := by
  rw [undoSingleAdd_start (m := mU) (T := 2) (n := 3) (t := 2) (c := 0) rfl (by decide) rfl (by decide)
    (forestRows_le (by decide)) (by decide) e]
  -- (the `match` of this example is compiled to its own auxiliary matcher)
  split <;> rename_i hh <;> rw [hh]

/-- the first two iterations do not restore an empty root, the third is the last -/
example : MapPollard.undoSingleAddLoop (1 + 2) (encP 2 (2, 0)) (encP 2 (childP (2, 0) 0)) [] mU =
    (dropNodeM 2 (0, 3) (dropNodeM 2 (1, 1) (dropNodeM 2 (2, 0) mU)), .ok []) := by
  rw [undoSingleAddLoop_skip (T := 2) rfl (by decide) (by decide) (by decide) 1 [] (by intro _ _ h; cases h)]
  have r1 : (dropNodeM 2 (2, 0) mU).totalRows = H8 2 := dropNodeM_rows _ _ _
  rw [show childP (2, 0) 1 = (1, 1) from rfl,
    undoSingleAddLoop_skip (T := 2) r1 (by decide) (by decide) (by decide) 0 [] (by intro _ _ h; cases h)]
  have r2 : (dropNodeM 2 (1, 1) (dropNodeM 2 (2, 0) mU)).totalRows = H8 2 :=
    (dropNodeM_rows _ _ _).trans r1
  rw [show childP (1, 1) 1 = (0, 3) from rfl, undoSingleAddLoop_last]

example : Rep (dropNodeM 2 (2, 0) mU) 2 (dropNode (2, 0) (absA mU 2) (absC mU 2)).1
      (dropNode (2, 0) (absA mU 2) (absC mU 2)).2 ∧
    (dropNode (2, 0) (absA mU 2) (absC mU 2)).1 (2, 0) = none ∧
    (dropNode (2, 0) (absA mU 2) (absC mU 2)).1 (1, 1) = some ⟨71, false⟩ :=
  ⟨(dropNodeM_rep mU_rep (by decide)).1, by decide, by decide⟩

/-- the whole `undoSingleAdd`, evaluated: the spine `(2,0)`, `(1,1)`, `(0,3)` is removed -/
example : (MapPollard.undoSingleAdd [] mU).1.nodes = [(4#64, ⟨31, false⟩), (2#64, ⟨30, true⟩)] ∧
    (MapPollard.undoSingleAdd [] mU).1.numLeaves = 3#64 := by decide +kernel

/-- 3 leaves whose tree on row 1 had been deleted (empty root `(1,0)`), leaf `(0,2)` (hash 30) cached, after
the addition of leaf 40: the subtree under `(1,1)` moved up (`MapAddRep`'s example), `ph 30 40 = 71` -/
def mP : MapPollard Nat :=
  { nodes := [(encP 2 (2, 0), ⟨71, false⟩), (encP 2 (1, 1), ⟨40, false⟩), (encP 2 (1, 0), ⟨30, true⟩)],
    cached := [(30, encP 2 (1, 0))], numLeaves := 4#64, totalRows := H8 2, full := false }

def mP2 : MapPollard Nat := (MapPollard.placeEmptyRoot (encP 2 (childP (2, 0) 0)) (dropNodeM 2 (2, 0) mP)).1

theorem mP_place : MapPollard.placeEmptyRoot (encP 2 (childP (2, 0) 0)) (dropNodeM 2 (2, 0) mP) = (mP2, .ok ()) := by
  have h2 : (match (MapPollard.placeEmptyRoot (encP 2 (childP (2, 0) 0)) (dropNodeM 2 (2, 0) mP)).2 with
      | .ok _ => true | .error _ => false) = true := by decide +kernel
  unfold mP2
  generalize MapPollard.placeEmptyRoot (encP 2 (childP (2, 0) 0)) (dropNodeM 2 (2, 0) mP) = r at *
  obtain ⟨a, b⟩ := r
  cases b with
  | error _ => simp at h2
  | ok u => rfl

example (er : List U64) :
    MapPollard.undoSingleAddLoop (1 + 2) (encP 2 (2, 0)) (encP 2 (childP (2, 0) 0)) (encP 2 (childP (2, 0) 0) :: er) mP =
      MapPollard.undoSingleAddLoop (1 + 1) (encP 2 (childP (2, 0) 1)) (encP 2 (childP (childP (2, 0) 1) 0)) er
        (mP2.putNode (encP 2 (childP (2, 0) 0)) ⟨zero, true⟩) :=
  undoSingleAddLoop_place (T := 2) rfl (by decide) (by decide) (by decide) 1 er mP_place

/-- the subtree went back down: `(1,0) ↦ (0,2)` (cached), `(1,1) ↦ (0,3)` -/
example : mP2.nodes = [(encP 2 (0, 3), ⟨40, false⟩), (encP 2 (0, 2), ⟨30, true⟩)] ∧
    mP2.cached = [(30, encP 2 (0, 2))] := by decide +kernel

/-- the whole `undoSingleAdd` on that state: the forest of 3 leaves with the empty root `(1,0)` is back -/
example : (MapPollard.undoSingleAdd [encP 2 (1, 0)] mP).1.nodes = [(encP 2 (1, 0), ⟨0, true⟩), (encP 2 (0, 2), ⟨30, true⟩)] ∧
    (MapPollard.undoSingleAdd [encP 2 (1, 0)] mP).1.cached = [(30, encP 2 (0, 2))] ∧
    (MapPollard.undoSingleAdd [encP 2 (1, 0)] mP).1.numLeaves = 3#64 := by decide +kernel

/-- the state after deleting leaf `(0,0)` of the full 4-leaf forest in which `(0,1)` (hash 20) is cached:
the sibling moved up to `(1,0)`, the root is `ph 20 71 = 92` -/
def mD : MapPollard Nat :=
  { nodes := [(encP 2 (2, 0), ⟨92, false⟩), (encP 2 (1, 0), ⟨20, true⟩), (encP 2 (1, 1), ⟨71, false⟩)],
    cached := [(20, encP 2 (1, 0))], numLeaves := 4#64, totalRows := H8 2, full := false }

theorem mD_rep : Rep mD 2 (absA mD 2) (absC mD 2) :=
  rep_abs_of_decode (by decide) (rfl) (by decide) (by decide)

theorem mD_place : MapPollard.placeEmptyRoot (encP 2 (0, 0)) mD = (mD, .ok ()) := by
  have h : (DetectRow (sibling (encP 2 (0, 0))) mD.totalRows).toNat = 0 := by decide +kernel
  unfold MapPollard.placeEmptyRoot
  simp only [h]
  rfl

/-- `undoDelMoveDown_step` for the target `d = (0,0)`: the cached node at `(1,0)` goes back to `(0,1)` -/
example (ts : List U64) : ∃ m2, MapPollard.undoDelMoveDown (encP 2 (0, 0) :: ts) mD = MapPollard.undoDelMoveDown ts m2 ∧
    Rep m2 2 (moveDownA (0, 0) (absA mD 2) (absC mD 2)).1 (moveDownA (0, 0) (absA mD 2) (absC mD 2)).2 ∧
    m2.numLeaves = mD.numLeaves ∧ m2.full = mD.full := by
  refine undoDelMoveDown_step (n := 4) (d := (0, 0)) rfl (by decide) rfl (by decide)
    (forestRows_le (by decide)) (by decide) (by decide) (by decide) mD_place mD_rep (fl := false) rfl ?_ ts
  intro v hv _
  have : absA mD 2 (parent (0, 0)) = some ⟨20, true⟩ := by decide
  rw [this] at hv
  simp only [Option.some.injEq] at hv
  rw [← hv]

example : (moveDownA (0, 0) (absA mD 2) (absC mD 2)).1 (0, 1) = some ⟨20, true⟩ ∧
    (moveDownA (0, 0) (absA mD 2) (absC mD 2)).1 (1, 0) = none ∧
    (moveDownA (0, 0) (absA mD 2) (absC mD 2)).2 20 = some (0, 1) := by
  refine ⟨by decide, by decide, by decide⟩

/-- `mP` is also the state after deleting the twin leaves `(0,0)`, `(0,1)` (target `(1,0)` after `deTwin`) of
the full 4-leaf forest: the subtree `(1,1)` moved up to `(2,0)`.  `placeEmptyRoot (1,0)` moves its children back -/
def mQ : MapPollard Nat := (MapPollard.placeEmptyRoot (encP 2 (1, 0)) mP).1

theorem mQ_place : MapPollard.placeEmptyRoot (encP 2 (1, 0)) mP = (mQ, .ok ()) := by
  have h2 : (match (MapPollard.placeEmptyRoot (encP 2 (1, 0)) mP).2 with
      | .ok _ => true | .error _ => false) = true := by decide +kernel
  unfold mQ
  generalize MapPollard.placeEmptyRoot (encP 2 (1, 0)) mP = r at *
  obtain ⟨a, b⟩ := r
  cases b with
  | error _ => simp at h2
  | ok u => rfl

theorem mQ_rep : Rep mQ 2 (absA mQ 2) (absC mQ 2) :=
  have h : mQ.totalRows = H8 2 ∧ (mQ.nodes.all fun e => (decRO 2 e.1.toNat).isSome) = true ∧
      (mQ.cached.all fun e => (decRO 2 e.2.toNat).isSome) = true := by decide +kernel
  rep_abs_of_decode (by decide) h.1 h.2.1 h.2.2

/-- `undoDelMoveDown_step` for the target `d = (1,0)` (row 1: `placeEmptyRoot` really moves the subtree
down), then the node at `(2,0)` goes back to `(1,1)` -/
example (ts : List U64) : ∃ m2, MapPollard.undoDelMoveDown (encP 2 (1, 0) :: ts) mP = MapPollard.undoDelMoveDown ts m2 ∧
    Rep m2 2 (moveDownA (1, 0) (absA mQ 2) (absC mQ 2)).1 (moveDownA (1, 0) (absA mQ 2) (absC mQ 2)).2 ∧
    m2.numLeaves = mQ.numLeaves ∧ m2.full = mQ.full := by
  have h : mQ.full = false ∧ absA mQ 2 (parent (1, 0)) = some ⟨71, false⟩ ∧ (absC mQ 2 71).isSome = false := by
    decide +kernel
  refine undoDelMoveDown_step (n := 4) (d := (1, 0)) rfl (by decide) rfl (by decide)
    (forestRows_le (by decide)) (by decide) (by decide) (by decide) mQ_place mQ_rep (fl := false)
    h.1 ?_ ts
  intro v hv hc
  have hc : (absC mQ 2 v.hash).isSome = true := hc.resolve_right (by decide)
  rw [h.2.1] at hv
  simp only [Option.some.injEq] at hv
  rw [← hv, h.2.2] at hc
  cases hc

example : (moveDownA (1, 0) (absA mQ 2) (absC mQ 2)).1 (1, 1) = some ⟨71, false⟩ ∧
    (moveDownA (1, 0) (absA mQ 2) (absC mQ 2)).1 (2, 0) = none ∧
    (moveDownA (1, 0) (absA mQ 2) (absC mQ 2)).1 (0, 2) = some ⟨30, true⟩ := by
  decide +kernel

/-- `undoDelMoveDown_root` for the root `(2,0)` of the 4-leaf forest (top row: nothing above) -/
example (ts : List U64) : MapPollard.undoDelMoveDown (encP 2 (2, 0) :: ts) mD = MapPollard.undoDelMoveDown ts mD :=
  undoDelMoveDown_root (n := 4) mD_rep rfl (by decide) (forestRows_le (by decide)) (by decide)
    (by intro h; exact absurd h (by decide)) ts

def mR : MapPollard Nat :=
  { nodes := [(encP 2 (1, 0), ⟨0, false⟩), (encP 2 (0, 2), ⟨30, true⟩)],
    cached := [(30, encP 2 (0, 2))], numLeaves := 3#64, totalRows := H8 2, full := false }

theorem mR_rep : Rep mR 2 (absA mR 2) (absC mR 2) :=
  rep_abs_of_decode (by decide) (rfl) (by decide) (by decide)

/-- `undoDelMoveDown_root` for the root `(1,0)` of the 3-leaf forest (not the top row: `(2,0)` is not stored) -/
example (ts : List U64) : MapPollard.undoDelMoveDown (encP 2 (1, 0) :: ts) mR = MapPollard.undoDelMoveDown ts mR :=
  undoDelMoveDown_root (n := 3) mR_rep rfl (by decide) (forestRows_le (by decide)) (by decide)
    (by intro _; decide) ts

example : ∃ m', MapPollard.restoreRoots [31, 30] ([(1, 0), (0, 2)].map (encP 2)) 0 mR = (m', .ok ()) ∧
    Rep m' 2 (fun q => match ([((1, 0) : Pos), (0, 2)].zip [31, 30]).find? (fun e => e.1 = q) with
      | some e => some ⟨e.2, (absC mR 2 e.2).isSome⟩
      | none => absA mR 2 q) (absC mR 2) ∧
    m'.numLeaves = mR.numLeaves ∧ m'.full = mR.full := by
  obtain ⟨m', e, r, a, b⟩ := restoreRoots_rep mR_rep rfl [(1, 0), (0, 2)] [31, 30]
    (by intro q hq; simp only [List.mem_cons, List.not_mem_nil, or_false] at hq; rcases hq with rfl | rfl <;> decide)
    (by decide) rfl
  -- (the `match` of this example is compiled to its own auxiliary matcher: transport pointwise)
  refine ⟨m', e, r.congr ?_ (fun _ => rfl), a, b⟩
  intro q
  split <;> rename_i h <;> rw [h]

example : restoreA ([((1, 0) : Pos), (0, 2)].zip [31, 30]) (absA mR 2) (absC mR 2) (1, 0) = some ⟨31, false⟩ ∧
    restoreA ([((1, 0) : Pos), (0, 2)].zip [31, 30]) (absA mR 2) (absC mR 2) (0, 2) = some ⟨30, true⟩ := by
  refine ⟨by decide, by decide⟩

end Example

end UtreexoVerif.Proofs.MapUndoRep

section Axioms
open UtreexoVerif.Proofs.MapUndoRep
#print axioms dropNodeM_rep
#print axioms undoSingleAddLoop_last
#print axioms undoSingleAddLoop_skip
#print axioms undoSingleAddLoop_place
#print axioms placeEmptyRoot_frame
#print axioms undoSingleAdd_start
#print axioms undoDelMoveDown_step
#print axioms undoDelMoveDown_root
#print axioms restoreRoots_rep
end Axioms
