/-
  Pointer forest, heap model, `Undo`, second phase: `undoEmptyRoots` brings back the EMPTY roots
  that `undoAdds` could not restore (`AbsE` ⟶ `Abs`): the loop and `copyRoots`; the
  theorem itself is `Props.PollardHeapC.undoEmptyRoots_refines`.
-/
import UtreexoVerif.Proofs.PollardHeapModify
import UtreexoVerif.Proofs.PollardHeapUndoAdds
set_option linter.unusedSectionVars false

namespace UtreexoVerif.Proofs.PollardHeap
open UtreexoVerif.GoInt UtreexoVerif.Model UtreexoVerif.Model.PollardHeap UtreexoVerif.Spec Hasher
open UtreexoVerif.Proofs.CalcGeo
open UtreexoVerif.Proofs.SpecSubs UtreexoVerif.Proofs.CalcComplete
open UtreexoVerif.Proofs.Movement
open UtreexoVerif.Proofs.PollardLookup

variable {H : Type} [DecidableEq H] [Hasher H]

theorem DropEmpty.length_le {a b : List (Option (CTree H))} (h : DropEmpty a b) :
    b.length ≤ a.length ∧ (b.length = a.length → a = b) := by
  induction h with
  | nil => simp
  | keep t _ ih =>
    refine ⟨by simp; omega, ?_⟩
    intro e
    simp at e
    rw [ih.2 e]
  | drop _ ih =>
    refine ⟨by simp; omega, ?_⟩
    intro e
    simp at e
    omega

theorem DropEmpty.mem {a b : List (Option (CTree H))} (h : DropEmpty a b) : ∀ x ∈ b, x ∈ a := by
  induction h with
  | nil => simp
  | keep t _ ih =>
    intro x hx
    simp only [List.mem_cons] at hx ⊢
    rcases hx with rfl | hx
    · exact .inl rfl
    · exact .inr (ih x hx)
  | drop _ ih =>
    intro x hx
    exact List.mem_cons_of_mem _ (ih x hx)

theorem DropEmpty.nil_right_inv {a : List (Option (CTree H))} (h : DropEmpty a []) :
    ∀ x ∈ a, x = none := by
  generalize hb : ([] : List (Option (CTree H))) = b at h
  induction h with
  | nil => simp
  | keep t _ ih => cases hb
  | drop _ ih =>
    intro x hx
    simp only [List.mem_cons] at hx
    rcases hx with rfl | hx
    · rfl
    · exact ih hb x hx

theorem DropEmpty.drop_none : ∀ {a r : List (Option (CTree H))}, DropEmpty a (none :: r) →
    DropEmpty a r := by
  intro a
  induction a with
  | nil => intro r h; cases h
  | cons t a ih =>
    intro r h
    cases h with
    | keep _ h' => exact .drop h'
    | drop h' => exact .drop (ih h')

theorem DropEmpty.cons_some_inv {a c : List (Option (CTree H))} {t : CTree H}
    (h : DropEmpty (some t :: a) c) : ∃ r, c = some t :: r ∧ DropEmpty a r := by
  cases h with
  | keep _ h' => exact ⟨_, rfl, h'⟩

theorem DropEmpty.cons_none_inv {a c : List (Option (CTree H))}
    (h : DropEmpty (none :: a) c) : DropEmpty a c ∨ ∃ r, c = none :: r ∧ DropEmpty a r := by
  cases h with
  | keep _ h' => exact .inr ⟨_, rfl, h'⟩
  | drop h' => exact .inl h'

def ZeroAt : List H → List (Option (CTree H)) → Prop
  | [], [] => True
  | c :: cr, t :: ts => (c = zero ↔ t = none) ∧ ZeroAt cr ts
  | _, _ => False

theorem ReprRoots.push {hp : Heap H} {rs : List Nat} {ts : List (Option (CTree H))}
    {owned : List Nat} {lv : List (H × Nat)} (h : ReprRoots hp rs ts owned lv) (n : PolNode H) :
    ReprRoots (hp.push n) rs ts owned lv := by
  apply h.frame
  intro i hi
  have := h.lt i hi
  rw [Array.getElem?_push]
  have : i ≠ hp.size := Nat.ne_of_lt this
  simp [this]

theorem padRoots_zero (s : Pollard H) : padRoots 0 s = (.ok (), s) := rfl

theorem padRoots_one (s : Pollard H) : padRoots 1 s =
    (.ok (), { s with heap := s.heap.push { data := zero, remember := s.full },
                      roots := s.roots ++ [s.heap.size] }) := by
  unfold padRoots padRoots
  simp only [bind_apply, getFull_apply, alloc_apply, modifyS_apply, pure_apply]

theorem ReprRoots.insert_fresh_empty {hp : Heap H} {rs1 rs2 o1 o2 : List Nat}
    {pre rest : List (Option (CTree H))} {l1 l2 : List (H × Nat)} (full : Bool)
    (h1 : ReprRoots hp rs1 pre o1 l1) (h2 : ReprRoots hp rs2 rest o2 l2) (hnd : (o1 ++ o2).Nodup) :
    ReprRoots (hp.push { data := zero, remember := full }) ((rs1 ++ [hp.size]) ++ rs2)
      ((pre ++ [none]) ++ rest) ((o1 ++ [hp.size]) ++ o2) (l1 ++ l2) ∧
    ((o1 ++ [hp.size]) ++ o2).Nodup := by
  constructor
  · have hs : ReprRoots (hp.push { data := zero, remember := full }) [hp.size] [none] [hp.size] [] :=
      ReprRoots.single (t := none) (fp := []) (lv := []) ⟨⟨{ data := zero, remember := full }, by simp, rfl, rfl, rfl, rfl⟩, rfl, rfl⟩
    have := ((h1.push { data := zero, remember := full }).append hs).append
      (h2.push { data := zero, remember := full })
    rwa [List.append_nil] at this
  · have hlt := (h1.append h2).lt
    have : (o1 ++ [hp.size] ++ o2).Perm (hp.size :: (o1 ++ o2)) := by
      simp only [List.append_assoc, List.singleton_append]
      exact List.perm_middle
    rw [this.nodup_iff, List.nodup_cons]
    exact ⟨fun hm => Nat.lt_irrefl _ (hlt _ hm), hnd⟩

/-- Go recognises an empty root by `data == empty` alone, so no live root of `rest` may hash to zero
(third hypothesis; above this lemma it comes from `hph : ph a b ≠ zero` and the non-zero leaves of
`LeavesOK`). -/
theorem undoEmptyRootsLoop_spec (nm : List (H × Nat)) (nl ndl : U64) (full : Bool) :
    ∀ (cr : List H) (ts pre rest : List (Option (CTree H))) (hp : Heap H) (rs owned : List Nat)
      (lv : List (H × Nat)),
    ZeroAt cr ts →
    DropEmpty ts rest → (∀ t, some t ∈ rest → t.hash ≠ (zero : H)) →
    ReprRoots hp rs (pre ++ rest) owned lv → owned.Nodup →
    ∃ hp' rs' owned', undoEmptyRootsLoop pre.length cr ⟨hp, nm, rs, nl, ndl, full⟩ =
        (.ok (), ⟨hp', nm, rs', nl, ndl, full⟩) ∧
      ReprRoots hp' rs' (pre ++ ts) owned' lv ∧ owned'.Nodup := by
  intro cr
  induction cr with
  | nil =>
    intro ts pre rest hp rs owned lv hf hd hnz hr hnd
    cases ts with
    | cons _ _ => exact hf.elim
    | nil =>
    cases hd
    exact ⟨hp, rs, owned, by unfold undoEmptyRootsLoop; rfl, hr, hnd⟩
  | cons c cr ih =>
    intro ts pre rest hp rs owned lv hf hd hnz hr hnd
    cases ts with
    | nil => exact hf.elim
    | cons t ts =>
    obtain ⟨hct, hf⟩ := hf
    suffices hstep : ∃ hp1 rs1 owned1 rest1,
        (undoEmptyRootsLoop pre.length (c :: cr) ⟨hp, nm, rs, nl, ndl, full⟩ =
          undoEmptyRootsLoop (pre.length + 1) cr ⟨hp1, nm, rs1, nl, ndl, full⟩) ∧
        DropEmpty ts rest1 ∧ (∀ t, some t ∈ rest1 → t.hash ≠ (zero : H)) ∧
        ReprRoots hp1 rs1 ((pre ++ [t]) ++ rest1) owned1 lv ∧ owned1.Nodup by
      obtain ⟨hp1, rs1, owned1, rest1, e1, d1, z1, r1, n1⟩ := hstep
      obtain ⟨hp', rs', owned', e2, r2, n2⟩ := ih ts (pre ++ [t]) rest1 hp1 rs1 owned1 lv hf d1 z1 r1 n1
      refine ⟨hp', rs', owned', ?_, ?_, n2⟩
      · rw [e1]
        simpa using e2
      · simpa using r2
    cases t with
    | some tr =>
      have hc : c ≠ zero := by
        intro e; have := hct.1 e; cases this
      obtain ⟨r, er, dr⟩ := hd.cons_some_inv
      subst er
      refine ⟨hp, rs, owned, r, ?_, dr, fun t ht => hnz t (List.mem_cons_of_mem _ ht), ?_, hnd⟩
      · rw [undoEmptyRootsLoop]
        simp only [hc, if_false]
      · simpa using hr
    | none =>
      have hc : c = zero := hct.2 rfl
      subst hc
      obtain ⟨rs1, rs2, o1, o2, l1, l2, e1, e2, e3, h1, h2⟩ := hr.append_inv
      subst e1 e2 e3
      have hlen := h1.length_eq
      have htake : (rs1 ++ rs2).take pre.length = rs1 := by rw [← hlen]; simp
      have hdrop : (rs1 ++ rs2).drop pre.length = rs2 := by rw [← hlen]; simp
      cases rest with
      | nil =>
        -- (α) the roots end here: `padRoots` appends one fresh empty root
        cases h2
        have dr : DropEmpty ts [] := by
          rcases hd.cons_none_inv with h | ⟨r, e, _⟩
          · exact h
          · cases e
        obtain ⟨hins, hndi⟩ := ReprRoots.insert_fresh_empty full h1 ReprRoots.nil hnd
        refine ⟨hp.push { data := zero, remember := full }, rs1 ++ [hp.size], o1 ++ [hp.size], [],
          ?_, dr, nofun, by simpa only [List.append_nil] using hins, by simpa only [List.append_nil] using hndi⟩
        rw [undoEmptyRootsLoop]
        have hpad : pre.length + 1 - (rs1 ++ []).length = 1 := by
          rw [List.append_nil, hlen]; exact Nat.add_sub_cancel_left _ _
        simp only [if_true, bind_apply, getRoots_apply, hpad, padRoots_one]
        have hget : (rs1 ++ [hp.size])[pre.length]? = some hp.size := by
          rw [← hlen]; simp
        simp only [hget, ne_eq, List.append_nil]
        simp
      | cons t0 r =>
        cases h2 with
        | @cons r0 _ fp0 lv0 rs2' _ o2' l2' hroot h2' =>
        have hpad : pre.length + 1 - (rs1 ++ r0 :: rs2').length = 0 := by
          rw [List.length_append, hlen]; exact Nat.sub_eq_zero_of_le (Nat.add_le_add_left (Nat.succ_pos _) _)
        have hget : (rs1 ++ r0 :: rs2')[pre.length]? = some r0 := by rw [← hlen]; simp
        cases t0 with
        | none =>
          -- (β) the empty root is already there
          have dr : DropEmpty ts r := by
            rcases hd.cons_none_inv with h | ⟨r', e, h⟩
            · exact h.drop_none
            · cases e; exact h
          obtain ⟨⟨rn, g1, g2, g3, g4, g5⟩, g6, g7⟩ := hroot
          subst g6 g7
          refine ⟨hp, rs1 ++ r0 :: rs2', _, r, ?_, dr,
            fun t ht => hnz t (List.mem_cons_of_mem _ ht), ?_, hnd⟩
          · rw [undoEmptyRootsLoop]
            simp only [if_true, bind_apply, getRoots_apply, hpad, padRoots_zero, hget, node_apply, g1,
              g3, ne_eq, not_true_eq_false, if_false]
          · have := h1.append (ReprRoots.cons (t := none) ⟨⟨rn, g1, g2, g3, g4, g5⟩, rfl, rfl⟩ h2')
            simpa using this
        | some tr =>
          -- (γ) a live root sits at index `i`: a fresh empty root is inserted in front of it
          have dr : DropEmpty ts (some tr :: r) := by
            rcases hd.cons_none_inv with h | ⟨r', e, h⟩
            · exact h
            · cases e
          have hz : tr.hash ≠ zero := hnz tr (by simp)
          obtain ⟨rn, g1, g2⟩ := (hroot.2 : Sub hp r0 r0 tr fp0 lv0).hash
          obtain ⟨hins, hndi⟩ := ReprRoots.insert_fresh_empty full h1 (ReprRoots.cons hroot h2') hnd
          refine ⟨hp.push { data := zero, remember := full }, (rs1 ++ [hp.size]) ++ r0 :: rs2',
            (o1 ++ [hp.size]) ++ (r0 :: fp0 ++ o2'), some tr :: r, ?_, dr, hnz, hins, hndi⟩
          rw [undoEmptyRootsLoop]
          have hd' : ¬ rn.data = zero := by rw [g2]; exact hz
          simp only [if_true, bind_apply, getRoots_apply, hpad, padRoots_zero, hget, node_apply, g1,
            ne_eq, hd', not_false_eq_true, getFull_apply, alloc_apply, modifyS_apply, htake, hdrop]
          simp

theorem toInt_numRoots {n : Nat} (hn : n < 2 ^ 64) :
    toInt (numRoots (BitVec.ofNat 64 n)) = ((treeRows n).length : Int) := by
  have hle : (treeRows n).length ≤ 65 := treeRows_length_le _
  unfold numRoots toInt ofInt
  rw [Spec.onesCount64_eq_treeRows, BitVec.toNat_ofNat, Nat.mod_eq_of_lt hn, BitVec.ofInt_natCast,
    BitVec.toNat_ofNat]
  congr 1
  exact Nat.mod_eq_of_lt (Nat.lt_of_le_of_lt hle (by decide))

theorem markEmptied_spec {n rows : Nat} (nl : U64) (hnl : nl.toNat = n)
    (hT : TreeRows nl = H8 rows) (hrows : rows ≤ 63) (s : Pollard H) :
    ∀ (dtp : List Pos) (g : Nat → H), (∀ T ∈ dtp, ValidH rows T) →
    markEmptied nl (dtp.map (E rows)) ((treeRows n).map g) s =
      (.ok ((treeRows n).map (fun R => if rootPos n R ∈ dtp then zero else g R)), s) := by
  intro dtp
  induction dtp with
  | nil =>
    intro g _
    simp [markEmptied]
  | cons T rest ih =>
    intro g hv
    have hvT : ValidH rows T := hv T (by simp)
    have hvr : ∀ T ∈ rest, ValidH rows T := fun T hT => hv T (by simp [hT])
    have hroot : isRootPosition (E rows T) nl = isRootPos n T := by
      have := Props.C16.isRootPosition_enc (h := rows) (r := T.1) (o := T.2) nl hT hrows hvT.1 hvT.2
      rw [hnl] at this
      exact this
    rw [List.map_cons, markEmptied, hroot]
    cases hr : isRootPos n T with
    | false =>
      simp only [Bool.false_eq_true, if_false]
      rw [ih g hvr]
      congr 2
      apply List.map_congr_left
      intro R hR
      have hne : rootPos n R ≠ T := by
        intro e
        rw [← e] at hr
        have hb := (mem_treeRows.1 hR).2
        simp [isRootPos, rootPos, hb] at hr
      simp [hne]
    | true =>
      simp only [isRootPos, Bool.and_eq_true, beq_iff_eq] at hr
      obtain ⟨hb, ho⟩ := hr
      have hR : T.1 ∈ treeRows n := mem_treeRows.2 ⟨Nat.le_trans hvT.1 (Nat.le_trans hrows (by decide)), hb⟩
      have eT : T = rootPos n T.1 := by
        unfold rootPos; rw [← ho]
      have hdo := Props.C16.detectOffset_enc (R := T.1) (r := T.1) (o := T.2) nl hT hrows
        (Nat.le_refl _) hvT.2 (by rw [hnl]; exact hb) (by rw [hnl]; simp [rootPos, ho])
      rw [hnl] at hdo
      have hidx := List.idxOf_lt_length_of_mem hR
      have hle : (treeRows n).length ≤ 65 := treeRows_length_le _
      have hidxN := (u8_index_ok hidx hle).1
      have hE : E rows T = encU rows T.1 T.2 := rfl
      rw [hE, hdo]
      simp only [if_true, Bool.false_eq_true, if_false, hidxN, List.length_map, hidx]
      rw [CalcComplete.set_idxOf_map _ _ _ _ (CalcComplete.treeRows_nodup n), ih _ hvr]
      congr 2
      apply List.map_congr_left
      intro R hR'
      by_cases e : R = T.1
      · subst e
        rw [← eT]
        simp
      · have : rootPos n R ≠ T := by
          intro e'; apply e; rw [← e']; rfl
        simp [e, this]

theorem zeroAt_map {α : Type} (Rs : List α) (c : α → H) (t : α → Option (CTree H))
    (h : ∀ R ∈ Rs, c R = zero ↔ t R = none) : ZeroAt (Rs.map c) (Rs.map t) := by
  induction Rs with
  | nil => trivial
  | cons a Rs ih =>
    exact ⟨h a (by simp), ih (fun R hR => h R (by simp [hR]))⟩

theorem trees_map_snd (F : Forest H) :
    F.trees.map (·.2) = (treeRows F.numLeaves).map (PollardLookup.treeOf F) := by
  unfold Forest.trees PollardLookup.treeOf
  rw [List.map_map]
  rfl

theorem roots_eq_map (F : Forest H) :
    F.roots = (treeRows F.numLeaves).map (fun R => rootHash (PollardLookup.treeOf F R)) := by
  rw [Spec.roots_eq]
  unfold Forest.trees PollardLookup.treeOf
  rw [List.map_map]
  rfl

theorem trees_delLeaves_map_snd (F : Forest H) (D : List H) :
    (F.delLeaves D).trees.map (·.2) = (treeRows F.numLeaves).map (fun R => pruneO D (PollardLookup.treeOf F R)) := by
  rw [trees_delLeaves, List.map_map]
  unfold Forest.trees PollardLookup.treeOf
  rw [List.map_map]
  rfl

theorem copyRoot_zero_iff {F : Forest H} {D : List H} (hnz : TreesNZ F) {dtp : List Pos}
    (hdt : ∀ T, T ∈ dtp ↔ IsDT F D T) {R : Nat} (hR : R ∈ treeRows F.numLeaves) :
    (if rootPos F.numLeaves R ∈ dtp then (zero : H) else rootHash (PollardLookup.treeOf F R)) = zero ↔
      pruneO D (PollardLookup.treeOf F R) = none := by
  have hb := (mem_treeRows.1 hR).2
  by_cases hm : rootPos F.numLeaves R ∈ dtp
  · simp only [hm, if_true, true_iff]
    obtain ⟨h, t, s, hd, _⟩ := (hdt _).1 hm
    have hroot : isRootPos F.numLeaves (rootPos F.numLeaves R) = true := by simp [isRootPos, rootPos, hb]
    have hh : R = h := by simpa [rootPos] using s.root_iff.1 hroot
    subst hh
    rw [(s.at_root hroot).2]
    exact (prune_eq_none_iff D t).2 ((delT_eq_none_iff D t).1 hd)
  · simp only [hm, if_false]
    cases ht : PollardLookup.treeOf F R with
    | none => simp [rootHash, pruneO]
    | some t =>
      have hmem : (R, some t) ∈ F.trees := by
        have := trees_getElem F hR
        rw [ht] at this
        exact List.mem_of_getElem? this
      have hz : t.hash ≠ zero := hnz _ hmem t rfl
      constructor
      · intro e; exact (hz e).elim
      · intro e
        exfalso
        apply hm
        rw [hdt]
        have e' : prune D t = none := e
        exact ⟨R, t, SubAtT.root hR ht, (delT_eq_none_iff D t).2 ((prune_eq_none_iff D t).1 e'),
          .inl rfl⟩

theorem markEmptied_block (hph : ∀ a b : H, ph a b ≠ (zero : H)) {F : Forest H} {D : List H}
    (hok : LeavesOK F) (hn : F.numLeaves < 2 ^ 63) (hnd : F.liveLeaves.Nodup) (hD : D.Nodup)
    (hlive : ∀ d ∈ D, d ∈ F.liveLeaves) {nl : U64} (hnl : nl.toNat = F.numLeaves) (st : Pollard H) :
    ∃ cr, markEmptied nl (Model.deTwin (Model.sortU64
        ((D.map (fun l => (F.posOf l).getD (0, 0))).map (E F.rows))) (TreeRows nl)) F.roots st = (.ok cr, st) ∧
      ZeroAt cr ((F.delLeaves D).trees.map (·.2)) := by
  have hT : TreeRows nl = H8 F.rows := treeRows_eq_H8 hnl hn
  obtain ⟨dtp, e1, inv, hdt⟩ := deTwin_spec_inv (F := F) (Nat.le_of_lt hn) hnd hD hlive
  have hmark := markEmptied_spec (rows := F.rows) nl hnl hT (SpecView.forestRows_le_63 hn) st dtp
    (fun R => rootHash (PollardLookup.treeOf F R)) (fun T hT => inv.valid hT)
  rw [← roots_eq_map, ← e1, ← hT] at hmark
  refine ⟨_, hmark, ?_⟩
  rw [trees_delLeaves_map_snd]
  exact zeroAt_map _ _ _ (fun R hR =>
    copyRoot_zero_iff (hok.treesNZ ⟨hph⟩ (Nat.lt_trans hn (by decide))) hdt hR)

end UtreexoVerif.Proofs.PollardHeap
