/-
  Pointer forest, heap model: `undoSingleDel`, branch "the original parent of the deleted node
  is not a root" — the inverse of the surgery of `deleteSingle`.

  Names: `nd` = the root of the detached sub-tree to re-insert (carries `a`), `B` = the node now
  sitting where the parent used to be (carries `b`, it moved up when `a` died), `S` = its
  sibling, `HG` = their aunt, `P'` = the freshly allocated parent.  In the Go text
  (`sibling, aunt, _, err := p.getNode(siblingPos)`): `node` = `nd`, `sibling` = `B`, `aunt` = `S` (the
  aunt of the CHILDREN of `B`, i.e. the sibling of `B`), `parent` = `P'`; `HG` is `sibling.aunt`, which
  Go never names.  So Go's `updateAunt(aunt)` is `updateAunt(S)` here.

  The branch is a rewrite at the HOLE of a context: the hole of `cons d up ts` holds `b`; afterwards it
  holds `node a b` / `node b a` (`undoSingleDel_hole`: `unsurgeryAunt` on written sets, then
  `hashToRoot` closes the context).
-/
import UtreexoVerif.Proofs.PollardHeapDelSingle
set_option linter.unusedSectionVars false

namespace UtreexoVerif.Proofs.PollardHeap
open UtreexoVerif.Model UtreexoVerif.Model.PollardHeap UtreexoVerif.Spec Hasher

variable {H : Type} [DecidableEq H] [Hasher H]

theorem replK_aunt (x : PolNode H) (b a : Nat) : (replK x b a).aunt = x.aunt := by
  unfold replK; split <;> rfl

theorem replK_data (x : PolNode H) (b a : Nat) : (replK x b a).data = x.data := by
  unfold replK; split <;> rfl

theorem calculateParentHash_run {hp : Heap H} {nm : List (H × Nat)} {rs : List Nat} {nl ndl : U64}
    {full : Bool} {n s : Nat} {x y : PolNode H} (hn : hp[n]? = some x) (hs : hp[s]? = some y) (pos : U64) :
    calculateParentHash pos (some n) (some s) ⟨hp, nm, rs, nl, ndl, full⟩ =
      (.ok (if isLeftNiece pos then ph x.data y.data else ph y.data x.data), ⟨hp, nm, rs, nl, ndl, full⟩) := by
  unfold calculateParentHash
  cases isLeftNiece pos <;> simp [rd, hn, hs]

/-- **the pointer surgery of `undoSingleDel`, branch "the original parent is not a root"**, one Go
statement after the other on the heap `hp.push pnode` (`pnode` = the re-created parent `P' = hp.size`).
`d` = the side of `B` below its aunt's holder `HG` (the hole of the context), `dl` = `isLeftNiece pos`
(the side of the re-inserted `nd`).  The heaps are numbered by the statement that produced them:
`h1` `transferAunt(P', B)`, `h2` `transferNiece(P', B)` (`updateAunt(P')` changes nothing), `h4` the
niece pointers of `S` (`h3`) and `updateAunt(S)`, `h5` `transferNiece(B, nd)`, `h7` the niece pointers
of `nd` (`h6`) and `updateAunt(nd)`. -/
theorem unsurgeryAunt {hp : Heap H} {nd B S HG : Nat} {ndn bn sn : PolNode H}
    {a b ts : CTree H} {fa fb fs : List Nat} {la lb ls : List (H × Nat)} (d dl : Bool)
    (pnode : PolNode H) (hpa : pnode.aunt = none)
    (hnd : hp[nd]? = some ndn) (aN : ndn.aunt = none) (hB : hp[B]? = some bn) (hS : hp[S]? = some sn)
    (kk : Kids hp HG (sel d B S) (sel d S B))
    (subA : Sub hp nd nd a fa la) (subB : Sub hp B S b fb lb) (subS : Sub hp S B ts fs ls)
    (ndp : (HG :: nd :: B :: S :: (fa ++ fb ++ fs)).Nodup)
    (nm : List (H × Nat)) (rs : List Nat) (nl ndl : U64) (full : Bool) :
    ∃ h1 h2 h4 h5 h7 : Heap H,
      transferAunt (some hp.size) (some B) ⟨hp.push pnode, nm, rs, nl, ndl, full⟩ =
        (.ok (), ⟨h1, nm, rs, nl, ndl, full⟩) ∧
      transferNiece (some hp.size) (some B) ⟨h1, nm, rs, nl, ndl, full⟩ =
        (.ok (), ⟨h2, nm, rs, nl, ndl, full⟩) ∧
      updateAunt' (some hp.size) ⟨h2, nm, rs, nl, ndl, full⟩ = (.ok (), ⟨h2, nm, rs, nl, ndl, full⟩) ∧
      h2[S]? = some sn ∧
      updateAunt' (some S) ⟨(h2.modify S (fun x => { x with lNiece := if dl then some nd else some B })).modify S
          (fun x => { x with rNiece := if dl then some B else some nd }), nm, rs, nl, ndl, full⟩ =
        (.ok (), ⟨h4, nm, rs, nl, ndl, full⟩) ∧
      transferNiece (some B) (some nd) ⟨h4, nm, rs, nl, ndl, full⟩ =
        (.ok (), ⟨h5, nm, rs, nl, ndl, full⟩) ∧
      updateAunt' (some nd) ⟨(h5.modify nd (fun x => { x with lNiece := sn.lNiece })).modify nd
          (fun x => { x with rNiece := sn.rNiece }), nm, rs, nl, ndl, full⟩ =
        (.ok (), ⟨h7, nm, rs, nl, ndl, full⟩) ∧
      h7.size = hp.size + 1 ∧ bn.aunt = some HG ∧
      Off (hp.size :: HG :: nd :: B :: S :: (fa ++ fb ++ fs)) hp h7 ∧
      (∀ x, hp[HG]? = some x → ∃ x', h7[HG]? = some x' ∧ x'.aunt = x.aunt ∧ x'.data = x.data) ∧
      Kids h7 HG (sel d hp.size S) (sel d S hp.size) ∧ Kids h7 S (sel (!dl) nd B) (sel (!dl) B nd) ∧
      Sub h7 nd B a fa la ∧ Sub h7 B nd b fb lb ∧ Sub h7 S hp.size ts fs ls := by
  obtain ⟨⟨bn', hB', aB⟩, ⟨sn', hS', aS⟩⟩ := kk.sel_c
  cases hB.symm.trans hB'
  cases hS.symm.trans hS'
  obtain ⟨hgn, hHG, _, _⟩ := kk.holder
  have ndx := ndp
  simp only [List.nodup_cons, List.mem_cons, List.mem_append, not_or, List.nodup_append] at ndx
  obtain ⟨⟨nHGn, nHGB, nHGS, ⟨nHGfa, nHGfb⟩, nHGfs⟩, ⟨nnB, nnS, ⟨nnfa, nnfb⟩, nnfs⟩,
    ⟨nBS, ⟨nBfa, nBfb⟩, nBfs⟩, ⟨⟨nSfa, nSfb⟩, nSfs⟩, ⟨ndfa, ndfb, dab⟩, ndfs, dabs⟩ := ndx
  have eHG : HG ≠ hp.size := Nat.ne_of_lt (lt_of_get hHG)
  have en : nd ≠ hp.size := Nat.ne_of_lt (lt_of_get hnd)
  have eB : B ≠ hp.size := Nat.ne_of_lt (lt_of_get hB)
  have eS : S ≠ hp.size := Nat.ne_of_lt (lt_of_get hS)
  have efa : hp.size ∉ fa := fun h => Nat.lt_irrefl _ (subA.fp_lt _ h)
  have efb : hp.size ∉ fb := fun h => Nat.lt_irrefl _ (subB.fp_lt _ h)
  have efs : hp.size ∉ fs := fun h => Nat.lt_irrefl _ (subS.fp_lt _ h)
  have khgB : isKid hgn B := (kk.isKid hHG).1
  -- step 0: the allocation; step 1: `transferAunt(P', B)`, written `P'` (aunt) and `HG` (niece pointer)
  have o0 := Off.push hp pnode
  have hP0 : (hp.push pnode)[hp.size]? = some pnode := by rw [Array.getElem?_push, if_pos rfl]
  have hB0 := (o0 B (by simp [eB])).trans hB
  have hHG0 := (o0 HG (by simp [eHG])).trans hHG
  obtain ⟨o1, hP1, hHG1, -⟩ := taHeap_spec (b := B) (au := none) hP0 hHG0 (Ne.symm eHG) (fun aa e => nomatch e)
  replace o1 : Off [hp.size, HG] (hp.push pnode) (taHeap (hp.push pnode) hp.size none B HG) := o1
  have o01 := o0.trans o1
  have hB1 := (o01 B (by simp [eB, Ne.symm nHGB])).trans hB
  have hS1 := (o01 S (by simp [eS, Ne.symm nHGS])).trans hS
  have x1 := transferAunt_run (hp.push pnode) nm rs nl ndl full hp.size B HG pnode bn hgn hP0 hB0 hHG0
    aB khgB (Ne.symm eHG) (Ne.symm nHGB) (fun aa e => by rw [hpa] at e; cases e)
    (by rw [hpa]; exact (kk.replK hHG nBS hHG1 ⟨_, hP1, rfl⟩ ⟨_, hS1, aS⟩).settled)
  rw [hpa] at x1
  have sS1 := subS.off o01 (by simp [eS, Ne.symm nHGS]) (by simp [eB, Ne.symm nHGB])
    (fun i hi => by simp only [List.mem_append, List.mem_cons, List.not_mem_nil, or_false, not_or]; exact ⟨fun e => efs (e ▸ hi), fun e => efs (e ▸ hi), fun e => nHGfs (e ▸ hi)⟩)
  -- step 2: `transferNiece(P', B)`: `P'` holds the children of `S`; step 3: `updateAunt(P')` finds them settled
  obtain ⟨h2, x2, sz2, hP2, hB2, o2, sS2⟩ :=
    transferNiece_sub sS1 ndfs hP1 hB1 (Ne.symm eB) efs nBfs nm rs nl ndl full
  have x3 := updateAunt'_noop hp.size h2 nm rs nl ndl full sS2.settled
  have hS2 := (o2 S (by simp [eS, Ne.symm nBS, nSfs])).trans hS1
  -- step 4: the niece pointers of `S`; step 5: `updateAunt(S)` adopts `nd` (still in root form) and the emptied `B`
  obtain ⟨h3, h3_def⟩ : ∃ h3, h3 = (h2.modify S (fun x => { x with lNiece := if dl then some nd else some B })).modify S
      (fun x => { x with rNiece := if dl then some B else some nd }) := ⟨_, rfl⟩
  have o3 : Off ([S] ++ [S]) h2 h3 := h3_def ▸ (Off.modify h2 S _).trans (Off.modify _ S _)
  have hS3 : h3[S]? = some { sn with lNiece := (if dl then some nd else some B), rNiece := (if dl then some B else some nd) } := by
    rw [h3_def]; exact modify_at _ (modify_at _ hS2)
  have hB3 := (o3 B (by simp [nBS])).trans hB2
  -- `nd` and what lies below it have not been written so far
  have o03 := (o01.trans o2).trans o3
  have nd03 : nd ∉ [hp.size] ++ [hp.size, HG] ++ hp.size :: B :: fs ++ ([S] ++ [S]) := by
    simp only [List.mem_append, List.mem_cons, List.not_mem_nil, or_false, not_or]
    exact ⟨⟨⟨en, en, Ne.symm nHGn⟩, en, nnB, nnfs⟩, nnS, nnS⟩
  have hn3 := (o03 nd nd03).trans hnd
  have sA3 := subA.off o03 nd03 nd03 (fun i hi => by
    simp only [List.mem_append, List.mem_cons, List.not_mem_nil, or_false, not_or]
    exact ⟨⟨⟨fun e => efa (e ▸ hi), fun e => efa (e ▸ hi), fun e => nHGfa (e ▸ hi)⟩, fun e => efa (e ▸ hi),
      fun e => nBfa (e ▸ hi), fun h => dabs i (Or.inl hi) i h rfl⟩, fun e => nSfa (e ▸ hi), fun e => nSfa (e ▸ hi)⟩)
  obtain ⟨h4, x5, sz4, o4, hn4, hB4⟩ : ∃ h4, updateAunt' (some S) ⟨h3, nm, rs, nl, ndl, full⟩ =
      (.ok (), ⟨h4, nm, rs, nl, ndl, full⟩) ∧ h4.size = h3.size ∧ Off [nd, B] h3 h4 ∧
      h4[nd]? = some { ndn with aunt := some S } ∧
      h4[B]? = some { ({ bn with lNiece := none, rNiece := none } : PolNode H) with aunt := some S } := by
    have wn : ∀ l r, l ∉ fa → r ∉ fa → HoldsSub h3 nd l r ndn :=
      fun l r hl hr => Or.inr ⟨nd, a, fa, la, sA3, hl, hr⟩
    have aN' : ndn.aunt ≠ some S := by rw [aN]; exact nofun
    have aB' : ({ bn with lNiece := none, rNiece := none } : PolNode H).aunt ≠ some S := by
      show bn.aunt ≠ _
      rw [aB]; intro e; cases e; exact nHGS rfl
    cases dl
    · obtain ⟨x, o, _, el, er⟩ := adopt0 hS3 rfl rfl hB3 hn3 aB' aN' (Ne.symm nnB) nBS nnS
        (Or.inl ⟨rfl, rfl⟩) (wn B nd nBfa nnfa) nm rs nl ndl full
      exact ⟨_, x, size_setAuntKids .., o.mono (fun j hj => by
        simp only [List.mem_cons, List.not_mem_nil, or_false] at hj ⊢; exact hj.symm), er, el⟩
    · obtain ⟨x, o, _, el, er⟩ := adopt0 hS3 rfl rfl hn3 hB3 aN' aB' nnB nnS nBS
        (wn nd B nnfa nBfa) (Or.inl ⟨rfl, rfl⟩) nm rs nl ndl full
      exact ⟨_, x, size_setAuntKids .., o, el, er⟩
  have sA4 := sA3.frame_of hn3 hn4 rfl hn3 hn4 rfl rfl
    (fun i hi => o4 i (by simp; exact ⟨fun e => nnfa (e ▸ hi), fun e => nBfa (e ▸ hi)⟩))
  -- step 6: `transferNiece(B, nd)`: `B` holds the children of `nd`
  obtain ⟨h5, x6, sz5, hB5, hn5, o5, sA5⟩ :=
    transferNiece_sub sA4 ndfa hB4 hn4 (Ne.symm nnB) nBfa nnfa nm rs nl ndl full
  -- step 7: `nd` is given the former niece pointers of `S`
  obtain ⟨h6, h6_def⟩ : ∃ h6, h6 = (h5.modify nd (fun x => { x with lNiece := sn.lNiece })).modify nd
      (fun x => { x with rNiece := sn.rNiece }) := ⟨_, rfl⟩
  have o6 : Off ([nd] ++ [nd]) h5 h6 := h6_def ▸ (Off.modify h5 nd _).trans (Off.modify _ nd _)
  have hn6 : h6[nd]? = some { ({ ndn with aunt := some S } : PolNode H) with lNiece := sn.lNiece, rNiece := sn.rNiece } := by
    rw [h6_def]; exact modify_at _ (modify_at _ hn5)
  have hB6 := (o6 B (by simp [Ne.symm nnB])).trans hB5
  -- what lies below `B` has not been written so far
  have o26 := (((o2.trans o3).trans o4).trans o5).trans o6
  have ofb : ∀ i ∈ fb, h6[i]? = hp[i]? := fun i hi =>
    (o26 i (by
      simp only [List.mem_append, List.mem_cons, List.not_mem_nil, or_false, not_or]
      exact ⟨⟨⟨⟨⟨fun e => efb (e ▸ hi), fun e => nBfb (e ▸ hi), fun h => dabs i (Or.inr hi) i h rfl⟩,
        fun e => nSfb (e ▸ hi), fun e => nSfb (e ▸ hi)⟩, fun e => nnfb (e ▸ hi), fun e => nBfb (e ▸ hi)⟩,
        fun e => nBfb (e ▸ hi), fun e => nnfb (e ▸ hi), fun h => dab i h i hi rfl⟩,
        fun e => nnfb (e ▸ hi), fun e => nnfb (e ▸ hi)⟩)).trans
    (o01 i (by simp only [List.mem_append, List.mem_cons, List.not_mem_nil, or_false, not_or]; exact ⟨fun e => efb (e ▸ hi), fun e => efb (e ▸ hi), fun e => nHGfb (e ▸ hi)⟩))
  -- step 8: `updateAunt(nd)` adopts the children of `B`
  obtain ⟨u8, o7, sB7⟩ := adopt_sub subB ndfb hS hn6 rfl rfl nnfb (Ne.symm nnS) hB hB6 rfl ofb
  rw [subB.relabelTop_self] at sB7
  have x8 := updateAunt'_kids nd h6 nm rs nl ndl full u8
  have sz7 : (setAuntKids h6 nd).size = h6.size := size_setAuntKids ..
  generalize setAuntKids h6 nd = h7 at o7 sB7 x8 sz7
  have o37 := (((o3.trans o4).trans o5).trans o6).trans o7
  have hS7 : h7[S]? = some { sn with lNiece := (if dl then some nd else some B), rNiece := (if dl then some B else some nd) } :=
    ((((o4.trans o5).trans o6).trans o7) S (by
      simp only [List.mem_append, List.mem_cons, List.not_mem_nil, or_false, not_or]
      exact ⟨⟨⟨⟨Ne.symm nnS, Ne.symm nBS⟩, Ne.symm nBS, Ne.symm nnS, nSfa⟩, Ne.symm nnS, Ne.symm nnS⟩, nSfb⟩)).trans hS3
  have hP7 := (o37 hp.size (by
      simp only [List.mem_append, List.mem_cons, List.not_mem_nil, or_false, not_or]
      exact ⟨⟨⟨⟨⟨Ne.symm eS, Ne.symm eS⟩, Ne.symm en, Ne.symm eB⟩, Ne.symm eB, Ne.symm en, efa⟩,
        Ne.symm en, Ne.symm en⟩, efb⟩)).trans hP2
  have hHG7 := ((o2.trans o37) HG (by
      simp only [List.mem_append, List.mem_cons, List.not_mem_nil, or_false, not_or]
      exact ⟨⟨eHG, nHGB, nHGfs⟩, ⟨⟨⟨⟨nHGS, nHGS⟩, nHGn, nHGB⟩, nHGB, nHGn, nHGfa⟩, nHGn, nHGn⟩, nHGfb⟩)).trans hHG1
  have hn7 := (o7 nd nnfb).trans hn6
  have hB7 := (o7 B nBfb).trans hB6
  refine ⟨_, h2, h4, h5, h7, x1, x2, x3, hS2, h3_def ▸ x5, x6, h6_def ▸ x8, ?_, aB, ?_, ?_, ?_, ?_, ?_, sB7, ?_⟩
  · rw [sz7, h6_def]
    simp only [Array.size_modify]
    rw [sz5, sz4, h3_def]
    simp only [Array.size_modify]
    rw [sz2, size_taHeap]; simp
  · intro j hj
    simp only [List.mem_cons, List.mem_append, not_or] at hj
    obtain ⟨jP, j1, j2, j3, j4, ⟨j5, j6⟩, j7⟩ := hj
    refine ((o2.trans o37) j ?_).trans (o01 j ?_)
    · simp only [List.mem_append, List.mem_cons, List.not_mem_nil, or_false, not_or]
      exact ⟨⟨jP, j3, j7⟩, ⟨⟨⟨⟨j4, j4⟩, j2, j3⟩, j3, j2, j5⟩, j2, j2⟩, j6⟩
    · simp only [List.mem_append, List.mem_cons, List.not_mem_nil, or_false, not_or]
      exact ⟨jP, jP, j1⟩
  · intro x hx
    cases hHG.symm.trans hx
    exact ⟨_, hHG7, replK_aunt .., replK_data ..⟩
  · exact kk.replK hHG nBS hHG7 ⟨_, hP7, rfl⟩ ⟨_, hS7, aS⟩
  · cases dl
    · exact ⟨⟨_, hS7, rfl, rfl⟩, ⟨_, hB7, rfl⟩, ⟨_, hn7, rfl⟩⟩
    · exact ⟨⟨_, hS7, rfl, rfl⟩, ⟨_, hn7, rfl⟩, ⟨_, hB7, rfl⟩⟩
  · exact sA5.off_top (o6.trans o7) hn5 hn7 rfl (by simp [Ne.symm nnB, nBfb])
      (fun i hi => by simp only [List.mem_append, List.mem_cons, List.not_mem_nil, or_false, not_or]; exact ⟨⟨fun e => nnfa (e ▸ hi), fun e => nnfa (e ▸ hi)⟩, fun h => dab i hi i h rfl⟩)
  · exact sS2.off_top o37 hS2 hS7 rfl (by
        simp only [List.mem_append, List.mem_cons, List.not_mem_nil, or_false, not_or]
        exact ⟨⟨⟨⟨⟨Ne.symm eS, Ne.symm eS⟩, Ne.symm en, Ne.symm eB⟩, Ne.symm eB, Ne.symm en, efa⟩,
          Ne.symm en, Ne.symm en⟩, efb⟩)
      (fun i hi => by
        simp only [List.mem_append, List.mem_cons, List.not_mem_nil, or_false, not_or]
        exact ⟨⟨⟨⟨⟨fun e => nSfs (e ▸ hi), fun e => nSfs (e ▸ hi)⟩, fun e => nnfs (e ▸ hi), fun e => nBfs (e ▸ hi)⟩,
          fun e => nBfs (e ▸ hi), fun e => nnfs (e ▸ hi), fun h => dabs i (Or.inl h) i hi rfl⟩,
          fun e => nnfs (e ▸ hi), fun e => nnfs (e ▸ hi)⟩, fun h => dabs i (Or.inr h) i hi rfl⟩)

theorem zoomed_footprint {r nd B S sz : Nat} {fp fpu fa fb fs : List Nat}
    (hperm : (B :: S :: (fs ++ fpu) ++ fb).Perm fp) :
    (r :: fp ++ nd :: fa).Perm (r :: (fpu ++ (nd :: B :: S :: (fa ++ fb ++ fs)))) ∧
    ((sz :: S :: (fs ++ fpu)) ++ (nd :: B :: (fa ++ fb))).Perm (sz :: nd :: (fa ++ fp)) := by
  constructor <;>
  · rw [List.perm_iff_count]
    intro z
    have c := List.perm_iff_count.1 hperm z
    simp only [List.count_cons, List.count_append, List.cons_append] at c ⊢
    omega

theorem nodup_fresh {sz r nd B S : Nat} {fpu fa fb fs : List Nat}
    (ndp : (r :: (fpu ++ (nd :: B :: S :: (fa ++ fb ++ fs)))).Nodup)
    (hfresh : sz ∉ r :: (fpu ++ (nd :: B :: S :: (fa ++ fb ++ fs)))) :
    (r :: (sz :: S :: (fs ++ fpu)) ++ (nd :: B :: (fa ++ fb))).Nodup := by
  refine (List.Perm.nodup_iff ?_).1 (List.nodup_cons.2 ⟨hfresh, ndp⟩)
  perm_count

theorem setNieces_ite (c : Bool) (i : Nat) (u v : Ptr) (K : PM H Unit) (hq : Heap H)
    (nm : List (H × Nat)) (rs : List Nat) (nl ndl : U64) (full : Bool) :
    (if c then (do
        setNode i (fun x => { x with lNiece := u })
        setNode i (fun x => { x with rNiece := v })
        K : PM H Unit)
      else (do
        setNode i (fun x => { x with lNiece := v })
        setNode i (fun x => { x with rNiece := u })
        K)) ⟨hq, nm, rs, nl, ndl, full⟩ =
      K ⟨(hq.modify i (fun x => { x with lNiece := if c then u else v })).modify i
        (fun x => { x with rNiece := if c then v else u }), nm, rs, nl, ndl, full⟩ := by
  cases c <;> simp only [bind_apply, setNode_apply, Bool.false_eq_true, if_false, if_true]

theorem undoSingleDel_hole {hp : Heap H} {nm : List (H × Nat)} {rs : List Nat} {nl ndl : U64}
    {full : Bool} {r : Nat} {d : Bool} {up : CCtx H} {ts : CTree H} {B S : Nat} {fpc : List Nat}
    {l1 l2 : List (H × Nat)} {b : CTree H} {fb : List Nat} {lb : List (H × Nat)}
    {nd : Nat} {a : CTree H} {fa : List Nat} {la : List (H × Nat)}
    (hc : CtxRepr hp r (CCtx.cons d up ts) B S fpc l1 l2) (subB : Sub hp B S b fb lb)
    (hRn : RootRepr hp nd a fa la)
    {fp : List Nat} (hfp : (fpc ++ fb).Perm fp) (ndp0 : (r :: fp ++ nd :: fa).Nodup) (pos : U64)
    (par : Ptr)
    (hget : getNode (Parent pos (TreeRows nl)) ⟨hp, nm, rs, nl, ndl, full⟩ =
      (.ok (some B, some S, par), ⟨hp, nm, rs, nl, ndl, full⟩)) :
    ∃ (hp' : Heap H) (fp' : List Nat),
      undoSingleDel nd pos ⟨hp, nm, rs, nl, ndl, full⟩ = (.ok (), ⟨hp', nm, rs, nl, ndl, full⟩) ∧
      RootRepr hp' r ((CCtx.cons d up ts).plug (if isLeftNiece pos then .node a b else .node b a)) fp'
        (l1 ++ (if isLeftNiece pos then la ++ lb else lb ++ la) ++ l2) ∧
      fp'.Perm (hp.size :: nd :: (fa ++ fp)) ∧
      (∀ j, j ∉ r :: fp ++ nd :: fa → j ≠ hp.size → hp'[j]? = hp[j]?) ∧
      hp'.size = hp.size + 1 := by
  obtain ⟨G, HG, fs, fpu, ls, l1u, l2u, hu, kk, subS, rfl, rfl, rfl⟩ := hc.cons_inv
  obtain ⟨⟨ndn, hnd, aN⟩, subA⟩ := hRn
  obtain ⟨⟨bn, hB, _⟩, ⟨sn, hS, _⟩⟩ := kk.sel_c
  obtain ⟨PP, QQ⟩ := zoomed_footprint (r := r) (nd := nd) (sz := hp.size) (fa := fa) hfp
  have ndp : (r :: (fpu ++ (nd :: B :: S :: (fa ++ fb ++ fs)))).Nodup := PP.nodup_iff.1 ndp0
  obtain ⟨ndu, ndL, hdis⟩ := List.nodup_append.1
    (show ((r :: fpu) ++ (nd :: B :: S :: (fa ++ fb ++ fs))).Nodup from ndp)
  have ndS : (HG :: nd :: B :: S :: (fa ++ fb ++ fs)).Nodup :=
    List.nodup_cons.2 ⟨fun h => hdis HG hu.holder_mem HG h rfl, ndL⟩
  have hlt : ∀ i ∈ r :: (fpu ++ (nd :: B :: S :: (fa ++ fb ++ fs))), i < hp.size := by
    intro i hi
    simp only [List.mem_cons, List.mem_append] at hi
    rcases hi with rfl | hi | rfl | rfl | rfl | (hi | hi) | hi
    · exact hu.lt _ (by simp)
    · exact hu.lt _ (by simp [hi])
    · exact lt_of_get hnd
    · exact lt_of_get hB
    · exact lt_of_get hS
    · exact subA.fp_lt _ hi
    · exact subB.fp_lt _ hi
    · exact subS.fp_lt _ hi
  have hfresh : hp.size ∉ r :: (fpu ++ (nd :: B :: S :: (fa ++ fb ++ fs))) :=
    fun hm => Nat.lt_irrefl _ (hlt _ hm)
  obtain ⟨pHash, hpHash⟩ : ∃ pHash : H, pHash = if isLeftNiece pos then ph ndn.data bn.data
      else ph bn.data ndn.data := ⟨_, rfl⟩
  obtain ⟨h1, h2, h4, h5, h7, x1, x2, x3, hS2, x5, x6, x8, hsz7, aB, o7, hHG7, kk7, kS7, sA7, sB7, sS7⟩ :=
    unsurgeryAunt d (isLeftNiece pos) ({ data := pHash, remember := full } : PolNode H) rfl
      hnd aN hB hS kk subA subB subS ndS nm rs nl ndl full
  have hout : ∀ i ∈ r :: fpu, i ≠ HG → i ∉ hp.size :: HG :: nd :: B :: S :: (fa ++ fb ++ fs) := by
    intro i hi hne hm
    rcases List.mem_cons.1 hm with e | hm
    · exact hfresh (e ▸ List.mem_append_left _ hi)
    · rcases List.mem_cons.1 hm with e | hm
      · exact hne e
      · exact hdis i hi i hm rfl
  have hu7 : CtxRepr h7 r up G HG fpu l1u l2u :=
    hu.frame_holder ndu (fun i hi hne => o7 i (hout i hi hne)) hHG7
  obtain ⟨hp', g1, g2, g3, fp', g5, g6⟩ := CtxRepr.close ⟨h7, nm, rs, nl, ndl, full⟩
    (CtxRepr.step d hu7 kk7 sS7) kS7 sB7 sA7 (nodup_fresh ndp hfresh)
  refine ⟨hp', fp', ?_, ?_, g6.trans QQ, ?_, by rw [g2]; exact hsz7⟩
  · have hcalc : calculateParentHash pos (some nd) (some B) ⟨hp, nm, rs, nl, ndl, full⟩ =
        (.ok pHash, ⟨hp, nm, rs, nl, ndl, full⟩) := hpHash ▸ calculateParentHash_run hnd hB pos
    have hB0 : (hp.push ({ data := pHash, remember := full } : PolNode H))[B]? = some bn := by
      rw [Array.getElem?_push, if_neg (Nat.ne_of_lt (lt_of_get hB))]; exact hB
    unfold undoSingleDel
    refine (bind_ok getNumLeaves_run).trans ?_
    refine (bind_ok hget).trans ?_
    dsimp only
    refine (bind_ok hcalc).trans ?_
    refine (bind_ok (getFull_apply _)).trans ?_
    refine (bind_ok (alloc_apply _ _)).trans ?_
    refine (bind_ok (deref_some B _)).trans ?_
    refine (bind_ok (node_run hB0)).trans ?_
    simp only [aB]
    refine (bind_ok (ignoreErr_ok x1)).trans ?_
    refine (bind_ok x2).trans ?_
    refine (bind_ok x3).trans ?_
    refine (bind_ok (deref_some S _)).trans ?_
    refine (bind_ok (node_run hS2)).trans ?_
    refine (setNieces_ite (isLeftNiece pos) S (some nd) (some B) _ h2 nm rs nl ndl full).trans ?_
    refine (bind_ok x5).trans ?_
    refine (bind_ok x6).trans ?_
    refine (bind_ok setNode_run).trans ?_
    refine (bind_ok setNode_run).trans ?_
    refine (bind_ok x8).trans ?_
    exact g1
  · rw [CCtx.plug_cons] at g5
    generalize isLeftNiece pos = dl at g5 ⊢
    cases dl <;> exact g5
  · intro j hj0 hjP
    have hj : j ∉ r :: (fpu ++ (nd :: B :: S :: (fa ++ fb ++ fs))) := fun hm => hj0 (PP.mem_iff.2 hm)
    simp only [List.mem_cons, List.mem_append, not_or] at hj
    obtain ⟨j1, j2, j3, j4, j5, ⟨j6, j7⟩, j8⟩ := hj
    rw [g3 j (by
      simp only [List.mem_cons, List.mem_append, not_or]
      exact ⟨j1, hjP, j5, j8, j2⟩)]
    refine o7 j ?_
    have : j ≠ HG := fun e => (List.mem_cons.1 (e ▸ hu.holder_mem)).elim j1 j2
    simp only [List.mem_cons, List.mem_append, not_or]
    exact ⟨hjP, this, j3, j4, j5, ⟨j6, j7⟩, j8⟩

end UtreexoVerif.Proofs.PollardHeap
