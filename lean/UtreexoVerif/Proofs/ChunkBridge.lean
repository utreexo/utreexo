/-
  Bridge between the two descriptions of the nodes of the specification forest: the tree view
  `SubAtT F h p t` (Proofs/SpecNodes) and the chunk view `chunk S l b` / `Spec.inTree` / `nodePos`
  (Proofs/SpecForest, Proofs/NewAddSpec).  A live chunk of the tree on row `T` is the subtree standing
  at its `nodePos` (`subAtT_of_chunk`), every subtree is a chunk (`chunk_of_subAtT'`), the leaves of
  a chunk are its live slots, and a chunk lies in exactly one tree.
-/
import UtreexoVerif.Proofs.NewAddSpec
import UtreexoVerif.Proofs.SpecSubs

namespace UtreexoVerif.Proofs.ChunkBridge
open Spec
open UtreexoVerif.Proofs.SpecSubs
open UtreexoVerif.Proofs.FinalPos UtreexoVerif.Proofs.Movement

variable {H : Type} [DecidableEq H] [Hasher H]

theorem chunk_parent (S : List (Option H)) (l b : Nat) {t : CTree H} (ht : chunk S l b = some t) :
    (chunkAlive S l (sibIdx b) = false ∧ chunk S (l + 1) (b / 2) = some t) ∨
    (chunkAlive S l (sibIdx b) = true ∧ ∃ s, chunk S (l + 1) (b / 2) =
      some (if b % 2 = 0 then .node t s else .node s t)) := by
  have hpar := chunk_succ S l (b / 2)
  unfold chunkAlive
  by_cases hodd : b % 2 = 0
  · have e1 : 2 * (b / 2) = b := by omega
    have e2 : 2 * (b / 2) + 1 = sibIdx b := by unfold sibIdx; rw [if_pos hodd]; omega
    rw [e2, e1, ht] at hpar
    simp only [if_pos hodd]
    cases hs : chunk S l (sibIdx b) with
    | none => rw [hs] at hpar; exact Or.inl ⟨rfl, hpar⟩
    | some s => rw [hs] at hpar; exact Or.inr ⟨rfl, s, hpar⟩
  · have e1 : 2 * (b / 2) + 1 = b := by omega
    have e2 : 2 * (b / 2) = sibIdx b := by unfold sibIdx; rw [if_neg hodd]; omega
    rw [e1, e2, ht] at hpar
    simp only [if_neg hodd]
    cases hs : chunk S l (sibIdx b) with
    | none => rw [hs] at hpar; exact Or.inl ⟨rfl, hpar⟩
    | some s => rw [hs] at hpar; exact Or.inr ⟨rfl, s, hpar⟩

theorem chunk_subs_sub (S : List (Option H)) (T ro : Nat) : ∀ (k l b : Nat) (t : CTree H),
    l + k = T → b / 2 ^ k = ro → chunk S l b = some t →
    ∃ tT, chunk S T ro = some tT ∧
      ∀ e ∈ subs t (fpos (chunkAlive S) (T, ro) k l b).1 (fpos (chunkAlive S) (T, ro) k l b).2,
        e ∈ subs tT T ro := by
  intro k
  induction k with
  | zero =>
    intro l b t hl hb ht
    simp only [Nat.pow_zero, Nat.div_one] at hb
    have : l = T := by omega
    subst this; subst hb
    exact ⟨t, ht, fun e he => by simpa [fpos] using he⟩
  | succ k ih =>
    intro l b t hl hb ht
    have hb' : b / 2 / 2 ^ k = ro := by
      rw [Nat.div_div_eq_div_mul, ← Nat.pow_succ']; exact hb
    rcases chunk_parent S l b ht with ⟨hdead, hpar⟩ | ⟨hal, s, hpar⟩
    · obtain ⟨tT, h1, h2⟩ := ih (l + 1) (b / 2) t (by omega) hb' hpar
      rw [fpos_succ_dead hdead]
      exact ⟨tT, h1, h2⟩
    · obtain ⟨tT, h1, h2⟩ := ih (l + 1) (b / 2) _ (by omega) hb' hpar
      rw [fpos_succ_alive hal]
      refine ⟨tT, h1, fun e he => h2 e ?_⟩
      by_cases hodd : b % 2 = 0
      · rw [hodd] at he
        rw [if_pos hodd]
        exact mem_subs_left he
      · rw [show b % 2 = 1 by omega] at he
        rw [if_neg hodd]
        exact mem_subs_right he

theorem tree_eq_chunk (S : List (Option H)) (T : Nat) :
    collapse T (((Forest.mk S).slots.drop (treeStart (Forest.mk S).numLeaves T)).take (2 ^ T)) =
      chunk S T (2 * (S.length / 2 ^ (T + 1))) := by
  simp only [Forest.numLeaves]
  rw [collapse_take_self, Spec.treeStart_eq]
  unfold chunk
  congr 2
  rw [Nat.pow_succ]; ac_rfl

theorem rootPos_eq (n T : Nat) : rootPos n T = (T, 2 * (n / 2 ^ (T + 1))) := by
  simp only [rootPos, Nat.shiftRight_eq_div_pow]

theorem subAtT_of_chunk_mem (S : List (Option H)) {T l b : Nat} {t : CTree H}
    (hT : T ∈ treeRows S.length) (hin : Spec.inTree S.length T l b) (ht : chunk S l b = some t) :
    SubAtT (Forest.mk S) T (nodePos S T l b) t := by
  obtain ⟨_, h2, h3⟩ := hin
  obtain ⟨tT, hT1, hT2⟩ := chunk_subs_sub S T (2 * (S.length / 2 ^ (T + 1))) (T - l) l b t
    (by omega) h3 ht
  have hmem := hT2 _ (subs_head t _ _)
  refine SubAtT.of_tree (t0 := tT) hT ?_ ?_
  · rw [tree_eq_chunk]; exact hT1
  · rw [rootPos_eq]
    exact hmem

theorem subAtT_of_chunk (S : List (Option H)) (hS : S.length < 2 ^ 64) {T l b : Nat} {t : CTree H}
    (hin : Spec.inTree S.length T l b) (ht : chunk S l b = some t) :
    SubAtT (Forest.mk S) T (nodePos S T l b) t :=
  subAtT_of_chunk_mem S (SpecView.treeRows_mem_of_bit hS hin.1) hin ht

theorem chunk_zero_leaf (S : List (Option H)) {B : Nat} {t : CTree H} (ht : chunk S 0 B = some t) :
    ∃ h, t = .leaf h := by
  rw [chunk_zero] at ht
  split at ht
  · injection ht with e; exact ⟨_, e.symm⟩
  · cases ht

theorem chunk_subs_surj (S : List (Option H)) : ∀ (L B : Nat) (t : CTree H),
    chunk S L B = some t → ∀ top : Pos, ∀ e ∈ subs t top.1 top.2,
      ∃ l b k, l + k = L ∧ b / 2 ^ k = B ∧ chunk S l b = some e.2 ∧
        e.1 = fpos (chunkAlive S) top k l b ∧ (k = 0 ∨ chunkAlive S l (sibIdx b) = true) := by
  intro L
  induction L with
  | zero =>
    intro B t ht top e he
    obtain ⟨h, rfl⟩ := chunk_zero_leaf S ht
    simp only [subs, List.mem_singleton] at he
    subst he
    exact ⟨0, B, 0, rfl, by simp, ht, by simp [fpos], Or.inl rfl⟩
  | succ L ih =>
    intro B t ht top e he
    have hsucc := chunk_succ S L B
    rw [ht] at hsucc
    -- a witness inside the half `c` lifts to the chunk; the root of a half whose sibling is dead is
    -- the root of the chunk itself
    have lift : ∀ (c : Nat) (tc : CTree H), c / 2 = B → chunk S L c = some tc →
        (chunkAlive S L (sibIdx c) = false → t = tc) →
        ∀ e ∈ subs tc (childTop (chunkAlive S) top L c).1 (childTop (chunkAlive S) top L c).2,
        ∃ l b k, l + k = L + 1 ∧ b / 2 ^ k = B ∧ chunk S l b = some e.2 ∧
          e.1 = fpos (chunkAlive S) top k l b ∧ (k = 0 ∨ chunkAlive S l (sibIdx b) = true) := by
      intro c tc hc htc hdead e he
      obtain ⟨l, b, k, h1, h2, h3, h4, h5⟩ := ih c tc htc _ e he
      by_cases hk : k = 0 ∧ chunkAlive S L (sibIdx c) = false
      · obtain ⟨rfl, hd⟩ := hk
        simp only [Nat.pow_zero, Nat.div_one, Nat.add_zero] at h1 h2
        subst h1; subst h2
        rw [htc, ← hdead hd] at h3
        refine ⟨l + 1, B, 0, rfl, by simp, by rw [ht, h3], ?_, Or.inl rfl⟩
        rw [h4]
        simp [fpos, childTop, hd]
      · refine ⟨l, b, k + 1, by omega, by rw [Proofs.half_pow, h2, hc], h3, ?_, Or.inr ?_⟩
        · rw [h4, fpos_top, h1, h2]
        · rcases h5 with rfl | h5
          · simp only [Nat.pow_zero, Nat.div_one, Nat.add_zero] at h1 h2
            subst h1; subst h2
            cases hal : chunkAlive S l (sibIdx b) with
            | true => rfl
            | false => exact absurd ⟨rfl, hal⟩ hk
          · exact h5
    have hA : chunkAlive S L (2 * B) = (chunk S L (2 * B)).isSome := rfl
    have hB : chunkAlive S L (2 * B + 1) = (chunk S L (2 * B + 1)).isSome := rfl
    cases ha : chunk S L (2 * B) with
    | none =>
      cases hb : chunk S L (2 * B + 1) with
      | none => rw [ha, hb] at hsucc; cases hsucc
      | some b' =>
        rw [ha, hb] at hsucc
        cases hsucc
        refine lift (2 * B + 1) t (by omega) hb (fun _ => rfl) e ?_
        rw [childTop, sibIdx_odd, hA, ha]
        exact he
    | some a' =>
      cases hb : chunk S L (2 * B + 1) with
      | none =>
        rw [ha, hb] at hsucc
        cases hsucc
        refine lift (2 * B) t (by omega) ha (fun _ => rfl) e ?_
        rw [childTop, sibIdx_even, hB, hb]
        exact he
      | some b' =>
        rw [ha, hb] at hsucc
        cases hsucc
        simp only [subs, List.mem_cons, List.mem_append] at he
        rcases he with rfl | he | he
        · exact ⟨L + 1, B, 0, rfl, by simp, ht, by simp [fpos], Or.inl rfl⟩
        · refine lift (2 * B) a' (by omega) ha (fun h => ?_) e ?_
          · rw [sibIdx_even, hB, hb] at h; cases h
          · rw [childTop, sibIdx_even, hB, hb]
            simpa using he
        · refine lift (2 * B + 1) b' (by omega) hb (fun h => ?_) e ?_
          · rw [sibIdx_odd, hA, ha] at h; cases h
          · rw [childTop, sibIdx_odd, hA, ha]
            simpa using he

/-- unlike `subAtT_of_chunk` no bound on `S.length` is needed: `SubAtT` already says that row `T`
is a tree row -/
theorem chunk_of_subAtT' (S : List (Option H)) {T : Nat} {q : Pos}
    {s : CTree H} (sq : SubAtT (Forest.mk S) T q s) :
    ∃ l b, Spec.inTree S.length T l b ∧ chunk S l b = some s ∧ q = nodePos S T l b ∧
      (l = T ∨ (l < T ∧ chunkAlive S l (sibIdx b) = true)) := by
  obtain ⟨t0, ht0, _, hm⟩ := sq.tree
  rw [tree_eq_chunk] at ht0
  rw [rootPos_eq] at hm
  obtain ⟨l, b, k, h1, h2, h3, h4, h5⟩ :=
    chunk_subs_surj S T _ t0 ht0 (T, 2 * (S.length / 2 ^ (T + 1))) (q, s) hm
  have hk : T - l = k := by omega
  refine ⟨l, b, ⟨sq.bit, by omega, by rw [hk]; exact h2⟩, h3, ?_, ?_⟩
  · unfold nodePos; rw [hk]; exact h4
  · rcases h5 with h5 | h5
    · left; omega
    · by_cases hk0 : k = 0
      · left; omega
      · right; exact ⟨by omega, h5⟩

theorem chunk_leaves_iff (S : List (Option H)) {l b : Nat} {t : CTree H} (ht : chunk S l b = some t)
    (x : H) : x ∈ t.leaves ↔ ∃ i, b * 2 ^ l ≤ i ∧ i < (b + 1) * 2 ^ l ∧ S[i]? = some (some x) := by
  rw [← mem_optLeaves_chunk, ht]; rfl

theorem chunk_leaf_slot (S : List (Option H)) {l b : Nat} {t : CTree H} {x : H}
    (ht : chunk S l b = some t) (hx : x ∈ t.leaves) :
    ∃ i, b * 2 ^ l ≤ i ∧ i < (b + 1) * 2 ^ l ∧ S[i]? = some (some x) :=
  (chunk_leaves_iff S ht x).1 hx

theorem chunk_slot_leaf (S : List (Option H)) {l b i : Nat} {x : H}
    (h1 : b * 2 ^ l ≤ i) (h2 : i < (b + 1) * 2 ^ l) (hx : S[i]? = some (some x)) :
    ∃ t, chunk S l b = some t ∧ x ∈ t.leaves := by
  have hm := (mem_optLeaves_chunk S l b x).2 ⟨i, h1, h2, hx⟩
  cases hc : chunk S l b with
  | none => rw [hc] at hm; cases hm
  | some t => rw [hc] at hm; exact ⟨t, rfl, hm⟩

theorem mul_pow_div_pow {b l T : Nat} (h : l ≤ T) : b * 2 ^ l / 2 ^ T = b / 2 ^ (T - l) := by
  rw [two_pow_split h, Nat.mul_div_mul_right _ _ (Nat.two_pow_pos l)]

theorem inTree_iff_slot {N T l b : Nat} (hl : l ≤ T) :
    Spec.inTree N T l b ↔ Spec.inTree N T 0 (b * 2 ^ l) := by
  unfold Spec.inTree
  rw [Nat.sub_zero, mul_pow_div_pow hl]
  constructor
  · rintro ⟨h1, _, h3⟩; exact ⟨h1, Nat.zero_le _, h3⟩
  · rintro ⟨h1, _, h3⟩; exact ⟨h1, hl, h3⟩

theorem exists_tree_of_chunk {N l b : Nat} (h : (b + 1) * 2 ^ l ≤ N) : ∃ T, Spec.inTree N T l b := by
  obtain ⟨T, h1, h2, h3⟩ := below_root_iff.1 h
  exact ⟨T, h2, h1, by rw [← Nat.shiftRight_eq_div_pow N]; exact h3⟩

theorem inTree_chunk_unique {N T T' l b : Nat} (h : Spec.inTree N T l b)
    (h' : Spec.inTree N T' l b) : T = T' :=
  inTree_unique ((inTree_iff_slot h.2.1).1 h) ((inTree_iff_slot h'.2.1).1 h')

theorem subAtT_iff_chunk (S : List (Option H)) (hS : S.length < 2 ^ 64) {T : Nat} {q : Pos}
    {s : CTree H} :
    SubAtT (Forest.mk S) T q s ↔
      ∃ l b, Spec.inTree S.length T l b ∧ chunk S l b = some s ∧ q = nodePos S T l b := by
  constructor
  · intro sq
    obtain ⟨l, b, h1, h2, h3, _⟩ := chunk_of_subAtT' S sq
    exact ⟨l, b, h1, h2, h3⟩
  · rintro ⟨l, b, h1, h2, h3⟩
    rw [h3]
    exact subAtT_of_chunk S hS h1 h2

theorem subAtT_leaves_slots (S : List (Option H)) {T : Nat} {q : Pos} {s : CTree H}
    (sq : SubAtT (Forest.mk S) T q s) :
    ∃ l b, Spec.inTree S.length T l b ∧ q = nodePos S T l b ∧
      ∀ x, x ∈ s.leaves ↔ ∃ i, b * 2 ^ l ≤ i ∧ i < (b + 1) * 2 ^ l ∧ S[i]? = some (some x) := by
  obtain ⟨l, b, h1, h2, h3, _⟩ := chunk_of_subAtT' S sq
  exact ⟨l, b, h1, h3, chunk_leaves_iff S h2⟩

section Example

private instance exHasher : Hasher Nat := ⟨fun a b => 100 * a + b, 0⟩

/-- five slots, slot 1 dead: the tree on row 2 is `node (leaf 1) (node (leaf 3) (leaf 4))`, the
tree on row 0 is `leaf 5` -/
private def exS : List (Option Nat) := [some 1, none, some 3, some 4, some 5]

private theorem exIn : Spec.inTree exS.length 2 1 0 := by unfold Spec.inTree; decide
private theorem exChunk : chunk exS 1 0 = some (.leaf 1) := by decide

/-- `chunk_subs_sub`: chunk `(1, 0)` (slots 0, 1 → `leaf 1`) inside chunk `(2, 0)` -/
example : ∃ tT, chunk exS 2 0 = some tT ∧
    ∀ e ∈ subs (CTree.leaf 1) (fpos (chunkAlive exS) (2, 0) 1 1 0).1
        (fpos (chunkAlive exS) (2, 0) 1 1 0).2, e ∈ subs tT 2 0 :=
  chunk_subs_sub exS 2 0 1 1 0 (.leaf 1) rfl (by decide) exChunk

/-- `subAtT_of_chunk`: the lone survivor of chunk `(1, 0)` sits at `(1, 0)` -/
example : SubAtT (Forest.mk exS) 2 (1, 0) (.leaf 1) := by
  have := subAtT_of_chunk exS (by decide) exIn exChunk
  have e : nodePos exS 2 1 0 = (1, 0) := by decide
  rwa [e] at this

example : ∃ l b, Spec.inTree exS.length 2 l b ∧ chunk exS l b = some (.leaf 1) ∧
    (1, 0) = nodePos exS 2 l b ∧ (l = 2 ∨ (l < 2 ∧ chunkAlive exS l (sibIdx b) = true)) := by
  have h := subAtT_of_chunk exS (by decide) exIn exChunk
  have e : nodePos exS 2 1 0 = (1, 0) := by decide
  rw [e] at h
  exact chunk_of_subAtT' exS h

example : ∃ i, 1 * 2 ^ 1 ≤ i ∧ i < (1 + 1) * 2 ^ 1 ∧ exS[i]? = some (some 4) :=
  chunk_leaf_slot exS (l := 1) (b := 1) (t := .node (.leaf 3) (.leaf 4)) (by decide) (by decide)

example : ∃ t, chunk exS 1 1 = some t ∧ 4 ∈ t.leaves :=
  chunk_slot_leaf exS (i := 3) (by decide) (by decide) (by decide)

example : ∃ T, Spec.inTree 5 T 1 1 := exists_tree_of_chunk (by decide)
example (T : Nat) (h : Spec.inTree 5 T 1 1) : T = 2 :=
  inTree_chunk_unique h (by unfold Spec.inTree; decide)

end Example

end UtreexoVerif.Proofs.ChunkBridge
