/-
  The sorted-slice helpers of prove.go (`mergeHP`, `mergeU64`, `subtractBy`, `subsetHP`; sorting is in
  `Proofs/SortBy.lean`) as set / order operations, the two-slice merge `mergeHP2` on slices of equal
  length, and that the fuel of the `ProofPositions` model never stops its loops (`ppInner_fuel`,
  `ppOuter_fuel`).
-/
import UtreexoVerif.Model.ProofOps
import UtreexoVerif.Proofs.SortBy

namespace UtreexoVerif.Proofs.ProofOps
open Model

theorem u64_lt_of_lt_of_le {a b c : U64} (h1 : a < b) (h2 : b ≤ c) : a < c :=
  BitVec.lt_def.2 (Nat.lt_of_lt_of_le (BitVec.lt_def.1 h1) (BitVec.le_def.1 h2))
theorem u64_lt_of_le_of_lt {a b c : U64} (h1 : a ≤ b) (h2 : b < c) : a < c :=
  BitVec.lt_def.2 (Nat.lt_of_le_of_lt (BitVec.le_def.1 h1) (BitVec.lt_def.1 h2))
theorem u64_eq_of_not_lt {a b : U64} (h1 : ¬ a < b) (h2 : ¬ b < a) : a = b :=
  BitVec.le_antisymm (BitVec.not_lt.1 h2) (BitVec.not_lt.1 h1)

section sort
variable {α : Type} (key : α → U64)

theorem length_sortBy (l : List α) : (sortBy key l).length = l.length :=
  SortBy.length_sortBy key l

end sort

section hp
variable {H : Type}

theorem zip_positions (ts : List U64) (hs : List H) (h : ts.length = hs.length) :
    HP.positions (ts.zip hs) = ts := by
  unfold HP.positions
  rw [List.map_fst_zip]
  omega

theorem mergeHP_positions (a b : HP H) : (mergeHP a b).positions = mergeU64 a.positions b.positions := by
  fun_induction mergeHP a b with
  | case1 b => simp [mergeU64, HP.positions]
  | case2 a hne =>
    cases a with
    | nil => simp [mergeU64, HP.positions]
    | cons x xs => simp [mergeU64, HP.positions]
  | case3 x xs y ys hlt ih =>
    simp only [HP.positions, List.map_cons] at ih ⊢
    rw [mergeU64]; simp [hlt, ih]
  | case4 x xs y ys hnlt hlt ih =>
    simp only [HP.positions, List.map_cons] at ih ⊢
    rw [mergeU64]; simp [hnlt, hlt, ih]
  | case5 x xs y ys hnlt1 hnlt2 ih =>
    simp only [HP.positions, List.map_cons] at ih ⊢
    rw [mergeU64]; simp [hnlt1, hnlt2, ih]

/-- one direction only: on equal positions the element of `b` is dropped; for strictly sorted sides the iff is
`ProofUpdateLists.mem_mergeHP_iff` -/
theorem mem_mergeHP (a b : HP H) (z : U64 × H) : z ∈ mergeHP a b → z ∈ a ∨ z ∈ b := by
  fun_induction mergeHP a b with
  | case1 b => intro h; exact Or.inr h
  | case2 a _ => intro h; exact Or.inl h
  | case3 x xs y ys _ ih =>
    intro h
    rcases List.mem_cons.mp h with rfl | h
    · simp
    · rcases ih h with h | h
      · exact Or.inl (List.mem_cons_of_mem _ h)
      · exact Or.inr h
  | case4 x xs y ys _ _ ih =>
    intro h
    rcases List.mem_cons.mp h with rfl | h
    · simp
    · rcases ih h with h | h
      · exact Or.inl h
      · exact Or.inr (List.mem_cons_of_mem _ h)
  | case5 x xs y ys _ _ ih =>
    intro h
    rcases List.mem_cons.mp h with rfl | h
    · simp
    · rcases ih h with h | h
      · exact Or.inl (List.mem_cons_of_mem _ h)
      · exact Or.inr (List.mem_cons_of_mem _ h)

end hp

theorem mem_mergeU64 (a b : List U64) (z : U64) : z ∈ mergeU64 a b ↔ z ∈ a ∨ z ∈ b := by
  fun_induction mergeU64 a b with
  | case1 b => simp
  | case2 a _ => simp
  | case3 x xs y ys _ ih => simp only [List.mem_cons, ih]; grind
  | case4 x xs y ys _ _ ih => simp only [List.mem_cons, ih]; grind
  | case5 x xs y ys h1 h2 ih =>
    have : x = y := u64_eq_of_not_lt h1 h2
    subst this
    simp only [List.mem_cons, ih]; grind

/-- `mergeU64` keeps any order `R` that `<` implies and that absorbs a `<` on the left
(`<` itself, `≤`): a head is put in front only of elements it is `<`-below or `R`-below. -/
theorem pairwise_mergeU64 {R : U64 → U64 → Prop} (hlt : ∀ {x y : U64}, x < y → R x y)
    (htr : ∀ {x y z : U64}, x < y → R y z → R x z) (a b : List U64)
    (ha : a.Pairwise R) (hb : b.Pairwise R) : (mergeU64 a b).Pairwise R := by
  fun_induction mergeU64 a b with
  | case1 b => exact hb
  | case2 a _ => exact ha
  | case3 x xs y ys hxy ih =>
    rw [List.pairwise_cons] at ha
    refine List.pairwise_cons.mpr ⟨?_, ih ha.2 hb⟩
    intro z hz
    rcases (mem_mergeU64 _ _ z).mp hz with hz | hz
    · exact ha.1 z hz
    · rcases List.mem_cons.mp hz with rfl | hz
      · exact hlt hxy
      · exact htr hxy ((List.pairwise_cons.mp hb).1 z hz)
  | case4 x xs y ys hnlt hyx ih =>
    rw [List.pairwise_cons] at hb
    refine List.pairwise_cons.mpr ⟨?_, ih ha hb.2⟩
    intro z hz
    rcases (mem_mergeU64 _ _ z).mp hz with hz | hz
    · rcases List.mem_cons.mp hz with rfl | hz
      · exact hlt hyx
      · exact htr hyx ((List.pairwise_cons.mp ha).1 z hz)
    · exact hb.1 z hz
  | case5 x xs y ys h1 h2 ih =>
    have : x = y := u64_eq_of_not_lt h1 h2
    subst this
    rw [List.pairwise_cons] at ha hb
    refine List.pairwise_cons.mpr ⟨?_, ih ha.2 hb.2⟩
    intro z hz
    rcases (mem_mergeU64 _ _ z).mp hz with hz | hz
    · exact ha.1 z hz
    · exact hb.1 z hz

theorem strict_mergeU64 (a b : List U64) (ha : a.Pairwise (· < ·)) (hb : b.Pairwise (· < ·)) :
    (mergeU64 a b).Pairwise (· < ·) :=
  pairwise_mergeU64 id BitVec.lt_trans a b ha hb

theorem sorted_mergeU64 (a b : List U64) (ha : a.Pairwise (· ≤ ·)) (hb : b.Pairwise (· ≤ ·)) :
    (mergeU64 a b).Pairwise (· ≤ ·) :=
  pairwise_mergeU64 BitVec.le_of_lt (fun h => BitVec.le_trans (BitVec.le_of_lt h)) a b ha hb

section subtract
variable {α : Type} (key : α → U64)

theorem subtractBy_sublist (a : List α) (b : List U64) : (subtractBy key a b).Sublist a := by
  fun_induction subtractBy key a b with
  | case1 b => exact List.Sublist.refl _
  | case2 a _ => exact List.Sublist.refl _
  | case3 x xs ys ih => exact ih.cons x
  | case4 x xs y ys _ _ ih => exact ih.cons_cons x
  | case5 x xs y ys _ _ ih => exact ih

theorem mem_subtractBy_of_not_mem (a : List α) (b : List U64) (w : α) (hw : w ∈ a) (hb : key w ∉ b) :
    w ∈ subtractBy key a b := by
  fun_induction subtractBy key a b with
  | case1 b => exact hw
  | case2 a _ => exact hw
  | case3 x xs ys ih =>
    rcases List.mem_cons.mp hw with rfl | hw
    · exact absurd (by simp) hb
    · exact ih hw (fun h => hb (List.mem_cons_of_mem _ h))
  | case4 x xs y ys _ _ ih =>
    rcases List.mem_cons.mp hw with rfl | hw
    · simp
    · exact List.mem_cons_of_mem _ (ih hw hb)
  | case5 x xs y ys _ _ ih => exact ih hw (fun h => hb (List.mem_cons_of_mem _ h))

theorem mem_subtractBy_iff (a : List α) (b : List U64)
    (ha : a.Pairwise (fun x y => key x < key y)) (hb : b.Pairwise (· ≤ ·)) (w : α) :
    w ∈ subtractBy key a b ↔ w ∈ a ∧ key w ∉ b := by
  fun_induction subtractBy key a b with
  | case1 b => simp
  | case2 a _ => simp
  | case3 x xs ys ih =>
    rw [List.pairwise_cons] at ha hb
    rw [ih ha.2 hb.2]
    constructor
    · rintro ⟨h1, h2⟩
      refine ⟨List.mem_cons_of_mem _ h1, ?_⟩
      intro h
      rcases List.mem_cons.mp h with h | h
      · have := ha.1 w h1
        rw [h] at this
        exact BitVec.lt_irrefl _ this
      · exact h2 h
    · rintro ⟨h1, h2⟩
      rcases List.mem_cons.mp h1 with rfl | h1
      · exact absurd (by simp) h2
      · exact ⟨h1, fun h => h2 (List.mem_cons_of_mem _ h)⟩
  | case4 x xs y ys hne hlt ih =>
    rw [List.pairwise_cons] at ha
    simp only [List.mem_cons, ih ha.2 hb]
    constructor
    · rintro (rfl | ⟨h1, h2⟩)
      · refine ⟨Or.inl rfl, ?_⟩
        intro h
        rcases h with h | h
        · exact hne h
        · -- key w < y ≤ key w
          have := (List.pairwise_cons.mp hb).1 _ h
          bv_omega
      · exact ⟨Or.inr h1, h2⟩
    · rintro ⟨h1 | h1, h2⟩
      · exact Or.inl h1
      · exact Or.inr ⟨h1, h2⟩
  | case5 x xs y ys hne hnlt ih =>
    rw [List.pairwise_cons] at hb
    rw [ih ha hb.2]
    constructor
    · rintro ⟨h1, h2⟩
      refine ⟨h1, ?_⟩
      intro h
      rcases List.mem_cons.mp h with h | h
      · -- key w = y < key x ≤ key w
        rcases List.mem_cons.mp h1 with rfl | h1
        · exact hne h
        · have := (List.pairwise_cons.mp ha).1 w h1
          bv_omega
      · exact h2 h
    · rintro ⟨h1, h2⟩
      exact ⟨h1, fun h => h2 (List.mem_cons_of_mem _ h)⟩

end subtract

theorem subtractU64_sublist (a b : List U64) : (subtractU64 a b).Sublist a := subtractBy_sublist id a b

theorem mem_subtractU64_iff (a b : List U64) (ha : a.Pairwise (· < ·)) (hb : b.Pairwise (· ≤ ·)) (w : U64) :
    w ∈ subtractU64 a b ↔ w ∈ a ∧ w ∉ b := mem_subtractBy_iff id a b ha hb w

theorem subtractU64_eq_nil (a b : List U64) (ha : a.Pairwise (· < ·)) (hb : b.Pairwise (· ≤ ·))
    (hsub : ∀ w ∈ a, w ∈ b) : subtractU64 a b = [] := by
  apply List.eq_nil_iff_forall_not_mem.mpr
  intro w hw
  have := (mem_subtractU64_iff a b ha hb w).mp hw
  exact this.2 (hsub w this.1)

theorem subtractU64_ne_nil (a b : List U64) (w : U64) (hw : w ∈ a) (hb : w ∉ b) : subtractU64 a b ≠ [] := by
  intro h
  have := mem_subtractBy_of_not_mem id a b w hw hb
  unfold subtractU64 at h
  rw [h] at this
  simp at this

section subset
variable {H : Type}

theorem subsetHP_sublist (a : HP H) (b : List U64) : (subsetHP a b).Sublist a := by
  fun_induction subsetHP a b with
  | case1 b => exact List.Sublist.refl _
  | case2 a _ => exact List.nil_sublist _
  | case3 x xs ys ih => exact ih.cons_cons x
  | case4 x xs y ys _ _ ih => exact ih
  | case5 x xs y ys _ _ ih => exact ih.cons x

/-- When `GetProofSubset`'s coverage check passes (nothing of `b` is left after the positions of `a` are
subtracted), its extraction returns an entry for every position of `b`, in order.  No sortedness is asked: check
and extraction walk the two lists in lock step. -/
theorem subsetHP_positions_of_subtract_nil (a : HP H) (b : List U64)
    (h : subtractU64 b a.positions = []) : (subsetHP a b).positions = b := by
  unfold subtractU64 at h
  fun_induction subsetHP a b with
  | case1 b =>
    cases b with
    | nil => rfl
    | cons y ys => simp [subtractBy, HP.positions] at h
  | case2 a _ => rfl
  | case3 x xs ys ih =>
    simp only [HP.positions, List.map_cons] at h ih ⊢
    rw [subtractBy] at h
    simp only [id, if_true] at h
    rw [ih h]
  | case4 x xs y ys hne hlt ih =>
    simp only [HP.positions, List.map_cons] at h
    rw [subtractBy] at h
    have h1 : ¬ (y = x.1) := fun e => hne e.symm
    simp [h1, hlt] at h
  | case5 x xs y ys hne hnlt ih =>
    simp only [HP.positions, List.map_cons] at h ih ⊢
    rw [subtractBy] at h
    have h1 : ¬ (y = x.1) := fun e => hne e.symm
    simp only [id, h1, if_false, hnlt] at h
    exact ih h

end subset


section merge2
variable {H : Type}

variable [DecidableEq H] [Hasher H]

omit [Hasher H] in
/-- With hash slices as long as their position slices no step reads out of range (no `.panic` branch), so `debt`
stays 0 (it is a variable with `hd : debt = 0` so that `fun_induction` can generalise it), and as `room` is at
least what is left of both sides the final `take` is the identity: the loop computes `mergeHP` of the zipped
slices. -/
theorem mergeHP2Go_consistent (pa : List U64) (ha : List H) (pb : List U64) (hb : List H) (debt room : Nat)
    (hd : debt = 0) (hla : ha.length = pa.length) (hlb : hb.length = pb.length)
    (hroom : pa.length + pb.length ≤ room) :
    mergeHP2Go pa ha pb hb debt room = .ok (mergeHP (pa.zip ha) (pb.zip hb)) := by
  fun_induction mergeHP2Go pa ha pb hb debt room with
  | case1 x pb hb debt room hpos => omega
  | case2 x pb hb debt room _ =>
    rename_i nh
    have hmin : nh = pb.length := by show min room hb.length = _; simp at hroom; omega
    rw [hmin]
    rw [List.take_left' rfl]
    have : List.take pb.length hb = hb := by rw [← hlb]; simp
    rw [this, List.zip_nil_left, Sorted.mergeHP_nil_left]
  | case3 va pa ha x debt room =>
    have hx : x = [] := by simpa using hlb
    subst hx
    rename_i nh
    have hmin : nh = (va :: pa).length := by show min room ha.length = _; simp at hroom hla ⊢; omega
    rw [hmin]
    rw [List.take_left' rfl]
    have : List.take (va :: pa).length ha = ha := by rw [← hla]; simp
    rw [this, List.zip_nil_left, Sorted.mergeHP_nil_right]
  | case4 va pa vb pb hb debt room hlt h ha' ih =>
    have := ih hd (by simpa using hla) hlb (by simp at hroom ⊢; omega)
    rw [this]
    simp only [Out.bind, List.zip_cons_cons]
    cases hb with
    | nil => simp at hlb
    | cons hb0 hbs =>
      simp only [List.zip_cons_cons]
      conv => rhs; rw [mergeHP]
      simp [hlt]
  | case5 va pa vb pb hb debt room _ => simp at hla
  | case6 va pa ha vb pb hb debt room _ _ hpos => omega
  | case7 va pa ha vb pb debt room hnlt hlt _ h hb' ih =>
    have := ih rfl hla (by simpa using hlb) (by simp at hroom ⊢; omega)
    rw [this]
    simp only [Out.bind]
    cases ha with
    | nil => simp at hla
    | cons ha0 has =>
      simp only [List.zip_cons_cons]
      conv => rhs; rw [mergeHP]
      simp [hnlt, hlt]
  | case8 va pa ha vb pb debt room _ _ _ => simp at hlb
  | case9 va pa vb pb hb debt room hnlt1 hnlt2 h ha' ih =>
    cases hb with
    | nil => simp at hlb
    | cons hb0 hbs =>
      have := ih (by simp [hd]) (by simpa using hla) (by simpa using hlb) (by simp at hroom ⊢; omega)
      simp only [List.isEmpty_cons, Bool.false_eq_true, dite_false, ite_false, List.tail_cons] at this ⊢
      rw [this]
      simp only [Out.bind, List.zip_cons_cons]
      conv => rhs; rw [mergeHP]
      simp [hnlt1, hnlt2]
  | case10 va pa vb pb hb debt room _ _ => simp at hla

theorem mergeHP2_consistent (pa : List U64) (ha : List H) (pb : List U64) (hb : List H)
    (hla : ha.length = pa.length) (hlb : hb.length = pb.length) :
    mergeHP2 pa ha pb hb = .ok (mergeHP (pa.zip ha) (pb.zip hb)) := by
  unfold mergeHP2
  split
  · rename_i he
    have hpa : pa = [] := by simpa using he
    subst hpa
    have : ha = [] := by simpa using hla
    subst this
    rw [List.take_left' hlb]
    simp [Sorted.mergeHP_nil_left]
  · split
    · rename_i _ he
      have hpb : pb = [] := by simpa using he
      subst hpb
      have : hb = [] := by simpa using hlb
      subst this
      rw [List.take_left' hla]
      simp [Sorted.mergeHP_nil_right]
    · exact mergeHP2Go_consistent pa ha pb hb 0 _ rfl hla hlb (Nat.le_refl _)

end merge2


section subtractPos
variable {α : Type} (key : α → U64)

theorem map_subtractBy (a : List α) (b : List U64) :
    (subtractBy key a b).map key = subtractBy id (a.map key) b := by
  fun_induction subtractBy key a b with
  | case1 b => simp [subtractBy]
  | case2 a hne =>
    cases a with
    | nil => exact absurd rfl hne
    | cons x xs => simp [subtractBy]
  | case3 x xs ys ih =>
    simp only [List.map_cons]
    rw [subtractBy]
    simp [ih]
  | case4 x xs y ys hne hlt ih =>
    simp only [List.map_cons]
    rw [subtractBy]
    simp [hne, hlt, ih]
  | case5 x xs y ys hne hnlt ih =>
    simp only [List.map_cons] at ih ⊢
    rw [subtractBy]
    simp [hne, hnlt, ih]

end subtractPos

theorem subtractHP_positions {H : Type} (a : HP H) (b : List U64) :
    (subtractHP a b).positions = subtractU64 a.positions b := by
  unfold subtractHP subtractU64 HP.positions
  exact map_subtractBy (·.1) a b


/-! ### the fuel of the `ProofPositions` model is never what stops its loops

`GetMissingPositions`, `AddProof`, `GetProofSubset` contain no loop of their own besides the
merges/subtractions (structural) and `ProofPositions`, whose model runs on fuel.  The inner
loop advances `i` over a slice of fixed length and the outer loop advances `row` up to
`totalRows`; with the fuel the model gives them (`len + 1`, `totalRows + 1`) one more unit of
fuel changes nothing, i.e. the loops end by their own exit conditions (for `totalRows < 255`;
at `totalRows = 255` the Go loop `for row := uint8(0); row <= totalRows; row++` never ends —
unreachable from the C14 functions, which pass `TreeRows(numLeaves) ≤ 64`). -/

theorem ppInner_fuel (n : U64) (tr row : U8) : ∀ (fuel i : Nat) (s : PPSt), s.targets.length + 1 ≤ fuel + i →
    ppInner n tr row fuel i s = ppInner n tr row (fuel+1) i s := by
  intro fuel i s
  fun_induction ppInner n tr row fuel i s with
  | case1 i s =>
    intro h
    have : s.targets[i]? = none := by
      apply List.getElem?_eq_none
      omega
    simp [ppInner, this]
  | case2 fuel i s ht =>
    intro _
    rw [ppInner.eq_2, ht]
  | case3 fuel i s target ht h1 ih =>
    intro h
    rw [ppInner.eq_2 (fuel := fuel + 1), ht]
    simp only [h1, if_true]
    exact ih (by omega)
  | case4 fuel i s target ht h1 h2 ih =>
    intro h
    rw [ppInner.eq_2 (fuel := fuel + 1), ht]
    simp only [h1, h2, if_true, if_false]
    exact ih (by omega)
  | case5 fuel i s target ht h1 h2 h3 ih =>
    intro h
    rw [ppInner.eq_2 (fuel := fuel + 1), ht]
    simp only [h1, h2, h3, if_true, if_false]
    exact ih (by omega)
  | case6 fuel i s target ht h1 h2 h3 par nxt hn h4 ih =>
    intro h
    rw [ppInner.eq_2 (fuel := fuel + 1), ht]
    simp only [h1, h2, h3, hn, h4, if_true, if_false]
    exact ih (by simp; omega)
  | case7 fuel i s target ht h1 h2 h3 par nxt hn h4 ih =>
    intro h
    rw [ppInner.eq_2 (fuel := fuel + 1), ht]
    simp only [h1, h2, h3, hn, h4, if_false]
    exact ih (by simp; omega)
  | case8 fuel i s target ht h1 h2 h3 par hn ih =>
    intro h
    rw [ppInner.eq_2 (fuel := fuel + 1), ht]
    simp only [h1, h2, h3, hn, if_false]
    exact ih (by simp; omega)


theorem ppOuter_fuel (n : U64) (tr : U8) (htr : tr.toNat < 255) : ∀ (fuel : Nat) (row : U8) (s : PPSt),
    tr.toNat + 1 ≤ fuel + row.toNat →
    ppOuter n tr fuel row s = ppOuter n tr (fuel+1) row s := by
  intro fuel
  induction fuel with
  | zero =>
    intro row s h
    have : row > tr := by bv_omega
    simp [ppOuter, this]
  | succ fuel ih =>
    intro row s h
    rw [ppOuter, ppOuter.eq_2 (fuel := fuel + 1)]
    split
    · rfl
    · rename_i hle
      apply ih
      have : (row + 1).toNat = row.toNat + 1 := by bv_omega
      omega

end UtreexoVerif.Proofs.ProofOps
