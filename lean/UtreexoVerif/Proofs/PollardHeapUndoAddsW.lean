/-
  Pointer forest, heap model: the `undoSingleAdd` loop of `Undo` with a WEAK `NodeMap` clause.

  `undoSingleAdd` deletes the `NodeMap` key of every root it splits.  When a leaf added by the block
  happens to carry the hash of such a root (possible for an arbitrary `parentHash`), its entry
  disappears a little early — harmless, all the added leaves are removed anyway.  `AbsEW p G A`
  is `AbsE p G` with the `NodeMap` clause "`NodeMap` holds leaves only, and every leaf whose hash is
  not in `A` (the added leaves)", and one clause more: the leaves outside `A` are no parent hashes
  (the `hsep` of the exact route, kept inside the relation); so `undoAdds` needs no assumption on the
  added leaves.
-/
import UtreexoVerif.Proofs.PollardHeapUndoAdds
set_option linter.unusedSectionVars false

namespace UtreexoVerif.Proofs.PollardHeap
open UtreexoVerif.Model.PollardHeap UtreexoVerif.Spec Hasher

variable {H : Type} [DecidableEq H] [Hasher H]

/-- `p` represents `G` up to missing empty roots, `NodeMap` up to the leaves in `A` -/
structure AbsEW (p : Pollard H) (G : Forest H) (A : List H) : Prop where
  numLeaves : p.numLeaves.toNat = G.numLeaves
  repr : ∃ ts' owned lv, DropEmpty (G.trees.map (·.2)) ts' ∧
    ReprRoots p.heap p.roots ts' owned lv ∧ owned.Nodup ∧ (p.nodeMap.map (·.1)).Nodup ∧
    (lv.map (·.1)).Nodup ∧ (∀ e ∈ p.nodeMap, e ∈ lv) ∧ (∀ e ∈ lv, e.1 ∉ A → e ∈ p.nodeMap) ∧
    (∀ e ∈ lv, e.1 ∉ A → ∀ u v : H, e.1 ≠ ph u v)

theorem DropEmpty.leaves {a b : List (Option (CTree H))} (h : DropEmpty a b) :
    a.flatMap optLeaves = b.flatMap optLeaves := by
  induction h with
  | nil => rfl
  | keep t _ ih => simp [ih]
  | drop _ ih => simpa [optLeaves] using ih

theorem undoSingleAdd_absEW {p : Pollard H} {G : Forest H} {x : H} {A : List H}
    (a : AbsEW p (G.add x) A) (hxA : x ∈ A) (hn : G.numLeaves + 1 < 2 ^ 63) :
    ∃ hp' nm' rs', undoSingleAdd p =
        (.ok (), ⟨hp', nm', rs', BitVec.ofNat 64 G.numLeaves, p.numDels, p.full⟩) ∧
      AbsEW ⟨hp', nm', rs', BitVec.ofNat 64 G.numLeaves, p.numDels, p.full⟩ G A := by
  obtain ⟨hp, nm, rs, nl, ndl, full⟩ := p
  obtain ⟨hnl, ts', owned, lv, hdrop, hrepr, hnd, hmk, hlk, hmsub, hmsup, hsep⟩ := a
  simp only at hnl hrepr hmk hmsub hmsup
  obtain ⟨hp', rs', ts'', owned', lv', ks, Mx, hex, hdrop', hrepr', hnd', elv, hks⟩ :=
    undoSingleAdd_core nm ndl full hnl hdrop hrepr hnd hn
  subst elv
  refine ⟨hp', _, rs', hex, by simp [toNat_ofNat64_of_lt (Nat.lt_trans (Nat.lt_of_succ_lt hn) (by decide))],
    ts'', owned', lv', hdrop', hrepr', hnd', foldl_mapDel_keys_nodup _ _ hmk, ?_, ?_, ?_, ?_⟩
  ·
    exact hlk.sublist ((List.sublist_append_left lv' [(x, Mx)]).map _)
  ·
    intro e he
    rw [mem_foldl_mapDel] at he
    obtain ⟨h1, h2⟩ := he
    simp only [List.mem_append, List.mem_singleton, not_or] at h2
    rcases List.mem_append.1 (hmsub e h1) with h | h
    · exact h
    · rw [List.mem_singleton.1 h] at h2; exact absurd rfl h2.2
  ·
    intro e he heA
    have hmem : e ∈ lv' ++ [(x, Mx)] := List.mem_append_left _ he
    rw [mem_foldl_mapDel]
    refine ⟨hmsup e hmem heA, ?_⟩
    simp only [List.mem_append, List.mem_singleton, not_or]
    refine ⟨fun hk => ?_, fun h => heA (h ▸ hxA)⟩
    obtain ⟨u, v, huv⟩ := hks e.1 hk
    exact hsep e hmem heA u v huv
  · exact fun e he heA => hsep e (List.mem_append_left _ he) heA

theorem undoAdds_absEW {A : List H} : ∀ (k : Nat) (adds : List H) (G : Forest H) (p : Pollard H),
    adds.length = k → (∀ x ∈ adds, x ∈ A) → AbsEW p (G.addMany adds) A →
    G.numLeaves + adds.length < 2 ^ 63 →
    ∃ hp' nm' rs', undoAdds k p = (.ok (), ⟨hp', nm', rs', p.numLeaves - BitVec.ofNat 64 k,
        p.numDels, p.full⟩) ∧
      AbsEW ⟨hp', nm', rs', p.numLeaves - BitVec.ofNat 64 k, p.numDels, p.full⟩ G A := by
  intro k adds G p hk hA a hn
  exact undoAdds_iter (fun q G' => AbsEW q G' A) (· ∈ A) (fun _ _ h => h.numLeaves)
    (fun q G' x h hx hn' => undoSingleAdd_absEW h hx hn') k adds G p hk hA a hn

theorem Abs.toAbsEW {p : Pollard H} {G : Forest H} (a : Abs p G) (hn : G.numLeaves < 2 ^ 64) (A : List H)
    (hsep : ∀ x ∈ G.liveLeaves, x ∉ A → ∀ u v : H, x ≠ ph u v) : AbsEW p G A := by
  have ad := a.toAbsD
  obtain ⟨h1, owned, lv, h2, h3, h4, h5, h6⟩ := ad
  refine ⟨h1, _, owned, lv, DropEmpty.refl _, h2, h3, h4, h5, fun e he => ((h6 e).1 he).1,
    fun e he _ => (h6 e).2 ⟨he, by simp⟩, ?_⟩
  intro e he heA
  apply hsep e.1 _ heA
  rw [← h2.liveLeaves hn]
  exact List.mem_map_of_mem he

theorem AbsEW.toAbsE {p : Pollard H} {G : Forest H} {A : List H} (a : AbsEW p G A)
    (hn : G.numLeaves < 2 ^ 64) (hA : ∀ x ∈ G.liveLeaves, x ∉ A) : AbsE p G := by
  obtain ⟨h1, ts', owned, lv, hd, h2, h3, h4, h5, h6, h7, _⟩ := a
  refine ⟨h1, ts', owned, lv, hd, h2, h3, h4, fun e => ⟨h6 e, fun he => h7 e he ?_⟩⟩
  apply hA
  rw [← trees_leaves G hn, ← List.flatMap_map, hd.leaves, ← h2.leaves]
  exact List.mem_map_of_mem he

end UtreexoVerif.Proofs.PollardHeap
