/-
  `refPP` returns `Spec.Forest.proofPositions` and `Spec.Forest.computable`: the invariant at the last
  row, and the specification's own lists read through the paths of the targets.
-/
import UtreexoVerif.Proofs.ProofPosSem

namespace UtreexoVerif.Proofs
open Spec Spec.Forest

theorem PPInv.outer {n : Nat} {Tg : List Pos} (hyp : PPHyp0 n Tg) :
    ∀ (fuel ρ : Nat) (s : List Pos × List Pos × List Pos), PPInv n Tg ρ s →
      PPInv n Tg (ρ + fuel) (outerPos n fuel ρ s)
  | 0, _, _, h => h
  | fuel + 1, ρ, s, h => by
    rw [outerPos, show ρ + (fuel + 1) = (ρ + 1) + fuel by omega]
    exact PPInv.outer hyp fuel (ρ + 1) _ (h.step hyp)

theorem sortDedup_ssorted (l : List Pos) : SSorted (sortDedup l) :=
  (Sorted.sortDedup_sorted l).imp PLt_iff.2


theorem belowRoot_le_forestRows {n r o R : Nat} (hb : BelowRoot n r o R) : R ≤ forestRows n :=
  (Props.C16.rootPos_valid (forestRows_spec_le n) hb.2.1).1

section
variable {H : Type} (F : Forest H) {Tg : List Pos}

theorem mem_paths_of (hin : ∀ t ∈ Tg, ∃ R, BelowRoot F.numLeaves t.1 t.2 R) (p : Pos) :
    p ∈ sortDedup (Tg.flatMap (pathUp F.numLeaves (F.rows + 1))) ↔ InP F.numLeaves Tg p := by
  rw [Sorted.mem_sortDedup, List.mem_flatMap]
  constructor
  · rintro ⟨t, ht, hp⟩
    obtain ⟨R, hb⟩ := hin t ht
    have hR := belowRoot_le_forestRows hb
    have := (mem_pathUp (R - t.1) t.1 t.2 (F.rows + 1) hb (by have := hb.1; omega)
      (by unfold Forest.rows; omega) p).1 hp
    exact ⟨t, ht, R, hb, this.1, this.2⟩
  · rintro ⟨t, ht, R, hb, ha, hp⟩
    have hR := belowRoot_le_forestRows hb
    exact ⟨t, ht, (mem_pathUp (R - t.1) t.1 t.2 (F.rows + 1) hb (by have := hb.1; omega)
      (by unfold Forest.rows; omega) p).2 ⟨ha, hp⟩⟩

theorem mem_spec_proofPositions_of (hin : ∀ t ∈ Tg, ∃ R, BelowRoot F.numLeaves t.1 t.2 R) (q : Pos) :
    q ∈ F.proofPositions Tg ↔ IsProof F.numLeaves Tg q := by
  unfold Forest.proofPositions
  simp only [Sorted.mem_sortDedup, List.mem_filter, List.mem_map, Bool.not_eq_true', List.contains_eq_mem,
    decide_eq_false_iff_not, mem_paths_of F hin]
  constructor
  · rintro ⟨⟨x, ⟨hx, hr⟩, rfl⟩, hq⟩
    exact ⟨x, hx, hr, rfl, hq⟩
  · rintro ⟨x, hx, hr, rfl, hq⟩
    exact ⟨⟨x, ⟨hx, hr⟩, rfl⟩, hq⟩

theorem mem_spec_proofPositions (hyp : PPHyp F.numLeaves Tg) (q : Pos) :
    q ∈ F.proofPositions Tg ↔ IsProof F.numLeaves Tg q :=
  mem_spec_proofPositions_of F hyp.inForest q

theorem mem_pathUp_drop {n R : Nat} {t : Pos} {fuel : Nat} (hb : BelowRoot n t.1 t.2 R)
    (hf : R - t.1 ≤ fuel) (q : Pos) :
    q ∈ (pathUp n fuel t).drop 1 ↔ Anc q t ∧ t.1 < q.1 ∧ q.1 ≤ R := by
  have hr := hb.1
  by_cases hroot : t.1 = R
  · have hr' : isRootPos n t = true := by
      rw [show t = (t.1, t.2) from rfl, belowRoot_isRootPos hb]; simp [hroot]
    have e : pathUp n fuel t = [t] := by cases fuel <;> simp [pathUp, hr']
    rw [e]
    simp only [List.drop_succ_cons, List.drop_nil, List.not_mem_nil, false_iff]
    rintro ⟨_, h1, h2⟩; omega
  · have hr' : isRootPos n t = false := by
      rw [show t = (t.1, t.2) from rfl, belowRoot_isRootPos hb]; simp [hroot]
    obtain ⟨g, rfl⟩ : ∃ g, fuel = g + 1 := ⟨fuel - 1, by omega⟩
    have hb' := belowRoot_parent hb hroot
    rw [pathUp, hr']
    simp only [Bool.false_eq_true, if_false, List.drop_succ_cons, List.drop_zero]
    rw [show parent t = (t.1 + 1, t.2 / 2) from rfl,
      mem_pathUp (R - (t.1 + 1)) (t.1 + 1) (t.2 / 2) g hb' (by omega) (by omega) q,
      show ((t.1 + 1, t.2 / 2) : Pos) = parent t from rfl, anc_parent_iff]
    constructor
    · rintro ⟨⟨h1, h2⟩, h3⟩; exact ⟨h1, h2, h3⟩
    · rintro ⟨h1, h2, h3⟩; exact ⟨⟨h1, h2⟩, h3⟩

/-- a strict ancestor `q` of target `t` is the parent of the node of `t`'s path one row below `q` -/
theorem isComp_iff_all (q : Pos) :
    IsComp F.numLeaves Tg q ↔
      ∃ t ∈ Tg, ∃ R, BelowRoot F.numLeaves t.1 t.2 R ∧ Anc q t ∧ t.1 < q.1 ∧ q.1 ≤ R := by
  constructor
  · rintro ⟨x, ⟨t, ht, R, hb, ha, hp⟩, hr, rfl⟩
    have hbx := belowRoot_anc hb ha hp
    have hne : x.1 ≠ R := by
      intro e
      have := belowRoot_isRootPos hbx
      rw [show (x.1, x.2) = x from rfl, hr] at this
      simp [e] at this
    have h1 := ha.1
    exact ⟨t, ht, R, hb, ha.parent, by show t.1 < x.1 + 1; omega, by show x.1 + 1 ≤ R; omega⟩
  · rintro ⟨t, ht, R, hb, ha, h1, h2⟩
    obtain ⟨ρ, hρ⟩ : ∃ ρ, q.1 = ρ + 1 := ⟨q.1 - 1, by omega⟩
    have hx : Anc (ρ, t.2 / 2 ^ (ρ - t.1)) t := ⟨by show t.1 ≤ ρ; omega, rfl⟩
    have hbx := belowRoot_anc hb hx (by show ρ ≤ R; omega)
    refine ⟨(ρ, t.2 / 2 ^ (ρ - t.1)), ⟨t, ht, R, hb, hx, by show ρ ≤ R; omega⟩, ?_, ?_⟩
    · rw [belowRoot_isRootPos hbx]; simp; omega
    · obtain ⟨a, b⟩ := q
      simp only at hρ h1 ⊢
      show (a, b) = (ρ + 1, t.2 / 2 ^ (ρ - t.1) / 2)
      have h3 : b = t.2 / 2 ^ (a - t.1) := ha.2
      subst hρ
      rw [h3, Nat.div_div_eq_div_mul, ← Nat.pow_succ, show (ρ - t.1).succ = ρ + 1 - t.1 by omega]

theorem mem_spec_computable_of (hin : ∀ t ∈ Tg, ∃ R, BelowRoot F.numLeaves t.1 t.2 R) (q : Pos) :
    q ∈ F.computable Tg ↔ IsComp F.numLeaves Tg q := by
  unfold Forest.computable
  simp only [Sorted.mem_sortDedup, List.mem_flatMap]
  rw [isComp_iff_all F]
  constructor
  · rintro ⟨t, ht, hq⟩
    obtain ⟨R, hb⟩ := hin t ht
    have hR := belowRoot_le_forestRows hb
    exact ⟨t, ht, R, hb, (mem_pathUp_drop hb (by unfold Forest.rows; omega) q).1 hq⟩
  · rintro ⟨t, ht, R, hb, h⟩
    have hR := belowRoot_le_forestRows hb
    exact ⟨t, ht, (mem_pathUp_drop hb (by unfold Forest.rows; omega) q).2 h⟩

/-- **`refPP` computes the specification's canonical lists** when the targets are nodes of
the forest and strictly sorted — nested or not; any `H ≥ TreeRows`.  Literal equality of
lists: both sides are ordered by row, then position, without duplicates. -/
theorem refPP_eq_spec_all (hyp : PPHyp0 F.numLeaves Tg) {H : Nat} (hH : F.rows ≤ H) :
    refPP F.numLeaves H Tg = (F.proofPositions Tg, F.computable Tg) := by
  have inv := PPInv.outer hyp (H + 1) 0 (Tg, [], []) (PPInv.init hyp)
  rw [Nat.zero_add] at inv
  unfold refPP
  congr 1
  · apply eq_of_ssorted inv.pf_sorted
    · unfold Forest.proofPositions; exact sortDedup_ssorted _
    · intro q
      rw [inv.pf_mem, mem_spec_proofPositions_of F hyp.inForest]
      constructor
      · exact fun h => h.2
      · intro h
        refine ⟨?_, h⟩
        obtain ⟨x, hx, _, rfl, _⟩ := h
        obtain ⟨R, hbx⟩ := hx.belowRoot
        have := belowRoot_le_forestRows hbx
        have := hbx.1
        unfold Forest.rows at hH
        show x.1 < H + 1
        omega
  · apply eq_of_ssorted inv.nx_sorted
    · unfold Forest.computable; exact sortDedup_ssorted _
    · intro q
      rw [inv.nx_mem, mem_spec_computable_of F hyp.inForest]
      constructor
      · exact fun h => h.2
      · intro h
        refine ⟨?_, h⟩
        obtain ⟨t, _, R, hb, _, _, h2⟩ := (isComp_iff_all F q).1 h
        have := belowRoot_le_forestRows hb
        unfold Forest.rows at hH
        omega

theorem refPP_eq_spec (hyp : PPHyp F.numLeaves Tg) {H : Nat} (hH : F.rows ≤ H) :
    refPP F.numLeaves H Tg = (F.proofPositions Tg, F.computable Tg) :=
  refPP_eq_spec_all F hyp.toHyp0 hH

end

end UtreexoVerif.Proofs
