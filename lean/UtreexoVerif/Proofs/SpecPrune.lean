/-
  Deleting leaves on the slot list is pruning the collapsed trees: `Forest.delLeaves` maps `kill`
  over the slots, and `collapse` commutes with it (`collapse_kill`).
-/
import UtreexoVerif.Proofs.SpecForest
set_option linter.unusedSectionVars false

namespace UtreexoVerif.Spec

variable {H : Type} [DecidableEq H] [Hasher H]

def kill (R : List H) : Option H → Option H
  | some h => if h ∈ R then none else some h
  | none => none

def prune (R : List H) : CTree H → Option (CTree H)
  | .leaf h => if h ∈ R then none else some (.leaf h)
  | .node a b => join (prune R a) (prune R b)

def pruneO (R : List H) (o : Option (CTree H)) : Option (CTree H) := o.bind (prune R)

theorem delLeaves_slots (F : Forest H) (R : List H) :
    (F.delLeaves R).slots = F.slots.map (kill R) := by
  unfold Forest.delLeaves
  apply List.map_congr_left
  intro a _
  cases a <;> rfl

theorem pruneO_join (R : List H) (a b : Option (CTree H)) :
    pruneO R (join a b) = join (pruneO R a) (pruneO R b) := by
  cases a <;> cases b <;> simp [pruneO, join, prune]
  · rename_i x; cases prune R x <;> rfl
  · rename_i x; cases prune R x <;> rfl

theorem collapse_kill (R : List H) : ∀ (k : Nat) (l : List (Option H)),
    collapse k (l.map (kill R)) = pruneO R (collapse k l) := by
  intro k
  induction k with
  | zero =>
    intro l
    match l with
    | [] => simp [collapse, pruneO]
    | none :: _ => simp [collapse, pruneO, kill]
    | some h :: _ =>
      by_cases hh : h ∈ R <;> simp [collapse, pruneO, kill, prune, hh]
  | succ k ih =>
    intro l
    simp only [collapse]
    rw [← List.map_take, ← List.map_drop, ih, ih, pruneO_join]

theorem prune_eq_none_iff (R : List H) : ∀ t : CTree H,
    prune R t = none ↔ ∀ x ∈ t.leaves, x ∈ R := by
  intro t
  induction t with
  | leaf h =>
    by_cases hh : h ∈ R <;> simp [prune, CTree.leaves, hh]
  | node a b iha ihb =>
    simp only [prune, CTree.leaves, List.mem_append]
    constructor
    · intro hj x hx
      cases ha : prune R a <;> cases hb : prune R b <;> simp [ha, hb, join] at hj
      rcases hx with hx | hx
      · exact iha.1 ha x hx
      · exact ihb.1 hb x hx
    · intro hall
      rw [iha.2 (fun x hx => hall x (Or.inl hx)), ihb.2 (fun x hx => hall x (Or.inr hx))]
      rfl

theorem prune_eq_self (R : List H) : ∀ t : CTree H,
    (∀ x ∈ t.leaves, x ∉ R) → prune R t = some t := by
  intro t
  induction t with
  | leaf h =>
    intro hx
    have : h ∉ R := hx h (by simp [CTree.leaves])
    simp [prune, this]
  | node a b iha ihb =>
    intro hx
    simp only [prune]
    rw [iha (fun x h => hx x (by simp [CTree.leaves, h])),
      ihb (fun x h => hx x (by simp [CTree.leaves, h]))]
    rfl

theorem numLeaves_delLeaves (F : Forest H) (R : List H) :
    (F.delLeaves R).numLeaves = F.numLeaves := by
  unfold Forest.numLeaves
  rw [delLeaves_slots, List.length_map]

end UtreexoVerif.Spec
