/-
  Bridge between the wire-format model of `MapPollard.Write` / `Read` (`Model/Serial.lean`, over
  `MapSt`) and the state machine model of mappollard.go (`Model/MapPollard.lean`).

  `Equiv`: two model states denote the same Go state — the same finite maps and scalars; the order
  of the association lists (= Go's random map iteration order) is free, and the invariants of C09
  depend on the state only up to `Equiv`.  `Write` serialises one record per key, walking the maps
  in any order (`Walk`); `Read` overwrites `TotalRows`, `NumLeaves`, puts the records of the stream
  into the receiver's maps WITHOUT clearing them and does not touch `Full` (checked against
  /repo/mappollard.go l.1376–1571).
-/
import UtreexoVerif.Proofs.SerialMap
import UtreexoVerif.Proofs.MapSInv
import UtreexoVerif.Proofs.MapFull

namespace UtreexoVerif.Proofs.SerialMapInv
open Model.Serial MapInv
open Model (AL.get? AL.del AL.put MapPollard Leaf)
open Spec (Pos Forest)
open MapAL (get?_cons get?_some_mem get?_eq_none_iff get?_put get?_nil hasCached_eq hasNode_eq)
open MapRep (Rep)
open MapSInv (SInv RootFlags)
open MapFull (FInv)
open Proofs.Serial (putRecs MapOK mapRead_post HashBytesOK mapWrite_spec mapRead_encode mapRead_encode_into)
set_option linter.unusedSectionVars false

section AL
variable {κ ν : Type} [DecidableEq κ]

/-- the two look-up functions (of `Model/Serial.lean` and of `Model/MapPollard.lean`) coincide -/
theorem assocGet_eq_get? : ∀ (l : List (κ × ν)) (k : κ), assocGet l k = AL.get? l k
  | [], _ => rfl
  | (k', v) :: t, k => by
    simp only [assocGet, get?_cons]
    split
    · rfl
    · exact assocGet_eq_get? t k

theorem keys_del (l : List (κ × ν)) (k : κ) : (AL.del l k).map (·.1) = (l.map (·.1)).filter (fun a => a ≠ k) := by
  unfold AL.del
  rw [List.filter_map]
  rfl

theorem nodup_keys_del {l : List (κ × ν)} (h : (l.map (·.1)).Nodup) (k : κ) : ((AL.del l k).map (·.1)).Nodup := by
  rw [keys_del]; exact h.filter _

theorem not_mem_keys_del (l : List (κ × ν)) (k : κ) : k ∉ (AL.del l k).map (·.1) := by
  rw [keys_del]; simp

theorem nodup_keys_put {l : List (κ × ν)} (h : (l.map (·.1)).Nodup) (k : κ) (v : ν) :
    ((AL.put l k v).map (·.1)).Nodup := by
  unfold AL.put
  rw [List.map_cons, List.nodup_cons]
  exact ⟨not_mem_keys_del l k, nodup_keys_del h k⟩

theorem del_of_not_mem {l : List (κ × ν)} {k : κ} (h : k ∉ l.map (·.1)) : AL.del l k = l := by
  unfold AL.del
  rw [List.filter_eq_self]
  intro e he
  have : e.1 ≠ k := fun hk => h (hk ▸ List.mem_map_of_mem he)
  simpa using this

theorem get?_eq_some_iff_mem {l : List (κ × ν)} (hnd : (l.map (·.1)).Nodup) {k : κ} {v : ν} :
    AL.get? l k = some v ↔ (k, v) ∈ l := by
  refine ⟨get?_some_mem, ?_⟩
  induction l with
  | nil => intro h; cases h
  | cons e t ih =>
    obtain ⟨k', v'⟩ := e
    rw [List.map_cons, List.nodup_cons] at hnd
    intro h
    rw [get?_cons]
    rcases List.mem_cons.1 h with h | h
    · cases h; simp
    · have : k' ≠ k := by
        intro hk
        exact hnd.1 (hk ▸ List.mem_map_of_mem (f := (·.1)) h)
      rw [if_neg this]
      exact ih hnd.2 h

theorem get?_perm {l l' : List (κ × ν)} (hp : l.Perm l') (hnd : (l.map (·.1)).Nodup) (k : κ) :
    AL.get? l k = AL.get? l' k := by
  have hnd' : (l'.map (·.1)).Nodup := (hp.map _).nodup_iff.1 hnd
  cases h : AL.get? l k with
  | none =>
    symm
    rw [get?_eq_none_iff] at h ⊢
    intro e he
    exact h e (hp.mem_iff.2 he)
  | some v =>
    symm
    rw [get?_eq_some_iff_mem hnd] at h
    rw [get?_eq_some_iff_mem hnd']
    exact hp.mem_iff.1 h

/-- one entry per key: the entries that `get?` can see, in their order -/
def norm (l : List (κ × ν)) : List (κ × ν) := l.foldr (fun e acc => AL.put acc e.1 e.2) []

theorem norm_cons (e : κ × ν) (t : List (κ × ν)) : norm (e :: t) = AL.put (norm t) e.1 e.2 := rfl

theorem get?_norm (l : List (κ × ν)) (k : κ) : AL.get? (norm l) k = AL.get? l k := by
  induction l with
  | nil => rfl
  | cons e t ih =>
    rw [norm_cons, get?_put, get?_cons, ih]
    simp only [eq_comm]

theorem nodup_keys_norm (l : List (κ × ν)) : ((norm l).map (·.1)).Nodup := by
  induction l with
  | nil => exact List.nodup_nil
  | cons e t ih => rw [norm_cons]; exact nodup_keys_put ih _ _

theorem norm_of_nodup {l : List (κ × ν)} (h : (l.map (·.1)).Nodup) : norm l = l := by
  induction l with
  | nil => rfl
  | cons e t ih =>
    rw [List.map_cons, List.nodup_cons] at h
    rw [norm_cons, ih h.2]
    unfold AL.put
    rw [del_of_not_mem h.1]

theorem mem_norm_iff {l : List (κ × ν)} {k : κ} {v : ν} : (k, v) ∈ norm l ↔ AL.get? l k = some v := by
  rw [← get?_norm, get?_eq_some_iff_mem (nodup_keys_norm l)]

/-- `m[k] = v` in place / appended (`Model/Serial.lean`) as a finite map -/
theorem get?_assocPut (l : List (κ × ν)) (k k' : κ) (v : ν) :
    AL.get? (assocPut l k v) k' = if k' = k then some v else AL.get? l k' := by
  induction l with
  | nil => simp only [assocPut, get?_cons, get?_nil, eq_comm]
  | cons e t ih =>
    obtain ⟨a, b⟩ := e
    by_cases ha : a = k
    · subst ha
      simp only [assocPut, if_true, get?_cons, eq_comm]
      split <;> rfl
    · simp only [assocPut, if_neg ha, get?_cons, ih]
      by_cases h : a = k'
      · subst h; simp [ha]
      · simp [h]

/-- the records of a stream put over the entries of a receiver, as a finite map: the LAST
record with the key wins, a key not in the stream keeps the receiver's entry -/
theorem get?_putRecs (recs l : List (κ × ν)) (k : κ) :
    AL.get? (putRecs l recs) k = (AL.get? recs.reverse k).orElse (fun _ => AL.get? l k) := by
  induction recs generalizing l with
  | nil => simp [putRecs, get?_nil]
  | cons e t ih =>
    have e1 : putRecs l (e :: t) = putRecs (assocPut l e.1 e.2) t := rfl
    rw [e1, ih, get?_assocPut, List.reverse_cons]
    have happ : ∀ (a b : List (κ × ν)), AL.get? (a ++ b) k = (AL.get? a k).orElse (fun _ => AL.get? b k) := by
      intro a b
      induction a with
      | nil => simp [get?_nil]
      | cons x a iha =>
        obtain ⟨x1, x2⟩ := x
        simp only [List.cons_append, get?_cons, iha]
        split <;> simp
    rw [happ]
    obtain ⟨k1, v1⟩ := e
    cases AL.get? t.reverse k with
    | some v => simp
    | none =>
      simp only [Option.orElse_none, get?_cons, get?_nil]
      by_cases h : k = k1
      · subst h; simp
      · have : ¬ k1 = k := fun h' => h h'.symm
        simp [h, this]

end AL

section Equiv
variable {H : Type} [DecidableEq H]

/-- `m` and `m'` denote the same Go state: the same two finite maps and the same scalars.  (The
ghost counter `orderDep` is not part of the Go state.) -/
structure Equiv (m m' : MapPollard H) : Prop where
  node : ∀ p, m.getNode p = m'.getNode p
  cache : ∀ x, m.getCached x = m'.getCached x
  numLeaves : m.numLeaves = m'.numLeaves
  totalRows : m.totalRows = m'.totalRows
  full : m.full = m'.full

theorem Equiv.refl (m : MapPollard H) : Equiv m m := ⟨fun _ => rfl, fun _ => rfl, rfl, rfl, rfl⟩

theorem Equiv.symm {m m' : MapPollard H} (e : Equiv m m') : Equiv m' m :=
  ⟨fun p => (e.node p).symm, fun x => (e.cache x).symm, e.numLeaves.symm, e.totalRows.symm, e.full.symm⟩

theorem Equiv.trans {m m' m'' : MapPollard H} (e : Equiv m m') (e' : Equiv m' m'') : Equiv m m'' :=
  ⟨fun p => (e.node p).trans (e'.node p), fun x => (e.cache x).trans (e'.cache x),
    e.numLeaves.trans e'.numLeaves, e.totalRows.trans e'.totalRows, e.full.trans e'.full⟩

theorem Equiv.hasNode {m m' : MapPollard H} (e : Equiv m m') (p : U64) : m.hasNode p = m'.hasNode p := by
  unfold MapPollard.hasNode; rw [e.node]

theorem Equiv.hasCached {m m' : MapPollard H} (e : Equiv m m') (x : H) : m.hasCached x = m'.hasCached x := by
  unfold MapPollard.hasCached; rw [e.cache]

theorem Equiv.of_perm {m m' : MapPollard H} (hn : m.nodes.Perm m'.nodes) (hnd : (m.nodes.map (·.1)).Nodup)
    (hc : m.cached.Perm m'.cached) (hcd : (m.cached.map (·.1)).Nodup) (h1 : m.numLeaves = m'.numLeaves)
    (h2 : m.totalRows = m'.totalRows) (h3 : m.full = m'.full) : Equiv m m' :=
  ⟨fun p => get?_perm hn hnd p, fun x => get?_perm hc hcd x, h1, h2, h3⟩

theorem Rep_congr {m m' : MapPollard H} (e : Equiv m m') {T : Nat} {A : Pos → Option (Leaf H)} {C : H → Option Pos}
    (rep : Rep m T A C) : Rep m' T A C where
  T_le := rep.T_le
  rows := by rw [← e.totalRows]; exact rep.rows
  keys := by intro p l h; rw [← e.node] at h; exact rep.keys p l h
  node := by intro q hq; rw [← e.node]; exact rep.node q hq
  dom := rep.dom
  cache := by intro x; rw [← e.cache]; exact rep.cache x
  cdom := rep.cdom

variable [Hasher H]

theorem Inv_congr {m m' : MapPollard H} {F : Forest H} (e : Equiv m m') (inv : Inv m F) : Inv m' F := by
  have hn : ∀ p, m'.getNode p = m.getNode p := fun p => (e.node p).symm
  have hc : ∀ x, m'.getCached x = m.getCached x := fun x => (e.cache x).symm
  have hhn : ∀ p, m'.hasNode p = m.hasNode p := fun p => (e.hasNode p).symm
  have hhc : ∀ x, m'.hasCached x = m.hasCached x := fun x => (e.hasCached x).symm
  refine { n_lt := inv.n_lt, n_eq := by rw [← e.numLeaves]; exact inv.n_eq,
           rows_le := by rw [← e.totalRows]; exact inv.rows_le,
           total_le := by rw [← e.totalRows]; exact inv.total_le,
           true_hash := ?_, cached_pos := ?_, only_needed := ?_, has_needed := ?_, flags := ?_ }
  · simp only [hn, ← e.totalRows]; exact inv.true_hash
  · simp only [hc, ← e.totalRows]; exact inv.cached_pos
  · simp only [hn, hhc, ← e.totalRows]; exact inv.only_needed
  · simp only [hhn, hhc, ← e.totalRows]; exact inv.has_needed
  · simp only [hn, hc, ← e.totalRows, ← e.full]; exact inv.flags

theorem SInv_congr {m m' : MapPollard H} {F : Forest H} (e : Equiv m m') (s : SInv m F) : SInv m' F := by
  obtain ⟨A, C, rep, ainv⟩ := s.abs
  exact { n_lt := s.n_lt, n_eq := by rw [← e.numLeaves]; exact s.n_eq,
          rows_le := by rw [← e.totalRows]; exact s.rows_le,
          total_le := by rw [← e.totalRows]; exact s.total_le,
          full := by rw [← e.full]; exact s.full, hyg := s.hyg,
          abs := ⟨A, C, by rw [← e.totalRows]; exact Rep_congr e rep, ainv⟩ }

theorem FInv_congr {m m' : MapPollard H} {F : Forest H} (e : Equiv m m') (s : FInv m F) : FInv m' F := by
  have hn : ∀ p, m'.getNode p = m.getNode p := fun p => (e.node p).symm
  have hc : ∀ x, m'.getCached x = m.getCached x := fun x => (e.cache x).symm
  refine { n_lt := s.n_lt, n_eq := by rw [← e.numLeaves]; exact s.n_eq,
           rows_le := by rw [← e.totalRows]; exact s.rows_le,
           total_le := by rw [← e.totalRows]; exact s.total_le,
           full := by rw [← e.full]; exact s.full, hyg := s.hyg, nodes := ?_, cached := ?_ }
  · simp only [hn, ← e.totalRows]; exact s.nodes
  · simp only [hc, ← e.totalRows]; exact s.cached

theorem RootFlags_congr {m m' : MapPollard H} {F : Forest H} (e : Equiv m m') (h : RootFlags m F) :
    RootFlags m' F := by
  have hn : ∀ p, m'.getNode p = m.getNode p := fun p => (e.node p).symm
  have hc : ∀ x, m'.getCached x = m.getCached x := fun x => (e.cache x).symm
  unfold RootFlags at h ⊢
  simp only [hn, hc, ← e.totalRows]; exact h

end Equiv

section Bridge
variable {H : Type} [DecidableEq H]

def recOf (e : U64 × Leaf H) : U64 × H × Bool := (e.1, e.2.hash, e.2.remember)
def leafOf (e : U64 × H × Bool) : U64 × Leaf H := (e.1, ⟨e.2.1, e.2.2⟩)

theorem leafOf_recOf (e : U64 × Leaf H) : leafOf (recOf e) = e := rfl
theorem recOf_leafOf (e : U64 × H × Bool) : recOf (leafOf e) = e := rfl

theorem map_leafOf_recOf (l : List (U64 × Leaf H)) : (l.map recOf).map leafOf = l := by
  rw [List.map_map]; exact List.map_id'' (fun e => leafOf_recOf e) l

theorem keys_map_recOf (l : List (U64 × Leaf H)) : (l.map recOf).map (·.1) = l.map (·.1) := by
  rw [List.map_map]; rfl

theorem keys_map_leafOf (l : List (U64 × H × Bool)) : (l.map leafOf).map (·.1) = l.map (·.1) := by
  rw [List.map_map]; rfl

theorem get?_map_recOf (l : List (U64 × Leaf H)) (k : U64) :
    AL.get? (l.map recOf) k = (AL.get? l k).map (fun lf => (lf.hash, lf.remember)) := by
  induction l with
  | nil => rfl
  | cons e t ih =>
    obtain ⟨a, b⟩ := e
    simp only [List.map_cons, recOf, get?_cons, ih]
    split <;> rfl

/-- **the serialised part of a model state**: `TotalRows`, `NumLeaves` and the two maps, one record
per key (`Full` is NOT serialised; neither is the ghost counter) -/
def toSt (m : MapPollard H) : MapSt H :=
  { totalRows := m.totalRows, numLeaves := m.numLeaves, cached := norm m.cached, nodes := (norm m.nodes).map recOf }

def ofSt (full : Bool) (st : MapSt H) : MapPollard H :=
  { nodes := st.nodes.map leafOf, cached := st.cached, numLeaves := st.numLeaves, totalRows := st.totalRows,
    full := full }

/-- what a successful `Read` leaves in the receiver `m0` when its maps end up as in `st`: the four
serialised fields are `st`'s, `Full` (and the ghost counter) are the RECEIVER's -/
def restore (m0 : MapPollard H) (st : MapSt H) : MapPollard H := { ofSt m0.full st with orderDep := m0.orderDep }

/-- distinct keys: every list built by `AL.put` / `AL.del` from the empty one -/
theorem toSt_of_nodup {m : MapPollard H} (hn : (m.nodes.map (·.1)).Nodup) (hc : (m.cached.map (·.1)).Nodup) :
    toSt m = ⟨m.totalRows, m.numLeaves, m.cached, m.nodes.map recOf⟩ := by
  unfold toSt; rw [norm_of_nodup hn, norm_of_nodup hc]

/-- **`st` is what `Write` sees of `m`** when Go's `ForEach` walks the two maps in some order (the
order is unspecified in Go: any permutation of the entries) -/
structure Walk (m : MapPollard H) (st : MapSt H) : Prop where
  totalRows : st.totalRows = m.totalRows
  numLeaves : st.numLeaves = m.numLeaves
  cached : st.cached.Perm (toSt m).cached
  nodes : st.nodes.Perm (toSt m).nodes

theorem Walk.self (m : MapPollard H) : Walk m (toSt m) := ⟨rfl, rfl, List.Perm.refl _, List.Perm.refl _⟩

/-- Go's `int` holds the two map sizes (true of every Go state: `Length()` returns an `int`; a
count ≥ 2^63 would make `Read` loop zero times) -/
def Fits (m : MapPollard H) : Prop := (toSt m).cached.length < 2 ^ 63 ∧ (toSt m).nodes.length < 2 ^ 63

/-- every cached leaf has its node, with its hash (the condition `Read` re-checks) -/
def Sane (m : MapPollard H) : Prop := ∀ x p, m.getCached x = some p → ∃ l, m.getNode p = some l ∧ l.hash = x

theorem Walk.cachedKeys {m : MapPollard H} {st : MapSt H} (w : Walk m st) : (st.cached.map (·.1)).Nodup :=
  (w.cached.map _).nodup_iff.2 (nodup_keys_norm _)

theorem Walk.nodeKeys {m : MapPollard H} {st : MapSt H} (w : Walk m st) : (st.nodes.map (·.1)).Nodup := by
  refine (w.nodes.map _).nodup_iff.2 ?_
  show (((norm m.nodes).map recOf).map (·.1)).Nodup
  rw [keys_map_recOf]; exact nodup_keys_norm _

theorem Walk.getCached {m : MapPollard H} {st : MapSt H} (w : Walk m st) (x : H) :
    AL.get? st.cached x = m.getCached x := by
  rw [get?_perm w.cached w.cachedKeys]
  exact get?_norm _ _

theorem Walk.getNode {m : MapPollard H} {st : MapSt H} (w : Walk m st) (p : U64) :
    AL.get? st.nodes p = (m.getNode p).map (fun lf => (lf.hash, lf.remember)) := by
  rw [get?_perm w.nodes w.nodeKeys]
  show AL.get? ((norm m.nodes).map recOf) p = _
  rw [get?_map_recOf, get?_norm]; rfl

/-- `MapOK`: the hypotheses of `Props.C13.map_roundtrip` -/
theorem mapOK_of_walk {m : MapPollard H} {st : MapSt H} (w : Walk m st) (hs : Sane m) (hf : Fits m) :
    MapOK st where
  cachedKeys := w.cachedKeys
  nodeKeys := w.nodeKeys
  cachedSmall := by rw [w.cached.length_eq]; exact hf.1
  nodesSmall := by rw [w.nodes.length_eq]; exact hf.2
  sane := by
    unfold sanityOk
    rw [List.all_eq_true]
    rintro ⟨k, v⟩ hmem
    have hc : m.getCached k = some v := by
      rw [← w.getCached, get?_eq_some_iff_mem w.cachedKeys]; exact hmem
    obtain ⟨l, hl, hh⟩ := hs k v hc
    simp only [assocGet_eq_get?, w.getNode, hl, Option.map_some]
    simpa using hh.symm

/-- `hfull`: `Read` leaves the receiver's `Full` flag as it is -/
theorem restore_equiv {m m0 : MapPollard H} {st : MapSt H} (w : Walk m st) (hfull : m0.full = m.full) :
    Equiv m (restore m0 st) where
  node := by
    intro p
    show m.getNode p = AL.get? (st.nodes.map leafOf) p
    have hp : (st.nodes.map leafOf).Perm (norm m.nodes) := by
      have := w.nodes.map leafOf
      rwa [show (toSt m).nodes = (norm m.nodes).map recOf from rfl, map_leafOf_recOf] at this
    rw [get?_perm hp (by rw [keys_map_leafOf]; exact w.nodeKeys), get?_norm]; rfl
  cache := by intro x; exact (w.getCached x).symm
  numLeaves := w.numLeaves.symm
  totalRows := w.totalRows.symm
  full := hfull.symm

variable [HashBytes H]

/-- Go `(m *MapPollard) Write(w)` on the model state, the maps walked in list order -/
def write (m : MapPollard H) (w : Sink) : Res Unit × Sink := mapWrite (toSt m) w

/-- Go `(m0 *MapPollard) Read(r)` on the model state: the byte count and, when it succeeds, the
receiver afterwards -/
def read (m0 : MapPollard H) (r : Reader) : Res (MapPollard H) :=
  match mapRead (toSt m0) r with
  | ⟨n, .ok st⟩ => ⟨n, .ok (restore m0 st)⟩
  | ⟨n, .err⟩ => ⟨n, .err⟩
  | ⟨n, .panic⟩ => ⟨n, .panic⟩
  | ⟨n, .hang⟩ => ⟨n, .hang⟩

theorem mapRead_ok_sane {m0 : MapSt H} {r : Reader} {n : Nat} {st : MapSt H} (h : mapRead m0 r = ⟨n, .ok st⟩) :
    sanityOk st.cached st.nodes = true :=
  (mapRead_post m0 r).2.2 st (by rw [h])

theorem write_ok (ok : HashBytesOK H) (m : MapPollard H) (k : Nat) (hk : (encodeMap (toSt m)).length ≤ k) :
    write m ⟨[], k⟩ = (⟨(encodeMap (toSt m)).length, .ok ()⟩,
      ⟨encodeMap (toSt m), k - (encodeMap (toSt m)).length⟩) := by
  have := (mapWrite_spec (toSt m) ⟨[], k⟩).1 hk
  simpa [write] using this

theorem read_write (ok : HashBytesOK H) {m : MapPollard H} {st : MapSt H} (w : Walk m st) (hs : Sane m)
    (hf : Fits m) (m0 : MapPollard H) (hn0 : m0.nodes = []) (hc0 : m0.cached = []) (r : Reader)
    (hd : r.data = encodeMap st) :
    read m0 r = ⟨(encodeMap st).length, .ok (restore m0 st)⟩ := by
  have h := mapRead_encode ok st (mapOK_of_walk w hs hf) (toSt m0) (by simp [toSt, hc0, norm])
    (by simp [toSt, hn0, norm]) r hd
  unfold read
  rw [h]

/-! #### reading into a receiver that is NOT empty (outside the property: C13 restores into a fresh
instance).  `Read` does not clear the receiver's maps: the records of the stream are put over the
receiver's entries, and entries of the receiver under keys the stream does not mention SURVIVE. -/

/-- the serialised state after `Read` put the records of `st` over the receiver's entries -/
def overlay (m0 : MapPollard H) (st : MapSt H) : MapSt H :=
  ⟨st.totalRows, st.numLeaves, putRecs (toSt m0).cached st.cached, putRecs (toSt m0).nodes st.nodes⟩

theorem read_into_used (ok : HashBytesOK H) {m : MapPollard H} {st : MapSt H} (w : Walk m st) (hf : Fits m)
    (m0 : MapPollard H) (r : Reader) (hd : r.data = encodeMap st) :
    read m0 r =
      if sanityOk (overlay m0 st).cached (overlay m0 st).nodes then
        ⟨(encodeMap st).length, .ok (restore m0 (overlay m0 st))⟩
      else ⟨8, .err⟩ := by
  have h := mapRead_encode_into ok st (by rw [w.cached.length_eq]; exact hf.1) (by rw [w.nodes.length_eq]; exact hf.2)
    (toSt m0) r hd
  unfold read
  rw [h]
  unfold overlay
  dsimp only
  by_cases hs : sanityOk (putRecs (toSt m0).cached st.cached) (putRecs (toSt m0).nodes st.nodes) = true
  · rw [if_pos hs, if_pos hs]
  · rw [if_neg hs, if_neg hs]

theorem get?_map_leafOf (l : List (U64 × H × Bool)) (k : U64) :
    AL.get? (l.map leafOf) k = (AL.get? l k).map (fun x => (⟨x.1, x.2⟩ : Leaf H)) := by
  induction l with
  | nil => rfl
  | cons e t ih =>
    obtain ⟨a, b, c⟩ := e
    simp only [List.map_cons, leafOf, get?_cons, ih]
    split <;> rfl

theorem overlay_getNode {m : MapPollard H} {st : MapSt H} (w : Walk m st) (m0 : MapPollard H) (p : U64) :
    (restore m0 (overlay m0 st)).getNode p = (m.getNode p).orElse (fun _ => m0.getNode p) := by
  show AL.get? ((putRecs ((norm m0.nodes).map recOf) st.nodes).map leafOf) p = _
  rw [get?_map_leafOf, get?_putRecs, get?_perm (List.reverse_perm st.nodes)
    (((List.reverse_perm st.nodes).map _).nodup_iff.2 w.nodeKeys), w.getNode, get?_map_recOf, get?_norm]
  show Option.map _ (Option.orElse (Option.map _ (m.getNode p)) fun _ => Option.map _ (m0.getNode p)) = _
  cases m.getNode p <;> cases m0.getNode p <;> rfl

theorem overlay_getCached {m : MapPollard H} {st : MapSt H} (w : Walk m st) (m0 : MapPollard H) (x : H) :
    (restore m0 (overlay m0 st)).getCached x = (m.getCached x).orElse (fun _ => m0.getCached x) := by
  show AL.get? (putRecs (norm m0.cached) st.cached) x = _
  rw [get?_putRecs, get?_perm (List.reverse_perm st.cached)
    (((List.reverse_perm st.cached).map _).nodup_iff.2 w.cachedKeys), w.getCached, get?_norm]
  rfl

end Bridge

section Sane
variable {H : Type} [DecidableEq H] [Hasher H]

theorem inv_sane {m : MapPollard H} {F : Forest H} (inv : Inv m F) : Sane m := by
  intro x p hc
  obtain ⟨t, ht, hp⟩ := inv.cached_pos x p hc
  obtain ⟨R, hb⟩ := posOf_belowRoot ht
  have hv : Valid m.totalRows.toNat t := belowRoot_valid' inv.rows_le hb
  have hk : m.hasCached x = true := by rw [hasCached_eq, hc]; rfl
  have hst := inv.has_needed t (Or.inr ⟨x, t, hk, ht, Or.inl rfl⟩)
  rw [hasNode_eq] at hst
  cases hg : m.getNode (encP m.totalRows.toNat t) with
  | none => rw [hg] at hst; cases hst
  | some l =>
    have h1 := getNode_true inv hv hg
    rw [Spec.posOf_nodeAt ht] at h1
    exact ⟨l, by rw [hp]; exact hg, (Option.some.inj h1).symm⟩

theorem Sane_congr {m m' : MapPollard H} (e : Equiv m m') (hs : Sane m) : Sane m' := by
  intro x p hc
  rw [← e.cache] at hc
  obtain ⟨l, hl, hh⟩ := hs x p hc
  exact ⟨l, by rw [← e.node]; exact hl, hh⟩

end Sane

end UtreexoVerif.Proofs.SerialMapInv
