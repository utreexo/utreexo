/-
  The storage invariant of a map forest on the abstract state `(A, C)`, for partial (`fl = false`) and full
  (`fl = true`) forests at once, against a node list `N` with roots `R`, a virtual cached set `K` and exemptions
  `E` as in `AInv` (`Proofs/MapAInv.lean`).  A full forest is a partial forest whose virtual cached set `K` holds
  every leaf and whose flag policy is "always": the bounds "required ⊆ stored ⊆ allowed" then collapse to "every
  node is stored" (`GI.stored_of_full`, `GI.may_of_full`).  During `remove` the leaves of `K` that are no longer in
  the cache are the ones still to be deleted, in either kind of forest.

  The names of the two invariants:   partial                      full
    on `(A, C)`                      `GI false` = `AInv`          `GI true` = `FA` with nothing pending (`MapFull.gi_of_fa`)
    on the model state               `XInv false` = `SInv`        `XInv true` = `FInv`        (`Proofs/MapXInv.lean`)
  Beside them: the bare `Inv` of C09 (`Proofs/MapInv.lean`; it follows: `MapSInv.inv_of_gi`), the loop frame of `remove`
  (`MapRemoveAll.GInv`: `XInv` with a virtual cached set; `RInv` spells `GInv false` with `AInv`), and the
  invariant with a hole that `Undo` walks through (`MapGIH.GIH`).
  `E` is empty except between a surgery and the prune walk that follows it: `MapLiftCore.liftCore`,
  `MapAddSteps.stepA`/`stepB`, `MapRemoveLoops.walk`, `GI.prune`.
-/
import UtreexoVerif.Proofs.MapAInv

namespace UtreexoVerif.Proofs.MapGI
open Model Spec MapPrune MapRep MapLiftGeo PForest MapAInv Hasher
set_option linter.unusedSectionVars false

variable {H : Type} [DecidableEq H] [Hasher H]

structure GI (fl : Bool) (A : Pos → Option (Leaf H)) (C : H → Option Pos) (N : List (Pos × H × Bool))
    (R : Pos → Prop) (K : H → Prop) (E : Pos → Prop) : Prop where
  true_hash : ∀ q l, A q = some l → ∃ b, (q, l.hash, b) ∈ N
  cache_sub : ∀ x t, C x = some t → K x
  cached_pos : ∀ x t, C x = some t → (t, x, true) ∈ N
  roots_stored : ∀ ρ, R ρ → A ρ ≠ none
  only_needed : ∀ q l, A q = some l → ¬ R q → ¬ E q → ∃ t, KLeaf N K t ∧ t.1 ≤ q.1 ∧ Anc (parent q) t
  has_needed : ∀ q h b, (q, h, b) ∈ N → ¬ R q → (KLeaf N K q ∨ ∃ t, KLeaf N K t ∧ Anc (sib q) t) → A q ≠ none
  flags : ∀ q l, A q = some l → l.hash ≠ zero → (l.remember = true ↔ (fl = true ∨ KLeaf N K q))
  /-- in a full forest every stored entry is flagged (`flags` is silent about zero hashes, i.e. about the empty roots) -/
  flagsZ : fl = true → ∀ q l, A q = some l → l.remember = true
  fullK : fl = true → ∀ t x, (t, x, true) ∈ N → K x

variable {fl : Bool} {A : Pos → Option (Leaf H)} {C : H → Option Pos} {N : List (Pos × H × Bool)}
  {R : Pos → Prop} {K : H → Prop} {E : Pos → Prop}

theorem gi_false_iff : GI false A C N R K E ↔ AInv A C N R K E := by
  constructor
  · intro g
    exact { true_hash := g.true_hash, cache_sub := g.cache_sub, cached_pos := g.cached_pos,
            roots_stored := g.roots_stored, only_needed := g.only_needed, has_needed := g.has_needed,
            flags := fun q l hl hnz => by rw [g.flags q l hl hnz]; simp }
  · intro a
    exact { true_hash := a.true_hash, cache_sub := a.cache_sub, cached_pos := a.cached_pos,
            roots_stored := a.roots_stored, only_needed := a.only_needed, has_needed := a.has_needed,
            flags := fun q l hl hnz => by rw [a.flags q l hl hnz]; simp,
            flagsZ := fun h => Bool.noConfusion h, fullK := fun h => Bool.noConfusion h }

namespace GI

theorem mono_E {E' : Pos → Prop} (inv : GI fl A C N R K E) (h : ∀ z, E z → E' z) : GI fl A C N R K E' :=
  { inv with only_needed := fun q l hl hnr hE => inv.only_needed q l hl hnr (fun he => hE (h q he)) }

theorem change_E {E' : Pos → Prop} (inv : GI fl A C N R K E)
    (h : ∀ q l, A q = some l → ¬ R q → ¬ E' q → ¬ E q) : GI fl A C N R K E' :=
  { inv with only_needed := fun q l hl hnr hE => inv.only_needed q l hl hnr (h q l hl hnr hE) }

theorem congr_K {K' : H → Prop} (inv : GI fl A C N R K E) (h : ∀ y, K y ↔ K' y) : GI fl A C N R K' E := by
  have : K = K' := funext fun y => propext (h y)
  rw [← this]; exact inv

theorem congr_R {R' : Pos → Prop} (inv : GI fl A C N R K E) (h : ∀ z, R z ↔ R' z) : GI fl A C N R' K E := by
  have : R = R' := funext fun z => propext (h z)
  rw [← this]; exact inv

theorem shrink_C {C' : H → Option Pos} (inv : GI fl A C N R K E) (h : ∀ x t, C' x = some t → C x = some t) :
    GI fl A C' N R K E :=
  { inv with cache_sub := fun x t hx => inv.cache_sub x t (h x t hx),
             cached_pos := fun x t hx => inv.cached_pos x t (h x t hx) }

theorem cached_stored (L : Laws N R) (inv : GI fl A C N R K E) {x : H} {t : Pos} (hC : C x = some t) (hnr : ¬ R t) :
    ∃ v, A t = some v ∧ v.hash = x := by
  have hm := inv.cached_pos x t hC
  obtain ⟨v, hv⟩ := Option.ne_none_iff_exists'.1
    (inv.has_needed t x true hm hnr (Or.inl ⟨x, inv.cache_sub x t hC, hm⟩))
  obtain ⟨b, hb⟩ := inv.true_hash t v hv
  exact ⟨v, hv, (L.func _ _ _ _ _ hb hm).1⟩

/-- the side conditions of `MapMoveUp.moveUpDescendants_rep`: below the lifted node `σ` cache and store agree, once the
cache entry of `σ` itself has been moved to a position `Pp` that is not below `σ` (`hP`: otherwise the moved entry would be a
second cache entry below `σ` pointing at a position where the hash of `σ` is not stored) -/
theorem cache_below (L : Laws N R) (inv : GI fl A C N R K E) {σ Pp : Pos} {h : H} {b : Bool} (hσ : (σ, h, b) ∈ N)
    (hP : ¬ SUnder σ Pp) {C' : H → Option Pos} (hcu : ∀ y, C' y = if C y = some σ then some Pp else C y) :
    (∀ c v, SUnder σ c → A c = some v → ∀ t, C' v.hash = some t → t = c) ∧
    (∀ x t, C' x = some t → SUnder σ t → ∃ v, A t = some v ∧ v.hash = x) := by
  constructor
  · intro c v hcs hAc t ht
    obtain ⟨bv, hb⟩ := inv.true_hash c v hAc
    rw [hcu] at ht
    split at ht
    · rename_i hCσ
      -- the hash of `c` would be the leaf hash cached at `σ`, so `c = σ`
      have := L.leaf_hash _ _ c bv (inv.cached_pos _ _ hCσ) hb
      have h2 := hcs.2
      rw [this] at h2
      omega
    · exact (L.leaf_hash _ _ c bv (inv.cached_pos _ _ ht) hb).symm
  · intro x t ht hts
    rw [hcu] at ht
    split at ht
    · simp only [Option.some.injEq] at ht
      exact absurd (ht ▸ hts) hP
    · exact inv.cached_stored L ht (L.not_root_of_sunder hσ hts)

/-- in a full forest every non-root node is allowed: it has a leaf below, and that leaf is in `K` -/
theorem may_of_full (L : Laws N R) (g : GI true A C N R K E) {z : Pos} {h : H} {b : Bool}
    (hz : (z, h, b) ∈ N) (hnr : ¬ R z) : ∃ t, KLeaf N K t ∧ t.1 ≤ z.1 ∧ Anc (parent z) t := by
  obtain ⟨t, x, ht, ha⟩ := L.has_leaf z h b hz (L.nonzero_of_nonroot hz hnr)
  exact ⟨t, ⟨x, g.fullK rfl t x ht, ht⟩, ha.1, Anc.trans (anc_parent_self z) ha⟩

theorem sib_not_root (L : Laws N R) {z : Pos} {h : H} {b : Bool} (hz : (z, h, b) ∈ N) (hnr : ¬ R z) :
    ∃ hs bs, (sib z, hs, bs) ∈ N ∧ ¬ R (sib z) := by
  obtain ⟨hs, bs, hsz⟩ := L.sib_node z h b hz hnr
  obtain ⟨hp, hpm, _⟩ := L.parent_node z h b hz hnr
  exact ⟨hs, bs, hsz, L.not_root_of_sunder hpm (by rw [sunder_iff_parent, CalcGeo.parent_sib]; exact Anc.refl _)⟩

/-- … and every node is stored: the sibling of a non-root node has a leaf below -/
theorem stored_of_full (L : Laws N R) (g : GI true A C N R K E) {z : Pos} {h : H} {b : Bool}
    (hz : (z, h, b) ∈ N) : A z ≠ none := by
  by_cases hR : R z
  · exact g.roots_stored z hR
  · obtain ⟨hs, bs, hsz, hnrs⟩ := sib_not_root L hz hR
    obtain ⟨t, x, ht, ha⟩ := L.has_leaf _ hs bs hsz (L.nonzero_of_nonroot hsz hnrs)
    exact g.has_needed z h b hz hR (Or.inr ⟨t, ⟨x, g.fullK rfl t x ht, ht⟩, ha⟩)

theorem entry_of_full (L : Laws N R) (g : GI true A C N R K E) {z : Pos} {h : H} {b : Bool}
    (hz : (z, h, b) ∈ N) : A z = some ⟨h, true⟩ := by
  obtain ⟨l, hl⟩ := Option.ne_none_iff_exists'.1 (g.stored_of_full L hz)
  obtain ⟨b', hb'⟩ := g.true_hash z l hl
  have e := (L.func _ _ _ _ _ hb' hz).1
  have r := g.flagsZ rfl z l hl
  rw [hl]; cases l; simp only at e r; subst e r; rfl

/-- what is kept is allowed.  In a full forest everything is; in a partial one a set flag marks a cached leaf, and a
stored child of the sibling is there for a cached leaf below it. -/
theorem allowed_of_keep (L : Laws N R) (inv : GI fl A C N R K E) {z : Pos} {h : H} {b : Bool}
    (hz : (z, h, b) ∈ N) (hnr : ¬ R z) (hE : ∀ c, parent c = sib z → ¬ E c) (hk : keepCond A z) :
    ∃ t, KLeaf N K t ∧ t.1 ≤ z.1 ∧ Anc (parent z) t := by
  cases fl with
  | true => exact inv.may_of_full L hz hnr
  | false =>
  obtain ⟨hs, bs, hsz, hnrs⟩ := sib_not_root L hz hnr
  have flag : ∀ (w : Pos) (l : Leaf H), ¬ R w → A w = some l → l.remember = true → KLeaf N K w := by
    intro w l hnrw hl hr
    obtain ⟨b', hb'⟩ := inv.true_hash w l hl
    exact ((inv.flags w l hl (L.nonzero_of_nonroot hb' hnrw)).1 hr).resolve_left Bool.false_ne_true
  rcases hk with hk | hk | hk
  · obtain ⟨l, hl, hr⟩ := remD_true hk
    exact ⟨z, flag z l hnr hl hr, Nat.le_refl _, anc_parent_self z⟩
  · obtain ⟨l, hl, hr⟩ := remD_true hk
    exact ⟨sib z, flag _ l hnrs hl hr, by rw [CalcGeo.sib_fst]; exact Nat.le_refl _, anc_parent_sib z⟩
  · obtain ⟨c, hpc, hc⟩ := kids_iff.1 hk
    obtain ⟨lc, hAc⟩ := Option.isSome_iff_exists.1 hc
    obtain ⟨bc, hcm⟩ := inv.true_hash c lc hAc
    have hsu : SUnder (sib z) c := by rw [sunder_iff_parent, hpc]; exact Anc.refl _
    obtain ⟨t, ht, hrow, hanc⟩ := inv.only_needed c lc hAc (L.not_root_of_sunder hsz hsu) (hE c hpc)
    rw [hpc] at hanc
    have hc1 : c.1 < z.1 := by have := hsu.2; rwa [CalcGeo.sib_fst] at this
    exact ⟨t, ht, Nat.le_trans hrow (Nat.le_of_lt hc1), Anc.trans (anc_parent_sib z) hanc⟩

/-- what is required is kept: a cached leaf carries the flag (on the node or its sibling), and a cached leaf further
below the sibling has a stored ancestor among the sibling's children -/
theorem keep_of_required (L : Laws N R) (inv : GI fl A C N R K E) {z : Pos} {h : H} {b : Bool}
    (hz : (z, h, b) ∈ N) (hnr : ¬ R z) (hreq : KLeaf N K z ∨ ∃ t, KLeaf N K t ∧ Anc (sib z) t) :
    keepCond A z := by
  obtain ⟨hs, bs, hsz, hnrs⟩ := sib_not_root L hz hnr
  have flag : ∀ (w : Pos) (hw : H) (bw : Bool), (w, hw, bw) ∈ N → ¬ R w → KLeaf N K w → remD (A w) = true := by
    intro w hw bw hwm hnrw hkl
    obtain ⟨l, hA⟩ := Option.ne_none_iff_exists'.1 (inv.has_needed w hw bw hwm hnrw (Or.inl hkl))
    obtain ⟨b', hb'⟩ := inv.true_hash w l hA
    rw [hA]; exact (inv.flags w l hA (L.nonzero_of_nonroot hb' hnrw)).2 (Or.inr hkl)
  rcases hreq with hkl | ⟨t, hkl, hanc⟩
  · exact Or.inl (flag z h b hz hnr hkl)
  · by_cases hts : t = sib z
    · subst hts
      exact Or.inr (Or.inl (flag _ hs bs hsz hnrs hkl))
    · right; right
      obtain ⟨x, hKx, htm⟩ := hkl
      obtain ⟨c, hpc, hct, _, ⟨h2, b2, hscm⟩, _, hnrsc⟩ := L.child_nodes hsz htm (sunder_of_ne hanc hts)
      exact kids_iff.2 ⟨sib c, by rw [CalcGeo.parent_sib]; exact hpc, Option.isSome_iff_ne_none.2
        (inv.has_needed (sib c) h2 b2 hscm hnrsc (Or.inr ⟨t, ⟨x, hKx, htm⟩, by rw [CalcGeo.sib_sib]; exact hct⟩))⟩

/-- **`prunePosition` at a non-root node**: nothing required is removed, and afterwards the node and its sibling are
stored only if they are allowed -/
theorem prune (L : Laws N R) (inv : GI fl A C N R K E) {q : Pos} {h : H} {b : Bool}
    (hq : (q, h, b) ∈ N) (hnr : ¬ R q) (hE : ∀ c, parent c = q ∨ parent c = sib q → ¬ E c) :
    GI fl (pruneA A q) C N R K (fun z => E z ∧ z ≠ q ∧ z ≠ sib q) := by
  obtain ⟨hs, bs, hsq, hnrs⟩ := sib_not_root L hq hnr
  refine { true_hash := fun z l hl => inv.true_hash z l (pruneA_sub hl), cache_sub := inv.cache_sub,
           cached_pos := inv.cached_pos, roots_stored := ?_, only_needed := ?_, has_needed := ?_,
           flags := fun z l hl hnz => inv.flags z l (pruneA_sub hl) hnz,
           flagsZ := fun hf z l hl => inv.flagsZ hf z l (pruneA_sub hl), fullK := inv.fullK }
  · intro ρ hρ
    have h1 : ρ ≠ q := fun e => hnr (e ▸ hρ)
    have h2 : ρ ≠ sib q := fun e => hnrs (e ▸ hρ)
    rw [pruneA_other h1 h2]; exact inv.roots_stored ρ hρ
  · intro z l hl hnrz hEz
    by_cases h1 : z = q
    · subst h1
      rw [pruneA_self] at hl
      split at hl
      · rename_i hk
        exact inv.allowed_of_keep L hq hnr (fun c hc => hE c (Or.inr hc)) hk
      · cases hl
    · by_cases h2 : z = sib q
      · subst h2
        rw [pruneA_sib] at hl
        split at hl
        · rename_i hk
          exact inv.allowed_of_keep L hsq hnrs (fun c hc => hE c (Or.inl (by rw [CalcGeo.sib_sib] at hc; exact hc))) hk
        · cases hl
      · exact inv.only_needed z l (pruneA_sub hl) hnrz (fun he => hEz ⟨he, h1, h2⟩)
  · intro z hz bz hzm hnrz hreq
    by_cases h1 : z = q
    · subst h1
      rw [pruneA_self, if_pos (inv.keep_of_required L hzm hnrz hreq)]
      exact inv.has_needed z hz bz hzm hnrz hreq
    · by_cases h2 : z = sib q
      · subst h2
        rw [pruneA_sib, if_pos (inv.keep_of_required L hzm hnrz hreq)]
        exact inv.has_needed _ hz bz hzm hnrz hreq
      · rw [pruneA_other h1 h2]; exact inv.has_needed z hz bz hzm hnrz hreq

end GI

end UtreexoVerif.Proofs.MapGI
