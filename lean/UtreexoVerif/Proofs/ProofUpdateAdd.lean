/-
  `updateProofAdd` is canonical (property C07, level 4): fed the canonical proof of the cached
  leaves `K'` in `F` (targets ascending), the additions, sorted remember indexes and the addition
  half of the update data (`AddDataSpec`), it returns the canonical proof, in `F.addMany adds`,
  of `K'` plus the remembered additions (targets ascending).  `G` in lemma names is the forest
  after the additions, `F.addMany adds`.
-/
import UtreexoVerif.Proofs.AddPP
import UtreexoVerif.Proofs.ProofUpdateRemove
import UtreexoVerif.Props.C11b
import UtreexoVerif.Proofs.ProofUpdateRemap

namespace UtreexoVerif.Proofs.ProofUpdateAdd
open Spec Hasher Model
open UtreexoVerif.Proofs.SpecNodes UtreexoVerif.Proofs.SpecSubs
open UtreexoVerif.Proofs.SpecPlan
open UtreexoVerif.Proofs.CalcGeo
open UtreexoVerif.Proofs.Sorted UtreexoVerif.Proofs.ProofUpdateHelpers
open UtreexoVerif.Proofs.ProofUpdateLists
open UtreexoVerif.Proofs.ProofUpdateRemove
open UtreexoVerif.Proofs.AddMove UtreexoVerif.Proofs.AddPP UtreexoVerif.Proofs.FinalPos
open UtreexoVerif.Props.C11 UtreexoVerif.Proofs.ProofUpdateRemap

section
set_option linter.unusedSectionVars false
variable {H : Type} [DecidableEq H] [Hasher H]

-- as in `ProofUpdateRemove`: `posD F x` is only compared with itself here
attribute [local irreducible] posD

def remAdds (adds : List H) (remembers : List Nat) : List H :=
  ((adds.zipIdx).filter (fun a => decide (a.2 ∈ remembers))).map (·.1)

theorem remAdds_sub {adds : List H} {remembers : List Nat} {a : H} (h : a ∈ remAdds adds remembers) :
    a ∈ adds := by
  unfold remAdds at h
  obtain ⟨z, hz, rfl⟩ := List.mem_map.1 h
  have := (List.mem_filter.1 hz).1
  exact (List.mem_zipIdx this).2.2 ▸ List.getElem_mem _

theorem remAdds_nodup {adds : List H} (h : adds.Nodup) (remembers : List Nat) :
    (remAdds adds remembers).Nodup := by
  unfold remAdds
  have h1 : ((adds.zipIdx).map (·.1)).Nodup := by rw [List.zipIdx_map_fst]; exact h
  have h2 : (((adds.zipIdx).filter (fun a => decide (a.2 ∈ remembers))).map (·.1)).Sublist
      ((adds.zipIdx).map (·.1)) := List.Sublist.map _ List.filter_sublist
  exact List.Nodup.sublist h2 h1

section ctx
variable {F : Forest H} {adds : List H}

theorem G_live_old {x : H} (hx : x ∈ F.liveLeaves) : x ∈ (F.addMany adds).liveLeaves := by
  rw [LiveLeaves.liveLeaves_addMany_eq]; exact List.mem_append_left _ hx

theorem G_live_new {x : H} (hx : x ∈ adds) : x ∈ (F.addMany adds).liveLeaves := by
  rw [LiveLeaves.liveLeaves_addMany_eq]; exact List.mem_append_right _ hx

theorem nodup_G (hndG : (F.addMany adds).liveLeaves.Nodup) :
    F.liveLeaves.Nodup ∧ adds.Nodup ∧ ∀ x ∈ F.liveLeaves, x ∉ adds := by
  rw [LiveLeaves.liveLeaves_addMany_eq, List.nodup_append] at hndG
  exact ⟨hndG.1, hndG.2.1, fun x hx ha => hndG.2.2 x hx x ha rfl⟩

theorem destroySpec_of (nz : NZ H)
    (hleaf : ∀ x ∈ (F.addMany adds).liveLeaves, x ≠ (zero : H) ∧ ∀ a b : H, x ≠ ph a b)
    {L : List Nat} (hasc : AscFrom 0 L)
    (hmem : ∀ h, h ∈ L ↔ (F.numLeaves.testBit h = true ∧
      chunkHash F.slots h (2 * (F.numLeaves / 2 ^ (h + 1))) = zero ∧
      (F.numLeaves / 2 ^ (h + 1) + 1) * 2 ^ (h + 1) ≤ F.numLeaves + adds.length)) :
    DestroySpec F.slots adds.length L where
  asc := hasc
  mem := by
    intro h
    have hslots : ∀ x : H, some x ∈ F.slots → x ≠ (zero : H) := fun x hx =>
      (hleaf x (G_live_old (by
        unfold Forest.liveLeaves
        rw [List.mem_filterMap]
        exact ⟨some x, hx, rfl⟩))).1
    rw [hmem h, chunkHash_eq_zero_iff nz.nonzero F.slots hslots]
    rfl

theorem old_leaf_pos (hN : F.numLeaves + adds.length ≤ 2 ^ 63)
    (hndG : (F.addMany adds).liveLeaves.Nodup)
    {L : List Nat} (hL : DestroySpec F.slots adds.length L) {x : H} {p : Pos}
    (hp : F.posOf x = some p) :
    (F.addMany adds).posOf x = some (addMove F.numLeaves adds.length L p) := by
  obtain ⟨h0, s⟩ := posOf_sub hp
  obtain ⟨T, g⟩ := add_sub hN hL s
  rw [Spec.posOf_eq_some_iff (by rw [Spec.numLeaves_addMany]; omega) hndG]
  exact g.node_mem

end ctx

/-- the hypotheses of `updateProofAdd_canonical` -/
structure AddCtx (F : Forest H) (adds : List H) (L : List Nat) (K' : List H) (tgF : List Pos)
    (hsF : List H) : Prop where
  nz : NZ H
  hN : F.numLeaves + adds.length ≤ 2 ^ 63
  hndG : (F.addMany adds).liveLeaves.Nodup
  hleaf : ∀ x ∈ (F.addMany adds).liveLeaves, x ≠ (zero : H) ∧ ∀ a b : H, x ≠ ph a b
  hL : DestroySpec F.slots adds.length L
  hcF : F.canon K' = some (tgF, hsF)
  hK' : K'.Nodup

section lists
variable {F : Forest H} {adds : List H} {L : List Nat} {K' : List H} {tgF : List Pos}
  {hsF : List H} (c : AddCtx F adds L K' tgF hsF)

def movedTargets (F : Forest H) (adds : List H) (L : List Nat) (K' : List H) : HP H :=
  sortHP ((sortedPairs F K').map
    (fun x => (E (F.addMany adds).rows (addMove F.numLeaves adds.length L x.1), x.2)))

def movedProof (F : Forest H) (adds : List H) (L : List Nat) (tgF : List Pos) : HP H :=
  sortHP ((ppPairs F tgF).map
    (fun x => (E (F.addMany adds).rows (addMove F.numLeaves adds.length L x.1), x.2)))

theorem mem_movedProof (z : U64 × H) :
    z ∈ movedProof F adds L tgF ↔
      ∃ q0 ∈ F.proofPositions tgF,
        z = (E (F.addMany adds).rows (addMove F.numLeaves adds.length L q0),
          (F.nodeAt q0).getD zero) := by
  unfold movedProof sortHP ppPairs
  rw [SortBy.mem_sortBy, List.map_map, List.mem_map]
  dsimp only [Function.comp]
  constructor
  · rintro ⟨q0, hq0, rfl⟩; exact ⟨q0, hq0, rfl⟩
  · rintro ⟨q0, hq0, rfl⟩; exact ⟨q0, hq0, rfl⟩

include c

theorem numF_le : F.numLeaves ≤ 2 ^ 63 := Nat.le_trans (Nat.le_add_right _ _) c.hN

theorem numG_le : (F.addMany adds).numLeaves ≤ 2 ^ 63 := by
  rw [Spec.numLeaves_addMany]; exact c.hN

theorem leaf_hash_pos {a : H} (ha : a ∈ (F.addMany adds).liveLeaves) {q : Pos} {lf : Bool}
    (hq : (q, a, lf) ∈ (F.addMany adds).nodes) : (F.addMany adds).posOf a = some q := by
  have hlt : (F.addMany adds).numLeaves < 2 ^ 64 := Nat.lt_of_le_of_lt (numG_le c) (by decide)
  obtain ⟨p, hp⟩ := Spec.posOf_isSome_of_live hlt ha
  have := (nodes_leaf_hash_unique _ c.hndG (fun x hx => (c.hleaf x hx).2) p q a lf
    (c.hleaf a ha).1 (Spec.posOf_some_mem hp) hq).1
  rw [← this]
  exact hp

theorem posG_valid {x : H} (hx : x ∈ (F.addMany adds).liveLeaves) :
    ∃ h, SubAtT (F.addMany adds) h (posD (F.addMany adds) x) (.leaf x) := by
  obtain ⟨p, hp⟩ := Spec.posOf_isSome_of_live (Nat.lt_of_le_of_lt (numG_le c) (by decide)) hx
  unfold posD
  rw [hp]
  exact posOf_sub hp

theorem K'_live {x : H} (hx : x ∈ K') : x ∈ F.liveLeaves := by
  obtain ⟨h, s⟩ := posD_sub c.hcF hx
  exact s.leaves_live _ (by simp [CTree.leaves])

theorem posD_G {x : H} (hx : x ∈ K') :
    posD (F.addMany adds) x = addMove F.numLeaves adds.length L (posD F x) := by
  obtain ⟨p, hp⟩ := (canon_spec c.hcF).2.1 x hx
  unfold posD
  rw [old_leaf_pos c.hN c.hndG c.hL hp, hp]
  rfl

theorem mem_movedTargets (z : U64 × H) :
    z ∈ movedTargets F adds L K' ↔
      ∃ x ∈ K', z = (E (F.addMany adds).rows (posD (F.addMany adds) x), x) := by
  unfold movedTargets sortHP
  rw [SortBy.mem_sortBy, List.mem_map]
  constructor
  · rintro ⟨y, hy, rfl⟩
    obtain ⟨hyK, hy1, _⟩ := sortedPairs_mem c.hcF hy
    exact ⟨y.2, hyK, by rw [posD_G c hyK, ← hy1]⟩
  · rintro ⟨x, hx, rfl⟩
    exact ⟨(posD F x, x), mem_sortedPairs hx, by rw [posD_G c hx]⟩

theorem addMove_E_inj {h1 h2 : Nat} {p1 p2 : Pos} {t1 t2 : CTree H} (s1 : SubAtT F h1 p1 t1)
    (s2 : SubAtT F h2 p2 t2)
    (e : E (F.addMany adds).rows (addMove F.numLeaves adds.length L p1) =
      E (F.addMany adds).rows (addMove F.numLeaves adds.length L p2)) : p1 = p2 := by
  obtain ⟨T1, g1⟩ := add_sub c.hN c.hL s1
  obtain ⟨T2, g2⟩ := add_sub c.hN c.hL s2
  exact addMove_inj c.hN c.hL (nodup_G c.hndG).1 s1 s2
    (encP_inj (forestRows_small (numG_le c)) g1.inF.valid g2.inF.valid e)

theorem movedTargets_sorted : (movedTargets F adds L K').Pairwise (fun a b => a.1 < b.1) := by
  unfold movedTargets sortHP
  apply SortBy.sortBy_strict
  rw [List.map_map]
  unfold List.Nodup
  rw [List.pairwise_map]
  have hndKP : (sortedPairs F K').Nodup :=
    (sortedPairs_keys (numF_le c) c.hcF c.hK').imp (fun {a b} hab e => by
      rw [e] at hab; exact BitVec.lt_irrefl _ hab)
  apply List.Pairwise.imp_of_mem _ hndKP
  intro a b ha hb hab e
  obtain ⟨_, _, ha0, sa⟩ := sortedPairs_mem c.hcF ha
  obtain ⟨_, _, hb0, sb⟩ := sortedPairs_mem c.hcF hb
  have e1 := addMove_E_inj c sa sb e
  rw [e1] at sa
  have := (sa.unique sb).2
  injection this with this
  exact hab (Prod.ext e1 this)

theorem movedProof_sorted : (movedProof F adds L tgF).Pairwise (fun a b => a.1 < b.1) := by
  have tok := canon_targetsOK c.hcF
  unfold movedProof sortHP ppPairs
  apply SortBy.sortBy_strict
  rw [List.map_map, List.map_map]
  unfold List.Nodup
  rw [List.pairwise_map]
  apply List.Pairwise.imp_of_mem _ ((proofPositions_sorted F tgF).imp (fun h => PLt.ne h))
  intro a b ha hb hab e
  obtain ⟨h1, t1, s1⟩ := pp_node tok ha
  obtain ⟨h2, t2, s2⟩ := pp_node tok hb
  exact hab (addMove_E_inj c s1 s2 e)

theorem movedProof_node {z : U64 × H} (hz : z ∈ movedProof F adds L tgF) :
    ∃ q T t, z.1 = E (F.addMany adds).rows q ∧ SubAtT (F.addMany adds) T q t ∧ z.2 = t.hash := by
  obtain ⟨q0, hq0, rfl⟩ := (mem_movedProof z).1 hz
  obtain ⟨h1, t1, s1⟩ := pp_node (canon_targetsOK c.hcF) hq0
  obtain ⟨T1, g1⟩ := add_sub c.hN c.hL s1
  exact ⟨_, T1, t1, rfl, g1, by rw [s1.nodeAt]; rfl⟩

theorem destroy_nodes (l : List (Pos × H))
    (hnode : ∀ x ∈ l, x.2 ≠ zero ∧ ∃ h t, SubAtT F h x.1 t)
    (hkeys : (l.map (·.1)).Pairwise Sorted.PLt) :
    (destroyedPos F.numLeaves L).foldl
        (fun st d => getNewPositions [E (F.addMany adds).rows d] st
          (BitVec.ofNat 64 (F.numLeaves + adds.length)) true)
        (l.map (enc2 (F.addMany adds).rows)) =
      sortHP (l.map (fun x =>
        (E (F.addMany adds).rows (addMove F.numLeaves adds.length L x.1), x.2))) := by
  have hN := c.hN
  have hR : (F.addMany adds).rows = forestRows (F.numLeaves + adds.length) := by
    unfold Forest.rows; rw [Spec.numLeaves_addMany]
  have hvalid : ∀ x ∈ l, ValidH (F.addMany adds).rows x.1 := by
    intro x hx
    obtain ⟨h, t, s⟩ := (hnode x hx).2
    rw [hR]
    exact ValidH.mono s.inF.valid (forestRows_mono (Nat.le_add_right _ _))
  rw [List.pairwise_map] at hkeys
  have := destroy_fold c.hN (destroyedPos F.numLeaves L) l
    (destroyed_dtOK F.slots adds.length L c.hL (by
      have : F.slots.length = F.numLeaves := rfl
      omega))
    (fun x hx => (hnode x hx).1)
    (by
      intro x hx
      obtain ⟨h, t, s⟩ := (hnode x hx).2
      obtain ⟨T, h1, h2, _, _⟩ := add_sub_tree c.hN c.hL s
      exact ⟨T, h1, h2⟩)
    (by
      rw [← hR, List.pairwise_map]
      exact hkeys.imp_of_mem (fun {a b} ha hb hab => BitVec.le_of_lt
        ((encP_lt_iff_or (forestRows_small (numG_le c)) (hvalid a ha) (hvalid b hb)).2 hab)))
    (by
      rw [← hR]
      unfold List.Nodup
      rw [List.pairwise_map]
      apply hkeys.imp_of_mem
      intro a b ha hb hab e
      obtain ⟨h1, t1, s1⟩ := (hnode a ha).2
      obtain ⟨h2, t2, s2⟩ := (hnode b hb).2
      exact PLt.ne hab (addMove_E_inj c s1 s2 e))
  rw [← hR] at this
  exact this

end lists

structure AddUpd (F : Forest H) (adds : List H) (L : List Nat) (K' : List H) (tgF : List Pos)
    (hsF : List H) (upd : HP H) : Prop extends AddCtx F adds L K' tgF hsF where
  hupd1 : ∀ p h, (p, h) ∈ upd ↔ ∃ pos : Pos, p = E (F.addMany adds).rows pos ∧
    NewAddSpec F.numLeaves (F.slots ++ adds.map some) (pos, h)
  hupd2 : upd.Pairwise (fun a b => a.1 < b.1)

section merged
variable {F : Forest H} {adds : List H} {L : List Nat} {K' : List H} {tgF : List Pos}
  {hsF : List H} {upd : HP H} (c : AddUpd F adds L K' tgF hsF upd) (remembers : List Nat)
include c

/-- `newNodes` after merging in the moved proof -/
def mergedNodes (F : Forest H) (adds : List H) (L : List Nat) (tgF : List Pos) (upd : HP H) : HP H :=
  mergeHP upd (movedProof F adds L tgF)

theorem mergedNodes_sorted :
    (mergedNodes F adds L tgF upd).Pairwise (fun a b => a.1 < b.1) :=
  mergeHP_sorted _ _ c.hupd2 (movedProof_sorted c.toAddCtx)

theorem upd_node {p : U64} {h : H} (hp : (p, h) ∈ upd) :
    ∃ q lf, p = E (F.addMany adds).rows q ∧ ValidH (F.addMany adds).rows q ∧
      (q, h, lf) ∈ (F.addMany adds).nodes := by
  obtain ⟨pos, rfl, hs⟩ := (c.hupd1 p h).1 hp
  have hlen : (F.slots ++ adds.map some).length = F.numLeaves + adds.length := by
    simp [Forest.numLeaves]
  have hN := c.hN
  obtain ⟨lf, hm⟩ := newAddSpec_mem_nodes F.numLeaves (F.slots ++ adds.map some)
    (by rw [hlen]; omega) pos h hs
  have hv := isNode_valid (F.slots ++ adds.map some) (R := (F.addMany adds).rows) (by
    rw [hlen]
    have := forestRows_spec_le (F.numLeaves + adds.length)
    unfold Forest.rows
    rw [Spec.numLeaves_addMany]
    exact this) hs.isNode
  exact ⟨pos, lf, rfl, hv, hm⟩

theorem merged_node {z : U64 × H} (hz : z ∈ mergedNodes F adds L tgF upd) :
    ∃ q lf, z.1 = E (F.addMany adds).rows q ∧ ValidH (F.addMany adds).rows q ∧
      (q, z.2, lf) ∈ (F.addMany adds).nodes := by
  unfold mergedNodes at hz
  rcases ProofOps.mem_mergeHP _ _ _ hz with h | h
  · exact upd_node c (p := z.1) (h := z.2) h
  · obtain ⟨q, T, t, h1, s, h2⟩ := movedProof_node c.toAddCtx h
    exact ⟨q, _, h1, s.inF.valid, by rw [h2]; exact s.node_mem⟩

theorem mem_remembersWithHash (z : U64 × H) :
    z ∈ hashSubsetHP (mergedNodes F adds L tgF upd) (remAdds adds remembers) ↔
      ∃ a ∈ remAdds adds remembers,
        z = (E (F.addMany adds).rows (posD (F.addMany adds) a), a) := by
  rw [mem_hashSubsetHP]
  constructor
  · rintro ⟨hz, ha⟩
    obtain ⟨q, lf, h1, _, h2⟩ := merged_node c hz
    have hp := leaf_hash_pos c.toAddCtx (G_live_new (remAdds_sub ha)) h2
    refine ⟨z.2, ha, ?_⟩
    unfold posD
    rw [hp]
    exact Prod.ext h1 rfl
  · rintro ⟨a, ha, rfl⟩
    refine ⟨?_, ha⟩
    have haa := remAdds_sub ha
    obtain ⟨i, hi, e⟩ := List.getElem_of_mem haa
    obtain ⟨pos, hs⟩ := newAddSpec_added_leaf F adds i hi
    rw [e] at hs
    have hin : (E (F.addMany adds).rows pos, a) ∈ upd := (c.hupd1 _ _).2 ⟨pos, rfl, hs⟩
    obtain ⟨q, lf, h1, hv, h2⟩ := upd_node c hin
    have hp := leaf_hash_pos c.toAddCtx (G_live_new haa) h2
    unfold posD
    rw [hp]
    simp only [Option.getD_some]
    rw [← h1]
    unfold mergedNodes
    rw [mem_mergeHP_iff _ _ c.hupd2 (movedProof_sorted c.toAddCtx)]
    exact Or.inl hin

theorem remembersWithHash_sorted :
    (hashSubsetHP (mergedNodes F adds L tgF upd) (remAdds adds remembers)).Pairwise
      (fun a b => a.1 < b.1) :=
  hashSubsetHP_sorted _ _ (mergedNodes_sorted c)

theorem new_targets_eq {tg2 : List Pos} {hs2 : List H}
    (hc2 : (F.addMany adds).canon (K' ++ remAdds adds remembers) = some (tg2, hs2))
    (hnd2 : (K' ++ remAdds adds remembers).Nodup) :
    mergeHP (hashSubsetHP (mergedNodes F adds L tgF upd) (remAdds adds remembers))
        (movedTargets F adds L K') =
      (sortedPairs (F.addMany adds) (K' ++ remAdds adds remembers)).map
        (enc2 (F.addMany adds).rows) := by
  have hG := numG_le c.toAddCtx
  have hs1 := remembersWithHash_sorted c remembers
  have hs2' := movedTargets_sorted c.toAddCtx
  apply eq_of_keysorted (mergeHP_sorted _ _ hs1 hs2')
  · rw [List.pairwise_map]
    exact sortedPairs_keys hG hc2 hnd2
  intro z
  rw [mem_mergeHP_iff _ _ hs1 hs2', mem_remembersWithHash c remembers,
    mem_movedTargets c.toAddCtx, List.mem_map]
  constructor
  · rintro (⟨a, ha, rfl⟩ | ⟨⟨x, hx, rfl⟩, _⟩)
    · exact ⟨_, mem_sortedPairs (List.mem_append_right _ ha), rfl⟩
    · exact ⟨_, mem_sortedPairs (List.mem_append_left _ hx), rfl⟩
  · rintro ⟨y, hy, rfl⟩
    obtain ⟨hy2, hy1, _⟩ := sortedPairs_mem hc2 hy
    rcases List.mem_append.1 hy2 with hK | hR
    · right
      refine ⟨⟨y.2, hK, by simp only [enc2]; rw [hy1]⟩, ?_⟩
      -- an old cached leaf does not sit at the position of a remembered addition
      intro hpos
      obtain ⟨w, hw, hw1⟩ := mem_positions.1 hpos
      obtain ⟨a, ha, rfl⟩ := (mem_remembersWithHash c remembers w).1 hw
      simp only [enc2] at hw1
      obtain ⟨h1, s1⟩ := posG_valid c.toAddCtx (G_live_new (remAdds_sub ha))
      obtain ⟨h2, s2⟩ := posG_valid c.toAddCtx (G_live_old (K'_live c.toAddCtx hK))
      rw [hy1] at hw1
      have e := encP_inj (forestRows_small hG) s1.inF.valid s2.inF.valid hw1
      rw [e] at s1
      have := (s1.unique s2).2
      injection this with this
      rw [this] at ha
      exact (nodup_G c.hndG).2.2 _ (K'_live c.toAddCtx hK) (remAdds_sub ha)
    · left
      exact ⟨y.2, hR, by simp only [enc2]; rw [hy1]⟩

theorem lookup_merged {K'' : List H} {tgG : List Pos} {hsG : List H}
    (hcG : (F.addMany adds).canon K'' = some (tgG, hsG))
    (hmem : ∀ x, x ∈ K'' ↔ x ∈ K' ∨ x ∈ remAdds adds remembers) {q : Pos}
    (hq : q ∈ (F.addMany adds).proofPositions tgG) :
    lookupHP (mergedNodes F adds L tgF upd) (E (F.addMany adds).rows q) =
      some (((F.addMany adds).nodeAt q).getD zero) := by
  have hG := numG_le c.toAddCtx
  have hsMP := movedProof_sorted c.toAddCtx
  unfold mergedNodes
  rw [lookupHP_mergeHP _ _ c.hupd2]
  obtain ⟨hq0, tq, sq⟩ := pp_node (canon_targetsOK hcG) hq
  have hnode : (F.addMany adds).nodeAt q = some tq.hash := sq.nodeAt
  rcases pp_add c.hN c.hL c.hndG c.hcF hcG (fun a ha => remAdds_sub ha) hmem hq with
    ⟨h, hs, hh⟩ | ⟨q0, hq0m, hqe, hh⟩
  · have hin : (E (F.addMany adds).rows q, h) ∈ upd := (c.hupd1 _ _).2 ⟨q, rfl, hs⟩
    rw [lookupHP_of_mem c.hupd2 hin, hh]
    rfl
  · have hin : (E (F.addMany adds).rows q, (F.nodeAt q0).getD zero) ∈ movedProof F adds L tgF := by
      rw [mem_movedProof]
      exact ⟨q0, hq0m, by rw [hqe]⟩
    cases hu : lookupHP upd (E (F.addMany adds).rows q) with
    | none =>
      simp only [Option.orElse_none]
      rw [lookupHP_of_mem hsMP hin, hh]
    | some h' =>
      simp only [Option.orElse_some]
      have hm := lookupHP_eq_some hu
      obtain ⟨q', lf, h1, hv, h2⟩ := upd_node c hm
      have e := encP_inj (forestRows_small hG) sq.inF.valid hv h1
      rw [← e] at h2
      have := nodeAt_of_mem h2
      simp only at this
      rw [this]
      rfl

end merged

/-- `updateProofAdd_canonical` for cached leaves in any request order: pairwise different instead
of targets ascending -/
theorem updateProofAdd_canonical_of_nodup {F : Forest H} {adds : List H} (nz : NZ H)
    (hN : F.numLeaves + adds.length ≤ 2 ^ 63)
    (hndG : (F.addMany adds).liveLeaves.Nodup)
    (hleaf : ∀ x ∈ (F.addMany adds).liveLeaves, x ≠ (zero : H) ∧ ∀ a b : H, x ≠ ph a b)
    {K' : List H} {tgF : List Pos} {hsF : List H} (hcF : F.canon K' = some (tgF, hsF))
    (hK' : K'.Nodup)
    {upd : HP H} {td : List U64} (hspec : AddDataSpec F adds upd td)
    (remembers : List Nat) (hrem : remembers.Pairwise (· ≤ ·)) :
    ∃ K'' tgG hsG, K''.Perm (K' ++ remAdds adds remembers) ∧
      (F.addMany adds).canon K'' = some (tgG, hsG) ∧ tgG.Pairwise Sorted.PLt ∧
      updateProofAdd ⟨tgF.map (E F.rows), hsF⟩ adds K' remembers upd
          (BitVec.ofNat 64 F.numLeaves) td =
        .ok (⟨tgG.map (E (F.addMany adds).rows), hsG⟩, K'') := by
  have hn : F.numLeaves ≤ 2 ^ 63 := by omega
  have hnumG := Spec.numLeaves_addMany F adds
  have hG : (F.addMany adds).numLeaves ≤ 2 ^ 63 := by rw [hnumG]; exact hN
  have hR : (F.addMany adds).rows = forestRows (F.numLeaves + adds.length) := by
    unfold Forest.rows; rw [hnumG]
  obtain ⟨hupd1, hupd2, _, L, htd, hLasc, hLmem⟩ := hspec
  have hL : DestroySpec F.slots adds.length L := destroySpec_of nz hleaf hLasc hLmem
  have hupd1' : ∀ p h, (p, h) ∈ upd ↔ ∃ pos : Pos, p = E (F.addMany adds).rows pos ∧
      NewAddSpec F.numLeaves (F.slots ++ adds.map some) (pos, h) := by
    intro p h
    rw [hupd1 p h, hR]
    rfl
  have htd' : td = (destroyedPos F.numLeaves L).map (E (F.addMany adds).rows) := by
    rw [htd, hR]
    unfold destroyedPos
    rw [List.map_map]
    rfl
  have c : AddCtx F adds L K' tgF hsF := ⟨nz, hN, hndG, hleaf, hL, hcF, hK'⟩
  have cu : AddUpd F adds L K' tgF hsF upd := { c with hupd1 := hupd1', hupd2 := hupd2 }
  have hnd2 : (K' ++ remAdds adds remembers).Nodup := by
    rw [List.nodup_append]
    refine ⟨hK', remAdds_nodup (nodup_G hndG).2.1 remembers, ?_⟩
    intro a ha b hb hab
    subst hab
    exact (nodup_G hndG).2.2 a (K'_live c ha) (remAdds_sub hb)
  have hlive2 : ∀ x ∈ K' ++ remAdds adds remembers, x ∈ (F.addMany adds).liveLeaves := by
    intro x hx
    rcases List.mem_append.1 hx with h | h
    · exact G_live_old (K'_live c h)
    · exact G_live_new (remAdds_sub h)
  obtain ⟨tg2, hs2, hc2⟩ := CanonTotal.canon_total hG hlive2
  let KP2 := sortedPairs (F.addMany adds) (K' ++ remAdds adds remembers)
  have hKP2perm : (KP2.map (·.2)).Perm (K' ++ remAdds adds remembers) := sortedPairs_snd_perm _ _
  obtain ⟨tgG, htgG, hsG, hcG⟩ : ∃ tgG, tgG = KP2.map (·.1) ∧ ∃ hsG,
      (F.addMany adds).canon (KP2.map (·.2)) = some (tgG, hsG) :=
    ⟨_, rfl, canon_sortedPairs hG hc2⟩
  have hsortedG : tgG.Pairwise Sorted.PLt := by
    rw [htgG]; exact sortedPairs_sorted hG hc2 hnd2
  have hmemK'' : ∀ x, x ∈ KP2.map (·.2) ↔ x ∈ K' ∨ x ∈ remAdds adds remembers := by
    intro x
    rw [hKP2perm.mem_iff, List.mem_append]
  refine ⟨_, tgG, hsG, hKP2perm, hcG, hsortedG, ?_⟩
  have e1 : (ProofPositions (((sortedPairs F K').map (·.1)).map (E F.rows))
      (BitVec.ofNat 64 F.numLeaves) (H8 F.rows)).1 = (F.proofPositions tgF).map (E F.rows) := by
    rw [proofPositions_model hn (sortedPairs_targetsOK hcF) (sortedPairs_sorted hn hcF hK'),
      proofPositions_congr F (sortedPairs_fst_mem hcF)]
  have e3a := maybeRemap_enc hN (sortedPairs F K') (by
    intro x hx
    obtain ⟨_, _, _, s⟩ := sortedPairs_mem hcF hx
    exact s.inF.valid)
  have e3b := maybeRemap_enc hN (ppPairs F tgF) (by
    intro x hx
    unfold ppPairs at hx
    obtain ⟨q, hq, rfl⟩ := List.mem_map.1 hx
    exact pp_valid (canon_targetsOK hcF) hq)
  rw [show forestRows F.numLeaves = F.rows from rfl, ← hR] at e3a e3b
  have tok := canon_targetsOK hcF
  have e4a : (destroyedPos F.numLeaves L).foldl
      (fun st d => getNewPositions [E (F.addMany adds).rows d] st
        (BitVec.ofNat 64 (F.numLeaves + adds.length)) true)
      ((sortedPairs F K').map (enc2 (F.addMany adds).rows)) = movedTargets F adds L K' :=
    destroy_nodes c (sortedPairs F K')
      (by
        intro x hx
        obtain ⟨hxK, _, h, s⟩ := sortedPairs_mem hcF hx
        exact ⟨(hleaf _ (G_live_old (K'_live c hxK))).1, h, _, s⟩)
      (sortedPairs_sorted hn hcF hK')
  have e4b : (destroyedPos F.numLeaves L).foldl
      (fun st d => getNewPositions [E (F.addMany adds).rows d] st
        (BitVec.ofNat 64 (F.numLeaves + adds.length)) true)
      ((ppPairs F tgF).map (enc2 (F.addMany adds).rows)) = movedProof F adds L tgF :=
    destroy_nodes c (ppPairs F tgF)
      (by
        intro x hx
        unfold ppPairs at hx
        obtain ⟨q, hq, rfl⟩ := List.mem_map.1 hx
        obtain ⟨h, t, s⟩ := pp_node tok hq
        refine ⟨?_, h, t, s⟩
        dsimp only
        rw [s.nodeAt]
        exact CTree.hash_ne_zero nz.nonzero t (fun l hl => (hleaf l (G_live_old (s.leaves_live l hl))).1))
      (by
        unfold ppPairs
        rw [List.map_map]
        exact (List.map_id _).symm ▸ proofPositions_sorted F tgF)
  have hNE : BitVec.ofNat 64 F.numLeaves + BitVec.ofNat 64 adds.length =
      BitVec.ofNat 64 (F.numLeaves + adds.length) := (BitVec.ofNat_add _ _).symm
  have hTR : TreeRows (BitVec.ofNat 64 (F.numLeaves + adds.length)) = H8 (F.addMany adds).rows := by
    rw [treeRows_ofNat hN, hR]
  have tokG := canon_targetsOK hcG
  have e9 : (ProofPositions (((sortedPairs (F.addMany adds) (K' ++ remAdds adds remembers)).map
      (·.1)).map (E (F.addMany adds).rows))
      (BitVec.ofNat 64 (F.numLeaves + adds.length)) (H8 (F.addMany adds).rows)).1 =
      ((F.addMany adds).proofPositions tgG).map (E (F.addMany adds).rows) := by
    have := proofPositions_model hG tokG hsortedG
    rw [hnumG] at this
    rw [← htgG]
    exact this
  have e10 : upaCollect (((F.addMany adds).proofPositions tgG).map (E (F.addMany adds).rows))
      (mergedNodes F adds L tgF upd) [] =
      (ppPairs (F.addMany adds) tgG).map (enc2 (F.addMany adds).rows) := by
    rw [upaCollect_spec _ _ _ (pp_keys hG tokG)
      (mergedNodes_sorted cu), List.nil_append,
      List.filterMap_map]
    unfold ppPairs
    rw [List.map_map]
    rw [← List.filterMap_eq_map]
    apply filterMap_congr'
    intro q hq
    simp only [Function.comp]
    rw [lookup_merged cu remembers hcG hmemK'' hq, Option.map_some]
    rfl
  have hfold := foldl_pair
    (fun (st : HP H) (d : Pos) => getNewPositions [E (F.addMany adds).rows d] st
      (BitVec.ofNat 64 (F.numLeaves + adds.length)) true)
    (fun (st : HP H) (d : Pos) => getNewPositions [E (F.addMany adds).rows d] st
      (BitVec.ofNat 64 (F.numLeaves + adds.length)) true)
    (destroyedPos F.numLeaves L) ((sortedPairs F K').map (enc2 (F.addMany adds).rows))
    ((ppPairs F tgF).map (enc2 (F.addMany adds).rows))
  unfold updateProofAdd
  simp only [treeRows_ofNat hn]
  rw [show H8 (forestRows F.numLeaves) = H8 F.rows from rfl]
  simp only [toHashAndPos_cached hcF, StumpAdd.ok_bind, positions_enc2, e1, oldProofs_eq hn hcF,
    e3a, e3b, hNE, htd', List.foldl_map, hfold, e4a, e4b,
    remembered_updateProofAdd adds remembers hrem, hTR]
  rw [show ((adds.zipIdx).filter (fun a => decide (a.2 ∈ remembers))).map (·.1) =
    remAdds adds remembers from rfl,
    show mergeHP upd (movedProof F adds L tgF) = mergedNodes F adds L tgF upd from rfl,
    new_targets_eq cu remembers hc2 hnd2]
  simp only [positions_enc2, e9, e10]
  rw [SortBy.sortHP_eq_self_of_strict (ppPairs_keys hG tokG)]
  exact canon_result hcG _ (by rw [htgG]) (hashes_enc2 _ _)

/-- **`updateProofAdd` is canonical.**  `F`: the forest after the block's deletions; the cached
proof is the canonical proof of `K'` in `F` with targets ascending (as `updateProofRemove` leaves
it); `upd`, `td` are `NewAdd`, `ToDestroy` as specified by C11 (`AddDataSpec`); the remember
indexes ascend.  The result is the canonical proof in `F.addMany adds` of `K'` plus the
remembered additions, targets ascending.  `hleaf`: the code finds the positions of the remembered
additions in `NewAdd` by their HASH (`hashSubsetHP`), so no leaf hash may equal a parent hash
(`leaf_hash_pos`). -/
theorem updateProofAdd_canonical {F : Forest H} {adds : List H} (nz : NZ H)
    (hN : F.numLeaves + adds.length ≤ 2 ^ 63)
    (hndG : (F.addMany adds).liveLeaves.Nodup)
    (hleaf : ∀ x ∈ (F.addMany adds).liveLeaves, x ≠ (zero : H) ∧ ∀ a b : H, x ≠ ph a b)
    {K' : List H} {tgF : List Pos} {hsF : List H} (hcF : F.canon K' = some (tgF, hsF))
    (hsorted : tgF.Pairwise Sorted.PLt)
    {upd : HP H} {td : List U64} (hspec : AddDataSpec F adds upd td)
    (remembers : List Nat) (hrem : remembers.Pairwise (· ≤ ·)) :
    ∃ K'' tgG hsG, K''.Perm (K' ++ remAdds adds remembers) ∧
      (F.addMany adds).canon K'' = some (tgG, hsG) ∧ tgG.Pairwise Sorted.PLt ∧
      updateProofAdd ⟨tgF.map (E F.rows), hsF⟩ adds K' remembers upd
          (BitVec.ofNat 64 F.numLeaves) td =
        .ok (⟨tgG.map (E (F.addMany adds).rows), hsG⟩, K'') :=
  updateProofAdd_canonical_of_nodup nz hN hndG hleaf hcF (canon_nodup_of_sorted hcF hsorted) hspec
    remembers hrem

end
end UtreexoVerif.Proofs.ProofUpdateAdd
