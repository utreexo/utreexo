/-
  The tree-selection helpers of utils.go on the digits of the leaf count: `OnesCount64` of the
  shifted count counts the trees above a row (`rootIdxOnRow`); the loops of `getLowestRoot` and
  `subtreeRow`.
-/
import UtreexoVerif.Proofs.DetectOffset

namespace UtreexoVerif.Proofs
open UtreexoVerif.GoInt

theorem countP_range_bits (n R : Nat) : ∀ d,
    (List.range d).countP (fun i => n.testBit (R + 1 + i)) = cntBits n R d
  | 0 => rfl
  | d + 1 => by
    rw [List.range_succ, List.countP_append, countP_range_bits n R d, cntBits]
    simp only [List.countP_cons, List.countP_nil, Nat.zero_add]
    rw [show R + 1 + d = R + d + 1 by omega]

theorem cntBits_add_zero {n R d : Nat} (hz : ∀ j, R + d < j → n.testBit j = false) :
    ∀ e, cntBits n R (d + e) = cntBits n R d
  | 0 => rfl
  | e + 1 => by
    rw [show d + (e + 1) = (d + e) + 1 by omega, cntBits, cntBits_add_zero hz e,
      hz (R + (d + e) + 1) (by omega)]
    simp

theorem onesCount64_shr (n : U64) (R : Nat) :
    onesCount64 (shr n (R + 1)) = ((cntBits n.toNat R 64 : Nat) : Int) := by
  unfold onesCount64
  congr 1
  rw [← countP_range_bits]
  congr 1
  funext i
  rw [shr_eq, BitVec.getLsbD_ushiftRight, ← BitVec.testBit_toNat]

theorem cntBits_le (n R : Nat) : ∀ d, cntBits n R d ≤ d
  | 0 => Nat.le_refl _
  | d + 1 => by
    have := cntBits_le n R d
    rw [cntBits]
    split <;> omega

theorem getLowestRoot_skip (n : U64) {h : Nat} (hh : h ≤ 63) :
    ∀ (d k fuel : Nat), k + d ≤ h + 1 → (∀ j, k ≤ j → j < k + d → n.toNat.testBit j = false) →
      Model.getLowestRoot.loop1 n (H8 h) (fuel + d) (H8 k) =
        Model.getLowestRoot.loop1 n (H8 h) fuel (H8 (k + d))
  | 0, _, _, _, _ => rfl
  | d + 1, k, fuel, hk, hz => by
    rw [← Nat.add_assoc, Model.getLowestRoot.loop1,
      decide_eq_true ((H8_le_iff (by omega) (by omega)).2 (show k ≤ h by omega)),
      toNat_H8 (by omega), rootPresent_eq, hz k (Nat.le_refl k) (by omega)]
    simp only [if_true, Bool.false_eq_true, if_false]
    rw [BitVec.ofNat_add_ofNat, getLowestRoot_skip n hh d (k + 1) fuel (by omega)
      (fun j h1 h2 => hz j (by omega) (by omega)), Nat.add_assoc, Nat.add_comm 1 d]

theorem getLowestRoot_loop_found (n : U64) {h R : Nat} (hh : h ≤ 63) (hR : R ≤ h)
    (hb : n.toNat.testBit R = true) :
    ∀ (d k fuel : Nat), k + d = R → (∀ j, k ≤ j → j < R → n.toNat.testBit j = false) → d < fuel →
      Model.getLowestRoot.loop1 n (H8 h) fuel (H8 k) = .done (H8 R) := by
  intro d k fuel hk hz hf
  obtain ⟨f, rfl⟩ : ∃ f, fuel = f + 1 + d := ⟨fuel - 1 - d, by omega⟩
  rw [getLowestRoot_skip n hh d k (f + 1) (by omega) (fun j h1 h2 => hz j h1 (by omega)), hk,
    Model.getLowestRoot.loop1, decide_eq_true ((H8_le_iff (by omega) (by omega)).2 hR),
    toNat_H8 (by omega), rootPresent_eq, hb]
  rfl

theorem getLowestRoot_loop_none (n : U64) {h : Nat} (hh : h ≤ 63) :
    ∀ (d k fuel : Nat), k + d = h + 1 → (∀ j, k ≤ j → j ≤ h → n.toNat.testBit j = false) →
      d < fuel → Model.getLowestRoot.loop1 n (H8 h) fuel (H8 k) = .done (H8 (h + 1)) := by
  intro d k fuel hk hz hf
  obtain ⟨f, rfl⟩ : ∃ f, fuel = f + 1 + d := ⟨fuel - 1 - d, by omega⟩
  rw [getLowestRoot_skip n hh d k (f + 1) (by omega) (fun j h1 h2 => hz j h1 (by omega)), hk,
    Model.getLowestRoot.loop1,
    decide_eq_false (fun hc => by have := (H8_le_iff (by omega) (by omega)).1 hc; omega)]
  rfl

/-- the loop of `subtreeRow` walking down from row `t`: it looks for the `k`-th tree from the top
(0-based); `saw` trees have been passed, so the wanted one is entry `k - saw` of the trees on rows
`≤ t` -/
theorem subtreeRow_loop (n : U64) {k : Nat} (hk : k ≤ 255) :
    ∀ (t saw fuel R : Nat), t ≤ 63 → saw ≤ k → (Spec.treeRowsFrom t n.toNat)[k - saw]? = some R →
      t + 1 < fuel →
      ∃ s', Model.subtreeRow.loop1 n (H8 k) fuel (saw : Int) (t : Int) = .done (s', (R : Int)) := by
  intro t
  induction t with
  | zero =>
    intro saw fuel R ht hsaw hget hf
    obtain ⟨f, rfl⟩ : ∃ f, fuel = f + 1 := ⟨fuel - 1, by omega⟩
    rw [Spec.treeRowsFrom] at hget
    by_cases hb : n.toNat.testBit 0 = true
    · rw [if_pos hb] at hget
      have hks : k - saw = 0 := by
        rcases Nat.eq_zero_or_pos (k - saw) with h | h
        · exact h
        · rw [List.getElem?_cons] at hget; simp [Nat.ne_of_gt h] at hget
      have hR : R = 0 := by rw [hks] at hget; simpa using hget.symm
      subst hR
      have hsk : saw = k := by omega
      subst hsk
      unfold Model.subtreeRow.loop1
      have e1 := ofInt_natCast 0
      have e2 := ofInt_natCast saw
      rw [e1, e2, rootExistsOnRow_eq, toNat_H8 (by omega), hb]
      simp
    · rw [if_neg hb] at hget; simp at hget
  | succ t ih =>
    intro saw fuel R ht hsaw hget hf
    obtain ⟨f, rfl⟩ : ∃ f, fuel = f + 1 := ⟨fuel - 1, by omega⟩
    have e1 := ofInt_natCast (t + 1)
    have e2 := ofInt_natCast saw
    have hge : ((t + 1 : Nat) : Int) ≥ 0 := by omega
    have hsub : ((t + 1 : Nat) : Int) - 1 = ((t : Nat) : Int) := by omega
    rw [treeRowsFrom_succ] at hget
    unfold Model.subtreeRow.loop1
    rw [decide_eq_true hge, e1, e2, rootExistsOnRow_eq, toNat_H8 (by omega)]
    simp only [if_true, hsub]
    by_cases hb : n.toNat.testBit (t + 1) = true
    · rw [if_pos hb] at hget ⊢
      by_cases hks : saw = k
      · subst hks
        rw [Nat.sub_self] at hget
        have hR : R = t + 1 := by simpa using hget.symm
        subst hR
        simp
      · rw [beq_false_of_ne fun hc => hks (H8_inj hk (by omega) hc).symm]
        simp only [Bool.false_eq_true, if_false]
        have hget' : (Spec.treeRowsFrom t n.toNat)[k - (saw + 1)]? = some R := by
          rw [List.singleton_append, show k - saw = (k - (saw + 1)) + 1 by omega,
            List.getElem?_cons_succ] at hget
          exact hget
        have := ih (saw + 1) f R (by omega) (by omega) hget' (by omega)
        rw [show ((saw + 1 : Nat) : Int) = (saw : Int) + 1 by omega] at this
        exact this
    · rw [if_neg hb] at hget ⊢
      rw [List.nil_append] at hget
      exact ih saw f R (by omega) hsaw hget (by omega)

end UtreexoVerif.Proofs
