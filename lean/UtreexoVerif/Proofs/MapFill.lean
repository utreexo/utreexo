/-
  What `ingest` (of `Verify(…, remember)`) and the tail of `undoDeletion` do to the abstract state
  `(A, C)` of `MapRep`: `fillA` / `fillC`.  Both calls store the proof hashes where nothing is stored
  (`ingest.store`, `placeProof`: `storeA`) and then overwrite every path node with its calculated
  hash and cache the targets (`putCalculated`).  `fl` is the `Full` flag of the forest.
  `PathData` is what the fill needs to know of a proof (built from a canonical proof by `pathData_canon` in
  `Proofs/MapCanon.lean`).
  Namespace: `MapIngest`.
-/
import UtreexoVerif.Proofs.MapRep

namespace UtreexoVerif.Proofs.MapIngest
open MapRep
open Model (Leaf MapPollard)
open Spec (Pos sib)
open MapInv (Valid)
set_option linter.unusedSectionVars false

variable {H : Type} [DecidableEq H] [Hasher H]

/-- what the fill knows of the path set `PS`, the proof positions `PP` and the targets `ts` of a proof, against a
node list `N` with roots `R` -/
structure PathData (N : List (Pos × H × Bool)) (R : Pos → Prop) (PS PP ts : List Pos) (tv : Pos → H) : Prop where
  leaf : ∀ t ∈ ts, ∃ x, (t, x, true) ∈ N
  psn : ∀ q ∈ PS, ∃ b, (q, tv q, b) ∈ N
  pst : ∀ q ∈ PS, ∃ t ∈ ts, Anc q t
  ts_ps : ∀ t ∈ ts, t ∈ PS
  ps_of : ∀ q h b t, (q, h, b) ∈ N → t ∈ ts → Anc q t → q ∈ PS
  pp : ∀ q, q ∈ PP ↔ q ∉ PS ∧ ∃ x ∈ PS, ¬ R x ∧ q = sib x
  ppn : ∀ q ∈ PP, ∃ b, (q, tv q, b) ∈ N

section pure
variable {A : Pos → Option (Leaf H)} {fl : Bool} {PS PP ts : List Pos} {tv : Pos → H} {q : Pos}

/-- `Nodes` after an ingest: path nodes are overwritten with their true hash (flag = is a target),
absent proof positions are filled in with their true hash (flag clear) -/
def ingA (PS PP ts : List Pos) (tv : Pos → H) (A : Pos → Option (Leaf H)) : Pos → Option (Leaf H) := fun q =>
  if q ∈ PS then some ⟨tv q, decide (q ∈ ts)⟩
  else if q ∈ PP ∧ A q = none then some ⟨tv q, false⟩ else A q

/-- `Nodes` after the proof-storing loop: absent proof positions get their hash, flag = `Full` -/
def storeA (fl : Bool) (P : List Pos) (hv : Pos → H) (A : Pos → Option (Leaf H)) : Pos → Option (Leaf H) := fun q =>
  if q ∈ P ∧ A q = none then some ⟨hv q, fl⟩ else A q

/-- `ingA` for a forest with `Full = fl`: every entry written carries `… || fl` -/
def fillA (fl : Bool) (PS PP ts : List Pos) (tv : Pos → H) (A : Pos → Option (Leaf H)) : Pos → Option (Leaf H) :=
  fun q => if q ∈ PS then some ⟨tv q, decide (q ∈ ts) || fl⟩ else storeA fl PP tv A q

/-- `CachedLeaves` after an ingest of the leaves `L`: each is cached at its position -/
def fillC (pos : H → Option Pos) (L : List H) (C : H → Option Pos) : H → Option Pos :=
  fun x => if x ∈ L then pos x else C x

theorem fillA_false : fillA false PS PP ts tv A = ingA PS PP ts tv A := by
  funext q
  simp only [fillA, storeA, ingA, Bool.or_false]

theorem fillA_some {l : Leaf H} (hl : fillA fl PS PP ts tv A q = some l) :
    (q ∈ PS ∧ l = ⟨tv q, decide (q ∈ ts) || fl⟩) ∨ (q ∉ PS ∧ q ∈ PP ∧ A q = none ∧ l = ⟨tv q, fl⟩) ∨
      (q ∉ PS ∧ A q = some l) := by
  unfold fillA storeA at hl
  by_cases hq : q ∈ PS
  · rw [if_pos hq] at hl
    exact Or.inl ⟨hq, (Option.some.inj hl).symm⟩
  · rw [if_neg hq] at hl
    by_cases hp : q ∈ PP ∧ A q = none
    · rw [if_pos hp] at hl
      exact Or.inr (Or.inl ⟨hq, hp.1, hp.2, (Option.some.inj hl).symm⟩)
    · rw [if_neg hp] at hl
      exact Or.inr (Or.inr ⟨hq, hl⟩)

theorem fillA_ne_none (h : A q ≠ none) : fillA fl PS PP ts tv A q ≠ none := by
  unfold fillA storeA
  split
  · exact nofun
  · rw [if_neg (fun c => h c.2)]
    exact h

theorem fillA_ne_none_of_mem (h : q ∈ PS ∨ q ∈ PP) : fillA fl PS PP ts tv A q ≠ none := by
  by_cases hA : A q = none
  · unfold fillA storeA
    by_cases hq : q ∈ PS
    · rw [if_pos hq]; exact nofun
    · rw [if_neg hq, if_pos ⟨h.resolve_left hq, hA⟩]; exact nofun
  · exact fillA_ne_none hA

theorem storeA_cons (p : Pos) (P : List Pos) (hv : Pos → H) (A : Pos → Option (Leaf H)) (x : Pos) :
    storeA fl (p :: P) hv A x = storeA fl P hv (if A p = none then upd A p (some ⟨hv p, fl⟩) else A) x := by
  unfold storeA
  by_cases hA : A p = none
  · rw [if_pos hA, upd_apply]
    by_cases hx : x = p
    · subst hx; simp [hA]
    · simp [hx]
  · rw [if_neg hA]
    by_cases hx : x = p
    · subst hx; simp [hA]
    · simp [hx]

end pure

section loops
variable {T : Nat} {fl : Bool}

/-- the two proof-storing loops in one induction: `ingest.store` fills the absent positions of `qs` with
the hashes of the proof (`pr` from index `i`: `qs.map hv`, then anything); `placeProof` does the same
to the state and hands the proof back unchanged when the hashes already stored are those of the proof -/
theorem store_rep (pr : List H) (hv : Pos → H) : ∀ (qs : List Pos) (i : Nat) (m : MapPollard H)
    (A : Pos → Option (Leaf H)) (C : H → Option Pos), Rep m T A C → m.full = fl →
    (∀ q ∈ qs, Valid T q) → (∃ junk, pr.drop i = qs.map hv ++ junk) →
    ∃ m', MapPollard.ingest.store pr (qs.map (encP T)) i m = (m', .ok ()) ∧
      ((∀ q ∈ qs, ∀ l, A q = some l → l.hash = hv q) →
        MapPollard.placeProof (qs.map (encP T)) i pr m = (m', .ok pr)) ∧
      Rep m' T (storeA fl qs hv A) C ∧ m'.full = fl ∧ m'.numLeaves = m.numLeaves := by
  intro qs
  induction qs with
  | nil =>
    intro i m A C rep hf _ _
    exact ⟨m, rfl, fun _ => rfl, rep.congr (fun q => if_neg (fun h => nomatch h.1)) (fun _ => rfl), hf, rfl⟩
  | cons q qs ih =>
    intro i m A C rep hf hv' hpr
    have hq : Valid T q := hv' q List.mem_cons_self
    have hvs : ∀ q' ∈ qs, Valid T q' := fun q' h => hv' q' (List.mem_cons_of_mem _ h)
    obtain ⟨junk, hj⟩ := hpr
    have h0 : pr[i]? = some (hv q) := by
      have := List.getElem?_drop (xs := pr) (i := i) (j := 0)
      rw [hj] at this
      exact this.symm
    have hprs : ∃ junk, pr.drop (i + 1) = qs.map hv ++ junk := ⟨junk, by rw [← List.drop_drop, hj]; rfl⟩
    rw [List.map_cons]
    unfold MapPollard.ingest.store MapPollard.placeProof
    rw [rep.hasNode hq, rep.node q hq]
    cases hA : A q with
    | some l =>
      obtain ⟨m', h1, h2, h3, h4⟩ := ih (i + 1) m A C rep hf hvs hprs
      refine ⟨m', h1, fun hst => ?_, h3.congr (fun x => ?_) (fun _ => rfl), h4⟩
      · -- the hash read back is the one the proof has at `i`
        have hlt : i < pr.length := by
          rcases Nat.lt_or_ge i pr.length with h | h
          · exact h
          · rw [List.getElem?_eq_none h] at h0; cases h0
        have hset : pr.set i l.hash = pr := by
          rw [hst q List.mem_cons_self l hA]
          rw [List.getElem?_eq_getElem hlt] at h0
          rw [← Option.some.inj h0]
          exact List.set_getElem_self hlt
        simp only
        rw [if_pos hlt, hset]
        exact h2 (fun q' h => hst q' (List.mem_cons_of_mem _ h))
      · rw [storeA_cons, hA, if_neg (fun h => nomatch h)]
    | none =>
      simp only [Option.isSome_none, Bool.false_eq_true, if_false]
      rw [h0]
      simp only
      rw [hf]
      obtain ⟨m', h1, h2, h3, h4⟩ := ih (i + 1) _ _ C (rep.putNode hq ⟨hv q, fl⟩) hf hvs hprs
      refine ⟨m', h1, fun hst => h2 ?_, h3.congr (fun x => ?_) (fun _ => rfl), h4⟩
      · intro q' h l hl
        rw [upd_apply] at hl
        split at hl
        · rename_i e
          rw [← Option.some.inj hl, e]
        · exact hst q' (List.mem_cons_of_mem _ h) l hl
      · rw [storeA_cons, if_pos hA]

theorem putCalculated_rep (isT' : U64 → Bool) (isT : Pos → Bool) (v : Pos → H) (pos : H → Option Pos) :
    ∀ (qs : List Pos) (m : MapPollard H) (A : Pos → Option (Leaf H)) (C : H → Option Pos), Rep m T A C →
    m.full = fl → (∀ q ∈ qs, Valid T q ∧ isT' (encP T q) = isT q) →
    (∀ q ∈ qs, isT q = true → pos (v q) = some q) →
    Rep (MapPollard.putCalculated isT' (qs.map (fun p => (encP T p, v p))) m) T
      (fun q => if q ∈ qs then some ⟨v q, isT q || fl⟩ else A q)
      (fun x => if ∃ t ∈ qs, isT t = true ∧ v t = x then pos x else C x) ∧
      (MapPollard.putCalculated isT' (qs.map (fun p => (encP T p, v p))) m).full = fl ∧
      (MapPollard.putCalculated isT' (qs.map (fun p => (encP T p, v p))) m).numLeaves = m.numLeaves := by
  intro qs
  induction qs with
  | nil =>
    intro m A C rep hf _ _
    exact ⟨rep.congr (fun q => by simp) (fun x => by simp), hf, rfl⟩
  | cons q qs ih =>
    intro m A C rep hf hq hpos
    obtain ⟨hqv, hqt⟩ := hq q List.mem_cons_self
    have hqs : ∀ q' ∈ qs, Valid T q' ∧ isT' (encP T q') = isT q' := fun q' h => hq q' (List.mem_cons_of_mem _ h)
    have hposs : ∀ q' ∈ qs, isT q' = true → pos (v q') = some q' := fun q' h => hpos q' (List.mem_cons_of_mem _ h)
    rw [List.map_cons]
    unfold MapPollard.putCalculated
    simp only
    rw [hqt, hf]
    have rep1 := rep.putNode hqv ⟨v q, isT q || fl⟩
    have hstore : ∀ x, (if x ∈ qs then some (⟨v x, isT x || fl⟩ : Leaf H)
        else upd A q (some ⟨v q, isT q || fl⟩) x) = if x ∈ q :: qs then some ⟨v x, isT x || fl⟩ else A x := by
      intro x
      by_cases hx : x ∈ qs
      · simp [hx]
      · by_cases hxq : x = q
        · subst hxq; simp [hx]
        · simp [hx, hxq, upd_ne]
    -- the cache: an entry written now is overwritten later only by the same value
    have hcache : ∀ (C1 : H → Option Pos), (∀ x, x ≠ v q ∨ isT q = false → C1 x = C x) →
        (isT q = true → C1 (v q) = some q) → ∀ x,
        (if ∃ t ∈ qs, isT t = true ∧ v t = x then pos x else C1 x) =
          if ∃ t ∈ q :: qs, isT t = true ∧ v t = x then pos x else C x := by
      intro C1 hC1 hC1q x
      by_cases hx : ∃ t ∈ qs, isT t = true ∧ v t = x
      · obtain ⟨t, h1, h2, h3⟩ := hx
        rw [if_pos ⟨t, h1, h2, h3⟩, if_pos ⟨t, List.mem_cons_of_mem _ h1, h2, h3⟩]
      · rw [if_neg hx]
        by_cases hxq : isT q = true ∧ v q = x
        · rw [if_pos ⟨q, List.mem_cons_self, hxq⟩, ← hxq.2, hC1q hxq.1]
          exact (hpos q List.mem_cons_self hxq.1).symm
        · rw [if_neg, hC1 x]
          · by_cases e : x = v q
            · exact Or.inr (Bool.eq_false_iff.2 (fun ht => hxq ⟨ht, e.symm⟩))
            · exact Or.inl e
          · rintro ⟨t, h1, h2, h3⟩
            rcases List.mem_cons.1 h1 with rfl | h1
            · exact hxq ⟨h2, h3⟩
            · exact hx ⟨t, h1, h2, h3⟩
    by_cases ht : isT q = true
    · rw [if_pos ht]
      obtain ⟨r', hf', hn'⟩ := ih _ _ _ (rep1.putCached (v q) hqv) hf hqs hposs
      refine ⟨r'.congr (fun x => (hstore x).symm) (fun x => (hcache _ ?_ (fun _ => upd_self _ _ _) x).symm), hf', hn'⟩
      rintro x (hx | hx)
      · exact upd_ne _ _ hx
      · rw [ht] at hx; cases hx
    · rw [if_neg ht]
      obtain ⟨r', hf', hn'⟩ := ih _ _ _ rep1 hf hqs hposs
      exact ⟨r'.congr (fun x => (hstore x).symm) (fun x => (hcache C (fun _ _ => rfl) (fun h => absurd h ht) x).symm),
        hf', hn'⟩

end loops

end UtreexoVerif.Proofs.MapIngest
