/-
  `FAH A C N P Hole`: the full image with a hole and a pending set: outside `Hole` the store is the image of `N`;
  the cache holds exactly the leaves of `N` that are not pending (`P`: the deleted leaves, which are cached again
  only at the end), and their positions lie outside the hole.  No proof uses it: `Undo` on a full forest is
  `MapFullUndo.finv_undo`, the `fl = true` reading of `MapUndoAll.xinv_undo`, and does not pass through it.
-/
import UtreexoVerif.Model.MapPollard

namespace UtreexoVerif.Proofs.MapFullUndoChain
open Model Spec
set_option linter.unusedSectionVars false

variable {H : Type} [DecidableEq H] [Hasher H]

structure FAH (A : Pos → Option (Leaf H)) (C : H → Option Pos) (N : List (Pos × H × Bool)) (P : H → Prop)
    (Hole : Pos → Prop) : Prop where
  val : ∀ q l, A q = some l → ¬ Hole q → l.remember = true ∧ ∃ b, (q, l.hash, b) ∈ N
  sto : ∀ q h b, (q, h, b) ∈ N → ¬ Hole q → A q = some ⟨h, true⟩
  cval : ∀ x t, C x = some t → (t, x, true) ∈ N ∧ ¬ Hole t ∧ ¬ P x
  csto : ∀ t x, (t, x, true) ∈ N → ¬ P x → C x = some t

variable {A : Pos → Option (Leaf H)} {C : H → Option Pos} {N : List (Pos × H × Bool)} {P : H → Prop}
  {Hole : Pos → Prop}

theorem FAH.leaf_out (fa : FAH A C N P Hole) {t : Pos} {x : H} (hm : (t, x, true) ∈ N) (hp : ¬ P x) : ¬ Hole t :=
  (fa.cval x t (fa.csto t x hm hp)).2.1

end UtreexoVerif.Proofs.MapFullUndoChain
