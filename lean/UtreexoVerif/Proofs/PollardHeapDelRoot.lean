/-
  Pointer forest, heap model: `deleteRoot` on a represented root: the root becomes an empty
  root (`data = empty`, chopped), everything below it garbage.
-/
import UtreexoVerif.Proofs.PollardHeapDelPrim
set_option linter.unusedSectionVars false

namespace UtreexoVerif.Proofs.PollardHeap
open UtreexoVerif.GoInt UtreexoVerif.Model UtreexoVerif.Model.PollardHeap UtreexoVerif.Spec Hasher

variable {H : Type} [DecidableEq H] [Hasher H]

theorem delNode_none (s : Pollard H) : delNode (none : Ptr) s = (.ok (), s) := rfl

/-- the last four assignments to the root in `deleteRoot`: `lNiece`, `rNiece := nil` end `chop`, then `aunt = nil` and
`data = empty` follow it -/
def emptied (hp : Heap H) (r : Nat) : Heap H :=
  (((hp.modify r (fun x => { x with lNiece := none })).modify r
    (fun x => { x with rNiece := none })).modify r (fun x => { x with aunt := none })).modify r
    (fun x => { x with data := zero })

theorem emptied_spec {hp : Heap H} {r : Nat} {rn : PolNode H} (h : hp[r]? = some rn) :
    EmptyRoot (emptied hp r) r ∧ Off [r] hp (emptied hp r) ∧ (emptied hp r).size = hp.size := by
  refine ⟨⟨{ rn with lNiece := none, rNiece := none, aunt := none, data := zero }, ?_, rfl, rfl, rfl, rfl⟩,
    fun j hj => ?_, by simp [emptied]⟩
  · simp only [emptied, Array.getElem?_modify, ↓reduceIte, h, Option.map_some]
  · have : r ≠ j := fun e => hj (by simp [e])
    simp only [emptied, Array.getElem?_modify, this, ↓reduceIte]

theorem deleteRoot_tree {hp : Heap H} {nm : List (H × Nat)} {rs : List Nat} {nl ndl : U64}
    {full : Bool} {r : Nat} {t : CTree H} {fp : List Nat} {lv : List (H × Nat)}
    (hR : RootRepr hp r t fp lv) (nd : (r :: fp).Nodup) (del : U64) (tree bl : U8) (bits : U64)
    (hdo : DetectOffset del nl = (tree, bl, bits, false))
    (hle : ¬ tree > ofInt 8 ((rs.length : Int) - 1))
    (hroot : rs[tree.toNat]? = some r) :
    ∃ hp', deleteRoot del ⟨hp, nm, rs, nl, ndl, full⟩ =
        (.ok (), ⟨hp', mapDel nm t.hash, rs, nl, ndl, full⟩) ∧
      EmptyRoot hp' r ∧ Off (r :: fp) hp hp' ∧ hp'.size = hp.size := by
  obtain ⟨⟨rn, hr, ar⟩, hs⟩ := hR
  rw [← hs.data_eq hr]
  cases hs with
  | leaf h1 h2 h3 h4 h5 =>
    rw [hr] at h1 h3; cases h1; cases h3
    obtain ⟨he, oe, sze⟩ := emptied_spec hr
    refine ⟨emptied hp r, ?_, he, fun j hj => oe j (fun h => hj (by simpa using h)), sze⟩
    unfold deleteRoot chop emptied
    simp only [bind_apply, getNumLeaves_apply, getRoots_apply, hdo, Bool.false_eq_true, if_false,
      hle, hroot, node_apply, hr, nodeMapDel_apply, h4, h5, deref_some, delNode_none,
      setNode_apply]
  | node h1 h2 h3 h4 h5 h6 h7 h8 h9 sa sb =>
    rename_i l r' nn hn0 ln rn' a b fa fb la lb
    rw [hr] at h1 h3; cases h1; cases h3
    have ndx := nd
    simp only [List.nodup_cons, List.mem_cons, List.mem_append, not_or, List.nodup_append] at ndx
    obtain ⟨⟨nrl, nrr, nrfa, nrfb⟩, ⟨nlr, nlfa, nlfb⟩, ⟨nr'fa, nr'fb⟩, ndfa, ndfb, dab⟩ := ndx
    -- the two children lose their aunt: written `l`, `r'`
    have o1 := Off.modify hp l (fun x => { x with aunt := none })
    have o2 := Off.modify (hp.modify l (fun x => { x with aunt := none })) r' (fun x => { x with aunt := none })
    obtain ⟨g2, g2_def⟩ : ∃ g2, g2 = (hp.modify l (fun x => { x with aunt := none })).modify r'
        (fun x => { x with aunt := none }) := ⟨_, rfl⟩
    rw [← g2_def] at o2
    have hr1 := (o1 r (by simpa using nrl)).trans hr
    have hl2 : g2[l]? = some { ln with aunt := none } := by
      rw [g2_def]; simp only [Array.getElem?_modify, Ne.symm nlr, ↓reduceIte, h6, Option.map_some]
    have hr'2 : g2[r']? = some { rn' with aunt := none } := by
      rw [g2_def]; simp only [Array.getElem?_modify, nlr, ↓reduceIte, h7, Option.map_some]
    have hr2 := (o2 r (by simpa using nrr)).trans hr1
    -- `chop`: `delNode` of either child writes the child and its nieces (the other child's children)
    obtain ⟨g3, x3, sz3, o3⟩ := delNode_off (K := fb) hl2 (by intro a ha; cases ha)
      (fun j k => sb.kid_mem h6 k) nlfb
    have hr3 := (o3 r (by simp [nrl, nrfb])).trans hr2
    have hr'3 := (o3 r' (by simp [Ne.symm nlr, nr'fb])).trans hr'2
    obtain ⟨g4, x4, sz4, o4⟩ := delNode_off (K := fa) hr'3 (by intro a ha; cases ha)
      (fun j k => sa.kid_mem h7 k) nr'fa
    have hr4 := (o4 r (by simp [nrr, nrfa])).trans hr3
    have xchop : ∀ nm', chop (some r) ⟨g2, nm', rs, nl, ndl, full⟩ =
        (.ok (), ⟨(g4.modify r (fun x => { x with lNiece := none })).modify r
          (fun x => { x with rNiece := none }), nm', rs, nl, ndl, full⟩) := fun nm' => by
      unfold chop
      refine (bind_ok (deref_some r _)).trans ((bind_ok (node_run hr2)).trans ?_)
      simp only [h4]
      refine (bind_ok (x3 _ _ _ _ _)).trans ((bind_ok (node_run hr3)).trans ?_)
      simp only [h5]
      exact (bind_ok (x4 _ _ _ _ _)).trans ((bind_ok setNode_run).trans setNode_run)
    obtain ⟨he, oe, sze⟩ := emptied_spec hr4
    refine ⟨emptied g4 r, ?_, he, ?_, by rw [sze, sz4, sz3, g2_def]; simp⟩
    · unfold deleteRoot emptied
      refine (bind_ok getNumLeaves_run).trans ?_
      refine (bind_ok getRoots_run).trans ?_
      simp only [hdo, Bool.false_eq_true, if_false, hle, hroot]
      refine (bind_ok (node_run hr)).trans ?_
      refine (bind_ok nodeMapDel_run).trans ?_
      simp only [h4]
      refine (bind_ok setNode_run).trans ?_
      refine (bind_ok (node_run hr1)).trans ?_
      simp only [h5]
      refine (bind_ok setNode_run).trans ?_
      simp only [← g2_def]
      refine (bind_ok (xchop _)).trans ?_
      exact (bind_ok setNode_run).trans setNode_run
    · refine (((((o1.trans o2).trans o3).trans o4).trans oe)).mono fun j hj => ?_
      simp only [List.mem_append, List.mem_cons, List.not_mem_nil, or_false] at hj ⊢
      rcases hj with (((h | h) | h | h) | h | h) | h <;> simp [h]

end UtreexoVerif.Proofs.PollardHeap
