/-
  The storage invariant on the abstract state `(A, C)` of `Proofs/MapRep.lean`, relative to a
  node list `N` with root predicate `R` (a placed forest), a virtual cached set `K ⊇ dom C` and a
  set `E` of positions exempt from "nothing unneeded" (used while a surgery is in progress).
-/
import UtreexoVerif.Proofs.PForest
import UtreexoVerif.Proofs.MapRep

namespace UtreexoVerif.Proofs.MapAInv
open Model Spec MapPrune Hasher
set_option linter.unusedSectionVars false

variable {H : Type} [DecidableEq H] [Hasher H]

def KLeaf (N : List (Pos × H × Bool)) (K : H → Prop) (t : Pos) : Prop := ∃ x, K x ∧ (t, x, true) ∈ N

theorem KLeaf.congr {N N' : List (Pos × H × Bool)} {K : H → Prop}
    (h : ∀ t x, (t, x, true) ∈ N' ↔ (t, x, true) ∈ N) (t : Pos) : KLeaf N' K t ↔ KLeaf N K t :=
  ⟨fun ⟨x, hk, hm⟩ => ⟨x, hk, (h t x).1 hm⟩, fun ⟨x, hk, hm⟩ => ⟨x, hk, (h t x).2 hm⟩⟩

structure AInv (A : Pos → Option (Leaf H)) (C : H → Option Pos) (N : List (Pos × H × Bool))
    (R : Pos → Prop) (K : H → Prop) (E : Pos → Prop) : Prop where
  true_hash : ∀ q l, A q = some l → ∃ b, (q, l.hash, b) ∈ N
  cache_sub : ∀ x t, C x = some t → K x
  cached_pos : ∀ x t, C x = some t → (t, x, true) ∈ N
  roots_stored : ∀ ρ, R ρ → A ρ ≠ none
  only_needed : ∀ q l, A q = some l → ¬ R q → ¬ E q → ∃ t, KLeaf N K t ∧ t.1 ≤ q.1 ∧ Anc (parent q) t
  has_needed : ∀ q h b, (q, h, b) ∈ N → ¬ R q → (KLeaf N K q ∨ ∃ t, KLeaf N K t ∧ Anc (sib q) t) → A q ≠ none
  flags : ∀ q l, A q = some l → l.hash ≠ zero → (l.remember = true ↔ KLeaf N K q)

end UtreexoVerif.Proofs.MapAInv
