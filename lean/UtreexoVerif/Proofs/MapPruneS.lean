/-
  `Prune` preserves the storage invariant `SInv` of partial forests: on top of `MapPrune.inv_pruneGo` (which gives
  `Inv`) the remember flags of the stored roots stay consistent with the cache.
-/
import UtreexoVerif.Proofs.MapSInv

namespace UtreexoVerif.Proofs.MapPruneS
open Model Spec MapAL MapInv MapPrune MapSInv Hasher
set_option linter.unusedSectionVars false

variable {H : Type} [DecidableEq H] [Hasher H]

theorem pruneOne_nodes (m : MapPollard H) (x : H) :
    (MapPollard.pruneOne x m).1.totalRows = m.totalRows ∧
    ∀ q l, (MapPollard.pruneOne x m).1.getNode q = some l →
      (m.getNode q = some l ∧ m.getCached x ≠ some q) ∨ (m.getCached x = some q ∧ l.remember = false) := by
  unfold MapPollard.pruneOne
  cases hc : m.getCached x with
  | none => exact ⟨rfl, fun q l h => Or.inl ⟨h, nofun⟩⟩
  | some p =>
    simp only
    cases hg : (m.delCached x).getNode p with
    | none =>
      refine ⟨rfl, fun q l h => Or.inl ⟨h, fun e => ?_⟩⟩
      rw [← Option.some.inj e, hg] at h
      cases h
    | some leaf =>
      simp only
      refine ⟨(pruneUp_shrinks _ _ _).1.2.2.1, fun q l h => ?_⟩
      have := (pruneUp_shrinks _ _ _).2 q l h
      rw [getNode_putNode] at this
      split at this
      · rename_i e
        exact Or.inr ⟨by rw [e], by rw [← Option.some.inj this]⟩
      · rename_i e
        exact Or.inl ⟨this, fun e' => e (Option.some.inj e').symm⟩

theorem rootFlags_pruneOne {m m' : MapPollard H} {F : Forest H} (inv : Inv m F) (hrf : RootFlags m F) (x : H)
    (he : MapPollard.pruneOne x m = (m', .ok ()))
    (hc : ∀ y, m'.getCached y = if y = x then none else m.getCached y) : RootFlags m' F := by
  obtain ⟨hT, hn⟩ := pruneOne_nodes m x
  rw [he] at hT hn
  simp only at hT hn
  intro q l hv hroot hg hnz
  rw [hT] at hv hg ⊢
  rcases hn _ l hg with ⟨h0, hx⟩ | ⟨h1, h2⟩
  · rw [hrf q l hv hroot h0 hnz]
    constructor
    · rintro ⟨y, hy⟩
      refine ⟨y, ?_⟩
      have hyx : y ≠ x := fun e => hx (e ▸ hy)
      rw [hc, if_neg hyx]
      exact hy
    · rintro ⟨y, hy⟩
      rw [hc] at hy
      split at hy
      · cases hy
      · exact ⟨y, hy⟩
  · constructor
    · intro h; rw [h2] at h; cases h
    · rintro ⟨y, hy⟩
      exfalso
      rw [hc] at hy
      split at hy
      · cases hy
      · rename_i hne
        obtain ⟨t1, hp1, he1⟩ := inv.cached_pos y _ hy
        obtain ⟨t2, hp2, he2⟩ := inv.cached_pos x _ h1
        have hv1 : Valid m.totalRows.toNat t1 := posOf_valid inv.rows_le hp1
        have hv2 : Valid m.totalRows.toNat t2 := posOf_valid inv.rows_le hp2
        have : t1 = t2 := encP_inj inv.total_le hv1 hv2 (he1.symm.trans he2)
        subst this
        exact hne (posOf_inj hp1 hp2)

theorem rootFlags_pruneGo : ∀ (hs : List H) {m m' : MapPollard H} {F : Forest H}, Inv m F → m.full = false →
    RootFlags m F → MapPollard.prune.go hs m = (m', .ok ()) → RootFlags m' F := by
  intro hs
  induction hs with
  | nil =>
    intro m m' F _ _ hrf he
    unfold MapPollard.prune.go at he
    rw [← (Prod.mk.inj he).1]; exact hrf
  | cons h hs ih =>
    intro m m' F inv hfull hrf he
    obtain ⟨m1, e1, inv1, hf1, hc1, _⟩ := inv_pruneOne inv hfull h
    unfold MapPollard.prune.go at he
    rw [e1] at he
    exact ih inv1 hf1 (rootFlags_pruneOne inv hrf h e1 hc1) he

/-- **`Prune` preserves the strong invariant**; exactly the named leaves leave the cache -/
theorem sinv_prune (nz : NZ H) {m : MapPollard H} {F : Forest H} (s : SInv m F) (hashes : List H) :
    ∃ m', MapPollard.prune hashes m = (m', .ok ()) ∧ SInv m' F ∧
      (∀ y, m'.hasCached y = true ↔ (m.hasCached y = true ∧ y ∉ hashes)) := by
  have inv := s.inv nz
  obtain ⟨m', e, inv', hf', hc', _⟩ := inv_pruneGo hashes inv s.full
  have hp : MapPollard.prune hashes m = (m', .ok ()) := by
    unfold MapPollard.prune
    rw [s.full]
    exact e
  refine ⟨m', hp, SInv.of_inv nz inv' hf' s.hyg (rootFlags_pruneGo hashes inv s.full (s.rootFlags nz) e), ?_⟩
  intro y
  rw [hasCached_eq, hasCached_eq, hc']
  by_cases hy : y ∈ hashes
  · simp [hy]
  · simp [hy]

end UtreexoVerif.Proofs.MapPruneS
