/-
  `getPrevPosFixed` (what `getPrevPos` of /repo/prove.go does: `undoAdd`, then `undoDel` with the
  positions created in the block saved and restored) satisfies `SchedIface.StepOK` (property C15).
-/
import UtreexoVerif.Proofs.SchedIface
import UtreexoVerif.Proofs.SchedDel

namespace UtreexoVerif.Proofs.SchedGpp
open UtreexoVerif.GoInt Spec.Sched Model
open UtreexoVerif.Proofs.SchedSem UtreexoVerif.Proofs.CalcGeo
open UtreexoVerif.Proofs.SchedUndoAdd UtreexoVerif.Proofs.SchedDel
open UtreexoVerif.Proofs.SchedAddU

theorem restore_fold {P : List Nat} (hP : P.Nodup) (v : Nat → U64) : ∀ (cs : List Nat) (w : Nat → U64),
    (∀ s ∈ cs, s ∈ P) →
    (cs.map fun s => (((P.idxOf s : Nat) : Int), v s)).foldl
        (fun c (ip : Int × U64) => c.set ip.1.toNat ip.2) (P.map w) =
      P.map (fun x => if x ∈ cs then v x else w x) := by
  intro cs
  induction cs with
  | nil => intro w _; simp
  | cons s cs ih =>
    intro w hcs
    simp only [List.map_cons, List.foldl_cons, Int.toNat_natCast]
    rw [CalcComplete.set_idxOf_map w s _ P hP, ih _ (fun x hx => hcs x (List.mem_cons_of_mem _ hx))]
    apply List.map_congr_left
    intro x _
    by_cases h1 : x ∈ cs
    · simp [h1]
    · by_cases h2 : x = s
      · simp [h2]
      · simp [h1, h2]

theorem zip_map_self {α β : Type} (f : α → β) : ∀ l : List α, l.zip (l.map f) = l.map fun x => (x, f x) :=
  fun _ => List.map_prod_left_eq_zip.symm

theorem sub_conv (n K : Nat) (hK : K < 65536) (hn : n + K < 2 ^ 64) :
    BitVec.ofNat 64 (n + K) - conv 64 (BitVec.ofNat 16 K) = BitVec.ofNat 64 n := by
  apply BitVec.eq_of_toNat_eq
  unfold conv
  rw [BitVec.toNat_sub, BitVec.toNat_setWidth, BitVec.toNat_ofNat, BitVec.toNat_ofNat, BitVec.toNat_ofNat,
    Nat.mod_eq_of_lt (show K < 2 ^ 16 by omega), Nat.mod_eq_of_lt (show K < 2 ^ 64 by omega),
    Nat.mod_eq_of_lt hn, Nat.mod_eq_of_lt (show n < 2 ^ 64 by omega)]
  omega

/-- `S'` = the slot list before the block, `D` the deleted slots, `K` additions -/
theorem gpp_fixed_spec {S' : List (Option Nat)} (hc : Canon S') {D : List Nat} (hD : D.Nodup)
    (hlive : ∀ x ∈ D, Live S' x) {K : Nat} (hK16 : K < 65536) (hn : S'.length + K ≤ 2 ^ 62)
    {P : List Nat} (hP : P.Nodup)
    (hPl : ∀ s ∈ P, Live (SchedSem.kill S' D ++ fresh S'.length K) s)
    {td : List U64} (htd : TdOK (SchedSem.kill S' D) K td) :
    getPrevPosFixed CSTTotalRows
        (P.map fun s => E 63 (posS (SchedSem.kill S' D ++ fresh S'.length K) s))
        (D.map fun x => E 63 (posS S' x)) td (BitVec.ofNat 16 K) (BitVec.ofNat 64 (S'.length + K)) =
      (P.map (fun s => if s < S'.length then E 63 (posS S' s) else BitVec.ofNat 64 s),
       createdOf S'.length P K) := by
  have hlen : (SchedSem.kill S' D).length = S'.length := SchedLives.kill_length S' D
  have hlt : ∀ s ∈ P, s < S'.length + K := by
    intro s hs
    have := SchedLives.live_lt (hPl s hs)
    simpa [hlen, SchedLives.fresh_length] using this
  have hadd := undoAdd_slots (S := SchedSem.kill S' D) hP (by rwa [hlen]) (by rwa [hlen]) hK16 htd
  rw [hlen] at hadd
  unfold getPrevPosFixed
  rw [cst_eq, hadd]
  simp only
  rw [sub_conv _ _ hK16 (by omega), createdOf_eq, List.map_map, List.zip_map', undoDel_map, List.map_map]
  -- the values saved for the created slots: reading `cached[idx]` back at the index of slot `s` gives `w s`
  have hmapcs : ∀ w : Nat → U64, (createdSlots S'.length P K).map
        (fun s => (((P.idxOf s : Nat) : Int),
          ((fun idx : Int => (List.map w P)[idx.toNat]?.getD 0#64) ∘ fun s => ((P.idxOf s : Nat) : Int)) s)) =
      (createdSlots S'.length P K).map fun s => (((P.idxOf s : Nat) : Int), w s) := by
    intro w
    apply List.map_congr_left
    intro s hs
    have hsP := ((mem_createdSlots _ _ _ _).mp hs).1
    simp only [Function.comp, Int.toNat_natCast, getElem?_map_idxOf _ hsP, Option.getD_some]
  rw [hmapcs, restore_fold hP _ _ _ (fun s hs => ((mem_createdSlots _ _ _ _).mp hs).1)]
  congr 1
  apply List.map_congr_left
  intro x hx
  by_cases hxn : x < S'.length
  · have hncs : x ∉ createdSlots S'.length P K := fun h => by
      have := ((mem_createdSlots _ _ _ _).mp h).2.1; omega
    rw [if_neg hncs, if_pos hxn]
    simp only [Function.comp, if_pos hxn]
    have hlx : Live (SchedSem.kill S' D) x := by
      have := hPl x hx
      unfold Live at this ⊢
      rwa [List.getElem?_append_left (by rw [hlen]; exact hxn)] at this
    obtain ⟨hl1, hl2⟩ := kill_live.mp hlx
    exact undoDel_pos hc (by omega) hD hlive hl1 hl2
  · have hcs : x ∈ createdSlots S'.length P K :=
      (mem_createdSlots _ _ _ _).mpr ⟨hx, by omega, hlt x hx⟩
    rw [if_pos hcs, if_neg hxn, if_neg hxn]

theorem stepOK_fixed {h : History} {tr : Tracker} (hw : wellFormed h = true)
    (hadds : ∀ b ∈ h, b.numAdds < 65536) (htot : total h ≤ 2 ^ 62) (hok : SchedIface.TrackerOK h tr) :
    SchedIface.StepOK getPrevPosFixed h tr := by
  intro t b dels td P hb hdels htd hP hPl
  have hD := SchedLives.wf_dels hw hb
  have hcan := SchedLives.stateAt_canon h t
  have hK : b.numAdds < 65536 := hadds b (List.mem_of_getElem? hb)
  obtain ⟨hS, hlen, hbound⟩ := SchedLives.block_facts htot hb
  have e1 := hok.dels t b hb
  rw [hdels] at e1
  obtain ⟨td', e2, htdok⟩ := hok.td t b hb
  rw [htd] at e2
  have hdels' : dels = b.delSlots.map fun s => E 63 (posS (stateAt h t) s) := Option.some.inj e1
  have htd' : td = td' := Option.some.inj e2
  subst hdels' htd'
  rw [hlen, hS]
  rw [hS] at hPl
  exact gpp_fixed_spec hcan hD.1 hD.2 hK hbound hP hPl htdok

end UtreexoVerif.Proofs.SchedGpp
