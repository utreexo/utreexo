/-
  The two row facts the step count of `calculateHashes` rests on (`Props.C04.RowFacts`),
  discharged from the bit-level definitions of utils.go by three observations:

  * `DetectRow p rows` counts the one bits of `p` from bit `rows` downwards
    (`detectRow_of_lead` of `Proofs/Geometry.lean`; here `toNat_detectRow_of_lead`), for arbitrary
    64-bit `p` (bits above `rows` are ignored);
  * `Parent` shifts a one in at bit `rows`, so it adds one to that count;
  * every position admitted by `maxPositionAtRow` is `≤ 2^(rows+1) - 2`, hence has a zero
    bit among bits `0..rows`, hence sits on a row `≤ rows`.
-/
import UtreexoVerif.Props.C04_statement
import UtreexoVerif.Proofs.Geometry

namespace UtreexoVerif.Proofs.RowFacts
open Model GoInt
open UtreexoVerif.Props.C04 (RowFacts)

theorem lead_exists (p : U64) (h : Nat) : ∃ r, r ≤ h + 1 ∧ Lead p h r := by
  have key : ∀ m, m ≤ h + 1 →
      (∀ k, k < m → p.getLsbD (h - k) = true) ∨ ∃ r, r < m ∧ Lead p h r := by
    intro m
    induction m with
    | zero => intro _; left; intro k hk; omega
    | succ m ih =>
      intro hm
      rcases ih (by omega) with hl | ⟨r, hr, hL⟩
      · cases hb : p.getLsbD (h - m)
        · right
          exact ⟨m, by omega, hl, fun _ => hb⟩
        · left
          intro k hk
          by_cases hkm : k = m
          · subst hkm; exact hb
          · exact hl k (by omega)
      · right
        exact ⟨r, by omega, hL⟩
  rcases key (h + 1) (Nat.le_refl _) with hl | ⟨r, hr, hL⟩
  · exact ⟨h + 1, Nat.le_refl _, hl, fun hc => by omega⟩
  · exact ⟨r, by omega, hL⟩

theorem toNat_detectRow_of_lead {p : U64} {tr : U8} {r : Nat} (hh : tr.toNat ≤ 63)
    (hr : r ≤ tr.toNat + 1) (hL : Lead p tr.toNat r) : (DetectRow p tr).toNat = r := by
  rw [detectRow_of_lead rfl hh hr hL, BitVec.toNat_ofNat]
  omega

theorem parent_getLsbD (p : U64) (tr : U8) (hh : tr.toNat ≤ 63) (j : Nat) :
    (Parent p tr).getLsbD j = if j = tr.toNat then true else p.getLsbD (j + 1) := by
  unfold Parent
  rw [one_shl_eq_twoPow, shr_eq, BitVec.getLsbD_or, BitVec.getLsbD_ushiftRight,
    BitVec.getLsbD_twoPow]
  by_cases hjt : j = tr.toNat
  · simp [hjt]; omega
  · have : ¬ (tr.toNat = j) := fun h => hjt h.symm
    simp [hjt, this, Nat.add_comm]

theorem lead_parent {p : U64} {tr : U8} {r : Nat} (hh : tr.toNat ≤ 63) (hr : r ≤ tr.toNat)
    (hL : Lead p tr.toNat r) : Lead (Parent p tr) tr.toNat (r + 1) := by
  constructor
  · intro k hk
    rw [parent_getLsbD p tr hh]
    split
    · rfl
    · rename_i hne
      have hk0 : 0 < k := by
        rcases Nat.eq_zero_or_pos k with h0 | h0
        · subst h0; exact absurd (Nat.sub_zero _) hne
        · exact h0
      have e : tr.toNat - k + 1 = tr.toNat - (k - 1) := by omega
      rw [e]
      exact hL.1 (k - 1) (by omega)
  · intro hr1
    rw [parent_getLsbD p tr hh, if_neg (by omega)]
    have e : tr.toNat - (r + 1) + 1 = tr.toNat - r := by omega
    rw [e]
    exact hL.2 hr

theorem ge_of_all_ones {p : U64} {h : Nat} (hL : Lead p h (h + 1)) :
    2 ^ (h + 1) - 1 ≤ p.toNat := by
  have e : p.toNat % 2 ^ (h + 1) = 2 ^ (h + 1) - 1 := mod_of_low_ones fun j hj => by
    have := hL.1 (h - j) (by omega)
    rwa [show h - (h - j) = j by omega, ← BitVec.testBit_toNat] at this
  have := Nat.mod_le p.toNat (2 ^ (h + 1))
  omega

theorem toNat_treeRows (n : U64) :
    (n.toNat ≤ 2 ^ 63 → (TreeRows n).toNat ≤ 63) ∧ n.toNat ≤ 2 ^ (TreeRows n).toNat := by
  rw [treeRows_toNat]
  exact ⟨forestRows_small, forestRows_spec_le _⟩

theorem maxPositionAtRow_le (row tr : U8) (n : U64) (hh : tr.toNat ≤ 63)
    (hn : n.toNat ≤ 2 ^ tr.toNat) :
    (maxPositionAtRow row tr n).1.toNat ≤ 2 ^ (tr.toNat + 1) - 2 := by
  have hpow : 2 ^ (tr.toNat + 1) = 2 * 2 ^ tr.toNat := two_pow_succ' _
  have hpos : 0 < 2 ^ tr.toNat := Nat.two_pow_pos _
  have hdec : ∀ v : U64, v.toNat ≤ 2 ^ (tr.toNat + 1) - 1 →
      (if (v != 0#64) = true then (v - 1#64, false) else (v, false)).1.toNat ≤
        2 ^ (tr.toNat + 1) - 2 := by
    intro v hv
    split
    · rename_i hne
      have hne' : v ≠ 0#64 := by simpa using hne
      have : v.toNat ≠ 0 := fun h => hne' (BitVec.eq_of_toNat_eq (by simpa using h))
      show (v - 1#64).toNat ≤ _
      rw [BitVec.toNat_sub]
      simp
      omega
    · rename_i hne
      have : v = 0#64 := by simpa using hne
      subst this
      simp
  have hPM : (ParentMany n row tr).1.toNat ≤ 2 ^ (tr.toNat + 1) - 1 := by
    unfold ParentMany
    split
    · show n.toNat ≤ _
      omega
    · split
      · simp
      · show (_ &&& (shl 2#64 tr.toNat - 1#64)).toNat ≤ _
        rw [toNat_and_mask hh]
        have := Nat.mod_lt (((shr n row.toNat ||| shl (shl 2#64 tr.toNat - 1#64)
          (conv 64 (tr - (row - 1#8))).toNat)).toNat) (Nat.two_pow_pos (tr.toNat + 1))
        omega
  unfold maxPositionAtRow
  generalize ParentMany n row tr = pm at hPM
  obtain ⟨v, e⟩ := pm
  cases e
  · exact hdec v hPM
  · simp

theorem rowFacts (n : U64) (hn : n.toNat ≤ 2 ^ 63) : RowFacts n := by
  obtain ⟨h63, hle⟩ := toNat_treeRows n
  have hh := h63 hn
  constructor
  · intro p row _ hp
    obtain ⟨r, hr, hL⟩ := lead_exists p (TreeRows n).toNat
    have hmax := maxPositionAtRow_le row (TreeRows n) n hh hle
    have hp' : p.toNat ≤ _ := BitVec.le_def.mp hp
    rw [BitVec.le_def, toNat_detectRow_of_lead hh hr hL]
    by_cases hrh : r ≤ (TreeRows n).toNat
    · exact hrh
    · have hr' : r = (TreeRows n).toNat + 1 := by omega
      subst hr'
      have := ge_of_all_ones hL
      have hpos : 0 < 2 ^ (TreeRows n).toNat := Nat.two_pow_pos _
      have hpow : 2 ^ ((TreeRows n).toNat + 1) = 2 * 2 ^ (TreeRows n).toNat := two_pow_succ' _
      omega
  · intro p hp
    obtain ⟨r, hr, hL⟩ := lead_exists p (TreeRows n).toNat
    rw [BitVec.le_def, toNat_detectRow_of_lead hh hr hL] at hp
    rw [toNat_detectRow_of_lead hh hr hL,
      toNat_detectRow_of_lead hh (by omega) (lead_parent hh hp hL)]

end UtreexoVerif.Proofs.RowFacts
