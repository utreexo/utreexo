/-
  FULL map forests (`NewMapPollard(true)`): `FInv m F` — every node of the specification forest `F` (empty roots
  included) is stored with its true hash and the remember flag set, every live leaf is cached at its position.
  On the abstract state this is `FA A C N P` with an empty pending set `P`, which is `GI true` (`gi_of_fa`, `fa_of_gi`).
  `FInv.inv` gives `Inv` (`Proofs/MapInv.lean`), hence everything `Props/C09.lean` proves from it.
-/
import UtreexoVerif.Proofs.MapSInv
import UtreexoVerif.Proofs.MapGI

namespace UtreexoVerif.Proofs.MapFull
open Model Spec MapAL MapInv MapRep MapLiftGeo PForest
  PForestSpec MapSInv Hasher
set_option linter.unusedSectionVars false

variable {H : Type} [DecidableEq H] [Hasher H]

/-- the abstract state `(A, C)` is the FULL image of the node list `N`; the cache lacks exactly
the leaves whose hash is pending (`P`; empty in every use) -/
structure FA (A : Pos → Option (Leaf H)) (C : H → Option Pos) (N : List (Pos × H × Bool)) (P : H → Prop) :
    Prop where
  dom : ∀ q l, A q = some l → ∃ h b, (q, h, b) ∈ N
  sto : ∀ q h b, (q, h, b) ∈ N → A q = some ⟨h, true⟩
  cdom : ∀ x t, C x = some t → ¬ P x ∧ ∃ t', (t', x, true) ∈ N
  csto : ∀ t x, (t, x, true) ∈ N → ¬ P x → C x = some t

namespace FA
variable {A : Pos → Option (Leaf H)} {C : H → Option Pos} {N : List (Pos × H × Bool)} {P : H → Prop}

theorem val (fa : FA A C N P) {q : Pos} {l : Leaf H} (h : A q = some l) :
    l.remember = true ∧ ∃ b, (q, l.hash, b) ∈ N := by
  obtain ⟨h', b, hm⟩ := fa.dom q l h
  have := fa.sto q h' b hm
  rw [h] at this
  simp only [Option.some.injEq] at this
  subst this
  exact ⟨rfl, b, hm⟩

theorem flag (fa : FA A C N P) {q : Pos} {l : Leaf H} (h : A q = some l) : l.remember = true := (fa.val h).1

theorem mem (fa : FA A C N P) {q : Pos} {l : Leaf H} (h : A q = some l) : ∃ b, (q, l.hash, b) ∈ N := (fa.val h).2

theorem func (fa : FA A C N P) {q : Pos} {h h' : H} {b b' : Bool} (h1 : (q, h, b) ∈ N) (h2 : (q, h', b') ∈ N) :
    h = h' := by
  have e1 := fa.sto q h b h1
  have e2 := fa.sto q h' b' h2
  rw [e1] at e2
  simp only [Option.some.injEq, Leaf.mk.injEq, and_true] at e2
  exact e2

theorem cpos (fa : FA A C N P) {x : H} {t : Pos} (h : C x = some t) : (t, x, true) ∈ N := by
  obtain ⟨hp, t', hm⟩ := fa.cdom x t h
  have := fa.csto t' x hm hp
  rw [h] at this
  simp only [Option.some.injEq] at this
  rw [this]; exact hm

theorem stored (fa : FA A C N P) {q : Pos} {h : H} {b : Bool} (hm : (q, h, b) ∈ N) : A q ≠ none := by
  rw [fa.sto q h b hm]; simp

theorem congr_P {P' : H → Prop} (fa : FA A C N P) (h : ∀ x, P' x ↔ P x) : FA A C N P' := by
  have : P' = P := funext fun x => propext (h x)
  rw [this]; exact fa

end FA

section GI
open MapGI
variable {A : Pos → Option (Leaf H)} {C : H → Option Pos} {N : List (Pos × H × Bool)} {R : Pos → Prop}

theorem gi_of_fa (L : Laws N R) (fa : FA A C N (fun _ => False)) :
    GI true A C N R (fun x => (C x).isSome = true) (fun _ => False) := by
  have hK : ∀ t x, (t, x, true) ∈ N → (C x).isSome = true := fun t x ht => by rw [fa.csto t x ht (fun h => h)]; rfl
  exact {
    true_hash := fun q l hl => fa.mem hl
    cache_sub := fun x t hx => by rw [hx]; rfl
    cached_pos := fun x t hx => fa.cpos hx
    roots_stored := fun ρ hρ => by obtain ⟨h, b, hm⟩ := L.root_node ρ hρ; exact fa.stored hm
    only_needed := by
      intro q l hl hnr _
      obtain ⟨b, hb⟩ := fa.mem hl
      obtain ⟨t, x, ht, ha⟩ := L.has_leaf q _ b hb (L.nonzero_of_nonroot hb hnr)
      exact ⟨t, ⟨x, hK t x ht, ht⟩, ha.1, Anc.trans (anc_parent_self q) ha⟩
    has_needed := fun q h b hm _ _ => fa.stored hm
    flags := fun q l hl _ => by simp [fa.flag hl]
    flagsZ := fun _ q l hl => fa.flag hl
    fullK := fun _ => hK }

theorem fa_of_gi (L : Laws N R) (g : GI true A C N R (fun x => (C x).isSome = true) (fun _ => False)) :
    FA A C N (fun _ => False) where
  dom q l hl := by obtain ⟨b, hb⟩ := g.true_hash q l hl; exact ⟨_, b, hb⟩
  sto q h b hm := g.entry_of_full L hm
  cdom x t hx := ⟨fun h => h, t, g.cached_pos x t hx⟩
  csto t x hm _ := by
    obtain ⟨t', ht'⟩ := Option.isSome_iff_exists.1 (g.fullK rfl t x hm)
    rw [ht', L.leaf_hash t x t' true hm (g.cached_pos x t' ht')]

end GI

/-- **the invariant of a FULL map forest**: `m` is allocated for `m.totalRows ≥ F.rows` rows
(at most 63), `m.full`, `Nodes` is EXACTLY the set of nodes of `F` (the empty roots included) with
their true hashes, keyed by their positions in `TotalRows` coordinates, every remember flag set;
`CachedLeaves` maps EXACTLY the live leaves to their positions; the live leaves are hygienic. -/
structure FInv (m : MapPollard H) (F : Forest H) : Prop where
  n_lt : F.numLeaves < 2 ^ 63
  n_eq : m.numLeaves = BitVec.ofNat 64 F.numLeaves
  rows_le : F.rows ≤ m.totalRows.toNat
  total_le : m.totalRows.toNat ≤ 63
  full : m.full = true
  hyg : Hyg F
  nodes : ∀ p l, m.getNode p = some l ↔
    ∃ q b, (q, l.hash, b) ∈ F.nodes ∧ p = encP m.totalRows.toNat q ∧ l.remember = true
  cached : ∀ x p, m.getCached x = some p ↔ ∃ t, (t, x, true) ∈ F.nodes ∧ p = encP m.totalRows.toNat t

theorem FInv.n_lt64 {m : MapPollard H} {F : Forest H} (s : FInv m F) : F.numLeaves < 2 ^ 64 := by
  have := s.n_lt; omega

theorem FInv.laws (nz : NZ H) {m : MapPollard H} {F : Forest H} (s : FInv m F) : Laws F.nodes (FRoot F) :=
  laws_forest nz F s.n_lt64 s.hyg

theorem FInv.abs {m : MapPollard H} {F : Forest H} (s : FInv m F) :
    ∃ A C, Rep m m.totalRows.toNat A C ∧ FA A C F.nodes (fun _ => False) := by
  have hT := s.total_le
  have rep : Rep m m.totalRows.toNat (absA m m.totalRows.toNat) (absC m m.totalRows.toNat) := by
    refine rep_abs hT (U8_eq_H8 m.totalRows) ?_ ?_
    · intro p l hg
      obtain ⟨q, b, hm, hp, _⟩ := (s.nodes p l).1 hg
      exact ⟨q, node_valid s.rows_le hm, hp⟩
    · intro x p hc
      obtain ⟨t, hm, hp⟩ := (s.cached x p).1 hc
      exact ⟨t, node_valid s.rows_le hm, hp⟩
  refine ⟨_, _, rep, ?_⟩
  refine { dom := ?_, sto := ?_, cdom := ?_, csto := ?_ }
  · intro q l hl
    have hv := rep.dom q l hl
    have hg : m.getNode (encP m.totalRows.toNat q) = some l := by rw [rep.node q hv]; exact hl
    obtain ⟨q', b, hm, hp, _⟩ := (s.nodes _ l).1 hg
    have : q = q' := encP_inj hT hv (node_valid s.rows_le hm) hp
    subst this
    exact ⟨_, b, hm⟩
  · intro q h b hm
    have hv := node_valid s.rows_le hm
    rw [← rep.node q hv]
    exact (s.nodes _ ⟨h, true⟩).2 ⟨q, b, hm, rfl, rfl⟩
  · intro x t hx
    refine ⟨fun h => h, ?_⟩
    have hc : m.getCached x = some (encP m.totalRows.toNat t) := by rw [rep.cache x, hx]; rfl
    obtain ⟨t', hm, _⟩ := (s.cached x _).1 hc
    exact ⟨t', hm⟩
  · intro t x hm _
    have hc : m.getCached x = some (encP m.totalRows.toNat t) := (s.cached x _).2 ⟨t, hm, rfl⟩
    rw [rep.cache x] at hc
    cases hC : absC m m.totalRows.toNat x with
    | none => rw [hC] at hc; cases hc
    | some t' =>
      rw [hC] at hc
      simp only [Option.map_some, Option.some.injEq] at hc
      have := encP_inj hT (rep.cdom x t' hC) (node_valid s.rows_le hm) hc
      rw [this]

theorem FInv.of_abs {m : MapPollard H} {F : Forest H} {T : Nat} {A : Pos → Option (Leaf H)} {C : H → Option Pos}
    (rep : Rep m T A C) (fa : FA A C F.nodes (fun _ => False))
    (hn : F.numLeaves < 2 ^ 63) (hne : m.numLeaves = BitVec.ofNat 64 F.numLeaves) (hrows : F.rows ≤ T)
    (hfull : m.full = true) (hy : Hyg F) : FInv m F := by
  have hT : m.totalRows.toNat = T := by rw [rep.rows]; exact toNat_H8 rep.T_le
  refine { n_lt := hn, n_eq := hne, rows_le := by rw [hT]; exact hrows, total_le := by rw [hT]; exact rep.T_le,
           full := hfull, hyg := hy, nodes := ?_, cached := ?_ }
  · intro p l
    rw [hT]
    constructor
    · intro hg
      obtain ⟨q, hv, rfl⟩ := rep.keys p l hg
      rw [rep.node q hv] at hg
      obtain ⟨hr, b, hm⟩ := fa.val hg
      exact ⟨q, b, hm, rfl, hr⟩
    · rintro ⟨q, b, hm, rfl, hr⟩
      have hA := fa.sto q l.hash b hm
      have hv := rep.dom q _ hA
      rw [rep.node q hv, hA]
      congr 1
      cases l
      simp only at hr
      subst hr
      rfl
  · intro x p
    rw [hT]
    constructor
    · intro hc
      rw [rep.cache x] at hc
      cases hC : C x with
      | none => rw [hC] at hc; cases hc
      | some t =>
        rw [hC] at hc
        simp only [Option.map_some, Option.some.injEq] at hc
        exact ⟨t, fa.cpos hC, hc.symm⟩
    · rintro ⟨t, hm, rfl⟩
      rw [rep.cache x, fa.csto t x hm (fun h => h)]
      rfl

theorem FInv.hasCached_iff {m : MapPollard H} {F : Forest H} (s : FInv m F) (x : H) :
    m.hasCached x = true ↔ x ∈ F.liveLeaves := by
  have hn64 := s.n_lt64
  rw [hasCached_eq]
  constructor
  · intro h
    obtain ⟨p, hp⟩ := Option.isSome_iff_exists.1 h
    obtain ⟨t, hm, _⟩ := (s.cached x p).1 hp
    rw [← leaves_ofForest F hn64]
    exact leaf_entry_mem (by rw [nodes_ofForest]; exact hm)
  · intro h
    rw [← leaves_ofForest F hn64] at h
    obtain ⟨t, ht⟩ := exists_leaf_entry h
    rw [nodes_ofForest] at ht
    rw [(s.cached x _).2 ⟨t, ht, rfl⟩]; rfl

/-- **a full forest satisfying `FInv` satisfies the storage invariant `Inv`** (`Proofs/MapInv.lean`;
its flag clause is about `full = false` only): hence its look-ups tell the truth, its roots are
the specification's and `Prove` returns the canonical proof -/
theorem FInv.inv (nz : NZ H) {m : MapPollard H} {F : Forest H} (s : FInv m F) : Inv m F := by
  obtain ⟨A, C, rep, fa⟩ := s.abs
  exact inv_of_gi nz rep (gi_of_fa (s.laws nz) fa) s.n_lt s.n_eq s.rows_le s.total_le
    s.full s.hyg

end UtreexoVerif.Proofs.MapFull

section Axioms
open UtreexoVerif.Proofs.MapFull
#print axioms FInv.inv
#print axioms FInv.abs
#print axioms FInv.of_abs
end Axioms
