/-
  Pointer forest, heap model: soundness of the executable abstraction function / check
  (`Model/PollardHeapWF.lean`) with respect to the representation predicates.
-/
import UtreexoVerif.Proofs.PollardHeapSub
set_option linter.unusedSectionVars false

namespace UtreexoVerif.Proofs.PollardHeap
open UtreexoVerif.Model.PollardHeap UtreexoVerif.Spec Hasher

variable {H : Type} [DecidableEq H] [Hasher H]

theorem readSub_sound (hp : Heap H) : ∀ (fuel n holder : Nat) (i : SubInfo H),
    readSub hp fuel n holder = some i → Sub hp n holder i.tree i.fp i.leaves := by
  intro fuel
  induction fuel with
  | zero => intro n holder i h; cases h
  | succ fuel ih =>
    intro n holder i h
    unfold readSub at h
    -- every `split` leaves the successful branch first and `none = some i` after it
    split at h
    case h_2 => cases h
    rename_i nn hn0 hn hh
    split at h
    case h_3 => cases h
    case h_1 hL hR =>
      cases h
      exact Sub.leaf hn rfl hh hL hR
    rename_i l r hL hR
    split at h
    case h_2 => cases h
    rename_i ln rn el er
    split at h
    case isFalse => cases h
    rename_i haunt
    split at h
    case h_2 => cases h
    rename_i a b ha hb
    split at h
    case isFalse => cases h
    rename_i hd
    cases h
    exact Sub.node hn hd hh hL hR el er haunt.1 haunt.2 (ih _ _ _ ha) (ih _ _ _ hb)

def fpOf (o : Option (SubInfo H)) : List Nat :=
  match o with
  | some i => i.fp
  | none => []

def lvOf (o : Option (SubInfo H)) : List (H × Nat) :=
  match o with
  | some i => i.leaves
  | none => []

theorem readRoot_sound (hp : Heap H) (row r : Nat) (o : Option (SubInfo H))
    (h : readRoot hp row r = some o) : ReprRoot hp r (o.map (·.tree)) (fpOf o) (lvOf o) := by
  unfold readRoot at h
  split at h
  case h_1 => cases h
  rename_i rn hr
  by_cases haunt : rn.aunt = none
  case neg => rw [if_pos haunt] at h; cases h
  rw [if_neg (not_not_intro haunt)] at h
  by_cases he : isEmptyRoot hp r = true
  · rw [if_pos he] at h
    cases h
    unfold isEmptyRoot at he
    rw [hr] at he
    simp only [Bool.and_eq_true, decide_eq_true_eq, Option.isNone_iff_eq_none] at he
    exact ⟨⟨rn, hr, haunt, he.1.1, he.1.2, he.2⟩, rfl, rfl⟩
  · rw [if_neg he] at h
    cases hs : readSub hp (row + 1) r r with
    | none => rw [hs] at h; cases h
    | some i =>
      rw [hs] at h
      cases h
      exact ⟨⟨rn, hr, haunt⟩, readSub_sound hp _ _ _ _ hs⟩

theorem ownedOf_cons (r : Nat) (o : Option (SubInfo H)) (rest : List (Nat × Option (SubInfo H))) :
    ownedOf ((r, o) :: rest) = r :: fpOf o ++ ownedOf rest := by
  cases o <;> rfl

theorem leavesOf_cons (r : Nat) (o : Option (SubInfo H)) (rest : List (Nat × Option (SubInfo H))) :
    leavesOf ((r, o) :: rest) = lvOf o ++ leavesOf rest := by
  cases o <;> rfl

theorem readRoots_sound (hp : Heap H) : ∀ (rows rs : List Nat) (l : List (Nat × Option (SubInfo H))),
    readRoots hp rows rs = some l →
    ReprRoots hp rs (l.map (fun e => e.2.map (·.tree))) (ownedOf l) (leavesOf l) ∧
      l.length = rows.length ∧ l.map (·.1) = rs := by
  intro rows
  induction rows with
  | nil =>
    intro rs l h
    cases rs with
    | nil => cases h; exact ⟨ReprRoots.nil, rfl, rfl⟩
    | cons r rs => cases h
  | cons row rows ih =>
    intro rs l h
    cases rs with
    | nil => cases h
    | cons r rs =>
      rw [readRoots] at h
      split at h
      case h_2 => cases h
      rename_i o rest h1 h2
      cases h
      obtain ⟨a, b, c⟩ := ih rs rest h2
      refine ⟨?_, congrArg (· + 1) b, congrArg (r :: ·) c⟩
      rw [ownedOf_cons, leavesOf_cons]
      exact ReprRoots.cons (readRoot_sound hp row r o h1) a

theorem mapOK_of_checks (m lv : List (H × Nat)) (h2 : (m.map (·.1)).Nodup)
    (h3 : m.all (fun e => lv.contains e) = true) (h4 : lv.all (fun e => m.contains e) = true) :
    MapOK m lv := by
  refine ⟨h2, fun e => ⟨fun he => ?_, fun he => ?_⟩⟩
  · exact List.contains_iff_mem.1 (List.all_eq_true.mp h3 e he)
  · exact List.contains_iff_mem.1 (List.all_eq_true.mp h4 e he)

theorem tests_passed {b1 b2 b3 b4 f : Bool} {s1 s2 s3 s4 : String}
    (h : (if !b1 then some s1 else if !b2 then some s2 else if !b3 then some s3
      else if f && !b4 then some s4 else none) = none) :
    b1 = true ∧ b2 = true ∧ b3 = true ∧ (f = true → b4 = true) := by
  cases b1
  · cases h
  cases b2
  · cases h
  cases b3
  · cases h
  refine ⟨rfl, rfl, rfl, fun hf => ?_⟩
  cases b4
  · rw [hf] at h; cases h
  · rfl

theorem wfCheck_tests (p : Pollard H) (hfull : p.full = true) (h : wfCheck p = none) :
    ∃ infos, readRoots p.heap (treeRows p.numLeaves.toNat) p.roots = some infos ∧
      (ownedOf infos).Nodup ∧ MapOK p.nodeMap (leavesOf infos) := by
  unfold wfCheck at h
  cases hr : readRoots p.heap (treeRows p.numLeaves.toNat) p.roots with
  | none => rw [hr] at h; cases h
  | some infos =>
    rw [hr] at h
    obtain ⟨h1, h2, h3, h4⟩ := tests_passed h
    exact ⟨infos, rfl, of_decide_eq_true h1,
      mapOK_of_checks _ _ (of_decide_eq_true h2) h3 (h4 hfull)⟩

theorem absTrees_inv (p : Pollard H) (ts : List (Nat × Option (CTree H)))
    (h : absTrees p = some ts) :
    ∃ infos, readRoots p.heap (treeRows p.numLeaves.toNat) p.roots = some infos ∧
      ReprRoots p.heap p.roots (ts.map (·.2)) (ownedOf infos) (leavesOf infos) ∧
      ts.map (·.1) = treeRows p.numLeaves.toNat := by
  unfold absTrees at h
  dsimp only at h
  cases hr : readRoots p.heap (treeRows p.numLeaves.toNat) p.roots with
  | none => rw [hr] at h; cases h
  | some infos =>
    rw [hr] at h
    cases h
    obtain ⟨a, b, _⟩ := readRoots_sound p.heap _ _ infos hr
    have hlen : (treeRows p.numLeaves.toNat).length =
        (infos.map (fun e => e.2.map (·.tree))).length := by rw [List.length_map, b]
    refine ⟨infos, rfl, ?_, List.map_fst_zip (Nat.le_of_eq hlen)⟩
    rw [List.map_snd_zip (Nat.le_of_eq hlen.symm)]
    exact a

theorem abs_of_check (p : Pollard H) (F : Forest H) (hfull : p.full = true)
    (hc : wfCheck p = none) (hn : p.numLeaves.toNat = F.numLeaves)
    (ht : absTrees p = some F.trees) : Abs p F := by
  obtain ⟨infos, hr, h1, h2⟩ := wfCheck_tests p hfull hc
  obtain ⟨infos', hr', a, _⟩ := absTrees_inv p _ ht
  cases hr.symm.trans hr'
  exact ⟨hn, _, _, a, h1, h2⟩

theorem Sub.det {hp : Heap H} {n h : Nat} {t : CTree H} {fp : List Nat} {lv : List (H × Nat)}
    (s1 : Sub hp n h t fp lv) : ∀ {t' : CTree H} {fp' : List Nat} {lv' : List (H × Nat)},
    Sub hp n h t' fp' lv' → t = t' := by
  induction s1 with
  | leaf h1 h2 h3 h4 h5 =>
    intro t' fp' lv' s2
    cases s2 with
    | leaf g1 g2 g3 g4 g5 =>
      cases h1.symm.trans g1
      rw [← h2, ← g2]
    | node g1 g2 g3 g4 g5 =>
      cases h3.symm.trans g3
      cases h4.symm.trans g4
  | node h1 h2 h3 h4 h5 h6 h7 h8 h9 sa sb iha ihb =>
    intro t' fp' lv' s2
    cases s2 with
    | leaf g1 g2 g3 g4 g5 =>
      cases h3.symm.trans g3
      cases h4.symm.trans g4
    | node g1 g2 g3 g4 g5 g6 g7 g8 g9 ga gb =>
      cases h3.symm.trans g3
      cases h4.symm.trans g4
      cases h5.symm.trans g5
      rw [iha ga, ihb gb]

theorem ReprRoot.hash_zero {hp : Heap H} {r : Nat} {t : CTree H} {fp fp' : List Nat}
    {l l' : List (H × Nat)} (a : ReprRoot hp r none fp l) (b : ReprRoot hp r (some t) fp' l') :
    t.hash = zero := by
  obtain ⟨⟨rn, e1, _, e2, _, _⟩, _⟩ := a
  exact (b.2.data_eq e1).symm.trans e2

/-- the non-zero hypotheses: an empty root and a lone all-zero leaf look the same — in Go as well -/
theorem ReprRoots.det {hp : Heap H} {rs : List Nat} {ts : List (Option (CTree H))} {o : List Nat}
    {l : List (H × Nat)} (h1 : ReprRoots hp rs ts o l) :
    ∀ {ts' : List (Option (CTree H))} {o' : List Nat} {l' : List (H × Nat)},
    ReprRoots hp rs ts' o' l' → (∀ t, some t ∈ ts → t.hash ≠ zero) → (∀ t, some t ∈ ts' → t.hash ≠ zero) →
    ts = ts' := by
  induction h1 with
  | nil => intro ts' o' l' h2 _ _; cases h2; rfl
  | @cons r t fp lv rs ts owned lvs a b ih =>
    intro ts' o' l' h2 z1 z2
    cases h2 with
    | @cons _ t' fp' lv' _ ts'' owned' lvs' a' b' =>
      have e : t = t' := by
        cases t with
        | none =>
          cases t' with
          | none => rfl
          | some t' => exact absurd (a.hash_zero a') (z2 t' (.head _))
        | some t =>
          cases t' with
          | none => exact absurd (a'.hash_zero a) (z1 t (.head _))
          | some t' => rw [a.2.det a'.2]
      rw [e, ih b' (fun t ht => z1 t (.tail _ ht)) (fun t ht => z2 t (.tail _ ht))]

theorem wfCheck_sound (p : Pollard H) (hfull : p.full = true) (h : wfCheck p = none) : WF p := by
  obtain ⟨infos, hr, h1, h2⟩ := wfCheck_tests p hfull h
  obtain ⟨a, b, _⟩ := readRoots_sound p.heap _ _ infos hr
  exact ⟨_, _, _, a, h1, h2, by rw [List.length_map, b]⟩

end UtreexoVerif.Proofs.PollardHeap
