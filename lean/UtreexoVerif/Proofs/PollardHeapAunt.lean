/-
  Pointer forest, heap model: `updateAunt` and what is built on it (`swapNieces`, `prune`, the merge step of
  `calculateNewRoot`).

  `updateAunt(n)` makes the nieces of `n` point back to `n` and recurses into each niece it had to redirect.  On
  well-formed heaps it meets two situations:
  * `Settled hp n`: the first niece points back already — nothing happens (the holder of a represented tree or pair);
  * `Unsettled hp n`: the two nieces point elsewhere and THEIR nieces point back — exactly the two are
    redirected (`setAuntKids hp n`).  `Sub.unsettled`: a node that took over the niece pointers of the holder of a
    represented tree; `unsettled_of_holds`: a node whose two nieces hold represented trees (or nothing) themselves.
  At the level of `Sub` this gives the adoptions `adopt_sub` (the new holder now holds the tree; written: nodes of
  the footprint) and `adopt0` (a node that was given two niece pointers takes the pair over; written: the two);
  `swapNieces(X, Y)` is two adoptions.
-/
import UtreexoVerif.Proofs.PollardHeapRun
import UtreexoVerif.Proofs.PollardHeapOff
set_option linter.unusedSectionVars false

namespace UtreexoVerif.Proofs.PollardHeap
open UtreexoVerif.Model.PollardHeap UtreexoVerif.Spec Hasher

variable {H : Type} [DecidableEq H] [Hasher H]

theorem updateAunt_settled (fuel n : Nat) (nn : PolNode H) (s : Pollard H) (h : s.heap[n]? = some nn)
    (hl : ∀ l, nn.lNiece = some l → ∃ ln, s.heap[l]? = some ln ∧ ln.aunt = some n)
    (hr : nn.lNiece = none → ∀ r, nn.rNiece = some r → ∃ rn, s.heap[r]? = some rn ∧ rn.aunt = some n) :
    updateAunt (fuel + 1) (some n) s = (.ok (), s) := by
  rw [updateAunt, bind_ok (deref_some n _), bind_ok (node_ok h)]
  cases hL : nn.lNiece with
  | some l =>
    obtain ⟨ln, e1, e2⟩ := hl l hL
    refine (bind_ok (node_ok e1)).trans ?_
    rw [if_pos e2]; rfl
  | none =>
    refine (bind_ok (node_ok h)).trans ?_
    cases hR : nn.rNiece with
    | some r =>
      obtain ⟨rn, e1, e2⟩ := hr hL r hR
      refine (bind_ok (node_ok e1)).trans ?_
      rw [if_pos e2]; rfl
    | none => rfl

/-- the first niece `updateAunt` looks at already points back -/
def Settled (hp : Heap H) (n : Nat) : Prop :=
  ∃ nn, hp[n]? = some nn ∧
    (∀ l, nn.lNiece = some l → ∃ ln, hp[l]? = some ln ∧ ln.aunt = some n) ∧
    (nn.lNiece = none → ∀ r, nn.rNiece = some r → ∃ rn, hp[r]? = some rn ∧ rn.aunt = some n)

theorem updateAunt'_noop (n : Nat) (hp : Heap H) (nm : List (H × Nat)) (rs : List Nat)
    (nl ndl : U64) (f : Bool) (h : Settled hp n) :
    updateAunt' (some n) ⟨hp, nm, rs, nl, ndl, f⟩ = (.ok (), ⟨hp, nm, rs, nl, ndl, f⟩) := by
  obtain ⟨nn, h1, h2, h3⟩ := h
  unfold updateAunt'
  simp only [bind_apply, heapSize_apply]
  exact updateAunt_settled hp.size n nn ⟨hp, nm, rs, nl, ndl, f⟩ h1 h2 h3

theorem Kids.settled {hp : Heap H} {h l r : Nat} (k : Kids hp h l r) : Settled hp h := by
  obtain ⟨⟨hn, e, kl, kr⟩, ⟨ln, el, al⟩, _⟩ := k
  refine ⟨hn, e, fun l' hl' => ?_, fun hnone => ?_⟩
  · cases kl.symm.trans hl'; exact ⟨ln, el, al⟩
  · rw [kl] at hnone; cases hnone

theorem Sub.settled {hp : Heap H} {n h : Nat} {t : CTree H} {fp : List Nat} {lv : List (H × Nat)}
    (hs : Sub hp n h t fp lv) : Settled hp h := by
  cases hs with
  | leaf h1 h2 h3 h4 h5 =>
    refine ⟨_, h3, ?_, ?_⟩
    · intro l hl; rw [h4] at hl; cases hl
    · intro _ r hr; rw [h5] at hr; cases hr
  | node h1 h2 h3 h4 h5 h6 h7 h8 h9 =>
    refine ⟨_, h3, ?_, ?_⟩
    · intro l hl; rw [h4] at hl; cases hl; exact ⟨_, h6, h8⟩
    · intro hnone; rw [h4] at hnone; cases hnone

def setL (hp : Heap H) (i : Nat) (v : Ptr) : Heap H := hp.modify i (fun x => { x with lNiece := v })

def setR (hp : Heap H) (i : Nat) (v : Ptr) : Heap H := hp.modify i (fun x => { x with rNiece := v })

def setA (hp : Heap H) (i : Nat) (v : Ptr) : Heap H := hp.modify i (fun x => { x with aunt := v })

theorem getElem?_setL (hp : Heap H) (i j : Nat) (v : Ptr) :
    (setL hp i v)[j]? = if i = j then (hp[j]?).map (fun x => { x with lNiece := v }) else hp[j]? := by
  unfold setL; rw [Array.getElem?_modify]

theorem getElem?_setR (hp : Heap H) (i j : Nat) (v : Ptr) :
    (setR hp i v)[j]? = if i = j then (hp[j]?).map (fun x => { x with rNiece := v }) else hp[j]? := by
  unfold setR; rw [Array.getElem?_modify]

theorem getElem?_setA (hp : Heap H) (i j : Nat) (v : Ptr) :
    (setA hp i v)[j]? = if i = j then (hp[j]?).map (fun x => { x with aunt := v }) else hp[j]? := by
  unfold setA; rw [Array.getElem?_modify]

@[simp] theorem size_setL (hp : Heap H) (i : Nat) (v : Ptr) : (setL hp i v).size = hp.size := by
  unfold setL; simp

@[simp] theorem size_setR (hp : Heap H) (i : Nat) (v : Ptr) : (setR hp i v).size = hp.size := by
  unfold setR; simp

@[simp] theorem size_setA (hp : Heap H) (i : Nat) (v : Ptr) : (setA hp i v).size = hp.size := by
  unfold setA; simp

theorem updateAunt_step (fuel n l r : Nat) (nn ln rn : PolNode H) (s : Pollard H) (hpB hpC : Heap H)
    (h : s.heap[n]? = some nn) (hL : nn.lNiece = some l) (hR : nn.rNiece = some r)
    (el : s.heap[l]? = some ln) (al : ln.aunt ≠ some n)
    (e1 : updateAunt fuel (some l) { s with heap := setA s.heap l (some n) } =
      (.ok (), { s with heap := hpB }))
    (hB : hpB[n]? = some nn) (er : hpB[r]? = some rn) (ar : rn.aunt ≠ some n)
    (e2 : updateAunt fuel (some r) { s with heap := setA hpB r (some n) } =
      (.ok (), { s with heap := hpC })) :
    updateAunt (fuel + 1) (some n) s = (.ok (), { s with heap := hpC }) := by
  rw [updateAunt, bind_ok (deref_some n _), bind_ok (node_ok h), hL]
  refine (bind_ok (node_ok el)).trans ?_
  rw [if_neg al]
  refine (bind_ok (setNode_apply ..)).trans ((bind_ok e1).trans ?_)
  refine (bind_ok (node_ok (s := { s with heap := hpB }) hB)).trans ?_
  rw [hR]
  refine (bind_ok (node_ok (s := { s with heap := hpB }) er)).trans ?_
  rw [if_neg ar]
  exact (bind_ok (setNode_apply ..)).trans e2

def kidOf (hp : Heap H) (n j : Nat) : Bool :=
  match hp[n]? with
  | some nn => nn.lNiece == some j || nn.rNiece == some j
  | none => false

theorem kidOf_eq {hp : Heap H} {n : Nat} {x : PolNode H} (h : hp[n]? = some x) (j : Nat) :
    kidOf hp n j = decide (isKid x j) := by
  unfold kidOf isKid; simp only [h]
  by_cases h1 : x.lNiece = some j <;> by_cases h2 : x.rNiece = some j <;> simp [h1, h2]

def setAuntKids (hp : Heap H) (n : Nat) : Heap H :=
  match hp[n]? with
  | some nn =>
    let hp1 := match nn.lNiece with
      | some l => setA hp l (some n)
      | none => hp
    match nn.rNiece with
    | some r => setA hp1 r (some n)
    | none => hp1
  | none => hp

theorem getElem?_setAuntKids (hp : Heap H) (n j : Nat) :
    (setAuntKids hp n)[j]? =
      if kidOf hp n j then (hp[j]?).map (fun x => { x with aunt := some n }) else hp[j]? := by
  unfold setAuntKids kidOf
  cases hn : hp[n]? with
  | none => simp
  | some nn =>
    obtain ⟨lN, rN, au, d, rem⟩ := nn
    rcases lN with _ | l <;> rcases rN with _ | r <;> simp [getElem?_setA]
    by_cases h1 : l = j <;> by_cases h2 : r = j <;> simp [h1, h2]
    cases hp[j]? <;> simp

@[simp] theorem size_setAuntKids (hp : Heap H) (n : Nat) : (setAuntKids hp n).size = hp.size := by
  unfold setAuntKids
  cases hp[n]? with
  | none => rfl
  | some nn =>
    obtain ⟨lN, rN, au, d, rem⟩ := nn
    rcases lN with _ | l <;> rcases rN with _ | r <;> simp

/-- the nieces of `n` are absent, or a pair pointing elsewhere whose own nieces (the
grand-nieces) already point back -/
def Unsettled (hp : Heap H) (n : Nat) : Prop :=
  ∃ nn, hp[n]? = some nn ∧
    ((nn.lNiece = none ∧ nn.rNiece = none) ∨
     ∃ l r ln rn, nn.lNiece = some l ∧ nn.rNiece = some r ∧ hp[l]? = some ln ∧ hp[r]? = some rn ∧
       l ≠ r ∧ l ≠ n ∧ r ≠ n ∧ ln.aunt ≠ some n ∧ rn.aunt ≠ some n ∧
       (∀ y, ln.lNiece = some y → y ≠ l ∧ y ≠ r ∧ ∃ yn, hp[y]? = some yn ∧ yn.aunt = some l) ∧
       (ln.lNiece = none → ln.rNiece = none) ∧
       (∀ y, rn.lNiece = some y → y ≠ l ∧ y ≠ r ∧ ∃ yn, hp[y]? = some yn ∧ yn.aunt = some r) ∧
       (rn.lNiece = none → rn.rNiece = none))

theorem updateAunt_unsettled (fuel n : Nat) (s : Pollard H) (h : Unsettled s.heap n) :
    updateAunt (fuel + 2) (some n) s = (.ok (), { s with heap := setAuntKids s.heap n }) := by
  obtain ⟨nn, hn, h⟩ := h
  rcases h with ⟨h1, h2⟩ | ⟨l, r, ln, rn, hL, hR, el, er, hlr, hln, hrn, al, ar, gl1, gl2, gr1, gr2⟩
  · rw [updateAunt_settled (fuel + 1) n nn s hn (by simp [h1]) (by simp [h2])]
    simp [setAuntKids, hn, h1, h2]
  · -- each niece is redirected; the recursive call finds its nieces pointing back
    have e1 : updateAunt (fuel + 1) (some l) { s with heap := setA s.heap l (some n) } =
        (.ok (), { s with heap := setA s.heap l (some n) }) := by
      apply updateAunt_settled fuel l { ln with aunt := some n }
      · simp [getElem?_setA, el]
      · intro y hy
        obtain ⟨h1, h2, yn, h3, h4⟩ := gl1 y hy
        exact ⟨yn, by simp [getElem?_setA, Ne.symm h1, h3], h4⟩
      · intro hnone r' hr'
        have := gl2 hnone
        simp at hr'; rw [this] at hr'; cases hr'
    have e2 : updateAunt (fuel + 1) (some r) { s with heap := setA (setA s.heap l (some n)) r (some n) } =
        (.ok (), { s with heap := setA (setA s.heap l (some n)) r (some n) }) := by
      apply updateAunt_settled fuel r { rn with aunt := some n }
      · simp [getElem?_setA, er, hlr]
      · intro y hy
        obtain ⟨h1, h2, yn, h3, h4⟩ := gr1 y hy
        exact ⟨yn, by simp [getElem?_setA, Ne.symm h1, Ne.symm h2, h3], h4⟩
      · intro hnone r' hr'
        have := gr2 hnone
        simp at hr'; rw [this] at hr'; cases hr'
    rw [updateAunt_step (fuel + 1) n l r nn ln rn s _ _ hn hL hR el al e1
      (by rw [getElem?_setA, if_neg hln, hn]) (by rw [getElem?_setA, if_neg hlr, er]) ar e2]
    simp [setAuntKids, setA, hn, hL, hR]

/-- the heap is a variable here: instantiating the record form `updateAunt_unsettled` at `{ s with heap := X }` makes the
unifier unfold `X` -/
theorem updateAunt_kids (fuel n : Nat) (hp : Heap H) (nm : List (H × Nat)) (rs : List Nat)
    (nl ndl : U64) (f : Bool) (h : Unsettled hp n) :
    updateAunt (fuel + 2) (some n) ⟨hp, nm, rs, nl, ndl, f⟩ =
      (.ok (), ⟨setAuntKids hp n, nm, rs, nl, ndl, f⟩) :=
  updateAunt_unsettled fuel n ⟨hp, nm, rs, nl, ndl, f⟩ h

theorem updateAunt'_kids (n : Nat) (hp : Heap H) (nm : List (H × Nat)) (rs : List Nat)
    (nl ndl : U64) (f : Bool) (h : Unsettled hp n) :
    updateAunt' (some n) ⟨hp, nm, rs, nl, ndl, f⟩ =
      (.ok (), ⟨setAuntKids hp n, nm, rs, nl, ndl, f⟩) := by
  obtain ⟨k, hk⟩ : ∃ k, hp.size = k + 1 := by
    obtain ⟨nn, hn, _⟩ := h
    exact ⟨hp.size - 1, by have := lt_of_get hn; omega⟩
  unfold updateAunt'
  simp only [bind_apply, heapSize_apply, hk]
  exact updateAunt_kids k n hp nm rs nl ndl f h

theorem Sub.unsettled {hp hpA : Heap H} {n h h' : Nat} {t : CTree H} {fp : List Nat}
    {lv : List (H × Nat)} {x : PolNode H} (hs : Sub hp n h t fp lv) (nd : fp.Nodup)
    (hh' : h' ∉ fp) (hne : h ≠ h') (ex : hpA[h']? = some x)
    (exl : ∀ hn, hp[h]? = some hn → x.lNiece = hn.lNiece ∧ x.rNiece = hn.rNiece)
    (agree : ∀ i ∈ fp, hpA[i]? = hp[i]?) : Unsettled hpA h' := by
  refine ⟨x, ex, ?_⟩
  cases hs with
  | leaf h1 h2 h3 h4 h5 =>
    left
    obtain ⟨e1, e2⟩ := exl _ h3
    exact ⟨e1.trans h4, e2.trans h5⟩
  | node h1 h2 h3 h4 h5 h6 h7 h8 h9 sa sb =>
    rename_i l r nn hn0 ln rn a b fa fb la lb
    right
    obtain ⟨e1, e2⟩ := exl _ h3
    simp only [List.nodup_cons, List.mem_cons, List.mem_append, not_or, List.nodup_append] at nd
    obtain ⟨⟨hlr, hlfa, hlfb⟩, ⟨hrfa, hrfb⟩, nda, ndb, hdisj⟩ := nd
    simp only [List.mem_cons, List.mem_append, not_or] at hh'
    obtain ⟨hl', hr', hfa', hfb'⟩ := hh'
    refine ⟨l, r, ln, rn, e1.trans h4, e2.trans h5, (agree l (by simp)).trans h6,
      (agree r (by simp)).trans h7, hlr, Ne.symm hl', Ne.symm hr', ?_, ?_, ?_, ?_, ?_, ?_⟩
    · rw [h8]; intro e; cases e; exact hne rfl
    · rw [h9]; intro e; cases e; exact hne rfl
    · -- the nieces of `l` are the children of `r`: `sb : Sub hp r l b fb lb`
      intro y hy
      have hm := sb.kid_mem h6 (Or.inl hy)
      obtain ⟨yn, ey, ay⟩ := sb.kid_exists h6 (Or.inl hy)
      exact ⟨fun e => hlfb (e ▸ hm), fun e => hrfb (e ▸ hm), yn,
        (agree y (by simp [hm])).trans ey, ay⟩
    · exact sb.both_or_none h6
    · intro y hy
      have hm := sa.kid_mem h7 (Or.inl hy)
      obtain ⟨yn, ey, ay⟩ := sa.kid_exists h7 (Or.inl hy)
      exact ⟨fun e => hlfa (e ▸ hm), fun e => hrfa (e ▸ hm), yn,
        (agree y (by simp [hm])).trans ey, ay⟩
    · exact sa.both_or_none h7

/-- node `x` (at index `i`) has no nieces, or holds the children of SOME represented tree (in root form
`c = i` or in sibling form), none of whose nodes is `l` or `r` -/
def HoldsSub (hp : Heap H) (i l r : Nat) (x : PolNode H) : Prop :=
  (x.lNiece = none ∧ x.rNiece = none) ∨
  ∃ c t fp lv, Sub hp c i t fp lv ∧ l ∉ fp ∧ r ∉ fp

theorem HoldsSub.weak {hp : Heap H} {i l r : Nat} {x : PolNode H} (h : HoldsSub hp i l r x)
    (e : hp[i]? = some x) :
    (∀ y, x.lNiece = some y → y ≠ l ∧ y ≠ r ∧ ∃ yn, hp[y]? = some yn ∧ yn.aunt = some i) ∧
    (x.lNiece = none → x.rNiece = none) := by
  rcases h with ⟨h1, h2⟩ | ⟨c, t, fp, lv, hs, hl, hr⟩
  · exact ⟨fun y hy => (by rw [h1] at hy; cases hy), fun _ => h2⟩
  · refine ⟨fun y hy => ?_, hs.both_or_none e⟩
    have hm := hs.kid_mem e (Or.inl hy)
    exact ⟨fun e' => hl (e' ▸ hm), fun e' => hr (e' ▸ hm), hs.kid_exists e (Or.inl hy)⟩

theorem unsettled_of_holds {hp : Heap H} {h l r : Nat} {hn ln rn : PolNode H}
    (eh : hp[h]? = some hn) (kl : hn.lNiece = some l) (kr : hn.rNiece = some r)
    (el : hp[l]? = some ln) (er : hp[r]? = some rn) (al : ln.aunt ≠ some h) (ar : rn.aunt ≠ some h)
    (hlr : l ≠ r) (hlh : l ≠ h) (hrh : r ≠ h) (wl : HoldsSub hp l l r ln) (wr : HoldsSub hp r l r rn) :
    Unsettled hp h := by
  obtain ⟨gl1, gl2⟩ := wl.weak el
  obtain ⟨gr1, gr2⟩ := wr.weak er
  exact ⟨hn, eh, Or.inr ⟨l, r, ln, rn, kl, kr, el, er, hlr, hlh, hrh, al, ar, gl1, gl2, gr1, gr2⟩⟩

theorem getElem?_adopted {hp : Heap H} {a : Nat} {x bn : PolNode H} (ha : hp[a]? = some x)
    (kl : x.lNiece = bn.lNiece) (kr : x.rNiece = bn.rNiece) (j : Nat) :
    (setAuntKids hp a)[j]? =
      if isKid bn j then (hp[j]?).map (fun y => { y with aunt := some a }) else hp[j]? := by
  have : kidOf hp a j = decide (isKid bn j) := by rw [kidOf_eq ha]; simp only [isKid, kl, kr]
  rw [getElem?_setAuntKids, this]; simp

theorem Sub.adopted_off {hp0 hp : Heap H} {a b c : Nat} {x bn : PolNode H} {t : CTree H}
    {fp : List Nat} {lv : List (H × Nat)} (hs : Sub hp0 c b t fp lv) (hb : hp0[b]? = some bn)
    (ha : hp[a]? = some x) (kl : x.lNiece = bn.lNiece) (kr : x.rNiece = bn.rNiece) :
    Off fp hp (setAuntKids hp a) := fun j hj => by
  rw [getElem?_adopted ha kl kr, if_neg (fun k => hj (hs.kid_mem hb k))]

/-- `a` took over the niece pointers of `b`, the holder of a represented `c` in `hp0`; below `c` the heap `hp`
agrees with `hp0`, the top node may have moved to `c'`.  Then `a` is `Unsettled`: `updateAunt(a)` writes
`setAuntKids hp a` — only nodes of the footprint — and `a` holds the children of `c'`. -/
theorem adopt_sub {hp0 hp : Heap H} {a b c c' : Nat} {x bn cn cn' : PolNode H} {t : CTree H}
    {fp : List Nat} {lv : List (H × Nat)} (hs : Sub hp0 c b t fp lv) (nd : fp.Nodup)
    (hb : hp0[b]? = some bn) (ha : hp[a]? = some x) (kl : x.lNiece = bn.lNiece)
    (kr : x.rNiece = bn.rNiece) (hafp : a ∉ fp) (hba : b ≠ a)
    (hc : hp0[c]? = some cn) (hc' : hp[c']? = some cn') (cd : cn'.data = cn.data)
    (agree : ∀ i ∈ fp, hp[i]? = hp0[i]?) :
    Unsettled hp a ∧ Off fp hp (setAuntKids hp a) ∧
      Sub (setAuntKids hp a) c' a t fp (relabelTop t c' lv) := by
  have krn : ∀ j, isKid bn j → j ∈ fp := fun j k => hs.kid_mem hb k
  have eK := getElem?_adopted ha kl kr
  refine ⟨hs.unsettled nd hafp hba ha (fun y hy => by cases hb.symm.trans hy; exact ⟨kl, kr⟩) agree,
    hs.adopted_off hb ha kl kr, ?_⟩
  apply hs.rehome' nd
  · intro y hy; cases hc.symm.trans hy
    rw [eK, hc']; split <;> exact ⟨_, rfl, cd⟩
  · intro y hy; cases hb.symm.trans hy
    exact ⟨x, by rw [eK, if_neg (fun k => hafp (krn _ k))]; exact ha, kl, kr⟩
  · intro y i old hy k hi
    cases hb.symm.trans hy
    rw [eK, if_pos (show isKid bn i from k), agree i (krn i k), hi]; rfl
  · intro y i hy hi k1 k2
    cases hb.symm.trans hy
    rw [eK, if_neg (show ¬ isKid bn i from fun k => k.elim k1 k2), agree i hi]

theorem setAuntKids_pair {hp : Heap H} {h l r : Nat} {hn ln rn : PolNode H}
    (eh : hp[h]? = some hn) (kl : hn.lNiece = some l) (kr : hn.rNiece = some r)
    (el : hp[l]? = some ln) (er : hp[r]? = some rn) (hlh : l ≠ h) (hrh : r ≠ h) :
    Off [l, r] hp (setAuntKids hp h) ∧ Kids (setAuntKids hp h) h l r ∧
    (setAuntKids hp h)[l]? = some { ln with aunt := some h } ∧
    (setAuntKids hp h)[r]? = some { rn with aunt := some h } := by
  have kk : ∀ j, kidOf hp h j = decide (j = l ∨ j = r) := fun j => by
    rw [kidOf_eq eh]; simp [isKid, kl, kr, eq_comm]
  have e : ∀ j, (setAuntKids hp h)[j]? =
      if j = l ∨ j = r then (hp[j]?).map (fun x => { x with aunt := some h }) else hp[j]? := fun j => by
    rw [getElem?_setAuntKids, kk]; simp
  have o : Off [l, r] hp (setAuntKids hp h) := fun j hj => by rw [e, if_neg (by simpa using hj)]
  have el' : (setAuntKids hp h)[l]? = some { ln with aunt := some h } := by rw [e, if_pos (Or.inl rfl), el]; rfl
  have er' : (setAuntKids hp h)[r]? = some { rn with aunt := some h } := by rw [e, if_pos (Or.inr rfl), er]; rfl
  exact ⟨o, ⟨⟨_, (o h (by simp [Ne.symm hlh, Ne.symm hrh])).trans eh, kl, kr⟩, ⟨_, el', rfl⟩, ⟨_, er', rfl⟩⟩,
    el', er'⟩

/-- adoption, weak form: `h` has been given the niece pointers `(l, r)`; the pair need not be in
sibling form (the transitional state of `undoSingleDel`: one niece still holds its own children, the
other none). -/
theorem adopt0 {hp : Heap H} {h l r : Nat} {hn ln rn : PolNode H}
    (eh : hp[h]? = some hn) (kl : hn.lNiece = some l) (kr : hn.rNiece = some r)
    (el : hp[l]? = some ln) (er : hp[r]? = some rn) (al : ln.aunt ≠ some h) (ar : rn.aunt ≠ some h)
    (hlr : l ≠ r) (hlh : l ≠ h) (hrh : r ≠ h) (wl : HoldsSub hp l l r ln) (wr : HoldsSub hp r l r rn)
    (nm : List (H × Nat)) (rs : List Nat) (nl ndl : U64) (f : Bool) :
    updateAunt' (some h) ⟨hp, nm, rs, nl, ndl, f⟩ = (.ok (), ⟨setAuntKids hp h, nm, rs, nl, ndl, f⟩) ∧
    Off [l, r] hp (setAuntKids hp h) ∧ Kids (setAuntKids hp h) h l r ∧
    (setAuntKids hp h)[l]? = some { ln with aunt := some h } ∧
    (setAuntKids hp h)[r]? = some { rn with aunt := some h } :=
  ⟨updateAunt'_kids h hp nm rs nl ndl f (unsettled_of_holds eh kl kr el er al ar hlr hlh hrh wl wr),
    setAuntKids_pair eh kl kr el er hlh hrh⟩

/-- the four assignments of `swapNieces(a, b)` -/
def swapRaw (hp : Heap H) (a b : Nat) (an bn : PolNode H) : Heap H :=
  (((hp.modify a (fun x => { x with lNiece := bn.lNiece })).modify a
    (fun x => { x with rNiece := bn.rNiece })).modify b
    (fun x => { x with lNiece := an.lNiece })).modify b (fun x => { x with rNiece := an.rNiece })

theorem getElem?_swapRaw {hp : Heap H} {a b : Nat} {an bn : PolNode H} (hab : a ≠ b)
    (ha : hp[a]? = some an) (hb : hp[b]? = some bn) (j : Nat) :
    (swapRaw hp a b an bn)[j]? =
      if j = a then some { an with lNiece := bn.lNiece, rNiece := bn.rNiece }
      else if j = b then some { bn with lNiece := an.lNiece, rNiece := an.rNiece }
      else hp[j]? := by
  unfold swapRaw
  simp only [Array.getElem?_modify]
  by_cases h1 : j = a
  · subst h1; simp [Ne.symm hab, ha]
  · by_cases h2 : j = b
    · subst h2; simp [hab, Ne.symm hab, hb]
    · simp [h1, h2, Ne.symm h1, Ne.symm h2]

@[simp] theorem size_swapRaw (hp : Heap H) (a b : Nat) (an bn : PolNode H) :
    (swapRaw hp a b an bn).size = hp.size := by
  unfold swapRaw; simp

/-- the heap after `swapNieces(root, nd)` -/
def swapped (hp : Heap H) (root nd : Nat) (rn nn : PolNode H) : Heap H :=
  setAuntKids (setAuntKids (swapRaw hp root nd rn nn) root) nd

@[simp] theorem size_swapped (hp : Heap H) (root nd : Nat) (rn nn : PolNode H) :
    (swapped hp root nd rn nn).size = hp.size := by unfold swapped; simp

theorem swapNieces_run (hp : Heap H) (nm : List (H × Nat)) (rs : List Nat) (nl ndl : U64) (f : Bool)
    (a b : Nat) (an bn : PolNode H) (ha : hp[a]? = some an) (hb : hp[b]? = some bn)
    (u1 : Unsettled (swapRaw hp a b an bn) a)
    (u2 : Unsettled (setAuntKids (swapRaw hp a b an bn) a) b) :
    swapNieces (some a) (some b) ⟨hp, nm, rs, nl, ndl, f⟩ =
      (.ok (), ⟨swapped hp a b an bn, nm, rs, nl, ndl, f⟩) := by
  unfold swapNieces
  rw [bind_ok (deref_some a _), bind_ok (deref_some b _), bind_ok (node_run ha), bind_ok (node_run hb),
    bind_ok setNode_run, bind_ok setNode_run, bind_ok setNode_run, bind_ok setNode_run]
  exact (bind_ok (updateAunt'_kids a _ nm rs nl ndl f u1)).trans (updateAunt'_kids b _ nm rs nl ndl f u2)

theorem swapNieces_exec (s : Pollard H) (a b : Nat) (an bn : PolNode H)
    (ha : s.heap[a]? = some an) (hb : s.heap[b]? = some bn)
    (u1 : Unsettled (swapRaw s.heap a b an bn) a)
    (u2 : Unsettled (setAuntKids (swapRaw s.heap a b an bn) a) b) :
    swapNieces (some a) (some b) s = (.ok (), { s with heap := swapped s.heap a b an bn }) := by
  obtain ⟨hp, nm, rs, nl, ndl, f⟩ := s
  exact swapNieces_run hp nm rs nl ndl f a b an bn ha hb u1 u2

theorem swap_steps {hp : Heap H} {X Y cX cY : Nat} {xn yn : PolNode H} {tX tY : CTree H}
    {fX fY : List Nat} {lX lY : List (H × Nat)}
    (hX : hp[X]? = some xn) (hY : hp[Y]? = some yn)
    (sX : Sub hp cX X tX fX lX) (sY : Sub hp cY Y tY fY lY)
    (ndp : (X :: Y :: (fX ++ fY)).Nodup) :
    (swapRaw hp X Y xn yn)[X]? = some { xn with lNiece := yn.lNiece, rNiece := yn.rNiece } ∧
    (swapRaw hp X Y xn yn)[Y]? = some { yn with lNiece := xn.lNiece, rNiece := xn.rNiece } ∧
    Off [X, Y] hp (swapRaw hp X Y xn yn) ∧
    Off fY (swapRaw hp X Y xn yn) (setAuntKids (swapRaw hp X Y xn yn) X) ∧
    Unsettled (swapRaw hp X Y xn yn) X ∧ Unsettled (setAuntKids (swapRaw hp X Y xn yn) X) Y := by
  simp only [List.nodup_cons, List.mem_cons, List.mem_append, not_or, List.nodup_append] at ndp
  obtain ⟨⟨hne, hXfX, hXfY⟩, ⟨hYfX, hYfY⟩, ndX, ndY, hdisj⟩ := ndp
  have eA := getElem?_swapRaw hne hX hY
  have aX : (swapRaw hp X Y xn yn)[X]? = some { xn with lNiece := yn.lNiece, rNiece := yn.rNiece } := by
    rw [eA, if_pos rfl]
  have aY : (swapRaw hp X Y xn yn)[Y]? = some { yn with lNiece := xn.lNiece, rNiece := xn.rNiece } := by
    rw [eA, if_neg (Ne.symm hne), if_pos rfl]
  have oA : Off [X, Y] hp (swapRaw hp X Y xn yn) := fun i hi => by
    simp only [List.mem_cons, List.not_mem_nil, or_false, not_or] at hi
    rw [eA, if_neg hi.1, if_neg hi.2]
  have o1 := sY.adopted_off hY aX rfl rfl
  refine ⟨aX, aY, oA, o1,
    sY.unsettled ndY hXfY (Ne.symm hne) aX (fun x hx => by cases hY.symm.trans hx; exact ⟨rfl, rfl⟩)
      (fun i hi => oA i (by simp; exact ⟨fun e => hXfY (e ▸ hi), fun e => hYfY (e ▸ hi)⟩)),
    sX.unsettled ndX hYfX hne ((o1 Y hYfY).trans aY)
      (fun x hx => by cases hX.symm.trans hx; exact ⟨rfl, rfl⟩)
      (fun i hi => (o1 i (fun h => hdisj i hi i h rfl)).trans
        (oA i (by simp; exact ⟨fun e => hXfX (e ▸ hi), fun e => hYfX (e ▸ hi)⟩)))⟩

/-- `X` and `Y` hold, in their niece pointers, the children of `cX` resp. `cY`, where `cX, cY` are
`X, Y` themselves (two roots) or `Y, X` (two siblings).  In the heap `swapNieces(X, Y)` leaves,
`Y` holds the children of `cX` and `X` those of `cY`: roots have become siblings and siblings
roots. -/
theorem swapped_subs {hp : Heap H} {X Y cX cY : Nat} {xn yn : PolNode H} {tX tY : CTree H}
    {fX fY : List Nat} {lX lY : List (H × Nat)}
    (hX : hp[X]? = some xn) (hY : hp[Y]? = some yn)
    (sX : Sub hp cX X tX fX lX) (sY : Sub hp cY Y tY fY lY)
    (hc : (cX = X ∧ cY = Y) ∨ (cX = Y ∧ cY = X))
    (ndp : (X :: Y :: (fX ++ fY)).Nodup) :
    (swapped hp X Y xn yn)[X]? = some { xn with lNiece := yn.lNiece, rNiece := yn.rNiece } ∧
    (swapped hp X Y xn yn)[Y]? = some { yn with lNiece := xn.lNiece, rNiece := xn.rNiece } ∧
    Off (X :: Y :: (fX ++ fY)) hp (swapped hp X Y xn yn) ∧
    Sub (swapped hp X Y xn yn) cX Y tX fX lX ∧ Sub (swapped hp X Y xn yn) cY X tY fY lY := by
  obtain ⟨aX, aY, oA, o1, -, -⟩ := swap_steps hX hY sX sY ndp
  simp only [List.nodup_cons, List.mem_cons, List.mem_append, not_or, List.nodup_append] at ndp
  obtain ⟨⟨hne, hXfX, hXfY⟩, ⟨hYfX, hYfY⟩, ndX, ndY, hdisj⟩ := ndp
  have oA' : ∀ F : List Nat, X ∉ F → Y ∉ F → ∀ i ∈ F, (swapRaw hp X Y xn yn)[i]? = hp[i]? :=
    fun F h1 h2 i hi => oA i (by simp; exact ⟨fun e => h1 (e ▸ hi), fun e => h2 (e ▸ hi)⟩)
  -- the nodes `cX`, `cY` are `X`, `Y` in some order: they keep their data
  have hdata : ∀ c, c = X ∨ c = Y → c ∉ fX ∧ c ∉ fY ∧ ∃ nn nn', hp[c]? = some nn ∧
      (swapRaw hp X Y xn yn)[c]? = some nn' ∧ nn'.data = nn.data := by
    rintro c (rfl | rfl)
    · exact ⟨hXfX, hXfY, _, _, hX, aX, rfl⟩
    · exact ⟨hYfX, hYfY, _, _, hY, aY, rfl⟩
  obtain ⟨x1, x2, nn, nn', c1, c2, c3⟩ := hdata cX (hc.elim (fun h => Or.inl h.1) (fun h => Or.inr h.1))
  obtain ⟨y1, y2, mm, mm', d1, d2, d3⟩ := hdata cY (hc.elim (fun h => Or.inr h.2) (fun h => Or.inl h.2))
  obtain ⟨-, -, s1⟩ := adopt_sub sY ndY hY aX rfl rfl hXfY (Ne.symm hne) d1 d2 d3 (oA' fY hXfY hYfY)
  obtain ⟨-, o2, s2⟩ := adopt_sub sX ndX hX ((o1 Y hYfY).trans aY) rfl rfl hYfX hne c1
    ((o1 cX x2).trans c2) c3 (fun i hi => (o1 i (fun h => hdisj i hi i h rfl)).trans (oA' fX hXfX hYfX i hi))
  rw [sY.relabelTop_self] at s1
  rw [sX.relabelTop_self] at s2
  unfold swapped
  refine ⟨(o2 X hXfX).trans ((o1 X hXfY).trans aX), (o2 Y hYfX).trans ((o1 Y hYfY).trans aY),
    fun j hj => ?_, s2, s1.off o2 y1 hXfX (fun i hi h => hdisj i h i hi rfl)⟩
  simp only [List.mem_cons, List.mem_append, not_or] at hj
  exact (o2 j hj.2.2.1).trans ((o1 j hj.2.2.2).trans (oA j (by simp [hj.1, hj.2.1])))

theorem swapNieces_subs {hp : Heap H} {X Y cX cY : Nat} {xn yn : PolNode H} {tX tY : CTree H}
    {fX fY : List Nat} {lX lY : List (H × Nat)}
    (hX : hp[X]? = some xn) (hY : hp[Y]? = some yn)
    (sX : Sub hp cX X tX fX lX) (sY : Sub hp cY Y tY fY lY)
    (ndp : (X :: Y :: (fX ++ fY)).Nodup)
    (nm : List (H × Nat)) (rs : List Nat) (nl ndl : U64) (full : Bool) :
    swapNieces (some X) (some Y) ⟨hp, nm, rs, nl, ndl, full⟩ =
      (.ok (), ⟨swapped hp X Y xn yn, nm, rs, nl, ndl, full⟩) := by
  obtain ⟨-, -, -, -, u1, u2⟩ := swap_steps hX hY sX sY ndp
  exact swapNieces_run hp nm rs nl ndl full X Y xn yn hX hY u1 u2

theorem swapNieces_sub {hp : Heap H} {X Y cX cY : Nat} {xn yn : PolNode H} {tX tY : CTree H}
    {fX fY : List Nat} {lX lY : List (H × Nat)}
    (hX : hp[X]? = some xn) (hY : hp[Y]? = some yn)
    (sX : Sub hp cX X tX fX lX) (sY : Sub hp cY Y tY fY lY)
    (hc : (cX = X ∧ cY = Y) ∨ (cX = Y ∧ cY = X)) (ndp : (X :: Y :: (fX ++ fY)).Nodup)
    (nm : List (H × Nat)) (rs : List Nat) (nl ndl : U64) (full : Bool) :
    ∃ hp', swapNieces (some X) (some Y) ⟨hp, nm, rs, nl, ndl, full⟩ = (.ok (), ⟨hp', nm, rs, nl, ndl, full⟩) ∧
      hp'.size = hp.size ∧
      hp'[X]? = some { xn with lNiece := yn.lNiece, rNiece := yn.rNiece } ∧
      hp'[Y]? = some { yn with lNiece := xn.lNiece, rNiece := xn.rNiece } ∧
      Off (X :: Y :: (fX ++ fY)) hp hp' ∧ Sub hp' cX Y tX fX lX ∧ Sub hp' cY X tY fY lY :=
  ⟨_, swapNieces_subs hX hY sX sY ndp nm rs nl ndl full, size_swapped .., swapped_subs hX hY sX sY hc ndp⟩

theorem prune_noop (hp : Heap H) (nm : List (H × Nat)) (rs : List Nat) (nl ndl : U64) (f : Bool)
    (n l r : Nat) (nn ln rn : PolNode H)
    (hn : hp[n]? = some nn) (hL : nn.lNiece = some l) (hR : nn.rNiece = some r)
    (el : hp[l]? = some ln) (er : hp[r]? = some rn)
    (hrem : ln.remember = true ∨ rn.remember = true) :
    prune (some n) ⟨hp, nm, rs, nl, ndl, f⟩ = (.ok (), ⟨hp, nm, rs, nl, ndl, f⟩) := by
  have rem : ∀ jp : Bool → PM H Unit,
      (if ln.remember = true then pure true >>= fun x => jp x
        else rd (some r) >>= fun rn => pure rn.remember >>= fun x => jp x) ⟨hp, nm, rs, nl, ndl, f⟩ =
      jp true ⟨hp, nm, rs, nl, ndl, f⟩ := fun jp => by
    by_cases c : ln.remember = true
    · rw [if_pos c]; rfl
    · rw [if_neg c, bind_ok (rd_run er), hrem.resolve_left c]; rfl
  unfold prune
  rw [bind_ok (deref_some n _), bind_ok (node_run hn), hL, hR, bind_ok (rd_run el), rem,
    bind_ok (node_run hn), hL, bind_ok (deadEnd_run el), Bool.not_true, Bool.and_false,
    if_neg Bool.false_ne_true]
  refine (bind_ok (node_run hn)).trans ?_
  rw [hR, bind_ok (deadEnd_run er), Bool.and_false, if_neg Bool.false_ne_true]
  rfl

/-- the node `calculateNewRoot` allocates for a merge, after `remember` was set -/
def newRootNode (rn nn : PolNode H) (root nd : Nat) : PolNode H :=
  { data := ph rn.data nn.data, lNiece := some root, rNiece := some nd, aunt := none, remember := true }

/-- the heap after one merge step of `calculateNewRoot` (root `root` popped, carried node `nd`) -/
def mergeHeap (hp : Heap H) (root nd : Nat) (rn nn : PolNode H) : Heap H :=
  let hpC := setAuntKids (setAuntKids (swapRaw hp root nd rn nn) root) nd
  let hpD := hpC.push { data := ph rn.data nn.data, lNiece := some root, rNiece := some nd }
  let hpE := hpD.modify hp.size (fun x => { x with remember := true })
  setAuntKids hpE hp.size

theorem getElem?_mergePre (hp : Heap H) (root nd : Nat) (rn nn : PolNode H) (j : Nat) :
    (((swapped hp root nd rn nn).push
      { data := ph rn.data nn.data, lNiece := some root, rNiece := some nd }).modify hp.size
      (fun x => { x with remember := true }))[j]? =
      if j = hp.size then some (newRootNode rn nn root nd) else (swapped hp root nd rn nn)[j]? := by
  rw [Array.getElem?_modify, Array.getElem?_push, size_swapped]
  by_cases hj : j = hp.size
  · subst hj; simp [newRootNode]
  · simp [hj, Ne.symm hj]

theorem mergeHeap_def (hp : Heap H) (root nd : Nat) (rn nn : PolNode H) :
    mergeHeap hp root nd rn nn = setAuntKids (((swapped hp root nd rn nn).push
      { data := ph rn.data nn.data, lNiece := some root, rNiece := some nd }).modify hp.size
      (fun x => { x with remember := true })) hp.size := rfl

theorem size_mergeHeap (hp : Heap H) (root nd : Nat) (rn nn : PolNode H) :
    (mergeHeap hp root nd rn nn).size = hp.size + 1 := by
  rw [mergeHeap_def]; simp

-- from here on the two heaps are opaque terms: with their `modify` chains visible, `whnf` on states that mention them
-- runs out of heartbeats in the files that follow; `mergeHeap_def`, `getElem?_mergePre` and `swapped_subs` say what they are
attribute [irreducible] mergeHeap swapped

end UtreexoVerif.Proofs.PollardHeap
