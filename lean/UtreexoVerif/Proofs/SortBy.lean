/-
  The stable insertion sort of Model/HashAndPos.lean (`insertBy`, `sortBy`, any key) as the instance
  "`U64` keys, `<`" of `Proofs/InsertW.lean`: it returns an ordered permutation, commutes with
  key-respecting maps, keeps sorted lists, and with pairwise different keys its result depends on the
  members only — which is what licenses the model's use of this stable sort for Go's unstable `sort.Slice`
  (Model/HashAndPos.lean).  `insertInOrder` (Model/ProofPos.lean, on bare keys) is `insertBy` read on the keys.
  Where one `insertBy` puts its element: behind a prefix of keys not above it (`insertBy_append`), somewhere
  (`insertBy_split`), at index `r` (`insertBy_eq_take_drop`), the same place under a key-respecting map
  (`insertBy_map`); `PollardHeapUndoDeTwin` and `PollardHeapUndoDeTwinA` use these.
  The file starts with three facts of the namespace `Sorted` about lists in general and `mergeHP` (a strictly
  sorted list is determined by its members; `mergeHP` with an empty side): `ProofOps` and the files on it use them.
-/
import UtreexoVerif.Model.ProofPos
import UtreexoVerif.Proofs.InsertW

namespace UtreexoVerif.Proofs.Sorted

theorem eq_of_sorted_of_mem_iff {α : Type} {R : α → α → Prop}
    (irrefl : ∀ a, ¬ R a a) (trans : ∀ a b c, R a b → R b c → R a c) :
    ∀ (l1 l2 : List α), l1.Pairwise R → l2.Pairwise R → (∀ x, x ∈ l1 ↔ x ∈ l2) → l1 = l2 := by
  intro l1 l2 h1 h2 h
  have nd : ∀ {l : List α}, l.Pairwise R → l.Nodup := fun hl =>
    List.Pairwise.imp (S := (· ≠ ·)) (fun hab e => irrefl _ (e ▸ hab)) hl
  exact ((List.perm_ext_iff_of_nodup (nd h1) (nd h2)).2 h).eq_of_pairwise
    (fun a b _ _ hab hba => absurd (trans _ _ _ hab hba) (irrefl a)) h1 h2

open UtreexoVerif Model in
theorem mergeHP_nil_left {H : Type} (b : HP H) : mergeHP [] b = b := by
  unfold mergeHP; rfl

open UtreexoVerif Model in
theorem mergeHP_nil_right {H : Type} (a : HP H) : mergeHP a [] = a := by
  cases a with
  | nil => exact mergeHP_nil_left []
  | cons x xs => unfold mergeHP; rfl

end UtreexoVerif.Proofs.Sorted

namespace UtreexoVerif.Proofs.SortBy
open Model InsertW

variable {α : Type}

theorem u64Order : IsOrder (fun a b : U64 => a < b) (fun a b => a ≤ b) where
  irrefl a := BitVec.lt_irrefl a
  trans := BitVec.lt_trans
  tri a b := by rw [BitVec.lt_def, BitVec.lt_def, ← BitVec.toNat_inj]; omega
  le_iff := BitVec.not_lt.symm

theorem insertBy_eq (key : α → U64) (x : α) :
    ∀ l, insertBy key x l = insertW (fun a b : U64 => a < b) key x l
  | [] => rfl
  | y :: ys => by rw [insertBy, insertW, insertBy_eq key x ys]

theorem sortBy_eq (key : α → U64) (l : List α) : sortBy key l = sortW (fun a b : U64 => a < b) key l := by
  unfold sortBy sortW
  congr 1
  funext acc x
  exact insertBy_eq key x acc

theorem insertBy_perm (key : α → U64) (x : α) (l : List α) : (insertBy key x l).Perm (x :: l) :=
  insertBy_eq key x l ▸ insertW_perm _ key x l

theorem insertBy_append (k : α → U64) (x : α) (l1 l2 : List α) (h : ∀ y ∈ l1, ¬ k x < k y) :
    insertBy k x (l1 ++ l2) = l1 ++ insertBy k x l2 := by
  rw [insertBy_eq, insertBy_eq]
  exact insertW_append _ k x l1 l2 h

theorem insertBy_split (k : α → U64) (x : α) (l : List α) :
    ∃ pre post, l = pre ++ post ∧ insertBy k x l = pre ++ x :: post := by
  induction l with
  | nil => exact ⟨[], [], rfl, rfl⟩
  | cons y ys ih =>
    unfold insertBy
    split
    · exact ⟨[], y :: ys, rfl, rfl⟩
    · obtain ⟨pre, post, e1, e2⟩ := ih
      exact ⟨y :: pre, post, by rw [e1]; rfl, by rw [e2]; rfl⟩

theorem insertBy_eq_take_drop (k : α → U64) (x : α) : ∀ (l : List α) (r : Nat), r ≤ l.length →
    (∀ i y, i < r → l[i]? = some y → ¬ k x < k y) → (∀ y, l[r]? = some y → k x < k y) →
    insertBy k x l = l.take r ++ x :: l.drop r := by
  intro l
  induction l with
  | nil =>
    intro r hr _ _
    have : r = 0 := by simpa using hr
    subst this
    rfl
  | cons y ys ih =>
    intro r hr h1 h2
    cases r with
    | zero =>
      have := h2 y (by simp)
      simp [insertBy, this]
    | succ r =>
      have := h1 0 y (by omega) (by simp)
      simp only [insertBy, if_neg this, List.take_succ_cons, List.drop_succ_cons, List.cons_append]
      rw [ih r (by simpa using hr) (fun i z hi hz => h1 (i + 1) z (by omega) (by simpa using hz))
        (fun z hz => h2 z (by simpa using hz))]

theorem insertInOrder_eq_insertBy (k : α → U64) (x : α) (l : List α) :
    insertInOrder (l.map k) (k x) = (insertBy k x l).map k := by
  induction l with
  | nil => rfl
  | cons y ys ih =>
    simp only [List.map_cons, insertInOrder, insertBy]
    by_cases h : k x < k y
    · rw [if_pos h, if_pos h]; rfl
    · rw [if_neg h, if_neg h, List.map_cons, ih]

theorem sortBy_perm (key : α → U64) (l : List α) : (sortBy key l).Perm l :=
  sortBy_eq key l ▸ sortW_perm _ key l

theorem mem_insertBy (key : α → U64) (x y : α) (l : List α) :
    y ∈ insertBy key x l ↔ y = x ∨ y ∈ l :=
  (insertBy_perm key x l).mem_iff.trans List.mem_cons

theorem mem_sortBy (key : α → U64) (y : α) (l : List α) : y ∈ sortBy key l ↔ y ∈ l :=
  (sortBy_perm key l).mem_iff

theorem length_sortBy (key : α → U64) (l : List α) : (sortBy key l).length = l.length :=
  (sortBy_perm key l).length_eq

theorem insertBy_sorted (key : α → U64) (x : α) (l : List α)
    (h : l.Pairwise (fun a b => key a ≤ key b)) : (insertBy key x l).Pairwise (fun a b => key a ≤ key b) :=
  insertBy_eq key x l ▸ insertW_sorted key u64Order x l h

theorem sortBy_sorted (key : α → U64) (l : List α) :
    (sortBy key l).Pairwise (fun a b => key a ≤ key b) :=
  sortBy_eq key l ▸ sortW_sorted key u64Order l

theorem sortBy_strict (key : α → U64) (l : List α) (hnd : (l.map key).Nodup) :
    (sortBy key l).Pairwise (fun a b => key a < key b) :=
  sortBy_eq key l ▸ sortW_strict key u64Order l hnd

theorem insertBy_map {β : Type} (k1 : α → U64) (k2 : β → U64) (f : α → β)
    (hk : ∀ x, k2 (f x) = k1 x) (x : α) (l : List α) :
    insertBy k2 (f x) (l.map f) = (insertBy k1 x l).map f := by
  rw [insertBy_eq, insertBy_eq]
  exact insertW_map _ k1 _ k2 f x l (fun y _ => by rw [hk, hk])

theorem sortBy_map {β : Type} (k1 : α → U64) (k2 : β → U64) (f : α → β)
    (hk : ∀ x, k2 (f x) = k1 x) (l : List α) : sortBy k2 (l.map f) = (sortBy k1 l).map f := by
  rw [sortBy_eq, sortBy_eq]
  exact sortW_map _ k1 _ k2 f l (fun x _ y _ => by rw [hk, hk])

theorem sortBy_map_comp {β : Type} (key : β → U64) (f : α → β) (l : List α) :
    sortBy key (l.map f) = (sortBy (key ∘ f) l).map f :=
  sortBy_map (key ∘ f) key f (fun _ => rfl) l

theorem insertBy_eq_append (key : α → U64) (x : α) (l : List α) (h : ∀ y ∈ l, key y ≤ key x) :
    insertBy key x l = l ++ [x] := by
  rw [insertBy_eq]
  exact insertW_eq_append _ key x l (fun y hy => BitVec.not_lt.2 (h y hy))

theorem foldl_insertBy_eq_append (key : α → U64) (l acc : List α)
    (h : (acc ++ l).Pairwise (fun a b => key a ≤ key b)) :
    l.foldl (fun acc x => insertBy key x acc) acc = acc ++ l := by
  rw [show (fun acc x => insertBy key x acc) = fun acc x => insertW (fun a b : U64 => a < b) key x acc from
    funext fun acc => funext fun x => insertBy_eq key x acc]
  exact foldl_insertW_eq_append key u64Order l acc h

theorem sortBy_eq_self (key : α → U64) {l : List α}
    (h : l.Pairwise (fun a b => key a ≤ key b)) : sortBy key l = l :=
  sortBy_eq key l ▸ sortW_eq_self key u64Order h

theorem sortBy_eq_of_perm (key : α → U64) {l1 l2 : List α} (hp : l1.Perm l2)
    (hnd : (l1.map key).Nodup) : sortBy key l1 = sortBy key l2 := by
  rw [sortBy_eq, sortBy_eq]
  exact sortW_eq_of_perm key u64Order hp hnd

theorem sortBy_eq_of_perm_sorted (key : α → U64) {l s : List α} (hp : l.Perm s)
    (hs : s.Pairwise (fun a b => key a < key b)) : sortBy key l = s :=
  sortBy_eq key l ▸ sortW_eq_of_perm_sorted key u64Order hp hs

theorem sortBy_sortBy (key : α → U64) (l : List α) : sortBy key (sortBy key l) = sortBy key l :=
  sortBy_eq_self key (sortBy_sorted key l)

theorem map_sortBy (key : α → U64) (l : List α) : (sortBy key l).map key = sortU64 (l.map key) :=
  (sortBy_map key id key (fun _ => rfl) l).symm

theorem perm_sortU64 (l : List U64) : (sortU64 l).Perm l := sortBy_perm id l

theorem mem_sortU64 (x : U64) (l : List U64) : x ∈ sortU64 l ↔ x ∈ l := mem_sortBy id x l

theorem sorted_sortU64 (l : List U64) : (sortU64 l).Pairwise (· ≤ ·) := sortBy_sorted id l

theorem strict_sortU64 (l : List U64) (hn : l.Nodup) : (sortU64 l).Pairwise (· < ·) :=
  sortBy_strict id l (by rwa [List.map_id])

theorem sortU64_eq_self {l : List U64} (h : l.Pairwise (· ≤ ·)) : sortU64 l = l :=
  sortBy_eq_self id h

theorem sortU64_eq_of_perm {l1 l2 : List U64} (hp : l1.Perm l2) (hnd : l1.Nodup) :
    sortU64 l1 = sortU64 l2 :=
  sortBy_eq_of_perm id hp (by rwa [List.map_id])

section
variable {H : Type}

theorem mem_sortHP (y : U64 × H) (l : HP H) : y ∈ sortHP l ↔ y ∈ l := mem_sortBy _ y l

theorem length_sortHP (l : HP H) : (sortHP l).length = l.length := length_sortBy _ l

theorem sortHP_positions (l : HP H) : (sortHP l).positions = sortU64 l.positions := by
  unfold sortHP HP.positions
  exact map_sortBy (·.1) l

theorem sortHP_eq_self {l : HP H} (h : l.Pairwise (fun a b => a.1 ≤ b.1)) : sortHP l = l :=
  sortBy_eq_self (fun x : U64 × H => x.1) h

theorem sortHP_eq_self_of_strict {l : HP H} (h : l.Pairwise (fun a b => a.1 < b.1)) :
    sortHP l = l :=
  sortBy_eq_self (fun x : U64 × H => x.1) (h.imp BitVec.le_of_lt)

theorem sortHP_eq_of_perm {l1 l2 : HP H} (hp : l1.Perm l2) (hnd : l1.positions.Nodup) :
    sortHP l1 = sortHP l2 :=
  sortBy_eq_of_perm (fun x : U64 × H => x.1) hp hnd

end

theorem strict_of_sorted_nodup (l : List U64) (h : l.Pairwise (· ≤ ·)) (hn : l.Nodup) :
    l.Pairwise (· < ·) :=
  strict_of_sorted id u64Order h (by rwa [List.map_id])

theorem nodup_map_of_determines {β γ : Type} (f : α → β) (g : α → γ) : ∀ (l : List α),
    (l.map f).Nodup → (∀ a ∈ l, ∀ b ∈ l, g a = g b → f a = f b) → (l.map g).Nodup :=
  fun _ hnd hinj => List.pairwise_map.2 ((List.pairwise_map.1 hnd).imp_of_mem
    fun ha hb hne e => hne (hinj _ ha _ hb e))

end UtreexoVerif.Proofs.SortBy
