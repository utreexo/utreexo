/-
  What C04 needs about `Stump.add`: it never returns an error (Go's `add` has no error result;
  namespace `StumpNoErr`, for ANY stump), and on a well-formed stump (one root per set bit of the
  leaf count) that does not grow beyond 2^63 leaves it returns normally: the merge loops pop exactly
  one root per trailing one bit of the leaf count (`Proofs/StumpAdd.lean`).
-/
import UtreexoVerif.Props.C04_statement
import UtreexoVerif.Proofs.CalcTotal
import UtreexoVerif.Proofs.StumpAdd

namespace UtreexoVerif.Proofs.StumpNoErr
open Model Hasher

theorem bind_ne_err {α β} {x : Out α} {f : α → Out β} (hx : x ≠ .err) (hf : ∀ a, f a ≠ .err) :
    x.bind f ≠ .err := by
  cases x with
  | ok a => exact hf a
  | err => exact absurd rfl hx
  | panic => simp [Out.bind]
  | hang => simp [Out.bind]

theorem popLast_ne_err {α} (l : List α) : popLast l ≠ .err := by
  unfold popLast
  split <;> simp

section
variable {H : Type} [DecidableEq H] [Hasher H]

theorem rtdInner_ne_err (n : U64) (ra : U8) :
    ∀ (fuel : Nat) (h : U8) (roots : List H) (del : List U64),
      rtdInner n ra fuel h roots del ≠ .err := by
  intro fuel
  induction fuel with
  | zero => intro h roots del; simp [rtdInner]
  | succ fuel ih =>
    intro h roots del
    unfold rtdInner
    split
    · exact bind_ne_err (popLast_ne_err _) (fun a => ih _ _ _)
    · simp

theorem rtdOuter_ne_err (nz : H) (numAdds : U64) :
    ∀ (k : Nat) (i n : U64) (roots : List H) (del : List U64),
      rtdOuter nz numAdds k i n roots del ≠ .err := by
  intro k
  induction k with
  | zero => intro i n roots del; simp [rtdOuter]
  | succ k ih =>
    intro i n roots del
    unfold rtdOuter
    exact bind_ne_err (rtdInner_ne_err _ _ _ _ _ _) (fun a => ih _ _ _ _)

theorem rootsToDestroy_ne_err (nz : H) (k : Nat) (n : U64) (roots : List H) :
    rootsToDestroy nz k n roots ≠ .err := by
  unfold rootsToDestroy
  split
  · exact rtdOuter_ne_err _ _ _ _ _ _ _
  · simp

theorem addInner_ne_err (ar : U8) (n : U64) :
    ∀ (fuel : Nat) (h : U8) (roots : List H) (nr : H) (pos : U64) (upd : List (H × U64)),
      addInner ar n fuel h roots nr pos upd ≠ .err := by
  intro fuel
  induction fuel with
  | zero => intro h roots nr pos upd; simp [addInner]
  | succ fuel ih =>
    intro h roots nr pos upd
    unfold addInner
    split
    · refine bind_ne_err (popLast_ne_err _) (fun a => ?_)
      obtain ⟨root, roots'⟩ := a
      show (if root ≠ zero then _ else _) ≠ Out.err
      split
      · exact ih _ _ _ _ _
      · exact ih _ _ _ _ _
    · simp

theorem addLoop_ne_err (nz : H) (ar : U8) :
    ∀ (adds : List H) (rem : Nat) (s : Stump H) (upd : List (H × U64)),
      Stump.add.loop nz ar adds rem s upd ≠ .err := by
  intro adds
  induction adds with
  | nil => intro rem s upd; simp [Stump.add.loop]
  | cons a adds ih =>
    intro rem s upd
    unfold Stump.add.loop
    refine bind_ne_err (rootsToDestroy_ne_err _ _ _ _) (fun d => ?_)
    exact bind_ne_err (addInner_ne_err _ _ _ _ _ _ _ _) (fun r => ih _ _ _)

theorem add_ne_err (nz : H) (s : Stump H) (adds : List H) : s.add nz adds ≠ .err := by
  unfold Stump.add
  refine bind_ne_err (rootsToDestroy_ne_err _ _ _ _) (fun d => ?_)
  refine bind_ne_err (addLoop_ne_err _ _ _ _ _ _) (fun r => ?_)
  simp [pure]

end
end UtreexoVerif.Proofs.StumpNoErr

namespace UtreexoVerif.Proofs.StumpTotal
open Model GoInt
open UtreexoVerif.Proofs.CalcTotal
open UtreexoVerif.Props.C04 (Total)

def cnt (n : U64) (h : Nat) : Nat := (List.range (64 - h)).countP (fun i => n.getLsbD (h + i))

theorem cnt_zero (n : U64) : (cnt n 0 : Int) = onesCount64 n := by
  unfold cnt onesCount64
  simp

theorem cnt_eq_treeRows_length (n : U64) : cnt n 0 = (Spec.treeRows n.toNat).length :=
  Int.ofNat.inj ((cnt_zero n).trans (Spec.onesCount64_eq_treeRows n))

variable {H : Type} [DecidableEq H] [Hasher H]

theorem add_total (nz : H) (s : Stump H) (adds : List H)
    (hn : s.numLeaves.toNat + adds.length ≤ 2 ^ 63) (hlen : s.roots.length = cnt s.numLeaves 0) :
    Total (s.add nz adds) := by
  obtain ⟨roots, nl⟩ := s
  obtain ⟨r, hr⟩ := StumpAdd.add_ok nz roots adds (n := nl.toNat) (by simp only at hn; omega)
    (by rw [← cnt_eq_treeRows_length]; exact hlen)
  rw [BitVec.ofNat_toNat, BitVec.setWidth_eq] at hr
  rw [hr]
  exact total_ok _

end UtreexoVerif.Proofs.StumpTotal
