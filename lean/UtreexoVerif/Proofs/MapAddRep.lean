/-
  `addSingle` of the map-forest model on the abstract state `(A, C)` of `MapRep`: the entry of the function (with or
  without growth of the allocation, `MapRemap`), and one iteration of `addLoop` over a non-empty root, over an empty
  root (the carried subtree moves up, `MapMoveUp`), and at the end.  The induction over the loop is
  `MapAddMerge.addLoop_spec`, on the invariant.
-/
import UtreexoVerif.Proofs.MapMoveUp
import UtreexoVerif.Proofs.MapRemap
import UtreexoVerif.Proofs.PForestAdd

namespace UtreexoVerif.Proofs.MapAddRep
open Model MapRep
open Spec (Pos sib forestRows rootPos parent enc)
open MapInv (Valid)
open MapPrune (valid_sib pruneA H8_beq_zero prunePosition_frame valid_parent)
open Hasher (zero ph)
variable {H : Type} [DecidableEq H] [Hasher H]

/-- the cache update of the empty-root branch of `addSingle` -/
def cacheUp (add pNode : Leaf H) (P : Pos) (C : H → Option Pos) : H → Option Pos :=
  if add.remember = true ∧ pNode.hash = add.hash then
    (if (C add.hash).isSome = true then upd C add.hash (some P) else C)
  else C

/-- what `moveUpDescendants` needs to lift the subtree at `σ` onto its parent `P`, after the cache update `cu` -/
structure LiftReady (cu : H → Option Pos) (σ P : Pos) (A : Pos → Option (Leaf H)) (C : H → Option Pos) : Prop where
  empty : ∀ q, SUnder (sib σ) q → A q = none
  cu_eq : ∀ y, cu y = if C y = some σ then some P else C y
  inj : ∀ c v, SUnder σ c → A c = some v → ∀ t, cu v.hash = some t → t = c
  sto : ∀ x t, cu x = some t → SUnder σ t → ∃ v, A t = some v ∧ v.hash = x

/-- the spine of an add: while bit `k` of `n` is set, the node being carried sits at `(k, n >>> k)`, a right child inside the
allocation -/
theorem geo {T n k : Nat} (hfit : forestRows (n + 1) ≤ T) (hbit : n.testBit k = true) :
    k < T ∧ n < 2 ^ T ∧ (n >>> k) % 2 = 1 ∧ n >>> (k + 1) = (n >>> k) / 2 ∧ Valid T (k, n >>> k) := by
  have hn : n < 2 ^ T := Nat.lt_of_lt_of_le (forestRows_spec_le (n + 1)) (two_pow_le_of_le hfit)
  have hk : k < T := testBit_lt_of_lt hn hbit
  have hodd : (n >>> k) % 2 = 1 := PForestAdd.shiftRight_odd_of_testBit hbit
  refine ⟨hk, hn, hodd, Nat.shiftRight_succ _ _, Nat.le_of_lt hk, ?_⟩
  show n >>> k < 2 ^ (T - k)
  rw [Nat.shiftRight_eq_div_pow]
  exact div_two_pow_lt (Nat.le_of_lt hk) hn

theorem sib_sigma {n k : Nat} (hbit : n.testBit k = true) : sib (k, n >>> k) = rootPos n k :=
  (PForestAdd.acc_geo hbit).1.symm

theorem sib_root {n k : Nat} (hbit : n.testBit k = true) : sib (rootPos n k) = (k, n >>> k) := by
  rw [← sib_sigma hbit, CalcGeo.sib_sib]

theorem parent_sigma (n k : Nat) : parent (k, n >>> k) = (k + 1, n >>> (k + 1)) := by
  unfold parent
  simp only [Nat.shiftRight_succ]

theorem valid_root {T n k : Nat} (hfit : forestRows (n + 1) ≤ T) (hbit : n.testBit k = true) :
    Valid T (rootPos n k) := by
  obtain ⟨hk, _, _, _, hv⟩ := geo hfit hbit
  rw [← sib_sigma hbit]
  exact valid_sib hv hk

theorem rootPosition_eq {T n k : Nat} (hT : T ≤ 63) (hfit : forestRows (n + 1) ≤ T) (hbit : n.testBit k = true) :
    rootPosition (BitVec.ofNat 64 n) (H8 k) (H8 T) = encP T (rootPos n k) := by
  obtain ⟨hk, hn, _⟩ := geo hfit hbit
  exact EncPos.rootPosition_encP hT (Nat.le_of_lt hn) (Nat.le_of_lt hk)

theorem pruneNieces_rep {m : MapPollard H} {T : Nat} {A : Pos → Option (Leaf H)} {C : H → Option Pos}
    (rep : Rep m T A C) {P : Pos} (hP : Valid T P) (h1 : 1 ≤ P.1) :
    Rep (m.pruneNieces (encP T P)) T (pruneA A (P.1 - 1, 2 * P.2)) C ∧
      (m.pruneNieces (encP T P)).numLeaves = m.numLeaves ∧ (m.pruneNieces (encP T P)).full = m.full := by
  have hT := rep.T_le
  have hne : ¬ ((H8 P.1 == 0#8) = true) := by
    rw [H8_beq_zero (by have := hP.1; omega)]; omega
  unfold MapPollard.pruneNieces
  rw [rep.rows, EncPos.detectRow_encP hT hP, if_neg hne, (EncPos.child_encP hT hP h1).1]
  have hv : Valid T (P.1 - 1, 2 * P.2) := ValidH.child hP h1 (b := 0) (by decide)
  obtain ⟨f1, f2, f3, f4⟩ := prunePosition_frame m (encP T (P.1 - 1, 2 * P.2))
  exact ⟨rep.prunePosition hv (by show P.1 - 1 < T; have := hP.1; omega), f2, f4⟩

theorem addLoop_succ (add : Leaf H) (tr : U8) (fuel : Nat) (h : U8) (position : U64) (pNode : Leaf H)
    (m : MapPollard H) :
    MapPollard.addLoop add tr (fuel + 1) h position pNode m =
      if (m.numLeaves >>> h.toNat) &&& 1#64 == 1#64 then
        match m.getNode (rootPosition m.numLeaves h tr) with
        | none => (m, .error .err)
        | some node =>
          if node.hash = zero then
            match MapPollard.moveUpDescendants position (rootPosition m.numLeaves h tr)
                (if add.remember && pNode.hash = add.hash then
                  (if ((m.delNode (rootPosition m.numLeaves h tr)).delNode position).hasCached add.hash then
                    ((m.delNode (rootPosition m.numLeaves h tr)).delNode position).putCached add.hash (Parent position tr)
                   else (m.delNode (rootPosition m.numLeaves h tr)).delNode position)
                 else (m.delNode (rootPosition m.numLeaves h tr)).delNode position) with
            | (m', .error e) => (m', .error e)
            | (m', .ok ()) =>
              MapPollard.addLoop add tr fuel (h + 1) (Parent position tr) pNode
                ((m'.putNode (Parent position tr) pNode).pruneNieces (Parent position tr))
          else
            MapPollard.addLoop add tr fuel (h + 1) (Parent position tr) ⟨ph node.hash pNode.hash, m.full⟩
              ((m.putNode (Parent position tr) ⟨ph node.hash pNode.hash, m.full⟩).pruneNieces (Parent position tr))
      else (m, .ok ()) := rfl

theorem addLoop_done {m : MapPollard H} {n k : Nat} (hn : m.numLeaves = BitVec.ofNat 64 n) (hn63 : n < 2 ^ 63)
    (hk : k ≤ 63) (hbit : n.testBit k = false) (add : Leaf H) (tr : U8) (fuel : Nat) (pos : U64) (pNode : Leaf H) :
    MapPollard.addLoop add tr (fuel + 1) (H8 k) pos pNode m = (m, .ok ()) := by
  have : n < 2 ^ 64 := by omega
  rw [addLoop_succ, hn, toNat_H8 hk, bit_test this, hbit]
  rfl

theorem addLoop_step_nonempty {m : MapPollard H} {T n k : Nat} {A : Pos → Option (Leaf H)} {C : H → Option Pos}
    (rep : Rep m T A C) (hn : m.numLeaves = BitVec.ofNat 64 n) (hn63 : n + 1 < 2 ^ 63)
    (hfit : forestRows (n + 1) ≤ T) {fl : Bool} (hfull : m.full = fl) (hbit : n.testBit k = true)
    {node : Leaf H} (hroot : A (rootPos n k) = some node) (hnz : node.hash ≠ zero)
    (add pNode : Leaf H) (fuel : Nat) :
    ∃ m', MapPollard.addLoop add (H8 T) (fuel + 1) (H8 k) (encP T (k, n >>> k)) pNode m =
        MapPollard.addLoop add (H8 T) fuel (H8 (k + 1)) (encP T (k + 1, n >>> (k + 1)))
          ⟨ph node.hash pNode.hash, fl⟩ m' ∧
      Rep m' T (pruneA (upd A (k + 1, n >>> (k + 1)) (some ⟨ph node.hash pNode.hash, fl⟩)) (rootPos n k)) C ∧
      m'.numLeaves = m.numLeaves ∧ m'.full = m.full := by
  have hT := rep.T_le
  obtain ⟨hk, hnT, hodd, hs, hσ⟩ := geo hfit hbit
  have hρ := valid_root hfit hbit
  have hP : Valid T (k + 1, n >>> (k + 1)) := by
    rw [← parent_sigma]; exact valid_parent hσ hk
  have hpar : Parent (encP T (k, n >>> k)) (H8 T) = encP T (k + 1, n >>> (k + 1)) := by
    rw [EncPos.parent_encP hT hσ hk, parent_sigma]
  rw [addLoop_succ, hn, toNat_H8 (by omega), bit_test (by omega), hbit, if_pos rfl, rootPosition_eq hT hfit hbit,
    rep.node _ hρ, hroot]
  simp only
  rw [if_neg hnz, hpar, hfull, ofNat_add_one]
  have rep1 := rep.putNode hP (⟨ph node.hash pNode.hash, fl⟩ : Leaf H)
  obtain ⟨rep2, f1, f2⟩ := pruneNieces_rep rep1 hP (by show 1 ≤ k + 1; omega)
  exact ⟨_, rfl, rep2, f1.trans hn, f2.trans hfull⟩

theorem cacheUp_rep {m : MapPollard H} {T : Nat} {A : Pos → Option (Leaf H)} {C : H → Option Pos}
    (rep : Rep m T A C) (add pNode : Leaf H) {P : Pos} (hP : Valid T P) :
    Rep (if add.remember && pNode.hash = add.hash then
          (if m.hasCached add.hash then m.putCached add.hash (encP T P) else m) else m) T A
        (cacheUp add pNode P C) ∧
      (if add.remember && pNode.hash = add.hash then
          (if m.hasCached add.hash then m.putCached add.hash (encP T P) else m) else m).numLeaves = m.numLeaves ∧
      (if add.remember && pNode.hash = add.hash then
          (if m.hasCached add.hash then m.putCached add.hash (encP T P) else m) else m).full = m.full := by
  unfold cacheUp
  by_cases h : add.remember = true ∧ pNode.hash = add.hash
  · rw [if_pos (by simpa using h), if_pos h]
    exact ⟨MapMove.rep_recache rep add.hash hP, by split <;> rfl, by split <;> rfl⟩
  · rw [if_neg (by simpa using h), if_neg h]
    exact ⟨rep, rfl, rfl⟩

theorem addLoop_step_empty {m : MapPollard H} {T n k : Nat} {A : Pos → Option (Leaf H)} {C : H → Option Pos}
    (rep : Rep m T A C) (hn : m.numLeaves = BitVec.ofNat 64 n) (hn63 : n + 1 < 2 ^ 63)
    (hfit : forestRows (n + 1) ≤ T) (hbit : n.testBit k = true)
    {node : Leaf H} (hroot : A (rootPos n k) = some node) (hz : node.hash = zero)
    (add pNode : Leaf H) (fuel : Nat)
    (lr : LiftReady (cacheUp add pNode (k + 1, n >>> (k + 1)) C) (k, n >>> k) (k + 1, n >>> (k + 1)) A C) :
    ∃ m', MapPollard.addLoop add (H8 T) (fuel + 1) (H8 k) (encP T (k, n >>> k)) pNode m =
        MapPollard.addLoop add (H8 T) fuel (H8 (k + 1)) (encP T (k + 1, n >>> (k + 1))) pNode m' ∧
      Rep m' T (pruneA (upd (liftA (k, n >>> k) (upd (upd A (rootPos n k) none) (k, n >>> k) none))
          (k + 1, n >>> (k + 1)) (some pNode)) (rootPos n k))
        (liftC (k, n >>> k) (cacheUp add pNode (k + 1, n >>> (k + 1)) C)) ∧
      m'.numLeaves = m.numLeaves ∧ m'.full = m.full := by
  have hT := rep.T_le
  obtain ⟨hk, hnT, hodd, hs, hσ⟩ := geo hfit hbit
  have hρ := valid_root hfit hbit
  have hP : Valid T (k + 1, n >>> (k + 1)) := by
    rw [← parent_sigma]; exact valid_parent hσ hk
  have hpar : Parent (encP T (k, n >>> k)) (H8 T) = encP T (k + 1, n >>> (k + 1)) := by
    rw [EncPos.parent_encP hT hσ hk, parent_sigma]
  have hρ1 : (rootPos n k).1 = k := rfl
  rw [addLoop_succ, hn, toNat_H8 (by omega), bit_test (by omega), hbit, if_pos rfl, rootPosition_eq hT hfit hbit,
    rep.node _ hρ, hroot]
  simp only
  rw [if_pos hz, hpar, ofNat_add_one]
  have rep1 := (rep.delNode hρ).delNode hσ
  obtain ⟨rep2, g1, g2⟩ := cacheUp_rep rep1 add pNode hP
  have below_ne : ∀ q : Pos, q.1 < k → q ≠ rootPos n k ∧ q ≠ (k, n >>> k) := by
    intro q hq
    constructor
    · intro e; rw [e] at hq; exact absurd hq (by simp [hρ1])
    · intro e; rw [e] at hq; exact absurd hq (by simp)
  have A'_below : ∀ q : Pos, q.1 < k → upd (upd A (rootPos n k) none) (k, n >>> k) none q = A q := by
    intro q hq
    obtain ⟨a, b⟩ := below_ne q hq
    rw [upd_ne _ _ b, upd_ne _ _ a]
  obtain ⟨m3, e3, rep3, f1, f2⟩ := MapMoveUp.moveUpDescendants_rep_of_agree rep2 hσ hk (upd_self _ _ _)
    (by rw [sib_sigma hbit, upd_apply, if_neg (by intro e; have := congrArg Prod.snd e; simp [rootPos] at this; omega), upd_self])
    A'_below lr.empty lr.inj lr.sto
  rw [sib_sigma hbit] at e3
  rw [e3]
  simp only
  have rep4 := rep3.putNode hP pNode
  obtain ⟨rep5, j1, j2⟩ := pruneNieces_rep rep4 hP (by show 1 ≤ k + 1; omega)
  refine ⟨_, rfl, rep5, ?_, ?_⟩
  · exact j1.trans (f1.trans (g1.trans hn))
  · exact j2.trans (f2.trans g2)

theorem addSingle_of_remap {m m0 : MapPollard H} {tr : U8} {a a' : Leaf H}
    (h : MapPollard.remap m = (m0, .ok tr)) (ha' : (if m0.full then ⟨a.hash, true⟩ else a) = a') :
    MapPollard.addSingle a m =
      MapPollard.addLoop a' tr 65 0#8 m0.numLeaves a'
        (if a'.remember then (m0.putNode m0.numLeaves a').putCached a'.hash m0.numLeaves
         else m0.putNode m0.numLeaves a') := by
  subst ha'
  unfold MapPollard.addSingle
  rw [h]

omit [DecidableEq H] [Hasher H] in
theorem numLeaves_enc {m0 : MapPollard H} {n : Nat} (T : Nat) (hn : m0.numLeaves = BitVec.ofNat 64 n) :
    m0.numLeaves = encP T (0, n) := by
  rw [hn]; show _ = BitVec.ofNat 64 (enc T (0, n)); rw [SpecView.enc_zero_row]

theorem start_core {m0 : MapPollard H} {T : Nat} {A : Pos → Option (Leaf H)} {C : H → Option Pos}
    (rep : Rep m0 T A C) {q : Pos} (hv : Valid T q) (a : Leaf H) :
    Rep (if a.remember then (m0.putNode (encP T q) a).putCached a.hash (encP T q)
         else m0.putNode (encP T q) a) T
        (upd A q (some a)) (if a.remember = true then upd C a.hash (some q) else C) ∧
      (if a.remember then (m0.putNode (encP T q) a).putCached a.hash (encP T q)
         else m0.putNode (encP T q) a).numLeaves = m0.numLeaves ∧
      (if a.remember then (m0.putNode (encP T q) a).putCached a.hash (encP T q)
         else m0.putNode (encP T q) a).full = m0.full := by
  have rep1 := rep.putNode hv a
  cases hr : a.remember
  · simp only [Bool.false_eq_true, if_false]
    exact ⟨rep1, rfl, rfl⟩
  · simp only [if_true]
    exact ⟨rep1.putCached a.hash hv, rfl, rfl⟩

theorem addSingle_start {m : MapPollard H} {T n : Nat} {A : Pos → Option (Leaf H)} {C : H → Option Pos}
    (rep : Rep m T A C) (hn : m.numLeaves = BitVec.ofNat 64 n) (hn63 : n + 1 < 2 ^ 63)
    (hfit : forestRows (n + 1) ≤ T) {a a' : Leaf H} (ha' : (if m.full then ⟨a.hash, true⟩ else a) = a') :
    ∃ m1, MapPollard.addSingle a m = MapPollard.addLoop a' (H8 T) 65 0#8 (encP T (0, n)) a' m1 ∧
      Rep m1 T (upd A (0, n) (some a')) (if a'.remember = true then upd C a'.hash (some (0, n)) else C) ∧
      m1.numLeaves = m.numLeaves ∧ m1.full = m.full := by
  have hv : Valid T (0, n) := by
    have h2 := forestRows_spec_le (n + 1)
    have h3 : 2 ^ forestRows (n + 1) ≤ 2 ^ T := two_pow_le_of_le hfit
    exact ⟨Nat.zero_le _, by show n < 2 ^ (T - 0); rw [Nat.sub_zero]; omega⟩
  obtain ⟨rep1, f1, f2⟩ := start_core rep hv a'
  rw [addSingle_of_remap (MapRemap.remap_noop rep.rows rep.T_le hn hn63 hfit) ha', numLeaves_enc T hn]
  exact ⟨_, rfl, rep1, f1.trans (numLeaves_enc T hn), f2⟩

theorem addSingle_start_grow {m : MapPollard H} {T n : Nat} {A : Pos → Option (Leaf H)} {C : H → Option Pos}
    (rep : Rep m T A C) (hn : m.numLeaves = BitVec.ofNat 64 n) (hn63 : n + 1 < 2 ^ 63)
    (hfitOld : forestRows n ≤ T) (hgrow : T < forestRows (n + 1)) {a a' : Leaf H}
    (ha' : (if m.full then ⟨a.hash, true⟩ else a) = a') :
    ∃ m1, MapPollard.addSingle a m = MapPollard.addLoop a' (H8 (T + 1)) 65 0#8 (encP (T + 1) (0, n)) a' m1 ∧
      Rep m1 (T + 1) (upd A (0, n) (some a')) (if a'.remember = true then upd C a'.hash (some (0, n)) else C) ∧
      m1.numLeaves = m.numLeaves ∧ m1.full = m.full := by
  obtain ⟨en, efr⟩ := MapRemap.n_eq_pow hfitOld hgrow
  obtain ⟨m0, e0, rep0, g1, g2⟩ := MapRemap.remap_grow' rep hn hn63 hfitOld hgrow
  have hv : Valid (T + 1) (0, n) := by
    refine ⟨Nat.zero_le _, ?_⟩
    show n < 2 ^ (T + 1 - 0)
    rw [Nat.sub_zero, Nat.pow_succ, en]
    have := Nat.two_pow_pos T
    omega
  obtain ⟨rep1, f1, f2⟩ := start_core rep0 hv a'
  have ha0 : (if m0.full then ⟨a.hash, true⟩ else a) = a' := by rw [g2]; exact ha'
  rw [addSingle_of_remap e0 ha0, numLeaves_enc (T + 1) (g1.trans hn)]
  exact ⟨_, rfl, rep1, f1.trans g1, f2.trans g2⟩

theorem addSingle_start_any {m : MapPollard H} {T n : Nat} {A : Pos → Option (Leaf H)} {C : H → Option Pos}
    (rep : Rep m T A C) (hn : m.numLeaves = BitVec.ofNat 64 n) (hn63 : n + 1 < 2 ^ 63)
    (hfitOld : forestRows n ≤ T) {a a' : Leaf H} (ha' : (if m.full then ⟨a.hash, true⟩ else a) = a') :
    ∃ T' m1, forestRows (n + 1) ≤ T' ∧ T' ≤ 63 ∧
      MapPollard.addSingle a m = MapPollard.addLoop a' (H8 T') 65 0#8 (encP T' (0, n)) a' m1 ∧
      Rep m1 T' (upd A (0, n) (some a')) (if a'.remember = true then upd C a'.hash (some (0, n)) else C) ∧
      m1.numLeaves = m.numLeaves ∧ m1.full = m.full := by
  by_cases hfit : forestRows (n + 1) ≤ T
  · obtain ⟨m1, h⟩ := addSingle_start rep hn hn63 hfit ha'
    exact ⟨T, m1, hfit, rep.T_le, h⟩
  · obtain ⟨m1, h⟩ := addSingle_start_grow rep hn hn63 hfitOld (by omega) ha'
    exact ⟨T + 1, m1, Nat.le_of_eq (MapRemap.n_eq_pow hfitOld (by omega)).2, h.2.1.T_le, h⟩

section Example
local instance exHasher : Hasher Nat := ⟨fun a b => a + b + 1, 0⟩

/-- 3 leaves in a 2-row allocation; the tree of row 1 was deleted (empty root `(1,0)`, nothing below),
leaf `(0,2)` (hash 30) is cached.  State in the middle of adding leaf `40`: it was written to `(0,3)`. -/
def mE : MapPollard Nat :=
  { nodes := [(encP 2 (1, 0), ⟨0, false⟩), (encP 2 (0, 2), ⟨30, true⟩), (encP 2 (0, 3), ⟨40, false⟩)],
    cached := [(30, encP 2 (0, 2))], numLeaves := 3#64, totalRows := H8 2, full := false }

theorem mE_rep : Rep mE 2 (absA mE 2) (absC mE 2) :=
  rep_abs_of_decode (by decide) rfl (by decide) (by decide)

example : MapPollard.addLoop (⟨40, false⟩ : Leaf Nat) (H8 2) 65 (H8 2) (encP 2 (2, 0)) ⟨71, false⟩ mE = (mE, .ok ()) :=
  addLoop_done (n := 3) rfl (by decide) (by decide) (by decide) _ _ _ _ _

example : ∃ m', MapPollard.addLoop (⟨40, false⟩ : Leaf Nat) (H8 2) (64 + 1) (H8 0) (encP 2 (0, 3 >>> 0)) ⟨40, false⟩ mE =
      MapPollard.addLoop ⟨40, false⟩ (H8 2) 64 (H8 (0 + 1)) (encP 2 (0 + 1, 3 >>> (0 + 1)))
        ⟨ph (30 : Nat) 40, false⟩ m' ∧
    Rep m' 2 (pruneA (upd (absA mE 2) (0 + 1, 3 >>> (0 + 1)) (some ⟨ph (30 : Nat) 40, false⟩)) (rootPos 3 0)) (absC mE 2) ∧
    m'.numLeaves = mE.numLeaves ∧ m'.full = mE.full :=
  addLoop_step_nonempty (n := 3) (k := 0) (node := ⟨30, true⟩) mE_rep rfl (by decide)
    (forestRows_le (by decide)) rfl (by decide) (by decide) (by decide) _ _ _

/-- the state after that step: `(1,1)` holds `ph 30 40 = 71` -/
def mE2 : MapPollard Nat :=
  { nodes := [(encP 2 (1, 1), ⟨71, false⟩), (encP 2 (1, 0), ⟨0, false⟩), (encP 2 (0, 2), ⟨30, true⟩),
              (encP 2 (0, 3), ⟨40, false⟩)],
    cached := [(30, encP 2 (0, 2))], numLeaves := 3#64, totalRows := H8 2, full := false }

theorem mE2_rep : Rep mE2 2 (absA mE2 2) (absC mE2 2) :=
  rep_abs_of_decode (by decide) rfl (by decide) (by decide)

theorem under_11 {c : Pos} (h : SUnder (1, 3 >>> 1) c) : c = (0, 2) ∨ c = (0, 3) := by
  obtain ⟨r, o⟩ := c
  obtain ⟨⟨h1, h2⟩, h3⟩ := h
  simp only at h1 h2 h3
  have hr : r = 0 := by omega
  subst hr
  have : (3 >>> 1 : Nat) = 1 := by decide
  rw [this] at h2
  simp at h2
  have : o = 2 ∨ o = 3 := by omega
  rcases this with rfl | rfl <;> simp

theorem exC_eq (x : Nat) : absC mE2 2 x = if x = 30 then some (0, 2) else none := by
  unfold absC MapPollard.getCached mE2
  simp only [AL.get?]
  by_cases e : x = 30
  · subst e; decide
  · have : ¬ (30 = x) := fun h => e h.symm
    rw [if_neg this, if_neg e]; rfl

/-- `addLoop_step_empty` at `n = 3`, `k = 1`: the root `(1,0)` is empty, the subtree under `(1,1)`
(leaves `(0,2)` cached and `(0,3)`) moves up to `(1,0)`, `(1,1)` -/
example : ∃ m', MapPollard.addLoop (⟨40, false⟩ : Leaf Nat) (H8 2) (63 + 1) (H8 1) (encP 2 (1, 3 >>> 1)) ⟨71, false⟩ mE2 =
      MapPollard.addLoop ⟨40, false⟩ (H8 2) 63 (H8 (1 + 1)) (encP 2 (1 + 1, 3 >>> (1 + 1))) ⟨71, false⟩ m' ∧
    Rep m' 2 (pruneA (upd (liftA (1, 3 >>> 1) (upd (upd (absA mE2 2) (rootPos 3 1) none) (1, 3 >>> 1) none))
        (1 + 1, 3 >>> (1 + 1)) (some ⟨71, false⟩)) (rootPos 3 1))
      (liftC (1, 3 >>> 1) (cacheUp ⟨40, false⟩ ⟨71, false⟩ (1 + 1, 3 >>> (1 + 1)) (absC mE2 2))) ∧
    m'.numLeaves = mE2.numLeaves ∧ m'.full = mE2.full := by
  have hcu : cacheUp (⟨40, false⟩ : Leaf Nat) ⟨71, false⟩ (1 + 1, 3 >>> (1 + 1)) (absC mE2 2) = absC mE2 2 := by
    simp [cacheUp]
  refine addLoop_step_empty (n := 3) (k := 1) (node := ⟨0, false⟩) mE2_rep rfl (by decide)
    (forestRows_le (by decide)) (by decide) (by decide) rfl _ _ _
    { empty := ?_, cu_eq := ?_, inj := ?_, sto := ?_ }
  · intro q hq
    rw [sib_sigma (n := 3) (k := 1) (by decide)] at hq
    obtain ⟨r, o⟩ := q
    obtain ⟨⟨h1, h2⟩, h3⟩ := hq
    simp only [rootPos] at h1 h2 h3
    have hr : r = 0 := by omega
    subst hr
    simp at h2
    have : o = 0 ∨ o = 1 := by omega
    rcases this with rfl | rfl <;> decide
  · intro y
    rw [hcu, exC_eq]
    by_cases h : y = 30 <;> simp [h]
  · intro c v hsc hA t ht
    rw [hcu, exC_eq] at ht
    rcases under_11 hsc with rfl | rfl
    · have : absA mE2 2 (0, 2) = some ⟨30, true⟩ := by decide
      rw [this] at hA
      simp only [Option.some.injEq] at hA
      subst hA
      simpa using ht.symm
    · have : absA mE2 2 (0, 3) = some ⟨40, false⟩ := by decide
      rw [this] at hA
      simp only [Option.some.injEq] at hA
      subst hA
      simp at ht
  · intro x t ht hst
    rw [hcu, exC_eq] at ht
    split at ht
    · rename_i e
      simp only [Option.some.injEq] at ht
      subst ht e
      exact ⟨⟨30, true⟩, by decide, rfl⟩
    · cases ht

example : liftA (1, 3 >>> 1) (upd (upd (absA mE2 2) (rootPos 3 1) none) (1, 3 >>> 1) none) (1, 0) = some ⟨30, true⟩ ∧
    liftA (1, 3 >>> 1) (upd (upd (absA mE2 2) (rootPos 3 1) none) (1, 3 >>> 1) none) (1, 1) = some ⟨40, false⟩ ∧
    liftA (1, 3 >>> 1) (upd (upd (absA mE2 2) (rootPos 3 1) none) (1, 3 >>> 1) none) (0, 2) = none := by
  refine ⟨by decide, by decide, by decide⟩

/-- the state before the addition of leaf 40 -/
def mE0 : MapPollard Nat :=
  { nodes := [(encP 2 (1, 0), ⟨0, false⟩), (encP 2 (0, 2), ⟨30, true⟩)],
    cached := [(30, encP 2 (0, 2))], numLeaves := 3#64, totalRows := H8 2, full := false }

theorem mE0_rep : Rep mE0 2 (absA mE0 2) (absC mE0 2) :=
  rep_abs_of_decode (by decide) rfl (by decide) (by decide)

example : ∃ m1, MapPollard.addSingle (⟨40, false⟩ : Leaf Nat) mE0 =
      MapPollard.addLoop ⟨40, false⟩ (H8 2) 65 0#8 (encP 2 (0, 3)) ⟨40, false⟩ m1 ∧
    Rep m1 2 (upd (absA mE0 2) (0, 3) (some ⟨40, false⟩))
      (if (⟨40, false⟩ : Leaf Nat).remember = true then upd (absC mE0 2) (⟨40, false⟩ : Leaf Nat).hash (some (0, 3))
       else absC mE0 2) ∧
    m1.numLeaves = mE0.numLeaves ∧ m1.full = mE0.full :=
  addSingle_start (n := 3) mE0_rep rfl (by decide) (forestRows_le (by decide)) rfl

/-- the whole `addSingle` on that state, evaluated: the subtree under `(1,1)` moves up to keys 4 and 5 -/
example : (MapPollard.addSingle (⟨40, false⟩ : Leaf Nat) mE0).1.nodes =
      [(6#64, ⟨71, false⟩), (5#64, ⟨40, false⟩), (4#64, ⟨30, true⟩)] ∧
    (MapPollard.addSingle (⟨40, false⟩ : Leaf Nat) mE0).1.cached = [(30, 4#64)] ∧
    (match (MapPollard.addSingle (⟨40, false⟩ : Leaf Nat) mE0).2 with | .ok _ => true | .error _ => false) = true := by
  decide +kernel

theorem forestRows_5 : 2 < forestRows 5 := by
  have : ¬ forestRows 5 ≤ 2 := by
    intro h
    have a := forestRows_spec_le 5
    have b : 2 ^ forestRows 5 ≤ 2 ^ 2 := two_pow_le_of_le h
    omega
  omega

/-- `addSingle_start_grow` at `n = 4`, `T = 2` (the full 4-leaf forest of `MapRemap.mEx` grows to 3 rows) -/
example : ∃ m1, MapPollard.addSingle (⟨40, true⟩ : Leaf Nat) MapRemap.mEx =
      MapPollard.addLoop ⟨40, true⟩ (H8 (2 + 1)) 65 0#8 (encP (2 + 1) (0, 4)) ⟨40, true⟩ m1 ∧
    Rep m1 (2 + 1) (upd (absA MapRemap.mEx 2) (0, 4) (some ⟨40, true⟩))
      (if (⟨40, true⟩ : Leaf Nat).remember = true then upd (absC MapRemap.mEx 2) (⟨40, true⟩ : Leaf Nat).hash (some (0, 4))
       else absC MapRemap.mEx 2) ∧
    m1.numLeaves = MapRemap.mEx.numLeaves ∧ m1.full = MapRemap.mEx.full :=
  addSingle_start_grow (n := 4) MapRemap.mEx_rep rfl (by decide) (forestRows_le (by decide))
    forestRows_5 rfl

end Example

end UtreexoVerif.Proofs.MapAddRep

section Axioms
open UtreexoVerif.Proofs.MapAddRep
#print axioms addLoop_done
#print axioms addLoop_step_nonempty
#print axioms addLoop_step_empty
#print axioms addSingle_start
#print axioms addSingle_start_grow
end Axioms
