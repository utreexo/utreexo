/-
  Canonical proof positions under a deletion (property C07, level 3, specification part).
  `K`: leaves of `F` that survive the deletion of `D`; `tg`, `tg'` their positions in `F` and in
  `F' = F.delLeaves D`.  The canonical proof positions of `F'` are the moved canonical proof
  positions of `F` that keep a survivor (`proofPositions_del`), and the movement is injective on
  them (`movePos_inj_pp`).  `missing_on_del_path`: a proof position that only the remaining leaves
  need lies on the path of a cached leaf that goes.
-/
import UtreexoVerif.Proofs.PPContent

namespace UtreexoVerif.Proofs.MovePP
open Spec
open UtreexoVerif.Proofs.SpecSubs
open UtreexoVerif.Proofs.SpecPlan UtreexoVerif.Proofs.CalcComplete
open UtreexoVerif.Proofs.CalcGeo UtreexoVerif.Proofs.Movement UtreexoVerif.Proofs.CalcPlan
open UtreexoVerif.Proofs.PPContent

section
set_option linter.unusedSectionVars false
variable {H : Type} [DecidableEq H] [Hasher H]

theorem pos_eq_of_parent_parity {a b : Pos} (hp : parent a = parent b) (hm : a.2 % 2 = b.2 % 2) :
    a = b := by
  have h1 : a.1 + 1 = b.1 + 1 := congrArg Prod.fst hp
  have h2 : a.2 / 2 = b.2 / 2 := congrArg Prod.snd hp
  exact Prod.ext (Nat.succ.inj h1)
    (by rw [← Nat.div_add_mod a.2 2, ← Nat.div_add_mod b.2 2, h2, hm])

section del
variable {F : Forest H} {D K : List H} {tg tg' : List Pos} {hs hs' : List H}
  (hnd : F.liveLeaves.Nodup)
  (hc : F.canon K = some (tg, hs)) (hc' : (F.delLeaves D).canon K = some (tg', hs'))
  (hKD : ∀ x ∈ K, x ∉ D)
include hnd hc

theorem movePos_inj_pp {q1 q2 : Pos} (h1 : q1 ∈ F.proofPositions tg) (h2 : q2 ∈ F.proofPositions tg)
    {ha ha' : Nat} {t1 t2 : CTree H} (s1 : SubAtT F ha q1 t1) (s2 : SubAtT F ha' q2 t2)
    (a1 : delT D t1 ≠ none) (a2 : delT D t2 ≠ none) (he : movePos F D q1 = movePos F D q2) :
    q1 = q2 := by
  -- both subtrees are pruned to the same tree, so they share a surviving leaf
  cases hd1 : delT D t1 with
  | none => exact absurd hd1 a1
  | some t1' =>
    cases hd2 : delT D t2 with
    | none => exact absurd hd2 a2
    | some t2' =>
      have m1 := move_sub s1 hd1
      have m2 := move_sub s2 hd2
      rw [he] at m1
      obtain ⟨_, e⟩ := m1.unique m2
      subst e
      obtain ⟨l, hl⟩ := List.exists_mem_of_ne_nil _ (Spec.CTree.leaves_ne_nil t1')
      have hl1 := ((delT_leaves_iff D t1 t1' hd1 l).1 hl).1
      have hl2 := ((delT_leaves_iff D t2 t1' hd2 l).1 hl).1
      obtain ⟨ehh, hcmp⟩ := s1.nested hnd s2 hl1 hl2
      subst ehh
      -- a strict ancestor of a proof position contains the path node next to it
      have key : ∀ {qa qb : Pos} {ta tb : CTree H}, qa ∈ F.proofPositions tg →
          qb ∈ F.proofPositions tg → SubAtT F ha qa ta → SubAtT F ha qb tb →
          (qb, tb) ∈ subs ta qa.1 qa.2 → qa = qb := by
        intro qa qb ta tb hqa hqb sa sb hm
        apply Classical.byContradiction
        intro hneq
        rw [proofPositions_eq] at hqa hqb
        simp only [List.mem_map, List.mem_filter, needsProof, Bool.and_eq_true, Bool.not_eq_true',
          decide_eq_false_iff_not] at hqa hqb
        obtain ⟨ca, ⟨_, _, hsa⟩, rfl⟩ := hqa
        obtain ⟨cb, ⟨hcbP, hcbr, _⟩, rfl⟩ := hqb
        apply hsa
        -- `sib cb` lies strictly inside `ta`; so does `cb`
        obtain ⟨t0, ht0, hdep, hma⟩ := sa.tree
        have hdta := subs_depth t0 _ _ hdep _ hma
        simp only at hdta
        rcases subs_parent ta _ _ hdta _ hm with e | ⟨_, s', _, hsib⟩
        · exact absurd (congrArg Prod.fst e).symm hneq
        · simp only [sib_sib] at hsib
          have scb := sa.sub hsib
          obtain ⟨hb, tcb, scb', l', hl', hlt'⟩ := (pathSet_iff_leaf hc hnd cb).1 hcbP
          obtain ⟨_, e⟩ := scb.unique scb'
          subst e
          exact (pathSet_iff_leaf hc hnd _).2 ⟨ha, ta, sa, l', hl',
            subs_leaves ta _ _ _ hsib l' hlt'⟩
      rcases hcmp with hm | hm
      · exact key h1 h2 s1 s2 hm
      · exact (key h2 h1 s2 s1 hm).symm

include hc' hKD

theorem proofPositions_del (q' : Pos) :
    q' ∈ (F.delLeaves D).proofPositions tg' ↔
      ∃ q ∈ F.proofPositions tg, (∃ h t, SubAtT F h q t ∧ delT D t ≠ none) ∧
        q' = movePos F D q := by
  have hnd' := LiveLeaves.liveLeaves_delLeaves_nodup hnd D
  obtain ⟨tr1, tr2⟩ := (nodeMap_del F D).ppChild (K := K) (K' := K) (fun _ h => hasK_del hKD h)
  rw [mem_pp_iff hc' hnd']
  constructor
  · rintro ⟨h', s', sq', h2, p', a', b', sp', hcase⟩
    obtain ⟨s, hs, hR⟩ := tr2 ⟨h2, p', a', b', sp', trivial, hcase⟩
    obtain ⟨h, p, a, b, sp, hcase0⟩ := id hs
    obtain ⟨_, ca, cb⟩ := sp.children
    have key : ∀ {x : Pos}, SubAtT F h x s → q' = movePos F D x := fun sx =>
      (sq'.pos_unique hnd' (move_sub sx hR)).2
    rcases hcase0 with ⟨rfl, _, _⟩ | ⟨rfl, _, _⟩
    · exact ⟨_, (mem_pp_iff hc hnd _).2 ⟨h, _, ca, hs⟩, ⟨h, _, ca, by rw [hR]; simp⟩, key ca⟩
    · exact ⟨_, (mem_pp_iff hc hnd _).2 ⟨h, _, cb, hs⟩, ⟨h, _, cb, by rw [hR]; simp⟩, key cb⟩
  · rintro ⟨q, hq, ⟨h, t, sq, hal⟩, rfl⟩
    obtain ⟨h0, s, sq0, hs⟩ := (mem_pp_iff hc hnd q).1 hq
    obtain ⟨e1, e2⟩ := sq.unique sq0
    subst e1 e2
    cases hdel : delT D t with
    | none => exact absurd hdel hal
    | some t' =>
      refine ⟨h, t', move_sub sq hdel, tr1 hs hdel ?_⟩
      rintro x ⟨l, hl, hlx⟩
      cases hx : delT D x with
      | none => exact absurd ((delT_eq_none_iff D x).1 hx l hlx) (hKD l hl)
      | some x' => exact ⟨x', rfl⟩

end del

theorem missing_on_del_path {F : Forest H} (hnd : F.liveLeaves.Nodup) {C K : List H}
    {tgC tgK : List Pos} {hsC hsK : List H}
    (hcC : F.canon C = some (tgC, hsC)) (hcK : F.canon K = some (tgK, hsK))
    (hsub : ∀ x ∈ K, x ∈ C) {q : Pos} (hq : q ∈ F.proofPositions tgK)
    (hnq : q ∉ F.proofPositions tgC) :
    ∃ h t, SubAtT F h q t ∧ ∃ l ∈ C, l ∉ K ∧ l ∈ t.leaves := by
  obtain ⟨h, s, sq, hpp⟩ := (mem_pp_iff hcK hnd q).1 hq
  refine ⟨h, s, sq, ?_⟩
  -- its sibling holds a leaf of `K ⊆ C`; it is no proof position for `C`, so it holds one of `C` itself
  obtain ⟨h', p, a, b, sp, hcase⟩ := id hpp
  have hup : ∀ {t : CTree H}, HasK K t → HasK C t := fun ⟨l, hl, hlt⟩ => ⟨l, hsub l hl, hlt⟩
  have hC : HasK C s := by
    apply Classical.byContradiction
    intro hn
    apply hnq
    refine (mem_pp_iff hcC hnd q).2 ⟨h, s, sq, h', p, a, b, sp, ?_⟩
    rcases hcase with ⟨e, hk, _⟩ | ⟨e, hk, _⟩
    · exact Or.inl ⟨e, hup hk, e ▸ hn⟩
    · exact Or.inr ⟨e, hup hk, e ▸ hn⟩
  obtain ⟨l, hl, hlt⟩ := hC
  refine ⟨l, hl, fun hK => ?_, hlt⟩
  rcases hcase with ⟨e, _, hno⟩ | ⟨e, _, hno⟩ <;> exact hno ⟨l, hK, e ▸ hlt⟩

end
end UtreexoVerif.Proofs.MovePP
