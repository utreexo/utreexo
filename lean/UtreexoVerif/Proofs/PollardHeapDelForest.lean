/-
  Pointer forest, heap model: `deleteSingle` / `deleteRoot` at forest level.

  * `deleteSingle_mid`: one represented root among others, `NodeMap` clause included;
  * `deleteSingle_absD`: `AbsD p F D`, the position of a non-root node of `F` whose sub-tree `a`
    is to die (`a.leaves ⊆ D`): `deleteSingle` succeeds and the heap represents
    `F.delLeaves a.leaves`;
  * `deleteRoot_absD`: the same for a root position (the tree becomes an empty root).
-/
import UtreexoVerif.Proofs.PollardHeapOpen
import UtreexoVerif.Proofs.PollardHeapDelSingle
import UtreexoVerif.Proofs.PollardHeapDelRoot

namespace UtreexoVerif.Proofs.PollardHeap
open UtreexoVerif.GoInt UtreexoVerif.Model UtreexoVerif.Model.PollardHeap UtreexoVerif.Spec Hasher
open UtreexoVerif.Model.PollardAbs UtreexoVerif.Proofs.SpecSubs
open UtreexoVerif.Proofs.SpecView

variable {H : Type} [DecidableEq H] [Hasher H]

/-- `lk` = the leaves of the tree, `Z` = the leaves of the other trees -/
theorem deleteSingle_mid {hp : Heap H} {nm : List (H × Nat)} {rs : List Nat} {nl ndl : U64}
    {full : Bool} {root : Nat} {t0 : CTree H} {fp : List Nat} {lk Z : List (H × Nat)}
    {D : List H}
    (hR : RootRepr hp root t0 fp lk) (nd : (root :: fp).Nodup)
    (π1 : List Bool) (d : Bool) (a : CTree H) (hpath : childPath t0 (π1 ++ [d]) = some a)
    (del : U64)
    (hget : ∀ A B, walkChild hp root root (π1 ++ [d]) = some (A, B) →
      ∃ par, getNode (sibling del) ⟨hp, nm, rs, nl, ndl, full⟩ =
        (.ok (some B, some A, par), ⟨hp, nm, rs, nl, ndl, full⟩))
    (hroot : isRootPosition (Parent del (TreeRows nl)) nl = decide (π1 = []))
    (hM : MapD nm (lk ++ Z) D) (hsep : NoPH (lk ++ Z)) (hD : ∀ x ∈ a.leaves, x ∈ D) :
    ∃ (hp' : Heap H) (nm' : List (H × Nat)) (t' : CTree H) (fp' : List Nat) (lk' : List (H × Nat)),
      deleteSingle del ⟨hp, nm, rs, nl, ndl, full⟩ = (.ok (), ⟨hp', nm', rs, nl, ndl, full⟩) ∧
      RootRepr hp' root t' fp' lk' ∧ SubM (root :: fp') (root :: fp) ∧
      (∀ j, j ∉ root :: fp → hp'[j]? = hp[j]?) ∧ Spec.prune a.leaves t0 = some t' ∧
      MapD nm' (lk' ++ Z) D := by
  have hleaves : t0.leaves.Nodup := by
    rw [← hR.2.leaves]
    have := hM.lkeys
    rw [List.map_append, List.nodup_append] at this
    exact this.1
  cases π1 with
  | nil =>
    -- the parent is the root
    simp only [List.nil_append] at hpath hget
    simp only [decide_true] at hroot
    cases t0 with
    | leaf x => simp [childPath, child] at hpath
    | node x y =>
      obtain ⟨hp', A, B, fa, fb, la, lb, subA, subB, pf, elk, hex, hR', hframe, hsz⟩ :=
        deleteSingle_tree_root d hR nd del hget hroot
      have ea : a = sel d x y := by
        cases d <;> simp [childPath, child] at hpath <;> exact hpath.symm
      subst ea
      have hprune : Spec.prune (sel d x y).leaves (CTree.node x y) = some (sel d y x) := by
        have := prune_plug (H := H) .top (sel d x y) (sel d y x) d (by cases d <;> exact hleaves)
        cases d <;> simpa [CCtx.plug] using this
      -- the leaves of the sibling first: it moves into the root, then those of `a` go
      have p1 : (lk ++ Z).Perm (lb ++ (la ++ Z)) := by
        rw [elk]; cases d
        · exact (List.append_assoc la lb Z) ▸ List.perm_append_comm_assoc la lb Z
        · exact (List.append_assoc lb la Z) ▸ List.Perm.refl _
      obtain ⟨hM1, hk1⟩ := (hM.perm p1).move subB (fun e he => hsep e (p1.mem_iff.2 he)) root
      have p2 := List.perm_append_comm_assoc (relabelTop (sel d y x) root lb) la Z
      have hM2 := (hM1.perm p2).del _ subA.leaves hD (NoPH.mono hsep fun e he => by
        have h1 := List.mem_map_of_mem (f := (·.1)) (p2.mem_iff.2 he)
        rw [hk1] at h1
        exact ((p1.map _).mem_iff).2 h1)
      have hsl : (root :: fb).Sublist (root :: A :: B :: (fa ++ fb)) :=
        .cons_cons root (.cons A (.cons B (List.sublist_append_right fa fb)))
      exact ⟨hp', _, _, fb, _, hex, hR', (SubM.of_sublist hsl).trans (.of_perm (pf.cons root)),
        hframe, hprune, hM2⟩
  | cons d0 π0 =>
    have hroot' : isRootPosition (Parent del (TreeRows nl)) nl = false := by rw [hroot]; simp
    obtain ⟨hp', ctx, b, fp', pre, la, post, et, _, elk, ela, hex, hR', ndr, hsub, hframe, hsz⟩ :=
      deleteSingle_tree_aunt (d0 :: π0) d a hR nd (by simp) hpath del hget hroot'
    have p1 : (lk ++ Z).Perm (la ++ (pre ++ post ++ Z)) := by
      rw [elk]; simp only [List.append_assoc]
      exact List.perm_append_comm_assoc pre la _
    exact ⟨hp', mapDel nm a.hash, ctx.plug b, fp', pre ++ post, hex, hR',
      .of_nodup ndr (fun i hi => (List.mem_cons.1 hi).elim (fun e => e ▸ List.mem_cons_self)
        (fun h => List.mem_cons_of_mem _ (hsub i h))), hframe,
      by rw [et]; exact prune_plug ctx a b d (et ▸ hleaves),
      (hM.perm p1).del a ela hD (fun e he => hsep e (p1.mem_iff.2 he))⟩

/-- open `AbsD` at the tree on row `R` whose leaves `X` are about to die: the root of that tree with
its footprint, the leaves `L` of the other trees, and the way back — any root representing the pruned
tree inside the old footprint, in a heap that left everything else alone, with the `NodeMap` clauses
re-established, gives `AbsD` for `F.delLeaves X` -/
theorem AbsD.openAt {hp : Heap H} {nm : List (H × Nat)} {rs : List Nat} {nl ndl : U64} {full : Bool}
    {F : Forest H} {D : List H} (hA : AbsD ⟨hp, nm, rs, nl, ndl, full⟩ F D) (hn : F.numLeaves < 2 ^ 63)
    {R : Nat} (hR : R ∈ treeRows F.numLeaves) {t0 : CTree H} (ht0 : PollardLookup.treeOf F R = some t0)
    (X : List H) (hX : ∀ x ∈ X, x ∈ t0.leaves) :
    ∃ (root : Nat) (fp : List Nat) (lk L : List (H × Nat)),
      rs[(treeRows F.numLeaves).idxOf R]? = some root ∧ RootRepr hp root t0 fp lk ∧
      (root :: fp).Nodup ∧ rs.length ≤ 65 ∧ MapD nm (lk ++ L) D ∧
      (∀ e ∈ lk ++ L, e.1 ∈ F.liveLeaves) ∧
      ∀ (hp' : Heap H) (nm' : List (H × Nat)) (fp' : List Nat) (lk' : List (H × Nat)),
        ReprRoot hp' root (pruneO X (some t0)) fp' lk' → SubM (root :: fp') (root :: fp) →
        (∀ j, j ∉ root :: fp → hp'[j]? = hp[j]?) → MapD nm' (lk' ++ L) D →
        AbsD ⟨hp', nm', rs, nl, ndl, full⟩ (F.delLeaves X) D := by
  have hnl := hA.numLeaves
  obtain ⟨owned, lv, hroots, hnd, hM⟩ := hA.mapD
  simp only at hnl hroots hM
  have hn64 : F.numLeaves < 2 ^ 64 := Nat.lt_trans hn (by decide)
  have hlive : lv.map (·.1) = F.liveLeaves := hroots.liveLeaves hn64
  obtain ⟨hidx, hset, _, _⟩ := trees_delLeaves_set hn64 (by rw [← hlive]; exact hM.lkeys) hR ht0 X hX
  obtain ⟨root, fp, O, lk, L, hrootget, hrr, pO, pL, close⟩ := hroots.openAt hidx
  have ndO : ((root :: fp) ++ O).Nodup := (pO.nodup_iff).1 hnd
  refine ⟨root, fp, lk, L, hrootget, hrr, (List.nodup_append.1 ndO).1, ?_, hM.perm pL,
    fun e he => by rw [← hlive]; exact List.mem_map_of_mem (pL.mem_iff.2 he), ?_⟩
  · rw [hroots.length_eq]
    simp only [List.length_map, Forest.trees]
    exact treeRows_length_le _
  intro hp' nm' fp' lk' hr' hsub hframe hM'
  obtain ⟨owned', lv', hroots', pO', pL'⟩ := close hp' root _ fp' lk' hr'
    (fun i hi => hframe i (fun hm => (List.nodup_append.1 ndO).2.2 i hm i hi rfl))
  rw [← hset, set_getElem?_self hrootget] at hroots'
  have hM'' := hM'.perm pL'.symm
  refine ⟨by simpa [numLeaves_delLeaves] using hnl, owned', lv', hroots', ?_, hM''.keys, hM''.lkeys, hM''.mem⟩
  simpa using nodup_reopen (P := []) (P' := []) pO pO' (by simpa using hsub) (by simpa using hnd)

theorem isRootPosition_parent_enc {h r o n : Nat} {nl : U64} (hT : TreeRows nl = H8 h) (hnl : nl.toNat = n)
    (hh : h ≤ 63) (hr : r < h) (ho : o < 2 ^ (h - r)) :
    isRootPosition (Parent (encU h r o) (TreeRows nl)) nl = isRootPos n (r + 1, o / 2) := by
  have ho2 : o / 2 < 2 ^ (h - (r + 1)) := by
    apply Nat.div_lt_of_lt_mul
    rw [← Nat.pow_succ', show (h - (r + 1)).succ = h - r by omega]
    exact ho
  rw [hT, Props.C16.parent_enc hh hr ho, Props.C16.isRootPosition_enc nl hT hh (by omega) ho2, hnl]

theorem deleteSingle_absD {p : Pollard H} {F : Forest H} {D : List H} (hA : AbsD p F D)
    (hn : F.numLeaves < 2 ^ 63) {R : Nat} {q : Pos} {a : CTree H} (hs : SubAtT F R q a)
    (hnr : isRootPos F.numLeaves q = false) (hD : ∀ x ∈ a.leaves, x ∈ D)
    (hsep : ∀ x ∈ F.liveLeaves, ∀ u v : H, x ≠ ph u v) :
    ∃ hp' nm', deleteSingle (encU F.rows q.1 q.2) p = (.ok (), { p with heap := hp', nodeMap := nm' }) ∧
      AbsD { p with heap := hp', nodeMap := nm' } (F.delLeaves a.leaves) D := by
  obtain ⟨hp, nm, rs, nl, ndl, full⟩ := p
  have hnl := hA.numLeaves
  simp only at hnl
  obtain ⟨r, o⟩ := q
  obtain ⟨t0, k, ht0, hR, hk, hw, hleaves, hroot_off, hrr, hoo, hRrows, htr, hrootiff⟩ := hs.locate hnr hn
  have hlt : r < R := Nat.lt_of_sub_pos (by rw [hk]; exact Nat.succ_pos k)
  rw [pathBits_succ_last] at hw
  obtain ⟨root, fp, lk, L, hrootget, hRootRepr, ndroot, hLen65, hM, hlive, close⟩ :=
    hA.openAt hn hR ht0 a.leaves hleaves
  have hT : TreeRows nl = H8 F.rows := treeRows_eq_H8 hnl hn
  have hsep' : NoPH (lk ++ L) := fun e he => hsep _ (hlive e he)
  have hget : ∀ A B, walkChild hp root root (pathBits k (o / 2) ++ [o.testBit 0]) = some (A, B) →
      ∃ par, getNode (sibling (encU F.rows r o)) ⟨hp, nm, rs, nl, ndl, full⟩ =
        (.ok (some B, some A, par), ⟨hp, nm, rs, nl, ndl, full⟩) := by
    intro A B hwAB
    rw [Props.C16.sibling_enc htr hrr hoo]
    apply getNode_pos (p := ⟨hp, nm, rs, nl, ndl, full⟩) hnl hn hR (Nat.le_of_lt hlt)
      (by rw [xor_one_div_pow _ _ (show 1 ≤ R - r from Nat.sub_pos_of_lt hlt)]; exact hroot_off) hrootget
      (Nat.le_trans hLen65 (by decide))
    rw [xor_one_xor_one, hk, pathBits_succ_last]
    exact hwAB
  have hrootpos : isRootPosition (Parent (encU F.rows r o) (TreeRows nl)) nl =
      decide (pathBits k (o / 2) = []) := by
    rw [isRootPosition_parent_enc hT hnl htr (Nat.lt_of_lt_of_le hlt hRrows) hoo]
    have hlen : (pathBits k (o / 2) = []) ↔ k = 0 := by
      rw [← List.length_eq_zero_iff, PollardCalcPos.pathBits_length]
    rw [show isRootPos F.numLeaves (r + 1, o / 2) = decide (k = 0) from by
      rw [Bool.eq_iff_iff, hrootiff]; simp]
    simp [hlen]
  obtain ⟨hp', nm', t', fp', lk', hex, hR', hsub, hframe, hprune, hM'⟩ :=
    deleteSingle_mid (Z := L) (D := D) hRootRepr ndroot (pathBits k (o / 2)) (o.testBit 0) a hw
      (encU F.rows r o) hget hrootpos hM hsep' hD
  exact ⟨hp', nm', hex, close hp' nm' fp' lk'
    (show ReprRoot hp' root (pruneO a.leaves (some t0)) fp' lk' by
      simp only [pruneO, Option.bind_some, hprune]; exact hR')
    hsub hframe hM'⟩

/-- the index of a tree as `deleteRoot` uses it: it fits a `uint8` and passes the test
`tree > uint8(len(p.Roots) - 1)` -/
theorem u8_index_ok {idx len : Nat} (h1 : idx < len) (h2 : len ≤ 65) :
    (BitVec.ofNat 8 idx).toNat = idx ∧ ¬ BitVec.ofNat 8 idx > ofInt 8 ((len : Int) - 1) := by
  have e : ((len : Int) - 1) = ((len - 1 : Nat) : Int) := by omega
  rw [e]
  unfold ofInt
  rw [BitVec.ofInt_natCast, gt_iff_lt, BitVec.lt_def, BitVec.toNat_ofNat, BitVec.toNat_ofNat,
    Nat.mod_eq_of_lt (show len - 1 < 2 ^ 8 by omega), Nat.mod_eq_of_lt (show idx < 2 ^ 8 by omega)]
  exact ⟨rfl, by omega⟩

theorem deleteRoot_absD {p : Pollard H} {F : Forest H} {D : List H} (hA : AbsD p F D)
    (hn : F.numLeaves < 2 ^ 63) {R : Nat} {t0 : CTree H}
    (hs : SubAtT F R (rootPos F.numLeaves R) t0) (hD : ∀ x ∈ t0.leaves, x ∈ D)
    (hsep : ∀ x ∈ F.liveLeaves, ∀ u v : H, x ≠ ph u v) :
    ∃ hp' nm', deleteRoot (encU F.rows R (rootPos F.numLeaves R).2) p =
        (.ok (), { p with heap := hp', nodeMap := nm' }) ∧
      AbsD { p with heap := hp', nodeMap := nm' } (F.delLeaves t0.leaves) D := by
  obtain ⟨hp, nm, rs, nl, ndl, full⟩ := p
  have hnl := hA.numLeaves
  simp only at hnl
  have hR := hs.1
  have hb := hs.bit
  obtain ⟨-, ht1⟩ := hs.at_root (hs.root_iff.2 rfl)
  have htr : F.rows ≤ 63 := forestRows_le_63 hn
  obtain ⟨⟨-, hoo⟩, hT, -⟩ := hs.enc hn hnl
  have hdo := Props.C16.detectOffset_enc (R := R) nl hT htr (Nat.le_refl R) hoo (by rw [hnl]; exact hb)
    (by rw [hnl]; simp [rootPos])
  rw [hnl] at hdo
  obtain ⟨root, fp, lk, L, hrootget0, hRootRepr, ndroot, hLen, hM, hlive, close⟩ :=
    hA.openAt hn hR ht1 t0.leaves (fun x hx => hx)
  have hidxlt : (treeRows F.numLeaves).idxOf R < rs.length := (List.getElem?_eq_some_iff.1 hrootget0).1
  obtain ⟨hidxN, hle⟩ := u8_index_ok hidxlt hLen
  have hrootget : rs[(BitVec.ofNat 8 ((treeRows F.numLeaves).idxOf R)).toNat]? = some root := by
    rw [hidxN]; exact hrootget0
  obtain ⟨hp', hex, hempty, hframe, hsz⟩ := deleteRoot_tree (nm := nm) (rs := rs) (nl := nl) (ndl := ndl)
    (full := full) hRootRepr ndroot (encU F.rows R (rootPos F.numLeaves R).2) _ _ _ hdo hle hrootget
  refine ⟨hp', mapDel nm t0.hash, hex, close hp' _ [] []
    (by rw [show pruneO t0.leaves (some t0) = none from (prune_eq_none_iff _ t0).2 (fun x hx => hx)]
        exact ⟨hempty, rfl, rfl⟩)
    (.of_sublist (List.singleton_sublist.2 List.mem_cons_self)) hframe
    (hM.del t0 hRootRepr.2.leaves hD (fun e he => hsep _ (hlive e he)))⟩

end UtreexoVerif.Proofs.PollardHeap
