/-
  Final positions of nodes in a collapsed forest, at the level of (row, offset) pairs
  (`Spec.Pos`), independent of the bit encoding:

  * `fpos`: top-down — the position of the collapsed root of an aligned chunk of slots,
    obtained by walking down from the root of its tree and skipping the levels whose sibling
    chunk has no survivors;
  * `liftFold`: bottom-up — what `Stump.add` computes: start at the leaf's slot and, for
    every dead sibling on the way up, remove one path bit and move up one row
    (`calcNextPosition`);
  * `fpos_eq_liftFold`: both agree.
-/
import UtreexoVerif.Spec.Forest
import UtreexoVerif.Proofs.SortedLists
import UtreexoVerif.Proofs.CTreeSubs

namespace UtreexoVerif.Proofs.FinalPos
open Spec

/-- remove binary digit `b` of `v` (the digits above move down) -/
def removeBitNat (v b : Nat) : Nat := 2 ^ b * (v / 2 ^ (b + 1)) + v % 2 ^ b

theorem removeBitNat_zero (v : Nat) : removeBitNat v 0 = v / 2 := by
  simp [removeBitNat, Nat.mod_one]

theorem removeBitNat_succ (o q β : Nat) (hβ : β < 2) :
    removeBitNat (2 * o + β) (q + 1) = 2 * removeBitNat o q + β := by
  unfold removeBitNat
  have e1 : (2 * o + β) / 2 ^ (q + 1 + 1) = o / 2 ^ (q + 1) := by
    have hp : 2 ^ (q + 1 + 1) = 2 * 2 ^ (q + 1) := two_pow_succ' _
    rw [hp, ← Nat.div_div_eq_div_mul]
    congr 1; omega
  have e2 : (2 * o + β) % 2 ^ (q + 1) = 2 * (o % 2 ^ q) + β := by
    have hp : 2 ^ (q + 1) = 2 * 2 ^ q := two_pow_succ' _
    have hpos := Nat.two_pow_pos q
    have hd := Nat.div_add_mod o (2 ^ q)
    have hm := Nat.mod_lt o hpos
    have : 2 * o + β = 2 ^ (q + 1) * (o / 2 ^ q) + (2 * (o % 2 ^ q) + β) := by
      rw [hp, Nat.mul_assoc]; omega
    rw [this, Nat.mul_add_mod]
    exact Nat.mod_eq_of_lt (by omega)
  rw [e1, e2]
  have hp : 2 ^ (q + 1) = 2 * 2 ^ q := two_pow_succ' _
  rw [hp, Nat.mul_assoc]
  omega

theorem testBit_removeBitNat (v b j : Nat) :
    (removeBitNat v b).testBit j = if j < b then v.testBit j else v.testBit (j + 1) := by
  unfold removeBitNat
  rw [Nat.testBit_two_pow_mul_add _ (Nat.mod_lt _ (Nat.two_pow_pos _)), Nat.testBit_mod_two_pow,
    Nat.testBit_div_two_pow]
  split
  · simp [*]
  · rw [show j - b + (b + 1) = j + 1 by omega]

theorem removeBitNat_lt {v b k : Nat} (hb : b ≤ k) (hv : v < 2 ^ (k + 1)) :
    removeBitNat v b < 2 ^ k := by
  apply Nat.lt_pow_two_of_testBit
  intro i hi
  rw [testBit_removeBitNat, if_neg (by omega)]
  exact Nat.testBit_lt_two_pow (Nat.lt_of_lt_of_le hv (two_pow_le_of_le (by omega)))

theorem removeBitNat_row_lt {h r o d : Nat} (hd : r + d < h) (ho : o < 2 ^ (h - r)) :
    removeBitNat o d < 2 ^ (h - (r + 1)) :=
  removeBitNat_lt (by omega) (by rw [show h - (r + 1) + 1 = h - r by omega]; exact ho)

/-- one `calcNextPosition` step for a dead sibling on level `h`; `l` is the level of the chunk
whose index is being lifted (`p.2` is an index on level `l + p.1`) -/
def liftStep (l : Nat) (p : Pos) (h : Nat) : Pos := (p.1 + 1, removeBitNat p.2 (h - l - p.1))

def liftFold (l : Nat) (p : Pos) (hs : List Nat) : Pos := hs.foldl (liftStep l) p

def AscFrom : Nat → List Nat → Prop
  | _, [] => True
  | b, h :: t => b ≤ h ∧ AscFrom (h + 1) t

theorem AscFrom.mono {b b' : Nat} {hs : List Nat} (h : AscFrom b hs) (hb : b' ≤ b) : AscFrom b' hs := by
  cases hs with
  | nil => trivial
  | cons x t => exact ⟨Nat.le_trans hb h.1, h.2⟩

theorem AscFrom.ge {b : Nat} {l : List Nat} (h : AscFrom b l) : ∀ x ∈ l, b ≤ x := by
  induction l generalizing b with
  | nil => intro x hx; cases hx
  | cons y t ih =>
    intro x hx
    rcases List.mem_cons.mp hx with rfl | hx
    · exact h.1
    · have := ih h.2 x hx
      have := h.1
      omega

theorem AscFrom.of_ge {b : Nat} {l : List Nat} (h : AscFrom 0 l) (hb : ∀ x ∈ l, b ≤ x) : AscFrom b l := by
  cases l with
  | nil => trivial
  | cons y t => exact ⟨hb y List.mem_cons_self, h.2⟩

theorem AscFrom.append {a b : Nat} {l1 l2 : List Nat} (h1 : AscFrom a l1) (hlt : ∀ x ∈ l1, x < b)
    (h2 : AscFrom b l2) (hab : a ≤ b) : AscFrom a (l1 ++ l2) := by
  induction l1 generalizing a with
  | nil => exact h2.mono hab
  | cons y t ih =>
    refine ⟨h1.1, ih h1.2 (fun x hx => hlt x (List.mem_cons_of_mem _ hx)) ?_⟩
    have := hlt y List.mem_cons_self
    omega

theorem AscFrom.pairwise {a : Nat} {l : List Nat} (h : AscFrom a l) : l.Pairwise (· < ·) := by
  induction l generalizing a with
  | nil => exact List.Pairwise.nil
  | cons x t ih => exact List.pairwise_cons.2 ⟨fun y hy => h.2.ge y hy, ih h.2⟩

theorem AscFrom.ext {l1 l2 : List Nat} {a a' : Nat} (h1 : AscFrom a l1) (h2 : AscFrom a' l2)
    (hm : ∀ h, h ∈ l1 ↔ h ∈ l2) : l1 = l2 :=
  Sorted.eq_of_sorted_of_mem_iff Nat.lt_irrefl (fun _ _ _ => Nat.lt_trans) l1 l2 h1.pairwise
    h2.pairwise hm

/-- lifting commutes with appending a low path digit (all lifted levels are above it) -/
theorem liftFold_low (l : Nat) (β : Nat) (hβ : β < 2) : ∀ (hs : List Nat) (r o : Nat),
    AscFrom (l + 1 + r) hs →
    liftFold l (r, 2 * o + β) hs =
      ((liftFold (l + 1) (r, o) hs).1, 2 * (liftFold (l + 1) (r, o) hs).2 + β) := by
  intro hs
  induction hs with
  | nil => intro r o _; rfl
  | cons h t ih =>
    intro r o hasc
    obtain ⟨h1, h2⟩ := hasc
    simp only [liftFold, List.foldl_cons, liftStep]
    have e : h - l - r = (h - (l + 1) - r) + 1 := by omega
    rw [e, removeBitNat_succ _ _ _ hβ]
    exact ih (r + 1) _ (h2.mono (by omega))

theorem liftFold_shift (l : Nat) : ∀ (hs : List Nat) (r o : Nat),
    liftFold l (r + 1, o) hs =
      ((liftFold (l + 1) (r, o) hs).1 + 1, (liftFold (l + 1) (r, o) hs).2) := by
  intro hs
  induction hs with
  | nil => intro r o; rfl
  | cons h t ih =>
    intro r o
    simp only [liftFold, List.foldl_cons, liftStep]
    have e : h - l - (r + 1) = h - (l + 1) - r := by omega
    rw [e]
    exact ih (r + 1) _

def sibIdx (b : Nat) : Nat := if b % 2 = 0 then b + 1 else b - 1

/-- position of the collapsed root of chunk `(l, b)`, `k` levels below the chunk whose
collapsed root sits at `top`; `al l b` tells whether chunk `(l, b)` has survivors -/
def fpos (al : Nat → Nat → Bool) (top : Pos) : Nat → Nat → Nat → Pos
  | 0, _, _ => top
  | k+1, l, b =>
    let p := fpos al top k (l + 1) (b / 2)
    if al l (sibIdx b) then (p.1 - 1, 2 * p.2 + b % 2) else p

/-- the levels `l ≤ j < l + k` at which the sibling of the ancestor of chunk `(l, b)` is dead -/
def deadLevels (al : Nat → Nat → Bool) : Nat → Nat → Nat → List Nat
  | 0, _, _ => []
  | k+1, l, b => (if al l (sibIdx b) then [] else [l]) ++ deadLevels al k (l + 1) (b / 2)

theorem deadLevels_asc (al : Nat → Nat → Bool) : ∀ k l b, AscFrom l (deadLevels al k l b) := by
  intro k
  induction k with
  | zero => intro l b; trivial
  | succ k ih =>
    intro l b
    simp only [deadLevels]
    split
    · exact (ih (l + 1) (b / 2)).mono (by omega)
    · exact ⟨Nat.le_refl _, ih (l + 1) (b / 2)⟩

theorem mem_deadLevels (al : Nat → Nat → Bool) : ∀ k l b h,
    h ∈ deadLevels al k l b ↔ l ≤ h ∧ h < l + k ∧ al h (sibIdx (b / 2 ^ (h - l))) = false := by
  intro k
  induction k with
  | zero => intro l b h; simp [deadLevels]; omega
  | succ k ih =>
    intro l b h
    simp only [deadLevels, List.mem_append, ih]
    by_cases hl : h = l
    · subst hl
      simp only [Nat.sub_self, Nat.pow_zero, Nat.div_one]
      constructor
      · rintro (h1 | h1)
        · split at h1
          · simp at h1
          · rename_i hal
            exact ⟨Nat.le_refl _, by omega, by simpa using hal⟩
        · omega
      · rintro ⟨_, _, h3⟩
        left; simp [h3]
    · constructor
      · rintro (h1 | ⟨h1, h2, h3⟩)
        · split at h1
          · simp at h1
          · simp at h1; exact absurd h1 hl
        · refine ⟨by omega, by omega, ?_⟩
          have e : b / 2 ^ (h - l) = b / 2 / 2 ^ (h - (l + 1)) := by
            rw [Nat.div_div_eq_div_mul, ← Nat.pow_succ']
            congr 2; omega
          rw [e]; exact h3
      · rintro ⟨h1, h2, h3⟩
        right
        refine ⟨by omega, by omega, ?_⟩
        have e : b / 2 ^ (h - l) = b / 2 / 2 ^ (h - (l + 1)) := by
          rw [Nat.div_div_eq_div_mul, ← Nat.pow_succ']
          congr 2; omega
        rw [← e]; exact h3

theorem fpos_eq_liftFold (al : Nat → Nat → Bool) : ∀ k l b,
    fpos al (l + k, b / 2 ^ k) k l b =
      (l + (liftFold l (0, b) (deadLevels al k l b)).1, (liftFold l (0, b) (deadLevels al k l b)).2) := by
  intro k
  induction k with
  | zero => intro l b; simp [fpos, deadLevels, liftFold]
  | succ k ih =>
    intro l b
    have htop : (l + (k + 1), b / 2 ^ (k + 1)) = (l + 1 + k, b / 2 / 2 ^ k) := by
      rw [Nat.div_div_eq_div_mul, ← Nat.pow_succ']
      congr 1; omega
    simp only [fpos, deadLevels]
    rw [htop, ih (l + 1) (b / 2)]
    have hb : b = 2 * (b / 2) + b % 2 := by omega
    split
    · -- sibling alive: descend
      simp only [List.nil_append]
      have := liftFold_low l (b % 2) (Nat.mod_lt _ (by decide)) (deadLevels al k (l + 1) (b / 2)) 0 (b / 2)
        ((deadLevels_asc al k (l + 1) (b / 2)).mono (by omega))
      rw [← hb] at this
      rw [this]
      simp only
      congr 1
      omega
    · -- sibling dead: stay
      simp only [List.singleton_append]
      have h0 : liftFold l (0, b) (l :: deadLevels al k (l + 1) (b / 2)) =
          liftFold l (0 + 1, b / 2) (deadLevels al k (l + 1) (b / 2)) := by
        simp only [liftFold, List.foldl_cons, liftStep, Nat.sub_self, removeBitNat_zero]
      rw [h0, liftFold_shift]
      simp only
      congr 1
      omega

theorem fpos_succ_alive {al : Nat → Nat → Bool} {top : Pos} {k l b : Nat}
    (h : al l (sibIdx b) = true) :
    fpos al top (k + 1) l b =
      ((fpos al top k (l + 1) (b / 2)).1 - 1, 2 * (fpos al top k (l + 1) (b / 2)).2 + b % 2) := by
  simp [fpos, h]

theorem fpos_succ_dead {al : Nat → Nat → Bool} {top : Pos} {k l b : Nat}
    (h : al l (sibIdx b) = false) :
    fpos al top (k + 1) l b = fpos al top k (l + 1) (b / 2) := by
  simp [fpos, h]

theorem fpos_under (al : Nat → Nat → Bool) (top : Pos) : ∀ k l b, top.1 = l + k →
    SpecNodes.Under top.1 top.2 (fpos al top k l b) ∧ l ≤ (fpos al top k l b).1 := by
  intro k
  induction k with
  | zero => intro l b ht; exact ⟨SpecNodes.Under.self _ _, by simp [fpos, ht]⟩
  | succ k ih =>
    intro l b ht
    obtain ⟨u, hl⟩ := ih (l + 1) (b / 2) (by omega)
    simp only [fpos]
    split
    · obtain ⟨r, e⟩ : ∃ r, (fpos al top k (l + 1) (b / 2)).1 = r + 1 :=
        ⟨_, (Nat.sub_add_cancel (by omega)).symm⟩
      refine ⟨?_, by simp only; omega⟩
      rw [e, Nat.add_sub_cancel]
      exact SpecNodes.Under.child (o := (fpos al top k (l + 1) (b / 2)).2) (by rw [← e]; exact u) (by omega)
    · exact ⟨u, by omega⟩

theorem fpos_row (al : Nat → Nat → Bool) (top : Pos) (k l b : Nat) (ht : top.1 = l + k) :
    l ≤ (fpos al top k l b).1 ∧ (fpos al top k l b).1 ≤ l + k :=
  ⟨(fpos_under al top k l b ht).2, ht ▸ (fpos_under al top k l b ht).1.1⟩

theorem fpos_parent {al : Nat → Nat → Bool} {top : Pos} {k l b : Nat} (ht : top.1 = l + (k + 1))
    (h : al l (sibIdx b) = true) :
    ((fpos al top (k + 1) l b).1 + 1, (fpos al top (k + 1) l b).2 / 2) = fpos al top k (l + 1) (b / 2) := by
  have h2 := fpos_row al top k (l + 1) (b / 2) (by omega)
  rw [fpos_succ_alive h]
  have := Nat.mod_lt b (show 0 < 2 by decide)
  ext
  · simp only; omega
  · simp only; omega

theorem sibIdx_of_even {b : Nat} (h : b % 2 = 0) : sibIdx b = b + 1 := if_pos h

theorem sibIdx_of_odd {b : Nat} (h : b % 2 = 1) : sibIdx b = b - 1 := if_neg (by omega)

theorem sibIdx_sibIdx (b : Nat) : sibIdx (sibIdx b) = b := by
  by_cases h : b % 2 = 0
  · rw [sibIdx_of_even h, sibIdx_of_odd (by omega), Nat.add_sub_cancel]
  · rw [sibIdx_of_odd (b := b) (by omega), sibIdx_of_even (by omega)]
    omega

theorem sibIdx_div_two (b : Nat) : sibIdx b / 2 = b / 2 := by
  by_cases h : b % 2 = 0
  · rw [sibIdx_of_even h]; omega
  · rw [sibIdx_of_odd (by omega)]; omega

theorem fpos_left_sib {al : Nat → Nat → Bool} {top : Pos} {k l b : Nat}
    (hb : b % 2 = 1) (h : al l (sibIdx b) = true) (h' : al l b = true) :
    fpos al top (k + 1) l (sibIdx b) =
      ((fpos al top (k + 1) l b).1, 2 * ((fpos al top (k + 1) l b).2 / 2)) := by
  have hs : al l (sibIdx (sibIdx b)) = true := by rw [sibIdx_sibIdx]; exact h'
  rw [fpos_succ_alive h, fpos_succ_alive hs, sibIdx_div_two]
  have e : sibIdx b % 2 = 0 := by rw [sibIdx_of_odd hb]; omega
  rw [e, hb]
  ext
  · rfl
  · simp only; omega

theorem removeBitNat_div {c b M : Nat} (hb : b ≤ M) : removeBitNat c b / 2 ^ M = c / 2 ^ (M + 1) := by
  apply Nat.eq_of_testBit_eq
  intro j
  rw [Nat.testBit_div_two_pow, Nat.testBit_div_two_pow, testBit_removeBitNat, if_neg (by omega),
    Nat.add_assoc]

theorem fpos_split (al : Nat → Nat → Bool) (top : Pos) (k1 : Nat) : ∀ k2 l b,
    fpos al top (k1 + k2) l b = fpos al (fpos al top k1 (l + k2) (b / 2 ^ k2)) k2 l b := by
  intro k2
  induction k2 with
  | zero => intro l b; simp [fpos]
  | succ k2 ih =>
    intro l b
    have h1 : fpos al top (k1 + (k2 + 1)) l b =
        (let p := fpos al top (k1 + k2) (l + 1) (b / 2)
         if al l (sibIdx b) then (p.1 - 1, 2 * p.2 + b % 2) else p) := rfl
    have h2 : fpos al (fpos al top k1 (l + (k2 + 1)) (b / 2 ^ (k2 + 1))) (k2 + 1) l b =
        (let p := fpos al (fpos al top k1 (l + (k2 + 1)) (b / 2 ^ (k2 + 1))) k2 (l + 1) (b / 2)
         if al l (sibIdx b) then (p.1 - 1, 2 * p.2 + b % 2) else p) := rfl
    rw [h1, h2, ih (l + 1) (b / 2), div_two_div_pow, show l + 1 + k2 = l + (k2 + 1) by omega]

end UtreexoVerif.Proofs.FinalPos

/-! The first step of the walk `fpos` seen from the top (these stand in the namespace of
`Proofs/Movement.lean`, whose statements about the movement under a deletion use them, as do the
bridge lemmas of `Proofs/ChunkBridge.lean`). -/
namespace UtreexoVerif.Proofs.Movement
open Spec UtreexoVerif.Proofs.FinalPos

/-- the position of the child chunk `(lv, c)` of the chunk whose collapsed root sits at `top` -/
def childTop (al : Nat → Nat → Bool) (top : Pos) (lv c : Nat) : Pos :=
  if al lv (sibIdx c) then (top.1 - 1, 2 * top.2 + c % 2) else top

theorem fpos_top (al : Nat → Nat → Bool) (top : Pos) (k l b : Nat) :
    fpos al top (k + 1) l b = fpos al (childTop al top (l + k) (b / 2 ^ k)) k l b := by
  rw [Nat.add_comm k 1]
  exact fpos_split al top 1 k l b

theorem sibIdx_even (o : Nat) : sibIdx (2 * o) = 2 * o + 1 := sibIdx_of_even (Nat.mul_mod_right 2 o)

theorem sibIdx_odd (o : Nat) : sibIdx (2 * o + 1) = 2 * o := sibIdx_of_odd (by omega)

end UtreexoVerif.Proofs.Movement
