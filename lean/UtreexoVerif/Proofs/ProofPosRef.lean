/-
  `ProofPositions` on encoded positions is the pair algorithm `refPP`: the inner loop of one row is a scan
  `rowScan` over the list of targets; on encoded positions that scan is a scan over (row, offset)
  pairs using only `parent`, `sib` and `isRootPos` of the specification; the per-row
  `slices.Sort` + `slices.Compact` is `compactPos ∘ sortPos`.
-/
import UtreexoVerif.Proofs.ProofPos
import UtreexoVerif.Proofs.EncPos
import UtreexoVerif.Proofs.SortBy

namespace UtreexoVerif.Proofs
open UtreexoVerif.Props.C16

/-- the three `continue` tests of the inner loop of `ProofPositions` -/
def skipT (n : U64) (H row : U8) (t : U64) : Bool :=
  decide (t > Model.maxPossiblePosAtRow row H) || (row != Model.DetectRow t H) ||
    Model.isRootPositionOnRowTotalRows t n row H

/-- one row of `ProofPositions` as a scan over the (sorted) target list:
(new target list, appended computable positions, appended proof positions) -/
def rowScan (n : U64) (H row : U8) : List U64 → List U64 × List U64 × List U64
  | [] => ([], [], [])
  | [t] =>
    if skipT n H row t then ([t], [], [])
    else ([Model.Parent t H], [Model.Parent t H], [Model.sibling t])
  | t :: nxt :: rest =>
    if skipT n H row t then
      (t :: (rowScan n H row (nxt :: rest)).1, (rowScan n H row (nxt :: rest)).2.1,
        (rowScan n H row (nxt :: rest)).2.2)
    else if Model.rightSib t == nxt then
      (Model.Parent t H :: nxt :: (rowScan n H row rest).1,
        Model.Parent t H :: (rowScan n H row rest).2.1, (rowScan n H row rest).2.2)
    else
      (Model.Parent t H :: (rowScan n H row (nxt :: rest)).1,
        Model.Parent t H :: (rowScan n H row (nxt :: rest)).2.1,
        Model.sibling t :: (rowScan n H row (nxt :: rest)).2.2)

theorem rowScan_cons_skip {n : U64} {H row : U8} {t : U64} (rest : List U64)
    (h : skipT n H row t = true) :
    rowScan n H row (t :: rest) =
      (t :: (rowScan n H row rest).1, (rowScan n H row rest).2.1, (rowScan n H row rest).2.2) := by
  cases rest with
  | nil => simp [rowScan, h]
  | cons nxt rest => simp [rowScan, h]

theorem ite_skipT {α : Type} (n : U64) (H row : U8) (t : U64) (A X : α) :
    (if t > Model.maxPossiblePosAtRow row H then A
     else if (row != Model.DetectRow t H) = true then A
     else if Model.isRootPositionOnRowTotalRows t n row H = true then A
     else X) = if skipT n H row t = true then A else X := by
  unfold skipT
  by_cases h1 : t > Model.maxPossiblePosAtRow row H
  · simp [h1]
  · by_cases h2 : (row != Model.DetectRow t H) = true
    · simp [h1, h2]
    · by_cases h3 : Model.isRootPositionOnRowTotalRows t n row H = true
      · simp [h1, h2, h3]
      · simp [h1, h2, h3]

theorem ppInner_eq_rowScan (n : U64) (H row : U8) :
    ∀ (fuel : Nat) (suf pre : List U64) (s : Model.PPSt), s.targets = pre ++ suf →
      suf.length < fuel →
      Model.ppInner n H row fuel pre.length s =
        { targets := pre ++ (rowScan n H row suf).1,
          next := s.next ++ (rowScan n H row suf).2.1,
          proofs := s.proofs ++ (rowScan n H row suf).2.2 } := by
  intro fuel
  induction fuel with
  | zero => intro suf pre s _ hf; omega
  | succ fuel ih =>
    intro suf pre s hs hf
    cases suf with
    | nil =>
      have hnone : s.targets[pre.length]? = none := by rw [hs]; simp
      unfold Model.ppInner
      rw [hnone]
      cases s
      simp_all [rowScan]
    | cons t rest =>
      have hsome : s.targets[pre.length]? = some t := by rw [hs]; simp
      have hs' : s.targets = (pre ++ [t]) ++ rest := by rw [hs]; simp
      have hlen : (pre ++ [t]).length = pre.length + 1 := by simp
      have hset : ∀ x, s.targets.set pre.length x = (pre ++ [x]) ++ rest := by
        intro x; rw [hs]; simp
      unfold Model.ppInner
      rw [hsome]
      simp only
      rw [ite_skipT]
      by_cases hskip : skipT n H row t = true
      · rw [if_pos hskip, rowScan_cons_skip rest hskip, ← hlen, ih rest (pre ++ [t]) s hs' (by simpa using hf)]
        simp
      · rw [if_neg hskip]
        cases rest with
        | nil =>
          have hnone : s.targets[pre.length + 1]? = none := by rw [hs]; simp
          rw [hnone]
          simp only
          have := ih [] (pre ++ [Model.Parent t H])
            { targets := s.targets.set pre.length (Model.Parent t H),
              next := s.next ++ [Model.Parent t H], proofs := s.proofs ++ [Model.sibling t] }
            (by simp [hset]) (by simp at hf ⊢; omega)
          rw [List.length_append, List.length_singleton] at this
          rw [this]
          simp [rowScan, hskip]
        | cons nxt rest =>
          have hsome2 : s.targets[pre.length + 1]? = some nxt := by
            rw [hs, List.getElem?_append_right (by omega)]; simp
          rw [hsome2]
          simp only
          by_cases hsib : (Model.rightSib t == nxt) = true
          · rw [if_pos hsib]
            have := ih rest (pre ++ [Model.Parent t H, nxt])
              { targets := s.targets.set pre.length (Model.Parent t H),
                next := s.next ++ [Model.Parent t H], proofs := s.proofs }
              (by simp [hset]) (by simp at hf ⊢; omega)
            rw [List.length_append] at this
            simp only [List.length_cons, List.length_nil] at this
            rw [this]
            simp [rowScan, hskip, hsib]
          · rw [if_neg hsib]
            have := ih (nxt :: rest) (pre ++ [Model.Parent t H])
              { targets := s.targets.set pre.length (Model.Parent t H),
                next := s.next ++ [Model.Parent t H], proofs := s.proofs ++ [Model.sibling t] }
              (by simp [hset]) (by simp at hf ⊢; omega)
            rw [List.length_append, List.length_singleton] at this
            rw [this]
            simp [rowScan, hskip, hsib]

/-- insertion into a list sorted by `posLt` (on encoded positions it is the model's `insertBy id`) -/
def insertPos (x : Spec.Pos) : List Spec.Pos → List Spec.Pos
  | [] => [x]
  | y :: ys => if Spec.Forest.posLt x y then x :: y :: ys else y :: insertPos x ys

def sortPos (l : List Spec.Pos) : List Spec.Pos := l.foldl (fun acc x => insertPos x acc) []

/-- one row of `ProofPositions` on (row, offset) pairs -/
def scanPos (n ρ : Nat) : List Spec.Pos → List Spec.Pos × List Spec.Pos × List Spec.Pos
  | [] => ([], [], [])
  | [t] =>
    if t.1 != ρ || Spec.isRootPos n t then ([t], [], [])
    else ([Spec.parent t], [Spec.parent t], [Spec.sib t])
  | t :: nxt :: rest =>
    if t.1 != ρ || Spec.isRootPos n t then
      (t :: (scanPos n ρ (nxt :: rest)).1, (scanPos n ρ (nxt :: rest)).2.1,
        (scanPos n ρ (nxt :: rest)).2.2)
    else if nxt == (ρ, 2 * (t.2 / 2) + 1) then
      (Spec.parent t :: nxt :: (scanPos n ρ rest).1,
        Spec.parent t :: (scanPos n ρ rest).2.1, (scanPos n ρ rest).2.2)
    else
      (Spec.parent t :: (scanPos n ρ (nxt :: rest)).1,
        Spec.parent t :: (scanPos n ρ (nxt :: rest)).2.1,
        Spec.sib t :: (scanPos n ρ (nxt :: rest)).2.2)

abbrev skipP (n ρ : Nat) (t : Spec.Pos) : Bool := t.1 != ρ || Spec.isRootPos n t

theorem scanPos_cons_skip {n ρ : Nat} {t : Spec.Pos} (rest : List Spec.Pos)
    (h : skipP n ρ t = true) :
    scanPos n ρ (t :: rest) =
      (t :: (scanPos n ρ rest).1, (scanPos n ρ rest).2.1, (scanPos n ρ rest).2.2) := by
  cases rest with
  | nil => simp only [skipP] at h; simp [scanPos, h]
  | cons nxt rest => simp only [skipP] at h; simp [scanPos, h]

theorem scanPos_cons_paired {n ρ : Nat} {t : Spec.Pos} (rest : List Spec.Pos)
    (h : skipP n ρ t = false) :
    scanPos n ρ (t :: (ρ, 2 * (t.2 / 2) + 1) :: rest) =
      (Spec.parent t :: (ρ, 2 * (t.2 / 2) + 1) :: (scanPos n ρ rest).1,
        Spec.parent t :: (scanPos n ρ rest).2.1, (scanPos n ρ rest).2.2) := by
  simp only [skipP] at h
  rw [scanPos]
  simp [h]

theorem scanPos_cons_unpaired {n ρ : Nat} {t : Spec.Pos} (rest : List Spec.Pos)
    (h : skipP n ρ t = false) (hnx : ∀ nxt ∈ rest.head?, nxt ≠ (ρ, 2 * (t.2 / 2) + 1)) :
    scanPos n ρ (t :: rest) =
      (Spec.parent t :: (scanPos n ρ rest).1, Spec.parent t :: (scanPos n ρ rest).2.1,
        Spec.sib t :: (scanPos n ρ rest).2.2) := by
  simp only [skipP] at h
  cases rest with
  | nil => simp [scanPos, h]
  | cons nxt rest =>
    have hne : (nxt == (ρ, 2 * (t.2 / 2) + 1)) = false := beq_false_of_ne (hnx nxt rfl)
    rw [scanPos]
    simp [h, hne]

theorem scanPos_induction {n ρ : Nat} {motive : List Spec.Pos → Prop} (nil : motive [])
    (skip : ∀ t rest, skipP n ρ t = true → motive rest → motive (t :: rest))
    (paired : ∀ t rest, skipP n ρ t = false → motive rest →
      motive (t :: (ρ, 2 * (t.2 / 2) + 1) :: rest))
    (unpaired : ∀ t rest, skipP n ρ t = false →
      (∀ nxt ∈ rest.head?, nxt ≠ (ρ, 2 * (t.2 / 2) + 1)) → motive rest → motive (t :: rest)) :
    ∀ L, motive L
  | [] => nil
  | [t] => by
    cases hs : skipP n ρ t with
    | true => exact skip t [] hs nil
    | false => exact unpaired t [] hs (by simp) nil
  | t :: nxt :: rest => by
    have ih1 := scanPos_induction nil skip paired unpaired (nxt :: rest)
    have ih2 := scanPos_induction nil skip paired unpaired rest
    cases hs : skipP n ρ t with
    | true => exact skip t _ hs ih1
    | false =>
      by_cases hsib : nxt = (ρ, 2 * (t.2 / 2) + 1)
      · subst hsib
        exact paired t rest hs ih2
      · exact unpaired t _ hs (by simpa using hsib) ih1

/-- position-level mirror of `Model.compactAux` -/
def compactPosAux (prev : Spec.Pos) : List Spec.Pos → List Spec.Pos
  | [] => []
  | x :: xs => if x == prev then compactPosAux prev xs else x :: compactPosAux x xs

/-- position-level mirror of `Model.compactU64` (`slices.Compact`) -/
def compactPos : List Spec.Pos → List Spec.Pos
  | [] => []
  | x :: xs => x :: compactPosAux x xs

/-- all rows: state = (targets, computable so far, proof positions so far) -/
def outerPos (n : Nat) : Nat → Nat → List Spec.Pos × List Spec.Pos × List Spec.Pos →
    List Spec.Pos × List Spec.Pos × List Spec.Pos
  | 0, _, s => s
  | f + 1, ρ, s =>
    outerPos n f (ρ + 1)
      (compactPos (sortPos (scanPos n ρ s.1).1), s.2.1 ++ (scanPos n ρ s.1).2.1,
        s.2.2 ++ (scanPos n ρ s.1).2.2)

/-- `ProofPositions` on (row, offset) pairs: (proof positions, computable positions) -/
def refPP (n H : Nat) (targets : List Spec.Pos) : List Spec.Pos × List Spec.Pos :=
  ((outerPos n (H + 1) 0 (targets, [], [])).2.2, (outerPos n (H + 1) 0 (targets, [], [])).2.1)

/-- `posLt` as a proposition (the order of the proof-position files; `Sorted.PLt` in SortedLists is
the same order written as a disjunction, `PLt_iff` goes between the two) -/
abbrev PLt (a b : Spec.Pos) : Prop := Spec.Forest.posLt a b = true

theorem PLt_iff {a b : Spec.Pos} : PLt a b ↔ a.1 < b.1 ∨ (a.1 = b.1 ∧ a.2 < b.2) := by
  simp [PLt, Spec.Forest.posLt]

theorem H8_bne {a b : Nat} (ha : a ≤ 63) (hb : b ≤ 63) : (H8 a != H8 b) = (a != b) := by
  by_cases h : a = b
  · subst h; simp
  · have : H8 a ≠ H8 b := fun hc => h (H8_inj (by omega) (by omega) hc)
    rw [bne_iff_ne.2 this, bne_iff_ne.2 h]

theorem skipT_encP {H h ρ : Nat} {p : Spec.Pos} (n : U64) (hT : Model.TreeRows n = H8 h)
    (hH : H ≤ 63) (hhH : h ≤ H) (hρ : ρ ≤ H) (hp : ValidH H p)
    (hin : p.1 = ρ → p.1 ≤ h ∧ p.2 < 2 ^ (h - p.1)) :
    skipT n (H8 H) (H8 ρ) (encP H p) = (p.1 != ρ || Spec.isRootPos n.toNat p) := by
  obtain ⟨r, o⟩ := p
  obtain ⟨hr, ho⟩ := hp
  simp only at hr ho hin
  have hmaxv : ValidH H (ρ, 2 ^ (H - ρ) - 1) :=
    ⟨hρ, by show 2 ^ (H - ρ) - 1 < 2 ^ (H - ρ); have := Nat.two_pow_pos (H - ρ); omega⟩
  have e1 : decide (encP H (r, o) > Model.maxPossiblePosAtRow (H8 ρ) (H8 H)) = decide (ρ < r) := by
    rw [maxPossiblePosAtRow_enc hH hρ]
    apply decide_eq_decide.2
    rw [gt_iff_lt]
    refine (encP_lt_iff (p := (ρ, 2 ^ (H - ρ) - 1)) (q := (r, o)) hH hmaxv ⟨hr, ho⟩).trans ?_
    simp only [Spec.Forest.posLt, Bool.or_eq_true, decide_eq_true_eq, Bool.and_eq_true, beq_iff_eq]
    constructor
    · rintro (h1 | ⟨h1, h2⟩)
      · exact h1
      · subst h1; omega
    · intro h1; exact Or.inl h1
  unfold skipT
  rw [e1, show encP H (r, o) = encU H r o from rfl, detectRow_enc hH hr ho,
    show BitVec.ofNat 8 r = H8 r from rfl, H8_bne (by omega) (by omega)]
  by_cases hrρ : r = ρ
  · subst hrρ
    obtain ⟨hrh, hoh⟩ := hin rfl
    rw [isRootPositionOnRowTotalRows_enc n _ hT hH hr ho (by omega) hrh hoh, toNat_H8 (by omega)]
    simp
  · have : (ρ != r) = true := by simp; omega
    by_cases hlt : ρ < r
    · simp [hlt, hrρ]
    · simp [this, hrρ]

theorem rightSib_encP_beq {H : Nat} {p q : Spec.Pos} (hH : H ≤ 63) (hp : ValidH H p) (hlt : p.1 < H)
    (hq : ValidH H q) :
    (Model.rightSib (encP H p) == encP H q) = (q == (p.1, 2 * (p.2 / 2) + 1)) := by
  have hv : ValidH H (p.1, 2 * (p.2 / 2) + 1) := (hp.parent hlt).child (Nat.le_add_left 1 p.1) (b := 1) (by decide)
  rw [EncPos.rightSib_encP hH hp]
  by_cases hqe : q = (p.1, 2 * (p.2 / 2) + 1)
  · subst hqe; simp
  · rw [beq_false_of_ne fun hc => hqe (encP_inj hH hv hq hc).symm, beq_false_of_ne hqe]

/-- every entry is a position of the `H`-row geometry and the entries on the current row
are nodes of the forest -/
def InvRow (n H ρ : Nat) (L : List Spec.Pos) : Prop :=
  ∀ p ∈ L, ValidH H p ∧ (p.1 = ρ → ∃ R, BelowRoot n p.1 p.2 R)

theorem rowScan_encP {H h ρ : Nat} (n : U64) (hT : Model.TreeRows n = H8 h)
    (hH : H ≤ 63) (hhH : h ≤ H) (hρ : ρ ≤ H) :
    ∀ (L : List Spec.Pos), InvRow n.toNat H ρ L →
      rowScan n (H8 H) (H8 ρ) (L.map (encP H)) =
        ((scanPos n.toNat ρ L).1.map (encP H), (scanPos n.toNat ρ L).2.1.map (encP H),
          (scanPos n.toNat ρ L).2.2.map (encP H))
  | [], _ => rfl
  | [t], hL => by
    have hh : h ≤ 63 := by omega
    have hn := le_of_treeRows n hT hh
    obtain ⟨hv, hin⟩ := hL t (by simp)
    have hin' : t.1 = ρ → t.1 ≤ h ∧ t.2 < 2 ^ (h - t.1) := by
      intro e; obtain ⟨R, hb⟩ := hin e
      exact (belowRoot_valid hn hb).2
    have hs := skipT_encP n hT hH hhH hρ hv hin'
    simp only [List.map_cons, List.map_nil, rowScan, scanPos, hs]
    by_cases hc : (t.1 != ρ || Spec.isRootPos n.toNat t) = true
    · simp [hc]
    · simp only [hc, Bool.false_eq_true, if_false]
      obtain ⟨r, o⟩ := t
      simp only [Bool.or_eq_true, bne_iff_ne, ne_eq, not_or, Decidable.not_not,
        Bool.not_eq_true] at hc
      obtain ⟨hrρ, hnr⟩ := hc
      subst hrρ
      obtain ⟨R, hb⟩ := hin rfl
      have hRh := (belowRoot_valid hn hb).1
      have hne : r ≠ R := by
        intro e; rw [belowRoot_isRootPos hb] at hnr; simp [e] at hnr
      have hr1 := hb.1
      simp only at hr1
      rw [EncPos.parent_encP hH hv (by show r < H; omega), EncPos.sibling_encP hH hv]
      rfl
  | t :: nxt :: rest, hL => by
    have hh : h ≤ 63 := by omega
    have hn := le_of_treeRows n hT hh
    obtain ⟨hv, hin⟩ := hL t (by simp)
    obtain ⟨hvn, _⟩ := hL nxt (by simp)
    have hin' : t.1 = ρ → t.1 ≤ h ∧ t.2 < 2 ^ (h - t.1) := by
      intro e; obtain ⟨R, hb⟩ := hin e
      exact (belowRoot_valid hn hb).2
    have hs := skipT_encP n hT hH hhH hρ hv hin'
    have ih1 := rowScan_encP n hT hH hhH hρ (nxt :: rest) (fun p hp => hL p (List.mem_cons_of_mem _ hp))
    have ih2 := rowScan_encP n hT hH hhH hρ rest
      (fun p hp => hL p (List.mem_cons_of_mem _ (List.mem_cons_of_mem _ hp)))
    simp only [List.map_cons] at ih1 ⊢
    rw [rowScan, scanPos, hs]
    by_cases hc : (t.1 != ρ || Spec.isRootPos n.toNat t) = true
    · simp only [hc, if_true, ih1, List.map_cons]
    · simp only [hc, Bool.false_eq_true, if_false]
      obtain ⟨r, o⟩ := t
      simp only [Bool.or_eq_true, bne_iff_ne, ne_eq, not_or, Decidable.not_not,
        Bool.not_eq_true] at hc
      obtain ⟨hrρ, hnr⟩ := hc
      subst hrρ
      obtain ⟨R, hb⟩ := hin rfl
      have hRh := (belowRoot_valid hn hb).1
      have hne : r ≠ R := by
        intro e; rw [belowRoot_isRootPos hb] at hnr; simp [e] at hnr
      have hr1 := hb.1
      simp only at hr1
      rw [EncPos.parent_encP hH hv (by show r < H; omega), EncPos.sibling_encP hH hv,
        rightSib_encP_beq hH hv (by show r < H; omega) hvn]
      by_cases hsib : (nxt == (r, 2 * (o / 2) + 1)) = true
      · simp only [hsib, if_true, ih2, List.map_cons]
      · simp only [hsib, Bool.false_eq_true, if_false, ih1, List.map_cons]


theorem insertPos_eq (x : Spec.Pos) : ∀ l, insertPos x l = InsertW.insertW PLt id x l
  | [] => rfl
  | y :: ys => by rw [insertPos, InsertW.insertW, insertPos_eq x ys]; rfl

theorem sortPos_eq (l : List Spec.Pos) : sortPos l = InsertW.sortW PLt id l := by
  unfold sortPos InsertW.sortW
  congr 1
  funext acc x
  exact insertPos_eq x acc

theorem mem_insertPos {x y : Spec.Pos} {l : List Spec.Pos} : y ∈ insertPos x l ↔ y = x ∨ y ∈ l :=
  insertPos_eq x l ▸ InsertW.mem_insertW PLt id

theorem mem_sortPos {y : Spec.Pos} {l : List Spec.Pos} : y ∈ sortPos l ↔ y ∈ l :=
  sortPos_eq l ▸ InsertW.mem_sortW PLt id

theorem sortU64_encP {H : Nat} (hH : H ≤ 63) (l : List Spec.Pos) (hl : ∀ p ∈ l, ValidH H p) :
    Model.sortU64 (l.map (encP H)) = (sortPos l).map (encP H) := by
  rw [sortPos_eq]
  show Model.sortBy id (l.map (encP H)) = _
  rw [SortBy.sortBy_eq]
  exact InsertW.sortW_map PLt id _ id (encP H) l
    (fun x hx y hy => encP_lt_iff hH (hl x hx) (hl y hy))

theorem mem_cons_compactPosAux {y : Spec.Pos} : ∀ (l : List Spec.Pos) (prev : Spec.Pos),
    y ∈ prev :: compactPosAux prev l ↔ y ∈ prev :: l
  | [], _ => by simp [compactPosAux]
  | x :: xs, prev => by
    rw [compactPosAux]
    by_cases h : (x == prev) = true
    · rw [if_pos h, mem_cons_compactPosAux xs prev]
      have e : x = prev := by simpa using h
      subst e
      simp
    · rw [if_neg h]
      have ih := mem_cons_compactPosAux (y := y) xs x
      simp only [List.mem_cons] at ih ⊢
      rw [ih]

theorem mem_compactPos {y : Spec.Pos} : ∀ {l : List Spec.Pos}, y ∈ compactPos l ↔ y ∈ l
  | [] => by simp [compactPos]
  | x :: xs => by rw [compactPos]; exact mem_cons_compactPosAux xs x

theorem compactAux_encP {H : Nat} (hH : H ≤ 63) :
    ∀ (l : List Spec.Pos) (prev : Spec.Pos), ValidH H prev → (∀ p ∈ l, ValidH H p) →
      Model.compactAux (encP H prev) (l.map (encP H)) = (compactPosAux prev l).map (encP H)
  | [], _, _, _ => rfl
  | x :: xs, prev, hp, hl => by
    have hx := hl x (by simp)
    have hxs : ∀ p ∈ xs, ValidH H p := fun p h => hl p (List.mem_cons_of_mem _ h)
    rw [List.map_cons, Model.compactAux, compactPosAux]
    by_cases h : x = prev
    · subst h
      simp only [beq_self_eq_true, if_true]
      exact compactAux_encP hH xs x hx hxs
    · have hne : encP H x ≠ encP H prev := fun hc => h (encP_inj hH hx hp hc)
      rw [beq_false_of_ne hne, beq_false_of_ne h]
      simp only [Bool.false_eq_true, if_false, List.map_cons]
      rw [compactAux_encP hH xs x hx hxs]

theorem compactU64_encP {H : Nat} (hH : H ≤ 63) (l : List Spec.Pos) (hl : ∀ p ∈ l, ValidH H p) :
    Model.compactU64 (l.map (encP H)) = (compactPos l).map (encP H) := by
  cases l with
  | nil => rfl
  | cons x xs =>
    rw [List.map_cons, Model.compactU64, compactPos, List.map_cons,
      compactAux_encP hH xs x (hl x (by simp)) (fun p h => hl p (List.mem_cons_of_mem _ h))]

theorem scanPos_mem (n ρ : Nat) : ∀ (L : List Spec.Pos),
    (∀ p, p ∈ (scanPos n ρ L).1 → p ∈ L ∨
      ∃ t ∈ L, t.1 = ρ ∧ Spec.isRootPos n t = false ∧ p = Spec.parent t) ∧
    (∀ p, p ∈ (scanPos n ρ L).2.1 →
      ∃ t ∈ L, t.1 = ρ ∧ Spec.isRootPos n t = false ∧ p = Spec.parent t) ∧
    (∀ p, p ∈ (scanPos n ρ L).2.2 →
      ∃ t ∈ L, t.1 = ρ ∧ Spec.isRootPos n t = false ∧ p = Spec.sib t) := by
  have lift : ∀ {A L : List Spec.Pos} {p : Spec.Pos} {f : Spec.Pos → Spec.Pos},
      (∃ t' ∈ L, t'.1 = ρ ∧ Spec.isRootPos n t' = false ∧ p = f t') →
      ∃ t' ∈ A ++ L, t'.1 = ρ ∧ Spec.isRootPos n t' = false ∧ p = f t' := by
    rintro A L p f ⟨t', h1, h2⟩
    exact ⟨t', List.mem_append_right _ h1, h2⟩
  -- a processed head contributes its parent (and its sibling)
  have head : ∀ {t : Spec.Pos} {L : List Spec.Pos} (f : Spec.Pos → Spec.Pos),
      skipP n ρ t = false → ∃ t' ∈ t :: L, t'.1 = ρ ∧ Spec.isRootPos n t' = false ∧ f t = f t' := by
    intro t L f hs
    simp only [skipP, Bool.or_eq_false_iff, bne_eq_false_iff_eq] at hs
    exact ⟨t, List.mem_cons_self, hs.1, hs.2, rfl⟩
  intro L
  induction L using scanPos_induction (n := n) (ρ := ρ) with
  | nil => simp [scanPos]
  | skip t rest hs ih =>
    obtain ⟨a1, a2, a3⟩ := ih
    rw [scanPos_cons_skip rest hs]
    refine ⟨?_, fun p hp => lift (A := [t]) (a2 p hp), fun p hp => lift (A := [t]) (a3 p hp)⟩
    intro p hp
    rcases List.mem_cons.1 hp with rfl | hp
    · exact Or.inl List.mem_cons_self
    · rcases a1 p hp with h | h
      · exact Or.inl (List.mem_cons_of_mem _ h)
      · exact Or.inr (lift (A := [t]) h)
  | paired t rest hs ih =>
    obtain ⟨b1, b2, b3⟩ := ih
    rw [scanPos_cons_paired rest hs]
    refine ⟨?_, ?_, fun p hp => lift (A := [t, _]) (b3 p hp)⟩
    · intro p hp
      rcases List.mem_cons.1 hp with rfl | hp
      · exact Or.inr (head Spec.parent hs)
      · rcases List.mem_cons.1 hp with rfl | hp
        · exact Or.inl (List.mem_cons_of_mem _ List.mem_cons_self)
        · rcases b1 p hp with h | h
          · exact Or.inl (List.mem_cons_of_mem _ (List.mem_cons_of_mem _ h))
          · exact Or.inr (lift (A := [t, _]) h)
    · intro p hp
      rcases List.mem_cons.1 hp with rfl | hp
      · exact head Spec.parent hs
      · exact lift (A := [t, _]) (b2 p hp)
  | unpaired t rest hs hnx ih =>
    obtain ⟨a1, a2, a3⟩ := ih
    rw [scanPos_cons_unpaired rest hs hnx]
    refine ⟨?_, ?_, ?_⟩
    · intro p hp
      rcases List.mem_cons.1 hp with rfl | hp
      · exact Or.inr (head Spec.parent hs)
      · rcases a1 p hp with h | h
        · exact Or.inl (List.mem_cons_of_mem _ h)
        · exact Or.inr (lift (A := [t]) h)
    · intro p hp
      rcases List.mem_cons.1 hp with rfl | hp
      · exact head Spec.parent hs
      · exact lift (A := [t]) (a2 p hp)
    · intro p hp
      rcases List.mem_cons.1 hp with rfl | hp
      · exact head Spec.sib hs
      · exact lift (A := [t]) (a3 p hp)


/-- every entry is a position of the `H`-row geometry; entries on the rows still to be
processed are nodes of the forest -/
def InvOuter (n H ρ : Nat) (L : List Spec.Pos) : Prop :=
  ∀ p ∈ L, ValidH H p ∧ (ρ ≤ p.1 → ∃ R, BelowRoot n p.1 p.2 R)

theorem InvOuter.row {n H ρ : Nat} {L : List Spec.Pos} (h : InvOuter n H ρ L) : InvRow n H ρ L :=
  fun p hp => ⟨(h p hp).1, fun e => (h p hp).2 (by omega)⟩

theorem InvOuter.step {n H h ρ : Nat} {L : List Spec.Pos} (hn : n ≤ 2 ^ h) (hhH : h ≤ H)
    (hI : InvOuter n H ρ L) : InvOuter n H (ρ + 1) (compactPos (sortPos (scanPos n ρ L).1)) := by
  intro p hp
  rw [mem_compactPos, mem_sortPos] at hp
  rcases (scanPos_mem n ρ L).1 p hp with h1 | ⟨t, ht, hrow, hroot, rfl⟩
  · exact ⟨(hI p h1).1, fun hle => (hI p h1).2 (by omega)⟩
  · obtain ⟨R, hb⟩ := (hI t ht).2 (by omega)
    have hne : t.1 ≠ R := by
      intro e
      have := belowRoot_isRootPos hb
      rw [show (t.1, t.2) = t from rfl, hroot] at this
      simp [e] at this
    have hb' := belowRoot_parent hb hne
    exact ⟨(BelowRoot.valid (p := Spec.parent t) hb' hn).mono hhH, fun _ => ⟨R, hb'⟩⟩

def encSt (H : Nat) (s : List Spec.Pos × List Spec.Pos × List Spec.Pos) : Model.PPSt :=
  { targets := s.1.map (encP H), next := s.2.1.map (encP H), proofs := s.2.2.map (encP H) }

theorem ppOuter_encP {H h : Nat} (n : U64) (hT : Model.TreeRows n = H8 h)
    (hH : H ≤ 63) (hhH : h ≤ H) :
    ∀ (fuel ρ : Nat) (s : List Spec.Pos × List Spec.Pos × List Spec.Pos), ρ + fuel = H + 1 →
      InvOuter n.toNat H ρ s.1 →
      Model.ppOuter n (H8 H) fuel (H8 ρ) (encSt H s) = encSt H (outerPos n.toNat fuel ρ s) := by
  have hh : h ≤ 63 := by omega
  have hn := le_of_treeRows n hT hh
  intro fuel
  induction fuel with
  | zero => intro ρ s _ _; rfl
  | succ fuel ih =>
    intro ρ s hf hI
    have hρ : ρ ≤ H := by omega
    have hgt : ¬ (H8 ρ > H8 H) := by
      rw [gt_iff_lt, BitVec.lt_def, toNat_H8 hH, toNat_H8 (by omega)]; omega
    have hvalid : ∀ p ∈ (scanPos n.toNat ρ s.1).1, ValidH H p := by
      intro p hp
      exact ((InvOuter.step hn hhH hI) p (mem_compactPos.2 (mem_sortPos.2 hp))).1
    have hvalid' : ∀ p ∈ sortPos (scanPos n.toNat ρ s.1).1, ValidH H p :=
      fun p hp => hvalid p (mem_sortPos.1 hp)
    unfold Model.ppOuter
    rw [if_neg hgt]
    have hinner := ppInner_eq_rowScan n (H8 H) (H8 ρ) ((encSt H s).targets.length + 1)
      (encSt H s).targets [] (encSt H s) (by simp) (by omega)
    simp only [List.length_nil, List.nil_append] at hinner
    simp only [hinner]
    have hrow := rowScan_encP n hT hH hhH hρ s.1 hI.row
    rw [show (encSt H s).targets = s.1.map (encP H) from rfl, hrow]
    simp only
    rw [sortU64_encP hH _ hvalid, compactU64_encP hH _ hvalid',
      ofNat_add_one]
    have := ih (ρ + 1)
      (compactPos (sortPos (scanPos n.toNat ρ s.1).1), s.2.1 ++ (scanPos n.toNat ρ s.1).2.1,
        s.2.2 ++ (scanPos n.toNat ρ s.1).2.2) (by omega) (InvOuter.step hn hhH hI)
    rw [outerPos]
    rw [← this]
    simp [encSt]

/-- **`ProofPositions` is the (row, offset) algorithm `refPP`** — for every list of targets
that are nodes of the forest (sorted or not, nested or not), in a forest allocated for
`H ≥ TreeRows numLeaves` rows. -/
theorem proofPositions_eq_refPP {H h : Nat} (n : U64) (hT : Model.TreeRows n = H8 h)
    (hH : H ≤ 63) (hhH : h ≤ H) (targets : List Spec.Pos)
    (htg : ∀ p ∈ targets, ∃ R, BelowRoot n.toNat p.1 p.2 R) :
    Model.ProofPositions (targets.map (encP H)) n (H8 H) =
      ((refPP n.toNat H targets).1.map (encP H), (refPP n.toNat H targets).2.map (encP H)) := by
  have hh : h ≤ 63 := by omega
  have hn := le_of_treeRows n hT hh
  have hI : InvOuter n.toNat H 0 targets := by
    intro p hp
    obtain ⟨R, hb⟩ := htg p hp
    obtain ⟨_, hr, ho⟩ := belowRoot_valid hn hb
    exact ⟨⟨by omega, Nat.lt_of_lt_of_le ho (two_pow_le_of_le (by omega))⟩, fun _ => ⟨R, hb⟩⟩
  unfold Model.ProofPositions
  rw [toNat_H8 hH]
  have := ppOuter_encP n hT hH hhH (H + 1) 0 (targets, [], []) (by omega) hI
  rw [show encSt H (targets, [], []) = { targets := targets.map (encP H), next := [], proofs := [] }
    from rfl, show H8 0 = 0#8 from rfl] at this
  simp only [this]
  rfl

end UtreexoVerif.Proofs
