/-
  Pointer forest, heap model: the list / collapsed-tree facts behind the forest-level
  deletion theorems.

  * pruning a plugged tree (`prune_plug`): killing exactly the leaves of one child of a node of
    a tree with distinct leaves replaces the node by its other child;
  * `ReprRoots` split at one root, leaves of represented roots.
-/
import UtreexoVerif.Proofs.PollardHeapZip
import UtreexoVerif.Proofs.SpecUndo
import UtreexoVerif.Proofs.PollardLookup
set_option linter.unusedSectionVars false

namespace UtreexoVerif.Proofs.PollardHeap
open UtreexoVerif.Spec
open UtreexoVerif.Proofs.SpecNodes UtreexoVerif.Proofs.SpecSubs
open UtreexoVerif.Proofs.PollardLookup

variable {H : Type} [DecidableEq H] [Hasher H]

def CCtx.sibLeaves : CCtx H → List H
  | .top => []
  | .left up s => s.leaves ++ up.sibLeaves
  | .right s up => s.leaves ++ up.sibLeaves

theorem CCtx.sibLeaves_cons (d : Bool) (up : CCtx H) (s : CTree H) :
    (CCtx.cons d up s).sibLeaves = s.leaves ++ up.sibLeaves := by cases d <;> rfl

theorem CCtx.leaves_plug : ∀ (ctx : CCtx H) (t : CTree H),
    (ctx.plug t).leaves.Perm (t.leaves ++ ctx.sibLeaves) := by
  intro ctx
  induction ctx using CCtx.consInduction with
  | top => intro t; simp [CCtx.plug, CCtx.sibLeaves]
  | cons d up s ih =>
    intro t
    rw [CCtx.plug_cons, CCtx.sibLeaves_cons, ← List.append_assoc]
    refine (ih _).trans (List.Perm.append_right _ ?_)
    cases d
    · exact .refl _
    · exact List.perm_append_comm

theorem prune_plug_ctx (R : List H) : ∀ (ctx : CCtx H) (u u' : CTree H),
    prune R u = some u' → (∀ x ∈ ctx.sibLeaves, x ∉ R) →
    prune R (ctx.plug u) = some (ctx.plug u') := by
  intro ctx
  induction ctx using CCtx.consInduction with
  | top => intro u u' h _; exact h
  | cons d up s ih =>
    intro u u' h hs
    rw [CCtx.sibLeaves_cons] at hs
    rw [CCtx.plug_cons, CCtx.plug_cons]
    refine ih _ _ ?_ (fun x hx => hs x (List.mem_append_right _ hx))
    have ps := prune_eq_self R s (fun x hx => hs x (List.mem_append_left _ hx))
    cases d
    · show Spec.prune R (.node u s) = _
      simp only [Spec.prune, h, ps]; rfl
    · show Spec.prune R (.node s u) = _
      simp only [Spec.prune, h, ps]; rfl

theorem prune_plug (ctx : CCtx H) (a b : CTree H) (d : Bool)
    (nd : (ctx.plug (if d then .node b a else .node a b)).leaves.Nodup) :
    prune a.leaves (ctx.plug (if d then .node b a else .node a b)) = some (ctx.plug b) := by
  have hperm := CCtx.leaves_plug ctx (if d then .node b a else .node a b)
  have nd' := (List.Perm.nodup_iff hperm).1 nd
  have hab : (a.leaves ++ b.leaves ++ ctx.sibLeaves).Nodup := by
    cases d
    · simpa [CTree.leaves] using nd'
    · simp only [if_true, CTree.leaves] at nd'
      refine (List.Perm.nodup_iff ?_).1 nd'
      exact List.Perm.append_right _ List.perm_append_comm
  simp only [List.nodup_append, List.mem_append] at hab
  obtain ⟨⟨nda, ndb, dab⟩, ndc, dc⟩ := hab
  have pa : prune a.leaves a = none := (prune_eq_none_iff _ a).2 (fun x hx => hx)
  have pb : prune a.leaves b = some b :=
    prune_eq_self _ b (fun x hx hxa => dab x hxa x hx rfl)
  apply prune_plug_ctx
  · cases d
    · simp only [Bool.false_eq_true, if_false, Spec.prune, pa, pb]; rfl
    · simp only [if_true, Spec.prune, pa, pb]; rfl
  · intro x hx hxa
    exact dc x (Or.inl hxa) x hx rfl

theorem ReprRoots.leaves {hp : Heap H} {rs : List Nat} {ts : List (Option (CTree H))}
    {owned : List Nat} {lv : List (H × Nat)} (h : ReprRoots hp rs ts owned lv) :
    lv.map (·.1) = ts.flatMap optLeaves := by
  induction h with
  | nil => rfl
  | @cons r t fp lv rs ts owned lvs h1 h2 ih =>
    simp only [List.map_append, List.flatMap_cons, ih]
    congr 1
    cases t with
    | none => obtain ⟨_, _, e⟩ := h1; subst e; rfl
    | some t => exact h1.2.leaves

theorem Sub.leaf_idx {hp : Heap H} {n holder : Nat} {t : CTree H} {fp : List Nat}
    {lv : List (H × Nat)} (h : Sub hp n holder t fp lv) (nd : (n :: fp).Nodup) :
    (lv.map (·.2)).Nodup ∧ ∀ i ∈ lv.map (·.2), i ∈ n :: fp := by
  induction h with
  | leaf => simp
  | @node n holder l r nn hn0 ln rn a b fa fb la lb h1 h2 h3 h4 h5 h6 h7 h8 h9 sa sb iha ihb =>
    simp only [List.nodup_cons, List.mem_cons, List.mem_append, not_or, List.nodup_append] at nd
    obtain ⟨⟨hnl, hnr, hnfa, hnfb⟩, ⟨hlr, hlfa, hlfb⟩, ⟨hrfa, hrfb⟩, nda, ndb, dab⟩ := nd
    obtain ⟨a1, a2⟩ := iha (List.nodup_cons.2 ⟨hlfa, nda⟩)
    obtain ⟨b1, b2⟩ := ihb (List.nodup_cons.2 ⟨hrfb, ndb⟩)
    refine ⟨?_, ?_⟩
    · rw [List.map_append, List.nodup_append]
      refine ⟨a1, b1, ?_⟩
      intro i hi j hj e
      subst e
      have ha := a2 i hi
      have hb := b2 i hj
      simp only [List.mem_cons] at ha hb
      rcases ha with rfl | ha <;> rcases hb with hb | hb
      · exact hlr hb
      · exact hlfb hb
      · subst hb; exact hrfa ha
      · exact dab i ha i hb rfl
    · intro i hi
      rw [List.map_append, List.mem_append] at hi
      simp only [List.mem_cons, List.mem_append]
      rcases hi with hi | hi
      · have := a2 i hi
        simp only [List.mem_cons] at this
        rcases this with rfl | h
        · exact Or.inr (Or.inl rfl)
        · exact Or.inr (Or.inr (Or.inr (Or.inl h)))
      · have := b2 i hi
        simp only [List.mem_cons] at this
        rcases this with rfl | h
        · exact Or.inr (Or.inr (Or.inl rfl))
        · exact Or.inr (Or.inr (Or.inr (Or.inr h)))

theorem ReprRoots.leaf_idx {hp : Heap H} {rs : List Nat} {ts : List (Option (CTree H))}
    {owned : List Nat} {lv : List (H × Nat)} (h : ReprRoots hp rs ts owned lv) (nd : owned.Nodup) :
    (lv.map (·.2)).Nodup ∧ ∀ i ∈ lv.map (·.2), i ∈ owned := by
  induction h with
  | nil => simp
  | @cons r t fp lv rs ts owned lvs h1 h2 ih =>
    rw [List.nodup_append] at nd
    obtain ⟨nd1, nd2, dd⟩ := nd
    obtain ⟨b1, b2⟩ := ih nd2
    have ha : (lv.map (·.2)).Nodup ∧ ∀ i ∈ lv.map (·.2), i ∈ r :: fp := by
      cases t with
      | none => obtain ⟨_, _, e⟩ := h1; subst e; simp
      | some t => exact h1.2.leaf_idx nd1
    obtain ⟨a1, a2⟩ := ha
    refine ⟨?_, ?_⟩
    · rw [List.map_append, List.nodup_append]
      exact ⟨a1, b1, fun i hi j hj e => dd i (a2 i hi) j (b2 j hj) e⟩
    · intro i hi
      rw [List.map_append, List.mem_append] at hi
      rw [List.mem_append]
      rcases hi with hi | hi
      · exact Or.inl (a2 i hi)
      · exact Or.inr (b2 i hi)

theorem ReprRoots.split {hp : Heap H} {rs : List Nat} {ts : List (Option (CTree H))}
    {owned : List Nat} {lv : List (H × Nat)} (h : ReprRoots hp rs ts owned lv) (k : Nat)
    (t : Option (CTree H)) (hk : ts[k]? = some t) :
    ∃ rs1 r rs2 ts1 ts2 o1 fp o2 l1 lk l2, rs = rs1 ++ r :: rs2 ∧ ts = ts1 ++ t :: ts2 ∧
      owned = o1 ++ (r :: fp ++ o2) ∧ lv = l1 ++ (lk ++ l2) ∧ rs1.length = k ∧ ts1.length = k ∧
      ReprRoots hp rs1 ts1 o1 l1 ∧ ReprRoot hp r t fp lk ∧ ReprRoots hp rs2 ts2 o2 l2 := by
  have hlt : k < ts.length := by
    rcases Nat.lt_or_ge k ts.length with h' | h'
    · exact h'
    · rw [List.getElem?_eq_none h'] at hk; cases hk
  have e : ts = ts.take k ++ t :: ts.drop (k + 1) := by
    have h1 : ts.drop k = t :: ts.drop (k + 1) := by
      rw [List.drop_eq_getElem_cons hlt]
      congr 1
      rw [List.getElem?_eq_getElem hlt] at hk
      exact Option.some.inj hk
    rw [← h1, List.take_append_drop]
  rw [e] at h
  obtain ⟨rs1, rs2', o1, o2', l1, l2', e1, e2, e3, h1, h2⟩ := h.append_inv
  cases h2 with
  | @cons r _ fp lk rs2 _ o2 l2 ha hb =>
    refine ⟨rs1, r, rs2, ts.take k, ts.drop (k + 1), o1, fp, o2, l1, lk, l2, e1, e, ?_, e3, ?_, ?_,
      h1, ha, hb⟩
    · rw [e2]
    · have := h1.length_eq
      rw [this, List.length_take]; omega
    · rw [List.length_take]; omega

theorem subs_walk : ∀ (t : CTree H) (R O : Nat), depth t ≤ R → ∀ x ∈ subs t R O,
    childWalk t (R - x.1.1) x.1.2 = some x.2 := by
  intro t R O hd x hx
  obtain ⟨k, hk, _, hw⟩ := PollardLookup.subs_walk t R O hd x hx
  rw [← hk, Nat.add_sub_cancel_left]
  exact hw

end UtreexoVerif.Proofs.PollardHeap
