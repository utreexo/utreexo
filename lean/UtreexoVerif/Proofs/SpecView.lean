/-
  The specification forest as the `ForestView` that soundness of `calculateHashes`/`Verify`
  (Props/C03) is stated against: `nodeAt p = F.nodeAt (dec p)`, where `dec h` inverts the position
  encoding `Spec.enc h`; `rootPosition`, `rootIdxOnRow` (as `Model.rootIdxOfRow`), `maxPositionAtRow`,
  `TreeRows` of utils.go in `(row, offset)` terms.
-/
import UtreexoVerif.Spec.View
import UtreexoVerif.Proofs.SpecNodes
import UtreexoVerif.Props.C16b
import UtreexoVerif.Proofs.RowFacts
import UtreexoVerif.Proofs.RootIdx

namespace UtreexoVerif.Proofs.SpecView
open UtreexoVerif.GoInt Spec Hasher Model
open UtreexoVerif.Proofs.SpecNodes UtreexoVerif.Proofs.SpecViewX

/-- inverse of `Spec.enc h`: `none` for values that encode no position of a forest allocated
for `h` rows (`2^(h+1) - 1` and above) -/
def dec : Nat → Nat → Option Pos
  | 0, p => if p = 0 then some (0, 0) else none
  | h+1, p =>
    if p < 2 ^ (h + 1) then some (0, p)
    else (dec h (p - 2 ^ (h + 1))).map (fun q => (q.1 + 1, q.2))

theorem enc_zero_row (h o : Nat) : Spec.enc h (0, o) = o := by
  rw [enc_val]; simp

theorem enc_succ {h r o : Nat} (hr : r ≤ h) :
    Spec.enc (h + 1) (r + 1, o) = 2 ^ (h + 1) + Spec.enc h (r, o) := by
  have f := enc_facts hr
  rw [enc_val, enc_val, show h + 1 + 1 - (r + 1) = h + 1 - r by omega, two_pow_succ' (h + 1)]
  omega

theorem dec_enc : ∀ (h r o : Nat), r ≤ h → o < 2 ^ (h - r) → dec h (Spec.enc h (r, o)) = some (r, o) := by
  intro h
  induction h with
  | zero =>
    intro r o hr ho
    have : r = 0 := by omega
    subst this
    have : o = 0 := by simpa using ho
    subst this
    rfl
  | succ h ih =>
    intro r o hr ho
    cases r with
    | zero =>
      rw [enc_zero_row]
      unfold dec
      rw [if_pos (by simpa using ho)]
    | succ r =>
      have hr' : r ≤ h := by omega
      rw [enc_succ hr']
      unfold dec
      rw [if_neg (by omega), Nat.add_sub_cancel_left,
        ih r o hr' (by rwa [show h + 1 - (r + 1) = h - r by omega] at ho)]
      rfl

theorem dec_some : ∀ (h p r o : Nat), dec h p = some (r, o) →
    r ≤ h ∧ o < 2 ^ (h - r) ∧ Spec.enc h (r, o) = p := by
  intro h
  induction h with
  | zero =>
    intro p r o hd
    unfold dec at hd
    split at hd
    · injection hd with hd
      injection hd with h1 h2
      subst h1 h2
      rename_i hp
      subst hp
      exact ⟨Nat.le_refl _, by simp, rfl⟩
    · simp at hd
  | succ h ih =>
    intro p r o hd
    unfold dec at hd
    split at hd
    · injection hd with hd
      injection hd with h1 h2
      subst h1 h2
      rename_i hp
      exact ⟨Nat.zero_le _, by simpa using hp, enc_zero_row _ _⟩
    · rename_i hp
      cases hq : dec h (p - 2 ^ (h + 1)) with
      | none => rw [hq] at hd; simp at hd
      | some q =>
        rw [hq] at hd
        simp only [Option.map_some, Option.some.injEq, Prod.mk.injEq] at hd
        obtain ⟨h1, h2⟩ := hd
        obtain ⟨a, b, c⟩ := ih _ q.1 q.2 hq
        subst h1 h2
        refine ⟨by omega, by rwa [show h + 1 - (q.1 + 1) = h - q.1 by omega], ?_⟩
        rw [enc_succ a, c]
        omega

theorem dec_top (h : Nat) : dec h (2 ^ (h + 1) - 1) = none := by
  cases hd : dec h (2 ^ (h + 1) - 1) with
  | none => rfl
  | some q =>
    obtain ⟨a, b, c⟩ := dec_some h _ q.1 q.2 hd
    have := enc_lt_aux a b
    omega

theorem forestRows_le_63 {n : Nat} (h : n < 2 ^ 63) : forestRows n ≤ 63 :=
  forestRows_le (Nat.le_of_lt h)

theorem testBit_le_forestRows {n h : Nat} (hb : n.testBit h = true) : h ≤ forestRows n :=
  (rootPos_offset_lt (forestRows_spec_le n) hb).1

theorem rootOffset_lt {n h : Nat} (hb : n.testBit h = true) :
    2 * (n >>> (h + 1)) < 2 ^ (forestRows n - h) :=
  (rootPos_offset_lt (forestRows_spec_le n) hb).2

theorem rootPosition_enc {n tr h : Nat} (htr : tr ≤ 63) (hh : h ≤ tr) (hn : n < 2 ^ (tr + 1)) :
    rootPosition (BitVec.ofNat 64 n) (H8 h) (H8 tr) = encU tr h (2 * (n >>> (h + 1))) := by
  have h64 : n < 2 ^ 64 := Nat.lt_of_lt_of_le hn (two_pow_le_of_le (by omega))
  rw [Props.C16.rootPosition_enc htr hh _ (by rw [toNat_ofNat64_of_lt h64]; exact hn),
    toNat_ofNat64_of_lt h64]
  rfl

theorem testBit_of_rootExists {n h : Nat} (hn : n < 2 ^ 64) (hh : h ≤ 63)
    (hx : rootExistsOnRow (BitVec.ofNat 64 n) (H8 h) = true) : n.testBit h = true := by
  rwa [rootExistsOnRow_eq, toNat_ofNat64_of_lt hn, toNat_H8 hh] at hx

theorem treeRows_mem_of_bit {n h : Nat} (hn : n < 2 ^ 64) (hb : n.testBit h = true) :
    h ∈ treeRows n := by
  exact Spec.mem_treeRows.2 ⟨Nat.le_of_lt (testBit_lt_of_lt hn hb), hb⟩

theorem rootIdxOfRow_idxOf {n h : Nat} (hn : n < 2 ^ 64) (hh : h ≤ 63) (hb : n.testBit h = true) :
    rootIdxOfRow (BitVec.ofNat 64 n) (H8 h) = (treeRows n).idxOf h := by
  have hz : ∀ j, h + (64 - h) < j → n.testBit j = false := fun j hj =>
    Nat.testBit_lt_two_pow (Nat.lt_of_lt_of_le hn (two_pow_le_of_le (by omega)))
  have e := cntBits_add_zero hz h
  rw [show 64 - h + h = 64 by omega] at e
  have e' := idxOf_treeRowsFrom hb (64 - h)
  rw [show h + (64 - h) = 64 by omega] at e'
  unfold rootIdxOfRow treeRows
  rw [toNat_H8 hh, ← shr_eq, onesCount64_shr, Int.toNat_natCast, toNat_ofNat64_of_lt hn, e, e']

theorem treeRows_getElem {n h : Nat} (hn : n < 2 ^ 64) (hh : h ≤ 63) (hb : n.testBit h = true) :
    (treeRows n)[rootIdxOfRow (BitVec.ofNat 64 n) (H8 h)]? = some h := by
  have hm := treeRows_mem_of_bit hn hb
  rw [rootIdxOfRow_idxOf hn hh hb, List.getElem?_eq_getElem (List.idxOf_lt_length_iff.2 hm),
    List.getElem_idxOf]

theorem maxPositionAtRow_le {tr : Nat} (htr : tr ≤ 63) (row : U8) (N : U64)
    (hN : N.toNat ≤ 2 ^ tr) :
    (maxPositionAtRow row (H8 tr) N).1.toNat ≤ 2 ^ (tr + 1) - 2 := by
  have h := RowFacts.maxPositionAtRow_le row (H8 tr) N
  rw [toNat_H8 htr] at h
  exact h htr hN

theorem treeRows_eq {n : Nat} (hn : n < 2 ^ 63) :
    TreeRows (BitVec.ofNat 64 n) = H8 (forestRows n) := treeRows_ofNat (Nat.le_of_lt hn)

theorem row_eq_H8 {row : U8} {tr : Nat} (htr : tr ≤ 63) (hle : row ≤ H8 tr) :
    row = H8 row.toNat ∧ row.toNat ≤ tr := by
  rw [BitVec.le_def, toNat_H8 htr] at hle
  exact ⟨U8_eq_H8 row, hle⟩

section
set_option linter.unusedSectionVars false
variable {H : Type} [DecidableEq H] [Hasher H]

def viewNodeAt (F : Forest H) (p : U64) : Option H := (dec F.rows p.toNat).bind F.nodeAt

theorem viewNodeAt_encU' {F : Forest H} (hn : F.numLeaves ≤ 2 ^ 63) {r o : Nat}
    (hr : r ≤ F.rows) (ho : o < 2 ^ (F.rows - r)) :
    viewNodeAt F (encU F.rows r o) = F.nodeAt (r, o) := by
  have htr : F.rows ≤ 63 := forestRows_le hn
  unfold viewNodeAt
  rw [toNat_encU htr hr ho, dec_enc _ _ _ hr ho]
  rfl

theorem viewNodeAt_eq_some {F : Forest H} {p : U64} {h : H} (hv : viewNodeAt F p = some h) :
    ∃ r o, r ≤ F.rows ∧ o < 2 ^ (F.rows - r) ∧ p = encU F.rows r o ∧ F.nodeAt (r, o) = some h := by
  unfold viewNodeAt at hv
  cases hd : dec F.rows p.toNat with
  | none => rw [hd] at hv; simp at hv
  | some q =>
    rw [hd] at hv
    obtain ⟨a, b, c⟩ := dec_some _ _ q.1 q.2 hd
    refine ⟨q.1, q.2, a, b, ?_, hv⟩
    apply BitVec.eq_of_toNat_eq
    unfold encU
    rw [c, BitVec.toNat_ofNat, Nat.mod_eq_of_lt p.isLt]

/-- the primed statements take `≤ 2 ^ 63` leaves (what `specViewX` asks), the unprimed ones
`< 2 ^ 63` (what `specView` asks) -/
theorem view_root_ok' (F : Forest H) (hn : F.numLeaves ≤ 2 ^ 63) :
    let N : U64 := BitVec.ofNat 64 F.numLeaves
    ∀ (row : U8) (h : H), row ≤ TreeRows N → rootExistsOnRow N row = true →
      F.roots[rootIdxOfRow N row]? = some h →
      viewNodeAt F (rootPosition N row (TreeRows N)) = some h := by
  intro N row h hle hex hroot
  have htr : F.rows ≤ 63 := forestRows_le hn
  have hN : TreeRows N = H8 F.rows := treeRows_ofNat hn
  rw [hN] at hle ⊢
  obtain ⟨hrow, hk⟩ := row_eq_H8 htr hle
  generalize row.toNat = k at hrow hk
  subst hrow
  have hn64 : F.numLeaves < 2 ^ 64 := by omega
  have hb := testBit_of_rootExists hn64 (by omega) hex
  have hidx := treeRows_getElem hn64 (show k ≤ 63 by omega) hb
  rw [SpecNodes.roots_eq, List.getElem?_map, hidx] at hroot
  simp only [Option.map_some, Option.some.injEq] at hroot
  subst hroot
  have hle2 : F.numLeaves ≤ 2 ^ F.rows := forestRows_spec_le F.numLeaves
  have hlt : F.numLeaves < 2 ^ (F.rows + 1) := by
    have := two_pow_succ' F.rows
    have := Nat.two_pow_pos F.rows
    omega
  rw [rootPosition_enc htr hk hlt, viewNodeAt_encU' hn hk (rootOffset_lt hb)]
  exact nodeAt_rootPos F (List.mem_of_getElem? hidx)

theorem parent_top {tr : Nat} (htr : tr ≤ 63) :
    (Parent (encU tr tr 0) (H8 tr)).toNat = 2 ^ (tr + 1) - 1 := by
  have f := two_pow_succ' tr
  have g := Nat.two_pow_pos tr
  have e : Spec.enc tr (tr, 0) = 2 ^ (tr + 1) - 2 := by
    rw [enc_val, show tr + 1 - tr = 1 by omega]; omega
  unfold Parent
  rw [BitVec.toNat_or, toNat_shr, toNat_H8 htr, toNat_one_shl htr,
    toNat_encU htr (Nat.le_refl _) (by simp), e,
    two_pow_or_eq_add (by omega)]
  omega

theorem view_children_ok_x (F : Forest H) (hn : F.numLeaves ≤ 2 ^ 63) :
    let N : U64 := BitVec.ofNat 64 F.numLeaves
    ∀ (p : U64) (row : U8) (a b : H), row ≤ TreeRows N →
      p ≤ (maxPositionAtRow row (TreeRows N) N).1 →
      viewNodeAt F (Parent p (TreeRows N)) = some (ph a b) → a ≠ zero → b ≠ zero →
      (viewNodeAt F (leftSib p) = some a ∧ viewNodeAt F (rightSib p) = some b ∧
          (a, b) ∈ F.nodePairs) ∨ ForestBad F a b := by
  intro N p row a b _ hp hnode _ _
  have htr : F.rows ≤ 63 := forestRows_le hn
  have hN : TreeRows N = H8 F.rows := treeRows_ofNat hn
  rw [hN] at hp hnode
  have hle2 : F.numLeaves ≤ 2 ^ F.rows := forestRows_spec_le F.numLeaves
  have hNn : N.toNat ≤ 2 ^ F.rows := by
    show (BitVec.ofNat 64 F.numLeaves).toNat ≤ _
    rw [toNat_ofNat64_of_lt (by omega)]; exact hle2
  have hpmax : p.toNat ≤ 2 ^ (F.rows + 1) - 2 :=
    Nat.le_trans (BitVec.le_def.1 hp) (maxPositionAtRow_le htr row N hNn)
  obtain ⟨r, o, hr, ho, he⟩ := enc_surjective (x := p.toNat) (h := F.rows)
    (by have := Nat.two_pow_pos F.rows; rw [Nat.pow_succ] at hpmax ⊢; omega)
  have hpe : p = encU F.rows r o := by
    apply BitVec.eq_of_toNat_eq
    rw [toNat_encU htr hr ho, he]
  subst hpe
  rcases Nat.lt_or_ge r F.rows with hlt | hge
  · rw [Props.C16.parent_enc htr hlt ho] at hnode
    have g := enc_facts_succ hlt
    have ho2 : o / 2 < 2 ^ (F.rows - (r + 1)) := by omega
    rw [viewNodeAt_encU' hn (by omega) ho2] at hnode
    rcases nodeAt_children_x hnode with ⟨h1, h2, h3⟩ | hbad
    · left
      rw [Props.C16.leftSib_enc htr hr ho, Props.C16.rightSib_enc htr hr ho,
        viewNodeAt_encU' hn hr (by omega), viewNodeAt_encU' hn hr (by omega)]
      exact ⟨h1, h2, h3⟩
    · exact Or.inr hbad
  · have hrt : r = F.rows := by omega
    subst hrt
    have ho0 : o = 0 := by simpa using ho
    subst ho0
    unfold viewNodeAt at hnode
    rw [parent_top htr, dec_top] at hnode
    simp at hnode

theorem view_children_ok (F : Forest H) (hF : LeafOK F) (hn : F.numLeaves < 2 ^ 63) (cr : CR H) :
    let N : U64 := BitVec.ofNat 64 F.numLeaves
    ∀ (p : U64) (row : U8) (a b : H), row ≤ TreeRows N →
      p ≤ (maxPositionAtRow row (TreeRows N) N).1 →
      viewNodeAt F (Parent p (TreeRows N)) = some (ph a b) → a ≠ zero → b ≠ zero →
      viewNodeAt F (leftSib p) = some a ∧ viewNodeAt F (rightSib p) = some b := by
  intro N p row a b hrow hp hnode ha hb
  rcases view_children_ok_x F (Nat.le_of_lt hn) p row a b hrow hp hnode ha hb with ⟨h1, h2, _⟩ | hbad
  · exact ⟨h1, h2⟩
  · exact absurd hbad (not_forestBad cr.inj cr.nonzero hF ha hb)

theorem view_root_ok (F : Forest H) (hn : F.numLeaves < 2 ^ 63) :
    let N : U64 := BitVec.ofNat 64 F.numLeaves
    ∀ (row : U8) (h : H), row ≤ TreeRows N → rootExistsOnRow N row = true →
      F.roots[rootIdxOfRow N row]? = some h →
      viewNodeAt F (rootPosition N row (TreeRows N)) = some h :=
  view_root_ok' F (Nat.le_of_lt hn)

def specView (F : Forest H) (hF : LeafOK F) (hn : F.numLeaves < 2 ^ 63) (cr : CR H) :
    ForestView H (BitVec.ofNat 64 F.numLeaves) F.roots where
  nodeAt := viewNodeAt F
  root_ok := view_root_ok F hn
  children_ok := view_children_ok F hF hn cr

theorem specView_nodeAt (F : Forest H) (hF : LeafOK F) (hn : F.numLeaves < 2 ^ 63) (cr : CR H)
    (p : U64) : (specView F hF hn cr).nodeAt p = (dec F.rows p.toNat).bind F.nodeAt := rfl

theorem specView_nodeAt_encU (F : Forest H) (hF : LeafOK F) (hn : F.numLeaves < 2 ^ 63)
    (cr : CR H) {r o : Nat} (hr : r ≤ F.rows) (ho : o < 2 ^ (F.rows - r)) :
    (specView F hF hn cr).nodeAt (encU F.rows r o) = F.nodeAt (r, o) :=
  viewNodeAt_encU' (Nat.le_of_lt hn) hr ho

theorem specView_nodeAt_none (F : Forest H) (hF : LeafOK F) (hn : F.numLeaves < 2 ^ 63)
    (cr : CR H) {p : U64} (hp : dec F.rows p.toNat = none) :
    (specView F hF hn cr).nodeAt p = none := by
  rw [specView_nodeAt, hp]; rfl

end
end UtreexoVerif.Proofs.SpecView
