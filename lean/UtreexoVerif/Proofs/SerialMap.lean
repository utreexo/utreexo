/-
  Property C13 for `MapPollard.Write` / `MapPollard.Read`.  On what `Write` wrote: decoding of the
  encoded record lists through any chunking, strict prefixes (`mapRead_spec` and its readings), the
  failing writer (`mapWrite_spec`).  On ARBITRARY streams, valid or damaged: `mapRead_any`, with its
  projections `mapRead_post` (what `Read` accepts passes its sanity check), `mapRead_total`,
  `mapRead_chunking`.
-/
import UtreexoVerif.Proofs.Serial
namespace UtreexoVerif.Proofs.Serial
open Model.Serial
set_option linter.unusedSectionVars false
variable {H : Type} [DecidableEq H] [HashBytes H]

theorem encCached_length (ok : HashBytesOK H) (e : H × U64) : (encCached e).length = 40 := by
  simp [encCached, ok.len, le64_length]

theorem encNodeRec_length (ok : HashBytesOK H) (e : U64 × H × Bool) : (encNodeRec e).length = 41 := by
  simp [encNodeRec, ok.len, le64_length]

theorem flatMap_length_const {α β : Type} (f : α → List β) (c : Nat) (h : ∀ a, (f a).length = c) :
    ∀ l : List α, (l.flatMap f).length = c * l.length := by
  intro l
  induction l with
  | nil => simp
  | cons a l ih => simp [List.flatMap_cons, h, ih, Nat.mul_add]; omega

/-- what the two record loops of `MapPollard.Read` return: the records put over what was there -/
def RecsRead {κ ν : Type} [DecidableEq κ] (c recs : List (κ × ν)) (n : Nat) (rest : List Byte)
    (x : Res (List (κ × ν) × Reader)) : Prop :=
  ∃ r', x = ⟨n, .ok (putRecs c recs, r')⟩ ∧ r'.data = rest

theorem readCached_spec (ok : HashBytesOK H) : ∀ (recs : List (H × U64)) (r : Reader) (c : List (H × U64))
    (total : Nat), Reads (readCached recs.length r c total) total r.data (recs.flatMap encCached)
      (RecsRead c recs (total + (recs.flatMap encCached).length))
  | [], r, c, total => Reads.done ⟨r, by simp [readCached, putRecs], rfl⟩
  | (k, v) :: recs, r, c, total => by
    rw [List.length_cons, readCached, List.flatMap_cons, encCached, List.append_assoc]
    refine Reads.field (ok.len k) (Nat.le_refl _) fun r1 _ => ?_
    refine Reads.field (le64_length v) (by omega) fun r2 _ => ?_
    rw [ok.rt, unle64_le64]
    refine (readCached_spec ok recs r2 (assocPut c k v) (total + 32 + 8)).mono fun rest ⟨r', hx, hr⟩ => ⟨r', ?_, hr⟩
    rw [hx]
    simp only [List.length_append, ok.len, le64_length, Nat.add_assoc]
    rfl

theorem readNodes_spec (ok : HashBytesOK H) : ∀ (recs : List (U64 × H × Bool)) (r : Reader)
    (ns : List (U64 × H × Bool)) (total : Nat),
    Reads (readNodes recs.length r ns total) total r.data (recs.flatMap encNodeRec)
      (RecsRead ns recs (total + (recs.flatMap encNodeRec).length))
  | [], r, ns, total => Reads.done ⟨r, by simp [readNodes, putRecs], rfl⟩
  | (k, h, rem) :: recs, r, ns, total => by
    have hl : (toBytes h ++ [flag rem]).length = 33 := by simp [ok.len]
    rw [List.length_cons, readNodes, List.flatMap_cons, encNodeRec, List.append_assoc]
    generalize hy : readFull r 8 = y
    revert y
    refine Reads.ofReadFull (le64_length k) (fun r1 _ => ?_) (fun _ => ⟨_, rfl, Nat.zero_le _⟩)
      (fun _ _ => ⟨_, rfl, Nat.le_add_left _ _⟩)
    dsimp only
    refine Reads.field hl (by omega) fun r2 _ => ?_
    have ht : (toBytes h ++ [flag rem]).take 32 = toBytes h := by
      rw [List.take_append_of_le_length (by rw [ok.len]; omega), List.take_of_length_le (by rw [ok.len]; omega)]
    have hdr : (toBytes h ++ [flag rem]).drop 32 = [flag rem] := by
      rw [List.drop_append_of_le_length (by rw [ok.len]; omega), List.drop_of_length_le (by rw [ok.len]; omega)]; rfl
    simp only [unle64_le64, ht, hdr, ok.rt, List.headD_cons, flag_eq_one]
    refine (readNodes_spec ok recs r2 (assocPut ns k (h, rem)) (total + 8 + 33)).mono fun rest ⟨r', hx, hr⟩ => ⟨r', ?_, hr⟩
    rw [hx]
    simp only [List.length_append, hl, le64_length, Nat.add_assoc]
    rfl

theorem loopCount_len {n : Nat} (h : n < 2 ^ 63) : loopCount (BitVec.ofNat 64 n) = n := by
  unfold loopCount
  rw [BitVec.toNat_ofNat, Nat.mod_eq_of_lt (by omega), if_pos h]

/-- what the round-trip theorem assumes of a `MapPollard` state: the two association lists
come from Go maps (distinct keys), their sizes fit Go's `int`, and every cached leaf has its
node (the invariant `Read` re-checks) -/
structure MapOK (m : MapSt H) : Prop where
  cachedKeys : (m.cached.map (·.1)).Nodup
  nodeKeys : (m.nodes.map (·.1)).Nodup
  cachedSmall : m.cached.length < 2 ^ 63
  nodesSmall : m.nodes.length < 2 ^ 63
  sane : sanityOk m.cached m.nodes = true

theorem encodeMap_length (ok : HashBytesOK H) (m : MapSt H) :
    (encodeMap m).length = 25 + 40 * m.cached.length + 41 * m.nodes.length := by
  unfold encodeMap
  simp only [List.length_append, le64_length, List.length_singleton,
    flatMap_length_const encCached 40 (encCached_length ok), flatMap_length_const encNodeRec 41 (encNodeRec_length ok)]
  omega

def MapRestored (m m0 : MapSt H) (x : Res (MapSt H)) : Prop :=
  x = if sanityOk (putRecs m0.cached m.cached) (putRecs m0.nodes m.nodes) then
      ⟨(encodeMap m).length, .ok (MapSt.mk m.totalRows m.numLeaves
        (putRecs m0.cached m.cached) (putRecs m0.nodes m.nodes))⟩
    else ⟨8, .err⟩

theorem mapRead_spec (ok : HashBytesOK H) (m : MapSt H) (hc : m.cached.length < 2 ^ 63)
    (hn : m.nodes.length < 2 ^ 63) (m0 : MapSt H) (r : Reader) :
    Reads (mapRead m0 r) 0 r.data (encodeMap m) (fun _ x => MapRestored m m0 x) := by
  rw [mapRead, encodeMap]
  simp only [List.append_assoc]
  refine Reads.field (p := [_]) rfl (Nat.le_refl _) fun r1 _ => ?_
  refine Reads.field (le64_length _) (by omega) fun r2 _ => ?_
  refine Reads.field (le64_length _) (by omega) fun r3 _ => ?_
  rw [unle64_le64, loopCount_len hc]
  have hx := readCached_spec ok m.cached r3 m0.cached (0 + 1 + 8 + 8)
  generalize readCached (H := H) _ r3 _ _ = x at hx ⊢
  revert x
  refine Reads.ofCall (fun n t h => ?_) (fun rest x _ hq => ?_)
  · exact ⟨_, rfl, by omega⟩
  obtain ⟨r4, rfl, rfl⟩ := hq
  dsimp only
  refine Reads.field (le64_length _) (by omega) fun r5 _ => ?_
  rw [unle64_le64, loopCount_len hn, ← List.append_nil (m.nodes.flatMap encNodeRec)]
  have hx := readNodes_spec ok m.nodes r5 m0.nodes (0 + 1 + 8 + 8 + (m.cached.flatMap encCached).length + 8)
  generalize readNodes (H := H) _ r5 _ _ = x at hx ⊢
  revert x
  refine Reads.ofCall (fun n t h => ?_) (fun rest x _ hq => ?_)
  · exact ⟨_, rfl, by omega⟩
  obtain ⟨r6, rfl, rfl⟩ := hq
  refine Reads.done ?_
  have hlen : 0 + 1 + 8 + 8 + (m.cached.flatMap encCached).length + 8 + (m.nodes.flatMap encNodeRec).length =
      (encodeMap m).length := by
    simp only [encodeMap, List.length_append, le64_length, List.length_singleton]
  rw [MapRestored, hlen, unle64_le64]
  dsimp only
  cases sanityOk (putRecs m0.cached m.cached) (putRecs m0.nodes m.nodes) <;> simp

/-- Reading what `Write` wrote into ANY receiver `m0` (the code does not clear the receiver's
maps): the stream's records are put over the receiver's entries (overwrite-union), and the
sanity check runs on the union. -/
theorem mapRead_encode_into (ok : HashBytesOK H) (m : MapSt H) (hc : m.cached.length < 2 ^ 63)
    (hn : m.nodes.length < 2 ^ 63) (m0 : MapSt H) (r : Reader) (hd : r.data = encodeMap m) :
    mapRead m0 r =
      if sanityOk (putRecs m0.cached m.cached) (putRecs m0.nodes m.nodes) then
        ⟨(encodeMap m).length, .ok (MapSt.mk m.totalRows m.numLeaves
          (putRecs m0.cached m.cached) (putRecs m0.nodes m.nodes))⟩
      else ⟨8, .err⟩ :=
  (mapRead_spec ok m hc hn m0 r).1 [] (by rw [hd, List.append_nil])

theorem mapRead_encode (ok : HashBytesOK H) (m : MapSt H) (hm : MapOK m) (m0 : MapSt H)
    (hc0 : m0.cached = []) (hn0 : m0.nodes = []) (r : Reader) (hd : r.data = encodeMap m) :
    mapRead m0 r = ⟨(encodeMap m).length, .ok m⟩ := by
  rw [mapRead_encode_into ok m hm.cachedSmall hm.nodesSmall m0 r hd, hc0, hn0,
    putRecs_fresh _ _ (by simpa using hm.cachedKeys), putRecs_fresh _ _ (by simpa using hm.nodeKeys)]
  simp [hm.sane]

theorem mapRead_prefix (ok : HashBytesOK H) (m : MapSt H) (hm : MapOK m) (m0 : MapSt H) (r : Reader) (t : Nat)
    (ht : t < (encodeMap m).length) (hd : r.data = (encodeMap m).take t) :
    (mapRead m0 r).out = .err ∧ (mapRead m0 r).n ≤ t := by
  obtain ⟨n, hx, hle⟩ := (mapRead_spec ok m hm.cachedSmall hm.nodesSmall m0 r).2 t ht hd
  rw [hx]
  exact ⟨rfl, by simpa using hle⟩

theorem writeCached_spec : ∀ (recs : List (H × U64)) (total : Nat) (w : Sink),
    Wrote (writeCached recs total w) total w (recs.flatMap encCached)
  | [], total, w => Wrote.done total w
  | (k, v) :: recs, total, w => by
    rw [writeCached, List.flatMap_cons, encCached, List.append_assoc]
    exact Wrote.wr fun w => Wrote.wr fun w => writeCached_spec recs _ w

theorem writeNodes_spec : ∀ (recs : List (U64 × H × Bool)) (total : Nat) (w : Sink),
    Wrote (writeNodes recs total w) total w (recs.flatMap encNodeRec)
  | [], total, w => Wrote.done total w
  | (k, h, rem) :: recs, total, w => by
    rw [writeNodes, List.flatMap_cons, encNodeRec, List.append_assoc]
    exact Wrote.wr fun w => Wrote.wr fun w => writeNodes_spec recs _ w

theorem mapWrite_spec (m : MapSt H) (w : Sink) : Wrote (mapWrite m w) 0 w (encodeMap m) := by
  rw [mapWrite, encodeMap]
  simp only [List.append_assoc]
  refine Wrote.wr fun w => Wrote.wr fun w => Wrote.wr fun w => ?_
  refine Wrote.call (writeCached_spec m.cached _ w) (fun w => ?_) (fun n hn => hn)
  exact Wrote.wr fun w => writeNodes_spec m.nodes _ w

theorem readCached_any : ∀ (k : Nat) (r1 r2 : Reader) (c : List (H × U64)) (total : Nat), r1.data = r2.data →
    Alike data2 (fun _ => True) (readCached k r1 c total) (readCached k r2 c total)
  | 0, r1, r2, c, total, h => Alike.ok (by simp only [data2, h]) trivial
  | k + 1, r1, r2, c, total, h => by
    rw [readCached, readCached]
    refine Alike.field h fun hb s1 t1 _ _ e1 => ?_
    refine Alike.field e1 fun pb s2 t2 _ _ e2 => ?_
    exact readCached_any k s2 t2 _ _ e2

theorem readNodes_any : ∀ (k : Nat) (r1 r2 : Reader) (ns : List (U64 × H × Bool)) (total : Nat), r1.data = r2.data →
    Alike data2 (fun _ => True) (readNodes k r1 ns total) (readNodes k r2 ns total)
  | 0, r1, r2, ns, total, h => Alike.ok (by simp only [data2, h]) trivial
  | k + 1, r1, r2, ns, total, h => by
    rw [readNodes, readNodes]
    generalize hy1 : readFull r1 8 = y1
    generalize hy2 : readFull r2 8 = y2
    revert y2
    revert y1
    refine Alike.ofReadFull h (fun pb s1 t1 _ _ e1 => ?_) (fun _ _ => Alike.err) (fun _ _ _ => Alike.err)
    dsimp only
    refine Alike.field e1 fun lb s2 t2 _ _ e2 => ?_
    exact readNodes_any k s2 t2 _ _ e2

theorem mapRead_any (m0 : MapSt H) (r1 r2 : Reader) (h : r1.data = r2.data) :
    Alike id (fun st => sanityOk st.cached st.nodes = true) (mapRead m0 r1) (mapRead m0 r2) := by
  rw [mapRead, mapRead]
  refine Alike.field h fun b0 s1 t1 _ _ e1 => ?_
  refine Alike.field e1 fun b1 s2 t2 _ _ e2 => ?_
  refine Alike.field e2 fun b2 s3 t3 _ _ e3 => ?_
  dsimp only
  have hx := readCached_any (loopCount (unle64 b2)) s3 t3 m0.cached (1 + 8 + 8) e3
  generalize readCached (H := H) _ s3 _ _ = x1 at hx ⊢
  generalize readCached (H := H) _ t3 _ _ = x2 at hx ⊢
  revert x1 x2
  refine Alike.call (fun n => Alike.err) fun n ⟨cached, s4⟩ ⟨cached', t4⟩ hv _ => ?_
  obtain ⟨rfl, e4⟩ := data2_eq hv
  dsimp only
  refine Alike.field e4 fun b3 s5 t5 _ _ e5 => ?_
  have hx := readNodes_any (loopCount (unle64 b3)) s5 t5 m0.nodes (n + 8) e5
  generalize readNodes (H := H) _ s5 _ _ = x1 at hx ⊢
  generalize readNodes (H := H) _ t5 _ _ = x2 at hx ⊢
  revert x1 x2
  refine Alike.call (fun n => Alike.err) fun n ⟨nodes, s6⟩ ⟨nodes', t6⟩ hw _ => ?_
  obtain ⟨rfl, _⟩ := data2_eq hw
  dsimp only
  split
  · exact Alike.err
  · rename_i hs
    exact Alike.ok rfl (by simpa using hs)

theorem mapRead_post (m0 : MapSt H) (r : Reader) :
    Post (mapRead m0 r) (fun st => sanityOk st.cached st.nodes = true) :=
  (mapRead_any m0 r r rfl).2

theorem mapRead_total (m0 : MapSt H) (r : Reader) :
    (mapRead m0 r).out ≠ .hang ∧ (mapRead m0 r).out ≠ .panic :=
  (mapRead_any m0 r r rfl).total

theorem mapRead_chunking (m0 : MapSt H) (r1 r2 : Reader) (h : r1.data = r2.data) :
    mapRead m0 r1 = mapRead m0 r2 :=
  (mapRead_any m0 r1 r2 h).eq

end UtreexoVerif.Proofs.Serial
