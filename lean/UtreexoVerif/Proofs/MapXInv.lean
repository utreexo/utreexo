/-
  `XInv fl m F`: the storage invariant of a map forest at the level of the model state, for both kinds of forest:
  `m` is allocated for at least `F.rows` rows, `m.full = fl`, the live leaves are hygienic, and the abstract state
  of `m` satisfies `GI fl` against the nodes of `F` with the cache as cached set.  `XInv false` is `SInv`,
  `XInv true` is `FInv`.
-/
import UtreexoVerif.Proofs.MapFull

namespace UtreexoVerif.Proofs.MapXInv
open Model Spec MapInv MapRep PForest
  PForestSpec MapSInv MapFull MapGI Hasher
set_option linter.unusedSectionVars false

variable {H : Type} [DecidableEq H] [Hasher H]

structure XInv (fl : Bool) (m : MapPollard H) (F : Forest H) : Prop where
  n_lt : F.numLeaves < 2 ^ 63
  n_eq : m.numLeaves = BitVec.ofNat 64 F.numLeaves
  rows_le : F.rows ≤ m.totalRows.toNat
  total_le : m.totalRows.toNat ≤ 63
  full : m.full = fl
  hyg : Hyg F
  abs : ∃ A C, Rep m m.totalRows.toNat A C ∧
    GI fl A C F.nodes (FRoot F) (fun x => (C x).isSome = true) (fun _ => False)

variable {fl : Bool} {m : MapPollard H} {F : Forest H}

theorem XInv.of_abs {T : Nat} {A : Pos → Option (Leaf H)} {C : H → Option Pos} (rep : Rep m T A C)
    (inv : GI fl A C F.nodes (FRoot F) (fun x => (C x).isSome = true) (fun _ => False))
    (hn : F.numLeaves < 2 ^ 63) (hne : m.numLeaves = BitVec.ofNat 64 F.numLeaves) (hrows : F.rows ≤ T)
    (hfull : m.full = fl) (hy : Hyg F) : XInv fl m F := by
  have hT : m.totalRows.toNat = T := by rw [rep.rows]; exact toNat_H8 rep.T_le
  exact { n_lt := hn, n_eq := hne, rows_le := by rw [hT]; exact hrows, total_le := by rw [hT]; exact rep.T_le,
          full := hfull, hyg := hy, abs := ⟨A, C, by rw [hT]; exact rep, inv⟩ }

theorem XInv.laws (nz : NZ H) (s : XInv fl m F) : Laws F.nodes (FRoot F) :=
  laws_forest nz F (by have := s.n_lt; omega) s.hyg

theorem xinv_false_iff : XInv false m F ↔ SInv m F := by
  constructor
  · intro s
    obtain ⟨A, C, rep, g⟩ := s.abs
    exact { n_lt := s.n_lt, n_eq := s.n_eq, rows_le := s.rows_le, total_le := s.total_le, full := s.full,
            hyg := s.hyg, abs := ⟨A, C, rep, gi_false_iff.1 g⟩ }
  · intro s
    obtain ⟨A, C, rep, g⟩ := s.abs
    exact { n_lt := s.n_lt, n_eq := s.n_eq, rows_le := s.rows_le, total_le := s.total_le, full := s.full,
            hyg := s.hyg, abs := ⟨A, C, rep, gi_false_iff.2 g⟩ }

theorem xinv_true_iff (nz : NZ H) : XInv true m F ↔ FInv m F := by
  constructor
  · intro s
    obtain ⟨A, C, rep, g⟩ := s.abs
    exact FInv.of_abs rep (fa_of_gi (s.laws nz) g) s.n_lt s.n_eq s.rows_le s.full s.hyg
  · intro s
    obtain ⟨A, C, rep, fa⟩ := s.abs
    exact XInv.of_abs rep (gi_of_fa (s.laws nz) fa) s.n_lt s.n_eq s.rows_le s.full s.hyg

theorem XInv.inv (nz : NZ H) (s : XInv fl m F) : Inv m F := by
  obtain ⟨A, C, rep, g⟩ := s.abs
  exact inv_of_gi nz rep g s.n_lt s.n_eq s.rows_le s.total_le s.full s.hyg

theorem XInv.cached_of_live (s : XInv true m F) {x : H} {t : Pos} (h : F.posOf x = some t) :
    m.hasCached x = true := by
  obtain ⟨A, C, rep, g⟩ := s.abs
  rw [rep.hasCached]; exact g.fullK rfl t x (Spec.posOf_some_mem h)

/-- the hypothesis `hcached` of `MapRemoveAll.xinv_remove`, in a full forest -/
theorem XInv.cached_of_canon (s : XInv true m F)
    {L : List H} {ts : List Pos} {ps : List H} (hc : F.canon L = some (ts, ps)) : ∀ x ∈ L, m.hasCached x = true := by
  intro x hx
  obtain ⟨_, hpos, _, _⟩ := SpecPlan.canon_spec hc
  obtain ⟨t, ht⟩ := hpos x hx
  exact s.cached_of_live ht

end UtreexoVerif.Proofs.MapXInv

section Axioms
open UtreexoVerif.Proofs.MapXInv
#print axioms xinv_false_iff
#print axioms xinv_true_iff
end Axioms
