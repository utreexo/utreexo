/-
  `deTwin` on the sorted canonical targets: what `MapPollard.remove` hands to `removeSingle`.
  The scan itself is `ProofUpdateDeTwin.deTwin_inv`; here its invariant is read in the vocabulary of
  the node list (`zinv_of_scan`), from which the order-of-removal facts `DT` follow.
-/
import UtreexoVerif.Proofs.PForestSpec
import UtreexoVerif.Proofs.SpecPlan
import UtreexoVerif.Proofs.MapSInv
import UtreexoVerif.Proofs.ProofUpdateDeTwin
import UtreexoVerif.Proofs.SpecSubs
import UtreexoVerif.Props.C16d


namespace UtreexoVerif.Proofs.MapDeTwin
open Model Spec MapLiftGeo PForest PForestSpec
set_option linter.unusedSectionVars false
variable {H : Type} [DecidableEq H] [Hasher H]

/-- `ds` are the detwinned deletion targets of the leaf list `L` in the forest `F`, in the order
in which `remove` processes them -/
structure DT (F : Forest H) (L : List H) (ds : List Pos) : Prop where
  node : ∀ d ∈ ds, ∃ h b, (d, h, b) ∈ F.nodes
  sub : ∀ d ∈ ds, ∀ t x, (t, x, true) ∈ F.nodes → Anc d t → x ∈ L
  cover : ∀ x ∈ L, ∃ d ∈ ds, ∃ t, (t, x, true) ∈ F.nodes ∧ Anc d t
  /-- a later target lies neither below nor above the parent of an earlier one (so it is neither
  moved nor changed when the earlier one is removed) -/
  sep : ds.Pairwise (fun a b => ¬ Anc (parent a) b ∧ ¬ Anc b (parent a))

def IsNode (N : List (Pos × H × Bool)) (d : Pos) : Prop := ∃ h b, (d, h, b) ∈ N

/-- the invariant of the scan of `deTwin` (`ProofUpdateDeTwin.Inv`, with the scanned part `pre`
free of siblings) in the vocabulary of the node list: `zinv_of_scan` -/
structure ZInv (N : List (Pos × H × Bool)) (L : List H) (pre suf : List Pos) : Prop where
  sorted : SSorted (pre ++ suf)
  node : ∀ d ∈ pre ++ suf, IsNode N d
  sub : ∀ d ∈ pre ++ suf, ∀ t x, (t, x, true) ∈ N → Anc d t → x ∈ L
  cover : ∀ x ∈ L, ∃ d ∈ pre ++ suf, ∃ t, (t, x, true) ∈ N ∧ Anc d t
  /-- every element has a leaf below it (it is not an empty root) -/
  live : ∀ d ∈ pre ++ suf, ∃ t x, (t, x, true) ∈ N ∧ Anc d t
  anti : ∀ a ∈ pre ++ suf, ∀ b ∈ pre ++ suf, Anc a b → a = b
  nosib : ∀ c ∈ pre, sib c ∉ pre ++ suf

theorem sep_of_final {l : List Pos} (hs : SSorted l) (hanti : ∀ a ∈ l, ∀ b ∈ l, Anc a b → a = b)
    (hns : ∀ a ∈ l, sib a ∉ l) :
    l.Pairwise (fun a b => ¬ Anc (parent a) b ∧ ¬ Anc b (parent a)) := by
  apply List.Pairwise.imp_of_mem _ hs
  intro a b ha hb hab
  have hne : a ≠ b := fun e => PLt_irrefl b (e ▸ hab)
  have hrow : a.1 ≤ b.1 := by rcases PLt_iff.1 hab with h | h <;> omega
  constructor
  · intro h
    rcases anc_parent_iff'.1 h with h1 | h1 | h1
    · have : (parent a).1 = a.1 + 1 := rfl
      have := hanti b hb a ha (by rw [h1]; exact anc_parent_self a)
      exact hne this.symm
    · exact hne (hanti a ha b hb h1)
    · have := h1.eq_of_row (by have := h1.1; rw [CalcGeo.sib_fst] at this ⊢; omega)
      exact hns a ha (this ▸ hb)
  · intro h
    exact hne (hanti b hb a ha (Anc.trans h (anc_parent_self a))).symm

theorem node_valid {F : Forest H} {T : Nat} (hrows : F.rows ≤ T) {d : Pos} (h : IsNode F.nodes d) :
    ValidH T d := by
  obtain ⟨x, b, hm⟩ := h
  exact MapInv.node_valid hrows hm

open ProofUpdateDeTwin SpecSubs CalcComplete in
/-- **the invariant of the scan, read on the node list**: "all leaves of the subtree at `d` are in
`L`" is "every leaf node under `d` is in `L`" (`SubsUnder.leaf_under` / `under_of_leaf`) -/
theorem zinv_of_scan {F : Forest H} {L : List H} {pre suf : List Pos} (inv : Inv F L (pre ++ suf))
    (ns : ∀ c ∈ pre, sib c ∉ pre ++ suf) : ZInv F.nodes L pre suf := by
  have hlive : ∀ d ∈ pre ++ suf, ∃ t x, (t, x, true) ∈ F.nodes ∧ Anc d t := by
    intro d hd
    obtain ⟨h, t, s, _⟩ := inv.fd d hd
    obtain ⟨x, hx⟩ := List.exists_mem_of_ne_nil _ (CTree.leaves_ne_nil t)
    obtain ⟨q, hq, hu⟩ := SubsUnder.under_of_leaf s hx
    exact ⟨q, x, hq, anc_iff_under.2 hu⟩
  refine ⟨inv.sorted.imp (fun {a b} h => (Sorted.posLt_iff a b).2 h), fun d hd => ?_,
    fun d hd q x hm ha => ?_, fun x hx => ?_, hlive, fun a ha b hb hab => ?_, ns⟩
  · obtain ⟨h, t, s, _⟩ := inv.fd d hd
    exact ⟨_, _, s.node_mem⟩
  · obtain ⟨h, t, s, hdel⟩ := inv.fd d hd
    exact (delT_eq_none_iff L t).1 hdel x (SubsUnder.leaf_under s hm (anc_iff_under.1 ha))
  · obtain ⟨T, hT, h, t, s, hxt⟩ := inv.cov x hx
    obtain ⟨q, hq, hu⟩ := SubsUnder.under_of_leaf s hxt
    exact ⟨T, hT, q, hq, anc_iff_under.2 hu⟩
  · -- a leaf under `b` lies under `a` as well: the two share a leaf
    obtain ⟨_, ta, sa, _⟩ := inv.fd a ha
    obtain ⟨_, tb, sb, _⟩ := inv.fd b hb
    obtain ⟨q, x, hq, hbq⟩ := hlive b hb
    exact inv.disj a ha b hb _ _ ta tb x sa sb
      (SubsUnder.leaf_under sa hq (anc_iff_under.1 (Anc.trans hab hbq)))
      (SubsUnder.leaf_under sb hq (anc_iff_under.1 hbq))

theorem canon_targets {F : Forest H} {L : List H} {ts : List Pos} {ps : List H}
    (hc : F.canon L = some (ts, ps)) :
    ts = ProofUpdateDeTwin.leafPositions F L ∧ ∀ x ∈ L, x ∈ F.liveLeaves := by
  obtain ⟨hts, hpos, _, _⟩ := SpecPlan.canon_spec hc
  refine ⟨hts, fun x hx => ?_⟩
  obtain ⟨p, hp⟩ := hpos x hx
  exact Spec.live_of_posOf hp

theorem sortPos_targets {F : Forest H} (hn : F.numLeaves ≤ 2 ^ 63) {L : List H} {ts : List Pos}
    {ps : List H} (hnd : L.Nodup) (hc : F.canon L = some (ts, ps)) :
    sortPos ts = Forest.sortDedup (ProofUpdateDeTwin.leafPositions F L) := by
  obtain ⟨hts, hlive⟩ := canon_targets hc
  subst hts
  exact eq_of_ssorted (sortPos_ssorted (ProofUpdateDeTwin.leafPositions_nodup hn hnd hlive))
    (sortDedup_ssorted _) (fun a => by rw [mem_sortPos, Sorted.mem_sortDedup])

/-- the list handed to `deTwin` by `getRootsAfterDel` (translation unconditional) -/
theorem translated_sorted {F : Forest H} {ts : List Pos} (hts : ∀ p ∈ ts, IsNode F.nodes p)
    {T : Nat} (hT : T ≤ 63) (hrows : F.rows ≤ T) :
    translatePositions (sortU64 (ts.map (encP F.rows))) (H8 F.rows) (H8 T) = (sortPos ts).map (encP T) := by
  have hr63 : F.rows ≤ 63 := Nat.le_trans hrows hT
  rw [sortU64_encP hr63 ts (fun p hp => node_valid (Nat.le_refl _) (hts p hp))]
  exact Props.C16.translatePositions_enc hr63 hT _ fun p hp =>
    have hp' := hts p (mem_sortPos.1 hp)
    ⟨node_valid (Nat.le_refl _) hp', node_valid hrows hp'⟩

theorem sorted_translated {F : Forest H} {ts : List Pos} (hts : ∀ p ∈ ts, IsNode F.nodes p)
    {T : Nat} (hT : T ≤ 63) (hrows : F.rows ≤ T) :
    (if H8 T ≠ H8 F.rows
      then translatePositions (sortU64 (ts.map (encP F.rows))) (H8 F.rows) (H8 T)
      else sortU64 (ts.map (encP F.rows))) = (sortPos ts).map (encP T) := by
  have hr63 : F.rows ≤ 63 := Nat.le_trans hrows hT
  by_cases e : T = F.rows
  · subst e
    rw [if_neg (fun h => h rfl), sortU64_encP hr63 ts (fun p hp => node_valid (Nat.le_refl _) (hts p hp))]
  · have hne : H8 T ≠ H8 F.rows := fun hc => e (H8_inj (by omega) (by omega) hc)
    rw [if_pos hne]
    exact translated_sorted hts hT hrows

open ProofUpdateDeTwin in
theorem deTwin_zinv (F : Forest H) (hn : F.numLeaves < 2 ^ 63)
    {L : List H} {ts : List Pos} {ps : List H} (hnd : L.Nodup) (hc : F.canon L = some (ts, ps))
    {T : Nat} (hT : T ≤ 63) (hrows : F.rows ≤ T) :
    ∃ ds : List Pos, ZInv F.nodes L ds [] ∧
      deTwin (if H8 T ≠ H8 F.rows
          then translatePositions (sortU64 (ts.map (encP F.rows))) (H8 F.rows) (H8 T)
          else sortU64 (ts.map (encP F.rows))) (H8 T) = ds.map (encP T) := by
  have hn' : F.numLeaves ≤ 2 ^ 63 := Nat.le_of_lt hn
  obtain ⟨hts, hlive⟩ := canon_targets hc
  have htsN : ∀ p ∈ ts, IsNode F.nodes p := fun p hp =>
    let ⟨_, _, s⟩ := SpecPlan.canon_targetsOK hc p hp; ⟨_, _, s.node_mem⟩
  obtain ⟨ds, h1, inv, hns⟩ := deTwin_inv hn' hnd hlive hrows hT
  refine ⟨ds, zinv_of_scan (by rw [List.append_nil]; exact inv) (by rw [List.append_nil]; exact hns), ?_⟩
  rw [sorted_translated htsN hT hrows, sortPos_targets hn' hnd hc]
  -- `CalcGeo.E` (of `deTwin_inv`) and `encP` (of the map files) unfold to the same term
  have h1 : deTwin (sortU64 ((leafPositions F L).map (CalcGeo.E T))) (H8 T) = ds.map (CalcGeo.E T) := h1
  rw [sortU64_map_E hT _ (fun p hp => ValidH.mono (leafPositions_valid hn' hlive p hp) hrows)
    (leafPositions_nodup hn' hnd hlive)] at h1
  exact h1

theorem ZInv.dt {F : Forest H} {L : List H} {ds : List Pos} (I : ZInv F.nodes L ds []) : DT F L ds := by
  have e := List.append_nil ds
  exact ⟨e ▸ I.node, e ▸ I.sub, e ▸ I.cover,
    sep_of_final (e ▸ I.sorted) (e ▸ I.anti) (fun a ha h => I.nosib a ha (e.symm ▸ h))⟩

theorem deTwin_spec_strong (F : Forest H) (hn : F.numLeaves < 2 ^ 63)
    {L : List H} {ts : List Pos} {ps : List H} (hnd : L.Nodup) (hc : F.canon L = some (ts, ps))
    {T : Nat} (hT : T ≤ 63) (hrows : F.rows ≤ T) :
    ∃ ds : List Pos, DT F L ds ∧ SSorted ds ∧ (∀ a ∈ ds, ∀ b ∈ ds, Anc a b → a = b) ∧
      (∀ a ∈ ds, sib a ∉ ds) ∧ (∀ d ∈ ds, ValidH T d) ∧
      deTwin (if H8 T ≠ H8 F.rows
          then translatePositions (sortU64 (ts.map (encP F.rows))) (H8 F.rows) (H8 T)
          else sortU64 (ts.map (encP F.rows))) (H8 T) = ds.map (encP T) := by
  obtain ⟨ds, I, heq⟩ := deTwin_zinv F hn hnd hc hT hrows
  have e := List.append_nil ds
  exact ⟨ds, I.dt, e ▸ I.sorted, e ▸ I.anti, fun a ha h => I.nosib a ha (e.symm ▸ h),
    fun d hd => node_valid hrows (I.node d (e.symm ▸ hd)), heq⟩

/-- the reading `MapUndoAll` uses (`NZ H` and `Hyg F` are at hand there; neither is used) -/
theorem deTwin_spec_live (_ : NZ H) (F : Forest H) (hn : F.numLeaves < 2 ^ 63) (_ : Hyg F)
    {L : List H} {ts : List Pos} {ps : List H} (hnd : L.Nodup) (hc : F.canon L = some (ts, ps))
    {T : Nat} (hT : T ≤ 63) (hrows : F.rows ≤ T) :
    ∃ ds : List Pos, DT F L ds ∧ (∀ d ∈ ds, ∃ t x, (t, x, true) ∈ F.nodes ∧ Anc d t) ∧
      (∀ d ∈ ds, ValidH T d) ∧
      deTwin (if H8 T ≠ H8 F.rows
          then translatePositions (sortU64 (ts.map (encP F.rows))) (H8 F.rows) (H8 T)
          else sortU64 (ts.map (encP F.rows))) (H8 T) = ds.map (encP T) := by
  obtain ⟨ds, I, heq⟩ := deTwin_zinv F hn hnd hc hT hrows
  have e := List.append_nil ds
  exact ⟨ds, I.dt, e ▸ I.live, fun d hd => node_valid hrows (I.node d (e.symm ▸ hd)), heq⟩

theorem deTwin_spec (F : Forest H) (hn : F.numLeaves < 2 ^ 63)
    {L : List H} {ts : List Pos} {ps : List H} (hnd : L.Nodup) (hc : F.canon L = some (ts, ps))
    {T : Nat} (hT : T ≤ 63) (hrows : F.rows ≤ T) :
    ∃ ds : List Pos, DT F L ds ∧
      deTwin (if H8 T ≠ H8 F.rows
          then translatePositions (sortU64 (ts.map (encP F.rows))) (H8 F.rows) (H8 T)
          else sortU64 (ts.map (encP F.rows))) (H8 T) = ds.map (encP T) := by
  obtain ⟨ds, I, heq⟩ := deTwin_zinv F hn hnd hc hT hrows
  exact ⟨ds, I.dt, heq⟩

namespace Example
open Props.C09.Example

/-- the hypotheses of `deTwin_spec` hold of the five-leaf forest `F5` (rows 3) in the allocation
`T = 63`, deleting all five leaves in a scrambled order -/
example : ∃ ts ps ds, F5.canon [T.leaf 3, T.leaf 0, T.leaf 4, T.leaf 2, T.leaf 1] = some (ts, ps) ∧
    DT F5 [T.leaf 3, T.leaf 0, T.leaf 4, T.leaf 2, T.leaf 1] ds ∧
    deTwin (if H8 63 ≠ H8 F5.rows
        then translatePositions (sortU64 (ts.map (encP F5.rows))) (H8 F5.rows) (H8 63)
        else sortU64 (ts.map (encP F5.rows))) (H8 63) = ds.map (encP 63) := by
  have hc : F5.canon [T.leaf 3, T.leaf 0, T.leaf 4, T.leaf 2, T.leaf 1] =
      some ([(0, 3), (0, 0), (0, 4), (0, 2), (0, 1)], []) := by decide +kernel
  obtain ⟨ds, h1, h2⟩ := deTwin_spec F5 (by decide) (by decide) hc (T := 63) (by decide)
    (by decide)
  exact ⟨_, _, ds, hc, h1, h2⟩

/-- … and the value: the root leaf `(0, 4)` and the root `(2, 0)` of the four-leaf tree (merges
on two levels) -/
example : deTwin (if H8 63 ≠ H8 F5.rows
      then translatePositions (sortU64 ([(0, 3), (0, 0), (0, 4), (0, 2), (0, 1)].map (encP F5.rows)))
        (H8 F5.rows) (H8 63)
      else sortU64 ([(0, 3), (0, 0), (0, 4), (0, 2), (0, 1)].map (encP F5.rows))) (H8 63) =
    [(0, 4), (2, 0)].map (encP 63) := by decide +kernel

/-- a partial deletion: leaves 1, 2, 3 of `F5` give the targets `(0, 1)` and `(1, 1)` -/
example : ∃ ts ps ds, F5.canon [T.leaf 3, T.leaf 1, T.leaf 2] = some (ts, ps) ∧
    DT F5 [T.leaf 3, T.leaf 1, T.leaf 2] ds ∧
    deTwin (sortU64 (ts.map (encP F5.rows))) (H8 F5.rows) = ds.map (encP F5.rows) ∧
    deTwin (sortU64 (ts.map (encP F5.rows))) (H8 F5.rows) = [(0, 1), (1, 1)].map (encP 3) := by
  have hc : F5.canon [T.leaf 3, T.leaf 1, T.leaf 2] = some ([(0, 3), (0, 1), (0, 2)], [T.leaf 0]) := by
    decide +kernel
  obtain ⟨ds, h1, h2⟩ := deTwin_spec F5 (by decide) (by decide) hc (T := F5.rows) (by decide)
    (Nat.le_refl _)
  rw [if_neg (fun h => h rfl)] at h2
  exact ⟨_, _, ds, hc, h1, h2, by decide +kernel⟩

/-- `deTwin` on raw positions of a 3-row forest: merges on two levels, and a merge whose parent
pairs up with an element in front of it (`[2, 3, 8] → [8, 9] → [12]`) -/
example : deTwin [0#64, 1#64, 2#64, 3#64] 3#8 = [12#64] ∧
    deTwin [0#64, 1#64, 2#64, 3#64, 4#64, 5#64] 3#8 = [10#64, 12#64] ∧
    deTwin [2#64, 3#64, 8#64] 3#8 = [12#64] ∧
    deTwin [1#64, 2#64, 5#64, 6#64] 3#8 = [1#64, 2#64, 5#64, 6#64] ∧
    deTwin [0#64, 1#64, 2#64, 3#64, 4#64, 5#64, 6#64, 7#64] 3#8 = [14#64] := by decide +kernel

end Example

end UtreexoVerif.Proofs.MapDeTwin
