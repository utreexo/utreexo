/-
  `MapPollard.remove` preserves the storage invariant of partial and of full forests (`xinv_remove`).
  During the loop the cache has already lost the deleted leaves, while the store still carries them: the
  invariant is stated for a VIRTUAL cached set `Q ⊇ dom CachedLeaves` (`GInv`).
-/
import UtreexoVerif.Proofs.PForestDel
import UtreexoVerif.Proofs.MapAddMerge
import UtreexoVerif.Proofs.MapRemoveLoops
import UtreexoVerif.Proofs.MapDeTwin
import UtreexoVerif.Proofs.MapXInv
open UtreexoVerif Model Spec Proofs MapInv MapRep MapLiftGeo PForest MapAInv MapLiftCore
open PForestSpec PForestDel MapSInv MapRemoveRep MapRemoveSteps MapRemoveLoops MapDeTwin MapGI MapXInv
  Hasher

namespace UtreexoVerif.Proofs.MapRemoveAll
set_option linter.unusedSectionVars false

variable {H : Type} [DecidableEq H] [Hasher H]

def leavesUnder (F : Forest H) (d : Pos) : List H :=
  (F.nodes.filter (fun e => e.2.2 && decide (Anc d e.1))).map (·.2.1)

theorem mem_leavesUnder {F : Forest H} {d : Pos} {x : H} :
    x ∈ leavesUnder F d ↔ ∃ t, (t, x, true) ∈ F.nodes ∧ Anc d t := by
  unfold leavesUnder
  rw [List.mem_map]
  constructor
  · rintro ⟨e, he, rfl⟩
    rw [List.mem_filter] at he
    obtain ⟨⟨t, y, f⟩, hm, hp⟩ := e, he.1, he.2
    simp only [Bool.and_eq_true, decide_eq_true_eq] at hp
    obtain ⟨rfl, ha⟩ := hp
    exact ⟨t, hm, ha⟩
  · rintro ⟨t, hm, ha⟩
    exact ⟨(t, x, true), List.mem_filter.2 ⟨hm, by simp [ha]⟩, rfl⟩

theorem mem_flatMap_leavesUnder {F : Forest H} {L : List H} {ds : List Pos} (hDT : DT F L ds) (x : H) :
    x ∈ ds.flatMap (leavesUnder F) ↔ x ∈ L := by
  simp only [List.mem_flatMap, mem_leavesUnder]
  constructor
  · rintro ⟨d, hd, t, ht, ha⟩; exact hDT.sub d hd t x ht ha
  · intro hx
    obtain ⟨d, hd, t, ht, ha⟩ := hDT.cover x hx
    exact ⟨d, hd, t, ht, ha⟩

theorem uncache_rep : ∀ (dels : List H) {m : MapPollard H} {T : Nat} {A : Pos → Option (Leaf H)}
    {C : H → Option Pos}, Rep m T A C →
    Rep (m.uncacheLeaves dels) T A (fun x => if x ∈ dels then none else C x) ∧
      (m.uncacheLeaves dels).numLeaves = m.numLeaves ∧ (m.uncacheLeaves dels).full = m.full := by
  intro dels
  induction dels with
  | nil =>
    intro m T A C rep
    refine ⟨rep.congr (fun _ => rfl) (fun x => by simp), rfl, rfl⟩
  | cons y ys ih =>
    intro m T A C rep
    have h1 := rep.delCached y
    obtain ⟨h2, h3, h4⟩ := ih h1
    have e : m.uncacheLeaves (y :: ys) = (m.delCached y).uncacheLeaves ys := rfl
    rw [e]
    refine ⟨h2.congr (fun _ => rfl) ?_, h3, h4⟩
    intro x
    simp only [List.mem_cons]
    by_cases hx : x ∈ ys
    · simp [hx]
    · by_cases hxy : x = y
      · simp [hxy]
      · simp [hx, hxy, upd_apply]

theorem allCached_iff {m : MapPollard H} {dels : List H} :
    m.allCached dels = true ↔ ∀ x ∈ dels, m.hasCached x = true := by
  unfold MapPollard.allCached
  rw [List.all_eq_true]

theorem not_anc_of_incomparable {p q t : Pos} (h1 : ¬ Anc p q) (h2 : ¬ Anc q p) (ha : Anc q t) : ¬ Anc p t := by
  intro hu
  by_cases hle : q.1 ≤ p.1
  · exact h1 (Anc.comparable ha hu hle)
  · exact h2 (Anc.comparable hu ha (Nat.le_of_not_le hle))

theorem froot_del (F : Forest H) (R : List H) : FRoot (F.delLeaves R) = FRoot F := by
  funext q
  unfold FRoot
  rw [numLeaves_delLeaves]

theorem laws_del (nz : NZ H) (F : Forest H) (hn : F.numLeaves < 2 ^ 64) (hy : Hyg F) (R : List H) :
    Laws (F.delLeaves R).nodes (FRoot F) := by
  have := laws_forest nz (F.delLeaves R) (by rw [numLeaves_delLeaves]; exact hn) (hyg_delLeaves hy R)
  rwa [froot_del] at this

theorem root_row_le {F : Forest H} {T : Nat} (L : Laws F.nodes (FRoot F)) (hT : F.rows ≤ T) {z : Pos}
    (hz : FRoot F z) : z.1 ≤ T := by
  obtain ⟨hz', bz, hzm⟩ := L.root_node z hz
  exact (MapInv.node_valid hT hzm).1

theorem sep_disj {a b : Pos} (h : ¬ Anc (parent a) b ∧ ¬ Anc b (parent a)) : ¬ Anc a b ∧ ¬ Anc b a := by
  constructor
  · intro ha; exact h.1 (Anc.trans (anc_parent_self a) ha)
  · intro ha
    by_cases e : b = a
    · exact h.1 (e ▸ anc_parent_self a)
    · exact h.2 (anc_parent_ne_iff.2 ⟨ha, e⟩)

theorem leaf_not_deleted {F : Forest H} (hn : F.numLeaves < 2 ^ 64) {Rl : List H} {t : Pos} {x : H}
    (hm : (t, x, true) ∈ (F.delLeaves Rl).nodes) : x ∉ Rl := by
  have h1 : x ∈ (F.delLeaves Rl).liveLeaves := by
    rw [← leaves_ofForest _ (by rw [numLeaves_delLeaves]; exact hn)]
    exact leaf_entry_mem (by rw [nodes_ofForest]; exact hm)
  rw [liveLeaves_delLeaves] at h1
  simpa using (List.mem_filter.1 h1).2

theorem persist (nz : NZ H) (F : Forest H) (hn : F.numLeaves < 2 ^ 64) (hy : Hyg F) {d : Pos} {h : H} {b : Bool}
    (hd : (d, h, b) ∈ F.nodes) {d' : Pos} (hs : ¬ Anc (parent d) d' ∧ ¬ Anc d' (parent d)) :
    (∀ h' b', (d', h', b') ∈ F.nodes → (d', h', b') ∈ (F.delLeaves (leavesUnder F d)).nodes) ∧
    (∀ t x, Anc d' t → ((t, x, true) ∈ (F.delLeaves (leavesUnder F d)).nodes ↔ (t, x, true) ∈ F.nodes)) := by
  cases hroot : isRootPos F.numLeaves d with
  | true =>
    obtain ⟨h1, h2⟩ := sep_disj hs
    have D := del_root F hn hy hroot (leavesUnder F d) (fun x => mem_leavesUnder)
    refine ⟨fun h' b' hm => (D _).2 (Or.inl ⟨h1, hm⟩), ?_⟩
    intro t x ha
    have hout : ¬ Anc d t := not_anc_of_incomparable h1 h2 ha
    constructor
    · intro hm
      rcases (D _).1 hm with ⟨_, hN⟩ | e
      · exact hN
      · simp only [Prod.mk.injEq] at e; exact absurd e.2.2 (by simp)
    · intro hm; exact (D _).2 (Or.inl ⟨hout, hm⟩)
  | false =>
    obtain ⟨h1, h2⟩ := hs
    obtain ⟨D1, D2, D3, D4⟩ := del_nonroot F hn hy hd hroot (leavesUnder F d) (fun x => mem_leavesUnder)
    have L := laws_forest nz F hn hy
    obtain ⟨hP, hPN, _⟩ := L.parent_node d h b hd (by unfold FRoot; rw [hroot]; simp)
    refine ⟨fun h' b' hm => D2 _ h1 h2 hm, ?_⟩
    intro t x ha
    have hout : ¬ Anc (parent d) t := not_anc_of_incomparable h1 h2 ha
    constructor
    · intro hm
      rcases D1 _ hm with ⟨_, _, hN⟩ | ⟨c, hc, he, _⟩ | ⟨_, _, hf, _⟩
      · exact hN
      · exfalso
        simp only at he
        apply hout
        rw [he, ← CalcGeo.parent_sib]; exact anc_parent_liftP hc
      · simp at hf
    · intro hm
      refine D2 _ hout ?_ hm
      intro hu
      have := L.leaf_below t x (parent d) hP false hm hPN hu
      exact hout (this ▸ Anc.refl _)

theorem targets_after (nz : NZ H) (F : Forest H) (hn : F.numLeaves < 2 ^ 64) (hy : Hyg F) {d : Pos} {h : H} {b : Bool}
    (hd : (d, h, b) ∈ F.nodes) {ds : List Pos} (hnode : ∀ d' ∈ ds, ∃ h' b', (d', h', b') ∈ F.nodes)
    (hsep : ∀ d' ∈ ds, ¬ Anc (parent d) d' ∧ ¬ Anc d' (parent d))
    {F1 : Forest H} (hF1 : F1 = F.delLeaves (leavesUnder F d)) :
    (∀ d' ∈ ds, ∃ h' b', (d', h', b') ∈ F1.nodes) ∧
    (∀ d' ∈ ds, ∀ t x, Anc d' t → ((t, x, true) ∈ F1.nodes ↔ (t, x, true) ∈ F.nodes)) ∧
    F1.delLeaves (ds.flatMap (leavesUnder F1)) = F.delLeaves ((d :: ds).flatMap (leavesUnder F)) ∧
    (∀ (Q : H → Prop) x, (Q x ∧ x ∉ (d :: ds).flatMap (leavesUnder F)) ↔
      ((Q x ∧ x ∉ leavesUnder F d) ∧ x ∉ ds.flatMap (leavesUnder F1))) := by
  subst hF1
  have pers := fun d' hd' => persist nz F hn hy hd (hsep d' hd')
  have hmemAll : ∀ x, x ∈ ds.flatMap (leavesUnder (F.delLeaves (leavesUnder F d))) ↔ x ∈ ds.flatMap (leavesUnder F) := by
    intro x
    simp only [List.mem_flatMap, mem_leavesUnder]
    constructor
    · rintro ⟨d', hd', t, ht, ha⟩; exact ⟨d', hd', t, ((pers d' hd').2 t x ha).1 ht, ha⟩
    · rintro ⟨d', hd', t, ht, ha⟩; exact ⟨d', hd', t, ((pers d' hd').2 t x ha).2 ht, ha⟩
  refine ⟨?_, fun d' hd' => (pers d' hd').2, ?_, ?_⟩
  · intro d' hd'
    obtain ⟨h', b', hm⟩ := hnode d' hd'
    exact ⟨h', b', (pers d' hd').1 h' b' hm⟩
  · rw [delLeaves_delLeaves]
    apply delLeaves_congr
    intro x
    rw [List.flatMap_cons, List.mem_append, List.mem_append, hmemAll]
  · intro Q x
    rw [List.flatMap_cons, List.mem_append, hmemAll]
    constructor
    · rintro ⟨h1, h2⟩; exact ⟨⟨h1, fun h => h2 (Or.inl h)⟩, fun h => h2 (Or.inr h)⟩
    · rintro ⟨⟨h1, h2⟩, h3⟩; exact ⟨h1, fun h => h.elim h2 h3⟩

theorem liftAll_eq_remove {A : Pos → Option (Leaf H)} {d : Pos} {node : Leaf H} (hA : A (sib d) = some node)
    (q : Pos) :
    liftA (sib d) (upd (upd (upd (clearBelow d A) d none) (sib d) none) (parent d) (some node)) q =
      liftAll (sib d) A q := by
  have hPσ : parent (sib d) = parent d := CalcGeo.parent_sib d
  -- the store before the lift agrees with `A` below the sibling and outside the subtree of the parent
  have hout : ∀ q, ¬ Anc (parent (sib d)) q →
      upd (upd (upd (clearBelow d A) d none) (sib d) none) (parent d) (some node) q = A q := by
    intro q hq
    rw [hPσ] at hq
    rw [upd_ne _ _ (fun e : q = parent d => hq (e ▸ Anc.refl _)),
      upd_ne _ _ (fun e : q = sib d => hq (e ▸ anc_parent_sib d)),
      upd_ne _ _ (fun e : q = d => hq (e ▸ anc_parent_self d))]
    unfold clearBelow
    rw [if_neg (fun h => hq (Anc.trans (anc_parent_self d) h.1))]
  rw [← liftAll_of_agree (fun c hc => pre_below node hc) hout q, upd_apply]
  split
  · rename_i hq
    have hns : ¬ SUnder (parent (sib d)) (parent (sib d)) := fun hs => Nat.lt_irrefl _ hs.2
    unfold liftA
    rw [hq, if_neg hns, hPσ, upd_self, hA]
  · rfl

theorem removeSingle_nonroot_abs {m : MapPollard H} {T n : Nat} {A : Pos → Option (Leaf H)} {C : H → Option Pos}
    {N : List (Pos × H × Bool)} {R : Pos → Prop} (L : Laws N R)
    (rep : Rep m T A C) (hn : m.numLeaves = BitVec.ofNat 64 n) (hn63 : n < 2 ^ 63) (hfit : forestRows n ≤ T)
    {fl : Bool} (hfull : m.full = fl) {d ρ : Pos} (hd : Valid T d) (hnr : isRootPos n d = false)
    (hρ : isRootPos n ρ = true) (hρd : Anc ρ d) {node : Leaf H} (hnode : A (sib d) = some node)
    {K : H → Prop} {E : Pos → Prop} (inv : GI fl A C N R K E) :
    ∃ m', MapPollard.removeSingle (encP T d) m = (m', .ok ()) ∧
      Rep m' T (fgLoopA n (T + 1 - d.1) d
          (updLoopA n T (T + 1 - (d.1 + 1)) (parent d) ⟨node.hash, fl⟩ (liftAll (sib d) A)))
        (liftCAll (sib d) C) ∧
      m'.numLeaves = m.numLeaves ∧ m'.full = m.full := by
  obtain ⟨bn, hσN⟩ := inv.true_hash _ _ hnode
  have hcu : ∀ y, cacheSib node (parent d) C y = _ := recache_eq (P := parent d) L inv.cached_pos hσN
  obtain ⟨hc, hc2⟩ := inv.cache_below (C' := cacheSib node (parent d) C) L hσN
    (fun h => Nat.not_succ_lt_self h.2) hcu
  obtain ⟨m', hrm, rep', hnl, hfl⟩ := removeSingle_nonroot_rep rep hn hn63 hfit hfull hd hnr hρ hρd hnode hc hc2
  have e1 : liftA (sib d) (upd (upd (upd (clearBelow d A) d none) (sib d) none) (parent d) (some node)) =
      liftAll (sib d) A := funext (liftAll_eq_remove hnode)
  have e2 : liftC (sib d) (cacheSib node (parent d) C) = liftCAll (sib d) C := by
    funext x
    have : cacheSib node (parent d) C = fun y => if C y = some (sib d) then some (parent (sib d)) else C y := by
      funext y; rw [hcu, CalcGeo.parent_sib]
    rw [this, liftC_eq]
  rw [e1, e2] at rep'
  exact ⟨m', hrm, rep', hnl, hfl⟩

/-- the loop invariant of `remove`: the frame of `XInv`, with the virtual cached set `Q` (the cache before
`uncacheLeaves`, minus what has been deleted) -/
structure GInv (fl : Bool) (m : MapPollard H) (F : Forest H) (Q : H → Prop) : Prop where
  n_lt : F.numLeaves < 2 ^ 63
  n_eq : m.numLeaves = BitVec.ofNat 64 F.numLeaves
  rows_le : F.rows ≤ m.totalRows.toNat
  total_le : m.totalRows.toNat ≤ 63
  full : m.full = fl
  hyg : Hyg F
  abs : ∃ A C, Rep m m.totalRows.toNat A C ∧ GI fl A C F.nodes (FRoot F) Q (fun _ => False)

variable {fl : Bool}

theorem GInv.congr {m : MapPollard H} {F F' : Forest H} {Q Q' : H → Prop} (g : GInv fl m F Q)
    (hF : F' = F) (hQ : ∀ x, Q' x ↔ Q x) : GInv fl m F' Q' := by
  have : Q' = Q := funext fun x => propext (hQ x)
  rw [hF, this]; exact g

theorem removeSingle_step (nz : NZ H) {m : MapPollard H} {F : Forest H} {Q : H → Prop}
    (g : GInv fl m F Q) {d : Pos} {h : H} {b : Bool} (hd : (d, h, b) ∈ F.nodes)
    (hpend : ∀ t x, (t, x, true) ∈ F.nodes → Anc d t → Q x ∧ m.hasCached x = false) :
    ∃ m', MapPollard.removeSingle (encP m.totalRows.toNat d) m = (m', .ok ()) ∧
      m'.totalRows = m.totalRows ∧
      GInv fl m' (F.delLeaves (leavesUnder F d)) (fun x => Q x ∧ x ∉ leavesUnder F d) ∧
      (∀ y, m'.hasCached y = m.hasCached y) := by
  obtain ⟨A, C, rep, inv⟩ := g.abs
  have hn64 : F.numLeaves < 2 ^ 64 := Nat.lt_trans g.n_lt (by decide)
  have L := laws_forest nz F hn64 g.hyg
  have hnl' : (F.delLeaves (leavesUnder F d)).numLeaves = F.numLeaves := numLeaves_delLeaves F _
  have L'' := laws_del nz F hn64 g.hyg (leavesUnder F d)
  have hdv : Valid m.totalRows.toNat d := MapInv.node_valid g.rows_le hd
  have hQd : ∀ t x, (t, x, true) ∈ F.nodes → Anc d t → Q x ∧ C x = none := by
    intro t x ht ha
    obtain ⟨h1, h2⟩ := hpend t x ht ha
    refine ⟨h1, Option.not_isSome_iff_eq_none.1 ?_⟩
    rw [← rep.hasCached, h2]
    exact Bool.false_ne_true
  have hQ' : ∀ x, (Q x ∧ x ∉ leavesUnder F d) ↔ Q x ∧ ∀ t, (t, x, true) ∈ F.nodes → ¬ Anc d t := by
    intro x
    rw [mem_leavesUnder]
    exact and_congr_right' ⟨fun hx t ht ha => hx ⟨t, ht, ha⟩, fun hx ⟨t, ht, ha⟩ => hx t ht ha⟩
  obtain ⟨m', A', C', hrm, rep', hnl, hfl, inv', hdom⟩ : ∃ m' A' C',
      MapPollard.removeSingle (encP m.totalRows.toNat d) m = (m', .ok ()) ∧ Rep m' m.totalRows.toNat A' C' ∧
      m'.numLeaves = m.numLeaves ∧ m'.full = m.full ∧
      GI fl A' C' (F.delLeaves (leavesUnder F d)).nodes (FRoot F) (fun x => Q x ∧ x ∉ leavesUnder F d)
        (fun _ => False) ∧
      ∀ y, (C' y).isSome = (C y).isSome := by
    by_cases hroot : isRootPos F.numLeaves d = true
    · obtain ⟨m', hrm, rep', hnl, hfl⟩ := removeSingle_root_rep rep g.n_eq g.n_lt g.full hdv hroot
      have hN'' := del_root F hn64 g.hyg hroot (leavesUnder F d) (fun x => mem_leavesUnder)
      exact ⟨m', _, _, hrm, rep', hnl, hfl, rootCase L inv hroot hQd hN'' hQ', fun _ => rfl⟩
    · have hnr : isRootPos F.numLeaves d = false := Bool.eq_false_iff.2 hroot
      obtain ⟨ρ, hρ, hρd⟩ := L.under_root d h b hd
      have hD := del_nonroot_rel F hn64 g.hyg hd hnr (leavesUnder F d) (fun x => mem_leavesUnder)
      obtain ⟨node, hnode, inv'⟩ := removeSingle_nonroot_inv L L'' F.numLeaves m.totalRows.toNat (fun z => Iff.rfl)
        (fun z => root_row_le L g.rows_le) inv hd hroot hρ hρd hQd hQ' hD
      obtain ⟨m', hrm, rep', hnl, hfl⟩ := removeSingle_nonroot_abs L rep g.n_eq g.n_lt g.rows_le g.full hdv hnr hρ hρd
        hnode inv
      refine ⟨m', _, _, hrm, rep', hnl, hfl, inv', fun y => ?_⟩
      unfold liftCAll
      cases C y <;> rfl
  have hT' : m'.totalRows = m.totalRows := rep'.rows.trans rep.rows.symm
  refine ⟨m', hrm, hT', ?_, fun y => by rw [rep'.hasCached, rep.hasCached, hdom]⟩
  refine { n_lt := by rw [hnl']; exact g.n_lt, n_eq := by rw [hnl, hnl']; exact g.n_eq,
           rows_le := ?_, total_le := by rw [hT']; exact g.total_le, full := hfl.trans g.full,
           hyg := hyg_delLeaves g.hyg _, abs := ?_ }
  · show forestRows (F.delLeaves (leavesUnder F d)).numLeaves ≤ _
    rw [hnl', hT']; exact g.rows_le
  · rw [hT', froot_del]
    exact ⟨A', C', rep', inv'⟩

theorem removeAll_spec (nz : NZ H) :
    ∀ (ds : List Pos) {m : MapPollard H} {F : Forest H} {Q : H → Prop},
    GInv fl m F Q → (∀ d ∈ ds, ∃ h b, (d, h, b) ∈ F.nodes) →
    (∀ d ∈ ds, ∀ t x, (t, x, true) ∈ F.nodes → Anc d t → Q x ∧ m.hasCached x = false) →
    ds.Pairwise (fun a b => ¬ Anc (parent a) b ∧ ¬ Anc b (parent a)) →
    ∃ m', MapPollard.removeAll (ds.map (encP m.totalRows.toNat)) m = m' ∧ m'.totalRows = m.totalRows ∧
      GInv fl m' (F.delLeaves (ds.flatMap (leavesUnder F))) (fun x => Q x ∧ x ∉ ds.flatMap (leavesUnder F)) ∧
      (∀ y, m'.hasCached y = m.hasCached y) := by
  intro ds
  induction ds with
  | nil =>
    intro m F Q g _ _ _
    refine ⟨m, rfl, rfl, ?_, fun _ => rfl⟩
    apply g.congr
    · exact delLeaves_nil F
    · intro x; simp
  | cons d ds ih =>
    intro m F Q g hnode hpend hsep
    obtain ⟨h, b, hd⟩ := hnode d List.mem_cons_self
    obtain ⟨m1, hrm, hT1, g1, hc1⟩ := removeSingle_step nz g hd (hpend d List.mem_cons_self)
    rw [List.pairwise_cons] at hsep
    have hn64 : F.numLeaves < 2 ^ 64 := Nat.lt_trans g.n_lt (by decide)
    obtain ⟨hnode1, hleaf1, hdel, hQ⟩ := targets_after nz F hn64 g.hyg hd
      (fun d' hd' => hnode d' (List.mem_cons_of_mem _ hd')) hsep.1 rfl
    have hpend1 : ∀ d' ∈ ds, ∀ t x, (t, x, true) ∈ (F.delLeaves (leavesUnder F d)).nodes → Anc d' t →
        (Q x ∧ x ∉ leavesUnder F d) ∧ m1.hasCached x = false := by
      intro d' hd' t x ht ha
      obtain ⟨q1, q2⟩ := hpend d' (List.mem_cons_of_mem _ hd') t x ((hleaf1 d' hd' t x ha).1 ht) ha
      exact ⟨⟨q1, leaf_not_deleted hn64 ht⟩, by rw [hc1]; exact q2⟩
    obtain ⟨m2, hrest, hT2, g2, hc2⟩ := ih g1 hnode1 hpend1 hsep.2
    refine ⟨m2, ?_, hT2.trans hT1, g2.congr hdel.symm (hQ Q), fun y => (hc2 y).trans (hc1 y)⟩
    show MapPollard.removeAll (ds.map (encP m.totalRows.toNat)) (MapPollard.removeSingle (encP m.totalRows.toNat d) m).1 = m2
    rw [hrm]
    rw [hT1] at hrest
    exact hrest

/-- `GInv false` spelled with `AInv`; the loop runs on `GInv` -/
structure RInv (m : MapPollard H) (F : Forest H) (K : H → Prop) : Prop where
  n_lt : F.numLeaves < 2 ^ 63
  n_eq : m.numLeaves = BitVec.ofNat 64 F.numLeaves
  rows_le : F.rows ≤ m.totalRows.toNat
  total_le : m.totalRows.toNat ≤ 63
  full : m.full = false
  hyg : Hyg F
  abs : ∃ A C, Rep m m.totalRows.toNat A C ∧ AInv A C F.nodes (FRoot F) K (fun _ => False)

theorem sinv_to_rinv {m : MapPollard H} {F : Forest H} (s : SInv m F) : RInv m F (fun x => m.hasCached x = true) := by
  obtain ⟨A, C, rep, inv⟩ := s.abs
  exact { n_lt := s.n_lt, n_eq := s.n_eq, rows_le := s.rows_le, total_le := s.total_le, full := s.full,
          hyg := s.hyg, abs := ⟨A, C, rep, gi_false_iff.1 ((gi_false_iff.2 inv).congr_K (fun y => by rw [rep.hasCached]))⟩ }

/-- **`remove` preserves the storage invariant** of a partial or a full forest: the cached live leaves `L` (given with the
targets of their canonical proof, in any `TotalRows ≥ TreeRows` allocation) are deleted from the specification forest and from
the cache; everything else stays cached.  (In a full forest every live leaf is cached: `XInv.cached_of_live`.) -/
theorem xinv_remove (nz : NZ H) {m : MapPollard H} {F : Forest H} (s : XInv fl m F) (L : List H) (ts : List Pos)
    (ps : List H) (hnd : L.Nodup) (hc : F.canon L = some (ts, ps)) (hcached : ∀ x ∈ L, m.hasCached x = true) :
    ∃ m', MapPollard.remove (ts.map (encP F.rows)) L m = (m', .ok ()) ∧ XInv fl m' (F.delLeaves L) ∧
      (∀ y, m'.hasCached y = true ↔ (m.hasCached y = true ∧ y ∉ L)) := by
  obtain ⟨A, C, rep, inv⟩ := s.abs
  -- the uncached state keeps the invariant for the old cache as virtual cached set
  obtain ⟨rep1, hnl1, hfl1⟩ := uncache_rep L rep
  have hT1 : (m.uncacheLeaves L).totalRows = m.totalRows := rep1.rows.trans rep.rows.symm
  have g1 : GInv fl (m.uncacheLeaves L) F (fun x => m.hasCached x = true) :=
    { n_lt := s.n_lt, n_eq := hnl1.trans s.n_eq, rows_le := by rw [hT1]; exact s.rows_le,
      total_le := by rw [hT1]; exact s.total_le, full := hfl1.trans s.full, hyg := s.hyg,
      abs := by
        rw [hT1]
        refine ⟨A, _, rep1, (inv.shrink_C ?_).congr_K (fun y => by rw [rep.hasCached])⟩
        intro x t hx
        split at hx
        · cases hx
        · exact hx }
  have hc1 : ∀ y, (m.uncacheLeaves L).hasCached y = true ↔ (m.hasCached y = true ∧ y ∉ L) := by
    intro y
    rw [rep1.hasCached, rep.hasCached]
    by_cases hy : y ∈ L
    · simp [hy]
    · simp [hy]
  obtain ⟨ds, hDT, hdt⟩ := deTwin_spec F s.n_lt hnd hc s.total_le s.rows_le
  obtain ⟨m', hra, hT', g', hc'⟩ := removeAll_spec nz ds g1 hDT.node
    (by
      intro d hd t x ht ha
      have hxL := hDT.sub d hd t x ht ha
      exact ⟨hcached x hxL, Bool.eq_false_iff.2 (fun hh => ((hc1 x).1 hh).2 hxL)⟩)
    hDT.sep
  have hcm : ∀ y, m'.hasCached y = true ↔ (m.hasCached y = true ∧ y ∉ L) := fun y => by rw [hc', hc1]
  refine ⟨m', ?_, ?_, hcm⟩
  · have htr : TreeRows m.numLeaves = H8 F.rows := by rw [s.n_eq]; exact SpecView.treeRows_eq s.n_lt
    rw [hT1] at hra
    unfold MapPollard.remove
    simp only [allCached_iff.2 hcached, Bool.not_true, Bool.false_eq_true, if_false]
    rw [hT1, hnl1, htr, ← hra, ← hdt, ← rep.rows]
  · have hmem := mem_flatMap_leavesUnder hDT
    have g := g'.congr (F' := F.delLeaves L) (Q' := fun x => m.hasCached x = true ∧ x ∉ L)
      (delLeaves_congr F (fun x => (hmem x).symm)) (fun x => by rw [hmem])
    obtain ⟨A', C', rep', inv'⟩ := g.abs
    exact XInv.of_abs rep' (inv'.congr_K (fun y => by rw [← hcm, rep'.hasCached])) g.n_lt g.n_eq g.rows_le g.full g.hyg

theorem sinv_remove (nz : NZ H) {m : MapPollard H} {F : Forest H} (s : SInv m F) (L : List H) (ts : List Pos)
    (ps : List H) (hnd : L.Nodup) (hc : F.canon L = some (ts, ps)) (hcached : ∀ x ∈ L, m.hasCached x = true) :
    ∃ m', MapPollard.remove (ts.map (encP F.rows)) L m = (m', .ok ()) ∧ SInv m' (F.delLeaves L) ∧
      (∀ y, m'.hasCached y = true ↔ (m.hasCached y = true ∧ y ∉ L)) := by
  obtain ⟨m', h1, h2, h3⟩ := xinv_remove nz (xinv_false_iff.2 s) L ts ps hnd hc hcached
  exact ⟨m', h1, xinv_false_iff.1 h2, h3⟩

/-- **`Modify` (a valid block) preserves the storage invariant**, in any allocation `TotalRows ≥ TreeRows`, growing on
demand: the cached live leaves `dels` are deleted, then the fresh leaves `adds` appended -/
theorem xinv_modify (nz : NZ H) {m : MapPollard H} {F : Forest H} (s : XInv fl m F) (adds : List (Leaf H))
    (dels : List H) (ts : List Pos) (ps : List H)
    (hcached : ∀ x ∈ dels, m.hasCached x = true) (hnd : dels.Nodup) (hc : F.canon dels = some (ts, ps))
    (hfr : ∀ a ∈ adds, a.hash ∉ F.liveLeaves ∧ a.hash ≠ zero ∧ ∀ u v : H, a.hash ≠ ph u v)
    (hndA : (adds.map (·.hash)).Nodup) (hn : F.numLeaves + adds.length < 2 ^ 63) :
    ∃ m', MapPollard.modify adds dels (ts.map (encP F.rows)) m = (m', .ok ()) ∧
      XInv fl m' (F.modify dels (adds.map (·.hash))) ∧
      (∀ y, m'.hasCached y = true ↔
        ((m.hasCached y = true ∧ y ∉ dels) ∨ ∃ a ∈ adds, (fl = true ∨ a.remember = true) ∧ a.hash = y)) := by
  obtain ⟨m1, h1, s1, c1⟩ := xinv_remove nz s dels ts ps hnd hc hcached
  have hfr' : ∀ a ∈ adds, a.hash ∉ (F.delLeaves dels).liveLeaves ∧ a.hash ≠ zero ∧ ∀ u v : H, a.hash ≠ ph u v := by
    intro a ha
    obtain ⟨g1, g2, g3⟩ := hfr a ha
    refine ⟨?_, g2, g3⟩
    rw [PForestDel.liveLeaves_delLeaves]
    intro h
    exact g1 (List.mem_filter.1 h).1
  have hn' : (F.delLeaves dels).numLeaves + adds.length < 2 ^ 63 := by
    rw [Spec.numLeaves_delLeaves]; exact hn
  obtain ⟨m2, h2, s2, c2⟩ := MapAddMerge.xinv_add nz adds s1 hn' hfr' hndA
  refine ⟨m2, ?_, s2, fun y => by rw [c2, c1]⟩
  unfold MapPollard.modify
  rw [h1]
  exact h2

end UtreexoVerif.Proofs.MapRemoveAll
