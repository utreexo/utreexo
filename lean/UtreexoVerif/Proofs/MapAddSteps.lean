/- The steps of `addSingle` on the abstract state: the new leaf stored as a root on row 0 (`step0`), the accumulated
   tree hashed with the non-empty root on its row (`stepA`) or lifted over the empty root on its row (`stepB`).
   The same two cases are `stepA_pf` / `stepB_pf` on placed forests (`Proofs/PForestAdd.lean`), `iter_some` / `iter_none` in the
   loop (`Proofs/MapAddMerge.lean`), and, read backwards by `Undo`, join / split (`Proofs/MapUndoAdd.lean`). -/
import UtreexoVerif.Proofs.MapLiftCore

namespace UtreexoVerif.Proofs.MapAddSteps
open Model Spec MapPrune MapRep MapLiftGeo PForest MapAInv MapGI MapLiftCore Hasher
set_option linter.unusedSectionVars false

variable {H : Type} [DecidableEq H] [Hasher H]
variable {fl : Bool} {A : Pos → Option (Leaf H)} {C : H → Option Pos} {N N' : List (Pos × H × Bool)}
  {R R' : Pos → Prop} {K : H → Prop}

theorem pruneA_absent {q : Pos} (h1 : A q = none) (h2 : A (sib q) = none) (p : Pos) : pruneA A q p = A p := by
  unfold pruneA
  split
  · split
    · rename_i h; rw [h.1, h2]
    · split
      · rename_i h; rw [h.1, h1]
      · rfl
  · rfl

/-- `hfr`: a full forest remembers every leaf -/
theorem step0 (L : Laws N R) (inv : GI fl A C N R K (fun _ => False)) {t0 : Pos} {x : H} {rem : Bool}
    (hfr : fl = true → rem = true)
    (hN' : ∀ e, e ∈ N' ↔ e ∈ N ∨ e = (t0, x, true))
    (hR' : ∀ z, R' z ↔ R z ∨ z = t0)
    (hpos : ∀ q h b, (q, h, b) ∈ N → ¬ Anc q t0)
    (hxN : ∀ q b, (q, x, b) ∉ N) (hKx : ¬ K x) :
    GI fl (upd A t0 (some ⟨x, rem⟩)) (if rem = true then upd C x (some t0) else C) N' R'
      (fun y => K y ∨ (rem = true ∧ y = x)) (fun _ => False) := by
  have hsub : ∀ e, e ∈ N → e ∈ N' := fun e he => (hN' e).2 (Or.inl he)
  have hnew : (t0, x, true) ∈ N' := (hN' _).2 (Or.inr rfl)
  have hCx : C x = none := by
    cases h : C x with
    | none => rfl
    | some t => exact absurd (inv.cache_sub x t h) hKx
  have kleaf_old : ∀ t, t ≠ t0 → (KLeaf N' (fun y => K y ∨ (rem = true ∧ y = x)) t ↔ KLeaf N K t) := by
    intro t ht
    constructor
    · rintro ⟨y, hk, hm⟩
      rcases (hN' _).1 hm with hm' | hm'
      · rcases hk with hk | ⟨_, rfl⟩
        · exact ⟨y, hk, hm'⟩
        · exact absurd hm' (hxN t true)
      · simp only [Prod.mk.injEq] at hm'
        exact absurd hm'.1 ht
    · rintro ⟨y, hk, hm⟩
      exact ⟨y, Or.inl hk, hsub _ hm⟩
  have not_t0 : ∀ q h b, (q, h, b) ∈ N → q ≠ t0 := by
    rintro q h b hm rfl; exact hpos _ h b hm (Anc.refl _)
  refine { true_hash := ?_, cache_sub := ?_, cached_pos := ?_, roots_stored := ?_, only_needed := ?_,
           has_needed := ?_, flags := ?_, flagsZ := ?_, fullK := ?_ }
  · intro q l hl
    rw [upd_apply] at hl
    split at hl
    · rename_i e
      simp only [Option.some.injEq] at hl
      subst hl e
      exact ⟨true, hnew⟩
    · obtain ⟨b, hb⟩ := inv.true_hash q l hl
      exact ⟨b, hsub _ hb⟩
  · intro y t h
    by_cases hr : rem = true
    · rw [if_pos hr, upd_apply] at h
      split at h
      · rename_i e; exact Or.inr ⟨hr, e⟩
      · exact Or.inl (inv.cache_sub y t h)
    · rw [if_neg hr] at h
      exact Or.inl (inv.cache_sub y t h)
  · intro y t h
    by_cases hr : rem = true
    · rw [if_pos hr, upd_apply] at h
      split at h
      · rename_i e
        simp only [Option.some.injEq] at h
        subst h e; exact hnew
      · exact hsub _ (inv.cached_pos y t h)
    · rw [if_neg hr] at h
      exact hsub _ (inv.cached_pos y t h)
  · intro z hz
    rw [upd_apply]
    split
    · simp
    · rcases (hR' z).1 hz with h | h
      · exact inv.roots_stored z h
      · rename_i hne; exact absurd h hne
  · intro q l hl hnr _
    have hq0 : q ≠ t0 := fun e => hnr ((hR' q).2 (Or.inr e))
    rw [upd_ne _ _ hq0] at hl
    have hnrq : ¬ R q := fun h => hnr ((hR' q).2 (Or.inl h))
    obtain ⟨t, ⟨y, hk, hm⟩, hrow, hanc⟩ := inv.only_needed q l hl hnrq (fun h => h)
    exact ⟨t, ⟨y, Or.inl hk, hsub _ hm⟩, hrow, hanc⟩
  · intro q h b hm hnr hreq
    have hq0 : q ≠ t0 := fun e => hnr ((hR' q).2 (Or.inr e))
    have hnrq : ¬ R q := fun h => hnr ((hR' q).2 (Or.inl h))
    have hmN : (q, h, b) ∈ N := by
      rcases (hN' _).1 hm with h' | h'
      · exact h'
      · simp only [Prod.mk.injEq] at h'; exact absurd h'.1 hq0
    rw [upd_ne _ _ hq0]
    apply inv.has_needed q h b hmN hnrq
    rcases hreq with hk | ⟨t, hk, hanc⟩
    · exact Or.inl ((kleaf_old q hq0).1 hk)
    · right
      have ht0 : t ≠ t0 := by
        rintro rfl
        obtain ⟨h', b', hs⟩ := L.sib_node q h b hmN hnrq
        exact hpos _ h' b' hs hanc
      exact ⟨t, (kleaf_old t ht0).1 hk, hanc⟩
  · intro q l hl hnz
    rw [upd_apply] at hl
    split at hl
    · rename_i e
      simp only [Option.some.injEq] at hl
      subst hl e
      constructor
      · intro hr; exact Or.inr ⟨x, Or.inr ⟨hr, rfl⟩, hnew⟩
      · rintro (hf | ⟨y, hk, hm⟩)
        · exact hfr hf
        · rcases (hN' _).1 hm with hm' | hm'
          · exact absurd rfl (not_t0 _ _ _ hm')
          · simp only [Prod.mk.injEq] at hm'
            rcases hk with hk | ⟨hr, _⟩
            · rw [hm'.2.1] at hk; exact absurd hk hKx
            · exact hr
    · rename_i hne
      rw [inv.flags q l hl hnz, kleaf_old q hne]
  · intro hf q l hl
    rw [upd_apply] at hl
    split at hl
    · simp only [Option.some.injEq] at hl
      subst hl; exact hfr hf
    · exact inv.flagsZ hf q l hl
  · intro hf t y hm
    rcases (hN' _).1 hm with hm' | hm'
    · exact Or.inl (inv.fullK hf t y hm')
    · simp only [Prod.mk.injEq] at hm'
      exact Or.inr ⟨hfr hf, hm'.2.1⟩

/-- the merging move over a non-empty root `ρ` (a left sibling): `ρ` and the accumulated tree at `sib ρ` are hashed into a
new inner node at `parent ρ`, then `pruneNieces` prunes at `ρ` -/
theorem stepA (L' : Laws N' R') (inv : GI fl A C N R K (fun _ => False)) {ρ : Pos} {a b : H} {fa : Bool}
    (hρm : (ρ, a, fa) ∈ N)
    (hN' : ∀ e, e ∈ N' ↔ e = (parent ρ, ph a b, false) ∨ e ∈ N)
    (hR' : ∀ z, R' z ↔ z = parent ρ ∨ (R z ∧ z ≠ ρ ∧ z ≠ sib ρ))
    (hfresh : ∀ h f, (parent ρ, h, f) ∉ N) :
    GI fl (pruneA (upd A (parent ρ) (some ⟨ph a b, fl⟩)) ρ) C N' R' K (fun _ => False) := by
  have hsub : ∀ e, e ∈ N → e ∈ N' := fun e he => (hN' e).2 (Or.inr he)
  have hPρ : parent ρ ≠ ρ := by
    intro e; have := congrArg Prod.fst e; simp [parent] at this
  have hPσ : parent ρ ≠ sib ρ := CalcGeo.parent_ne_sib ρ
  have leaf_old : ∀ t y, (t, y, true) ∈ N' ↔ (t, y, true) ∈ N := by
    intro t y
    constructor
    · intro h
      rcases (hN' _).1 h with h' | h'
      · simp only [Prod.mk.injEq] at h'; exact absurd h'.2.2 (by simp)
      · exact h'
    · exact hsub _
  have kleaf_old : ∀ t, KLeaf N' K t ↔ KLeaf N K t := KLeaf.congr leaf_old
  have inv1 : GI fl (upd A (parent ρ) (some ⟨ph a b, fl⟩)) C N' R' K (fun z => z = ρ ∨ z = sib ρ) := by
    refine { true_hash := ?_, cache_sub := inv.cache_sub, cached_pos := ?_, roots_stored := ?_, only_needed := ?_,
             has_needed := ?_, flags := ?_, flagsZ := ?_,
             fullK := fun hf t y hm => inv.fullK hf t y ((leaf_old t y).1 hm) }
    · intro q l hl
      rw [upd_apply] at hl
      split at hl
      · rename_i e
        simp only [Option.some.injEq] at hl
        subst hl e
        exact ⟨false, (hN' _).2 (Or.inl rfl)⟩
      · obtain ⟨b', hb'⟩ := inv.true_hash q l hl
        exact ⟨b', hsub _ hb'⟩
    · intro y t h; exact hsub _ (inv.cached_pos y t h)
    · intro z hz
      rw [upd_apply]
      split
      · simp
      · rcases (hR' z).1 hz with h | h
        · rename_i hne; exact absurd h hne
        · exact inv.roots_stored z h.1
    · intro q l hl hnr hE
      have hqP : q ≠ parent ρ := fun e => hnr ((hR' q).2 (Or.inl e))
      rw [upd_ne _ _ hqP] at hl
      have hnrq : ¬ R q := by
        intro h
        apply hnr
        rw [hR']
        right
        exact ⟨h, fun e => hE (Or.inl e), fun e => hE (Or.inr e)⟩
      obtain ⟨t, ht, hrow, hanc⟩ := inv.only_needed q l hl hnrq (fun h => h)
      exact ⟨t, (kleaf_old t).2 ht, hrow, hanc⟩
    · intro q h f hm hnr hreq
      have hqP : q ≠ parent ρ := fun e => hnr ((hR' q).2 (Or.inl e))
      rw [upd_ne _ _ hqP]
      have hmN : (q, h, f) ∈ N := by
        rcases (hN' _).1 hm with h' | h'
        · simp only [Prod.mk.injEq] at h'; exact absurd h'.1 hqP
        · exact h'
      by_cases hRq : R q
      · exact inv.roots_stored q hRq
      · apply inv.has_needed q h f hmN hRq
        rcases hreq with hk | ⟨t, hk, hanc⟩
        · exact Or.inl ((kleaf_old q).1 hk)
        · exact Or.inr ⟨t, (kleaf_old t).1 hk, hanc⟩
    · intro q l hl hnz
      rw [upd_apply] at hl
      split at hl
      · rename_i e
        simp only [Option.some.injEq] at hl
        subst hl e
        constructor
        · intro h; exact Or.inl h
        · rintro (h | ⟨y, _, hm⟩)
          · exact h
          · exact absurd ((leaf_old _ y).1 hm) (hfresh y true)
      · rw [inv.flags q l hl hnz, kleaf_old]
    · intro hf q l hl
      rw [upd_apply] at hl
      split at hl
      · simp only [Option.some.injEq] at hl
        subst hl; exact hf
      · exact inv.flagsZ hf q l hl
  have hnrρ : ¬ R' ρ := by
    rw [hR']
    rintro (h | ⟨_, h, _⟩)
    · exact hPρ h.symm
    · exact h rfl
  have := GI.prune L' inv1 (hsub _ hρm) hnrρ (by
    rintro c hc (h | h)
    · rcases hc with hc | hc
      · rw [h] at hc; exact hPρ hc
      · rw [h] at hc; exact hPσ hc
    · rcases hc with hc | hc
      · rw [h, CalcGeo.parent_sib] at hc; exact hPρ hc
      · rw [h, CalcGeo.parent_sib] at hc; exact hPσ hc)
  exact this.change_E (fun q l _ _ _ hE => by
    obtain ⟨h1, h2, h3⟩ := hE
    rcases h1 with h | h
    · exact h2 h
    · exact h3 h)

theorem stepB (L : Laws N R) (L' : Laws N' R') (inv : GI fl A C N R K (fun _ => False)) {σ : Pos} {pNode : Leaf H}
    (hsN : (sib σ, (zero : H), false) ∈ N) (hσR : R σ) (hAσ : A σ = some pNode)
    (hN' : ∀ e : Pos × H × Bool, e ∈ N' ↔ (¬ Anc (parent σ) e.1 ∧ e ∈ N) ∨
      (∃ c, Anc σ c ∧ e.1 = liftP σ c ∧ (c, e.2) ∈ N))
    (hR' : ∀ z, R' z ↔ z = parent σ ∨ (R z ∧ z ≠ sib σ ∧ z ≠ σ)) :
    GI fl (pruneA (liftAll σ A) (sib σ)) (liftCAll σ C) N' R' K (fun _ => False) := by
  obtain ⟨hρR, _, hρbelow⟩ := L.zero_root (sib σ) false hsN
  obtain ⟨hσh, hσb, hσN⟩ := L.root_node σ hσR
  have noleaf : ∀ t y, (t, y, true) ∈ N → ¬ Anc (sib σ) t := by
    intro t y hm ha
    have := hρbelow t y true hm ha
    subst this
    have := (L.func _ _ _ _ _ hm hsN).2
    cases this
  have hPnot : ∀ h f, (parent σ, h, f) ∉ N := by
    intro h f hm
    obtain ⟨r, hr, ha⟩ := L.under_root _ h f hm
    have := L.root_disj r σ σ hr hσR (Anc.trans ha (anc_parent_self σ)) (Anc.refl σ)
    subst this
    have h1 := ha.1
    have : (parent r).1 = r.1 + 1 := rfl
    omega
  have hroots : ∀ z, R z → (Anc (parent σ) z ↔ z = sib σ ∨ z = σ) := by
    intro z hz
    constructor
    · intro ha
      rcases anc_parent_iff'.1 ha with e | e | e
      · obtain ⟨h, f, hm⟩ := L.root_node z hz
        rw [e] at hm; exact absurd hm (hPnot h f)
      · exact Or.inr (L.root_disj z σ z hz hσR (Anc.refl z) e)
      · exact Or.inl (L.root_disj z (sib σ) z hz hρR (Anc.refl z) e)
    · rintro (rfl | rfl)
      · exact anc_parent_sib σ
      · exact anc_parent_self _
  have hR'' : ∀ z, R' z ↔ (z = parent σ ∧ (R σ ∨ R (parent σ))) ∨ (R z ∧ ¬ Anc (parent σ) z) := by
    intro z
    rw [hR']
    constructor
    · rintro (h | ⟨h1, h2, h3⟩)
      · exact Or.inl ⟨h, Or.inl hσR⟩
      · refine Or.inr ⟨h1, fun ha => ?_⟩
        rcases (hroots z h1).1 ha with e | e
        · exact h2 e
        · exact h3 e
    · rintro (⟨h, _⟩ | ⟨h1, h2⟩)
      · exact Or.inl h
      · refine Or.inr ⟨h1, fun e => h2 ((hroots z h1).2 (Or.inl e)), fun e => h2 ((hroots z h1).2 (Or.inr e))⟩
  have core := liftCore (K' := K) L inv ⟨hσh, hσb, hσN⟩ (by rw [hAσ]; simp)
    (fun x t hC => noleaf t x (inv.cached_pos x t hC)) hN' hR''
    (fun x => ⟨fun hk => ⟨hk, fun t ht => noleaf t x ht⟩, fun h => h.1⟩)
  -- the exemptions are vacuous: `parent σ` is a root
  have hRP : R' (parent σ) := (hR' _).2 (Or.inl rfl)
  have core' : GI fl (liftAll σ A) (liftCAll σ C) N' R' K (fun _ => False) := by
    apply core.change_E
    intro q l hl hnr _ hE
    obtain ⟨bq, hqm⟩ := core.true_hash q l hl
    exact eup_root_vacuous L' hRP hqm hnr hE
  -- `pruneNieces` prunes at `sib σ`, the left child of the new root: after the lift it is a node only if the lifted tree was
  -- no leaf; otherwise nothing is stored there and the prune is the identity
  by_cases hnode : ∃ h f, (sib σ, h, f) ∈ N'
  · obtain ⟨h, f, hm⟩ := hnode
    have hnr : ¬ R' (sib σ) := by
      rw [hR']
      rintro (e | ⟨_, e, _⟩)
      · exact CalcGeo.parent_ne_sib σ e.symm
      · exact e rfl
    have := GI.prune L' core' hm hnr (fun _ _ h => h)
    exact this.change_E (fun _ _ _ _ _ hE => hE.1)
  · have h1 : liftAll σ A (sib σ) = none := by
      cases hA : liftAll σ A (sib σ) with
      | none => rfl
      | some l =>
        obtain ⟨b, hb⟩ := core'.true_hash _ l hA
        exact absurd ⟨_, _, hb⟩ hnode
    have h2 : liftAll σ A (sib (sib σ)) = none := by
      rw [CalcGeo.sib_sib]
      cases hA : liftAll σ A σ with
      | none => rfl
      | some l =>
        obtain ⟨b, hb⟩ := core'.true_hash _ l hA
        have hnr : ¬ R' σ := by
          rw [hR']
          rintro (e | ⟨_, _, e⟩)
          · have := congrArg Prod.fst e; simp [parent] at this
          · exact e rfl
        obtain ⟨h', b', hs⟩ := L'.sib_node σ _ b hb hnr
        exact absurd ⟨_, _, hs⟩ hnode
    have e : pruneA (liftAll σ A) (sib σ) = liftAll σ A := funext (pruneA_absent h1 h2)
    rw [e]; exact core'

end UtreexoVerif.Proofs.MapAddSteps
