/-
  The effect on the storage invariant of lifting the subtree at `σ` onto its parent
  `P` (the sibling `δ = sib σ` and everything below it disappears).  Used by the empty-root
  case of `addSingle` and by `removeSingle`.
-/
import UtreexoVerif.Proofs.MapGI
import UtreexoVerif.Proofs.MapRelocK
import UtreexoVerif.Proofs.MapMove

namespace UtreexoVerif.Proofs.MapLiftCore
open Model Spec MapRep MapLiftGeo PForest MapGI MapRelocK Hasher
set_option linter.unusedSectionVars false

variable {H : Type} [DecidableEq H] [Hasher H]

/-- `Nodes` after the lift: `P` gets the content of `σ`, everything strictly below `P` is the
content one row lower below `σ`, the rest is unchanged -/
def liftAll (σ : Pos) (A : Pos → Option (Leaf H)) : Pos → Option (Leaf H) := fun q =>
  if q = parent σ then A σ
  else if SUnder (parent σ) q then (if q.1 = 0 then none else A (unliftP σ q))
  else A q

/-- `CachedLeaves` after the lift (including the entry of `σ` itself) -/
def liftCAll (σ : Pos) (C : H → Option Pos) : H → Option Pos := fun x =>
  (C x).map (fun t => if Anc σ t then liftP σ t else t)

section
variable {A : Pos → Option (Leaf H)} {σ : Pos}

theorem liftAll_P : liftAll σ A (parent σ) = A σ := by simp [liftAll]

theorem liftAll_lift {c : Pos} (hc : SUnder σ c) : liftAll σ A (liftP σ c) = A c := by
  have hs := sunder_parent_liftP hc
  have hne : liftP σ c ≠ parent σ := fun e => Nat.ne_of_lt hs.2 (congrArg Prod.fst e)
  unfold liftAll
  rw [if_neg hne, if_pos hs, if_neg (by simp [liftP_fst]), unliftP_liftP hc.1]

theorem liftAll_out {q : Pos} (hq : ¬ Anc (parent σ) q) : liftAll σ A q = A q := by
  unfold liftAll
  have hne : q ≠ parent σ := fun e => hq (by rw [e]; exact Anc.refl _)
  rw [if_neg hne, if_neg (fun h => hq h.1)]

theorem liftAll_row0 {q : Pos} (hq : SUnder (parent σ) q) (h0 : q.1 = 0) : liftAll σ A q = none := by
  unfold liftAll
  have hne : q ≠ parent σ := fun e => Nat.ne_of_lt hq.2 (congrArg Prod.fst e)
  rw [if_neg hne, if_pos hq, if_pos h0]

theorem pos_cases (σ q : Pos) : q = parent σ ∨ (SUnder (parent σ) q ∧ q.1 = 0) ∨
    (∃ c, SUnder σ c ∧ q = liftP σ c) ∨ ¬ Anc (parent σ) q := by
  by_cases h : Anc (parent σ) q
  · by_cases he : q = parent σ
    · exact Or.inl he
    · have hs : SUnder (parent σ) q := sunder_of_ne h he
      by_cases h0 : q.1 = 0
      · exact Or.inr (Or.inl ⟨hs, h0⟩)
      · obtain ⟨c, hc, e⟩ := exists_liftP hs (Nat.pos_of_ne_zero h0)
        exact Or.inr (Or.inr (Or.inl ⟨c, hc, e.symm⟩))
  · exact Or.inr (Or.inr (Or.inr h))
end

theorem liftAll_of_agree {A A' : Pos → Option (Leaf H)} {σ : Pos} (hin : ∀ c, SUnder σ c → A' c = A c)
    (hout : ∀ q, ¬ Anc (parent σ) q → A' q = A q) (q : Pos) :
    upd (liftA σ A') (parent σ) (A σ) q = liftAll σ A q := by
  unfold liftAll
  rw [upd_apply]
  by_cases hq : q = parent σ
  · rw [if_pos hq, if_pos hq]
  · rw [if_neg hq, if_neg hq]
    unfold liftA
    by_cases hs : SUnder (parent σ) q
    · rw [if_pos hs, if_pos hs]
      by_cases h0 : q.1 = 0
      · rw [if_pos h0, if_pos h0]
      · rw [if_neg h0, if_neg h0, hin _ (anc_unliftP hs (by omega))]
    · rw [if_neg hs, if_neg hs]
      apply hout
      intro ha
      exact hs ⟨ha, by
        have := ha.1
        have hr : q.1 ≠ (parent σ).1 := fun e => hq (ha.eq_of_row e.symm).symm
        omega⟩

theorem liftAll_eq {A : Pos → Option (Leaf H)} {σ : Pos} {pNode : Leaf H} (hA : A σ = some pNode) (q : Pos) :
    upd (liftA σ (upd (upd A (sib σ) none) σ none)) (parent σ) (some pNode) q = liftAll σ A q := by
  rw [← hA]
  refine liftAll_of_agree (fun c hc => ?_) (fun c hc => ?_) q
  · rw [upd_ne _ _ (fun e : c = σ => by have := hc.2; rw [e] at this; omega),
      upd_ne _ _ (fun e : c = sib σ => not_anc_both (σ := σ) hc.1 (by rw [e]; exact Anc.refl _))]
  · rw [upd_ne _ _ (fun e : c = σ => hc (e ▸ anc_parent_self σ)),
      upd_ne _ _ (fun e : c = sib σ => hc (e ▸ anc_parent_sib σ))]

theorem liftC_eq {C : H → Option Pos} {σ : Pos} (x : H) :
    liftC σ (fun y => if C y = some σ then some (parent σ) else C y) x = liftCAll σ C x := by
  unfold liftC liftCAll
  by_cases h : C x = some σ
  · simp only [h, if_true, Option.map_some]
    have h1 : ¬ SUnder σ (parent σ) := by
      intro hs; have := hs.2; have : (parent σ).1 = σ.1 + 1 := rfl; omega
    rw [if_neg h1, if_pos (Anc.refl σ), liftP_self]
  · simp only [h, if_false]
    cases hC : C x with
    | none => rfl
    | some t =>
      simp only [Option.map_some]
      have hne : t ≠ σ := fun e => h (by rw [hC, e])
      by_cases ha : Anc σ t
      · have hs : SUnder σ t := ⟨ha, by
          have := ha.1
          have hr : t.1 ≠ σ.1 := fun e => hne (ha.eq_of_row e.symm).symm
          omega⟩
        rw [if_pos hs, if_pos ha]
      · rw [if_neg (fun hs : SUnder σ t => ha hs.1), if_neg ha]

theorem liftCAll_isSome (σ : Pos) (C : H → Option Pos) (y : H) : (liftCAll σ C y).isSome = (C y).isSome := by
  unfold liftCAll
  cases C y <;> rfl

theorem recache_eq {C : H → Option Pos} {N : List (Pos × H × Bool)} {R : Pos → Prop} (L : Laws N R)
    (hcp : ∀ x t, C x = some t → (t, x, true) ∈ N) {σ P : Pos} {x : H} {b : Bool} (hσ : (σ, x, b) ∈ N) (y : H) :
    MapMove.recache x P C y = if C y = some σ then some P else C y := by
  unfold MapMove.recache
  by_cases hs : (C x).isSome = true
  · rw [if_pos hs]
    obtain ⟨t, ht⟩ := Option.isSome_iff_exists.1 hs
    have hts : σ = t := L.leaf_hash t x σ b (hcp _ t ht) hσ
    subst hts
    rw [upd_apply]
    by_cases hy : y = x
    · subst hy; rw [if_pos rfl, if_pos ht]
    · rw [if_neg hy, if_neg]
      intro h
      exact hy (L.func _ _ _ _ _ (hcp _ _ h) hσ).1
  · rw [if_neg hs, if_neg]
    intro h
    have := (L.func _ _ _ _ _ (hcp _ _ h) hσ).1
    subst this
    rw [h] at hs; exact hs rfl

/-- the exemption set while walking up: `pos`, its sibling, and everything above -/
def Eup (pos : Pos) : Pos → Prop := fun z => Anc (parent z) (parent pos)

theorem eup_root_vacuous {N : List (Pos × H × Bool)} {R : Pos → Prop} (L : Laws N R) {ρ : Pos} (hρ : R ρ)
    {z : Pos} {h : H} {b : Bool} (hz : (z, h, b) ∈ N) (hnr : ¬ R z) : ¬ Eup ρ z := by
  intro hE
  obtain ⟨hp, hpm, _⟩ := L.parent_node z h b hz hnr
  obtain ⟨r, hr, ha⟩ := L.under_root _ hp false hpm
  have hPP : Anc (parent z) ρ := Anc.trans hE (anc_parent_self _)
  have := L.root_disj r ρ ρ hr hρ (Anc.trans ha hPP) (Anc.refl _)
  subst this
  have h1 := (Anc.trans ha hE).1
  have : (parent r).1 = r.1 + 1 := rfl
  omega

variable {A : Pos → Option (Leaf H)} {C : H → Option Pos} {N N' : List (Pos × H × Bool)}
  {R R' : Pos → Prop} {K K' : H → Prop}

/-- **the lift**: from the invariant of `(A, C)` for `(N, R, K)` to the invariant of the lifted
state for the lifted node list; the positions from `P` upwards (and their siblings) are exempt
from "nothing unneeded" (they may have been needed only for leaves that disappeared) -/
theorem liftCore {fl : Bool} (L : Laws N R) (inv : GI fl A C N R K (fun _ => False)) {σ : Pos}
    (hσm : ∃ h b, (σ, h, b) ∈ N) (hσs : A σ ≠ none)
    (hCδ : ∀ x t, C x = some t → ¬ Anc (sib σ) t)
    (hN' : ∀ e : Pos × H × Bool, e ∈ N' ↔ (¬ Anc (parent σ) e.1 ∧ e ∈ N) ∨
      (∃ c, Anc σ c ∧ e.1 = liftP σ c ∧ (c, e.2) ∈ N))
    (hR' : ∀ z, R' z ↔ (z = parent σ ∧ (R σ ∨ R (parent σ))) ∨ (R z ∧ ¬ Anc (parent σ) z))
    (hK' : ∀ x, K' x ↔ K x ∧ ∀ t, (t, x, true) ∈ N → ¬ Anc (sib σ) t) :
    GI fl (liftAll σ A) (liftCAll σ C) N' R' K' (Eup (parent σ)) := by
  obtain ⟨hσ, bσ, hσN⟩ := hσm
  have r := Reloc.of_lifted hN'
  have hKn : ∀ t x, (t, x, true) ∈ N → ¬ Anc (sib σ) t → (K' x ↔ K x) := by
    intro t x hm ht
    rw [hK']
    refine ⟨fun h => h.1, fun h => ⟨h, fun t2 ht2 hδ => ?_⟩⟩
    rw [L.leaf_hash t x t2 true hm ht2] at hδ
    exact ht hδ
  have hKσ : ∀ t x, Anc σ t → (t, x, true) ∈ N → (K' x ↔ K x) :=
    fun t x ht hm => hKn t x hm (fun hδ => not_anc_both ht hδ)
  have hKo : ∀ t x, ¬ Anc (parent σ) t → (t, x, true) ∈ N → (K' x ↔ K x) :=
    fun t x ht hm => hKn t x hm (fun hδ => ht (by have := hδ.parent; rwa [CalcGeo.parent_sib] at this))
  have leaf_ne_P : ∀ x t, (t, x, true) ∈ N → t ≠ parent σ := by
    rintro x t ht rfl
    have h0 := L.leaf_below _ x σ hσ bσ ht hσN (anc_parent_self σ)
    exact Nat.ne_of_lt (Nat.lt_succ_self σ.1) (congrArg Prod.fst h0)
  have src : ∀ q l, liftAll σ A q = some l → (q = parent σ ∧ A σ = some l) ∨
      (∃ c, SUnder σ c ∧ q = liftP σ c ∧ A c = some l) ∨ (¬ Anc (parent σ) q ∧ A q = some l) := by
    intro q l hl
    rcases pos_cases σ q with rfl | ⟨hs, h0⟩ | ⟨c, hc, rfl⟩ | hout
    · rw [liftAll_P] at hl; exact Or.inl ⟨rfl, hl⟩
    · rw [liftAll_row0 hs h0] at hl; cases hl
    · rw [liftAll_lift hc] at hl; exact Or.inr (Or.inl ⟨c, hc, rfl, hl⟩)
    · rw [liftAll_out hout] at hl; exact Or.inr (Or.inr ⟨hout, hl⟩)
  refine { true_hash := ?_, cache_sub := ?_, cached_pos := ?_, roots_stored := ?_, only_needed := ?_,
           has_needed := ?_, flags := ?_, flagsZ := ?_, fullK := ?_ }
  · intro q l hl
    rcases src q l hl with ⟨rfl, hA⟩ | ⟨c, hc, rfl, hA⟩ | ⟨hout, hA⟩
    · obtain ⟨b, hb⟩ := inv.true_hash σ l hA
      exact ⟨b, by rw [← liftP_self]; exact (r.lift σ _ _ (Anc.refl σ)).2 hb⟩
    · obtain ⟨b, hb⟩ := inv.true_hash c l hA
      exact ⟨b, (r.lift c _ _ hc.1).2 hb⟩
    · obtain ⟨b, hb⟩ := inv.true_hash q l hA
      exact ⟨b, (lifted_out hN' hout _ _).2 hb⟩
  · intro x t' h
    unfold liftCAll at h
    cases hC : C x with
    | none => rw [hC] at h; cases h
    | some t => exact (hKn t x (inv.cached_pos x t hC) (hCδ x t hC)).2 (inv.cache_sub x t hC)
  · intro x t' h
    unfold liftCAll at h
    cases hC : C x with
    | none => rw [hC] at h; cases h
    | some t =>
      rw [hC] at h
      simp only [Option.map_some, Option.some.injEq] at h
      have hm := inv.cached_pos x t hC
      by_cases hσt : Anc σ t
      · rw [if_pos hσt] at h
        rw [← h]; exact (r.lift t x true hσt).2 hm
      · rw [if_neg hσt] at h
        subst h
        refine (r.out_leaf t x (fun hu => ?_)).2 hm
        rcases anc_parent_iff'.1 hu with e | e | e
        · exact leaf_ne_P x t hm e
        · exact hσt e
        · exact hCδ x t hC e
  · intro z hz
    rcases (hR' z).1 hz with ⟨rfl, _⟩ | ⟨hr, hout⟩
    · rw [liftAll_P]; exact hσs
    · rw [liftAll_out hout]; exact inv.roots_stored z hr
  · intro q l hl hnr hE
    rcases src q l hl with ⟨rfl, _⟩ | ⟨c, hc, rfl, hA⟩ | ⟨hout, hA⟩
    · exact absurd (Anc.refl _) hE
    · obtain ⟨bc, hcm⟩ := inv.true_hash c l hA
      exact (r.allowed_lift hKσ hc).2 (inv.only_needed c l hA (L.not_root_of_sunder hσN hc) (fun h => h))
    · have hnrq : ¬ R q := fun hr => hnr ((hR' q).2 (Or.inr ⟨hr, hout⟩))
      exact (r.allowed_out' hKo hout (inv.only_needed q l hA hnrq (fun h => h))).resolve_right hE
  · intro z h b hzm hnr hreq
    by_cases hzP : Anc (parent σ) z
    · obtain ⟨c, hc, rfl⟩ := r.under z h b hzm hzP
      have hcm := (r.lift c h b hc).1 hzm
      by_cases hcσ : c = σ
      · subst hcσ; rw [liftP_self, liftAll_P]; exact hσs
      · have hcs : SUnder σ c := sunder_of_ne hc hcσ
        rw [liftAll_lift hcs]
        exact inv.has_needed c h b hcm (L.not_root_of_sunder hσN hcs) ((r.required_lift hKσ hcs).1 hreq)
    · rw [liftAll_out hzP]
      exact inv.has_needed z h b ((lifted_out hN' hzP h b).1 hzm) (fun hr => hnr ((hR' z).2 (Or.inr ⟨hr, hzP⟩)))
        (r.required_out hKσ hKo hzP hreq)
  · intro q l hl hnz
    rcases src q l hl with ⟨rfl, hA⟩ | ⟨c, hc, rfl, hA⟩ | ⟨hout, hA⟩
    · rw [inv.flags σ l hA hnz, ← liftP_self, r.kleaf_lift hKσ (Anc.refl σ)]
    · rw [inv.flags c l hA hnz, r.kleaf_lift hKσ hc.1]
    · rw [inv.flags q l hA hnz, r.kleaf_out hKo hout]
  · intro hf q l hl
    rcases src q l hl with ⟨_, hA⟩ | ⟨c, _, _, hA⟩ | ⟨_, hA⟩ <;> exact inv.flagsZ hf _ l hA
  · intro hf t' x hm
    by_cases hu : Anc (parent σ) t'
    · obtain ⟨t, ht, _, hm'⟩ := r.under_mem hm hu
      exact (hKσ t x ht hm').2 (inv.fullK hf t x hm')
    · have hm' := (r.out_leaf t' x hu).1 hm
      exact (hKo t' x hu hm').2 (inv.fullK hf t' x hm')

end UtreexoVerif.Proofs.MapLiftCore
