/-
  `Stump.add` (Model/Stump.lean, transliteration of stump.go): its two bit loops exactly, one round
  of its main loop and of `rootsToDestory`; it returns normally on every well-formed stump and
  refines the slot specification (Props/C01).  At the end: `Stump.update` without deletions runs
  `calculateHashes` on nothing and is `Stump.add`.
-/
import UtreexoVerif.Model.Stump
import UtreexoVerif.Proofs.SpecForest
import UtreexoVerif.Proofs.Digits
set_option linter.unusedSectionVars false

namespace UtreexoVerif.Proofs.StumpAdd
open Model Hasher Spec

variable {H : Type} [DecidableEq H] [Hasher H]

@[simp] theorem ok_bind {α β} (a : α) (f : α → Out β) : (Out.ok a >>= f) = f a := rfl

theorem popLast_concat {α} (l : List α) (x : α) : popLast (l ++ [x]) = .ok (x, l) := by
  simp [popLast]

theorem mergeHash_eq_foldl (lo : List H) (x : H) :
    mergeHash lo x = lo.reverse.foldl (fun acc r => if r ≠ zero then ph r acc else acc) x := by
  rw [mergeHash, List.foldl_reverse]

/- Both loops run over the trailing one bits of the leaf count and pop one root per bit.  `rl` is
the list of popped roots, lowest row first; nothing else about the stump matters. -/

/-- the map after the merge loop of one addition -/
def innerUpd (ar : U8) : List H → H → U64 → List (H × U64) → List (H × U64)
  | [], _, _, upd => upd
  | r :: rest, nr, pos, upd =>
    if r ≠ zero then
      innerUpd ar rest (ph r nr) (Parent pos ar) (mapPut (mapPut upd r (leftSib pos)) nr pos)
    else innerUpd ar rest nr pos upd

/-- what the inner loop of `rootsToDestory` appends: the root positions of the zero roots -/
def innerDel (n : Nat) (ra : U8) : Nat → List H → List U64
  | _, [] => []
  | j, r :: rest =>
    (if r = zero then [rootPosition (BitVec.ofNat 64 n) (BitVec.ofNat 8 j) ra] else []) ++
      innerDel n ra (j + 1) rest

/-- the position of a new leaf after the destroyed roots `d` have been merged over -/
def addPos (ar : U8) (d : List U64) (p : U64) : U64 :=
  d.foldl (fun pos del =>
    if isAncestor (Parent del ar) pos ar then (calcNextPosition pos del ar).1 else pos) p

theorem addInner_exact (ar : U8) {n t : Nat} (hn : n < 2 ^ 64) (ht : t ≤ 64)
    (tr : Trail n t) (pre : List H) :
    ∀ (rl : List H) (j fuel : Nat) (nr : H) (pos : U64) (upd : List (H × U64)),
      j + rl.length = t → rl.length < fuel →
      addInner ar (BitVec.ofNat 64 n) fuel (BitVec.ofNat 8 j) (pre ++ rl.reverse) nr pos upd =
        .ok (pre, rl.foldl (fun acc r => if r ≠ zero then ph r acc else acc) nr,
          innerUpd ar rl nr pos upd) := by
  intro rl
  induction rl with
  | nil =>
    intro j fuel nr pos upd hj hf
    obtain ⟨f, rfl⟩ : ∃ f, fuel = f + 1 := ⟨fuel - 1, by omega⟩
    have : j = t := by simpa using hj
    subst this
    unfold addInner
    rw [toNat_H8_le (by omega), bit_test hn, tr.clear]
    simp [innerUpd]
  | cons r rest ih =>
    intro j fuel nr pos upd hj hf
    obtain ⟨f, rfl⟩ : ∃ f, fuel = f + 1 := ⟨fuel - 1, by omega⟩
    simp only [List.length_cons] at hj hf
    unfold addInner
    rw [toNat_H8_le (by omega), bit_test hn, tr.low j (by omega)]
    simp only [if_true, List.reverse_cons, ← List.append_assoc, popLast_concat, ok_bind,
      List.foldl_cons]
    rw [ofNat_add_one]
    by_cases hr : r = zero
    · simp only [hr, ne_eq, not_true_eq_false, if_false, innerUpd]
      exact ih (j + 1) f nr pos upd (by omega) (by omega)
    · simp only [ne_eq, hr, not_false_eq_true, if_true, innerUpd]
      exact ih (j + 1) f _ _ _ (by omega) (by omega)

theorem rtdInner_exact (ra : U8) {n t : Nat} (hn : n < 2 ^ 64) (ht : t ≤ 64)
    (tr : Trail n t) (pre : List H) :
    ∀ (rl : List H) (j fuel : Nat) (deleted : List U64),
      j + rl.length = t → rl.length < fuel →
      rtdInner (BitVec.ofNat 64 n) ra fuel (BitVec.ofNat 8 j) (pre ++ rl.reverse) deleted =
        .ok (pre, deleted ++ innerDel n ra j rl) := by
  intro rl
  induction rl with
  | nil =>
    intro j fuel deleted hj hf
    obtain ⟨f, rfl⟩ : ∃ f, fuel = f + 1 := ⟨fuel - 1, by omega⟩
    have : j = t := by simpa using hj
    subst this
    unfold rtdInner
    rw [toNat_H8_le (by omega), bit_test hn, tr.clear]
    simp [innerDel]
  | cons r rest ih =>
    intro j fuel deleted hj hf
    obtain ⟨f, rfl⟩ : ∃ f, fuel = f + 1 := ⟨fuel - 1, by omega⟩
    simp only [List.length_cons] at hj hf
    unfold rtdInner
    rw [toNat_H8_le (by omega), bit_test hn, tr.low j (by omega)]
    simp only [if_true, List.reverse_cons, ← List.append_assoc, popLast_concat, ok_bind]
    rw [ofNat_add_one, ih (j + 1) f _ (by omega) (by omega)]
    simp only [innerDel]
    by_cases hr : r = zero <;> simp [hr]

/- `hi ++ lo` are the roots, `lo` those on the rows of the `t` trailing one bits of `n`. -/

/-- the outer loop of `rootsToDestory` with the row count of the grown forest as a parameter: what
`rtdOuter` computes as long as `TreeRows (numLeaves + (numAdds - i))` does not change, which it does not -/
def rtdOuterR (nonZero : H) (ra : U8) : Nat → U64 → List H → List U64 → Out (List U64)
  | 0, _, _, deleted => .ok deleted
  | k+1, numLeaves, roots, deleted => do
    let (roots, deleted) ← rtdInner numLeaves ra 65 0#8 roots deleted
    rtdOuterR nonZero ra k (numLeaves + 1) (roots ++ [nonZero]) deleted

theorem rtdOuter_eq_rtdOuterR (nonZero : H) (na : U64) {ra : U8} :
    ∀ (k : Nat) (i nl : U64) (roots : List H) (deleted : List U64), TreeRows (nl + (na - i)) = ra →
      rtdOuter nonZero na k i nl roots deleted = rtdOuterR nonZero ra k nl roots deleted
  | 0, _, _, _, _, _ => rfl
  | k + 1, i, nl, roots, deleted, h => by
    have e : nl + 1 + (na - (i + 1)) = nl + (na - i) := by
      rw [← BitVec.sub_sub, BitVec.add_assoc, BitVec.add_comm 1, BitVec.sub_add_cancel]
    rw [rtdOuter, rtdOuterR, h]
    congr 1
    funext r
    exact rtdOuter_eq_rtdOuterR nonZero na k (i + 1) (nl + 1) _ _ (by rw [e]; exact h)

theorem rtdOuterR_succ (nonZero : H) (ra : U8) {n t : Nat} (hn : n < 2 ^ 64) (ht : t ≤ 64)
    (tr : Trail n t) (hi lo : List H)
    (hlo : lo.length = t) (k : Nat) (deleted : List U64) :
    rtdOuterR nonZero ra (k + 1) (BitVec.ofNat 64 n) (hi ++ lo) deleted =
      rtdOuterR nonZero ra k (BitVec.ofNat 64 (n + 1)) (hi ++ [nonZero])
        (deleted ++ innerDel n ra 0 lo.reverse) := by
  have hin := rtdInner_exact ra hn ht tr hi lo.reverse
    0 65 deleted (by rw [List.length_reverse]; omega) (by rw [List.length_reverse]; omega)
  rw [List.reverse_reverse] at hin
  rw [rtdOuterR, show (0#8) = BitVec.ofNat 8 0 from rfl, hin]
  simp only [ok_bind]
  rw [ofNat_add_one]

theorem loop_cons (nonZero : H) (ar : U8) {n t : Nat} (hn : n < 2 ^ 64) (ht : t ≤ 64)
    (tr : Trail n t) (hi lo : List H)
    (hlo : lo.length = t) (x : H) (rest : List H) (remaining : Nat) (upd : List (H × U64))
    {d : List U64}
    (hd : rootsToDestroy nonZero remaining (BitVec.ofNat 64 n) (hi ++ lo) = .ok d) :
    Stump.add.loop nonZero ar (x :: rest) remaining ⟨hi ++ lo, BitVec.ofNat 64 n⟩ upd =
      Stump.add.loop nonZero ar rest (remaining - 1)
        ⟨hi ++ [mergeHash lo x], BitVec.ofNat 64 (n + 1)⟩
        (innerUpd ar lo.reverse x (addPos ar d (BitVec.ofNat 64 n))
          (mapPut upd x (addPos ar d (BitVec.ofNat 64 n)))) := by
  have hin := addInner_exact ar hn ht tr hi lo.reverse 0 65 x (addPos ar d (BitVec.ofNat 64 n))
    (mapPut upd x (addPos ar d (BitVec.ofNat 64 n)))
    (by rw [List.length_reverse]; omega) (by rw [List.length_reverse]; omega)
  rw [List.reverse_reverse, ← mergeHash_eq_foldl] at hin
  rw [Stump.add.loop, hd]
  simp only [ok_bind]
  rw [show (0#8) = BitVec.ofNat 8 0 from rfl]
  show (addInner ar (BitVec.ofNat 64 n) 65 (BitVec.ofNat 8 0) (hi ++ lo) x
    (addPos ar d (BitVec.ofNat 64 n)) (mapPut upd x (addPos ar d (BitVec.ofNat 64 n))) >>= _) = _
  rw [hin]
  simp only [ok_bind]
  rw [ofNat_add_one]

theorem split_roots {n : Nat} (hn : n < 2 ^ 64) (roots : List H)
    (hl : roots.length = (treeRows n).length) :
    ∃ (t : Nat) (hi lo : List H), t ≤ 64 ∧ Trail n t ∧
      roots = hi ++ lo ∧ lo.length = t ∧ ∀ x : H, (hi ++ [x]).length = (treeRows (n + 1)).length := by
  have tr := trail_trailingOnes n
  have h64 := tr.le_of_lt hn
  obtain ⟨e1, e2⟩ := tr.treeRows h64
  rw [e1, List.length_append, List.length_reverse, List.length_range] at hl
  refine ⟨_, roots.take (hiRows n (trailingOnes n)).length, roots.drop (hiRows n (trailingOnes n)).length,
    h64, tr, (List.take_append_drop _ _).symm, by rw [List.length_drop]; omega, fun x => ?_⟩
  rw [e2, List.length_append, List.length_append, List.length_take]
  simp only [List.length_cons, List.length_nil]
  omega

theorem rtdOuterR_ok (nonZero : H) (ra : U8) :
    ∀ (k : Nat) (n : Nat) (roots : List H) (deleted : List U64),
      n + k ≤ 2 ^ 64 → roots.length = (treeRows n).length →
      ∃ d, rtdOuterR nonZero ra k (BitVec.ofNat 64 n) roots deleted = .ok d := by
  intro k
  induction k with
  | zero => intro n roots deleted _ _; exact ⟨deleted, rfl⟩
  | succ k ih =>
    intro n roots deleted hk hl
    have hn : n < 2 ^ 64 := by omega
    obtain ⟨t, hi, lo, ht, tr, rfl, hlo, hlen⟩ := split_roots hn roots hl
    rw [rtdOuterR_succ nonZero ra hn ht tr hi lo hlo]
    exact ih _ _ _ (by omega) (hlen nonZero)

theorem rootsToDestroy_ok (nonZero : H) (k n : Nat) (roots : List H) (hk : n + k < 2 ^ 64)
    (hl : roots.length = (treeRows n).length) :
    ∃ d, rootsToDestroy nonZero k (BitVec.ofNat 64 n) roots = .ok d := by
  unfold rootsToDestroy
  split
  · rw [rtdOuter_eq_rtdOuterR nonZero _ k _ _ roots [] rfl]
    exact rtdOuterR_ok nonZero _ k n roots [] (by omega) hl
  · exact ⟨[], rfl⟩

theorem loop_ok (nonZero : H) (ar : U8) :
    ∀ (adds : List H) (n remaining : Nat) (roots : List H) (upd : List (H × U64)),
      remaining = adds.length → n + adds.length < 2 ^ 64 → roots.length = (treeRows n).length →
      ∃ r, Stump.add.loop nonZero ar adds remaining ⟨roots, BitVec.ofNat 64 n⟩ upd = .ok r := by
  intro adds
  induction adds with
  | nil => intro n remaining roots upd _ _ _; exact ⟨_, rfl⟩
  | cons x rest ih =>
    intro n remaining roots upd hrem hlt hl
    simp only [List.length_cons] at hrem hlt
    obtain ⟨t, hi, lo, ht, tr, rfl, hlo, hlen⟩ := split_roots (by omega) roots hl
    obtain ⟨d, hd⟩ := rootsToDestroy_ok nonZero remaining n (hi ++ lo) (by omega) hl
    rw [loop_cons nonZero ar (by omega) ht tr hi lo hlo x rest remaining upd hd]
    exact ih _ _ _ _ (by omega) (by omega) (hlen _)

theorem add_ok (nonZero : H) (roots : List H) (adds : List H) {n : Nat}
    (hlt : n + adds.length < 2 ^ 64) (hl : roots.length = (treeRows n).length) :
    ∃ r, Stump.add nonZero ⟨roots, BitVec.ofNat 64 n⟩ adds = .ok r := by
  obtain ⟨d, hd⟩ := rootsToDestroy_ok nonZero adds.length n roots hlt hl
  obtain ⟨r, hr⟩ := loop_ok nonZero (TreeRows (BitVec.ofNat 64 n + BitVec.ofNat 64 adds.length)) adds n
    adds.length roots [] rfl hlt hl
  unfold Stump.add
  simp only
  rw [hd, ok_bind, hr, ok_bind]
  exact ⟨_, rfl⟩

theorem split_forest_roots (F : Forest H) (x : H) (hn : F.numLeaves < 2 ^ 64)
    (hph : ∀ a b : H, ph a b ≠ (zero : H)) (hlive : ∀ y ∈ F.liveLeaves, y ≠ (zero : H)) :
    ∃ (t : Nat) (hi lo : List H), t ≤ 64 ∧ Trail F.numLeaves t ∧ F.roots = hi ++ lo ∧ lo.length = t ∧
      (F.add x).roots = hi ++ [mergeHash lo x] := by
  have tr := trail_trailingOnes F.numLeaves
  have ht := tr.le_of_lt hn
  obtain ⟨hi, lo, hroots, hlo, hadd⟩ := roots_add F x tr ht hph hlive
  exact ⟨_, hi, lo, ht, tr, hroots, hlo, hadd⟩

theorem loop_spec (nonZero : H) (ar : U8) (hph : ∀ a b : H, ph a b ≠ (zero : H)) :
    ∀ (adds : List H) (F : Forest H) (s : Stump H) (upd : List (H × U64)) (remaining : Nat),
      remaining = adds.length → s.roots = F.roots → s.numLeaves = BitVec.ofNat 64 F.numLeaves →
      F.numLeaves + adds.length < 2 ^ 64 → (∀ y ∈ F.liveLeaves, y ≠ (zero : H)) →
      (∀ y ∈ adds, y ≠ (zero : H)) →
      ∃ upd', Stump.add.loop nonZero ar adds remaining s upd =
        .ok (⟨(F.addMany adds).roots, BitVec.ofNat 64 (F.numLeaves + adds.length)⟩, upd') := by
  intro adds
  induction adds with
  | nil =>
    intro F s upd remaining _ hr hn _ _ _
    obtain ⟨roots, nl⟩ := s
    simp only at hr hn
    subst hr hn
    exact ⟨upd, by rw [Stump.add.loop, addMany_nil]; rfl⟩
  | cons x rest ih =>
    intro F s upd remaining hrem hr hn hlt hlive hadds
    obtain ⟨roots, nl⟩ := s
    simp only at hr hn
    subst hr hn
    simp only [List.length_cons] at hrem hlt
    obtain ⟨t, hi, lo, ht, tr, hroots, hlo, hadd⟩ :=
      split_forest_roots F x (by omega) hph hlive
    obtain ⟨d, hd⟩ := rootsToDestroy_ok nonZero remaining F.numLeaves F.roots (by omega)
      (roots_length F)
    rw [hroots] at hd ⊢
    rw [loop_cons nonZero ar (by omega) ht tr hi lo hlo x rest remaining upd hd]
    obtain ⟨upd', h2⟩ := ih (F.add x) ⟨hi ++ [mergeHash lo x], BitVec.ofNat 64 (F.numLeaves + 1)⟩ _
      (remaining - 1) (by omega) hadd.symm (by rw [numLeaves_add]) (by rw [numLeaves_add]; omega)
      (by
        intro y hy
        rw [liveLeaves_add, List.mem_append, List.mem_singleton] at hy
        rcases hy with hy | rfl
        · exact hlive y hy
        · exact hadds y List.mem_cons_self)
      (fun y hy => hadds y (List.mem_cons_of_mem _ hy))
    refine ⟨upd', ?_⟩
    rw [h2, ← addMany_cons, numLeaves_add, List.length_cons, Nat.add_assoc, Nat.add_comm 1]

/-- `hph`, `hlive`, `hadds`: the zero hash marks a root without survivors (the merge loop skips it),
so no parent hash, live leaf or added leaf may be it. -/
theorem add_refines (nonZero : H) (F : Forest H) (s : Stump H) (adds : List H)
    (hph : ∀ a b : H, ph a b ≠ (zero : H))
    (hr : s.roots = F.roots) (hn : s.numLeaves = BitVec.ofNat 64 F.numLeaves)
    (hlt : F.numLeaves + adds.length < 2 ^ 64)
    (hlive : ∀ y ∈ F.liveLeaves, y ≠ (zero : H)) (hadds : ∀ y ∈ adds, y ≠ (zero : H)) :
    ∃ upd td, s.add nonZero adds =
      .ok (⟨(F.addMany adds).roots, BitVec.ofNat 64 (F.numLeaves + adds.length)⟩, upd, td) := by
  obtain ⟨d, hd⟩ := rootsToDestroy_ok nonZero adds.length F.numLeaves s.roots hlt
    (by rw [hr, roots_length])
  obtain ⟨upd', h⟩ := loop_spec nonZero (TreeRows (s.numLeaves + BitVec.ofNat 64 adds.length)) hph adds F s []
    adds.length rfl hr hn hlt hlive hadds
  refine ⟨sortHP (upd'.map (fun e => (e.2, e.1))), d, ?_⟩
  unfold Stump.add
  simp only
  rw [hn] at h ⊢
  rw [hd, ok_bind, h, ok_bind]
  rfl

theorem calcLoop_empty (n : U64) (tr : U8) (fuel : Nat) (pr : List H) :
    calcLoop n tr (fuel + 1)
      ({ toProve := [], next := [], done := [], proof := pr, row := 0#8, roots := [], rootRows := [] } : CalcSt H) =
      .ok { toProve := [], next := [], done := [], proof := pr, row := 0#8, roots := [], rootRows := [] } := by
  unfold calcLoop calcStep
  simp [nextLeast]
  rfl

theorem calculateHashes_empty (n : U64) (dh : Option (List H)) (hd : dh.getD [] = []) :
    calculateHashes n dh [] ([] : List H) = .ok { nodes := [], roots := [], rootRows := [] } := by
  -- no targets: the queue is empty, so the loop stops at once with nothing recorded
  cases dh with
  | none =>
    simp [calculateHashes, toHashAndPos, sortHP, sortBy, calcFuel, bind, Out.bind, calcLoop_empty,
      mergeHP, pure]
  | some hs =>
    obtain rfl : hs = [] := hd
    simp [calculateHashes, toHashAndPos, sortHP, sortBy, calcFuel, bind, Out.bind, calcLoop_empty,
      mergeHP, pure]

theorem update_no_dels (nonZero : H) (s : Stump H) (adds : List H) :
    s.update nonZero [] adds [] [] =
      match s.add nonZero adds with
      | .ok (s2, newAdd, td) =>
        .ok (s2, { toDestroy := td, prevNumLeaves := s.numLeaves, newDel := [], newAdd := newAdd })
      | .err => .err
      | .panic => .panic
      | .hang => .hang := by
  unfold Stump.update Stump.updateSt Stump.delSt verify
  simp only [List.length_nil, ne_eq, not_true_eq_false, if_false, bind, Out.bind,
    calculateHashes_empty _ none rfl, calculateHashes_empty _ (some []) rfl, matchRoots]
  simp only [List.zip_nil_right, List.foldl_nil]
  cases s
  simp only
  generalize Stump.add nonZero _ adds = r
  rcases r with ⟨s2, na, td⟩ | _ | _ | _ <;> rfl

end UtreexoVerif.Proofs.StumpAdd
