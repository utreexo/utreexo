/-
  The inner loops of `proofUndoDel` (property C08): `udTargets` and `udProofs` on
  position-sorted lists, independent of the geometry.

  Both loops walk over a list that they re-sort in place after every hit.  On a strictly sorted
  list, when every hit moves the entry to a SMALLER position, the walk visits every original
  entry exactly once.  (`udProofs` reads the positions from the array as it was at the first hit,
  `frozen`, while it writes into a pile that has grown by the entry merged in at `sib`; that is
  harmless because a hit lies at or before `sib`: hypothesis `x.1 ≤ sib` of `udProofs_main`.)
  The last section says what both loops and the outer loop do in ONE statement each, for any
  family of key sets on which a pass is an injective, decreasing map (`PassOK`, `pass_lists`,
  `outer_lists`); the hashes of the block targets play no role there.
-/
import UtreexoVerif.Proofs.ProofUndoLists
import UtreexoVerif.Proofs.PosMove

namespace UtreexoVerif.Proofs.ProofUndoLoops
open Model Hasher
open UtreexoVerif.Proofs.ProofUpdateLists

section
variable {H : Type}

/-- the test both loops apply to a position; `UndoPass.lean` states it for any tree-index function as
`udTest` (`ProofUndoDel.udCond_eq`) -/
def udCond (nl : U64) (rows : U8) (bt sib target : U64) : Bool :=
  !((DetectOffset target nl).1 != (DetectOffset bt nl).1) &&
    (isAncestor sib target rows || sib == target)

def udMap (nl : U64) (rows : U8) (bt sib : U64) (x : U64 × H) : U64 × H :=
  if udCond nl rows bt sib x.1 then (calcPrevPosition x.1 bt rows, x.2) else x

theorem sortBy_set_prefix {α : Type} (key : α → U64) (A B : List α) (x' : α)
    (hA : A.Pairwise (fun a b => key a ≤ key b))
    (hB : B.Pairwise (fun a b => key a ≤ key b))
    (hAB : ∀ a ∈ A, ∀ b ∈ B, key a ≤ key b) (hx : ∀ b ∈ B, key x' ≤ key b) :
    sortBy key (A ++ x' :: B) = insertBy key x' A ++ B := by
  unfold sortBy
  rw [List.foldl_append, SortBy.foldl_insertBy_eq_append key A [] (by simpa using hA),
    List.nil_append, List.foldl_cons]
  apply SortBy.foldl_insertBy_eq_append
  rw [List.pairwise_append]
  refine ⟨SortBy.insertBy_sorted key x' A hA, hB, ?_⟩
  intro a ha b hb
  rcases (SortBy.mem_insertBy key x' a A).1 ha with rfl | ha
  · exact hx b hb
  · exact hAB a ha b hb

theorem set_append_length {α : Type} (A : List α) (x x' : α) (B : List α) :
    (A ++ x :: B).set A.length x' = A ++ x' :: B := by
  induction A with
  | nil => rfl
  | cons a t ih => simp [ih]

theorem udTargets_skip (nl : U64) (rows : U8) (bt : U64) (bh : H) (sib : U64) (fuel i : Nat)
    (tw np : HP H) (x : U64 × H) (hx : tw[i]? = some x) (hc : udCond nl rows bt sib x.1 = false) :
    udTargets nl rows bt bh sib (fuel + 1) i tw np = udTargets nl rows bt bh sib fuel (i + 1) tw np := by
  obtain ⟨t, h⟩ := x
  rw [udTargets, hx]
  simp only
  unfold udCond at hc
  by_cases h1 : ((DetectOffset t nl).1 != (DetectOffset bt nl).1) = true
  · rw [if_pos h1]
  · rw [if_neg h1]
    have h1' : ((DetectOffset t nl).1 != (DetectOffset bt nl).1) = false := by simpa using h1
    rw [h1'] at hc
    simp only [Bool.not_false, Bool.true_and] at hc
    rw [hc]
    simp

theorem udTargets_hit (nl : U64) (rows : U8) (bt : U64) (bh : H) (sib : U64) (fuel i : Nat)
    (tw np : HP H) (x : U64 × H) (hx : tw[i]? = some x) (hc : udCond nl rows bt sib x.1 = true) :
    udTargets nl rows bt bh sib (fuel + 1) i tw np =
      udTargets nl rows bt bh sib fuel (i + 1)
        (sortHP (tw.set i (calcPrevPosition x.1 bt rows, x.2))) (sortHP (np ++ [(bt, bh)])) := by
  obtain ⟨t, h⟩ := x
  rw [udTargets, hx]
  simp only
  unfold udCond at hc
  simp only [Bool.and_eq_true, Bool.not_eq_true'] at hc
  obtain ⟨h1, h2⟩ := hc
  rw [if_neg (by rw [h1]; simp), if_pos h2]

theorem udTargets_fst (nl : U64) (rows : U8) (bt : U64) (bh : H) (sib : U64) :
    ∀ (B A np : HP H) (fuel : Nat), B.length < fuel →
      A.Pairwise (fun a b => a.1 ≤ b.1) → B.Pairwise (fun a b => a.1 < b.1) →
      (∀ a ∈ A, ∀ b ∈ B, a.1 < b.1) →
      (∀ x ∈ B, udCond nl rows bt sib x.1 = true → calcPrevPosition x.1 bt rows < x.1) →
      (udTargets nl rows bt bh sib fuel A.length (A ++ B) np).1 =
        (B.map (udMap nl rows bt sib)).foldl (fun acc x => insertBy (·.1) x acc) A := by
  intro B
  induction B with
  | nil =>
    intro A np fuel hf _ _ _ _
    obtain ⟨f, rfl⟩ : ∃ f, fuel = f + 1 := ⟨fuel - 1, by simp at hf; omega⟩
    rw [udTargets]
    simp
  | cons x B' ih =>
    intro A np fuel hf hA hB hAB hprev
    obtain ⟨f, rfl⟩ : ∃ f, fuel = f + 1 := ⟨fuel - 1, by simp at hf; omega⟩
    rw [List.pairwise_cons] at hB
    have hget : (A ++ x :: B')[A.length]? = some x := by simp
    have hB'le : B'.Pairwise (fun a b => a.1 ≤ b.1) := hB.2.imp (fun h => BitVec.le_of_lt h)
    rw [List.map_cons, List.foldl_cons]
    cases hc : udCond nl rows bt sib x.1 with
    | false =>
      rw [udTargets_skip nl rows bt bh sib f A.length _ np x hget hc]
      have e : udMap nl rows bt sib x = x := by unfold udMap; rw [hc]; rfl
      rw [e, SortBy.insertBy_eq_append (·.1) x A (fun y hy =>
        BitVec.le_of_lt (hAB y hy x List.mem_cons_self))]
      have e2 : A ++ x :: B' = (A ++ [x]) ++ B' := by simp
      have e3 : A.length + 1 = (A ++ [x]).length := by simp
      rw [e2, e3]
      apply ih (A ++ [x]) np f (by simp at hf; omega)
      · rw [List.pairwise_append]
        refine ⟨hA, by simp, ?_⟩
        intro a ha b hb
        simp only [List.mem_singleton] at hb
        subst hb
        exact BitVec.le_of_lt (hAB a ha b List.mem_cons_self)
      · exact hB.2
      · intro a ha b hb
        rcases List.mem_append.1 ha with ha | ha
        · exact hAB a ha b (List.mem_cons_of_mem _ hb)
        · simp only [List.mem_singleton] at ha
          subst ha
          exact hB.1 b hb
      · exact fun y hy => hprev y (List.mem_cons_of_mem _ hy)
    | true =>
      rw [udTargets_hit nl rows bt bh sib f A.length _ np x hget hc]
      have hlt := hprev x List.mem_cons_self hc
      have e : udMap nl rows bt sib x = (calcPrevPosition x.1 bt rows, x.2) := by
        unfold udMap; rw [hc]; rfl
      rw [e, set_append_length]
      have hsort : sortHP (A ++ (calcPrevPosition x.1 bt rows, x.2) :: B') =
          insertBy (·.1) (calcPrevPosition x.1 bt rows, x.2) A ++ B' := by
        apply sortBy_set_prefix (fun z : U64 × H => z.1) A B' _ hA hB'le
        · intro a ha b hb
          exact BitVec.le_of_lt (hAB a ha b (List.mem_cons_of_mem _ hb))
        · intro b hb
          exact BitVec.le_of_lt (BitVec.lt_trans hlt (hB.1 b hb))
      rw [hsort]
      have e3 : A.length + 1 = (insertBy (·.1) (calcPrevPosition x.1 bt rows, x.2) A).length := by
        rw [(SortBy.insertBy_perm _ _ _).length_eq]; simp
      rw [e3]
      apply ih _ _ f (by simp at hf; omega)
      · exact SortBy.insertBy_sorted _ _ _ hA
      · exact hB.2
      · intro a ha b hb
        rcases (SortBy.mem_insertBy _ _ a A).1 ha with rfl | ha
        · exact BitVec.lt_trans hlt (hB.1 b hb)
        · exact hAB a ha b (List.mem_cons_of_mem _ hb)
      · exact fun y hy => hprev y (List.mem_cons_of_mem _ hy)

theorem udTargets_spec (nl : U64) (rows : U8) (bt : U64) (bh : H) (sib : U64) (tw np : HP H)
    (hs : tw.Pairwise (fun a b => a.1 < b.1))
    (hprev : ∀ x ∈ tw, udCond nl rows bt sib x.1 = true → calcPrevPosition x.1 bt rows < x.1) :
    (udTargets nl rows bt bh sib (tw.length + 1) 0 tw np).1 =
      sortHP (tw.map (udMap nl rows bt sib)) := by
  have := udTargets_fst nl rows bt bh sib tw [] np (tw.length + 1) (by omega) List.Pairwise.nil hs
    (by simp) hprev
  simpa [sortHP, sortBy] using this

theorem udTargets_snd (nl : U64) (rows : U8) (bt : U64) (bh : H) (sib : U64) :
    ∀ (fuel i : Nat) (tw np : HP H), np.Pairwise (fun a b => a.1 ≤ b.1) →
      ((udTargets nl rows bt bh sib fuel i tw np).2).Pairwise (fun a b => a.1 ≤ b.1) ∧
      ∀ z ∈ (udTargets nl rows bt bh sib fuel i tw np).2, z ∈ np ∨ z = (bt, bh) := by
  intro fuel
  induction fuel with
  | zero => intro i tw np hnp; exact ⟨hnp, fun z hz => Or.inl hz⟩
  | succ f ih =>
    intro i tw np hnp
    cases hx : tw[i]? with
    | none =>
      rw [udTargets, hx]
      exact ⟨hnp, fun z hz => Or.inl hz⟩
    | some x =>
      cases hc : udCond nl rows bt sib x.1 with
      | false =>
        rw [udTargets_skip nl rows bt bh sib f i tw np x hx hc]
        exact ih _ _ _ hnp
      | true =>
        rw [udTargets_hit nl rows bt bh sib f i tw np x hx hc]
        obtain ⟨h1, h2⟩ := ih (i + 1) (sortHP (tw.set i (calcPrevPosition x.1 bt rows, x.2)))
          (sortHP (np ++ [(bt, bh)])) (SortBy.sortBy_sorted _ _)
        refine ⟨h1, ?_⟩
        intro z hz
        rcases h2 z hz with h | h
        · have := (SortBy.mem_sortBy _ z _).1 h
          rcases List.mem_append.1 this with h' | h'
          · exact Or.inl h'
          · right; simpa using h'
        · exact Or.inr h

theorem mergeHP_cons_single_lt (x y : U64 × H) (xs : HP H) (h : x.1 < y.1) :
    mergeHP (x :: xs) [y] = x :: mergeHP xs [y] := by
  rw [mergeHP, if_pos h]

theorem mergeHP_cons_single_eq (x y : U64 × H) (xs : HP H) (h : x.1 = y.1) :
    mergeHP (x :: xs) [y] = x :: xs := by
  rw [mergeHP, if_neg (by rw [h]; exact BitVec.lt_irrefl _), if_neg (by rw [h]; exact BitVec.lt_irrefl _)]
  cases xs <;> simp [mergeHP]

theorem mergeHP_cons_single_gt (x y : U64 × H) (xs : HP H) (h : y.1 < x.1) :
    mergeHP (x :: xs) [y] = y :: x :: xs := by
  rw [mergeHP, if_neg (fun h' => BitVec.lt_irrefl _ (BitVec.lt_trans h h')), if_pos h]
  simp [mergeHP]

theorem mergeHP_nil_single (y : U64 × H) : mergeHP ([] : HP H) [y] = [y] := by
  simp [mergeHP]

theorem mergeHP_append_single (A B : HP H) (y : U64 × H) (h : ∀ a ∈ A, a.1 < y.1) :
    mergeHP (A ++ B) [y] = A ++ mergeHP B [y] := by
  induction A with
  | nil => rfl
  | cons a t ih =>
    rw [List.cons_append, mergeHP_cons_single_lt _ _ _ (h a List.mem_cons_self),
      ih (fun z hz => h z (List.mem_cons_of_mem _ hz))]
    rfl

theorem mergeHP_absorb : ∀ (L : HP H) (y : U64 × H), L.Pairwise (fun a b => a.1 ≤ b.1) →
    (∃ z ∈ L, z.1 = y.1) → mergeHP L [y] = L := by
  intro L
  induction L with
  | nil => intro y _ h; obtain ⟨z, hz, _⟩ := h; cases hz
  | cons x xs ih =>
    intro y hs hex
    rw [List.pairwise_cons] at hs
    by_cases h1 : x.1 < y.1
    · rw [mergeHP_cons_single_lt _ _ _ h1, ih y hs.2]
      obtain ⟨z, hz, hzy⟩ := hex
      rcases List.mem_cons.1 hz with rfl | hz
      · exfalso; rw [hzy] at h1; exact BitVec.lt_irrefl _ h1
      · exact ⟨z, hz, hzy⟩
    · by_cases h2 : x.1 = y.1
      · exact mergeHP_cons_single_eq _ _ _ h2
      · exfalso
        obtain ⟨z, hz, hzy⟩ := hex
        rcases List.mem_cons.1 hz with rfl | hz
        · exact h2 hzy
        · have := hs.1 z hz
          rw [hzy] at this
          exact h2 (BitVec.le_antisymm this (BitVec.not_lt.1 h1))

theorem mem_keys_mergeHP_single (L : HP H) (y : U64 × H) : ∃ z ∈ mergeHP L [y], z.1 = y.1 := by
  have : y.1 ∈ (mergeHP L [y]).positions := by
    rw [ProofOps.mergeHP_positions, ProofOps.mem_mergeU64]
    right
    simp [HP.positions]
  obtain ⟨z, hz, e⟩ := mem_positions.1 this
  exact ⟨z, hz, e⟩

section proofs
variable [Hasher H]

def udRead (frozen : Option (List U64)) (pw : HP H) (i : Nat) : Option U64 :=
  match frozen with
  | some arr => arr[i]?
  | none => (pw[i]?).map (·.1)

def udParentH (bt : U64) (bh sh : H) : H := if isLeftNiece bt then ph bh sh else ph sh bh

theorem udProofs_skip (nl : U64) (rows : U8) (bt : U64) (bh : H) (sib : U64) (fuel i n : Nat)
    (frozen : Option (List U64)) (pw : HP H) (hi : i < n) (t : U64)
    (hr : udRead frozen pw i = some t) (hc : udCond nl rows bt sib t = false) :
    udProofs nl rows bt bh sib (fuel + 1) i n frozen pw =
      udProofs nl rows bt bh sib fuel (i + 1) n frozen pw := by
  rw [udProofs.eq_def]
  simp only [if_neg (show ¬ i ≥ n by omega)]
  change (match udRead frozen pw i with
    | none => _
    | some target => _) = _
  rw [hr]
  simp only
  unfold udCond at hc
  by_cases h1 : ((DetectOffset t nl).1 != (DetectOffset bt nl).1) = true
  · rw [if_pos h1]
  · rw [if_neg h1]
    have h1' : ((DetectOffset t nl).1 != (DetectOffset bt nl).1) = false := by simpa using h1
    rw [h1'] at hc
    simp only [Bool.not_false, Bool.true_and] at hc
    rw [hc]
    simp

theorem udProofs_hit (nl : U64) (rows : U8) (bt : U64) (bh : H) (sib : U64) (fuel i n : Nat)
    (frozen : Option (List U64)) (pw : HP H) (hi : i < n) (t : U64)
    (hr : udRead frozen pw i = some t) (hc : udCond nl rows bt sib t = true) (x : U64 × H)
    (hx : pw[i]? = some x) :
    udProofs nl rows bt bh sib (fuel + 1) i n frozen pw =
      udProofs nl rows bt bh sib fuel (i + 1) n
        (some (frozen.getD (sortHP (pw.set i (calcPrevPosition t bt rows, x.2))).positions))
        (mergeHP (sortHP (pw.set i (calcPrevPosition t bt rows, x.2)))
          [(sib, udParentH bt bh x.2)]) := by
  obtain ⟨xp, xh⟩ := x
  unfold udCond at hc
  simp only [Bool.and_eq_true, Bool.not_eq_true'] at hc
  obtain ⟨h1, h2⟩ := hc
  rw [udProofs.eq_def]
  simp only [if_neg (show ¬ i ≥ n by omega)]
  change (match udRead frozen pw i with
    | none => _
    | some target => _) = _
  rw [hr]
  simp only
  rw [if_neg (by rw [h1]; simp), if_pos h2, hx]
  cases frozen <;> rfl

theorem udProofs_done (nl : U64) (rows : U8) (bt : U64) (bh : H) (sib : U64) (n : Nat)
    (frozen : Option (List U64)) (pw : HP H) : ∀ (fuel i : Nat),
    (∀ j, i ≤ j → j < n → ∃ t, udRead frozen pw j = some t ∧ udCond nl rows bt sib t = false) →
    udProofs nl rows bt bh sib fuel i n frozen pw = .ok pw := by
  intro fuel
  induction fuel with
  | zero => intro i _; rfl
  | succ f ih =>
    intro i h
    by_cases hi : i < n
    · obtain ⟨t, hr, hc⟩ := h i (Nat.le_refl _) hi
      rw [udProofs_skip nl rows bt bh sib f i n frozen pw hi t hr hc]
      exact ih (i + 1) (fun j hj hjn => h j (by omega) hjn)
    · cases frozen <;> rw [udProofs, if_pos (by omega)]

end proofs

/-- postcondition of the proof loop -/
structure UdPost (f : U64 × H → U64 × H) (c : U64 → Bool) (sib : U64) (orig pw : HP H) : Prop where
  sorted : pw.Pairwise (fun a b => a.1 < b.1)
  mapped : ∀ x ∈ orig, f x ∈ pw
  only : ∀ z ∈ pw, (∃ x ∈ orig, z = f x) ∨ (z.1 = sib ∧ ∃ x ∈ orig, c x.1 = true)

theorem single_sorted {E : HP H} {sib : U64} (hE : E = [] ∨ ∃ g, E = [(sib, g)]) :
    E.Pairwise (fun a b => a.1 < b.1) := by
  rcases hE with rfl | ⟨g, rfl⟩ <;> simp

/-- the pile between two steps of the proof loop satisfies `UdPost` once no hit is left: in front `A`,
the visited part `O1` mapped and re-sorted, all below `sib`; behind it the unvisited part `O2`, which
`f` leaves alone, merged with the entry `E` inserted at `sib` (if any) -/
theorem post_of_state (f : U64 × H → U64 × H) (c : U64 → Bool) (sib : U64) (O1 O2 A E : HP H)
    (hs : (O1 ++ O2).Pairwise (fun a b => a.1 < b.1))
    (hnd : (((O1 ++ O2).map f).map (·.1)).Nodup)
    (hA : A.Pairwise (fun a b => a.1 ≤ b.1)) (hperm : A.Perm (O1.map f))
    (hAP : ∀ a ∈ A, a.1 < sib) (hAB : ∀ a ∈ A, ∀ b ∈ O2, a.1 < b.1)
    (hE : E = [] ∨ ∃ g, E = [(sib, g)]) (hEw : E ≠ [] → ∃ x ∈ O1, c x.1 = true)
    (hid : ∀ x ∈ O2, f x = x) :
    UdPost f c sib (O1 ++ O2) (A ++ mergeHP O2 E) := by
  have hO2 : O2.Pairwise (fun a b => a.1 < b.1) := (List.pairwise_append.1 hs).2.1
  have hEs := single_sorted hE
  have hmem : ∀ z, z ∈ mergeHP O2 E → z ∈ O2 ∨ z ∈ E := fun z => ProofOps.mem_mergeHP _ _ z
  have hkeys : (A.map (·.1)).Nodup := by
    have h1 : ((O1.map f).map (·.1)).Nodup := by
      rw [List.map_append, List.map_append] at hnd
      exact (List.nodup_append.1 hnd).1
    exact ((hperm.map (·.1)).nodup_iff).2 h1
  refine ⟨?_, ?_, ?_⟩
  · rw [List.pairwise_append]
    refine ⟨InsertW.strict_of_sorted Prod.fst SortBy.u64Order hA hkeys, mergeHP_sorted _ _ hO2 hEs, ?_⟩
    intro a ha b hb
    rcases hmem b hb with h | h
    · exact hAB a ha b h
    · rcases hE with rfl | ⟨g, rfl⟩
      · cases h
      · simp only [List.mem_singleton] at h
        subst h
        exact hAP a ha
  · intro x hx
    rcases List.mem_append.1 hx with h | h
    · exact List.mem_append_left _ (hperm.mem_iff.2 (List.mem_map_of_mem h))
    · rw [hid x h]
      exact List.mem_append_right _ ((mem_mergeHP_iff _ _ hO2 hEs x).2 (Or.inl h))
  · intro z hz
    rcases List.mem_append.1 hz with h | h
    · obtain ⟨x, hx, e⟩ := List.mem_map.1 (hperm.mem_iff.1 h)
      exact Or.inl ⟨x, List.mem_append_left _ hx, e.symm⟩
    · rcases hmem z h with h' | h'
      · exact Or.inl ⟨z, List.mem_append_right _ h', (hid z h').symm⟩
      · rcases hE with rfl | ⟨g, rfl⟩
        · cases h'
        · simp only [List.mem_singleton] at h'
          subst h'
          obtain ⟨x, hx, hcx⟩ := hEw (by simp)
          exact Or.inr ⟨rfl, x, List.mem_append_left _ hx, hcx⟩

section proofs2
variable [Hasher H]

/-- **the proof loop**, by induction on the part of the original list that is still to be
visited (`O2`); `A` is the re-sorted image of the visited part `O1`, `E` the entry inserted at the
sibling position (if any) -/
theorem udProofs_main (nl : U64) (rows : U8) (bt : U64) (bh : H) (sib : U64) :
    ∀ (O2 O1 A E : HP H) (frozen : Option (List U64)) (fuel : Nat),
    O2.length < fuel →
    (O1 ++ O2).Pairwise (fun a b => a.1 < b.1) →
    (∀ x ∈ O1 ++ O2, udCond nl rows bt sib x.1 = true →
      calcPrevPosition x.1 bt rows < x.1 ∧ x.1 ≤ sib) →
    (((O1 ++ O2).map (udMap nl rows bt sib)).map (·.1)).Nodup →
    A.length = O1.length →
    A.Pairwise (fun a b => a.1 ≤ b.1) →
    A.Perm (O1.map (udMap nl rows bt sib)) →
    (∀ a ∈ A, a.1 < sib) →
    (∀ a ∈ A, ∀ b ∈ O2, a.1 < b.1) →
    (E = [] ∨ ∃ g, E = [(sib, g)]) →
    (E ≠ [] → ∃ x ∈ O1, udCond nl rows bt sib x.1 = true) →
    (frozen = none → A = O1 ∧ E = []) →
    (∀ arr, frozen = some arr → ∀ j, O1.length ≤ j → j < (O1 ++ O2).length →
      arr[j]? = ((O1 ++ O2)[j]?).map (·.1)) →
    ∃ pwf, udProofs nl rows bt bh sib fuel O1.length (O1 ++ O2).length frozen
        (A ++ mergeHP O2 E) = .ok pwf ∧
      UdPost (udMap nl rows bt sib) (udCond nl rows bt sib) sib (O1 ++ O2) pwf := by
  intro O2
  induction O2 with
  | nil =>
    intro O1 A E frozen fuel _ hs _ hnd _ hA hperm hAP hAB hE hEw _ _
    refine ⟨A ++ mergeHP [] E, ?_, post_of_state _ _ sib O1 [] A E hs hnd hA hperm hAP hAB hE hEw
      (fun x hx => by cases hx)⟩
    apply udProofs_done
    intro j hj hjn
    simp at hjn
    omega
  | cons x O2' ih =>
    intro O1 A E frozen fuel hf hs hprev hnd hlen hA hperm hAP hAB hE hEw hfz1 hfz2
    obtain ⟨f, rfl⟩ : ∃ f, fuel = f + 1 := ⟨fuel - 1, by simp at hf; omega⟩
    have hO2 : (x :: O2').Pairwise (fun a b => a.1 < b.1) := (List.pairwise_append.1 hs).2.1
    have hO2' := (List.pairwise_cons.1 hO2).2
    have hxlt : ∀ b ∈ O2', x.1 < b.1 := (List.pairwise_cons.1 hO2).1
    have hi : O1.length < (O1 ++ x :: O2').length := by simp
    have hEs := single_sorted hE
    have hread : udRead frozen (A ++ mergeHP (x :: O2') E) O1.length = some x.1 := by
      unfold udRead
      cases hfr : frozen with
      | none =>
        obtain ⟨e1, e2⟩ := hfz1 hfr
        subst e1 e2
        rw [Sorted.mergeHP_nil_right]
        simp
      | some arr =>
        simp only
        rw [hfz2 arr hfr O1.length (Nat.le_refl _) hi]
        simp
    have e2 : O1 ++ x :: O2' = (O1 ++ [x]) ++ O2' := by simp
    have e3 : O1.length + 1 = (O1 ++ [x]).length := by simp
    cases hc : udCond nl rows bt sib x.1 with
    | false =>
      have hfx : udMap nl rows bt sib x = x := by unfold udMap; rw [hc]; rfl
      by_cases hlt : x.1 < sib
      · -- not a hit, below the sibling position: move on
        rw [udProofs_skip nl rows bt bh sib f O1.length _ frozen _ hi x.1 hread hc]
        have hdec : A ++ mergeHP (x :: O2') E = (A ++ [x]) ++ mergeHP O2' E := by
          rcases hE with rfl | ⟨g, rfl⟩
          · rw [Sorted.mergeHP_nil_right, Sorted.mergeHP_nil_right]; simp
          · rw [mergeHP_cons_single_lt _ _ _ hlt]; simp
        rw [hdec, e3]
        have := ih (O1 ++ [x]) (A ++ [x]) E frozen f (by simp at hf; omega) (by rw [← e2]; exact hs)
          (by rw [← e2]; exact hprev) (by rw [← e2]; exact hnd)
          (by simp [hlen])
          (by
            rw [List.pairwise_append]
            refine ⟨hA, by simp, ?_⟩
            intro a ha b hb
            simp only [List.mem_singleton] at hb
            subst hb
            exact BitVec.le_of_lt (hAB a ha b List.mem_cons_self))
          (by
            rw [List.map_append, List.map_cons, List.map_nil, hfx]
            exact hperm.append_right _)
          (by
            intro a ha
            rcases List.mem_append.1 ha with h | h
            · exact hAP a h
            · simp only [List.mem_singleton] at h; subst h; exact hlt)
          (by
            intro a ha b hb
            rcases List.mem_append.1 ha with h | h
            · exact hAB a h b (List.mem_cons_of_mem _ hb)
            · simp only [List.mem_singleton] at h; subst h; exact hxlt b hb)
          hE
          (by
            intro hne
            obtain ⟨y, hy, hcy⟩ := hEw hne
            exact ⟨y, List.mem_append_left _ hy, hcy⟩)
          (by
            intro hfr
            obtain ⟨h1, h2⟩ := hfz1 hfr
            exact ⟨by rw [h1], h2⟩)
          (by
            intro arr hfr j hj hjn
            rw [← e2]
            exact hfz2 arr hfr j (by simp at hj; omega) (by rw [e2]; exact hjn))
        rw [← e2] at this
        exact this
      · -- beyond the sibling position: nothing passes the test any more
        have hge : ∀ y ∈ x :: O2', udCond nl rows bt sib y.1 = false := by
          intro y hy
          cases hcy : udCond nl rows bt sib y.1 with
          | false => rfl
          | true =>
            exfalso
            have h1 := (hprev y (List.mem_append_right _ hy) hcy).2
            rcases List.mem_cons.1 hy with rfl | hy'
            · rw [hcy] at hc; cases hc
            · exact hlt (ProofOps.u64_lt_of_lt_of_le (hxlt y hy') h1)
        refine ⟨A ++ mergeHP (x :: O2') E, ?_, post_of_state _ _ sib O1 (x :: O2') A E hs hnd hA hperm
          hAP hAB hE hEw (fun y hy => by unfold udMap; rw [hge y hy]; rfl)⟩
        apply udProofs_done
        intro j hj hjn
        have hjO : (O1 ++ x :: O2')[j]? = (x :: O2')[j - O1.length]? :=
          List.getElem?_append_right hj
        obtain ⟨y, hy⟩ : ∃ y, (x :: O2')[j - O1.length]? = some y := by
          have : j - O1.length < (x :: O2').length := by simp at hjn ⊢; omega
          exact ⟨_, List.getElem?_eq_getElem this⟩
        have hym : y ∈ x :: O2' := List.mem_of_getElem? hy
        refine ⟨y.1, ?_, hge y hym⟩
        unfold udRead
        cases hfr : frozen with
        | none =>
          obtain ⟨h1, h2⟩ := hfz1 hfr
          subst h1 h2
          simp only
          rw [Sorted.mergeHP_nil_right, hjO, hy]
          rfl
        | some arr =>
          simp only
          rw [hfz2 arr hfr j hj hjn, hjO, hy]
          rfl
    | true =>
      obtain ⟨hplt, hxle⟩ := hprev x (by simp) hc
      have hfx : udMap nl rows bt sib x = (calcPrevPosition x.1 bt rows, x.2) := by
        unfold udMap; rw [hc]; rfl
      -- the pile has `x` at index `O1.length`
      obtain ⟨E', hE', hdec⟩ : ∃ E', (E' = [] ∨ ∃ g, E' = [(sib, g)]) ∧
          mergeHP (x :: O2') E = x :: mergeHP O2' E' ∧ (E = [] → E' = []) := by
        rcases hE with rfl | ⟨g, rfl⟩
        · exact ⟨[], Or.inl rfl, by rw [Sorted.mergeHP_nil_right, Sorted.mergeHP_nil_right],
            fun _ => rfl⟩
        · by_cases hlt : x.1 < sib
          · exact ⟨[(sib, g)], Or.inr ⟨g, rfl⟩, mergeHP_cons_single_lt _ _ _ hlt, fun h => by cases h⟩
          · have heq : x.1 = sib := BitVec.le_antisymm hxle (BitVec.not_lt.1 hlt)
            exact ⟨[], Or.inl rfl, by
              rw [mergeHP_cons_single_eq _ _ _ heq, Sorted.mergeHP_nil_right], fun h => by cases h⟩
      obtain ⟨hdec, hE0⟩ := hdec
      have hpile : A ++ mergeHP (x :: O2') E = A ++ x :: mergeHP O2' E' := by rw [hdec]
      have hgetx : (A ++ mergeHP (x :: O2') E)[O1.length]? = some x := by
        rw [hpile, ← hlen]; simp
      rw [udProofs_hit nl rows bt bh sib f O1.length _ frozen _ hi x.1 hread hc x hgetx]
      have hE's := single_sorted hE'
      have hM'sorted : (mergeHP O2' E').Pairwise (fun a b => a.1 < b.1) := mergeHP_sorted _ _ hO2' hE's
      have hM'mem : ∀ z ∈ mergeHP O2' E', x.1 < z.1 ∨ z.1 = sib := by
        intro z hz
        rcases ProofOps.mem_mergeHP _ _ z hz with h | h
        · exact Or.inl (hxlt z h)
        · rcases hE' with rfl | ⟨g, rfl⟩
          · cases h
          · simp only [List.mem_singleton] at h; subst h; exact Or.inr rfl
      have hset : (A ++ mergeHP (x :: O2') E).set O1.length (calcPrevPosition x.1 bt rows, x.2) =
          A ++ (calcPrevPosition x.1 bt rows, x.2) :: mergeHP O2' E' := by
        rw [hpile, ← hlen]; exact set_append_length _ _ _ _
      have hsort : sortHP (A ++ (calcPrevPosition x.1 bt rows, x.2) :: mergeHP O2' E') =
          insertBy (·.1) (calcPrevPosition x.1 bt rows, x.2) A ++ mergeHP O2' E' := by
        apply sortBy_set_prefix (fun z : U64 × H => z.1) A _ _ hA (pairwise_le_of_lt hM'sorted)
        · intro a ha b hb
          rcases hM'mem b hb with h | h
          · exact BitVec.le_of_lt (BitVec.lt_trans (hAB a ha x List.mem_cons_self) h)
          · have := hAP a ha
            rw [← h] at this
            exact BitVec.le_of_lt this
        · intro b hb
          show calcPrevPosition x.1 bt rows ≤ b.1
          rcases hM'mem b hb with h | h
          · exact BitVec.le_of_lt (BitVec.lt_trans hplt h)
          · rw [h]
            exact BitVec.le_of_lt (ProofOps.u64_lt_of_lt_of_le hplt hxle)
      rw [hset, hsort]
      have hA'lt : ∀ a ∈ insertBy (·.1) (calcPrevPosition x.1 bt rows, x.2) A, a.1 < sib := by
        intro a ha
        rcases (SortBy.mem_insertBy _ _ a A).1 ha with rfl | ha
        · exact ProofOps.u64_lt_of_lt_of_le hplt hxle
        · exact hAP a ha
      obtain ⟨E'', hE'', hmerge⟩ : ∃ E'', (E'' = [] ∨ ∃ g, E'' = [(sib, g)]) ∧
          mergeHP (mergeHP O2' E') [(sib, udParentH bt bh x.2)] = mergeHP O2' E'' := by
        rcases hE' with rfl | ⟨g, rfl⟩
        · exact ⟨[(sib, udParentH bt bh x.2)], Or.inr ⟨_, rfl⟩, by
            rw [Sorted.mergeHP_nil_right]⟩
        · refine ⟨[(sib, g)], Or.inr ⟨g, rfl⟩, ?_⟩
          apply mergeHP_absorb _ _ (pairwise_le_of_lt hM'sorted)
          exact mem_keys_mergeHP_single O2' (sib, g)
      rw [mergeHP_append_single _ _ _ hA'lt, hmerge, e3]
      have hlenA' : (insertBy (·.1) (calcPrevPosition x.1 bt rows, x.2) A).length =
          (O1 ++ [x]).length := by
        rw [(SortBy.insertBy_perm _ _ _).length_eq]; simp [hlen]
      have := ih (O1 ++ [x]) (insertBy (·.1) (calcPrevPosition x.1 bt rows, x.2) A) E''
        (some (frozen.getD (HP.positions (insertBy (·.1) (calcPrevPosition x.1 bt rows, x.2) A ++
          mergeHP O2' E')))) f (by simp at hf; omega) (by rw [← e2]; exact hs)
        (by rw [← e2]; exact hprev) (by rw [← e2]; exact hnd)
        hlenA' (SortBy.insertBy_sorted _ _ _ hA)
        (by
          rw [List.map_append, List.map_cons, List.map_nil, hfx]
          refine (SortBy.insertBy_perm _ _ _).trans ?_
          refine (List.Perm.cons _ hperm).trans ?_
          exact (List.perm_append_singleton _ _).symm)
        hA'lt
        (by
          intro a ha b hb
          rcases (SortBy.mem_insertBy _ _ a A).1 ha with rfl | ha
          · exact BitVec.lt_trans hplt (hxlt b hb)
          · exact hAB a ha b (List.mem_cons_of_mem _ hb))
        hE'' (fun _ => ⟨x, by simp, hc⟩) (by intro h; cases h)
        (by
          -- beyond the visited part the frozen array shows the original positions: an array frozen
          -- earlier does by hypothesis; one frozen at this hit is the pile itself, whose unvisited
          -- part is untouched (nothing was inserted at `sib` before the first hit)
          intro arr harr j hj hjn
          rw [← e2]
          simp only [List.length_append, List.length_cons, List.length_nil] at hj
          cases hfr : frozen with
          | some arr0 =>
            rw [hfr] at harr
            simp only [Option.getD_some, Option.some.injEq] at harr
            subst harr
            exact hfz2 arr0 hfr j (by omega) (by rw [e2]; exact hjn)
          | none =>
            rw [hfr] at harr
            simp only [Option.getD_none, Option.some.injEq] at harr
            subst harr
            obtain ⟨h1, h2⟩ := hfz1 hfr
            have hE'0 : E' = [] := hE0 h2
            subst hE'0
            rw [Sorted.mergeHP_nil_right]
            unfold HP.positions
            rw [List.getElem?_map, List.getElem?_append_right (by rw [hlenA']; simp; omega),
              List.getElem?_append_right (by omega), hlenA']
            simp only [List.length_append, List.length_cons, List.length_nil]
            rw [show j - O1.length = (j - (O1.length + 0 + 1)) + 1 by omega, List.getElem?_cons_succ])
      rw [← e2] at this
      exact this

theorem udProofs_spec (nl : U64) (rows : U8) (bt : U64) (bh : H) (sib : U64) (pw : HP H)
    (hs : pw.Pairwise (fun a b => a.1 < b.1))
    (hprev : ∀ x ∈ pw, udCond nl rows bt sib x.1 = true →
      calcPrevPosition x.1 bt rows < x.1 ∧ x.1 ≤ sib)
    (hnd : ((pw.map (udMap nl rows bt sib)).map (·.1)).Nodup) :
    ∃ pwf, udProofs nl rows bt bh sib (pw.length + 1) 0 pw.length none pw = .ok pwf ∧
      UdPost (udMap nl rows bt sib) (udCond nl rows bt sib) sib pw pwf := by
  have := udProofs_main nl rows bt bh sib pw [] [] [] none (pw.length + 1) (by omega)
    hs hprev hnd rfl
    List.Pairwise.nil (List.Perm.refl _) (fun a ha => absurd ha List.not_mem_nil)
    (fun a ha => absurd ha List.not_mem_nil) (Or.inl rfl) (fun h => absurd rfl h)
    (fun _ => ⟨rfl, rfl⟩)
    (by intro arr h; cases h)
  rw [Sorted.mergeHP_nil_right] at this
  exact this

end proofs2

end
section
variable {H : Type}

def udKey (nl : U64) (rows : U8) (bt sib k : U64) : U64 :=
  if udCond nl rows bt sib k then calcPrevPosition k bt rows else k

theorem udMap_eq (nl : U64) (rows : U8) (bt sib : U64) (x : U64 × H) :
    udMap nl rows bt sib x = (udKey nl rows bt sib x.1, x.2) := by
  unfold udMap udKey
  split <;> rfl

/-- the whole descending walk on a key (`ds` in ascending order, undone last first) -/
def undoKeys (nl : U64) (rows : U8) (ds : List U64) (k : U64) : U64 :=
  ds.foldr (fun T x => udKey nl rows T (Parent T rows) x) k

theorem undoKeys_snoc (nl : U64) (rows : U8) (ds : List U64) (T k : U64) :
    undoKeys nl rows (ds ++ [T]) k = undoKeys nl rows ds (udKey nl rows T (Parent T rows) k) := by
  unfold undoKeys
  rw [List.foldr_append]
  rfl

/-- **all a pass has to satisfy** on the keys `S` it may meet -/
structure PassOK (g : U64 → U64) (c : U64 → Bool) (sib : U64) (S S' : U64 → Prop) : Prop where
  maps : ∀ k, S k → S' (g k)
  inj : ∀ a b, S a → S b → g a = g b → a = b
  dec : ∀ k, S k → c k = true → g k < k ∧ k ≤ sib
  sib_key : ∀ k, S k → c k = true → S' sib

theorem PassOK.nodup {g : U64 → U64} {c : U64 → Bool} {sib : U64} {S S' : U64 → Prop}
    (ok : PassOK g c sib S S') {l : HP H} (hs : l.Pairwise (fun a b => a.1 < b.1))
    (hS : ∀ x ∈ l, S x.1) : ((l.map (fun x => (g x.1, x.2))).map (·.1)).Nodup := by
  rw [List.map_map, List.Nodup, List.pairwise_map]
  apply List.Pairwise.imp_of_mem _ hs
  intro a b ha hb hab e
  have := ok.inj _ _ (hS a ha) (hS b hb) e
  rw [this] at hab
  exact BitVec.lt_irrefl _ hab

variable [Hasher H]

theorem pass_lists (nl : U64) (rows : U8) (bt : U64) (bh : H) (sib : U64) {S S' : U64 → Prop}
    (ok : PassOK (udKey nl rows bt sib) (udCond nl rows bt sib) sib S S') {tw pw np : HP H}
    (htw : tw.Pairwise (fun a b => a.1 < b.1)) (hStw : ∀ x ∈ tw, S x.1)
    (hpw : pw.Pairwise (fun a b => a.1 < b.1)) (hSpw : ∀ x ∈ pw, S x.1)
    (hnp : np.Pairwise (fun a b => a.1 ≤ b.1)) :
    ∃ tw' pw' np',
      udTargets nl rows bt bh sib (tw.length + 1) 0 tw np = (tw', np') ∧
      udProofs nl rows bt bh sib (pw.length + 1) 0 pw.length none pw = .ok pw' ∧
      tw'.Pairwise (fun a b => a.1 < b.1) ∧
      tw'.Perm (tw.map (fun x => (udKey nl rows bt sib x.1, x.2))) ∧
      pw'.Pairwise (fun a b => a.1 < b.1) ∧ (∀ z ∈ pw', S' z.1) ∧
      (∀ x ∈ pw, (udKey nl rows bt sib x.1, x.2) ∈ pw') ∧
      np'.Pairwise (fun a b => a.1 ≤ b.1) := by
  have hf : (udMap nl rows bt sib : U64 × H → U64 × H) =
      fun x => (udKey nl rows bt sib x.1, x.2) := funext (udMap_eq nl rows bt sib)
  have hT1 := udTargets_spec nl rows bt bh sib tw np htw
    (fun x hx hc => by
      have := (ok.dec x.1 (hStw x hx) hc).1
      unfold udKey at this
      rwa [if_pos hc] at this)
  have hT2 := udTargets_snd nl rows bt bh sib (tw.length + 1) 0 tw np hnp
  obtain ⟨pwf, hP1, hpost⟩ := udProofs_spec nl rows bt bh sib pw hpw
    (fun x hx hc => by
      have := ok.dec x.1 (hSpw x hx) hc
      unfold udKey at this
      rwa [if_pos hc] at this)
    (by rw [hf]; exact ok.nodup hpw hSpw)
  rw [hf] at hT1 hpost
  refine ⟨_, pwf, _, Prod.ext hT1 rfl, hP1, SortBy.sortBy_strict _ _ (ok.nodup htw hStw),
    SortBy.sortBy_perm _ _, hpost.sorted, ?_, hpost.mapped, hT2.1⟩
  intro z hz
  rcases hpost.only z hz with ⟨x, hx, rfl⟩ | ⟨hzs, x, hx, hcx⟩
  · exact ok.maps _ (hSpw x hx)
  · rw [hzs]; exact ok.sib_key _ (hSpw x hx) hcx

/-- **the outer loop of `proofUndoDel`, at list level**: the block targets `bts` sit at the keys of
the labels `ds` (ascending; the loop takes them last first), `S cur` are the keys that may occur
while `cur` is still to be undone. -/
theorem outer_lists (nl : U64) (rows : U8) {ι : Type} (key : ι → U64)
    (S : List ι → U64 → Prop)
    (ok : ∀ ds t, PassOK (udKey nl rows (key t) (Parent (key t) rows))
      (udCond nl rows (key t) (Parent (key t) rows)) (Parent (key t) rows)
      (S (ds ++ [t])) (S ds)) :
    ∀ (ds : List ι) (bts tw pw np : HP H), bts.map (·.1) = ds.map key →
      tw.Pairwise (fun a b => a.1 < b.1) → (∀ x ∈ tw, S ds x.1) →
      pw.Pairwise (fun a b => a.1 < b.1) → (∀ x ∈ pw, S ds x.1) →
      np.Pairwise (fun a b => a.1 ≤ b.1) →
      ∃ tw' pw' np', udOuter nl rows bts.reverse tw pw np = .ok (tw', pw', np') ∧
        tw'.Pairwise (fun a b => a.1 < b.1) ∧
        tw'.Perm (tw.map (fun x => (undoKeys nl rows (ds.map key) x.1, x.2))) ∧
        pw'.Pairwise (fun a b => a.1 < b.1) ∧ (∀ z ∈ pw', S [] z.1) ∧
        (∀ x ∈ pw, (undoKeys nl rows (ds.map key) x.1, x.2) ∈ pw') ∧
        np'.Pairwise (fun a b => a.1 ≤ b.1) := by
  intro ds
  induction ds using UtreexoVerif.Proofs.PosMove.snoc_ind with
  | h0 =>
    intro bts tw pw np hb htw _ hpw hS hnp
    obtain rfl : bts = [] := List.map_eq_nil_iff.1 hb
    refine ⟨tw, pw, np, rfl, htw, ?_, hpw, hS, ?_, hnp⟩
    · exact List.Perm.of_eq (List.map_id' tw).symm
    · exact fun x hx => hx
  | h1 init t ih =>
    intro bts tw pw np hb htw hStw hpw hSpw hnp
    rw [List.map_append] at hb
    obtain ⟨b1, b2, rfl, hb1, hb2⟩ := List.map_eq_append_iff.1 hb
    obtain ⟨⟨bt, bh⟩, rfl, hbt⟩ := List.map_eq_singleton_iff.1 hb2
    simp only at hbt
    subst hbt
    obtain ⟨tw1, pw1, np1, h1, h2, htw1, hperm1, hpw1, hS1, hmap1, hnp1⟩ :=
      pass_lists nl rows (key t) bh (Parent (key t) rows) (ok init t) htw hStw hpw hSpw hnp
    have hStw1 : ∀ x ∈ tw1, S init x.1 := by
      intro x hx
      obtain ⟨y, hy, rfl⟩ := List.mem_map.1 (hperm1.mem_iff.1 hx)
      exact (ok init t).maps _ (hStw y hy)
    obtain ⟨tw', pw', np', h3, g1, g2, g3, g4, g5, g6⟩ :=
      ih b1 tw1 pw1 np1 hb1 htw1 hStw1 hpw1 hS1 hnp1
    refine ⟨tw', pw', np', ?_, g1, ?_, g3, g4, ?_, g6⟩
    · rw [List.reverse_append, List.reverse_singleton, List.singleton_append, udOuter]
      simp only [h1, h2, bind, Out.bind]
      exact h3
    · refine g2.trans ((hperm1.map _).trans (List.Perm.of_eq ?_))
      rw [List.map_map]
      apply List.map_congr_left
      intro x _
      simp only [Function.comp, List.map_append, List.map_cons, List.map_nil, undoKeys_snoc]
    · intro x hx
      have := g5 _ (hmap1 x hx)
      simpa only [List.map_append, List.map_cons, List.map_nil, undoKeys_snoc] using this

end

end UtreexoVerif.Proofs.ProofUndoLoops
