/-
  Pointer forest, heap model, `Undo`, third phase: the loop of `undoDels`
  (`undoDels` itself is `Props.PollardHeapC.undoDels_refines`).

  The detached trees (`deTwinPolNode`) sit at the positions of the maximal fully-deleted
  sub-trees of the forest `F` before the block, ascending: they form a deletion chain
  (`PollardHeapDelChain.lean`).  `remove` walked it from the head; `undoDels` re-inserts from the
  TAIL: when the `k`-th one is re-inserted the heap represents `F` without the leaves of the first
  `k` ones, and in that forest the `k`-th one sits at its position (`DelChain.snoc_inv`).
-/
import UtreexoVerif.Proofs.PollardHeapUndoStep

namespace UtreexoVerif.Proofs.PollardHeap
open UtreexoVerif.Model.PollardHeap UtreexoVerif.Spec Hasher

variable {H : Type} [DecidableEq H] [Hasher H]

/-- what `Abs.withPend` needs to keep the `NodeMap` values of the pending leaves apart from the
forest's -/
theorem Pend.leaf_idx {hp : Heap H} : ∀ {its : List (PItem H)}, Pend hp its → (pendOwned its).Nodup →
    ((pendLeaves its).map (·.2)).Nodup ∧ ∀ i ∈ (pendLeaves its).map (·.2), i ∈ pendOwned its := by
  intro its
  induction its with
  | nil => intro _ _; simp [pendLeaves, pendOwned]
  | cons it rest ih =>
    intro hp' hnd
    rw [pendOwned_cons, List.nodup_append] at hnd
    obtain ⟨nd1, nd2, dd⟩ := hnd
    obtain ⟨b1, b2⟩ := ih (fun x hx => hp' x (by simp [hx])) nd2
    obtain ⟨a1, a2⟩ := (hp' it (by simp)).2.leaf_idx nd1
    rw [pendLeaves_cons, pendOwned_cons]
    refine ⟨?_, ?_⟩
    · rw [List.map_append, List.nodup_append]
      exact ⟨a1, b1, fun i hi j hj e => dd i (a2 i hi) j (b2 j hj) e⟩
    · intro i hi
      rw [List.map_append, List.mem_append] at hi
      rw [List.mem_append]
      rcases hi with hi | hi
      · exact Or.inl (a2 i hi)
      · exact Or.inr (b2 i hi)

/-- the dual of `AbsP.toAbs`, for detached trees allocated above the size of a heap representing `G` -/
theorem Abs.withPend {hp hp' : Heap H} {nm nm' : List (H × Nat)} {rs : List Nat} {nl ndl : U64}
    {full : Bool} {G : Forest H} {its : List (PItem H)} (a : Abs ⟨hp, nm, rs, nl, ndl, full⟩ G)
    (hfr : ∀ j, j < hp.size → hp'[j]? = hp[j]?) (hpend : Pend hp' its)
    (hpnd : (pendOwned its).Nodup) (hpge : ∀ i ∈ pendOwned its, hp.size ≤ i)
    (hmk' : (nm'.map (·.1)).Nodup) (hmem : ∀ e, e ∈ nm' ↔ e ∈ nm ∨ e ∈ pendLeaves its) :
    AbsP ⟨hp', nm', rs, nl, ndl, full⟩ G its := by
  obtain ⟨hnl, owned, lv, hroots, hndo, hmk, hmm⟩ := a
  have hlto : ∀ i ∈ owned, i < hp.size := hroots.lt
  have hroots' := hroots.frame (fun i hi => hfr i (hlto i hi))
  have apart : ∀ i, i ∈ owned → ∀ j, j ∈ pendOwned its → i ≠ j := fun i hi j hj e =>
    Nat.lt_irrefl _ (Nat.lt_of_lt_of_le (hlto i hi) (e ▸ hpge j hj))
  refine ⟨hnl, owned, lv, hroots', hpend, List.nodup_append.2 ⟨hndo, hpnd, apart⟩, hmk', ?_, fun e => ?_⟩
  · apply keys_nodup_of_iff hmk'
    · obtain ⟨a1, a2⟩ := hroots'.leaf_idx hndo
      obtain ⟨b1, b2⟩ := hpend.leaf_idx hpnd
      rw [List.map_append, List.nodup_append]
      exact ⟨a1, b1, fun i hi j hj => apart i (a2 i hi) j (b2 j hj)⟩
    · intro e he
      rw [hmem e]
      exact (List.mem_append.1 he).imp (hmm e).2 id
  · rw [hmem e, hmm e, List.mem_append]

def itemPairs (its : List (PItem H)) : List (Pos × CTree H) := its.map (fun it => (it.pos, it.t))

theorem undoDelsLoop_chain {F : Forest H} {D : List H} (hn : F.numLeaves < 2 ^ 63)
    (hFnd : F.liveLeaves.Nodup) :
    ∀ (n : Nat) (its : List (PItem H)), its.length = n → ∀ (p : Pollard H),
      DelChain D F (itemPairs its) →
      (∀ e ∈ p.nodeMap, ∀ u v : H, e.1 ≠ ph u v) →
      AbsP p (F.delLeaves (chainLeaves (itemPairs its))) its →
      ∃ hp' nm' rs', undoDelsLoop (its.map (PItem.np F.rows)).reverse p =
          (.ok (), ⟨hp', nm', rs', p.numLeaves, p.numDels, p.full⟩) ∧
        AbsP ⟨hp', nm', rs', p.numLeaves, p.numDels, p.full⟩ F [] := by
  intro n
  induction n with
  | zero =>
    intro its hlen p _ _ hA
    have : its = [] := List.length_eq_zero_iff.mp hlen
    subst this
    exact ⟨p.heap, p.nodeMap, p.roots, by simp [undoDelsLoop],
      by simpa [itemPairs, chainLeaves, delLeaves_nil] using hA⟩
  | succ n ih =>
    intro its hlen p hch hsep hA
    obtain ⟨init, last, rfl, hinit⟩ := snoc_of_length hlen
    have epairs : itemPairs (init ++ [last]) = itemPairs init ++ [(last.pos, last.t)] := by
      simp [itemPairs]
    rw [epairs] at hch hA
    obtain ⟨hch', R, slast⟩ := hch.snoc_inv
    obtain ⟨G, hG⟩ : ∃ G, G = F.delLeaves (chainLeaves (itemPairs init)) := ⟨_, rfl⟩
    rw [← hG] at slast
    have hGn : G.numLeaves = F.numLeaves := by rw [hG, numLeaves_delLeaves]
    have hGrows : G.rows = F.rows := by rw [hG, rows_delLeaves]
    have hGnd : G.liveLeaves.Nodup := by rw [hG]; exact LiveLeaves.liveLeaves_delLeaves_nodup hFnd _
    have hA' : AbsP p (G.delLeaves last.t.leaves) (init ++ [last]) := by
      rw [hG, delLeaves_delLeaves]
      simpa [chainLeaves] using hA
    obtain ⟨hp1, nm1, rs1, ex1, a1, k1⟩ := undoDelsLoop_cons_absP hA' (hGn ▸ hn) hGnd slast hsep
      ((init.map (PItem.np F.rows)).reverse)
    rw [hGrows] at ex1
    obtain ⟨hp2, nm2, rs2, ex2, a2⟩ := ih init hinit ⟨hp1, nm1, rs1, p.numLeaves, p.numDels, p.full⟩
      hch'
      (by
        intro e he u v
        have : e.1 ∈ nm1.map (·.1) := List.mem_map_of_mem he
        rw [k1] at this
        obtain ⟨e', he', hk⟩ := List.mem_map.1 this
        rw [← hk]; exact hsep e' he' u v)
      (by rw [← hG]; exact a1)
    refine ⟨hp2, nm2, rs2, ?_, a2⟩
    rw [List.map_append, List.reverse_append]
    simp only [List.map_cons, List.map_nil, List.reverse_cons, List.reverse_nil, List.nil_append,
      List.singleton_append]
    rw [ex1]
    exact ex2

end UtreexoVerif.Proofs.PollardHeap
