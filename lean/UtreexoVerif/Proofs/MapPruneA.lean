/-
  Shared by the map-forest proofs (namespace `MapPrune`): the (row, offset) geometry under the names they use
  (`parent_kid`, `child_cases`, `valid_parent` / `valid_sib` / `valid_below`, …: the facts are those of `LiftGeo`, `CalcGeo`,
  `EncPos`);
  `Shrinks` (a state with some stored entries deleted) for `prunePosition` / `pruneUp`; and `prunePosition` as the
  function `pruneA` on positions (`view_prunePosition`).  `Proofs/MapPrune.lean` continues with `Prune` and `Inv`.
-/
import UtreexoVerif.Proofs.MapInv
import UtreexoVerif.Proofs.LiftGeo

namespace UtreexoVerif.Proofs.MapPrune
open Spec
open Model (MapPollard Leaf)
open MapAL (getNode_delNode)
open MapInv (Valid)
set_option linter.unusedSectionVars false

variable {H : Type} [DecidableEq H] [Hasher H]

theorem parent_kid {q : Pos} (h1 : 1 ≤ q.1) {b : Nat} (hb : b < 2) : parent (q.1 - 1, 2 * q.2 + b) = q :=
  MapLiftGeo.parent_childP h1 hb

theorem row_lt_of_parent {c p : Pos} (h : parent c = p) : c.1 < p.1 := h ▸ Nat.lt_succ_self c.1

theorem child_cases {c p : Pos} (h : parent c = p) :
    p.1 ≠ 0 ∧ (c = (p.1 - 1, 2 * p.2) ∨ c = (p.1 - 1, 2 * p.2 + 1)) := by
  subst h
  have hc := MapLiftGeo.childP_low c
  refine ⟨Nat.succ_ne_zero c.1, ?_⟩
  rcases Nat.mod_two_eq_zero_or_one c.2 with e | e <;> rw [e] at hc
  · exact Or.inl hc.symm
  · exact Or.inr hc.symm

theorem exists_child_of_anc {p t : Pos} (h : Anc p t) (hlt : t.1 < p.1) : ∃ c, parent c = p ∧ Anc c t :=
  ⟨MapLiftGeo.upP t (p.1 - t.1 - 1), by
    rw [← MapLiftGeo.upP_succ, Nat.sub_add_cancel (Nat.sub_pos_of_lt hlt)]; exact (MapLiftGeo.eq_upP_of_anc h).symm, MapLiftGeo.anc_upP t _⟩

theorem valid_parent {T : Nat} {q : Pos} (hq : Valid T q) (hlt : q.1 < T) : Valid T (parent q) :=
  ValidH.parent hq hlt

/-- `Valid T` is "below the top position `(T, 0)`" -/
theorem valid_below {T : Nat} {q c : Pos} (hq : Valid T q) (h : Anc q c) : Valid T c :=
  have iff : ∀ {z : Pos}, Valid T z ↔ Anc (T, 0) z := and_congr_right fun _ =>
    ⟨fun h => (Nat.div_eq_of_lt h).symm, fun h => (Nat.div_eq_zero_iff_lt (Nat.two_pow_pos _)).1 h.symm⟩
  iff.2 (Anc.trans (iff.1 hq) h)

theorem valid_sib {T : Nat} {q : Pos} (hq : Valid T q) (hlt : q.1 < T) : Valid T (sib q) := ValidH.sib hq hlt

/-- every stored entry of `μ` (second argument) is one of `m2` (first): the order of `Shrinks m2 μ` -/
def Sub (m2 μ : MapPollard H) : Prop := ∀ p l, μ.getNode p = some l → m2.getNode p = some l

def Shrinks (m m' : MapPollard H) : Prop :=
  (m'.cached = m.cached ∧ m'.numLeaves = m.numLeaves ∧ m'.totalRows = m.totalRows ∧ m'.full = m.full) ∧
    Sub m m'

theorem Shrinks.refl (m : MapPollard H) : Shrinks m m := ⟨⟨rfl, rfl, rfl, rfl⟩, fun _ _ h => h⟩

theorem Shrinks.trans {m m' m'' : MapPollard H} (h : Shrinks m m') (h' : Shrinks m' m'') : Shrinks m m'' :=
  ⟨⟨h'.1.1.trans h.1.1, h'.1.2.1.trans h.1.2.1, h'.1.2.2.1.trans h.1.2.2.1, h'.1.2.2.2.trans h.1.2.2.2⟩,
    fun p l hg => h.2 p l (h'.2 p l hg)⟩

theorem Shrinks.ite_delNode {m m' : MapPollard H} (h : Shrinks m m') (c : Prop) [Decidable c] (p : U64) :
    Shrinks m (if c then m'.delNode p else m') := by
  split
  · refine h.trans ⟨⟨rfl, rfl, rfl, rfl⟩, fun q l hg => ?_⟩
    rw [getNode_delNode] at hg
    split at hg
    · cases hg
    · exact hg
  · exact h

theorem prunePosition_shrinks (m : MapPollard H) (pos : U64) : Shrinks m (m.prunePosition pos) := by
  unfold MapPollard.prunePosition
  simp only
  split
  · exact ((Shrinks.refl m).ite_delNode _ _).ite_delNode _ _
  · exact Shrinks.refl m

theorem prunePosition_frame (m : MapPollard H) (pos : U64) :
    (m.prunePosition pos).cached = m.cached ∧ (m.prunePosition pos).numLeaves = m.numLeaves ∧
    (m.prunePosition pos).totalRows = m.totalRows ∧ (m.prunePosition pos).full = m.full :=
  (prunePosition_shrinks m pos).1

theorem pruneUp_shrinks (k : Nat) (pos : U64) (m : MapPollard H) : Shrinks m (MapPollard.pruneUp k pos m) := by
  induction k generalizing pos m with
  | zero => exact Shrinks.refl m
  | succ k ih =>
    unfold MapPollard.pruneUp
    split
    · exact Shrinks.refl m
    · exact (prunePosition_shrinks m pos).trans (ih _ _)

theorem H8_beq_zero {r : Nat} (hr : r ≤ 63) : ((H8 r == 0#8) = true) ↔ r = 0 := by
  rw [H8_beq_zero_eq (by omega)]
  exact decide_eq_true_iff

def view (m : MapPollard H) (T : Nat) : Pos → Option (Leaf H) := fun q => m.getNode (encP T q)

/-- the remember flag Go reads from a possibly absent entry -/
def remD (o : Option (Leaf H)) : Bool := (o.getD ⟨Hasher.zero, false⟩).remember

/-- one of the two children of `q` is stored (`niecesPresent` of the sibling) -/
def kids (A : Pos → Option (Leaf H)) (q : Pos) : Bool :=
  decide (q.1 ≠ 0) && ((A (q.1 - 1, 2 * q.2)).isSome || (A (q.1 - 1, 2 * q.2 + 1)).isSome)

/-- `prunePosition` on the abstract state -/
def pruneA (A : Pos → Option (Leaf H)) (q : Pos) : Pos → Option (Leaf H) := fun p =>
  if remD (A q) = false ∧ remD (A (sib q)) = false then
    (if p = sib q ∧ kids A q = false then none
     else if p = q ∧ kids A (sib q) = false then none
     else A p)
  else A p

/-- Go keeps the node `z` of a pruned pair when this holds -/
def keepCond (A : Pos → Option (Leaf H)) (z : Pos) : Prop :=
  remD (A z) = true ∨ remD (A (sib z)) = true ∨ kids A (sib z) = true

instance (A : Pos → Option (Leaf H)) (z : Pos) : Decidable (keepCond A z) := by unfold keepCond; infer_instance

section
variable {A : Pos → Option (Leaf H)}

theorem remD_true {o : Option (Leaf H)} (h : remD o = true) : ∃ l, o = some l ∧ l.remember = true := by
  cases o with
  | none => cases h
  | some l => exact ⟨l, rfl, h⟩

theorem kids_iff {p : Pos} : kids A p = true ↔ ∃ c, parent c = p ∧ (A c).isSome = true := by
  unfold kids
  rw [Bool.and_eq_true, decide_eq_true_eq, Bool.or_eq_true]
  constructor
  · rintro ⟨h0, hc⟩
    have h1 : 1 ≤ p.1 := Nat.pos_of_ne_zero h0
    rcases hc with hc | hc
    · exact ⟨_, parent_kid h1 (b := 0) (by decide), hc⟩
    · exact ⟨_, parent_kid h1 (b := 1) (by decide), hc⟩
  · rintro ⟨c, h, hc⟩
    obtain ⟨h0, e⟩ := child_cases h
    refine ⟨h0, ?_⟩
    rcases e with e | e
    · exact Or.inl (e ▸ hc)
    · exact Or.inr (e ▸ hc)

theorem not_keepCond {z : Pos} :
    ¬ keepCond A z ↔ remD (A z) = false ∧ remD (A (sib z)) = false ∧ kids A (sib z) = false := by
  simp only [keepCond, not_or, Bool.not_eq_true]

theorem pruneA_self (A : Pos → Option (Leaf H)) (q : Pos) :
    pruneA A q q = if keepCond A q then A q else none := by
  have hne : ¬ (q = sib q ∧ kids A q = false) := fun e => CalcGeo.sib_ne q e.1.symm
  unfold pruneA
  by_cases hk : keepCond A q
  · rw [if_pos hk]
    by_cases hc : remD (A q) = false ∧ remD (A (sib q)) = false
    · rw [if_pos hc, if_neg hne, if_neg (fun h => not_keepCond.2 ⟨hc.1, hc.2, h.2⟩ hk)]
    · rw [if_neg hc]
  · obtain ⟨h1, h2, h3⟩ := not_keepCond.1 hk
    rw [if_neg hk, if_pos ⟨h1, h2⟩, if_neg hne, if_pos ⟨rfl, h3⟩]

theorem pruneA_sib (A : Pos → Option (Leaf H)) (q : Pos) :
    pruneA A q (sib q) = if keepCond A (sib q) then A (sib q) else none := by
  unfold pruneA
  by_cases hk : keepCond A (sib q)
  · rw [if_pos hk]
    by_cases hc : remD (A q) = false ∧ remD (A (sib q)) = false
    · have hq : kids A q ≠ false := fun h =>
        not_keepCond.2 ⟨hc.2, by rw [CalcGeo.sib_sib]; exact hc.1, by rw [CalcGeo.sib_sib]; exact h⟩ hk
      rw [if_pos hc, if_neg (fun h => hq h.2), if_neg (fun h => CalcGeo.sib_ne q h.1)]
    · rw [if_neg hc]
  · obtain ⟨h1, h2, h3⟩ := not_keepCond.1 hk
    rw [CalcGeo.sib_sib] at h2 h3
    rw [if_neg hk, if_pos ⟨h2, h1⟩, if_pos ⟨rfl, h3⟩]

theorem pruneA_other {q p : Pos} (h1 : p ≠ q) (h2 : p ≠ sib q) : pruneA A q p = A p := by
  unfold pruneA
  by_cases hc : remD (A q) = false ∧ remD (A (sib q)) = false
  · rw [if_pos hc, if_neg (fun h => h2 h.1), if_neg (fun h => h1 h.1)]
  · rw [if_neg hc]

theorem pruneA_sub {q p : Pos} {l : Leaf H} (h : pruneA A q p = some l) : A p = some l := by
  unfold pruneA at h
  split at h
  · split at h
    · cases h
    · split at h
      · cases h
      · exact h
  · exact h

theorem pruneA_congr {B : Pos → Option (Leaf H)} {q p : Pos} (h1 : A q = B q) (h2 : A (sib q) = B (sib q))
    (h3 : kids A q = kids B q) (h4 : kids A (sib q) = kids B (sib q)) (h5 : A p = B p) :
    pruneA A q p = pruneA B q p := by
  unfold pruneA
  rw [h1, h2, h3, h4, h5]

end

theorem niecesPresent_encP {m : MapPollard H} {T : Nat} (hT : T ≤ 63) (hm : m.totalRows = H8 T)
    {q : Pos} (hq : Valid T q) (hlt : q.1 < T) :
    m.niecesPresent (encP T q) = kids (view m T) (sib q) := by
  have hs := valid_sib hq hlt
  unfold MapPollard.niecesPresent kids view
  rw [hm, EncPos.detectRow_encP hT hq, EncPos.sibling_encP hT hq, CalcGeo.sib_fst]
  have hz := H8_beq_zero (Nat.le_trans hq.1 hT)
  by_cases h0 : q.1 = 0
  · rw [if_pos (hz.2 h0), decide_eq_false (not_not_intro h0), Bool.false_and]
  · have h1 : 1 ≤ (sib q).1 := Nat.pos_of_ne_zero h0
    rw [if_neg (fun h => h0 (hz.1 h)), (EncPos.child_encP hT hs h1).1, (EncPos.child_encP hT hs h1).2, CalcGeo.sib_fst,
      decide_eq_true h0, Bool.true_and]
    rfl

theorem kids_delNode_row {m : MapPollard H} {T : Nat} (hT : T ≤ 63) {q z : Pos}
    (hq : Valid T q) (hz : Valid T z) (hrow : z.1 = q.1) :
    kids (view (m.delNode (encP T z)) T) q = kids (view m T) q := by
  have hne : ∀ c, parent c = q → encP T c ≠ encP T z := fun c hp e => by
    have h2 := congrArg Prod.fst (encP_inj hT (valid_below hq (hp ▸ (Anc.refl c).parent)) hz e)
    exact Nat.ne_of_lt (row_lt_of_parent hp) (h2.trans hrow)
  rw [Bool.eq_iff_iff, kids_iff, kids_iff]
  refine exists_congr fun c => and_congr_right fun hp => ?_
  unfold view
  rw [getNode_delNode, if_neg (hne c hp)]

theorem getNode_prunePosition_encP {m : MapPollard H} {T : Nat} (hT : T ≤ 63) (hm : m.totalRows = H8 T)
    {q : Pos} (hq : Valid T q) (hlt : q.1 < T) (p : U64) :
    (m.prunePosition (encP T q)).getNode p =
      if (m.getNodeD (encP T q)).remember = false ∧ (m.getNodeD (encP T (sib q))).remember = false then
        (if p = encP T (sib q) ∧ kids (view m T) q = false then none
         else if p = encP T q ∧ kids (view m T) (sib q) = false then none
         else m.getNode p)
      else m.getNode p := by
  have hs := valid_sib hq hlt
  unfold MapPollard.prunePosition
  simp only [Bool.and_eq_true, Bool.not_eq_true']
  rw [EncPos.sibling_encP hT hq, niecesPresent_encP hT hm hs hlt, CalcGeo.sib_sib]
  by_cases hf : (m.getNodeD (encP T q)).remember = false ∧ (m.getNodeD (encP T (sib q))).remember = false
  · rw [if_pos hf, if_pos hf]
    cases hk1 : kids (view m T) q
    · -- the sibling goes first; this does not change whether a child of `sib q` is stored
      rw [if_pos rfl, niecesPresent_encP hT (m := m.delNode (encP T (sib q))) hm hq hlt, kids_delNode_row hT hs hs rfl]
      cases hk2 : kids (view m T) (sib q)
      · rw [if_pos rfl]
        simp only [getNode_delNode, and_true]
        by_cases h1 : p = encP T q
        · rw [if_pos h1, if_pos h1, ite_self]
        · rw [if_neg h1, if_neg h1]
      · rw [if_neg (Bool.noConfusion : ¬ true = false)]
        simp only [getNode_delNode, and_true, Bool.true_eq_false, and_false, if_false]
    · rw [if_neg (Bool.noConfusion : ¬ true = false), niecesPresent_encP hT hm hq hlt]
      cases hk2 : kids (view m T) (sib q)
      · rw [if_pos rfl]
        simp only [getNode_delNode, and_true, Bool.true_eq_false, and_false, if_false]
      · rw [if_neg (Bool.noConfusion : ¬ true = false)]
        simp only [Bool.true_eq_false, and_false, if_false]
  · rw [if_neg hf, if_neg hf]

theorem view_prunePosition {m : MapPollard H} {T : Nat} (hT : T ≤ 63) (hm : m.totalRows = H8 T)
    {q : Pos} (hq : Valid T q) (hlt : q.1 < T) {p : Pos} (hp : Valid T p) :
    view (m.prunePosition (encP T q)) T p = pruneA (view m T) q p := by
  have e1 : encP T p = encP T (sib q) ↔ p = sib q :=
    ⟨encP_inj hT hp (valid_sib hq hlt), fun e => by rw [e]⟩
  have e2 : encP T p = encP T q ↔ p = q := ⟨encP_inj hT hp hq, fun e => by rw [e]⟩
  unfold view
  rw [getNode_prunePosition_encP hT hm hq hlt]
  simp only [e1, e2]
  rfl

theorem isRoot_encP {μ : MapPollard H} {T n : Nat} (hnlt : n < 2 ^ 63)
    (hμn : μ.numLeaves = BitVec.ofNat 64 n) (hT : T ≤ 63) (hμT : μ.totalRows = H8 T)
    {q : Pos} (hq : Valid T q) (hq' : Valid (forestRows n) q) :
    μ.isRoot (encP T q) = isRootPos n q := by
  unfold MapPollard.isRoot
  rw [hμn, hμT]
  exact EncPos.isRootPositionTotalRows_encP (Nat.le_of_lt hnlt) hT hq hq'

theorem toNat_rowIters {r total : Nat} (hr : r ≤ 63) (ht : total ≤ 63) :
    MapPollard.rowIters (H8 r) (H8 total) = total + 1 - r := by
  unfold MapPollard.rowIters
  rw [toNat_H8 hr, toNat_H8 ht]

end UtreexoVerif.Proofs.MapPrune
