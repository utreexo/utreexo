/-
  The steps of `undoSingleAdd` that move nothing, on `GIH`: the leaf is dropped (`unleaf`, the inverse of
  `MapAddSteps.step0`); the spine node `parent ρ` is dropped and its children `ρ`, `sib ρ` become roots again
  (`unjoin`, the inverse of `MapAddSteps.stepA`).  Between the iterations the state tracks the placed forest
  except at the spine position `s`, which may be empty: the hole is `fun q => q = s ∧ A q = none`.  `UG` and
  `UW` are `GIH` at these choices, for a placed forest: between two additions, and while one is taken back.
  Namespace `MapGIH` (the moves are `MapGIH.GIH.…`).
-/
import UtreexoVerif.Proofs.MapGIH

namespace UtreexoVerif.Proofs.MapGIH
open Model Spec MapRep PForest
  MapUndoSteps MapRelocK Hasher

variable {H : Type} [DecidableEq H] [Hasher H]

/-- the cached set while the leaf `x` is taken back: the cache, and in a full forest every hash but `x` -/
def Kw (fl : Bool) (x : H) (C : H → Option Pos) : H → Prop := fun y => (C y).isSome = true ∨ (fl = true ∧ y ≠ x)

/-- the cached set between two additions taken back: the cache, and in a full forest every hash -/
def Kc (fl : Bool) (C : H → Option Pos) : H → Prop := fun y => (C y).isSome = true ∨ fl = true

def UG (fl : Bool) (Kp : H → Prop) (A : Pos → Option (Leaf H)) (C : H → Option Pos) (V : PF H) : Prop :=
  GIH fl A C (PForest.nodes V) (IsRoot V) (Kc fl C) Kp (fun _ => False)

/-- while the leaf `x` is taken back the state tracks the placed forest `V`, whose accumulated tree sits at the
spine position `s`, except that `s` may be empty -/
def UW (fl : Bool) (Kp : H → Prop) (x : H) (A : Pos → Option (Leaf H)) (C : H → Option Pos) (V : PF H) (s : Pos) : Prop :=
  GIH fl A C (PForest.nodes V) (IsRoot V) (Kw fl x C) Kp (fun q => q = s ∧ A q = none)

variable {fl : Bool} {A : Pos → Option (Leaf H)} {C : H → Option Pos} {N N' : List (Pos × H × Bool)}
  {R R' : Pos → Prop} {K Kp : H → Prop} {x : H} {s : Pos}

/-- `h`: what `undoSingleAddLoop` drops is an inner node or the leaf `x` itself (cf. `hx` of `unsplit`) -/
theorem kw_drop (h : ∀ l, A s = some l → l.hash = x ∨ ∀ t, (t, l.hash, true) ∉ N) {t : Pos} {y : H}
    (hm : (t, y, true) ∈ N) : Kw fl x (dropC s A C) y ↔ (Kw fl x C y ∧ ∀ l, A s = some l → l.hash ≠ y) := by
  unfold Kw
  cases hA : A s with
  | none => rw [dropC_of_none hA]; exact ⟨fun h => ⟨h, fun _ e => nomatch e⟩, fun h => h.1⟩
  | some l =>
    rw [dropC_of_some hA, upd_apply]
    have hl : l.hash = y → y = x := fun e => by
      rcases h l hA with h1 | h1
      · exact e ▸ h1
      · exact absurd (e ▸ hm) (h1 t)
    by_cases e : y = l.hash
    · rw [if_pos e]
      constructor
      · rintro (h1 | ⟨_, h1⟩)
        · cases h1
        · exact absurd (hl e.symm) h1
      · exact fun h1 => absurd e.symm (h1.2 l rfl)
    · rw [if_neg e]
      exact ⟨fun h1 => ⟨h1, fun l' e' => by cases e'; exact fun c => e c.symm⟩, fun h1 => h1.1⟩

namespace GIH

/-- the hole holds no stored node: what the loops read of the state is not affected by it -/
theorem weak0 (L : Laws N R) (g : GIH fl A C N R K Kp (fun q => q = s ∧ A q = none)) : WInv A C N fl (fun _ => False) :=
  have w := g.weak L
  { true_hash := fun q l hl _ => w.true_hash q l hl (fun c => by rw [c.2] at hl; cases hl)
    cached_pos := fun y t h => ⟨(w.cached_pos y t h).1, fun c => c⟩
    leaf_stored := w.leaf_stored
    flag := fun q l hl _ => w.flag q l hl (fun c => by rw [c.2] at hl; cases hl) }

theorem open_at (g : GIH fl A C N R K Kp (fun _ => False)) (s : Pos) : GIH fl A C N R K Kp (fun q => q = s ∧ A q = none) :=
  g.mono_hole (fun _ h => h.elim)
    (fun y t h c => g.leaf_stored t ⟨y, g.cache_sub y t h, (g.cached_pos y t h).1⟩ (g.cached_pos y t h).2 c.2)

/-- taking back the leaf `x` starts: in a full forest `x` is cached like every leaf -/
theorem start_kw (g : GIH fl A C N R (Kc fl C) Kp (fun _ => False)) (x : H) (s : Pos) :
    GIH fl A C N R (Kw fl x C) Kp (fun q => q = s ∧ A q = none) := by
  refine (g.congr_K fun t y hm => ⟨fun h => h.imp_right And.left, fun h => h.elim Or.inl fun hf => ?_⟩).open_at s
  rw [g.fullC hf t y hm (fun c => c) (Or.inr hf)]
  exact Or.inl rfl

theorem drop_at (L : Laws N R) (g : GIH fl A C N R K Kp (fun q => q = s ∧ A q = none)) :
    GIH fl (upd A s none) (dropC s A C) N R (fun y => K y ∧ ∀ l, A s = some l → l.hash ≠ y) Kp (fun q => q = s) := by
  cases hA : A s with
  | none =>
    have e : upd A s none = A := funext fun q => by
      rw [upd_apply]; split
      · rename_i h; rw [h, hA]
      · rfl
    rw [e, dropC_of_none hA]
    exact (g.congr_hole (fun q => ⟨fun h => ⟨h, h ▸ hA⟩, fun h => h.1⟩)).congr_K
      (fun _ y _ => ⟨fun h => h.1, fun h => ⟨h, fun _ e => nomatch e⟩⟩)
  | some l =>
    have d := g.drop_node L s (fun c => by rw [hA] at c; cases c.2)
    rw [hA] at d
    exact d.congr_hole (fun q => ⟨Or.inr, fun h => h.elim (fun c => c.1) id⟩)

variable {t0 : Pos} {ρ : Pos} {a b : H}

/-- the LAST iteration of `undoSingleAddLoop` (row 0; the inverse of the first step of the addition): the leaf `x`
at `t0` is dropped.  The dropped leaf allows nothing, since no node of `N` lies above it. -/
theorem unleaf (L' : Laws N' R') (g : GIH fl A C N' R' (Kw fl x C) Kp (fun q => q = t0 ∧ A q = none))
    (hN' : ∀ e, e ∈ N' ↔ e ∈ N ∨ e = (t0, x, true))
    (hR' : ∀ z, R' z ↔ R z ∨ z = t0)
    (hpos : ∀ q h b, (q, h, b) ∈ N → ¬ Anc q t0)
    (hxN : ∀ q b, (q, x, b) ∉ N) :
    GIH fl (upd A t0 none) (dropC t0 A C) N R (Kc fl (dropC t0 A C)) Kp (fun _ => False) := by
  have hnew : (t0, x, true) ∈ N' := (hN' _).2 (Or.inr rfl)
  have old : ∀ q h b, q ≠ t0 → ((q, h, b) ∈ N' ↔ (q, h, b) ∈ N) := fun q h b hq =>
    ⟨fun hm => ((hN' _).1 hm).resolve_right (fun e => hq (Prod.mk.inj e).1), fun hm => (hN' _).2 (Or.inl hm)⟩
  have d := g.drop_at L'
  have c : GIH fl (upd A t0 none) (dropC t0 A C) N R _ Kp (fun _ => False) :=
    (d.change_N (fun q h b hh => old q h b hh) (fun t y hm _ => (hN' _).2 (Or.inl hm)) ?_
      (fun q hh r => ((hR' q).1 r).resolve_right hh)).close_hole (fun _ h => h.elim)
      (fun q hq _ => by rw [hq]; exact ⟨upd_self _ _ _, fun h b hm => hpos _ h b hm (Anc.refl _)⟩)
  · refine c.congr_K fun t y hm => ?_
    unfold Kc Kw
    have hy : y ≠ x := fun e => hxN t true (e ▸ hm)
    have hC : (dropC t0 A C y).isSome = (C y).isSome := by
      cases hA : A t0 with
      | none => rw [dropC_of_none hA]
      | some l =>
        obtain ⟨bl, hb⟩ := g.true_hash t0 l hA (fun c => by rw [hA] at c; cases c.2)
        rw [dropC_of_some hA, (L'.func _ _ _ _ _ hb hnew).1, upd_ne _ _ hy]
    rw [hC]
    refine ⟨fun h => ⟨h.imp_right fun h => ⟨h, hy⟩, fun l hA e => ?_⟩, fun h => h.1.imp_right fun h => h.1⟩
    obtain ⟨bl, hb⟩ := g.true_hash t0 l hA (fun c => by rw [hA] at c; cases c.2)
    exact hy (e.symm.trans (L'.func _ _ _ _ _ hb hnew).1)
  · rintro q l hl hq hnr ⟨t, ⟨y, hy, hm⟩, hrow, hanc⟩
    refine ⟨t, ⟨y, hy, (old t y true ?_).1 hm⟩, hrow, hanc⟩
    rintro rfl
    obtain ⟨bq, hb⟩ := d.true_hash q l hl hq
    obtain ⟨hp, hpm, _⟩ := L'.parent_node q _ bq hb (fun r => ((hR' q).1 r).elim hnr hq)
    by_cases e : parent q = t
    · rw [e] at hpm; cases (L'.func _ _ _ _ _ hpm hnew).2
    · exact hpos _ _ _ ((old _ _ _ e).1 hpm) hanc

/-- one iteration of `undoSingleAddLoop` below a non-empty root.  `s` is the next spine position (any position will
do: the new hole is only "`s`, if empty"); `hfresh`: `N` has no node at the dropped position. -/
theorem unjoin (L' : Laws N' R') (g : GIH fl A C N' R' (Kw fl x C) Kp (fun q => q = parent ρ ∧ A q = none))
    (hN' : ∀ e, e ∈ N' ↔ e = (parent ρ, ph a b, false) ∨ e ∈ N)
    (hR' : ∀ z, R' z ↔ z = parent ρ ∨ (R z ∧ z ≠ ρ ∧ z ≠ sib ρ))
    (hfresh : ∀ h f, (parent ρ, h, f) ∉ N) (s : Pos) :
    GIH fl (upd A (parent ρ) none) (dropC (parent ρ) A C) N R (Kw fl x (dropC (parent ρ) A C)) Kp
      (fun q => q = s ∧ upd A (parent ρ) none q = none) := by
  have hP : (parent ρ, ph a b, false) ∈ N' := (hN' _).2 (Or.inl rfl)
  have old : ∀ q h f, q ≠ parent ρ → ((q, h, f) ∈ N' ↔ (q, h, f) ∈ N) := fun q h f hq =>
    ⟨fun hm => ((hN' _).1 hm).resolve_left (fun e => hq (Prod.mk.inj e).1), fun hm => (hN' _).2 (Or.inr hm)⟩
  have leaf : ∀ t y, (t, y, true) ∈ N' → (t, y, true) ∈ N := fun t y hm =>
    ((hN' _).1 hm).resolve_left (fun e => by cases (Prod.mk.inj (Prod.mk.inj e).2).2)
  have c : GIH fl (upd A (parent ρ) none) (dropC (parent ρ) A C) N R _ Kp (fun _ => False) :=
    ((g.drop_at L').change_N (fun q h f hh => old q h f hh) (fun t y hm _ => (hN' _).2 (Or.inr hm))
      (fun q l _ _ _ al => al.mono fun t ⟨y, hk, hm⟩ => ⟨y, hk, leaf t y hm⟩)
      (fun q hh r => ((hR' q).1 r).elim (fun e => absurd e hh) (fun h => h.1))).close_hole (fun _ h => h.elim)
      (fun q hq _ => by rw [hq]; exact ⟨upd_self _ _ _, hfresh⟩)
  refine (c.congr_K fun t y hm => kw_drop (fun l hA => Or.inr fun t' hm' => ?_) hm).open_at s
  obtain ⟨bl, hb⟩ := g.true_hash _ l hA (fun c => by rw [hA] at c; cases c.2)
  have hm'' : (t', l.hash, true) ∈ N' := (hN' _).2 (Or.inr hm')
  rw [L'.leaf_hash t' l.hash _ bl hm'' hb] at hP
  cases (L'.func _ _ _ _ _ hP hm'').2

end GIH

end UtreexoVerif.Proofs.MapGIH
