/-
  Geometry of one lift on (row, offset) pairs, without any forest.  When one of two sibling subtrees
  disappears, the other replaces their parent: every position `c` at or below the survivor goes one row up
  and loses the path bit that chose between the two.  That is `liftP σ c`, and it uses only the row of `σ`
  (`liftP_row`): `σ` may be read as the survivor (`calcNextPosition c (sib σ)`, the map forest) or as the
  subtree that disappears (`calcNextPosition c σ`, the cached proof, `PosMove.delP`).  The inverse
  `unliftP σ` re-inserts the bit of `σ`, so there `σ` is the survivor (`calcPrevPosition q (sib σ)`).
  Ancestors, parents, siblings and children commute with the lift.  The last lemma, `belowRoot_of_anc`,
  is the one place a forest size enters: positions below a position of a tree lie in that tree.

  Names: the definitions are `MapRep.SUnder`, `MapRep.liftP`, `MapRep.unliftP`, the lemmas are
  `MapLiftGeo.*`; users open both.  `Anc.trans`, `Anc.comparable`, `Anc.antisymm` are declared in the
  namespace of `Anc` (`Proofs/ProofPos.lean`), so `h₁.trans h₂` works.
-/
import UtreexoVerif.Proofs.ProofPosSem

namespace UtreexoVerif.Proofs.MapRep
open Spec

/-- `q` lies strictly below `p` (the ancestor is the first argument, as in `Anc`) -/
def SUnder (p q : Pos) : Prop := Anc p q ∧ q.1 < p.1

instance (p q : Pos) : Decidable (Anc p q) := by unfold Anc; infer_instance
instance (p q : Pos) : Decidable (SUnder p q) := by unfold SUnder; infer_instance

/-- where a node `q` below `σ` goes when the subtree rooted at `σ` replaces its parent
(`calcNextPosition q (sib σ)`): one row up, the path bit that chose `σ` removed; only `σ.1` is used -/
def liftP (σ q : Pos) : Pos := (q.1 + 1, removeBitNat q.2 (σ.1 - q.1))

/-- the inverse: where a node `q` (row `≥ 1`) below `parent σ` came from
(`calcPrevPosition q (sib σ)`) -/
def unliftP (σ q : Pos) : Pos := (q.1 - 1, addBitNat q.2 (σ.1 + 1 - q.1) (decide (σ.2 % 2 = 1)))

end UtreexoVerif.Proofs.MapRep

namespace UtreexoVerif.Proofs.MapLiftGeo
open Spec MapRep

theorem _root_.UtreexoVerif.Proofs.Anc.trans {a b c : Pos} (h1 : Anc a b) (h2 : Anc b c) : Anc a c := by
  refine ⟨Nat.le_trans h2.1 h1.1, ?_⟩
  rw [h1.2, h2.2, Nat.div_div_eq_div_mul, ← Nat.pow_add, Nat.add_comm, Nat.sub_add_sub_cancel h1.1 h2.1]

theorem _root_.UtreexoVerif.Proofs.Anc.comparable {a b t : Pos} (h1 : Anc a t) (h2 : Anc b t) (hle : a.1 ≤ b.1) : Anc b a := by
  refine ⟨hle, ?_⟩
  rw [h1.2, h2.2, Nat.div_div_eq_div_mul, ← Nat.pow_add, Nat.add_comm, Nat.sub_add_sub_cancel hle h1.1]

/-- the ancestor of `t` that is `j` rows up -/
def upP (t : Pos) (j : Nat) : Pos := (t.1 + j, t.2 / 2 ^ j)

theorem upP_zero (t : Pos) : upP t 0 = t := by simp [upP]

theorem upP_succ (t : Pos) (j : Nat) : upP t (j + 1) = parent (upP t j) := by
  show (t.1 + (j + 1), t.2 / 2 ^ (j + 1)) = (t.1 + j + 1, t.2 / 2 ^ j / 2)
  rw [Nat.div_div_eq_div_mul, ← Nat.pow_succ]; rfl

theorem anc_upP (t : Pos) (j : Nat) : Anc (upP t j) t := by
  refine ⟨Nat.le_add_right t.1 j, ?_⟩
  show t.2 / 2 ^ j = t.2 / 2 ^ (t.1 + j - t.1)
  rw [Nat.add_sub_cancel_left]

theorem eq_upP_of_anc {q t : Pos} (h : Anc q t) : q = upP t (q.1 - t.1) :=
  Prod.ext (Nat.add_sub_cancel' h.1).symm h.2

/-- the left (`b = 0`) or right (`b = 1`) child of `c` -/
def childP (c : Pos) (b : Nat) : Pos := (c.1 - 1, 2 * c.2 + b)

theorem parent_childP {c : Pos} (h1 : 1 ≤ c.1) {b : Nat} (hb : b < 2) : parent (childP c b) = c := by
  refine Prod.ext (Nat.sub_add_cancel h1) ?_
  show (2 * c.2 + b) / 2 = c.2
  rw [Nat.mul_add_div Nat.two_pos, Nat.div_eq_of_lt hb]; rfl

theorem childP_low (c : Pos) : childP (parent c) (c.2 % 2) = c :=
  Prod.ext rfl (Nat.div_add_mod c.2 2)

theorem sib_childP (p : Pos) {b : Nat} (hb : b < 2) : sib (childP p b) = childP p (1 - b) := by
  show (p.1 - 1, if (2 * p.2 + b) % 2 = 0 then 2 * p.2 + b + 1 else 2 * p.2 + b - 1) = _
  rw [Nat.mul_add_mod, Nat.mod_eq_of_lt hb]
  rcases Nat.le_one_iff_eq_zero_or_eq_one.1 (Nat.le_of_lt_succ hb) with rfl | rfl <;> rfl

theorem eq_or_sib_of_parent {x z : Pos} (hp : parent x = parent z) : x = z ∨ x = sib z := by
  rw [← childP_low x, ← childP_low z, hp, sib_childP _ (Nat.mod_lt _ Nat.two_pos)]
  rcases Nat.mod_two_eq_zero_or_one x.2 with e | e <;> rcases Nat.mod_two_eq_zero_or_one z.2 with e' | e' <;>
    rw [e, e']
  · exact Or.inl rfl
  · exact Or.inr rfl
  · exact Or.inr rfl
  · exact Or.inl rfl

theorem anc_parent_of_le {t z : Pos} (hle : t.1 ≤ z.1) : Anc (parent z) t ↔ (Anc z t ∨ Anc (sib z) t) := by
  constructor
  · intro h
    -- the ancestor of `t` on the row of `z` has the same parent as `z`
    have hp : parent (upP t (z.1 - t.1)) = parent z := by
      rw [← upP_succ, ← Nat.sub_add_comm hle]; exact (eq_upP_of_anc h).symm
    rcases eq_or_sib_of_parent hp with e | e
    · exact Or.inl (e ▸ anc_upP t _)
    · exact Or.inr (e ▸ anc_upP t _)
  · rintro (h | h)
    · exact h.parent
    · exact CalcGeo.parent_sib z ▸ h.parent

theorem _root_.UtreexoVerif.Proofs.Anc.antisymm {a b : Pos} (h1 : Anc a b) (h2 : Anc b a) : a = b :=
  h1.eq_of_row (Nat.le_antisymm h2.1 h1.1)

theorem Anc.row_le {a b : Pos} (h : Anc a b) : b.1 ≤ a.1 := h.1

theorem anc_parent_self (q : Pos) : Anc (parent q) q := (Anc.refl q).parent

theorem anc_parent_sib (q : Pos) : Anc (parent q) (sib q) := by
  rw [← CalcGeo.parent_sib]; exact anc_parent_self _

theorem not_anc_sib (q : Pos) : ¬ Anc q (sib q) := by
  intro h
  have := h.eq_of_row (by rw [CalcGeo.sib_fst])
  exact CalcGeo.sib_ne q this.symm

theorem sib_not_anc_parent {d : Pos} (h : Anc (sib d) (parent d)) : False :=
  Nat.not_succ_le_self d.1 h.1

theorem sib_inj {a b : Pos} (h : sib a = sib b) : a = b := by
  rw [← CalcGeo.sib_sib a, h, CalcGeo.sib_sib]

theorem sunder_iff_parent {p q : Pos} : SUnder p q ↔ Anc p (parent q) := by
  rw [anc_parent_iff]; rfl

theorem sunder_of_ne {p q : Pos} (h : Anc p q) (hne : q ≠ p) : SUnder p q :=
  ⟨h, Nat.lt_of_le_of_ne h.1 (fun e => hne (h.eq_of_row e.symm).symm)⟩

theorem sunder_parent_iff {σ z : Pos} : SUnder (parent σ) z ↔ Anc σ z ∨ Anc (sib σ) z := by
  unfold SUnder
  constructor
  · rintro ⟨h, hlt⟩
    exact (anc_parent_of_le (Nat.le_of_lt_succ hlt)).1 h
  · intro h
    have hle : z.1 ≤ σ.1 := h.elim (·.1) (·.1)
    exact ⟨(anc_parent_of_le hle).2 h, Nat.lt_succ_of_le hle⟩

/-- what lies at or below a parent: the parent itself, or something at or below one of the two
children (`anc_parent_iff` of `Proofs/ProofPos.lean` has the parent on the other side) -/
theorem anc_parent_iff' {σ z : Pos} : Anc (parent σ) z ↔ z = parent σ ∨ Anc σ z ∨ Anc (sib σ) z := by
  constructor
  · intro h
    by_cases hr : z.1 < (parent σ).1
    · exact Or.inr (sunder_parent_iff.1 ⟨h, hr⟩)
    · exact Or.inl (h.eq_of_row (Nat.le_antisymm (Nat.le_of_not_lt hr) h.1)).symm
  · rintro (rfl | h | h)
    · exact Anc.refl _
    · exact h.parent
    · have := h.parent; rwa [CalcGeo.parent_sib] at this

theorem not_anc_both {σ z : Pos} (h1 : Anc σ z) (h2 : Anc (sib σ) z) : False := by
  have := Anc.comparable h1 h2 (by rw [CalcGeo.sib_fst]; exact Nat.le_refl _)
  exact not_anc_sib (sib σ) (by rw [CalcGeo.sib_sib]; exact this)

theorem anc_offset {σ c : Pos} (h : Anc σ c) : c.2 = 2 ^ (σ.1 - c.1) * σ.2 + c.2 % 2 ^ (σ.1 - c.1) := by
  rw [h.2]; exact (Nat.div_add_mod _ _).symm

theorem liftP_of_anc {σ c : Pos} (h : Anc σ c) :
    liftP σ c = (c.1 + 1, 2 ^ (σ.1 - c.1) * (σ.2 / 2) + c.2 % 2 ^ (σ.1 - c.1)) := by
  unfold liftP removeBitNat
  rw [Nat.pow_succ, ← Nat.div_div_eq_div_mul, ← h.2]

theorem liftP_fst (σ c : Pos) : (liftP σ c).1 = c.1 + 1 := rfl

theorem liftP_row {d d' : Pos} (h : d.1 = d'.1) (c : Pos) : liftP d c = liftP d' c := by
  unfold liftP; rw [h]

theorem liftP_sib_eq (d c : Pos) : liftP (sib d) c = liftP d c := liftP_row (CalcGeo.sib_fst d) c

theorem liftP_self (σ : Pos) : liftP σ σ = parent σ := by
  rw [liftP_of_anc (Anc.refl σ)]
  simp [parent, Nat.mod_one]

theorem mul_add_div_pow (k x r : Nat) (hr : r < 2 ^ k) : (2 ^ k * x + r) / 2 ^ k = x := by
  rw [Nat.mul_add_div (Nat.two_pow_pos k), Nat.div_eq_of_lt hr, Nat.add_zero]

theorem mul_add_mod_pow (k x r : Nat) (hr : r < 2 ^ k) : (2 ^ k * x + r) % 2 ^ k = r := by
  rw [Nat.mul_add_mod, Nat.mod_eq_of_lt hr]

theorem anc_parent_liftP {σ c : Pos} (h : Anc σ c) : Anc (parent σ) (liftP σ c) := by
  rw [liftP_of_anc h]
  refine ⟨Nat.succ_le_succ h.1, ?_⟩
  show σ.2 / 2 = _ / 2 ^ (σ.1 + 1 - (c.1 + 1))
  rw [Nat.add_sub_add_right, mul_add_div_pow _ _ _ (Nat.mod_lt _ (Nat.two_pow_pos _))]

theorem sunder_parent_liftP {σ c : Pos} (h : SUnder σ c) : SUnder (parent σ) (liftP σ c) :=
  ⟨anc_parent_liftP h.1, Nat.succ_lt_succ h.2⟩

theorem unliftP_of_sunder {σ q : Pos} (h : SUnder (parent σ) q) :
    unliftP σ q = (q.1 - 1, 2 ^ (σ.1 + 1 - q.1) * σ.2 + q.2 % 2 ^ (σ.1 + 1 - q.1)) := by
  have hb : (decide (σ.2 % 2 = 1)).toNat = σ.2 % 2 := by
    rcases Nat.mod_two_eq_zero_or_one σ.2 with e | e <;> rw [e] <;> rfl
  have e : σ.2 / 2 = q.2 / 2 ^ (σ.1 + 1 - q.1) := h.1.2
  unfold unliftP addBitNat
  rw [← e, hb, Nat.div_add_mod]

theorem anc_unliftP {σ q : Pos} (h : SUnder (parent σ) q) (h1 : 1 ≤ q.1) : SUnder σ (unliftP σ q) := by
  rw [unliftP_of_sunder h]
  have hlt : q.1 - 1 < σ.1 := Nat.sub_lt_right_of_lt_add h1 h.2
  refine ⟨⟨Nat.le_of_lt hlt, ?_⟩, hlt⟩
  show σ.2 = _ / 2 ^ (σ.1 - (q.1 - 1))
  rw [Nat.sub_sub_right _ h1, mul_add_div_pow _ _ _ (Nat.mod_lt _ (Nat.two_pow_pos _))]

theorem liftP_unliftP {σ q : Pos} (h1 : 1 ≤ q.1) : liftP σ (unliftP σ q) = q := by
  unfold liftP unliftP
  simp only
  rw [Nat.sub_sub_right _ h1, removeBitNat_addBitNat, Nat.sub_add_cancel h1]

theorem unliftP_liftP {σ c : Pos} (h : Anc σ c) : unliftP σ (liftP σ c) = c := by
  unfold liftP unliftP
  simp only
  have hb : decide (σ.2 % 2 = 1) = c.2.testBit (σ.1 - c.1) := by
    rw [Nat.testBit_eq_decide_div_mod_eq, ← h.2]
  rw [Nat.add_sub_add_right σ.1 1 c.1, hb, addBitNat_removeBitNat, Nat.add_sub_cancel]

theorem liftP_inj {σ a b : Pos} (ha : Anc σ a) (hb : Anc σ b) (h : liftP σ a = liftP σ b) : a = b := by
  rw [← unliftP_liftP ha, ← unliftP_liftP hb, h]

theorem exists_liftP {σ q : Pos} (h : SUnder (parent σ) q) (h1 : 1 ≤ q.1) :
    ∃ c, SUnder σ c ∧ liftP σ c = q := ⟨unliftP σ q, anc_unliftP h h1, liftP_unliftP h1⟩

theorem anc_parent_of_sunder {σ c : Pos} (h : SUnder σ c) : Anc σ (parent c) := sunder_iff_parent.1 h

theorem sunder_row_diff {σ c : Pos} (h : SUnder σ c) : ∃ k, σ.1 - c.1 = k + 1 :=
  ⟨σ.1 - c.1 - 1, (Nat.sub_add_cancel (Nat.sub_pos_of_lt h.2)).symm⟩

theorem liftP_parent {σ c : Pos} (h : SUnder σ c) : liftP σ (parent c) = parent (liftP σ c) := by
  obtain ⟨k, hk⟩ := sunder_row_diff h
  have hk' : σ.1 - (c.1 + 1) = k := by rw [← Nat.sub_sub, hk, Nat.add_sub_cancel]
  rw [liftP_of_anc (anc_parent_of_sunder h), liftP_of_anc h.1, hk]
  refine Prod.ext rfl ?_
  show 2 ^ (σ.1 - (c.1 + 1)) * (σ.2 / 2) + c.2 / 2 % 2 ^ (σ.1 - (c.1 + 1)) =
    (2 ^ (k + 1) * (σ.2 / 2) + c.2 % 2 ^ (k + 1)) / 2
  rw [hk', Nat.pow_succ, Nat.mul_comm (2 ^ k) 2, Nat.mul_assoc, Nat.mul_add_div Nat.two_pos,
    Nat.mod_mul_right_div_self]

theorem sunder_sib {σ c : Pos} (h : SUnder σ c) : SUnder σ (sib c) := by
  have hp := anc_parent_of_sunder h
  rw [← CalcGeo.parent_sib] at hp
  exact ⟨(sunder_iff_parent.2 hp).1, by rw [CalcGeo.sib_fst]; exact h.2⟩

theorem sib_snd (c : Pos) : (sib c).2 = if c.2 % 2 = 0 then c.2 + 1 else c.2 - 1 := CalcGeo.sib_snd c

theorem liftP_sib {σ c : Pos} (h : SUnder σ c) : liftP σ (sib c) = sib (liftP σ c) := by
  have hs := sunder_sib h
  -- both nodes have the same parent, and they differ because the lift is injective
  have hp : parent (liftP σ (sib c)) = parent (liftP σ c) := by
    rw [← liftP_parent hs, ← liftP_parent h, CalcGeo.parent_sib]
  rcases eq_or_sib_of_parent hp with e | e
  · exact absurd (liftP_inj hs.1 h.1 e) (CalcGeo.sib_ne c)
  · exact e

/-- `unliftP` for the sibling of a deleted node `d`, in the form `calcPrevPosition pos d` computes it -/
theorem unliftP_sib {d q : Pos} (h : 1 ≤ q.1) :
    unliftP (sib d) q = (q.1 - 1, addBitNat q.2 (d.1 - (q.1 - 1)) (decide (d.2 % 2 = 0))) := by
  unfold unliftP
  have : decide ((sib d).2 % 2 = 1) = decide (d.2 % 2 = 0) := by
    rw [sib_snd]
    rcases Nat.mod_two_eq_zero_or_one d.2 with e | e
    · rw [if_pos e, Nat.add_mod, e]; rfl
    · have hne : ¬ d.2 % 2 = 0 := by rw [e]; decide
      have h0 : (d.2 - 1) % 2 = 0 := by omega
      rw [if_neg hne, h0, e]; rfl
  rw [this, CalcGeo.sib_fst, Nat.sub_sub_right _ h]

theorem liftP_snd_mod_two {σ c : Pos} (h : SUnder σ c) : (liftP σ c).2 % 2 = c.2 % 2 := by
  obtain ⟨k, hk⟩ := sunder_row_diff h
  rw [liftP_of_anc h.1, hk, Nat.pow_succ']
  show (2 * 2 ^ k * (σ.2 / 2) + c.2 % (2 * 2 ^ k)) % 2 = c.2 % 2
  rw [Nat.mul_assoc, Nat.mul_add_mod, Nat.mod_mul_right_mod]

theorem liftP_up {σ b : Pos} (hb : Anc σ b) (j : Nat) (hj : b.1 + j ≤ σ.1) :
    Anc σ (upP b j) ∧ liftP σ (upP b j) = upP (liftP σ b) j := by
  induction j with
  | zero => rw [upP_zero, upP_zero]; exact ⟨hb, rfl⟩
  | succ j ih =>
    obtain ⟨ha, e⟩ := ih (Nat.le_of_succ_le hj)
    have hs : SUnder σ (upP b j) := ⟨ha, hj⟩
    rw [upP_succ, upP_succ, liftP_parent hs, e]
    exact ⟨anc_parent_of_sunder hs, rfl⟩

theorem anc_liftP_iff {σ a b : Pos} (ha : Anc σ a) (hb : Anc σ b) :
    Anc (liftP σ a) (liftP σ b) ↔ Anc a b := by
  constructor
  · intro h
    have hle : b.1 ≤ a.1 := Nat.le_of_succ_le_succ h.1
    obtain ⟨hu, e⟩ := liftP_up hb (a.1 - b.1) (by rw [Nat.add_sub_cancel' hle]; exact ha.1)
    have := eq_upP_of_anc h
    rw [liftP_fst, liftP_fst, Nat.add_sub_add_right, ← e] at this
    rw [liftP_inj ha hu this]
    exact anc_upP b _
  · intro h
    obtain ⟨_, e⟩ := liftP_up hb (a.1 - b.1) (by rw [Nat.add_sub_cancel' h.1]; exact ha.1)
    rw [eq_upP_of_anc h, e]
    exact anc_upP _ _

theorem liftP_eq_iff {σ c q : Pos} (hc : Anc σ c) : liftP σ c = q ↔ (Anc (parent σ) q ∧ 1 ≤ q.1 ∧
    c = if q = parent σ then σ else unliftP σ q) := by
  constructor
  · rintro rfl
    refine ⟨anc_parent_liftP hc, by simp [liftP_fst], ?_⟩
    split
    · rename_i he
      rw [← liftP_self] at he
      exact liftP_inj hc (Anc.refl σ) he
    · exact (unliftP_liftP hc).symm
  · rintro ⟨-, h2, h3⟩
    split at h3
    · rename_i he; rw [h3, he]; exact liftP_self σ
    · rw [h3]; exact liftP_unliftP h2

theorem sunder_childP {σ c : Pos} (h : Anc σ c) (h1 : 1 ≤ c.1) {b : Nat} (hb : b < 2) : SUnder σ (childP c b) := by
  rw [sunder_iff_parent, parent_childP h1 hb]; exact h

theorem liftP_childP {σ c : Pos} (h : Anc σ c) (h1 : 1 ≤ c.1) {b : Nat} (hb : b < 2) :
    liftP σ (childP c b) = childP (liftP σ c) b := by
  have hs := sunder_childP h h1 hb
  -- the lift keeps the parent and the low bit
  rw [← childP_low (liftP σ (childP c b)), ← liftP_parent hs, parent_childP h1 hb, liftP_snd_mod_two hs]
  show (_, 2 * _ + (2 * c.2 + b) % 2) = _
  rw [Nat.mul_add_mod, Nat.mod_eq_of_lt hb]
  rfl

theorem belowRoot_of_anc {n R : Nat} {z t : Pos} (hz : BelowRoot n z.1 z.2 R) (ha : Anc z t) :
    BelowRoot n t.1 t.2 R :=
  have h : Anc (rootPos n R) t := Anc.trans ⟨hz.1, hz.2.2.symm⟩ ha
  ⟨h.1, hz.2.1, h.2.symm⟩

end UtreexoVerif.Proofs.MapLiftGeo
