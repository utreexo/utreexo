/-
  The update data of `Stump.add` (positions of the created nodes, property C11): the model's
  association list after the additions holds exactly the pairs of `Spec.NewAddSpec`.

  The bit-level facts about utils.go that are used (`Parent`, `leftSib`, `isAncestor`,
  `calcNextPosition`, `rootPosition` in (row, offset) terms) come from Props/C16 and C16b.
-/
import UtreexoVerif.Proofs.StumpAdd
import UtreexoVerif.Proofs.NewAddSpec
import UtreexoVerif.Props.C16b
set_option linter.unusedSectionVars false

namespace UtreexoVerif.Proofs.StumpAddPos
open Model Hasher Spec Proofs.FinalPos Proofs.StumpAdd

variable {H : Type} [DecidableEq H] [Hasher H]

theorem mem_mapPut {m : List (H × U64)} {k : H} {v : U64}
    (hc : ∀ v', (k, v') ∈ m → v' = v) (e : H × U64) :
    e ∈ mapPut m k v ↔ e ∈ m ∨ e = (k, v) := by
  unfold mapPut
  split
  · rename_i hany
    rw [List.any_eq_true] at hany
    obtain ⟨e0, he0, hk⟩ := hany
    have hk' : e0.1 = k := by simpa using hk
    have hkv : (k, v) ∈ m := by
      have : e0 = (k, e0.2) := by rw [← hk']
      have h2 := hc e0.2 (by rw [← this]; exact he0)
      rw [← h2, ← this]; exact he0
    have hid : m.map (fun e => if e.1 = k then (k, v) else e) = m := by
      conv => rhs; rw [← List.map_id m]
      apply List.map_congr_left
      intro a ha
      split
      · rename_i hak
        have : a = (k, a.2) := by rw [← hak]
        have h2 := hc a.2 (by rw [← this]; exact ha)
        rw [← h2, ← this]; rfl
      · rfl
    rw [hid]
    constructor
    · exact Or.inl
    · rintro (h | h)
      · exact h
      · rw [h]; exact hkv
  · simp

theorem keys_mapPut_nodup {m : List (H × U64)} {k : H} {v : U64}
    (hn : (m.map (·.1)).Nodup) : ((mapPut m k v).map (·.1)).Nodup := by
  unfold mapPut
  split
  · have : (m.map (fun e => if e.1 = k then (k, v) else e)).map (·.1) = m.map (·.1) := by
      rw [List.map_map]
      apply List.map_congr_left
      intro a _
      simp only [Function.comp]
      split
      · rename_i h; exact h.symm
      · rfl
    rw [this]; exact hn
  · rename_i hany
    rw [List.map_append, List.nodup_append]
    refine ⟨hn, by simp, ?_⟩
    intro a ha b hb hab
    simp only [List.map_cons, List.map_nil, List.mem_singleton] at hb
    subst hb; subst hab
    apply hany
    rw [List.any_eq_true]
    obtain ⟨e, he, hk⟩ := List.mem_map.mp ha
    exact ⟨e, he, by simpa using hk⟩

/-- the three facts about `isAncestor`, `calcNextPosition` and `rootPosition` of utils.go that the
position part rests on, in (row, offset) terms, as one proposition; `Props.C11.posFacts` states that
it holds (the proofs below use the C16 theorems directly) -/
structure PosFacts : Prop where
  isAncestor : ∀ {h r o r' o' : Nat}, h ≤ 63 → r ≤ h → o < 2 ^ (h - r) → r' ≤ h → o' < 2 ^ (h - r') →
    Model.isAncestor (encU h r' o') (encU h r o) (H8 h) = decide (r < r' ∧ o / 2 ^ (r' - r) = o')
  calcNext : ∀ {h r o r' o' : Nat}, h ≤ 63 → r ≤ r' → r' < h → o < 2 ^ (h - r) → o' < 2 ^ (h - r') →
    Model.calcNextPosition (encU h r o) (encU h r' o') (H8 h) =
      (encU h (r + 1) (FinalPos.removeBitNat o (r' - r)), false)
  rootPosition : ∀ {h row : Nat}, h ≤ 63 → row ≤ h → ∀ n : U64, n.toNat < 2 ^ (h + 1) →
    Model.rootPosition n (H8 row) (H8 h) = encU h row (2 * (n.toNat / 2 ^ (row + 1)))

def levelsFrom : Nat → List Bool → List Nat
  | _, [] => []
  | j, z :: rest => (if z then [j] else []) ++ levelsFrom (j + 1) rest

theorem levelsFrom_asc : ∀ (zs : List Bool) (j : Nat), AscFrom j (levelsFrom j zs) := by
  intro zs
  induction zs with
  | nil => intro j; trivial
  | cons z rest ih =>
    intro j
    simp only [levelsFrom]
    cases z
    · exact (ih (j + 1)).mono (by omega)
    · exact ⟨Nat.le_refl _, ih (j + 1)⟩

theorem mem_levelsFrom : ∀ (zs : List Bool) (j h : Nat),
    h ∈ levelsFrom j zs ↔ j ≤ h ∧ zs[h - j]? = some true := by
  intro zs
  induction zs with
  | nil => intro j h; simp [levelsFrom]
  | cons z rest ih =>
    intro j h
    simp only [levelsFrom, List.mem_append, ih]
    by_cases hj : h = j
    · subst hj
      cases z <;> simp
      omega
    · constructor
      · rintro (h1 | ⟨h1, h2⟩)
        · cases z <;> simp at h1
          exact absurd h1 hj
        · refine ⟨by omega, ?_⟩
          rw [show h - j = (h - (j + 1)) + 1 by omega, List.getElem?_cons_succ]
          exact h2
      · rintro ⟨h1, h2⟩
        right
        refine ⟨by omega, ?_⟩
        rw [show h - j = (h - (j + 1)) + 1 by omega, List.getElem?_cons_succ] at h2
        exact h2

theorem mem_levelsFrom_range (dead : Nat → Bool) (t h : Nat) :
    h ∈ levelsFrom 0 ((List.range t).map dead) ↔ h < t ∧ dead h = true := by
  rw [mem_levelsFrom, Nat.sub_zero, List.getElem?_map]
  by_cases hlt : h < t
  · rw [List.getElem?_range hlt]
    simp [hlt]
  · rw [List.getElem?_eq_none (by rw [List.length_range]; omega)]
    simp [hlt]

theorem innerDel_enc {R n : Nat} (hR : R ≤ 63) (hn : n < 2 ^ (R + 1)) :
    ∀ (rl : List H) (j : Nat), j + rl.length ≤ R + 1 →
      innerDel n (H8 R) j rl = (levelsFrom j (rl.map (fun r => decide (r = zero)))).map
        (fun h => encU R h (2 * (n / 2 ^ (h + 1)))) := by
  have h64 : n < 2 ^ 64 := Nat.lt_of_lt_of_le hn (two_pow_le_of_le (by omega))
  intro rl
  induction rl with
  | nil => intro j _; rfl
  | cons r rest ih =>
    intro j hj
    rw [List.length_cons] at hj
    have hp : rootPosition (BitVec.ofNat 64 n) (H8 j) (H8 R) = encU R j (2 * (n / 2 ^ (j + 1))) := by
      rw [Props.C16.rootPosition_enc hR (show j ≤ R by omega) _
        (by rw [toNat_ofNat64_of_lt h64]; exact hn), toNat_ofNat64_of_lt h64]
      simp [Spec.rootPos, Nat.shiftRight_eq_div_pow]
    simp only [innerDel, List.map_cons, levelsFrom, List.map_append, ih (j + 1) (by omega),
      show BitVec.ofNat 8 j = H8 j from rfl, hp]
    by_cases hr : r = zero <;> simp [hr]

/-- what the outer loop of `rootsToDestory` appends over `k` additions, for a forest that stays within
`R` rows: the root positions of the dead trees that get merged, lowest first -/
theorem rtdOuterR_exact {R : Nat} (hR : R ≤ 63) (nonZero : H)
    (hnz : nonZero ≠ (zero : H)) :
    ∀ (k : Nat) (n : Nat) (dead : Nat → Bool) (roots : List H) (deleted : List U64),
      n + k ≤ 2 ^ R → roots.map (fun r => decide (r = zero)) = (treeRows n).map dead →
      ∃ L, rtdOuterR nonZero (H8 R) k (BitVec.ofNat 64 n) roots deleted =
          .ok (deleted ++ L.map (fun h => encU R h (2 * (n / 2 ^ (h + 1))))) ∧
        AscFrom 0 L ∧
        ∀ h, h ∈ L ↔ (n.testBit h = true ∧ dead h = true ∧ (n / 2 ^ (h + 1) + 1) * 2 ^ (h + 1) ≤ n + k) := by
  intro k
  induction k with
  | zero =>
    intro n dead roots deleted _ _
    refine ⟨[], by simp [rtdOuterR], trivial, ?_⟩
    intro h
    simp only [List.not_mem_nil, false_iff, Nat.add_zero]
    rintro ⟨_, _, h3⟩
    have : n < (n / 2 ^ (h + 1) + 1) * 2 ^ (h + 1) := reach_gt n h
    omega
  | succ k ih =>
    intro n dead roots deleted hk hzp
    have h2R : 2 ^ R ≤ 2 ^ 63 := Nat.pow_le_pow_right (by decide) hR
    have hn : n < 2 ^ 64 := by omega
    obtain ⟨t, tr⟩ := exists_trail n
    have ht := tr.le_of_lt hn
    have htR : t ≤ R := tr.le_of_lt (show n < 2 ^ R by omega)
    obtain ⟨eold, enew⟩ := tr.treeRows ht
    rw [eold, List.map_append] at hzp
    obtain ⟨hi, lo, rfl, h1, h2⟩ := List.map_eq_append_iff.1 hzp
    have hlo : lo.length = t := by
      have := congrArg List.length h2; simpa using this
    have hz2' : lo.reverse.map (fun r => decide (r = zero)) = (List.range t).map dead := by
      rw [List.map_reverse, h2, List.map_reverse, List.reverse_reverse]
    rw [rtdOuterR_succ nonZero (H8 R) hn ht tr hi lo hlo, innerDel_enc hR
        (Nat.lt_of_lt_of_le (by omega) (Nat.pow_le_pow_right (by decide) (Nat.le_succ R)))
        lo.reverse 0 (by rw [List.length_reverse]; omega), hz2']
    obtain ⟨L', hL1, hL2, hL3⟩ := ih (n + 1)
      (fun h => if h = t then false else dead h) (hi ++ [nonZero])
      (deleted ++ (levelsFrom 0 ((List.range t).map dead)).map
          (fun h => encU R h (2 * (n / 2 ^ (h + 1)))))
      (by omega)
      (by
        rw [enew, List.map_append, List.map_append, h1]
        simp only [List.map_cons, List.map_nil, if_true, hnz, decide_false]
        congr 1
        apply List.map_congr_left
        intro h hh
        rw [if_neg (by have := (mem_hiRows.1 hh).1.1; omega)])
    have hL'ge : ∀ h ∈ L', t + 1 ≤ h := by
      intro h hh
      have h1 := (hL3 h).mp hh
      apply Classical.byContradiction
      intro hc
      by_cases he : h = t
      · simp [he] at h1
      · rw [tr.succ_low (by omega)] at h1
        exact absurd h1.1 (by simp)
    refine ⟨levelsFrom 0 ((List.range t).map dead) ++ L', ?_, ?_, ?_⟩
    · rw [hL1, List.append_assoc, List.map_append]
      congr 3
      apply List.map_congr_left
      intro h hh
      rw [tr.succ_div_high (show t < h + 1 by have := hL'ge h hh; omega)]
    · apply AscFrom.append (levelsFrom_asc _ 0) (b := t + 1) _ (hL2.of_ge hL'ge) (by omega)
      intro x hx
      exact Nat.lt_succ_of_lt ((mem_levelsFrom_range dead t x).1 hx).1
    · intro h
      rw [List.mem_append, hL3, mem_levelsFrom_range]
      by_cases hlt : h < t
      · have hb := tr.low h hlt
        have hpop := tr.succ_div_mul hlt
        rw [tr.succ_low hlt, hb, hpop]
        simp [hlt]
      · by_cases he : h = t
        · subst he
          rw [tr.clear]
          simp
        · have hgt : t < h := by omega
          rw [tr.succ_high hgt, tr.succ_div_high (show t < h + 1 by omega),
            if_neg he, Nat.add_assoc _ 1 k, Nat.add_comm 1 k]
          simp [hlt]

theorem rootsToDestroy_exact {R : Nat} (hR : R ≤ 63) (nonZero : H)
    (hnz : nonZero ≠ (zero : H)) (k n : Nat) (dead : Nat → Bool) (roots : List H)
    (hk : n + k ≤ 2 ^ R) (hzp : roots.map (fun r => decide (r = zero)) = (treeRows n).map dead)
    (hTR : TreeRows (BitVec.ofNat 64 n + BitVec.ofNat 64 k) = H8 R) :
    ∃ L, rootsToDestroy nonZero k (BitVec.ofNat 64 n) roots =
        .ok (L.map (fun h => encU R h (2 * (n / 2 ^ (h + 1))))) ∧
      AscFrom 0 L ∧
      ∀ h, h ∈ L ↔ (n.testBit h = true ∧ dead h = true ∧ (n / 2 ^ (h + 1) + 1) * 2 ^ (h + 1) ≤ n + k) := by
  unfold rootsToDestroy
  split
  · rw [rtdOuter_eq_rtdOuterR (ra := H8 R) nonZero _ k 0#64 _ roots [] (by rw [BitVec.sub_zero]; exact hTR)]
    obtain ⟨L, h1, h2, h3⟩ := rtdOuterR_exact hR nonZero hnz k n dead roots [] hk hzp
    exact ⟨L, by simpa using h1, h2, h3⟩
  · rename_i hany
    refine ⟨[], rfl, trivial, ?_⟩
    intro h
    simp only [List.not_mem_nil, false_iff]
    rintro ⟨h1, h2, _⟩
    apply hany
    have h2R : 2 ^ R ≤ 2 ^ 63 := Nat.pow_le_pow_right (by decide) hR
    have hh : h < 64 := (Nat.pow_lt_pow_iff_right (a := 2) (by decide)).1
      (Nat.lt_of_le_of_lt (Nat.ge_two_pow_of_testBit h1) (show n < 2 ^ 64 by omega))
    have hm : h ∈ treeRows n := mem_treeRows.mpr ⟨Nat.le_of_lt hh, h1⟩
    have : true ∈ (treeRows n).map dead := List.mem_map.mpr ⟨h, hm, h2⟩
    rw [← hzp] at this
    obtain ⟨r, hr, hz⟩ := List.mem_map.mp this
    rw [List.any_eq_true]
    exact ⟨r, hr, hz⟩

theorem fold_lift {R n : Nat} (hR : R ≤ 63) : ∀ (hs : List Nat) (r c : Nat),
    AscFrom r hs → (∀ h ∈ hs, h < R) → c < 2 ^ (R - r) →
    (∀ h ∈ hs, c / 2 ^ (h + 1 - r) = n / 2 ^ (h + 1)) → (∀ h ∈ hs, n / 2 ^ (h + 1) < 2 ^ (R - (h + 1))) →
    (hs.map (fun h => encU R h (2 * (n / 2 ^ (h + 1))))).foldl
        (fun pos del => if isAncestor (Parent del (H8 R)) pos (H8 R) then
          (calcNextPosition pos del (H8 R)).1 else pos) (encU R r c) =
      encU R (liftFold 0 (r, c) hs).1 (liftFold 0 (r, c) hs).2 := by
  intro hs
  induction hs with
  | nil => intro r c _ _ _ _ _; rfl
  | cons h rest ih =>
    intro r c hasc hlt hc hanc hrng
    have hrh : r ≤ h := hasc.1
    have hhR : h < R := hlt h List.mem_cons_self
    have hd : 2 * (n / 2 ^ (h + 1)) < 2 ^ (R - h) := by
      rw [show R - h = (R - (h + 1)) + 1 by omega, Nat.pow_succ, Nat.mul_comm]
      exact Nat.mul_lt_mul_of_pos_right (hrng h List.mem_cons_self) (by decide)
    have hpar : Parent (encU R h (2 * (n / 2 ^ (h + 1)))) (H8 R) = encU R (h + 1) (n / 2 ^ (h + 1)) := by
      rw [Props.C16.parent_enc hR hhR hd]
      congr 1; omega
    have hanc' := hanc h List.mem_cons_self
    have hisA : isAncestor (encU R (h + 1) (n / 2 ^ (h + 1))) (encU R r c) (H8 R) = true := by
      rw [Props.C16.isAncestor_enc hR (by omega) hc (by omega) (hrng h List.mem_cons_self)]
      simp only [decide_eq_true_eq]
      exact ⟨by omega, hanc'⟩
    have hcalc : calcNextPosition (encU R r c) (encU R h (2 * (n / 2 ^ (h + 1)))) (H8 R) =
        (encU R (r + 1) (FinalPos.removeBitNat c (h - r)), false) :=
      Props.C16.calcNextPosition_enc hR hrh hhR hc hd
    simp only [List.map_cons, List.foldl_cons, hpar, hisA, if_true, hcalc]
    have hc' := FinalPos.removeBitNat_row_lt (show r + (h - r) < R by omega) hc
    have := ih (r + 1) (FinalPos.removeBitNat c (h - r)) (hasc.2.mono (by omega))
      (fun x hx => hlt x (List.mem_cons_of_mem _ hx)) hc'
      (by
        intro x hx
        have hxh : h + 1 ≤ x := hasc.2.ge x hx
        rw [show x + 1 - (r + 1) = x - r by omega, FinalPos.removeBitNat_div (by omega),
          show x - r + 1 = x + 1 - r by omega]
        exact hanc x (List.mem_cons_of_mem _ hx))
      (fun x hx => hrng x (List.mem_cons_of_mem _ hx))
    rw [this]
    simp only [liftFold, List.foldl_cons, liftStep, Nat.sub_zero]

theorem chunk_take (S : List (Option H)) (n l b : Nat) (hn : n ≤ S.length) (h : (b + 1) * 2 ^ l ≤ n) :
    chunk (S.take n) l b = chunk S l b := by
  have := chunk_append_left (S.take n) (S.drop n) l b (by rw [List.length_take]; omega)
  rw [List.take_append_drop] at this
  exact this.symm

theorem root_chunk_le {n h : Nat} (hb : n.testBit h = true) : (2 * (n / 2 ^ (h + 1)) + 1) * 2 ^ h ≤ n := by
  have e := div_two_pow_bit n h
  rw [hb, if_pos rfl] at e
  rw [← e]
  exact Nat.div_mul_le_self n _

/-- on a level whose bit is set, the sibling of the chunk of slot `n` is the old root chunk -/
theorem sibIdx_of_testBit {n h : Nat} (hb : n.testBit h = true) :
    sibIdx (n / 2 ^ h) = 2 * (n / 2 ^ (h + 1)) := by
  have hodd := testBit_div_odd.mp hb
  unfold sibIdx
  rw [if_neg (by omega), Nat.pow_succ, ← Nat.div_div_eq_div_mul]
  omega

/-- the root on row `h` of the first `n` slots (what the stump held before the additions) is the
hash of that sibling chunk in the full list -/
theorem chunkHash_take_root (S : List (Option H)) {n h : Nat} (hn : n ≤ S.length)
    (hb : n.testBit h = true) :
    chunkHash (S.take n) h (2 * (n / 2 ^ (h + 1))) = chunkHash S h (sibIdx (n / 2 ^ h)) := by
  rw [sibIdx_of_testBit hb]
  unfold chunkHash
  rw [chunk_take S n h _ hn (root_chunk_le hb)]

/-- `S` is the final slot list, `n` the leaf count when the next leaf (slot `n`, in the tree on row
`T` of the final forest: `h1 h2 h3`) is added.  The rows whose root `rootsToDestory` reports then —
a tree of `n` leaves, its root the zero hash, merged over before the additions end — are the dead
levels on the way of slot `n` to its final position. -/
theorem dead_iff (hph : ∀ a b : H, ph a b ≠ (zero : H)) (S : List (Option H))
    (hSnz : ∀ x : H, some x ∈ S → x ≠ (zero : H)) {n T : Nat} (hnN : n < S.length)
    (hnew : ∀ i, n ≤ i → i < S.length → ∃ x : H, S[i]? = some (some x))
    (h1 : S.length.testBit T = true) (h2 : n.testBit T = false)
    (h3 : S.length / 2 ^ (T + 1) = n / 2 ^ (T + 1)) (h : Nat) :
    (n.testBit h = true ∧ decide (chunkHash (S.take n) h (2 * (n / 2 ^ (h + 1))) = zero) = true ∧
      (n / 2 ^ (h + 1) + 1) * 2 ^ (h + 1) ≤ S.length) ↔ h ∈ deadLevels (chunkAlive S) T 0 n := by
  rw [mem_deadLevels]
  simp only [Nat.zero_le, Nat.sub_zero, Nat.zero_add, true_and, decide_eq_true_eq]
  have hhalf := half_pow n
  have hroot : n.testBit h = true →
      (chunkHash (S.take n) h (2 * (n / 2 ^ (h + 1))) = zero ↔
        chunkAlive S h (sibIdx (n / 2 ^ h)) = false) := by
    intro hb
    rw [chunkHash_take_root S (by omega) hb]
    exact chunkHash_eq_zero_iff hph S hSnz h _
  constructor
  · rintro ⟨hb, hz, hpop⟩
    have hhT : h < T := by
      apply Classical.byContradiction
      intro hc
      have hne : h ≠ T := by rintro rfl; rw [h2] at hb; cases hb
      have hgt : T < h := by omega
      have e : S.length / 2 ^ (h + 1) = n / 2 ^ (h + 1) := by
        rw [← div_div_pow (show T + 1 ≤ h + 1 by omega), ← div_div_pow (m := n) (show T + 1 ≤ h + 1 by omega), h3]
      have : S.length < (S.length / 2 ^ (h + 1) + 1) * 2 ^ (h + 1) := reach_gt S.length h
      rw [e] at this
      omega
    exact ⟨hhT, (hroot hb).mp hz⟩
  · rintro ⟨hhT, hdead⟩
    have hin := inTree_of_slot h1 h2 h3 (l := h) (by omega)
    have hb : n.testBit h = true := by
      apply Classical.byContradiction
      intro hc
      have heven : n / 2 ^ h % 2 = 0 := by
        have := mt testBit_div_odd.mpr hc
        omega
      have hs : sibIdx (n / 2 ^ h) = n / 2 ^ h + 1 := by unfold sibIdx; rw [if_pos heven]
      have hle := inTree_le (inTree_sib hin hhT)
      rw [hs] at hle hdead
      have hgt := lt_succ_div_mul n (2 ^ h) (Nat.two_pow_pos _)
      have hpos := Nat.two_pow_pos h
      obtain ⟨x, hx⟩ := hnew ((n / 2 ^ h + 1) * 2 ^ h) (by omega)
        (by rw [Nat.add_mul, Nat.one_mul] at hle; omega)
      have := chunkAlive_of_slot S h (n / 2 ^ h + 1) _ x hx (Nat.le_refl _)
        (by rw [Nat.add_mul (n / 2 ^ h + 1), Nat.one_mul]; omega)
      rw [this] at hdead
      cases hdead
    refine ⟨hb, (hroot hb).mpr hdead, ?_⟩
    have := inTree_le (inTree_parent hin hhT)
    rw [← hhalf] at this
    exact this

def entry (R : Nat) (q : Pos × H) : H × U64 := (q.2, encP R q.1)

/-- every entry of the map is a node of the final forest at its final position -/
def Cons (S : List (Option H)) (R : Nat) (m : List (H × U64)) : Prop :=
  ∀ e ∈ m, ∃ pos : Pos, e.2 = encP R pos ∧ IsNode S (pos, e.1)

def Functional (S : List (Option H)) : Prop :=
  ∀ (p p' : Pos) (h : H), IsNode S (p, h) → IsNode S (p', h) → p = p'

theorem Cons.put {S : List (Option H)} {R : Nat} {m : List (H × U64)} (hc : Cons S R m)
    (hf : Functional S) {k : H} {pos : Pos} (hk : IsNode S (pos, k)) :
    Cons S R (mapPut m k (encP R pos)) ∧
      ∀ e, e ∈ mapPut m k (encP R pos) ↔ e ∈ m ∨ e = entry R (pos, k) := by
  have hcons : ∀ v', (k, v') ∈ m → v' = encP R pos := by
    intro v' hv
    obtain ⟨pos', h1, h2⟩ := hc _ hv
    have := hf pos' pos k h2 hk
    simp only at h1
    rw [h1, this]
  have hmem := mem_mapPut hcons
  refine ⟨?_, hmem⟩
  intro e he
  rcases (hmem e).mp he with h | h
  · exact hc e h
  · subst h; exact ⟨pos, rfl, hk⟩

/-- the merge loop of one addition from level `j` on: what it adds are the `LevelSpec` entries of the
levels `j … t-1` (the popped root and the new root, where the popped root is alive) -/
theorem innerUpd_mem (hph : ∀ a b : H, ph a b ≠ (zero : H)) (S : List (Option H))
    (hSnz : ∀ x : H, some x ∈ S → x ≠ (zero : H)) (hf : Functional S)
    {R n T t : Nat} {x : H} (hR : R ≤ 63) (hN : S.length ≤ 2 ^ R)
    (hx : S[n]? = some (some x))
    (h1 : S.length.testBit T = true) (h2 : n.testBit T = false)
    (h3 : S.length / 2 ^ (T + 1) = n / 2 ^ (T + 1)) (tr : Trail n t) :
    ∀ (len j : Nat) (upd : List (H × U64)), j + len = t → Cons S R upd → (upd.map (·.1)).Nodup →
      let m' := innerUpd (H8 R) ((List.range' j len).map (fun l => chunkHash S l (sibIdx (n / 2 ^ l))))
        (chunkHash S j (n / 2 ^ j)) (encP R (nodePos S T j (n / 2 ^ j))) upd
      Cons S R m' ∧ (m'.map (·.1)).Nodup ∧
      ∀ e, e ∈ m' ↔ e ∈ upd ∨ ∃ q, LevelSpec S n T j t q ∧ e = entry R q := by
  have hcur := chunkAlive_above_slot S hx
  have htT := tr.le_of_clear h2
  intro len
  induction len with
  | zero =>
    intro j upd hj hc hnd
    simp only [List.range'_zero, List.map_nil, innerUpd]
    refine ⟨hc, hnd, ?_⟩
    intro e
    constructor
    · exact Or.inl
    · rintro (h | ⟨q, ⟨l, hl1, hl2, _⟩, _⟩)
      · exact h
      · omega
  | succ len ih =>
    intro j upd hj hc hnd
    have hjt : j < t := by omega
    have hjT : j < T := by omega
    have hself := tr.div_odd hjt
    have hodd : n / 2 ^ j % 2 = 1 := by omega
    have hhalf := (half_pow n j).symm
    have hsib := sibIdx_of_testBit (tr.low j hjt)
    have hin := inTree_of_slot h1 h2 h3 (l := j) (by omega)
    have hval := nodePos_valid S (R := R) (n / 2 ^ j) hN h1 (show j ≤ T by omega)
    simp only [List.range'_succ, List.map_cons, innerUpd]
    by_cases hal : chunkAlive S j (sibIdx (n / 2 ^ j)) = true
    · -- the left sibling is alive: a parent is created
      have hrnz : chunkHash S j (sibIdx (n / 2 ^ j)) ≠ zero := by
        intro hz
        rw [chunkHash_eq_zero_iff hph S hSnz, hal] at hz
        cases hz
      rw [if_pos hrnz]
      have hrow := nodePos_row_lt S hjT hal
      have hleft : leftSib (encP R (nodePos S T j (n / 2 ^ j))) =
          encP R (nodePos S T j (sibIdx (n / 2 ^ j))) := by
        unfold encP
        rw [Props.C16.leftSib_enc hR (by omega) hval.2.2.2, nodePos_left S hjT hodd hal (hcur j)]
      have hparent : Parent (encP R (nodePos S T j (n / 2 ^ j))) (H8 R) =
          encP R (nodePos S T (j + 1) (n / 2 ^ (j + 1))) := by
        unfold encP
        rw [Props.C16.parent_enc hR (by omega) hval.2.2.2, ← hhalf, ← nodePos_parent S hjT hal]
      have hhash : ph (chunkHash S j (sibIdx (n / 2 ^ j))) (chunkHash S j (n / 2 ^ j)) =
          chunkHash S (j + 1) (n / 2 ^ (j + 1)) := by
        have := chunkHash_succ_alive S j (n / 2 ^ (j + 1)) (by rw [← hsib]; exact hal)
          (by rw [← hself]; exact hcur j)
        rw [← hself] at this
        rw [← hsib] at this
        exact this.symm
      rw [hleft, hparent, hhash]
      have hnode1 : IsNode S (nodePos S T j (sibIdx (n / 2 ^ j)), chunkHash S j (sibIdx (n / 2 ^ j))) :=
        ⟨T, j, sibIdx (n / 2 ^ j), inTree_sib hin hjT, hal, rfl⟩
      have hnode2 : IsNode S (nodePos S T j (n / 2 ^ j), chunkHash S j (n / 2 ^ j)) :=
        ⟨T, j, n / 2 ^ j, hin, hcur j, rfl⟩
      obtain ⟨hc1, hm1⟩ := hc.put hf hnode1
      obtain ⟨hc2, hm2⟩ := hc1.put hf hnode2
      obtain ⟨hc3, hnd3, hm3⟩ := ih (j + 1) _ (by omega) hc2 (keys_mapPut_nodup (keys_mapPut_nodup hnd))
      refine ⟨hc3, hnd3, fun e => ?_⟩
      rw [hm3, hm2, hm1]
      constructor
      · rintro (((h | h) | h) | ⟨q, hq, he⟩)
        · exact Or.inl h
        · exact Or.inr ⟨_, (levelSpec_succ S n T j t _).2 (Or.inl ⟨hjt, hal, Or.inr rfl⟩), h⟩
        · exact Or.inr ⟨_, (levelSpec_succ S n T j t _).2 (Or.inl ⟨hjt, hal, Or.inl rfl⟩), h⟩
        · exact Or.inr ⟨q, (levelSpec_succ S n T j t q).2 (Or.inr hq), he⟩
      · rintro (h | ⟨q, hq, he⟩)
        · exact Or.inl (Or.inl (Or.inl h))
        · rcases (levelSpec_succ S n T j t q).1 hq with ⟨_, _, rfl | rfl⟩ | hq
          · exact Or.inl (Or.inr he)
          · exact Or.inl (Or.inl (Or.inr he))
          · exact Or.inr ⟨q, hq, he⟩
    · -- the left sibling is dead: nothing is written, the node keeps its position
      have hal' : chunkAlive S j (sibIdx (n / 2 ^ j)) = false := by simpa using hal
      have hrz : chunkHash S j (sibIdx (n / 2 ^ j)) = zero := by
        rw [chunkHash_eq_zero_iff hph S hSnz]; exact hal'
      rw [if_neg (by simp [hrz])]
      have hhash : chunkHash S j (n / 2 ^ j) = chunkHash S (j + 1) (n / 2 ^ (j + 1)) := by
        rw [chunkHash_succ_left_dead S j (n / 2 ^ (j + 1)) (by rw [← hsib]; exact hal'), ← hself]
      have hpos : nodePos S T j (n / 2 ^ j) = nodePos S T (j + 1) (n / 2 ^ (j + 1)) := by
        rw [nodePos_dead S hjT hal', hhalf]
      rw [hhash, hpos]
      obtain ⟨hc3, hnd3, hm3⟩ := ih (j + 1) upd (by omega) hc hnd
      refine ⟨hc3, hnd3, fun e => ?_⟩
      have hskip : ∀ q, LevelSpec S n T j t q ↔ LevelSpec S n T (j + 1) t q := fun q => by
        rw [levelSpec_succ, hal']
        exact ⟨fun h => h.elim (fun h => by cases h.2.1) id, Or.inr⟩
      simp only [hm3, hskip]

def NA (S : List (Option H)) (R m : Nat) (e : H × U64) : Prop :=
  ∃ q, NewAddSpec m S q ∧ e = entry R q

/-- one round of the main loop of `Stump.add` (leaf `x` onto the forest `F`, `S` the final slot list):
the stump becomes that of `F.add x` and the map gains exactly what `NewAddSpec` says of slot
`F.numLeaves` (`NA … n` = entries still to come from slot `n` on) -/
theorem step_exact (hph : ∀ a b : H, ph a b ≠ (zero : H)) (nonZero : H)
    (hnz : nonZero ≠ (zero : H)) (S : List (Option H)) (hSnz : ∀ x : H, some x ∈ S → x ≠ (zero : H))
    (hf : Functional S) {R : Nat} (hR : R ≤ 63) (hN : S.length ≤ 2 ^ R)
    (F : Forest H) (x : H) (rest : List H) (hS : S = F.slots ++ (x :: rest).map some)
    (hTR : TreeRows (BitVec.ofNat 64 F.numLeaves + BitVec.ofNat 64 (rest.length + 1)) = H8 R)
    (upd : List (H × U64)) (hc : Cons S R upd) (hnd : (upd.map (·.1)).Nodup) :
    ∃ upd2,
      Stump.add.loop nonZero (H8 R) (x :: rest) (rest.length + 1)
          ⟨F.roots, BitVec.ofNat 64 F.numLeaves⟩ upd =
        Stump.add.loop nonZero (H8 R) rest rest.length
          ⟨(F.add x).roots, BitVec.ofNat 64 (F.numLeaves + 1)⟩ upd2 ∧
      Cons S R upd2 ∧ (upd2.map (·.1)).Nodup ∧
      ∀ e, (e ∈ upd2 ∨ NA S R (F.numLeaves + 1) e) ↔ (e ∈ upd ∨ NA S R F.numLeaves e) := by
  have hlenS : S.length = F.numLeaves + (rest.length + 1) := by
    rw [hS]; simp [Forest.numLeaves]
  have h2R : 2 ^ R ≤ 2 ^ 63 := Nat.pow_le_pow_right (by decide) hR
  have hnN : F.numLeaves < S.length := by omega
  have hn64 : F.numLeaves < 2 ^ 64 := by omega
  have hnR : F.numLeaves < 2 ^ R := by omega
  have htake : S.take F.numLeaves = F.slots := by
    rw [hS]; exact List.take_left' rfl
  have hnew : ∀ i, F.numLeaves ≤ i → i < S.length → ∃ y : H, S[i]? = some (some y) := by
    intro i h1 h2
    rw [hS, List.getElem?_append_right (by exact h1)]
    have : i - F.slots.length < ((x :: rest).map some).length := by
      simp [Forest.numLeaves] at hlenS h1 h2 ⊢; omega
    rw [List.getElem?_eq_getElem this, List.getElem_map]
    exact ⟨_, rfl⟩
  have hx : S[F.numLeaves]? = some (some x) := by
    rw [hS]
    show (F.slots ++ List.map some (x :: rest))[F.slots.length]? = _
    simp
  have hlive : ∀ y ∈ F.liveLeaves, y ≠ (zero : H) := by
    intro y hy
    apply hSnz
    rw [Forest.mem_liveLeaves] at hy
    rw [hS]; exact List.mem_append_left _ hy
  obtain ⟨T, h1, h2, h3⟩ := exists_tree_of_lt S.length F.numLeaves hnN
  obtain ⟨t, tr⟩ := exists_trail F.numLeaves
  have ht := tr.le_of_lt hn64
  have htT := tr.le_of_clear h2
  have hvalT := nodePos_valid S (R := R) (l := 0) F.numLeaves hN h1 (Nat.zero_le _)
  have hTR' : T ≤ R := hvalT.2.2.1
  have hzp : F.roots.map (fun r => decide (r = zero)) = (treeRows F.numLeaves).map
      (fun h => decide (chunkHash F.slots h (2 * (F.numLeaves / 2 ^ (h + 1))) = zero)) := by
    rw [roots_chunks, List.map_map]; rfl
  obtain ⟨L, hd, hLasc, hLmem⟩ := rootsToDestroy_exact hR nonZero hnz (rest.length + 1) F.numLeaves _
    F.roots (by omega) hzp hTR
  have hLeq : L = deadLevels (chunkAlive S) T 0 F.numLeaves := by
    apply AscFrom.ext hLasc (deadLevels_asc _ _ _ _)
    intro h
    rw [hLmem, ← dead_iff hph S hSnz hnN hnew h1 h2 h3 h, htake, hlenS]
  have hLT : ∀ h ∈ L, h < T := by
    intro h hh
    rw [hLeq, mem_deadLevels] at hh
    omega
  have hfold := fold_lift (n := F.numLeaves) hR L 0 F.numLeaves hLasc
    (fun h hh => by have := hLT h hh; omega) (by simpa using hnR)
    (fun h _ => by simp) (fun h hh => div_two_pow_lt (by have := hLT h hh; omega) hnR)
  rw [encU_row_zero] at hfold
  have htop : F.numLeaves / 2 ^ T = 2 * (S.length / 2 ^ (T + 1)) := by
    simpa using (inTree_slot h1 h2 h3).2.2
  have hP0 : (liftFold 0 (0, F.numLeaves) L) = nodePos S T 0 F.numLeaves := by
    have := fpos_eq_liftFold (chunkAlive S) T 0 F.numLeaves
    rw [Nat.zero_add, Nat.zero_add, htop, ← hLeq] at this
    unfold nodePos
    rw [Nat.sub_zero, this]
  have hpos0 : addPos (H8 R) (L.map (fun h => encU R h (2 * (F.numLeaves / 2 ^ (h + 1)))))
      (BitVec.ofNat 64 F.numLeaves) = encP R (nodePos S T 0 F.numLeaves) := by
    unfold addPos
    rw [hfold, hP0]; rfl
  have hxhash : chunkHash S 0 F.numLeaves = x := by
    unfold chunkHash; rw [chunk_zero, hx]; rfl
  have hcur0 : chunkAlive S 0 F.numLeaves = true := by
    unfold chunkAlive; rw [chunk_zero, hx]; rfl
  have hnode0 : IsNode S (nodePos S T 0 F.numLeaves, x) :=
    ⟨T, 0, F.numLeaves, inTree_slot h1 h2 h3, hcur0,
      by rw [hxhash]⟩
  obtain ⟨hc1, hm1⟩ := hc.put hf hnode0
  obtain ⟨hi, lo, hroots, hlo, hadd⟩ := roots_add F x tr ht hph hlive
  have hloop := loop_cons nonZero (H8 R) hn64 ht tr hi lo hlo x rest (rest.length + 1) upd
    (by rw [← hroots]; exact hd)
  rw [← hroots, ← hadd, hpos0, Nat.add_sub_cancel] at hloop
  have hlo' : lo.reverse = (List.range' 0 t).map (fun l => chunkHash S l (sibIdx (F.numLeaves / 2 ^ l))) := by
    have hr := roots_chunks F
    rw [hroots] at hr
    rw [(tr.treeRows ht).1] at hr
    rw [List.map_append] at hr
    have := (List.append_inj' hr (by simp [hlo])).2
    rw [this, ← List.map_reverse, List.reverse_reverse, List.range_eq_range']
    apply List.map_congr_left
    intro l hl
    have hlt : l < t := by simpa using (List.mem_range'_1.mp hl).2
    rw [← htake, chunkHash_take_root S (by omega) (tr.low l hlt)]
  rw [hlo'] at hloop
  have hmem := innerUpd_mem hph S hSnz hf hR hN hx h1 h2 h3 tr t 0
    (mapPut upd x (encP R (nodePos S T 0 F.numLeaves))) (by omega) hc1 (keys_mapPut_nodup hnd)
  simp only [Nat.pow_zero, Nat.div_one, hxhash] at hmem
  obtain ⟨hc2, hnd2, hm2⟩ := hmem
  refine ⟨_, hloop, hc2, hnd2, ?_⟩
  · intro e
    have hNA : NA S R F.numLeaves e ↔
        (∃ q, StepSpec S F.numLeaves T t q ∧ e = entry R q) ∨ NA S R (F.numLeaves + 1) e := by
      simp only [NA, newAddSpec_step S hx h1 h2 h3 tr, or_and_right, exists_or]
    rw [hm2, hm1, hNA]
    simp only [StepSpec, or_and_right, exists_or, exists_eq_left, hxhash, or_assoc]

theorem NA_full (S : List (Option H)) (R : Nat) (e : H × U64) : ¬ NA S R S.length e := by
  rintro ⟨q, ⟨T, l, b, h1, _, _, h4⟩, _⟩
  rcases h4 with ⟨h5, h6⟩ | ⟨h5, _, h7⟩
  · subst h5
    have := inTree_le h1
    omega
  · have := inTree_le (inTree_parent h1 h5)
    omega

theorem ofNat_shift (a b : Nat) :
    BitVec.ofNat 64 (a + 1) + BitVec.ofNat 64 b = BitVec.ofNat 64 a + BitVec.ofNat 64 (b + 1) := by
  rw [← BitVec.ofNat_add, ← BitVec.ofNat_add]; congr 1; omega

/-- **the map `Stump.add` returns is `NewAddSpec`** (C11, addition half) -/
theorem loop_exact (hph : ∀ a b : H, ph a b ≠ (zero : H)) (nonZero : H)
    (hnz : nonZero ≠ (zero : H)) (S : List (Option H)) (hSnz : ∀ x : H, some x ∈ S → x ≠ (zero : H))
    (hf : Functional S) {R : Nat} (hR : R ≤ 63) (hN : S.length ≤ 2 ^ R) :
    ∀ (adds : List H) (F : Forest H) (s : Stump H) (upd : List (H × U64)) (remaining : Nat),
      S = F.slots ++ adds.map some → remaining = adds.length → s.roots = F.roots →
      s.numLeaves = BitVec.ofNat 64 F.numLeaves →
      (adds ≠ [] → TreeRows (BitVec.ofNat 64 F.numLeaves + BitVec.ofNat 64 adds.length) = H8 R) →
      Cons S R upd → (upd.map (·.1)).Nodup →
      ∃ upd', Stump.add.loop nonZero (H8 R) adds remaining s upd =
          .ok (⟨(F.addMany adds).roots, BitVec.ofNat 64 (F.numLeaves + adds.length)⟩, upd') ∧
        Cons S R upd' ∧ (upd'.map (·.1)).Nodup ∧
        ∀ e, e ∈ upd' ↔ (e ∈ upd ∨ NA S R F.numLeaves e) := by
  intro adds
  induction adds with
  | nil =>
    intro F s upd remaining hS _ hr hn _ hc hnd
    refine ⟨upd, ?_, hc, hnd, ?_⟩
    · cases s
      simp only at hr hn
      simp [Stump.add.loop, addMany_nil, hr, hn]
    · intro e
      have : F.numLeaves = S.length := by rw [hS]; simp [Forest.numLeaves]
      rw [this]
      constructor
      · exact Or.inl
      · rintro (h | h)
        · exact h
        · exact (NA_full S R e h).elim
  | cons x rest ih =>
    intro F s upd remaining hS hrem hr hn hTR hc hnd
    simp only [List.length_cons] at hrem hTR
    obtain ⟨roots, nl⟩ := s
    simp only at hr hn
    subst hr hn hrem
    obtain ⟨upd2, hloop, hc2, hnd2, hm2⟩ :=
      step_exact hph nonZero hnz S hSnz hf hR hN F x rest hS (hTR (by simp)) upd hc hnd
    have hS' : S = (F.add x).slots ++ rest.map some := by
      rw [hS]; simp [Forest.add]
    obtain ⟨upd', h1, h2, h3, h4⟩ := ih (F.add x) ⟨(F.add x).roots, BitVec.ofNat 64 (F.numLeaves + 1)⟩
      upd2 rest.length hS' rfl rfl (by rw [numLeaves_add])
      (by intro _; rw [numLeaves_add, ofNat_shift]; exact hTR (by simp)) hc2 hnd2
    refine ⟨upd', ?_, h2, h3, ?_⟩
    · rw [hloop, h1, ← addMany_cons, numLeaves_add, List.length_cons, Nat.add_assoc, Nat.add_comm 1]
    · intro e
      rw [h4, numLeaves_add]
      exact hm2 e

end UtreexoVerif.Proofs.StumpAddPos
