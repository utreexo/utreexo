/-
  `undoAdd` of `MapPollard.Undo`: the additions of the block are taken back one by one
  (`undoSingleAdd`), each by walking down the right spine of the lowest tree; overwritten empty roots
  are re-created on the way.  `UW.leaf`/`UW.join`/`UW.split` are the three kinds of step on the invariant, for placed
  forests; `unadd_loop` is the result of the file.
-/
import UtreexoVerif.Proofs.MapUnstepA
import UtreexoVerif.Proofs.MapUndoWeak
import UtreexoVerif.Proofs.MapUnstepB
import UtreexoVerif.Proofs.MapUndoRep
import UtreexoVerif.Proofs.MapUndoOrder
import UtreexoVerif.Proofs.MapUndoRoots
import UtreexoVerif.Proofs.MapAddMerge
import UtreexoVerif.Proofs.MapAddTraj

namespace UtreexoVerif.Proofs.MapUndoAdd
open Model Spec MapInv MapPrune MapRep MapLiftGeo PForest
open MapUndoDefs MapUndoSteps PForestSpec PForestAdd MapUndoRep MapUndoOrder MapAddMerge MapAddTraj MapGIH Hasher
set_option linter.unusedSectionVars false

variable {H : Type} [DecidableEq H] [Hasher H]


theorem spine_children {n j : Nat} (hb : n.testBit j = true) :
    childP (j + 1, n >>> (j + 1)) 1 = (j, n >>> j) ∧ childP (j + 1, n >>> (j + 1)) 0 = rootPos n j := by
  refine ⟨?_, rfl⟩
  have := MapLiftGeo.childP_low (j, n >>> j)
  rw [show ((j, n >>> j) : Pos).2 % 2 = 1 from shiftRight_odd_of_testBit hb] at this
  rw [Nat.shiftRight_succ]; exact this

theorem filter_lt_succ_mem : ∀ (l : List Nat), l.Pairwise (fun a b => a > b) → ∀ (j : Nat), j ∈ l →
    l.filter (fun h => decide (h < j + 1)) = j :: l.filter (fun h => decide (h < j))
  | [], _, j, hj => by cases hj
  | a :: l, hp, j, hj => by
    rw [List.pairwise_cons] at hp
    rcases List.mem_cons.1 hj with rfl | hj'
    · rw [List.filter_cons_of_pos (p := fun h => decide (h < j + 1)) (decide_eq_true (Nat.lt_succ_self _)),
        List.filter_cons_of_neg (p := fun h => decide (h < j)) (fun h => Nat.lt_irrefl _ (of_decide_eq_true h))]
      congr 1
      apply List.filter_congr
      intro b hb
      have := hp.1 b hb
      exact decide_eq_decide.2 ⟨fun _ => this, fun _ => Nat.lt_succ_of_lt this⟩
    · have hgt : j < a := hp.1 j hj'
      rw [List.filter_cons_of_neg (p := fun h => decide (h < j + 1))
          (fun h => Nat.lt_irrefl _ (Nat.lt_of_lt_of_le hgt (Nat.le_of_lt_succ (of_decide_eq_true h)))),
        List.filter_cons_of_neg (p := fun h => decide (h < j)) (fun h => Nat.lt_asymm hgt (of_decide_eq_true h))]
      exact filter_lt_succ_mem l hp.2 j hj'

theorem filter_lt_succ_not_mem (l : List Nat) (j : Nat) (hj : j ∉ l) :
    l.filter (fun h => decide (h < j + 1)) = l.filter (fun h => decide (h < j)) := by
  apply List.filter_congr
  intro b hb
  have : b ≠ j := fun e => hj (e ▸ hb)
  exact decide_eq_decide.2 ⟨fun h => Nat.lt_of_le_of_ne (Nat.le_of_lt_succ h) this, Nat.lt_succ_of_lt⟩


theorem root_entry (a : CTree H) (r o : Nat) :
    ∃ b, ((r, o), a.hash, b) ∈ a.nodes r o ∧ (b = true → ∃ y, a = .leaf y) := by
  cases a with
  | leaf y => exact ⟨true, by simp [CTree.nodes, CTree.hash], fun _ => ⟨y, rfl⟩⟩
  | node l r' => exact ⟨false, by simp [CTree.nodes], fun h => by cases h⟩



section steps
variable {fl : Bool} {Kp : H → Prop} {x : H} {A : Pos → Option (Leaf H)} {C : H → Option Pos}

theorem UW.leaf (nz : NZ H) {F : Forest H} (hn : F.numLeaves + 1 < 2 ^ 63) (hyp : Hyg F) (hxfresh : x ∉ F.liveLeaves)
    (hx0 : x ≠ zero) (hxph : ∀ u v : H, x ≠ ph u v)
    (inv : UW fl Kp x A C (ofForest F ++ [((0, F.numLeaves), some (CTree.leaf x))]) (0, F.numLeaves)) :
    UG fl Kp (upd A (0, F.numLeaves) none) (dropC (0, F.numLeaves) A C) (ofForest F) := by
  obtain ⟨ok0, hN', hpos, hxN⟩ := step0_facts F hn hyp hxfresh hx0 hxph
  have hR' : ∀ z, IsRoot (ofForest F ++ [((0, F.numLeaves), some (CTree.leaf x))]) z ↔
      IsRoot (ofForest F) z ∨ z = (0, F.numLeaves) := by
    intro z
    rw [PForestAdd.isRoot_append, isRoot_single]
  unfold UG
  rw [nodes_ofForest]
  exact GIH.unleaf (laws_of_ok nz ok0) inv hN' hR' hpos hxN

theorem UW.join (nz : NZ H) {Y : PF H} {ρ : Pos} {tr a : CTree H} (heven : ρ.2 % 2 = 0)
    (ok : OK (Y ++ [(ρ, some tr), (sib ρ, some a)]))
    (inv : UW fl Kp x A C (Y ++ [(parent ρ, some (CTree.node tr a))]) (parent ρ)) :
    UW fl Kp x (upd A (parent ρ) none) (dropC (parent ρ) A C) (Y ++ [(ρ, some tr), (sib ρ, some a)]) (sib ρ) := by
  obtain ⟨ok', hN', hR', hfresh⟩ := stepA_pf Y ρ tr a heven ok
  exact GIH.unjoin (laws_of_ok nz ok') inv hN' hR' hfresh (sib ρ)

theorem UW.split (nz : NZ H) {Y : PF H} {σ : Pos} {a : CTree H} (ok : OK (Y ++ [(sib σ, none), (σ, some a)]))
    (inv : UW fl Kp x A C (Y ++ [(parent σ, some a)]) (parent σ)) (hx : ∀ y, a = .leaf y → y = x) :
    UW fl Kp x (upd (unliftA σ (upd A (parent σ) none)) (sib σ) (some ⟨zero, true⟩))
      (unliftC σ (dropC (parent σ) A C)) (Y ++ [(sib σ, none), (σ, some a)]) σ := by
  obtain ⟨ok', hN', hR'⟩ := stepB_pf Y σ a ok
  have L := laws_of_ok nz ok
  have hρN : (sib σ, (zero : H), false) ∈ PForest.nodes (Y ++ [(sib σ, none), (σ, some a)]) := by
    rw [mem_nodes]
    exact ⟨(sib σ, none), by simp, by simp [entryNodes]⟩
  refine GIH.unsplit L (laws_of_ok nz ok') inv hρN ⟨(σ, some a), by simp, rfl⟩ hN' hR' fun y hm => ?_
  obtain ⟨b, hb, hbl⟩ := root_entry a σ.1 σ.2
  have hb' : (σ, a.hash, b) ∈ PForest.nodes (Y ++ [(sib σ, none), (σ, some a)]) := by
    rw [mem_nodes]
    exact ⟨(σ, some a), by simp, hb⟩
  obtain ⟨e1, e2⟩ := L.func _ _ _ _ _ hm hb'
  obtain ⟨y', hy'⟩ := hbl e2.symm
  rw [e1, hy']
  exact hx y' hy'

end steps

section levels
variable {T : Nat} {fl : Bool} {Kp : H → Prop} (F : Forest H) (x : H) {t : Nat}

/-- The loop of `undoSingleAdd` from level `k` downwards, by induction on `k`: the state tracks member `k` of the
trajectory of the addition (`MapAddTraj.traj`); one step back along `traj_step` is `UW.join` or `UW.split` on the
invariant and `undoSingleAddLoop_skip` or `_place` on the model.  The list of overwritten empty roots enters only through
`rows` (those this addition overwrote, highest first: exactly the rows below `t` whose tree in `F` is empty) and
`rest`; no entry is the position of a non-empty low tree.  `unadd_single` takes `F := G.addMany xs`,
`rows := newRows G xs.length`, `rest := destroyed G xs.length`, `enc := rp T G.numLeaves`. -/
theorem unadd_levels (nz : NZ H) (hn63 : F.numLeaves + 1 < 2 ^ 63)
    (hfit : forestRows (F.numLeaves + 1) ≤ T)
    (tr : Trail F.numLeaves t)
    (hyp : Hyg F) (hx0 : x ≠ zero) (hxph : ∀ u v : H, x ≠ ph u v) (hxfresh : x ∉ F.liveLeaves)
    (rows rest : List Nat) (enc : Nat → U64) (hsorted : rows.Pairwise (fun a b => a > b))
    (hnone : ∀ i, i < t → ((rootPos F.numLeaves i, none) ∈ ofForest F ↔ i ∈ rows))
    (henc : ∀ i ∈ rows, enc i = encP T (rootPos F.numLeaves i))
    (hsome : ∀ i, i < t → ∀ tr', (rootPos F.numLeaves i, some tr') ∈ ofForest F →
      ∀ h ∈ rows ++ rest, enc h ≠ encP T (rootPos F.numLeaves i))
    (Y : PF H) (os : List (Option (CTree H))) (hlen : os.length = t) (hdec : ofForest F = Y ++ lowV F.numLeaves 0 os) :
    ∀ k, k ≤ t → ∀ (m : MapPollard H) (A : Pos → Option (Leaf H)) (C : H → Option Pos),
      Rep m T A C → m.full = fl →
      UW fl Kp x A C (traj F.numLeaves Y os (.leaf x) k) (k, F.numLeaves >>> k) →
      ∃ m' A' C', MapPollard.undoSingleAddLoop (k + 1) (encP T (k, F.numLeaves >>> k))
          (encP T (childP (k, F.numLeaves >>> k) 0))
          (((rows.filter (fun h => decide (h < k))) ++ rest).map enc) m = (m', .ok (rest.map enc)) ∧
        Rep m' T A' C' ∧ m'.numLeaves = m.numLeaves ∧ m'.full = fl ∧
        UG fl Kp A' C' (ofForest F) ∧
        (∀ y, (C' y).isSome = true ↔ ((C y).isSome = true ∧ y ≠ x)) := by
  have hn64 : F.numLeaves < 2 ^ 64 := by omega
  obtain ⟨ok0, hN0, hpos0, hxN0⟩ := step0_facts F hn63 hyp hxfresh hx0 hxph
  have hbit := tr.low
  have okS := traj_ok (n := F.numLeaves) (Y := Y) (os := os) (a0 := .leaf x) (by rw [traj_zero, ← hdec]; exact ok0)
    (fun i hi => hbit i (hlen ▸ hi))
  intro k
  induction k with
  | zero =>
    intro _ m A C rep hfull inv
    rw [traj_zero, ← hdec] at inv
    rw [Nat.shiftRight_zero]
    have hT := rep.T_le
    have hv : Valid T (0, F.numLeaves) := by
      have h2 := forestRows_spec_le (F.numLeaves + 1)
      have h3 : 2 ^ forestRows (F.numLeaves + 1) ≤ 2 ^ T := two_pow_le_of_le hfit
      exact ⟨Nat.zero_le _, by show F.numLeaves < 2 ^ (T - 0); rw [Nat.sub_zero]; omega⟩
    rw [undoSingleAddLoop_last]
    obtain ⟨rep', hnl', hfl'⟩ := dropNodeM_rep rep hv
    have hfilter : rows.filter (fun h => decide (h < 0)) = [] := by
      apply List.filter_eq_nil_iff.2
      intro a _; simp
    rw [hfilter, List.nil_append]
    have w := GIH.weak0 (laws_of_ok nz ok0) inv
    rw [dropNode_fst, dropNode_snd] at rep'
    refine ⟨_, _, _, rfl, rep', hnl', hfl'.trans hfull, UW.leaf nz hn63 hyp hxfresh hx0 hxph inv, ?_⟩
    exact w.drop_leaf_dom hN0 (fun h b hm => hpos0 _ h b hm (Anc.refl _)) hxN0
  | succ k ih =>
    intro hk m A C rep hfull inv
    have hT := rep.T_le
    have hjt : k < t := hk
    have hb := hbit k hjt
    obtain ⟨hρσ, heven, hPσ, hPρ⟩ := acc_geo hb
    obtain ⟨hc1, hc0⟩ := spine_children hb
    obtain ⟨hkT, hnT, _, _, hσv⟩ := MapAddRep.geo hfit hb
    have hρv : Valid T (rootPos F.numLeaves k) := MapAddRep.valid_root hfit hb
    have hsv : Valid T (k + 1, F.numLeaves >>> (k + 1)) := by
      rw [← hPσ]; exact valid_parent hσv hkT
    obtain ⟨Yk, o, a, hρent, hleaf, e0, e1⟩ := traj_step (n := F.numLeaves) (Y := Y) (a0 := .leaf x) (hlen ▸ hjt : k < os.length)
    rw [← hdec] at hρent
    have okj := okS k (hlen ▸ Nat.le_of_lt hjt)
    rw [e0] at okj
    rw [e1] at inv
    have back : ∀ {A' : Pos → Option (Leaf H)} {C' : H → Option Pos},
        UW fl Kp x A' C' (Yk ++ [(rootPos F.numLeaves k, o), ((k, F.numLeaves >>> k), some a)]) (k, F.numLeaves >>> k) →
        UW fl Kp x A' C' (traj F.numLeaves Y os (.leaf x) k) (k, F.numLeaves >>> k) :=
      fun h => by rw [e0]; exact h
    have hax : ∀ y, a = .leaf y → y = x := fun y hy => (CTree.leaf.inj (hleaf y hy)).symm
    clear e0 e1
    obtain ⟨rep1, hnl1, hfl1⟩ := dropNodeM_rep rep hsv
    rw [dropNode_fst, dropNode_snd] at rep1
    have hsub : ∀ h, h ∈ rows.filter (fun h => decide (h < k + 1)) ++ rest → h ∈ rows ++ rest := by
      intro h hh
      rcases List.mem_append.1 hh with h1 | h1
      · exact List.mem_append_left _ (List.mem_filter.1 h1).1
      · exact List.mem_append_right _ h1
    cases o with
    | some tr =>
      rw [← hPρ] at inv
      have hσρ : (k, F.numLeaves >>> k) = sib (rootPos F.numLeaves k) := by
        rw [hρσ, CalcGeo.sib_sib]
      have okj' := okj
      rw [hσρ] at okj'
      obtain ⟨ok', hN', _, _⟩ := stepA_pf Yk (rootPos F.numLeaves k) tr a heven okj'
      have L' := laws_of_ok nz ok'
      -- the dropped node is an inner node: the cache does not change
      have hCeq := (GIH.weak0 L' inv).dropC_inner L' (fun h => h) ((hN' _).2 (Or.inl rfl))
      have inv1 := UW.join nz heven okj' inv
      rw [← hσρ, hPρ] at inv1
      rw [hPρ] at hCeq
      have hnotin : k ∉ rows := by
        intro hmem
        have := (ok_ofForest F hn64 hyp).disj _ ((hnone _ hjt).2 hmem) _ hρent _ (Anc.refl _) (Anc.refl _)
        cases (Prod.mk.inj this).2
      have hne : ∀ e0 er, ((rows.filter (fun h => decide (h < k + 1))) ++ rest).map enc = e0 :: er →
          e0 ≠ encP T (childP (k + 1, F.numLeaves >>> (k + 1)) 0) := by
        intro e0 er he
        have hmem : e0 ∈ ((rows.filter (fun h => decide (h < k + 1))) ++ rest).map enc := by
          rw [he]; exact List.mem_cons_self
        obtain ⟨h, hh, rfl⟩ := List.mem_map.1 hmem
        rw [hc0]
        exact hsome _ hjt tr hρent h (hsub h hh)
      rw [undoSingleAddLoop_skip rep.rows hT hsv (Nat.le_add_left 1 _) k _ hne, hc1,
        filter_lt_succ_not_mem _ _ hnotin]
      obtain ⟨m', A', C', hloop, rep', hnl', hfl', inv', hdom'⟩ := ih (by omega) _ _ _ rep1 (hfl1.trans hfull)
        (back inv1)
      rw [hCeq] at hdom'
      exact ⟨m', A', C', hloop, rep', hnl'.trans hnl1, hfl', inv', hdom'⟩
    | none =>
      rw [← hPσ] at inv
      have okj' := okj
      rw [hρσ] at okj'
      obtain ⟨ok', hN', _⟩ := stepB_pf Yk (k, F.numLeaves >>> k) a okj'
      have L' := laws_of_ok nz ok'
      have w := GIH.weak0 L' inv
      have inv1 := UW.split nz okj' inv hax
      rw [← hρσ, hPσ] at inv1
      obtain ⟨hPh, hPb, hPN⟩ := L'.root_node _
        (show IsRoot (Yk ++ [(parent (k, F.numLeaves >>> k), some a)])
          (parent (k, F.numLeaves >>> k)) from
          ⟨(parent (k, F.numLeaves >>> k), some a),
            List.mem_append_right _ List.mem_cons_self, rfl⟩)
      obtain ⟨m2, hpl, rep2, hnl2, hfl2⟩ := (w.drop L' _ (fun h => h)).place L' rfl hPN
        (fun q hq h => h.elim id (fun e => by rw [e] at hq; exact Nat.lt_irrefl _ hq.2))
        (by
          intro q h b hm hq
          rcases (hN' _).1 hm with ⟨hna, _⟩ | ⟨c, _, hc, _⟩
          · exact absurd hq.1 hna
          · simp only at hc; rw [hc, liftP_fst]; omega)
        (by rw [hPσ]; exact rep1) (hfl1.trans hfull) hσv hkT
      rw [← hρσ] at hpl
      rw [hPσ] at rep2
      have rep3 := rep2.putNode hρv (⟨zero, true⟩ : Leaf H)
      have hmem : k ∈ rows := (hnone _ hjt).1 hρent
      rw [filter_lt_succ_mem _ hsorted _ hmem, List.cons_append, List.map_cons, henc _ hmem, ← hc0,
        undoSingleAddLoop_place rep.rows hT hsv (Nat.le_add_left 1 _) k _ hpl, hc1, hc0]
      obtain ⟨m', A', C', hloop, rep', hnl', hfl', inv', hdom'⟩ := ih (by omega) _ _ _ rep3
        (show m2.full = fl from hfl2.trans (hfl1.trans hfull)) (back inv1)
      refine ⟨m', A', C', hloop, rep', hnl'.trans (hnl2.trans hnl1), hfl', inv', ?_⟩
      -- the domain of the cache: only a leaf can be cached, and the dropped node is a leaf only if it is `x`
      intro y
      rw [hdom', ← hPσ, unsplitC_dom]
      constructor
      · rintro ⟨⟨h1, _⟩, h2⟩; exact ⟨h1, h2⟩
      · rintro ⟨h1, h2⟩
        refine ⟨⟨h1, ?_⟩, h2⟩
        intro l hA e
        apply h2
        subst e
        obtain ⟨bl, hm⟩ := w.true_hash _ l hA (fun h => h)
        obtain ⟨tt, hC⟩ := Option.isSome_iff_exists.1 h1
        have hm2 := (w.cached_pos _ tt hC).1
        have hst := L'.leaf_hash tt l.hash _ bl hm2 hm
        rw [← hst] at hm2
        obtain ⟨b, hb, hbl⟩ := root_entry a (k + 1) (F.numLeaves >>> (k + 1))
        have hb' : (parent (k, F.numLeaves >>> k), a.hash, b) ∈
            PForest.nodes (Yk ++ [(parent (k, F.numLeaves >>> k), some a)]) := by
          rw [mem_nodes]
          exact ⟨(parent (k, F.numLeaves >>> k), some a),
            List.mem_append_right _ List.mem_cons_self, by rw [hPσ]; exact hb⟩
        obtain ⟨e1, e2⟩ := L'.func _ _ _ _ _ hm2 hb'
        obtain ⟨y, hy⟩ := hbl e2.symm
        rw [e1, hy, hax y hy]; rfl
end levels

theorem hyg_unsnoc {F : Forest H} {x : H} (hyp : Hyg (F.add x)) :
    Hyg F ∧ x ≠ zero ∧ (∀ u v : H, x ≠ ph u v) ∧ x ∉ F.liveLeaves := by
  have hll : (F.add x).liveLeaves = F.liveLeaves ++ [x] := by
    simp [Forest.add, Forest.liveLeaves, List.filterMap_append]
  have hnd := hyp.nodup
  rw [hll] at hnd
  refine ⟨⟨(List.nodup_append.1 hnd).1, ?_, ?_⟩, hyp.nz x (by rw [hll]; simp), hyp.nph x (by rw [hll]; simp), ?_⟩
  · intro y hy; exact hyp.nz y (by rw [hll]; exact List.mem_append_left _ hy)
  · intro y hy; exact hyp.nph y (by rw [hll]; exact List.mem_append_left _ hy)
  · intro hmem
    exact (List.nodup_append.1 hnd).2.2 x hmem x (by simp) rfl

section single
variable {fl : Bool} {Kp : H → Prop}

theorem unadd_single (nz : NZ H) {T : Nat} (G : Forest H) (xs : List H) (x : H)
    (hn63 : G.numLeaves + xs.length + 1 < 2 ^ 63)
    (hfit : forestRows (G.numLeaves + xs.length + 1) ≤ T)
    (hyp : Hyg (G.addMany (xs ++ [x])))
    {m : MapPollard H} {A : Pos → Option (Leaf H)} {C : H → Option Pos} (rep : Rep m T A C)
    (hfull : m.full = fl) (hnl : m.numLeaves = BitVec.ofNat 64 (G.numLeaves + xs.length + 1))
    (inv : UG fl Kp A C (ofForest (G.addMany (xs ++ [x])))) :
    ∃ m' A' C', MapPollard.undoSingleAdd ((destroyed G (xs.length + 1)).map (MapUndoRoots.rp T G.numLeaves)) m
        = (m', .ok ((destroyed G xs.length).map (MapUndoRoots.rp T G.numLeaves))) ∧
      Rep m' T A' C' ∧ m'.numLeaves = BitVec.ofNat 64 (G.numLeaves + xs.length) ∧ m'.full = fl ∧
      UG fl Kp A' C' (ofForest (G.addMany xs)) ∧
      (∀ y, (C' y).isSome = true ↔ ((C y).isSome = true ∧ y ≠ x)) := by
  have hT := rep.T_le
  have hnp : (G.addMany xs).numLeaves = G.numLeaves + xs.length := numLeaves_addMany G xs
  rw [addMany_snoc] at hyp inv
  obtain ⟨hyG, hx0, hxph, hxfresh⟩ := hyg_unsnoc hyp
  obtain ⟨t, Y, os, htr, hlen, hdec, hdec'⟩ := add_parts (G.addMany xs) x (by rw [hnp]; omega)
  rw [hnp] at htr
  have htc := htr.decomp
  have hbit := htr.low
  have inv0 : UW fl Kp x A C _ _ := GIH.start_kw inv x (t, (G.addMany xs).numLeaves >>> t)
  rw [hdec'] at inv0
  obtain ⟨m', A', C', hloop, rep', hnl', hfl', inv', hdom'⟩ := unadd_levels (G.addMany xs) x nz
    (by rw [hnp]; exact hn63) (by rw [hnp]; exact hfit) (by rw [hnp]; exact htr) hyG hx0 hxph hxfresh
    (newRows G xs.length) (destroyed G xs.length) (MapUndoRoots.rp T G.numLeaves)
    (List.Pairwise.sublist List.filter_sublist (CalcComplete.treeRows_sorted _))
    (fun i hi => by rw [hnp]; exact (low_tree_none_iff G xs (by omega) htr hi).1)
    (fun i hi => by
      rw [hnp]
      unfold MapUndoRoots.rp
      rw [(low_tree_none_iff G xs (by omega) htr (newRows_lt G htr i hi)).2 hi])
    (by
      intro i hi tr hent h hh e
      rw [hnp] at hent e
      rw [← destroyed_succ] at hh
      refine low_tree_some_ne G xs (by omega) htr hi hent h hh ?_
      have hbh : G.numLeaves.testBit h = true := (mem_treeRows.1 (mem_destroyed.1 hh).1).2
      have hv1 := Props.C16.rootPos_valid (h := T) (show G.numLeaves ≤ 2 ^ T by
        have := (low_tree_facts hfit htc).2.2.1; omega) hbh
      exact encP_inj hT hv1 (MapAddRep.valid_root hfit (hbit i hi)) e)
    Y os hlen hdec t (Nat.le_refl _)
    m A C rep hfull (by rw [traj_last hlen]; exact inv0)
  rw [List.filter_eq_self.2 (fun a ha => by simpa using newRows_lt G htr a ha), ← destroyed_succ, hnp] at hloop
  have hsh : (G.numLeaves + xs.length) >>> t = 2 * ((G.numLeaves + xs.length) / 2 ^ (t + 1)) := by
    rw [Nat.shiftRight_eq_div_pow]; exact htr.div_even
  rw [hsh] at hloop
  refine ⟨{ m' with numLeaves := m'.numLeaves - 1 }, A', C', ?_, ?_, ?_, hfl', inv', hdom'⟩
  · rw [undoSingleAdd_start rep.rows hT hnl hn63 hfit htc, hloop]
  · exact ⟨rep'.T_le, rep'.rows, rep'.keys, rep'.node, rep'.dom, rep'.cache, rep'.cdom⟩
  · show m'.numLeaves - 1 = _
    rw [hnl', hnl, BitVec.ofNat_add]
    exact BitVec.add_sub_cancel _ _

theorem unadd_loop (nz : NZ H) {T : Nat} (G : Forest H) : ∀ (xs : List H),
    G.numLeaves + xs.length < 2 ^ 63 → forestRows (G.numLeaves + xs.length) ≤ T → Hyg (G.addMany xs) →
    ∀ {m : MapPollard H} {A : Pos → Option (Leaf H)} {C : H → Option Pos}, Rep m T A C → m.full = fl →
    m.numLeaves = BitVec.ofNat 64 (G.numLeaves + xs.length) →
    UG fl Kp A C (ofForest (G.addMany xs)) →
    ∃ m' A' C', MapPollard.undoAddLoop xs.length ((destroyed G xs.length).map (MapUndoRoots.rp T G.numLeaves)) m = (m', .ok ()) ∧
      Rep m' T A' C' ∧ m'.numLeaves = BitVec.ofNat 64 G.numLeaves ∧ m'.full = fl ∧
      UG fl Kp A' C' (ofForest G) ∧
      (∀ y, (C' y).isSome = true ↔ ((C y).isSome = true ∧ y ∉ xs)) := by
  intro xs0
  generalize hk : xs0.length = k
  induction k generalizing xs0 with
  | zero =>
    have : xs0 = [] := List.length_eq_zero_iff.1 hk
    subst this
    intro _ _ _ m A C rep hfull hnl inv
    refine ⟨m, A, C, rfl, rep, hnl, hfull, ?_, fun y => by simp⟩
    have : G.addMany [] = G := by simp [Forest.addMany]
    rw [this] at inv
    exact inv
  | succ k ih =>
    have hne : xs0 ≠ [] := by intro e; subst e; cases hk
    obtain ⟨xs, x, rfl⟩ : ∃ xs x, xs0 = xs ++ [x] := ⟨xs0.dropLast, xs0.getLast hne, (List.dropLast_concat_getLast hne).symm⟩
    have hk' : xs.length = k := by simpa using hk
    intro hn63 hfit hyp m A C rep hfull hnl inv
    subst hk'
    rw [← Nat.add_assoc] at hn63 hfit hnl
    obtain ⟨m1, A1, C1, hrun, rep1, hnl1, hfl1, inv1, hdom1⟩ := unadd_single nz G xs x hn63 hfit hyp rep hfull hnl inv
    have hyp1 : Hyg (G.addMany xs) := by
      rw [addMany_snoc] at hyp
      exact (hyg_unsnoc hyp).1
    obtain ⟨m2, A2, C2, hrun2, rep2, hnl2, hfl2, inv2, hdom2⟩ := ih xs rfl (by omega)
      (Nat.le_trans (forestRows_le (Nat.le_trans (Nat.le_succ _) (forestRows_spec_le _))) hfit) hyp1 rep1 hfl1 hnl1 inv1
    refine ⟨m2, A2, C2, ?_, rep2, hnl2, hfl2, inv2, ?_⟩
    · unfold MapPollard.undoAddLoop
      rw [hrun]
      exact hrun2
    · intro y
      rw [hdom2, hdom1]
      simp only [List.mem_append, List.mem_singleton, not_or]
      constructor
      · rintro ⟨⟨a, b⟩, c⟩; exact ⟨a, c, b⟩
      · rintro ⟨a, c, b⟩; exact ⟨⟨a, b⟩, c⟩

end single


theorem ug_false_iff {A : Pos → Option (Leaf H)} {C : H → Option Pos} {F : Forest H} (hn : F.numLeaves < 2 ^ 64)
    {Kp : H → Prop} :
    UG false Kp A C (ofForest F) ↔ HInvP A C F.nodes (FRoot F) (fun y => (C y).isSome = true) Kp (fun _ => False) := by
  unfold UG
  rw [nodes_ofForest]
  have kc : ∀ y, Kc false C y ↔ (C y).isSome = true := fun y => ⟨fun h => h.elim id Bool.noConfusion, Or.inl⟩
  exact ⟨fun g => hinvP_of_gih ((g.congr_K fun _ y _ => (kc y).symm).congr_R fun q => (isRoot_ofForest F hn q).symm)
      (fun _ _ h => h),
    fun h => ((gih_of_hinvP h).congr_K fun _ y _ => kc y).congr_R (isRoot_ofForest F hn)⟩

end UtreexoVerif.Proofs.MapUndoAdd
