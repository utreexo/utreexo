/-
  Pointer forest, heap model: the abstraction relation during a block.

  `Modify` first removes every deleted hash from `NodeMap` (`deleteFromMap`) and then removes the
  nodes one by one: in between, `NodeMap` holds the leaves NOT in the deletion set `D`.
  `AbsD p F D` is `Abs p F` with that weaker map clause (`Abs.toAbsD`: `Abs p F → AbsD p F []`; back by `AbsD.toAbs` once no
  live leaf of `F` is in `D`).  `MapD nm lv D` is the map clause of `AbsD` as one predicate, up to the order of `lv`.
-/
import UtreexoVerif.Proofs.PollardHeapDelPure
import UtreexoVerif.Proofs.PollardHeapRun
set_option linter.unusedSectionVars false

namespace UtreexoVerif.Proofs.PollardHeap
open UtreexoVerif.Model.PollardHeap UtreexoVerif.Spec Hasher

variable {H : Type} [DecidableEq H] [Hasher H]

structure AbsD (p : Pollard H) (F : Forest H) (D : List H) : Prop where
  numLeaves : p.numLeaves.toNat = F.numLeaves
  repr : ∃ owned lv, ReprRoots p.heap p.roots (F.trees.map (·.2)) owned lv ∧ owned.Nodup ∧
    (p.nodeMap.map (·.1)).Nodup ∧ (lv.map (·.1)).Nodup ∧
    ∀ e, e ∈ p.nodeMap ↔ (e ∈ lv ∧ e.1 ∉ D)

theorem keys_nodup_of_iff {m lv : List (H × Nat)} (hm : (m.map (·.1)).Nodup)
    (hi : (lv.map (·.2)).Nodup) (h : ∀ e, e ∈ lv → e ∈ m) : (lv.map (·.1)).Nodup := by
  induction lv with
  | nil => simp
  | cons e lv ih =>
    simp only [List.map_cons, List.nodup_cons] at hi ⊢
    refine ⟨?_, ih hi.2 (fun e' he' => h e' (by simp [he']))⟩
    intro hmem
    simp only [List.mem_map] at hmem
    obtain ⟨e', he', hk⟩ := hmem
    -- `e` and `e'` are entries of `m` with the same key, hence equal; then the value repeats
    have h1 := h e (by simp)
    have h2 := h e' (by simp [he'])
    have : e' = e := by
      have inj := Sorted.inj_of_pairwise_ne (fun x : H × Nat => x.1) m (List.pairwise_map.1 hm)
      exact inj e' h2 e h1 hk
    apply hi.1
    rw [← this]
    exact List.mem_map_of_mem he'

theorem ReprRoots.keys_nodup {hp : Heap H} {rs : List Nat} {ts : List (Option (CTree H))}
    {owned : List Nat} {lv nm : List (H × Nat)} (h : ReprRoots hp rs ts owned lv) (nd : owned.Nodup)
    (m : MapOK nm lv) : (lv.map (·.1)).Nodup :=
  keys_nodup_of_iff m.1 (h.leaf_idx nd).1 (fun e he => (m.2 e).2 he)

theorem ReprRoots.liveLeaves {hp : Heap H} {rs : List Nat} {F : Forest H} {owned : List Nat}
    {lv : List (H × Nat)} (h : ReprRoots hp rs (F.trees.map (·.2)) owned lv)
    (hn : F.numLeaves < 2 ^ 64) : lv.map (·.1) = F.liveLeaves := by
  rw [h.leaves, List.flatMap_map, ← trees_leaves F hn]

theorem Abs.keys_iff {p : Pollard H} {F : Forest H} (a : Abs p F) (hn : F.numLeaves < 2 ^ 64) :
    (p.nodeMap.map (·.1)).Nodup ∧ F.liveLeaves.Nodup ∧
      ∀ x, x ∈ p.nodeMap.map (·.1) ↔ x ∈ F.liveLeaves := by
  obtain ⟨_, owned, lv, h1, h2, h3⟩ := a
  refine ⟨h3.1, h1.liveLeaves hn ▸ h1.keys_nodup h2 h3, fun x => ?_⟩
  rw [← h1.liveLeaves hn]
  simp only [List.mem_map]
  exact ⟨fun ⟨e, he, ex⟩ => ⟨e, (h3.2 e).1 he, ex⟩, fun ⟨e, he, ex⟩ => ⟨e, (h3.2 e).2 he, ex⟩⟩

theorem Abs.toAbsD {p : Pollard H} {F : Forest H} (a : Abs p F) : AbsD p F [] := by
  obtain ⟨hnl, owned, lv, h1, h2, h3⟩ := a
  exact ⟨hnl, owned, lv, h1, h2, h3.1, h1.keys_nodup h2 h3, fun e => by simp [h3.2 e]⟩

theorem AbsD.toAbs {p : Pollard H} {F : Forest H} {D : List H} (a : AbsD p F D)
    (hn : F.numLeaves < 2 ^ 64) (hD : ∀ x ∈ F.liveLeaves, x ∉ D) : Abs p F := by
  obtain ⟨hnl, owned, lv, h1, h2, h3, h4, h5⟩ := a
  refine ⟨hnl, owned, lv, h1, h2, h3, fun e => ?_⟩
  rw [h5 e]
  exact ⟨fun h => h.1, fun he => ⟨he, hD _ (h1.liveLeaves hn ▸ List.mem_map_of_mem he)⟩⟩

theorem AbsD.congr_D {p : Pollard H} {F : Forest H} {D D' : List H} (a : AbsD p F D)
    (h : ∀ x, x ∈ D ↔ x ∈ D') : AbsD p F D' := by
  obtain ⟨hnl, owned, lv, h1, h2, h3, h4, h5⟩ := a
  exact ⟨hnl, owned, lv, h1, h2, h3, h4, fun e => by rw [h5 e, h e.1]⟩

theorem deleteFromMap_eq : ∀ (l : List H) (q : Pollard H), deleteFromMap l q =
    (.ok (), { q with nodeMap := q.nodeMap.filter (fun e => decide (e.1 ∉ l)) }) := by
  intro l
  induction l with
  | nil =>
    intro q; cases q
    simp only [deleteFromMap, pure_apply, List.not_mem_nil, not_false_eq_true, decide_true]
    congr 2
    exact (List.filter_eq_self.2 (fun _ _ => rfl)).symm
  | cons d l ih =>
    intro q
    show (nodeMapDel d >>= fun _ => deleteFromMap l) q = _
    simp only [bind_apply, nodeMapDel_apply, ih]
    congr 2
    unfold mapDel
    rw [List.filter_filter]
    congr 1
    funext e
    by_cases h1 : e.1 = d <;> by_cases h2 : e.1 ∈ l <;> simp [h1, h2]

theorem deleteFromMap_absD {F : Forest H} (D1 D0 : List H) (p : Pollard H) (a : AbsD p F D0) :
    ∃ nm', deleteFromMap D1 p = (.ok (), { p with nodeMap := nm' }) ∧
      AbsD { p with nodeMap := nm' } F (D0 ++ D1) := by
  obtain ⟨hnl, owned, lv, h1, h2, h3, h4, h5⟩ := a
  refine ⟨_, deleteFromMap_eq D1 p, hnl, owned, lv, h1, h2,
    (List.filter_sublist.map _).nodup h3, h4, fun e => ?_⟩
  show e ∈ p.nodeMap.filter _ ↔ _
  rw [List.mem_filter, h5 e]
  simp only [List.mem_append, not_or, decide_eq_true_eq]
  exact and_assoc

theorem pruneO_eq_self (R : List H) (o : Option (CTree H)) (h : ∀ x ∈ optLeaves o, x ∉ R) :
    pruneO R o = o := by
  cases o with
  | none => rfl
  | some t => exact prune_eq_self R t h

theorem map_pruneO_eq_self (R : List H) (ts : List (Option (CTree H)))
    (h : ∀ x ∈ ts.flatMap optLeaves, x ∉ R) : ts.map (pruneO R) = ts := by
  induction ts with
  | nil => rfl
  | cons t ts ih =>
    simp only [List.map_cons, List.flatMap_cons, List.mem_append] at h ⊢
    rw [pruneO_eq_self R t (fun x hx => h x (Or.inl hx)), ih (fun x hx => h x (Or.inr hx))]

def NoPH (lv : List (H × Nat)) : Prop := ∀ e ∈ lv, ∀ u v : H, e.1 ≠ ph u v

/-- the key of a removed sub-tree is a deleted leaf or no leaf at all -/
theorem hash_key {lv : List (H × Nat)} {D : List H} (a : CTree H) (hD : ∀ x ∈ a.leaves, x ∈ D)
    (hsep : NoPH lv) : a.hash ∈ D ∨ ∀ e ∈ lv, e.1 ≠ a.hash := by
  cases a with
  | leaf x => exact Or.inl (hD x (by simp [CTree.leaves]))
  | node u v => exact Or.inr (fun e he => hsep e he _ _)

structure MapD (nm lv : List (H × Nat)) (D : List H) : Prop where
  mem : ∀ e, e ∈ nm ↔ e ∈ lv ∧ e.1 ∉ D
  keys : (nm.map (·.1)).Nodup
  lkeys : (lv.map (·.1)).Nodup

theorem MapD.perm {nm lv lv' : List (H × Nat)} {D : List H} (h : MapD nm lv D) (p : lv.Perm lv') :
    MapD nm lv' D :=
  ⟨fun e => (h.mem e).trans (and_congr_left fun _ => p.mem_iff), h.keys, ((p.map _).nodup_iff).1 h.lkeys⟩

theorem AbsD.mapD {p : Pollard H} {F : Forest H} {D : List H} (a : AbsD p F D) :
    ∃ owned lv, ReprRoots p.heap p.roots (F.trees.map (·.2)) owned lv ∧ owned.Nodup ∧
      MapD p.nodeMap lv D := by
  obtain ⟨_, owned, lv, h1, h2, h3, h4, h5⟩ := a
  exact ⟨owned, lv, h1, h2, h5, h3, h4⟩

theorem NoPH.mono {lv lv' : List (H × Nat)} (h : NoPH lv) (sub : ∀ e ∈ lv', e.1 ∈ lv.map (·.1)) :
    NoPH lv' := by
  intro x hx u v
  obtain ⟨x', hx', hk⟩ := List.mem_map.1 (sub x hx)
  rw [← hk]; exact h x' hx' u v

theorem MapD.del {nm la Z : List (H × Nat)} {D : List H} (h : MapD nm (la ++ Z) D) (a : CTree H)
    (ela : la.map (·.1) = a.leaves) (hD : ∀ x ∈ a.leaves, x ∈ D) (hs : NoPH (la ++ Z)) :
    MapD (mapDel nm a.hash) Z D := by
  refine ⟨fun e => ?_, mapDel_keys_nodup _ h.keys, h.lkeys.sublist ((List.sublist_append_right la Z).map _)⟩
  rw [mem_mapDel, h.mem e, List.mem_append]
  constructor
  · rintro ⟨⟨h1 | h1, h2⟩, _⟩
    · exact absurd (hD _ (ela ▸ List.mem_map_of_mem h1)) h2
    · exact ⟨h1, h2⟩
  · rintro ⟨h1, h2⟩
    refine ⟨⟨Or.inr h1, h2⟩, ?_⟩
    rcases hash_key a hD hs with hk | hk
    · intro e'; exact h2 (e' ▸ hk)
    · exact hk e (List.mem_append_right _ h1)

/-- `mapMoveTo` — "if the node was a leaf, update the map to point to the root" — when the sub-tree `b` moves into the
root `r`: a leaf changes its index (`relabelTop`), an inner node has no entry; the keys stay -/
theorem MapD.move {nm lb Z : List (H × Nat)} {D : List H} {b : CTree H} {n h : Nat} {hp : Heap H}
    {fb : List Nat} (hM : MapD nm (lb ++ Z) D) (sb : Sub hp n h b fb lb) (hs : NoPH (lb ++ Z))
    (r : Nat) :
    MapD (mapMoveTo nm b.hash r) (relabelTop b r lb ++ Z) D ∧
      (relabelTop b r lb ++ Z).map (·.1) = (lb ++ Z).map (·.1) := by
  rcases sub_shape sb with ⟨x, B, rfl, rfl⟩ | ⟨u, v, rfl⟩
  · simp only [CTree.hash, relabelTop]
    have hZx : ∀ e ∈ Z, e.1 ≠ x := by
      intro e he hx
      have := hM.lkeys
      simp only [List.singleton_append, List.map_cons, List.nodup_cons, List.mem_map] at this
      exact this.1 ⟨e, he, hx⟩
    refine ⟨⟨fun e => ?_, ?_, hM.lkeys⟩, rfl⟩
    · by_cases hx : x ∈ nm.map (·.1)
      · have hxD : x ∉ D := by
          obtain ⟨e', he', hk⟩ := List.mem_map.1 hx
          exact hk ▸ ((hM.mem e').1 he').2
        unfold mapMoveTo
        rw [if_pos (mapGet_isSome_iff.2 hx), mem_mapSet_of_mem hx, hM.mem e]
        simp only [List.mem_append, List.mem_singleton]
        constructor
        · rintro (⟨⟨h1 | h1, h2⟩, h3⟩ | rfl)
          · subst h1; exact absurd rfl h3
          · exact ⟨Or.inr h1, h2⟩
          · exact ⟨Or.inl rfl, hxD⟩
        · rintro ⟨h1 | h1, h2⟩
          · exact Or.inr h1
          · exact Or.inl ⟨⟨Or.inr h1, h2⟩, hZx e h1⟩
      · have hxD : x ∈ D := Classical.byContradiction fun hc =>
          hx (List.mem_map.2 ⟨(x, B), (hM.mem _).2 ⟨by simp, hc⟩, rfl⟩)
        unfold mapMoveTo
        rw [if_neg (fun h => hx (mapGet_isSome_iff.1 h)), hM.mem e]
        simp only [List.mem_append, List.mem_singleton]
        constructor <;> rintro ⟨h1 | h1, h2⟩
        · subst h1; exact absurd hxD h2
        · exact ⟨Or.inr h1, h2⟩
        · subst h1; exact absurd hxD h2
        · exact ⟨Or.inr h1, h2⟩
    · unfold mapMoveTo
      split
      · rename_i h
        rw [mapSet_keys (mapGet_isSome_iff.1 h)]; exact hM.keys
      · exact hM.keys
  · -- an inner node: nothing is tracked under its hash
    have hno : ¬ (mapGet nm (CTree.node u v).hash).isSome = true := by
      intro h
      obtain ⟨e', he', hk⟩ := List.mem_map.1 (mapGet_isSome_iff.1 h)
      exact hs e' ((hM.mem e').1 he').1 u.hash v.hash (by rw [hk]; rfl)
    unfold mapMoveTo
    rw [if_neg hno]
    exact ⟨hM, rfl⟩

end UtreexoVerif.Proofs.PollardHeap
