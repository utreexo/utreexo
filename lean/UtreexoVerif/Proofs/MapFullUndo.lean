/-
  `Undo` on a FULL map forest: the `fl = true` reading of `MapUndoAll.xinv_undo`.
-/
import UtreexoVerif.Proofs.MapUndoAll

namespace UtreexoVerif.Proofs.MapFullUndo
open Model Spec
open PForestSpec Hasher
open MapUndoAll
open MapFull

variable {H : Type} [DecidableEq H] [Hasher H]

/-- **`Undo` on a full forest restores `FInv` of the forest before the `Modify`** (C06 for the full
map forest): `m` tracks `F.modify dels adds`; undoing the additions `adds` and the deletions `dels`
(with the canonical proof of `dels` in `F` and the roots of `F`) gives a state that tracks `F` -/
theorem finv_undo (nz : NZ H) {m : MapPollard H} {F : Forest H} {dels adds : List H} {ts : List Pos} {ps : List H}
    (s : FInv m (F.modify dels adds)) (hyF : Hyg F) (hnd : dels.Nodup) (hc : F.canon dels = some (ts, ps))
    (nonZero : H) (hnz : nonZero ≠ (zero : H)) :
    ∃ m', MapPollard.undo nonZero (BitVec.ofNat 64 adds.length) (ts.map (encP F.rows)) ps dels F.roots m = (m', .ok ()) ∧
      FInv m' F := by
  obtain ⟨m', h1, h2, _⟩ := xinv_undo nz ((MapXInv.xinv_true_iff nz).2 s) hyF hnd hc nonZero hnz
  exact ⟨m', h1, (MapXInv.xinv_true_iff nz).1 h2⟩

end UtreexoVerif.Proofs.MapFullUndo

section Axioms
open UtreexoVerif.Proofs.MapFullUndo
#print axioms finv_undo
end Axioms
