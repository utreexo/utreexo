/-
  Semantics of a block history for property C15 (`genTTLs` is exact): the slot list of the
  accumulator before every block, positions of live slots, the expected contents of the
  tracker.  Definitions only (shared by the `Sched*` proof modules).

  A state is a slot list `S : List (Option Nat)` whose live slots carry their own index
  (`Canon`), so that the chunk theory (`Spec.chunkAlive`, `Spec.nodePos`, `Spec.inTree`) and
  the forest theory (`Spec.Forest Nat`, leaves identified by their slot number) both apply.
-/
import UtreexoVerif.Spec.Sched
import UtreexoVerif.Proofs.NewAddSpec
import UtreexoVerif.Proofs.CalcGeo

namespace UtreexoVerif.Proofs.SchedSem
open UtreexoVerif Spec Spec.Sched
open UtreexoVerif.Proofs UtreexoVerif.Proofs.FinalPos UtreexoVerif.Proofs.CalcGeo

/-- slot numbers play the role of leaf hashes; the hash function is never looked at -/
instance (priority := low) instHasherNat : Hasher Nat := ⟨fun _ _ => 0, 0⟩

/-- `Forest.delLeaves` on slot lists -/
def kill (S : List (Option Nat)) (D : List Nat) : List (Option Nat) :=
  S.map fun x => match x with
    | some s => if s ∈ D then none else some s
    | none => none

def fresh (n k : Nat) : List (Option Nat) := (List.range k).map fun i => some (n + i)

def midS (S : List (Option Nat)) (b : Block) : List (Option Nat) := kill S b.delSlots

def stepS (S : List (Option Nat)) (b : Block) : List (Option Nat) :=
  midS S b ++ fresh S.length b.numAdds

/-- the slot list before block `t` (= after block `t - 1`) -/
def stateAt (h : History) (t : Nat) : List (Option Nat) := (h.take t).foldl stepS []

def Canon (S : List (Option Nat)) : Prop := ∀ (i x : Nat), S[i]? = some (some x) → x = i

def Live (S : List (Option Nat)) (s : Nat) : Prop := S[s]? = some (some s)

/-- the row of the tree of a forest with `n` leaves that contains slot `s` -/
def treeOf (n s : Nat) : Nat :=
  ((treeRows n).find? (fun h => treeStart n h ≤ s && s < treeStart n h + 2 ^ h)).getD 0

/-- position of (the collapsed root of) slot `s` -/
def posS (S : List (Option Nat)) (s : Nat) : Pos := nodePos S (treeOf S.length s) 0 s

def flags (S : List (Option Nat)) : List Bool := S.map Option.isSome

def ofFlags (A : List Bool) : List (Option Nat) :=
  (List.range A.length).map fun i => if A[i]?.getD false then some i else none

/-- 63-row encoding used by the tracker -/
abbrev E63 (p : Pos) : U64 := E 63 p

/-- row `h` carries a dead root of `S` that the addition of `k` leaves merges over -/
def DestroyedRow (S : List (Option Nat)) (k h : Nat) : Prop :=
  S.length.testBit h = true ∧ chunkAlive S h (2 * (S.length / 2 ^ (h + 1))) = false ∧
    (S.length / 2 ^ (h + 1) + 1) * 2 ^ (h + 1) ≤ S.length + k

/-- `td` lists (in any order, once each) the 63-row positions of the dead roots of `S` that
the addition of `k` leaves merges over -/
def TdOK (S : List (Option Nat)) (k : Nat) (td : List U64) : Prop :=
  td.Nodup ∧ ∀ x, x ∈ td ↔ ∃ h, DestroyedRow S k h ∧ x = E63 (h, 2 * (S.length / 2 ^ (h + 1)))

end UtreexoVerif.Proofs.SchedSem
