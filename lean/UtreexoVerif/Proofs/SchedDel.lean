/-
  `undoDel` of the caching-schedule tracker is the inverse of the deletion movement on leaf
  positions (property C15).  Its inner loops are those of the proof's `undoDel` (the generic pass
  of `Proofs/UndoPass.lean`, theorem `ProofUndoDel.undo_origin`), on positions encoded with 63
  rows: the tree index is computed after `translatePos` to `TreeRows(numLeaves)` rows.
-/
import UtreexoVerif.Proofs.SchedSem
import UtreexoVerif.Proofs.SchedPos
import UtreexoVerif.Proofs.SchedDeTwin
import UtreexoVerif.Proofs.SchedLives
import UtreexoVerif.Proofs.MoveDT
import UtreexoVerif.Proofs.ProofUpdateGnp
import UtreexoVerif.Proofs.ProofUndoDel
import UtreexoVerif.Model.Schedule

namespace UtreexoVerif.Proofs.SchedDel
open Spec Model
open UtreexoVerif.Proofs.SchedSem
open UtreexoVerif.Proofs.CalcGeo
open UtreexoVerif.Proofs.CalcComplete UtreexoVerif.Proofs.Sorted UtreexoVerif.Proofs.ProofUpdateGnp
open UtreexoVerif.Props.C16

/-- the body of the inner loop of `undoDel`: one de-twinned deletion `T`, one position -/
def udStep (tr : U8) (nl : U64) (T pos : U64) : U64 :=
  let sibPos := Parent T tr
  let subtree := (DetectOffset (translatePos T tr (TreeRows nl)) nl).1
  let subtree1 := (DetectOffset (translatePos pos tr (TreeRows nl)) nl).1
  if subtree != subtree1 then pos
  else if isAncestor sibPos pos tr || sibPos == pos then calcPrevPosition pos T tr
  else pos

theorem foldr_map_comm {α β : Type} (g : β → α → α) : ∀ (l : List β) (ps : List α),
    l.foldr (fun T ps => ps.map (g T)) ps = ps.map (fun p => l.foldr g p) := by
  intro l
  induction l with
  | nil => intro ps; simp
  | cons T rest ih =>
    intro ps
    simp only [List.foldr_cons]
    rw [ih, List.map_map]
    rfl

/-- the guard of `undoDel` for empty inputs returns what the map returns -/
theorem undoDel_map (tr : U8) (positions deleted : List U64) (nl : U64) :
    undoDel tr positions deleted nl =
      positions.map (fun pos => (deTwin (sortU64 deleted) tr).foldr (udStep tr nl) pos) := by
  unfold undoDel
  split
  · rename_i h
    simp only [Bool.or_eq_true, List.isEmpty_iff] at h
    rcases h with h | h
    · subst h
      have : deTwin (sortU64 []) tr = [] := rfl
      rw [this]
      simp
    · subst h; rfl
  · exact foldr_map_comm (udStep tr nl) _ positions

/-- the tree index as the tracker's `undoDel` computes it for a position in `tr` rows -/
def detT (tr : U8) (nl : U64) (x : U64) : U8 := (DetectOffset (translatePos x tr (TreeRows nl)) nl).1

theorem udStep_eq (tr : U8) (nl : U64) (T pos : U64) :
    udStep tr nl T pos =
      if ProofUndoDel.udTest tr (detT tr nl) T (Parent T tr) pos then calcPrevPosition pos T tr
      else pos := by
  unfold udStep ProofUndoDel.udTest detT
  by_cases h : (DetectOffset (translatePos T tr (TreeRows nl)) nl).1 =
      (DetectOffset (translatePos pos tr (TreeRows nl)) nl).1
  · simp [h]
  · have h' : ¬ (DetectOffset (translatePos pos tr (TreeRows nl)) nl).1 =
        (DetectOffset (translatePos T tr (TreeRows nl)) nl).1 := fun e => h e.symm
    simp [h, h']

theorem detOK_63 {n : Nat} (hn : n ≤ 2 ^ 63) :
    ProofUndoDel.DetOK n 63 (detT (H8 63) (BitVec.ofNat 64 n)) := by
  intro R hR p hu
  have hv := under_valid hR hu
  have hv63 := ValidH.mono hv (forestRows_small hn)
  unfold detT
  rw [treeRows_ofNat hn]
  rw [show translatePos (E 63 p) (H8 63) (H8 (forestRows n)) = E (forestRows n) p from
    EncPos.translatePos_encP (by decide) hv63 (forestRows_small hn) hv]
  exact detect_fst hn hR hu


open UtreexoVerif.Proofs.Movement UtreexoVerif.Proofs.MoveDT UtreexoVerif.Proofs.SpecSubs
open UtreexoVerif.Proofs.SchedPos

theorem kill_canon {S : List (Option Nat)} (hc : Canon S) (D : List Nat) : Canon (SchedSem.kill S D) := by
  intro i x hx
  exact hc i x ((SchedLives.kill_getElem? S D i x).mp hx).1

theorem kill_live {S : List (Option Nat)} {D : List Nat} {s : Nat} :
    Live (SchedSem.kill S D) s ↔ Live S s ∧ s ∉ D := SchedLives.kill_getElem? S D s s

theorem delLeaves_mk (S : List (Option Nat)) (D : List Nat) :
    (Forest.mk S).delLeaves D = Forest.mk (SchedSem.kill S D) := by
  unfold Forest.delLeaves SchedSem.kill
  congr 1
  apply List.map_congr_left
  intro x _
  cases x with
  | none => rfl
  | some v => by_cases h : v ∈ D <;> simp [h]

/-- `undoDel` on one position (`undoDel_map`).  Of the bound `2^62` (see `SchedUndoAdd.htd_of_tdok`)
the proof uses `S.length ≤ 2^63`. -/
theorem undoDel_pos {S : List (Option Nat)} (hc : Canon S) (hn : S.length ≤ 2 ^ 62) {D : List Nat}
    (hD : D.Nodup) (hlive : ∀ x ∈ D, Live S x) {s : Nat} (hs : Live S s) (hsD : s ∉ D) :
    (deTwin (sortU64 (D.map fun x => E 63 (posS S x))) (H8 63)).foldr
        (udStep (H8 63) (BitVec.ofNat 64 S.length)) (E 63 (posS (SchedSem.kill S D) s)) =
      E 63 (posS S s) := by
  have hn63 : S.length ≤ 2 ^ 63 := by omega
  have hn64 : S.length < 2 ^ 64 := by omega
  have hnd := liveLeaves_nodup hc
  obtain ⟨dtp, hdt, hpw, hmem, hnosib⟩ := SchedDeTwin.deTwin_slots hc hn hD hlive
  rw [hdt]
  -- the position before and after: `moveA` over the deleted subtrees
  have hp := posOf_eq hn64 hc hs
  obtain ⟨R, sub⟩ := posOf_sub hp
  have hal : delT D (CTree.leaf s) ≠ none := by simp [delT, hsD]
  have hmove := move_posOf (F := Forest.mk S) (D := D) hn64 hnd hp hsD
  rw [delLeaves_mk] at hmove
  have hp' := posOf_eq (S := SchedSem.kill S D) (by rw [SchedLives.kill_length]; exact hn64) (kill_canon hc D)
    (kill_live.mpr ⟨hs, hsD⟩)
  rw [hp'] at hmove
  have hq : posS (SchedSem.kill S D) s = movePos (Forest.mk S) D (posS S s) := Option.some.inj hmove
  rw [hq, ← moveA_eq_movePos hpw hmem sub hal]
  -- a surviving leaf is an origin for every deleted subtree
  have hdl : ProofUndoDel.DtList dtp :=
    ⟨hpw.imp (fun {a b} hab => by rcases hab with h1 | h1 <;> omega), hpw.imp (fun {a b} hab => PLt.ne hab),
      hnosib⟩
  have o := ProofUndoDel.origin_of_node hmem sub hal
    (ProofUndoDel.lowgood_untouched (by simpa [CTree.leaves] using hsD))
  have hstep : udStep (H8 63) (BitVec.ofNat 64 S.length) = fun T x =>
      if ProofUndoDel.udTest (H8 63) (detT (H8 63) (BitVec.ofNat 64 S.length)) T (Parent T (H8 63)) x
      then calcPrevPosition x T (H8 63) else x :=
    funext fun T => funext fun x => udStep_eq _ _ T x
  rw [hstep]
  exact ProofUndoDel.undo_origin (forestRows_small hn63) (Nat.le_refl 63) (detOK_63 hn63) dtp hdl o

end UtreexoVerif.Proofs.SchedDel
