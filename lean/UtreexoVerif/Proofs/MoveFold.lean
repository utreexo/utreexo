/-
  The inner loop of `getNewPositions` on (row, offset) pairs (property C07).

  `moveA n R dt c`: walk through the (de-twinned, ascending) deletion positions `dt`; whenever
  a deletion `T` lies in the tree on row `R` and `Parent T` is a strict ancestor of the current
  position, apply one `calcNextPosition` step (`liftStep 0 · T.1`).  It is `PosMove.delAll` over the
  targets of the tree (`moveA_eq_delAll`).

  `moveA_eq_liftFold`: for a list with ascending rows in which at most one element per row
  hits, this is `liftFold 0 c` over the ascending list of the rows that hit the ORIGINAL
  position: the targets that do not hit it never act (`PosMove.delAll_filter_hit`), the others
  all do (`PosMove.liftFold_eq_delAll_of_hit`).
-/
import UtreexoVerif.Proofs.CalcComplete
import UtreexoVerif.Proofs.PosMove

namespace UtreexoVerif.Proofs.MoveFold
open Spec
open UtreexoVerif.Proofs.FinalPos UtreexoVerif.Proofs.CalcComplete
open UtreexoVerif.Proofs.MapRep UtreexoVerif.Proofs.PosMove

/-- the ancestor test of the loop, `isAncestor (Parent T) c`, written out in arithmetic: the parent of `T`
is a strict ancestor of `c` (`hitA_iff`: `SUnder (parent T) c`) -/
def hitA (T c : Pos) : Bool := decide (c.1 ≤ T.1 ∧ c.2 / 2 ^ (T.1 + 1 - c.1) = T.2 / 2)

theorem hitA_iff {T c : Pos} : hitA T c = true ↔ SUnder (parent T) c := by
  unfold hitA SUnder Anc
  simp only [decide_eq_true_eq, parent]
  constructor
  · rintro ⟨a, b⟩; exact ⟨⟨Nat.le_succ_of_le a, b.symm⟩, Nat.lt_succ_of_le a⟩
  · rintro ⟨⟨_, b⟩, a⟩; exact ⟨Nat.le_of_lt_succ a, b.symm⟩

/-- the `for _, target := range blockTargets` loop of `getNewPositions` on pairs, for a
position of the tree on row `R` -/
def moveA (n R : Nat) : List Pos → Pos → Pos
  | [], c => c
  | T :: rest, c =>
    if inTree n R T && hitA T c then moveA n R rest (liftStep 0 c T.1) else moveA n R rest c

theorem moveA_eq_delAll (n R : Nat) : ∀ (ds : List Pos) (c : Pos),
    moveA n R ds c = delAll (ds.filter (inTree n R)) c := by
  intro ds
  induction ds with
  | nil => intro c; rfl
  | cons T rest ih =>
    intro c
    unfold moveA
    by_cases hin : inTree n R T = true
    · rw [List.filter_cons_of_pos hin]
      show _ = delAll _ (delP T c)
      by_cases hh : hitA T c = true
      · rw [if_pos (by rw [hin, hh]; rfl), ih, delP_of_sunder (hitA_iff.1 hh)]; rfl
      · rw [if_neg (by rw [hin, Bool.eq_false_iff.2 hh]; exact Bool.false_ne_true), ih, delP_of_not (mt hitA_iff.2 hh)]
    · rw [List.filter_cons_of_neg hin, if_neg (by rw [Bool.eq_false_iff.2 hin, Bool.false_and]; exact Bool.false_ne_true)]
      exact ih c

theorem moveA_cons (n R : Nat) (T : Pos) (rest : List Pos) (c : Pos) :
    moveA n R (T :: rest) c = moveA n R rest (if inTree n R T then delP T c else c) := by
  rw [moveA_eq_delAll, moveA_eq_delAll]
  by_cases hin : inTree n R T = true
  · rw [List.filter_cons_of_pos hin, if_pos hin]; rfl
  · rw [List.filter_cons_of_neg hin, if_neg hin]

/-- the deletion list as `deTwin` leaves it, seen from `c`: rows ascending, no target twice, and on every
row at most one target of the tree that passes the ancestor test against `c` (`uniq`) -/
structure HitHyp (n R : Nat) (dt : List Pos) (c : Pos) : Prop where
  rows : dt.Pairwise (fun a b => a.1 ≤ b.1)
  nodup : dt.Nodup
  uniq : ∀ T ∈ dt, ∀ T' ∈ dt, inTree n R T = true → inTree n R T' = true →
    hitA T c = true → hitA T' c = true → T.1 = T'.1 → T = T'

theorem moveA_eq_liftFold {n R : Nat} {dt : List Pos} {c : Pos} (hyp : HitHyp n R dt c)
    {levels : List Nat} {b : Nat} (hasc : AscFrom b levels)
    (hmem : ∀ j, j ∈ levels ↔ ∃ T ∈ dt, inTree n R T = true ∧ hitA T c = true ∧ T.1 = j) :
    moveA n R dt c = liftFold 0 c levels := by
  have hds : ∀ d, d ∈ ((dt.filter (inTree n R)).filter fun d => decide (SUnder (parent d) c)) ↔
      d ∈ dt ∧ inTree n R d = true ∧ hitA d c = true := fun d => by
    rw [List.mem_filter, List.mem_filter, decide_eq_true_eq, ← hitA_iff, and_assoc]
  have hpw : ((dt.filter (inTree n R)).filter fun d => decide (SUnder (parent d) c)).Pairwise
      (fun a b => a.1 < b.1) := by
    refine (((hyp.rows.and hyp.nodup).filter _).filter _).imp_of_mem fun {a b} ha hb hab => ?_
    obtain ⟨a1, a2, a3⟩ := (hds a).1 ha
    obtain ⟨b1, b2, b3⟩ := (hds b).1 hb
    exact Nat.lt_of_le_of_ne hab.1 fun e => hab.2 (hyp.uniq a a1 b b1 a2 b2 a3 b3 e)
  rw [moveA_eq_delAll, delAll_filter_hit _ (hyp.rows.filter _),
    ← (liftFold_eq_delAll_of_hit _ hpw fun d hd => of_decide_eq_true (List.mem_filter.1 hd).2).1]
  congr 1
  refine Sorted.eq_of_sorted_of_mem_iff Nat.lt_irrefl (fun _ _ _ => Nat.lt_trans) _ _
    (List.pairwise_map.2 hpw) hasc.pairwise fun j => ?_
  rw [hmem, List.mem_map]
  exact ⟨fun ⟨T, h1, h4⟩ => ⟨T, ((hds T).1 h1).1, ((hds T).1 h1).2.1, ((hds T).1 h1).2.2, h4⟩,
    fun ⟨T, h1, h2, h3, h4⟩ => ⟨T, (hds T).2 ⟨h1, h2, h3⟩, h4⟩⟩

end UtreexoVerif.Proofs.MoveFold
