/-
  C14 — proof combination, restriction and completion are exact.

  Property text: "Combining two valid proofs of the same state gives the canonical proof of the
  union of their targets; restricting a valid proof to a subset of its targets gives the
  canonical proof of that subset with hashes and targets in the requested order, and fails
  with an error exactly when a requested target is not covered.  The positions reported as
  missing for proving extra targets are exactly the canonical proof positions that cannot be
  taken or computed from what is already held, and supplying the true hashes at those
  positions makes verification succeed."

  This file holds the full statements against the specification forest (`C14_addProof_statement`,
  `C14_subset_statement`, `C14_missing_statement`) and theorems about the transliterated models
  (`Model/ProofOps.lean`) for ALL inputs.  `Props/C14d.lean` (on top of `Props/C14b.lean`,
  `Props/C14c.lean`) proves the first as written (`C14_addProof`); the other two are FALSE as written
  (`C14_subset_statement_false`, `C14_missing_statement_false` there) and are proved with the
  hypotheses they need: `C14_subset : C14_subset_statement'`, `C14_missing_positions :
  C14_missing_statement'`, and `C14_missing` (its own, fuller statement).
-/
import UtreexoVerif.Proofs.ProofOps
import UtreexoVerif.Props.C04

namespace UtreexoVerif.Props.C14
open Model Spec Proofs.ProofOps

section
variable {H : Type} [DecidableEq H] [Hasher H]

def encU (F : Forest H) (p : Pos) : U64 := BitVec.ofNat 64 (enc F.rows p)

def nLeaves (F : Forest H) : U64 := BitVec.ofNat 64 F.numLeaves

/-- insertion into a list of (position, leaf) pairs ascending by position (row, then offset) -/
def insertPair (x : Pos × H) : List (Pos × H) → List (Pos × H)
  | [] => [x]
  | y :: ys => if Forest.posLt x.1 y.1 then x :: y :: ys else if x.1 == y.1 then y :: ys else y :: insertPair x ys

/-- the live leaves of `A ∪ B` with their positions, ascending by position, no repetition -/
def unionPairs (F : Forest H) (A B : List H) : List (Pos × H) :=
  ((A ++ B).filterMap (fun l => (F.posOf l).map (fun p => (p, l)))).foldr insertPair []

/-- AddProof of the canonical proofs of two lists of live leaves (each in any request order) is
the canonical proof of the union: targets ascending, hashes parallel, canonical proof hashes. -/
def C14_addProof_statement : Prop :=
  ∀ (F : Forest H) (A B : List H) (tA tB : List Pos) (pA pB : List H),
    F.numLeaves < 2 ^ 63 → A.Nodup → B.Nodup →
    F.canon A = some (tA, pA) → F.canon B = some (tB, pB) →
    ∃ pC, F.canon ((unionPairs F A B).map (·.2)) = some ((unionPairs F A B).map (·.1), pC) ∧
      addProof (nLeaves F) (tA.map (encU F)) pA A (tB.map (encU F)) pB B =
        .ok ((unionPairs F A B).map (·.2), (unionPairs F A B).map (fun x => encU F x.1), pC)

/-- GetProofSubset of a canonical proof whose (target, hash) pairs are given in any parallel
order: for wanted targets that are all covered, the hashes and targets in the order of
`wants` with the canonical proof of exactly those leaves; an error otherwise. -/
def C14_subset_statement : Prop :=
  ∀ (F : Forest H) (U : List H) (tU : List Pos) (pU : List H) (σ : List (Pos × H)) (wants : List U64),
    F.numLeaves < 2 ^ 63 → U.Nodup →
    F.canon U = some (tU, pU) → σ.Perm (tU.zip U) → wants.Nodup →
    let ts := σ.map (fun x => encU F x.1)
    let hs := σ.map (·.2)
    (¬ (∀ w ∈ wants, w ∈ ts) → getProofSubset (nLeaves F) ts pU hs wants = .err) ∧
    ((∀ w ∈ wants, w ∈ ts) →
      let W := wants.filterMap (fun w => (σ.find? (fun x => encU F x.1 == w)).map (·.2))
      ∃ tW pW, F.canon W = some (tW, pW) ∧ tW.map (encU F) = wants ∧
        getProofSubset (nLeaves F) ts pU hs wants = .ok (W, wants, pW))

/-- GetMissingPositions for held leaves `A` and desired leaves `D`: ascending, exactly the
canonical proof positions of the extra leaves that are neither held targets, nor held proof
positions, nor computable from the held targets. -/
def C14_missing_statement : Prop :=
  ∀ (F : Forest H) (A D : List H) (tA tD : List Pos),
    F.numLeaves < 2 ^ 63 → A.mapM F.posOf = some tA → D.mapM F.posOf = some tD →
    let extra := tD.filter (fun p => !tA.contains p)
    let have_ := tA ++ F.proofPositions tA ++ F.computable tA
    getMissingPositions (nLeaves F) (tA.map (encU F)) (tD.map (encU F)) =
      ((F.proofPositions extra).filter (fun p => !have_.contains p)).map (encU F)

omit [DecidableEq H] [Hasher H] in
theorem zip_positions_hashes (l : HP H) : l.positions.zip l.hashes = l := by
  unfold HP.positions HP.hashes
  induction l with
  | nil => rfl
  | cons x xs ih => simp [ih]

/-- what "consistent lengths" means for `AddProof`: as many hashes as targets on both sides,
and as many proof hashes as `ProofPositions` asks for -/
structure AddProofConsistent (n : U64) (tA : List U64) (pA hA : List H) (tB : List U64) (pB hB : List H) : Prop where
  hashesA : hA.length = tA.length
  hashesB : hB.length = tB.length
  proofA : pA.length = (ProofPositions (sortU64 tA) n (TreeRows n)).1.length
  proofB : pB.length = (ProofPositions (sortU64 tB) n (TreeRows n)).1.length

/-- Closed form of `AddProof` on inputs of consistent lengths: no index expression of the Go
code is out of range (the model has an explicit `.panic` at each of them), and the result is
the sorted-list computation below — for arbitrary targets (unsorted, duplicates, outside the
forest) and arbitrary hashes. -/
theorem addProof_closed_form (n : U64) (tA : List U64) (pA hA : List H) (tB : List U64) (pB hB : List H)
    (hc : AddProofConsistent n tA pA hA tB pB hB) :
    addProof n tA pA hA tB pB hB = .ok (
      (mergeHP (sortHP (tA.zip hA)) (sortHP (tB.zip hB))).hashes,
      mergeU64 (sortU64 tA) (sortU64 tB),
      (subtractHP (subtractHP (mergeHP ((ProofPositions (sortU64 tA) n (TreeRows n)).1.zip pA)
          ((ProofPositions (sortU64 tB) n (TreeRows n)).1.zip pB))
        (mergeU64 (ProofPositions (sortU64 tA) n (TreeRows n)).2 (ProofPositions (sortU64 tB) n (TreeRows n)).2))
        (mergeU64 (sortU64 tA) (sortU64 tB))).hashes) := by
  unfold addProof
  simp only [bind, Out.bind]
  rw [mergeHP2_consistent _ _ _ _ hc.proofA hc.proofB]
  simp only [toHashAndPos2, hc.hashesA.symm, hc.hashesB.symm, if_true]
  rw [mergeHP2_consistent _ _ _ _ (by simp [HP.positions, HP.hashes]) (by simp [HP.positions, HP.hashes])]
  simp only [zip_positions_hashes]
  rfl

/-- `AddProof` is total on inputs of consistent lengths -/
theorem addProof_total (n : U64) (tA : List U64) (pA hA : List H) (tB : List U64) (pB hB : List H)
    (hc : AddProofConsistent n tA pA hA tB pB hB) :
    ∃ r, addProof n tA pA hA tB pB hB = .ok r :=
  ⟨_, addProof_closed_form n tA pA hA tB pB hB hc⟩

/-- The outputs of `AddProof` are parallel and ordered: the returned targets are the merge of
the two sorted target lists — ascending; strictly ascending (no duplicates) when neither
input repeats a target; a position is returned iff it is a target of A or of B — and the
i-th returned hash is a hash the caller paired with the i-th returned target. -/
theorem addProof_outputs (n : U64) (tA : List U64) (pA hA : List H) (tB : List U64) (pB hB : List H)
    (hc : AddProofConsistent n tA pA hA tB pB hB) (hs : List H) (ts : List U64) (ps : List H)
    (h : addProof n tA pA hA tB pB hB = .ok (hs, ts, ps)) :
    hs.length = ts.length ∧
    ts.Pairwise (· ≤ ·) ∧
    (tA.Nodup → tB.Nodup → ts.Pairwise (· < ·)) ∧
    (∀ x, x ∈ ts ↔ x ∈ tA ∨ x ∈ tB) ∧
    (∀ x ∈ ts.zip hs, x ∈ tA.zip hA ∨ x ∈ tB.zip hB) := by
  rw [addProof_closed_form n tA pA hA tB pB hB hc] at h
  simp only [Out.ok.injEq, Prod.mk.injEq] at h
  obtain ⟨h1, h2, _⟩ := h
  subst h1 h2
  have hpos : (mergeHP (sortHP (tA.zip hA)) (sortHP (tB.zip hB))).positions = mergeU64 (sortU64 tA) (sortU64 tB) := by
    rw [mergeHP_positions, Proofs.SortBy.sortHP_positions, Proofs.SortBy.sortHP_positions,
      zip_positions tA hA hc.hashesA.symm, zip_positions tB hB hc.hashesB.symm]
  refine ⟨?_, ?_, ?_, ?_, ?_⟩
  · rw [← hpos]; simp [HP.positions, HP.hashes]
  · exact sorted_mergeU64 _ _ (Proofs.SortBy.sorted_sortU64 tA) (Proofs.SortBy.sorted_sortU64 tB)
  · intro ha hb
    exact strict_mergeU64 _ _ (Proofs.SortBy.strict_sortU64 tA ha) (Proofs.SortBy.strict_sortU64 tB hb)
  · intro x
    rw [mem_mergeU64, Proofs.SortBy.mem_sortU64, Proofs.SortBy.mem_sortU64]
  · intro x hx
    rw [← hpos, zip_positions_hashes] at hx
    rcases mem_mergeHP _ _ x hx with hx | hx
    · exact Or.inl ((Proofs.SortBy.mem_sortBy _ x _).mp hx)
    · exact Or.inr ((Proofs.SortBy.mem_sortBy _ x _).mp hx)


/-- Set identity of the proof returned by `AddProof` over `ProofPositions` (for all inputs of
consistent lengths; the sortedness of the `ProofPositions` outputs is what `C16c.proofPositions_spec`
gives for sorted leaf positions): the returned proof hashes sit, in ascending order of position, at
exactly the proof positions of A or of B that are neither computable from A or B nor targets;
and each returned hash is the one an input proof carried at that position. -/
theorem addProof_proof_identity (n : U64) (tA : List U64) (pA hA : List H) (tB : List U64) (pB hB : List H)
    (hc : AddProofConsistent n tA pA hA tB pB hB)
    (hsA : (ProofPositions (sortU64 tA) n (TreeRows n)).1.Pairwise (· < ·))
    (hsB : (ProofPositions (sortU64 tB) n (TreeRows n)).1.Pairwise (· < ·))
    (hcA : (ProofPositions (sortU64 tA) n (TreeRows n)).2.Pairwise (· ≤ ·))
    (hcB : (ProofPositions (sortU64 tB) n (TreeRows n)).2.Pairwise (· ≤ ·)) :
    ∃ (l : HP H) (hs : List H) (ts : List U64),
      addProof n tA pA hA tB pB hB = .ok (hs, ts, l.hashes) ∧
      l.positions.Pairwise (· < ·) ∧
      (∀ x ∈ l, x ∈ (ProofPositions (sortU64 tA) n (TreeRows n)).1.zip pA ∨
                x ∈ (ProofPositions (sortU64 tB) n (TreeRows n)).1.zip pB) ∧
      (∀ p, p ∈ l.positions ↔
        (p ∈ (ProofPositions (sortU64 tA) n (TreeRows n)).1 ∨ p ∈ (ProofPositions (sortU64 tB) n (TreeRows n)).1) ∧
        p ∉ (ProofPositions (sortU64 tA) n (TreeRows n)).2 ∧ p ∉ (ProofPositions (sortU64 tB) n (TreeRows n)).2 ∧
        p ∉ tA ∧ p ∉ tB) := by
  refine ⟨_, _, _, addProof_closed_form n tA pA hA tB pB hB hc, ?_, ?_, ?_⟩
  · rw [subtractHP_positions, subtractHP_positions, mergeHP_positions,
      zip_positions _ _ hc.proofA.symm, zip_positions _ _ hc.proofB.symm]
    exact ((strict_mergeU64 _ _ hsA hsB).sublist (subtractU64_sublist _ _)).sublist (subtractU64_sublist _ _)
  · intro x hx
    have h1 := (subtractBy_sublist (fun (y : U64 × H) => y.1) _ _).subset hx
    have h2 := (subtractBy_sublist (fun (y : U64 × H) => y.1) _ _).subset h1
    exact mem_mergeHP _ _ x h2
  · intro p
    rw [subtractHP_positions, subtractHP_positions, mergeHP_positions,
      zip_positions _ _ hc.proofA.symm, zip_positions _ _ hc.proofB.symm]
    have hm := strict_mergeU64 _ _ hsA hsB
    rw [mem_subtractU64_iff _ _ (hm.sublist (subtractU64_sublist _ _))
        (sorted_mergeU64 _ _ (Proofs.SortBy.sorted_sortU64 tA) (Proofs.SortBy.sorted_sortU64 tB)),
      mem_subtractU64_iff _ _ hm (sorted_mergeU64 _ _ hcA hcB),
      mem_mergeU64, mem_mergeU64, mem_mergeU64, Proofs.SortBy.mem_sortU64, Proofs.SortBy.mem_sortU64]
    constructor
    · rintro ⟨⟨h1, h2⟩, h3⟩
      exact ⟨h1, fun h => h2 (Or.inl h), fun h => h2 (Or.inr h), fun h => h3 (Or.inl h), fun h => h3 (Or.inr h)⟩
    · rintro ⟨h1, h2, h3, h4, h5⟩
      exact ⟨⟨h1, fun h => h.elim h2 h3⟩, fun h => h.elim h4 h5⟩

/-- The extra targets `GetMissingPositions` works on: desired minus held (for a desired list
without repetitions; any order of both lists). -/
theorem mem_extraTargets (held desired : List U64) (hn : desired.Nodup) (x : U64) :
    x ∈ subtractU64 (sortU64 desired) (sortU64 held) ↔ x ∈ desired ∧ x ∉ held := by
  rw [mem_subtractU64_iff _ _ (Proofs.SortBy.strict_sortU64 desired hn) (Proofs.SortBy.sorted_sortU64 held), Proofs.SortBy.mem_sortU64, Proofs.SortBy.mem_sortU64]

/-- Set identity of `GetMissingPositions` (for all inputs): with `D'` the extra targets and
provided `ProofPositions D'` is strictly ascending (it is for the sorted leaf positions of a
forest: `C16c.proofPositions_spec`), a position is reported iff it is a proof position of
the extra targets and is neither a held target, nor a proof position of the held targets, nor
computable from them; the report is a sub-list of `ProofPositions D'`, hence ascending. -/
theorem getMissingPositions_spec (n : U64) (held desired : List U64) :
    let A := sortU64 held
    let D' := subtractU64 (sortU64 desired) A
    let ppD := (ProofPositions D' n (TreeRows n)).1
    let ppA := ProofPositions A n (TreeRows n)
    (D' = [] → getMissingPositions n held desired = []) ∧
    (getMissingPositions n held desired).Sublist ppD ∧
    (D' ≠ [] → ppD.Pairwise (· < ·) →
      ∀ x, x ∈ getMissingPositions n held desired ↔
        x ∈ ppD ∧ x ∉ ppA.1 ∧ x ∉ held ∧ x ∉ ppA.2) := by
  intro A D' ppD ppA
  refine ⟨?_, ?_, ?_⟩
  · intro h
    unfold getMissingPositions
    simp only [show subtractU64 (sortU64 desired) (sortU64 held) = [] from h, List.isEmpty_nil, if_true]
  · unfold getMissingPositions
    simp only
    split
    · exact List.nil_sublist _
    · exact subtractU64_sublist _ _
  · intro hne hsorted x
    unfold getMissingPositions
    have hne' : (subtractU64 (sortU64 desired) (sortU64 held)).isEmpty = false := by
      cases hD : subtractU64 (sortU64 desired) (sortU64 held) with
      | nil => exact absurd hD hne
      | cons _ _ => rfl
    simp only [hne', Bool.false_eq_true, if_false]
    rw [mem_subtractU64_iff _ _ hsorted (Proofs.SortBy.sorted_sortU64 _), Proofs.SortBy.mem_sortU64]
    simp only [List.mem_append, Proofs.SortBy.mem_sortU64]
    constructor
    · rintro ⟨h1, h2⟩
      exact ⟨h1, fun h => h2 (Or.inl (Or.inl h)), fun h => h2 (Or.inl (Or.inr h)), fun h => h2 (Or.inr h)⟩
    · rintro ⟨h1, h2, h3, h4⟩
      refine ⟨h1, ?_⟩
      rintro ((h | h) | h)
      · exact h2 h
      · exact h3 h
      · exact h4 h

omit [DecidableEq H] [Hasher H] in
theorem lookupHashes_ok (sub : HP H) (ws : List U64) (out : List H) (h : lookupHashes sub ws = .ok out) :
    out.length = ws.length ∧ ∀ x ∈ ws.zip out, x ∈ sub := by
  induction ws generalizing out with
  | nil =>
    simp only [lookupHashes, Out.ok.injEq] at h
    subst h
    simp
  | cons w ws ih =>
    simp only [lookupHashes] at h
    split at h
    · rename_i y hy
      cases hr : lookupHashes sub ws with
      | ok rest =>
        rw [hr] at h
        simp only [Out.bind, Out.ok.injEq] at h
        subst h
        obtain ⟨l1, l2⟩ := ih rest hr
        refine ⟨by simp [l1], ?_⟩
        intro x hx
        simp only [List.zip_cons_cons, List.mem_cons] at hx
        rcases hx with rfl | hx
        · have h1 := List.find?_some hy
          have hmem := List.mem_of_find?_eq_some hy
          simp only [beq_iff_eq] at h1
          rw [← h1]
          exact hmem
        · exact l2 x hx
      | err => rw [hr] at h; simp [Out.bind] at h
      | panic => rw [hr] at h; simp [Out.bind] at h
      | hang => rw [hr] at h; simp [Out.bind] at h
    · exact absurd h (by simp)

omit [DecidableEq H] [Hasher H] in
theorem lookupHashes_total (sub : HP H) (ws : List U64) (hall : ∀ w ∈ ws, w ∈ sub.positions) :
    ∃ out, lookupHashes sub ws = .ok out := by
  induction ws with
  | nil => exact ⟨[], rfl⟩
  | cons w ws ih =>
    obtain ⟨rest, hrest⟩ := ih (fun v hv => hall v (List.mem_cons_of_mem _ hv))
    have hw := hall w (List.mem_cons_self ..)
    simp only [HP.positions, List.mem_map] at hw
    obtain ⟨y, hy, hyw⟩ := hw
    have : (sub.find? (fun x => x.1 == w)).isSome := by
      rw [List.find?_isSome]
      exact ⟨y, hy, by simp [hyw]⟩
    obtain ⟨z, hz⟩ := Option.isSome_iff_exists.mp this
    exact ⟨z.2 :: rest, by simp only [lookupHashes, hz, hrest, Out.bind]⟩

/-- A successful `GetProofSubset` returns exactly the wanted targets in the requested order,
one hash per target, and the i-th hash is a hash the caller paired with the i-th wanted
target (for arbitrary parallel order of `targets`/`hashes`, duplicates included). -/
theorem getProofSubset_ok (n : U64) (targets : List U64) (proof hashes : List H) (wants : List U64)
    (hs : List H) (ts : List U64) (ps : List H)
    (h : getProofSubset n targets proof hashes wants = .ok (hs, ts, ps)) :
    ts = wants ∧ hs.length = wants.length ∧ ∀ x ∈ wants.zip hs, x ∈ targets.zip hashes := by
  unfold getProofSubset at h
  simp only [bind, Out.bind] at h
  split at h
  · exact absurd h (by simp)
  · unfold toHashAndPos at h
    by_cases hlen : targets.length = hashes.length
    · simp only [hlen, if_true] at h
      split at h <;> try (cases h; done)
      split at h <;> try (cases h; done)
      split at h <;> try (cases h; done)
      split at h
      · cases h
      · split at h <;> try (cases h; done)
        rename_i rh hmap
        simp only [pure, Out.ok.injEq, Prod.mk.injEq] at h
        obtain ⟨h1, h2, _⟩ := h
        subst h1 h2
        obtain ⟨k1, k2⟩ := lookupHashes_ok _ _ _ hmap
        refine ⟨rfl, k1, ?_⟩
        intro x hx
        have := (subsetHP_sublist _ _).subset (k2 x hx)
        exact (Proofs.SortBy.mem_sortBy _ x _).mp this
    · simp only [hlen, if_false] at h
      exact absurd h (by simp)

/-- `GetProofSubset` fails with an error whenever a wanted target is not among the proof's
targets — for arbitrary inputs, in any order. -/
theorem getProofSubset_err_of_uncovered (n : U64) (targets : List U64) (proof hashes : List H) (wants : List U64)
    (w : U64) (hw : w ∈ wants) (hu : w ∉ targets) :
    getProofSubset n targets proof hashes wants = .err := by
  unfold getProofSubset
  have : subtractU64 (sortU64 wants) (sortU64 targets) ≠ [] :=
    subtractU64_ne_nil _ _ w ((Proofs.SortBy.mem_sortU64 _ _).mpr hw) (fun h => hu ((Proofs.SortBy.mem_sortU64 _ _).mp h))
  have h2 : (subtractU64 (sortU64 wants) (sortU64 targets)).isEmpty = false := by
    cases hD : subtractU64 (sortU64 wants) (sortU64 targets) with
    | nil => exact absurd hD this
    | cons _ _ => rfl
  simp [h2]

/-- Conversely the coverage check passes when every wanted target is covered and no target is
wanted twice: an error can then only come from the proof itself (`calculateHashes` rejects
it, or a needed proof hash is not in it). -/
theorem coverage_check_passes (targets wants : List U64) (hn : wants.Nodup) (hc : ∀ w ∈ wants, w ∈ targets) :
    subtractU64 (sortU64 wants) (sortU64 targets) = [] :=
  subtractU64_eq_nil _ _ (Proofs.SortBy.strict_sortU64 wants hn) (Proofs.SortBy.sorted_sortU64 targets)
    (fun w hw => (Proofs.SortBy.mem_sortU64 _ _).mpr (hc w ((Proofs.SortBy.mem_sortU64 _ _).mp hw)))

/-- `GetProofSubset` is total on inputs of consistent lengths (as many hashes as targets, as
many proof hashes as `ProofPositions` asks for): it never panics — in particular
`slices.Index` never returns -1 — and never spins, for arbitrary targets, hashes and wants. -/
theorem getProofSubset_total (n : U64) (hn : n.toNat ≤ 2 ^ 63) (targets : List U64) (proof hashes : List H)
    (wants : List U64) (hlen : hashes.length = targets.length)
    (hplen : proof.length = (ProofPositions (sortU64 targets) n (TreeRows n)).1.length) :
    C04.Total (getProofSubset n targets proof hashes wants) := by
  unfold getProofSubset
  simp only [bind, Out.bind]
  split
  · exact ⟨by simp, by simp⟩
  · rename_i hcov
    have hcov' : subtractU64 (sortU64 wants) (sortU64 targets) = [] := by
      simpa using hcov
    rw [Proofs.CalcSound.toHashAndPos_ok hlen.symm]
    have hcalc := C04.calc_total_uncond n hn (some hashes) targets proof (by intro l hl; cases hl; exact hlen)
    cases hc : calculateHashes n (some hashes) targets proof with
    | hang => exact absurd hc hcalc.1
    | panic => exact absurd hc hcalc.2
    | err => exact ⟨by simp, by simp⟩
    | ok r =>
      simp only
      simp only [toHashAndPos2, hplen.symm, if_true]
      rw [mergeHP2_consistent _ _ _ _ (by simp [HP.positions, HP.hashes]) (by simp [HP.positions, HP.hashes])]
      simp only
      split
      · exact ⟨by simp, by simp⟩
      · -- the look-ups: the extracted sub-list carries exactly the sorted wants
        have hpos := subsetHP_positions_of_subtract_nil (sortHP (targets.zip hashes)) (sortU64 wants)
          (by rw [Proofs.SortBy.sortHP_positions, zip_positions targets hashes hlen.symm]; exact hcov')
        obtain ⟨out, hout⟩ := lookupHashes_total (subsetHP (sortHP (targets.zip hashes)) (sortU64 wants)) wants (by
          intro w hw
          rw [hpos]
          exact (Proofs.SortBy.mem_sortU64 _ _).mpr hw)
        rw [hout]
        exact ⟨by simp [pure], by simp [pure]⟩

end

section examples

/-- hashes as terms: injective `ph`, `zero` a distinguished leaf -/
inductive T where
  | leaf (n : Nat)
  | node (l r : T)
deriving DecidableEq, Repr

instance : Hasher T := ⟨T.node, T.leaf 0⟩

open T in
/-- 4 leaves `1 2 3 4` at positions 0..3, parents 4 = node 1 2, 5 = node 3 4.  The proof of
leaf 0 is `[leaf 2, node 3 4]`, that of leaf 2 is `[leaf 4, node 1 2]`; combined, the parents
become computable and only the two sibling leaves remain. -/
example : addProof (H := T) 4#64 [0#64] [leaf 2, node (leaf 3) (leaf 4)] [leaf 1]
    [2#64] [leaf 4, node (leaf 1) (leaf 2)] [leaf 3] =
    .ok ([leaf 1, leaf 3], [0#64, 2#64], [leaf 2, leaf 4]) := by decide +kernel

open T in
/-- the hypotheses of `addProof_closed_form` hold on that instance -/
example : AddProofConsistent (H := T) 4#64 [0#64] [leaf 2, node (leaf 3) (leaf 4)] [leaf 1]
    [2#64] [leaf 4, node (leaf 1) (leaf 2)] [leaf 3] :=
  ⟨rfl, rfl, by decide +kernel, by decide +kernel⟩

open T in
/-- restriction with targets/hashes in a non-sorted parallel order, wants in another order -/
example : getProofSubset (H := T) 4#64 [2#64, 0#64] [leaf 2, leaf 4] [leaf 3, leaf 1] [0#64] =
    .ok ([leaf 1], [0#64], [leaf 2, node (leaf 3) (leaf 4)]) := by decide +kernel

open T in
/-- an uncovered wanted target is an error -/
example : getProofSubset (H := T) 4#64 [2#64, 0#64] [leaf 2, leaf 4] [leaf 3, leaf 1] [0#64, 1#64] = .err := by
  decide +kernel

open T in
/-- a panic that inconsistent lengths trigger in the real code (reproduced by the harness,
kind `addproof:prooflen:panic`): proof A one hash short — `mergeSortedHashAndPos` indexes
`a.hashes[1]` of `hashAndPos{proofPosA, proofA.Proof}` whose slices have lengths 2 and 1 -/
theorem addProof_panics_on_short_proof :
    addProof (H := T) 4#64 [2#64] [leaf 4] [leaf 3] [0#64] [leaf 2, node (leaf 3) (leaf 4)] [leaf 1] = .panic := by
  decide +kernel

open T in
/-- … whereas a missing LAST proof hash can go unnoticed: `copy` of the shorter hash slice
just truncates the merged `hashAndPos` (here position 5 is dropped, which the union does not
need anyway) -/
theorem addProof_silent_on_short_proof :
    addProof (H := T) 4#64 [0#64] [leaf 2] [leaf 1] [2#64] [leaf 4, node (leaf 1) (leaf 2)] [leaf 3] =
      .ok ([leaf 1, leaf 3], [0#64, 2#64], [leaf 2, leaf 4]) := by
  decide +kernel

/-- holding the proof of leaf 0 (targets [0]: proof positions 1 and 5, computable 4 and 6), the
positions missing for leaf 2 are just its sibling 3: 4 is computable, 5 is not needed -/
example : getMissingPositions 4#64 [0#64] [2#64] = [3#64] := by decide +kernel

/-- the hypotheses of `getMissingPositions_spec` (extra targets non-empty, strictly ascending
proof positions) hold on that instance -/
example : subtractU64 (sortU64 [2#64]) (sortU64 [0#64]) ≠ [] ∧
    (ProofPositions (subtractU64 (sortU64 [2#64]) (sortU64 [0#64])) 4#64 (TreeRows 4#64)).1 = [3#64, 4#64] := by
  decide +kernel


open T in
def F4 : Forest T := ⟨[some (leaf 1), some (leaf 2), some (leaf 3), some (leaf 4)]⟩

open T in
/-- the body of `C14_addProof_statement` at `F4`, A = [leaf 3, leaf 1] (request order), B = [leaf 2] -/
example :
    ∃ tA pA tB pB pC, F4.canon [leaf 3, leaf 1] = some (tA, pA) ∧ F4.canon [leaf 2] = some (tB, pB) ∧
      F4.canon ((unionPairs F4 [leaf 3, leaf 1] [leaf 2]).map (·.2)) = some ((unionPairs F4 [leaf 3, leaf 1] [leaf 2]).map (·.1), pC) ∧
      addProof (nLeaves F4) (tA.map (encU F4)) pA [leaf 3, leaf 1] (tB.map (encU F4)) pB [leaf 2] =
        .ok ((unionPairs F4 [leaf 3, leaf 1] [leaf 2]).map (·.2), (unionPairs F4 [leaf 3, leaf 1] [leaf 2]).map (fun x => encU F4 x.1), pC) :=
  ⟨[(0, 2), (0, 0)], [leaf 2, leaf 4], [(0, 1)], [leaf 1, node (leaf 3) (leaf 4)], [leaf 4], by decide +kernel⟩

open T in
/-- the body of `C14_missing_statement` at `F4`, held = [leaf 1], desired = [leaf 3, leaf 1] -/
example :
    let tA : List Pos := [(0, 0)]
    let tD : List Pos := [(0, 2), (0, 0)]
    let extra := tD.filter (fun p => !tA.contains p)
    let have_ := tA ++ F4.proofPositions tA ++ F4.computable tA
    getMissingPositions (nLeaves F4) (tA.map (encU F4)) (tD.map (encU F4)) =
      ((F4.proofPositions extra).filter (fun p => !have_.contains p)).map (encU F4) := by decide +kernel

open T in
/-- the body of `C14_subset_statement` at `F4`: U = [leaf 1, leaf 3] given in the order (leaf 3, leaf 1), wants = [0] -/
example :
    let σ : List (Pos × T) := [((0, 2), leaf 3), ((0, 0), leaf 1)]
    let ts := σ.map (fun x => encU F4 x.1)
    let hs := σ.map (·.2)
    F4.canon [leaf 1, leaf 3] = some ([(0, 0), (0, 2)], [leaf 2, leaf 4]) ∧
    getProofSubset (nLeaves F4) ts [leaf 2, leaf 4] hs [0#64] = .ok ([leaf 1], [0#64], [leaf 2, node (leaf 3) (leaf 4)]) ∧
    F4.canon [leaf 1] = some ([(0, 0)], [leaf 2, node (leaf 3) (leaf 4)]) ∧
    getProofSubset (nLeaves F4) ts [leaf 2, leaf 4] hs [0#64, 1#64] = .err := by decide +kernel

end examples

end UtreexoVerif.Props.C14
