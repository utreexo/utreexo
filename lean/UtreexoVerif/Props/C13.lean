/-
  Property C13 — serialization round-trips exactly; damaged streams are never accepted silently.

  The theorems are about the Lean model of `Pollard.WriteTo`/`RestorePollardFrom` and
  `MapPollard.Write`/`Read` (`Model/Serial.lean`: Go's statement order, byte counts as Go returns
  them).  Real `io.Reader`/`io.Writer` implementations are represented by `Reader` (any split of
  the stream into `Read` results, `io.EOF` with or after the last data) and `Sink` (fails after `k`
  bytes); hashes are abstract, their 32-byte wire form is a hypothesis (`HashBytesOK`).  The
  pointer forest is represented by its shape (`PNode`): "the restored forest behaves identically"
  is the equality `restored state = PState.ofForest F`; the Go pointer surgery on that state is
  tied by the correspondence run (families `serial`, `serialexh`), not by a theorem.
-/
import UtreexoVerif.Proofs.SerialMap
import UtreexoVerif.Proofs.SerialPollard

namespace UtreexoVerif.Props.C13
open Model.Serial Spec Proofs.Serial

/-- the C13 claims about the pointer forest holding the specification forest `F` -/
def PollardClaims {H : Type} [DecidableEq H] [Hasher H] [HashBytes H] (F : Forest H) : Prop :=
  -- (1) restoring the written bytes through ANY chunking yields exactly the written state,
  --     and the reported count is the length of the stream
  (∀ r : Reader, r.data = encodePollard F →
      restorePollard r = ⟨(encodePollard F).length, .ok (PState.ofForest F)⟩) ∧
  -- (2) the size predicted beforehand is the length of the stream
  serializeSize (PState.ofForest F) = (encodePollard F).length ∧
  -- (3) restoring from a strict prefix, through any chunking, is an error (never a panic, never
  --     a silently different state), and the reported count does not exceed the bytes present
  (∀ (r : Reader) (t : Nat), t < (encodePollard F).length → r.data = (encodePollard F).take t →
      (restorePollard (H := H) r).out = .err ∧ (restorePollard (H := H) r).n ≤ t) ∧
  -- (4) a writer with enough room receives exactly the stream and the count is its length
  (∀ k : Nat, (encodePollard F).length ≤ k →
      writeTo (PState.ofForest F) ⟨[], k⟩ =
        (⟨(encodePollard F).length, .ok ()⟩, ⟨encodePollard F, k - (encodePollard F).length⟩)) ∧
  -- (5) a writer that fails after k bytes, k below the length: an error, count ≤ k
  (∀ k : Nat, k < (encodePollard F).length →
      (writeTo (PState.ofForest F) ⟨[], k⟩).1.out = .err ∧ (writeTo (PState.ofForest F) ⟨[], k⟩).1.n ≤ k)

/-- the C13 claims about a map forest whose serialised state is `m` (maps walked in the order
of the lists), restored into a receiver whose maps are empty (a fresh `NewMapPollard`) -/
def MapClaims {H : Type} [DecidableEq H] [HashBytes H] (m : MapSt H) : Prop :=
  (∀ (m0 : MapSt H) (r : Reader), m0.cached = [] → m0.nodes = [] → r.data = encodeMap m →
      mapRead m0 r = ⟨(encodeMap m).length, .ok m⟩) ∧
  (∀ (m0 : MapSt H) (r : Reader) (t : Nat), t < (encodeMap m).length → r.data = (encodeMap m).take t →
      (mapRead m0 r).out = .err ∧ (mapRead m0 r).n ≤ t) ∧
  (∀ k : Nat, (encodeMap m).length ≤ k →
      mapWrite m ⟨[], k⟩ = (⟨(encodeMap m).length, .ok ()⟩, ⟨encodeMap m, k - (encodeMap m).length⟩)) ∧
  (∀ k : Nat, k < (encodeMap m).length →
      (mapWrite m ⟨[], k⟩).1.out = .err ∧ (mapWrite m ⟨[], k⟩).1.n ≤ k)

/-- what holds of EVERY stream, valid or damaged: the decoders depend only on the concatenation
of the chunks, never panic and always return -/
def AllStreamsClaims (H : Type) [DecidableEq H] [Hasher H] [HashBytes H] : Prop :=
  (∀ r1 r2 : Reader, r1.data = r2.data → restorePollard (H := H) r1 = restorePollard r2) ∧
  (∀ (m0 : MapSt H) (r1 r2 : Reader), r1.data = r2.data → mapRead m0 r1 = mapRead m0 r2) ∧
  (∀ r : Reader, (restorePollard (H := H) r).out ≠ .panic ∧ (restorePollard (H := H) r).out ≠ .hang) ∧
  (∀ (m0 : MapSt H) (r : Reader), (mapRead m0 r).out ≠ .panic ∧ (mapRead m0 r).out ≠ .hang)

/-- **C13, full statement** (model level).  For every hash type with a 32-byte wire form:
every forest with fewer than 2^63 leaves whose live leaves are non-zero with distinct 12-byte
keys satisfies the pointer-forest claims; every map state with distinct keys that passes its
own sanity check satisfies the map claims; and the all-streams claims hold. -/
def C13_statement : Prop :=
  ∀ (H : Type) [DecidableEq H] [Hasher H] [HashBytes H], HashBytesOK H →
    (∀ F : Forest H, LeavesOK F → PollardClaims F) ∧
    (∀ m : MapSt H, MapOK m → MapClaims m) ∧
    AllStreamsClaims H

section
variable {H : Type} [DecidableEq H] [Hasher H] [HashBytes H]

/-- `io.ReadFull` on the chunk-list reader depends only on the concatenation of the chunks -/
theorem readFull_chunking {r1 r2 : Reader} (h : r1.data = r2.data) (k : Nat) :
    (readFull r1 k).1 = (readFull r2 k).1 ∧ (readFull r1 k).2.data = (readFull r2 k).2.data :=
  readFull_congr h k

theorem pollard_roundtrip (ok : HashBytesOK H) (F : Forest H) (hF : LeavesOK F) (r : Reader)
    (hd : r.data = encodePollard F) :
    restorePollard r = ⟨(encodePollard F).length, .ok (PState.ofForest F)⟩ :=
  restorePollard_encode ok F hF r hd

theorem pollard_size (ok : HashBytesOK H) (F : Forest H) :
    serializeSize (PState.ofForest F) = (encodePollard F).length :=
  serializeSize_eq ok F

theorem pollard_prefix (ok : HashBytesOK H) (F : Forest H) (hn : F.numLeaves < 2 ^ 64) (r : Reader) (t : Nat)
    (ht : t < (encodePollard F).length) (hd : r.data = (encodePollard F).take t) :
    (restorePollard (H := H) r).out = .err ∧ (restorePollard (H := H) r).n ≤ t :=
  restorePollard_prefix ok F hn r t ht hd

theorem pollard_sink_ok (ok : HashBytesOK H) (F : Forest H) (k : Nat) (hk : (encodePollard F).length ≤ k) :
    writeTo (PState.ofForest F) ⟨[], k⟩ =
      (⟨(encodePollard F).length, .ok ()⟩, ⟨encodePollard F, k - (encodePollard F).length⟩) := by
  simpa using (writeTo_spec F ⟨[], k⟩).1 hk

theorem pollard_sink_fail (ok : HashBytesOK H) (F : Forest H) (k : Nat) (hk : k < (encodePollard F).length) :
    (writeTo (PState.ofForest F) ⟨[], k⟩).1.out = .err ∧ (writeTo (PState.ofForest F) ⟨[], k⟩).1.n ≤ k := by
  simpa using (writeTo_spec F ⟨[], k⟩).fail hk

theorem pollard_chunking (r1 r2 : Reader) (h : r1.data = r2.data) :
    restorePollard (H := H) r1 = restorePollard r2 :=
  restorePollard_chunking r1 r2 h

theorem pollard_total (r : Reader) :
    (restorePollard (H := H) r).out ≠ .panic ∧ (restorePollard (H := H) r).out ≠ .hang :=
  ⟨(restorePollard_total r).2, (restorePollard_total r).1⟩

/-- the stream order of the live leaves is a permutation of the live leaves (used to state
the hypotheses on `F.liveLeaves`) -/
theorem wire_leaves_perm (F : Forest H) (hn : F.numLeaves < 2 ^ 65) : (wireLeaves F).Perm F.liveLeaves :=
  wireLeaves_perm F hn

end

section
variable {H : Type} [DecidableEq H] [HashBytes H]

theorem map_roundtrip (ok : HashBytesOK H) (m : MapSt H) (hm : MapOK m) (m0 : MapSt H)
    (hc0 : m0.cached = []) (hn0 : m0.nodes = []) (r : Reader) (hd : r.data = encodeMap m) :
    mapRead m0 r = ⟨(encodeMap m).length, .ok m⟩ :=
  mapRead_encode ok m hm m0 hc0 hn0 r hd

/-- extra (outside the property): `Read` into a receiver that is not empty does not clear it —
the records of the stream are put over the receiver's entries -/
theorem map_read_into_used_receiver (ok : HashBytesOK H) (m : MapSt H) (hc : m.cached.length < 2 ^ 63)
    (hn : m.nodes.length < 2 ^ 63) (m0 : MapSt H) (r : Reader) (hd : r.data = encodeMap m) :
    mapRead m0 r =
      if sanityOk (putRecs m0.cached m.cached) (putRecs m0.nodes m.nodes) then
        ⟨(encodeMap m).length, .ok (MapSt.mk m.totalRows m.numLeaves
          (putRecs m0.cached m.cached) (putRecs m0.nodes m.nodes))⟩
      else ⟨8, .err⟩ :=
  mapRead_encode_into ok m hc hn m0 r hd

theorem map_prefix (ok : HashBytesOK H) (m : MapSt H) (hm : MapOK m) (m0 : MapSt H) (r : Reader) (t : Nat)
    (ht : t < (encodeMap m).length) (hd : r.data = (encodeMap m).take t) :
    (mapRead m0 r).out = .err ∧ (mapRead m0 r).n ≤ t :=
  mapRead_prefix ok m hm m0 r t ht hd

theorem map_sink_ok (ok : HashBytesOK H) (m : MapSt H) (k : Nat) (hk : (encodeMap m).length ≤ k) :
    mapWrite m ⟨[], k⟩ = (⟨(encodeMap m).length, .ok ()⟩, ⟨encodeMap m, k - (encodeMap m).length⟩) := by
  simpa using (mapWrite_spec m ⟨[], k⟩).1 hk

theorem map_sink_fail (ok : HashBytesOK H) (m : MapSt H) (k : Nat) (hk : k < (encodeMap m).length) :
    (mapWrite m ⟨[], k⟩).1.out = .err ∧ (mapWrite m ⟨[], k⟩).1.n ≤ k := by
  simpa using (mapWrite_spec m ⟨[], k⟩).fail hk

theorem map_chunking (m0 : MapSt H) (r1 r2 : Reader) (h : r1.data = r2.data) :
    mapRead m0 r1 = mapRead m0 r2 :=
  mapRead_chunking m0 r1 r2 h

theorem map_total (m0 : MapSt H) (r : Reader) :
    (mapRead m0 r).out ≠ .panic ∧ (mapRead m0 r).out ≠ .hang :=
  ⟨(mapRead_total m0 r).2, (mapRead_total m0 r).1⟩

end

/-- **C13** (model level): the full statement holds. -/
theorem C13 : C13_statement := by
  intro H _ _ _ ok
  refine ⟨fun F hF => ⟨?_, ?_, ?_, ?_, ?_⟩, fun m hm => ⟨?_, ?_, ?_, ?_⟩, ⟨?_, ?_, ?_, ?_⟩⟩
  · exact fun r hd => pollard_roundtrip ok F hF r hd
  · exact pollard_size ok F
  · exact fun r t ht hd => pollard_prefix ok F (by have := hF.small; omega) r t ht hd
  · exact fun k hk => pollard_sink_ok ok F k hk
  · exact fun k hk => pollard_sink_fail ok F k hk
  · exact fun m0 r hc hn hd => map_roundtrip ok m hm m0 hc hn r hd
  · exact fun m0 r t ht hd => map_prefix ok m hm m0 r t ht hd
  · exact fun k hk => map_sink_ok ok m k hk
  · exact fun k hk => map_sink_fail ok m k hk
  · exact fun r1 r2 h => pollard_chunking r1 r2 h
  · exact fun m0 r1 r2 h => map_chunking m0 r1 r2 h
  · exact fun r => pollard_total r
  · exact fun m0 r => map_total m0 r

namespace Example

/-- a toy hash type: one byte, padded to 32 bytes on the wire -/
instance : Hasher U8 := ⟨fun a b => a * 31#8 + b + 1#8, 0#8⟩
instance : HashBytes U8 := ⟨fun h => h :: List.replicate 31 0#8, fun bs => bs.headD 0#8⟩

theorem okU8 : HashBytesOK U8 := ⟨fun _ => by simp [toBytes], fun _ => by simp [toBytes, ofBytes]⟩

theorem flatten_singletons {α : Type} (l : List α) : (l.map (fun x => [x])).flatten = l := by
  induction l with
  | nil => rfl
  | cons a l ih => simp [ih]

/-- five slots, one dead: trees `[a b c d]` (slot 1 dead) and `[e]` -/
def F : Forest U8 := ⟨[some 1#8, none, some 3#8, some 4#8, some 5#8]⟩

/-- the hypotheses of the pointer-forest theorems are satisfiable on a non-trivial forest -/
theorem leavesOK_F : LeavesOK F := ⟨by decide +kernel, by decide +kernel, by decide +kernel⟩
example : LeavesOK F := leavesOK_F

/-- … and the conclusion is not trivial: 6 nodes, 220 bytes, and e.g. a one-byte-at-a-time
reader that delivers `io.EOF` with the last byte restores the pointer forest of `F` -/
theorem encF_length : (encodePollard F).length = 220 := by decide +kernel
example : (encodePollard F).length = 220 := encF_length
example : serializeSize (PState.ofForest F) = 220 := by decide +kernel
example : restorePollard ⟨(encodePollard F).map ([·]), true⟩ = ⟨220, .ok (PState.ofForest F)⟩ :=
  encF_length ▸ pollard_roundtrip okU8 F leavesOK_F _ (by simp [Reader.data, flatten_singletons])
/-- a strict prefix that ends exactly at a node boundary (the last node, an internal one, is cut
off — the stream the unfixed `readOne` accepted with an empty node) is rejected -/
example : (restorePollard (H := U8) (Reader.whole ((encodePollard F).take 186))).out = .err :=
  (pollard_prefix okU8 F (by decide) _ 186 (by rw [encF_length]; decide) (by simp [Reader.whole, Reader.data])).1

/-- a map state: one cached leaf with its node, plus a root -/
def m : MapSt U8 := ⟨63#8, 2#64, [(7#8, 0#64)], [(0#64, 7#8, true), (1#64, 9#8, false), (5#64, 3#8, false)]⟩

theorem mapOK_m : MapOK m := ⟨by decide, by decide, by decide, by decide, by decide⟩
example : MapOK m := mapOK_m
theorem encM_length : (encodeMap m).length = 188 := by decide +kernel
example : (encodeMap m).length = 188 := encM_length
example : mapRead MapSt.fresh ⟨(encodeMap m).map ([·]), true⟩ = ⟨188, .ok m⟩ :=
  encM_length ▸ map_roundtrip okU8 m mapOK_m _ rfl rfl _
    (by simp [Reader.data, flatten_singletons])

end Example

end UtreexoVerif.Props.C13
