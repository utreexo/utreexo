/-
  C15 (continued) — `genTTLs` is exact, hence the caching schedule names real leaves and is
  complete.

  "For any recorded sequence of block summaries, every position scheduled for a block is the
   insertion slot of a leaf added in that block and deleted in a later recorded block, listed
   once and in ascending order.  At no block do more than the requested number of scheduled
   leaves exist simultaneously, and when the limit is at least the number of leaves ever alive
   the schedule contains every such leaf."

  `Props/C15.lean` has the eviction loop (tables ↦ schedule) for every `getPrevPos`.  Here, for
  `gpp = getPrevPosFixed` (the code of /repo as it is NOW: `undoAdd`, then `undoDel` with the
  positions created in the block saved and restored): the inverse movement, `genTTLs_exact`, `C15`.

  THE BOUND.  `Props/C15.lean` states `C15_statement` for `total h < 2^63`.  That statement is
  FALSE for the current code in the range `2^62 < total h < 2^63` (unreachable in practice:
  more than 4.6·10^18 leaves): `undoSingleAdd` evaluates `LeftChild(pos, 63)` also for the ROW-0
  position `pos = numLeaves - 1`; this is `2·pos mod 2^64`, which for `pos ≥ 2^62` is the 63-row
  position of a row-1 node and can be a destroyed empty root listed in `toDestroy`; the leaf is then
  "moved down" to a garbage position and not recognised as created in the block
  (`undoSingleAdd_large_witness`, `genTTLs_large_witness`: 6 148 914 691 236 517 205 leaves).
  For `total h ≤ 2^62` this cannot happen (`SchedUndoAdd.htd_of_tdok`).  Therefore the statements
  are kept in full with the bound as a parameter (`genTTLs_exact_upto`, `C15_upto`;
  `C15_statement gpp ↔ C15_upto (2^63 - 1) gpp`) and proved for the bound `2^62`.
-/
import UtreexoVerif.Proofs.SchedExact
import UtreexoVerif.Proofs.SchedOracle

namespace UtreexoVerif.Props.C15
open Model Spec.Sched
open UtreexoVerif.Proofs UtreexoVerif.Proofs.SchedSem UtreexoVerif.Proofs.CalcGeo

/-- `genTTLs_exact_statement` with the bound on the number of leaves as a parameter -/
def genTTLs_exact_upto (B : Nat) (gpp : PrevPosFn) : Prop :=
  ∀ (h : History) (blocks : List (List U64 × U16)),
    wellFormed h = true → (∀ b ∈ h, b.numAdds < 65536) → total h ≤ B →
    summariesOf h = some blocks →
    ∃ tr cs, Tracker.ofBlocks blocks = .ok tr ∧ tr.genTTLsWith gpp = .ok cs ∧ cs.ttls = lifetimeTables h

/-- `C15_statement` with the bound on the number of leaves as a parameter -/
def C15_upto (B : Nat) (gpp : PrevPosFn) : Prop :=
  ∀ (h : History) (limit : Nat) (blocks : List (List U64 × U16)),
    wellFormed h = true → (∀ b ∈ h, b.numAdds < 65536) → total h ≤ B → 1 ≤ limit →
    summariesOf h = some blocks →
    ∃ tr cs sch, Tracker.ofBlocks blocks = .ok tr ∧
      tr.generateCachingScheduleWith gpp (limit : Int) = .ok (cs, sch) ∧
      orderOK (sch.map (·.map (·.toNat))) = true ∧
      slotsOK h (sch.map (·.map (·.toNat))) = true ∧
      memOK h limit (sch.map (·.map (·.toNat))) = true ∧
      completeOK h limit (sch.map (·.map (·.toNat))) = true

theorem genTTLs_exact_statement_iff (gpp : PrevPosFn) :
    genTTLs_exact_statement gpp ↔ genTTLs_exact_upto (2 ^ 63 - 1) gpp := by
  constructor
  · intro H h blocks hw ha ht hs; exact H h blocks hw ha (by omega) hs
  · intro H h blocks hw ha ht hs; exact H h blocks hw ha (by omega) hs

theorem C15_statement_iff (gpp : PrevPosFn) : C15_statement gpp ↔ C15_upto (2 ^ 63 - 1) gpp := by
  constructor
  · intro H h limit blocks hw ha ht hl hs; exact H h limit blocks hw ha (by omega) hl hs
  · intro H h limit blocks hw ha ht hl hs; exact H h limit blocks hw ha (by omega) hl hs

theorem genTTLs_exact_upto_mono {B B' : Nat} (hB : B' ≤ B) {gpp : PrevPosFn}
    (H : genTTLs_exact_upto B gpp) : genTTLs_exact_upto B' gpp :=
  fun h blocks hw ha ht hs => H h blocks hw ha (by omega) hs

/-- **the bridge**: exact tables give the full property (any `getPrevPos`, any bound `< 2^64`) -/
theorem C15_of_exact {B : Nat} (hB : B < 2 ^ 64) {gpp : PrevPosFn} (H : genTTLs_exact_upto B gpp) :
    C15_upto B gpp := by
  intro h limit blocks hw ha ht hl hs
  obtain ⟨tr, cs, h1, h2, h3⟩ := H h blocks hw ha ht hs
  obtain ⟨sch, h4, h5, h6, h7, h8⟩ :=
    SchedOracle.oracle_of_tables gpp h limit blocks tr cs (by omega) hs h1 h2 h3
  exact ⟨tr, cs, sch, h1, h4, h5, h6, h7, h8⟩

/-- **`undoAdd` inverts the additions.**  `S` = slot list after the block's deletions, `K` additions,
`td` = the (63-row positions of the) empty roots the additions merge over, in any order.  For every
duplicate-free list `P` of slots that are live after the additions, `undoAdd` maps their encoded
positions to the encoded positions before the additions; a slot created by the additions gets its
leaf position `(0, s)` (= its slot number) and its index in `P` is reported, last created first. -/
theorem undoAdd_inverse {S : List (Option Nat)} {K : Nat} {P : List Nat} (hP : P.Nodup)
    (hlive : ∀ s ∈ P, Live (S ++ fresh S.length K) s) (hK : S.length + K ≤ 2 ^ 62) (hK16 : K < 65536)
    {td : List U64} (htd : TdOK S K td) :
    undoAdd CSTTotalRows (P.map fun s => E 63 (posS (S ++ fresh S.length K) s)) td (BitVec.ofNat 16 K)
        (BitVec.ofNat 64 (S.length + K)) =
      (P.map (fun s => if s < S.length then E 63 (posS S s) else BitVec.ofNat 64 s),
       SchedUndoAdd.createdOf S.length P K) := by
  rw [SchedAddU.cst_eq]
  exact SchedUndoAdd.undoAdd_slots hP hlive hK hK16 htd

/-- **`undoDel` inverts the deletion movement** (`movePos` of `Proofs/Movement.lean`, in 63-row
coordinates).  `S` = slot list before the block, `D` the deleted live slots; the deletion targets are
the encoded positions of the deleted slots.  Every slot that survives is mapped from its encoded
position after the deletion to its encoded position before. -/
theorem undoDel_inverse {S : List (Option Nat)} (hc : Canon S) (hn : S.length ≤ 2 ^ 62) {D : List Nat}
    (hD : D.Nodup) (hlive : ∀ x ∈ D, Live S x) (P : List Nat) (hP : ∀ s ∈ P, Live S s ∧ s ∉ D) :
    undoDel CSTTotalRows (P.map fun s => E 63 (posS (kill S D) s)) (D.map fun x => E 63 (posS S x))
        (BitVec.ofNat 64 S.length) =
      P.map fun s => E 63 (posS S s) := by
  rw [SchedAddU.cst_eq, SchedDel.undoDel_map, List.map_map]
  apply List.map_congr_left
  intro s hs
  exact SchedDel.undoDel_pos hc hn hD hlive (hP s hs).1 (hP s hs).2

/-- **`getPrevPos` (as it is now in /repo) inverts a block**: `S'` = slot list before the block,
`D` the slots it deletes, `K` additions. -/
theorem getPrevPos_inverse {S' : List (Option Nat)} (hc : Canon S') {D : List Nat} (hD : D.Nodup)
    (hlive : ∀ x ∈ D, Live S' x) {K : Nat} (hK16 : K < 65536) (hn : S'.length + K ≤ 2 ^ 62)
    {P : List Nat} (hP : P.Nodup) (hPl : ∀ s ∈ P, Live (kill S' D ++ fresh S'.length K) s)
    {td : List U64} (htd : TdOK (kill S' D) K td) :
    getPrevPosFixed CSTTotalRows (P.map fun s => E 63 (posS (kill S' D ++ fresh S'.length K) s))
        (D.map fun x => E 63 (posS S' x)) td (BitVec.ofNat 16 K) (BitVec.ofNat 64 (S'.length + K)) =
      (P.map (fun s => if s < S'.length then E 63 (posS S' s) else BitVec.ofNat 64 s),
       SchedUndoAdd.createdOf S'.length P K) :=
  SchedGpp.gpp_fixed_spec hc hD hlive hK16 hn hP hPl htd

/-- **`genTTLs` is exact** for the code of /repo as it is now: on the summaries of every
well-formed history (any deletions of live leaves, 0..65535 additions per block) with at most `2^62`
leaves, the tracker accepts the summaries, `genTTLs` returns, and the ttl table of every block lists
exactly the leaves added in it that die in a later recorded block, in ascending order, with their
insertion slot as position and the right ttl. -/
theorem genTTLs_exact : genTTLs_exact_upto (2 ^ 62) getPrevPosFixed :=
  fun _ _ hw ha ht hs => SchedExact.genTTLs_exact hw ha ht hs

/-- **C15**, full strength, for the code of /repo as it is now, up to `2^62` leaves: for every
well-formed block history and every limit `≥ 1`, `GenerateCachingSchedule(limit)` returns a schedule
that the oracle written from the property text accepts (each block's list strictly ascending; every
scheduled position the insertion slot of a leaf added in that block and deleted in a later block; at
no block more than `limit` scheduled leaves alive; every such leaf scheduled when `limit` is at least
the number of leaves ever added). -/
theorem C15 : C15_upto (2 ^ 62) getPrevPosFixed :=
  C15_of_exact (by decide) genTTLs_exact

/-- the hypotheses are satisfiable on a history in which a block empties a tree that its own
additions overwrite (`witness` of `Props/C15.lean`: block 1 deletes leaf 0 — the only tree — and
adds leaf 1 over the emptied root; block 2 deletes leaf 1) -/
example : ∃ tr cs sch, Tracker.ofBlocks witnessBlocks = .ok tr ∧
    tr.generateCachingScheduleWith getPrevPosFixed (2 : Nat) = .ok (cs, sch) ∧
    orderOK (sch.map (·.map (·.toNat))) = true ∧ slotsOK witness (sch.map (·.map (·.toNat))) = true ∧
    memOK witness 2 (sch.map (·.map (·.toNat))) = true ∧
    completeOK witness 2 (sch.map (·.map (·.toNat))) = true :=
  C15 witness 2 witnessBlocks (by decide +kernel) (by decide) (by decide) (by decide) witness_summaries

/-- a larger instance: 7 leaves; block 1 deletes the whole tree on row 1 (slots 4, 5) and slot 6 and
adds 3 leaves over the two emptied roots; blocks 2 and 3 delete old and new leaves -/
def witness2 : History := [⟨7, []⟩, ⟨3, [5, 4, 6]⟩, ⟨1, [7, 0, 9]⟩, ⟨0, [8, 10, 1]⟩]

theorem witness2_wf : wellFormed witness2 = true := by decide +kernel
theorem witness2_empties : emptiesTreeAndAdds witness2 = true := by decide +kernel

example : ∃ blocks tr cs, summariesOf witness2 = some blocks ∧ Tracker.ofBlocks blocks = .ok tr ∧
    tr.genTTLsWith getPrevPosFixed = .ok cs ∧ cs.ttls = lifetimeTables witness2 := by
  obtain ⟨blocks, hb⟩ : ∃ blocks, summariesOf witness2 = some blocks :=
    ⟨_, SchedDelRoots.summaries_some witness2_wf (by decide)⟩
  obtain ⟨tr, cs, h1, h2, h3⟩ := genTTLs_exact witness2 blocks witness2_wf (by decide) (by decide) hb
  exact ⟨blocks, tr, cs, hb, h1, h2, h3⟩

/-- the tables of `witness2` (what `genTTLs` returns on it, by `genTTLs_exact`) -/
example : lifetimeTables witness2 =
    [[⟨0#64, 2⟩, ⟨1#64, 3⟩, ⟨4#64, 1⟩, ⟨5#64, 1⟩, ⟨6#64, 1⟩], [⟨7#64, 1⟩, ⟨8#64, 2⟩, ⟨9#64, 1⟩], [⟨10#64, 1⟩], []] := by
  decide +kernel

/-- **Beyond `2^62` leaves `undoSingleAdd` can lose a created leaf** (finding
C15.leftChildOfLeaf).  `numLeaves = m = 0x5555555555555555`; the leaf `m - 1` is a tree of its own.
If `toDestroy` still holds `0xAAAAAAAAAAAAAAA8` = the 63-row position of node `(1, (m-5)/2)`, the root
on row 1 of a forest with `m - 3` leaves (slots `m-5`, `m-4`), which equals `LeftChild(m - 1, 63) =
2·(m-1) mod 2^64`, the leaf is moved to a garbage position and index `-1` is returned although the
leaf is in `positions`; with an empty `toDestroy` the answer is right. -/
theorem undoSingleAdd_large_witness :
    undoSingleAdd CSTTotalRows [0x5555555555555554#64] [0xAAAAAAAAAAAAAAA8#64] 0x5555555555555555#64 =
      ([0xAAAAAAAAAAAAAAAC#64], [], -1) ∧
    undoSingleAdd CSTTotalRows [0x5555555555555554#64] [] 0x5555555555555555#64 =
      ([0x5555555555555554#64], [], 0) := by
  decide +kernel

/-- a tracker state for a forest with `m - 3` leaves, all alive (one recorded pseudo-block that
neither deletes nor adds): the state the tracker is in after the summaries of any history that
has produced `m - 3` live leaves without empty roots -/
def bigTracker (m : Nat) : Tracker :=
  { deletions := [[]], numAdds := [0#16], numLeaves := [BitVec.ofNat 64 (m - 3)], toDestroy := [[]],
    roots := [(Spec.treeRows (m - 3)).map fun h =>
      ⟨rootPosition (BitVec.ofNat 64 (m - 3)) (BitVec.ofNat 8 h) CSTTotalRows, false⟩] }

/-- block A deletes the two leaves `m-5`, `m-4` (a whole tree on row 1) and adds three leaves; block B
deletes the last added leaf `m-1`; returns the recorded `toDestroy` and the ttl tables -/
def bigRun (m : Nat) : Out (List (List U64) × List (List TTLInfo)) := do
  let t1 ← (bigTracker m).addBlockSummary [BitVec.ofNat 64 (m - 5), BitVec.ofNat 64 (m - 4)] 3#16
  let t2 ← t1.addBlockSummary [BitVec.ofNat 64 (m - 1)] 0#16
  let cs ← t2.genTTLsFixed
  pure (t2.toDestroy, cs.ttls)

/-- with `m = 0x1555555555555555 < 2^61` leaves the leaf `m - 1` (added by block A, deleted by
block B) is in the table of block A with ttl 1 … -/
theorem genTTLs_big_ok : bigRun 0x1555555555555555 =
    Out.ok ([[], [0x8AAAAAAAAAAAAAA8#64], []], [[], [⟨0x1555555555555554#64, 1⟩], []]) := by
  decide +kernel

/-- … **with `m = 0x5555555555555555` (between `2^62` and `2^63`) it is missing**: the table of
block A is empty, so the schedule cannot contain the leaf whatever the limit (`completeOK` fails);
finding C15.leftChildOfLeaf at the level of the tracker. -/
theorem genTTLs_large_witness : bigRun 0x5555555555555555 =
    Out.ok ([[], [0xAAAAAAAAAAAAAAA8#64], []], [[], [], []]) := by
  decide +kernel

end UtreexoVerif.Props.C15
