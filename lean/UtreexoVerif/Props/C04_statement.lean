/-
  C04 — verifiers are total on untrusted input and reject atomically.
  Full statements; proofs in Props/C04.lean.
-/
import UtreexoVerif.Spec.View
import UtreexoVerif.Model.Verifiers
import UtreexoVerif.Model.Stump

namespace UtreexoVerif.Props.C04
open Model Hasher

/-- The two facts about rows that the step count rests on (discharged from the geometry of
utils.go in `Proofs/RowFacts.lean`): a position admitted by the row cursor lies on a row of
the forest, and `Parent` moves one row up. -/
structure RowFacts (n : U64) : Prop where
  detectRow_le : ∀ (p : U64) (row : U8), row ≤ TreeRows n →
    p ≤ (maxPositionAtRow row (TreeRows n) n).1 → DetectRow p (TreeRows n) ≤ TreeRows n
  detectRow_parent : ∀ (p : U64), DetectRow p (TreeRows n) ≤ TreeRows n →
    (DetectRow (Parent p (TreeRows n)) (TreeRows n)).toNat = (DetectRow p (TreeRows n)).toNat + 1

variable (H : Type) [DecidableEq H] [Hasher H]

def Total {α : Type} (o : Out α) : Prop := o ≠ .hang ∧ o ≠ .panic

/-- `calculateHashes` never spins and never panics, for arbitrary targets (up to 2^64-1,
duplicates, any order) and arbitrary proofs: its main loop needs at most
`(|targets|+1)·(rows+2)` iterations (that is the fuel `calcFuel`), each with an inner row
cursor of at most `rows+1` steps. -/
def calc_total_statement : Prop :=
  ∀ (n : U64), n.toNat ≤ 2^63 → RowFacts n →
  ∀ (hs : Option (List H)) (ts : List U64) (ps : List H),
    (∀ l, hs = some l → l.length = ts.length) →
    Total (calculateHashes n hs ts ps)

def verify_total_statement : Prop :=
  ∀ (n : U64), n.toNat ≤ 2^63 → RowFacts n →
  ∀ (roots hs : List H) (ts : List U64) (ps : List H), Total (verify n roots hs ts ps)

def pollardVerify_total_statement : Prop :=
  ∀ (n : U64), n.toNat ≤ 2^63 → RowFacts n →
  ∀ (roots hs : List H) (ts : List U64) (ps : List H), Total (pollardVerify n roots hs ts ps)

def mapVerify_total_statement : Prop :=
  ∀ (n : U64) (totalRows : U8), n.toNat ≤ 2^63 → RowFacts n →
  ∀ (roots hs : List H) (ts : List U64) (ps : List H), Total (mapVerify n totalRows roots hs ts ps)

/-- A rejected `Stump.Update` leaves the leaf count and every root unchanged. -/
def update_reject_atomic_statement : Prop :=
  ∀ (nonZero : H) (s : Stump H) (dels adds : List H) (ts : List U64) (ps : List H),
    (s.updateSt nonZero dels adds ts ps).2 = .err → (s.updateSt nonZero dels adds ts ps).1 = s

/-- well-formed stump: one root per set bit of the leaf count -/
def WellFormed (s : Stump H) : Prop := (s.roots.length : Int) = GoInt.onesCount64 s.numLeaves

/-- `Stump.Update` is total on a well-formed stump (that does not overflow 2^63 leaves). -/
def update_total_statement : Prop :=
  ∀ (nonZero : H), nonZero ≠ (zero : H) → ∀ (s : Stump H), WellFormed H s →
  ∀ (dels adds : List H) (ts : List U64) (ps : List H),
    s.numLeaves.toNat + adds.length ≤ 2^63 → RowFacts s.numLeaves →
    Total (s.updateSt nonZero dels adds ts ps).2

end UtreexoVerif.Props.C04
