/-
  The pointer forest (`Pollard`: pollard.go, polnode.go): theorems about its heap model
  `Model/PollardHeap.lean` — part A: the abstraction relation, the addition path, `GetRoots`,
  `GetHash`, the executable check; for all heaps / forests / leaf lists, no bounds.

  The model transliterates every Go function of the two files statement by statement, with
  explicit `.panic` (nil dereference, index out of range) / `.err` / `.hang` outcomes; `NodeMap` is
  keyed by the full hash (12-byte prefix collisions are out of scope).  The driver replays every
  `Modify` / `Undo` / query of the harness on the model and compares the complete pointer structure
  after every operation (kinds `ph:*`); `absTrees` and `wfCheck` are evaluated on every replayed
  state (kind `ph:wf`).

  `Abs p F`: heap `p` represents the specification forest `F`, i.e. `p` is in the `Spec.Equiv`-class
  of `F` (same leaf count, root by root the same collapsed tree).

  The three `*_statement`s below are the naive statements for deletion, undo and the remaining
  queries.  Each lacks a hypothesis and is refuted: `modify_refines_statement_false`,
  `queries_statement_false` (`Props/PollardHeapB.lean`), `undo_refines_statement_false`
  (`Props/PollardHeapC.lean`); the theorems with the right hypotheses are `modify_refines`,
  `queries_partial`, `undo_refines` there.
-/
import UtreexoVerif.Proofs.PollardHeapAdd
import UtreexoVerif.Proofs.PollardHeapCheck
import UtreexoVerif.Proofs.PollardHeapLookup
import UtreexoVerif.Props.C10
import UtreexoVerif.Proofs.NodesUnique
import UtreexoVerif.Proofs.SpecUndo

namespace UtreexoVerif.Props.PollardHeap
open UtreexoVerif.Model UtreexoVerif.Model.PollardHeap UtreexoVerif.Spec Hasher
open UtreexoVerif.Proofs.PollardHeap

variable {H : Type} [DecidableEq H] [Hasher H]

/-- full statement for a block: on a full pollard representing `F`, `Modify` with the
canonical encoding of a valid block (distinct live leaves `dels` with their positions as
targets, distinct fresh non-zero `adds`) succeeds and the result represents `F.modify`. -/
def modify_refines_statement (H : Type) [DecidableEq H] [Hasher H] : Prop :=
  (∀ a b : H, ph a b ≠ (zero : H)) →
  ∀ (p : Pollard H) (F : Forest H) (dels : List H) (targets : List U64) (adds : List (H × Bool)),
    Abs p F → p.full = true → TreesNZ F → F.numLeaves + adds.length < 2 ^ 64 →
    dels.Nodup → (∀ d ∈ dels, d ∈ F.liveLeaves) →
    (∀ ts, dels.mapM F.posOf = some ts → targets = ts.map (fun q => BitVec.ofNat 64 (enc F.rows q))) →
    (dels.mapM F.posOf).isSome →
    (adds.map (·.1)).Nodup → (∀ e ∈ adds, e.1 ∉ F.liveLeaves ∧ e.1 ≠ zero) →
    ∃ p', PollardHeap.modify adds dels targets p = (.ok (), p') ∧
      Abs p' (F.modify dels (adds.map (·.1))) ∧ p'.full = true

/-- full statement for undo: after a block, `Undo` with the block's data and the previous
roots yields a heap representing the previous forest (up to `Spec.Equiv`, which `Abs` ignores). -/
def undo_refines_statement (H : Type) [DecidableEq H] [Hasher H] : Prop :=
  (∀ a b : H, ph a b ≠ (zero : H)) →
  ∀ (p p' : Pollard H) (F : Forest H) (dels : List H) (targets : List U64) (adds : List (H × Bool)),
    Abs p F → p.full = true → TreesNZ F →
    PollardHeap.modify adds dels targets p = (.ok (), p') →
    Abs p' (F.modify dels (adds.map (·.1))) →
    ∃ p'', PollardHeap.undo (BitVec.ofNat 64 adds.length) targets dels F.roots p' = (.ok (), p'') ∧
      Abs p'' F

/-- full statement for the remaining queries on a represented forest (`GetHash` is proved:
`getHash_refines`, `getHash_spec`): `GetLeafPosition` (= `NodeMap` look-up + `calculatePosition`
over the aunt pointers) is the specification position, `Prove` returns the canonical proof -/
def queries_statement (H : Type) [DecidableEq H] [Hasher H] : Prop :=
  ∀ (p : Pollard H) (F : Forest H), Abs p F → p.full = true → F.liveLeaves.Nodup → TreesNZ F →
    F.roots.Nodup → F.numLeaves < 2 ^ 63 →
    (∀ h : H, getLeafPosition h p = (.ok (PollardAbs.pollardGetLeafPosition F h), p)) ∧
    (∀ hs : List H, (∀ h ∈ hs, h ∈ F.liveLeaves) → 1 < F.numLeaves → hs ≠ [] →
      ∃ ts ps, F.canon hs = some (ts, ps) ∧
        prove hs p = (.ok (ts.map (fun q => BitVec.ofNat 64 (enc F.rows q)), ps), p))

theorem abs_new : Abs (newAccumulator : Pollard H) Forest.empty := Proofs.PollardHeap.abs_new

theorem wf_new : WF (newAccumulator : Pollard H) := abs_new.wf

/-- **one addition** preserves the abstraction relation and commutes with `Forest.add`:
for every full pollard `p` representing `F` (below `2^64 - 1` leaves, every present tree with a
non-zero root hash), every leaf `x` not yet in `NodeMap` and every `Remember` flag,
`addOne` succeeds — no panic, error or fuel exhaustion — and the result represents `F.add x`. -/
theorem addOne_refines {p : Pollard H} {F : Forest H} (a : Abs p F) (hfull : p.full = true)
    (hn : F.numLeaves + 1 < 2 ^ 64) (x : H) (rem : Bool) (hx : x ∉ p.nodeMap.map (·.1))
    (hnz : TreesNZ F) :
    ∃ p', addOne (x, rem) p = (.ok (), p') ∧ Abs p' (F.add x) ∧ p'.full = true ∧
      p'.nodeMap = (x, p.heap.size) :: p.nodeMap := by
  obtain ⟨p', h1, h2, h3, h4, _⟩ := addOne_abs_full a hfull hn x rem hx hnz
  exact ⟨p', h1, h2, h3, h4⟩

/-- **`Pollard.add`** of any list of distinct, non-zero, not yet tracked leaves -/
theorem add_refines (hph : ∀ a b : H, ph a b ≠ (zero : H)) (adds : List (H × Bool)) {p : Pollard H}
    {F : Forest H} (a : Abs p F) (hfull : p.full = true) (hn : F.numLeaves + adds.length < 2 ^ 64)
    (hnd : (adds.map (·.1)).Nodup) (hx : ∀ e ∈ adds, e.1 ∉ p.nodeMap.map (·.1) ∧ e.1 ≠ zero)
    (hnz : TreesNZ F) :
    ∃ p', add adds p = (.ok (), p') ∧ Abs p' (F.addMany (adds.map (·.1))) ∧ p'.full = true ∧
      TreesNZ (F.addMany (adds.map (·.1))) := by
  obtain ⟨p', h1, h2, h3, h4, _⟩ := add_abs_full ⟨hph⟩ adds a hfull hn hnd hx hnz
  exact ⟨p', h1, h2, h3, h4⟩

theorem add_preserves_wf (hph : ∀ a b : H, ph a b ≠ (zero : H)) (adds : List (H × Bool))
    {p : Pollard H} {F : Forest H} (a : Abs p F) (hfull : p.full = true)
    (hn : F.numLeaves + adds.length < 2 ^ 64) (hnd : (adds.map (·.1)).Nodup)
    (hx : ∀ e ∈ adds, e.1 ∉ p.nodeMap.map (·.1) ∧ e.1 ≠ zero) (hnz : TreesNZ F) :
    ∃ p', add adds p = (.ok (), p') ∧ WF p' := by
  obtain ⟨p', h1, h2, _⟩ := add_refines hph adds a hfull hn hnd hx hnz
  exact ⟨p', h1, h2.wf⟩

/-- **every addition-only history from the empty accumulator**: `Modify(adds, nil, {})` on
`NewAccumulator()` succeeds for every list of distinct non-zero leaves, the result is well
formed and represents the specification forest with exactly those leaves appended. -/
theorem add_from_empty (hph : ∀ a b : H, ph a b ≠ (zero : H)) (adds : List (H × Bool))
    (hlen : adds.length < 2 ^ 64) (hnd : (adds.map (·.1)).Nodup) (hnz : ∀ e ∈ adds, e.1 ≠ zero) :
    ∃ p', PollardHeap.modify adds [] [] (newAccumulator : Pollard H) = (.ok (), p') ∧
      Abs p' (Forest.empty.addMany (adds.map (·.1))) ∧ WF p' := by
  obtain ⟨p', h1, h2, _⟩ := add_refines hph adds (abs_new (H := H)) rfl
    (by simpa [Forest.empty, Forest.numLeaves] using hlen) hnd
    (fun e he => ⟨by simp [newAccumulator], hnz e he⟩) treesNZ_empty
  refine ⟨p', ?_, h2, h2.wf⟩
  have : PollardHeap.modify adds [] [] (newAccumulator : Pollard H) = add adds newAccumulator := by
    unfold PollardHeap.modify
    simp only [deleteFromMap, remove, deTwin, deTwinLoop, sortU64, sortBy, List.foldl_nil, List.length_nil,
      Nat.lt_irrefl, not_false_eq_true, getElem?_neg, Nat.zero_add, Nat.not_lt_zero, removeLoop, BitVec.add_zero,
      newAccumulator, bind_apply, pure_apply, getNumLeaves_apply, modifyS_apply]
  rw [this]; exact h1

/-- `GetRoots` of a heap representing `F` returns the roots of the specification -/
theorem getRoots_refines {p : Pollard H} {F : Forest H} (a : Abs p F) :
    getRootHashes p = (.ok F.roots, p) := getRoots_abs a

/-- **`GetHash` on the heap = the look-up model of `Props/C10`**, for every `uint64` position -/
theorem getHash_refines {p : Pollard H} {F : Forest H} (a : Abs p F) (pos : U64) :
    getHash pos p = (.ok (PollardAbs.pollardGetHashNiece F pos), p) := getHash_abs a pos

/-- **`GetHash` on the heap tells the truth**: the hash of the specification node at that
position, the all-zero hash when the position holds no node (outside the forest, vacated,
below a moved-up leaf or an empty root) -/
theorem getHash_spec {p : Pollard H} {F : Forest H} (a : Abs p F) (hn : F.numLeaves < 2 ^ 63)
    (pos : U64) :
    getHash pos p = (.ok (((Proofs.SpecView.dec F.rows pos.toNat).bind F.nodeAt).getD zero), p) := by
  rw [getHash_refines a pos, Props.C10.pollardGetHashNiece_spec F hn pos]

/-- **`abs` is well defined on `Spec.Equiv`-classes**: two specification forests represented
by the same heap are observationally equivalent (given that no present tree hashes to the
all-zero value — an empty root and a lone all-zero leaf look the same, in Go as well) -/
theorem abs_unique_up_to_equiv {p : Pollard H} {F G : Forest H} (a : Abs p F) (b : Abs p G)
    (zF : TreesNZ F) (zG : TreesNZ G) : Spec.Equiv F G := by
  have hn : F.numLeaves = G.numLeaves := a.numLeaves.symm.trans b.numLeaves
  refine ⟨hn, ?_⟩
  obtain ⟨_, _, h1, _⟩ := a.repr
  obtain ⟨_, _, h2, _⟩ := b.repr
  have e : F.trees.map (·.2) = G.trees.map (·.2) := by
    apply h1.det h2
    · intro t ht
      simp only [List.mem_map] at ht
      obtain ⟨q, hq, e⟩ := ht
      exact zF q hq t e
    · intro t ht
      simp only [List.mem_map] at ht
      obtain ⟨q, hq, e⟩ := ht
      exact zG q hq t e
  have r1 : F.trees.map (·.1) = G.trees.map (·.1) := by simp [Forest.trees, hn]
  apply List.ext_getElem
  · simpa using congrArg List.length r1
  · intro i h1' h2'
    have a1 : (F.trees.map (·.1))[i]? = (G.trees.map (·.1))[i]? := by rw [r1]
    have a2 : (F.trees.map (·.2))[i]? = (G.trees.map (·.2))[i]? := by rw [e]
    simp only [List.getElem?_map, List.getElem?_eq_getElem h1', List.getElem?_eq_getElem h2',
      Option.map_some, Option.some.injEq] at a1 a2
    exact Prod.ext a1 a2

/-- a full pollard passing the executable check (driver kind `ph:wf`) is well formed -/
theorem wfCheck_sound (p : Pollard H) (hfull : p.full = true) (h : wfCheck p = none) : WF p :=
  Proofs.PollardHeap.wfCheck_sound p hfull h

/-- what the executable abstraction function returns is represented by the heap -/
theorem absTrees_sound (p : Pollard H) (ts : List (Nat × Option (CTree H))) (h : absTrees p = some ts) :
    ∃ owned lv, ReprRoots p.heap p.roots (ts.map (·.2)) owned lv ∧
      ts.map (·.1) = treeRows p.numLeaves.toNat := by
  obtain ⟨infos, _, a, c⟩ := absTrees_inv p ts h
  exact ⟨_, _, a, c⟩

/-- check + abstraction function = the abstraction relation -/
theorem abs_of_check (p : Pollard H) (F : Forest H) (hfull : p.full = true) (hc : wfCheck p = none)
    (hn : p.numLeaves.toNat = F.numLeaves) (ht : absTrees p = some F.trees) : Abs p F :=
  Proofs.PollardHeap.abs_of_check p F hfull hc hn ht

namespace Example
open UtreexoVerif.Spec.NodesUniqueExample

def leaves5 : List (Term × Bool) :=
  [(.atom 1, true), (.atom 2, false), (.atom 3, true), (.atom 4, true), (.atom 5, false)]

def p5 : Pollard Term := (PollardHeap.add leaves5 newAccumulator).2

def F5 : Forest Term := Forest.empty.addMany (leaves5.map (·.1))

theorem hphT : ∀ a b : Term, ph a b ≠ (zero : Term) := termCR.nonzero

/-- the hypotheses of `add_refines` / `add_from_empty` are satisfiable -/
example : ∃ p', PollardHeap.modify leaves5 [] [] (newAccumulator : Pollard Term) = (.ok (), p') ∧
    Abs p' F5 ∧ WF p' :=
  add_from_empty hphT leaves5 (by decide) (by decide) (by decide)

/-- a block with deletions (leaves 1 and 4 of `F5`, canonical targets 0 and 3; leaf 1's sibling
moves up, `deleteSingle` in both its branches) plus two additions, then its undo -/
def dels : List Term := [.atom 1, .atom 4]
def targets : List U64 := [0#64, 3#64]
def adds2 : List (Term × Bool) := [(.atom 6, true), (.atom 7, true)]
def p6 : Pollard Term := (PollardHeap.modify adds2 dels targets p5).2
def F6 : Forest Term := F5.modify dels (adds2.map (·.1))

def p7 : Pollard Term := (PollardHeap.undo 2#64 targets dels F5.roots p6).2

/-- deleting a whole tree leaves an empty root that the next addition skips over -/
def p8 : Pollard Term := (PollardHeap.modify [(.atom 9, true)] [.atom 5] [4#64] p5).2

/-- everything that is read off the evaluated states, in ONE kernel evaluation (the kernel shares `p5`
and the state after the block): the executable check and the abstraction function on `p5`, `p6`, `p7`,
`p8`, the run of `Prove` that `PollardHeapB.Example.queries_statement_false` needs, the keys of the
`NodeMap` of `p6`.  The `Decidable` instance is put together by hand from its three parts: as one
search it is too big. -/
theorem checkAll :
    (p5.full = true ∧ wfCheck p5 = none ∧ p5.numLeaves.toNat = F5.numLeaves ∧
      absTrees p5 = some F5.trees ∧
      (prove [Term.atom 2, .atom 2] p5).1 = .ok ([1#64, 1#64], [.pair (.atom 3) (.atom 4)])) ∧
    (((PollardHeap.modify adds2 dels targets p5).1 = .ok () ∧ p6.full = true ∧
        wfCheck p6 = none ∧ p6.numLeaves.toNat = F6.numLeaves ∧ absTrees p6 = some F6.trees ∧
        p6.nodeMap.map (·.1) = [.atom 7, .atom 6, .atom 5, .atom 3, .atom 2]) ∧
      ((PollardHeap.undo 2#64 targets dels F5.roots p6).1 = .ok () ∧ p7.full = true ∧
        wfCheck p7 = none ∧ p7.numLeaves.toNat = F5.numLeaves ∧ absTrees p7 = some F5.trees)) ∧
    (p8.full = true ∧ wfCheck p8 = none ∧
      p8.numLeaves.toNat = (F5.modify [.atom 5] [.atom 9]).numLeaves ∧
      absTrees p8 = some (F5.modify [.atom 5] [.atom 9]).trees) := by
  refine @of_decide_eq_true _ (@instDecidableAnd _ _ inferInstance
    (@instDecidableAnd _ _ inferInstance inferInstance)) ?_
  decide +kernel

theorem check5 : p5.full = true ∧ wfCheck p5 = none ∧ p5.numLeaves.toNat = F5.numLeaves ∧
    absTrees p5 = some F5.trees ∧
    (prove [Term.atom 2, .atom 2] p5).1 = .ok ([1#64, 1#64], [.pair (.atom 3) (.atom 4)]) :=
  checkAll.1

example : wfCheck p5 = none := check5.2.1
example : absTrees p5 = some F5.trees := check5.2.2.2.1
example : Abs p5 F5 := abs_of_check p5 F5 check5.1 check5.2.1 check5.2.2.1 check5.2.2.2.1

example : (PollardHeap.modify adds2 dels targets p5).1 = .ok () := checkAll.2.1.1.1
example : wfCheck p6 = none := checkAll.2.1.1.2.2.1
example : absTrees p6 = some F6.trees := checkAll.2.1.1.2.2.2.2.1
example : Abs p6 F6 := abs_of_check p6 F6 checkAll.2.1.1.2.1 checkAll.2.1.1.2.2.1 checkAll.2.1.1.2.2.2.1 checkAll.2.1.1.2.2.2.2.1

example : (PollardHeap.undo 2#64 targets dels F5.roots p6).1 = .ok () := checkAll.2.1.2.1
example : Abs p7 F5 := abs_of_check p7 F5 checkAll.2.1.2.2.1 checkAll.2.1.2.2.2.1 checkAll.2.1.2.2.2.2.1 checkAll.2.1.2.2.2.2.2

example : Abs p8 (F5.modify [.atom 5] [.atom 9]) :=
  abs_of_check _ _ checkAll.2.2.1 checkAll.2.2.2.1 checkAll.2.2.2.2.1 checkAll.2.2.2.2.2

end Example

end UtreexoVerif.Props.PollardHeap
