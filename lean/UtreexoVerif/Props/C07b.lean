/-
  C07 (model level) — totality of the transliterated `Proof.Update`.

  `Proof.Update` never returns an error in Go (`return cachedHashes, nil`) and contains no
  unbounded loop.  What can go wrong is an index expression on a `hashAndPos` whose two slices
  have different lengths (built unchecked from caller data by `toHashAndPos`).  The model is
  exact where every `toHashAndPos` call receives slices of equal length and marks the
  boundary of that domain by `.panic` (beyond it Go panics on some index expressions and pads
  with zero values on others; not modelled).  Theorems, for ALL inputs:

  * `proofUpdate_no_err_no_hang`: the model never yields `.err` or `.hang`;
  * `updateProofRemove_total`: with one cached hash per target and one proof hash per proof
    position ("consistent lengths") the deletion half stays inside the domain and hands over
    as many hashes as targets;
  * `proofUpdate_total`: the whole update stays inside the domain (returns `.ok`) provided
    the proof produced by the deletion half again has one hash per proof position of the
    targets it produced — which is what C07 (the update of a canonical proof is canonical)
    gives for honest block data; it can fail for update data that does not belong to the
    block (e.g. `NewDelHash` empty at a position the cached proof still needs).
-/
import UtreexoVerif.Model.ProofUpdate

namespace UtreexoVerif.Props.C07b
open Model

section
variable {H : Type} [DecidableEq H] [Hasher H]

omit [DecidableEq H] [Hasher H] in
theorem toHashAndPos_cases (ts : List U64) (hs : List H) :
    (ts.length = hs.length ∧ toHashAndPos ts hs = .ok (sortHP (ts.zip hs))) ∨
    (ts.length ≠ hs.length ∧ toHashAndPos ts hs = .panic) := by
  unfold toHashAndPos
  by_cases h : ts.length = hs.length
  · exact Or.inl ⟨h, by simp [h]⟩
  · exact Or.inr ⟨h, by simp [h]⟩

/-- one cached hash per target, one proof hash per proof position -/
def Consistent (n : U64) (p : CProof H) (cachedHashes : List H) : Prop :=
  cachedHashes.length = p.targets.length ∧
  p.proof.length = (ProofPositions (sortU64 p.targets) n (TreeRows n)).1.length

theorem updateProofRemove_cases (p : CProof H) (blockTargets : List U64) (cachedHashes : List H)
    (updated : HP H) (n : U64) :
    (∃ r, updateProofRemove p blockTargets cachedHashes updated n = .ok r ∧ r.2.length = r.1.targets.length) ∨
    (updateProofRemove p blockTargets cachedHashes updated n = .panic ∧
      ¬ Consistent n p cachedHashes) := by
  unfold updateProofRemove
  simp only [bind, Out.bind]
  rcases toHashAndPos_cases p.targets cachedHashes with ⟨_, h1⟩ | ⟨hne, h1⟩
  · rw [h1]
    simp only
    rcases toHashAndPos_cases (ProofPositions (sortU64 p.targets) n (TreeRows n)).1 p.proof with
      ⟨_, h2⟩ | ⟨hne, h2⟩
    · rw [h2]
      refine Or.inl ⟨_, rfl, ?_⟩
      simp [HP.positions, HP.hashes]
    · rw [h2]; exact Or.inr ⟨rfl, fun hc => hne hc.2.symm⟩
  · rw [h1]; exact Or.inr ⟨rfl, fun hc => hne hc.1.symm⟩

/-- the deletion half of `Proof.Update` is total on inputs of consistent lengths -/
theorem updateProofRemove_total (p : CProof H) (blockTargets : List U64) (cachedHashes : List H)
    (updated : HP H) (n : U64) (hc : Consistent n p cachedHashes) :
    ∃ r, updateProofRemove p blockTargets cachedHashes updated n = .ok r ∧ r.2.length = r.1.targets.length := by
  rcases updateProofRemove_cases p blockTargets cachedHashes updated n with h | ⟨_, hn⟩
  · exact h
  · exact absurd hc hn

theorem updateProofAdd_cases (p : CProof H) (adds cachedDelHashes : List H) (remembers : List Nat)
    (newNodes : HP H) (n : U64) (toDestroy : List U64) :
    (∃ r, updateProofAdd p adds cachedDelHashes remembers newNodes n toDestroy = .ok r) ∨
    updateProofAdd p adds cachedDelHashes remembers newNodes n toDestroy = .panic := by
  unfold updateProofAdd
  simp only [bind, Out.bind]
  rcases toHashAndPos_cases p.targets cachedDelHashes with ⟨_, h1⟩ | ⟨_, h1⟩
  · rw [h1]
    simp only
    rcases toHashAndPos_cases (ProofPositions (sortHP (p.targets.zip cachedDelHashes)).positions n (TreeRows n)).1 p.proof
      with ⟨_, h2⟩ | ⟨_, h2⟩
    · rw [h2]; exact Or.inl ⟨_, rfl⟩
    · rw [h2]; exact Or.inr rfl
  · rw [h1]; exact Or.inr rfl

/-- the addition half succeeds on consistent lengths -/
theorem updateProofAdd_total (p : CProof H) (adds cachedDelHashes : List H) (remembers : List Nat)
    (newNodes : HP H) (n : U64) (toDestroy : List U64)
    (h1 : p.targets.length = cachedDelHashes.length)
    (h2 : (ProofPositions (sortHP (p.targets.zip cachedDelHashes)).positions n (TreeRows n)).1.length = p.proof.length) :
    ∃ r, updateProofAdd p adds cachedDelHashes remembers newNodes n toDestroy = .ok r := by
  unfold updateProofAdd
  simp only [bind, Out.bind]
  simp only [toHashAndPos, h1, h2, if_true]
  exact ⟨_, rfl⟩

/-- `Proof.Update` (model) never returns an error and never spins — for ALL inputs -/
theorem proofUpdate_no_err_no_hang (p : CProof H) (cachedHashes addHashes : List H) (blockTargets : List U64)
    (remembers : List Nat) (ud : UpdateDataM H) :
    proofUpdate p cachedHashes addHashes blockTargets remembers ud ≠ .err ∧
    proofUpdate p cachedHashes addHashes blockTargets remembers ud ≠ .hang := by
  unfold proofUpdate
  simp only [bind, Out.bind]
  rcases updateProofRemove_cases p blockTargets cachedHashes ud.newDel ud.prevNumLeaves with
    ⟨r, h, _⟩ | ⟨h, _⟩
  · rw [h]
    simp only
    rcases updateProofAdd_cases r.1 addHashes r.2 remembers ud.newAdd ud.prevNumLeaves ud.toDestroy with ⟨r2, h2⟩ | h2
    · rw [h2]; exact ⟨by simp, by simp⟩
    · rw [h2]; exact ⟨by simp, by simp⟩
  · rw [h]; exact ⟨by simp, by simp⟩

/-- `Proof.Update` (model) is total on a cached proof of consistent lengths whose deletion half
again produces a proof of consistent lengths -/
theorem proofUpdate_total (p : CProof H) (cachedHashes addHashes : List H) (blockTargets : List U64)
    (remembers : List Nat) (ud : UpdateDataM H) (hc : Consistent ud.prevNumLeaves p cachedHashes)
    (hmid : ∀ r, updateProofRemove p blockTargets cachedHashes ud.newDel ud.prevNumLeaves = .ok r →
      (ProofPositions (sortHP (r.1.targets.zip r.2)).positions ud.prevNumLeaves (TreeRows ud.prevNumLeaves)).1.length
        = r.1.proof.length) :
    ∃ r, proofUpdate p cachedHashes addHashes blockTargets remembers ud = .ok r := by
  obtain ⟨r, h, hl⟩ := updateProofRemove_total p blockTargets cachedHashes ud.newDel ud.prevNumLeaves hc
  unfold proofUpdate
  simp only [bind, Out.bind]
  rw [h]
  exact updateProofAdd_total r.1 addHashes r.2 remembers ud.newAdd ud.prevNumLeaves ud.toDestroy hl.symm (hmid r h)

end

/-! ## Non-vacuity -/

section examples

inductive T where
  | leaf (n : Nat)
  | node (l r : T)
deriving DecidableEq, Repr

instance : Hasher T := ⟨T.node, T.leaf 0⟩

open T in
/-- 4 leaves `1 2 3 4`; the client caches leaf 1 (position 0, proof `[leaf 2, node 3 4]`); the
block deletes leaf 3 (position 2) and adds nothing: leaf 4 moves up to position 5. -/
example : proofUpdate (H := T) ⟨[0#64], [leaf 2, node (leaf 3) (leaf 4)]⟩ [leaf 1] [] [2#64] []
    { toDestroy := [], prevNumLeaves := 4#64,
      newDel := [(2#64, leaf 0), (5#64, leaf 4), (6#64, node (node (leaf 1) (leaf 2)) (leaf 4))], newAdd := [] } =
    .ok (⟨[0#64], [leaf 2, leaf 4]⟩, [leaf 1]) := by decide +kernel

open T in
example : Consistent (H := T) 4#64 ⟨[0#64], [leaf 2, node (leaf 3) (leaf 4)]⟩ [leaf 1] :=
  ⟨rfl, by decide +kernel⟩

end examples

end UtreexoVerif.Props.C07b
