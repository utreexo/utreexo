/-
  A note for `Props/C13Map.lean`: why no theorem adds `CR H` (the parent hash is injective and never
  zero — the standing hypothesis of the C09 preservation theorems) to the hypothesis `HashBytesOK H`
  of the byte-level theorems (a hash IS 32 bytes on the wire), and why the closure theorems assume
  `NZ H` (never zero) only, which a 32-byte hash type can satisfy.  `CR H` and `HashBytesOK H`
  CONTRADICT each other (pigeonhole), so any theorem assuming both would be vacuous.  (`CR` is
  satisfiable — term-algebra hasher, `MapSInv.Example.crT` —, `HashBytesOK` is satisfiable —
  `Props.C13.okBytes32` —, only the conjunction is not.)
-/
import Mathlib.Data.Fintype.Vector
import Mathlib.SetTheory.Cardinal.Finite
import Mathlib.SetTheory.Cardinal.NatCard
import UtreexoVerif.Proofs.Serial
import UtreexoVerif.Spec.View

namespace UtreexoVerif.Props.C13Map
open UtreexoVerif Model.Serial Hasher Proofs.Serial

instance : Finite U8 := Finite.of_injective (fun b : U8 => b.toFin) (fun _ _ h => BitVec.eq_of_toFin_eq h)

/-- **`CR H` and `HashBytesOK H` are incompatible**: a type whose elements are determined by 32 bytes
is finite, and a finite type with two different elements (`zero` and `ph zero zero`) has no injective
pairing `H × H → H` -/
theorem cr_hashBytesOK_incompatible {H : Type} [Hasher H] [HashBytes H] (cr : CR H) (ok : HashBytesOK H) : False := by
  have hinj : Function.Injective (fun h : H => (⟨toBytes h, ok.len h⟩ : List.Vector U8 32)) := by
    intro a b hab
    have h1 : toBytes a = toBytes b := congrArg Subtype.val hab
    rw [← ok.rt a, ← ok.rt b, h1]
  have : Finite H := Finite.of_injective (β := List.Vector U8 32) _ hinj
  have hp : Function.Injective (fun p : H × H => ph p.1 p.2) := by
    intro p q h
    exact Prod.ext (cr.inj _ _ _ _ h).1 (cr.inj _ _ _ _ h).2
  have hcard := Nat.card_le_card_of_injective _ hp
  rw [Nat.card_prod] at hcard
  have : Nontrivial H := ⟨⟨ph zero zero, zero, cr.nonzero _ _⟩⟩
  have h2 : 1 < Nat.card H := Finite.one_lt_card
  have h3 : Nat.card H ≤ 1 := by simpa using hcard
  omega

end UtreexoVerif.Props.C13Map

section Axioms
#print axioms UtreexoVerif.Props.C13Map.cr_hashBytesOK_incompatible
end Axioms
