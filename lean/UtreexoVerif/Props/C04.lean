/-
  C04 — verifiers are total on untrusted input and reject atomically: proofs of the
  statements in `Props/C04_statement.lean`.
-/
import UtreexoVerif.Props.C04_statement
import UtreexoVerif.Proofs.RowFacts
import UtreexoVerif.Proofs.CalcTotal
import UtreexoVerif.Proofs.StumpTotal

namespace UtreexoVerif.Props.C04
open Model Hasher

section
variable {H : Type} [DecidableEq H] [Hasher H]

/-- `delSt` only writes the roots back on success -/
theorem delSt_not_ok (s : Stump H) (dels : List H) (ts : List U64) (ps : List H)
    (h : ∀ x, (s.delSt dels ts ps).2 ≠ .ok x) : (s.delSt dels ts ps).1 = s := by
  unfold Stump.delSt at h ⊢
  generalize verify s.numLeaves s.roots dels ts ps = v at h ⊢
  cases v with
  | ok idx =>
    simp only at h ⊢
    generalize calculateHashes s.numLeaves none ts ps = c at h ⊢
    cases c with
    | ok r =>
      simp only at h ⊢
      split
      · rfl
      · rename_i hc
        simp [hc] at h
    | _ => rfl
  | _ => rfl

theorem update_reject_atomic : update_reject_atomic_statement H := by
  intro nonZero s dels adds ts ps h
  have hd := delSt_not_ok s dels ts ps
  unfold Stump.updateSt at h ⊢
  generalize s.delSt dels ts ps = d at h hd ⊢
  obtain ⟨s1, o⟩ := d
  cases o with
  | ok newDel =>
    simp only at h ⊢
    have := Proofs.StumpNoErr.add_ne_err nonZero s1 adds
    split at h <;> simp_all
  | err => exact hd (by simp)
  | panic => simp at h
  | hang => simp at h

theorem rowFacts : ∀ n : U64, n.toNat ≤ 2 ^ 63 → RowFacts n := Proofs.RowFacts.rowFacts

theorem calc_total : calc_total_statement H := by
  intro n _ rf hs ts ps hlen
  exact Proofs.CalcTotal.calculateHashes_total rf hs ts ps hlen

theorem verify_total : verify_total_statement H := by
  intro n _ rf roots hs ts ps
  exact Proofs.CalcTotal.verify_total' rf roots hs ts ps

theorem pollardVerify_total : pollardVerify_total_statement H := by
  intro n _ rf roots hs ts ps
  exact Proofs.CalcTotal.pollardVerify_total' rf roots hs ts ps

theorem mapVerify_total : mapVerify_total_statement H := by
  intro n totalRows _ rf roots hs ts ps
  unfold mapVerify
  exact Proofs.CalcTotal.verify_total' rf roots hs _ ps

theorem foldl_set_length {α} (l : List (Nat × α)) :
    ∀ rs : List α, (l.foldl (fun rs (x : Nat × α) => rs.set x.1 x.2) rs).length = rs.length := by
  induction l with
  | nil => intro rs; rfl
  | cons x l ih => intro rs; rw [List.foldl_cons, ih, List.length_set]

theorem delSt_spec {n : U64} (s : Stump H) (hn : s.numLeaves = n) (rf : RowFacts n)
    (dels : List H) (ts : List U64) (ps : List H) :
    Total (s.delSt dels ts ps).2 ∧ (s.delSt dels ts ps).1.numLeaves = s.numLeaves ∧
      (s.delSt dels ts ps).1.roots.length = s.roots.length := by
  subst hn
  have hv := Proofs.CalcTotal.verify_total' rf s.roots dels ts ps
  have hc := Proofs.CalcTotal.calculateHashes_total rf (none : Option (List H)) ts ps
    (by intro l hl; cases hl)
  unfold Stump.delSt
  generalize verify s.numLeaves s.roots dels ts ps = v at hv ⊢
  cases v with
  | ok idx =>
    simp only
    generalize calculateHashes s.numLeaves none ts ps = c at hc ⊢
    cases c with
    | ok r =>
      simp only
      split
      · exact ⟨Proofs.CalcTotal.total_err, rfl, rfl⟩
      · refine ⟨Proofs.CalcTotal.total_ok _, rfl, ?_⟩
        exact foldl_set_length _ _
    | err => exact ⟨Proofs.CalcTotal.total_err, rfl, rfl⟩
    | panic => exact absurd rfl hc.2
    | hang => exact absurd rfl hc.1
  | err => exact ⟨Proofs.CalcTotal.total_err, rfl, rfl⟩
  | panic => exact absurd rfl hv.2
  | hang => exact absurd rfl hv.1

/-- totality of `Update`; the placeholder hash need not even be non-zero -/
theorem update_total_core (nz : H) (s : Stump H) (hwf : WellFormed H s)
    (dels adds : List H) (ts : List U64) (ps : List H)
    (hn : s.numLeaves.toNat + adds.length ≤ 2 ^ 63) (rf : RowFacts s.numLeaves) :
    Total (s.updateSt nz dels adds ts ps).2 := by
  obtain ⟨hd, hnl, hlen⟩ := delSt_spec s rfl rf dels ts ps
  unfold Stump.updateSt
  generalize s.delSt dels ts ps = d at hd hnl hlen ⊢
  obtain ⟨s1, o⟩ := d
  simp only at hd hnl hlen
  cases o with
  | ok newDel =>
    simp only
    have hadd : Total (s1.add nz adds) := by
      apply Proofs.StumpTotal.add_total
      · rw [hnl]; exact hn
      · have h1 : (s.roots.length : Int) = Proofs.StumpTotal.cnt s.numLeaves 0 := by
          rw [Proofs.StumpTotal.cnt_zero]; exact hwf
        rw [hlen, hnl]
        exact Int.ofNat.inj h1
    generalize s1.add nz adds = a at hadd ⊢
    cases a with
    | ok r => exact Proofs.CalcTotal.total_ok _
    | err => exact Proofs.CalcTotal.total_err
    | panic => exact absurd rfl hadd.2
    | hang => exact absurd rfl hadd.1
  | err => exact Proofs.CalcTotal.total_err
  | panic => exact absurd rfl hd.2
  | hang => exact absurd rfl hd.1

theorem update_total : update_total_statement H := by
  intro nz _ s hwf dels adds ts ps hn rf
  exact update_total_core nz s hwf dels adds ts ps hn rf

/-- the `RowFacts` hypothesis of the statements is redundant: unconditional forms -/
theorem calc_total_uncond (n : U64) (hn : n.toNat ≤ 2 ^ 63) (hs : Option (List H))
    (ts : List U64) (ps : List H) (hlen : ∀ l, hs = some l → l.length = ts.length) :
    Total (calculateHashes n hs ts ps) :=
  calc_total n hn (rowFacts n hn) hs ts ps hlen

theorem verify_total_uncond (n : U64) (hn : n.toNat ≤ 2 ^ 63) (roots hs : List H)
    (ts : List U64) (ps : List H) : Total (verify n roots hs ts ps) :=
  verify_total n hn (rowFacts n hn) roots hs ts ps

theorem pollardVerify_total_uncond (n : U64) (hn : n.toNat ≤ 2 ^ 63) (roots hs : List H)
    (ts : List U64) (ps : List H) : Total (pollardVerify n roots hs ts ps) :=
  pollardVerify_total n hn (rowFacts n hn) roots hs ts ps

theorem update_total_uncond (nonZero : H) (s : Stump H) (hwf : WellFormed H s)
    (dels adds : List H) (ts : List U64) (ps : List H)
    (hn : s.numLeaves.toNat + adds.length ≤ 2 ^ 63) :
    Total (s.updateSt nonZero dels adds ts ps).2 :=
  update_total_core nonZero s hwf dels adds ts ps hn (rowFacts _ (by omega))

theorem mapVerify_total_uncond (n : U64) (totalRows : U8) (hn : n.toNat ≤ 2 ^ 63)
    (roots hs : List H) (ts : List U64) (ps : List H) :
    Total (mapVerify n totalRows roots hs ts ps) :=
  mapVerify_total n totalRows hn (rowFacts n hn) roots hs ts ps

end

namespace Example

inductive T where
  | z
  | leaf (n : Nat)
  | node (l r : T)
deriving DecidableEq

instance : Hasher T := ⟨T.node, T.z⟩

/-- the hypotheses of the totality theorems are satisfiable: 4 leaves -/
example : (4#64).toNat ≤ 2 ^ 63 ∧ RowFacts 4#64 := ⟨by decide, rowFacts _ (by decide)⟩

/-- 4 leaves, target 7 (no such position; a row cursor without the `row > totalRows` check spins
forever on this input, see `rowCursorOld` below): rejected -/
example : verify (H := T) 4#64 [T.node (.node (.leaf 0) (.leaf 1)) (.node (.leaf 2) (.leaf 3))]
    [.leaf 9] [7#64] [] = .err := by decide +kernel

example : Total (verify (H := T) 4#64
    [T.node (.node (.leaf 0) (.leaf 1)) (.node (.leaf 2) (.leaf 3))] [.leaf 9] [7#64] []) :=
  verify_total_uncond _ (by decide) _ _ _ _

/-- targets up to 2^64-1, duplicates, oversized proofs: rejected, never a panic -/
example : verify (H := T) 4#64 [T.node (.node (.leaf 0) (.leaf 1)) (.node (.leaf 2) (.leaf 3))]
    [.leaf 9, .leaf 0, .leaf 0] [BitVec.allOnes 64, 0#64, 0#64] [.leaf 1, .leaf 1, .leaf 1] = .err := by
  decide +kernel

/-- the other two entry points on the same out-of-range target -/
example : pollardVerify (H := T) 4#64
    [T.node (.node (.leaf 0) (.leaf 1)) (.node (.leaf 2) (.leaf 3))] [.leaf 9] [7#64] [] = .err := by
  decide +kernel

example : mapVerify (H := T) 4#64 3#8
    [T.node (.node (.leaf 0) (.leaf 1)) (.node (.leaf 2) (.leaf 3))] [.leaf 9] [15#64] [] = .err := by
  decide +kernel

example : Total (mapVerify (H := T) 4#64 3#8
    [T.node (.node (.leaf 0) (.leaf 1)) (.node (.leaf 2) (.leaf 3))] [.leaf 9] [15#64] []) :=
  mapVerify_total_uncond _ _ (by decide) _ _ _ _

/-- `calculateHashes` with `delHashes = nil` (second call of `Stump.del`) on a mixed input -/
example : Total (calculateHashes (H := T) 4#64 none [7#64, 0#64, 0#64] [.leaf 1]) :=
  calc_total_uncond _ (by decide) _ _ _ (by intro l hl; cases hl)

/-- an accepted run (so `Total` is not only about rejections) -/
example : verify (H := T) 4#64 [T.node (.node (.leaf 0) (.leaf 1)) (.node (.leaf 2) (.leaf 3))]
    [.leaf 0] [0#64] [.leaf 1, .node (.leaf 2) (.leaf 3)] = .ok [0] := by decide +kernel

def isErr {α} : Out α → Bool
  | .err => true
  | _ => false

theorem eq_err_of_isErr {α} {o : Out α} (h : isErr o = true) : o = .err := by
  cases o <;> simp_all [isErr]

/-- atomic rejection on a concrete rejected update (wrong leaf hash): the hypothesis of
`update_reject_atomic` is satisfiable -/
theorem reject_example : ((Stump.mk [T.node (.leaf 0) (.leaf 1)] 2#64).updateSt (T.leaf 1000)
    [.leaf 7] [.leaf 5] [0#64] [.leaf 1]).2 = .err :=
  eq_err_of_isErr (by decide +kernel)

example : ((Stump.mk [T.node (.leaf 0) (.leaf 1)] 2#64).updateSt (T.leaf 1000) [.leaf 7] [.leaf 5]
    [0#64] [.leaf 1]).1 = Stump.mk [T.node (.leaf 0) (.leaf 1)] 2#64 :=
  update_reject_atomic _ _ _ _ _ _ reject_example

/-- a well-formed stump and an accepted `Update` (delete leaf 0 of 2, add one leaf): the
hypotheses of `update_total` are satisfiable and the outcome is `.ok` -/
theorem wf_example : WellFormed T (Stump.mk [T.node (.leaf 0) (.leaf 1)] 2#64) := by
  unfold WellFormed; decide

example : T.leaf 1000 ≠ (zero : T) := by decide

example : ((Stump.mk [T.node (.leaf 0) (.leaf 1)] 2#64).updateSt (T.leaf 1000) [.leaf 0] [.leaf 5]
    [0#64] [.leaf 1]).2.isOk = true := by decide +kernel

example : Total ((Stump.mk [T.node (.leaf 0) (.leaf 1)] 2#64).updateSt (T.leaf 1000) [.leaf 0]
    [.leaf 5] [0#64] [.leaf 1]).2 :=
  update_total_uncond _ _ wf_example _ _ _ _ (by decide)

/-- the two row facts on a concrete position: 9 = (row 1, offset 1) of a 3-row forest -/
example : DetectRow 9#64 (TreeRows 8#64) = 1#8 ∧
    DetectRow (Parent 9#64 (TreeRows 8#64)) (TreeRows 8#64) = 2#8 := by decide

/-- The row cursor as it was BEFORE the fix (no `row > totalRows` check).  Only used for the
historical witness below. -/
def rowCursorOld (numLeaves : U64) (totalRows : U8) (provePos : U64) : Nat → U8 → Out U8
  | 0, _ => .hang
  | fuel+1, row =>
    if provePos > (maxPositionAtRow row totalRows numLeaves).1 then
      rowCursorOld numLeaves totalRows provePos fuel (row + 1)
    else .ok row

/-- `rowCursorOld` on 4 leaves, target 7 — after 256 increments the `uint8` row is back at 0 and no
iteration has exited, so the loop never exits -/
example : rowCursorOld 4#64 (TreeRows 4#64) 7#64 257 0#8 = .hang := by decide +kernel

/-- `rowCursor` rejects the same input -/
example : rowCursor 4#64 (TreeRows 4#64) 7#64 257 0#8 = .err := by decide +kernel

end Example

end UtreexoVerif.Props.C04
