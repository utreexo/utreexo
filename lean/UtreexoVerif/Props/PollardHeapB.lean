/-
  The pointer forest (`Pollard`: pollard.go, polnode.go), heap model `Model/PollardHeap.lean` —
  part B: **deletion** (`deleteSingle`, `deleteRoot`, `remove`, `Modify`), the queries
  (`GetLeafPosition`, `Prove`, `Verify`) and the first phase of `Undo`; for all heaps / forests /
  blocks, no bounds except `NumLeaves < 2^63`.

  The loop of `remove` runs over the sorted, de-twinned targets: the maximal fully-deleted
  sub-trees can be deleted one after the other in ascending order AT THEIR PRE-BLOCK POSITIONS
  (`DTE.step`: a later target keeps position, sub-tree and surviving sibling when an earlier one
  dies).  During a block the heap represents `F` with `NodeMap` already without the hashes `D` of
  the block (`AbsD p F D`).

  ## A discrepancy: `Props.PollardHeap.modify_refines_statement` is FALSE as stated

  `deleteSingle` executes `delete(p.NodeMap, fromNodeSib.data.mini())` for EVERY deleted node,
  inner nodes included, and re-points `NodeMap[toNode.data]` whenever that key exists.  If a
  live leaf carries the hash of an inner node of the forest (leaf hashes are caller-supplied:
  anyone can add the leaf `parentHash(l1, l2)`), deleting `l1` and `l2` together makes
  `deleteSingle` delete the map entry of that unrelated live leaf: the leaf stays in the forest
  (it is still proved by `GetRoots`) but `GetLeafPosition` / `Prove` no longer find it.
  `modify_refines_statement_false` is the machine-checked witness (5 leaves, the fifth being
  the parent hash of the first two; the same happens in the Go code, see DESIGN.md).
  The theorems below therefore assume that no live leaf is the all-zero hash or a parent hash
  (`LeavesOK F` in `modify_refines`, written out in the others; the hypothesis `Props/C10.lean`
  already needs for the look-ups).
-/
import UtreexoVerif.Proofs.PollardHeapModify
import UtreexoVerif.Proofs.PollardHeapProve
import UtreexoVerif.Proofs.PollardHeapUndoAdds
import UtreexoVerif.Proofs.PollardHeapUndoDel
import UtreexoVerif.Props.PollardHeap

namespace UtreexoVerif.Props.PollardHeapB
open UtreexoVerif.Model UtreexoVerif.Model.PollardHeap UtreexoVerif.Spec Hasher
open UtreexoVerif.Proofs UtreexoVerif.Proofs.PollardHeap UtreexoVerif.Proofs.SpecSubs UtreexoVerif.Proofs.CalcGeo

variable {H : Type} [DecidableEq H] [Hasher H]

/-- **`deleteSingle`** of the position of a non-root node `q` of `F` whose sub-tree `a` dies -/
theorem deleteSingle_refines {p : Pollard H} {F : Forest H} {D : List H} (hA : AbsD p F D)
    (hn : F.numLeaves < 2 ^ 63) {R : Nat} {q : Pos} {a : CTree H} (hs : SubAtT F R q a)
    (hnr : isRootPos F.numLeaves q = false) (hD : ∀ x ∈ a.leaves, x ∈ D)
    (hsep : ∀ x ∈ F.liveLeaves, ∀ u v : H, x ≠ ph u v) :
    ∃ hp' nm', deleteSingle (encU F.rows q.1 q.2) p = (.ok (), { p with heap := hp', nodeMap := nm' }) ∧
      AbsD { p with heap := hp', nodeMap := nm' } (F.delLeaves a.leaves) D :=
  deleteSingle_absD hA hn hs hnr hD hsep

/-- … in particular on `Abs p F` when one LEAF is deleted (its hash removed from the map first,
as `Modify` does) -/
theorem deleteSingle_leaf_refines {p : Pollard H} {F : Forest H} (hA : Abs p F)
    (hn : F.numLeaves < 2 ^ 63) {R : Nat} {q : Pos} {x : H} (hs : SubAtT F R q (.leaf x))
    (hnr : isRootPos F.numLeaves q = false)
    (hsep : ∀ y ∈ F.liveLeaves, ∀ u v : H, y ≠ ph u v) :
    ∃ p', (do deleteFromMap [x]; deleteSingle (encU F.rows q.1 q.2)) p = (.ok (), p') ∧
      Abs p' (F.delLeaves [x]) := by
  obtain ⟨nm1, e1, a1⟩ := deleteFromMap_absD [x] [] p hA.toAbsD
  simp only [List.nil_append] at a1
  obtain ⟨hp', nm', e2, a2⟩ := deleteSingle_absD a1 hn hs hnr (by simp [CTree.leaves]) hsep
  refine ⟨_, ?_, a2.toAbs (by rw [numLeaves_delLeaves]; omega)
    (fun y hy => (Proofs.LiveLeaves.mem_liveLeaves_delLeaves.1 hy).2)⟩
  simp only [bind_apply, e1]
  exact e2

/-- **`deleteRoot`**: the whole tree on row `R` dies -/
theorem deleteRoot_refines {p : Pollard H} {F : Forest H} {D : List H} (hA : AbsD p F D)
    (hn : F.numLeaves < 2 ^ 63) {R : Nat} {t0 : CTree H}
    (hs : SubAtT F R (rootPos F.numLeaves R) t0) (hD : ∀ x ∈ t0.leaves, x ∈ D)
    (hsep : ∀ x ∈ F.liveLeaves, ∀ u v : H, x ≠ ph u v) :
    ∃ hp' nm', deleteRoot (encU F.rows R (rootPos F.numLeaves R).2) p =
        (.ok (), { p with heap := hp', nodeMap := nm' }) ∧
      AbsD { p with heap := hp', nodeMap := nm' } (F.delLeaves t0.leaves) D :=
  deleteRoot_absD hA hn hs hD hsep

/-- **the loop of `remove`** along a deletable sequence of positions -/
theorem removeLoop_refines {D : List H} (ps : List U64) (p : Pollard H) (F F' : Forest H)
    (hA : AbsD p F D) (hn : F.numLeaves < 2 ^ 63)
    (hsep : ∀ x ∈ F.liveLeaves, ∀ u v : H, x ≠ ph u v) (hseq : DelSeq D F ps F') :
    ∃ hp' nm', removeLoop ps p = (.ok (), { p with heap := hp', nodeMap := nm' }) ∧
      AbsD { p with heap := hp', nodeMap := nm' } F' D :=
  removeLoop_absD ps p F F' hA hn hsep hseq

/-- **`remove`**: the targets are the positions of the (distinct, live) leaves `D` -/
theorem remove_refines {p : Pollard H} {F : Forest H} {D : List H} (hA : AbsD p F D)
    (hn : F.numLeaves < 2 ^ 63) (hsep : ∀ x ∈ F.liveLeaves, ∀ u v : H, x ≠ ph u v)
    (hD : D.Nodup) (hlive : ∀ x ∈ D, x ∈ F.liveLeaves) :
    ∃ hp' nm', remove ((D.map (fun l => (F.posOf l).getD (0, 0))).map (E F.rows)) p =
        (.ok (), { p with heap := hp', nodeMap := nm' }) ∧
      AbsD { p with heap := hp', nodeMap := nm' } (F.delLeaves D) D :=
  remove_absD hA hn hsep hD hlive

theorem mapM_posOf {F : Forest H} (l : List H) (ts : List Pos) (h : l.mapM F.posOf = some ts) :
    ts = l.map (fun x => (F.posOf x).getD (0, 0)) :=
  (Proofs.ListFacts.mapM_some F.posOf (0, 0) l ts h).1

/-- **`Modify` refines the specification** (C01 + C05 for the pointer forest): on a full
pollard representing `F` (below `2^63` leaves, no live leaf all-zero or a parent hash), for
every block — distinct live deletions `dels`, their positions as targets listed in ANY order
(`dels'` is a permutation of `dels`), distinct fresh non-zero additions — `Modify` returns
without error, panic or fuel exhaustion; the resulting heap represents `F.modify dels adds`,
`NumDels` has grown by the number of targets and `NumLeaves` by the number of additions. -/
theorem modify_refines (hph : ∀ a b : H, ph a b ≠ (zero : H)) (p : Pollard H) (F : Forest H)
    (dels dels' : List H) (targets : List U64) (adds : List (H × Bool))
    (hA : Abs p F) (hfull : p.full = true) (hok : LeavesOK F)
    (hn : F.numLeaves + adds.length < 2 ^ 63)
    (hnd : dels.Nodup) (hlive : ∀ d ∈ dels, d ∈ F.liveLeaves) (hperm : dels'.Perm dels)
    (htargets : ∀ ts, dels'.mapM F.posOf = some ts →
      targets = ts.map (fun q => BitVec.ofNat 64 (enc F.rows q)))
    (hpos : (dels'.mapM F.posOf).isSome)
    (hadd : (adds.map (·.1)).Nodup) (hfresh : ∀ e ∈ adds, e.1 ∉ F.liveLeaves ∧ e.1 ≠ zero) :
    ∃ p', PollardHeap.modify adds dels targets p = (.ok (), p') ∧
      Abs p' (F.modify dels (adds.map (·.1))) ∧ p'.full = true ∧
      p'.numDels = p.numDels + BitVec.ofNat 64 targets.length ∧
      p'.numLeaves.toNat = F.numLeaves + adds.length := by
  obtain ⟨ts, hts⟩ := Option.isSome_iff_exists.1 hpos
  have e1 := mapM_posOf dels' ts hts
  have e2 := htargets ts hts
  have etargets : targets = (dels'.map (fun l => (F.posOf l).getD (0, 0))).map (E F.rows) := by
    rw [e2, e1]; rfl
  have hlen : targets.length = dels.length := by rw [etargets]; simp [hperm.length_eq]
  obtain ⟨p', h1, h2, h3, h4⟩ := modify_abs ⟨hph⟩ hA hfull hok dels dels' adds hn hnd hlive hperm hadd hfresh
  rw [← etargets] at h1
  refine ⟨p', h1, h2, h3, by rw [h4, hlen], ?_⟩
  · rw [h2.numLeaves]
    simp [Forest.modify, Forest.addMany, Forest.numLeaves, Forest.delLeaves]

theorem treesNZ_of_nonzero (hph : ∀ a b : H, ph a b ≠ (zero : H)) {F : Forest H}
    (h : ∀ x ∈ F.liveLeaves, x ≠ (zero : H)) (hn : F.numLeaves < 2 ^ 64) : TreesNZ F := by
  intro q hq t' ht'
  apply Spec.CTree.hash_ne_zero hph
  intro x hx
  apply h x
  rw [← trees_leaves F hn, List.mem_flatMap]
  exact ⟨q, hq, by rw [ht']; exact hx⟩

/-- **`GetLeafPosition` refines the specification** (`NodeMap` look-up + `calculatePosition`
along the aunt pointers): on a heap representing `F` (below `2^63` leaves, root hashes pairwise
different — the Go code tells the trees apart by their root hashes), for EVERY hash:
the encoded specification position and `true` for a live leaf, `(0, false)` otherwise;
the state is unchanged -/
theorem getLeafPosition_refines {p : Pollard H} {F : Forest H} (a : Abs p F)
    (hn : F.numLeaves < 2 ^ 63) (hroots : F.roots.Nodup) (h : H) :
    getLeafPosition h p = (.ok (PollardAbs.pollardGetLeafPosition F h), p) :=
  getLeafPosition_abs a hn (.of_nodup hroots) h

/-- **`Prove` returns the canonical proof** (C02 for the pointer forest) -/
theorem prove_refines (hph : ∀ a b : H, ph a b ≠ (zero : H)) {p : Pollard H} {F : Forest H}
    (a : Abs p F) (hn : F.numLeaves < 2 ^ 63) (hroots : F.roots.Nodup)
    (hnz : ∀ x ∈ F.liveLeaves, x ≠ (zero : H)) (hs : List H)
    (hlive : ∀ h ∈ hs, h ∈ F.liveLeaves) (hnd : hs.Nodup) (h1 : 1 < F.numLeaves) (hne : hs ≠ []) :
    ∃ ts ps, F.canon hs = some (ts, ps) ∧
      prove hs p = (.ok (ts.map (fun q => BitVec.ofNat 64 (enc F.rows q)), ps), p) :=
  prove_abs hph a hn (.of_nodup hroots) hnz hs hlive hnd h1 hne

set_option linter.unusedVariables false in
/-- **`Verify`** on a heap representing `F` is the verifier model `pollardVerify` run on
`F.numLeaves` and `F.roots`; the state is unchanged -/
theorem verify_refines {p : Pollard H} {F : Forest H} (a : Abs p F) (hn : F.numLeaves < 2 ^ 64)
    (delHashes : List H) (targets : List U64) (proofHashes : List H) (remember : Bool) :
    PollardHeap.verify delHashes targets proofHashes remember p =
      (pollardVerify (BitVec.ofNat 64 F.numLeaves) F.roots delHashes targets proofHashes, p) := by
  have hN := a.numLeaves_eq
  unfold PollardHeap.verify
  simp only [bind_apply, getNumLeaves_apply, getRoots_abs a, hN]
  unfold liftOut
  cases pollardVerify (BitVec.ofNat 64 F.numLeaves) F.roots delHashes targets proofHashes <;> rfl

/-- the statement `Props.PollardHeap.queries_statement` with the three hypotheses it lacks:
`ph` never returns the all-zero hash, no live leaf is all-zero (`Prove` rejects all-zero proof
hashes), and the request is duplicate-free (`ProofPositions` pairs a duplicated right sibling
with itself) -/
theorem queries_partial (hph : ∀ a b : H, ph a b ≠ (zero : H)) (p : Pollard H) (F : Forest H)
    (a : Abs p F) (hroots : F.roots.Nodup) (hn : F.numLeaves < 2 ^ 63)
    (hnz : ∀ x ∈ F.liveLeaves, x ≠ (zero : H)) :
    (∀ h : H, getLeafPosition h p = (.ok (PollardAbs.pollardGetLeafPosition F h), p)) ∧
    (∀ hs : List H, (∀ h ∈ hs, h ∈ F.liveLeaves) → hs.Nodup → 1 < F.numLeaves → hs ≠ [] →
      ∃ ts ps, F.canon hs = some (ts, ps) ∧
        prove hs p = (.ok (ts.map (fun q => BitVec.ofNat 64 (enc F.rows q)), ps), p)) :=
  ⟨fun h => getLeafPosition_refines a hn hroots h,
   fun hs h1 h2 h3 h4 => prove_refines hph a hn hroots hnz hs h1 h2 h3 h4⟩

/-- **`undoSingleAdd`**: on a heap representing `G.add x` (up to missing empty roots — `AbsE`),
`undoSingleAdd` splits the merged lowest root back into the trees it was merged from
(`swapNieces`, `delNode`), removes the leaf and its `NodeMap` entry, decrements `NumLeaves`;
the result represents `G` up to the empty roots the addition had skipped (those are restored
by `undoEmptyRoots`) -/
theorem undoSingleAdd_refines {p : Pollard H} {G : Forest H} {x : H} (a : AbsE p (G.add x))
    (hn : G.numLeaves + 1 < 2 ^ 63) (hsep : ∀ e ∈ p.nodeMap, ∀ u v : H, e.1 ≠ ph u v) :
    ∃ hp' nm' rs', undoSingleAdd p =
        (.ok (), ⟨hp', nm', rs', BitVec.ofNat 64 G.numLeaves, p.numDels, p.full⟩) ∧
      AbsE ⟨hp', nm', rs', BitVec.ofNat 64 G.numLeaves, p.numDels, p.full⟩ G ∧
      (∀ e ∈ nm', e ∈ p.nodeMap) :=
  undoSingleAdd_absE a hn hsep

/-- **the first loop of `Undo`**: all `adds.length` additions undone -/
theorem undoAdds_refines (adds : List H) (G : Forest H) (p : Pollard H)
    (a : Abs p (G.addMany adds)) (hn : G.numLeaves + adds.length < 2 ^ 63)
    (hsep : ∀ e ∈ p.nodeMap, ∀ u v : H, e.1 ≠ ph u v) :
    ∃ hp' nm' rs', undoAdds adds.length p =
        (.ok (), ⟨hp', nm', rs', p.numLeaves - BitVec.ofNat 64 adds.length, p.numDels, p.full⟩) ∧
      AbsE ⟨hp', nm', rs', p.numLeaves - BitVec.ofNat 64 adds.length, p.numDels, p.full⟩ G ∧
      (∀ e ∈ nm', e ∈ p.nodeMap) :=
  undoAdds_absE adds.length adds G p rfl a.toAbsE hn hsep

/-- **`undoSingleDel`, branch "the original parent is not a root"** (one represented tree,
collapsed-tree level): the node at the non-empty child path `π1` carries `b` (it moved up when
its sibling died), `nd` is the root of a detached represented tree `a`; `getNode` of the parent
position returns that node.  `undoSingleDel` — `calculateParentHash`, allocation of the parent,
`transferAunt`, `transferNiece` (twice), `updateAunt` (three times), `hashToRoot` — succeeds and
the root represents the tree with `node a b` (resp. `node b a`) in place of `b`. -/
theorem undoSingleDel_aunt_refines {hp : Heap H} {nm : List (H × Nat)} {rs : List Nat} {nl ndl : U64}
    {full : Bool} {r : Nat} {t : CTree H} {fp : List Nat} {lv : List (H × Nat)} (π1 : List Bool)
    {b : CTree H} {nd : Nat} {a : CTree H} {fa : List Nat} {la : List (H × Nat)}
    (hR : RootRepr hp r t fp lv) (hRn : RootRepr hp nd a fa la)
    (ndp : (r :: fp ++ nd :: fa).Nodup) (hne : π1 ≠ [])
    (hpath : PollardAbs.childPath t π1 = some b) (pos : U64)
    (hget : ∀ B S, walkChild hp r r π1 = some (B, S) →
      ∃ par, getNode (Parent pos (TreeRows nl)) ⟨hp, nm, rs, nl, ndl, full⟩ =
        (.ok (some B, some S, par), ⟨hp, nm, rs, nl, ndl, full⟩)) :
    ∃ (hp' : Heap H) (ctx : CCtx H) (fp' : List Nat) (pre lb post : List (H × Nat)),
      t = ctx.plug b ∧ ctx.depth = π1.length ∧ lv = pre ++ lb ++ post ∧
      undoSingleDel nd pos ⟨hp, nm, rs, nl, ndl, full⟩ = (.ok (), ⟨hp', nm, rs, nl, ndl, full⟩) ∧
      RootRepr hp' r (ctx.plug (if isLeftNiece pos then .node a b else .node b a)) fp'
        (pre ++ (if isLeftNiece pos then la ++ lb else lb ++ la) ++ post) ∧
      fp'.Perm (hp.size :: nd :: (fa ++ fp)) ∧
      (∀ j, j ∉ r :: fp ++ nd :: fa → j ≠ hp.size → hp'[j]? = hp[j]?) ∧
      hp'.size = hp.size + 1 := by
  obtain ⟨ctx, B, S, fb, lb, fpc, l1, l2, hctx, subB, eplug, hperm, elv, hwalk, hdepth, _⟩ := RootRepr.zoom hR hpath
  obtain ⟨d, up, ts, rfl⟩ := CCtx.exists_cons (c := ctx) (by
    rintro rfl; exact hne (List.length_eq_zero_iff.mp hdepth.symm))
  obtain ⟨par, hget'⟩ := hget B S hwalk
  obtain ⟨hp', fp', g⟩ := undoSingleDel_hole hctx subB hRn hperm ndp pos par hget'
  exact ⟨hp', _, fp', l1, lb, l2, eplug, hdepth, elv, g⟩

/-- the rest of `Props.PollardHeap.undo_refines_statement` after `undoAdds_refines` (with the
hypotheses the deletion theorems need; refuted and repaired in `Props/PollardHeapC.lean`): from a
heap representing `F.delLeaves dels` up to missing empty roots
(the state `undoAdds_refines` reaches), `undoEmptyRoots` followed by `undoDels` yield a heap
representing `F` -/
def undo_rest_statement (H : Type) [DecidableEq H] [Hasher H] : Prop :=
  (∀ a b : H, ph a b ≠ (zero : H)) →
  ∀ (p : Pollard H) (F : Forest H) (dels : List H) (targets : List U64),
    AbsE p (F.delLeaves dels) → p.full = true → LeavesOK F → F.numLeaves < 2 ^ 63 →
    dels.Nodup → (∀ d ∈ dels, d ∈ F.liveLeaves) →
    targets = (dels.map (fun l => (F.posOf l).getD (0, 0))).map (E F.rows) →
    ∃ p'', (do undoEmptyRoots targets F.roots; undoDels targets dels) p = (.ok (), p'') ∧ Abs p'' F

namespace Example
open UtreexoVerif.Spec.NodesUniqueExample UtreexoVerif.Props.PollardHeap.Example

theorem abs5 : Abs p5 F5 := abs_of_check p5 F5 check5.1 check5.2.1 check5.2.2.1 check5.2.2.2.1

theorem live5 : F5.liveLeaves = [.atom 1, .atom 2, .atom 3, .atom 4, .atom 5] := by decide +kernel

theorem leavesOK5 : LeavesOK F5 := by
  intro x hx
  rw [live5] at hx
  simp only [List.mem_cons, List.not_mem_nil, or_false] at hx
  rcases hx with rfl | rfl | rfl | rfl | rfl <;>
    exact ⟨fun h => (by cases h), fun a b h => (by cases h)⟩

/-- the block of `Props.PollardHeap.Example` (delete leaves 1 and 4 of the five-leaf forest —
`deleteSingle` in both its branches — and add two leaves): `modify_refines` applies -/
example : ∃ p', PollardHeap.modify adds2 dels targets p5 = (.ok (), p') ∧
    Abs p' (F5.modify dels (adds2.map (·.1))) ∧ p'.full = true ∧
    p'.numDels = p5.numDels + BitVec.ofNat 64 targets.length ∧
    p'.numLeaves.toNat = F5.numLeaves + adds2.length :=
  modify_refines hphT p5 F5 dels dels targets adds2
    abs5
    check5.1
    leavesOK5
    (by decide +kernel) (by decide) (by decide +kernel) (List.Perm.refl _)
    (by
      have : dels.mapM F5.posOf = some [(0, 0), (0, 3)] := by decide +kernel
      intro ts h; rw [this] at h; cases h; decide +kernel)
    (by decide +kernel) (by decide) (by decide +kernel)

example : getLeafPosition (.atom 4) p5 = (.ok (PollardAbs.pollardGetLeafPosition F5 (.atom 4)), p5) :=
  getLeafPosition_refines abs5 (by decide +kernel) (by decide +kernel) _
example : PollardAbs.pollardGetLeafPosition F5 (.atom 4) = (3#64, true) := by decide +kernel
example : PollardAbs.pollardGetLeafPosition F5 (.atom 9) = (0#64, false) := by decide +kernel

example : ∃ ts ps, F5.canon [.atom 4, .atom 1] = some (ts, ps) ∧
    prove [.atom 4, .atom 1] p5 =
      (.ok (ts.map (fun q => BitVec.ofNat 64 (enc F5.rows q)), ps), p5) :=
  prove_refines hphT abs5 (by decide +kernel) (by decide +kernel)
    (fun x hx => (leavesOK5 x hx).1)
    _ (by rw [live5]; decide) (by decide) (by decide +kernel) (by simp)
example : F5.canon [.atom 4, .atom 1] = some ([(0, 3), (0, 0)], [.atom 2, .atom 3]) := by
  decide +kernel

/-- **`Props.PollardHeap.queries_statement` is false**: it does not ask the request to be
duplicate-free.  Asking twice for leaf 2 (a right sibling): the sorted targets are `[1, 1]`,
`ProofPositions` pairs the duplicate with itself (`rightSib(1) == 1`) and the sibling hash of
leaf 2 is missing from the proof `Prove` returns — the canonical proof contains it. -/
theorem queries_statement_false : ¬ Props.PollardHeap.queries_statement Term := by
  intro h
  obtain ⟨_, h2⟩ := h p5 F5 abs5 check5.1 (by rw [live5]; decide)
    (treesNZ_of_nonzero hphT (fun x hx => (leavesOK5 x hx).1) (by decide +kernel))
    (by decide +kernel) (by decide +kernel)
  obtain ⟨ts, ps, hc, hp⟩ := h2 [.atom 2, .atom 2] (by rw [live5]; decide) (by decide +kernel)
    (by simp)
  have e1 : F5.canon [.atom 2, .atom 2] =
      some ([(0, 1), (0, 1)], [.atom 1, .pair (.atom 3) (.atom 4)]) := by decide +kernel
  have e2 : (prove [Term.atom 2, .atom 2] p5).1 =
      .ok ([1#64, 1#64], [.pair (.atom 3) (.atom 4)]) := check5.2.2.2.2
  rw [e1] at hc
  injection hc with hc
  have hps : ps = [.atom 1, .pair (.atom 3) (.atom 4)] := (Prod.mk.inj hc).2.symm
  rw [hp] at e2
  injection e2 with e2
  have := (Prod.mk.inj e2).2
  rw [hps] at this
  exact absurd this (by decide)

/-- the first phase of `Undo` on the block of `Props.PollardHeap.Example`: `p6` represents
`(F5.delLeaves dels).addMany [6, 7]`; the two additions are undone -/
example : ∃ hp' nm' rs', undoAdds 2 p6 =
    (.ok (), ⟨hp', nm', rs', p6.numLeaves - BitVec.ofNat 64 2, p6.numDels, p6.full⟩) ∧
    AbsE ⟨hp', nm', rs', p6.numLeaves - BitVec.ofNat 64 2, p6.numDels, p6.full⟩ (F5.delLeaves dels) ∧
    (∀ e ∈ nm', e ∈ p6.nodeMap) :=
  undoAdds_refines [Term.atom 6, Term.atom 7] (F5.delLeaves dels) p6
    (show Abs p6 F6 from abs_of_check p6 F6 checkAll.2.1.1.2.1 checkAll.2.1.1.2.2.1 checkAll.2.1.1.2.2.2.1 checkAll.2.1.1.2.2.2.2.1)
    (by decide +kernel)
    (by
      have : p6.nodeMap.map (·.1) = [.atom 7, .atom 6, .atom 5, .atom 3, .atom 2] := checkAll.2.1.1.2.2.2.2.2
      intro e he u v h
      have hm : e.1 ∈ p6.nodeMap.map (·.1) := List.mem_map_of_mem he
      rw [this] at hm
      simp only [List.mem_cons, List.not_mem_nil, or_false] at hm
      rcases hm with h' | h' | h' | h' | h' <;> rw [h'] at h <;> cases h)

/-- five leaves, the fifth being the parent hash of the first two -/
def leavesC : List (Term × Bool) :=
  [(.atom 1, true), (.atom 2, true), (.atom 3, true), (.atom 4, true),
   (.pair (.atom 1) (.atom 2), true)]
def pC : Pollard Term := (PollardHeap.add leavesC newAccumulator).2
def FC : Forest Term := Forest.empty.addMany (leavesC.map (·.1))
def delsC : List Term := [.atom 1, .atom 2]
def targetsC : List U64 := [0#64, 1#64]
def pC' : Pollard Term := (PollardHeap.modify [] delsC targetsC pC).2

/-- the heap of `leavesC` is well formed; the block runs on it without error, but `NodeMap` has
lost the fifth leaf: `deleteSingle(8)` deleted the key `parentHash(leaf 1, leaf 2)` (one kernel
evaluation) -/
theorem checkC : (pC.full = true ∧ wfCheck pC = none ∧ pC.numLeaves.toNat = FC.numLeaves ∧
      absTrees pC = some FC.trees) ∧
    (PollardHeap.modify [] delsC targetsC pC).1 = .ok () ∧
    Term.pair (.atom 1) (.atom 2) ∉ pC'.nodeMap.map (·.1) := by decide +kernel

theorem absC : Abs pC FC := abs_of_check pC FC checkC.1.1 checkC.1.2.1 checkC.1.2.2.1 checkC.1.2.2.2

theorem prod_eta {α β : Type} (p : α × β) : p = (p.1, p.2) := by cases p; rfl

theorem runC : PollardHeap.modify [] delsC targetsC pC = (.ok (), pC') := by
  have h := prod_eta (PollardHeap.modify [] delsC targetsC pC)
  rw [h, checkC.2.1]
  unfold pC'
  rfl

/-- … and the fifth leaf is still live in the specification (and in the heap: it is the root of
the one-leaf tree) -/
theorem liveC : Term.pair (.atom 1) (.atom 2) ∈
    (FC.modify delsC (([] : List (Term × Bool)).map (·.1))).liveLeaves := by decide +kernel
/-- **`Props.PollardHeap.modify_refines_statement` is false**: without the hypothesis that no
live leaf is a parent hash, a valid block can make `Modify` drop an unrelated live leaf from
`NodeMap` (the same happens in the Go code, see DESIGN.md) -/
theorem modify_refines_statement_false : ¬ Props.PollardHeap.modify_refines_statement Term := by
  intro h
  have hliveC : FC.liveLeaves =
      [.atom 1, .atom 2, .atom 3, .atom 4, .pair (.atom 1) (.atom 2)] := by decide +kernel
  have h1 : pC.full = true := checkC.1.1
  have h2 : TreesNZ FC := treesNZ_of_nonzero hphT (by
      intro x hx
      rw [hliveC] at hx
      simp only [List.mem_cons, List.not_mem_nil, or_false] at hx
      rcases hx with rfl | rfl | rfl | rfl | rfl <;> exact fun h => (by cases h)) (by decide +kernel)
  have h3 : FC.numLeaves + ([] : List (Term × Bool)).length < 2 ^ 64 := by decide +kernel
  have h4 : delsC.Nodup := by decide
  have h5 : ∀ d ∈ delsC, d ∈ FC.liveLeaves := by rw [hliveC]; decide
  have h6 : ∀ ts, delsC.mapM FC.posOf = some ts →
      targetsC = ts.map (fun q => BitVec.ofNat 64 (enc FC.rows q)) := by
    have : delsC.mapM FC.posOf = some [(0, 0), (0, 1)] := by decide +kernel
    intro ts h; rw [this] at h; cases h; decide +kernel
  have h7 : (delsC.mapM FC.posOf).isSome = true := by decide +kernel
  have h8 : (([] : List (Term × Bool)).map (·.1)).Nodup := by decide
  have h9 : ∀ e ∈ ([] : List (Term × Bool)), e.1 ∉ FC.liveLeaves ∧ e.1 ≠ zero := by simp
  obtain ⟨p', e, a, _⟩ := h hphT pC FC delsC targetsC [] absC h1 h2 h3 h4 h5 h6 h7 h8 h9
  have e' : p' = pC' := by
    have := e.symm.trans runC
    exact (Prod.mk.inj this).2
  rw [e'] at a
  exact checkC.2.2 (((a.keys_iff (by decide +kernel)).2.2 _).2 liveC)

end Example

end UtreexoVerif.Props.PollardHeapB
