/-
  Property C13 for the pointer forest ON THE HEAP: `Pollard.WriteTo` and `RestorePollardFrom`
  of the heap model (`Model/PollardHeapSerial.lean`: `writeToH`, `restoreH`, compared byte for byte
  with the Go code by the driver, kinds `ph:ser:*`) refine the shape-level wire format of
  `Props/C13.lean`, and a restored heap REPRESENTS the forest that was written — the clause
  "a restored instance behaves identically" is a theorem here, not only a correspondence run.

  Scope: the heap model keys `NodeMap` by the full hash, Go by its first 12 bytes; `restoreH_refines`
  therefore assumes `NoMiniCollision`, and without it the two decoders can disagree
  (`Example.restoreH_agrees_statement_false`).  An arbitrary accepted stream need not carry
  consistent parent hashes (`RestorePollardFrom` does not check them), so in general only the
  structural `ShapeOf` follows; `WF`/`Abs` follow for a valid stream (`restoreH_roundtrip`).

  `readOne` leaves `remember = false` on every node while `add` sets it; neither `WF` nor `Abs`
  mentions `remember`, and the refinement theorems are proved from `Abs` and `full = true` alone, so
  they apply to restored heaps verbatim.
-/
import UtreexoVerif.Proofs.PollardHeapRestoreAny
import UtreexoVerif.Proofs.PollardHeapWrite
import UtreexoVerif.Props.PollardHeapC
import UtreexoVerif.Props.C13
set_option linter.unusedSectionVars false

namespace UtreexoVerif.Props.C13Heap
open UtreexoVerif.Model UtreexoVerif.Model.PollardHeap UtreexoVerif.Spec Hasher
open UtreexoVerif.Model.Serial UtreexoVerif.Proofs.PollardHeap UtreexoVerif.Proofs.PollardHeapSerial

variable {H : Type} [DecidableEq H] [Hasher H] [HashBytes H]

/-- the one field `WriteTo` writes that `Abs` does not constrain: `NumDels` is the number of
dead slots (kept by `Modify`: `delsOK_modify`; established by `RestorePollardFrom`) -/
def DelsOK (p : Pollard H) (F : Forest H) : Prop := p.numDels = BitVec.ofNat 64 (numDead F)

/-- **the representation relation for an arbitrary restored state**: heap `p` carries the
shape-level state `st` — `NumLeaves`/`NumDels` equal, `full`, the roots (no aunt) carry the
`PNode`s in their niece pointers with aunt pointers pointing back and `remember = false`
everywhere (`PRoots`/`PShape`), the heap holds exactly these nodes, each once, and `NodeMap` is
`st.nodeMap` as a key → node map: distinct keys, the keys are the hashes `st.nodeMap` maps to
(the heap model prepends new keys, the shape model appends them), every entry points at a node
of the forest that carries the key's hash -/
structure ShapeOf (p : Pollard H) (st : PState H) : Prop where
  numLeaves : p.numLeaves = st.numLeaves
  numDels : p.numDels = st.numDels
  full : p.full = true
  roots : ∃ owned, PRoots p.heap p.roots st.roots owned ∧ owned.Nodup ∧ owned.length = p.heap.size ∧
    ∀ e ∈ p.nodeMap, e.2 ∈ owned ∧ ∃ x, p.heap[e.2]? = some x ∧ x.data = e.1
  keys : p.nodeMap.map (·.1) = (st.nodeMap.map (·.2)).reverse
  keysNodup : (p.nodeMap.map (·.1)).Nodup

/-- no two records the stream enters into `NodeMap` (leaf flag set, data not all-zero — the
records `leafRecs` of the parse `restoreL`) collide: they share their 12-byte key exactly when
they are the same hash.  (Go keys `NodeMap` by the 12-byte prefix, the heap model by the full
hash; the model is faithful on such streams only.) -/
def NoMiniCollision (H : Type) [DecidableEq H] [Hasher H] [HashBytes H] (r : Reader) : Prop :=
  ∀ n nl nd ts, restoreL r = ⟨n, .ok (nl, nd, ts)⟩ →
    ∀ a ∈ ts.flatMap (leafRecs H), ∀ b ∈ ts.flatMap (leafRecs H),
      (a.take 12 = b.take 12 ↔ (ofBytes a : H) = ofBytes b)

/-- **`WriteTo` on the heap refines the shape-level writer**: same count, same outcome, same
sink, for every sink -/
theorem writeToH_refines {p : Pollard H} {F : Forest H} (a : Abs p F) (hd : DelsOK p F) (w : Sink) :
    writeToH p w = writeTo (PState.ofForest F) w :=
  writeToH_abs a hd w

/-- a writer with enough room receives exactly `encodePollard F`, the count is its length -/
theorem writeToH_sink_ok (ok : Proofs.Serial.HashBytesOK H) {p : Pollard H} {F : Forest H}
    (a : Abs p F) (hd : DelsOK p F) (k : Nat) (hk : (encodePollard F).length ≤ k) :
    writeToH p ⟨[], k⟩ =
      (⟨(encodePollard F).length, .ok ()⟩, ⟨encodePollard F, k - (encodePollard F).length⟩) := by
  rw [writeToH_refines a hd]; exact Props.C13.pollard_sink_ok ok F k hk

/-- a writer that fails after `k` bytes, `k` below the length: an error, count ≤ `k` -/
theorem writeToH_sink_fail (ok : Proofs.Serial.HashBytesOK H) {p : Pollard H} {F : Forest H}
    (a : Abs p F) (hd : DelsOK p F) (k : Nat) (hk : k < (encodePollard F).length) :
    (writeToH p ⟨[], k⟩).1.out = .err ∧ (writeToH p ⟨[], k⟩).1.n ≤ k := by
  rw [writeToH_refines a hd]; exact Props.C13.pollard_sink_fail ok F k hk

/-- the number of dead slots is a function of the leaf count and the collapsed trees -/
theorem numDead_equiv {F G : Forest H} (e : Spec.Equiv F G) (hn : F.numLeaves < 2 ^ 64) :
    numDead F = numDead G := by
  have h1 := Proofs.Serial.live_dead_count F
  have h2 := Proofs.Serial.live_dead_count G
  have h3 := Spec.trees_leaves F hn
  have h4 := Spec.trees_leaves G (by rw [← e.numLeaves]; exact hn)
  rw [e.trees, h4] at h3
  rw [← h3, e.numLeaves] at h1
  omega

/-- **the stream does not depend on the representative**: `Abs` determines `F` up to
`Spec.Equiv` only, and equivalent forests are written to the same bytes -/
theorem encodePollard_equiv {F G : Forest H} (e : Spec.Equiv F G) (hn : F.numLeaves < 2 ^ 64) :
    encodePollard F = encodePollard G := by
  unfold encodePollard
  rw [e.numLeaves, e.trees, numDead_equiv e hn]

/-- the byte count is the same on the heap and on the shapes — every stream, every chunking -/
theorem restoreH_count (r : Reader) : (restoreH (H := H) r).n = (restorePollard (H := H) r).n := by
  rw [restoreH_eq, restorePollard_eq]
  rcases restoreL r with ⟨n, o⟩
  cases o with
  | ok x =>
    obtain ⟨nl, nd, ts⟩ := x
    simp only []
    split <;> split <;> rfl
  | _ => rfl

/-- `RestorePollardFrom` on the heap, any stream through any chunking: never a panic, always returns
(from `restoreL_total`, the totality of the shared parser; `pollard_total` is the same fact one level up) -/
theorem restoreH_total (r : Reader) :
    (restoreH (H := H) r).out ≠ .panic ∧ (restoreH (H := H) r).out ≠ .hang :=
  Proofs.PollardHeapSerial.restoreH_total r

/-- a stream that cannot be parsed (short header, short record) fails alike on both levels -/
theorem restoreH_parse_fail (r : Reader) (h : ∀ x, (restoreL r).out ≠ .ok x) :
    restoreH (H := H) r = ⟨(restoreL r).n, .err⟩ ∧ restorePollard (H := H) r = ⟨(restoreL r).n, .err⟩ := by
  have ht := restoreL_total r
  rw [restoreH_eq, restorePollard_eq]
  rcases hy : restoreL r with ⟨n, o⟩
  rw [hy] at h ht
  cases o with
  | ok x => exact absurd rfl (h x)
  | err => exact ⟨rfl, rfl⟩
  | panic => exact absurd rfl ht.2
  | hang => exact absurd rfl ht.1

/-- **chunking independence of the heap-level decoder**: the whole result — count, outcome kind and
the heap built — depends on the concatenation of the chunks only (the parse does, `restoreL_chunking`,
and `restoreH` is the parse followed by the builder) -/
theorem restoreH_chunking (r1 r2 : Reader) (h : r1.data = r2.data) :
    restoreH (H := H) r1 = restoreH (H := H) r2 := by
  rw [Proofs.PollardHeapSerial.restoreH_eq, Proofs.PollardHeapSerial.restoreH_eq,
    Proofs.PollardHeapSerial.restoreL_chunking r1 r2 h]

/-- the count of `restoreH_chunking` -/
theorem restoreH_chunking_count (r1 r2 : Reader) (h : r1.data = r2.data) :
    (restoreH (H := H) r1).n = (restoreH (H := H) r2).n := by
  rw [restoreH_chunking r1 r2 h]

/-- **`RestorePollardFrom` on the heap refines the shape-level decoder** on every stream whose
`NodeMap` records do not collide: same count, same outcome kind, and a shape-level result `st`
comes with a heap-level result carrying `st` -/
theorem restoreH_refines (r : Reader) (hnc : NoMiniCollision H r) :
    (restoreH (H := H) r).n = (restorePollard (H := H) r).n ∧
    (restoreH (H := H) r).out.tag = (restorePollard (H := H) r).out.tag ∧
    ∀ n st, restorePollard (H := H) r = ⟨n, .ok st⟩ →
      ∃ p', restoreH (H := H) r = ⟨n, .ok p'⟩ ∧ ShapeOf p' st := by
  refine ⟨restoreH_count r, ?_⟩
  rw [restoreH_eq, restorePollard_eq]
  rcases hy : restoreL r with ⟨n, o⟩
  cases o with
  | ok x =>
    obtain ⟨nl, nd, ts⟩ := x
    have hcol := hnc n nl nd ts hy
    obtain ⟨s1, s2, s3, owned, ents, s4, s5, s6, s7, s8, s9, s10⟩ := buildAll_shape (H := H) nl nd ts
    have hkeys : (buildAll (H := H) nl nd ts).nodeMap.map (·.1) =
        ((putLs ([] : NodeMap H) ts).map (·.2)).reverse := by
      rw [s7]
      exact maps_agree (ts.flatMap (leafRecs H)) hcol (ts.flatMap (leafRecs H)) ents [] [] s8
        (fun a ha => ha) rfl (by simp)
    have hlen : (buildAll (H := H) nl nd ts).nodeMap.length = (putLs ([] : NodeMap H) ts).length := by
      have := congrArg List.length hkeys
      simpa using this
    simp only [s1, s2, hlen]
    by_cases hs : ((putLs ([] : NodeMap H) ts).length : Int) = (nl - nd).toInt
    · simp only [hs, ne_eq, not_true_eq_false, if_false, bne_self_eq_false, Bool.false_eq_true]
      refine ⟨rfl, ?_⟩
      intro n' st hst
      simp only [Res.mk.injEq, Out.ok.injEq] at hst
      obtain ⟨rfl, rfl⟩ := hst
      exact ⟨_, rfl, ⟨s1, s2, s3, ⟨owned, s4, s5, s6, s10⟩, hkeys, s9⟩⟩
    · have hb : (((putLs ([] : NodeMap H) ts).length : Int) != (nl - nd).toInt) = true := by
        simpa using hs
      simp only [hb, if_true, ne_eq, hs, not_false_eq_true]
      refine ⟨rfl, ?_⟩
      intro n' st hst
      simp at hst
  | err => exact ⟨rfl, fun n' st hst => by simp [failAs] at hst⟩
  | panic => exact ⟨rfl, fun n' st hst => by simp [failAs] at hst⟩
  | hang => exact ⟨rfl, fun n' st hst => by simp [failAs] at hst⟩

/-- what `leafRecs` means, in terms of the shape-level decoder alone: when `restorePollard`
accepts a stream, the parse succeeds with the same count, header and shapes, and the decoder's
`NodeMap` is the result of `NodeMap[rec[:12]] = ofBytes rec` for exactly the records `leafRecs`
of the parse, in stream order -/
theorem restorePollard_leafRecs (r : Reader) (n : Nat) (st : PState H)
    (h : restorePollard (H := H) r = ⟨n, .ok st⟩) :
    ∃ ts, restoreL r = ⟨n, .ok (st.numLeaves, st.numDels, ts)⟩ ∧ st.roots = ts.map LNode.erase ∧
      st.nodeMap = putRecs [] (ts.flatMap (leafRecs H)) := by
  rw [restorePollard_eq] at h
  rcases hy : restoreL r with ⟨n', o⟩
  rw [hy] at h
  cases o with
  | ok x =>
    obtain ⟨nl, nd, ts⟩ := x
    simp only [] at h
    split at h
    · simp at h
    · simp only [Res.mk.injEq, Out.ok.injEq] at h
      obtain ⟨rfl, rfl⟩ := h
      exact ⟨ts, rfl, rfl, rfl⟩
  | err => simp [failAs] at h
  | panic => simp [failAs] at h
  | hang => simp [failAs] at h

/-- the full statement WITHOUT the collision hypothesis: the two decoders always agree on the
outcome kind.  It is FALSE (`Example.restoreH_agrees_statement_false`): the heap model keys
`NodeMap` by the full hash, Go and the shape model by its first 12 bytes, so a stream with two
leaf records that share 12 bytes and differ later passes the sanity check of the heap model
and fails the one of the shape model (and of Go) — the documented scope limit of
`Model/PollardHeap.lean`, not a defect of the Go code.  `restoreH_refines` is this statement
with exactly the hypothesis `NoMiniCollision` added. -/
def restoreH_agrees_statement (H : Type) [DecidableEq H] [Hasher H] [HashBytes H] : Prop :=
  ∀ r : Reader, (restoreH (H := H) r).out.tag = (restorePollard (H := H) r).out.tag

theorem restoreH_agrees_partial (r : Reader) (hnc : NoMiniCollision H r) :
    (restoreH (H := H) r).out.tag = (restorePollard (H := H) r).out.tag :=
  (restoreH_refines r hnc).2.1

/-- a valid stream has no colliding records (the hypothesis of `restoreH_refines` is the
hypothesis `LeavesOK` of C13 there) -/
theorem noMiniCollision_encode (ok : Proofs.Serial.HashBytesOK H) (F : Forest H)
    (hF : Proofs.Serial.LeavesOK F) (r : Reader) (hd : r.data = encodePollard F) :
    NoMiniCollision H r := by
  intro n nl nd ts h
  have hsmall := hF.small
  rw [restoreL_encode ok F (Nat.lt_trans hsmall (by decide)) r hd] at h
  simp only [Res.mk.injEq, Out.ok.injEq, Prod.mk.injEq] at h
  obtain ⟨_, _, _, rfl⟩ := h
  exact no_collision_encode ok F hF

/-- **round trip on the heap**: the bytes `WriteTo` produces for `F`, through ANY chunking, are
restored — count = length of the stream — to a full pollard that REPRESENTS `F`, is well
formed, and whose `NumDels` is the number of dead slots -/
theorem restoreH_roundtrip (ok : Proofs.Serial.HashBytesOK H) (F : Forest H)
    (hF : Proofs.Serial.LeavesOK F) (r : Reader) (hd : r.data = encodePollard F) :
    ∃ p', restoreH r = ⟨(encodePollard F).length, .ok p'⟩ ∧ Abs p' F ∧ WF p' ∧ p'.full = true ∧
      DelsOK p' F := by
  obtain ⟨p', h1, h2, h3, h4⟩ := restoreH_encode ok F hF r hd
  exact ⟨p', h1, h2, h2.wf, h3, h4⟩

/-- … and that heap carries the shape `PState.ofForest F` the shape-level decoder returns -/
theorem restoreH_roundtrip_shape (ok : Proofs.Serial.HashBytesOK H) (F : Forest H)
    (hF : Proofs.Serial.LeavesOK F) (r : Reader) (hd : r.data = encodePollard F) :
    ∃ p', restoreH r = ⟨(encodePollard F).length, .ok p'⟩ ∧ ShapeOf p' (PState.ofForest F) ∧ Abs p' F := by
  obtain ⟨p', h1, h2, _⟩ := restoreH_encode ok F hF r hd
  obtain ⟨p'', g1, g2⟩ := (restoreH_refines r (noMiniCollision_encode ok F hF r hd)).2.2 _ _
    (Props.C13.pollard_roundtrip ok F hF r hd)
  rw [h1] at g1
  simp only [Res.mk.injEq, Out.ok.injEq, true_and] at g1
  subst g1
  exact ⟨p', h1, g2, h2⟩

/-- **truncation** (`pollard_prefix` transported): restoring on the heap from a strict prefix of a
valid stream, through any chunking, is an error — never a panic, never a heap — and the count
does not exceed the bytes present -/
theorem restoreH_prefix (ok : Proofs.Serial.HashBytesOK H) (F : Forest H) (hn : F.numLeaves < 2 ^ 64)
    (r : Reader) (t : Nat) (ht : t < (encodePollard F).length) (hd : r.data = (encodePollard F).take t) :
    (restoreH (H := H) r).out = .err ∧ (restoreH (H := H) r).n ≤ t := by
  obtain ⟨h1, h2⟩ := restoreL_prefix ok F hn r t ht hd
  obtain ⟨e, _⟩ := restoreH_parse_fail (H := H) r (by rw [h1]; intro x; simp)
  rw [e]; exact ⟨rfl, h2⟩

/-- **what was written is restored to a heap representing the same forest.**  If `WriteTo` on a
heap representing `F` succeeds into a sink (`len` bytes reported, `bytes` received), then
`RestorePollardFrom` on ANY reader delivering `bytes` returns `len` and a well-formed full pollard
that represents `F` (and can be written again: `DelsOK`). -/
theorem restore_write_behaves_identically (ok : Proofs.Serial.HashBytesOK H) {p : Pollard H} {F : Forest H}
    (a : Abs p F) (hd : DelsOK p F) (hF : Proofs.Serial.LeavesOK F) (k len room : Nat) (bytes : List Byte)
    (hw : writeToH p ⟨[], k⟩ = (⟨len, .ok ()⟩, ⟨bytes, room⟩)) :
    ∀ r : Reader, r.data = bytes →
      ∃ p', restoreH r = ⟨len, .ok p'⟩ ∧ Abs p' F ∧ WF p' ∧ p'.full = true ∧ DelsOK p' F := by
  intro r hr
  by_cases hk : (encodePollard F).length ≤ k
  · rw [writeToH_sink_ok ok a hd k hk] at hw
    simp only [Prod.mk.injEq, Res.mk.injEq, Sink.mk.injEq, and_true] at hw
    obtain ⟨rfl, rfl, _⟩ := hw
    exact restoreH_roundtrip ok F hF r hr
  · have := (writeToH_sink_fail ok a hd k (Nat.lt_of_not_le hk)).1
    rw [hw] at this
    simp at this

/-- `Modify` keeps `NumDels` = number of dead slots -/
theorem delsOK_modify (hph : ∀ a b : H, ph a b ≠ (zero : H)) (p : Pollard H) (F : Forest H)
    (dels dels' : List H) (targets : List U64) (adds : List (H × Bool))
    (hA : Abs p F) (hd : DelsOK p F) (hfull : p.full = true) (hok : Proofs.PollardHeap.LeavesOK F)
    (hn : F.numLeaves + adds.length < 2 ^ 63)
    (hnd : dels.Nodup) (hlive : ∀ d ∈ dels, d ∈ F.liveLeaves) (hperm : dels'.Perm dels)
    (htargets : ∀ ts, dels'.mapM F.posOf = some ts →
      targets = ts.map (fun q => BitVec.ofNat 64 (enc F.rows q)))
    (hpos : (dels'.mapM F.posOf).isSome)
    (hadd : (adds.map (·.1)).Nodup) (hfresh : ∀ e ∈ adds, e.1 ∉ F.liveLeaves ∧ e.1 ≠ zero) :
    ∃ p', PollardHeap.modify adds dels targets p = (.ok (), p') ∧
      Abs p' (F.modify dels (adds.map (·.1))) ∧ p'.full = true ∧
      DelsOK p' (F.modify dels (adds.map (·.1))) := by
  obtain ⟨p', h1, h2, h3, h4, _⟩ := Props.PollardHeapB.modify_refines hph p F dels dels' targets adds hA hfull hok hn
    hnd hlive hperm htargets hpos hadd hfresh
  refine ⟨p', h1, h2, h3, ?_⟩
  obtain ⟨ts, hts⟩ := Option.isSome_iff_exists.1 hpos
  have e1 := Props.PollardHeapB.mapM_posOf dels' ts hts
  have e2 := htargets ts hts
  have hlen : targets.length = dels.length := by rw [e2, e1]; simp [hperm.length_eq]
  have hlnd : F.liveLeaves.Nodup := Props.PollardHeapC.abs_liveLeaves_nodup hA
    (Nat.lt_trans (Nat.lt_of_le_of_lt (Nat.le_add_right _ _) hn) (by decide))
  have hdead := Proofs.Serial.numDead_modify F dels (adds.map (·.1)) hlnd hnd hlive
  unfold DelsOK at hd ⊢
  rw [h4, hd, hlen, hdead]
  apply BitVec.eq_of_toNat_eq
  simp [BitVec.toNat_add, BitVec.toNat_ofNat]

/-- **the restored heap behaves like the original under the same block**: for a valid block
(distinct live deletions with their positions as targets in any order, distinct fresh non-zero
additions), `Modify` on the heap `p` that was written and on ANY heap `p'` restored from the
written bytes both succeed, and both results represent `F.modify dels adds` (and can be written
again) -/
theorem restored_modify_agrees (ok : Proofs.Serial.HashBytesOK H) (hph : ∀ a b : H, ph a b ≠ (zero : H))
    {p : Pollard H} {F : Forest H}
    (a : Abs p F) (hd : DelsOK p F) (hfull : p.full = true)
    (hF : Proofs.Serial.LeavesOK F) (hok : Proofs.PollardHeap.LeavesOK F)
    (k len room : Nat) (bytes : List Byte)
    (hw : writeToH p ⟨[], k⟩ = (⟨len, .ok ()⟩, ⟨bytes, room⟩)) (r : Reader) (hr : r.data = bytes)
    (dels dels' : List H) (targets : List U64) (adds : List (H × Bool))
    (hn : F.numLeaves + adds.length < 2 ^ 63)
    (hnd : dels.Nodup) (hlive : ∀ d ∈ dels, d ∈ F.liveLeaves) (hperm : dels'.Perm dels)
    (htargets : ∀ ts, dels'.mapM F.posOf = some ts →
      targets = ts.map (fun q => BitVec.ofNat 64 (enc F.rows q)))
    (hpos : (dels'.mapM F.posOf).isSome)
    (hadd : (adds.map (·.1)).Nodup) (hfresh : ∀ e ∈ adds, e.1 ∉ F.liveLeaves ∧ e.1 ≠ zero) :
    ∃ p' q q', restoreH r = ⟨len, .ok p'⟩ ∧
      PollardHeap.modify adds dels targets p = (.ok (), q) ∧
      PollardHeap.modify adds dels targets p' = (.ok (), q') ∧
      Abs q (F.modify dels (adds.map (·.1))) ∧ Abs q' (F.modify dels (adds.map (·.1))) ∧
      q.full = true ∧ q'.full = true ∧
      DelsOK q (F.modify dels (adds.map (·.1))) ∧ DelsOK q' (F.modify dels (adds.map (·.1))) := by
  obtain ⟨p', h1, a', _, hfull', hd'⟩ := restore_write_behaves_identically ok a hd hF k len room bytes hw r hr
  obtain ⟨q, m1, m2, m3, m4⟩ := delsOK_modify hph p F dels dels' targets adds a hd hfull hok hn hnd hlive
    hperm htargets hpos hadd hfresh
  obtain ⟨q', n1, n2, n3, n4⟩ := delsOK_modify hph p' F dels dels' targets adds a' hd' hfull' hok hn hnd hlive
    hperm htargets hpos hadd hfresh
  exact ⟨p', q, q', h1, m1, n1, m2, n2, m3, n3, m4, n4⟩

/-- two heaps representing the same forest (with `NumDels` right) are written to the same bytes,
with the same count and outcome, into every sink -/
theorem writeToH_same {p q : Pollard H} {F : Forest H} (a : Abs p F) (b : Abs q F)
    (hp : DelsOK p F) (hq : DelsOK q F) (w : Sink) : writeToH p w = writeToH q w := by
  rw [writeToH_refines a hp, writeToH_refines b hq]

/-- **every observable of the restored heap is that of the original**: on a heap `p` representing
`F` and on any heap `p'` representing `F` too (in particular one restored from what `p` wrote),
`GetRoots`, `GetHash` (every position), `GetLeafPosition` (every hash), `Prove` (every duplicate-free
request of live leaves) and `Verify` return the same — the answers of the specification forest -/
theorem restored_queries_agree (hph : ∀ a b : H, ph a b ≠ (zero : H)) {p p' : Pollard H} {F : Forest H}
    (a : Abs p F) (a' : Abs p' F) (hn : F.numLeaves < 2 ^ 63)
    (hnz : ∀ x ∈ F.liveLeaves, x ≠ (zero : H)) :
    (getRootHashes p = (.ok F.roots, p) ∧ getRootHashes p' = (.ok F.roots, p')) ∧
    (∀ pos : U64, getHash pos p = (.ok (PollardAbs.pollardGetHashNiece F pos), p) ∧
      getHash pos p' = (.ok (PollardAbs.pollardGetHashNiece F pos), p')) ∧
    (F.roots.Nodup → ∀ h : H,
      getLeafPosition h p = (.ok (PollardAbs.pollardGetLeafPosition F h), p) ∧
      getLeafPosition h p' = (.ok (PollardAbs.pollardGetLeafPosition F h), p')) ∧
    (F.roots.Nodup → ∀ hs : List H, (∀ h ∈ hs, h ∈ F.liveLeaves) → hs.Nodup → 1 < F.numLeaves →
      hs ≠ [] → ∃ ts ps, F.canon hs = some (ts, ps) ∧
        prove hs p = (.ok (ts.map (fun q => BitVec.ofNat 64 (enc F.rows q)), ps), p) ∧
        prove hs p' = (.ok (ts.map (fun q => BitVec.ofNat 64 (enc F.rows q)), ps), p')) ∧
    (∀ (delHashes : List H) (targets : List U64) (proofHashes : List H) (rem : Bool),
      (PollardHeap.verify delHashes targets proofHashes rem p).1 =
        (PollardHeap.verify delHashes targets proofHashes rem p').1) := by
  obtain ⟨q1, q2, q3, q4⟩ := Props.PollardHeapC.queries_agree hph a a' hn hnz
  refine ⟨q1, q2, fun hr => q3 (.of_nodup hr), fun hr => q4 (.of_nodup hr), fun dh tg phs rem => ?_⟩
  rw [(Props.PollardHeapC.abs_queries hph a hn hnz).2.2.2.2, (Props.PollardHeapC.abs_queries hph a' hn hnz).2.2.2.2]

/-- after the same valid block the two results are again written to the same bytes -/
theorem restored_modify_writes_same {q q' : Pollard H} {G : Forest H} (b : Abs q G) (b' : Abs q' G)
    (hq : DelsOK q G) (hq' : DelsOK q' G) (w : Sink) : writeToH q w = writeToH q' w :=
  writeToH_same b b' hq hq' w

namespace Example

/-- a toy hash type with a 32-byte wire form: one byte padded with zeros; parent hashes have the
top bit set (so they are never all-zero and never a leaf with the top bit clear) -/
structure Hx where
  v : U8
deriving DecidableEq, Repr

instance : Hasher Hx := ⟨fun a b => ⟨(a.v * 31#8 + b.v) ||| 0x80#8⟩, ⟨0#8⟩⟩
instance : HashBytes Hx := ⟨fun h => h.v :: List.replicate 31 0#8, fun bs => ⟨bs.headD 0#8⟩⟩

theorem okHx : Proofs.Serial.HashBytesOK Hx :=
  ⟨fun _ => by simp [toBytes], fun h => by cases h; simp [toBytes, ofBytes]⟩

theorem ph_top (u v : Hx) : (ph u v).v.getLsbD 7 = true := by
  show ((u.v * 31#8 + v.v) ||| 0x80#8).getLsbD 7 = true
  simp

theorem hphHx : ∀ a b : Hx, ph a b ≠ (zero : Hx) := by
  intro a b h
  have := ph_top a b
  rw [h] at this
  revert this
  decide

theorem low_not_ph (x : Hx) (hx : x.v.getLsbD 7 = false) (u v : Hx) : x ≠ ph u v := by
  intro h
  have := ph_top u v
  rw [← h, hx] at this
  cases this

def leaves5 : List (Hx × Bool) :=
  [(⟨1#8⟩, true), (⟨2#8⟩, false), (⟨3#8⟩, true), (⟨4#8⟩, true), (⟨5#8⟩, false)]

/-- five additions on `NewAccumulator()`, then a block deleting leaf `2` (position 1): by
evaluation of the heap model -/
def p0 : Pollard Hx := (PollardHeap.add leaves5 newAccumulator).2
def p : Pollard Hx := (PollardHeap.modify [] [⟨2#8⟩] [1#64] p0).2

/-- five slots, one dead: trees `[1 · 3 4]` (leaf 1 moved up) and `[5]` -/
def F : Forest Hx := ⟨[some ⟨1#8⟩, none, some ⟨3#8⟩, some ⟨4#8⟩, some ⟨5#8⟩]⟩

theorem liveF : F.liveLeaves = [⟨1#8⟩, ⟨3#8⟩, ⟨4#8⟩, ⟨5#8⟩] := by decide

/-- one run of the model for all the facts about `p` -/
theorem p_eval : (p.full = true ∧ wfCheck p = none ∧ p.numLeaves.toNat = F.numLeaves ∧
    absTrees p = some F.trees ∧ p.numDels = BitVec.ofNat 64 (numDead F)) ∧
    (p.heap.size = 8 ∧ p.heap.toList.map (·.remember) = List.replicate 8 true) ∧
    ((writeToH p ⟨[], 1000⟩).1.n = 220 ∧ (writeToH p ⟨[], 1000⟩).1.out = .ok () ∧
      (writeToH p ⟨[], 1000⟩).2.written = encodePollard F ∧ (writeToH p ⟨[], 1000⟩).2.room = 780) := by decide +kernel
/-- the hypotheses of the theorems are satisfiable: `p` represents `F`, its `NumDels` is right,
it is full, and `F` satisfies both leaf conditions -/
theorem abs_p : Abs p F :=
  Props.PollardHeap.abs_of_check p F p_eval.1.1 p_eval.1.2.1 p_eval.1.2.2.1 p_eval.1.2.2.2.1
theorem delsOK_p : DelsOK p F := p_eval.1.2.2.2.2
theorem full_p : p.full = true := p_eval.1.1
theorem leavesOK_ser : Proofs.Serial.LeavesOK F := ⟨by decide, by decide, by decide⟩
theorem leavesOK_ph : Proofs.PollardHeap.LeavesOK F := by
  intro x hx
  rw [liveF] at hx
  simp only [List.mem_cons, List.not_mem_nil, or_false] at hx
  rcases hx with rfl | rfl | rfl | rfl <;> exact ⟨by decide, low_not_ph _ (by decide)⟩

theorem len_enc : (encodePollard F).length = 220 := by decide +kernel
/-- write refines, on the instance: 6 nodes, 220 bytes -/
theorem write_p : writeToH p ⟨[], 1000⟩ = (⟨220, .ok ()⟩, ⟨encodePollard F, 780⟩) := by
  have h := writeToH_sink_ok okHx abs_p delsOK_p 1000 (by rw [len_enc]; decide)
  rw [len_enc] at h; exact h
/-- … and by evaluation of the heap model alone -/
example : (writeToH p ⟨[], 1000⟩).1.n = 220 ∧ (writeToH p ⟨[], 1000⟩).1.out = .ok () ∧
    (writeToH p ⟨[], 1000⟩).2.written = encodePollard F ∧ (writeToH p ⟨[], 1000⟩).2.room = 780 :=
  p_eval.2.2
/-- a sink with room for 100 bytes: an error, at most 100 bytes reported -/
example : (writeToH p ⟨[], 100⟩).1.out = .err ∧ (writeToH p ⟨[], 100⟩).1.n ≤ 100 :=
  writeToH_sink_fail okHx abs_p delsOK_p 100 (by rw [len_enc]; decide)

/-- the reader that hands out the written bytes one at a time, `io.EOF` with the last one -/
def rd1 : Reader := ⟨(encodePollard F).map ([·]), true⟩
theorem rd1_data : rd1.data = encodePollard F := by simp [rd1, Reader.data, Props.C13.Example.flatten_singletons]

/-- restore refines, on the instance: the restored heap represents `F` -/
example : ∃ p', restoreH rd1 = ⟨220, .ok p'⟩ ∧ Abs p' F ∧ WF p' ∧ p'.full = true ∧ DelsOK p' F := by
  have h := restoreH_roundtrip okHx F leavesOK_ser rd1 rd1_data
  rw [len_enc] at h; exact h

/-- the restored heap, by evaluation of the heap model -/
def pr : Pollard Hx :=
  match restoreH (H := Hx) rd1 with
  | ⟨_, .ok q⟩ => q
  | _ => newAccumulator

/-- one run of the decoder for all the facts about `pr` -/
theorem pr_eval : (restoreH (H := Hx) rd1).n = 220 ∧ wfCheck pr = none ∧ absTrees pr = some F.trees ∧
    pr.heap.size = 6 ∧ pr.heap.toList.map (·.remember) = List.replicate 6 false := by decide +kernel

example : (restoreH (H := Hx) rd1).n = 220 := pr_eval.1
example : wfCheck pr = none := pr_eval.2.1
example : absTrees pr = some F.trees := pr_eval.2.2.1
/-- it is NOT the heap that was written: 6 nodes instead of 8 (the two nodes `Modify` unlinked are
gone), `remember = false` everywhere instead of `true` — and it represents the same forest -/
example : pr.heap.size = 6 ∧ p.heap.size = 8 := ⟨pr_eval.2.2.2.1, p_eval.2.1.1⟩
example : pr.heap.toList.map (·.remember) = List.replicate 6 false ∧
    p.heap.toList.map (·.remember) = List.replicate 8 true := ⟨pr_eval.2.2.2.2, p_eval.2.1.2⟩

/-- a strict prefix ending at a node boundary is rejected by the heap-level decoder -/
example : (restoreH (H := Hx) (Reader.whole ((encodePollard F).take 186))).out = .err :=
  (restoreH_prefix okHx F (by decide) _ 186 (by rw [len_enc]; decide) (by simp [Reader.whole, Reader.data])).1

/-- the general theorem applies too: the stream has no colliding records, the restored heap carries
the shape the shape-level decoder returns -/
example : NoMiniCollision Hx rd1 := noMiniCollision_encode okHx F leavesOK_ser rd1 rd1_data
example : ∃ p', restoreH rd1 = ⟨(encodePollard F).length, .ok p'⟩ ∧ ShapeOf p' (PState.ofForest F) ∧ Abs p' F :=
  restoreH_roundtrip_shape okHx F leavesOK_ser rd1 rd1_data

/-- a block: delete leaf `4` (position 3), add `6` and `7` -/
def dels : List Hx := [⟨4#8⟩]
def targets : List U64 := [3#64]
def adds : List (Hx × Bool) := [(⟨6#8⟩, true), (⟨7#8⟩, false)]

/-- **write → restore → modify agrees**, on the instance: the end-to-end theorem with all its
hypotheses discharged -/
example : ∃ p' q q', restoreH rd1 = ⟨220, .ok p'⟩ ∧
    PollardHeap.modify adds dels targets p = (.ok (), q) ∧
    PollardHeap.modify adds dels targets p' = (.ok (), q') ∧
    Abs q (F.modify dels (adds.map (·.1))) ∧ Abs q' (F.modify dels (adds.map (·.1))) ∧
    q.full = true ∧ q'.full = true ∧
    DelsOK q (F.modify dels (adds.map (·.1))) ∧ DelsOK q' (F.modify dels (adds.map (·.1))) :=
  restored_modify_agrees okHx hphHx abs_p delsOK_p full_p leavesOK_ser leavesOK_ph 1000 220 780 _
    write_p rd1 rd1_data dels dels targets adds (by decide) (by decide) (by decide) (List.Perm.refl _)
    (by
      intro ts h
      have e : dels.mapM F.posOf = some [(0, 3)] := by decide +kernel
      rw [e] at h; cases h; decide +kernel)
    (by decide +kernel) (by decide) (by decide)

/-- … and by evaluation of the heap model: both `Modify` calls succeed and both results pass the
executable check and abstract to the trees of `F.modify dels adds` -/
def q : Pollard Hx := (PollardHeap.modify adds dels targets p).2
def q' : Pollard Hx := (PollardHeap.modify adds dels targets pr).2
/-- the two runs (`q` from the written heap, `q'` from the restored one) are evaluated once, for all
the facts below -/
theorem q_eval :
    ((PollardHeap.modify adds dels targets p).1 = .ok () ∧
      (PollardHeap.modify adds dels targets pr).1 = .ok ()) ∧
    (wfCheck q = none ∧ wfCheck q' = none) ∧
    (absTrees q = some (F.modify dels (adds.map (·.1))).trees ∧
      absTrees q' = some (F.modify dels (adds.map (·.1))).trees) ∧
    (getRootHashes q).1 = (getRootHashes q').1 ∧
    (List.range 16).all (fun i => decide ((getHash (BitVec.ofNat 64 i) q).1 = (getHash (BitVec.ofNat 64 i) q').1)) = true ∧
    ([1, 3, 5, 6, 7, 4].map (fun i => (getLeafPosition (⟨BitVec.ofNat 8 i⟩ : Hx) q).1)) =
      ([1, 3, 5, 6, 7, 4].map (fun i => (getLeafPosition (⟨BitVec.ofNat 8 i⟩ : Hx) q').1)) ∧
    (prove [⟨1#8⟩, ⟨6#8⟩] q).1 = (prove [(⟨1#8⟩ : Hx), ⟨6#8⟩] q').1 ∧
    (writeToH q ⟨[], 1000⟩).2.written = (writeToH q' ⟨[], 1000⟩).2.written := by decide +kernel

example : (PollardHeap.modify adds dels targets p).1 = .ok () ∧
    (PollardHeap.modify adds dels targets pr).1 = .ok () := q_eval.1
example : wfCheck q = none ∧ wfCheck q' = none := q_eval.2.1
example : absTrees q = some (F.modify dels (adds.map (·.1))).trees ∧
    absTrees q' = some (F.modify dels (adds.map (·.1))).trees := q_eval.2.2.1
/-- the observables agree: roots, every position's hash below 16, the position of every leaf -/
example : (getRootHashes q).1 = (getRootHashes q').1 := q_eval.2.2.2.1
example : (List.range 16).all (fun i => decide ((getHash (BitVec.ofNat 64 i) q).1 = (getHash (BitVec.ofNat 64 i) q').1)) = true :=
  q_eval.2.2.2.2.1
example : ([1, 3, 5, 6, 7, 4].map (fun i => (getLeafPosition (⟨BitVec.ofNat 8 i⟩ : Hx) q).1)) =
    ([1, 3, 5, 6, 7, 4].map (fun i => (getLeafPosition (⟨BitVec.ofNat 8 i⟩ : Hx) q').1)) := q_eval.2.2.2.2.2.1
example : (prove [⟨1#8⟩, ⟨6#8⟩] q).1 = (prove [(⟨1#8⟩ : Hx), ⟨6#8⟩] q').1 := q_eval.2.2.2.2.2.2.1
/-- and they are written to the same bytes again -/
example : (writeToH q ⟨[], 1000⟩).2.written = (writeToH q' ⟨[], 1000⟩).2.written := q_eval.2.2.2.2.2.2.2

/-! the collision hypothesis of `restoreH_refines` is necessary -/

/-- a hash type whose wire form uses byte 0 and byte 12 -/
structure Hy where
  v : BitVec 16
deriving DecidableEq, Repr

instance : Hasher Hy := ⟨fun a b => ⟨a.v + b.v⟩, ⟨0#16⟩⟩
instance : HashBytes Hy :=
  ⟨fun h => (h.v.setWidth 8) :: List.replicate 11 0#8 ++ [(h.v >>> 8).setWidth 8] ++ List.replicate 19 0#8,
   fun bs => ⟨((bs.getD 12 0#8).setWidth 16 <<< 8) ||| (bs.headD 0#8).setWidth 16⟩⟩

/-- two leaves, one root with two leaf nieces whose hashes share their first 12 bytes and differ in
byte 12 -/
def collide : List Byte :=
  le64 2#64 ++ le64 0#64 ++ toBytes (⟨0x0302#16⟩ : Hy) ++ [0#8, 1#8] ++
    toBytes (⟨0x0101#16⟩ : Hy) ++ [1#8, 0#8] ++ toBytes (⟨0x0201#16⟩ : Hy) ++ [1#8, 0#8]

theorem restoreH_agrees_statement_false : ¬ restoreH_agrees_statement Hy := by
  intro h
  have h0 := h (Reader.whole collide)
  have h1 : (restorePollard (H := Hy) (Reader.whole collide)).out = .err := by decide +kernel
  have h2 : (restoreH (H := Hy) (Reader.whole collide)).out.isOk = true := by decide +kernel
  rw [h1] at h0
  revert h0 h2
  generalize (restoreH (H := Hy) (Reader.whole collide)).out = o
  intro h0 h2
  cases o with
  | ok x => revert h0; simp only [Out.tag]; decide
  | err => simp [Out.isOk] at h2
  | panic => simp [Out.isOk] at h2
  | hang => simp [Out.isOk] at h2

end Example

end UtreexoVerif.Props.C13Heap
