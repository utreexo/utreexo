/-
  The pointer forest, heap model, part C (`Undo`): the theorems of `Props/PollardHeapC.lean` on
  concrete heaps — instance runs by kernel evaluation of the model, with their fixtures.
-/
import UtreexoVerif.Props.PollardHeapC

namespace UtreexoVerif.Proofs.PollardHeap
open UtreexoVerif.Model UtreexoVerif.Model.PollardHeap UtreexoVerif.Spec Hasher

/-! ### non-vacuity: a block that deletes a whole tree and adds one leaf

Five leaves (trees on rows 2 and 0); the block deletes leaf 5 (the whole tree on row 0, target
position 4) and adds leaf 9, which is merged with the empty root into a tree on row 1.
`undoAdds 1` removes that tree again but cannot bring the empty root back: one root is left
where `numRoots 5 = 2`; `undoEmptyRoots` re-creates it. -/

namespace UndoRootsExample
open UtreexoVerif.Spec.NodesUniqueExample

def leaves5 : List (Term × Bool) :=
  [(.atom 1, true), (.atom 2, true), (.atom 3, true), (.atom 4, true), (.atom 5, true)]
def p5 : Pollard Term := (PollardHeap.add leaves5 newAccumulator).2
def F5 : Forest Term := Forest.empty.addMany (leaves5.map (·.1))
def dels : List Term := [.atom 5]
/-- the heap after the block `Modify([leaf 9], [leaf 5], targets [4])` -/
def p6 : Pollard Term := (PollardHeap.modify [(.atom 9, true)] dels [4#64] p5).2

theorem hphT : ∀ a b : Term, ph a b ≠ (zero : Term) := termCR.nonzero

/-- one run of the block for all the facts about `p6` -/
theorem p6_eval : p6.full = true ∧ wfCheck p6 = none ∧
    p6.numLeaves.toNat = ((F5.delLeaves dels).addMany [.atom 9]).numLeaves ∧
    absTrees p6 = some ((F5.delLeaves dels).addMany [.atom 9]).trees ∧
    p6.nodeMap.map (·.1) = [.atom 9, .atom 4, .atom 3, .atom 2, .atom 1] := by decide +kernel

theorem abs6 : Abs p6 ((F5.delLeaves dels).addMany [.atom 9]) :=
  abs_of_check _ _ p6_eval.1 p6_eval.2.1 p6_eval.2.2.1 p6_eval.2.2.2.1

theorem live5 : F5.liveLeaves = [.atom 1, .atom 2, .atom 3, .atom 4, .atom 5] := by decide +kernel

/-- after `undoAdds` a root is missing (`numRoots 5 = 2`): the loop of `undoEmptyRoots` runs -/
example : (undoAdds 1 p6).1 = .ok () ∧ (undoAdds 1 p6).2.roots.length = 1 ∧
    (undoAdds 1 p6).2.numLeaves = 5#64 := by decide +kernel

end UndoRootsExample

end UtreexoVerif.Proofs.PollardHeap

namespace UtreexoVerif.Props.PollardHeapC
open UtreexoVerif.Model UtreexoVerif.Model.PollardHeap UtreexoVerif.Spec
open UtreexoVerif.Proofs UtreexoVerif.Proofs.PollardHeap UtreexoVerif.Proofs.CalcGeo
open UtreexoVerif.Proofs.Movement

section
open UtreexoVerif.Proofs.PollardHeap.UndoRootsExample

/-- the two `Undo` phases on the block of `UndoRootsExample`: `undoEmptyRoots_refines` applies to the state `undoAdds`
leaves behind, and the empty root is back -/
example : ∃ p', (do undoAdds 1; undoEmptyRoots [4#64] F5.roots) p6 = (.ok (), p') ∧
    Abs p' (F5.delLeaves dels) ∧ p'.roots.length = 2 := by
  obtain ⟨hp1, nm1, rs1, e1, a1, _⟩ := undoAdds_absE 1 [.atom 9] (F5.delLeaves dels) p6 rfl
    abs6.toAbsE (by decide +kernel)
    (by
      intro e he u v h
      have hm : e.1 ∈ p6.nodeMap.map (·.1) := List.mem_map_of_mem he
      rw [p6_eval.2.2.2.2] at hm
      simp only [List.mem_cons, List.not_mem_nil, or_false] at hm
      rcases hm with h' | h' | h' | h' | h' <;> rw [h'] at h <;> cases h)
  have hok : LeavesOK F5 := by
    intro x hx
    rw [live5] at hx
    simp only [List.mem_cons, List.not_mem_nil, or_false] at hx
    rcases hx with rfl | rfl | rfl | rfl | rfl <;>
      exact ⟨fun h => (by cases h), fun a b h => (by cases h)⟩
  obtain ⟨hp2, rs2, e2, a2⟩ := undoEmptyRoots_refines hphT a1 hok (by decide +kernel)
    (by rw [live5]; decide) (by decide) (by rw [live5]; decide)
  have et : (dels.map (fun l => (F5.posOf l).getD (0, 0))).map (E F5.rows) = [4#64] := by
    decide +kernel
  rw [et] at e2
  simp only at e2 a2
  refine ⟨_, ?_, a2, ?_⟩
  · simp only [bind_apply, e1]
    exact e2
  · obtain ⟨_, _, h, _⟩ := a2.repr
    rw [h.length_eq, List.length_map, trees_length, numLeaves_delLeaves]
    decide +kernel

end

section
open UtreexoVerif.Proofs.ProofUpdateDeTwin.Example

/-- the hypotheses of `undoDels_prefix_refines` are satisfiable -/
example : ∃ (hp1 hp' : Heap T) (nm' : List (T × Nat)) (pn0 : List NP) (its : List (PItem T)),
    undoDelsAlloc ((D5.map (fun l => (F5.posOf l).getD (0, 0))).map (E F5.rows)) D5
        ⟨#[], [], [], 5#64, 3#64, true⟩ = (.ok pn0, ⟨hp1, nm', [], 5#64, 3#64, true⟩) ∧
    deTwinPolNode (sortBy (fun x : NP => x.2) pn0) (H8 F5.rows) ⟨hp1, nm', [], 5#64, 3#64, true⟩ =
      (.ok (its.map (PItem.np F5.rows)), ⟨hp', nm', [], 5#64, 3#64, true⟩) ∧
    (∀ T, T ∈ its.map (·.pos) ↔ IsDT F5 D5 T) := by
  obtain ⟨hp1, hp', nm', pn0, its, h1, h2, _, _, _, _, _, _, _, _, _, h3, _⟩ :=
    undoDels_prefix_refines (F := F5) (D := D5) (by decide) (by decide) (by decide) (by decide)
      #[] [] [] 5#64 3#64 true (by decide) (by decide)
  exact ⟨hp1, hp', nm', pn0, its, h1, h2, h3⟩

end

namespace Example
open UtreexoVerif.Spec.NodesUniqueExample UtreexoVerif.Props.PollardHeap.Example
open UtreexoVerif.Props.PollardHeapB.Example

theorem targets_dels : ∀ ts, dels.mapM F5.posOf = some ts →
    targets = ts.map (fun q => BitVec.ofNat 64 (enc F5.rows q)) := by
  have : dels.mapM F5.posOf = some [(0, 0), (0, 3)] := by decide +kernel
  intro ts h; rw [this] at h; cases h; decide +kernel

/-- the block of `Props.PollardHeap.Example` (delete leaves 1 and 4 of the five-leaf forest, add
two leaves) and its `Undo` (two `undoSingleAdd`, `undoEmptyRoots` taking the early exit,
`undoSingleDel` twice in the aunt branch): `undo_refines` applies -/
example : ∃ p' p'', PollardHeap.modify adds2 dels targets p5 = (.ok (), p') ∧
    Abs p' (F5.modify dels (adds2.map (·.1))) ∧
    PollardHeap.undo (BitVec.ofNat 64 adds2.length) targets dels F5.roots p' = (.ok (), p'') ∧
    Abs p'' F5 ∧ p''.full = true ∧ p''.numLeaves = p5.numLeaves ∧ p''.numDels = p5.numDels ∧
    (p''.nodeMap.map (·.1)).Perm (p5.nodeMap.map (·.1)) :=
  undo_refines hphT p5 F5 dels targets adds2 abs5 full5 leavesOK5 (by decide +kernel)
    (by decide) (by rw [live5]; decide) targets_dels (by decide +kernel) (by decide) (by rw [live5]; decide)

/-- six leaves: trees on rows 2 and 1 -/
def leaves6 : List (Term × Bool) :=
  [(.atom 1, true), (.atom 2, true), (.atom 3, true), (.atom 4, true), (.atom 5, true), (.atom 6, true)]
def p6' : Pollard Term := (PollardHeap.add leaves6 newAccumulator).2
def F6' : Forest Term := Forest.empty.addMany (leaves6.map (·.1))
/-- delete leaf 5 (its parent is the ROOT of the row-1 tree: the root branch of `undoSingleDel`) and
leaf 2 (aunt branch), add one leaf -/
def dels6 : List Term := [.atom 5, .atom 2]
def targets6 : List U64 := [4#64, 1#64]
def adds6 : List (Term × Bool) := [(.atom 7, true)]

theorem abs6' : Abs p6' F6' := by
  obtain ⟨p', h1, h2, _⟩ := Props.PollardHeap.add_refines hphT leaves6 (Props.PollardHeap.abs_new (H := Term))
    rfl (by decide) (by decide) (fun e he => ⟨by simp [newAccumulator], by revert e; decide⟩)
    Proofs.PollardHeap.treesNZ_empty
  have : p6' = p' := congrArg Prod.snd h1
  rw [this]; exact h2

theorem live6' : F6'.liveLeaves = [.atom 1, .atom 2, .atom 3, .atom 4, .atom 5, .atom 6] := by
  decide +kernel

theorem leavesOK6' : LeavesOK F6' := by
  intro x hx
  rw [live6'] at hx
  simp only [List.mem_cons, List.not_mem_nil, or_false] at hx
  rcases hx with rfl | rfl | rfl | rfl | rfl | rfl <;>
    exact ⟨fun h => (by cases h), fun a b h => (by cases h)⟩

/-- `undo_refines` on a block whose `Undo` runs `undoSingleDel` in its ROOT branch (leaf 5: the
parent position 10 is the root of the two-leaf tree) and in its aunt branch (leaf 2) -/
example : ∃ p' p'', PollardHeap.modify adds6 dels6 targets6 p6' = (.ok (), p') ∧
    Abs p' (F6'.modify dels6 (adds6.map (·.1))) ∧
    PollardHeap.undo (BitVec.ofNat 64 adds6.length) targets6 dels6 F6'.roots p' = (.ok (), p'') ∧
    Abs p'' F6' ∧ p''.full = true ∧ p''.numLeaves = p6'.numLeaves ∧ p''.numDels = p6'.numDels ∧
    (p''.nodeMap.map (·.1)).Perm (p6'.nodeMap.map (·.1)) :=
  undo_refines hphT p6' F6' dels6 targets6 adds6 abs6' (by decide +kernel) leavesOK6' (by decide +kernel)
    (by decide) (by rw [live6']; decide)
    (by
      have : dels6.mapM F6'.posOf = some [(0, 4), (0, 1)] := by decide +kernel
      intro ts h; rw [this] at h; cases h; decide +kernel)
    (by decide +kernel) (by decide) (by rw [live6']; decide)

/-- the parent position of target 4 in the six-leaf forest is a root position (so that run does
take the root branch) -/
example : isRootPosition (Parent 4#64 (TreeRows p6'.numLeaves)) p6'.numLeaves = true := by decide +kernel

/-- `undo_refines` on a block that deletes a WHOLE tree (leaf 5 of the five-leaf forest: a root
position, `p.Roots[tree] = node`) and adds one leaf, which the addition puts in place of the empty
root (`undoEmptyRoots` re-inserts it) -/
example : ∃ p' p'', PollardHeap.modify [(.atom 9, true)] [.atom 5] [4#64] p5 = (.ok (), p') ∧
    Abs p' (F5.modify [.atom 5] ([(Term.atom 9, true)].map (·.1))) ∧
    PollardHeap.undo (BitVec.ofNat 64 1) [4#64] [.atom 5] F5.roots p' = (.ok (), p'') ∧
    Abs p'' F5 ∧ p''.full = true ∧ p''.numLeaves = p5.numLeaves ∧ p''.numDels = p5.numDels ∧
    (p''.nodeMap.map (·.1)).Perm (p5.nodeMap.map (·.1)) :=
  undo_refines hphT p5 F5 [.atom 5] [4#64] [(.atom 9, true)] abs5 full5 leavesOK5
    (by decide +kernel) (by decide) (by rw [live5]; decide)
    (by
      have : [Term.atom 5].mapM F5.posOf = some [(0, 4)] := by decide +kernel
      intro ts h; rw [this] at h; cases h; decide +kernel)
    (by decide +kernel) (by decide) (by rw [live5]; decide)

/-- the hypotheses of `modify_undo_observables` are those of `undo_refines`: same instance -/
example : ∃ p' p'', PollardHeap.modify adds2 dels targets p5 = (.ok (), p') ∧
    PollardHeap.undo (BitVec.ofNat 64 adds2.length) targets dels F5.roots p' = (.ok (), p'') ∧
    (getRootHashes p'' = (.ok F5.roots, p'') ∧ getRootHashes p5 = (.ok F5.roots, p5)) ∧
    (∀ pos : U64, getHash pos p'' = (.ok (PollardAbs.pollardGetHashNiece F5 pos), p'') ∧
      getHash pos p5 = (.ok (PollardAbs.pollardGetHashNiece F5 pos), p5)) ∧
    (F5.roots.Nodup → ∀ h : Term,
      getLeafPosition h p'' = (.ok (PollardAbs.pollardGetLeafPosition F5 h), p'') ∧
      getLeafPosition h p5 = (.ok (PollardAbs.pollardGetLeafPosition F5 h), p5)) ∧
    (F5.roots.Nodup → ∀ hs : List Term, (∀ h ∈ hs, h ∈ F5.liveLeaves) → hs.Nodup → 1 < F5.numLeaves →
      hs ≠ [] → ∃ ts ps, F5.canon hs = some (ts, ps) ∧
        prove hs p'' = (.ok (ts.map (fun q => BitVec.ofNat 64 (enc F5.rows q)), ps), p'') ∧
        prove hs p5 = (.ok (ts.map (fun q => BitVec.ofNat 64 (enc F5.rows q)), ps), p5)) :=
  modify_undo_observables hphT p5 F5 dels targets adds2 abs5 full5 leavesOK5
    (by decide +kernel) (by decide) (by rw [live5]; decide) targets_dels (by decide +kernel) (by decide)
    (by rw [live5]; decide)
example : F5.roots.Nodup := by decide +kernel

/-- the heap after the deletions of the block alone: it represents `F5.delLeaves dels` … -/
def pDel : Pollard Term := (PollardHeap.modify [] dels targets p5).2
theorem absDel : Abs pDel (F5.delLeaves dels) := by
  obtain ⟨p', h1, h2, _⟩ := PollardHeapB.modify_refines hphT p5 F5 dels dels targets [] abs5 full5
    leavesOK5 (by decide +kernel) (by decide) (by rw [live5]; decide) (List.Perm.refl _) targets_dels
    (by decide +kernel) (by decide) (by simp)
  -- comparing the constant `pDel` with `Prod.snd (modify …)` makes the kernel run `modify` once
  have : pDel = p' := congrArg Prod.snd h1
  rw [this]; exact h2
theorem live5_nodup : F5.liveLeaves.Nodup := by rw [live5]; decide

/-- … `undoDels_refines` applies (the canonical targets are `[0, 3]`) -/
example : ∃ hp' nm' rs',
    undoDels ((dels.map (fun l => (F5.posOf l).getD (0, 0))).map (E F5.rows)) dels pDel =
      (.ok (), ⟨hp', nm', rs', pDel.numLeaves, pDel.numDels - BitVec.ofNat 64 dels.length, pDel.full⟩) ∧
    Abs ⟨hp', nm', rs', pDel.numLeaves, pDel.numDels - BitVec.ofNat 64 dels.length, pDel.full⟩ F5 :=
  undoDels_refines absDel leavesOK5 (by decide +kernel) live5_nodup (by decide) (by rw [live5]; decide)
example : (dels.map (fun l => (F5.posOf l).getD (0, 0))).map (E F5.rows) = targets := by decide +kernel

/-- … and so does `undo_rest` (`undoEmptyRoots` takes the early exit here; `UndoRootsExample` above
runs its loop) -/
example : ∃ p'', (do undoEmptyRoots targets F5.roots; undoDels targets dels) pDel = (.ok (), p'') ∧
    Abs p'' F5 ∧ p''.numLeaves = pDel.numLeaves ∧
    p''.numDels = pDel.numDels - BitVec.ofNat 64 dels.length ∧ p''.full = pDel.full :=
  undo_rest hphT pDel F5 dels targets absDel.toAbsE leavesOK5 (by decide +kernel) live5_nodup (by decide)
    (by rw [live5]; decide) (by decide +kernel)

/-! #### the order of the targets matters to `Undo` (not to `Modify`) -/

/-- the block of the first example with the two targets exchanged (`modify_refines` allows that) -/
def pSw' : Pollard Term := (PollardHeap.modify adds2 dels [3#64, 0#64] p5).2
def pSw : Pollard Term := (PollardHeap.undo 2#64 [3#64, 0#64] dels F5.roots pSw').2

/-- `Modify` accepts the targets in any order and yields the same forest; `Undo` with the same
(exchanged) targets succeeds but pairs leaf 1 with position 3 and leaf 4 with position 0: the result
does NOT represent the previous forest — the hypothesis "targets in the order of `delHashes`" of
`undo_refines` is necessary -/
example : (PollardHeap.modify adds2 dels [3#64, 0#64] p5).1 = .ok () ∧
    Abs pSw' (F5.modify dels (adds2.map (·.1))) ∧
    (PollardHeap.undo 2#64 [3#64, 0#64] dels F5.roots pSw').1 = .ok () ∧ ¬ Abs pSw F5 := by
  obtain ⟨p', h1, h2, _⟩ := PollardHeapB.modify_refines hphT p5 F5 dels [.atom 4, .atom 1] [3#64, 0#64]
    adds2 abs5 full5 leavesOK5 (by decide +kernel) (by decide) (by rw [live5]; decide)
    (List.Perm.swap _ _ [])
    (by
      have : [Term.atom 4, .atom 1].mapM F5.posOf = some [(0, 3), (0, 0)] := by decide +kernel
      intro ts h; rw [this] at h; cases h; decide +kernel)
    (by decide +kernel) (by decide) (by rw [live5]; decide)
  have e : pSw' = p' := congrArg Prod.snd h1
  -- one run of `Undo` serves both remaining clauses
  have hu : (PollardHeap.undo 2#64 [3#64, 0#64] dels F5.roots pSw').1 = .ok () ∧
      (getRootHashes pSw).1 ≠ .ok F5.roots := by decide +kernel
  refine ⟨congrArg Prod.fst h1, ?_, hu.1, fun a => hu.2 ?_⟩
  · rw [e]; exact h2
  · exact congrArg Prod.fst (Props.PollardHeap.getRoots_refines a)

end Example

end UtreexoVerif.Props.PollardHeapC
