/-
  C03 — verification is sound: proofs of the statements in `Props/C03_statement.lean`.
  All three verifiers reduce to `Proofs.CalcSound.calc_sound`.
-/
import UtreexoVerif.Props.C03_statement
import UtreexoVerif.Proofs.CalcSoundX

namespace UtreexoVerif.Props.C03
open Model Proofs.CalcSound

section
variable {H : Type} [DecidableEq H] [Hasher H]

theorem verify_sound : verify_sound_statement H := by
  intro n roots V cr hs ts ps idx hnz h
  obtain ⟨r, hc, hm⟩ := verify_ok h
  exact calc_sound V cr hnz hc hm

theorem pollardVerify_sound : pollardVerify_sound_statement H := by
  intro n roots V cr hs ts ps hnz h
  rcases pollardVerify_ok h with rfl | ⟨idx, h⟩
  · intro x hx
    rw [List.zip_nil_right] at hx
    cases hx
  · exact verify_sound n roots V cr hs ts ps idx hnz h

theorem mapVerify_sound : mapVerify_sound_statement H := by
  intro n roots V cr hs ts ps idx hnz h
  rw [mapVerify_treeRows] at h
  exact verify_sound n roots V cr hs ts ps idx hnz h

end

/-! ### non-vacuity

The collision-freeness hypothesis `CR` is satisfiable (free term algebra), the model accepts
a genuine proof over it, and a `ForestView` exists for a concrete forest, so the soundness
theorem applies to a concrete accepted run. -/

namespace Example

inductive T where
  | z
  | leaf (n : Nat)
  | node (l r : T)
deriving DecidableEq

instance : Hasher T := ⟨T.node, T.z⟩

theorem cr : CR T :=
  ⟨fun _ _ _ _ h => by cases h; exact ⟨rfl, rfl⟩, fun _ _ h => by cases h⟩

example : verify (H := T) 2#64 [T.node (.leaf 0) (.leaf 1)] [.leaf 0] [0#64] [.leaf 1] = .ok [0] := by
  decide +kernel

example : verify (H := T) 2#64 [T.node (.leaf 0) (.leaf 1)] [.leaf 7] [0#64] [.leaf 1] = .err := by
  decide +kernel

def oneLeafView : ForestView T 1#64 [T.leaf 0] where
  nodeAt p := if p = 0#64 then some (T.leaf 0) else none
  root_ok := by
    intro row h hle _ hroot
    have hrow : row = 0#8 := by
      have : TreeRows 1#64 = 0#8 := by decide +kernel
      rw [this] at hle
      exact BitVec.le_zero_iff.mp hle
    subst hrow
    have h1 : rootPosition 1#64 0#8 (TreeRows 1#64) = 0#64 := by decide +kernel
    have h2 : rootIdxOfRow 1#64 0#8 = 0 := by decide +kernel
    rw [h2] at hroot
    rw [h1]
    simpa using hroot
  children_ok := by
    intro p row a b _ _ hnode
    split at hnode
    · injection hnode with hnode
      cases hnode
    · cases hnode

example : verify (H := T) 1#64 [T.leaf 0] [.leaf 0] [0#64] [] = .ok [0] := by
  decide +kernel

example : oneLeafView.nodeAt 0#64 = some (T.leaf 0) :=
  verify_sound 1#64 [T.leaf 0] oneLeafView cr [.leaf 0] [0#64] [] [0]
    (by intro h hh; simp at hh; subst hh; intro hz; cases hz) (by decide +kernel) (0#64, T.leaf 0) (by simp)

end Example

end UtreexoVerif.Props.C03
