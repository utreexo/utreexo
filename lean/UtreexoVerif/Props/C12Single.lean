/-
  C12, what `SingleSection` MEANS in the semantics of `Model/Lock.lean`: every call of an exported
  method outside the exemptions should be ONE critical section, so that the per-section theorems
  of `Props/C12.lean` speak about whole calls.

  As a statement about arbitrary tables this is FALSE for the check as it stands
  (`single_section_call_statement_false`), for two independent reasons: it ignores the statements
  BEFORE the lock statement of a lock-taking method (`PreGap`), and `reachLocking` keeps no visited
  set, so its fuel can run out on the paths of a small call graph (`FuelGap`).  Neither occurs in
  the table extracted from mappollard.go.  With the two missing checks (`PreSingle`, `Explored`)
  the statement holds for every table (`single_section_call`).  `Explored` has a price: it rejects
  every table in which a lock-free exported method reaches a cycle of lock-free calls (`Recursive`),
  so `SingleSectionStrong` is sound, not complete.
-/
import UtreexoVerif.Proofs.LockSingle
import UtreexoVerif.Props.C12Table

namespace UtreexoVerif.Props.C12Single
open UtreexoVerif.Model.Lock UtreexoVerif.Proofs.Lock UtreexoVerif.Proofs.LockSingle

/-- "`SingleSection` (with `LockDiscipline`) implies that every call of an exported method outside
the exemptions contains at most one acquire", for every table.  FALSE: see
`single_section_call_statement_false`. -/
def single_section_call_statement : Prop :=
  ∀ (F V M : Type) [DecidableEq F] [DecidableEq M] (T : M → MethodInfo F M) (allM exempt : List M),
    (∀ m, m ∈ allM) → LockDiscipline T allM = true → SingleSection T allM exempt = true →
    ∀ (m : M) (is : List (Instr F V)), (T m).exported = true → m ∉ exempt →
      Gen T .none (.call m) is → acquires is ≤ 1

section Generic
variable {F V M : Type} [DecidableEq F] [DecidableEq M]

omit [DecidableEq F] in
/-- (1, method without lock) A passed `SingleSection` — the exploration having run to completion
(`Explored`) — means: a call of an exported method outside the exemptions that takes no lock
itself executes NO operation on the mutex, in whatever context it starts. -/
theorem single_section_unlocked (T : M → MethodInfo F M) (allM exempt : List M) (hall : ∀ m, m ∈ allM)
    (hS : SingleSection T allM exempt = true) (hE : Explored T allM exempt = true)
    (m : M) (hexp : (T m).exported = true) (hne : m ∉ exempt) (hl : (T m).lock = .none)
    (c : LockKind) (is : List (Instr F V)) (hg : Gen T c (.call m) is) :
    Flat is ∧ acquires is = 0 ∧ releases is = 0 := by
  have hq : Quiet T m := quiet_of_single hall hS hE hexp hne hl
  have hf : Flat is := gen_quiet hg hq
  exact ⟨hf, hf.acquires, hf.releases⟩

/-- (1, method with lock) Under `LockDiscipline`, `PreSingle` and `Explored`: a call of an exported
method outside the exemptions that takes lock `k` is ONE critical section: accesses that touch no
mutable field (`Acc.ok mu .none`: hooks and reads of never-written fields, see `ok_none_iff`), the
acquire, accesses admissible under `k`, the release — and nothing else. -/
theorem single_section_locked (T : M → MethodInfo F M) (allM exempt : List M) (hall : ∀ m, m ∈ allM)
    (hd : LockDiscipline T allM = true)
    (hP : PreSingle T allM exempt = true) (hE : Explored T allM exempt = true)
    (m : M) (hexp : (T m).exported = true) (hne : m ∉ exempt) (k : LockKind) (hl : (T m).lock = k)
    (hk : k ≠ .none) (is : List (Instr F V)) (hg : Gen T .none (.call m) is) :
    ∃ p1 p2, is = p1 ++ .acquire k :: (p2 ++ [.release k]) ∧ Flat p1 ∧ Flat p2 ∧
      (∀ a, Instr.acc a ∈ p1 → a.ok (mutF T allM) .none = true) ∧
      (∀ a, Instr.acc a ∈ p2 → a.ok (mutF T allM) k = true) := by
  have hty : typingOK T allM (mutF T allM) (inferCtxs T allM) = true := hd
  have hne' : ¬ (T m).lock = .none := by rw [hl]; exact hk
  obtain ⟨_, hpre, hbody⟩ := typed_call hall hty ((methodOK_of_typing hall hty m).1 hexp)
  rw [if_neg hne'] at hbody
  have hpq := preQuiet_of_preSingle hall hP hE hexp hne hne'
  cases hg with
  | callPlain hl0 _ _ _ => exact (hne' hl0).elim
  | @callLocked _ _ k' p1 p2 hlock hk' hreg h1 h2 =>
    have hkk : k' = k := by rw [← hlock, hl]
    subst hkk
    rw [hl] at hbody
    have hf1 : Flat p1 := gen_quiet h1 hpq
    have hwf1 := gen_wf hall hty h1 hpre [] rfl
    have hheld := gen_held_flat hall hty h2 hk hbody.2
    exact ⟨p1, p2, rfl, hf1, hheld.1, flat_wf_ok hf1 hwf1, hheld.2⟩

theorem single_section_locked_counts (T : M → MethodInfo F M) (allM exempt : List M) (hall : ∀ m, m ∈ allM)
    (hd : LockDiscipline T allM = true)
    (hP : PreSingle T allM exempt = true) (hE : Explored T allM exempt = true)
    (m : M) (hexp : (T m).exported = true) (hne : m ∉ exempt) (k : LockKind) (hl : (T m).lock = k)
    (hk : k ≠ .none) (is : List (Instr F V)) (hg : Gen T .none (.call m) is) :
    acquires is = 1 ∧ releases is = 1 ∧ is.filter (fun i => !isAcc i) = [.acquire k, .release k] := by
  obtain ⟨p1, p2, rfl, h1, h2, _, _⟩ := single_section_locked T allM exempt hall hd hP hE m hexp hne k hl hk is hg
  exact section_counts h1 h2

/-- (1) THE MEANING OF THE (completed) CHECK: every call of an exported method outside the
exemptions acquires the lock at most once and releases it at most once. -/
theorem single_section_call (T : M → MethodInfo F M) (allM exempt : List M) (hall : ∀ m, m ∈ allM)
    (hd : LockDiscipline T allM = true) (hS : SingleSectionStrong T allM exempt = true)
    (m : M) (hexp : (T m).exported = true) (hne : m ∉ exempt)
    (is : List (Instr F V)) (hg : Gen T .none (.call m) is) :
    acquires is ≤ 1 ∧ releases is ≤ 1 := by
  simp only [SingleSectionStrong, Bool.and_eq_true] at hS
  obtain ⟨⟨hS, hP⟩, hE⟩ := hS
  by_cases hl : (T m).lock = .none
  · have := single_section_unlocked T allM exempt hall hS hE m hexp hne hl .none is hg
    omega
  · have := single_section_locked_counts T allM exempt hall hd hP hE m hexp hne _ rfl hl is hg
    omega

omit [DecidableEq F] in
/-- (2, the direction asked for; needs the exploration from `m` to have completed) an exported
method that takes no lock and has a call containing an acquire is listed by `multiSection`, so
`SingleSection` fails unless `m` is exempt. -/
theorem acquire_not_single (T : M → MethodInfo F M) (allM exempt : List M) (hall : ∀ m, m ∈ allM)
    (m : M) (hdone : exploreDone T (fuelOf allM) [m] = true)
    (hexp : (T m).exported = true) (hne : m ∉ exempt) (hl : (T m).lock = .none)
    (c : LockKind) (is : List (Instr F V)) (hg : Gen T c (.call m) is) (h1 : 1 ≤ acquires is) :
    (∃ r, (m, r) ∈ multiSection T allM) ∧ SingleSection T allM exempt = false := by
  rcases listed_or_quiet hall hdone hexp hl with ⟨r, hmem⟩ | hq
  · refine ⟨⟨r, hmem⟩, ?_⟩
    simp only [SingleSection, List.all_eq_false]
    exact ⟨(m, r), hmem, by simpa using hne⟩
  · have := (gen_quiet hg hq).acquires
    omega

/-- (2, converse, ANY fuel) the check rejects nothing it should accept: if `SingleSection` fails on a
table that passes `LockDiscipline`, some exported method outside the exemptions takes no lock and has
calls, started with nothing held, with ANY number `j` of acquires (in particular two). -/
theorem not_single_many_acquires (T : M → MethodInfo F M) (allM exempt : List M) (hall : ∀ m, m ∈ allM)
    (hd : LockDiscipline T allM = true) (hS : SingleSection T allM exempt = false) :
    ∃ m, (T m).exported = true ∧ m ∉ exempt ∧ (T m).lock = .none ∧
      ∀ j, ∃ is : List (Instr F V), Gen T .none (.call m) is ∧ acquires is = j := by
  have hty : typingOK T allM (mutF T allM) (inferCtxs T allM) = true := hd
  obtain ⟨m, l, hexp, hne, hl, hr⟩ := reaches_of_not_single hS
  refine ⟨m, hexp, hne, hl, ?_⟩
  exact reaches_gen_core (fun x => (inferCtxs T allM x).has .none = true)
    (fun x hx => (typed_call hall hty hx).1)
    (fun x n hx hlx hn => typed_callees hall hty hx hlx n hn)
    hr ((methodOK_of_typing hall hty m).1 hexp) hl

omit [DecidableEq F] in
/-- the same conclusion from the regularity of every method instead of `LockDiscipline` -/
theorem not_single_many_acquires' (T : M → MethodInfo F M) (allM exempt : List M)
    (hreg : ∀ m, (T m).regular = true) (hS : SingleSection T allM exempt = false) :
    ∃ m, (T m).exported = true ∧ m ∉ exempt ∧ (T m).lock = .none ∧
      ∀ j, ∃ is : List (Instr F V), Gen T .none (.call m) is ∧ acquires is = j := by
  obtain ⟨m, l, hexp, hne, hl, hr⟩ := reaches_of_not_single hS
  exact ⟨m, hexp, hne, hl, reaches_gen_core (fun _ => True) (fun x _ => hreg x) (fun _ _ _ _ _ => trivial) hr trivial hl⟩

end Generic

section Real
open UtreexoVerif.Gen.LockTable UtreexoVerif.Props.C12Table

/-- the two checks `SingleSection` lacks hold for the table extracted from mappollard.go (every
`preCalls` is empty; the only exported methods without a lock are the exempt printers) -/
theorem real_single_section_strong :
    SingleSectionStrong table allMethods [.«String», .«AllSubTreesToString»] = true := by decide +kernel

/-- (3) every call of every exported method of the current mappollard.go, the two printers apart,
acquires the lock at most once (and releases it at most once) -/
theorem real_calls_single_section (V : Type) (m : Method) (hexp : (table m).exported = true)
    (h1 : m ≠ .«String») (h2 : m ≠ .«AllSubTreesToString»)
    (is : List (Instr Field V)) (hg : Gen table .none (.call m) is) :
    acquires is ≤ 1 ∧ releases is ≤ 1 :=
  single_section_call table allMethods _ allMethods_complete lockTable_ok real_single_section_strong m hexp
    (by simp [h1, h2]) is hg

/-- all of them take a lock themselves … -/
theorem real_exported_lock (m : Method) (hexp : (table m).exported = true)
    (h1 : m ≠ .«String») (h2 : m ≠ .«AllSubTreesToString») : (table m).lock ≠ .none := by
  have h : allMethods.all (fun m => !(table m).exported || m == .«String» || m == .«AllSubTreesToString» ||
      (table m).lock != .none) = true := by decide +kernel
  simpa [hexp, h1, h2] using List.all_eq_true.mp h m (allMethods_complete m)

/-- … so every such call is EXACTLY one critical section: unlocked accesses that touch no mutable
field (in the current table: `Prune` reading `Full`), `acquire k`, accesses under `k`, `release k`. -/
theorem real_call_shape (V : Type) (m : Method) (hexp : (table m).exported = true)
    (h1 : m ≠ .«String») (h2 : m ≠ .«AllSubTreesToString»)
    (is : List (Instr Field V)) (hg : Gen table .none (.call m) is) :
    ∃ p1 p2, is = p1 ++ .acquire (table m).lock :: (p2 ++ [.release (table m).lock]) ∧ Flat p1 ∧ Flat p2 ∧
      (∀ a, Instr.acc a ∈ p1 → a.ok (mutF table allMethods) .none = true) ∧
      (∀ a, Instr.acc a ∈ p2 → a.ok (mutF table allMethods) (table m).lock = true) := by
  have hS := real_single_section_strong
  simp only [SingleSectionStrong, Bool.and_eq_true] at hS
  exact single_section_locked table allMethods _ allMethods_complete lockTable_ok hS.1.2 hS.2 m hexp
    (by simp [h1, h2]) _ rfl (real_exported_lock m hexp h1 h2) is hg

namespace Examples
open UtreexoVerif.Props.C12Table.Examples

theorem getNumLeaves_gen : Gen (V := Nat) table .none (.call Method.GetNumLeaves) getNumLeaves :=
  getNumLeaves_call

theorem modifyOnce_gen : Gen (V := Nat) table .none (.call Method.Modify) modifyOnce := modifyOnce_call

/-- NON-VACUITY of `real_calls_single_section` / `real_call_shape`: their hypotheses hold for these two
calls of the real table (one reader, one writer), and the bound is attained -/
example : acquires getNumLeaves ≤ 1 ∧ releases getNumLeaves ≤ 1 :=
  real_calls_single_section Nat .GetNumLeaves rfl (by decide) (by decide) _ getNumLeaves_gen

example : acquires modifyOnce ≤ 1 ∧ releases modifyOnce ≤ 1 :=
  real_calls_single_section Nat .Modify rfl (by decide) (by decide) _ modifyOnce_gen

example : acquires getNumLeaves = 1 ∧ acquires modifyOnce = 1 := by decide

end Examples
end Real

namespace Positive

inductive Fld where
  | full | n
  deriving DecidableEq, Repr

inductive Mth where
  | IsFull | isFull | Get | Set
  deriving DecidableEq, Repr

def allM : List Mth := [.IsFull, .isFull, .Get, .Set]

/-- `IsFull` (exported, no lock) calls the helper `isFull`, which reads the never-written `full`;
`Get` reads `full` before taking the read lock and `n` under it; `Set` writes `n` under the write lock -/
def T : Mth → MethodInfo Fld Mth
  | .IsFull => { exported := true, lock := .none, lockIndex := 0, deferred := false, extraLockOps := 0,
                 preReads := [], preWrites := [], preCalls := [], reads := [], writes := [],
                 calls := [.isFull], hook := false }
  | .isFull => { exported := false, lock := .none, lockIndex := 0, deferred := false, extraLockOps := 0,
                 preReads := [], preWrites := [], preCalls := [], reads := [.full], writes := [],
                 calls := [], hook := false }
  | .Get => { exported := true, lock := .r, lockIndex := 1, deferred := true, extraLockOps := 0,
              preReads := [.full], preWrites := [], preCalls := [.isFull], reads := [.n], writes := [],
              calls := [], hook := false }
  | .Set => { exported := true, lock := .w, lockIndex := 0, deferred := true, extraLockOps := 0,
              preReads := [], preWrites := [], preCalls := [], reads := [.n], writes := [.n],
              calls := [], hook := false }

theorem allM_complete : ∀ m : Mth, m ∈ allM := by intro m; cases m <;> decide
theorem discipline_ok : LockDiscipline T allM = true := by decide
theorem strong_ok : SingleSectionStrong T allM [] = true := by decide

def isFullCall : List (Instr Fld Nat) := [.acc (.read .full)]

theorem isFull_gen : Gen T .none (.call Mth.IsFull) isFullCall := by
  have hh : Gen (V := Nat) T .none (.call Mth.isFull) ([] ++ [.acc (.read .full)]) :=
    Gen.callPlain (T := T) (m := Mth.isFull) rfl rfl Gen.segNil
      (Gen.segAcc (a := Acc.read Fld.full) (by show Fld.full ∈ _; decide) Gen.segNil)
  have hb : Gen (V := Nat) T .none (.seg (T Mth.IsFull).reads (T Mth.IsFull).writes (T Mth.IsFull).calls)
      (([] ++ [.acc (.read .full)]) ++ []) := Gen.segCall (n := Mth.isFull) (by decide) hh Gen.segNil
  exact Gen.callPlain (T := T) (m := Mth.IsFull) (p1 := []) rfl rfl Gen.segNil hb

/-- `Get`: `read full; (isFull:) read full; RLock; read n; RUnlock` -/
def getCall : List (Instr Fld Nat) :=
  [.acc (.read .full), .acc (.read .full), .acquire .r, .acc (.read .n), .release .r]

theorem get_gen : Gen T .none (.call Mth.Get) getCall := by
  have hh : Gen (V := Nat) T .none (.call Mth.isFull) ([] ++ [.acc (.read .full)]) :=
    Gen.callPlain (T := T) (m := Mth.isFull) rfl rfl Gen.segNil
      (Gen.segAcc (a := Acc.read Fld.full) (by show Fld.full ∈ _; decide) Gen.segNil)
  have hpre : Gen (V := Nat) T .none (.seg (T Mth.Get).preReads (T Mth.Get).preWrites (T Mth.Get).preCalls)
      (.acc (.read .full) :: (([] ++ [.acc (.read .full)]) ++ [])) :=
    Gen.segAcc (a := Acc.read Fld.full) (by show Fld.full ∈ _; decide)
      (Gen.segCall (n := Mth.isFull) (by decide) hh Gen.segNil)
  exact Gen.callLocked (T := T) (m := Mth.Get) (p2 := [.acc (.read .n)]) rfl (by decide) rfl hpre
    (Gen.segAcc (a := Acc.read Fld.n) (by show Fld.n ∈ _; decide) Gen.segNil)

/-- NON-VACUITY of `single_section_unlocked`: all hypotheses hold for the call of `IsFull` -/
example : Flat isFullCall ∧ acquires isFullCall = 0 ∧ releases isFullCall = 0 := by
  have h := strong_ok
  simp only [SingleSectionStrong, Bool.and_eq_true] at h
  exact single_section_unlocked T allM [] allM_complete h.1.1 h.2 .IsFull rfl (by simp) rfl .none _ isFull_gen

/-- NON-VACUITY of `single_section_locked` (with a non-empty pre-segment that calls a helper) -/
example : ∃ p1 p2, getCall = p1 ++ .acquire .r :: (p2 ++ [.release .r]) ∧ Flat p1 ∧ Flat p2 ∧
    (∀ a, Instr.acc a ∈ p1 → a.ok (mutF T allM) .none = true) ∧
    (∀ a, Instr.acc a ∈ p2 → a.ok (mutF T allM) .r = true) := by
  have h := strong_ok
  simp only [SingleSectionStrong, Bool.and_eq_true] at h
  exact single_section_locked T allM [] allM_complete discipline_ok h.1.2 h.2 .Get rfl (by simp) .r rfl
    (by decide) _ get_gen

/-- NON-VACUITY of `single_section_call` -/
example : acquires getCall ≤ 1 ∧ releases getCall ≤ 1 :=
  single_section_call T allM [] allM_complete discipline_ok strong_ok .Get rfl (by simp) _ get_gen

end Positive

namespace Recursive

inductive Mth where
  | Walk | walk
  deriving DecidableEq, Repr

def allM : List Mth := [.Walk, .walk]

/-- `Walk` (exported, no lock) calls the recursive helper `walk`; nobody takes a lock -/
def T : Mth → MethodInfo Unit Mth
  | .Walk => { exported := true, lock := .none, lockIndex := 0, deferred := false, extraLockOps := 0,
               preReads := [], preWrites := [], preCalls := [], reads := [], writes := [],
               calls := [.walk], hook := false }
  | .walk => { exported := false, lock := .none, lockIndex := 0, deferred := false, extraLockOps := 0,
               preReads := [], preWrites := [], preCalls := [], reads := [()], writes := [],
               calls := [.walk], hook := false }

/-- the work list of `reachLocking` never empties on a cycle of lock-free calls, whatever the fuel:
`SingleSection` holds (rightly: no lock anywhere), `Explored` cannot confirm it -/
theorem never_done (n : Nat) : exploreDone T n [Mth.Walk] = false :=
  exploreDone_cycle T (fun _ => True) (fun x _ => ⟨.walk, by cases x <;> decide, trivial⟩) n _
    ⟨_, List.mem_cons_self, trivial⟩

example : SingleSection T allM [] = true ∧ Explored T allM [] = false := by decide

end Recursive

namespace Negative

inductive Fld where
  | a | b
  deriving DecidableEq, Repr

inductive Mth where
  | Both | GetA | GetB | Set
  deriving DecidableEq, Repr

def allM : List Mth := [.Both, .GetA, .GetB, .Set]

/-- `Both` takes no lock and calls the read-locked getters `GetA` and `GetB` one after the other;
`Set` writes both fields under the write lock -/
def T : Mth → MethodInfo Fld Mth
  | .Both => { exported := true, lock := .none, lockIndex := 0, deferred := false, extraLockOps := 0,
               preReads := [], preWrites := [], preCalls := [], reads := [], writes := [],
               calls := [.GetA, .GetB], hook := false }
  | .GetA => { exported := true, lock := .r, lockIndex := 0, deferred := true, extraLockOps := 0,
               preReads := [], preWrites := [], preCalls := [], reads := [.a], writes := [],
               calls := [], hook := false }
  | .GetB => { exported := true, lock := .r, lockIndex := 0, deferred := true, extraLockOps := 0,
               preReads := [], preWrites := [], preCalls := [], reads := [.b], writes := [],
               calls := [], hook := false }
  | .Set => { exported := true, lock := .w, lockIndex := 0, deferred := true, extraLockOps := 0,
              preReads := [], preWrites := [], preCalls := [], reads := [], writes := [.a, .b],
              calls := [], hook := false }

theorem allM_complete : ∀ m : Mth, m ∈ allM := by intro m; cases m <;> decide

/-- the table is race-free, atomic per section, deadlock-free … -/
theorem discipline_ok : LockDiscipline T allM = true := by decide

/-- … but `Both` is not ONE section, and the check says so -/
theorem not_single : SingleSection T allM [] = false := by decide

theorem lists_both : multiSection T allM = [(.Both, [.GetA, .GetB])] := by decide

/-- a call of `Both`: `RLock; read a; RUnlock; RLock; read b; RUnlock` -/
def both : List (Instr Fld Nat) :=
  [.acquire .r, .acc (.read .a), .release .r, .acquire .r, .acc (.read .b), .release .r]

theorem both_gen : Gen T .none (.call Mth.Both) both := by
  have ha : Gen (V := Nat) T .none (.call Mth.GetA) ([] ++ .acquire .r :: ([.acc (.read .a)] ++ [.release .r])) :=
    Gen.callLocked (T := T) (m := Mth.GetA) rfl (by decide) rfl Gen.segNil
      (Gen.segAcc (a := Acc.read Fld.a) (by show Fld.a ∈ _; decide) Gen.segNil)
  have hb : Gen (V := Nat) T .none (.call Mth.GetB) ([] ++ .acquire .r :: ([.acc (.read .b)] ++ [.release .r])) :=
    Gen.callLocked (T := T) (m := Mth.GetB) rfl (by decide) rfl Gen.segNil
      (Gen.segAcc (a := Acc.read Fld.b) (by show Fld.b ∈ _; decide) Gen.segNil)
  have hbody : Gen (V := Nat) T .none (.seg (T Mth.Both).reads (T Mth.Both).writes (T Mth.Both).calls)
      (([] ++ .acquire .r :: ([.acc (.read .a)] ++ [.release .r])) ++
        (([] ++ .acquire .r :: ([.acc (.read .b)] ++ [.release .r])) ++ [])) :=
    Gen.segCall (n := Mth.GetA) (by decide) ha (Gen.segCall (n := Mth.GetB) (by decide) hb Gen.segNil)
  exact Gen.callPlain (T := T) (m := Mth.Both) (p1 := []) rfl rfl Gen.segNil hbody

/-- NEGATIVE EXAMPLE: the check fails and a call with two acquires exists (and is a well-formed
program: `LockDiscipline` alone does not exclude it) -/
theorem both_two_sections :
    SingleSection T allM [] = false ∧ (T .Both).exported = true ∧
      Gen T .none (.call Mth.Both) both ∧ acquires both = 2 ∧ wfProg (mutF T allM) .none both = true :=
  ⟨not_single, rfl, both_gen, by decide, by decide⟩

/-- the generic converse produces such calls from the failed check alone -/
example : ∃ m, (T m).exported = true ∧ m ∉ ([] : List Mth) ∧ (T m).lock = .none ∧
    ∀ j, ∃ is : List (Instr Fld Nat), Gen T .none (.call m) is ∧ acquires is = j :=
  not_single_many_acquires T allM [] allM_complete discipline_ok not_single

/-- and the generic direction (2) applies to `both` (the exploration from `Both` completes) -/
example : (∃ r, (Mth.Both, r) ∈ multiSection T allM) ∧ SingleSection T allM [] = false :=
  acquire_not_single T allM [] allM_complete .Both (by decide) rfl (by simp) rfl .none both both_gen (by decide)

end Negative

namespace PreGap

inductive Mth where
  | Outer | Inner
  deriving DecidableEq, Repr

def allM : List Mth := [.Outer, .Inner]

/-- `Outer` (exported) calls the read-locked `Inner` and only THEN takes the write lock:
`func (m) Outer() { n := m.Inner(); m.rwLock.Lock(); defer m.rwLock.Unlock(); … }` -/
def T : Mth → MethodInfo Unit Mth
  | .Outer => { exported := true, lock := .w, lockIndex := 1, deferred := true, extraLockOps := 0,
                preReads := [], preWrites := [], preCalls := [.Inner], reads := [()], writes := [()],
                calls := [], hook := false }
  | .Inner => { exported := true, lock := .r, lockIndex := 0, deferred := true, extraLockOps := 0,
                preReads := [], preWrites := [], preCalls := [], reads := [()], writes := [],
                calls := [], hook := false }

theorem allM_complete : ∀ m : Mth, m ∈ allM := by intro m; cases m <;> decide

/-- a call of `Outer`: `RLock; RUnlock; Lock; Unlock` -/
def outer : List (Instr Unit Nat) := [.acquire .r, .release .r, .acquire .w, .release .w]

theorem outer_gen : Gen T .none (.call Mth.Outer) outer := by
  have hi : Gen (V := Nat) T .none (.call Mth.Inner) ([] ++ .acquire .r :: ([] ++ [.release .r])) :=
    Gen.callLocked (T := T) (m := Mth.Inner) rfl (by decide) rfl Gen.segNil Gen.segNil
  have hpre : Gen (V := Nat) T .none (.seg (T Mth.Outer).preReads (T Mth.Outer).preWrites (T Mth.Outer).preCalls)
      (([] ++ .acquire .r :: ([] ++ [.release .r])) ++ []) :=
    Gen.segCall (n := Mth.Inner) (by decide) hi Gen.segNil
  exact Gen.callLocked (T := T) (m := Mth.Outer) (p2 := []) rfl (by decide) rfl hpre Gen.segNil

/-- GAP 1 of `SingleSection`: this table passes `LockDiscipline` and `SingleSection` (no exemption),
yet a call of the exported `Outer` consists of two critical sections; `PreSingle` rejects it. -/
theorem preGap :
    LockDiscipline T allM = true ∧ SingleSection T allM [] = true ∧ (T .Outer).exported = true ∧
      Gen T .none (.call Mth.Outer) outer ∧ acquires outer = 2 ∧ PreSingle T allM [] = false :=
  ⟨by decide, by decide, rfl, outer_gen, by decide, by decide⟩

end PreGap

namespace FuelGap

abbrev Mth := Fin 26

def allM : List Mth := List.finRange 26

/-- a chain of 8 diamonds: method `3j` (j < 8) calls `3j+1` and `3j+2`, each of which calls `3j+3`;
method 24 calls method 25, the only one that takes a lock (read).  Only method 0 is exported.
No lock-taking method is ever reached with a lock held, nothing is written: the table passes
`LockDiscipline`. -/
def T (i : Mth) : MethodInfo Unit Mth :=
  { exported := i.val == 0, lock := if i.val = 25 then .r else .none, lockIndex := 0,
    deferred := i.val == 25, extraLockOps := 0,
    preReads := [], preWrites := [], preCalls := [], reads := [], writes := [],
    calls := if i.val = 25 then [] else if i.val = 24 then [25]
             else if i.val % 3 = 0 then [i + 1, i + 2] else if i.val % 3 = 1 then [i + 2] else [i + 1],
    hook := false }

theorem allM_complete : ∀ m : Mth, m ∈ allM := fun m => List.mem_finRange m

theorem discipline_ok : LockDiscipline T allM = true := by decide +kernel

/-- the fuel `26² + 1 = 677` runs out while the work list still enumerates the `3·(2⁸−1) = 765` paths
to the methods before method 24: `reachLocking` returns `[]` for method 0 … -/
theorem single_ok : SingleSection T allM [] = true := by
  -- level by level: evaluating `reachLocking` itself appends to a work list of hundreds 677 times
  simp only [SingleSection, multiSection, reachLocking_eq_levels T _ _ _ _ (Nat.lt_succ_self _)]
  decide +kernel

/-- … although method 0 reaches the lock-taking method 25: down the left side of every diamond -/
theorem reaches : Reaches T (0 : Mth) 25 :=
  reaches_of_chain [1, 3, 4, 6, 7, 9, 10, 12, 13, 15, 16, 18, 19, 21, 22, 24] 0 (by decide)

/-- `Explored` reports that the exploration was cut short: had it completed, `single_ok` would make
method 0 quiet, and it reaches method 25 -/
theorem not_explored : Explored T allM [] = false := by
  cases h : Explored T allM [] with
  | false => rfl
  | true => exact ((quiet_of_single allM_complete single_ok h (m := (0 : Mth)) rfl (by simp) rfl).2 25 reaches).elim

/-- GAP 2 of `SingleSection`: this table passes `LockDiscipline` and `SingleSection` (no exemption),
yet the exported method 0, which takes no lock, has calls with two (with any number of) acquires;
`Explored` reports that the exploration was cut short. -/
theorem fuelGap :
    LockDiscipline T allM = true ∧ SingleSection T allM [] = true ∧ (T 0).exported = true ∧
      (T 0).lock = .none ∧
      (∀ j, ∃ is : List (Instr Unit Nat), Gen T .none (.call (0 : Mth)) is ∧ acquires is = j) ∧
      Explored T allM [] = false := by
  refine ⟨discipline_ok, single_ok, rfl, rfl, ?_, not_explored⟩
  exact reaches_gen_core (fun _ => True) (fun x _ => by revert x; decide +kernel) (fun _ _ _ _ _ => trivial)
    reaches trivial rfl

end FuelGap

/-- THE STATEMENT AS ASKED IS FALSE (here through the fuel gap; `PreGap.preGap` refutes it as well). -/
theorem single_section_call_statement_false : ¬ single_section_call_statement := by
  intro h
  obtain ⟨hd, hs, hexp, _, hgen, _⟩ := FuelGap.fuelGap
  obtain ⟨is, hg, h2⟩ := hgen 2
  have := h Unit Nat FuelGap.Mth FuelGap.T FuelGap.allM [] FuelGap.allM_complete hd hs 0 is hexp (by simp) hg
  omega

/-- … and through the pre-segment gap -/
theorem single_section_call_statement_false' : ¬ single_section_call_statement := by
  intro h
  obtain ⟨hd, hs, hexp, hg, h2, _⟩ := PreGap.preGap
  have := h Unit Nat PreGap.Mth PreGap.T PreGap.allM [] PreGap.allM_complete hd hs .Outer _ hexp (by simp) hg
  omega

end UtreexoVerif.Props.C12Single
