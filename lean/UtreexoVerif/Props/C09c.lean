/-
  Property C09 (full forests) — the FULL map forest (`NewMapPollard(true)`) refines the
  specification: C01 / C02 / C05 / C06 / C10 for the transliterated model of mappollard.go.
  The invariant is `FInv m F` (`Proofs/MapFull.lean`): `Nodes` holds EVERY node of `F` (the empty roots
  included) with the flag set, `CachedLeaves` every live leaf.  `FInv` is `XInv true` (`MapXInv.xinv_true_iff`); the
  `finv_*` below read the theorems `xinv_*` that cover both kinds of forest.
-/
import UtreexoVerif.Proofs.MapRemoveAll
import UtreexoVerif.Proofs.MapIngest
import UtreexoVerif.Proofs.MapUndoAll
import UtreexoVerif.Props.C09b
import UtreexoVerif.Props.C03c

namespace UtreexoVerif.Props.C09c
open Model Spec Proofs MapAL MapInv PForestSpec MapFull Hasher
set_option linter.unusedSectionVars false

variable {H : Type} [DecidableEq H] [Hasher H]

theorem nodes_empty : (Forest.empty : Forest H).nodes = [] := by
  simp [Forest.nodes, Forest.trees, Forest.empty, Forest.numLeaves, treeRows, treeRowsFrom]

/-- the empty full forest in any allocation `TotalRows = T ≤ 63` (it grows on demand: `remap`) satisfies `FInv` -/
theorem finv_newAt {T : Nat} (hT : T ≤ 63) :
    FInv ({ (MapPollard.new true : MapPollard H) with totalRows := H8 T }) Forest.empty where
  n_lt := by show (0 : Nat) < 2 ^ 63; omega
  n_eq := rfl
  rows_le := by show forestRows 0 ≤ _; simp [forestRows]
  total_le := by show (H8 T).toNat ≤ 63; rw [toNat_H8 hT]; exact hT
  full := rfl
  hyg := C09b.hyg_empty
  nodes := by
    intro p l
    constructor
    · intro h; simp [MapPollard.getNode, MapPollard.new, get?_nil] at h
    · rintro ⟨q, b, hm, _⟩; rw [nodes_empty] at hm; cases hm
  cached := by
    intro x p
    constructor
    · intro h; simp [MapPollard.getCached, MapPollard.new, get?_nil] at h
    · rintro ⟨t, hm, _⟩; rw [nodes_empty] at hm; cases hm

/-- **`NewMapPollard(true)` satisfies `FInv` for the empty forest** -/
theorem finv_new : FInv (MapPollard.new true : MapPollard H) Forest.empty :=
  finv_newAt (T := 63) (Nat.le_refl 63)

theorem finv_inv (nz : NZ H) {m : MapPollard H} {F : Forest H} (s : FInv m F) : Inv m F := s.inv nz

/-- **C01**: the roots of a full forest are the specification's -/
theorem roots_full (nz : NZ H) {m : MapPollard H} {F : Forest H} (s : FInv m F) : m.roots = F.roots :=
  Props.C09.roots_eq (s.inv nz)

set_option linter.unusedVariables false in
theorem hasCached_full (nz : NZ H) {m : MapPollard H} {F : Forest H} (s : FInv m F) (x : H) :
    m.hasCached x = true ↔ x ∈ F.liveLeaves := s.hasCached_iff x

/-- **C02**: `Prove` of ANY duplicate-free list of live leaves, in any order, succeeds and returns
the canonical proof (targets in request order, API coordinates; canonical proof hashes) -/
theorem prove_full (nz : NZ H) {m : MapPollard H} {F : Forest H} (s : FInv m F) (L : List H)
    (hL : ∀ x ∈ L, x ∈ F.liveLeaves) (hnd : L.Nodup) :
    ∃ tgts hashes, F.canon L = some (tgts, hashes) ∧ m.prove L = .ok (tgts.map (encP F.rows), hashes) :=
  Props.C09.prove_canon (s.inv nz) L (fun x hx => (hasCached_full nz s x).2 (hL x hx)) hnd

/-- … and `Prove` refuses a request containing a hash that is not a live leaf -/
theorem prove_full_dead (nz : NZ H) {m : MapPollard H} {F : Forest H} (s : FInv m F) (L : List H)
    {x : H} (hx : x ∈ L) (hdead : x ∉ F.liveLeaves) : m.prove L = .error .err := by
  apply Props.C09.prove_uncached L hx
  cases h : m.hasCached x with
  | false => rfl
  | true => exact absurd ((hasCached_full nz s x).1 h) hdead

/-- **C10, `GetHash`**: for EVERY position of the forest geometry (API coordinates) the answer is
the hash of the node of `F` there, and the all-zero hash where `F` has no node -/
theorem getHash_full (nz : NZ H) {m : MapPollard H} {F : Forest H} (s : FInv m F) (q : Pos)
    (hq : Valid F.rows q) : m.getHash (encP F.rows q) = (F.nodeAt q).getD zero := by
  have inv := s.inv nz
  unfold MapPollard.getHash
  simp only [toStorage inv hq]
  unfold MapPollard.getNodeD
  cases hn : F.nodeAt q with
  | none =>
    cases hg : m.getNode (encP m.totalRows.toNat q) with
    | none => rfl
    | some l =>
      have := getNode_true inv (hq.mono inv.rows_le) hg
      rw [hn] at this; cases this
  | some h =>
    obtain ⟨b, hb⟩ := mem_nodes_of_nodeAt hn
    rw [(s.nodes _ ⟨h, true⟩).2 ⟨q, b, hb, rfl, rfl⟩]
    rfl

/-- **C10, `GetLeafPosition`**: for EVERY hash the answer is the position of that live leaf of `F`
(API coordinates), and "not found" iff the hash is not a live leaf -/
theorem getLeafPosition_full (nz : NZ H) {m : MapPollard H} {F : Forest H} (s : FInv m F) (x : H) :
    m.getLeafPosition x = (F.posOf x).map (encP F.rows) := by
  have inv := s.inv nz
  cases hp : F.posOf x with
  | none => exact Props.C09.getLeafPosition_dead inv hp
  | some t =>
    have hm := Spec.posOf_some_mem hp
    have hc : m.getCached x = some (encP m.totalRows.toNat t) := (s.cached x _).2 ⟨t, hm, rfl⟩
    obtain ⟨R, hb⟩ := posOf_belowRoot hp
    have hv : Valid F.rows t := belowRoot_valid' (Nat.le_refl _) hb
    unfold MapPollard.getLeafPosition
    rw [hc]
    simp only [Option.map_some, Option.some.injEq]
    exact toApi inv hv

/-- **one addition** (`addSingle` followed by `NumLeaves++`), in every case: even or odd leaf
count, non-empty and empty roots on the way up (`moveUpDescendants`), with or without `remap`.
The leaf is appended to the specification forest and cached whatever its `Remember` flag -/
theorem finv_addSingle (nz : NZ H) {m : MapPollard H} {F : Forest H} (s : FInv m F) (a : Leaf H)
    (hn : F.numLeaves + 1 < 2 ^ 63) (hfresh : a.hash ∉ F.liveLeaves) (hx0 : a.hash ≠ zero)
    (hxph : ∀ u v : H, a.hash ≠ ph u v) :
    ∃ m', MapPollard.add [a] m = (m', .ok ()) ∧ FInv m' (F.add a.hash) := by
  obtain ⟨m', h1, h2, _⟩ := MapAddMerge.xinv_addSingle nz ((MapXInv.xinv_true_iff nz).2 s) a hn hfresh hx0 hxph
  refine ⟨{ m' with numLeaves := m'.numLeaves + 1 }, ?_, (MapXInv.xinv_true_iff nz).1 h2⟩
  unfold MapPollard.add
  rw [h1]
  rfl

/-- **`add` of any list of fresh, distinct, non-zero leaves that are not parent hashes** -/
theorem finv_add (nz : NZ H) {m : MapPollard H} {F : Forest H} (s : FInv m F) (adds : List (Leaf H))
    (hn : F.numLeaves + adds.length < 2 ^ 63)
    (hfr : ∀ a ∈ adds, a.hash ∉ F.liveLeaves ∧ a.hash ≠ zero ∧ ∀ u v : H, a.hash ≠ ph u v)
    (hnd : (adds.map (·.hash)).Nodup) :
    ∃ m', MapPollard.add adds m = (m', .ok ()) ∧ FInv m' (F.addMany (adds.map (·.hash))) := by
  obtain ⟨m', h1, h2, _⟩ := MapAddMerge.xinv_add nz adds ((MapXInv.xinv_true_iff nz).2 s) hn hfr hnd
  exact ⟨m', h1, (MapXInv.xinv_true_iff nz).1 h2⟩

/-- **`remove` of ANY duplicate-free list of live leaves** (targets of their canonical proof) -/
theorem finv_remove (nz : NZ H) {m : MapPollard H} {F : Forest H} (s : FInv m F) (L : List H) (ts : List Pos)
    (ps : List H) (hnd : L.Nodup) (hc : F.canon L = some (ts, ps)) :
    ∃ m', MapPollard.remove (ts.map (encP F.rows)) L m = (m', .ok ()) ∧ FInv m' (F.delLeaves L) := by
  have s' := (MapXInv.xinv_true_iff nz).2 s
  obtain ⟨m', h1, h2, _⟩ := MapRemoveAll.xinv_remove nz s' L ts ps hnd hc (s'.cached_of_canon hc)
  exact ⟨m', h1, (MapXInv.xinv_true_iff nz).1 h2⟩

/-- **`Modify` (a valid block) on a full forest**: any duplicate-free list of live leaves is
deleted, any list of fresh leaves is added; the result satisfies `FInv` for the specification's
next forest and has its roots (C01) -/
theorem finv_modify (nz : NZ H) {m : MapPollard H} {F : Forest H} (s : FInv m F) (adds : List (Leaf H))
    (dels : List H) (ts : List Pos) (ps : List H) (hnd : dels.Nodup) (hc : F.canon dels = some (ts, ps))
    (hfr : ∀ a ∈ adds, a.hash ∉ F.liveLeaves ∧ a.hash ≠ zero ∧ ∀ u v : H, a.hash ≠ ph u v)
    (hndA : (adds.map (·.hash)).Nodup) (hn : F.numLeaves + adds.length < 2 ^ 63) :
    ∃ m', MapPollard.modify adds dels (ts.map (encP F.rows)) m = (m', .ok ()) ∧
      FInv m' (F.modify dels (adds.map (·.hash))) ∧
      m'.roots = (F.modify dels (adds.map (·.hash))).roots := by
  have s' := (MapXInv.xinv_true_iff nz).2 s
  obtain ⟨m', h1, s2, _⟩ := MapRemoveAll.xinv_modify nz s' adds dels ts ps (s'.cached_of_canon hc) hnd hc hfr hndA hn
  have s2 := (MapXInv.xinv_true_iff nz).1 s2
  exact ⟨m', h1, s2, roots_full nz s2⟩

theorem canon_enc_nodup {F : Forest H} (hn : F.numLeaves < 2 ^ 63) {L : List H}
    {ts : List Pos} {ps : List H} (hnd : L.Nodup) (hc : F.canon L = some (ts, ps)) :
    (ts.map (encP F.rows)).Nodup := C09b.canon_enc_nodup hn hnd hc

/-- **C05 for the full map forest**: the block may name its targets in ANY order (any permutation
of the targets of the canonical proof; the proof hashes are not read at all) -/
theorem finv_modify_any_order (nz : NZ H) {m : MapPollard H} {F : Forest H} (s : FInv m F) (adds : List (Leaf H))
    (dels : List H) (ts : List Pos) (ps : List H) (hnd : dels.Nodup) (hc : F.canon dels = some (ts, ps))
    (hfr : ∀ a ∈ adds, a.hash ∉ F.liveLeaves ∧ a.hash ≠ zero ∧ ∀ u v : H, a.hash ≠ ph u v)
    (hndA : (adds.map (·.hash)).Nodup) (hn : F.numLeaves + adds.length < 2 ^ 63)
    {tgts' : List U64} (hp : (ts.map (encP F.rows)).Perm tgts') :
    ∃ m', MapPollard.modify adds dels tgts' m = (m', .ok ()) ∧
      FInv m' (F.modify dels (adds.map (·.hash))) ∧
      m'.roots = (F.modify dels (adds.map (·.hash))).roots := by
  rw [C09b.modify_encoding_independent m adds dels hp (canon_enc_nodup s.n_lt hnd hc)]
  exact finv_modify nz s adds dels ts ps hnd hc hfr hndA hn

/-- **`Ingest` of a canonical proof** (surplus hashes allowed) succeeds and changes NOTHING: the
result has the same `Nodes` / `CachedLeaves` look-ups, counters and flags, and satisfies `FInv` -/
theorem finv_ingest (nz : NZ H) {m : MapPollard H} {F : Forest H} (s : FInv m F) (L : List H) (ts : List Pos)
    (ps junk : List H) (hnd : L.Nodup) (hc : F.canon L = some (ts, ps)) :
    ∃ m', MapPollard.ingest L (ts.map (encP F.rows)) (ps ++ junk) m = (m', .ok ()) ∧ FInv m' F ∧
      (∀ p, m'.getNode p = m.getNode p) ∧ (∀ x, m'.getCached x = m.getCached x) ∧
      m'.numLeaves = m.numLeaves ∧ m'.totalRows = m.totalRows ∧ m'.full = m.full := by
  obtain ⟨m', h1, h2, _, h4, h5, h6⟩ := MapIngest.xinv_ingest nz ((MapXInv.xinv_true_iff nz).2 s) L ts ps junk hnd hc
  exact ⟨m', h1, (MapXInv.xinv_true_iff nz).1 h2, (h4 rfl).1, (h4 rfl).2, h5, h6, h2.full.trans s.full.symm⟩

/-- **`Verify(…, remember)` of a canonical proof is total and sound on a full forest**: it accepts
(the roots it checks against are the specification's) and changes nothing -/
theorem finv_verify (nz : NZ H) {m : MapPollard H} {F : Forest H} (s : FInv m F) (L : List H) (ts : List Pos)
    (ps junk : List H) (hnd : L.Nodup) (hc : F.canon L = some (ts, ps)) (remember : Bool) :
    ∃ m', MapPollard.verifyM L (ts.map (encP F.rows)) (ps ++ junk) remember m = (m', .ok ()) ∧ FInv m' F ∧
      (∀ p, m'.getNode p = m.getNode p) ∧ (∀ x, m'.getCached x = m.getCached x) ∧
      m'.numLeaves = m.numLeaves ∧ m'.totalRows = m.totalRows ∧ m'.full = m.full := by
  obtain ⟨m', h1, h2, _, h4, h5, h6⟩ :=
    MapIngest.xinv_verifyM nz ((MapXInv.xinv_true_iff nz).2 s) L ts ps junk hnd hc remember
  exact ⟨m', h1, (MapXInv.xinv_true_iff nz).1 h2, (h4 rfl).1, (h4 rfl).2, h5, h6, h2.full.trans s.full.symm⟩

/-- hygiene gives the side condition of the soundness theorems of `Props/C03b.lean` -/
theorem leafOK_of_hyg {F : Forest H} (hy : Hyg F) : SpecNodes.LeafOK F :=
  fun _ hx hl _ a b _ _ => hy.nph _ (SpecNodes.leaf_node_live hx hl) a b

/-- **`Verify` is sound on a full forest**: whatever `Verify(hashes, proof, remember)` accepts —
honest or not — is a true claim about `F`: every target (below the boundary `2^TotalRows`, i.e. every
position of the API's coordinates) names a node of `F` with the claimed hash.  (The roots the call
checks against are the specification's, `roots_full`; `Props.C03c.verifyM_sound_inv_below`.) -/
theorem verify_sound_full (cr : CR H) {m : MapPollard H} {F : Forest H} (s : FInv m F)
    {hs ps : List H} {ts : List U64} {remember : Bool} (hnz : ∀ h ∈ hs, h ≠ (zero : H))
    (h : (MapPollard.verifyM hs ts ps remember m).2 = .ok ()) :
    ∀ x ∈ ts.zip hs, x.1.toNat < 2 ^ m.totalRows.toNat → Props.C03b.TrueClaim F x :=
  Props.C03c.verifyM_sound_inv_below (s.inv cr.toNZ) cr (leafOK_of_hyg s.hyg) hnz h

theorem finv_prune {m : MapPollard H} {F : Forest H} (s : FInv m F) (hashes : List H) :
    MapPollard.prune hashes m = (m, .ok ()) := Props.C09.prune_full s.full hashes

/-- **`Undo` on a full forest (C06)**: if `m` tracks `F.modify dels adds` (e.g. the state after the
`Modify`, possibly followed by `Verify` / `Ingest` / `Prune`, which change nothing), then
`Undo(len adds, canonical proof of dels in F, dels, roots of F)` succeeds and the result tracks `F`
again: `FInv m' F`, in particular its roots are `F.roots` -/
theorem finv_undo (nz : NZ H) {m : MapPollard H} {F : Forest H} {dels adds : List H} {ts : List Pos} {ps : List H}
    (s : FInv m (F.modify dels adds)) (hyF : Hyg F) (hnd : dels.Nodup) (hc : F.canon dels = some (ts, ps))
    (nonZero : H) (hnz : nonZero ≠ (zero : H)) :
    ∃ m', MapPollard.undo nonZero (BitVec.ofNat 64 adds.length) (ts.map (encP F.rows)) ps dels F.roots m = (m', .ok ()) ∧
      FInv m' F ∧ m'.roots = F.roots := by
  obtain ⟨m', h1, h2, _⟩ := MapUndoAll.xinv_undo nz ((MapXInv.xinv_true_iff nz).2 s) hyF hnd hc nonZero hnz
  have h2 := (MapXInv.xinv_true_iff nz).1 h2
  exact ⟨m', h1, h2, roots_full nz h2⟩

theorem reachFull_finv (nz : NZ H) {m : MapPollard H} {F : Forest H} (hr : C09b.ReachFull m F) : FInv m F := by
  induction hr with
  | new => exact finv_new
  | modify adds dels ts ps _ hnd hc hfr hndA hn he ih =>
    obtain ⟨m2, h2, s2, _⟩ := finv_modify nz ih adds dels ts ps hnd hc
      (fun a ha => ⟨(hfr a ha).2.1, (hfr a ha).1, (hfr a ha).2.2⟩) hndA hn
    rw [he] at h2
    rw [(Prod.mk.inj h2).1]; exact s2

/-- **C01 for `Full` map forests** (the statement left open in `Props/C09b.lean`): every state
reachable from `NewMapPollard(true)` by honest blocks has the specification's roots -/
theorem C01_full : C09b.C01_full_statement H :=
  fun nz _ _ hr => roots_full nz (reachFull_finv nz hr)

/-- honest operations on a FULL map forest, `Undo` included: `Modify` deletes ANY duplicate-free list
of live leaves (every live leaf is cached), names its targets in ANY order, and adds fresh leaves;
`Verify` / `Ingest` of canonical proofs; `Prune`; `Undo` of the newest block with that block's data -/
inductive ReachFullU (nonZero : H) : MapPollard H → Forest H → List (Props.C09.BlockData H) → Prop
  | new : ReachFullU nonZero (MapPollard.new true) Forest.empty []
  | modify {m m' F st} (adds : List (Leaf H)) (dels : List H) (ts : List Pos) (ps : List H) (tgts : List U64) :
      ReachFullU nonZero m F st → dels.Nodup → F.canon dels = some (ts, ps) → (ts.map (encP F.rows)).Perm tgts →
      (∀ a ∈ adds, a.hash ≠ zero ∧ a.hash ∉ F.liveLeaves ∧ ∀ u v : H, a.hash ≠ ph u v) →
      (adds.map (·.hash)).Nodup → F.numLeaves + adds.length < 2 ^ 63 →
      MapPollard.modify adds dels tgts m = (m', .ok ()) →
      ReachFullU nonZero m' (F.modify dels (adds.map (·.hash))) (⟨F, adds.length, dels, ts, ps⟩ :: st)
  | verify {m m' F st} (L : List H) (ts : List Pos) (ps : List H) (remember : Bool) :
      ReachFullU nonZero m F st → L.Nodup → F.canon L = some (ts, ps) →
      MapPollard.verifyM L (ts.map (encP F.rows)) ps remember m = (m', .ok ()) → ReachFullU nonZero m' F st
  | ingest {m m' F st} (L : List H) (ts : List Pos) (ps : List H) :
      ReachFullU nonZero m F st → L.Nodup → F.canon L = some (ts, ps) →
      MapPollard.ingest L (ts.map (encP F.rows)) ps m = (m', .ok ()) → ReachFullU nonZero m' F st
  | prune {m m' F st} (L : List H) :
      ReachFullU nonZero m F st → MapPollard.prune L m = (m', .ok ()) → ReachFullU nonZero m' F st
  | undo {m m' F st} (b : Props.C09.BlockData H) :
      ReachFullU nonZero m F (b :: st) →
      MapPollard.undo nonZero (BitVec.ofNat 64 b.numAdds) (b.targets.map (encP b.prev.rows)) b.proof b.dels
        b.prev.roots m = (m', .ok ()) →
      ReachFullU nonZero m' b.prev st

theorem ReachFullU.stack (nz : NZ H) {nonZero : H} (hnz : nonZero ≠ (zero : H)) :
    ∀ {m : MapPollard H} {F : Forest H} {st : List (Props.C09.BlockData H)}, ReachFullU nonZero m F st →
      FInv m F ∧ C09b.StackOK F st := by
  intro m F st hr
  suffices h : MapXInv.XInv true m F ∧ C09b.StackOK F st from ⟨(MapXInv.xinv_true_iff nz).1 h.1, h.2⟩
  induction hr with
  | new => exact ⟨(MapXInv.xinv_true_iff nz).2 finv_new, trivial⟩
  | modify adds dels ts ps tgts _ hnd hc hp hfr hndA hn he ih =>
    exact ⟨(C09b.of_run (C09b.xinv_modify_any_order nz ih.1 adds dels ts ps (ih.1.cached_of_canon hc) hnd hc hp hfr
      hndA hn) he).1, C09b.stack_push ih.1.hyg ih.2 adds hnd hc⟩
  | verify L ts ps remember _ hnd hc he ih =>
    exact ⟨(C09b.of_run (C09b.xinv_verify nz ih.1 L ts ps remember hnd hc) he).1, ih.2⟩
  | ingest L ts ps _ hnd hc he ih => exact ⟨(C09b.of_run (C09b.xinv_ingest nz ih.1 L ts ps hnd hc) he).1, ih.2⟩
  | prune L _ he ih => exact ⟨(C09b.of_run (C09b.xinv_prune nz ih.1 L) he).1, ih.2⟩
  | undo b _ he ih => exact ⟨C09b.of_run (C09b.xinv_undo_top nz hnz ih.1 ih.2) he, ih.2.2.2.2.2⟩

/-- on a full forest every honest call succeeds; `Modify` may delete ANY duplicate-free list of live
leaves, its targets in ANY order -/
theorem full_calls (nz : NZ H) {nonZero : H} (hnz : nonZero ≠ (zero : H)) {m : MapPollard H} {F : Forest H}
    {st : List (Props.C09.BlockData H)} (s : FInv m F) (hst : C09b.StackOK F st) :
    (∀ L ts ps remember, L.Nodup → F.canon L = some (ts, ps) →
      (∃ m', MapPollard.verifyM L (ts.map (encP F.rows)) ps remember m = (m', .ok ())) ∧
      (∃ m', MapPollard.ingest L (ts.map (encP F.rows)) ps m = (m', .ok ()))) ∧
    (∀ L, ∃ m', MapPollard.prune L m = (m', .ok ())) ∧
    (∀ adds dels, dels.Nodup → (∀ x ∈ dels, x ∈ F.liveLeaves) →
      (∀ a ∈ adds, a.hash ≠ zero ∧ a.hash ∉ F.liveLeaves ∧ ∀ u v : H, a.hash ≠ ph u v) →
      (adds.map (·.hash)).Nodup → F.numLeaves + adds.length < 2 ^ 63 →
      ∃ ts ps, F.canon dels = some (ts, ps) ∧ ∀ tgts, (ts.map (encP F.rows)).Perm tgts →
        ∃ m', MapPollard.modify adds dels tgts m = (m', .ok ())) ∧
    (∀ b st', st = b :: st' → ∃ m',
      MapPollard.undo nonZero (BitVec.ofNat 64 b.numAdds) (b.targets.map (encP b.prev.rows)) b.proof b.dels
        b.prev.roots m = (m', .ok ())) := by
  have s' := (MapXInv.xinv_true_iff nz).2 s
  obtain ⟨c1, c2, c3, c4⟩ := C09b.xinv_calls nz hnz s' hst
  refine ⟨c1, c2, ?_, c4⟩
  intro adds dels hnd hlive hfr hndA hn
  obtain ⟨ts, ps, hc, _⟩ := prove_full nz s dels hlive hnd
  exact ⟨ts, ps, hc, fun tgts hp => c3 adds dels ts ps tgts (s'.cached_of_canon hc) hnd hc hp hfr hndA hn⟩
/-- **C09 for the FULL map forest, every operation (`Undo` included)**: every state reachable from
`NewMapPollard(true)` by honest `Modify` / `Verify` / `Ingest` / `Prune` / `Undo` is full, satisfies
`FInv` (hence `Inv`) and has the specification's roots; and on a reachable state every honest call
succeeds: `Verify` and `Ingest` of every canonical proof, `Prune`, `Modify` deleting ANY
duplicate-free list of live leaves (their canonical proof exists) with the targets in ANY order, and
`Undo` of the newest block -/
theorem C09_reach_full (nz : NZ H) (nonZero : H) (hnz : nonZero ≠ (zero : H)) :
    (∀ (m : MapPollard H) (F : Forest H) (st : List (Props.C09.BlockData H)), ReachFullU nonZero m F st →
      m.full = true ∧ FInv m F ∧ Inv m F ∧ m.roots = F.roots) ∧
    (∀ (m : MapPollard H) (F : Forest H) (st : List (Props.C09.BlockData H)), ReachFullU nonZero m F st →
      (∀ L ts ps remember, L.Nodup → F.canon L = some (ts, ps) →
        (∃ m', MapPollard.verifyM L (ts.map (encP F.rows)) ps remember m = (m', .ok ())) ∧
        (∃ m', MapPollard.ingest L (ts.map (encP F.rows)) ps m = (m', .ok ()))) ∧
      (∀ L, ∃ m', MapPollard.prune L m = (m', .ok ())) ∧
      (∀ adds dels, dels.Nodup → (∀ x ∈ dels, x ∈ F.liveLeaves) →
        (∀ a ∈ adds, a.hash ≠ zero ∧ a.hash ∉ F.liveLeaves ∧ ∀ u v : H, a.hash ≠ ph u v) →
        (adds.map (·.hash)).Nodup → F.numLeaves + adds.length < 2 ^ 63 →
        ∃ ts ps, F.canon dels = some (ts, ps) ∧ ∀ tgts, (ts.map (encP F.rows)).Perm tgts →
          ∃ m', MapPollard.modify adds dels tgts m = (m', .ok ())) ∧
      (∀ b st', st = b :: st' → ∃ m',
        MapPollard.undo nonZero (BitVec.ofNat 64 b.numAdds) (b.targets.map (encP b.prev.rows)) b.proof b.dels
          b.prev.roots m = (m', .ok ()))) := by
  refine ⟨fun m F st hr => ?_, fun m F st hr => ?_⟩
  · have s := (ReachFullU.stack nz hnz hr).1
    exact ⟨s.full, s, s.inv nz, roots_full nz s⟩
  · obtain ⟨s, hst⟩ := ReachFullU.stack nz hnz hr
    exact full_calls nz hnz s hst

/-- **C01 / C02 / C10 for the full map forest in every reachable state** (`Undo` included):
`GetRoots` returns the specification's roots; `GetHash` answers, for EVERY position, the hash of the
node there (zero where there is none); `GetLeafPosition` answers, for EVERY hash, the position of
that live leaf ("not found" iff it is not live); `Prove` of ANY duplicate-free list of live leaves
returns the canonical proof -/
theorem lookups_reach_full (nz : NZ H) {nonZero : H} (hnz : nonZero ≠ (zero : H)) {m : MapPollard H} {F : Forest H}
    {st : List (Props.C09.BlockData H)} (hr : ReachFullU nonZero m F st) :
    m.roots = F.roots ∧
    (∀ q, Valid F.rows q → m.getHash (encP F.rows q) = (F.nodeAt q).getD zero) ∧
    (∀ x, m.getLeafPosition x = (F.posOf x).map (encP F.rows)) ∧
    (∀ L, (∀ x ∈ L, x ∈ F.liveLeaves) → L.Nodup →
      ∃ tgts hashes, F.canon L = some (tgts, hashes) ∧ m.prove L = .ok (tgts.map (encP F.rows), hashes)) := by
  have s := (ReachFullU.stack nz hnz hr).1
  exact ⟨roots_full nz s, fun q hq => getHash_full nz s q hq, fun x => getLeafPosition_full nz s x,
    fun L hL hnd => prove_full nz s L hL hnd⟩

namespace Example
open Props.C09.Example MapSInv.Example C09b.Example

/-- the full forest after adding the five leaves of `F5` (whatever their `Remember` flags) -/
def mf5 : MapPollard T := (MapPollard.add adds5 (MapPollard.new true)).1

theorem adds5_fresh : ∀ a ∈ adds5, a.hash ∉ (Forest.empty : Forest T).liveLeaves ∧ a.hash ≠ zero ∧
    ∀ u v : T, a.hash ≠ ph u v := by
  intro a ha
  simp only [adds5, List.mem_cons, List.mem_nil_iff, or_false] at ha
  rcases ha with rfl | rfl | rfl | rfl | rfl <;> exact ⟨by decide, leafT_nz _, leafT_nph _⟩

/-- `finv_new` + `finv_add`: `mf5` satisfies `FInv` for `F5` (two of the five leaves were added with
`Remember = false`; all are cached) -/
theorem mf5_finv : FInv mf5 F5 := by
  obtain ⟨m', h1, h2⟩ := finv_add crT.toNZ (finv_new (H := T)) adds5 (by decide) adds5_fresh (by decide)
  have : mf5 = m' := by unfold mf5; rw [h1]
  rw [this]; exact h2

example : mf5.nodes.length = 8 ∧ mf5.cached.length = 5 ∧ mf5.nodes.all (fun e => e.2.remember) = true := by
  decide +kernel

example : mf5.roots = F5.roots ∧ mf5.getLeafPosition (.leaf 3) = (F5.posOf (.leaf 3)).map (encP F5.rows) ∧
    mf5.getHash (encP F5.rows (1, 1)) = (F5.nodeAt (1, 1)).getD zero :=
  ⟨roots_full crT.toNZ mf5_finv, getLeafPosition_full crT.toNZ mf5_finv _, getHash_full crT.toNZ mf5_finv (1, 1) (by decide)⟩

/-- `prove_full`: leaves 3 and 1 were added with `Remember = false`; a full forest proves them -/
example : ∃ tgts hashes, F5.canon [T.leaf 3, T.leaf 1] = some (tgts, hashes) ∧
    mf5.prove [T.leaf 3, T.leaf 1] = .ok (tgts.map (encP F5.rows), hashes) :=
  prove_full crT.toNZ mf5_finv _ (by decide) (by decide)

theorem canon31 : F5.canon [T.leaf 3, T.leaf 1] = some ([(0, 3), (0, 1)], [T.leaf 0, T.leaf 2]) := by
  decide +kernel

/-- `finv_verify`: nothing changes -/
example : ∃ m', MapPollard.verifyM [T.leaf 3, T.leaf 1] ([(0, 3), (0, 1)].map (encP F5.rows))
    ([T.leaf 0, T.leaf 2] ++ [T.leaf 9]) true mf5 = (m', .ok ()) ∧ FInv m' F5 ∧
    (∀ p, m'.getNode p = mf5.getNode p) := by
  obtain ⟨m', h1, h2, h3, _⟩ := finv_verify crT.toNZ mf5_finv _ _ _ [T.leaf 9] (by decide) canon31 true
  exact ⟨m', h1, h2, h3⟩

/-- `finv_ingest`: nothing changes -/
example : ∃ m', MapPollard.ingest [T.leaf 3, T.leaf 1] ([(0, 3), (0, 1)].map (encP F5.rows))
    ([T.leaf 0, T.leaf 2] ++ []) mf5 = (m', .ok ()) ∧ FInv m' F5 ∧ (∀ x, m'.getCached x = mf5.getCached x) := by
  obtain ⟨m', h1, h2, _, h4, _⟩ := finv_ingest crT.toNZ mf5_finv _ _ _ [] (by decide) canon31
  exact ⟨m', h1, h2, h4⟩

/-- `finv_remove`: leaves 3 and 1 (never added with `Remember`) are deleted -/
example : ∃ m', MapPollard.remove ([(0, 3), (0, 1)].map (encP F5.rows)) [T.leaf 3, T.leaf 1] mf5 = (m', .ok ()) ∧
    FInv m' (F5.delLeaves [T.leaf 3, T.leaf 1]) :=
  finv_remove crT.toNZ mf5_finv _ _ _ (by decide) canon31

/-- `finv_modify_any_order` + `finv_undo`: a block deleting leaves 3 and 1 (neither was added with
`Remember`; targets in ascending order although the proof lists them as 3, 1) and adding leaves
5, 6, 7 (the last addition merges all the way up over the re-used positions); then the block is
undone and the state tracks `F5` again -/
example : ∃ m' m'', MapPollard.modify [⟨T.leaf 5, false⟩, ⟨T.leaf 6, false⟩, ⟨T.leaf 7, true⟩] [T.leaf 3, T.leaf 1]
      [1#64, 3#64] mf5 = (m', .ok ()) ∧
    FInv m' (F5.modify [T.leaf 3, T.leaf 1] [T.leaf 5, T.leaf 6, T.leaf 7]) ∧
    MapPollard.undo (T.leaf 9) 3#64 ([(0, 3), (0, 1)].map (encP F5.rows)) [T.leaf 0, T.leaf 2] [T.leaf 3, T.leaf 1]
      F5.roots m' = (m'', .ok ()) ∧
    FInv m'' F5 ∧ m''.roots = F5.roots := by
  obtain ⟨m', h1, s1, _⟩ := finv_modify_any_order crT.toNZ mf5_finv
    [⟨T.leaf 5, false⟩, ⟨T.leaf 6, false⟩, ⟨T.leaf 7, true⟩] [T.leaf 3, T.leaf 1] _ _ (by decide) canon31
    (by
      intro a ha
      simp only [List.mem_cons, List.mem_nil_iff, or_false] at ha
      rcases ha with rfl | rfl | rfl <;> exact ⟨by decide, leafT_nz _, leafT_nph _⟩)
    (by decide) (by decide) (tgts' := [1#64, 3#64]) (List.Perm.swap _ _ _)
  obtain ⟨m'', h2, s2, r2⟩ := finv_undo crT.toNZ s1 F5_hyg (by decide) canon31 (T.leaf 9) (leafT_nz 9)
  exact ⟨m', m'', h1, s1, h2, s2, r2⟩

/-- `ReachFullU` with an `Undo`: a block is applied to the empty full forest and undone again -/
example : ∃ m, ReachFullU (T.leaf 9) m (Forest.empty : Forest T) [] := by
  obtain ⟨_, hprog⟩ := C09_reach_full (H := T) crT.toNZ (T.leaf 9) (leafT_nz 9)
  obtain ⟨_, _, hm, _⟩ := hprog _ _ _ ReachFullU.new
  obtain ⟨ts, ps, hc, hmod⟩ := hm [⟨T.leaf 0, true⟩, ⟨T.leaf 1, false⟩, ⟨T.leaf 2, true⟩] [] (by simp) (by simp) C09b.Example2.fresh012
    (by decide) (by decide)
  obtain ⟨m', h⟩ := hmod _ (List.Perm.refl _)
  have r1 := ReachFullU.modify (nonZero := T.leaf 9) _ _ ts ps _ ReachFullU.new (by simp) hc (List.Perm.refl _) C09b.Example2.fresh012
    (by decide) (by decide) h
  obtain ⟨_, _, _, hu⟩ := hprog _ _ _ r1
  obtain ⟨m'', h2⟩ := hu _ _ rfl
  exact ⟨m'', ReachFullU.undo _ r1 h2⟩

def adds9 : List (Leaf T) :=
  [⟨.leaf 0, false⟩, ⟨.leaf 1, false⟩, ⟨.leaf 2, false⟩, ⟨.leaf 3, false⟩, ⟨.leaf 4, false⟩, ⟨.leaf 5, false⟩,
   ⟨.leaf 6, false⟩, ⟨.leaf 7, false⟩, ⟨.leaf 8, false⟩]

def m0g : MapPollard T := { (MapPollard.new true : MapPollard T) with totalRows := H8 0 }

theorem m0g_finv : FInv m0g (Forest.empty : Forest T) := finv_newAt (H := T) (T := 0) (by decide)

def m9g : MapPollard T := (MapPollard.add adds9 m0g).1

/-- the GROWING case on a full forest: allocated for 0 rows, nine additions force `remap` four times -/
example : MapPollard.add adds9 m0g = (m9g, .ok ()) ∧
    FInv m9g ((Forest.empty : Forest T).addMany (adds9.map (·.hash))) ∧ m9g.totalRows = 4#8 := by
  obtain ⟨m', h1, h2⟩ := finv_add crT.toNZ m0g_finv adds9 (by decide)
    (by
      intro a ha
      simp only [adds9, List.mem_cons, List.mem_nil_iff, or_false] at ha
      rcases ha with rfl | rfl | rfl | rfl | rfl | rfl | rfl | rfl | rfl <;>
        exact ⟨by decide, leafT_nz _, leafT_nph _⟩)
    (by decide)
  have e : m9g = m' := by unfold m9g; rw [h1]
  exact ⟨by rw [e]; exact h1, by rw [e]; exact h2, by decide +kernel⟩

theorem canon4 : F5.canon [T.leaf 4] = some ([(0, 4)], []) := by decide +kernel

/-- the EMPTY-ROOT case on a full forest: deleting leaf 4 of `mf5` empties the root on row 0 (it is
stored as an empty root with the flag set); the next addition is lifted over it -/
example : ∃ m' m'', MapPollard.modify [] [T.leaf 4] ([(0, 4)].map (encP F5.rows)) mf5 = (m', .ok ()) ∧
    m'.getNode (encP 63 (0, 4)) = some ⟨Hasher.zero, true⟩ ∧
    MapPollard.add [⟨T.leaf 5, false⟩] m' = (m'', .ok ()) ∧
    FInv m'' ((F5.delLeaves [T.leaf 4]).add (T.leaf 5)) := by
  obtain ⟨m', h1, s1, _⟩ := finv_modify crT.toNZ mf5_finv [] [T.leaf 4] _ _ (by decide) canon4 (by simp) (by simp)
    (by decide)
  have hF : F5.modify [T.leaf 4] (([] : List (Leaf T)).map (·.hash)) = F5.delLeaves [T.leaf 4] := by
    simp [Forest.modify, Forest.addMany]
  rw [hF] at s1
  obtain ⟨m'', h2, s2⟩ := finv_addSingle crT.toNZ s1 ⟨T.leaf 5, false⟩ (by decide) (by decide) (leafT_nz _) (leafT_nph _)
  refine ⟨m', m'', h1, ?_, h2, s2⟩
  have : (MapPollard.modify [] [T.leaf 4] ([(0, 4)].map (encP F5.rows)) mf5).1.getNode (encP 63 (0, 4)) =
      some ⟨Hasher.zero, true⟩ := by decide +kernel
  rw [h1] at this
  exact this

/-- `verify_sound_full` instantiated: an accepted claim is true -/
example : ∀ x ∈ ([(0, 3), (0, 1)].map (encP F5.rows)).zip [T.leaf 3, T.leaf 1],
    x.1.toNat < 2 ^ mf5.totalRows.toNat → Props.C03b.TrueClaim F5 x :=
  verify_sound_full crT mf5_finv (remember := false) (ps := [T.leaf 0, T.leaf 2])
    (by
      intro h hh
      simp only [List.mem_cons, List.mem_nil_iff, or_false] at hh
      rcases hh with rfl | rfl <;> exact leafT_nz _)
    (by
      obtain ⟨m', h1, _⟩ := finv_verify crT.toNZ mf5_finv _ _ _ [] (by decide) canon31 false
      rw [List.append_nil] at h1
      rw [h1])

example : ∀ m F, C09b.ReachFull (H := T) m F → m.roots = F.roots := C01_full crT.toNZ

end Example

end UtreexoVerif.Props.C09c

section Axioms
open UtreexoVerif.Props.C09c
#print axioms finv_new
#print axioms roots_full
#print axioms prove_full
#print axioms getHash_full
#print axioms getLeafPosition_full
#print axioms finv_modify
#print axioms finv_verify
#print axioms C01_full
#print axioms finv_undo
#print axioms C09_reach_full
#print axioms lookups_reach_full
#print axioms verify_sound_full
#print axioms finv_modify_any_order
#print axioms finv_ingest
#print axioms finv_remove
#print axioms finv_add
#print axioms finv_addSingle
end Axioms
