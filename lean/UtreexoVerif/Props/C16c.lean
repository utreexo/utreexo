/-
  C16 (continued) — the proof-position functions `proofPosition` and `ProofPositions`.
-/
import UtreexoVerif.Proofs.ProofPosFinal
import UtreexoVerif.Proofs.EncPos

namespace UtreexoVerif.Props.C16
open UtreexoVerif.Proofs

/-- the loop of `proofPosition` climbs from a node of the forest to the root of its tree and emits the
sibling at every step -/
theorem proofPositionLoop_spec {H R n : Nat} (hn : n ≤ 2 ^ 63) (hH : H ≤ 63)
    (hhH : Spec.forestRows n ≤ H) :
    ∀ (d : Nat) (p : Spec.Pos), BelowRoot n p.1 p.2 R → p.1 + d = R →
      ∀ (f1 f2 : Nat) (acc : List U64), d < f1 → d ≤ f2 →
        Model.proofPositionLoop (BitVec.ofNat 64 n) (H8 H) f1 (encP H p) acc =
          acc ++ ((Spec.Forest.pathUp n f2 p).dropLast.map (fun p => encP H (Spec.sib p))) := by
  have hnr := forestRows_spec_le n
  intro d
  induction d with
  | zero =>
    intro p hb hrd f1 f2 acc hf1 _
    obtain ⟨f, rfl⟩ : ∃ f, f1 = f + 1 := ⟨f1 - 1, by omega⟩
    have hroot : Spec.isRootPos n p = true := by
      rw [show p = (p.1, p.2) from rfl, belowRoot_isRootPos hb]; simp; omega
    unfold Model.proofPositionLoop
    rw [EncPos.isRootPositionTotalRows_encP hn hH ((hb.valid hnr).mono hhH) (hb.valid hnr), hroot]
    cases f2 with
    | zero => simp [Spec.Forest.pathUp]
    | succ f2 => simp [Spec.Forest.pathUp, hroot]
  | succ d ih =>
    intro p hb hrd f1 f2 acc hf1 hf2
    obtain ⟨f, rfl⟩ : ∃ f, f1 = f + 1 := ⟨f1 - 1, by omega⟩
    obtain ⟨g, rfl⟩ : ∃ g, f2 = g + 1 := ⟨f2 - 1, by omega⟩
    have hv := hb.valid hnr
    have hvH := hv.mono hhH
    have hRH : R ≤ H := Nat.le_trans (belowRoot_valid hnr hb).1 hhH
    have hroot : Spec.isRootPos n p = false := by
      rw [show p = (p.1, p.2) from rfl, belowRoot_isRootPos hb]; simp; omega
    unfold Model.proofPositionLoop
    rw [EncPos.isRootPositionTotalRows_encP hn hH hvH hv, hroot]
    simp only [Bool.false_eq_true, if_false]
    rw [EncPos.parent_encP hH hvH (by omega), EncPos.sibling_encP hH hvH,
      ih (Spec.parent p) (belowRoot_parent hb (by omega)) (by show p.1 + 1 + d = R; omega) f g _
        (by omega) (by omega)]
    have hne : Spec.Forest.pathUp n g (Spec.parent p) ≠ [] := by
      cases g <;> simp [Spec.Forest.pathUp] <;> split <;> simp
    rw [Spec.Forest.pathUp, hroot]
    simp only [Bool.false_eq_true, if_false]
    rw [List.dropLast_cons_of_ne_nil hne, List.map_cons, List.append_assoc]
    rfl

/-- `proofPosition target` lists the siblings of the nodes on the path from the target up to
(not including) the root of its tree — for every position of the forest, in a forest
allocated for `H ≥ TreeRows numLeaves` rows -/
theorem proofPosition_enc {H h r o R : Nat} (n : U64) (hT : Model.TreeRows n = H8 h)
    (hH : H ≤ 63) (hhH : h ≤ H) (hb : BelowRoot n.toNat r o R) :
    Model.proofPosition (encU H r o) n (H8 H) =
      (Spec.Forest.pathUp n.toNat (H + 1) (r, o)).dropLast.map (fun p => encP H (Spec.sib p)) := by
  have hh : h ≤ 63 := by omega
  have hn := le_of_treeRows n hT hh
  obtain ⟨hRh, hr, ho⟩ := belowRoot_valid hn hb
  have hrows : Spec.forestRows n.toNat ≤ H := by
    have h1 := treeRows_toNat n
    rw [hT, toNat_H8 hh] at h1
    omega
  have hv : ValidH H (r, o) := ValidH.mono ⟨hr, ho⟩ hhH
  have hgt : ¬ (H8 r > H8 H) := fun hc => by
    have := (H8_lt_iff (by omega) (by omega)).1 hc; omega
  have hp := proofPositionLoop_spec (Nat.le_trans hn (two_pow_le_of_le hh)) hH hrows (R - r) (r, o) hb
    (by have := hb.1; omega) (H - r + 1) (H + 1) [] (by omega) (by omega)
  rw [BitVec.ofNat_toNat, BitVec.setWidth_eq] at hp
  unfold Model.proofPosition
  rw [show encU H r o = encP H (r, o) from rfl, EncPos.detectRow_encP hH hv, if_neg hgt, toNat_H8 hH,
    toNat_H8 (by omega), hp]
  rfl

/-- 5 leaves, leaf 1: siblings 0 and 9 -/
example : Model.proofPosition 1#64 5#64 3#8 = [0#64, 9#64] := by decide +kernel
example : Model.proofPosition (encU 3 0 1) 5#64 (H8 3) =
    (Spec.Forest.pathUp 5 4 (0, 1)).dropLast.map (fun p => encP 3 (Spec.sib p)) :=
  proofPosition_enc (h := 3) (R := 2) 5#64 (by decide) (by decide) (by decide)
    ⟨by decide, by decide, by decide⟩
example : Spec.Forest.pathUp 5 4 (0, 1) = [(0, 1), (1, 0), (2, 0)] := by decide


/-- **`ProofPositions` is the (row, offset) algorithm `refPP`** (`Proofs/ProofPosRef.lean`: per
row a left-to-right scan using only `parent`, `sib`, `isRootPos`, then a sort and the removal
of adjacent duplicates) — for every
list of targets that are nodes of the forest (sorted or not, nested or not), in a forest
allocated for `H ≥ TreeRows numLeaves` rows, `H ≤ 63`. -/
theorem proofPositions_refines {H h : Nat} (n : U64) (hT : Model.TreeRows n = H8 h)
    (hH : H ≤ 63) (hhH : h ≤ H) (targets : List Spec.Pos)
    (htg : ∀ p ∈ targets, ∃ R, BelowRoot n.toNat p.1 p.2 R) :
    Model.ProofPositions (targets.map (encP H)) n (H8 H) =
      ((refPP n.toNat H targets).1.map (encP H), (refPP n.toNat H targets).2.map (encP H)) :=
  proofPositions_eq_refPP n hT hH hhH targets htg

theorem rows_le_of_treeRows {Hh : Type} (F : Spec.Forest Hh) {H h : Nat} (n : U64)
    (hn : n.toNat = F.numLeaves) (hT : Model.TreeRows n = H8 h) (hH : H ≤ 63) (hhH : h ≤ H) :
    F.rows ≤ H := by
  have h1 := treeRows_toNat n
  rw [hT, toNat_H8 (by omega), hn] at h1
  unfold Spec.Forest.rows
  omega

/-- **`ProofPositions` on sorted, un-nested targets is the specification's canonical answer.**
For a forest `F` with `numLeaves` leaves, allocated for `H` rows (`TreeRows numLeaves ≤ H ≤ 63`),
and targets that are nodes of the forest, strictly sorted, none an ancestor of another
(`PPHyp`; true of every set of leaves of the collapsed forest):
`ProofPositions` returns exactly `Spec.Forest.proofPositions` (the siblings on the targets'
paths that are neither targets nor computable, by row then position) and
`Spec.Forest.computable` (the strict ancestors of the targets up to the roots). -/
theorem proofPositions_spec {Hh : Type} (F : Spec.Forest Hh) {H h : Nat} (n : U64)
    (hn : n.toNat = F.numLeaves) (hT : Model.TreeRows n = H8 h) (hH : H ≤ 63) (hhH : h ≤ H)
    (targets : List Spec.Pos) (hyp : PPHyp F.numLeaves targets) :
    Model.ProofPositions (targets.map (encP H)) n (H8 H) =
      ((F.proofPositions targets).map (encP H), (F.computable targets).map (encP H)) := by
  have hrows := rows_le_of_treeRows F n hn hT hH hhH
  rw [proofPositions_eq_refPP n hT hH hhH targets (by rw [hn]; exact hyp.inForest), hn,
    refPP_eq_spec F hyp hrows]

/-- **`ProofPositions` is the specification's canonical answer for EVERY sorted list of forest
nodes — no antichain hypothesis.**  For a forest `F` with `numLeaves` leaves, allocated for `H`
rows (`TreeRows numLeaves ≤ H ≤ 63`), and targets that are nodes of the forest, strictly
ascending (`PPHyp0`; a target may be an ancestor of other targets): `ProofPositions` returns
LITERALLY the lists `Spec.Forest.proofPositions` (the siblings on the targets' paths that are
neither targets nor computable — i.e. not themselves on a path —, by row then position, each
once) and `Spec.Forest.computable` (the strict ancestors of the targets up to the roots, by row
then position, each once; an explicit target that is an ancestor of another target is
computable and is listed).  This is the repaired function (per-row `slices.Compact`); the
function before the repair fails it (`proofPositions_nested_fails`). -/
theorem proofPositions_spec_all {Hh : Type} (F : Spec.Forest Hh) {H h : Nat} (n : U64)
    (hn : n.toNat = F.numLeaves) (hT : Model.TreeRows n = H8 h) (hH : H ≤ 63) (hhH : h ≤ H)
    (targets : List Spec.Pos) (hyp : PPHyp0 F.numLeaves targets) :
    Model.ProofPositions (targets.map (encP H)) n (H8 H) =
      ((F.proofPositions targets).map (encP H), (F.computable targets).map (encP H)) := by
  have hrows := rows_le_of_treeRows F n hn hT hH hhH
  rw [proofPositions_eq_refPP n hT hH hhH targets (by rw [hn]; exact hyp.inForest), hn,
    refPP_eq_spec_all F hyp hrows]

/-- the hypotheses of `proofPositions_spec_all` in elementary terms: every target `(r, o)` is
a node of the forest (`(o+1)·2^r ≤ numLeaves` restricted to a tree: it lies below a root) and
the list is strictly ascending by (row, offset) — which is the order of the encoded positions -/
theorem PPHyp0_iff {n : Nat} {targets : List Spec.Pos} :
    PPHyp0 n targets ↔
      (∀ t ∈ targets, ∃ R, BelowRoot n t.1 t.2 R) ∧
      targets.Pairwise (fun a b => a.1 < b.1 ∨ (a.1 = b.1 ∧ a.2 < b.2)) := by
  constructor
  · rintro ⟨h1, h2⟩
    exact ⟨h1, List.Pairwise.imp (fun h => PLt_iff.1 h) h2⟩
  · rintro ⟨h1, h2⟩
    exact ⟨h1, List.Pairwise.imp (fun h => PLt_iff.2 h) h2⟩

def F5 : Spec.Forest Unit := ⟨[some (), some (), some (), some (), some ()]⟩

/-- 5 leaves; targets: leaf 1 and leaf 4 (the lone root).  Proof positions 0 and 9;
computable 8 and 12. -/
example : Model.ProofPositions [1#64, 4#64] 5#64 3#8 = ([0#64, 9#64], [8#64, 12#64]) := by
  decide +kernel

theorem F5_hyp : PPHyp F5.numLeaves [(0, 1), (0, 4)] where
  inForest := by
    intro t ht
    simp only [List.mem_cons, List.not_mem_nil, or_false] at ht
    rcases ht with rfl | rfl
    · exact ⟨2, by decide, by decide, by decide⟩
    · exact ⟨0, by decide, by decide, by decide⟩
  sorted := by decide
  anti := by
    intro a ha b hb hab
    simp only [List.mem_cons, List.not_mem_nil, or_false] at ha hb
    rcases ha with rfl | rfl <;> rcases hb with rfl | rfl
    · rfl
    · exact absurd hab.2 (by decide)
    · exact absurd hab.2 (by decide)
    · rfl

example : Model.ProofPositions ([(0, 1), (0, 4)].map (encP 3)) 5#64 (H8 3) =
    ((F5.proofPositions [(0, 1), (0, 4)]).map (encP 3), (F5.computable [(0, 1), (0, 4)]).map (encP 3)) :=
  proofPositions_spec F5 (h := 3) 5#64 (by decide) (by decide) (by decide) (by decide) _ F5_hyp
example : F5.proofPositions [(0, 1), (0, 4)] = [(0, 0), (1, 1)] ∧
    F5.computable [(0, 1), (0, 4)] = [(1, 0), (2, 0)] := by decide

def F4 : Spec.Forest Unit := ⟨[some (), some (), some (), some ()]⟩

/-- **Nested targets: the function BEFORE the repair fails the property** (recorded finding
`C16.proofpositions.nested`; `Model.ProofPositionsOld` is the loop without the per-row
`slices.Compact`).  4 leaves, targets 2, 3 and their parent 5 (`(0,2), (0,3), (1,1)`): the
canonical proof is position 4 = `(1,0)`, the sibling of target 5, but the old `ProofPositions`
returns no proof position at all: the parent computed from the pair (2,3) duplicates target 5
and, 5 being a right sibling, `rightSib(5) == 5` pairs the duplicate with itself.  (Same result
from the unrepaired Go code.)  With targets 0, 1, 4 the sibling 5 is reported twice and 6 is
computed twice. -/
theorem proofPositions_nested_fails :
    Model.ProofPositionsOld ([(0, 2), (0, 3), (1, 1)].map (encP 2)) 4#64 2#8 = ([], [5#64, 6#64]) ∧
    (F4.proofPositions [(0, 2), (0, 3), (1, 1)]).map (encP 2) = [4#64] ∧
    Model.ProofPositionsOld ([(0, 0), (0, 1), (1, 0)].map (encP 2)) 4#64 2#8 =
      ([5#64, 5#64], [4#64, 6#64, 6#64]) ∧
    (F4.proofPositions [(0, 0), (0, 1), (1, 0)]).map (encP 2) = [5#64] := by
  decide +kernel

/-- the two witnesses of the finding, on the repaired function: canonical -/
theorem proofPositions_nested_repaired :
    Model.ProofPositions [2#64, 3#64, 5#64] 4#64 2#8 = ([4#64], [5#64, 6#64]) ∧
    Model.ProofPositions [0#64, 1#64, 4#64] 4#64 2#8 = ([5#64], [4#64, 6#64]) := by
  decide +kernel

/-- non-vacuity of `proofPositions_spec_all` on nested targets: 4 leaves, targets 2, 3 and
their parent 5 -/
theorem F4_hyp0 : PPHyp0 F4.numLeaves [(0, 2), (0, 3), (1, 1)] where
  inForest := by
    intro t ht
    simp only [List.mem_cons, List.not_mem_nil, or_false] at ht
    rcases ht with rfl | rfl | rfl <;> exact ⟨2, by decide, by decide, by decide⟩
  sorted := by decide

example : Model.ProofPositions ([(0, 2), (0, 3), (1, 1)].map (encP 2)) 4#64 (H8 2) =
    ((F4.proofPositions [(0, 2), (0, 3), (1, 1)]).map (encP 2),
      (F4.computable [(0, 2), (0, 3), (1, 1)]).map (encP 2)) :=
  proofPositions_spec_all F4 (h := 2) 4#64 (by decide) (by decide) (by decide) (by decide) _ F4_hyp0
example : F4.proofPositions [(0, 2), (0, 3), (1, 1)] = [(1, 0)] ∧
    F4.computable [(0, 2), (0, 3), (1, 1)] = [(1, 1), (2, 0)] := by decide
/-- the target (1,1) IS an ancestor of the targets (0,2), (0,3): the antichain hypothesis of
`proofPositions_spec` fails here -/
example : Anc (1, 1) (0, 2) ∧ ((1, 1) : Spec.Pos) ≠ (0, 2) := ⟨⟨by decide, by decide⟩, by decide⟩

/-- every `uint64` that `inForest` accepts (forest of `n ≤ 2^H` leaves allocated for `H` rows)
is the encoding of a node of the forest -/
theorem decode_inForest {H : Nat} (hH : H ≤ 63) (n : U64) (hn : n.toNat ≤ 2 ^ H) (t : U64)
    (hin : Model.inForest t n (H8 H) = true) :
    ∃ p : Spec.Pos, t = encP H p ∧ ValidH H p ∧ ∃ R, BelowRoot n.toNat p.1 p.2 R := by
  have hlt : t.toNat < 2 ^ (H + 1) - 1 := by
    apply Classical.byContradiction
    intro hc
    rw [inForest_out_of_range hH t n (by omega), decide_eq_true_iff, BitVec.lt_def] at hin
    have : 2 ^ (H + 1) = 2 * 2 ^ H := two_pow_succ' _
    have := Nat.two_pow_pos H
    omega
  obtain ⟨r, o, hr, ho, rfl⟩ := position_exists (h := H) t hlt
  obtain ⟨R, hR⟩ := (inForest_iff_below_root hH hr ho n).1 hin
  exact ⟨(r, o), rfl, ⟨hr, ho⟩, R, hR⟩

theorem decode_targets {H : Nat} (hH : H ≤ 63) (n : U64) (hn : n.toNat ≤ 2 ^ H) :
    ∀ ts : List U64, (∀ t ∈ ts, Model.inForest t n (H8 H) = true) →
      ∃ targets : List Spec.Pos, ts = targets.map (encP H) ∧
        ∀ p ∈ targets, ValidH H p ∧ ∃ R, BelowRoot n.toNat p.1 p.2 R
  | [], _ => ⟨[], rfl, by simp⟩
  | t :: ts, h => by
    obtain ⟨p, rfl, hv, hb⟩ := decode_inForest hH n hn t (h t (by simp))
    obtain ⟨tg, rfl, htg⟩ := decode_targets hH n hn ts (fun t' ht' => h t' (List.mem_cons_of_mem _ ht'))
    refine ⟨p :: tg, rfl, ?_⟩
    intro q hq
    rcases List.mem_cons.1 hq with rfl | hq
    · exact ⟨hv, hb⟩
    · exact htg q hq

/-- **`ProofPositions` on `uint64` lists**: for EVERY strictly ascending list `ts` of positions
that `inForest` accepts — nested or not — the result is literally the specification's canonical
pair of lists for the decoded targets. -/
theorem proofPositions_spec_all_u64 {Hh : Type} (F : Spec.Forest Hh) {H h : Nat} (n : U64)
    (hn : n.toNat = F.numLeaves) (hT : Model.TreeRows n = H8 h) (hH : H ≤ 63) (hhH : h ≤ H)
    (ts : List U64) (hasc : ts.Pairwise (· < ·))
    (hin : ∀ t ∈ ts, Model.inForest t n (H8 H) = true) :
    ∃ targets : List Spec.Pos, ts = targets.map (encP H) ∧ PPHyp0 F.numLeaves targets ∧
      Model.ProofPositions ts n (H8 H) =
        ((F.proofPositions targets).map (encP H), (F.computable targets).map (encP H)) := by
  have hnle : n.toNat ≤ 2 ^ H :=
    Nat.le_trans (le_of_treeRows n hT (by omega)) (two_pow_le_of_le hhH)
  obtain ⟨targets, rfl, htg⟩ := decode_targets hH n hnle ts hin
  have hyp : PPHyp0 F.numLeaves targets := by
    refine ⟨fun t ht => by rw [← hn]; exact (htg t ht).2, ?_⟩
    rw [List.pairwise_map] at hasc
    exact List.Pairwise.imp_of_mem
      (fun {a b} ha hb hab => (encP_lt_iff hH (htg a ha).1 (htg b hb).1).1 hab) hasc
  exact ⟨targets, rfl, hyp, proofPositions_spec_all F n hn hT hH hhH targets hyp⟩

example : ∃ targets : List Spec.Pos, [2#64, 3#64, 5#64] = targets.map (encP 2) ∧
    PPHyp0 F4.numLeaves targets ∧
    Model.ProofPositions [2#64, 3#64, 5#64] 4#64 (H8 2) =
      ((F4.proofPositions targets).map (encP 2), (F4.computable targets).map (encP 2)) :=
  proofPositions_spec_all_u64 F4 (h := 2) 4#64 (by decide) (by decide) (by decide) (by decide) _
    (by simp only [List.pairwise_cons, List.mem_cons, List.not_mem_nil, or_false, forall_eq_or_imp,
          forall_eq, List.Pairwise.nil, and_true, false_imp_iff, implies_true]; decide)
    (by
      intro t ht
      simp only [List.mem_cons, List.not_mem_nil, or_false] at ht
      rcases ht with rfl | rfl | rfl <;> decide +kernel)

end UtreexoVerif.Props.C16
