/-
  C04b — totality of `MapPollard.VerifyPartialProof` and of `MapPollard.Verify` with
  `remember = true` (`ingest` after an accepted proof): neither ever answers `panic`/`hang`, for
  arbitrary targets, hashes, proof hashes and stored hashes, in ANY state with
  `TreeRows ≤ TotalRows ≤ 63` and at most `2^63` leaves (no hypothesis on stored hashes, roots or the
  hash function).  The one place where untrusted data is indexed, `proof.Proof[i]` for
  `i < len(proofPos)` in `ingest`, is in range because an accepted proof has at least
  `len(ProofPositions(targets))` hashes (`Proofs/IngestBound.lean`), also for `TotalRows > TreeRows`,
  where `ProofPositions` runs in `TotalRows` coordinates on the re-translated targets and may be trimmed.
-/
import UtreexoVerif.Props.C03c
import UtreexoVerif.Props.C04
import UtreexoVerif.Proofs.IngestBound
import UtreexoVerif.Proofs.MapCoords

namespace UtreexoVerif.Props.C04b
open Model Spec
open UtreexoVerif.Proofs
open UtreexoVerif.Props.C04 UtreexoVerif.Props.C03c

/-- "neither panics nor hangs" for the result type of the state machine -/
def TotalE {α : Type} (e : Except Fail α) : Prop := e ≠ .error .panic ∧ e ≠ .error .hang

section
variable {H : Type} [DecidableEq H] [Hasher H]

theorem totalE_toExcept {α : Type} {o : Out α} (h : Total o) : TotalE (toExcept o) := by
  cases o with
  | ok a => exact ⟨by simp [toExcept], by simp [toExcept]⟩
  | err => exact ⟨by simp [toExcept], by simp [toExcept]⟩
  | panic => exact absurd rfl h.2
  | hang => exact absurd rfl h.1

/-- **`VerifyPartialProof` is total**: arbitrary targets (any values, multiplicities, order),
hashes, proof hashes, stored hashes, `TotalRows`; any leaf count up to `2^63`. -/
theorem mapVerifyPartialProof_total (n : U64) (hn : n.toNat ≤ 2 ^ 63) (totalRows : U8)
    (get : U64 → Option H) (ts : List U64) (hs ps : List H) :
    Total (mapVerifyPartialProof n totalRows get ts hs ps) := by
  rw [mapVerifyPartialProof_eq]
  rcases partialProofHashes_total get (partialPositions n totalRows ts) ps with ⟨l, hl⟩ | hl
  · rw [hl]
    simp only [Out.bind]
    have := mapVerify_total_uncond n totalRows hn (mapGetRoots n totalRows get) hs ts l
    generalize mapVerify n totalRows (mapGetRoots n totalRows get) hs ts l = v at this
    cases v with
    | ok a => exact Proofs.CalcTotal.total_ok _
    | err => exact Proofs.CalcTotal.total_err
    | panic => exact absurd rfl this.2
    | hang => exact absurd rfl this.1
  · rw [hl]
    exact Proofs.CalcTotal.total_err

/-- the `ProofPositions` call inside `VerifyPartialProof` / `GetMissingPositions` runs on
`TreeRows + 1` units of fuel for the outer loop; one more unit changes nothing, so it is the
loop condition `row <= totalRows` that ends it (the inner loop: `ProofOps.ppInner_fuel`) -/
theorem proofPositions_fuel (n : U64) (ts : List U64) :
    ppOuter n (TreeRows n) ((TreeRows n).toNat + 1) 0#8 { targets := ts, next := [], proofs := [] } =
      ppOuter n (TreeRows n) ((TreeRows n).toNat + 2) 0#8 { targets := ts, next := [], proofs := [] } :=
  ProofOps.ppOuter_fuel n (TreeRows n) (by have := Proofs.CalcSound.treeRows_le_64 n; omega) _ _ _
    (by simp)

theorem verifyM_false_total (m : MapPollard H) (hn : m.numLeaves.toNat ≤ 2 ^ 63)
    (hs : List H) (ts : List U64) (ps : List H) :
    TotalE (MapPollard.verifyM hs ts ps false m).2 ∧ (MapPollard.verifyM hs ts ps false m).1 = m := by
  rw [verifyM_false]
  refine ⟨totalE_toExcept ?_, rfl⟩
  have := mapVerify_total_uncond m.numLeaves m.totalRows hn m.getRoots.1 hs ts ps
  generalize mapVerify m.numLeaves m.totalRows m.getRoots.1 hs ts ps = v at this
  cases v with
  | ok a => exact Proofs.CalcTotal.total_ok _
  | err => exact Proofs.CalcTotal.total_err
  | panic => exact absurd rfl this.2
  | hang => exact absurd rfl this.1

theorem verifyPartialProof_false_total (m : MapPollard H) (hn : m.numLeaves.toNat ≤ 2 ^ 63)
    (ts : List U64) (hs ps : List H) :
    TotalE (MapPollard.verifyPartialProof ts hs ps false m).2 ∧
      (MapPollard.verifyPartialProof ts hs ps false m).1 = m := by
  rw [verifyPartialProof_false]
  exact ⟨totalE_toExcept (mapVerifyPartialProof_total _ hn _ _ _ _ _), rfl⟩

omit [DecidableEq H] [Hasher H] in
/-- the store loop of `ingest` never indexes `proof.Proof` out of range when the proof is at
least as long as the list of proof positions -/
theorem store_ok (ps : List H) : ∀ (l : List U64) (i : Nat) (m : MapPollard H),
    i + l.length ≤ ps.length →
    ∃ m', MapPollard.ingest.store ps l i m = (m', .ok ()) ∧ m'.numLeaves = m.numLeaves ∧
      m'.totalRows = m.totalRows := by
  intro l
  induction l with
  | nil => intro i m _; exact ⟨m, rfl, rfl, rfl⟩
  | cons pos l ih =>
    intro i m hle
    simp only [List.length_cons] at hle
    unfold MapPollard.ingest.store
    split
    · exact ih (i + 1) m (by omega)
    · have : i < ps.length := by omega
      rw [List.getElem?_eq_getElem this]
      simp only
      obtain ⟨m', h1, h2, h3⟩ := ih (i + 1) (m.putNode pos ⟨ps[i], m.full⟩) (by omega)
      exact ⟨m', h1, h2, h3⟩

theorem trimmed_length_le (pp : List U64) (a b : U8) (n : U64) (c : Bool) :
    (if c = true then
        translatePositions (MapPollard.trimProofPos (translatePositions pp a b) n) b a
      else pp).length ≤ pp.length := by
  split
  · unfold translatePositions MapPollard.trimProofPos
    rw [List.length_map]
    refine Nat.le_trans (List.takeWhile_sublist _).length_le ?_
    rw [List.length_map]
    exact Nat.le_refl _
  · exact Nat.le_refl _

/-- **`ingest` after an accepted proof returns `nil`** (in particular `proof.Proof[i]` is in
range for every `i < len(proofPos)`) — in ANY state with `TreeRows ≤ TotalRows ≤ 63` and at most
`2^63` leaves: no hypothesis on the stored hashes, the roots, the claimed hashes or the hash
function.  `ts` are the targets as `verify` hands them to `ingest`, i.e. in `TreeRows`
coordinates. -/
theorem ingest_ok {m : MapPollard H} (hn : m.numLeaves.toNat ≤ 2 ^ 63)
    (hrows : (TreeRows m.numLeaves).toNat ≤ m.totalRows.toNat)
    (htot : m.totalRows.toNat ≤ 63) {hs : List H} {ts : List U64} {ps : List H} {idx : List Nat}
    (hv : verify m.numLeaves m.getRoots.1 hs ts ps = .ok idx) :
    ∃ m', MapPollard.ingest hs ts ps m = (m', .ok ()) := by
  obtain ⟨n, hnum⟩ : ∃ n, n = m.numLeaves.toNat := ⟨_, rfl⟩
  have hN : BitVec.ofNat 64 n = m.numLeaves := by rw [hnum]; simp
  rw [← hnum] at hn
  have htr : TreeRows m.numLeaves = H8 (forestRows n) := by
    rw [← hN]; exact Proofs.treeRows_ofNat hn
  have hrows63 : forestRows n ≤ 63 := Proofs.forestRows_small hn
  rw [htr, toNat_H8 hrows63] at hrows
  have hv' := hv
  rw [← hN] at hv'
  obtain ⟨Tg, hyp, hsort, hlen⟩ := IngestBound.accepted_targets hn hv'
  have hlens : ts.length = hs.length := (Proofs.CalcSound.verify_length hv).symm
  obtain ⟨r, hcalc, _⟩ := Proofs.CalcSound.verify_ok hv
  have hvalid : ∀ q ∈ Tg, ValidH (forestRows n) q := fun q hq =>
    have ⟨_, hb⟩ := hyp.inForest q hq
    hb.valid (forestRows_spec_le n)
  have hnp : (if m.totalRows ≠ TreeRows m.numLeaves then
        sortU64 (translatePositions (sortHP (ts.zip hs)).positions (TreeRows m.numLeaves) m.totalRows)
      else (sortHP (ts.zip hs)).positions) = Tg.map (encP m.totalRows.toNat) := by
    rw [SortBy.sortHP_positions, ProofOps.zip_positions ts hs hlens, hsort, htr, U8_eq_H8 m.totalRows,
      toNat_H8 htot, Proofs.MapIngest.ne_comm_ite]
    exact Proofs.MapIngest.ite_rows htot hrows (y := fun r => Tg.map (encP r)) (z := fun r => Tg.map (encP r))
      (by rw [Proofs.MapIngest.toStor_map htot hrows hvalid,
        sortU64_encP htot Tg (fun q hq => (hvalid q hq).mono hrows), sortPos_of_ssorted hyp.sorted]) (fun _ => rfl)
  have hpp := IngestBound.proofPositions_any hn hyp hrows htot
  rw [← U8_eq_H8 m.totalRows, hN] at hpp
  have hle := Nat.le_trans
    (trimmed_length_le ((refPP n m.totalRows.toNat Tg).1.map (encP m.totalRows.toNat)) m.totalRows
      (TreeRows m.numLeaves) m.numLeaves (decide (TreeRows m.numLeaves ≠ m.totalRows) &&
        decide (((refPP n m.totalRows.toNat Tg).1.map (encP m.totalRows.toNat)).length ≠ ps.length)))
    (by rw [List.length_map]; exact hlen _ hrows)
  obtain ⟨m1, hstore, hn1, _⟩ := store_ok ps _ 0 m (by rw [Nat.zero_add]; exact hle)
  exact ⟨_, Proofs.MapIngest.ingest_eq (Proofs.CalcSound.toHashAndPos_ok hlens) hnp hpp rfl hstore
    (by rw [hn1]; exact hcalc) rfl rfl⟩

/-- **`MapPollard.Verify(delHashes, proof, remember)` never panics or hangs**, in any state with
`TreeRows ≤ TotalRows ≤ 63` and at most `2^63` leaves, for arbitrary input; and it returns `nil`
exactly when the proof is accepted (the error of `ingest` is dropped in Go; there is none) -/
theorem verifyM_total {m : MapPollard H} (hn : m.numLeaves.toNat ≤ 2 ^ 63)
    (hrows : (TreeRows m.numLeaves).toNat ≤ m.totalRows.toNat)
    (htot : m.totalRows.toNat ≤ 63) (hs : List H) (ts : List U64) (ps : List H) (remember : Bool) :
    TotalE (MapPollard.verifyM hs ts ps remember m).2 ∧
      ((MapPollard.verifyM hs ts ps remember m).2 = .ok () ↔
        ∃ idx, mapVerify m.numLeaves m.totalRows m.getRoots.1 hs ts ps = .ok idx) := by
  have htotal := mapVerify_total_uncond m.numLeaves m.totalRows hn m.getRoots.1 hs ts ps
  unfold mapVerify at htotal ⊢
  unfold MapPollard.verifyM
  simp only at htotal ⊢
  generalize hts' : (if TreeRows m.numLeaves ≠ m.totalRows then
    translatePositions ts m.totalRows (TreeRows m.numLeaves) else ts) = ts' at htotal ⊢
  cases hv : verify m.numLeaves m.getRoots.1 hs ts' ps with
  | ok idx =>
    simp only
    cases remember with
    | false => exact ⟨⟨by simp, by simp⟩, by simp⟩
    | true =>
      obtain ⟨m', hm'⟩ := ingest_ok hn hrows htot hv
      simp only [if_true, hm']
      exact ⟨⟨by simp, by simp⟩, by simp⟩
  | err => exact ⟨⟨by simp, by simp⟩, by simp⟩
  | panic => rw [hv] at htotal; exact absurd rfl htotal.2
  | hang => rw [hv] at htotal; exact absurd rfl htotal.1

/-- **`MapPollard.VerifyPartialProof(targets, hashes, proofHashes, remember)` never panics or
hangs**, for arbitrary input and arbitrary stored hashes -/
theorem verifyPartialProof_total {m : MapPollard H} (hn : m.numLeaves.toNat ≤ 2 ^ 63)
    (hrows : (TreeRows m.numLeaves).toNat ≤ m.totalRows.toNat)
    (htot : m.totalRows.toNat ≤ 63) (ts : List U64) (hs ps : List H) (remember : Bool) :
    TotalE (MapPollard.verifyPartialProof ts hs ps remember m).2 := by
  rcases verifyPartialProof_cases m ts hs ps remember with ⟨l, _, e⟩ | ⟨_, e⟩
  · rw [e]
    exact (verifyM_total hn hrows htot hs ts l remember).1
  · rw [e]
    exact ⟨by simp, by simp⟩

/-- **the two models of `VerifyPartialProof` agree on the verdict for every `remember`**
(for `remember = false` they agree on everything: `C03c.verifyPartialProof_false`) -/
theorem verifyPartialProof_verdict {m : MapPollard H} (hn : m.numLeaves.toNat ≤ 2 ^ 63)
    (hrows : (TreeRows m.numLeaves).toNat ≤ m.totalRows.toNat)
    (htot : m.totalRows.toNat ≤ 63) (ts : List U64) (hs ps : List H) (remember : Bool) :
    (MapPollard.verifyPartialProof ts hs ps remember m).2 = .ok () ↔
      mapVerifyPartialProof m.numLeaves m.totalRows (storedHash m) ts hs ps = .ok () := by
  constructor
  · exact verifyPartialProof_ok
  · intro h
    rw [mapVerifyPartialProof_eq, Proofs.CalcSound.bind_eq_ok] at h
    obtain ⟨all, hall, h⟩ := h
    rw [Proofs.CalcSound.bind_eq_ok] at h
    obtain ⟨idx, hidx, _⟩ := h
    rcases verifyPartialProof_cases m ts hs ps remember with ⟨l, hl, e⟩ | ⟨hl, _⟩
    · obtain rfl : l = all := by rw [hl] at hall; injection hall
      rw [e, ← getRoots_eq] at *
      exact (verifyM_total hn hrows htot hs ts l remember).2.2 ⟨idx, hidx⟩
    · rw [hl] at hall; cases hall

open UtreexoVerif.Proofs.MapInv in
/-- the row hypotheses hold in every state satisfying the storage invariant -/
theorem inv_rows {m : MapPollard H} {F : Forest H} (inv : Inv m F) :
    m.numLeaves.toNat ≤ 2 ^ 63 ∧ (TreeRows m.numLeaves).toNat ≤ m.totalRows.toNat ∧
      m.totalRows.toNat ≤ 63 := by
  have h1 := inv.n_lt
  refine ⟨by rw [inv.n_eq, toNat_ofNat64_of_lt (by omega)]; omega, ?_, inv.total_le⟩
  rw [treeRows_numLeaves inv, toNat_H8 (rows_le_63 inv)]
  exact inv.rows_le

open UtreexoVerif.Proofs.MapInv in
theorem verifyM_total_inv {m : MapPollard H} {F : Forest H} (inv : Inv m F)
    (hs : List H) (ts : List U64) (ps : List H) (remember : Bool) :
    TotalE (MapPollard.verifyM hs ts ps remember m).2 :=
  (verifyM_total (inv_rows inv).1 (inv_rows inv).2.1 (inv_rows inv).2.2 hs ts ps remember).1

open UtreexoVerif.Proofs.MapInv in
theorem verifyPartialProof_total_inv {m : MapPollard H} {F : Forest H} (inv : Inv m F)
    (ts : List U64) (hs ps : List H) (remember : Bool) :
    TotalE (MapPollard.verifyPartialProof ts hs ps remember m).2 :=
  verifyPartialProof_total (inv_rows inv).1 (inv_rows inv).2.1 (inv_rows inv).2.2 ts hs ps remember

end

namespace Example
open C03.Example C03c.Finding

/-- arbitrary rubbish: targets up to `2^64-1`, duplicates, wrong lengths, `TotalRows` 200 -/
example : Total (mapVerifyPartialProof (H := T) 4#64 200#8 (fun _ => some (T.leaf 9))
    [BitVec.allOnes 64, 0#64, 0#64, 7#64] [T.leaf 1] [T.leaf 2, T.z]) :=
  mapVerifyPartialProof_total _ (by decide) _ _ _ _ _

example : mapVerifyPartialProof (H := T) 4#64 200#8 (fun _ => some (T.leaf 9))
    [BitVec.allOnes 64, 0#64, 0#64, 7#64] [T.leaf 1] [T.leaf 2, T.z] = .err := by decide +kernel

/-- the state of `C03c.Finding` (4 leaves, `TotalRows = 3`, root and position 9 stored) satisfies
the hypotheses of `ingest_ok` / `verifyM_total` -/
theorem st_hyps (h9 : T) : (st h9).numLeaves.toNat ≤ 2 ^ 63 ∧
    (TreeRows (st h9).numLeaves).toNat ≤ (st h9).totalRows.toNat ∧ (st h9).totalRows.toNat ≤ 63 := by
  show (4#64 : U64).toNat ≤ 2 ^ 63 ∧ (TreeRows 4#64).toNat ≤ (3#8 : U8).toNat ∧ (3#8 : U8).toNat ≤ 63
  refine ⟨?_, ?_, ?_⟩ <;> decide

/-- an accepted full proof of leaf 0 (`TotalRows = 3 ≠ TreeRows = 2`) … -/
theorem accepted0 :
    verify (st h5).numLeaves (st h5).getRoots.1 [T.leaf 0] [0#64] [T.leaf 1, h5] = .ok [0] := by
  decide +kernel

/-- … `ingest_ok` applies … -/
example : ∃ m', MapPollard.ingest [T.leaf 0] [0#64] [T.leaf 1, h5] (st h5) = (m', .ok ()) :=
  ingest_ok (st_hyps h5).1 (st_hyps h5).2.1 (st_hyps h5).2.2 accepted0

/-- … and indeed `Verify(remember=true)` returns `nil`, having stored leaf 0 and its proof -/
example : isOkE (MapPollard.verifyM [T.leaf 0] [0#64] [T.leaf 1, h5] true (st h5)).2 = true ∧
    ((MapPollard.verifyM [T.leaf 0] [0#64] [T.leaf 1, h5] true (st h5)).1.hasNode 0#64 &&
     (MapPollard.verifyM [T.leaf 0] [0#64] [T.leaf 1, h5] true (st h5)).1.hasNode 1#64 &&
     (MapPollard.verifyM [T.leaf 0] [0#64] [T.leaf 1, h5] true (st h5)).1.hasNode 8#64) = true := by
  decide +kernel

/-- a proof with a surplus hash is accepted too (`Verify` does not require the proof to be used
up); then `len(proofPos) ≠ len(proof.Proof)` and `ingest` takes the trimming branch -/
theorem accepted_surplus :
    verify (st h5).numLeaves (st h5).getRoots.1 [T.leaf 0] [0#64] [T.leaf 1, h5, T.leaf 99] = .ok [0] := by
  decide +kernel

example : ∃ m', MapPollard.ingest [T.leaf 0] [0#64] [T.leaf 1, h5, T.leaf 99] (st h5) = (m', .ok ()) :=
  ingest_ok (st_hyps h5).1 (st_hyps h5).2.1 (st_hyps h5).2.2 accepted_surplus

/-- a proof that is too short is rejected, so `ingest` is never reached -/
example : isErrE (MapPollard.verifyM [T.leaf 0] [0#64] [T.leaf 1] true (st h5)).2 = true := by
  decide +kernel

/-- `verifyM_total` / `verifyPartialProof_total` on that state — whatever is stored at position 9,
whatever the input -/
example (h9 : T) (hs : List T) (ts : List U64) (ps : List T) (remember : Bool) :
    TotalE (MapPollard.verifyM hs ts ps remember (st h9)).2 :=
  (verifyM_total (st_hyps h9).1 (st_hyps h9).2.1 (st_hyps h9).2.2 hs ts ps remember).1

example (h9 : T) (hs : List T) (ts : List U64) (ps : List T) (remember : Bool) :
    TotalE (MapPollard.verifyPartialProof ts hs ps remember (st h9)).2 :=
  verifyPartialProof_total (st_hyps h9).1 (st_hyps h9).2.1 (st_hyps h9).2.2 ts hs ps remember

/-- `VerifyPartialProof(…, remember=true)` with the stored hash of position 9 and the supplied
hash of position 1: accepted and ingested -/
example : isOkE (MapPollard.verifyPartialProof [0#64] [T.leaf 0] [T.leaf 1] true (st h5)).2 = true ∧
    (MapPollard.verifyPartialProof [0#64] [T.leaf 0] [T.leaf 1] true (st h5)).1.hasNode 1#64 = true := by
  decide +kernel

/-- the same with `TotalRows = TreeRows = 2` -/
def st2 : MapPollard T :=
  { nodes := [(6#64, ⟨T.node h4 h5, false⟩)], cached := [], numLeaves := 4#64, totalRows := 2#8,
    full := false }

theorem st2_hyps : st2.numLeaves.toNat ≤ 2 ^ 63 ∧
    (TreeRows st2.numLeaves).toNat ≤ st2.totalRows.toNat ∧ st2.totalRows.toNat ≤ 63 := by
  refine ⟨?_, ?_, ?_⟩ <;> decide

theorem accepted2 :
    verify st2.numLeaves st2.getRoots.1 [T.leaf 0, T.leaf 3] [0#64, 3#64]
      [T.leaf 1, T.leaf 2] = .ok [0] := by
  decide +kernel

example : ∃ m', MapPollard.ingest [T.leaf 0, T.leaf 3] [0#64, 3#64] [T.leaf 1, T.leaf 2] st2 = (m', .ok ()) :=
  ingest_ok st2_hyps.1 st2_hyps.2.1 st2_hyps.2.2 accepted2

/-- `accepted_targets` on that run: the targets are the leaves `(0,0)` and `(0,3)`, whose
canonical proof has two positions -/
example : ∃ Tg : List Pos, Proofs.PPHyp 4 Tg ∧
    sortU64 [0#64, 3#64] = Tg.map (Proofs.encP (forestRows 4)) ∧
    ∀ T', forestRows 4 ≤ T' → (Proofs.refPP 4 T' Tg).1.length ≤ 2 :=
  Proofs.IngestBound.accepted_targets (n := 4) (by decide)
    (show verify (BitVec.ofNat 64 4) F.roots [T.leaf 0, T.leaf 3] [0#64, 3#64]
      [T.leaf 1, T.leaf 2] = .ok [0] from by decide +kernel)

example : (Proofs.refPP 4 2 [(0, 0), (0, 3)]).1 = [(0, 1), (0, 2)] ∧
    (Proofs.refPP 4 3 [(0, 0), (0, 3)]).1 = [(0, 1), (0, 2)] ∧
    F.proofPositions [(0, 0), (0, 3)] = [(0, 1), (0, 2)] := by decide +kernel

/-- duplicate targets are never accepted (they would make `ProofPositions` longer than the
number of hashes `calculateHashes` uses) -/
example : verify (H := T) (BitVec.ofNat 64 F.numLeaves) F.roots [T.leaf 0, T.leaf 0] [0#64, 0#64]
    [T.leaf 1, T.leaf 1, h5, h5] = .err := by decide +kernel

end Example

end UtreexoVerif.Props.C04b
