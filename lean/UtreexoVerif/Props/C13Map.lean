/-
  Property C13 for the MAP forest: a restored `MapPollard` behaves like the instance that was written.  Three readings:
  it satisfies the same storage invariant, so reachability is closed under `Write ; Read` (`Props/C13MapInv.lean`);
  instances with the same invariant and cache answer alike and stay so under honest calls (`Props/C13MapTwin.lean`);
  and, here, with no invariant at all: the restored instance and the written one give the same verdicts and observations
  under ALL later calls (`map_restored_bisim`), followed by the examples for all three.

  The restored Go instance is NOT literally the written one: `Read` rebuilds the two maps from the
  stream (in another iteration order — Go's is random anyway), `Full` is not serialised (the
  receiver keeps its flag), and `Read` does not clear the receiver.  The byte theorems assume
  `HashBytesOK H` (a hash is 32 bytes on the wire), the closure theorems `NZ H`; `CR H` cannot be
  added to the former (`Props/C13MapNote.lean`), so the two halves meet in `restore m0 st`, which
  needs neither.
-/
import UtreexoVerif.Proofs.MapSimQuery
import UtreexoVerif.Props.C13MapTwin
import UtreexoVerif.Props.C13b

namespace UtreexoVerif.Props.C13Map
open Model Model.Serial Spec Proofs MapInv Hasher
open Proofs.Serial Proofs.SerialMapInv Proofs.MapSim
set_option linter.unusedSectionVars false

/- `Proofs/MapSim*.lean`: every function of the model reads the two maps through look-ups only, so
`Equiv` is a bisimulation for the whole API. -/
section Bisim
variable {H : Type} [DecidableEq H] [Hasher H]

/-- **state level**: the instance `Read` leaves behind and the written instance give the same verdicts
and the same observations (`GetRoots`, `GetHash`, `GetLeafPosition`, `Prove`, `GetMissingPositions`,
`NumLeaves`, `TotalRows`, `Full`) after every call of every sequence of calls -/
theorem restored_bisim {m m0 : MapPollard H} {st : MapSt H} (w : Walk m st) (hfull : m0.full = m.full) :
    observe m = observe (restore m0 st) ∧
    ∀ cs : List (Call H), trace cs m = trace cs (restore m0 st) ∧
      Equiv (runCalls cs m) (runCalls cs (restore m0 st)) :=
  ⟨observe_equiv (restore_equiv w hfull), fun cs => trace_equiv cs (restore_equiv w hfull)⟩

variable [HashBytes H]

/-- **C13 for the map forest, at full strength.**  Let `m` be any state in which every cached leaf
has its node (`Sane`: implied by the storage invariant of either kind of forest, hence true of every
reachable state — `C09_reach_ser`, `C09_reach_full_ser`; it is the condition `Read` re-checks) and
whose map sizes fit Go's `int`.  Let `Write` walk the two maps in ANY order and let the stream be read
through ANY chunking into a receiver with empty maps and `m`'s `Full` flag.  Then `Read` accepts and
reports the length of the stream, and the restored instance `m'` behaves identically to `m` under all
later operations: for EVERY sequence of calls (`Modify`, `Verify`, `VerifyPartialProof`, `Ingest`,
`Prune`, `Undo`, any arguments) the verdicts and everything observable after every call coincide. -/
theorem map_restored_bisim (ok : HashBytesOK H) {m : MapPollard H} (hs : Sane m) (hf : Fits m) {st : MapSt H}
    (w : Walk m st) (m0 : MapPollard H) (hn0 : m0.nodes = []) (hc0 : m0.cached = []) (hfull : m0.full = m.full)
    (r : Reader) (hd : r.data = encodeMap st) :
    ∃ m', read m0 r = ⟨(encodeMap st).length, .ok m'⟩ ∧ Equiv m m' ∧ Sane m' ∧ Fits m' ∧ observe m = observe m' ∧
      ∀ cs : List (Call H), trace cs m = trace cs m' ∧ Equiv (runCalls cs m) (runCalls cs m') :=
  ⟨_, read_write ok w hs hf m0 hn0 hc0 r hd, restore_equiv w hfull, Sane_congr (restore_equiv w hfull) hs,
    restore_fits w hf, (restored_bisim w hfull).1, (restored_bisim w hfull).2⟩

/-- the hypothesis `Sane` of `map_restored_bisim` cannot be dropped: it is exactly what makes `Read`
accept (`sanityOk`); and a stream is accepted only if the restored state is sane -/
theorem read_ok_sane {m0 m' : MapPollard H} {r : Reader} {n : Nat} (h : read m0 r = ⟨n, .ok m'⟩) :
    ∃ st, mapRead (toSt m0) r = ⟨n, .ok st⟩ ∧ m' = restore m0 st ∧ sanityOk st.cached st.nodes = true := by
  unfold SerialMapInv.read at h
  cases hr : mapRead (toSt m0) r with
  | mk n' out =>
    rw [hr] at h
    cases out with
    | ok st =>
      simp only [Res.mk.injEq, Out.ok.injEq] at h
      refine ⟨st, by rw [h.1], h.2.symm, ?_⟩
      exact mapRead_ok_sane hr
    | err => simp at h
    | panic => simp at h
    | hang => simp at h

/-- **C13 for the map forest at Go's hash type** `[32]byte` and ANY parent-hash function (e.g.
SHA-512/256): no hypothesis on the hash type is left -/
theorem map_restored_bisim_bytes32 (ph : Props.C13.Bytes32 → Props.C13.Bytes32 → Props.C13.Bytes32) :
    letI : Hasher Props.C13.Bytes32 := ⟨ph, Props.C13.Bytes32.zero⟩
    ∀ {m : MapPollard Props.C13.Bytes32}, Sane m → Fits m → ∀ {st : MapSt Props.C13.Bytes32}, Walk m st →
      ∀ (m0 : MapPollard Props.C13.Bytes32), m0.nodes = [] → m0.cached = [] → m0.full = m.full →
      ∀ (r : Reader), r.data = encodeMap st →
      ∃ m', read m0 r = ⟨(encodeMap st).length, .ok m'⟩ ∧ Equiv m m' ∧ observe m = observe m' ∧
        ∀ cs : List (Call Props.C13.Bytes32), trace cs m = trace cs m' := by
  letI : Hasher Props.C13.Bytes32 := ⟨ph, Props.C13.Bytes32.zero⟩
  intro m hs hf st w m0 hn0 hc0 hfull r hd
  obtain ⟨m', h1, h2, _, _, h3, h4⟩ := map_restored_bisim Props.C13.okBytes32 hs hf w m0 hn0 hc0 hfull r hd
  exact ⟨m', h1, h2, h3, fun cs => (h4 cs).1⟩

end Bisim

namespace Example
open Props.C09.Example MapSInv.Example C09b.Example

abbrev nz : T := T.leaf 9

/-- the forest after the first block (five additions, three of them remembered) -/
def FA : Forest T := Forest.empty.modify [] (adds5.map (·.hash))
def mA : MapPollard T := (MapPollard.modify adds5 [] [] (MapPollard.new false)).1
/-- … and after the second block, which deletes leaf 4: the root on row 0 is EMPTIED (stored as an
all-zero root), `TotalRows = 63 ≠ 3 = TreeRows(5)` -/
def FB : Forest T := FA.modify [T.leaf 4] []
def mB : MapPollard T := (MapPollard.modify [] [T.leaf 4] [4#64] mA).1

theorem eA : MapPollard.modify adds5 [] [] (MapPollard.new false) = (mA, .ok ()) :=
  Proofs.MapUndoDel.pair_ok _ (by decide +kernel)
theorem eB : MapPollard.modify [] [T.leaf 4] [4#64] mA = (mB, .ok ()) :=
  Proofs.MapUndoDel.pair_ok _ (by decide +kernel)

theorem adds5_ok : ∀ a ∈ adds5, a.hash ≠ zero ∧ a.hash ∉ (Forest.empty : Forest T).liveLeaves ∧
    ∀ u v : T, a.hash ≠ ph u v := by
  intro a ha
  simp only [adds5, List.mem_cons, List.mem_nil_iff, or_false] at ha
  rcases ha with rfl | rfl | rfl | rfl | rfl <;> exact ⟨leafT_nz _, by decide, leafT_nph _⟩

def bdA : BD T := ⟨Forest.empty, 5, [], [], []⟩
def bdB : BD T := ⟨FA, 0, [T.leaf 4], [(0, 4)], []⟩

theorem reachA : ReachSer nz mA FA [bdA] :=
  .modify adds5 [] [] [] [] .new (by simp) (by simp) (by decide +kernel) (List.Perm.refl _) adds5_ok (by decide)
    (by decide) eA

/-- a reachable partial map forest with an emptied root and `TotalRows ≠ TreeRows` -/
theorem reachB : ReachSer nz mB FB [bdB, bdA] :=
  .modify [] [T.leaf 4] [(0, 4)] [] [4#64] reachA (by decide +kernel) (by decide) (by decide +kernel)
    (by decide +kernel) (by simp) (by simp) (by decide) eB

example : mB.totalRows = 63#8 ∧ TreeRows mB.numLeaves = 3#8 ∧ (mB.getNodeD (encP 63 (0, 4))).hash = zero ∧
    mB.nodes.length = 8 ∧ mB.cached.length = 2 := by decide +kernel

/-- `Write` walks both maps in the REVERSE of the list order -/
def revWalk {H : Type} [DecidableEq H] (m : MapPollard H) : MapSt H :=
  ⟨m.totalRows, m.numLeaves, (toSt m).cached.reverse, (toSt m).nodes.reverse⟩
theorem walk_rev {H : Type} [DecidableEq H] (m : MapPollard H) : Walk m (revWalk m) :=
  ⟨rfl, rfl, List.reverse_perm _, List.reverse_perm _⟩
def wB : MapSt T := revWalk mB
theorem walkB : Walk mB wB := walk_rev mB

def mB' : MapPollard T := restore (MapPollard.new false) wB

/-- it is NOT the written model state (its lists are in stream order) … -/
example : mB'.nodes ≠ mB.nodes ∧ mB'.cached ≠ mB.cached := by decide +kernel

/-- … but it is reachable, satisfies the invariant for the same forest and has the same roots -/
example : ReachSer nz mB' FB [bdB, bdA] ∧ Inv mB' FB ∧ mB'.roots = mB.roots := by
  have r := ReachSer.restore wB (MapPollard.new false) reachB walkB rfl
  obtain ⟨_, _, inv, h, _⟩ := (C09_reach_ser crT.toNZ nz (leafT_nz 9)).1 _ _ _ r
  obtain ⟨_, _, _, h0, _⟩ := (C09_reach_ser crT.toNZ nz (leafT_nz 9)).1 _ _ _ reachB
  exact ⟨r, inv, by rw [h0]; exact h⟩

/-- one more block on both — it deletes the cached leaf 0 and adds leaf 5, which is lifted over the
emptied root — and then `Undo` of that block, on both -/
def ops : List (Op T) :=
  [.modify [⟨T.leaf 5, true⟩] [T.leaf 0] [(0, 0)] [T.leaf 1, T.node (T.leaf 2) (T.leaf 3)] [0#64], .undo]

theorem ops_honest : HonestRun nz ops FB [bdB, bdA] mB := by
  refine ⟨⟨by decide +kernel, by decide, by decide +kernel, by decide +kernel, ?_, by decide, by decide⟩,
    fun m1 _ => ⟨by simp [Op.Honest, Op.after], fun _ _ => trivial⟩⟩
  intro a ha
  simp only [List.mem_cons, List.mem_nil_iff, or_false] at ha
  subst ha
  exact ⟨leafT_nz _, by decide +kernel, leafT_nph _⟩

/-- `map_restored_behaves_identically` instantiated: the run succeeds on the original and on the
restored instance, the results are twins for the same forest (`FB` again, after the `Undo`) and
answer alike -/
example : ∃ mk mk', runOps nz ops FB [bdB, bdA] mB = some mk ∧ runOps nz ops FB [bdB, bdA] mB' = some mk' ∧
    Twin mk mk' FB ∧ mk.roots = FB.roots ∧ mk'.roots = FB.roots ∧
    (∀ x, mk.getLeafPosition x = mk'.getLeafPosition x) := by
  obtain ⟨_, _, h⟩ := map_restored_behaves_identically crT.toNZ nz (leafT_nz 9) reachB wB walkB (MapPollard.new false) rfl
  obtain ⟨mk, mk', h1, h2, t, hroots, hpos, _⟩ := h ops ops_honest
  exact ⟨mk, mk', h1, h2, t, hroots.1, hroots.2, hpos⟩

/-- full forests: `C09_reach_full_ser` / `map_restored_behaves_identically_full` instantiated on the
full forest holding the same five leaves -/
def mF : MapPollard T := (MapPollard.modify adds5 [] [] (MapPollard.new true)).1
theorem eF : MapPollard.modify adds5 [] [] (MapPollard.new true) = (mF, .ok ()) :=
  Proofs.MapUndoDel.pair_ok _ (by decide +kernel)
theorem reachF : ReachFullSer nz mF FA [bdA] :=
  .modify adds5 [] [] [] [] .new (by simp) (by decide +kernel) (List.Perm.refl _) adds5_ok (by decide)
    (by decide) eF
def wF : MapSt T := revWalk mF
theorem walkF : Walk mF wF := walk_rev mF

example : ∃ mk mk', runOps nz [Op.undo] FA [bdA] mF = some mk ∧
    runOps nz [Op.undo] FA [bdA] (restore (MapPollard.new true) wF) = some mk' ∧
    TwinF mk mk' Forest.empty ∧ mk.roots = mk'.roots := by
  obtain ⟨_, _, h⟩ := map_restored_behaves_identically_full crT.toNZ nz (leafT_nz 9) reachF wF walkF
    (MapPollard.new true) rfl
  obtain ⟨mk, mk', h1, h2, t, hr, _⟩ := h [Op.undo] ⟨by simp [Op.Honest], fun _ _ => trivial⟩
  exact ⟨mk, mk', h1, h2, t, hr⟩

end Example

-- one-byte hashes padded to 32 bytes on the wire (`Props.C13.Example`): the byte-level theorems.
-- (No collision-freeness here: the invariants are established by the executable check.)
namespace ExampleBytes
open Props.C13.Example Example

def addsU : List (Leaf U8) := [⟨1#8, true⟩, ⟨2#8, false⟩, ⟨3#8, true⟩, ⟨4#8, false⟩, ⟨5#8, true⟩]
def FU0 : Forest U8 := ⟨[some 1#8, some 2#8, some 3#8, some 4#8, some 5#8]⟩
/-- five slots, the last one deleted: the tree on row 0 is an emptied root -/
def FU : Forest U8 := FU0.delLeaves [5#8]
def mU0 : MapPollard U8 := (MapPollard.modify addsU [] [] (MapPollard.new false)).1
/-- a partial map forest built by the model's `Modify` (two blocks), `TotalRows = 63 ≠ TreeRows` -/
def mU : MapPollard U8 := (MapPollard.modify [] [5#8] [4#64] mU0).1

theorem mU_inv : Inv mU FU := Props.C09.invCheck_sound (by decide +kernel)
theorem mU_fits : Fits mU := by unfold Fits; decide +kernel
theorem mU_full : (MapPollard.new false : MapPollard U8).full = mU.full := by decide +kernel

example : mU.totalRows = 63#8 ∧ TreeRows mU.numLeaves = 3#8 ∧ mU.getNode 4#64 = some ⟨0#8, false⟩ ∧
    mU.nodes.length = 8 ∧ mU.full = false := by decide +kernel

/-- the stream `Write` produces when it walks the maps in reverse list order: 433 bytes -/
def bytesU : List Byte := encodeMap (revWalk mU)
theorem bytesU_length : bytesU.length = 433 := by decide +kernel
example : bytesU.length = 433 := bytesU_length

theorem bytesU_chunked : (Reader.mk (bytesU.map ([·])) true).data = encodeMap (revWalk mU) := by
  simp [Reader.data, flatten_singletons, bytesU]

/-- **`inv_write_read` instantiated**: the 433 bytes, delivered ONE BYTE PER `Read` CALL with `io.EOF`
on the last one, into a fresh `NewMapPollard(false)`: accepted, and the restored instance satisfies
the invariant for the same forest -/
theorem restoredU : read (MapPollard.new false) ⟨bytesU.map ([·]), true⟩ =
      ⟨433, .ok (restore (MapPollard.new false) (revWalk mU))⟩ ∧
    Inv (restore (MapPollard.new false) (revWalk mU)) FU := by
  obtain ⟨m', h1, h2, _, h4, _⟩ := inv_write_read okU8 mU_inv mU_fits (walk_rev mU) (MapPollard.new false) rfl rfl
    mU_full ⟨bytesU.map ([·]), true⟩ bytesU_chunked
  subst h2
  rw [show (encodeMap (revWalk mU)).length = 433 from bytesU_length] at h1
  exact ⟨h1, h4⟩

def mU' : MapPollard U8 := restore (MapPollard.new false) (revWalk mU)

example : mU'.nodes ≠ mU.nodes := by decide +kernel

def ranOk {α : Type} (p : α × Except Fail Unit) : Bool :=
  match p.2 with
  | .ok _ => true
  | .error _ => false

theorem eq_of_ranOk {α : Type} {p : α × Except Fail Unit} (h : ranOk p = true) : p = (p.1, .ok ()) :=
  Proofs.MapUndoDel.pair_ok p h

/-- … **one more block on both** (it deletes the cached leaf 1 and adds leaf 7, which is lifted over the
emptied root): accepted by both, both results satisfy the invariant for the SAME next forest, the
roots agree (although the two node lists are again in different orders) -/
def FU2 : Forest U8 := FU.modify [1#8] [7#8]
def mU2 : MapPollard U8 := (MapPollard.modify [⟨7#8, true⟩] [1#8] [0#64] mU).1
def mU2' : MapPollard U8 := (MapPollard.modify [⟨7#8, true⟩] [1#8] [0#64] mU').1
example :
    MapPollard.modify [⟨7#8, true⟩] [1#8] [0#64] mU = (mU2, .ok ()) ∧
    MapPollard.modify [⟨7#8, true⟩] [1#8] [0#64] mU' = (mU2', .ok ()) ∧
    Inv mU2 FU2 ∧ Inv mU2' FU2 ∧ mU2.roots = mU2'.roots ∧ mU2.nodes ≠ mU2'.nodes := by
  -- the two runs of the block are evaluated once, for all six facts
  have h : ranOk (MapPollard.modify [⟨7#8, true⟩] [1#8] [0#64] mU) = true ∧
      ranOk (MapPollard.modify [⟨7#8, true⟩] [1#8] [0#64] mU') = true ∧
      invCheck mU2 FU2 = true ∧ invCheck mU2' FU2 = true ∧ mU2.roots = mU2'.roots ∧
      mU2.nodes ≠ mU2'.nodes := by decide +kernel
  exact ⟨eq_of_ranOk h.1, eq_of_ranOk h.2.1, Props.C09.invCheck_sound h.2.2.1,
    Props.C09.invCheck_sound h.2.2.2.1, h.2.2.2.2⟩

/-- `Full` is not serialised: the same stream restored into a receiver with `Full = true` keeps
`Full = true` over a PARTIAL set of nodes.  (`Inv` does not constrain `Full`, so it still holds; but
the state is neither a partial forest — `SInv` demands `Full = false` — nor a full one — `FInv` demands
every node.)  It behaves differently: `Prune`, which forgets leaf 3 in the original, does nothing; a
leaf added with `Remember = false` is cached.  This is why every restore step (`ReachSer.restore`, `ReachFullSer.restore`) fixes the
receiver's flag to the original's. -/
example :
    let bad := restore (MapPollard.new true) (revWalk mU)
    bad.full = true ∧ bad.nodes.length = 8 ∧ invCheck bad FU = true ∧
    ((MapPollard.prune [3#8] mU).1.hasCached 3#8 = false ∧ (MapPollard.prune [3#8] bad).1.hasCached 3#8 = true) ∧
    ((MapPollard.modify [⟨7#8, false⟩] [1#8] [0#64] mU).1.hasCached 7#8 = false ∧
     (MapPollard.modify [⟨7#8, false⟩] [1#8] [0#64] bad).1.hasCached 7#8 = true) := by
  decide +kernel

/-- **`map_restored_bisim` instantiated** (real bytes, 1-byte chunks): the restored instance and the
original give the same verdicts and the same observations after every call of EVERY sequence of
calls — e.g. a block, a dishonest block (leaf 2 is not cached: refused by both, identically), an
`Undo` with stale data, a `Prune` -/
example : ∃ m', read (MapPollard.new false) ⟨bytesU.map ([·]), true⟩ = ⟨433, .ok m'⟩ ∧
    observe mU = observe m' ∧ ∀ cs : List (Call U8), trace cs mU = trace cs m' := by
  obtain ⟨m', h1, _, _, _, h3, h4⟩ := map_restored_bisim okU8 (inv_sane mU_inv) mU_fits (walk_rev mU)
    (MapPollard.new false) rfl rfl mU_full ⟨bytesU.map ([·]), true⟩ bytesU_chunked
  rw [show (encodeMap (revWalk mU)).length = 433 from bytesU_length] at h1
  exact ⟨m', h1, h3, fun cs => (h4 cs).1⟩

def someCalls : List (Call U8) :=
  [.modify [⟨7#8, true⟩] [1#8] [0#64], .modify [⟨9#8, false⟩] [2#8] [1#64], .undo 1#8 1#64 [0#64] [2#8, 98#8] [1#8] [129#8, 0#8],
   .prune [3#8], .verify [3#8] [2#64] [4#8, 34#8] true]

example : trace someCalls mU = trace someCalls mU' :=
  ((restored_bisim (m0 := MapPollard.new false) (walk_rev mU) mU_full).2 someCalls).1

-- the trace is not trivial: the first call succeeds, the second is refused (on both)
example : ((trace someCalls mU).map (fun e => match e.1 with | .ok _ => true | .error _ => false)).take 2 = [true, false] := by
  decide +kernel

/-- OUTSIDE THE PROPERTY (C13 restores into a fresh instance): `Read` does not clear its receiver.
The same 433 bytes read into an instance that held another forest (eight leaves, none remembered:
one stored root) are ACCEPTED — the sanity check passes — and the old root survives next to the new
nodes (`overlay_getNode`): 9 nodes instead of 8, and the storage invariant does not hold -/
def mOld : MapPollard U8 := (MapPollard.modify [⟨11#8, false⟩, ⟨12#8, false⟩, ⟨13#8, false⟩, ⟨14#8, false⟩,
  ⟨15#8, false⟩, ⟨16#8, false⟩, ⟨17#8, false⟩, ⟨18#8, false⟩] [] [] (MapPollard.new false)).1
example : read mOld (Reader.whole bytesU) = ⟨433, .ok (restore mOld (overlay mOld (revWalk mU)))⟩ ∧
    (restore mOld (overlay mOld (revWalk mU))).nodes.length = 9 ∧
    invCheck (restore mOld (overlay mOld (revWalk mU))) FU = false := by
  have hk : (restore mOld (overlay mOld (revWalk mU))).nodes.length = 9 ∧
      invCheck (restore mOld (overlay mOld (revWalk mU))) FU = false ∧
      sanityOk (overlay mOld (revWalk mU)).cached (overlay mOld (revWalk mU)).nodes = true := by decide +kernel
  refine ⟨?_, hk.1, hk.2.1⟩
  have h := read_into_used okU8 (walk_rev mU) mU_fits mOld (Reader.whole bytesU) (by simp [Reader.whole, Reader.data, bytesU])
  rw [if_pos hk.2.2, show (encodeMap (revWalk mU)).length = 433 from bytesU_length] at h
  exact h

end ExampleBytes

end UtreexoVerif.Props.C13Map

section Axioms
open UtreexoVerif.Props.C13Map UtreexoVerif.Proofs.SerialMapInv
#print axioms Inv_congr
#print axioms SInv_congr
#print axioms FInv_congr
#print axioms read_write
#print axioms restore_equiv
#print axioms inv_write_read
#print axioms finv_write_read
#print axioms C09_reach_ser
#print axioms C09_reach_full_ser
#print axioms lookups_reach_ser
#print axioms lookups_reach_full_ser
#print axioms twin_queries
#print axioms twin_step
#print axioms lockstep
#print axioms map_restored_behaves_identically
#print axioms map_restored_behaves_identically_full
#print axioms restored_bisim
#print axioms map_restored_bisim
#print axioms map_restored_bisim_bytes32
#print axioms UtreexoVerif.Proofs.MapSim.sim_call
#print axioms UtreexoVerif.Proofs.MapSim.trace_equiv
#print axioms UtreexoVerif.Proofs.MapSim.observe_equiv
end Axioms
