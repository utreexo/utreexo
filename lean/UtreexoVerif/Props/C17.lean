/-
  Props/C17.lean — C17: library calls never modify the caller's slices.

  PARTIAL BY NATURE.  The functional models of this development cannot exhibit aliasing, so
  C17 is addressed in three parts (DESIGN §5 C17):
  1. a frame theorem on a minimal model of Go's slice heap (`Model/Mem.lean`): a sequence of
     slice operations all of whose store/append/copy DESTINATIONS are rooted in arrays
     allocated during the sequence leaves every pre-existing array unchanged (`frame`), and
     the static provenance discipline "write only through fresh-tagged slices" implies that
     condition (`provenance_sound`);
  2. the write-site table regenerated from the Go source on every check
     (`Gen/Ownership.lean`, translator `/verif/translate/ownership`): every write-through-a-
     slice site reachable from the C17 API set must be `fresh`/`field`, or a `param` site on
     the committed, reviewed allow-list below (`ownership_ok`).  The provenance analysis is
     syntactic and TRUSTED;
  3. the runtime part (harness family `alias`): canary snapshots of every argument and of
     every earlier result, adversarially aliased arguments — sampling.
-/
import UtreexoVerif.Gen.Ownership
import UtreexoVerif.Proofs.Mem

namespace UtreexoVerif.Props.C17
open UtreexoVerif.Model.Mem UtreexoVerif.Proofs.Mem
open UtreexoVerif.Gen.Ownership

variable {α : Type}

/-- What C17 says of an implementation, rendered over the slice heap: `impl c` is the heap
transformer of API call `c` (`none` = panic), `state c h` the ids of the arrays that are
accumulator state of the receiver.  Every array that existed before the call and is not
accumulator state has the same contents afterwards — arguments (including their spare
capacity) and results returned by earlier calls alike, because both are "arrays that
existed before the call".  For the Go code itself this is NOT a Lean theorem (Go's heap has
no semantics here): it is checked by the regenerated table below plus the runtime family. -/
def C17_statement (Call : Type) (impl : Call → Heap α → Option (Heap α)) (state : Call → Heap α → List Nat) : Prop :=
  ∀ c h h', impl c h = some h' → ∀ id, id < h.arrays.length → id ∉ state c h →
    h'.arrays[id]? = h.arrays[id]?

/-- **Frame theorem.**  Run a sequence of slice operations (make, reslice, index store,
append of values or of a slice, copy) from any heap and any registers.  If along the run
every store/append/copy destination slice is rooted in an array allocated during the
sequence (`writesFresh` with `base` = the number of arrays at the start), every
pre-existing array is unchanged — whatever aliasing exists between the registers. -/
theorem frame (zero : α) (st st' : St α) (ops : List (Op α))
    (hrun : run zero st ops = some st')
    (hw : writesFresh zero st.heap.arrays.length st ops = true) :
    ∀ id, id < st.heap.arrays.length → st'.heap.arrays[id]? = st.heap.arrays[id]? :=
  (run_frame zero ops st st' hrun hw (Nat.le_refl _)).2

/-- consequently every slice over a pre-existing array reads the same, and so does every
wider slice of that array (the spare capacity) -/
theorem frame_read (zero : α) (st st' : St α) (ops : List (Op α))
    (hrun : run zero st ops = some st')
    (hw : writesFresh zero st.heap.arrays.length st ops = true) (s : Slice)
    (hs : s.arr < st.heap.arrays.length) : st'.heap.read s = st.heap.read s := by
  have h := frame zero st st' ops hrun hw s.arr hs
  unfold Heap.read
  have e : st'.heap.arrays.getD s.arr [] = st.heap.arrays.getD s.arr [] := by
    simp only [List.getD_eq_getElem?_getD, h]
  rw [e]

/-- **Soundness of the provenance discipline** (what the generated table encodes): tag every
register that exists at the start `param`; `make` yields `fresh`, slicing and `append` keep
the tag of their operand, and index stores, appends and copy destinations are allowed only
on `fresh`-tagged registers (`wellTagged`).  Then the run leaves every pre-existing array
unchanged.  In particular an `append` to a caller's slice is rejected even though it may
only touch spare capacity. -/
theorem provenance_sound (zero : α) (st st' : St α) (ops : List (Op α))
    (hrun : run zero st ops = some st')
    (hw : wellTagged (List.replicate st.regs.length Tag.param) ops = true) :
    ∀ id, id < st.heap.arrays.length → st'.heap.arrays[id]? = st.heap.arrays[id]? := by
  apply frame zero st st' ops hrun
  apply wellTagged_writesFresh zero ops st _ hw _ (Nat.le_refl _)
  refine ⟨by simp, fun r s _ ht => ?_⟩
  rcases hlt : (List.replicate st.regs.length Tag.param)[r]? with _ | t
  · rw [hlt] at ht; cases ht
  · have := List.mem_replicate.mp (List.mem_of_getElem? hlt)
    rw [hlt, this.2] at ht
    cases ht

/-- the full statement holds of every implementation that IS a well-tagged slice program
(no accumulator state): the proved instance of `C17_statement` -/
theorem C17_for_slice_programs_partial (zero : α) (prog : Unit → List (Op α)) (regs : List Slice)
    (hw : wellTagged (List.replicate regs.length Tag.param) (prog ()) = true) :
    C17_statement Unit (fun c h => (run zero ⟨h, regs⟩ (prog c)).map (·.heap)) (fun _ _ => []) := by
  intro c h h' e id hid _
  dsimp only at e
  cases hr : run zero ⟨h, regs⟩ (prog c) with
  | none => rw [hr] at e; cases e
  | some st' =>
    rw [hr] at e
    simp only [Option.map_some, Option.some.injEq] at e
    subst e
    exact provenance_sound zero ⟨h, regs⟩ st' (prog ()) hr hw id hid

/-- the caller's array `[4,5,9,77]`; register 0 = its first three elements (cap 4) -/
def callerHeap : Heap Nat := ⟨[[4, 5, 9, 77]]⟩
def callerRegs : List Slice := [⟨0, 0, 3, 4⟩]

/-- `Pollard.Modify` as written: copy the targets, then the in-place helper on the copy
(`deTwin`-like: `dels = append(dels[:0], dels[2:]...)`, then `insertInOrder`) -/
def withCopy : List (Op Nat) :=
  [.make 3 3, .copy 1 0, .reslice 1 0 0, .reslice 1 2 3, .appendSlice 2 3, .appendVals 4 [8], .store 5 0 6]

/-- the same helper applied to the caller's slice directly (the copy removed) -/
def withoutCopy : List (Op Nat) :=
  [.reslice 0 0 0, .reslice 0 2 3, .appendSlice 1 2, .appendVals 3 [8], .store 4 0 6]

example : wellTagged (List.replicate callerRegs.length Tag.param) withCopy = true := by decide
example : (run 0 ⟨callerHeap, callerRegs⟩ withCopy).map (·.heap.arrays) =
    some [[4, 5, 9, 77], [6, 8, 9]] := by decide
example : writesFresh 0 1 ⟨callerHeap, callerRegs⟩ withCopy = true := by decide

/-- without the copy the discipline rejects the program, and the caller's array changes -/
example : wellTagged (List.replicate callerRegs.length Tag.param) withoutCopy = false := by decide
example : (run 0 ⟨callerHeap, callerRegs⟩ withoutCopy).map (·.heap.arrays) = some [[6, 8, 9, 77]] := by decide

/-- an `append` to the caller's slice that fits its capacity changes nothing within `len`
but overwrites the spare capacity (77 ↦ 1): visible only to a snapshot of the whole backing
array — hence the canaries of the harness -/
example : (run 0 ⟨callerHeap, callerRegs⟩ [.appendVals 0 [1]]).map (fun st => (st.heap.arrays, st.heap.read ⟨0, 0, 3, 4⟩)) =
    some ([[4, 5, 9, 1]], [4, 5, 9]) := by decide

/-- a reviewed `param` site: writes through memory of the API's caller, accepted for the
stated reason -/
structure Allowed where
  fn : Fn
  kind : Kind
  root : Root
  reason : String

/-- The COMMITTED allow-list.  Every entry is a write through caller memory that was reviewed
by hand; the reason says why it cannot change the caller's data, and the harness family
`alias` checks the claim dynamically on every call. -/
def allowList : List Allowed := [
  ⟨.MapPollard_undoDeletion, .indexStore, .v_proof,
   "mappollard.go `proof.Proof[i] = leaf.Hash`: when the proof position is already present in Nodes the " ++
   "caller's proof hash is overwritten with the stored hash.  For the proof of the block being undone the " ++
   "stored hash at a proof position is the hash the proof carries (C09 storage invariant: Nodes holds only " ++
   "true hashes), so the store writes the value already there.  Checked dynamically: argument proof.Proof " ++
   "of every MapPollard.Undo (full and partial, all TotalRows) is snapshot-compared by the alias family."⟩]

def allowed (s : Site) : Bool :=
  allowList.any (fun a => a.fn == s.fn && a.kind == s.kind && a.root == s.root)

/-- a site is accepted iff the written slice is allocated by the call (`fresh`), is
accumulator state (`field`), or is a reviewed `param` site; `unknown` is never accepted -/
def accepted (s : Site) : Bool :=
  match s.prov with
  | .fresh => true
  | .field => true
  | .param => allowed s
  | .unknown => false

/-- **every write-through-a-slice site reachable from the C17 API set is accepted.**
Re-proved against the table regenerated from the current Go source on every check; a removed
defensive copy turns `fresh` sites into `param` sites and breaks this theorem. -/
theorem ownership_ok : table.all accepted = true := by decide +kernel

/-- every allow-list entry is still needed (a stale entry breaks the build) -/
theorem allowList_used :
    allowList.all (fun a => table.any (fun s => s.prov == .param && a.fn == s.fn && a.kind == s.kind && a.root == s.root)) = true := by
  decide +kernel

/-- the helpers the provenance analysis relies on as "copying" are derived, not assumed: all
their reference-carrying results are fresh according to the analysis of their bodies
(`toHashAndPos` copies both slices before sorting, `copySortedFunc`, `translatePositions`,
`ProofPositions`, `mergeSortedHashAndPos`, `getHashAndPosSubset` allocate) -/
theorem copying_helpers_fresh :
    [Fn.toHashAndPos, .copySortedFunc, .translatePositions, .ProofPositions, .mergeSortedHashAndPos,
     .getHashAndPosSubset, .calculateHashesAndRows].all (freshResult.contains ·) = true := by decide

/-- the analysed entry points are exactly the property's API set (plus the root getters whose
results the harness tracks) -/
theorem entries_are_the_api_set :
    entries = [.AddProof, .GetProofSubset, .MapPollard_GetMissingPositions, .MapPollard_GetRoots,
      .MapPollard_Modify, .MapPollard_Prove, .MapPollard_Undo, .MapPollard_Verify,
      .MapPollard_VerifyPartialProof, .Pollard_GetRoots, .Pollard_Modify, .Pollard_Prove,
      .Pollard_Undo, .Pollard_Verify, .Proof_Undo, .Proof_Update, .Stump_Update, .Verify] := by decide

/-- non-vacuity: the table is not trivial — it lists the in-place helpers' writes, which are
accepted only because every caller hands them a fresh copy -/
example : table.length ≥ 100 := by decide +kernel
example : (table.filter (fun s => s.fn == .deTwin || s.fn == .insertInOrder || s.fn == .hashAndPos_Swap ||
    s.fn == .subtractSortedSlice)).length ≥ 6 := by decide +kernel
example : (table.filter (fun s => s.prov == .param)).length = allowList.length := by decide +kernel
example : accepted ⟨.Pollard_remove, .sortInPlace, .v_dels, .param, 0⟩ = false := by decide
example : accepted ⟨.Pollard_remove, .sortInPlace, .v_dels, .unknown, 0⟩ = false := by decide

end UtreexoVerif.Props.C17
