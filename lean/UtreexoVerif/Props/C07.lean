/-
  C07 — a cached proof updated from block data alone stays complete and canonical.

  "A light client that holds only the verifier state, a proof and its leaf hashes, and that
  updates them with each block's targets, added hashes, remember indexes and the update data
  returned by the verifier-state update, afterwards holds exactly its previous leaves minus those
  the block deleted plus every added leaf it asked to remember.  Each held leaf is paired with its
  true new position and the proof hashes are exactly the canonical ones, so the proof verifies
  against the new state and equals what a full prover would emit for those leaves."

  Model: `Model/ProofUpdate.lean` (`proofUpdate` = `updateProofRemove` then `updateProofAdd`,
  transliterated from /repo/prove.go `Proof.Update`).  Specification: `Spec.Forest.canon`.

  The result is stated "as a set of (leaf, position) pairs + the canonical proof hash list": the
  new cached leaves `C'` are a permutation of `(C \ D) ++ remembered adds`, listed by ascending
  position (as Go's `Proof.Update` leaves them), and `(targets, proof)` is `canon` of exactly
  that list.

  Hypothesis on the hash: the one-block theorems need only `NZ H` (parent hashes are never the
  zero hash).  The theorems that go through `Stump.Update` (its `NewAdd` is collected in a map
  keyed by hash) exist under `CR H` (impossible for a finite hash type) and under `NZ H` + the
  finite, decidable hypotheses `NodesDistinct` / `DistinctRun` of `Proofs/NodesUnique.lean`
  (the `_nd` forms; instantiated over a one-byte hash in `Props/NZ.lean`).

  Hypothesis on the remember indexes: ascending (`Pairwise (· ≤ ·)`).  For unsorted indexes the
  Go loop silently drops remembered leaves: `unsorted_remembers_drop` (model) below.

  The docstrings below and the headers of the `Proofs/` files count five levels: 1, the deletion
  movement on the specification (`Proofs/Movement.lean`); 2, the movement loop of the code,
  `getNewPositions` over `deTwin` (`Proofs/MoveDT.lean`, `ProofUpdateGnp`, `ProofUpdateDeTwin`); 3,
  `updateProofRemove` is canonical; 4, `updateProofAdd` is canonical; 5, with the update data that
  `Stump.Update` returns.  At most `2 ^ 63` leaves throughout: positions are encoded with
  `forestRows n` rows in 64 bits, which needs `forestRows n ≤ 63` (`forestRows_small`).
-/
import UtreexoVerif.Proofs.ProofUpdateAdd
import UtreexoVerif.Props.C11b
import UtreexoVerif.Props.C02

namespace UtreexoVerif.Props.C07
open Spec Spec.Forest Hasher Model
open UtreexoVerif.Proofs UtreexoVerif.Proofs.SpecSubs
open UtreexoVerif.Proofs.SpecPlan UtreexoVerif.Proofs.CalcComplete
open UtreexoVerif.Proofs.CalcGeo UtreexoVerif.Proofs.Movement
open UtreexoVerif.Proofs.ProofUpdateRemove UtreexoVerif.Proofs.ProofUpdateAdd
open UtreexoVerif.Props.C11 UtreexoVerif.Props.C11del

section
set_option linter.unusedSectionVars false
variable {H : Type} [DecidableEq H] [Hasher H]

/-- **a surviving leaf `x` at position `p` of `F` sits in `F.delLeaves D` at `movePos F D p`**:
the position obtained from `p` by deleting, for every ancestor level at which the sibling subtree
has no survivor, the corresponding path bit (and moving up one row each time) -/
theorem deletion_movement_posOf {F : Forest H} {D : List H} (hn : F.numLeaves < 2 ^ 64)
    (hnd : F.liveLeaves.Nodup) {x : H} {p : Pos} (hp : F.posOf x = some p) (hx : x ∉ D) :
    (F.delLeaves D).posOf x = some (movePos F D p) := move_posOf hn hnd hp hx

/-- the definition of `movePos`, spelled out: `liftFold 0 p` over the ascending list of the
rows `p.1 ≤ j < h` (`h` the row of the tree of `p`) at which the sibling of the ancestor of `p`
has no survivor; one `liftFold` step on row `j` maps `(r, o)` to `(r + 1, o without bit j - r)` -/
theorem movePos_def (F : Forest H) (D : List H) (p : Pos) :
    movePos F D p =
      FinalPos.liftFold 0 p (deadLevelsOf F D (treeRowOf F.numLeaves p) p) := rfl

theorem mem_deadLevels_iff {F : Forest H} {D : List H} {h : Nat} {p : Pos} {j : Nat} :
    j ∈ deadLevelsOf F D h p ↔
      p.1 ≤ j ∧ j < h ∧ aliveAfter F D j (FinalPos.sibIdx (p.2 / 2 ^ (j - p.1))) = false :=
  mem_deadLevelsOf

/-- **the analogous statement for every node**: the node at `p` (subtree `t`), if a leaf below it
survives, is found in `F.delLeaves D` at `movePos F D p`, with the hash `hashAfter F D p` -/
theorem deletion_movement_nodeAt {F : Forest H} {D : List H} {h : Nat} {p : Pos} {t : CTree H}
    (s : SubAtT F h p t) (hd : delT D t ≠ none) :
    (F.delLeaves D).nodeAt (movePos F D p) = some (hashAfter F D p) := by
  rw [move_nodeAt s hd, hashAfter_eq_valAt, valAt_of s]

/-- **every node of `F.delLeaves D` is a node of `F` that has a surviving leaf below it**, moved;
it can be taken to be the root of its tree or to have a sibling with a survivor -/
theorem deletion_movement_surj {F : Forest H} {D : List H} {h : Nat} {q : Pos} {s' : CTree H}
    (sq : SubAtT (F.delLeaves D) h q s') :
    ∃ p t, SubAtT F h p t ∧ delT D t = some s' ∧ q = movePos F D p ∧
      (p = rootPos F.numLeaves h ∨ aliveAfter F D p.1 (FinalPos.sibIdx p.2) = true) := move_surj sq

/-- **`getNewPositions` over `deTwin` of the sorted deletion targets computes `movePos`**: for a
node `p` of `F` that keeps a survivor (non-zero `h`), with `dt = deTwin (sorted encoded positions
of D)`: `getNewPositions dt [(enc p, h)] n true = [(enc (movePos F D p), h)]`; with
`appendRoots = false` the same unless the moved position is a root (then Go drops the entry —
this never happens for proof positions).  An entry with the all-zero hash is dropped. -/
theorem getNewPositions_movement {F : Forest H} (hn : F.numLeaves ≤ 2 ^ 63)
    (hnd : F.liveLeaves.Nodup) {D : List H} (hD : D.Nodup) (hlive : ∀ x ∈ D, x ∈ F.liveLeaves)
    {h0 : Nat} {p : Pos} {t : CTree H} (s : SubAtT F h0 p t) (hal : delT D t ≠ none) (h : H)
    (hh : h ≠ zero) (appendRoots : Bool)
    (hroot : appendRoots = true ∨ isRootPos F.numLeaves (movePos F D p) = false) :
    getNewPositions
        (deTwin (sortU64 ((D.map (fun l => (F.posOf l).getD (0, 0))).map (E F.rows))) (H8 F.rows))
        [(E F.rows p, h)] (BitVec.ofNat 64 F.numLeaves) appendRoots =
      [(E F.rows (movePos F D p), h)] := by
  obtain ⟨dtp, h1, h2, h3⟩ := ProofUpdateDeTwin.deTwin_spec hn hnd hD hlive
  rw [h1]
  have := gnp_apply hn h2 h3 [(p, h)] appendRoots
    (by intro x hx _; simp only [List.mem_singleton] at hx; subst hx; exact ⟨h0, t, s, hal⟩)
    (by
      rcases hroot with hr | hr
      · exact Or.inl hr
      · right; intro x hx _; simp only [List.mem_singleton] at hx; subst hx; exact hr)
  simp only [List.map_cons, List.map_nil, enc2] at this
  rw [this]
  simp [hh, sortHP, sortBy, insertBy]

/-- what `deTwin` of the sorted deletion targets is: the strictly ascending list of the positions
of the maximal fully-deleted subtrees -/
theorem deTwin_maximal_deleted {F : Forest H} (hn : F.numLeaves ≤ 2 ^ 63) (hnd : F.liveLeaves.Nodup)
    {D : List H} (hD : D.Nodup) (hlive : ∀ x ∈ D, x ∈ F.liveLeaves) :
    ∃ dtp : List Pos,
      deTwin (sortU64 ((D.map (fun l => (F.posOf l).getD (0, 0))).map (E F.rows))) (H8 F.rows) =
        dtp.map (E F.rows) ∧
      dtp.Pairwise Sorted.PLt ∧ ∀ T, T ∈ dtp ↔ IsDT F D T :=
  ProofUpdateDeTwin.deTwin_spec hn hnd hD hlive

/-- **Level 3: `updateProofRemove` is canonical** (see `Proofs/ProofUpdateRemove.lean`) -/
theorem updateProofRemove_canonical {F : Forest H} (hn : F.numLeaves ≤ 2 ^ 63)
    (hnz : ∀ a b : H, ph a b ≠ (zero : H)) (hlive : ∀ l ∈ F.liveLeaves, l ≠ (zero : H))
    (hnd : F.liveLeaves.Nodup) {C D : List H} {tgC tgD : List Pos} {hsC hsD : List H}
    (hC : C.Nodup) (hD : D.Nodup)
    (hcC : F.canon C = some (tgC, hsC)) (hcD : F.canon D = some (tgD, hsD)) :
    ∃ K' tgK' hsK', K'.Perm (C.filter (fun x => decide (x ∉ D))) ∧
      (F.delLeaves D).canon K' = some (tgK', hsK') ∧ tgK'.Pairwise Sorted.PLt ∧
      updateProofRemove ⟨tgC.map (E F.rows), hsC⟩ (tgD.map (E F.rows)) C
        (newDelSpec F D tgD) (BitVec.ofNat 64 F.numLeaves) =
        .ok (⟨tgK'.map (E F.rows), hsK'⟩, K') :=
  ProofUpdateRemove.updateProofRemove_canonical hn hnz hlive hnd hC hD hcC hcD

/-- **Level 4: `updateProofAdd` is canonical** (see `Proofs/ProofUpdateAdd.lean`) -/
theorem updateProofAdd_canonical {F : Forest H} {adds : List H} (nz : NZ H)
    (hN : F.numLeaves + adds.length ≤ 2 ^ 63)
    (hndG : (F.addMany adds).liveLeaves.Nodup)
    (hleaf : ∀ x ∈ (F.addMany adds).liveLeaves, x ≠ (zero : H) ∧ ∀ a b : H, x ≠ ph a b)
    {K' : List H} {tgF : List Pos} {hsF : List H} (hcF : F.canon K' = some (tgF, hsF))
    (hsorted : tgF.Pairwise Sorted.PLt)
    {upd : HP H} {td : List U64} (hspec : AddDataSpec F adds upd td)
    (remembers : List Nat) (hrem : remembers.Pairwise (· ≤ ·)) :
    ∃ K'' tgG hsG, K''.Perm (K' ++ remAdds adds remembers) ∧
      (F.addMany adds).canon K'' = some (tgG, hsG) ∧ tgG.Pairwise Sorted.PLt ∧
      updateProofAdd ⟨tgF.map (E F.rows), hsF⟩ adds K' remembers upd
          (BitVec.ofNat 64 F.numLeaves) td =
        .ok (⟨tgG.map (E (F.addMany adds).rows), hsG⟩, K'') :=
  ProofUpdateAdd.updateProofAdd_canonical nz hN hndG hleaf hcF hsorted hspec remembers hrem

/-- what the light client is expected to hold after a block: its previous leaves minus those the
block deleted, plus every added leaf it asked to remember -/
def expected (C D adds : List H) (remembers : List Nat) : List H :=
  C.filter (fun x => decide (x ∉ D)) ++ remAdds adds remembers

section statement
variable (H : Type) [DecidableEq H] [Hasher H]

/-- **C07, one block, full statement.**  `F`: the accumulator before the block (at most `2^63`
leaves after it; live leaves pairwise distinct, non-zero, not parent hashes); the block deletes
the duplicate-free list `D` with canonical proof `(tgD, hsD)` (so the leaves are live) and adds
`adds` (pairwise distinct, non-zero, not parent hashes, different from every leaf that stays
alive); `ud` is an update data whose fields are what C11 says `Stump.Update` returns
(`prevNumLeaves`, `newDel = newDelSpec`, `AddDataSpec` for `NewAdd`/`ToDestroy`); the client holds
the canonical proof `(tgC, hsC)` of a duplicate-free list `C` of live leaves, in any order; the
remember indexes ascend.  Then `Proof.Update` returns, without error, the canonical proof in
`F.modify D adds` of a permutation `C'` of `expected C D adds remembers`, targets ascending, and
`C'` as the new cached hashes. -/
def proofUpdate_statement : Prop :=
  ∀ (F : Forest H) (C D adds : List H) (tgC tgD : List Pos) (hsC hsD : List H)
    (remembers : List Nat) (ud : UpdateDataM H),
    NZ H → F.numLeaves + adds.length ≤ 2 ^ 63 → F.liveLeaves.Nodup →
    (∀ x ∈ F.liveLeaves, x ≠ (zero : H) ∧ ∀ a b : H, x ≠ ph a b) →
    (∀ x ∈ adds, x ≠ (zero : H) ∧ ∀ a b : H, x ≠ ph a b) → adds.Nodup →
    (∀ x ∈ adds, x ∈ F.liveLeaves → x ∈ D) →
    D.Nodup → F.canon D = some (tgD, hsD) →
    C.Nodup → F.canon C = some (tgC, hsC) →
    remembers.Pairwise (· ≤ ·) →
    ud.prevNumLeaves = BitVec.ofNat 64 F.numLeaves →
    ud.newDel = newDelSpec F D tgD →
    AddDataSpec (F.delLeaves D) adds ud.newAdd ud.toDestroy →
    ∃ C' tg' hs', C'.Perm (expected C D adds remembers) ∧
      (F.modify D adds).canon C' = some (tg', hs') ∧ tg'.Pairwise Sorted.PLt ∧
      proofUpdate ⟨tgC.map (E F.rows), hsC⟩ C adds (tgD.map (E F.rows)) remembers ud =
        .ok (⟨tg'.map (E (F.modify D adds).rows), hs'⟩, C')

end statement

/-- **C07 for one block** -/
theorem proofUpdate_canonical : proofUpdate_statement H := by
  intro F C D adds tgC tgD hsC hsD remembers ud nz hN hnd hleaf hadds haddsnd hnew hD hcD hC hcC
    hrem hud1 hud2 hud3
  have hn : F.numLeaves ≤ 2 ^ 63 := by omega
  obtain ⟨K', tgK', hsK', hperm1, hcK', hsorted, hrm⟩ :=
    ProofUpdateRemove.updateProofRemove_canonical hn nz.nonzero (fun l hl => (hleaf l hl).1) hnd hC hD
      hcC hcD
  obtain ⟨g1, g2⟩ := addMany_delLeaves_ok (dels := D) hnd hleaf hadds haddsnd hnew
  have hn' : (F.delLeaves D).numLeaves = F.numLeaves := numLeaves_delLeaves F D
  have hrows : (F.delLeaves D).rows = F.rows := by unfold Forest.rows; rw [hn']
  obtain ⟨K'', tgG, hsG, hperm2, hcG, hsortedG, had⟩ :=
    ProofUpdateAdd.updateProofAdd_canonical (F := F.delLeaves D) nz (by rw [hn']; exact hN) g1 g2 hcK'
      hsorted hud3 remembers hrem
  refine ⟨K'', tgG, hsG, ?_, hcG, hsortedG, ?_⟩
  · exact hperm2.trans (List.Perm.append_right _ hperm1)
  · unfold proofUpdate
    rw [hud1, hud2, hrm]
    rw [hrows, hn'] at had
    exact had

/-! ### Level 5: with the update data returned by `Stump.Update`

`Stump.Update` collects `NewAdd` in a map keyed by hash, so these theorems need that no non-zero
hash sits at two places of the forest after the block.  They are proved from `NZ H` (parent hashes
are never the zero hash) and the FINITE hypotheses `NodesDistinct G` for the forest `G` after the
block, `DistinctRun` for every forest reached along a history (`Proofs/NodesUnique.lean`;
decidable, and a violation is an explicit collision).  Under `CR H` (impossible for a finite hash
type) these hypotheses hold of every forest, which gives the `CR` forms. -/

/-- Go's `UpdateData` as `Proof.Update` receives it -/
def toM (ud : UpdateData H) : UpdateDataM H :=
  { toDestroy := ud.toDestroy, prevNumLeaves := ud.prevNumLeaves, newDel := ud.newDel,
    newAdd := ud.newAdd }

/-- **C07 for one block, fed by the verifier-state update, without collision-freeness** -/
theorem proofUpdate_with_stump_nd (nz : NZ H) (nonZero : H) (hnz : nonZero ≠ (zero : H))
    (F : Forest H) (C D adds : List H) (tgC tgD : List Pos) (hsC hsD junk : List H)
    (remembers : List Nat)
    (hN : F.numLeaves + adds.length ≤ 2 ^ 63) (hnd : F.liveLeaves.Nodup)
    (hleaf : ∀ x ∈ F.liveLeaves, x ≠ (zero : H) ∧ ∀ a b : H, x ≠ ph a b)
    (hadds : ∀ x ∈ adds, x ≠ (zero : H) ∧ ∀ a b : H, x ≠ ph a b) (haddsnd : adds.Nodup)
    (hnew : ∀ x ∈ adds, x ∈ F.liveLeaves → x ∈ D)
    (hD : D.Nodup) (hcD : F.canon D = some (tgD, hsD))
    (hC : C.Nodup) (hcC : F.canon C = some (tgC, hsC))
    (hrem : remembers.Pairwise (· ≤ ·))
    (hd : NodesDistinct (F.modify D adds)) :
    ∃ (ud : UpdateData H) (C' : List H) (tg' : List Pos) (hs' : List H),
      (C01b.stumpOf F).update nonZero D adds (C01.encTargets F.rows tgD) (hsD ++ junk) =
        .ok (C01b.stumpOf (F.modify D adds), ud) ∧
      C'.Perm (expected C D adds remembers) ∧
      (F.modify D adds).canon C' = some (tg', hs') ∧ tg'.Pairwise Sorted.PLt ∧
      proofUpdate ⟨tgC.map (E F.rows), hsC⟩ C adds (C01.encTargets F.rows tgD) remembers (toM ud) =
        .ok (⟨tg'.map (E (F.modify D adds).rows), hs'⟩, C') := by
  obtain ⟨ud, h1, h2, h3, h4⟩ := stump_update_data_nd nz nonZero hnz F (C01b.stumpOf F) D adds tgD hsD
    junk rfl rfl hN hnd (fun x hx => (hleaf x hx).1) (fun x hx => (hadds x hx).1) hD hcD hd
  obtain ⟨C', tg', hs', g1, g2, g3, g4⟩ := proofUpdate_canonical F C D adds tgC tgD hsC hsD remembers
    (toM ud) nz hN hnd hleaf hadds haddsnd hnew hD hcD hC hcC hrem h2 h3 h4
  exact ⟨ud, C', tg', hs', h1, g1, g2, g3, g4⟩

/-- **C07 for one block, fed by the verifier-state update**: `Stump.Update` on the block (with
the canonical deletion proof, arbitrary hashes appended) accepts, ends with the stump of
`F.modify D adds`, and the update data it returns makes `Proof.Update` produce the canonical
proof of the expected leaves. -/
theorem proofUpdate_with_stump (cr : CR H) (nonZero : H) (hnz : nonZero ≠ (zero : H))
    (F : Forest H) (C D adds : List H) (tgC tgD : List Pos) (hsC hsD junk : List H)
    (remembers : List Nat)
    (hN : F.numLeaves + adds.length ≤ 2 ^ 63) (hnd : F.liveLeaves.Nodup)
    (hleaf : ∀ x ∈ F.liveLeaves, x ≠ (zero : H) ∧ ∀ a b : H, x ≠ ph a b)
    (hadds : ∀ x ∈ adds, x ≠ (zero : H) ∧ ∀ a b : H, x ≠ ph a b) (haddsnd : adds.Nodup)
    (hnew : ∀ x ∈ adds, x ∈ F.liveLeaves → x ∈ D)
    (hD : D.Nodup) (hcD : F.canon D = some (tgD, hsD))
    (hC : C.Nodup) (hcC : F.canon C = some (tgC, hsC))
    (hrem : remembers.Pairwise (· ≤ ·)) :
    ∃ (ud : UpdateData H) (C' : List H) (tg' : List Pos) (hs' : List H),
      (C01b.stumpOf F).update nonZero D adds (C01.encTargets F.rows tgD) (hsD ++ junk) =
        .ok (C01b.stumpOf (F.modify D adds), ud) ∧
      C'.Perm (expected C D adds remembers) ∧
      (F.modify D adds).canon C' = some (tg', hs') ∧ tg'.Pairwise Sorted.PLt ∧
      proofUpdate ⟨tgC.map (E F.rows), hsC⟩ C adds (C01.encTargets F.rows tgD) remembers (toM ud) =
        .ok (⟨tg'.map (E (F.modify D adds).rows), hs'⟩, C') := by
  obtain ⟨g1, g2⟩ := addMany_delLeaves_ok (dels := D) hnd hleaf hadds haddsnd hnew
  exact proofUpdate_with_stump_nd cr.toNZ nonZero hnz F C D adds tgC tgD hsC hsD junk remembers hN
    hnd hleaf hadds haddsnd hnew hD hcD hC hcC hrem
    (nodesDistinct_of_CR cr (F.modify D adds) g1
      (fun x hx => (g2 x hx).2))

/-- a block as the light client sees it: deleted leaves, added leaves, remember indexes -/
abbrev CBlock (H : Type) := List H × List H × List Nat

def toBlock (b : CBlock H) : Block H := (b.1, b.2.1)

/-- the light client: at every block it receives the block's targets (positions of the deleted
leaves in the order of the block), the added hashes, the remember indexes and the update data
returned by `Stump.Update` on the block with its canonical deletion proof; it keeps `(proof,
cached hashes)` -/
def clientRun (nonZero : H) :
    Forest H → CProof H × List H → List (CBlock H) → Option (CProof H × List H)
  | _, c, [] => some c
  | F, c, b :: rest =>
    match F.canon b.1 with
    | none => none
    | some (targets, proof) =>
      match (C01b.stumpOf F).update nonZero b.1 b.2.1 (C01.encTargets F.rows targets) proof with
      | .ok (_, ud) =>
        match proofUpdate c.1 c.2 b.2.1 (C01.encTargets F.rows targets) b.2.2 (toM ud) with
        | .ok c' => clientRun nonZero (F.modify b.1 b.2.1) c' rest
        | _ => none
      | _ => none

/-- the leaves the client is expected to hold after a history -/
def expectedRun : List H → List (CBlock H) → List H
  | C, [] => C
  | C, b :: rest => expectedRun (expected C b.1 b.2.1 b.2.2) rest

structure Inv (F : Forest H) (hist : List (CBlock H)) : Prop where
  ok : C01.HistOK F (hist.map toBlock)
  live : LiveDels F (hist.map toBlock)
  dnd : C01.NodupDels (hist.map toBlock)
  leafF : ∀ x ∈ F.liveLeaves, ∀ a b : H, x ≠ ph a b
  leafA : ∀ x ∈ allAdds (hist.map toBlock), ∀ a b : H, x ≠ ph a b
  rems : ∀ b ∈ hist, b.2.2.Pairwise (· ≤ ·)

theorem Inv.step {F : Forest H} {d a : List H} {r : List Nat} {rest : List (CBlock H)}
    (inv : Inv F ((d, a, r) :: rest)) : Inv (F.modify d a) rest where
  ok := C01.HistOK.step (d := d) (a := a) inv.ok
  live := inv.live.2
  dnd := fun b hb => inv.dnd b (List.mem_cons_of_mem _ hb)
  leafF := LiveLeaves.forall_liveLeaves_modify inv.leafF fun x h => inv.leafA x (by
    simp only [List.map_cons, toBlock, allAdds_cons]
    exact List.mem_append_left _ h)
  leafA := by
    intro x hx
    exact inv.leafA x (by
      simp only [List.map_cons, toBlock, allAdds_cons]
      exact List.mem_append_right _ hx)
  rems := fun b hb => inv.rems b (List.mem_cons_of_mem _ hb)

/-- what the invariant along a history says about its first block: the hypotheses of the one-block
theorems -/
structure BlockOK (F : Forest H) (d a : List H) (r : List Nat) : Prop where
  small : F.numLeaves + a.length ≤ 2 ^ 63
  live_nodup : F.liveLeaves.Nodup
  leaf : ∀ x ∈ F.liveLeaves, x ≠ (zero : H) ∧ ∀ p q : H, x ≠ ph p q
  adds_leaf : ∀ x ∈ a, x ≠ (zero : H) ∧ ∀ p q : H, x ≠ ph p q
  adds_nodup : a.Nodup
  adds_new : ∀ x ∈ a, x ∈ F.liveLeaves → x ∈ d
  dels_nodup : d.Nodup
  dels_live : ∀ x ∈ d, x ∈ F.liveLeaves
  rems : r.Pairwise (· ≤ ·)

theorem Inv.head {F : Forest H} {d a : List H} {r : List Nat} {rest : List (CBlock H)}
    (inv : Inv F ((d, a, r) :: rest)) : BlockOK F d a r := by
  have e : allAdds (((d, a, r) :: rest).map toBlock) = a ++ allAdds (rest.map toBlock) :=
    allAdds_cons (d, a) (rest.map toBlock)
  have hin : ∀ x ∈ a, x ∈ allAdds (((d, a, r) :: rest).map toBlock) :=
    fun x hx => e ▸ List.mem_append_left _ hx
  have hsm := inv.ok.small
  have hand := inv.ok.adds_nodup
  rw [e] at hand
  rw [e, List.length_append] at hsm
  exact ⟨by omega, inv.ok.live_nodup, fun x hx => ⟨inv.ok.live_nonzero x hx, inv.leafF x hx⟩,
    fun x hx => ⟨inv.ok.adds_nonzero x (hin x hx), inv.leafA x (hin x hx)⟩,
    (List.nodup_append.1 hand).1, fun x hx hl => absurd hl (inv.ok.adds_new x (hin x hx)),
    inv.dnd (d, a) (List.mem_cons_self ..), inv.live.1, inv.rems (d, a, r) List.mem_cons_self⟩

theorem Inv.ofValid {hist : List (CBlock H)} (v : C01.ValidHistory (hist.map toBlock))
    (hrem : ∀ b ∈ hist, b.2.2.Pairwise (· ≤ ·)) : Inv (Forest.empty : Forest H) hist where
  ok := ⟨List.nodup_nil, fun x hx => (by cases hx), v.adds_nodup, fun x _ hx => (by cases hx),
    fun x hx => (v.adds_leaf x hx).1, (by show 0 + _ ≤ _; have := v.small; omega)⟩
  live := v.live
  dnd := v.dels_nodup
  leafF := fun x hx => (by cases hx)
  leafA := fun x hx => (v.adds_leaf x hx).2
  rems := hrem

/-- under `CR` every forest reached along the history has pairwise distinct node hashes -/
theorem distinctRun_of_CR (cr : CR H) : ∀ (hist : List (CBlock H)) (F : Forest H),
    Inv F hist → DistinctRun F (hist.map toBlock)
  | [], _, _ => trivial
  | (d, a, r) :: rest, F, inv =>
    ⟨nodesDistinct_of_CR cr (F.modify d a) inv.step.ok.live_nodup inv.step.leafF,
      distinctRun_of_CR cr rest (F.modify d a) inv.step⟩

theorem expectedRun_perm : ∀ (hist : List (CBlock H)) (C1 C2 : List H), C1.Perm C2 →
    (expectedRun C1 hist).Perm (expectedRun C2 hist) := by
  intro hist
  induction hist with
  | nil => intro C1 C2 h; exact h
  | cons b rest ih =>
    intro C1 C2 h
    exact ih _ _ (List.Perm.append_right _ (h.filter _))

section statement2
variable (H : Type) [DecidableEq H] [Hasher H]

/-- **C07 along a history, full statement** (proved: `client_history`) -/
def client_history_statement : Prop :=
  ∀ (nonZero : H) (hist : List (CBlock H)), CR H → nonZero ≠ (zero : H) →
    C01.ValidHistory (hist.map toBlock) → (∀ b ∈ hist, b.2.2.Pairwise (· ≤ ·)) →
    ∃ C tg hs,
      clientRun nonZero Forest.empty (⟨[], []⟩, []) hist =
        some (⟨tg.map (E (run Forest.empty (hist.map toBlock)).rows), hs⟩, C) ∧
      (run Forest.empty (hist.map toBlock)).canon C = some (tg, hs) ∧
      C.Perm (expectedRun [] hist)

end statement2

theorem clientRun_cons {nonZero : H} {F : Forest H} {p : CProof H} {ch : List H}
    {c' : CProof H × List H} {d a : List H}
    {r : List Nat} {rest : List (CBlock H)} {tgD : List Pos} {hsD : List H} {s' : Stump H}
    {ud : UpdateData H} (hcD : F.canon d = some (tgD, hsD))
    (h1 : (C01b.stumpOf F).update nonZero d a (C01.encTargets F.rows tgD) hsD = .ok (s', ud))
    (h5 : proofUpdate p ch a (C01.encTargets F.rows tgD) r (toM ud) = .ok c') :
    clientRun nonZero F (p, ch) ((d, a, r) :: rest) = clientRun nonZero (F.modify d a) c' rest := by
  rw [clientRun]
  dsimp only
  rw [hcD]
  dsimp only
  rw [h1]
  dsimp only
  rw [h5]

/-- the induction: from any accumulator and any canonical cached proof; the cached leaves stay
pairwise different -/
theorem client_from_nd_nodup (nz : NZ H) (nonZero : H) (hnz : nonZero ≠ (zero : H)) :
    ∀ (hist : List (CBlock H)) (F : Forest H) (C Cexp : List H) (tg : List Pos) (hs : List H),
      Inv F hist → DistinctRun F (hist.map toBlock) →
      C.Nodup → F.canon C = some (tg, hs) → C.Perm Cexp →
      ∃ C' tg' hs',
        clientRun nonZero F (⟨tg.map (E F.rows), hs⟩, C) hist =
          some (⟨tg'.map (E (run F (hist.map toBlock)).rows), hs'⟩, C') ∧
        (run F (hist.map toBlock)).canon C' = some (tg', hs') ∧
        C'.Perm (expectedRun Cexp hist) ∧ C'.Nodup := by
  intro hist
  induction hist with
  | nil =>
    intro F C Cexp tg hs _ _ hC hc hp
    exact ⟨C, tg, hs, rfl, hc, hp, hC⟩
  | cons b rest ih =>
    obtain ⟨d, a, r⟩ := b
    intro F C Cexp tg hs inv hdr hC hc hp
    have bk := inv.head
    obtain ⟨tgD, hsD, hcD⟩ := C02.canon_defined (L := d) (by have := bk.small; omega) bk.dels_live
    obtain ⟨ud, C', tg', hs', h1, h2, h3, h4, h5⟩ := proofUpdate_with_stump_nd nz nonZero hnz F C d a tg
      tgD hs hsD [] r bk.small bk.live_nodup bk.leaf bk.adds_leaf bk.adds_nodup bk.adds_new
      bk.dels_nodup hcD hC hc bk.rems hdr.1
    rw [List.append_nil] at h1
    obtain ⟨C'', tg'', hs'', g1, g2⟩ := ih (F.modify d a) C' (expected Cexp d a r) tg' hs'
      inv.step hdr.2 (canon_nodup_of_sorted h3 h4) h3
      (h2.trans (List.Perm.append_right _ (hp.filter _)))
    refine ⟨C'', tg'', hs'', ?_, g2.1, g2.2.1, g2.2.2⟩
    exact (clientRun_cons hcD h1 h5).trans g1

theorem client_from_nd (nz : NZ H) (nonZero : H) (hnz : nonZero ≠ (zero : H)) :
    ∀ (hist : List (CBlock H)) (F : Forest H) (C Cexp : List H) (tg : List Pos) (hs : List H),
      Inv F hist → DistinctRun F (hist.map toBlock) →
      C.Nodup → F.canon C = some (tg, hs) → C.Perm Cexp →
      ∃ C' tg' hs',
        clientRun nonZero F (⟨tg.map (E F.rows), hs⟩, C) hist =
          some (⟨tg'.map (E (run F (hist.map toBlock)).rows), hs'⟩, C') ∧
        (run F (hist.map toBlock)).canon C' = some (tg', hs') ∧
        C'.Perm (expectedRun Cexp hist) := by
  intro hist F C Cexp tg hs inv hdr hC hc hp
  obtain ⟨C', tg', hs', h1, h2, h3, _⟩ :=
    client_from_nd_nodup nz nonZero hnz hist F C Cexp tg hs inv hdr hC hc hp
  exact ⟨C', tg', hs', h1, h2, h3⟩

/-- **C07 along a valid history, without collision-freeness**: `NZ H`, and every forest reached
along the history has pairwise distinct non-zero node hashes (`DistinctRun`). -/
theorem client_history_nd (nz : NZ H) (nonZero : H) (hnz : nonZero ≠ (zero : H))
    (hist : List (CBlock H)) (v : C01.ValidHistory (hist.map toBlock))
    (hrem : ∀ b ∈ hist, b.2.2.Pairwise (· ≤ ·))
    (hdr : DistinctRun Forest.empty (hist.map toBlock)) :
    ∃ C tg hs,
      clientRun nonZero Forest.empty (⟨[], []⟩, []) hist =
        some (⟨tg.map (E (run Forest.empty (hist.map toBlock)).rows), hs⟩, C) ∧
      (run Forest.empty (hist.map toBlock)).canon C = some (tg, hs) ∧
      C.Perm (expectedRun [] hist) :=
  client_from_nd nz nonZero hnz hist Forest.empty [] [] [] [] (Inv.ofValid v hrem) hdr
    List.nodup_nil rfl (List.Perm.refl _)

/-- **C07 along a valid history**: starting from the EMPTY cached proof, with an arbitrary
ascending list of remember indexes per block, the client holds at the end (hence, by taking
prefixes, at every step) the canonical proof of the expected leaves — every previously held leaf
that was not deleted plus every added leaf it asked to remember — each paired with its true
position in the specification forest `run empty hist`. -/
theorem client_history (cr : CR H) (nonZero : H) (hnz : nonZero ≠ (zero : H))
    (hist : List (CBlock H)) (v : C01.ValidHistory (hist.map toBlock))
    (hrem : ∀ b ∈ hist, b.2.2.Pairwise (· ≤ ·)) :
    ∃ C tg hs,
      clientRun nonZero Forest.empty (⟨[], []⟩, []) hist =
        some (⟨tg.map (E (run Forest.empty (hist.map toBlock)).rows), hs⟩, C) ∧
      (run Forest.empty (hist.map toBlock)).canon C = some (tg, hs) ∧
      C.Perm (expectedRun [] hist) :=
  client_history_nd cr.toNZ nonZero hnz hist v hrem
    (distinctRun_of_CR cr hist Forest.empty (Inv.ofValid v hrem))

theorem C07_history : client_history_statement H :=
  fun nonZero hist cr hnz v hrem => client_history cr nonZero hnz hist v hrem

theorem validHistory_prefix {pre post : List (Block H)} (v : C01.ValidHistory (pre ++ post)) :
    C01.ValidHistory pre where
  live := (C01.liveDels_append.1 v.live).1
  dels_nodup := fun b hb => v.dels_nodup b (List.mem_append_left _ hb)
  adds_nodup := by
    have := v.adds_nodup
    rw [allAdds_append] at this
    exact (List.nodup_append.1 this).1
  adds_leaf := fun x hx => v.adds_leaf x (by rw [allAdds_append]; exact List.mem_append_left _ hx)
  small := by
    have := v.small
    rw [allAdds_append, List.length_append] at this
    omega

/-- **C07 at every step of a valid history, without collision-freeness** -/
theorem client_history_every_step_nd (nz : NZ H) (nonZero : H) (hnz : nonZero ≠ (zero : H))
    (hist : List (CBlock H)) (v : C01.ValidHistory (hist.map toBlock))
    (hrem : ∀ b ∈ hist, b.2.2.Pairwise (· ≤ ·))
    (hdr : DistinctRun Forest.empty (hist.map toBlock)) (k : Nat) :
    ∃ C tg hs,
      clientRun nonZero Forest.empty (⟨[], []⟩, []) (hist.take k) =
        some (⟨tg.map (E (run Forest.empty ((hist.take k).map toBlock)).rows), hs⟩, C) ∧
      (run Forest.empty ((hist.take k).map toBlock)).canon C = some (tg, hs) ∧
      C.Perm (expectedRun [] (hist.take k)) := by
  have e : hist.map toBlock = (hist.take k).map toBlock ++ (hist.drop k).map toBlock := by
    rw [← List.map_append, List.take_append_drop]
  apply client_history_nd nz nonZero hnz
  · rw [e] at v
    exact validHistory_prefix v
  · exact fun b hb => hrem b (List.mem_of_mem_take hb)
  · rw [e] at hdr
    exact (distinctRun_append.1 hdr).1

/-- **C07 at every step of a valid history**: after the first `k` blocks (any `k`) the client
holds the canonical proof, in the specification forest reached by those blocks, of the leaves it
is expected to hold at that point -/
theorem client_history_every_step (cr : CR H) (nonZero : H) (hnz : nonZero ≠ (zero : H))
    (hist : List (CBlock H)) (v : C01.ValidHistory (hist.map toBlock))
    (hrem : ∀ b ∈ hist, b.2.2.Pairwise (· ≤ ·)) (k : Nat) :
    ∃ C tg hs,
      clientRun nonZero Forest.empty (⟨[], []⟩, []) (hist.take k) =
        some (⟨tg.map (E (run Forest.empty ((hist.take k).map toBlock)).rows), hs⟩, C) ∧
      (run Forest.empty ((hist.take k).map toBlock)).canon C = some (tg, hs) ∧
      C.Perm (expectedRun [] (hist.take k)) :=
  client_history_every_step_nd cr.toNZ nonZero hnz hist v hrem
    (distinctRun_of_CR cr hist Forest.empty (Inv.ofValid v hrem)) k

/-! ### non-vacuity; the model simply evaluated; the unsorted-remembers finding -/

namespace Example
open UtreexoVerif.Props.C01 UtreexoVerif.Props.C01.Example UtreexoVerif.Props.C11.Example

/-- `F3'` = three live leaves `1 2 3` (trees `{1,2}` and `{3}`).  The client caches leaves 2 and 3
(requested in that order): positions `(0,1)`, `(0,2)`, one proof hash (leaf 1) -/
theorem canonC : F3'.canon [T.leaf 2, .leaf 3] = some ([(0, 1), (0, 2)], [T.leaf 1]) := by
  decide +kernel

theorem F3'_live (x : T) (hx : x ∈ F3'.liveLeaves) : x ≠ (zero : T) ∧ ∀ a b : T, x ≠ ph a b :=
  T.all_leaf_ok (by decide) x hx

/-- **`proofUpdate_with_stump` applies**: the block deletes leaves 3 and 1 (emptying the tree on
row 0 and collapsing the tree on row 1: leaf 2 moves up) and adds leaves 4 and 5 (leaf 4 merges
over the empty root; the forest grows to 3 rows); the client asks to remember index 1 (leaf 5) -/
example : ∃ (ud : UpdateData T) (C' : List T) (tg' : List Pos) (hs' : List T),
    (C01b.stumpOf F3').update (T.leaf 0) [T.leaf 3, .leaf 1] [T.leaf 4, .leaf 5]
        (encTargets F3'.rows [(0, 2), (0, 0)]) ([T.leaf 2] ++ [T.leaf 99]) =
      .ok (C01b.stumpOf (F3'.modify [T.leaf 3, .leaf 1] [T.leaf 4, .leaf 5]), ud) ∧
    C'.Perm (expected [T.leaf 2, .leaf 3] [T.leaf 3, .leaf 1] [T.leaf 4, .leaf 5] [1]) ∧
    (F3'.modify [T.leaf 3, .leaf 1] [T.leaf 4, .leaf 5]).canon C' = some (tg', hs') ∧
    tg'.Pairwise Sorted.PLt ∧
    proofUpdate ⟨[(0, 1), (0, 2)].map (E F3'.rows), [T.leaf 1]⟩ [T.leaf 2, .leaf 3]
        [T.leaf 4, .leaf 5] (encTargets F3'.rows [(0, 2), (0, 0)]) [1] (toM ud) =
      .ok (⟨tg'.map (E (F3'.modify [T.leaf 3, .leaf 1] [T.leaf 4, .leaf 5]).rows), hs'⟩, C') :=
  proofUpdate_with_stump cr (T.leaf 0) (by intro h; cases h) F3' _ _ _ _ _ _ _ [T.leaf 99] [1]
    (by decide) (by decide) F3'_live (T.all_leaf_ok (by decide)) (by decide) (by decide)
    (by decide) canon3 (by decide) canonC (by decide)

/-- the update data of that block, as the model of `Stump.Update` computes it -/
def ud3 : UpdateDataM T :=
  { toDestroy := [2#64], prevNumLeaves := 3#64,
    newDel := [(0#64, T.z), (2#64, T.z), (4#64, T.leaf 2)],
    newAdd := [(4#64, T.leaf 5), (8#64, T.leaf 2), (9#64, T.leaf 4)] }

example : ((C01b.stumpOf F3').update (T.leaf 0) [T.leaf 3, .leaf 1] [T.leaf 4, .leaf 5]
      (encTargets F3'.rows [(0, 2), (0, 0)]) [T.leaf 2]).toOption.map
        (fun r => ((toM r.2).toDestroy, (toM r.2).prevNumLeaves, (toM r.2).newDel, (toM r.2).newAdd)) =
    some (ud3.toDestroy, ud3.prevNumLeaves, ud3.newDel, ud3.newAdd) := by decide +kernel

/-- the model, simply run: the client ends with leaf 5 at position 4 and leaf 2 at position 8
(= `(1,0)` of the 3-row forest), proof `[leaf 4]` … -/
example : proofUpdate (H := T) ⟨[1#64, 2#64], [T.leaf 1]⟩ [T.leaf 2, .leaf 3] [T.leaf 4, .leaf 5]
    [2#64, 0#64] [1] ud3 = .ok (⟨[4#64, 8#64], [T.leaf 4]⟩, [T.leaf 5, .leaf 2]) := by
  decide +kernel

/-- … which is the canonical proof of those leaves after the block -/
example : (F3'.modify [T.leaf 3, .leaf 1] [T.leaf 4, .leaf 5]).canon [T.leaf 5, .leaf 2] =
    some ([(0, 4), (1, 0)], [T.leaf 4]) := by decide +kernel

/-- the three-block history of `Props/C01d.lean` with remember indexes: block 1 adds `1 2 3`
(remember leaf 2); block 2 deletes leaf 3 and adds `4 5` (remember both); block 3 deletes leaves
1 and 4 and adds leaf 6 (remember nothing) -/
def histR : List (CBlock T) :=
  [([], [.leaf 1, .leaf 2, .leaf 3], [1]), ([.leaf 3], [.leaf 4, .leaf 5], [0, 1]),
   ([.leaf 1, .leaf 4], [.leaf 6], [])]

theorem histR_blocks : histR.map toBlock = histC := rfl

example : ∃ C tg hs,
    clientRun (T.leaf 0) Forest.empty (⟨[], []⟩, []) histR =
      some (⟨tg.map (E (run Forest.empty (histR.map toBlock)).rows), hs⟩, C) ∧
    (run Forest.empty (histR.map toBlock)).canon C = some (tg, hs) ∧
    C.Perm (expectedRun [] histR) :=
  client_history cr (T.leaf 0) (by intro h; cases h) histR histC_valid (by decide)

/-- the three runs below, in one evaluation -/
theorem histR_runs : clientRun (T.leaf 0) Forest.empty (⟨[], []⟩, []) (histR.take 1) =
      some (⟨[1#64], [T.leaf 1]⟩, [T.leaf 2]) ∧
    clientRun (T.leaf 0) Forest.empty (⟨[], []⟩, []) (histR.take 2) =
      some (⟨[1#64, 4#64, 9#64], [T.leaf 1]⟩, [T.leaf 2, .leaf 5, .leaf 4]) ∧
    clientRun (T.leaf 0) Forest.empty (⟨[], []⟩, []) histR =
      some (⟨[4#64, 12#64], [T.leaf 6]⟩, [T.leaf 5, .leaf 2]) := by decide +kernel

/-- the model simply run along that history, after 1, 2 and 3 blocks: the client holds leaf 2;
then leaves 2, 5, 4; then leaves 5 and 2 (leaf 4 was deleted) -/
example : clientRun (T.leaf 0) Forest.empty (⟨[], []⟩, []) (histR.take 1) =
    some (⟨[1#64], [T.leaf 1]⟩, [T.leaf 2]) := histR_runs.1
example : clientRun (T.leaf 0) Forest.empty (⟨[], []⟩, []) (histR.take 2) =
    some (⟨[1#64, 4#64, 9#64], [T.leaf 1]⟩, [T.leaf 2, .leaf 5, .leaf 4]) := histR_runs.2.1
example : clientRun (T.leaf 0) Forest.empty (⟨[], []⟩, []) histR =
    some (⟨[4#64, 12#64], [T.leaf 6]⟩, [T.leaf 5, .leaf 2]) := histR_runs.2.2
example : expectedRun [] histR = [T.leaf 2, .leaf 5] := by decide
example : (run Forest.empty (histR.map toBlock)).canon [T.leaf 5, .leaf 2] =
    some ([(0, 4), (2, 0)], [T.leaf 6]) := by decide +kernel

/-- **Finding: remember indexes that do not ascend are silently dropped.**  The same block as
above with `remembers = [1, 0]` (the client asks for both added leaves, listing index 1 first):
`Proof.Update` returns without error but the client ends WITHOUT leaf 4 — the loop in
`updateProofAdd` walks `adds` and `remembers` with two cursors and skips a remember index that
is smaller than the current add index.  The Go code behaves identically (checked on /repo:
`remembers=[1 0]` gives targets `[4 8]`, cached hashes `5 2`).  So the property holds under the
input contract "remember indexes ascending" (the order in which a caller naturally produces them)
and fails outside it. -/
theorem unsorted_remembers_drop :
    proofUpdate (H := T) ⟨[1#64, 2#64], [T.leaf 1]⟩ [T.leaf 2, .leaf 3] [T.leaf 4, .leaf 5]
        [2#64, 0#64] [1, 0] ud3 = .ok (⟨[4#64, 8#64], [T.leaf 4]⟩, [T.leaf 5, .leaf 2]) ∧
    T.leaf 4 ∈ expected [T.leaf 2, .leaf 3] [T.leaf 3, .leaf 1] [T.leaf 4, .leaf 5] [1, 0] ∧
    T.leaf 4 ∉ [T.leaf 5, T.leaf 2] := by
  refine ⟨by decide +kernel, by decide, by decide⟩

/-- with the indexes ascending the same request is honoured -/
example : proofUpdate (H := T) ⟨[1#64, 2#64], [T.leaf 1]⟩ [T.leaf 2, .leaf 3] [T.leaf 4, .leaf 5]
    [2#64, 0#64] [0, 1] ud3 = .ok (⟨[4#64, 8#64, 9#64], []⟩, [T.leaf 5, .leaf 2, .leaf 4]) := by
  decide +kernel

/-! the eleven-slot forest `F11` of `Props/C11del.lean` (trees on rows 3, 1, 0; leaves 6, 7 at
`(1,2)`, `(1,3)`, leaf 0 at `(1,0)`, leaves 2, 3 at `(0,2)`, `(0,3)`); the block deletes leaves
9, 3, 10, 6 -/

open UtreexoVerif.Props.C11del.Example in
/-- level 1: leaf 7 loses its sibling (leaf 6) and moves from `(1,3)` to `(2,1)`; leaf 2 loses its
sibling (leaf 3) and moves from `(0,2)` to `(1,1)` -/
example : movePos F11 L11 (1, 3) = (2, 1) ∧ movePos F11 L11 (0, 2) = (1, 1) ∧
    (F11.delLeaves L11).posOf (C03.Example.T.leaf 7) = some (2, 1) ∧
    (F11.delLeaves L11).posOf (C03.Example.T.leaf 2) = some (1, 1) := by decide +kernel

open UtreexoVerif.Props.C11del.Example in
example : (F11.delLeaves L11).posOf (C03.Example.T.leaf 7) = some (movePos F11 L11 (1, 3)) :=
  deletion_movement_posOf (by decide) (by decide) (by decide +kernel) (by decide)

open UtreexoVerif.Props.C11del.Example in
/-- level 2: `deTwin` of the sorted targets `[3, 9, 10, 18]` and `getNewPositions` on the
positions of leaf 7 (19) and leaf 2 (2) -/
example : deTwin [3#64, 9#64, 10#64, 18#64] 4#8 = [3#64, 9#64, 10#64, 18#64] ∧
    getNewPositions [3#64, 9#64, 10#64, 18#64] [(2#64, T.leaf 2), (19#64, T.leaf 7)] 11#64 true =
      [(17#64, T.leaf 2), (25#64, T.leaf 7)] := by decide +kernel

end Example

end
end UtreexoVerif.Props.C07
