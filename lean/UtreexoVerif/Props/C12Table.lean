/-
  C12 for the CURRENT `mappollard.go`: the lock table extracted from it (`Gen/LockTable.lean`,
  rewritten by translate/locktable on every check) passes `LockDiscipline`, every exported
  operation but the two printers is one critical section, `Full` is never written, every
  `verifPoint` lies in a write section.  All by kernel evaluation of the finite table: if the Go
  source changes the lock discipline, this file stops compiling.
-/
import UtreexoVerif.Props.C12
import UtreexoVerif.Gen.LockTable

namespace UtreexoVerif.Props.C12Table
open UtreexoVerif.Model.Lock UtreexoVerif.Gen.LockTable UtreexoVerif.Props.C12

/-- the translator understood the whole file (a stub table sets this to `false`) -/
theorem translation_ok : translationOk = true := by decide

theorem allMethods_complete : ∀ m : Method, m ∈ allMethods := by
  intro m
  -- the generated list has the constructors in their order
  have : allMethods[m.ctorIdx]? = some m := by cases m <;> rfl
  exact List.mem_of_getElem? this

/-- `lockTable_ok` and `hooks_in_write_sections` below, as one Boolean conjunction: both need the
call-graph closure `inferTable`, which the kernel then computes once -/
theorem discipline_and_hooks :
    (LockDiscipline table allMethods &&
      hookSites.all (fun sm => decide (inferCtxs table allMethods sm.2 = { w := true }) ||
        ((table sm.2).lock == .w))) = true := by decide +kernel

/-- THE TIE: the lock discipline extracted from the current Go source passes the check. -/
theorem lockTable_ok : LockDiscipline table allMethods = true :=
  (Bool.and_eq_true _ _ ▸ discipline_and_hooks).1

/-- every exported operation of the property's quantifier — the queries (roots, verifier snapshot,
prove, verify, look-ups, missing positions, leaf count, serialization) and the writers — is ONE
critical section: the only exported methods that take no lock themselves and still reach
lock-taking methods are the two debug printers, which string several locked getters together and
are not queries in the sense of the property -/
theorem queries_single_section :
    SingleSection table allMethods [.«String», .«AllSubTreesToString»] = true := by decide +kernel

/-- `Full` is written by no method: immutable after construction (extracted, not assumed);
this is what makes the unlocked `if m.Full` at the top of `Prune` race-free. -/
theorem full_immutable : mutF table allMethods .Full = false := by decide +kernel

/-- every `verifPoint` site lies in a method that takes the write lock itself or can only
run with the write lock held: a harness that suspends a thread at a site suspends a writer
inside its critical section -/
theorem hooks_in_write_sections :
    hookSites.all (fun sm => decide (inferCtxs table allMethods sm.2 = { w := true }) ||
      ((table sm.2).lock == .w)) = true :=
  (Bool.and_eq_true _ _ ▸ discipline_and_hooks).2

/-- C12 for the lock discipline of the current `mappollard.go`: for every number of
goroutines calling exported `*MapPollard` methods, in every reachable state of every
execution: race-free, atomic whole-block views, deadlock-free, `Full` constant. -/
theorem C12 : C12_statement table allMethods :=
  C12_of_discipline table allMethods allMethods_complete lockTable_ok

namespace Examples

/-- a call of `GetNumLeaves` as the table describes it: `RLock; read NumLeaves; RUnlock` -/
def getNumLeaves : List (Instr Field Nat) := [.acquire .r, .acc (.read .NumLeaves), .release .r]

/-- a call of `Modify` that runs `add` once: `Lock; read NumLeaves; hook; write NumLeaves; Unlock` -/
def modifyOnce : List (Instr Field Nat) :=
  [.acquire .w, .acc (.read .NumLeaves), .acc .hook, .acc (.write .NumLeaves (fun l => l.getLastD 0 + 1)), .release .w]

theorem getNumLeaves_call : Gen (V := Nat) table .none (.call Method.GetNumLeaves) getNumLeaves :=
  Gen.callLocked (T := table) (m := Method.GetNumLeaves) (p1 := []) (p2 := [.acc (.read .NumLeaves)])
    rfl (by decide) rfl Gen.segNil
    (Gen.segAcc (a := Acc.read Field.NumLeaves) (by show Field.NumLeaves ∈ _; decide) Gen.segNil)

theorem modifyOnce_call : Gen (V := Nat) table .none (.call Method.Modify) modifyOnce := by
  -- Modify's body calls `add`, whose direct footprint reads and writes NumLeaves and has the hook
  have hadd : Gen (V := Nat) table .w (.call Method.add)
      ([] ++ [.acc (.read .NumLeaves), .acc .hook, .acc (.write .NumLeaves (fun l => l.getLastD 0 + 1))]) :=
    Gen.callPlain (T := table) (m := Method.add) rfl rfl Gen.segNil
      (Gen.segAcc (a := Acc.read Field.NumLeaves) (by show Field.NumLeaves ∈ _; decide)
        (Gen.segAcc (a := Acc.hook) True.intro
          (Gen.segAcc (a := Acc.write Field.NumLeaves _) (by show Field.NumLeaves ∈ _; decide) Gen.segNil)))
  have hbody : Gen (V := Nat) table .w
      (.seg (table Method.Modify).reads (table Method.Modify).writes (table Method.Modify).calls)
      (([] ++ [.acc (.read .NumLeaves), .acc .hook, .acc (.write .NumLeaves (fun l => l.getLastD 0 + 1))]) ++ []) :=
    Gen.segCall (n := Method.add) (by decide) hadd Gen.segNil
  exact Gen.callLocked (T := table) (m := Method.Modify) (p1 := []) rfl (by decide) rfl Gen.segNil hbody

/-- the hypotheses of `C12` are satisfiable: both programs are `ApiProg`s of the real table -/
theorem getNumLeaves_api : ApiProg table getNumLeaves := by
  simpa using ApiProg.call (T := table) (m := Method.GetNumLeaves) rfl getNumLeaves_call ApiProg.nil

theorem modifyOnce_api : ApiProg table modifyOnce := by
  simpa using ApiProg.call (T := table) (m := Method.Modify) rfl modifyOnce_call ApiProg.nil

/-- … so C12 applies to a reader racing a block, whatever the schedule -/
example (s : State Field Nat) (hr : Reachable (State.initial (fun _ => 0) [getNumLeaves, modifyOnce]) s) :
    RaceFree s ∧ Atomic s ∧ DeadlockFree s := by
  have h := C12 Nat (fun _ => 0) [getNumLeaves, modifyOnce]
    (by intro p hp; simp at hp; rcases hp with rfl | rfl; exact getNumLeaves_api; exact modifyOnce_api) s hr
  exact ⟨h.1, h.2.1, h.2.2.1⟩

end Examples

end UtreexoVerif.Props.C12Table
