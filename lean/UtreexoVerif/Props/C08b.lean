/-
  C08 — undoing a cached proof yields a canonical proof for the previous state: the REPAIRED
  `Proof.undoAdd` (fix of the two recorded defects `C08.undo.emptyRootsOverwritten` and
  `C08.undo.toEmpty`), proved in full.

  "After a cached proof has been updated for a block and is then undone with that block's data, it
  is a canonical, verifying proof against the pre-block verifier state for exactly those of its
  leaves that already existed before the block.  It never contains a leaf the undone block added,
  never invents a leaf, and - apart from leaves the block itself deleted, which are documented as
  not restored - never loses a leaf that is live both before and after the block."

  Model: `Model/ProofUpdate.lean`, `proofUndo` = `proofUndoAdd` then `proofUndoDel`, transliterated
  from the repaired prove.go `Proof.Undo`: `undoAdd` walks through `ToDestroy` backwards and
  moves every target and proof position down with `moveDownPositions` (the inverse of the
  `getNewPositions` walk of `updateProofAdd`), does not prune "everything in the tree of a
  destroyed root" (the code before the repair does), sorts the moved positions, and `pruneEdges`
  keeps nothing for an empty previous forest.  (`Props/C08.lean` is about the code BEFORE the repair — `proofUndoOld` —, of which the
  statement is false: `C08.C08_fails_emptyRootsOverwritten`, `C08.C08_fails_toEmpty`.)

  Hypothesis on the hash: `proofUndoAdd_canonical`, `proofUndo_canonical`, `destroySpec_of_addData`
  need only `NZ H` (parent hashes are never the zero hash).  The theorems that go through
  `Stump.Update` exist under `CR H` (`C08`, `update_then_undo`, `client_history_undo_last`; `CR` is
  impossible for a finite hash type) and under `NZ H` + the finite, decidable `NodesDistinct` /
  `DistinctRun` of `Proofs/NodesUnique.lean` (`C08_nd`, `update_then_undo_nd`,
  `client_history_undo_last_nd`; instantiated over a one-byte hash in `Props/NZ.lean`).
-/
import UtreexoVerif.Proofs.ProofUndoAddFix
import UtreexoVerif.Props.C08

namespace UtreexoVerif.Props.C08b
open Spec Spec.Forest Hasher Model
open UtreexoVerif.Proofs
open UtreexoVerif.Proofs.CalcGeo
open UtreexoVerif.Proofs.FinalPos
open UtreexoVerif.Proofs.AddMove
open UtreexoVerif.Props.C11
open UtreexoVerif.Props.C08

section
variable {H : Type} [DecidableEq H] [Hasher H]

section statement
variable (H : Type) [DecidableEq H] [Hasher H]

/-- **C08, one block, full statement** (for the repaired `Proof.Undo`).  `F`: the accumulator before
the block (at most `2^63` leaves after it; live leaves pairwise distinct, non-zero, not parent
hashes); the block deletes the duplicate-free list `D` with canonical proof `(tgD, hsD)` and adds
`adds` (pairwise distinct, non-zero, not parent hashes, different from every leaf that stays
alive); `ud` is the update data `Stump.Update` returns for the block; the client holds the
canonical proof `(tgG, hsG)`, in the forest after the block, of a duplicate-free list `C'` of live
leaves (any order).  Then `Proof.Undo`, given the block's data, returns without error the canonical
proof in `F` of a permutation `K` of `expectedUndo C' adds`, targets ascending, and `K` as the
cached hashes. -/
def C08_statement : Prop :=
  ∀ (nonZero : H) (F : Forest H) (C' D adds : List H) (tgG tgD : List Pos) (hsG hsD : List H)
    (s' : Stump H) (ud : UpdateData H),
    CR H → nonZero ≠ (zero : H) → F.numLeaves + adds.length ≤ 2 ^ 63 → F.liveLeaves.Nodup →
    (∀ x ∈ F.liveLeaves, x ≠ (zero : H) ∧ ∀ a b : H, x ≠ ph a b) →
    (∀ x ∈ adds, x ≠ (zero : H) ∧ ∀ a b : H, x ≠ ph a b) → adds.Nodup →
    (∀ x ∈ adds, x ∈ F.liveLeaves → x ∈ D) →
    D.Nodup → F.canon D = some (tgD, hsD) →
    C'.Nodup → (F.modify D adds).canon C' = some (tgG, hsG) →
    (C01b.stumpOf F).update nonZero D adds (C01.encTargets F.rows tgD) hsD = .ok (s', ud) →
    ∃ K tg hs, K.Perm (expectedUndo C' adds) ∧ F.canon K = some (tg, hs) ∧
      tg.Pairwise Sorted.PLt ∧
      proofUndo ⟨tgG.map (E (F.modify D adds).rows), hsG⟩ (BitVec.ofNat 64 adds.length)
          (BitVec.ofNat 64 (F.modify D adds).numLeaves) (C01.encTargets F.rows tgD) D C'
          ud.toDestroy (C01.encTargets F.rows tgD) hsD =
        .ok (⟨tg.map (E F.rows), hs⟩, K)

end statement

/-- **Level 1: the repaired `proofUndoAdd` is the inverse of the addition step**, whatever empty
roots the additions destroyed (`L` = their rows, `ToDestroy` = their positions in the forest after
the additions) and also for an empty forest before them (see `Proofs/ProofUndoAddFix.lean`) -/
theorem proofUndoAdd_canonical {F : Forest H} {adds : List H} (nz : NZ H)
    (hN : F.numLeaves + adds.length ≤ 2 ^ 63)
    (hndG : (F.addMany adds).liveLeaves.Nodup)
    (hleaf : ∀ x ∈ (F.addMany adds).liveLeaves, x ≠ (zero : H) ∧ ∀ a b : H, x ≠ ph a b)
    {L : List Nat} (hL : DestroySpec F.slots adds.length L)
    {C' : List H} {tgG : List Pos} {hsG : List H} (hC' : C'.Nodup)
    (hcG : (F.addMany adds).canon C' = some (tgG, hsG)) :
    ∃ K tgK hsK, K.Perm (expectedUndo C' adds) ∧
      F.canon K = some (tgK, hsK) ∧ tgK.Pairwise Sorted.PLt ∧
      proofUndoAdd ⟨tgG.map (E (F.addMany adds).rows), hsG⟩ (BitVec.ofNat 64 adds.length)
          (BitVec.ofNat 64 (F.addMany adds).numLeaves) C'
          ((destroyedPos F.numLeaves L).map (E (forestRows (F.numLeaves + adds.length)))) =
        .ok (⟨tgK.map (E F.rows), hsK⟩, K) :=
  ProofUndoAddFix.proofUndoAdd_canonical hN hndG hL hC' hcG

/-- **the repaired `Proof.Undo` is canonical** (specification form: `L` lists the rows of the
all-zero roots of the forest after the deletions that the additions merge over, `ToDestroy` their
positions) -/
theorem proofUndo_canonical (nz : NZ H) (F : Forest H) (C' D adds : List H)
    (tgG tgD : List Pos) (hsG hsD : List H)
    (hN : F.numLeaves + adds.length ≤ 2 ^ 63) (hnd : F.liveLeaves.Nodup)
    (hleaf : ∀ x ∈ F.liveLeaves, x ≠ (zero : H) ∧ ∀ a b : H, x ≠ ph a b)
    (hadds : ∀ x ∈ adds, x ≠ (zero : H) ∧ ∀ a b : H, x ≠ ph a b) (haddsnd : adds.Nodup)
    (hnew : ∀ x ∈ adds, x ∈ F.liveLeaves → x ∈ D)
    (hD : D.Nodup) (hcD : F.canon D = some (tgD, hsD))
    (hC' : C'.Nodup) (hcG : (F.modify D adds).canon C' = some (tgG, hsG))
    {L : List Nat} (hL : DestroySpec (F.delLeaves D).slots adds.length L) :
    ∃ K tg hs, K.Perm (expectedUndo C' adds) ∧ F.canon K = some (tg, hs) ∧
      tg.Pairwise Sorted.PLt ∧
      proofUndo ⟨tgG.map (E (F.modify D adds).rows), hsG⟩ (BitVec.ofNat 64 adds.length)
          (BitVec.ofNat 64 (F.modify D adds).numLeaves) (tgD.map (E F.rows)) D C'
          ((destroyedPos F.numLeaves L).map (E (forestRows (F.numLeaves + adds.length))))
          (tgD.map (E F.rows)) hsD =
        .ok (⟨tg.map (E F.rows), hs⟩, K) := by
  obtain ⟨g1, _⟩ := addMany_delLeaves_ok (dels := D) hnd hleaf hadds haddsnd hnew
  have hn' : (F.delLeaves D).numLeaves = F.numLeaves := numLeaves_delLeaves F D
  have hua := ProofUndoAddFix.proofUndoAdd_canonical (F := F.delLeaves D) (by rw [hn']; exact hN)
    g1 hL hC' hcG
  rw [hn'] at hua
  exact undo_compose nz F C' D adds tgD hsD hN hnd hleaf hD hcD hua

theorem destroySpec_of_addData (nz : NZ H) {G : Forest H} {adds : List H} {upd : HP H}
    {td : List U64}
    (hleaf : ∀ x ∈ (G.addMany adds).liveLeaves, x ≠ (zero : H) ∧ ∀ a b : H, x ≠ ph a b)
    (hspec : AddDataSpec G adds upd td) :
    ∃ L, DestroySpec G.slots adds.length L ∧
      td = (destroyedPos G.numLeaves L).map (E (forestRows (G.numLeaves + adds.length))) :=
  C08.destroySpec_of_addData nz hleaf hspec

/-- **C08 for one block, in full, without collision-freeness**: `CR H` is replaced by `NZ H`
(parent hashes are never the zero hash) and the FINITE hypothesis `NodesDistinct (F.modify D adds)`
(no non-zero hash sits at two places of the forest after the block; `Proofs/NodesUnique.lean`) -/
theorem C08_nd (nz : NZ H) (nonZero : H) (F : Forest H) (C' D adds : List H) (tgG tgD : List Pos)
    (hsG hsD : List H) (s' : Stump H) (ud : UpdateData H)
    (hnz : nonZero ≠ (zero : H)) (hN : F.numLeaves + adds.length ≤ 2 ^ 63) (hnd : F.liveLeaves.Nodup)
    (hleaf : ∀ x ∈ F.liveLeaves, x ≠ (zero : H) ∧ ∀ a b : H, x ≠ ph a b)
    (hadds : ∀ x ∈ adds, x ≠ (zero : H) ∧ ∀ a b : H, x ≠ ph a b) (haddsnd : adds.Nodup)
    (hnew : ∀ x ∈ adds, x ∈ F.liveLeaves → x ∈ D)
    (hD : D.Nodup) (hcD : F.canon D = some (tgD, hsD))
    (hC' : C'.Nodup) (hcG : (F.modify D adds).canon C' = some (tgG, hsG))
    (hupd : (C01b.stumpOf F).update nonZero D adds (C01.encTargets F.rows tgD) hsD = .ok (s', ud))
    (hd : NodesDistinct (F.modify D adds)) :
    ∃ K tg hs, K.Perm (expectedUndo C' adds) ∧ F.canon K = some (tg, hs) ∧
      tg.Pairwise Sorted.PLt ∧
      proofUndo ⟨tgG.map (E (F.modify D adds).rows), hsG⟩ (BitVec.ofNat 64 adds.length)
          (BitVec.ofNat 64 (F.modify D adds).numLeaves) (C01.encTargets F.rows tgD) D C'
          ud.toDestroy (C01.encTargets F.rows tgD) hsD =
        .ok (⟨tg.map (E F.rows), hs⟩, K) := by
  obtain ⟨L, hL, htd⟩ := block_destroySpec nz nonZero F D adds tgD hsD s' ud hnz hN hnd hleaf hadds
    haddsnd hnew hD hcD hupd hd
  rw [htd]
  exact proofUndo_canonical nz F C' D adds tgG tgD hsG hsD hN hnd hleaf hadds haddsnd hnew hD
    hcD hC' hcG hL

/-- **C08 for one block, in full**, fed by the update data of the verifier-state update -/
theorem C08 : C08_statement H := by
  intro nonZero F C' D adds tgG tgD hsG hsD s' ud cr hnz hN hnd hleaf hadds haddsnd hnew hD hcD hC'
    hcG hupd
  exact C08_nd cr.toNZ nonZero F C' D adds tgG tgD hsG hsD s' ud hnz hN hnd hleaf hadds haddsnd hnew
    hD hcD hC' hcG hupd (nodesDistinct_modify cr hN hnd hleaf hadds haddsnd hnew)

/-- **`Proof.Update` followed by `Proof.Undo` with the same block, without collision-freeness**
(`NZ H` and `NodesDistinct` of the forest after the block) gives back the canonical proof,
in the accumulator before the block, of the previously cached leaves minus those the block
deleted (every block: also when its additions overwrite empty roots, also on the empty
accumulator) -/
theorem update_then_undo_nd (nz : NZ H) (nonZero : H) (hnz : nonZero ≠ (zero : H))
    (F : Forest H) (C D adds : List H) (tgC tgD : List Pos) (hsC hsD : List H)
    (remembers : List Nat)
    (hN : F.numLeaves + adds.length ≤ 2 ^ 63) (hnd : F.liveLeaves.Nodup)
    (hleaf : ∀ x ∈ F.liveLeaves, x ≠ (zero : H) ∧ ∀ a b : H, x ≠ ph a b)
    (hadds : ∀ x ∈ adds, x ≠ (zero : H) ∧ ∀ a b : H, x ≠ ph a b) (haddsnd : adds.Nodup)
    (hnew : ∀ x ∈ adds, x ∈ F.liveLeaves → x ∈ D)
    (hD : D.Nodup) (hcD : F.canon D = some (tgD, hsD))
    (hC : C.Nodup) (hcC : F.canon C = some (tgC, hsC))
    (hrem : remembers.Pairwise (· ≤ ·)) (hd : NodesDistinct (F.modify D adds)) :
    ∃ (ud : UpdateData H) (p' : CProof H) (C' : List H),
      (C01b.stumpOf F).update nonZero D adds (C01.encTargets F.rows tgD) hsD =
        .ok (C01b.stumpOf (F.modify D adds), ud) ∧
      proofUpdate ⟨tgC.map (E F.rows), hsC⟩ C adds (C01.encTargets F.rows tgD) remembers
        (C07.toM ud) = .ok (p', C') ∧
      ∃ K tg hs, K.Perm (C.filter (fun x => decide (x ∉ D))) ∧ F.canon K = some (tg, hs) ∧
        tg.Pairwise Sorted.PLt ∧
        proofUndo p' (BitVec.ofNat 64 adds.length) (BitVec.ofNat 64 (F.modify D adds).numLeaves)
            (C01.encTargets F.rows tgD) D C' ud.toDestroy (C01.encTargets F.rows tgD) hsD =
          .ok (⟨tg.map (E F.rows), hs⟩, K) := by
  obtain ⟨ud, p', C', h1, h2, h3⟩ := update_then_undo_of nz nonZero hnz F C D adds tgC tgD hsC hsD
    remembers hN hnd hleaf hadds haddsnd hnew hD hcD hC hcC hrem hd
    (U := fun p C' ud => proofUndo p (BitVec.ofNat 64 adds.length)
      (BitVec.ofNat 64 (F.modify D adds).numLeaves) (C01.encTargets F.rows tgD) D C' ud.toDestroy
      (C01.encTargets F.rows tgD) hsD)
    (P := fun _ => True)
    (fun ud C' tg' hs' hupd hC' hcG _ => C08_nd nz nonZero F C' D adds tg' tgD hs' hsD _ ud hnz hN hnd
      hleaf hadds haddsnd hnew hD hcD hC' hcG hupd hd)
  exact ⟨ud, p', C', h1, h2, h3 trivial⟩

/-- **`Proof.Update` followed by `Proof.Undo` with the same block** gives back the canonical proof,
in the accumulator before the block, of the previously cached leaves minus those the block
deleted (every block: also when its additions overwrite empty roots, also on the empty
accumulator) -/
theorem update_then_undo (cr : CR H) (nonZero : H) (hnz : nonZero ≠ (zero : H))
    (F : Forest H) (C D adds : List H) (tgC tgD : List Pos) (hsC hsD : List H)
    (remembers : List Nat)
    (hN : F.numLeaves + adds.length ≤ 2 ^ 63) (hnd : F.liveLeaves.Nodup)
    (hleaf : ∀ x ∈ F.liveLeaves, x ≠ (zero : H) ∧ ∀ a b : H, x ≠ ph a b)
    (hadds : ∀ x ∈ adds, x ≠ (zero : H) ∧ ∀ a b : H, x ≠ ph a b) (haddsnd : adds.Nodup)
    (hnew : ∀ x ∈ adds, x ∈ F.liveLeaves → x ∈ D)
    (hD : D.Nodup) (hcD : F.canon D = some (tgD, hsD))
    (hC : C.Nodup) (hcC : F.canon C = some (tgC, hsC))
    (hrem : remembers.Pairwise (· ≤ ·)) :
    ∃ (ud : UpdateData H) (p' : CProof H) (C' : List H),
      (C01b.stumpOf F).update nonZero D adds (C01.encTargets F.rows tgD) hsD =
        .ok (C01b.stumpOf (F.modify D adds), ud) ∧
      proofUpdate ⟨tgC.map (E F.rows), hsC⟩ C adds (C01.encTargets F.rows tgD) remembers
        (C07.toM ud) = .ok (p', C') ∧
      ∃ K tg hs, K.Perm (C.filter (fun x => decide (x ∉ D))) ∧ F.canon K = some (tg, hs) ∧
        tg.Pairwise Sorted.PLt ∧
        proofUndo p' (BitVec.ofNat 64 adds.length) (BitVec.ofNat 64 (F.modify D adds).numLeaves)
            (C01.encTargets F.rows tgD) D C' ud.toDestroy (C01.encTargets F.rows tgD) hsD =
          .ok (⟨tg.map (E F.rows), hs⟩, K) :=
  update_then_undo_nd cr.toNZ nonZero hnz F C D adds tgC tgD hsC hsD remembers hN hnd hleaf hadds
    haddsnd hnew hD hcD hC hcC hrem (nodesDistinct_modify cr hN hnd hleaf hadds haddsnd hnew)

/-- **C08 along a valid history, without collision-freeness** (`NZ H`; every forest reached along
the history has pairwise distinct non-zero node hashes, `DistinctRun`): a light client that started
from the empty proof and followed the history `pre ++ [(d, a, r)]` with `Proof.Update`, and then
undoes the newest block with that block's data, holds exactly the canonical proof, in the accumulator
before the block, of the leaves it held before the block minus those the block deleted (every valid
history, every block). -/
theorem client_history_undo_last_nd (nz : NZ H) (nonZero : H) (hnz : nonZero ≠ (zero : H))
    (pre : List (C07.CBlock H)) (d a : List H) (r : List Nat)
    (v : C01.ValidHistory ((pre ++ [(d, a, r)]).map C07.toBlock))
    (hrem : ∀ b ∈ pre ++ [(d, a, r)], b.2.2.Pairwise (· ≤ ·))
    (hdr : DistinctRun Forest.empty ((pre ++ [(d, a, r)]).map C07.toBlock)) :
    ∃ (tgD : List Pos) (hsD : List H) (ud : UpdateData H) (p' : CProof H) (C' : List H),
      (run Forest.empty (pre.map C07.toBlock)).canon d = some (tgD, hsD) ∧
      (C01b.stumpOf (run Forest.empty (pre.map C07.toBlock))).update nonZero d a
          (C01.encTargets (run Forest.empty (pre.map C07.toBlock)).rows tgD) hsD =
        .ok (C01b.stumpOf (run Forest.empty ((pre ++ [(d, a, r)]).map C07.toBlock)), ud) ∧
      C07.clientRun nonZero Forest.empty (⟨[], []⟩, []) (pre ++ [(d, a, r)]) = some (p', C') ∧
      ∃ K tg hs, K.Perm ((C07.expectedRun [] pre).filter (fun x => decide (x ∉ d))) ∧
        (run Forest.empty (pre.map C07.toBlock)).canon K = some (tg, hs) ∧
        tg.Pairwise Sorted.PLt ∧
        proofUndo p' (BitVec.ofNat 64 a.length)
            (BitVec.ofNat 64 (run Forest.empty ((pre ++ [(d, a, r)]).map C07.toBlock)).numLeaves)
            (C01.encTargets (run Forest.empty (pre.map C07.toBlock)).rows tgD) d C' ud.toDestroy
            (C01.encTargets (run Forest.empty (pre.map C07.toBlock)).rows tgD) hsD =
          .ok (⟨tg.map (E (run Forest.empty (pre.map C07.toBlock)).rows), hs⟩, K) := by
  obtain ⟨tgD, hsD, ud, p', C', h1, h2, h3, hFG, h4⟩ := history_undo_last_of nz nonZero hnz pre d a r
    v hrem hdr
    (U := fun F tgD hsD p C' ud => proofUndo p (BitVec.ofNat 64 a.length)
      (BitVec.ofNat 64 (F.modify d a).numLeaves) (C01.encTargets F.rows tgD) d C' ud.toDestroy
      (C01.encTargets F.rows tgD) hsD)
    (P := fun _ _ => True)
    (fun F tgD hsD bk hcD hd ud C' tg' hs' hupd hC' hcG _ => C08_nd nz nonZero F C' d a tg' tgD hs'
      hsD _ ud hnz bk.small bk.live_nodup bk.leaf bk.adds_leaf bk.adds_nodup bk.adds_new
      bk.dels_nodup hcD hC' hcG hupd hd)
  refine ⟨tgD, hsD, ud, p', C', h1, h2, h3, ?_⟩
  rw [hFG]
  exact h4 trivial

/-- **C08 along a valid history**: a light client that started from the empty proof and followed
the history `pre ++ [(d, a, r)]` with `Proof.Update`, and then undoes the newest block with that
block's data, holds exactly the canonical proof, in the accumulator before the block, of the leaves
it held before the block minus those the block deleted (every valid history, every block). -/
theorem client_history_undo_last (cr : CR H) (nonZero : H) (hnz : nonZero ≠ (zero : H))
    (pre : List (C07.CBlock H)) (d a : List H) (r : List Nat)
    (v : C01.ValidHistory ((pre ++ [(d, a, r)]).map C07.toBlock))
    (hrem : ∀ b ∈ pre ++ [(d, a, r)], b.2.2.Pairwise (· ≤ ·)) :
    ∃ (tgD : List Pos) (hsD : List H) (ud : UpdateData H) (p' : CProof H) (C' : List H),
      (run Forest.empty (pre.map C07.toBlock)).canon d = some (tgD, hsD) ∧
      (C01b.stumpOf (run Forest.empty (pre.map C07.toBlock))).update nonZero d a
          (C01.encTargets (run Forest.empty (pre.map C07.toBlock)).rows tgD) hsD =
        .ok (C01b.stumpOf (run Forest.empty ((pre ++ [(d, a, r)]).map C07.toBlock)), ud) ∧
      C07.clientRun nonZero Forest.empty (⟨[], []⟩, []) (pre ++ [(d, a, r)]) = some (p', C') ∧
      ∃ K tg hs, K.Perm ((C07.expectedRun [] pre).filter (fun x => decide (x ∉ d))) ∧
        (run Forest.empty (pre.map C07.toBlock)).canon K = some (tg, hs) ∧
        tg.Pairwise Sorted.PLt ∧
        proofUndo p' (BitVec.ofNat 64 a.length)
            (BitVec.ofNat 64 (run Forest.empty ((pre ++ [(d, a, r)]).map C07.toBlock)).numLeaves)
            (C01.encTargets (run Forest.empty (pre.map C07.toBlock)).rows tgD) d C' ud.toDestroy
            (C01.encTargets (run Forest.empty (pre.map C07.toBlock)).rows tgD) hsD =
          .ok (⟨tg.map (E (run Forest.empty (pre.map C07.toBlock)).rows), hs⟩, K) :=
  client_history_undo_last_nd cr.toNZ nonZero hnz pre d a r v hrem
    (C07.distinctRun_of_CR cr _ _ (C07.Inv.ofValid v hrem))

namespace Example
open UtreexoVerif.Props.C01 UtreexoVerif.Props.C01.Example
open UtreexoVerif.Props.C08.Example

/-- **the witness of `C08.undo.emptyRootsOverwritten`** (against `proofUndoOld`): accumulator `[dead, 1, 2]`, the
client caches leaf 1 (at `(1,0)`, position 4); the block deletes leaf 2 and adds leaves 3 and 4
(leaf 3 is merged over the emptied root: `ToDestroy = [2]`, the forest grows to 3 rows, leaf 1 is
cached at position 8 with proof `[3]`).  `C08` applies: the undo returns the canonical proof, before
the block, of a permutation of `[1]` -/
example : ∃ (s' : Stump T) (ud : UpdateData T) (K : List T) (tg : List Pos) (hs : List T),
    (C01b.stumpOf Fw).update (T.leaf 0) [T.leaf 2] [T.leaf 3, .leaf 4] (encTargets Fw.rows [(0, 2)]) [] =
      .ok (s', ud) ∧
    ud.toDestroy = [2#64] ∧
    K.Perm (expectedUndo [T.leaf 1] [T.leaf 3, .leaf 4]) ∧
    Fw.canon K = some (tg, hs) ∧ tg.Pairwise Sorted.PLt ∧
    proofUndo ⟨[((1, 0) : Pos)].map (E (Fw.modify [T.leaf 2] [T.leaf 3, .leaf 4]).rows), [T.leaf 3]⟩
        (BitVec.ofNat 64 [T.leaf 3, T.leaf 4].length)
        (BitVec.ofNat 64 (Fw.modify [T.leaf 2] [T.leaf 3, .leaf 4]).numLeaves)
        (encTargets Fw.rows [(0, 2)]) [T.leaf 2] [T.leaf 1] ud.toDestroy
        (encTargets Fw.rows [(0, 2)]) [] =
      .ok (⟨tg.map (E Fw.rows), hs⟩, K) := by
  have hcD := Fw_canonD
  have hcG := Fw_canonG
  obtain ⟨ud, hupd, htd⟩ := Fw_update
  obtain ⟨K, tg, hs, g1, g2, g3, g4⟩ := C08 (T.leaf 0) Fw [T.leaf 1] [T.leaf 2] [T.leaf 3, .leaf 4]
    [(1, 0)] [(0, 2)] [T.leaf 3] [] _ ud cr (by intro h; cases h) (by decide) (by decide) Fw_live
    adds34 (by decide) (fun x hx hx' => absurd hx' (adds34_new x hx)) (by decide) hcD (by decide)
    hcG hupd
  exact ⟨_, ud, K, tg, hs, hupd, htd, g1, g2, g3, g4⟩

/-- the model, simply run on that witness: leaf 1 is back at position 4 with the empty proof
(`proofUndoOld` returns the empty proof: `C08.Example.fails_emptyRootsOverwritten`) -/
example : proofUndo (H := T) ⟨[8#64], [T.leaf 3]⟩ 2#64 5#64 [2#64] [T.leaf 2] [T.leaf 1] [2#64] [2#64] [] =
    .ok (⟨[4#64], []⟩, [T.leaf 1]) := by decide +kernel

example : proofUndoOld (H := T) ⟨[8#64], [T.leaf 3]⟩ 2#64 5#64 [2#64] [T.leaf 2] [T.leaf 1] [2#64] [2#64] [] =
    .ok (⟨[], []⟩, []) := by decide +kernel

/-- … which is the canonical proof of leaf 1 before the block -/
example : Fw.canon [T.leaf 1] = some ([(1, 0)], []) := by decide +kernel

/-- **the witness of `C08.undo.toEmpty`** (against `proofUndoOld`): empty accumulator, the block adds leaf 1, which
the client caches.  `C08` applies: the undo returns the canonical proof of a permutation of `[]` -/
example : ∃ (s' : Stump T) (ud : UpdateData T) (K : List T) (tg : List Pos) (hs : List T),
    (C01b.stumpOf (Forest.empty : Forest T)).update (T.leaf 0) [] [T.leaf 1]
      (encTargets (Forest.empty : Forest T).rows []) [] = .ok (s', ud) ∧
    K.Perm (expectedUndo [T.leaf 1] [T.leaf 1]) ∧
    (Forest.empty : Forest T).canon K = some (tg, hs) ∧ tg.Pairwise Sorted.PLt ∧
    proofUndo ⟨[((0, 0) : Pos)].map (E ((Forest.empty : Forest T).modify [] [T.leaf 1]).rows), []⟩
        (BitVec.ofNat 64 [T.leaf 1].length)
        (BitVec.ofNat 64 ((Forest.empty : Forest T).modify [] [T.leaf 1]).numLeaves)
        (encTargets (Forest.empty : Forest T).rows []) [] [T.leaf 1] ud.toDestroy
        (encTargets (Forest.empty : Forest T).rows []) [] =
      .ok (⟨tg.map (E (Forest.empty : Forest T).rows), hs⟩, K) := by
  have hcD : (Forest.empty : Forest T).canon [] = some ([], []) := rfl
  have hcG := empty_canonG
  have hadd := add1
  obtain ⟨ud, hupd, _⟩ := empty_update
  obtain ⟨K, tg, hs, g1, g2, g3, g4⟩ := C08 (T.leaf 0) (Forest.empty : Forest T) [T.leaf 1] []
    [T.leaf 1] [(0, 0)] [] [] [] _ ud cr (by intro h; cases h) (by decide) (by decide)
    (fun x hx => by cases hx) hadd (by decide) (fun x _ hx => by cases hx) (by decide) hcD
    (by decide) hcG hupd
  exact ⟨_, ud, K, tg, hs, hupd, g1, g2, g3, g4⟩

/-- the model, simply run: nothing is left (`proofUndoOld` keeps leaf 1 at position 0) -/
example : proofUndo (H := T) ⟨[0#64], []⟩ 1#64 1#64 [] [] [T.leaf 1] [] [] [] = .ok (⟨[], []⟩, []) := by
  decide +kernel

example : proofUndoOld (H := T) ⟨[0#64], []⟩ 1#64 1#64 [] [] [T.leaf 1] [] [] [] =
    .ok (⟨[0#64], []⟩, [T.leaf 1]) := by decide +kernel

/-- a block in which an OLD cached leaf moves when an empty root is overwritten: seven slots
`[1, 2, 3, 4, dead, dead, 7]` (trees on rows 2, 1 — all-zero — and 0); the block adds leaf 8, which
merges with leaf 7 and is then moved over the empty root on row 1 (`ToDestroy = [10]`): leaf 7 moves
from `(0,6)` to `(1,2)` (position 10 of the 3-row forest).  The undo moves it back to position 6,
BEHIND leaf 2 (position 1): the sort is needed. -/
def F7 : Forest T :=
  ⟨[some (.leaf 1), some (.leaf 2), some (.leaf 3), some (.leaf 4), none, none, some (.leaf 7)]⟩

example : (F7.modify [] [T.leaf 8]).canon [T.leaf 7, .leaf 2] =
    some ([(1, 2), (0, 1)], [T.leaf 1, .node (.leaf 3) (.leaf 4), .leaf 8]) := by decide +kernel

example : proofUndo (H := T) ⟨[10#64, 1#64], [T.leaf 1, .node (.leaf 3) (.leaf 4), .leaf 8]⟩ 1#64 8#64 [] []
    [T.leaf 7, .leaf 2] [10#64] [] [] =
    .ok (⟨[1#64, 6#64], [T.leaf 1, .node (.leaf 3) (.leaf 4)]⟩, [T.leaf 2, .leaf 7]) := by decide +kernel

example : F7.canon [T.leaf 2, .leaf 7] = some ([(0, 1), (0, 6)], [T.leaf 1, .node (.leaf 3) (.leaf 4)]) := by
  decide +kernel

/-- level 1, `proofUndoAdd_canonical` applies to it (`L = [1]`: the all-zero root on row 1 is
destroyed) -/
example : ∃ K tgK hsK, K.Perm (expectedUndo [T.leaf 7, .leaf 2] [T.leaf 8]) ∧
    F7.canon K = some (tgK, hsK) ∧ tgK.Pairwise Sorted.PLt ∧
    proofUndoAdd ⟨[((1, 2) : Pos), (0, 1)].map (E (F7.addMany [T.leaf 8]).rows),
        [T.leaf 1, .node (.leaf 3) (.leaf 4), .leaf 8]⟩ (BitVec.ofNat 64 [T.leaf 8].length)
        (BitVec.ofNat 64 (F7.addMany [T.leaf 8]).numLeaves) [T.leaf 7, .leaf 2]
        ((destroyedPos F7.numLeaves [1]).map (E (forestRows (F7.numLeaves + [T.leaf 8].length)))) =
      .ok (⟨tgK.map (E F7.rows), hsK⟩, K) :=
  proofUndoAdd_canonical cr.toNZ (by decide) (by decide) (T.all_leaf_ok (by decide))
    (.of_below 3 (by decide) (by simp [AscFrom]) (by decide) (by decide)) (by decide) (by decide +kernel)

example : (destroyedPos F7.numLeaves [1]).map (E (forestRows (F7.numLeaves + [T.leaf 8].length))) =
    [10#64] := by decide

/-- a history whose newest block overwrites an empty root: block 1 adds leaves 10, 1, 2 (leaf 1
remembered), block 2 deletes leaf 10 (leaf 1 moves up to `(1,0)`), block 3 deletes leaf 2 and adds
leaves 3, 4 over the emptied root (`ToDestroy = [2]`) -/
def histE : List (C07.CBlock T) :=
  [([], [.leaf 10, .leaf 1, .leaf 2], [1]), ([.leaf 10], [], []), ([.leaf 2], [.leaf 3, .leaf 4], [])]

theorem histE_valid : ValidHistory (histE.map C07.toBlock) where
  live := by
    simp [histE, C07.toBlock, LiveDels, Forest.liveLeaves, Forest.modify, Forest.delLeaves,
      Forest.addMany, Forest.empty]
  dels_nodup := by unfold NodupDels; decide
  adds_nodup := by decide
  adds_leaf := T.all_leaf_ok (by decide)
  small := by
    have : (allAdds (histE.map C07.toBlock)).length = 5 := by decide
    omega

/-- `client_history_undo_last` applies to it: after undoing block 3 the client holds, in the
accumulator `[dead, 1, 2]`, the canonical proof of what it held before block 3 (leaf 1) -/
example : ∃ (tgD : List Pos) (hsD : List T) (ud : UpdateData T) (p' : CProof T) (C' : List T),
    (run Forest.empty ((histE.take 2).map C07.toBlock)).canon [T.leaf 2] = some (tgD, hsD) ∧
    (C01b.stumpOf (run Forest.empty ((histE.take 2).map C07.toBlock))).update (T.leaf 0)
        [T.leaf 2] [T.leaf 3, .leaf 4]
        (encTargets (run Forest.empty ((histE.take 2).map C07.toBlock)).rows tgD) hsD =
      .ok (C01b.stumpOf (run Forest.empty ((histE.take 2 ++
        [([T.leaf 2], [T.leaf 3, .leaf 4], [])]).map C07.toBlock)), ud) ∧
    C07.clientRun (T.leaf 0) Forest.empty (⟨[], []⟩, [])
      (histE.take 2 ++ [([T.leaf 2], [T.leaf 3, .leaf 4], [])]) = some (p', C') ∧
    ∃ K tg hs, K.Perm ((C07.expectedRun [] (histE.take 2)).filter
        (fun x => decide (x ∉ [T.leaf 2]))) ∧
      (run Forest.empty ((histE.take 2).map C07.toBlock)).canon K = some (tg, hs) ∧
      tg.Pairwise Sorted.PLt ∧
      proofUndo p' (BitVec.ofNat 64 [T.leaf 3, T.leaf 4].length)
          (BitVec.ofNat 64 (run Forest.empty ((histE.take 2 ++
            [([T.leaf 2], [T.leaf 3, .leaf 4], [])]).map C07.toBlock)).numLeaves)
          (encTargets (run Forest.empty ((histE.take 2).map C07.toBlock)).rows tgD)
          [T.leaf 2] C' ud.toDestroy
          (encTargets (run Forest.empty ((histE.take 2).map C07.toBlock)).rows tgD) hsD =
        .ok (⟨tg.map (E (run Forest.empty ((histE.take 2).map C07.toBlock)).rows), hs⟩, K) :=
  client_history_undo_last cr (T.leaf 0) (by intro h; cases h) (histE.take 2)
    [T.leaf 2] [T.leaf 3, .leaf 4] [] histE_valid (by decide)

/-- on that history the client, simply run: after the three blocks it holds leaf 1 at position 8
with proof `[3]` … -/
example : C07.clientRun (T.leaf 0) Forest.empty (⟨[], []⟩, []) histE =
    some (⟨[8#64], [T.leaf 3]⟩, [T.leaf 1]) := by decide +kernel

/-- … and block 3 is the witness block above (`run empty (histE.take 2) = Fw`) -/
example : (run Forest.empty ((histE.take 2).map C07.toBlock)).slots = Fw.slots := by decide +kernel

/-- `update_then_undo` applies to the witness block: the client holds leaf 1 in `[dead, 1, 2]`; the
block deletes leaf 2 and adds 3, 4 over the emptied root -/
example : ∃ (ud : UpdateData T) (p' : CProof T) (C' : List T),
    (C01b.stumpOf Fw).update (T.leaf 0) [T.leaf 2] [T.leaf 3, .leaf 4]
        (encTargets Fw.rows [(0, 2)]) [] =
      .ok (C01b.stumpOf (Fw.modify [T.leaf 2] [T.leaf 3, .leaf 4]), ud) ∧
    proofUpdate ⟨[((1, 0) : Pos)].map (E Fw.rows), []⟩ [T.leaf 1]
        [T.leaf 3, .leaf 4] (encTargets Fw.rows [(0, 2)]) [] (C07.toM ud) = .ok (p', C') ∧
    ∃ K tg hs, K.Perm ([T.leaf 1].filter (fun x => decide (x ∉ [T.leaf 2]))) ∧
      Fw.canon K = some (tg, hs) ∧ tg.Pairwise Sorted.PLt ∧
      proofUndo p' (BitVec.ofNat 64 [T.leaf 3, T.leaf 4].length)
          (BitVec.ofNat 64 (Fw.modify [T.leaf 2] [T.leaf 3, .leaf 4]).numLeaves)
          (encTargets Fw.rows [(0, 2)]) [T.leaf 2] C' ud.toDestroy
          (encTargets Fw.rows [(0, 2)]) [] =
        .ok (⟨tg.map (E Fw.rows), hs⟩, K) :=
  update_then_undo cr (T.leaf 0) (by intro h; cases h) Fw [T.leaf 1] [T.leaf 2]
    [T.leaf 3, .leaf 4] _ _ _ _ [] (by decide) (by decide) Fw_live adds34 (by decide)
    (fun x hx hx' => absurd hx' (adds34_new x hx)) (by decide) (by decide +kernel) (by decide)
    (by decide +kernel) (by decide)

end Example

end
end UtreexoVerif.Props.C08b
