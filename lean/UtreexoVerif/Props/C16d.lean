/-
  C16 (continued) — the remaining tree-selection helpers of utils.go:
  `numRoots`, `rootIdxOnRow`, `getLowestRoot`, `subtreeRow`, `translatePositions`.
-/
import UtreexoVerif.Proofs.RootIdx
import UtreexoVerif.Proofs.Digits
import UtreexoVerif.Props.C16b

namespace UtreexoVerif.Props.C16
open UtreexoVerif.GoInt UtreexoVerif.Proofs

/-- `numRoots` is the number of trees (`Spec.treeRows` lists them) -/
theorem numRoots_spec (n : U64) :
    Model.numRoots n = BitVec.ofNat 8 (Spec.treeRows n.toNat).length := by
  unfold Model.numRoots ofInt
  rw [Spec.onesCount64_eq_treeRows, BitVec.ofInt_natCast]

/-- `rootIdxOnRow numLeaves R` is the index, in the list of trees (highest first), of the
tree on row `R` -/
theorem rootIdxOnRow_spec (n : U64) {R : Nat} (hR : R ≤ 63) (hb : n.toNat.testBit R = true) :
    Model.rootIdxOnRow n (H8 R) = (((Spec.treeRows n.toNat).idxOf R : Nat) : Int) := by
  have e1 : (conv 64 (H8 R) + 1#64 : U64).toNat = R + 1 := by
    rw [BitVec.toNat_add, toNat_conv64_U8, toNat_H8 hR]
    simp only [BitVec.toNat_ofNat]
    omega
  have hz : ∀ j, R + (64 - R) < j → n.toNat.testBit j = false := by
    intro j hj
    exact Nat.testBit_lt_two_pow (Nat.lt_of_lt_of_le n.isLt (two_pow_le_of_le (by omega)))
  have e2 : cntBits n.toNat R 64 = cntBits n.toNat R (64 - R) := by
    have := cntBits_add_zero hz R
    rwa [show 64 - R + R = 64 by omega] at this
  have e3 : (Spec.treeRows n.toNat).idxOf R = cntBits n.toNat R (64 - R) := by
    unfold Spec.treeRows
    have := idxOf_treeRowsFrom hb (64 - R)
    rwa [show R + (64 - R) = 64 by omega] at this
  have hle := cntBits_le n.toNat R (64 - R)
  unfold Model.rootIdxOnRow Model.numRoots toInt ofInt
  rw [e1, onesCount64_shr, BitVec.ofInt_natCast, e2, e3, BitVec.toNat_ofNat]
  congr 1
  omega

/-- `getLowestRoot`: the lowest row `≤ totalRows` that carries a tree … -/
theorem getLowestRoot_found (n : U64) {h R : Nat} (hh : h ≤ 63) (hR : R ≤ h)
    (hb : n.toNat.testBit R = true) (hlow : ∀ j, j < R → n.toNat.testBit j = false) :
    Model.getLowestRoot n (H8 h) = H8 R := by
  have key := getLowestRoot_loop_found n hh hR hb R 0 300 (by omega) (fun j _ h2 => hlow j h2)
    (by omega)
  unfold Model.getLowestRoot
  simp only [show (0#8 : U8) = H8 0 from rfl, key]

/-- … and `totalRows + 1` if there is none -/
theorem getLowestRoot_none (n : U64) {h : Nat} (hh : h ≤ 63)
    (hz : ∀ j, j ≤ h → n.toNat.testBit j = false) :
    Model.getLowestRoot n (H8 h) = H8 (h + 1) := by
  have key := getLowestRoot_loop_none n hh (h + 1) 0 300 (by omega) (fun j _ h2 => hz j h2)
    (by omega)
  unfold Model.getLowestRoot
  simp only [show (0#8 : U8) = H8 0 from rfl, key]

/-- `subtreeRow numLeaves k` is the row of the `k`-th tree (highest first) -/
theorem subtreeRow_spec (n : U64) {h k R : Nat} (hT : Model.TreeRows n = H8 h) (hh : h ≤ 63)
    (hk : (Spec.treeRows n.toNat)[k]? = some R) :
    Model.subtreeRow n (H8 k) = H8 R := by
  have hn := le_of_treeRows n hT hh
  have f := two_pow_succ' h
  have f' := Nat.two_pow_pos h
  have hlen : (Spec.treeRows n.toNat).length ≤ 65 := by
    rw [Spec.treeRows_eq_filter]
    exact Nat.le_trans (List.length_filter_le _ _) (by simp)
  have hk255 : k ≤ 255 := by
    have := (List.getElem?_eq_some_iff.1 hk).1
    omega
  rw [treeRows_eq_from (by omega) (show n.toNat < 2 ^ (h + 1) by omega)] at hk
  obtain ⟨s', hloop⟩ := subtreeRow_loop n hk255 h 0 300 R hh (Nat.zero_le _) (by simpa using hk) (by omega)
  unfold Model.subtreeRow
  have e1 : toInt (Model.TreeRows n) = (h : Int) := by unfold toInt; rw [hT, toNat_H8 hh]
  simp only [e1]
  rw [show ((0 : Int)) = ((0 : Nat) : Int) from rfl, hloop]
  simp only
  unfold ofInt
  rw [BitVec.ofInt_natCast]

/-- `translatePositions` maps `translatePos` over the slice -/
theorem translatePositions_enc {H H' : Nat} (hH : H ≤ 63) (hH' : H' ≤ 63) (L : List Spec.Pos)
    (hL : ∀ p ∈ L, ValidH H p ∧ ValidH H' p) :
    Model.translatePositions (L.map (encP H)) (H8 H) (H8 H') = L.map (encP H') := by
  unfold Model.translatePositions
  rw [List.map_map]
  apply List.map_congr_left
  intro p hp
  obtain ⟨h1, h2⟩ := hL p hp
  exact translatePos_enc hH h1.1 h1.2 hH' h2.1 h2.2

/-- 5 leaves = 101b: two trees, on rows 2 and 0 -/
example : Model.numRoots 5#64 = 2#8 ∧ Model.rootIdxOnRow 5#64 0#8 = 1 ∧
    Model.getLowestRoot 5#64 3#8 = 0#8 ∧ Model.getLowestRoot 4#64 3#8 = 2#8 ∧
    Model.subtreeRow 5#64 0#8 = 2#8 ∧ Model.subtreeRow 5#64 1#8 = 0#8 := by decide +kernel
example : Model.rootIdxOnRow 5#64 (H8 0) = (((Spec.treeRows (5#64 : U64).toNat).idxOf 0 : Nat) : Int) :=
  rootIdxOnRow_spec 5#64 (by decide) (by decide)
example : Model.subtreeRow 5#64 (H8 1) = H8 0 :=
  subtreeRow_spec (h := 3) 5#64 (by decide) (by decide) (by decide)
example : Model.getLowestRoot 4#64 (H8 3) = H8 2 :=
  getLowestRoot_found 4#64 (by decide) (by decide) (by decide)
    (by intro j hj; have : j = 0 ∨ j = 1 := by omega
        rcases this with rfl | rfl <;> decide)
example : Model.translatePositions ([(1, 1), (0, 2)].map (encP 3)) (H8 3) (H8 4) =
    [(1, 1), (0, 2)].map (encP 4) :=
  translatePositions_enc (by decide) (by decide) _ (by
    intro p hp
    simp only [List.mem_cons, List.not_mem_nil, or_false] at hp
    rcases hp with rfl | rfl <;> exact ⟨⟨by decide, by decide⟩, ⟨by decide, by decide⟩⟩)

end UtreexoVerif.Props.C16
