/-
  `NZ H` ("the parent hash is never the all-zero hash", `Spec/View.lean`) on a FINITE hash type.

  Most honest-behaviour theorems (C01, C02, C05, C07, C08, C09, C13Map, …) assume only `NZ H`,
  not the injectivity half of `CR H`.  `CR H` is impossible for every finite hash type
  (`Props/C13MapNote.lean`), so a theorem assuming it says nothing about a real 32-byte hash;
  `NZ H` is satisfiable by finite hash types.  This file exhibits one — a ONE-BYTE hash, for which
  `CR` is false — and applies main theorems to concrete forests over it.
-/
import UtreexoVerif.Props.C01
import UtreexoVerif.Props.C02
import UtreexoVerif.Props.C08b
import UtreexoVerif.Props.C09c
import UtreexoVerif.Props.C10
import UtreexoVerif.Props.C13b

namespace UtreexoVerif.Props.NZ
open Spec Spec.Forest Model Hasher
open UtreexoVerif.Model.PollardAbs UtreexoVerif.Proofs.CalcGeo

/-- a one-byte hash (256 values): `ph a b = (31·a + b) ||| 1 (mod 256)`, zero hash `0`.
Every parent hash is odd, hence never the zero hash; the even non-zero bytes are not parent
hashes at all (so they can serve as leaves where a theorem asks for that). -/
structure B8 where
  v : U8
deriving DecidableEq, Repr

instance : Hasher B8 := ⟨fun a b => ⟨(a.v * 31#8 + b.v) ||| 1#8⟩, ⟨0#8⟩⟩

def b (n : Nat) : B8 := ⟨BitVec.ofNat 8 n⟩

/-- **`NZ` holds for the one-byte hash** -/
theorem nzB8 : NZ B8 where
  nonzero := by
    intro x y h
    have h' : (x.v * 31#8 + y.v) ||| 1#8 = 0#8 := congrArg B8.v h
    have := congrArg (fun z => z.getLsbD 0) h'
    simp at this

/-- … while `CR` is FALSE for it (as for every finite hash): `ph 0 0 = ph 0 1 = 1` -/
theorem not_CR : ¬ CR B8 := by
  intro cr
  have := (cr.inj (b 0) (b 0) (b 0) (b 1) (by decide)).2
  exact absurd this (by decide)

theorem even_not_parent (n : Nat) (hn : n % 2 = 0) (x y : B8) : b n ≠ ph x y := by
  intro h
  have h' : BitVec.ofNat 8 n = (x.v * 31#8 + y.v) ||| 1#8 := congrArg B8.v h
  have := congrArg (fun z => z.getLsbD 0) h'
  simp only [BitVec.getLsbD_or, BitVec.getLsbD_ofNat, Nat.testBit_zero] at this
  simp at this
  omega

/-! ### C02 over the one-byte hash: an honest canonical proof verifies

Five slots, slot 1 dead:
```
row 2:            (2,0)
row 1:   (1,0) = leaf 2 (moved up)      (1,1) = ph 4 6
row 0:                             (0,2) = leaf 4   (0,3) = leaf 6        (0,4) = leaf 8
```
-/

def F : Forest B8 := ⟨[some (b 2), none, some (b 4), some (b 6), some (b 8)]⟩

theorem small : F.numLeaves ≤ 2 ^ 63 := by decide

theorem live_nonzero : ∀ l ∈ F.liveLeaves, l ≠ (zero : B8) := by decide

/-- the canonical proof of `[leaf 4, leaf 2]`: targets `(0,2)` and `(1,0)`, one proof hash -/
theorem canon1 : F.canon [b 4, b 2] = some ([(0, 2), (1, 0)], [b 6]) := by decide +kernel

/-- `C02.honest_proof_verifies_CR` (hypothesis `NZ`) at the finite hash type: accepted, tree 0
(the tree on row 2) touched -/
example : verify (BitVec.ofNat 64 F.numLeaves) F.roots [b 4, b 2] [2#64, 8#64] [b 6] = .ok [0] :=
  C02.honest_proof_verifies_CR nzB8 small live_nonzero (by decide) canon1

/-- … and the model agrees when simply run -/
example : verify (BitVec.ofNat 64 F.numLeaves) F.roots [b 4, b 2] [2#64, 8#64] [b 6] = .ok [0] := by
  decide +kernel

/-- `C01.stump_add_refines_CR` (hypothesis `NZ`) at the finite hash type -/
example : ∃ upd td, (⟨F.roots, BitVec.ofNat 64 F.numLeaves⟩ : Stump B8).add (b 1) [b 10, b 12] =
    .ok (⟨(F.addMany [b 10, b 12]).roots, BitVec.ofNat 64 (F.numLeaves + 2)⟩, upd, td) :=
  C01.stump_add_refines_CR nzB8 (b 1) F ⟨F.roots, BitVec.ofNat 64 F.numLeaves⟩ [b 10, b 12] rfl rfl
    (by decide) live_nonzero (by decide)

/-! ### the theorems that need "equal hashes, equal nodes": `NZ` plus the finite `NodesDistinct`

C07 (along histories), C08, C10 (`calculatePosition` finds the tree by its root hash) and C11
(`NewAdd` is collected in a map keyed by hash) are false for a hash with a collision among the
nodes of the forest at hand.  Their `…_nd` forms assume, instead of `CR H`, the decidable
`NodesDistinct G` / `DistinctRun` of `Proofs/NodesUnique.lean`.  Over the one-byte hash: -/

theorem F_live : F.liveLeaves = [b 2, b 4, b 6, b 8] := by decide

/-- no non-zero hash sits at two places of `F` (decided by evaluation) -/
theorem F_distinct : NodesDistinct F := by decide +kernel

/-- `C10.getLeafPosition_calculatePosition_nd` at the finite hash type -/
example : ∃ R t path, R ∈ treeRows F.numLeaves ∧ Proofs.PollardLookup.treeOf F R = some t ∧
    childPath t path = some (CTree.leaf (b 6)) ∧
    calculatePosition F (nieceFlags path) t.hash =
      (pollardGetLeafPosition F (b 6)).1 ∧
    (pollardGetLeafPosition F (b 6)).2 = true :=
  C10.getLeafPosition_calculatePosition_nd nzB8 F (by decide) (by decide) live_nonzero F_distinct
    (h := b 6) (by rw [F_live]; decide)

/-- a three-block history over the one-byte hash (all leaves even, hence not parent hashes):
block 1 adds `2 4 6` (remember leaf 4); block 2 deletes leaf 6 and adds `8 10` (remember both);
block 3 deletes leaves 2 and 8 and adds leaf 12 -/
def histR : List (C07.CBlock B8) :=
  [([], [b 2, b 4, b 6], [1]), ([b 6], [b 8, b 10], [0, 1]), ([b 2, b 8], [b 12], [])]

theorem histR_valid : C01.ValidHistory (histR.map C07.toBlock) where
  live := by
    simp only [histR, C07.toBlock, List.map_cons, List.map_nil, LiveDels]
    decide +kernel
  dels_nodup := by
    intro x hx
    simp only [histR, C07.toBlock, List.map_cons, List.map_nil, List.mem_cons, List.not_mem_nil,
      or_false] at hx
    rcases hx with rfl | rfl | rfl <;> decide
  adds_nodup := by decide
  adds_leaf := by
    intro x hx
    have : x = b 2 ∨ x = b 4 ∨ x = b 6 ∨ x = b 8 ∨ x = b 10 ∨ x = b 12 := by
      simpa [histR, C07.toBlock, allAdds] using hx
    rcases this with rfl | rfl | rfl | rfl | rfl | rfl <;>
      exact ⟨by decide, even_not_parent _ (by decide)⟩
  small := by
    have : (allAdds (histR.map C07.toBlock)).length = 6 := by decide
    omega

/-- every forest reached along the history has pairwise distinct non-zero node hashes -/
theorem histR_distinct : DistinctRun Forest.empty (histR.map C07.toBlock) := by decide +kernel

theorem histR_rems : ∀ x ∈ histR, x.2.2.Pairwise (· ≤ ·) := by
  intro x hx
  simp only [histR, List.mem_cons, List.not_mem_nil, or_false] at hx
  rcases hx with rfl | rfl | rfl <;> decide

/-- **`C07.client_history_nd` at the finite hash type**: the light client ends with the canonical
proof of the leaves it is expected to hold -/
example : ∃ C tg hs,
    C07.clientRun (b 1) Forest.empty (⟨[], []⟩, []) histR =
      some (⟨tg.map (E (run Forest.empty (histR.map C07.toBlock)).rows), hs⟩, C) ∧
    (run Forest.empty (histR.map C07.toBlock)).canon C = some (tg, hs) ∧
    C.Perm (C07.expectedRun [] histR) :=
  C07.client_history_nd nzB8 (b 1) (by decide) histR histR_valid histR_rems histR_distinct

/-- **`C11.stump_update_data_history_nd` at the finite hash type** (block 2 of the history) -/
example : ∃ (targets : List Pos) (proof : List B8) (ud : UpdateData B8),
    C01.stumpRun (b 1) Forest.empty ⟨[], 0#64⟩ [([], [b 2, b 4, b 6])] =
      some (C01b.stumpOf (run Forest.empty [([], [b 2, b 4, b 6])])) ∧
    (run Forest.empty [([], [b 2, b 4, b 6])]).canon [b 6] = some (targets, proof) ∧
    (C01b.stumpOf (run Forest.empty [([], [b 2, b 4, b 6])])).update (b 1) [b 6] [b 8, b 10]
        (C01.encTargets (run Forest.empty [([], [b 2, b 4, b 6])]).rows targets) proof =
      .ok (C01b.stumpOf (run Forest.empty ([([], [b 2, b 4, b 6])] ++ [([b 6], [b 8, b 10])])), ud) ∧
    ud.prevNumLeaves = BitVec.ofNat 64 (run Forest.empty [([], [b 2, b 4, b 6])]).numLeaves ∧
    ud.newDel = C11del.newDelSpec (run Forest.empty [([], [b 2, b 4, b 6])]) [b 6] targets ∧
    C11.AddDataSpec ((run Forest.empty [([], [b 2, b 4, b 6])]).delLeaves [b 6]) [b 8, b 10]
      ud.newAdd ud.toDestroy :=
  C11.stump_update_data_history_nd nzB8 (b 1) (by decide) [([], [b 2, b 4, b 6])]
    [([b 2, b 8], [b 12])] [b 6] [b 8, b 10] histR_valid (by decide +kernel)

/-- **`C08b.client_history_undo_last_nd` at the finite hash type**: following the history and then
undoing its newest block gives back the canonical proof before that block -/
example : ∃ (tgD : List Pos) (hsD : List B8) (ud : UpdateData B8) (p' : CProof B8) (C' : List B8),
    (run Forest.empty ((histR.take 2).map C07.toBlock)).canon [b 2, b 8] = some (tgD, hsD) ∧
    (C01b.stumpOf (run Forest.empty ((histR.take 2).map C07.toBlock))).update (b 1) [b 2, b 8] [b 12]
        (C01.encTargets (run Forest.empty ((histR.take 2).map C07.toBlock)).rows tgD) hsD =
      .ok (C01b.stumpOf (run Forest.empty ((histR.take 2 ++ [([b 2, b 8], [b 12], [])]).map
        C07.toBlock)), ud) ∧
    C07.clientRun (b 1) Forest.empty (⟨[], []⟩, []) (histR.take 2 ++ [([b 2, b 8], [b 12], [])]) =
      some (p', C') ∧
    ∃ K tg hs, K.Perm ((C07.expectedRun [] (histR.take 2)).filter (fun x => decide (x ∉ [b 2, b 8]))) ∧
      (run Forest.empty ((histR.take 2).map C07.toBlock)).canon K = some (tg, hs) ∧
      tg.Pairwise Proofs.Sorted.PLt ∧
      proofUndo p' (BitVec.ofNat 64 [b 12].length)
          (BitVec.ofNat 64 (run Forest.empty ((histR.take 2 ++ [([b 2, b 8], [b 12], [])]).map
            C07.toBlock)).numLeaves)
          (C01.encTargets (run Forest.empty ((histR.take 2).map C07.toBlock)).rows tgD) [b 2, b 8] C'
          ud.toDestroy
          (C01.encTargets (run Forest.empty ((histR.take 2).map C07.toBlock)).rows tgD) hsD =
        .ok (⟨tg.map (E (run Forest.empty ((histR.take 2).map C07.toBlock)).rows), hs⟩, K) :=
  C08b.client_history_undo_last_nd nzB8 (b 1) (by decide) (histR.take 2) [b 2, b 8] [b 12] []
    histR_valid histR_rems histR_distinct

section C09
open Proofs.MapFull C09c

def adds5 : List (Leaf B8) := [⟨b 2, true⟩, ⟨b 4, false⟩, ⟨b 6, true⟩, ⟨b 8, false⟩, ⟨b 10, false⟩]

def mf5 : MapPollard B8 := (MapPollard.add adds5 (MapPollard.new true)).1

def F5 : Forest B8 := (Forest.empty : Forest B8).addMany (adds5.map (·.hash))

theorem adds5_fresh : ∀ a ∈ adds5, a.hash ∉ (Forest.empty : Forest B8).liveLeaves ∧ a.hash ≠ zero ∧
    ∀ u v : B8, a.hash ≠ ph u v := by
  intro a ha
  simp only [adds5, List.mem_cons, List.mem_nil_iff, or_false] at ha
  rcases ha with rfl | rfl | rfl | rfl | rfl <;>
    exact ⟨by decide, by decide, even_not_parent _ (by decide)⟩

/-- `C09c.finv_add` at the finite hash type: `mf5` satisfies the storage invariant for `F5` -/
theorem mf5_finv : FInv mf5 F5 := by
  obtain ⟨m', h1, h2⟩ := finv_add nzB8 (finv_new (H := B8)) adds5 (by decide) adds5_fresh (by decide)
  have : mf5 = m' := by unfold mf5; rw [h1]
  rw [this]; exact h2

/-- `roots_full`, `getLeafPosition_full`, `prove_full` at the finite hash type -/
example : mf5.roots = F5.roots ∧
    mf5.getLeafPosition (b 8) = (F5.posOf (b 8)).map (Proofs.encP F5.rows) ∧
    ∃ tgts hashes, F5.canon [b 8, b 4] = some (tgts, hashes) ∧
      mf5.prove [b 8, b 4] = .ok (tgts.map (Proofs.encP F5.rows), hashes) :=
  ⟨roots_full nzB8 mf5_finv, getLeafPosition_full nzB8 mf5_finv _,
    prove_full nzB8 mf5_finv _ (by decide) (by decide)⟩

/-- **`C09c.C09_reach_full` at the finite hash type**: every state reached by honest calls (here: a
block applied to the empty full forest and undone again) satisfies the invariant and every honest
call succeeds -/
example : ∃ m, ReachFullU (b 1) m (Forest.empty : Forest B8) [] := by
  obtain ⟨_, hprog⟩ := C09_reach_full (H := B8) nzB8 (b 1) (by decide)
  obtain ⟨_, _, hm, _⟩ := hprog _ _ _ ReachFullU.new
  have hfr : ∀ a ∈ [(⟨b 2, true⟩ : Leaf B8), ⟨b 4, false⟩, ⟨b 6, true⟩],
      a.hash ≠ Hasher.zero ∧ a.hash ∉ (Forest.empty : Forest B8).liveLeaves ∧
        ∀ u v : B8, a.hash ≠ Hasher.ph u v := by
    intro a ha
    simp only [List.mem_cons, List.mem_nil_iff, or_false] at ha
    rcases ha with rfl | rfl | rfl <;> exact ⟨by decide, by decide, even_not_parent _ (by decide)⟩
  obtain ⟨ts, ps, hc, hmod⟩ := hm [⟨b 2, true⟩, ⟨b 4, false⟩, ⟨b 6, true⟩] [] (by simp) (by simp) hfr
    (by decide) (by decide)
  obtain ⟨m', h⟩ := hmod _ (List.Perm.refl _)
  have r1 := ReachFullU.modify (nonZero := b 1) _ _ ts ps _ ReachFullU.new (by simp) hc
    (List.Perm.refl _) hfr (by decide) (by decide) h
  obtain ⟨_, _, _, hu⟩ := hprog _ _ _ r1
  obtain ⟨m'', h2⟩ := hu _ _ rfl
  exact ⟨m'', ReachFullU.undo _ r1 h2⟩

end C09

/-! ### `NZ` on Go's `[32]byte`, together with `HashBytesOK`

`CR H` contradicts `HashBytesOK H` (`Props/C13MapNote.lean`); `NZ H` does not: ANY function
`g : [32]byte → [32]byte → [32]byte` with one output bit forced to 1 is an `NZ` parent hash on
the 32-byte type whose wire format satisfies `HashBytesOK`.  (For `g` itself, e.g. SHA-512/256,
`NZ` says that no pair of hashes is a preimage of the all-zero hash.) -/

section Bytes32
open Props.C13 Proofs.Serial

def forceBit (h : Bytes32) : Bytes32 :=
  ⟨(h.1.headD 0#8 ||| 1#8) :: h.1.tail, by
    have := h.2
    cases hh : h.1 with
    | nil => rw [hh] at this; cases this
    | cons x xs => rw [hh] at this; simpa using this⟩

theorem forceBit_ne_zero (h : Bytes32) : forceBit h ≠ Bytes32.zero := by
  intro e
  have h1 : (h.1.headD 0#8 ||| 1#8) :: h.1.tail = List.replicate 32 0#8 := congrArg Subtype.val e
  have h2 := congrArg (fun l => (l.headD 7#8).getLsbD 0) h1
  simp at h2

/-- **`NZ` and `HashBytesOK` hold together** on `[32]byte`, for every `g` with one bit forced -/
theorem nz_hashBytesOK_compatible (g : Bytes32 → Bytes32 → Bytes32) :
    letI : Hasher Bytes32 := ⟨fun a b => forceBit (g a b), Bytes32.zero⟩
    NZ Bytes32 ∧ HashBytesOK Bytes32 :=
  letI : Hasher Bytes32 := ⟨fun a b => forceBit (g a b), Bytes32.zero⟩
  ⟨⟨fun a b => forceBit_ne_zero (g a b)⟩, okBytes32⟩

end Bytes32

end UtreexoVerif.Props.NZ
