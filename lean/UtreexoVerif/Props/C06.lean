/-
  C06 — undo is the exact inverse of a block, to any reorganisation depth.
  Specification side (slot forest `Spec.Forest`).

  What the theorems below do not say by themselves:
  * the slot list carries hidden information (where the dead slots of a collapsed subtree lie), so
    uniqueness of the undo result is FALSE on slot lists (`slot_uniqueness_false`,
    `no_slot_level_undo`) and holds up to observational equivalence `Equiv` — same leaf count,
    same collapsed trees; every observable is a function of these (`undo_unique`);
  * `prevRoots` is needed exactly to recover which roots were empty before the additions overwrote
    them: redundant when the post-block slot list is known (`prevRoots_redundant`), needed at the
    observational level (`prevRoots_needed`); `AddsAlive` cannot be dropped (`addsAlive_needed`).
-/
import UtreexoVerif.Proofs.SpecUndo
import UtreexoVerif.Proofs.LiveLeaves
import UtreexoVerif.Props.C01
set_option linter.unusedSectionVars false

namespace UtreexoVerif.Props.C06
open Hasher Spec Spec.Forest

section
variable {H : Type} [DecidableEq H] [Hasher H]

/-- The data handed to `Undo`, exactly as the API receives it: number of additions of the
block, PRE-block positions of the deleted leaves (as (row, offset); the `uint64` encoding is
covered by C16) parallel to their hashes, and the previous roots. -/
structure UndoData (H : Type) where
  numAdds : Nat
  targets : List Pos
  hashes : List H
  prevRoots : List H
deriving DecidableEq, Repr

def undoDataOf (F : Forest H) (dels adds : List H) : UndoData H :=
  ⟨adds.length, dels.map (fun h => (F.posOf h).getD (0, 0)), dels, F.roots⟩

/-- `IsUndo` without the previous roots. -/
structure IsUndoCore (F' : Forest H) (d : UndoData H) (G : Forest H) : Prop where
  /-- the additions are taken back -/
  numLeaves : G.numLeaves + d.numAdds = F'.numLeaves
  /-- every slot below `G.numLeaves` that is alive in `F'` is alive in `G` with the same leaf -/
  survive : ∀ (i : Nat) (h : H), i < G.numLeaves → F'.slots[i]? = some (some h) → G.slots[i]? = some (some h)
  /-- a leaf alive in `G` that is not alive (in its slot) in `F'` is one of `d.hashes` … -/
  revived : ∀ (i : Nat) (h : H), G.slots[i]? = some (some h) → F'.slots[i]? ≠ some (some h) → h ∈ d.hashes
  /-- … and those are dead in `F'` -/
  hashes_dead : ∀ h ∈ d.hashes, h ∉ F'.liveLeaves
  len : d.targets.length = d.hashes.length
  /-- … and each sits at its target position in `G` -/
  pos : ∀ i (h1 : i < d.hashes.length) (h2 : i < d.targets.length),
    G.posOf d.hashes[i] = some d.targets[i]

/-- "`G` is a forest that `Undo(F', d)` may return". -/
structure IsUndo (F' : Forest H) (d : UndoData H) (G : Forest H) : Prop
    extends IsUndoCore F' d G where
  roots : G.roots = d.prevRoots

structure WF (F : Forest H) : Prop where
  nodup : F.liveLeaves.Nodup
  nonzero : ∀ x ∈ F.liveLeaves, x ≠ (zero : H)

structure ValidBlock (F : Forest H) (dels adds : List H) : Prop where
  dels_live : ∀ x ∈ dels, x ∈ F.liveLeaves
  dels_nodup : dels.Nodup
  adds_fresh : ∀ x ∈ adds, x ∉ F.liveLeaves
  adds_nodup : adds.Nodup
  adds_nonzero : ∀ x ∈ adds, x ≠ (zero : H)

/-- the last `k` slots (the block's additions) are alive -/
def AddsAlive (F' : Forest H) (k : Nat) : Prop :=
  ∀ i, F'.numLeaves - k ≤ i → i < F'.numLeaves → ∃ h, F'.slots[i]? = some (some h)

theorem IsUndoCore.killed_slots {F' G : Forest H} {d : UndoData H} (u : IsUndoCore F' d G) :
    (G.delLeaves d.hashes).slots = F'.slots.take G.numLeaves := by
  rw [delLeaves_slots]
  apply List.ext_getElem?
  intro i
  rw [List.getElem?_map, List.getElem?_take]
  have hlen := u.numLeaves
  unfold Forest.numLeaves at hlen
  by_cases hi : i < G.numLeaves
  · rw [if_pos hi]
    unfold Forest.numLeaves at hi
    have hg : G.slots[i]? = some G.slots[i] := List.getElem?_eq_getElem hi
    have hf : F'.slots[i]? = some (F'.slots[i]'(by omega)) := List.getElem?_eq_getElem (by omega)
    cases hfv : F'.slots[i]'(by omega) with
    | some h =>
      rw [hfv] at hf
      have := u.survive i h hi hf
      rw [this, hf]
      have hnot : h ∉ d.hashes := by
        intro hm
        apply u.hashes_dead h hm
        rw [Forest.mem_liveLeaves]
        exact List.mem_of_getElem? hf
      simp [kill, hnot]
    | none =>
      rw [hfv] at hf
      rw [hf, hg]
      cases hgv : G.slots[i] with
      | none => simp [kill]
      | some h =>
        rw [hgv] at hg
        have := u.revived i h hg (by rw [hf]; simp)
        simp [kill, this]
  · rw [if_neg hi]
    have : G.slots[i]? = none := by
      apply List.getElem?_eq_none
      unfold Forest.numLeaves at hi
      omega
    rw [this]; rfl

theorem all_some_eq_map : ∀ (l : List (Option H)), (∀ a ∈ l, ∃ h, a = some h) →
    l = (l.filterMap id).map some := by
  intro l
  induction l with
  | nil => intro _; rfl
  | cons a l ih =>
    intro h
    obtain ⟨x, rfl⟩ := h a (by simp)
    simp only [List.filterMap_cons, id, List.map_cons]
    rw [← ih (fun b hb => h b (by simp [hb]))]

theorem IsUndoCore.decomp {F' G : Forest H} {d : UndoData H} (u : IsUndoCore F' d G)
    (ha : AddsAlive F' d.numAdds) :
    ∃ adds : List H, adds.length = d.numAdds ∧ F' = (G.delLeaves d.hashes).addMany adds ∧
      F'.liveLeaves = (G.delLeaves d.hashes).liveLeaves ++ adds := by
  have hlen := u.numLeaves
  have hG : G.numLeaves = G.slots.length := rfl
  have hF : F'.numLeaves = F'.slots.length := rfl
  have hall : ∀ a ∈ F'.slots.drop G.numLeaves, ∃ h, a = some h := by
    intro a hmem
    obtain ⟨j, hj, rfl⟩ := List.mem_iff_getElem.1 hmem
    rw [List.length_drop] at hj
    obtain ⟨h, hh⟩ := ha (G.numLeaves + j) (by omega) (by omega)
    refine ⟨h, ?_⟩
    rw [List.getElem_drop]
    have := List.getElem?_eq_getElem (l := F'.slots) (i := G.numLeaves + j) (by omega)
    rw [this] at hh
    exact Option.some.inj hh
  have e := all_some_eq_map _ hall
  refine ⟨(F'.slots.drop G.numLeaves).filterMap id, ?_, ?_, ?_⟩
  · have := congrArg List.length e
    rw [List.length_map, List.length_drop] at this
    omega
  · have hs : F'.slots = (G.delLeaves d.hashes).slots ++
        ((F'.slots.drop G.numLeaves).filterMap id).map some := by
      rw [u.killed_slots, ← e, List.take_append_drop]
    cases F' with
    | mk s => simp only [Forest.addMany, Forest.mk.injEq]; exact hs
  · unfold Forest.liveLeaves
    rw [u.killed_slots, ← List.filterMap_append, List.take_append_drop]

theorem kill_eq_some {R : List H} {a : Option H} {h : H} (hk : kill R a = some h) :
    a = some h ∧ h ∉ R := by
  cases a with
  | none => simp [kill] at hk
  | some x =>
    by_cases hx : x ∈ R
    · simp [kill, hx] at hk
    · simp only [kill, hx, if_false, Option.some.injEq] at hk
      subst hk
      exact ⟨rfl, hx⟩

theorem isUndoCore_of_killed {F' G : Forest H} {d : UndoData H}
    (hnum : G.numLeaves + d.numAdds = F'.numLeaves)
    (hk : G.slots.map (kill d.hashes) = F'.slots.take G.numLeaves)
    (hdead : ∀ h ∈ d.hashes, h ∉ F'.liveLeaves) (hlen : d.targets.length = d.hashes.length)
    (hpos : ∀ i (h1 : i < d.hashes.length) (h2 : i < d.targets.length),
      G.posOf d.hashes[i] = some d.targets[i]) : IsUndoCore F' d G := by
  have hG : G.numLeaves = G.slots.length := rfl
  have key : ∀ i, i < G.numLeaves → (G.slots[i]?).map (kill d.hashes) = F'.slots[i]? := by
    intro i hi
    have := congrArg (fun l => l[i]?) hk
    simp only [List.getElem?_map, List.getElem?_take, if_pos hi] at this
    exact this
  refine ⟨hnum, ?_, ?_, hdead, hlen, hpos⟩
  · intro i h hi hs
    have := key i hi
    rw [hs] at this
    cases hg : G.slots[i]? with
    | none => rw [hg] at this; simp at this
    | some a =>
      rw [hg] at this
      simp only [Option.map_some, Option.some.injEq] at this
      rw [(kill_eq_some this).1]
  · intro i h hg hne
    have hi : i < G.numLeaves := by
      apply Classical.byContradiction
      intro hc
      rw [List.getElem?_eq_none (by omega)] at hg
      cases hg
    have := key i hi
    rw [hg] at this
    apply Classical.byContradiction
    intro hnd
    apply hne
    rw [← this]
    simp [kill, hnd]

theorem isUndoCore_iff {F' G : Forest H} {d : UndoData H} :
    IsUndoCore F' d G ↔ G.numLeaves + d.numAdds = F'.numLeaves ∧
      G.slots.map (kill d.hashes) = F'.slots.take G.numLeaves ∧
      (∀ h ∈ d.hashes, h ∉ F'.liveLeaves) ∧ d.targets.length = d.hashes.length ∧
      ∀ i (h1 : i < d.hashes.length) (h2 : i < d.targets.length),
        G.posOf d.hashes[i] = some d.targets[i] :=
  ⟨fun u => ⟨u.numLeaves, delLeaves_slots G d.hashes ▸ u.killed_slots, u.hashes_dead, u.len, u.pos⟩,
    fun ⟨a, b, c, e, f⟩ => isUndoCore_of_killed a b c e f⟩

/-- the set form of the third clause of the property text: the leaves alive in `G` but dead
in `F'` are exactly `d.hashes` -/
theorem IsUndoCore.revived_set {F' G : Forest H} {d : UndoData H} (u : IsUndoCore F' d G)
    (h : H) : (h ∈ G.liveLeaves ∧ h ∉ F'.liveLeaves) ↔ h ∈ d.hashes := by
  constructor
  · rintro ⟨hg, hf⟩
    rw [Forest.mem_liveLeaves] at hg
    obtain ⟨i, hi, he⟩ := List.mem_iff_getElem.1 hg
    apply u.revived i h (by rw [List.getElem?_eq_getElem hi, he])
    intro hc
    exact hf (Forest.mem_liveLeaves.2 (List.mem_of_getElem? hc))
  · intro hh
    obtain ⟨i, hi, rfl⟩ := List.mem_iff_getElem.1 hh
    exact ⟨live_of_posOf (u.pos i hi (u.len ▸ hi)), u.hashes_dead _ hh⟩

theorem modify_slots (F : Forest H) (dels adds : List H) :
    (F.modify dels adds).slots = F.slots.map (kill dels) ++ adds.map some := by
  unfold Forest.modify Forest.addMany
  rw [delLeaves_slots]

theorem WF.modify {F : Forest H} (w : WF F) {dels adds : List H} (v : ValidBlock F dels adds) :
    WF (F.modify dels adds) :=
  ⟨Proofs.LiveLeaves.liveLeaves_modify_nodup w.nodup dels v.adds_nodup v.adds_fresh,
    Proofs.LiveLeaves.forall_liveLeaves_modify w.nonzero v.adds_nonzero⟩

theorem addsAlive_modify (F : Forest H) (dels adds : List H) :
    AddsAlive (F.modify dels adds) adds.length := by
  intro i h1 h2
  rw [Spec.numLeaves_modify] at h1 h2
  have hF : F.numLeaves = F.slots.length := rfl
  rw [modify_slots, List.getElem?_append_right (by rw [List.length_map]; omega), List.length_map,
    List.getElem?_map]
  have : i - F.slots.length < adds.length := by omega
  rw [List.getElem?_eq_getElem this]
  exact ⟨_, rfl⟩

/-- **(a)** For a valid block, the pre-block forest is an undo result of the post-block
forest and the block's undo data. -/
theorem isUndo_of_modify (F : Forest H) (dels adds : List H) (hn : F.numLeaves < 2 ^ 64)
    (v : ValidBlock F dels adds) :
    IsUndo (F.modify dels adds) (undoDataOf F dels adds) F := by
  refine ⟨isUndoCore_of_killed (by rw [Spec.numLeaves_modify]; rfl) ?_ ?_ (by simp [undoDataOf]) ?_, rfl⟩
  · rw [modify_slots]
    exact (List.take_left' (by rw [List.length_map]; rfl)).symm
  · intro h hh hlive
    have hh' : h ∈ dels := hh
    rw [Proofs.LiveLeaves.liveLeaves_modify_eq, List.mem_append] at hlive
    rcases hlive with hl | hl
    · have := (List.mem_filter.1 hl).2
      simp [hh'] at this
    · exact v.adds_fresh h hl (v.dels_live h hh')
  · intro i h1 h2
    simp only [undoDataOf, List.getElem_map]
    obtain ⟨p, hp⟩ := posOf_isSome_of_live hn (v.dels_live _ (List.getElem_mem h1))
    simp only [undoDataOf] at hp ⊢
    rw [hp]; rfl

theorem revived_positions_agree {F'₁ F'₂ G₁ G₂ : Forest H} {d : UndoData H}
    (u₁ : IsUndoCore F'₁ d G₁) (u₂ : IsUndoCore F'₂ d G₂)
    (h1 : G₁.numLeaves < 2 ^ 64) (h2 : G₂.numLeaves < 2 ^ 64)
    (nd₁ : G₁.liveLeaves.Nodup) (nd₂ : G₂.liveLeaves.Nodup) :
    ∀ x ∈ d.hashes, ∀ p, (p, x, true) ∈ G₁.nodes ↔ (p, x, true) ∈ G₂.nodes := by
  intro x hx p
  obtain ⟨i, hi, rfl⟩ := List.mem_iff_getElem.1 hx
  have a := u₁.pos i hi (u₁.len ▸ hi)
  have b := u₂.pos i hi (u₁.len ▸ hi)
  rw [← posOf_eq_some_iff h1 nd₁, ← posOf_eq_some_iff h2 nd₂, a, b]

/-- **(b), exact post-block slot list: `prevRoots` is not needed.**  If the post-block SLOT
LIST `F'` is known exactly, the survivors' slots and the revived leaves' positions determine
the undo result up to observational equivalence.  No hypothesis on the hash function, on
zero leaves or on the previous roots. -/
theorem undo_unique_slots {F' G₁ G₂ : Forest H} {d : UndoData H} (hn : F'.numLeaves < 2 ^ 64)
    (u₁ : IsUndoCore F' d G₁) (u₂ : IsUndoCore F' d G₂)
    (nd₁ : G₁.liveLeaves.Nodup) (nd₂ : G₂.liveLeaves.Nodup) : Equiv G₁ G₂ := by
  have hnum : G₁.numLeaves = G₂.numLeaves := by
    have := u₁.numLeaves; have := u₂.numLeaves; omega
  have h1 : G₁.numLeaves < 2 ^ 64 := by have := u₁.numLeaves; omega
  have h2 : G₂.numLeaves < 2 ^ 64 := by omega
  refine ⟨hnum, ?_⟩
  apply trees_eq_of_pruned d.hashes hnum (revived_positions_agree u₁ u₂ h1 h2 nd₁ nd₂)
  have : G₁.delLeaves d.hashes = G₂.delLeaves d.hashes := by
    have e1 := u₁.killed_slots
    have e2 := u₂.killed_slots
    rw [hnum, ← e2] at e1
    cases hA : G₁.delLeaves d.hashes
    cases hB : G₂.delLeaves d.hashes
    rw [hA, hB] at e1
    simpa using e1
  rw [this]

/-- hence, with the exact slot list, the previous roots are redundant information -/
theorem prevRoots_redundant {F' G₁ G₂ : Forest H} {d : UndoData H} (hn : F'.numLeaves < 2 ^ 64)
    (u₁ : IsUndoCore F' d G₁) (u₂ : IsUndo F' d G₂)
    (nd₁ : G₁.liveLeaves.Nodup) (nd₂ : G₂.liveLeaves.Nodup) : G₁.roots = d.prevRoots := by
  rw [← u₂.roots]
  exact (undo_unique_slots hn u₁ u₂.toIsUndoCore nd₁ nd₂).roots

/-- Full statement of (b), in the form that holds (the literal form, equality of the undo
results, is false: `undo_unique_literal_false`): undo results are unique up to observational
equivalence, even if the post-block forest is itself only known up to observational
equivalence (which is all a pointer/map implementation has). -/
def undo_unique_statement (H : Type) [DecidableEq H] [Hasher H] : Prop :=
  ∀ (F'₁ F'₂ G₁ G₂ : Forest H) (d : UndoData H),
    (∀ a b : H, ph a b ≠ (zero : H)) → F'₁.numLeaves < 2 ^ 64 → Equiv F'₁ F'₂ →
    AddsAlive F'₁ d.numAdds → AddsAlive F'₂ d.numAdds →
    IsUndo F'₁ d G₁ → IsUndo F'₂ d G₂ → WF G₁ → WF G₂ → Equiv G₁ G₂

/-- **(b)** uniqueness of undo, up to observational equivalence.  Uses the previous roots
(to recover which roots were empty before additions overwrote them), non-zero leaves and
`ph a b ≠ zero`; injectivity of `ph` is NOT needed. -/
theorem undo_unique : undo_unique_statement H := by
  intro F'₁ F'₂ G₁ G₂ d hph hn e a₁ a₂ u₁ u₂ w₁ w₂
  have hnum : G₁.numLeaves = G₂.numLeaves := by
    have := u₁.numLeaves; have := u₂.numLeaves; have := e.numLeaves; omega
  have h1 : G₁.numLeaves < 2 ^ 64 := by have := u₁.numLeaves; omega
  have h2 : G₂.numLeaves < 2 ^ 64 := by omega
  have hpos := revived_positions_agree u₁.toIsUndoCore u₂.toIsUndoCore h1 h2 w₁.nodup w₂.nodup
  obtain ⟨adds₁, l₁, f₁, v₁⟩ := u₁.toIsUndoCore.decomp a₁
  obtain ⟨adds₂, l₂, f₂, v₂⟩ := u₂.toIsUndoCore.decomp a₂
  have hadds : adds₁ = adds₂ := by
    have := e.liveLeaves hn
    rw [v₁, v₂] at this
    exact (List.append_inj' this (by rw [l₁, l₂])).2
  subst hadds
  have ht := e.trees
  rw [f₁, f₂] at ht
  refine ⟨hnum, ?_⟩
  apply trees_eq_of_pruned d.hashes hnum hpos
  exact killed_trees_eq hph d.hashes adds₁ hnum (by have := u₁.numLeaves; omega) w₁.nonzero
    w₂.nonzero (u₁.roots.trans u₂.roots.symm) hpos ht

/-- `G` is an acceptable result of undoing `d` in (the observational class of) `F'`: it is
well-formed and satisfies `IsUndo` for some slot representative of `F'` whose last
`d.numAdds` slots (the block's additions) are alive. -/
def UndoResult (F' : Forest H) (d : UndoData H) (G : Forest H) : Prop :=
  WF G ∧ ∃ F'', Equiv F'' F' ∧ AddsAlive F'' d.numAdds ∧ IsUndo F'' d G

open Classical in
/-- the specification's undo: some acceptable result (they are all observationally
equivalent, `undo_spec`); the forest itself if there is none -/
noncomputable def undo (F' : Forest H) (d : UndoData H) : Forest H :=
  if h : ∃ G, UndoResult F' d G then Classical.choose h else F'

theorem undoResult_unique (hph : ∀ a b : H, ph a b ≠ (zero : H)) {F'₁ F'₂ G₁ G₂ : Forest H}
    {d : UndoData H} (hn : F'₁.numLeaves < 2 ^ 64) (e : Equiv F'₁ F'₂)
    (r₁ : UndoResult F'₁ d G₁) (r₂ : UndoResult F'₂ d G₂) : Equiv G₁ G₂ := by
  obtain ⟨w₁, X₁, e₁, a₁, u₁⟩ := r₁
  obtain ⟨w₂, X₂, e₂, a₂, u₂⟩ := r₂
  exact undo_unique X₁ X₂ G₁ G₂ d hph (by rw [e₁.numLeaves]; exact hn)
    (e₁.trans (e.trans e₂.symm)) a₁ a₂ u₁ u₂ w₁ w₂

theorem undo_isResult {F' G : Forest H} {d : UndoData H} (r : UndoResult F' d G) :
    UndoResult F' d (undo F' d) := by
  have h : ∃ G, UndoResult F' d G := ⟨G, r⟩
  unfold undo
  rw [dif_pos h]
  exact Classical.choose_spec h

/-- `undo` returns THE undo result (up to observational equivalence) -/
theorem undo_spec (hph : ∀ a b : H, ph a b ≠ (zero : H)) {F' G : Forest H} {d : UndoData H}
    (hn : F'.numLeaves < 2 ^ 64) (r : UndoResult F' d G) : Equiv (undo F' d) G :=
  undoResult_unique hph hn (Equiv.refl F') (undo_isResult r) r

/-- `undo` respects observational equivalence of its input -/
theorem undo_congr (hph : ∀ a b : H, ph a b ≠ (zero : H)) {F'₁ F'₂ G : Forest H}
    {d : UndoData H} (hn : F'₁.numLeaves < 2 ^ 64) (e : Equiv F'₁ F'₂)
    (r : UndoResult F'₁ d G) : Equiv (undo F'₁ d) (undo F'₂ d) := by
  have r₂ : UndoResult F'₂ d G := by
    obtain ⟨w, X, eX, a, u⟩ := r
    exact ⟨w, X, eX.trans e, a, u⟩
  exact undoResult_unique hph hn e (undo_isResult r) (undo_isResult r₂)

theorem undoResult_of_modify {F F' : Forest H} (w : WF F) {dels adds : List H}
    (v : ValidBlock F dels adds) (hn : F.numLeaves < 2 ^ 64)
    (e : Equiv F' (F.modify dels adds)) : UndoResult F' (undoDataOf F dels adds) F :=
  ⟨w, F.modify dels adds, e.symm, addsAlive_modify F dels adds, isUndo_of_modify F dels adds hn v⟩

/-- Full statement of (c): undoing a valid block — from any forest observationally equivalent
to the post-block forest — restores the pre-block forest up to observational equivalence. -/
def undo_modify_statement (H : Type) [DecidableEq H] [Hasher H] : Prop :=
  ∀ (F F' : Forest H) (dels adds : List H), (∀ a b : H, ph a b ≠ (zero : H)) → WF F →
    ValidBlock F dels adds → F.numLeaves + adds.length < 2 ^ 64 →
    Equiv F' (F.modify dels adds) → Equiv (undo F' (undoDataOf F dels adds)) F

/-- **(c)** `undo (modify F blk) ≈ F` -/
theorem undo_modify : undo_modify_statement H := by
  intro F F' dels adds hph w v hn e
  apply undo_spec hph (by rw [e.numLeaves, Spec.numLeaves_modify]; exact hn)
  exact undoResult_of_modify w v (by omega) e

/-- **(c), observables**: after undo every observable equals the one before the block: roots,
leaf count, node hash at every position, position of every leaf (`none` for leaves that are
not live, so also the provable set), canonical proof positions and canonical proofs
(`canon`, byte-identical) of every leaf list, and the live leaves. -/
theorem undo_modify_observables (hph : ∀ a b : H, ph a b ≠ (zero : H)) (F : Forest H)
    (w : WF F) (dels adds : List H) (v : ValidBlock F dels adds)
    (hn : F.numLeaves + adds.length < 2 ^ 64) :
    let U := undo (F.modify dels adds) (undoDataOf F dels adds)
    U.roots = F.roots ∧ U.numLeaves = F.numLeaves ∧ U.nodes = F.nodes ∧
    (∀ p, U.nodeAt p = F.nodeAt p) ∧ (∀ h, U.posOf h = F.posOf h) ∧
    (∀ ts, U.proofPositions ts = F.proofPositions ts) ∧
    (∀ ls, U.canon ls = F.canon ls) ∧ U.liveLeaves = F.liveLeaves := by
  intro U
  have e : Equiv U F := undo_modify F _ dels adds hph w v hn (Equiv.refl _)
  exact ⟨e.roots, e.numLeaves, e.nodes, e.nodeAt, e.posOf, e.proofPositions, e.canon,
    e.liveLeaves (by rw [e.numLeaves]; omega)⟩

def ValidHist (F : Forest H) : List (Block H) → Prop
  | [] => True
  | b :: rest => ValidBlock F b.1 b.2 ∧ ValidHist (F.modify b.1 b.2) rest

/-- the undo data of the blocks of a history, oldest first -/
def undoDatas (F : Forest H) : List (Block H) → List (UndoData H)
  | [] => []
  | b :: rest => undoDataOf F b.1 b.2 :: undoDatas (F.modify b.1 b.2) rest

/-- undo the blocks whose undo data are `ds` (given oldest first): the NEWEST block is undone
first -/
noncomputable def undoMany (G : Forest H) (ds : List (UndoData H)) : Forest H :=
  ds.foldr (fun d acc => undo acc d) G

theorem WF.run {F : Forest H} (w : WF F) {hist : List (Block H)} (v : ValidHist F hist) :
    WF (run F hist) := by
  induction hist generalizing F with
  | nil => exact w
  | cons b rest ih => exact ih (w.modify v.1) v.2

theorem validHist_append {F : Forest H} {h1 h2 : List (Block H)} :
    ValidHist F (h1 ++ h2) ↔ ValidHist F h1 ∧ ValidHist (run F h1) h2 := by
  induction h1 generalizing F with
  | nil => simp [ValidHist, run]
  | cons b rest ih =>
    simp only [List.cons_append, ValidHist, run, ih, and_assoc]

theorem undoDatas_append (F : Forest H) (h1 h2 : List (Block H)) :
    undoDatas F (h1 ++ h2) = undoDatas F h1 ++ undoDatas (run F h1) h2 := by
  induction h1 generalizing F with
  | nil => rfl
  | cons b rest ih => simp only [List.cons_append, undoDatas, run, ih]

theorem undoDatas_length (F : Forest H) (h : List (Block H)) :
    (undoDatas F h).length = h.length := by
  induction h generalizing F with
  | nil => rfl
  | cons b rest ih => simp [undoDatas, ih]

/-- Full statement of (d), suffix form: from any forest observationally equivalent to the
state after `suf`, undoing the blocks of `suf` newest-first yields the state before `suf`. -/
def undoMany_run_statement (H : Type) [DecidableEq H] [Hasher H] : Prop :=
  ∀ (F G : Forest H) (suf : List (Block H)), (∀ a b : H, ph a b ≠ (zero : H)) → WF F →
    ValidHist F suf → F.numLeaves + (allAdds suf).length < 2 ^ 64 →
    Equiv G (run F suf) → Equiv (undoMany G (undoDatas F suf)) F

theorem undoMany_run : undoMany_run_statement H := by
  intro F G suf hph
  induction suf generalizing F G with
  | nil => intro _ _ _ e; exact e
  | cons b rest ih =>
    intro w v hn e
    simp only [allAdds_cons, List.length_append] at hn
    simp only [undoDatas, undoMany, List.foldr_cons]
    have e1 : Equiv (undoMany G (undoDatas (F.modify b.1 b.2) rest)) (F.modify b.1 b.2) :=
      ih (F.modify b.1 b.2) G (w.modify v.1) v.2 (by rw [Spec.numLeaves_modify]; omega) e
    exact undo_modify F _ b.1 b.2 hph w v.1 (by omega) e1

/-- **(d)** For a valid history from a well-formed `F₀`, undoing the blocks after the first
`j` (newest first) restores the state after the first `j` blocks.  With
`j = hist.length - k` this is "undoing the last `k` blocks". -/
theorem undo_suffix (hph : ∀ a b : H, ph a b ≠ (zero : H)) (F₀ : Forest H) (w : WF F₀)
    (hist : List (Block H)) (v : ValidHist F₀ hist)
    (hn : F₀.numLeaves + (allAdds hist).length < 2 ^ 64) (j : Nat) :
    Equiv (undoMany (run F₀ hist) ((undoDatas F₀ hist).drop j)) (run F₀ (hist.take j)) := by
  by_cases hj : j ≤ hist.length
  · have hsplit : hist = hist.take j ++ hist.drop j := (List.take_append_drop j hist).symm
    have v' := v
    rw [hsplit, validHist_append] at v'
    have hd : (undoDatas F₀ hist).drop j = undoDatas (run F₀ (hist.take j)) (hist.drop j) := by
      conv => lhs; rw [hsplit, undoDatas_append]
      rw [List.drop_append_of_le_length (by rw [undoDatas_length, List.length_take]; omega),
        List.drop_eq_nil_of_le (by rw [undoDatas_length, List.length_take]; omega)]
      rfl
    rw [hd]
    apply undoMany_run _ _ _ hph (w.run v'.1) v'.2
    · rw [C01.numLeaves_run, Nat.add_assoc, ← List.length_append, ← allAdds_append, ← hsplit]
      exact hn
    · rw [← run_append, ← hsplit]
      exact Equiv.refl _
  · rw [List.drop_eq_nil_of_le (by rw [undoDatas_length]; omega),
      List.take_of_length_le (by omega)]
    exact Equiv.refl _

/-- **(d)**, "last `k` blocks" form -/
theorem undo_last_k (hph : ∀ a b : H, ph a b ≠ (zero : H)) (F₀ : Forest H) (w : WF F₀)
    (hist : List (Block H)) (v : ValidHist F₀ hist)
    (hn : F₀.numLeaves + (allAdds hist).length < 2 ^ 64) (k : Nat) :
    Equiv (undoMany (run F₀ hist) ((undoDatas F₀ hist).drop (hist.length - k)))
      (run F₀ (hist.take (hist.length - k))) :=
  undo_suffix hph F₀ w hist v hn _

/-- **(d), redo**: applying any further blocks (the same or different ones) after the undo
behaves exactly as applying them to the state `k` blocks ago — as if the undone blocks had
never been applied: the resulting forests are observationally equivalent, so all their
observables coincide. -/
theorem redo_after_undo (hph : ∀ a b : H, ph a b ≠ (zero : H)) (F₀ : Forest H) (w : WF F₀)
    (hist : List (Block H)) (v : ValidHist F₀ hist)
    (hn : F₀.numLeaves + (allAdds hist).length < 2 ^ 64) (k : Nat) (more : List (Block H))
    (hm : F₀.numLeaves + (allAdds (hist.take (hist.length - k))).length +
      (allAdds more).length ≤ 2 ^ 64) :
    Equiv (run (undoMany (run F₀ hist) ((undoDatas F₀ hist).drop (hist.length - k))) more)
      (run F₀ (hist.take (hist.length - k) ++ more)) := by
  have e := undo_last_k hph F₀ w hist v hn k
  rw [run_append]
  apply e.run more
  rw [e.numLeaves, C01.numLeaves_run]
  exact hm

instance (F : Forest H) : Decidable (WF F) :=
  decidable_of_iff (F.liveLeaves.Nodup ∧ ∀ x ∈ F.liveLeaves, x ≠ (zero : H))
    ⟨fun h => ⟨h.1, h.2⟩, fun h => ⟨h.1, h.2⟩⟩

instance (F : Forest H) (dels adds : List H) : Decidable (ValidBlock F dels adds) :=
  decidable_of_iff ((∀ x ∈ dels, x ∈ F.liveLeaves) ∧ dels.Nodup ∧ (∀ x ∈ adds, x ∉ F.liveLeaves) ∧
      adds.Nodup ∧ ∀ x ∈ adds, x ≠ (zero : H))
    ⟨fun h => ⟨h.1, h.2.1, h.2.2.1, h.2.2.2.1, h.2.2.2.2⟩,
     fun h => ⟨h.1, h.2, h.3, h.4, h.5⟩⟩

instance decValidHist : ∀ (F : Forest H) (hist : List (Block H)), Decidable (ValidHist F hist)
  | _, [] => isTrue trivial
  | F, b :: rest =>
    have := decValidHist (F.modify b.1 b.2) rest
    inferInstanceAs (Decidable (ValidBlock F b.1 b.2 ∧ ValidHist (F.modify b.1 b.2) rest))

theorem IsUndoCore.congr_roots {F' G : Forest H} {d : UndoData H} (u : IsUndoCore F' d G)
    (r : List H) : IsUndoCore F' { d with prevRoots := r } G :=
  ⟨u.numLeaves, u.survive, u.revived, u.hashes_dead, u.len, u.pos⟩

end

namespace Example
open Spec.NodesUniqueExample

theorem hph : ∀ a b : Term, ph a b ≠ (zero : Term) := termCR.nonzero

def S₁ : Forest Term := ⟨[some (.atom 1), some (.atom 2), none, none]⟩
def S₂ : Forest Term := ⟨[some (.atom 1), none, some (.atom 2), none]⟩

/-- the two forests are observationally equivalent: one tree `node 1 2` -/
theorem S_equiv : Equiv S₁ S₂ := ⟨rfl, by decide +kernel⟩

theorem S_modify : S₁.modify [.atom 2] [] = S₂.modify [.atom 2] [] :=
  congrArg Forest.mk (by decide)

theorem S_data : undoDataOf S₁ [.atom 2] [] = undoDataOf S₂ [.atom 2] [] := by decide +kernel

theorem S₁_valid : ValidBlock S₁ [.atom 2] [] := by decide
theorem S₂_valid : ValidBlock S₂ [.atom 2] [] := by decide

/-- **(b) is FALSE on slot lists**: deleting leaf `2` from `S₁` and from `S₂` gives the same
forest and the same undo data (including the previous roots), both `S₁` and `S₂` satisfy
`IsUndo` and are well-formed — but they are different slot lists.  (They are observationally
equivalent, as `undo_unique` says they must be.) -/
theorem slot_uniqueness_false :
    ∃ (F' G₁ G₂ : Forest Term) (d : UndoData Term),
      IsUndo F' d G₁ ∧ IsUndo F' d G₂ ∧ WF G₁ ∧ WF G₂ ∧ AddsAlive F' d.numAdds ∧
      G₁.slots ≠ G₂.slots ∧ Equiv G₁ G₂ := by
  refine ⟨S₁.modify [.atom 2] [], S₁, S₂, undoDataOf S₁ [.atom 2] [],
    isUndo_of_modify S₁ _ _ (by decide) S₁_valid, ?_, by decide, by decide,
    addsAlive_modify S₁ _ _, by decide, S_equiv⟩
  rw [S_modify, S_data]
  exact isUndo_of_modify S₂ _ _ (by decide) S₂_valid

/-- the literal form of (b) — equality of the undo results — kept visible; it is FALSE -/
def undo_unique_literal_statement (H : Type) [DecidableEq H] [Hasher H] : Prop :=
  ∀ (F' G₁ G₂ : Forest H) (d : UndoData H), IsUndo F' d G₁ → IsUndo F' d G₂ → WF G₁ → WF G₂ →
    G₁ = G₂

theorem undo_unique_literal_false : ¬ undo_unique_literal_statement Term := by
  intro h
  obtain ⟨F', G₁, G₂, d, u₁, u₂, w₁, w₂, _, hne, _⟩ := slot_uniqueness_false
  exact hne (by rw [h F' G₁ G₂ d u₁ u₂ w₁ w₂])

/-- hence NO function of the post-block forest and the undo data returns the pre-block slot
list for every valid block: `undo (modify F blk) = F` cannot hold as an equality of slot
lists; the slot list is not an observable. -/
theorem no_slot_level_undo :
    ¬ ∃ u : Forest Term → UndoData Term → Forest Term,
      ∀ (F : Forest Term) (dels adds : List Term), WF F → ValidBlock F dels adds →
        F.numLeaves < 2 ^ 64 → u (F.modify dels adds) (undoDataOf F dels adds) = F := by
  rintro ⟨u, hu⟩
  have h1 := hu S₁ [.atom 2] [] (by decide) S₁_valid (by decide)
  have h2 := hu S₂ [.atom 2] [] (by decide) S₂_valid (by decide)
  rw [S_modify, S_data, h2] at h1
  have : S₂.slots = S₁.slots := by rw [h1]
  revert this
  decide

def P₁ : Forest Term := ⟨[some (.atom 1), none, none]⟩
def P₂ : Forest Term := ⟨[none, none, some (.atom 1)]⟩

/-- adding one leaf to `P₁` (roots `[1, zero]`) and to `P₂` (roots `[zero, 1]`) gives
observationally equivalent forests (one tree `node 1 9`: the addition overwrote the empty
root), with the same undo data except for the previous roots.  Without `prevRoots` both `P₁`
and `P₂` are acceptable undo results, and they are NOT observationally equivalent. -/
theorem prevRoots_needed :
    ∃ (F'₁ F'₂ G₁ G₂ : Forest Term) (d : UndoData Term), Equiv F'₁ F'₂ ∧
      AddsAlive F'₁ d.numAdds ∧ AddsAlive F'₂ d.numAdds ∧
      IsUndoCore F'₁ d G₁ ∧ IsUndoCore F'₂ d G₂ ∧ WF G₁ ∧ WF G₂ ∧ G₁.roots ≠ G₂.roots := by
  refine ⟨P₁.modify [] [.atom 9], P₂.modify [] [.atom 9], P₁, P₂, ⟨1, [], [], []⟩,
    ⟨rfl, by decide +kernel⟩, addsAlive_modify P₁ [] [.atom 9], addsAlive_modify P₂ [] [.atom 9],
    ?_, ?_, by decide, by decide, by decide +kernel⟩
  · exact (isUndo_of_modify P₁ [] [.atom 9] (by decide) (by decide)).toIsUndoCore.congr_roots []
  · exact (isUndo_of_modify P₂ [] [.atom 9] (by decide) (by decide)).toIsUndoCore.congr_roots []

/-- `undo_unique_slots` / `prevRoots_redundant` instantiated: with the exact post-block slot
list the two undo results are equivalent without looking at the roots -/
example : Equiv S₁ S₂ := by
  have u₂ := (isUndo_of_modify S₂ _ _ (by decide) S₂_valid)
  rw [← S_modify, ← S_data] at u₂
  exact undo_unique_slots (by decide)
    (isUndo_of_modify S₁ _ _ (by decide) S₁_valid).toIsUndoCore u₂.toIsUndoCore
    (by decide) (by decide)

/-- a degenerate hasher: `ph` is constant (non-zero) -/
structure D where
  v : Nat
deriving DecidableEq, Repr

instance : Hasher D := ⟨fun _ _ => ⟨1⟩, ⟨0⟩⟩

/-- With a colliding (but never-zero) hasher and a post-block forest whose "added" slot is
dead, two inequivalent forests are undo results of equivalent forests for the same data
(`[1, 2, dead]`, roots `[ph 1 2, zero]`, versus `[1, dead, dead]`, roots `[1, zero]`, where
`ph 1 2 = 1`).  So `undo_unique` needs `AddsAlive` (or injectivity of `ph` on the reachable
hashes); right after a valid block `AddsAlive` holds (`addsAlive_modify`). -/
theorem addsAlive_needed :
    ∃ (F'₁ F'₂ G₁ G₂ : Forest D) (d : UndoData D), (∀ a b : D, ph a b ≠ (zero : D)) ∧
      Equiv F'₁ F'₂ ∧ IsUndo F'₁ d G₁ ∧ IsUndo F'₂ d G₂ ∧ WF G₁ ∧ WF G₂ ∧
      AddsAlive F'₂ d.numAdds ∧ G₁.trees ≠ G₂.trees := by
  refine ⟨⟨[some ⟨1⟩, some ⟨2⟩, none, none]⟩, ⟨[some ⟨1⟩, none, none, some ⟨2⟩]⟩,
    ⟨[some ⟨1⟩, some ⟨2⟩, none]⟩, ⟨[some ⟨1⟩, none, none]⟩, ⟨1, [], [], [⟨1⟩, ⟨0⟩]⟩,
    ?_, ?_, ?_, ?_, ?_, ?_, ?_, ?_⟩
  · intro a b h; cases h
  · exact ⟨rfl, by decide +kernel⟩
  · refine ⟨?_, by decide +kernel⟩
    exact isUndoCore_of_killed rfl (by decide) (by intro h hh; cases hh) rfl
      (fun i h1 => absurd h1 (by simp))
  · refine ⟨?_, by decide +kernel⟩
    exact isUndoCore_of_killed rfl (by decide) (by intro h hh; cases hh) rfl
      (fun i h1 => absurd h1 (by simp))
  · decide
  · decide
  · intro i h1 h2
    have : i = 3 := by
      simp only [Forest.numLeaves, List.length_cons, List.length_nil] at h1 h2
      omega
    subst this
    exact ⟨_, rfl⟩
  · decide +kernel

/-- block 1 adds 1,2,3 (trees `node 1 2` and `3`); block 2 deletes 3 — emptying the row-0
tree — and adds 4, which overwrites the empty root (one tree `node (node 1 2) 4`); block 3
deletes 1,2 — emptying a subtree — and adds 5,6 -/
def hist3 : List (Block Term) :=
  [([], [.atom 1, .atom 2, .atom 3]), ([.atom 3], [.atom 4]),
   ([.atom 1, .atom 2], [.atom 5, .atom 6])]

def E : Forest Term := Forest.empty

theorem E_wf : WF E := by decide
theorem hist3_valid : ValidHist E hist3 := by decide +kernel

/-- the empty root created by the deletion of block 2 … -/
example : ((run E (hist3.take 1)).delLeaves [.atom 3]).roots =
    [.pair (.atom 1) (.atom 2), .z] := by decide +kernel
/-- … is overwritten by the addition of block 2 -/
example : (run E (hist3.take 2)).roots = [.pair (.pair (.atom 1) (.atom 2)) (.atom 4)] := by
  decide +kernel
example : (run E hist3).slots =
    [none, none, none, some (.atom 4), some (.atom 5), some (.atom 6)] := by decide +kernel
example : (run E hist3).roots = [.atom 4, .pair (.atom 5) (.atom 6)] := by decide +kernel

example : undoDatas E hist3 =
    [⟨3, [], [], []⟩,
     ⟨1, [(0, 2)], [.atom 3], [.pair (.atom 1) (.atom 2), .atom 3]⟩,
     ⟨2, [(0, 0), (0, 1)], [.atom 1, .atom 2], [.pair (.pair (.atom 1) (.atom 2)) (.atom 4)]⟩] := by
  decide +kernel

/-- `isUndo_of_modify` on block 2 (deletion empties a tree, addition overwrites its root) -/
example : IsUndo (run E (hist3.take 2)) (undoDataOf (run E (hist3.take 1)) [.atom 3] [.atom 4])
    (run E (hist3.take 1)) :=
  isUndo_of_modify (run E (hist3.take 1)) [.atom 3] [.atom 4] (by decide +kernel)
    (by decide +kernel)

example : IsUndo (run E hist3)
    (undoDataOf (run E (hist3.take 2)) [.atom 1, .atom 2] [.atom 5, .atom 6])
    (run E (hist3.take 2)) :=
  isUndo_of_modify (run E (hist3.take 2)) [.atom 1, .atom 2] [.atom 5, .atom 6]
    (by decide +kernel) (by decide +kernel)

/-- `undo_modify` on block 2: the roots after undo are the previous roots, with the
overwritten root re-created -/
example : (undo (run E (hist3.take 2))
    (undoDataOf (run E (hist3.take 1)) [.atom 3] [.atom 4])).roots =
    [.pair (.atom 1) (.atom 2), .atom 3] := by
  have := (undo_modify (run E (hist3.take 1)) _ [.atom 3] [.atom 4] hph (by decide +kernel)
    (by decide +kernel) (by decide +kernel) (Equiv.refl _)).roots
  exact this.trans (by decide +kernel)

/-- the `k = 2` composition instance: undoing blocks 3 and 2 restores the state after block 1 -/
theorem undo_two : Equiv (undoMany (run E hist3) ((undoDatas E hist3).drop 1))
    (run E (hist3.take 1)) :=
  undo_last_k hph E E_wf hist3 hist3_valid (by decide +kernel) 2

example : (undoMany (run E hist3) ((undoDatas E hist3).drop 1)).roots =
    [.pair (.atom 1) (.atom 2), .atom 3] := by
  rw [undo_two.roots]; decide +kernel

example : (undoMany (run E hist3) ((undoDatas E hist3).drop 1)).posOf (.atom 3) = some (0, 2) := by
  rw [undo_two.posOf]; decide +kernel

/-- redo on another branch after the `k = 2` undo: a different block 2' -/
example : Equiv
    (run (undoMany (run E hist3) ((undoDatas E hist3).drop 1)) [([.atom 1], [.atom 7])])
    (run E (hist3.take 1 ++ [([.atom 1], [.atom 7])])) :=
  redo_after_undo hph E E_wf hist3 hist3_valid (by decide +kernel) 2 _ (by decide +kernel)

/-- `undo_unique` with two DIFFERENT representatives of the post-block forest: delete `1`, add
`9` in `S₁` and in `S₂` -/
example : Equiv S₁ S₂ := by
  have e : Equiv (S₁.modify [.atom 1] [.atom 9]) (S₂.modify [.atom 1] [.atom 9]) :=
    ⟨rfl, by decide +kernel⟩
  have hd : undoDataOf S₂ [.atom 1] [.atom 9] = undoDataOf S₁ [.atom 1] [.atom 9] := by
    decide +kernel
  have u₂ := isUndo_of_modify S₂ [.atom 1] [.atom 9] (by decide) (by decide)
  rw [hd] at u₂
  exact undo_unique _ _ S₁ S₂ _ hph (by decide) e (addsAlive_modify S₁ _ _)
    (addsAlive_modify S₂ _ _) (isUndo_of_modify S₁ [.atom 1] [.atom 9] (by decide) (by decide))
    u₂ (by decide) (by decide)

example : (S₁.modify [.atom 1] [.atom 9]).slots ≠ (S₂.modify [.atom 1] [.atom 9]).slots := by
  decide

end Example
end UtreexoVerif.Props.C06
