/-
  C13 instantiated at Go's hash type: `Hash = [32]byte`.

  `Props/C13.lean` proves the serialization property for every hash type whose wire form is
  32 decodable bytes (`HashBytesOK`).  Here that hypothesis is discharged for the type the Go
  code uses — arrays of exactly 32 bytes, written and read verbatim — and for EVERY parent-hash
  function on it (the round-trip does not depend on SHA-512/256), so the statement no longer
  carries a hypothesis about the hash type.
-/
import UtreexoVerif.Props.C13

namespace UtreexoVerif.Props.C13
open Model.Serial Spec Proofs.Serial

/-- Go's `type Hash [32]byte` -/
abbrev Bytes32 := { l : List Byte // l.length = 32 }

/-- the all-zero hash (`empty` in the Go code) -/
def Bytes32.zero : Bytes32 := ⟨List.replicate 32 0#8, by simp⟩

/-- a hash is written as its 32 bytes and read back from 32 bytes (`copy(h[:], buf)`) -/
instance : HashBytes Bytes32 :=
  ⟨fun h => h.1, fun bs => if h : bs.length = 32 then ⟨bs, h⟩ else Bytes32.zero⟩

theorem okBytes32 : HashBytesOK Bytes32 :=
  ⟨fun h => h.2, fun h => by simp [toBytes, ofBytes, h.2]⟩

/-- **C13 for `[32]byte` hashes and any parent-hash function**: no hypothesis on the hash type
is left. -/
theorem C13_bytes32 (ph : Bytes32 → Bytes32 → Bytes32) :
    letI : Hasher Bytes32 := ⟨ph, Bytes32.zero⟩
    (∀ F : Forest Bytes32, LeavesOK F → PollardClaims F) ∧
    (∀ m : MapSt Bytes32, MapOK m → MapClaims m) ∧
    AllStreamsClaims Bytes32 :=
  letI : Hasher Bytes32 := ⟨ph, Bytes32.zero⟩
  C13 Bytes32 okBytes32

end UtreexoVerif.Props.C13
