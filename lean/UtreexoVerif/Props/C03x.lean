/-
  C03x — verification is sound, in COLLISION-EXTRACTING form (no global `CR H` hypothesis).

  `Props/C03.lean`, `C03b.lean`, `C03c.lean` prove "an accepted proof only states true facts" under
  `CR H` (`ph` injective and never zero).  `CR H` is unsatisfiable for every finite hash type
  (`Props/C13MapNote.lean: cr_hashBytesOK_incompatible`), so for a real 32-byte hash those theorems
  are vacuous, and "true ∨ ∃ a b c d, collision" is trivial by pigeonhole.  Here the statement is

      accepted  ⇒  every claim is true  ∨  `Collision F hashes targets proof`

  for EVERY hash type, where `Collision` names an explicit witness among finitely many values that
  are computed from the verifier's input and the forest:

  * `hashedPairs n hashes targets proof` (`Model/CalcX.lean`) — the argument pairs of every
    `parentHash` call the model of `calculateHashes` makes on that input (an instrumented twin of
    the model that provably projects to it: `Proofs.CalcSoundX.calculateHashesX_fst`);
  * `F.nodePairs`, `F.upLeaves` (`Spec/NodePairs.lean`) — the child-hash pairs of the internal nodes
    of `F`, and the hashes of the live leaves of `F` that have moved up to a row `≥ 1`.

  A hashed pair `x` is a collision witness when
    (1) `ph x.1 x.2 = zero`                                   — a zero output,
    (2) `ph x.1 x.2 = ph y.1 y.2`, `x ≠ y`, `y ∈ F.nodePairs`  — a collision with a node of `F`,
    (3) `ph x.1 x.2 ∈ F.upLeaves`                             — a pre-image of a moved-up LEAF hash
        under `ph` (leaf/inner-node confusion; not excluded by `CR`: this is what the hypothesis
        `LeafOK F` of the `CR`-form theorems (Props/C03b) rules out, and `Example.confusion` shows
        the disjunct is needed — without it the statement is false).
  NO hypothesis on `F` is needed beyond `F.numLeaves ≤ 2^63`.

  That `hashedPairs` is what the Go code passes to `parentHash` is also checked by execution: with
  `getNextHash` of stump.go `Verify` instrumented, accepted and rejected runs on random forests with
  deletions (SHA-512/256) hash exactly the pairs of the Lean value of `hashedPairs`, in order.
-/
import UtreexoVerif.Props.C03b
import UtreexoVerif.Proofs.SpecViewX
import UtreexoVerif.Model.Stump

namespace UtreexoVerif.Props.C03x
open Model Hasher Spec
open UtreexoVerif.Proofs UtreexoVerif.Proofs.SpecNodes UtreexoVerif.Proofs.SpecView
open UtreexoVerif.Proofs.CalcSoundX UtreexoVerif.Proofs.SpecViewX
open UtreexoVerif.Props.C03b (TrueClaim)

section
set_option linter.unusedSectionVars false
variable {H : Type} [DecidableEq H] [Hasher H]

/-- what makes a hashed pair `x` a collision witness against the forest `F` -/
def PairBad (F : Forest H) (x : H × H) : Prop :=
  ph x.1 x.2 = (zero : H) ∨ ph x.1 x.2 ∈ F.upLeaves ∨
    ∃ y ∈ F.nodePairs, ph x.1 x.2 = ph y.1 y.2 ∧ x ≠ y

/-- **an explicit collision**: one of the pairs the verifier hashed on input
`(F.numLeaves, hashes, targets, proof)` hashes to zero, to a moved-up leaf hash of `F`, or to the
hash of an internal node of `F` that was produced from a different pair.  All witnesses range over
finite lists computed from the input and the forest; the proposition is decidable. -/
def Collision (F : Forest H) (hs : List H) (ts : List U64) (ps : List H) : Prop :=
  ∃ x ∈ hashedPairs (BitVec.ofNat 64 F.numLeaves) hs ts ps, PairBad F x

/-- the two-disjunct form (zero output, or collision with a node pair of `F`) -/
def Collision2 (F : Forest H) (hs : List H) (ts : List U64) (ps : List H) : Prop :=
  ∃ x ∈ hashedPairs (BitVec.ofNat 64 F.numLeaves) hs ts ps,
    ph x.1 x.2 = (zero : H) ∨ ∃ y ∈ F.nodePairs, ph x.1 x.2 = ph y.1 y.2 ∧ x ≠ y

instance (F : Forest H) (x : H × H) : Decidable (PairBad F x) := by
  unfold PairBad; infer_instance

instance (F : Forest H) (hs : List H) (ts : List U64) (ps : List H) :
    Decidable (Collision F hs ts ps) := by
  unfold Collision; infer_instance

instance (F : Forest H) (hs : List H) (ts : List U64) (ps : List H) :
    Decidable (Collision2 F hs ts ps) := by
  unfold Collision2; infer_instance

theorem forestBad_iff (F : Forest H) (a b : H) : ForestBad F a b ↔ PairBad F (a, b) := Iff.rfl

/-- truth of a claim is a computable look-up: decode the target, read the node -/
theorem trueClaim_iff {F : Forest H} (hn : F.numLeaves ≤ 2 ^ 63) (x : U64 × H) :
    TrueClaim F x ↔ viewNodeAt F x.1 = some x.2 := by
  constructor
  · rintro ⟨r, o, hr, ho, h1, h2⟩
    rw [h1, viewNodeAt_encU' hn hr ho]
    exact h2
  · exact viewNodeAt_eq_some

instance (F : Forest H) (x : U64 × H) : Decidable (viewNodeAt F x.1 = some x.2) := inferInstance

theorem collision_of_core {F : Forest H} {hs : List H} {ts : List U64} {ps : List H}
    (h : ∃ x ∈ hashedPairs (BitVec.ofNat 64 F.numLeaves) hs ts ps,
      ph x.1 x.2 = (zero : H) ∨ ForestBad F x.1 x.2) : Collision F hs ts ps := by
  obtain ⟨x, hx, hb⟩ := h
  refine ⟨x, hx, ?_⟩
  rcases hb with h0 | hb
  · exact Or.inl h0
  · exact hb

/-- **`Verify` is sound, collision-extracting form — strong version.**  If `Verify` accepts, then
EITHER every claim is true AND every pair the verifier hashed is a pair of the forest (the run
replays the forest's own hashing), OR an explicit collision exists. -/
theorem verify_sound_extract_strong (F : Forest H) (hn : F.numLeaves ≤ 2 ^ 63)
    {hs : List H} {ts : List U64} {ps : List H} {idx : List Nat}
    (hnz : ∀ h ∈ hs, h ≠ (zero : H))
    (h : verify (BitVec.ofNat 64 F.numLeaves) F.roots hs ts ps = .ok idx) :
    ((∀ x ∈ ts.zip hs, TrueClaim F x) ∧
      ∀ x ∈ hashedPairs (BitVec.ofNat 64 F.numLeaves) hs ts ps, x ∈ F.nodePairs) ∨
    Collision F hs ts ps := by
  rcases verify_sound_x (specViewX F hn) hnz h with ⟨ht, hg⟩ | hc
  · exact Or.inl ⟨fun x hx => viewNodeAt_eq_some (ht x hx), hg⟩
  · exact Or.inr (collision_of_core hc)

/-- **`Verify` is sound, collision-extracting form.**  For every hash type `H` — finite or not,
no `CR` — and every specification forest `F` with at most `2^63` leaves: if the model of
stump.go's `Verify` accepts `(hashes, targets, proof)` against `(F.numLeaves, F.roots)` and the
claimed hashes are non-zero, then EITHER every claim is true (each target is the encoding of a
valid position of `F` whose node has the claimed hash) OR an explicit collision exists among the
pairs the verifier hashed on this input and the nodes of `F`. -/
theorem verify_sound_extract (F : Forest H) (hn : F.numLeaves ≤ 2 ^ 63)
    {hs : List H} {ts : List U64} {ps : List H} {idx : List Nat}
    (hnz : ∀ h ∈ hs, h ≠ (zero : H))
    (h : verify (BitVec.ofNat 64 F.numLeaves) F.roots hs ts ps = .ok idx) :
    (∀ x ∈ ts.zip hs, TrueClaim F x) ∨ Collision F hs ts ps :=
  (verify_sound_extract_strong F hn hnz h).imp_left And.left

theorem pollardVerify_sound_extract_strong (F : Forest H) (hn : F.numLeaves ≤ 2 ^ 63)
    {hs : List H} {ts : List U64} {ps : List H}
    (hnz : ∀ h ∈ hs, h ≠ (zero : H))
    (h : pollardVerify (BitVec.ofNat 64 F.numLeaves) F.roots hs ts ps = .ok ()) :
    ((∀ x ∈ ts.zip hs, TrueClaim F x) ∧
      ∀ x ∈ hashedPairs (BitVec.ofNat 64 F.numLeaves) hs ts ps, x ∈ F.nodePairs) ∨
    Collision F hs ts ps := by
  rcases CalcSound.pollardVerify_ok h with rfl | ⟨idx, h⟩
  · left
    rw [hashedPairs_nil, List.zip_nil_right]
    exact ⟨fun x hx => (nomatch hx), fun x hx => (nomatch hx)⟩
  · exact verify_sound_extract_strong F hn hnz h

theorem pollardVerify_sound_extract (F : Forest H) (hn : F.numLeaves ≤ 2 ^ 63)
    {hs : List H} {ts : List U64} {ps : List H}
    (hnz : ∀ h ∈ hs, h ≠ (zero : H))
    (h : pollardVerify (BitVec.ofNat 64 F.numLeaves) F.roots hs ts ps = .ok ()) :
    (∀ x ∈ ts.zip hs, TrueClaim F x) ∨ Collision F hs ts ps :=
  (pollardVerify_sound_extract_strong F hn hnz h).imp_left And.left

theorem mapVerify_sound_extract_strong (F : Forest H) (hn : F.numLeaves ≤ 2 ^ 63)
    {hs : List H} {ts : List U64} {ps : List H} {idx : List Nat}
    (hnz : ∀ h ∈ hs, h ≠ (zero : H))
    (h : mapVerify (BitVec.ofNat 64 F.numLeaves) (TreeRows (BitVec.ofNat 64 F.numLeaves)) F.roots
      hs ts ps = .ok idx) :
    ((∀ x ∈ ts.zip hs, TrueClaim F x) ∧
      ∀ x ∈ hashedPairs (BitVec.ofNat 64 F.numLeaves) hs ts ps, x ∈ F.nodePairs) ∨
    Collision F hs ts ps := by
  rw [CalcSound.mapVerify_treeRows] at h
  exact verify_sound_extract_strong F hn hnz h

theorem mapVerify_sound_extract (F : Forest H) (hn : F.numLeaves ≤ 2 ^ 63)
    {hs : List H} {ts : List U64} {ps : List H} {idx : List Nat}
    (hnz : ∀ h ∈ hs, h ≠ (zero : H))
    (h : mapVerify (BitVec.ofNat 64 F.numLeaves) (TreeRows (BitVec.ofNat 64 F.numLeaves)) F.roots
      hs ts ps = .ok idx) :
    (∀ x ∈ ts.zip hs, TrueClaim F x) ∨ Collision F hs ts ps :=
  (mapVerify_sound_extract_strong F hn hnz h).imp_left And.left

/-- the full statement, as a closed proposition (for the audit) -/
def verify_sound_extract_statement (H : Type) [DecidableEq H] [Hasher H] : Prop :=
  ∀ (F : Forest H), F.numLeaves ≤ 2 ^ 63 →
  ∀ (hs : List H) (ts : List U64) (ps : List H) (idx : List Nat),
    (∀ h ∈ hs, h ≠ (zero : H)) →
    verify (BitVec.ofNat 64 F.numLeaves) F.roots hs ts ps = .ok idx →
    (∀ x ∈ ts.zip hs, TrueClaim F x) ∨
    ∃ x ∈ hashedPairs (BitVec.ofNat 64 F.numLeaves) hs ts ps,
      ph x.1 x.2 = (zero : H) ∨ ph x.1 x.2 ∈ F.upLeaves ∨
        ∃ y ∈ F.nodePairs, ph x.1 x.2 = ph y.1 y.2 ∧ x ≠ y

theorem verify_sound_extract_full : verify_sound_extract_statement H :=
  fun F hn _ _ _ _ hnz h => verify_sound_extract F hn hnz h

/-- the contrapositive reading: an accepted FALSE claim yields the collision -/
theorem collision_of_false_claim (F : Forest H) (hn : F.numLeaves ≤ 2 ^ 63)
    {hs : List H} {ts : List U64} {ps : List H} {idx : List Nat}
    (hnz : ∀ h ∈ hs, h ≠ (zero : H))
    (h : verify (BitVec.ofNat 64 F.numLeaves) F.roots hs ts ps = .ok idx)
    {x : U64 × H} (hx : x ∈ ts.zip hs) (hfalse : ¬ TrueClaim F x) : Collision F hs ts ps := by
  rcases verify_sound_extract F hn hnz h with ht | hc
  · exact absurd (ht x hx) hfalse
  · exact hc

/-- at a valid position the claimed hash is THE hash of the node there (or a collision exists) -/
theorem verify_sound_extract_at (F : Forest H) (hn : F.numLeaves ≤ 2 ^ 63)
    {hs : List H} {ts : List U64} {ps : List H} {idx : List Nat}
    (hnz : ∀ h ∈ hs, h ≠ (zero : H))
    (h : verify (BitVec.ofNat 64 F.numLeaves) F.roots hs ts ps = .ok idx)
    {r o : Nat} {c : H} (hr : r ≤ F.rows) (ho : o < 2 ^ (F.rows - r))
    (hx : (encU F.rows r o, c) ∈ ts.zip hs) :
    F.nodeAt (r, o) = some c ∨ Collision F hs ts ps := by
  rcases verify_sound_extract F hn hnz h with ht | hc
  · left
    have := (trueClaim_iff hn _).1 (ht _ hx)
    rwa [viewNodeAt_encU' hn hr ho] at this
  · exact Or.inr hc

/-- the first hashed pair that is a collision witness against `F` (executable) -/
def findCollision (F : Forest H) (hs : List H) (ts : List U64) (ps : List H) : Option (H × H) :=
  (hashedPairs (BitVec.ofNat 64 F.numLeaves) hs ts ps).find? (fun x => decide (PairBad F x))

/-- the pair of `F` a hashed pair collides with, if that is how it is bad (executable) -/
def collidesWith (F : Forest H) (x : H × H) : Option (H × H) :=
  F.nodePairs.find? (fun y => decide (ph x.1 x.2 = ph y.1 y.2 ∧ x ≠ y))

theorem findCollision_some {F : Forest H} {hs : List H} {ts : List U64} {ps : List H} {x : H × H}
    (h : findCollision F hs ts ps = some x) :
    x ∈ hashedPairs (BitVec.ofNat 64 F.numLeaves) hs ts ps ∧ PairBad F x := by
  unfold findCollision at h
  exact ⟨List.mem_of_find?_eq_some h, by simpa using List.find?_some h⟩

theorem collidesWith_some {F : Forest H} {x y : H × H} (h : collidesWith F x = some y) :
    y ∈ F.nodePairs ∧ ph x.1 x.2 = ph y.1 y.2 ∧ x ≠ y := by
  unfold collidesWith at h
  exact ⟨List.mem_of_find?_eq_some h, by simpa using List.find?_some h⟩

theorem collision_iff_findCollision (F : Forest H) (hs : List H) (ts : List U64) (ps : List H) :
    Collision F hs ts ps ↔ (findCollision F hs ts ps).isSome = true := by
  unfold Collision findCollision
  rw [List.find?_isSome]
  simp

/-- **the extractor is correct**: whenever `Verify` accepts a false claim, `findCollision`
RETURNS a pair `x` that the verifier hashed and that hashes to zero, to a moved-up leaf of `F`, or
to the hash of a node of `F` built from another pair -/
theorem verify_extracts (F : Forest H) (hn : F.numLeaves ≤ 2 ^ 63)
    {hs : List H} {ts : List U64} {ps : List H} {idx : List Nat}
    (hnz : ∀ h ∈ hs, h ≠ (zero : H))
    (h : verify (BitVec.ofNat 64 F.numLeaves) F.roots hs ts ps = .ok idx)
    {c : U64 × H} (hc : c ∈ ts.zip hs) (hfalse : ¬ TrueClaim F c) :
    ∃ x, findCollision F hs ts ps = some x ∧
      x ∈ hashedPairs (BitVec.ofNat 64 F.numLeaves) hs ts ps ∧ PairBad F x := by
  have hcol := collision_of_false_claim F hn hnz h hc hfalse
  rw [collision_iff_findCollision] at hcol
  obtain ⟨x, hx⟩ := Option.isSome_iff_exists.1 hcol
  exact ⟨x, hx, findCollision_some hx⟩

theorem Collision.to_two {F : Forest H} (hF : LeafOK F) {hs : List H} {ts : List U64}
    {ps : List H} (h : Collision F hs ts ps) : Collision2 F hs ts ps := by
  obtain ⟨x, hx, hb⟩ := h
  refine ⟨x, hx, ?_⟩
  obtain ⟨h1, h2⟩ := hashedPairs_nonzero _ _ _ _ x hx
  rcases hb with h0 | hl | hc
  · exact Or.inl h0
  · exact absurd hl (not_upLeaf_of_leafOK hF h1 h2)
  · exact Or.inr hc

/-- under `LeafOK F` (a hypothesis on the LEAVES of `F`, independent of the hash's
collision-freeness): accepted ⇒ true ∨ zero output ∨ collision with a node pair of `F` -/
theorem verify_sound_extract_leafOK (F : Forest H) (hF : LeafOK F) (hn : F.numLeaves ≤ 2 ^ 63)
    {hs : List H} {ts : List U64} {ps : List H} {idx : List Nat}
    (hnz : ∀ h ∈ hs, h ≠ (zero : H))
    (h : verify (BitVec.ofNat 64 F.numLeaves) F.roots hs ts ps = .ok idx) :
    (∀ x ∈ ts.zip hs, TrueClaim F x) ∨ Collision2 F hs ts ps :=
  (verify_sound_extract F hn hnz h).imp_right (Collision.to_two hF)

/-- **finite, decidable hygiene of a forest** (statements about `F` alone, satisfiable for real
hashes): live leaves are non-zero and differ from the hashes of `F`'s internal nodes, those
hashes are non-zero, and `ph` is injective ON THE PAIRS OF `F`. -/
structure ForestHyg (F : Forest H) : Prop where
  leaf_nonzero : ∀ l ∈ F.liveLeaves, l ≠ (zero : H)
  leaf_not_inner : ∀ l ∈ F.liveLeaves, ∀ y ∈ F.nodePairs, l ≠ ph y.1 y.2
  inner_nonzero : ∀ y ∈ F.nodePairs, ph y.1 y.2 ≠ (zero : H)
  pairs_inj : ∀ y ∈ F.nodePairs, ∀ z ∈ F.nodePairs, ph y.1 y.2 = ph z.1 z.2 → y = z

instance (F : Forest H) : Decidable (ForestHyg F) :=
  decidable_of_iff
    ((∀ l ∈ F.liveLeaves, l ≠ (zero : H)) ∧
     (∀ l ∈ F.liveLeaves, ∀ y ∈ F.nodePairs, l ≠ ph y.1 y.2) ∧
     (∀ y ∈ F.nodePairs, ph y.1 y.2 ≠ (zero : H)) ∧
     (∀ y ∈ F.nodePairs, ∀ z ∈ F.nodePairs, ph y.1 y.2 = ph z.1 z.2 → y = z))
    ⟨fun ⟨a, b, c, d⟩ => ⟨a, b, c, d⟩, fun ⟨a, b, c, d⟩ => ⟨a, b, c, d⟩⟩

/-- under `CR`, hygiene only asks the leaves to be non-zero and not parent hashes -/
theorem ForestHyg.of_CR {F : Forest H} (cr : CR H)
    (h0 : ∀ l ∈ F.liveLeaves, l ≠ (zero : H))
    (hl : ∀ l ∈ F.liveLeaves, ∀ a b : H, l ≠ ph a b) : ForestHyg F where
  leaf_nonzero := h0
  leaf_not_inner := fun l hl' y _ => hl l hl' y.1 y.2
  inner_nonzero := fun y _ => cr.nonzero y.1 y.2
  pairs_inj := fun _ _ _ _ h => Prod.ext (cr.inj _ _ _ _ h).1 (cr.inj _ _ _ _ h).2

theorem upLeaves_live {F : Forest H} {l : H} (h : l ∈ F.upLeaves) : l ∈ F.liveLeaves := by
  unfold Forest.upLeaves at h
  rw [List.mem_map] at h
  obtain ⟨x, hx, rfl⟩ := h
  rw [List.mem_filter] at hx
  obtain ⟨hx, hc⟩ := hx
  simp only [Bool.and_eq_true, decide_eq_true_eq] at hc
  exact leaf_node_live hx hc.1

theorem ForestHyg.not_bad {F : Forest H} (hyg : ForestHyg F) {x : H × H} (hx : x ∈ F.nodePairs) :
    ¬ PairBad F x := by
  rintro (h0 | hl | ⟨y, hy, he, hne⟩)
  · exact hyg.inner_nonzero x hx h0
  · exact hyg.leaf_not_inner _ (upLeaves_live hl) x hx rfl
  · exact hne (hyg.pairs_inj x hx y hy he)

/-- the collision witness is foreign to the forest: a pair the prover brought, not one of `F` -/
def CollisionForeign (F : Forest H) (hs : List H) (ts : List U64) (ps : List H) : Prop :=
  ∃ x ∈ hashedPairs (BitVec.ofNat 64 F.numLeaves) hs ts ps, x ∉ F.nodePairs ∧ PairBad F x

theorem Collision.foreign {F : Forest H} (hyg : ForestHyg F) {hs : List H} {ts : List U64}
    {ps : List H} (h : Collision F hs ts ps) : CollisionForeign F hs ts ps := by
  obtain ⟨x, hx, hb⟩ := h
  exact ⟨x, hx, fun hmem => hyg.not_bad hmem hb, hb⟩

/-- for a hygienic forest: accepted ⇒ true ∨ a collision whose witness pair is NOT a pair of the
forest (the forest's own hashing never produces the witness) -/
theorem verify_sound_extract_hyg (F : Forest H) (hyg : ForestHyg F) (hn : F.numLeaves ≤ 2 ^ 63)
    {hs : List H} {ts : List U64} {ps : List H} {idx : List Nat}
    (hnz : ∀ h ∈ hs, h ≠ (zero : H))
    (h : verify (BitVec.ofNat 64 F.numLeaves) F.roots hs ts ps = .ok idx) :
    (∀ x ∈ ts.zip hs, TrueClaim F x) ∨ CollisionForeign F hs ts ps :=
  (verify_sound_extract F hn hnz h).imp_right (Collision.foreign hyg)

/-- **for a hygienic forest the collision disjunct is exact**: an accepted run has a collision
IF AND ONLY IF the verifier hashed a pair that is not a pair of the forest.  (So honest proofs —
whose hashing replays the forest's — never trigger the right disjunct, and the right disjunct
always exhibits a pair brought by the prover.) -/
theorem collision_iff_foreign_pair (F : Forest H) (hyg : ForestHyg F) (hn : F.numLeaves ≤ 2 ^ 63)
    {hs : List H} {ts : List U64} {ps : List H} {idx : List Nat}
    (hnz : ∀ h ∈ hs, h ≠ (zero : H))
    (h : verify (BitVec.ofNat 64 F.numLeaves) F.roots hs ts ps = .ok idx) :
    Collision F hs ts ps ↔
      ∃ x ∈ hashedPairs (BitVec.ofNat 64 F.numLeaves) hs ts ps, x ∉ F.nodePairs := by
  constructor
  · intro hc
    obtain ⟨x, hx, hne, _⟩ := hc.foreign hyg
    exact ⟨x, hx, hne⟩
  · rintro ⟨x, hx, hne⟩
    rcases verify_sound_extract_strong F hn hnz h with ⟨_, hg⟩ | hc
    · exact absurd (hg x hx) hne
    · exact hc

theorem not_collision_of_CR {F : Forest H} (cr : CR H) (hF : LeafOK F) (hs : List H)
    (ts : List U64) (ps : List H) : ¬ Collision F hs ts ps := by
  intro h
  obtain ⟨x, _, hb⟩ := Collision.to_two hF h
  rcases hb with h0 | ⟨y, _, he, hne⟩
  · exact cr.nonzero _ _ h0
  · exact hne (Prod.ext (cr.inj _ _ _ _ he).1 (cr.inj _ _ _ _ he).2)

/-- **corollary: the `CR` form** (the conclusion of `C03b.verify_sound_spec_full`, for
`F.numLeaves ≤ 2^63`) -/
theorem verify_sound_of_CR {F : Forest H} (cr : CR H) (hF : LeafOK F) (hn : F.numLeaves ≤ 2 ^ 63)
    {hs : List H} {ts : List U64} {ps : List H} {idx : List Nat}
    (hnz : ∀ h ∈ hs, h ≠ (zero : H))
    (h : verify (BitVec.ofNat 64 F.numLeaves) F.roots hs ts ps = .ok idx) :
    ∀ x ∈ ts.zip hs, TrueClaim F x :=
  (verify_sound_extract F hn hnz h).resolve_right (not_collision_of_CR cr hF hs ts ps)

theorem pollardVerify_sound_of_CR {F : Forest H} (cr : CR H) (hF : LeafOK F)
    (hn : F.numLeaves ≤ 2 ^ 63) {hs : List H} {ts : List U64} {ps : List H}
    (hnz : ∀ h ∈ hs, h ≠ (zero : H))
    (h : pollardVerify (BitVec.ofNat 64 F.numLeaves) F.roots hs ts ps = .ok ()) :
    ∀ x ∈ ts.zip hs, TrueClaim F x :=
  (pollardVerify_sound_extract F hn hnz h).resolve_right (not_collision_of_CR cr hF hs ts ps)

theorem mapVerify_sound_of_CR {F : Forest H} (cr : CR H) (hF : LeafOK F)
    (hn : F.numLeaves ≤ 2 ^ 63) {hs : List H} {ts : List U64} {ps : List H} {idx : List Nat}
    (hnz : ∀ h ∈ hs, h ≠ (zero : H))
    (h : mapVerify (BitVec.ofNat 64 F.numLeaves) (TreeRows (BitVec.ofNat 64 F.numLeaves)) F.roots
      hs ts ps = .ok idx) :
    ∀ x ∈ ts.zip hs, TrueClaim F x :=
  (mapVerify_sound_extract F hn hnz h).resolve_right (not_collision_of_CR cr hF hs ts ps)

/-- the three statements of `Props/C03b.lean`, re-derived from the extracting theorems -/
theorem verify_sound_spec_statement_of_extract : C03b.verify_sound_spec_statement H :=
  fun _ cr hF hn _ _ _ _ hnz h => verify_sound_of_CR cr hF (Nat.le_of_lt hn) hnz h

theorem pollardVerify_sound_spec_statement_of_extract :
    C03b.pollardVerify_sound_spec_statement H :=
  fun _ cr hF hn _ _ _ hnz h => pollardVerify_sound_of_CR cr hF (Nat.le_of_lt hn) hnz h

theorem mapVerify_sound_spec_statement_of_extract : C03b.mapVerify_sound_spec_statement H :=
  fun _ cr hF hn _ _ _ _ hnz h => mapVerify_sound_of_CR cr hF (Nat.le_of_lt hn) hnz h

/-- the stump of a specification forest (as `Props.C01b.stumpOf`) -/
def stumpOf (F : Forest H) : Stump H := ⟨F.roots, BitVec.ofNat 64 F.numLeaves⟩

theorem delSt_ok_verify {s : Stump H} {hs : List H} {ts : List U64} {ps : List H} {nd : HP H}
    (h : (s.delSt hs ts ps).2 = .ok nd) : ∃ idx, verify s.numLeaves s.roots hs ts ps = .ok idx := by
  unfold Stump.delSt at h
  cases hv : verify s.numLeaves s.roots hs ts ps with
  | ok idx => exact ⟨idx, rfl⟩
  | err => rw [hv] at h; simp at h
  | panic => rw [hv] at h; simp at h
  | hang => rw [hv] at h; simp at h

/-- **`Stump.del` (the deletion half of `Stump.Update`)**: if it accepts the deletion of
`hashes` at `targets`, every deleted `(target, hash)` was a node of `F` — or an explicit
collision exists -/
theorem stump_delSt_sound_extract (F : Forest H) (hn : F.numLeaves ≤ 2 ^ 63)
    {hs : List H} {ts : List U64} {ps : List H} {nd : HP H}
    (hnz : ∀ h ∈ hs, h ≠ (zero : H))
    (h : ((stumpOf F).delSt hs ts ps).2 = .ok nd) :
    (∀ x ∈ ts.zip hs, TrueClaim F x) ∨ Collision F hs ts ps := by
  obtain ⟨idx, hv⟩ := delSt_ok_verify h
  exact verify_sound_extract F hn hnz hv

/-- **`Stump.Update`**: a block whose deletions are accepted only deletes nodes of `F` — or an
explicit collision exists -/
theorem stump_update_sound_extract (F : Forest H) (hn : F.numLeaves ≤ 2 ^ 63) (nonZero : H)
    {dels adds : List H} {ts : List U64} {ps : List H} {r : Stump H × UpdateData H}
    (hnz : ∀ h ∈ dels, h ≠ (zero : H))
    (h : (stumpOf F).update nonZero dels adds ts ps = .ok r) :
    (∀ x ∈ ts.zip dels, TrueClaim F x) ∨ Collision F dels ts ps := by
  unfold Stump.update Stump.updateSt at h
  cases hd : (stumpOf F).delSt dels ts ps with
  | mk s1 o =>
    cases o with
    | ok nd =>
      exact stump_delSt_sound_extract F hn hnz (nd := nd) (by rw [hd])
    | err => rw [hd] at h; simp at h
    | panic => rw [hd] at h; simp at h
    | hang => rw [hd] at h; simp at h

end

/-! ### non-vacuity on a FINITE hash type -/

namespace Example

/-- a one-byte hash (256 values): `ph a b = 31·a + b + 1 (mod 256)`, zero hash `0` -/
structure B8 where
  v : U8
deriving DecidableEq, Repr

instance : Hasher B8 := ⟨fun a b => ⟨a.v * 31#8 + b.v + 1#8⟩, ⟨0#8⟩⟩

def b (n : Nat) : B8 := ⟨BitVec.ofNat 8 n⟩

/-- `CR` is FALSE for this hash: `ph 10 50 = ph 11 19` (both `105`) -/
theorem not_CR : ¬ CR B8 := by
  intro cr
  have := (cr.inj (b 10) (b 50) (b 11) (b 19) (by decide)).1
  exact absurd this (by decide)

/-- … and it has zero outputs: `ph 8 7 = 0` -/
example : ph (b 8) (b 7) = (zero : B8) := by decide

/-! #### (a) an accepted TRUE claim

Five slots, slot 1 dead (the forest of `Props/C03b.lean`'s example, over `B8`):
```
row 2:            (2,0)
row 1:   (1,0) = leaf 1 (moved up)      (1,1) = ph 3 4
row 0:                             (0,2) = leaf 3   (0,3) = leaf 4        (0,4) = leaf 5
```
-/

def FA : Forest B8 := ⟨[some (b 1), none, some (b 3), some (b 4), some (b 5)]⟩

theorem smallA : FA.numLeaves ≤ 2 ^ 63 := by decide

/-- the hygiene hypotheses hold for `FA` — over a hash for which `CR` is impossible -/
theorem hygA : ForestHyg FA := by decide +kernel

example : FA.nodePairs = [(b 1, b 98), (b 3, b 4)] := by decide +kernel
example : FA.upLeaves = [b 1] := by decide +kernel

/-- leaf 1 at its moved-up position 8 = `(1,0)` and leaf 3 at position 2, proof hash leaf 4 -/
theorem acceptedA :
    verify (BitVec.ofNat 64 FA.numLeaves) FA.roots [b 1, b 3] [8#64, 2#64] [b 4] = .ok [0] := by
  decide +kernel

/-- what the verifier hashed: exactly two pairs, both pairs of the forest -/
example : hashedPairs (BitVec.ofNat 64 FA.numLeaves) [b 1, b 3] [8#64, 2#64] [b 4]
    = [(b 3, b 4), (b 1, b 98)] := by decide +kernel

/-- `collision_iff_foreign_pair` on this run: both hashed pairs are pairs of `FA` -/
example : ¬ Collision FA [b 1, b 3] [8#64, 2#64] [b 4] := by
  rw [collision_iff_foreign_pair FA hygA smallA (by decide) acceptedA]
  decide +kernel

/-- no collision on this input (decided by evaluation) … -/
theorem no_collisionA : ¬ Collision FA [b 1, b 3] [8#64, 2#64] [b 4] := by decide +kernel

/-- … so the theorem yields the LEFT disjunct: both claims are true -/
theorem trueA : ∀ x ∈ [8#64, 2#64].zip [b 1, b 3], TrueClaim FA x :=
  (verify_sound_extract FA smallA (by decide) acceptedA).resolve_right no_collisionA

example : FA.nodeAt (1, 0) = some (b 1) ∧ FA.nodeAt (0, 2) = some (b 3) := by decide +kernel

/-! #### (b) an accepted FALSE claim from a real collision, with the witness

Two leaves `10`, `50`; root `ph 10 50 = 105`.  The prover claims "position 0 holds `11`" with the
proof hash `19`: `ph 11 19 = 105` as well, so `Verify` accepts.  The theorem's right disjunct
holds, and its witness is the colliding pair itself. -/

def FB : Forest B8 := ⟨[some (b 10), some (b 50)]⟩

theorem smallB : FB.numLeaves ≤ 2 ^ 63 := by decide

theorem hygB : ForestHyg FB := by decide +kernel

example : FB.roots = [b 105] := by decide +kernel
example : FB.nodePairs = [(b 10, b 50)] := by decide +kernel

theorem acceptedB :
    verify (BitVec.ofNat 64 FB.numLeaves) FB.roots [b 11] [0#64] [b 19] = .ok [0] := by
  decide +kernel

/-- the claim is FALSE: position 0 holds `10`, not `11` -/
theorem falseB : ¬ TrueClaim FB (0#64, b 11) := by
  rw [trueClaim_iff smallB]; decide +kernel

example : FB.nodeAt (0, 0) = some (b 10) := by decide +kernel

example : hashedPairs (BitVec.ofNat 64 FB.numLeaves) [b 11] [0#64] [b 19] = [(b 11, b 19)] := by
  decide +kernel

/-- the collision delivered by the theorem … -/
theorem collisionB : Collision FB [b 11] [0#64] [b 19] :=
  collision_of_false_claim FB smallB (by decide) acceptedB (x := (0#64, b 11)) (by decide) falseB

/-- … and its witness, computed: the hashed pair `(11, 19)` against the forest pair `(10, 50)` -/
theorem collisionB_witness : Collision FB [b 11] [0#64] [b 19] :=
  ⟨(b 11, b 19), by decide +kernel,
    Or.inr (Or.inr ⟨(b 10, b 50), by decide +kernel, by decide, by decide⟩)⟩

/-- the extractor run on the forged proof returns exactly that data -/
example : findCollision FB [b 11] [0#64] [b 19] = some (b 11, b 19) ∧
    collidesWith FB (b 11, b 19) = some (b 10, b 50) := by decide +kernel

example : ∃ x, findCollision FB [b 11] [0#64] [b 19] = some x ∧
    x ∈ hashedPairs (BitVec.ofNat 64 FB.numLeaves) [b 11] [0#64] [b 19] ∧ PairBad FB x :=
  verify_extracts FB smallB (by decide) acceptedB (c := (0#64, b 11)) (by decide) falseB

/-- the witness pair is foreign to the forest (`verify_sound_extract_hyg`) -/
example : CollisionForeign FB [b 11] [0#64] [b 19] := collisionB.foreign hygB

/-- the honest proof for the same position is accepted without any collision -/
example : verify (BitVec.ofNat 64 FB.numLeaves) FB.roots [b 10] [0#64] [b 50] = .ok [0] ∧
    ¬ Collision FB [b 10] [0#64] [b 50] := by decide +kernel

/-! #### (c) disjunct (3) is needed: leaf / inner-node confusion

Four slots, slot 1 dead, and leaf 0 carries the value `227 = ph 7 9`.  Leaf 0 has moved up to
`(1,0)`.  The prover claims "position 0 holds `7`" with proof `[9, ph 3 4]`: the verifier computes
`ph 7 9 = 227` for position 4 = `(1,0)` — the moved-up LEAF — and reaches the root.  Accepted,
false (position 0 is empty), no zero output, no collision with a node pair of the forest:
the only witness is "a hashed pair hashes to a moved-up leaf". -/

def FC : Forest B8 := ⟨[some (b 227), none, some (b 3), some (b 4)]⟩

theorem smallC : FC.numLeaves ≤ 2 ^ 63 := by decide

theorem hygC : ForestHyg FC := by decide +kernel

theorem acceptedC :
    verify (BitVec.ofNat 64 FC.numLeaves) FC.roots [b 7] [0#64] [b 9, b 98] = .ok [0] := by
  decide +kernel

theorem falseC : ¬ TrueClaim FC (0#64, b 7) := by
  rw [trueClaim_iff smallC]; decide +kernel

example : FC.nodeAt (0, 0) = none := by decide +kernel

/-- no zero output and no collision with a node pair of the forest … -/
theorem confusion_not_two : ¬ Collision2 FC [b 7] [0#64] [b 9, b 98] := by decide +kernel

/-- … but the three-disjunct `Collision` holds, with the leaf witness -/
theorem confusion : Collision FC [b 7] [0#64] [b 9, b 98] :=
  ⟨(b 7, b 9), by decide +kernel, Or.inr (Or.inl (by decide +kernel))⟩

example : findCollision FC [b 7] [0#64] [b 9, b 98] = some (b 7, b 9) ∧
    collidesWith FC (b 7, b 9) = none ∧ ph (b 7) (b 9) ∈ FC.upLeaves := by decide +kernel

/-- so "accepted ⇒ true ∨ `Collision2`" is FALSE without a hypothesis on the leaves -/
theorem two_disjuncts_insufficient :
    ¬ (∀ (F : Forest B8), F.numLeaves ≤ 2 ^ 63 → ∀ (hs : List B8) (ts : List U64) (ps : List B8)
        (idx : List Nat), (∀ h ∈ hs, h ≠ (zero : B8)) →
        verify (BitVec.ofNat 64 F.numLeaves) F.roots hs ts ps = .ok idx →
        (∀ x ∈ ts.zip hs, TrueClaim F x) ∨ Collision2 F hs ts ps) := by
  intro hall
  rcases hall FC smallC [b 7] [0#64] [b 9, b 98] [0] (by decide) acceptedC with ht | hc
  · exact falseC (ht (0#64, b 7) (by decide))
  · exact confusion_not_two hc

/-- `Stump.del` accepts the forged deletion of example (b); the theorem gives the collision -/
example : Collision FB [b 11] [0#64] [b 19] :=
  (stump_delSt_sound_extract FB smallB (nd := ((stumpOf FB).delSt [b 11] [0#64] [b 19]).2.toOption.getD [])
    (by decide) (by decide +kernel)).resolve_left
    (fun ht => falseB (ht (0#64, b 11) (by decide)))

end Example

end UtreexoVerif.Props.C03x

section Axioms
open UtreexoVerif.Props.C03x
#print axioms verify_sound_extract_strong
#print axioms verify_sound_extract
#print axioms collision_iff_foreign_pair
#print axioms pollardVerify_sound_extract
#print axioms mapVerify_sound_extract
#print axioms verify_sound_extract_full
#print axioms verify_sound_extract_at
#print axioms verify_extracts
#print axioms verify_sound_extract_leafOK
#print axioms verify_sound_extract_hyg
#print axioms verify_sound_of_CR
#print axioms verify_sound_spec_statement_of_extract
#print axioms stump_delSt_sound_extract
#print axioms stump_update_sound_extract
#print axioms Example.collisionB
#print axioms Example.collisionB_witness
#print axioms Example.confusion
#print axioms Example.two_disjuncts_insufficient
#print axioms Example.trueA
#print axioms Example.not_CR
end Axioms
