/-
  The pointer forest (`Pollard`: pollard.go, polnode.go), heap model `Model/PollardHeap.lean` —
  part C: **`Undo`** (`undoSingleAdd` loop, `undoEmptyRoots`, `undoDels` with `deTwinPolNode` and
  `undoSingleDel`): `Modify` of a valid block followed by `Undo` with the block's data and the
  previous roots represents LITERALLY the previous forest (`undo_refines`), for all heaps, forests
  and blocks below `2^63` leaves — under the hypotheses `Modify` itself needs: no live leaf is the
  all-zero hash or a parent hash (`LeavesOK F`), and no parent hash is all-zero (`ph a b ≠ zero`).
  Where these come from: Go deletes and re-points `NodeMap` BY THE HASH of inner nodes
  (`delete(p.NodeMap, lowestRoot.data.mini())`, `p.NodeMap[sibling.data.mini()] = sibling`), so a live
  leaf carrying such a hash would be hit (in the lemmas: `hsep`, no `NodeMap` key is a parent hash);
  Go recognises an empty root by `data == empty` alone (hence `ph a b ≠ zero` and non-zero leaves);
  `2^63`: leaf counts pass through Go's `int` (`int(numAdds)`), and `TreeRows nl = H8 F.rows`
  (`treeRows_eq`), on which every position computation rests, is proved below that bound.

  The targets must be listed in the order of `delHashes` (`Undo` pairs `targets[i]` with
  `delHashes[i]`; `Modify` does not care).  Nothing is asked of the added leaves beyond
  `modify_refines`: `undoSingleAdd` deletes the `NodeMap` key of every root it splits, which can hit
  an added leaf carrying the hash of such a root — a little early, but all added leaves are removed
  anyway (`AbsEW`).  Two statements are false as stated
  (`undo_rest_statement_false`, `undo_refines_statement_false`); neither is a defect of the Go code.

  `proveOf`, `abs_queries`, `queries_agree`, `abs_liveLeaves_nodup` are not about
  `Undo`: the observables of ANY represented forest, for `modify_undo_observables` and `Props/C13Heap.lean`.
-/
import UtreexoVerif.Proofs.PollardHeapUndoLoop
import UtreexoVerif.Proofs.PollardHeapUndoDeTwin
import UtreexoVerif.Proofs.PollardHeapUndoRoots
import UtreexoVerif.Proofs.PollardHeapUndoAddsW
import UtreexoVerif.Props.PollardHeapB

namespace UtreexoVerif.Props.PollardHeapC
open UtreexoVerif.GoInt UtreexoVerif.Model UtreexoVerif.Model.PollardHeap UtreexoVerif.Spec Hasher
open UtreexoVerif.Proofs UtreexoVerif.Proofs.PollardHeap UtreexoVerif.Proofs.SpecSubs UtreexoVerif.Proofs.CalcGeo
open UtreexoVerif.Proofs.Movement

variable {H : Type} [DecidableEq H] [Hasher H]

/-- **`undoEmptyRoots`**: the heap represents `F.delLeaves D` up to missing empty roots (the state
after the `undoSingleAdd` loop); `undoEmptyRoots` with the block's targets and the previous roots
re-inserts the missing empty roots (those the additions skipped or merged away): the heap
represents `F.delLeaves D`; `NodeMap`, `NumLeaves`, `NumDels` are untouched. -/
theorem undoEmptyRoots_refines (hph : ∀ a b : H, ph a b ≠ (zero : H)) {p : Pollard H} {F : Forest H}
    {D : List H} (a : AbsE p (F.delLeaves D)) (hok : LeavesOK F) (hn : F.numLeaves < 2 ^ 63)
    (hnd : F.liveLeaves.Nodup) (hD : D.Nodup) (hlive : ∀ d ∈ D, d ∈ F.liveLeaves) :
    ∃ hp' rs', undoEmptyRoots ((D.map (fun l => (F.posOf l).getD (0, 0))).map (E F.rows)) F.roots p =
        (.ok (), ⟨hp', p.nodeMap, rs', p.numLeaves, p.numDels, p.full⟩) ∧
      Abs ⟨hp', p.nodeMap, rs', p.numLeaves, p.numDels, p.full⟩ (F.delLeaves D) := by
  obtain ⟨hp, nm, rs, nl, ndl, full⟩ := p
  obtain ⟨hnl, ts', owned, lv, hdrop, hrepr, hndo, hmk⟩ := a
  simp only at hnl hrepr hmk
  rw [numLeaves_delLeaves] at hnl
  have hN : nl = BitVec.ofNat 64 F.numLeaves := by rw [← hnl]; simp
  have hnr : toInt (numRoots nl) = ((treeRows F.numLeaves).length : Int) := by
    rw [hN]; exact toInt_numRoots (Nat.lt_trans hn (by decide))
  have hlen : rs.length = ts'.length := hrepr.length_eq
  have htsl : ((F.delLeaves D).trees.map (·.2)).length = (treeRows F.numLeaves).length := by
    rw [trees_delLeaves_map_snd, List.length_map]
  show ∃ hp' rs', undoEmptyRoots _ F.roots ⟨hp, nm, rs, nl, ndl, full⟩ =
      (.ok (), ⟨hp', nm, rs', nl, ndl, full⟩) ∧ Abs ⟨hp', nm, rs', nl, ndl, full⟩ (F.delLeaves D)
  by_cases hge : (treeRows F.numLeaves).length ≤ rs.length
  · -- nothing is missing
    have e : (F.delLeaves D).trees.map (·.2) = ts' :=
      hdrop.length_le.2 (Nat.le_antisymm hdrop.length_le.1 (by rw [htsl, ← hlen]; exact hge))
    refine ⟨hp, rs, ?_, ⟨by simpa [numLeaves_delLeaves] using hnl, owned, lv, ?_, hndo, hmk⟩⟩
    · unfold undoEmptyRoots
      simp only [bind_apply, getNumLeaves_apply, getRoots_apply, hnr]
      have : ((rs.length : Nat) : Int) ≥ ((treeRows F.numLeaves).length : Int) := Int.ofNat_le.2 hge
      simp only [this, if_true, pure_apply]
    · rw [e]; exact hrepr
  · obtain ⟨cr, hmark, hz⟩ := markEmptied_block hph hok hn hnd hD hlive hnl ⟨hp, nm, rs, nl, ndl, full⟩
    have hnzG : TreesNZ (F.delLeaves D) :=
      (hok.delLeaves D).treesNZ ⟨hph⟩ (by rw [numLeaves_delLeaves]; exact Nat.lt_trans hn (by decide))
    have hnz' : ∀ t, some t ∈ ts' → t.hash ≠ (zero : H) := fun t ht => by
      obtain ⟨q, hq, e⟩ := List.mem_map.1 (hdrop.mem _ ht)
      exact hnzG q hq t e
    obtain ⟨hp', rs', owned', e2, r2, n2⟩ := undoEmptyRootsLoop_spec nm nl ndl full _ _ [] ts' hp rs
      owned lv hz hdrop hnz' (by simpa using hrepr) hndo
    refine ⟨hp', rs', ?_, ⟨by simpa [numLeaves_delLeaves] using hnl, owned', lv, by simpa using r2,
      n2, hmk⟩⟩
    unfold undoEmptyRoots
    simp only [bind_apply, getNumLeaves_apply, getRoots_apply, hnr]
    have : ¬ ((rs.length : Nat) : Int) ≥ ((treeRows F.numLeaves).length : Int) :=
      fun h => hge (Int.ofNat_le.1 h)
    simp only [this, if_false, bind_apply, hmark]
    exact e2

/-- **`undoSingleDel`, branch "the original parent IS a root"** (one represented tree): the root
`r` carries `b` (which moved into the root when its sibling died), `nd` is the root of the detached
represented tree `a`, `getNode` of the parent position returns the root.  `undoSingleDel` succeeds;
the root represents `node a b` (resp. `node b a`); the top node of `b` is the freshly allocated
node, `NodeMap` is re-pointed when `b` is a leaf. -/
theorem undoSingleDel_root_refines {hp : Heap H} {nm : List (H × Nat)} {rs : List Nat} {nl ndl : U64}
    {full : Bool} {r : Nat} {b : CTree H} {fb : List Nat} {lb : List (H × Nat)}
    {nd : Nat} {a : CTree H} {fa : List Nat} {la : List (H × Nat)}
    (hR : RootRepr hp r b fb lb) (hRn : RootRepr hp nd a fa la)
    (ndp : (r :: fb ++ nd :: fa).Nodup) (pos : U64) (par : Ptr)
    (hget : getNode (Parent pos (TreeRows nl)) ⟨hp, nm, rs, nl, ndl, full⟩ =
      (.ok (some r, some r, par), ⟨hp, nm, rs, nl, ndl, full⟩)) :
    ∃ hp' : Heap H,
      undoSingleDel nd pos ⟨hp, nm, rs, nl, ndl, full⟩ =
        (.ok (), ⟨hp', mapMoveTo nm b.hash hp.size, rs, nl, ndl, full⟩) ∧
      RootRepr hp' r (if isLeftNiece pos then .node a b else .node b a)
        (if isLeftNiece pos then nd :: hp.size :: (fa ++ fb) else hp.size :: nd :: (fb ++ fa))
        (if isLeftNiece pos then la ++ relabelTop b hp.size lb else relabelTop b hp.size lb ++ la) ∧
      (∀ j, j ∉ r :: fb ++ nd :: fa → j ≠ hp.size → hp'[j]? = hp[j]?) ∧ hp'.size = hp.size + 1 :=
  undoSingleDel_tree_root hR hRn ndp pos par hget

/-- **`undoSingleDel` at forest level** (both branches): the heap represents `G.delLeaves a.leaves`
and, detached, the tree `a` (item `it`, among other pending items); `it.pos` is the position of
the non-root node of `G` carrying `a`.  `undoSingleDel` succeeds and the heap represents `G`. -/
theorem undoSingleDel_refines {p : Pollard H} {G : Forest H} {others : List (PItem H)} {it : PItem H}
    (hA : AbsP p (G.delLeaves it.t.leaves) (others ++ [it])) (hn : G.numLeaves < 2 ^ 63)
    (hGnd : G.liveLeaves.Nodup) {R : Nat} (hs : SubAtT G R it.pos it.t)
    (hnr : isRootPos G.numLeaves it.pos = false)
    (hsep : ∀ e ∈ p.nodeMap, ∀ u v : H, e.1 ≠ ph u v) :
    ∃ hp' nm', undoSingleDel it.nd (E G.rows it.pos) p =
        (.ok (), { p with heap := hp', nodeMap := nm' }) ∧
      AbsP { p with heap := hp', nodeMap := nm' } G others ∧
      nm'.map (·.1) = p.nodeMap.map (·.1) ∧ p.heap.size ≤ hp'.size :=
  undoSingleDel_absP hA hn hGnd hs hnr hsep

/-- **the first half of `undoDels`** (`undoDelsAlloc`, the sort, `deTwinPolNode`): the result is a
list of DETACHED represented trees (`Pend`), fresh nodes only (the old heap is untouched), sitting —
strictly ascending — exactly at the positions of the maximal fully-deleted sub-trees of `F`
(`IsDT`), each carrying the sub-tree of `F` at its position; `NodeMap` has gained exactly their
leaves. -/
theorem undoDels_prefix_refines {F : Forest H} {D : List H} (hn : F.numLeaves < 2 ^ 63)
    (hnd : F.liveLeaves.Nodup) (hD : D.Nodup) (hlive : ∀ d ∈ D, d ∈ F.liveLeaves)
    (hp : Heap H) (nm : List (H × Nat)) (rs : List Nat) (nl ndl : U64) (full : Bool)
    (hmk : (nm.map (·.1)).Nodup) (hfresh : ∀ d ∈ D, d ∉ nm.map (·.1)) :
    ∃ (hp1 hp' : Heap H) (nm' : List (H × Nat)) (pn0 : List NP) (its : List (PItem H)),
      undoDelsAlloc ((D.map (fun l => (F.posOf l).getD (0, 0))).map (E F.rows)) D
          ⟨hp, nm, rs, nl, ndl, full⟩ = (.ok pn0, ⟨hp1, nm', rs, nl, ndl, full⟩) ∧
      deTwinPolNode (sortBy (fun x : NP => x.2) pn0) (H8 F.rows) ⟨hp1, nm', rs, nl, ndl, full⟩ =
        (.ok (its.map (PItem.np F.rows)), ⟨hp', nm', rs, nl, ndl, full⟩) ∧
      Pend hp' its ∧ (pendOwned its).Nodup ∧ (∀ i ∈ pendOwned its, hp.size ≤ i) ∧
      (∀ j, j < hp.size → hp'[j]? = hp[j]?) ∧ hp.size ≤ hp'.size ∧
      (nm'.map (·.1)).Nodup ∧ (∀ e, e ∈ nm' ↔ e ∈ nm ∨ e ∈ pendLeaves its) ∧
      (∀ k, k ∈ nm'.map (·.1) ↔ k ∈ D ∨ k ∈ nm.map (·.1)) ∧
      (its.map (·.pos)).Pairwise Sorted.PLt ∧ (∀ T, T ∈ its.map (·.pos) ↔ IsDT F D T) ∧
      (∀ it ∈ its, ∃ R, SubAtT F R it.pos it.t) ∧
      ProofUpdateDeTwin.Inv F D (its.map (·.pos)) := by
  open UtreexoVerif.Proofs.ProofUpdateDeTwin in
  have hn' : F.numLeaves ≤ 2 ^ 63 := by omega
  have hr : F.rows ≤ 63 := forestRows_small hn'
  have hlen : (leafPositions F D).length = D.length := by unfold leafPositions; simp
  obtain ⟨hp1, nm', e1, hsz, hfr, hpend0, hnd0, hown0, hk', hmem⟩ := undoDelsAlloc_full F.rows rs nl ndl full
    (leafPositions F D) D hp nm hlen hD hfresh hmk
  obtain ⟨its0, hits0⟩ : ∃ its0, its0 = allocItems hp.size (leafPositions F D) D := ⟨_, rfl⟩
  rw [← hits0] at e1 hpend0 hmem hown0 hnd0
  have hpos0 : its0.map (·.pos) = leafPositions F D := by rw [hits0]; exact allocItems_pos _ _ _ hlen
  have hkeys0 : (pendLeaves its0).map (·.1) = D := by rw [hits0]; exact allocItems_keys _ _ _ hlen
  obtain ⟨its1, hits1⟩ : ∃ its1, its1 = sortBy (fun it : PItem H => E F.rows it.pos) its0 := ⟨_, rfl⟩
  have hperm : its1.Perm its0 := by rw [hits1]; exact SortBy.sortBy_perm _ _
  have hsort : sortBy (fun x : NP => x.2) (its0.map (PItem.np F.rows)) = its1.map (PItem.np F.rows) := by
    rw [hits1]; exact sortBy_np F.rows its0
  have hpos1 : its1.map (·.pos) = Forest.sortDedup (leafPositions F D) := by
    rw [hits1, sortBy_items_pos hr its0 (hpos0 ▸ leafPositions_valid hn' hlive)
      (hpos0 ▸ leafPositions_nodup hn' hD hlive), hpos0]
  have inv1 : Inv F D (its1.map (·.pos)) := hpos1 ▸ Inv.init hn' hlive
  have hpend1 : Pend hp1 its1 := fun it hit => hpend0 it (hperm.mem_iff.1 hit)
  have hnd1 : (pendOwned its1).Nodup := (pendOwned_perm hperm).nodup_iff.2 hnd0
  have hsub1 : ∀ it ∈ its1, ∃ R, SubAtT F R it.pos it.t := by
    intro it hit
    have hit0 := hperm.mem_iff.1 hit
    rw [hits0] at hit0
    unfold leafPositions at hit0
    obtain ⟨h, hh, i, _, rfl⟩ := mem_allocItems_map _ D hp.size it hit0
    exact pos_of_live hn' (hlive h hh)
  -- `deTwinPolNode` is the loop from index 0 with fuel `2 * len + 1`
  obtain ⟨hp', its, e2, inv2, ns2, hpend2, hnd2, hsub2, hsz2, hfr2, hown2, hlv2⟩ :=
    deTwinPolNodeLoop_spec hr nm' rs nl ndl full (2 * (its1.map (PItem.np F.rows)).length + 1)
      [] its1 hp1 inv1 (by simp) (by rw [List.length_map]; omega) hpend1 hnd1 hsub1
  rw [List.nil_append] at hfr2 hown2 hlv2
  have e2 : deTwinPolNode (its1.map (PItem.np F.rows)) (H8 F.rows) ⟨hp1, nm', rs, nl, ndl, full⟩ =
      (.ok (its.map (PItem.np F.rows)), ⟨hp', nm', rs, nl, ndl, full⟩) := e2
  have hown1 : ∀ i ∈ pendOwned its1, hp.size ≤ i :=
    fun i hi => hown0 i ((pendOwned_perm hperm).mem_iff.1 hi)
  have hlv0 : ∀ e, e ∈ pendLeaves its ↔ e ∈ pendLeaves its0 := by
    intro e; rw [hlv2, (pendLeaves_perm hperm).mem_iff]
  refine ⟨hp1, hp', nm', its0.map (PItem.np F.rows), its, e1, ?_, hpend2, hnd2, ?_, ?_, by omega,
    hk', ?_, ?_, inv2.sorted, inv2.final hnd ns2, hsub2, inv2⟩
  · rw [hsort]; exact e2
  · intro i hi
    rcases hown2 i hi with h | h
    · exact hown1 i h
    · omega
  · intro j hj
    rw [hfr2 j (by omega) (fun hc => by have := hown1 j hc; omega), hfr j hj]
  · intro e; rw [hmem, hlv0]
  · intro k
    rw [← hkeys0]
    simp only [List.mem_map]
    constructor
    · rintro ⟨e, he, rfl⟩
      rcases (hmem e).1 he with h | h
      · exact Or.inr ⟨e, h, rfl⟩
      · exact Or.inl ⟨e, h, rfl⟩
    · rintro (⟨e, he, rfl⟩ | ⟨e, he, rfl⟩)
      · exact ⟨e, (hmem e).2 (Or.inr he), rfl⟩
      · exact ⟨e, (hmem e).2 (Or.inl he), rfl⟩

/-- **`undoDels`**: on a heap representing `F.delLeaves D` (`D` distinct live leaves of `F`, the
targets their positions in `F` in the order of `D`), `undoDels` succeeds and the heap represents
`F`; `NumDels` decreases by the number of deleted leaves. -/
theorem undoDels_refines {p : Pollard H} {F : Forest H} {D : List H} (hA : Abs p (F.delLeaves D))
    (hok : LeavesOK F) (hn : F.numLeaves < 2 ^ 63) (hnd : F.liveLeaves.Nodup) (hD : D.Nodup)
    (hlive : ∀ d ∈ D, d ∈ F.liveLeaves) :
    ∃ hp' nm' rs', undoDels ((D.map (fun l => (F.posOf l).getD (0, 0))).map (E F.rows)) D p =
        (.ok (), ⟨hp', nm', rs', p.numLeaves, p.numDels - BitVec.ofNat 64 D.length, p.full⟩) ∧
      Abs ⟨hp', nm', rs', p.numLeaves, p.numDels - BitVec.ofNat 64 D.length, p.full⟩ F := by
  have hGn : (F.delLeaves D).numLeaves < 2 ^ 64 := by
    rw [numLeaves_delLeaves]; exact Nat.lt_trans hn (by decide)
  obtain ⟨hmk, _, hkeysG⟩ := hA.keys_iff hGn
  have hkeysF : ∀ k ∈ p.nodeMap.map (·.1), k ∈ F.liveLeaves ∧ k ∉ D := fun k hk =>
    LiveLeaves.mem_liveLeaves_delLeaves.1 ((hkeysG k).1 hk)
  have hnlF : p.numLeaves.toNat = F.numLeaves := by rw [hA.numLeaves, numLeaves_delLeaves]
  obtain ⟨hp, nm, rs, nl, ndl, full⟩ := p
  simp only at hmk hkeysF hnlF ⊢
  obtain ⟨hp1, hp', nm', pn0, its, e1, e2, hpend, hpnd, hpge, hfr, hsz, hmk', hmem, hkeys, hsorted,
    hdt, hsub, inv⟩ := undoDels_prefix_refines hn hnd hD hlive hp nm rs nl ndl full hmk
      (fun d hd hk => (hkeysF d hk).2 hd)
  -- the items sit along the chain `remove` deleted along
  have epos : (itemPairs its).map (·.1) = its.map (·.pos) := by simp [itemPairs]
  obtain ⟨hch, hL⟩ := chain_of_inv (l := itemPairs its) hnd (epos ▸ inv)
    (fun T hT => (hdt T).1 (epos ▸ hT))
    (fun e he => by
      obtain ⟨it, hit, rfl⟩ := List.mem_map.1 he
      exact hsub it hit)
  have hsep : ∀ e ∈ nm', ∀ u v : H, e.1 ≠ ph u v := by
    intro e he u v
    rcases (hkeys e.1).1 (List.mem_map_of_mem he) with h | h
    · exact (hok e.1 (hlive e.1 h)).2 u v
    · exact (hok e.1 (hkeysF e.1 h).1).2 u v
  have hAP := hA.withPend hfr hpend hpnd hpge hmk' hmem
  rw [← delLeaves_congr F hL] at hAP
  obtain ⟨hp2, nm2, rs2, ex, a2⟩ := undoDelsLoop_chain hn hnd its.length its rfl
    ⟨hp', nm', rs, nl, ndl, full⟩ hch hsep hAP
  simp only at ex a2
  have hT : TreeRows nl = H8 F.rows := treeRows_eq_H8 hnlF hn
  refine ⟨hp2, nm2, rs2, ?_, ⟨a2.toAbs.numLeaves, a2.toAbs.repr⟩⟩
  unfold undoDels
  simp only [List.length_map, ne_eq, not_true_eq_false, if_false, bind_apply, e1, getNumLeaves_apply,
    hT, e2, ex, modifyS_apply]

/-- `Props.PollardHeapB.undo_rest_statement` with the hypothesis it lacks (`F.liveLeaves.Nodup`):
from a heap representing `F.delLeaves dels` up to missing empty roots, `undoEmptyRoots` followed
by `undoDels` yield a heap representing `F` -/
theorem undo_rest (hph : ∀ a b : H, ph a b ≠ (zero : H)) (p : Pollard H) (F : Forest H)
    (dels : List H) (targets : List U64) (a : AbsE p (F.delLeaves dels)) (hok : LeavesOK F)
    (hn : F.numLeaves < 2 ^ 63) (hFnd : F.liveLeaves.Nodup) (hnd : dels.Nodup)
    (hlive : ∀ d ∈ dels, d ∈ F.liveLeaves)
    (ht : targets = (dels.map (fun l => (F.posOf l).getD (0, 0))).map (E F.rows)) :
    ∃ p'', (do undoEmptyRoots targets F.roots; undoDels targets dels) p = (.ok (), p'') ∧ Abs p'' F ∧
      p''.numLeaves = p.numLeaves ∧ p''.numDels = p.numDels - BitVec.ofNat 64 dels.length ∧
      p''.full = p.full := by
  subst ht
  obtain ⟨hp2, rs2, e2, a2⟩ := undoEmptyRoots_refines hph a hok hn hFnd hnd hlive
  obtain ⟨hp3, nm3, rs3, e3, a3⟩ := undoDels_refines a2 hok hn hFnd hnd hlive
  simp only at e3 a3
  refine ⟨_, ?_, a3, rfl, rfl, rfl⟩
  simp only [bind_apply, e2]
  exact e3

/-- **`Undo` refines the specification**: on a heap representing the forest after a block
(`F.delLeaves dels` plus the additions `adds`), `Undo` with the number of additions, the block's
targets (the positions of `dels` in `F`, in the order of `dels`), the deleted hashes and the
previous roots returns without error, panic or fuel exhaustion, and the heap represents `F` —
literally, not only up to `Spec.Equiv`.  `NumLeaves` decreases by the number of additions,
`NumDels` by the number of deletions. -/
theorem undo_abs (hph : ∀ a b : H, ph a b ≠ (zero : H)) {p' : Pollard H} {F : Forest H}
    {dels adds : List H} (hA' : Abs p' (F.modify dels adds)) (hok : LeavesOK F)
    (hfreshA : ∀ x ∈ adds, x ∉ F.liveLeaves) (hn : F.numLeaves + adds.length < 2 ^ 63)
    (hFnd : F.liveLeaves.Nodup) (hnd : dels.Nodup) (hlive : ∀ d ∈ dels, d ∈ F.liveLeaves) :
    ∃ p'', PollardHeap.undo (BitVec.ofNat 64 adds.length)
        ((dels.map (fun l => (F.posOf l).getD (0, 0))).map (E F.rows)) dels F.roots p' = (.ok (), p'') ∧
      Abs p'' F ∧ p''.full = p'.full ∧
      p''.numLeaves = p'.numLeaves - BitVec.ofNat 64 adds.length ∧
      p''.numDels = p'.numDels - BitVec.ofNat 64 dels.length := by
  -- `NodeMap` up to the added leaves: the other keys are live leaves of `F`, no parent hash among them
  have hnm : (F.modify dels adds).numLeaves < 2 ^ 64 := by
    unfold Forest.modify
    rw [numLeaves_addMany, numLeaves_delLeaves]; exact Nat.lt_trans hn (by decide)
  have aW : AbsEW p' ((F.delLeaves dels).addMany adds) adds := by
    apply Abs.toAbsEW hA' hnm adds
    intro x hx hxA u v
    rcases LiveLeaves.mem_liveLeaves_modify.1 hx with h | h
    · exact (hok x h.1).2 u v
    · exact absurd h hxA
  obtain ⟨hp1, nm1, rs1, e1, a1W⟩ := undoAdds_absEW adds.length adds (F.delLeaves dels) p' rfl
    (fun x hx => hx) aW (by rw [numLeaves_delLeaves]; exact hn)
  have hF63 : F.numLeaves < 2 ^ 63 := Nat.lt_of_le_of_lt (Nat.le_add_right _ _) hn
  have hlt' : adds.length < 2 ^ 63 := Nat.lt_of_le_of_lt (Nat.le_add_left _ _) hn
  have a1 := a1W.toAbsE (by rw [numLeaves_delLeaves]; exact Nat.lt_trans hF63 (by decide))
    (fun x hx hxA => hfreshA x hxA (LiveLeaves.mem_liveLeaves_delLeaves.1 hx).1)
  obtain ⟨p'', e23, a3, g1, g2, g3⟩ := undo_rest hph _ F dels _ a1 hok hF63 hFnd hnd hlive rfl
  refine ⟨p'', ?_, a3, g3, g1, g2⟩
  unfold PollardHeap.undo
  have hmod : (BitVec.ofNat 64 adds.length).toNat = adds.length :=
    Proofs.toNat_ofNat64_of_lt (Nat.lt_trans hlt' (by decide))
  simp only [bind_apply, if_true, hmod, hlt', e1] at e23 ⊢
  exact e23

theorem abs_liveLeaves_nodup {p : Pollard H} {F : Forest H} (a : Abs p F) (hn : F.numLeaves < 2 ^ 64) :
    F.liveLeaves.Nodup := (a.keys_iff hn).2.1

/-- **`Modify` then `Undo` restores the forest** (C06/C08 for the pointer forest): on a full pollard
representing `F` (below `2^63` leaves, no live leaf all-zero or a parent hash), for every valid
block — distinct live deletions `dels` with their positions as targets IN THE ORDER OF `dels`,
distinct fresh non-zero additions none of which is a parent hash — `Modify` succeeds, the heap
represents `F.modify dels adds`, and `Undo` with the number of additions, the block's targets and
hashes and the previous roots `F.roots` succeeds and the heap represents `F` again (literally);
`NumLeaves`, `NumDels` and the key set of `NodeMap` are those before the block. -/
theorem undo_refines (hph : ∀ a b : H, ph a b ≠ (zero : H)) (p : Pollard H) (F : Forest H)
    (dels : List H) (targets : List U64) (adds : List (H × Bool))
    (hA : Abs p F) (hfull : p.full = true) (hok : LeavesOK F)
    (hn : F.numLeaves + adds.length < 2 ^ 63)
    (hnd : dels.Nodup) (hlive : ∀ d ∈ dels, d ∈ F.liveLeaves)
    (htargets : ∀ ts, dels.mapM F.posOf = some ts →
      targets = ts.map (fun q => BitVec.ofNat 64 (enc F.rows q)))
    (hpos : (dels.mapM F.posOf).isSome)
    (hadd : (adds.map (·.1)).Nodup) (hfresh : ∀ e ∈ adds, e.1 ∉ F.liveLeaves ∧ e.1 ≠ zero) :
    ∃ p' p'', PollardHeap.modify adds dels targets p = (.ok (), p') ∧
      Abs p' (F.modify dels (adds.map (·.1))) ∧
      PollardHeap.undo (BitVec.ofNat 64 adds.length) targets dels F.roots p' = (.ok (), p'') ∧
      Abs p'' F ∧ p''.full = true ∧ p''.numLeaves = p.numLeaves ∧ p''.numDels = p.numDels ∧
      (p''.nodeMap.map (·.1)).Perm (p.nodeMap.map (·.1)) := by
  obtain ⟨p', h1, h2, h3, h4, h5⟩ := PollardHeapB.modify_refines hph p F dels dels targets adds hA hfull
    hok hn hnd hlive (List.Perm.refl _) htargets hpos hadd hfresh
  obtain ⟨ts, hts⟩ := Option.isSome_iff_exists.1 hpos
  have e1 := PollardHeapB.mapM_posOf dels ts hts
  have e2 := htargets ts hts
  have etargets : targets = (dels.map (fun l => (F.posOf l).getD (0, 0))).map (E F.rows) := by
    rw [e2, e1]; rfl
  have hlen : targets.length = dels.length := by rw [etargets]; simp
  have hF64 : F.numLeaves < 2 ^ 64 :=
    Nat.lt_trans (Nat.lt_of_le_of_lt (Nat.le_add_right _ _) hn) (by decide)
  have hFnd : F.liveLeaves.Nodup := abs_liveLeaves_nodup hA hF64
  obtain ⟨p'', hu, a'', f'', nl'', ndl''⟩ := undo_abs hph (adds := adds.map (·.1)) h2 hok
    (fun x hx => by
      obtain ⟨e, he, rfl⟩ := List.mem_map.1 hx
      exact (hfresh e he).1)
    (by simpa using hn) hFnd hnd hlive
  rw [List.length_map, ← etargets] at hu
  refine ⟨p', p'', h1, h2, hu, a'', by rw [f'', h3], ?_, ?_, ?_⟩
  · apply BitVec.eq_of_toNat_eq
    rw [a''.numLeaves, hA.numLeaves]
  · rw [ndl'', h4, hlen, BitVec.add_sub_cancel]
  · obtain ⟨k1, _, k2⟩ := a''.keys_iff hF64
    obtain ⟨k3, _, k4⟩ := hA.keys_iff hF64
    exact (List.perm_ext_iff_of_nodup k1 k3).2 (fun x => by rw [k2 x, k4 x])

/-- what `Prove` answers on a heap representing `F`, as a function of `F` -/
def proveOf (F : Forest H) (hs : List H) : List U64 × List H :=
  match F.canon hs with
  | some (ts, ps) => (ts.map (fun q => BitVec.ofNat 64 (enc F.rows q)), ps)
  | none => ([], [])

/-- **every look-up on a heap representing `F` is a function of `F`**: `GetRoots`, `GetHash`,
`GetLeafPosition`, `Prove`, `Verify` (`getRoots_refines`, `getHash_refines`, `getLeafPosition_refines`,
`prove_refines`, `verify_refines` in one statement); two heaps representing the same forest answer
alike by transitivity -/
theorem abs_queries (hph : ∀ a b : H, ph a b ≠ (zero : H)) {p : Pollard H} {F : Forest H} (a : Abs p F)
    (hn : F.numLeaves < 2 ^ 63) (hnz : ∀ x ∈ F.liveLeaves, x ≠ (zero : H)) :
    getRootHashes p = (.ok F.roots, p) ∧
    (∀ pos : U64, getHash pos p = (.ok (PollardAbs.pollardGetHashNiece F pos), p)) ∧
    (RootsApart F → ∀ h : H, getLeafPosition h p = (.ok (PollardAbs.pollardGetLeafPosition F h), p)) ∧
    (RootsApart F → ∀ hs : List H, (∀ h ∈ hs, h ∈ F.liveLeaves) → hs.Nodup → 1 < F.numLeaves → hs ≠ [] →
      (∃ ts ps, F.canon hs = some (ts, ps)) ∧ prove hs p = (.ok (proveOf F hs), p)) ∧
    (∀ dh tg phs rem, PollardHeap.verify dh tg phs rem p =
      (pollardVerify (BitVec.ofNat 64 F.numLeaves) F.roots dh tg phs, p)) := by
  refine ⟨Props.PollardHeap.getRoots_refines a, Props.PollardHeap.getHash_refines a,
    fun hr => getLeafPosition_abs a hn hr, ?_,
    PollardHeapB.verify_refines a (Nat.lt_trans hn (by decide))⟩
  intro hr hs hl hnd h1 hne
  obtain ⟨ts, ps, hc, hp⟩ := prove_abs hph a hn hr hnz hs hl hnd h1 hne
  exact ⟨⟨ts, ps, hc⟩, by rw [hp, proveOf, hc]; rfl⟩

/-- two heaps representing `F` give the same four answers, those of `F` -/
theorem queries_agree (hph : ∀ a b : H, ph a b ≠ (zero : H)) {p p' : Pollard H} {F : Forest H}
    (a : Abs p F) (a' : Abs p' F) (hn : F.numLeaves < 2 ^ 63)
    (hnz : ∀ x ∈ F.liveLeaves, x ≠ (zero : H)) :
    (getRootHashes p = (.ok F.roots, p) ∧ getRootHashes p' = (.ok F.roots, p')) ∧
    (∀ pos : U64, getHash pos p = (.ok (PollardAbs.pollardGetHashNiece F pos), p) ∧
      getHash pos p' = (.ok (PollardAbs.pollardGetHashNiece F pos), p')) ∧
    (RootsApart F → ∀ h : H,
      getLeafPosition h p = (.ok (PollardAbs.pollardGetLeafPosition F h), p) ∧
      getLeafPosition h p' = (.ok (PollardAbs.pollardGetLeafPosition F h), p')) ∧
    (RootsApart F → ∀ hs : List H, (∀ h ∈ hs, h ∈ F.liveLeaves) → hs.Nodup → 1 < F.numLeaves →
      hs ≠ [] → ∃ ts ps, F.canon hs = some (ts, ps) ∧
        prove hs p = (.ok (ts.map (fun q => BitVec.ofNat 64 (enc F.rows q)), ps), p) ∧
        prove hs p' = (.ok (ts.map (fun q => BitVec.ofNat 64 (enc F.rows q)), ps), p')) := by
  obtain ⟨q1, q2, q3, q4, _⟩ := abs_queries hph a hn hnz
  obtain ⟨r1, r2, r3, r4, _⟩ := abs_queries hph a' hn hnz
  refine ⟨⟨q1, r1⟩, fun pos => ⟨q2 pos, r2 pos⟩, fun hr h => ⟨q3 hr h, r3 hr h⟩, ?_⟩
  intro hr hs hl hnd h1 hne
  obtain ⟨⟨ts, ps, hc⟩, hp⟩ := q4 hr hs hl hnd h1 hne
  refine ⟨ts, ps, hc, ?_, ?_⟩
  · rw [hp, proveOf, hc]
  · rw [(r4 hr hs hl hnd h1 hne).2, proveOf, hc]

/-- **`Modify` then `Undo` restores every observable**: after the round trip `GetRoots`, `GetHash`
(every position), `GetLeafPosition` (every hash) and `Prove` (every duplicate-free request of live
leaves) return what they returned before the block — the answers the specification forest `F`
gives (`getRoots_refines`, `getHash_refines`, `getLeafPosition_refines`, `prove_refines`). -/
theorem modify_undo_observables (hph : ∀ a b : H, ph a b ≠ (zero : H)) (p : Pollard H) (F : Forest H)
    (dels : List H) (targets : List U64) (adds : List (H × Bool))
    (hA : Abs p F) (hfull : p.full = true) (hok : LeavesOK F)
    (hn : F.numLeaves + adds.length < 2 ^ 63)
    (hnd : dels.Nodup) (hlive : ∀ d ∈ dels, d ∈ F.liveLeaves)
    (htargets : ∀ ts, dels.mapM F.posOf = some ts →
      targets = ts.map (fun q => BitVec.ofNat 64 (enc F.rows q)))
    (hpos : (dels.mapM F.posOf).isSome)
    (hadd : (adds.map (·.1)).Nodup) (hfresh : ∀ e ∈ adds, e.1 ∉ F.liveLeaves ∧ e.1 ≠ zero) :
    ∃ p' p'', PollardHeap.modify adds dels targets p = (.ok (), p') ∧
      PollardHeap.undo (BitVec.ofNat 64 adds.length) targets dels F.roots p' = (.ok (), p'') ∧
      (getRootHashes p'' = (.ok F.roots, p'') ∧ getRootHashes p = (.ok F.roots, p)) ∧
      (∀ pos : U64, getHash pos p'' = (.ok (PollardAbs.pollardGetHashNiece F pos), p'') ∧
        getHash pos p = (.ok (PollardAbs.pollardGetHashNiece F pos), p)) ∧
      (F.roots.Nodup → ∀ h : H,
        getLeafPosition h p'' = (.ok (PollardAbs.pollardGetLeafPosition F h), p'') ∧
        getLeafPosition h p = (.ok (PollardAbs.pollardGetLeafPosition F h), p)) ∧
      (F.roots.Nodup → ∀ hs : List H, (∀ h ∈ hs, h ∈ F.liveLeaves) → hs.Nodup → 1 < F.numLeaves →
        hs ≠ [] → ∃ ts ps, F.canon hs = some (ts, ps) ∧
          prove hs p'' = (.ok (ts.map (fun q => BitVec.ofNat 64 (enc F.rows q)), ps), p'') ∧
          prove hs p = (.ok (ts.map (fun q => BitVec.ofNat 64 (enc F.rows q)), ps), p)) := by
  obtain ⟨p', p'', h1, _, h3, a'', _⟩ := undo_refines hph p F dels targets adds hA hfull hok hn hnd hlive
    htargets hpos hadd hfresh
  obtain ⟨q1, q2, q3, q4⟩ := queries_agree hph a'' hA (Nat.lt_of_le_of_lt (Nat.le_add_right _ _) hn)
    (fun x hx => (hok x hx).1)
  exact ⟨p', p'', h1, h3, q1, q2, fun hr => q3 (.of_nodup hr), fun hr => q4 (.of_nodup hr)⟩

namespace Example
open UtreexoVerif.Spec.NodesUniqueExample UtreexoVerif.Props.PollardHeap.Example
open UtreexoVerif.Props.PollardHeapB.Example

theorem full5 : p5.full = true := check5.1

/-! #### `Props.PollardHeap.undo_refines_statement` is false -/

/-- "delete" a hash that is not in the forest, with no target: `Modify` succeeds and changes
nothing … -/
def pN : Pollard Term := (PollardHeap.modify [] [.atom 9] [] p5).2

theorem runN1 : (PollardHeap.modify [] [Term.atom 9] [] p5).1 = .ok () := by decide +kernel
theorem runN : PollardHeap.modify [] [Term.atom 9] [] p5 = (.ok (), pN) := by
  have h := prod_eta (PollardHeap.modify [] [Term.atom 9] [] p5)
  rw [h, runN1]
  unfold pN
  rfl
theorem absN : Abs pN (F5.modify [.atom 9] (([] : List (Term × Bool)).map (·.1))) := by
  have h : pN.full = true ∧ wfCheck pN = none ∧
      pN.numLeaves.toNat = (F5.modify [.atom 9] (([] : List (Term × Bool)).map (·.1))).numLeaves ∧
      absTrees pN = some (F5.modify [.atom 9] (([] : List (Term × Bool)).map (·.1))).trees := by
    decide +kernel
  exact abs_of_check pN _ h.1 h.2.1 h.2.2.1 h.2.2.2
/-- … and `Undo` returns the error of `undoDels` (`len(dels) != len(delHashes)`) -/
theorem undoN : (PollardHeap.undo (BitVec.ofNat 64 ([] : List (Term × Bool)).length) [] [Term.atom 9]
    F5.roots pN).1 = .err := by decide +kernel

/-- **`Props.PollardHeap.undo_refines_statement` is false**: it does not ask the deleted hashes to
be live leaves given by their positions (not a defect of the Go code: the caller passed a block
that deletes nothing with a non-empty `delHashes`) -/
theorem undo_refines_statement_false : ¬ Props.PollardHeap.undo_refines_statement Term := by
  intro h
  have h2 : TreesNZ F5 := PollardHeapB.treesNZ_of_nonzero hphT (fun x hx => (leavesOK5 x hx).1)
    (by decide +kernel)
  obtain ⟨p'', e, _⟩ := h hphT p5 pN F5 [.atom 9] [] [] abs5 full5 h2 runN absN
  have := undoN
  rw [e] at this
  cases this

/-! #### `Props.PollardHeapB.undo_rest_statement` is false -/

/-- a forest with a duplicated leaf -/
def FD : Forest Term := ⟨[some (.atom 1), some (.atom 1), some (.atom 2)]⟩
def leavesD : List (Term × Bool) := [(.atom 3, true), (.atom 4, true), (.atom 2, true)]
/-- a heap representing `FD` without its (two) leaves `atom 1` -/
def pD : Pollard Term :=
  (PollardHeap.modify [] [.atom 3, .atom 4] [0#64, 1#64] (PollardHeap.add leavesD newAccumulator).2).2

theorem absD' : Abs pD (FD.delLeaves [.atom 1]) := by
  have h : pD.full = true ∧ wfCheck pD = none ∧ pD.numLeaves.toNat = (FD.delLeaves [.atom 1]).numLeaves ∧
      absTrees pD = some (FD.delLeaves [.atom 1]).trees := by decide +kernel
  exact abs_of_check pD _ h.1 h.2.1 h.2.2.1 h.2.2.2

/-- **`Props.PollardHeapB.undo_rest_statement` is false**: it lacks `F.liveLeaves.Nodup` — when
the "previous" forest holds a leaf twice, deleting it kills both copies and nothing can bring two
back (no heap represents a forest with a duplicated leaf: `NodeMap` has distinct keys) -/
theorem undo_rest_statement_false : ¬ Props.PollardHeapB.undo_rest_statement Term := by
  intro h
  have hlive : FD.liveLeaves = [.atom 1, .atom 1, .atom 2] := by decide +kernel
  have hok : LeavesOK FD := by
    intro x hx
    rw [hlive] at hx
    simp only [List.mem_cons, List.not_mem_nil, or_false] at hx
    rcases hx with rfl | rfl | rfl <;> exact ⟨fun h => (by cases h), fun a b h => (by cases h)⟩
  obtain ⟨p'', _, a⟩ := h hphT pD FD [.atom 1] _ absD'.toAbsE (by decide +kernel) hok (by decide +kernel)
    (by decide) (by rw [hlive]; decide) rfl
  have := abs_liveLeaves_nodup a (by decide +kernel)
  rw [hlive] at this
  exact absurd this (by decide)

end Example

end UtreexoVerif.Props.PollardHeapC
