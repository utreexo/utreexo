/-
  C14 for the MAP FOREST — `MapPollard.GetMissingPositions` is exact and `MapPollard.VerifyPartialProof`
  with the true hashes at those positions succeeds.

  Property text (last sentence of C14): "The positions reported as missing for proving extra
  targets are exactly the canonical proof positions that cannot be taken or computed from what is
  already held, and supplying the true hashes at those positions makes verification succeed."
  "Exact" here means: the canonical proof positions whose node `m` does not STORE
  (`map_getMissingPositions_exact`); a position computable from stored children is still reported
  (`Example.missing_reports_computable`), in the Go code as well.

  Setting: a model state `m` (`Model/MapPollard.lean`, transliteration of mappollard.go) with
  `Inv m F` for the statements about `GetMissingPositions`, and `SInv m F` (partial forests, what
  `Props.C09b.C09_reach` establishes) or `FInv m F` (full forests, `Props.C09c.C09_reach_full`) for
  those about `VerifyPartialProof`.  Hash hypothesis: `NZ H`, except that rejecting a wrong hash needs
  collision-freeness `CR H`.  A request is a duplicate-free list `L` of live leaves with
  `F.canon L = some (ts, ps)` (`ts` in the order of `L`); the API receives `ts.map (encP F.rows)`.
-/
import UtreexoVerif.Proofs.MapMissing
import UtreexoVerif.Proofs.VerifyUnique
import UtreexoVerif.Props.C09b
import UtreexoVerif.Props.C09c
import UtreexoVerif.Props.C04b

namespace UtreexoVerif.Props.C14Map
open Model Spec Proofs MapInv MapSInv MapFull MapIngest MapMissing PForestSpec
  SpecPlan Hasher

variable {H : Type} [DecidableEq H] [Hasher H]
variable {m : MapPollard H} {F : Forest H} {L : List H} {ts : List Pos} {ps : List H}

/-- a truthful oracle over API positions: it answers every position of the forest with the hash
of the node there (what an honest peer holding the whole forest answers; `apiHash F` is one) -/
def TrueAt (F : Forest H) (hashAt : U64 → H) : Prop :=
  ∀ q h, F.nodeAt q = some h → hashAt (encP F.rows q) = h

theorem trueAt_apiHash (hn : F.numLeaves < 2 ^ 63) : TrueAt F (apiHash F) :=
  fun _ _ hq => apiHash_true hn hq

/-- **`GetMissingPositions` is exact**: the answer is the ascending list of the canonical proof positions
of `L` whose node `m` does NOT store, in `TreeRows` coordinates. -/
theorem map_getMissingPositions_exact (inv : Inv m F) (hnd : L.Nodup) (hc : F.canon L = some (ts, ps)) :
    m.getMissingPositions (ts.map (encP F.rows)) =
      ((F.proofPositions ts).filter (fun q => !m.hasNode (encP m.totalRows.toNat q))).map (encP F.rows) ∧
    (m.getMissingPositions (ts.map (encP F.rows))).Pairwise (· < ·) := by
  have h1 := getMissing_canon inv hnd hc
  refine ⟨h1, ?_⟩
  rw [h1]
  exact (pp_enc_sorted (rows_le_63 inv) (Nat.le_refl _) (ts_belowRoot hc)).sublist
    (List.Sublist.map _ List.filter_sublist)

theorem map_getMissingPositions_mem (inv : Inv m F) (hnd : L.Nodup) (hc : F.canon L = some (ts, ps)) (p : U64) :
    p ∈ m.getMissingPositions (ts.map (encP F.rows)) ↔
      ∃ q ∈ F.proofPositions ts, p = encP F.rows q ∧ m.hasNode (encP m.totalRows.toNat q) = false := by
  rw [getMissing_canon inv hnd hc, List.mem_map]
  constructor
  · rintro ⟨q, hq, rfl⟩
    exact ⟨q, (mem_missingQ.1 hq).1, rfl, (mem_missingQ.1 hq).2⟩
  · rintro ⟨q, h1, rfl, h2⟩
    exact ⟨q, mem_missingQ.2 ⟨h1, h2⟩, rfl⟩

/-- the same through the API: reported ⟺ a canonical proof position at which `GetHash` answers the
all-zero hash ("not held") -/
theorem map_getMissingPositions_mem_getHash (nz : NZ H) (inv : Inv m F) (hy : Hyg F) (hnd : L.Nodup)
    (hc : F.canon L = some (ts, ps)) (p : U64) :
    p ∈ m.getMissingPositions (ts.map (encP F.rows)) ↔
      ∃ q ∈ F.proofPositions ts, p = encP F.rows q ∧ m.getHash p = zero := by
  rw [map_getMissingPositions_mem inv hnd hc]
  constructor
  · rintro ⟨q, h1, rfl, h2⟩
    exact ⟨q, h1, rfl, (getHash_zero_iff nz inv hy hc h1).2 h2⟩
  · rintro ⟨q, h1, rfl, h2⟩
    exact ⟨q, h1, rfl, (getHash_zero_iff nz inv hy hc h1).1 h2⟩

/-- **targets that are not leaves**: the same for ANY duplicate-free list of positions of the forest
(inner nodes, nested targets, positions of the collapsed region, any order) -/
theorem map_getMissingPositions_positions (inv : Inv m F) (ts : List Pos) (hnd : ts.Nodup)
    (hb : ∀ t ∈ ts, ∃ R, BelowRoot F.numLeaves t.1 t.2 R) :
    m.getMissingPositions (ts.map (encP F.rows)) =
      ((F.proofPositions ts).filter (fun q => !m.hasNode (encP m.totalRows.toNat q))).map (encP F.rows) :=
  getMissing_eq inv ts hnd hb

theorem map_getMissingPositions_nil_iff (inv : Inv m F) (hnd : L.Nodup) (hc : F.canon L = some (ts, ps)) :
    m.getMissingPositions (ts.map (encP F.rows)) = [] ↔
      ∀ q ∈ F.proofPositions ts, m.hasNode (encP m.totalRows.toNat q) = true := by
  rw [(map_getMissingPositions_exact inv hnd hc).1, List.map_eq_nil_iff, List.filter_eq_nil_iff]
  simp

/-- **cached leaves need nothing**, and `Prove` proves them with the canonical proof
(`Props.C09.prove_canon`) -/
theorem map_getMissingPositions_cached (inv : Inv m F) (hnd : L.Nodup) (hc : F.canon L = some (ts, ps))
    (hL : ∀ x ∈ L, m.hasCached x = true) :
    m.getMissingPositions (ts.map (encP F.rows)) = [] ∧ m.prove L = .ok (ts.map (encP F.rows), ps) := by
  constructor
  · rw [getMissing_canon inv hnd hc, missingQ_nil_of_cached inv hc hL]
    rfl
  · rw [Props.C09.prove_eq inv hnd, if_pos (List.all_eq_true.2 hL), hc]

theorem map_getMissingPositions_full (nz : NZ H) (s : FInv m F) (hnd : L.Nodup) (hc : F.canon L = some (ts, ps)) :
    m.getMissingPositions (ts.map (encP F.rows)) = [] := by
  rw [getMissing_canon (s.inv nz) hnd hc, missingQ_nil_full s hc]
  rfl

/-- **the completed call IS `Verify` of the canonical proof** (true hashes at the reported positions in
the reported order, from any truthful oracle; surplus hashes are never looked at) -/
theorem map_verifyPartialProof_eq_verify (nz : NZ H) (inv : Inv m F) (hy : Hyg F) (hnd : L.Nodup)
    (hc : F.canon L = some (ts, ps)) (hashAt : U64 → H) (htrue : TrueAt F hashAt) (junk : List H)
    (remember : Bool) :
    MapPollard.verifyPartialProof (ts.map (encP F.rows)) L
        ((m.getMissingPositions (ts.map (encP F.rows))).map hashAt ++ junk) remember m =
      MapPollard.verifyM L (ts.map (encP F.rows)) ps remember m := by
  rw [supplied_eq inv hnd hc hashAt htrue]
  exact verifyPartial_eq_verifyM nz inv hy hnd hc junk remember

/-- **completeness on a partial forest**: with the true hashes at the reported positions the call succeeds
for both values of `remember`; the invariant holds again for the SAME forest; the cache grows by exactly
`L` when `remember` is set (and then `Prove L` returns the canonical proof), else the state is untouched. -/
theorem map_verifyPartialProof_complete (nz : NZ H) (s : SInv m F) (hnd : L.Nodup)
    (hc : F.canon L = some (ts, ps)) (hashAt : U64 → H) (htrue : TrueAt F hashAt) (junk : List H)
    (remember : Bool) :
    ∃ m', MapPollard.verifyPartialProof (ts.map (encP F.rows)) L
          ((m.getMissingPositions (ts.map (encP F.rows))).map hashAt ++ junk) remember m = (m', .ok ()) ∧
      MapPollard.verifyM L (ts.map (encP F.rows)) ps remember m = (m', .ok ()) ∧
      SInv m' F ∧ Inv m' F ∧
      (∀ y, m'.hasCached y = true ↔ (m.hasCached y = true ∨ (remember = true ∧ y ∈ L))) ∧
      (remember = false → m' = m) ∧
      (remember = true → m'.getMissingPositions (ts.map (encP F.rows)) = [] ∧
        m'.prove L = .ok (ts.map (encP F.rows), ps)) := by
  have I := s.inv nz
  obtain ⟨m', h1, h2, h3, h4⟩ := Props.C09b.inv_verify nz s L ts ps [] hnd hc remember
  rw [List.append_nil] at h1
  refine ⟨m', ?_, h1, h2, h3, h4, ?_, ?_⟩
  · rw [map_verifyPartialProof_eq_verify nz I s.hyg hnd hc hashAt htrue junk remember]
    exact h1
  · intro hr
    subst hr
    rw [Props.C03c.verifyM_false] at h1
    exact (Prod.mk.inj h1).1.symm
  · intro hr
    exact map_getMissingPositions_cached h3 hnd hc (fun x hx => (h4 x).2 (Or.inr ⟨hr, hx⟩))

/-- **completeness on a full forest**: nothing has to be supplied, the call succeeds for both values
of `remember` and changes nothing (same look-ups, counters and flags) -/
theorem map_verifyPartialProof_complete_full (nz : NZ H) (s : FInv m F) (hnd : L.Nodup)
    (hc : F.canon L = some (ts, ps)) (junk : List H) (remember : Bool) :
    m.getMissingPositions (ts.map (encP F.rows)) = [] ∧
    ∃ m', MapPollard.verifyPartialProof (ts.map (encP F.rows)) L junk remember m = (m', .ok ()) ∧
      MapPollard.verifyM L (ts.map (encP F.rows)) ps remember m = (m', .ok ()) ∧ FInv m' F ∧
      (∀ p, m'.getNode p = m.getNode p) ∧ (∀ x, m'.getCached x = m.getCached x) ∧
      m'.numLeaves = m.numLeaves ∧ m'.totalRows = m.totalRows ∧ m'.full = m.full := by
  have hmiss := map_getMissingPositions_full nz s hnd hc
  refine ⟨hmiss, ?_⟩
  obtain ⟨m', h1, h2⟩ := Props.C09c.finv_verify nz s L ts ps [] hnd hc remember
  rw [List.append_nil] at h1
  refine ⟨m', ?_, h1, h2⟩
  have := map_verifyPartialProof_eq_verify nz (s.inv nz) s.hyg hnd hc (apiHash F) (trueAt_apiHash s.n_lt) junk
    remember
  rw [hmiss] at this
  simp only [List.map_nil, List.nil_append] at this
  rw [this]
  exact h1

/-- **nothing reported can be left out**: with fewer hashes than reported positions the call answers
`err` and leaves the state alone. -/
theorem map_verifyPartialProof_short (nz : NZ H) (inv : Inv m F) (hy : Hyg F) (hnd : L.Nodup)
    (hc : F.canon L = some (ts, ps)) (supplied : List H)
    (hlen : supplied.length < (m.getMissingPositions (ts.map (encP F.rows))).length) (remember : Bool) :
    MapPollard.verifyPartialProof (ts.map (encP F.rows)) L supplied remember m = (m, .error .err) := by
  apply verifyPartial_short nz inv hy hnd hc supplied _ remember
  rw [getMissing_canon inv hnd hc, List.length_map] at hlen
  exact hlen

theorem map_verifyPartialProof_dropped (nz : NZ H) (inv : Inv m F) (hy : Hyg F) (hnd : L.Nodup)
    (hc : F.canon L = some (ts, ps)) (hashAt : U64 → H) (i : Nat)
    (hi : i < (m.getMissingPositions (ts.map (encP F.rows))).length) (remember : Bool) :
    MapPollard.verifyPartialProof (ts.map (encP F.rows)) L
      (((m.getMissingPositions (ts.map (encP F.rows))).eraseIdx i).map hashAt) remember m = (m, .error .err) := by
  apply map_verifyPartialProof_short nz inv hy hnd hc
  rw [List.length_map, List.length_eraseIdx, if_pos hi]
  omega

/-- **nothing is missing ⟺ `m` verifies `L` by itself** (no hash supplied) -/
theorem map_getMissingPositions_nil_iff_self (nz : NZ H) (s : SInv m F) (hnd : L.Nodup)
    (hc : F.canon L = some (ts, ps)) :
    m.getMissingPositions (ts.map (encP F.rows)) = [] ↔
      MapPollard.verifyPartialProof (ts.map (encP F.rows)) L [] false m = (m, .ok ()) := by
  constructor
  · intro h0
    obtain ⟨m', h1, _, _, _, _, h6, _⟩ :=
      map_verifyPartialProof_complete nz s hnd hc (apiHash F) (trueAt_apiHash s.n_lt) [] false
    rw [h0] at h1
    rw [h6 rfl] at h1
    exact h1
  · intro h
    cases hm : m.getMissingPositions (ts.map (encP F.rows)) with
    | nil => rfl
    | cons p rest =>
      have := map_verifyPartialProof_short nz (s.inv nz) s.hyg hnd hc [] (by rw [hm]; simp) false
      rw [this] at h
      cases (Prod.mk.inj h).2

/-- `VerifyPartialProof` never panics or hangs, whatever is supplied (`Props.C04b`) -/
theorem map_verifyPartialProof_never_panics (inv : Inv m F) (tgts : List U64) (hs supplied : List H)
    (remember : Bool) :
    Props.C04b.TotalE (MapPollard.verifyPartialProof tgts hs supplied remember m).2 :=
  Props.C04b.verifyPartialProof_total_inv inv tgts hs supplied remember

/-- an `err` outcome of `VerifyPartialProof` leaves the state alone (only `ingest`, whose `err` is
dropped, writes) -/
theorem verifyPartialProof_err_state (m : MapPollard H) (tgts : List U64) (hs supplied : List H) (remember : Bool)
    (h : (MapPollard.verifyPartialProof tgts hs supplied remember m).2 = .error .err) :
    (MapPollard.verifyPartialProof tgts hs supplied remember m).1 = m := by
  unfold MapPollard.verifyPartialProof at h ⊢
  simp only at h ⊢
  split
  · rfl
  · rename_i all hall
    rw [hall] at h
    simp only at h
    unfold MapPollard.verifyM at h ⊢
    simp only at h ⊢
    split
    · rfl
    · rfl
    · rfl
    · rename_i idx hv
      rw [hv] at h
      simp only at h
      cases remember with
      | false => rfl
      | true =>
        simp only [if_true] at h ⊢
        split at h <;> simp at h

/-- **a supplied hash that is not the true one cannot be accepted** (collision-freeness `CR`): the
hashes an accepting call consumed are the true hashes at the reported positions, in that order. -/
theorem map_verifyPartialProof_accepts_only_true (cr : CR H) (inv : Inv m F) (hy : Hyg F) (hnd : L.Nodup)
    (hc : F.canon L = some (ts, ps)) (supplied : List H) (remember : Bool)
    (h : (MapPollard.verifyPartialProof (ts.map (encP F.rows)) L supplied remember m).2 = .ok ())
    (hashAt : U64 → H) (htrue : TrueAt F hashAt) :
    supplied.take (m.getMissingPositions (ts.map (encP F.rows))).length =
      (m.getMissingPositions (ts.map (encP F.rows))).map hashAt := by
  have nz := cr.toNZ
  have hn64 : F.numLeaves < 2 ^ 64 := by have := inv.n_lt; omega
  obtain ⟨all, idx, hm, hlen, hv⟩ := verifyPartial_accepts inv hnd hc supplied remember h
  have hall : all = ps :=
    VerifyUnique.verify_proof_unique cr (Nat.le_of_lt inv.n_lt) hy hnd hc all hlen hv
  subst hall
  rw [ps_hashes hc] at hm
  obtain ⟨_, junk, hj⟩ := (merge_iff (tvF F) (F.proofPositions ts)
    (fun q hq l hg => by
      rw [stored_true inv (pp_valid hc inv.rows_le hq) hg]; exact pp_nonzero nz hn64 hy hc hq)
    supplied).1 hm
  rw [supplied_eq inv hnd hc hashAt htrue,
    getMissing_canon inv hnd hc, List.length_map, hj, missingQ_eq,
    ← List.length_map (f := tvF F), List.take_left]

/-- … contrapositive: **a wrong hash at any reported position is rejected** — the call answers `err`
(it neither accepts nor panics) and leaves the state alone -/
theorem map_verifyPartialProof_wrong_hash_rejected (cr : CR H) (inv : Inv m F) (hy : Hyg F) (hnd : L.Nodup)
    (hc : F.canon L = some (ts, ps)) (supplied : List H) (remember : Bool)
    (hashAt : U64 → H) (htrue : TrueAt F hashAt) (i : Nat)
    (hi : i < (m.getMissingPositions (ts.map (encP F.rows))).length)
    (hw : supplied[i]? ≠ ((m.getMissingPositions (ts.map (encP F.rows)))[i]?).map hashAt) :
    MapPollard.verifyPartialProof (ts.map (encP F.rows)) L supplied remember m = (m, .error .err) := by
  have hne : (MapPollard.verifyPartialProof (ts.map (encP F.rows)) L supplied remember m).2 ≠ .ok () := by
    intro h
    have ht := map_verifyPartialProof_accepts_only_true cr inv hy hnd hc supplied remember h hashAt htrue
    apply hw
    have : (supplied.take (m.getMissingPositions (ts.map (encP F.rows))).length)[i]? = supplied[i]? := by
      rw [List.getElem?_take, if_pos hi]
    rw [← this, ht, List.getElem?_map]
  have htot := Props.C04b.verifyPartialProof_total_inv inv (ts.map (encP F.rows)) L supplied remember
  have herr : (MapPollard.verifyPartialProof (ts.map (encP F.rows)) L supplied remember m).2 = .error .err := by
    cases hr : (MapPollard.verifyPartialProof (ts.map (encP F.rows)) L supplied remember m).2 with
    | ok u => exact absurd hr hne
    | error e =>
      cases e with
      | err => rfl
      | panic => rw [hr] at htot; exact absurd rfl htot.1
      | hang => rw [hr] at htot; exact absurd rfl htot.2
  have hst := verifyPartialProof_err_state m _ _ _ _ herr
  exact Prod.ext hst herr

/-! `F5` / `m5` of `Props/C09.lean` (five live leaves; `TotalRows = 63 ≠ TreeRows = 3`) after
`Prune [leaf 0]`: the map stores leaf 2, leaf 3, the node above leaves 0 and 1 and the two roots; it
caches leaves 2 and 4.  Request: leaf 2 (cached) and leaf 1 (live, not cached).  Canonical proof
positions: (0,0) and (0,3); leaf 3 is stored (proof of leaf 2), leaf 0 is not. -/

namespace Example
open Props.C09.Example (T m5 F5)
open MapSInv.Example (F5_hyg crT)

def mq : MapPollard T := (MapPollard.prune [T.leaf 0] m5).1

theorem mq_sinv : SInv mq F5 := MapIngest.sinv_of_checks crT.toNZ F5_hyg (by decide +kernel)

example : mq.full = false ∧ mq.totalRows = 63#8 ∧ TreeRows mq.numLeaves = 3#8 ∧ mq.nodes.length = 5 ∧
    mq.hasCached (.leaf 2) = true ∧ mq.hasCached (.leaf 4) = true ∧ mq.hasCached (.leaf 1) = false ∧
    mq.cached.length = 2 := by decide +kernel

theorem canon21 : F5.canon [T.leaf 2, .leaf 1] = some ([(0, 2), (0, 1)], [T.leaf 0, .leaf 3]) := by
  decide +kernel

theorem tgts21 : ([(0, 2), (0, 1)] : List Pos).map (encP F5.rows) = [2#64, 1#64] := by decide +kernel

theorem missing21 : mq.getMissingPositions [2#64, 1#64] = [0#64] := by decide +kernel

example : mq.getMissingPositions [2#64, 1#64] =
    ((F5.proofPositions [(0, 2), (0, 1)]).filter (fun q => !mq.hasNode (encP mq.totalRows.toNat q))).map
      (encP F5.rows) := by
  have := (map_getMissingPositions_exact (mq_sinv.inv crT.toNZ) (by decide) canon21).1
  rw [tgts21] at this
  exact this

theorem trueAt5 : TrueAt F5 (apiHash F5) := trueAt_apiHash (by decide)
theorem api0 : apiHash F5 0#64 = T.leaf 0 := by decide +kernel

example : TrueAt F5 (apiHash F5) ∧ apiHash F5 0#64 = T.leaf 0 := ⟨trueAt5, api0⟩

example : ∃ m', MapPollard.verifyPartialProof [2#64, 1#64] [T.leaf 2, .leaf 1] [T.leaf 0] true mq = (m', .ok ()) ∧
    SInv m' F5 ∧ m'.hasCached (.leaf 1) = true ∧
    m'.prove [T.leaf 2, .leaf 1] = .ok ([2#64, 1#64], [T.leaf 0, .leaf 3]) := by
  obtain ⟨m', h1, _, h3, _, h5, _, h7⟩ := map_verifyPartialProof_complete crT.toNZ mq_sinv (by decide) canon21
    (apiHash F5) trueAt5 [] true
  rw [tgts21, missing21, List.map_cons, api0] at h1
  have h8 := (h7 rfl).2
  rw [tgts21] at h8
  exact ⟨m', h1, h3, (h5 _).2 (Or.inr ⟨rfl, by simp⟩), h8⟩

example : MapPollard.verifyPartialProof [2#64, 1#64] [T.leaf 2, .leaf 1] [T.leaf 0] false mq = (mq, .ok ()) := by
  obtain ⟨m', h1, _, _, _, _, h6, _⟩ := map_verifyPartialProof_complete crT.toNZ mq_sinv (by decide) canon21
    (apiHash F5) trueAt5 [] false
  rw [tgts21, missing21, List.map_cons, api0, h6 rfl] at h1
  exact h1

example : MapPollard.verifyPartialProof [2#64, 1#64] [T.leaf 2, .leaf 1] [] true mq = (mq, .error .err) := by
  have := map_verifyPartialProof_short crT.toNZ (mq_sinv.inv crT.toNZ) F5_hyg (by decide) canon21 []
    (by rw [tgts21, missing21]; decide) true
  rw [tgts21] at this
  exact this

example (x : T) (hx : x ≠ T.leaf 0) (junk : List T) (remember : Bool) :
    MapPollard.verifyPartialProof [2#64, 1#64] [T.leaf 2, .leaf 1] (x :: junk) remember mq = (mq, .error .err) := by
  have := map_verifyPartialProof_wrong_hash_rejected crT (mq_sinv.inv crT.toNZ) F5_hyg (by decide) canon21
    (x :: junk) remember (apiHash F5) trueAt5 0 (by rw [tgts21, missing21]; decide)
    (by
      rw [tgts21, missing21]
      simp only [List.getElem?_cons_zero, Option.map_some, api0]
      intro h
      exact hx (Option.some.inj h))
  rw [tgts21] at this
  exact this

example (supplied : List T) (remember : Bool)
    (h : (MapPollard.verifyPartialProof [2#64, 1#64] [T.leaf 2, .leaf 1] supplied remember mq).2 = .ok ()) :
    supplied.take 1 = [T.leaf 0] := by
  rw [← tgts21] at h
  have := map_verifyPartialProof_accepts_only_true crT (mq_sinv.inv crT.toNZ) F5_hyg (by decide) canon21
    supplied remember h (apiHash F5) trueAt5
  rw [tgts21, missing21, List.map_cons, api0] at this
  exact this

def isOkU : Except Fail Unit → Bool
  | .ok _ => true
  | .error _ => false

def isErrU : Except Fail Unit → Bool
  | .error .err => true
  | _ => false

def proveIs (r : Except Fail (List U64 × List T)) (x : List U64 × List T) : Bool :=
  match r with
  | .ok y => decide (y = x)
  | .error _ => false

def proveErr (r : Except Fail (List U64 × List T)) : Bool :=
  match r with
  | .error .err => true
  | _ => false

example : proveErr (mq.prove [T.leaf 2, .leaf 1]) = true ∧ mq.getHash 0#64 = T.z ∧
    isOkU (MapPollard.verifyPartialProof [2#64, 1#64] [T.leaf 2, .leaf 1] [T.leaf 0] true mq).2 = true ∧
    (MapPollard.verifyPartialProof [2#64, 1#64] [T.leaf 2, .leaf 1] [T.leaf 0] true mq).1.getMissingPositions
      [2#64, 1#64] = [] ∧
    proveIs ((MapPollard.verifyPartialProof [2#64, 1#64] [T.leaf 2, .leaf 1] [T.leaf 0] true mq).1.prove
      [T.leaf 2, .leaf 1]) ([2#64, 1#64], [T.leaf 0, .leaf 3]) = true ∧
    (MapPollard.verifyPartialProof [2#64, 1#64] [T.leaf 2, .leaf 1] [T.leaf 0] true mq).1.nodes.length = 8 ∧
    isErrU (MapPollard.verifyPartialProof [2#64, 1#64] [T.leaf 2, .leaf 1] [T.leaf 7] true mq).2 = true := by
  decide +kernel

/-- **"not stored" is not "not computable"**: in `mq`, API position 9 (the node above leaves 2 and 3,
removed by `Prune` as computable) is reported as missing for leaf 0 although both its children,
positions 2 and 3, are stored — `GetMissingPositions` (and the merge loop of `VerifyPartialProof`)
look at `Nodes` only.  The Go code answers `[1 9]` on this state as well.  Exactness therefore reads
"canonical proof positions that are not STORED" (`map_getMissingPositions_exact`), which for this entry point is what
"cannot be taken from what is held" means; positions computable from stored children are still asked for. -/
theorem missing_reports_computable : mq.getMissingPositions [0#64] = [1#64, 9#64] ∧
    mq.hasNode (encP 63 (0, 2)) = true ∧ mq.hasNode (encP 63 (0, 3)) = true ∧
    encP F5.rows (1, 1) = 9#64 ∧ mq.hasNode (encP 63 (1, 1)) = false := by decide +kernel

/-- **why "`[]` iff `Prove` succeeds" would be false**: leaf 3 is live and not cached; nothing is
missing for it (its proof, leaf 2 and the node above leaves 0 and 1, is stored for the cached leaf 2)
and `VerifyPartialProof` accepts it with no supplied hash, but `Prove` refuses every hash that is not
cached.  The correct reading is `map_getMissingPositions_nil_iff_self` (verification by itself) plus
`map_getMissingPositions_cached` (cached ⟹ `[]` and `Prove` = canonical proof). -/
theorem nil_but_not_cached : mq.getMissingPositions [3#64] = [] ∧ mq.hasCached (.leaf 3) = false ∧
    proveErr (mq.prove [T.leaf 3]) = true ∧
    isOkU (MapPollard.verifyPartialProof [3#64] [T.leaf 3] [] false mq).2 = true := by decide +kernel

/-- a full forest (`mf5` of `Props/C09c.lean`): nothing missing, the bare call succeeds -/
example : Props.C09c.Example.mf5.getMissingPositions (([(0, 2), (0, 1)] : List Pos).map (encP F5.rows)) = [] ∧
    ∃ m', MapPollard.verifyPartialProof (([(0, 2), (0, 1)] : List Pos).map (encP F5.rows)) [T.leaf 2, .leaf 1] []
      true Props.C09c.Example.mf5 = (m', .ok ()) := by
  obtain ⟨h0, m', h1, _⟩ := map_verifyPartialProof_complete_full crT.toNZ Props.C09c.Example.mf5_finv
    (by decide) canon21 [] true
  exact ⟨h0, m', h1⟩

end Example

end UtreexoVerif.Props.C14Map
