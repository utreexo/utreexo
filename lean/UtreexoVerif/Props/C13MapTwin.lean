/-
  C13 for the map forest, behavioural form: two instances that satisfy the strong invariant for the same forest (and, if
  partial, cache the same leaves) answer every query alike and stay twins under every honest call (`twin_queries`,
  `twin_step`, `lockstep`); an instance and its restored copy are twins.  Against the bisimulation of `Props/C13Map.lean`:
  only honest runs are covered, but twins need not store the same optional nodes.
-/
import UtreexoVerif.Props.C13MapInv

namespace UtreexoVerif.Props.C13Map
open Model Model.Serial Spec Proofs MapAL MapInv MapSInv MapFull Hasher
open Proofs.SerialMapInv

section Behaviour
variable {H : Type} [DecidableEq H] [Hasher H]

/-- two partial instances that track the same forest and cache the same leaves (e.g. an instance
and its restored copy, and — `twin_step` — whatever becomes of them under the same honest calls) -/
structure Twin (m m' : MapPollard H) (F : Forest H) : Prop where
  left : SInv m F
  right : SInv m' F
  cache : ∀ y, m.hasCached y = true ↔ m'.hasCached y = true

theorem twin_restore {m m0 : MapPollard H} {F : Forest H} {st : MapSt H} (s : SInv m F) (w : Walk m st)
    (hfull : m0.full = false) : Twin m (restore m0 st) F :=
  ⟨s, sinv_restore s w hfull, fun y => by rw [(restore_equiv w (hfull.trans s.full.symm)).hasCached]⟩

/-- under the invariant a REQUIRED position (a root, a cached leaf, a sibling along the path of a
cached leaf) reads as the true hash -/
theorem getHash_required {m : MapPollard H} {F : Forest H} (inv : Inv m F) {q : Pos} (hq : Valid F.rows q)
    (hr : Required F (fun x => m.hasCached x = true) q) {h : H} (hn : F.nodeAt q = some h) :
    m.getHash (encP F.rows q) = h := by
  unfold MapPollard.getHash
  simp only [toStorage inv hq]
  unfold MapPollard.getNodeD
  have hst := inv.has_needed q hr
  rw [hasNode_eq] at hst
  cases hg : m.getNode (encP m.totalRows.toNat q) with
  | none => rw [hg] at hst; cases hst
  | some l =>
    have := getNode_true inv (hq.mono inv.rows_le) hg
    rw [hn] at this
    simp only [Option.getD_some]
    exact (Option.some.inj this).symm

/-- **twins answer every query alike**: `GetRoots` (the specification's roots), `GetLeafPosition` of
EVERY hash, `Prove` of every duplicate-free request (the canonical proof, or the same refusal),
`GetHash` at every required position (the true hash; elsewhere each answers the true hash or the
all-zero "not stored"), `NumLeaves`.  All of these are functions of `F` and of the cached set
(`C09.getLeafPosition_eq`, `C09.prove_eq`). -/
theorem twin_queries (nz : NZ H) {m m' : MapPollard H} {F : Forest H} (t : Twin m m' F) :
    (m.roots = F.roots ∧ m'.roots = F.roots) ∧
    (∀ x, m.getLeafPosition x = m'.getLeafPosition x) ∧
    (∀ L, L.Nodup → m.prove L = m'.prove L) ∧
    (∀ q h, Valid F.rows q → Required F (fun x => m.hasCached x = true) q → F.nodeAt q = some h →
      m.getHash (encP F.rows q) = h ∧ m'.getHash (encP F.rows q) = h) ∧
    (∀ q, Valid F.rows q →
      (m.getHash (encP F.rows q) = zero ∨ F.nodeAt q = some (m.getHash (encP F.rows q))) ∧
      (m'.getHash (encP F.rows q) = zero ∨ F.nodeAt q = some (m'.getHash (encP F.rows q)))) ∧
    m.numLeaves = m'.numLeaves := by
  have inv := t.left.inv nz
  have inv' := t.right.inv nz
  have hc : m.hasCached = m'.hasCached := funext fun y => Bool.eq_iff_iff.2 (t.cache y)
  exact ⟨⟨Props.C09.roots_eq inv, Props.C09.roots_eq inv'⟩,
    fun x => by rw [Props.C09.getLeafPosition_eq inv, Props.C09.getLeafPosition_eq inv', hc],
    fun L hnd => by rw [Props.C09.prove_eq inv hnd, Props.C09.prove_eq inv' hnd, hc],
    fun q h hq hr hn => ⟨getHash_required inv hq hr hn, getHash_required inv' hq (hc ▸ hr) hn⟩,
    fun q hq => ⟨Props.C09.getHash_true inv q hq, Props.C09.getHash_true inv' q hq⟩,
    by rw [inv.n_eq, inv'.n_eq]⟩

/-- an honest call of the API (the arguments a caller who follows the protocol passes) -/
inductive Op (H : Type) where
  /-- `Modify(adds, dels, proof)`: `ts`, `ps` = canonical proof of `dels`, `tgts` = its targets in any order -/
  | modify (adds : List (Leaf H)) (dels : List H) (ts : List Pos) (ps : List H) (tgts : List U64)
  | verify (L : List H) (ts : List Pos) (ps : List H) (remember : Bool)
  | ingest (L : List H) (ts : List Pos) (ps : List H)
  | prune (L : List H)
  /-- `Undo` of the newest block, with that block's data -/
  | undo

/-- the call is honest in the state `(m, F, st)` (`st` = the caller's undo history) -/
def Op.Honest (m : MapPollard H) (F : Forest H) (st : List (BD H)) : Op H → Prop
  | .modify adds dels ts ps tgts =>
    (∀ x ∈ dels, m.hasCached x = true) ∧ dels.Nodup ∧ F.canon dels = some (ts, ps) ∧
    (ts.map (encP F.rows)).Perm tgts ∧
    (∀ a ∈ adds, a.hash ≠ zero ∧ a.hash ∉ F.liveLeaves ∧ ∀ u v : H, a.hash ≠ ph u v) ∧
    (adds.map (·.hash)).Nodup ∧ F.numLeaves + adds.length < 2 ^ 63
  | .verify L ts ps _ => L.Nodup ∧ F.canon L = some (ts, ps)
  | .ingest L ts ps => L.Nodup ∧ F.canon L = some (ts, ps)
  | .prune _ => True
  | .undo => st ≠ []

def Op.run (nonZero : H) (F : Forest H) (st : List (BD H)) : Op H → MPM H Unit
  | .modify adds dels _ _ tgts => MapPollard.modify adds dels tgts
  | .verify L ts ps remember => MapPollard.verifyM L (ts.map (encP F.rows)) ps remember
  | .ingest L ts ps => MapPollard.ingest L (ts.map (encP F.rows)) ps
  | .prune L => MapPollard.prune L
  | .undo =>
    match st with
    | b :: _ => MapPollard.undo nonZero (BitVec.ofNat 64 b.numAdds) (b.targets.map (encP b.prev.rows)) b.proof
        b.dels b.prev.roots
    | [] => fun m => (m, .ok ())

def Op.after (F : Forest H) (st : List (BD H)) : Op H → Forest H × List (BD H)
  | .modify adds dels ts ps _ => (F.modify dels (adds.map (·.hash)), ⟨F, adds.length, dels, ts, ps⟩ :: st)
  | .undo =>
    match st with
    | b :: st' => (b.prev, st')
    | [] => (F, [])
  | _ => (F, st)

/-- the honesty of a call depends on the instance through its cache only -/
theorem Op.Honest.of_cache {m m' : MapPollard H} {F : Forest H} {st : List (BD H)}
    (h : ∀ y, m.hasCached y = true → m'.hasCached y = true) {op : Op H} (ho : op.Honest m F st) : op.Honest m' F st := by
  cases op with
  | modify adds dels ts ps tgts => exact ⟨fun x hx => h x (ho.1 x hx), ho.2⟩
  | verify L ts ps remember => exact ho
  | ingest L ts ps => exact ho
  | prune L => exact ho
  | undo => exact ho

/-- **one honest call on a state satisfying the storage invariant**: it succeeds, the invariant holds for the forest after
the call, and the new cache is a function `Φ` of the old cache that does not depend on the instance -/
theorem xinv_step (nz : NZ H) {nonZero : H} (hnz : nonZero ≠ (zero : H)) (fl : Bool) {F : Forest H}
    {st : List (BD H)} (hst : C09b.StackOK F st) (op : Op H) :
    ∃ Φ : (H → Prop) → H → Prop, (∀ c c' : H → Prop, (∀ y, c y ↔ c' y) → ∀ y, Φ c y ↔ Φ c' y) ∧
      ∀ {m : MapPollard H}, MapXInv.XInv fl m F → op.Honest m F st →
        ∃ m1, op.run nonZero F st m = (m1, .ok ()) ∧ MapXInv.XInv fl m1 (op.after F st).1 ∧
          C09b.StackOK (op.after F st).1 (op.after F st).2 ∧
          ∀ y, m1.hasCached y = true ↔ Φ (fun x => m.hasCached x = true) y := by
  cases op with
  | modify adds dels ts ps tgts =>
    refine ⟨fun c y => (c y ∧ y ∉ dels) ∨ ∃ a ∈ adds, (fl = true ∨ a.remember = true) ∧ a.hash = y,
      fun c c' h y => by dsimp only; rw [h y], ?_⟩
    intro m s ho
    obtain ⟨hca, hnd, hcn, hp, hfr, hndA, hn⟩ := ho
    obtain ⟨m1, h1, s1, c1⟩ := C09b.xinv_modify_any_order nz s adds dels ts ps hca hnd hcn hp hfr hndA hn
    exact ⟨m1, h1, s1, C09b.stack_push s.hyg hst adds hnd hcn, c1⟩
  | verify L ts ps remember =>
    refine ⟨fun c y => c y ∨ (remember = true ∧ y ∈ L), fun c c' h y => by dsimp only; rw [h y], ?_⟩
    intro m s ho
    obtain ⟨m1, h1, s1, c1⟩ := C09b.xinv_verify nz s L ts ps remember ho.1 ho.2
    exact ⟨m1, h1, s1, hst, c1⟩
  | ingest L ts ps =>
    refine ⟨fun c y => c y ∨ y ∈ L, fun c c' h y => by dsimp only; rw [h y], ?_⟩
    intro m s ho
    obtain ⟨m1, h1, s1, c1⟩ := C09b.xinv_ingest nz s L ts ps ho.1 ho.2
    exact ⟨m1, h1, s1, hst, c1⟩
  | prune L =>
    refine ⟨fun c y => c y ∧ (fl = true ∨ y ∉ L), fun c c' h y => by dsimp only; rw [h y], ?_⟩
    intro m s _
    obtain ⟨m1, h1, s1, c1⟩ := C09b.xinv_prune nz s L
    exact ⟨m1, h1, s1, hst, c1⟩
  | undo =>
    cases st with
    | nil => exact ⟨fun c => c, fun _ _ h => h, fun _ ho => absurd rfl ho⟩
    | cons b st' =>
      obtain ⟨⟨adds, hlen, hF⟩, hy, hnd, hcn, hst'⟩ := hst
      subst hF
      refine ⟨fun c y => (c y ∧ y ∉ adds) ∨ y ∈ b.dels, fun c c' h y => by dsimp only; rw [h y], ?_⟩
      intro m s _
      obtain ⟨m1, h1, s1, c1⟩ := MapUndoAll.xinv_undo nz s hy hnd hcn nonZero hnz
      rw [hlen] at h1
      exact ⟨m1, h1, s1, hst', c1⟩

/-- **one honest call on twins**: it succeeds on BOTH, and the two results are twins again — for
the SAME new forest.  (`Modify`, `Verify`, `Ingest`, `Prune`, `Undo`; the honesty of the call is
judged on the first instance — its cache is the second one's.) -/
theorem twin_step (nz : NZ H) {nonZero : H} (hnz : nonZero ≠ (zero : H)) {m m' : MapPollard H} {F : Forest H}
    {st : List (BD H)} (t : Twin m m' F) (hst : C09b.StackOK F st) (op : Op H) (ho : op.Honest m F st) :
    ∃ m1 m1', op.run nonZero F st m = (m1, .ok ()) ∧ op.run nonZero F st m' = (m1', .ok ()) ∧
      Twin m1 m1' (op.after F st).1 ∧ C09b.StackOK (op.after F st).1 (op.after F st).2 := by
  obtain ⟨Φ, hΦ, step⟩ := xinv_step nz hnz false hst op
  obtain ⟨m1, h1, s1, hst1, c1⟩ := step (MapXInv.xinv_false_iff.2 t.left) ho
  obtain ⟨m1', h1', s1', _, c1'⟩ := step (MapXInv.xinv_false_iff.2 t.right) (ho.of_cache fun y => (t.cache y).1)
  exact ⟨m1, m1', h1, h1', ⟨MapXInv.xinv_false_iff.1 s1, MapXInv.xinv_false_iff.1 s1',
    fun y => by rw [c1, c1']; exact hΦ _ _ t.cache y⟩, hst1⟩

/-- a sequence of calls, each executed on the result of the previous one; `none` as soon as a
call fails -/
def runOps (nonZero : H) : List (Op H) → Forest H → List (BD H) → MapPollard H → Option (MapPollard H)
  | [], _, _, m => some m
  | op :: ops, F, st, m =>
    match op.run nonZero F st m with
    | (m1, .ok ()) => runOps nonZero ops (op.after F st).1 (op.after F st).2 m1
    | (_, .error _) => none

def afterOps : List (Op H) → Forest H → List (BD H) → Forest H × List (BD H)
  | [], F, st => (F, st)
  | op :: ops, F, st => afterOps ops (op.after F st).1 (op.after F st).2

def HonestRun (nonZero : H) : List (Op H) → Forest H → List (BD H) → MapPollard H → Prop
  | [], _, _, _ => True
  | op :: ops, F, st, m => op.Honest m F st ∧
      ∀ m1, op.run nonZero F st m = (m1, .ok ()) → HonestRun nonZero ops (op.after F st).1 (op.after F st).2 m1

/-- a relation `T` between two instances tracking the same forest that one honest call keeps
(`twin_step`, `twinF_step`) is kept by every honest run, which succeeds on both, call by call -/
theorem lockstep {T : MapPollard H → MapPollard H → Forest H → Prop} {nonZero : H}
    (step : ∀ {m m' : MapPollard H} {F : Forest H} {st : List (BD H)}, T m m' F → C09b.StackOK F st →
      ∀ op : Op H, op.Honest m F st →
      ∃ m1 m1', op.run nonZero F st m = (m1, .ok ()) ∧ op.run nonZero F st m' = (m1', .ok ()) ∧
        T m1 m1' (op.after F st).1 ∧ C09b.StackOK (op.after F st).1 (op.after F st).2) :
    ∀ (ops : List (Op H)) {m m' : MapPollard H} {F : Forest H} {st : List (BD H)}, T m m' F → C09b.StackOK F st →
      HonestRun nonZero ops F st m →
      ∃ mk mk', runOps nonZero ops F st m = some mk ∧ runOps nonZero ops F st m' = some mk' ∧
        T mk mk' (afterOps ops F st).1 ∧ C09b.StackOK (afterOps ops F st).1 (afterOps ops F st).2
  | [], m, m', _, _, t, hst, _ => ⟨m, m', rfl, rfl, t, hst⟩
  | op :: ops, _, _, _, _, t, hst, ⟨ho, hrest⟩ => by
    obtain ⟨m1, m1', h1, h1', t1, hst1⟩ := step t hst op ho
    obtain ⟨mk, mk', hk, hk', tk, hstk⟩ := lockstep step ops t1 hst1 (hrest m1 h1)
    refine ⟨mk, mk', ?_, ?_, tk, hstk⟩
    · simp only [runOps, h1]; exact hk
    · simp only [runOps, h1']; exact hk'

/-- **C13 for the partial map forest, behavioural form.**  Let `(m, F, st)` be reachable by honest
operations and serialisation steps, and let `m'` be `m` written (maps walked in any order) and
restored into a fresh partial receiver.  Then
  (1) `m'` is reachable for the same forest and history, and `m`, `m'` are twins;
  (2) they answer every query alike (`twin_queries`);
  (3) EVERY honest run `ops` from there (blocks, `Verify(remember)`, `Ingest`, `Prune`, `Undo` — first
      of the blocks applied before the restore, then of later ones) succeeds on both, call by call,
      and the two final states are twins for the same final forest — so (2) holds again after every
      call. -/
theorem map_restored_behaves_identically (nz : NZ H) (nonZero : H) (hnz : nonZero ≠ (zero : H))
    {m : MapPollard H} {F : Forest H} {st : List (BD H)} (hr : ReachSer nonZero m F st)
    (w : MapSt H) (hw : Walk m w) (m0 : MapPollard H) (hfull : m0.full = false) :
    let m' := restore m0 w
    ReachSer nonZero m' F st ∧ Twin m m' F ∧
    (∀ ops, HonestRun nonZero ops F st m →
      ∃ mk mk', runOps nonZero ops F st m = some mk ∧ runOps nonZero ops F st m' = some mk' ∧
        Twin mk mk' (afterOps ops F st).1 ∧
        (mk.roots = (afterOps ops F st).1.roots ∧ mk'.roots = (afterOps ops F st).1.roots) ∧
        (∀ x, mk.getLeafPosition x = mk'.getLeafPosition x) ∧
        (∀ L, L.Nodup → mk.prove L = mk'.prove L)) := by
  intro m'
  obtain ⟨s, hst⟩ := ReachSer.stack nz hnz hr
  have t := twin_restore s hw hfull
  refine ⟨.restore w m0 hr hw hfull, t, ?_⟩
  intro ops hrun
  obtain ⟨mk, mk', hk, hk', tk, _⟩ := lockstep (twin_step nz hnz) ops t hst hrun
  obtain ⟨q1, q2, q3, _⟩ := twin_queries nz tk
  exact ⟨mk, mk', hk, hk', tk, q1, q2, q3⟩

/-- two full instances tracking the same forest (everything a full forest stores and answers is a
function of the forest) -/
structure TwinF (m m' : MapPollard H) (F : Forest H) : Prop where
  left : FInv m F
  right : FInv m' F

theorem twinF_restore {m m0 : MapPollard H} {F : Forest H} {st : MapSt H} (s : FInv m F) (w : Walk m st)
    (hfull : m0.full = true) : TwinF m (restore m0 st) F := ⟨s, finv_restore s w hfull⟩

/-- **full twins answer EVERY query identically**: roots, `GetHash` at every position,
`GetLeafPosition` of every hash, `Prove` of every duplicate-free request -/
theorem twinF_queries (nz : NZ H) {m m' : MapPollard H} {F : Forest H} (t : TwinF m m' F) :
    m.roots = m'.roots ∧
    (∀ q, Valid F.rows q → m.getHash (encP F.rows q) = m'.getHash (encP F.rows q)) ∧
    (∀ x, m.getLeafPosition x = m'.getLeafPosition x) ∧
    (∀ L, L.Nodup → m.prove L = m'.prove L) ∧
    m.numLeaves = m'.numLeaves := by
  obtain ⟨s, s'⟩ := t
  refine ⟨by rw [C09c.roots_full nz s, C09c.roots_full nz s'],
    fun q hq => by rw [C09c.getHash_full nz s q hq, C09c.getHash_full nz s' q hq],
    fun x => by rw [C09c.getLeafPosition_full nz s, C09c.getLeafPosition_full nz s'], ?_,
    by rw [s.n_eq, s'.n_eq]⟩
  intro L hnd
  by_cases hall : ∀ x ∈ L, x ∈ F.liveLeaves
  · obtain ⟨tg, hs, hc, hp⟩ := C09c.prove_full nz s L hall hnd
    obtain ⟨tg', hs', hc', hp'⟩ := C09c.prove_full nz s' L hall hnd
    rw [hc] at hc'; cases hc'
    rw [hp, hp']
  · obtain ⟨x, h⟩ := Classical.not_forall.mp hall
    obtain ⟨hx, hdead⟩ := Classical.not_imp.mp h
    rw [C09c.prove_full_dead nz s L hx hdead, C09c.prove_full_dead nz s' L hx hdead]

/-- one honest call on full twins (the cached-premise of `Op.Honest` is not needed: every live leaf
of a full forest is cached) -/
theorem twinF_step (nz : NZ H) {nonZero : H} (hnz : nonZero ≠ (zero : H)) {m m' : MapPollard H} {F : Forest H}
    {st : List (BD H)} (t : TwinF m m' F) (hst : C09b.StackOK F st) (op : Op H) (ho : op.Honest m F st) :
    ∃ m1 m1', op.run nonZero F st m = (m1, .ok ()) ∧ op.run nonZero F st m' = (m1', .ok ()) ∧
      TwinF m1 m1' (op.after F st).1 ∧ C09b.StackOK (op.after F st).1 (op.after F st).2 := by
  obtain ⟨_, _, step⟩ := xinv_step nz hnz true hst op
  obtain ⟨m1, h1, s1, hst1, _⟩ := step ((MapXInv.xinv_true_iff nz).2 t.left) ho
  obtain ⟨m1', h1', s1', _, _⟩ := step ((MapXInv.xinv_true_iff nz).2 t.right)
    (ho.of_cache fun y hy => (t.right.hasCached_iff y).2 ((t.left.hasCached_iff y).1 hy))
  exact ⟨m1, m1', h1, h1', ⟨(MapXInv.xinv_true_iff nz).1 s1, (MapXInv.xinv_true_iff nz).1 s1'⟩, hst1⟩

theorem lockstepF (nz : NZ H) {nonZero : H} (hnz : nonZero ≠ (zero : H)) (ops : List (Op H)) :
    ∀ {m m' : MapPollard H} {F : Forest H} {st : List (BD H)}, TwinF m m' F → C09b.StackOK F st →
      HonestRun nonZero ops F st m →
      ∃ mk mk', runOps nonZero ops F st m = some mk ∧ runOps nonZero ops F st m' = some mk' ∧
        TwinF mk mk' (afterOps ops F st).1 ∧ C09b.StackOK (afterOps ops F st).1 (afterOps ops F st).2 :=
  lockstep (twinF_step nz hnz) ops

/-- **C13 for the FULL map forest, behavioural form**: the restored copy (receiver with
`Full = true`) of a reachable full instance is reachable for the same forest and history; every
honest run succeeds on both, and after it ALL queries agree (they are the specification's). -/
theorem map_restored_behaves_identically_full (nz : NZ H) (nonZero : H) (hnz : nonZero ≠ (zero : H))
    {m : MapPollard H} {F : Forest H} {st : List (BD H)} (hr : ReachFullSer nonZero m F st)
    (w : MapSt H) (hw : Walk m w) (m0 : MapPollard H) (hfull : m0.full = true) :
    let m' := restore m0 w
    ReachFullSer nonZero m' F st ∧ TwinF m m' F ∧
    (∀ ops, HonestRun nonZero ops F st m →
      ∃ mk mk', runOps nonZero ops F st m = some mk ∧ runOps nonZero ops F st m' = some mk' ∧
        TwinF mk mk' (afterOps ops F st).1 ∧
        mk.roots = mk'.roots ∧
        (∀ q, Valid (afterOps ops F st).1.rows q →
          mk.getHash (encP (afterOps ops F st).1.rows q) = mk'.getHash (encP (afterOps ops F st).1.rows q)) ∧
        (∀ x, mk.getLeafPosition x = mk'.getLeafPosition x) ∧
        (∀ L, L.Nodup → mk.prove L = mk'.prove L)) := by
  intro m'
  obtain ⟨s, hst⟩ := ReachFullSer.stack nz hnz hr
  have t := twinF_restore s hw hfull
  refine ⟨.restore w m0 hr hw hfull, t, ?_⟩
  intro ops hrun
  obtain ⟨mk, mk', hk, hk', tk, _⟩ := lockstepF nz hnz ops t hst hrun
  obtain ⟨q1, q2, q3, q4, _⟩ := twinF_queries nz tk
  exact ⟨mk, mk', hk, hk', tk, q1, q2, q3, q4⟩

end Behaviour

end UtreexoVerif.Props.C13Map
