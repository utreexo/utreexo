/-
  C11 (NewDel) — the deletion half of the update data: what `Stump.del` returns.
  (The addition half — `NewAdd*`, `ToDestroy` — is `Props/C11.lean`.)

  Specification: for every pre-block node on a path from a target to its root, its pre-block
  position and the hash its subtree has after the deletions (zero if nothing survives), ascending
  by position.  Theorem: `Stump.del` fed the canonical proof returns exactly this list
  (`stump_newDel`), and leaves the stump with the roots of `F.delLeaves L`.

  Hypotheses: `F.numLeaves ≤ 2^63`; `ph a b ≠ zero`; live leaves non-zero and pairwise different
  (needed: `delLeaves` deletes by leaf identity, the proof covers one position per leaf);
  requested leaves pairwise different.
-/
import UtreexoVerif.Proofs.CalcComplete
import UtreexoVerif.Props.C02

namespace UtreexoVerif.Props.C11del
open Spec Model Hasher
open UtreexoVerif.Proofs UtreexoVerif.Proofs.SpecNodes UtreexoVerif.Proofs.CalcGeo
open UtreexoVerif.Proofs.CalcComplete UtreexoVerif.Proofs.SpecPlan UtreexoVerif.Proofs.SpecSubs

section
variable {H : Type} [DecidableEq H] [Hasher H]

/-- the pre-block nodes on the paths from the targets to their roots, by row then offset
(the set `P` of `Spec.Forest.proofPositions`) -/
def pathNodes (F : Forest H) (targets : List Pos) : List Pos :=
  Forest.sortDedup (targets.flatMap (Forest.pathUp F.numLeaves (F.rows + 1)))

/-- the collapsed subtree of `F` at a position (`none` if there is no node) -/
def subtreeAt (F : Forest H) (p : Pos) : Option (CTree H) := subAt F p

/-- the hash the subtree at `p` has after the leaves `L` are deleted; zero if nothing survives -/
def hashAfter (F : Forest H) (L : List H) (p : Pos) : H :=
  match subtreeAt F p with
  | some t => (match delT L t with
    | some t' => t'.hash
    | none => zero)
  | none => zero

/-- **specification of `NewDelPos`/`NewDelHash`** -/
def newDelSpec (F : Forest H) (L : List H) (targets : List Pos) : HP H :=
  (pathNodes F targets).map (fun p => (encU F.rows p.1 p.2, hashAfter F L p))

theorem hashAfter_eq_valAt (F : Forest H) (L : List H) (p : Pos) :
    hashAfter F L p = valAt (dhash L) F p := by
  unfold hashAfter subtreeAt valAt dhash hashO
  cases subAt F p with
  | none => rfl
  | some t => cases delT L t <;> rfl

end

section
variable (H : Type) [DecidableEq H] [Hasher H]

/-- **C01.3 / C11 (NewDel), full statement**: `Stump.del` on the canonical proof (with arbitrary
hashes appended) ends with the roots of `F.delLeaves L` and returns `newDelSpec`. -/
def stump_del_statement : Prop :=
  ∀ (F : Forest H), F.numLeaves ≤ 2 ^ 63 → (∀ a b : H, ph a b ≠ (zero : H)) →
    (∀ l ∈ F.liveLeaves, l ≠ (zero : H)) → F.liveLeaves.Nodup →
  ∀ (L : List H) (targets : List Pos) (proofHashes junk : List H), L.Nodup →
    F.canon L = some (targets, proofHashes) →
    Stump.delSt ⟨F.roots, BitVec.ofNat 64 F.numLeaves⟩ L
      (targets.map (fun p => encU F.rows p.1 p.2)) (proofHashes ++ junk) =
      (⟨(F.delLeaves L).roots, BitVec.ofNat 64 F.numLeaves⟩, .ok (newDelSpec F L targets))

/-- the second pass alone: `calculateHashes` with zeroed target hashes returns, as root
candidates, the post-deletion roots of the touched trees (lowest first; zero for a tree without
survivors) -/
def del_calc_statement : Prop :=
  ∀ (F : Forest H), F.numLeaves ≤ 2 ^ 63 → (∀ a b : H, ph a b ≠ (zero : H)) →
    (∀ l ∈ F.liveLeaves, l ≠ (zero : H)) → F.liveLeaves.Nodup →
  ∀ (L : List H) (targets : List Pos) (proofHashes junk : List H), L.Nodup →
    F.canon L = some (targets, proofHashes) →
    ∃ r : CalcResult H,
      calculateHashes (BitVec.ofNat 64 F.numLeaves) none
        (targets.map (fun p => encU F.rows p.1 p.2)) (proofHashes ++ junk) = .ok r ∧
      r.roots = (touchedRows F.numLeaves targets).map (treeRoot (F.delLeaves L)) ∧
      r.rootRows = (touchedRows F.numLeaves targets).map H8 ∧
      r.nodes = newDelSpec F L targets

end

section
variable {H : Type} [DecidableEq H] [Hasher H]

theorem newDelSpec_eq (F : Forest H) (L : List H) (targets : List Pos) :
    newDelSpec F L targets =
      (pathSet F targets).map (fun p => (E F.rows p, valAt (dhash L) F p)) := by
  unfold newDelSpec
  apply List.map_congr_left
  intro p _
  rw [hashAfter_eq_valAt]
  rfl

/-- **`Stump.del` returns the specified `NewDel` and refines `delLeaves`.** -/
theorem stump_newDel : stump_del_statement H := by
  intro F hn hnz hlive hnd L targets hashes junk hL hc
  rw [newDelSpec_eq]
  exact delSt_complete hn hnz hlive hnd hL hc junk

theorem del_calc_roots : del_calc_statement H := by
  intro F hn hnz hlive hnd L targets hashes junk hL hc
  obtain ⟨r, h1, h2, h3, h4⟩ := del_calc hn hnz hlive hnd hL hc junk
  exact ⟨r, h1, h2, h3, by rw [newDelSpec_eq]; exact h4⟩

theorem mem_pathNodes {F : Forest H} {targets : List Pos} {p : Pos} :
    p ∈ pathNodes F targets ↔ ∃ t ∈ targets, p ∈ Forest.pathUp F.numLeaves (F.rows + 1) t :=
  mem_pathSet

/-- every listed position is a node of the pre-block forest -/
theorem pathNodes_are_nodes {F : Forest H} {L : List H} {targets : List Pos} {hashes : List H}
    (hc : F.canon L = some (targets, hashes)) {p : Pos} (hp : p ∈ pathNodes F targets) :
    ∃ t, subtreeAt F p = some t ∧ F.nodeAt p = some t.hash := by
  obtain ⟨h, t, s⟩ := pathSet_sub (canon_targetsOK hc) hp
  exact ⟨t, subAt_of s, s.nodeAt⟩

/-- the positions are listed in strictly ascending order -/
theorem newDelSpec_sorted {F : Forest H} (hn : F.numLeaves ≤ 2 ^ 63) {L : List H}
    {targets : List Pos} {hashes : List H} (hc : F.canon L = some (targets, hashes)) :
    (newDelSpec F L targets).Pairwise (fun a b => a.1 < b.1) := by
  have tok := canon_targetsOK hc
  unfold newDelSpec
  rw [List.pairwise_map]
  apply List.Pairwise.imp_of_mem _ (pathSet_sorted F targets)
  intro a b ha hb hab
  obtain ⟨_, _, sa⟩ := pathSet_sub tok ha
  obtain ⟨_, _, sb⟩ := pathSet_sub tok hb
  exact (encP_lt_iff_or (forestRows_small hn) sa.inF.valid sb.inF.valid).2 hab

/-- the reported hash is zero exactly when every leaf below the node is deleted -/
theorem hashAfter_eq_zero_iff {F : Forest H} (hnz : ∀ a b : H, ph a b ≠ (zero : H))
    (hlive : ∀ l ∈ F.liveLeaves, l ≠ (zero : H)) {L : List H} {h : Nat} {p : Pos} {t : CTree H}
    (s : SubAtT F h p t) : hashAfter F L p = zero ↔ ∀ l ∈ t.leaves, l ∈ L := by
  rw [← delT_eq_none_iff]
  unfold hashAfter subtreeAt
  rw [subAt_of s]
  cases hd : delT L t with
  | none => simp [hd]
  | some t' =>
    simp only [hd, reduceCtorEq, iff_false]
    exact hashO_ne_zero hnz L (fun l hl => hlive l (s.leaves_live l hl)) hd

/-- a node without deleted leaves below it keeps its hash -/
theorem hashAfter_unchanged {F : Forest H} {L : List H} {h : Nat} {p : Pos} {t : CTree H}
    (s : SubAtT F h p t) (hno : ∀ l ∈ t.leaves, l ∉ L) : hashAfter F L p = t.hash := by
  rw [hashAfter_eq_valAt, valAt_of s]
  exact dhash_noleaf L hno

/-- the entry for an internal node is `getNextHash`'s combination of the entries of its two
children (skip a zero operand, otherwise `ph`) -/
theorem hashAfter_node {F : Forest H} (hnz : ∀ a b : H, ph a b ≠ (zero : H))
    (hlive : ∀ l ∈ F.liveLeaves, l ≠ (zero : H)) {L : List H} {h : Nat} {p : Pos} {a b : CTree H}
    (s : SubAtT F h p (.node a b)) :
    hashAfter F L p = comb (hashAfter F L (p.1 - 1, 2 * p.2)) (hashAfter F L (p.1 - 1, 2 * p.2 + 1)) := by
  obtain ⟨_, sa, sb⟩ := s.children
  have g : Good (CTree.node a b) := fun l hl => hlive l (s.leaves_live l hl)
  rw [hashAfter_eq_valAt, hashAfter_eq_valAt, hashAfter_eq_valAt, valAt_of s, valAt_of sa,
    valAt_of sb]
  exact dhash_node hnz L g.left g.right

end

/-! ### non-vacuity

The five-slot forest of `Props/C03b.lean` (slot 1 already dead).  Deleting leaf 2 makes leaf 3
move up to `(1, 1)`; deleting leaves 2 and 3 empties that subtree so leaf 0 becomes the root of
its tree; deleting leaf 4 leaves an empty root (hash zero) on row 0. -/

namespace Example
open C03.Example C03b.Example C02.Example

theorem live_nodup : F.liveLeaves.Nodup := by decide

theorem canonA : F.canon [T.leaf 2] = some ([(0, 2)], [T.leaf 3, .leaf 0]) := by decide +kernel

/-- the hypotheses of `stump_newDel` hold; its conclusion for deleting leaf 2 (with a junk hash
appended to the proof) … -/
theorem delA : Stump.delSt ⟨F.roots, BitVec.ofNat 64 F.numLeaves⟩ [T.leaf 2]
    ([(0, 2)].map (fun p => encU F.rows p.1 p.2)) ([T.leaf 3, .leaf 0] ++ [T.leaf 99]) =
    (⟨(F.delLeaves [T.leaf 2]).roots, BitVec.ofNat 64 F.numLeaves⟩,
      .ok (newDelSpec F [T.leaf 2] [(0, 2)])) :=
  stump_newDel F (Nat.le_of_lt small) cr.nonzero live_nonzero live_nodup [T.leaf 2] _ _
    [T.leaf 99] (by decide) canonA

/-- … read off: positions 2, 9, 12 (the path `(0,2)`, `(1,1)`, `(2,0)`) with hashes zero,
leaf 3 (moved up) and the new root -/
example : newDelSpec F [T.leaf 2] [(0, 2)] =
    [(2#64, T.z), (9#64, T.leaf 3), (12#64, T.node (.leaf 0) (.leaf 3))] := by decide +kernel

example : (F.delLeaves [T.leaf 2]).roots = [T.node (.leaf 0) (.leaf 3), .leaf 4] := by decide +kernel

/-- the model, simply run, agrees -/
example : Stump.delSt ⟨F.roots, 5#64⟩ [T.leaf 2] [2#64] [T.leaf 3, .leaf 0, .leaf 99] =
    (⟨[T.node (.leaf 0) (.leaf 3), .leaf 4], 5#64⟩,
      .ok [(2#64, T.z), (9#64, T.leaf 3), (12#64, T.node (.leaf 0) (.leaf 3))]) := by
  decide +kernel

/-- deleting leaves 3 and 2 (requested in that order) and leaf 4: a subtree and a whole tree
vanish -/
theorem canonB : F.canon [T.leaf 3, .leaf 4, .leaf 2] = some ([(0, 3), (0, 4), (0, 2)], [T.leaf 0]) := by
  decide +kernel

example : Stump.delSt ⟨F.roots, 5#64⟩ [T.leaf 3, .leaf 4, .leaf 2] [3#64, 4#64, 2#64] [T.leaf 0] =
    (⟨(F.delLeaves [T.leaf 3, .leaf 4, .leaf 2]).roots, 5#64⟩,
      .ok (newDelSpec F [T.leaf 3, .leaf 4, .leaf 2] [(0, 3), (0, 4), (0, 2)])) := by
  have := stump_newDel F (Nat.le_of_lt small) cr.nonzero live_nonzero live_nodup _ _ _ [] (by decide) canonB
  rw [List.append_nil] at this
  exact this

example : (F.delLeaves [T.leaf 3, .leaf 4, .leaf 2]).roots = [T.leaf 0, T.z] := by decide +kernel

example : newDelSpec F [T.leaf 3, .leaf 4, .leaf 2] [(0, 3), (0, 4), (0, 2)] =
    [(2#64, T.z), (3#64, T.z), (4#64, T.z), (9#64, T.z), (12#64, T.leaf 0)] := by decide +kernel

/-! An eleven-slot forest (trees on rows 3, 1, 0; slots 1, 4, 5 dead, so leaf 0 sits at `(1,0)`
and leaves 6, 7 at `(1,2)`, `(1,3)`).  The block deletes leaves 9, 3, 10 and 6 — it touches all
three trees, empties the tree on row 0 and collapses two levels of the big tree. -/

def F11 : Forest T := ⟨[some (.leaf 0), none, some (.leaf 2), some (.leaf 3), none, none,
  some (.leaf 6), some (.leaf 7), some (.leaf 8), some (.leaf 9), some (.leaf 10)]⟩

def L11 : List T := [.leaf 9, .leaf 3, .leaf 10, .leaf 6]

theorem canon11 : F11.canon L11 =
    some ([(0, 9), (0, 3), (0, 10), (1, 2)], [T.leaf 2, .leaf 8, .leaf 0, .leaf 7]) := by
  decide +kernel

theorem live11 : ∀ l ∈ F11.liveLeaves, l ≠ (zero : T) := by
  intro l hl
  have : l = .leaf 0 ∨ l = .leaf 2 ∨ l = .leaf 3 ∨ l = .leaf 6 ∨ l = .leaf 7 ∨ l = .leaf 8 ∨
      l = .leaf 9 ∨ l = .leaf 10 := by
    simpa [F11, Forest.liveLeaves] using hl
  rcases this with rfl | rfl | rfl | rfl | rfl | rfl | rfl | rfl <;> (intro h; cases h)

/-- `Verify` accepts and reports all three trees, lowest first -/
example : verify (BitVec.ofNat 64 F11.numLeaves) F11.roots L11 [9#64, 3#64, 10#64, 18#64]
    [T.leaf 2, .leaf 8, .leaf 0, .leaf 7] = .ok [2, 1, 0] :=
  C02.honest_proof_verifies_CR cr.toNZ (by decide) live11 (by decide) canon11

/-- `Stump.del` ends with the roots of the specification and returns the specified `NewDel` -/
theorem del11 : Stump.delSt ⟨F11.roots, 11#64⟩ L11 [9#64, 3#64, 10#64, 18#64]
    [T.leaf 2, .leaf 8, .leaf 0, .leaf 7] =
    (⟨(F11.delLeaves L11).roots, 11#64⟩,
      .ok (newDelSpec F11 L11 [(0, 9), (0, 3), (0, 10), (1, 2)])) := by
  have := stump_newDel F11 (by decide) cr.nonzero live11 (by decide) _ _ _ [] (by decide) canon11
  rw [List.append_nil] at this
  exact this

example : (F11.delLeaves L11).roots =
    [T.node (.node (.leaf 0) (.leaf 2)) (.leaf 7), .leaf 8, T.z] := by decide +kernel

example : newDelSpec F11 L11 [(0, 9), (0, 3), (0, 10), (1, 2)] =
    [(3#64, T.z), (9#64, T.z), (10#64, T.z), (17#64, T.leaf 2), (18#64, T.z), (20#64, T.leaf 8),
     (24#64, T.node (.leaf 0) (.leaf 2)), (25#64, T.leaf 7),
     (28#64, T.node (.node (.leaf 0) (.leaf 2)) (.leaf 7))] := by decide +kernel

end Example

end UtreexoVerif.Props.C11del
