/-
  C08 — undoing a cached proof yields a canonical proof for the previous state.

  THE STATEMENTS OF THIS FILE ARE ABOUT THE CODE BEFORE THE REPAIR OF `Proof.undoAdd` (model
  `proofUndoOld` = `proofUndoAddOld` then `proofUndoDel`): the full statement is false of it (two
  witnesses) and true outside the two defect classes.  The repaired code (`proofUndo`) is proved in
  full in `Props/C08b.lean` (`C08b.C08`).  The file also holds the layer both share, stated for
  any undo function: `expectedUndo`, `proofUndoDel_canonical`, `nodesDistinct_modify`,
  `undo_compose`, the `undone_*` corollaries, `update_then_undo_of`, `client_run_append`,
  `inv_prefix`, `history_undo_last_of`.

  "After a cached proof has been updated for a block and is then undone with that block's data, it
  is a canonical, verifying proof against the pre-block verifier state for exactly those of its
  leaves that already existed before the block.  It never contains a leaf the undone block added,
  never invents a leaf, and - apart from leaves the block itself deleted, which are documented as
  not restored - never loses a leaf that is live both before and after the block."

  Model: `Model/ProofUpdate.lean` (`proofUndoOld` = `proofUndoAddOld` then `proofUndoDel`,
  transliterated from /repo/prove.go `Proof.Undo`).  Specification: `Spec.Forest.canon`.

  The docstrings of this file and of `Props/C08b.lean` speak of two levels: level 1, `undoAdd` inverts
  the addition step (`proofUndoAdd_canonical`); level 2, `undoDel` inverts the deletion movement
  (`proofUndoDel_canonical`); `undo_compose` joins them.
-/
import UtreexoVerif.Proofs.ProofUndoAddFix
import UtreexoVerif.Proofs.ProofUndoDel
import UtreexoVerif.Props.C07

namespace UtreexoVerif.Props.C08
open Spec Spec.Forest Hasher Model
open UtreexoVerif.Proofs
open UtreexoVerif.Proofs.CalcComplete
open UtreexoVerif.Proofs.CalcGeo
open UtreexoVerif.Proofs.AddMove
open UtreexoVerif.Props.C11

section
set_option linter.unusedSectionVars false
variable {H : Type} [DecidableEq H] [Hasher H]

/-- what the client is expected to hold after the undo: its leaves that the block did not add -/
def expectedUndo (C' adds : List H) : List H := C'.filter (fun x => decide (x ∉ adds))

section statement
variable (H : Type) [DecidableEq H] [Hasher H]

/-- **C08, one block, full statement.**  `F`: the accumulator before the block (at most `2^63`
leaves after it; live leaves pairwise distinct, non-zero, not parent hashes); the block deletes the
duplicate-free list `D` with canonical proof `(tgD, hsD)` and adds `adds` (pairwise distinct,
non-zero, not parent hashes, different from every leaf that stays alive); `ud` is the update data
`Stump.Update` returns for the block; the client holds the canonical proof `(tgG, hsG)`, in the
forest after the block, of a duplicate-free list `C'` of live leaves (any order).  Then
`Proof.Undo`, given the block's data, returns without error the canonical proof in `F` of a
permutation `K` of `expectedUndo C' adds`, targets ascending, and `K` as the cached hashes. -/
def C08_statement : Prop :=
  ∀ (nonZero : H) (F : Forest H) (C' D adds : List H) (tgG tgD : List Pos) (hsG hsD : List H)
    (s' : Stump H) (ud : UpdateData H),
    CR H → nonZero ≠ (zero : H) → F.numLeaves + adds.length ≤ 2 ^ 63 → F.liveLeaves.Nodup →
    (∀ x ∈ F.liveLeaves, x ≠ (zero : H) ∧ ∀ a b : H, x ≠ ph a b) →
    (∀ x ∈ adds, x ≠ (zero : H) ∧ ∀ a b : H, x ≠ ph a b) → adds.Nodup →
    (∀ x ∈ adds, x ∈ F.liveLeaves → x ∈ D) →
    D.Nodup → F.canon D = some (tgD, hsD) →
    C'.Nodup → (F.modify D adds).canon C' = some (tgG, hsG) →
    (C01b.stumpOf F).update nonZero D adds (C01.encTargets F.rows tgD) hsD = .ok (s', ud) →
    ∃ K tg hs, K.Perm (expectedUndo C' adds) ∧ F.canon K = some (tg, hs) ∧
      tg.Pairwise Sorted.PLt ∧
      proofUndoOld ⟨tgG.map (E (F.modify D adds).rows), hsG⟩ (BitVec.ofNat 64 adds.length)
          (BitVec.ofNat 64 (F.modify D adds).numLeaves) (C01.encTargets F.rows tgD) D C'
          ud.toDestroy (C01.encTargets F.rows tgD) hsD =
        .ok (⟨tg.map (E F.rows), hs⟩, K)

/-- **C08 outside the two recorded defect classes**: the same statement for blocks whose
additions overwrite no empty root (`ToDestroy = ∅`) and whose pre-block accumulator is not empty -/
def C08_partial_statement : Prop :=
  ∀ (nonZero : H) (F : Forest H) (C' D adds : List H) (tgG tgD : List Pos) (hsG hsD : List H)
    (s' : Stump H) (ud : UpdateData H),
    CR H → nonZero ≠ (zero : H) → F.numLeaves + adds.length ≤ 2 ^ 63 → F.liveLeaves.Nodup →
    (∀ x ∈ F.liveLeaves, x ≠ (zero : H) ∧ ∀ a b : H, x ≠ ph a b) →
    (∀ x ∈ adds, x ≠ (zero : H) ∧ ∀ a b : H, x ≠ ph a b) → adds.Nodup →
    (∀ x ∈ adds, x ∈ F.liveLeaves → x ∈ D) →
    D.Nodup → F.canon D = some (tgD, hsD) →
    C'.Nodup → (F.modify D adds).canon C' = some (tgG, hsG) →
    (C01b.stumpOf F).update nonZero D adds (C01.encTargets F.rows tgD) hsD = .ok (s', ud) →
    ud.toDestroy = [] → F.numLeaves ≠ 0 →
    ∃ K tg hs, K.Perm (expectedUndo C' adds) ∧ F.canon K = some (tg, hs) ∧
      tg.Pairwise Sorted.PLt ∧
      proofUndoOld ⟨tgG.map (E (F.modify D adds).rows), hsG⟩ (BitVec.ofNat 64 adds.length)
          (BitVec.ofNat 64 (F.modify D adds).numLeaves) (C01.encTargets F.rows tgD) D C'
          ud.toDestroy (C01.encTargets F.rows tgD) hsD =
        .ok (⟨tg.map (E F.rows), hs⟩, K)

end statement

/-- **Level 1: `proofUndoAddOld` is the inverse of the addition step** when no empty root is
destroyed and the forest before the additions is not empty (see `Proofs/ProofUndoAddFix.lean`) -/
theorem proofUndoAdd_canonical {F : Forest H} {adds : List H} (nz : NZ H)
    (hN : F.numLeaves + adds.length ≤ 2 ^ 63)
    (hndG : (F.addMany adds).liveLeaves.Nodup)
    (hleaf : ∀ x ∈ (F.addMany adds).liveLeaves, x ≠ (zero : H) ∧ ∀ a b : H, x ≠ ph a b)
    (hL : DestroySpec F.slots adds.length []) (hn0 : F.numLeaves ≠ 0)
    {C' : List H} {tgG : List Pos} {hsG : List H} (hC' : C'.Nodup)
    (hcG : (F.addMany adds).canon C' = some (tgG, hsG)) :
    ∃ K tgK hsK, K.Perm (expectedUndo C' adds) ∧
      F.canon K = some (tgK, hsK) ∧ tgK.Pairwise Sorted.PLt ∧
      proofUndoAddOld ⟨tgG.map (E (F.addMany adds).rows), hsG⟩ (BitVec.ofNat 64 adds.length)
          (BitVec.ofNat 64 (F.addMany adds).numLeaves) C' [] =
        .ok (⟨tgK.map (E F.rows), hsK⟩, K) :=
  ProofUndoAddFix.proofUndoAddOld_canonical hN hndG hL hn0 hC' hcG

/-- **Level 2: `proofUndoDel` is the inverse of the deletion movement** (see
`Proofs/ProofUndoDel.lean`) -/
theorem proofUndoDel_canonical {F : Forest H} (hn : F.numLeaves ≤ 2 ^ 63)
    (hnz : ∀ a b : H, ph a b ≠ (zero : H)) (hlive : ∀ l ∈ F.liveLeaves, l ≠ (zero : H))
    (hnd : F.liveLeaves.Nodup) {D K : List H} {tgD tgK1 : List Pos} {hsD hsK1 : List H}
    (hD : D.Nodup) (hcD : F.canon D = some (tgD, hsD))
    (hcK1 : (F.delLeaves D).canon K = some (tgK1, hsK1)) (hsorted1 : tgK1.Pairwise Sorted.PLt) :
    ∃ K' tg hs, K'.Perm K ∧ F.canon K' = some (tg, hs) ∧ tg.Pairwise Sorted.PLt ∧
      proofUndoDel ⟨tgK1.map (E F.rows), hsK1⟩ (tgD.map (E F.rows)) D K (tgD.map (E F.rows)) hsD
          (BitVec.ofNat 64 F.numLeaves) = .ok (⟨tg.map (E F.rows), hs⟩, K') :=
  ProofUndoDel.proofUndoDel_canonical hn hnz hlive hnd hD hcD hcK1 hsorted1

/-- under `CR` the forest after a valid block has pairwise distinct node hashes -/
theorem nodesDistinct_modify (cr : CR H) {F : Forest H} {D adds : List H}
    (hN : F.numLeaves + adds.length ≤ 2 ^ 63) (hnd : F.liveLeaves.Nodup)
    (hleaf : ∀ x ∈ F.liveLeaves, x ≠ (zero : H) ∧ ∀ a b : H, x ≠ ph a b)
    (hadds : ∀ x ∈ adds, x ≠ (zero : H) ∧ ∀ a b : H, x ≠ ph a b) (haddsnd : adds.Nodup)
    (hnew : ∀ x ∈ adds, x ∈ F.liveLeaves → x ∈ D) : NodesDistinct (F.modify D adds) := by
  obtain ⟨g1, g2⟩ := addMany_delLeaves_ok (dels := D) hnd hleaf hadds haddsnd hnew
  exact nodesDistinct_of_CR cr _ g1 (fun x hx => (g2 x hx).2)

/-- **`Proof.Undo` is `undoAdd`, then `undoDel` on the forest it leads back to**: level 2 applied
to what level 1 returns (`f`: the result of either version of `undoAdd`) -/
theorem undo_compose (nz : NZ H) (F : Forest H) (C' D adds : List H) (tgD : List Pos) (hsD : List H)
    (hN : F.numLeaves + adds.length ≤ 2 ^ 63) (hnd : F.liveLeaves.Nodup)
    (hleaf : ∀ x ∈ F.liveLeaves, x ≠ (zero : H) ∧ ∀ a b : H, x ≠ ph a b)
    (hD : D.Nodup) (hcD : F.canon D = some (tgD, hsD))
    {f : Out (CProof H × List H)}
    (hf : ∃ K1 tgK1 hsK1, K1.Perm (expectedUndo C' adds) ∧
      (F.delLeaves D).canon K1 = some (tgK1, hsK1) ∧ tgK1.Pairwise Sorted.PLt ∧
      f = .ok (⟨tgK1.map (E (F.delLeaves D).rows), hsK1⟩, K1)) :
    ∃ K tg hs, K.Perm (expectedUndo C' adds) ∧ F.canon K = some (tg, hs) ∧
      tg.Pairwise Sorted.PLt ∧
      (do let (p, c) ← f
          proofUndoDel p (tgD.map (E F.rows)) D c (tgD.map (E F.rows)) hsD
            (BitVec.ofNat 64 (F.modify D adds).numLeaves - BitVec.ofNat 64 adds.length)) =
        .ok (⟨tg.map (E F.rows), hs⟩, K) := by
  obtain ⟨K1, tgK1, hsK1, hperm1, hcK1, hsorted1, rfl⟩ := hf
  have hn : F.numLeaves ≤ 2 ^ 63 := by omega
  obtain ⟨K, tg, hs, hperm2, hcK, hsorted, hud⟩ :=
    ProofUndoDel.proofUndoDel_canonical hn nz.nonzero (fun l hl => (hleaf l hl).1) hnd hD hcD hcK1
      hsorted1
  refine ⟨K, tg, hs, hperm2.trans hperm1, hcK, hsorted, ?_⟩
  have hrows : (F.delLeaves D).rows = F.rows := by
    unfold Forest.rows; rw [numLeaves_delLeaves F D]
  have hsub : BitVec.ofNat 64 (F.modify D adds).numLeaves - BitVec.ofNat 64 adds.length =
      BitVec.ofNat 64 F.numLeaves := by
    rw [Spec.numLeaves_modify, BitVec.ofNat_add, BitVec.add_sub_cancel]
  rw [hrows, hsub]
  exact hud

/-- **`Proof.Undo` is canonical outside the two defect classes** (specification form: the
hypothesis on the destroyed roots is `DestroySpec … []`, i.e. no all-zero root of the forest after
the deletions is merged over by the additions) -/
theorem proofUndo_canonical_partial (nz : NZ H) (F : Forest H) (C' D adds : List H)
    (tgG tgD : List Pos) (hsG hsD : List H)
    (hN : F.numLeaves + adds.length ≤ 2 ^ 63) (hnd : F.liveLeaves.Nodup)
    (hleaf : ∀ x ∈ F.liveLeaves, x ≠ (zero : H) ∧ ∀ a b : H, x ≠ ph a b)
    (hadds : ∀ x ∈ adds, x ≠ (zero : H) ∧ ∀ a b : H, x ≠ ph a b) (haddsnd : adds.Nodup)
    (hnew : ∀ x ∈ adds, x ∈ F.liveLeaves → x ∈ D)
    (hD : D.Nodup) (hcD : F.canon D = some (tgD, hsD))
    (hC' : C'.Nodup) (hcG : (F.modify D adds).canon C' = some (tgG, hsG))
    (hL : DestroySpec (F.delLeaves D).slots adds.length []) (hn0 : F.numLeaves ≠ 0) :
    ∃ K tg hs, K.Perm (expectedUndo C' adds) ∧ F.canon K = some (tg, hs) ∧
      tg.Pairwise Sorted.PLt ∧
      proofUndoOld ⟨tgG.map (E (F.modify D adds).rows), hsG⟩ (BitVec.ofNat 64 adds.length)
          (BitVec.ofNat 64 (F.modify D adds).numLeaves) (tgD.map (E F.rows)) D C' []
          (tgD.map (E F.rows)) hsD =
        .ok (⟨tg.map (E F.rows), hs⟩, K) := by
  obtain ⟨g1, _⟩ := addMany_delLeaves_ok (dels := D) hnd hleaf hadds haddsnd hnew
  have hn' : (F.delLeaves D).numLeaves = F.numLeaves := numLeaves_delLeaves F D
  exact undo_compose nz F C' D adds tgD hsD hN hnd hleaf hD hcD
    (ProofUndoAddFix.proofUndoAddOld_canonical (F := F.delLeaves D) (by rw [hn']; exact hN) g1
      hL (by rw [hn']; exact hn0) hC' hcG)

/-- the destroyed roots from the update data of `Stump.Update`: their rows satisfy `DestroySpec`
and `ToDestroy` lists their positions in the forest after the additions -/
theorem destroySpec_of_addData (nz : NZ H) {G : Forest H} {adds : List H} {upd : HP H}
    {td : List U64}
    (hleaf : ∀ x ∈ (G.addMany adds).liveLeaves, x ≠ (zero : H) ∧ ∀ a b : H, x ≠ ph a b)
    (hspec : AddDataSpec G adds upd td) :
    ∃ L, DestroySpec G.slots adds.length L ∧
      td = (destroyedPos G.numLeaves L).map (E (forestRows (G.numLeaves + adds.length))) := by
  obtain ⟨_, _, _, L, htd, hLasc, hLmem⟩ := hspec
  refine ⟨L, ProofUpdateAdd.destroySpec_of nz hleaf hLasc hLmem, ?_⟩
  rw [htd]
  unfold destroyedPos
  rw [List.map_map]
  rfl

/-- **the `ToDestroy` of a block's update data**: the positions, in the forest after the block, of
the all-zero roots of `F.delLeaves D` that the additions merge over -/
theorem block_destroySpec (nz : NZ H) (nonZero : H) (F : Forest H) (D adds : List H)
    (tgD : List Pos) (hsD : List H) (s' : Stump H) (ud : UpdateData H)
    (hnz : nonZero ≠ (zero : H)) (hN : F.numLeaves + adds.length ≤ 2 ^ 63) (hnd : F.liveLeaves.Nodup)
    (hleaf : ∀ x ∈ F.liveLeaves, x ≠ (zero : H) ∧ ∀ a b : H, x ≠ ph a b)
    (hadds : ∀ x ∈ adds, x ≠ (zero : H) ∧ ∀ a b : H, x ≠ ph a b) (haddsnd : adds.Nodup)
    (hnew : ∀ x ∈ adds, x ∈ F.liveLeaves → x ∈ D)
    (hD : D.Nodup) (hcD : F.canon D = some (tgD, hsD))
    (hupd : (C01b.stumpOf F).update nonZero D adds (C01.encTargets F.rows tgD) hsD = .ok (s', ud))
    (hd : NodesDistinct (F.modify D adds)) :
    ∃ L, DestroySpec (F.delLeaves D).slots adds.length L ∧
      ud.toDestroy = (destroyedPos F.numLeaves L).map (E (forestRows (F.numLeaves + adds.length))) := by
  obtain ⟨ud', h1, _, _, h4⟩ := stump_update_data_nd nz nonZero hnz F (C01b.stumpOf F) D adds tgD hsD
    [] rfl rfl hN hnd (fun x hx => (hleaf x hx).1) (fun x hx => (hadds x hx).1) hD hcD hd
  rw [List.append_nil, hupd] at h1
  have e : ud = ud' := by
    injection h1 with h1
    exact (Prod.mk.inj h1).2
  subst e
  obtain ⟨_, g2⟩ := addMany_delLeaves_ok (dels := D) hnd hleaf hadds haddsnd hnew
  obtain ⟨L, hL, htd⟩ := destroySpec_of_addData nz g2 h4
  rw [numLeaves_delLeaves F D] at htd
  exact ⟨L, hL, htd⟩

/-- **C08 for one block, outside the two defect classes, without collision-freeness**: `NZ H` and
`NodesDistinct` of the forest after the block -/
theorem C08_partial_nd (nz : NZ H) (nonZero : H) (F : Forest H) (C' D adds : List H)
    (tgG tgD : List Pos) (hsG hsD : List H) (s' : Stump H) (ud : UpdateData H)
    (hnz : nonZero ≠ (zero : H)) (hN : F.numLeaves + adds.length ≤ 2 ^ 63) (hnd : F.liveLeaves.Nodup)
    (hleaf : ∀ x ∈ F.liveLeaves, x ≠ (zero : H) ∧ ∀ a b : H, x ≠ ph a b)
    (hadds : ∀ x ∈ adds, x ≠ (zero : H) ∧ ∀ a b : H, x ≠ ph a b) (haddsnd : adds.Nodup)
    (hnew : ∀ x ∈ adds, x ∈ F.liveLeaves → x ∈ D)
    (hD : D.Nodup) (hcD : F.canon D = some (tgD, hsD))
    (hC' : C'.Nodup) (hcG : (F.modify D adds).canon C' = some (tgG, hsG))
    (hupd : (C01b.stumpOf F).update nonZero D adds (C01.encTargets F.rows tgD) hsD = .ok (s', ud))
    (hd : NodesDistinct (F.modify D adds)) (htd : ud.toDestroy = []) (hn0 : F.numLeaves ≠ 0) :
    ∃ K tg hs, K.Perm (expectedUndo C' adds) ∧ F.canon K = some (tg, hs) ∧
      tg.Pairwise Sorted.PLt ∧
      proofUndoOld ⟨tgG.map (E (F.modify D adds).rows), hsG⟩ (BitVec.ofNat 64 adds.length)
          (BitVec.ofNat 64 (F.modify D adds).numLeaves) (C01.encTargets F.rows tgD) D C'
          ud.toDestroy (C01.encTargets F.rows tgD) hsD =
        .ok (⟨tg.map (E F.rows), hs⟩, K) := by
  obtain ⟨L, hL, htd'⟩ := block_destroySpec nz nonZero F D adds tgD hsD s' ud hnz hN hnd hleaf hadds
    haddsnd hnew hD hcD hupd hd
  have hLnil : L = [] := by
    rw [htd] at htd'
    unfold destroyedPos at htd'
    cases L with
    | nil => rfl
    | cons a t => simp at htd'
  subst hLnil
  rw [htd]
  exact proofUndo_canonical_partial nz F C' D adds tgG tgD hsG hsD hN hnd hleaf hadds haddsnd hnew hD
    hcD hC' hcG hL hn0

/-- **C08 for one block, outside the two defect classes**, fed by the update data of the
verifier-state update -/
theorem C08_partial : C08_partial_statement H := by
  intro nonZero F C' D adds tgG tgD hsG hsD s' ud cr hnz hN hnd hleaf hadds haddsnd hnew hD hcD hC'
    hcG hupd htd hn0
  exact C08_partial_nd cr.toNZ nonZero F C' D adds tgG tgD hsG hsD s' ud hnz hN hnd hleaf hadds
    haddsnd hnew hD hcD hC' hcG hupd (nodesDistinct_modify cr hN hnd hleaf hadds haddsnd hnew) htd hn0

/-- "It never contains a leaf the undone block added" -/
theorem undone_no_added_leaf {C' adds K : List H} (hperm : K.Perm (expectedUndo C' adds)) :
    ∀ x ∈ K, x ∉ adds := by
  intro x hx
  have := (List.mem_filter.1 (hperm.mem_iff.1 hx)).2
  simpa using this

/-- "never invents a leaf" -/
theorem undone_no_invented_leaf {C' adds K : List H} (hperm : K.Perm (expectedUndo C' adds)) :
    ∀ x ∈ K, x ∈ C' := fun _ hx => (List.mem_filter.1 (hperm.mem_iff.1 hx)).1

/-- "apart from leaves the block itself deleted … never loses a leaf that is live both before and
after the block": a cached leaf (hence live after the block) that was live before the block and
not deleted by it is still cached after the undo -/
theorem undone_keeps_live_leaves {F : Forest H} {C' D adds K : List H}
    (hnew : ∀ x ∈ adds, x ∈ F.liveLeaves → x ∈ D) (hperm : K.Perm (expectedUndo C' adds)) :
    ∀ x ∈ C', x ∈ F.liveLeaves → x ∉ D → x ∈ K := by
  intro x hx hlive hxD
  apply hperm.mem_iff.2
  apply List.mem_filter.2
  refine ⟨hx, ?_⟩
  simp only [decide_eq_true_eq]
  exact fun ha => hxD (hnew x ha hlive)

/-- exactly: the undone proof holds the cached leaves that existed before the block -/
theorem undone_exactly {F : Forest H} {C' D adds K : List H}
    (hnew : ∀ x ∈ adds, x ∈ F.liveLeaves → x ∈ D)
    (hC'live : ∀ x ∈ C', x ∈ (F.modify D adds).liveLeaves)
    (hperm : K.Perm (expectedUndo C' adds)) :
    ∀ x, x ∈ K ↔ x ∈ C' ∧ x ∈ F.liveLeaves ∧ x ∉ D := by
  intro x
  constructor
  · intro hx
    have h1 := undone_no_invented_leaf hperm x hx
    have h2 := undone_no_added_leaf hperm x hx
    rcases LiveLeaves.mem_liveLeaves_modify.1 (hC'live x h1) with ⟨h3, h4⟩ | h3
    · exact ⟨h1, h3, h4⟩
    · exact absurd h3 h2
  · rintro ⟨h1, h2, h3⟩
    exact undone_keeps_live_leaves hnew hperm x h1 h2 h3

/-- "it is a canonical, verifying proof against the pre-block verifier state": the result of the
undo is accepted by `Verify` against the roots of the accumulator before the block -/
theorem undone_proof_verifies (nz : NZ H) {F : Forest H} (hn : F.numLeaves ≤ 2 ^ 63)
    (hlive : ∀ l ∈ F.liveLeaves, l ≠ (zero : H)) {K : List H} {tg : List Pos} {hs : List H}
    (hcK : F.canon K = some (tg, hs)) (hsorted : tg.Pairwise Sorted.PLt) :
    verify (BitVec.ofNat 64 F.numLeaves) F.roots K (tg.map (E F.rows)) hs =
      .ok (touchedIdx F.numLeaves tg) := by
  exact C02.honest_proof_verifies_CR nz hn hlive (ProofUpdateRemove.canon_nodup_of_sorted hcK hsorted)
    hcK

/-- **`Proof.Update` followed by an undo `U` with the same block**, for any `U` that is correct on
one block under a side condition `P` on the update data (the repaired `Proof.Undo`: none; the code
before the repair: `ToDestroy = ∅`): the canonical proof, in the accumulator before the block, of
the previously cached leaves minus those the block deleted -/
theorem update_then_undo_of (nz : NZ H) (nonZero : H) (hnz : nonZero ≠ (zero : H))
    (F : Forest H) (C D adds : List H) (tgC tgD : List Pos) (hsC hsD : List H)
    (remembers : List Nat)
    (hN : F.numLeaves + adds.length ≤ 2 ^ 63) (hnd : F.liveLeaves.Nodup)
    (hleaf : ∀ x ∈ F.liveLeaves, x ≠ (zero : H) ∧ ∀ a b : H, x ≠ ph a b)
    (hadds : ∀ x ∈ adds, x ≠ (zero : H) ∧ ∀ a b : H, x ≠ ph a b) (haddsnd : adds.Nodup)
    (hnew : ∀ x ∈ adds, x ∈ F.liveLeaves → x ∈ D)
    (hD : D.Nodup) (hcD : F.canon D = some (tgD, hsD))
    (hC : C.Nodup) (hcC : F.canon C = some (tgC, hsC))
    (hrem : remembers.Pairwise (· ≤ ·)) (hd : NodesDistinct (F.modify D adds))
    {U : CProof H → List H → UpdateData H → Out (CProof H × List H)} {P : UpdateData H → Prop}
    (hU : ∀ (ud : UpdateData H) (C' : List H) (tg' : List Pos) (hs' : List H),
      (C01b.stumpOf F).update nonZero D adds (C01.encTargets F.rows tgD) hsD =
        .ok (C01b.stumpOf (F.modify D adds), ud) →
      C'.Nodup → (F.modify D adds).canon C' = some (tg', hs') → P ud →
      ∃ K tg hs, K.Perm (expectedUndo C' adds) ∧ F.canon K = some (tg, hs) ∧
        tg.Pairwise Sorted.PLt ∧
        U ⟨tg'.map (E (F.modify D adds).rows), hs'⟩ C' ud = .ok (⟨tg.map (E F.rows), hs⟩, K)) :
    ∃ (ud : UpdateData H) (p' : CProof H) (C' : List H),
      (C01b.stumpOf F).update nonZero D adds (C01.encTargets F.rows tgD) hsD =
        .ok (C01b.stumpOf (F.modify D adds), ud) ∧
      proofUpdate ⟨tgC.map (E F.rows), hsC⟩ C adds (C01.encTargets F.rows tgD) remembers
        (C07.toM ud) = .ok (p', C') ∧
      (P ud →
        ∃ K tg hs, K.Perm (C.filter (fun x => decide (x ∉ D))) ∧ F.canon K = some (tg, hs) ∧
          tg.Pairwise Sorted.PLt ∧ U p' C' ud = .ok (⟨tg.map (E F.rows), hs⟩, K)) := by
  obtain ⟨ud, C', tg', hs', h1, h2, h3, h4, h5⟩ := C07.proofUpdate_with_stump_nd nz nonZero hnz F C D
    adds tgC tgD hsC hsD [] remembers hN hnd hleaf hadds haddsnd hnew hD hcD hC hcC hrem hd
  rw [List.append_nil] at h1
  refine ⟨ud, _, C', h1, h5, ?_⟩
  intro hP
  obtain ⟨K, tg, hs, g1, g2, g3, g4⟩ := hU ud C' tg' hs' h1 (ProofUpdateRemove.canon_nodup_of_sorted h3 h4) h3 hP
  refine ⟨K, tg, hs, g1.trans ?_, g2, g3, g4⟩
  -- the leaves that were not added are the old cached leaves that were not deleted
  have hCl : ∀ x ∈ C, x ∈ F.liveLeaves := fun x hx => C02.canon_live hcC x hx
  unfold expectedUndo
  refine (h2.filter _).trans ?_
  unfold C07.expected
  rw [List.filter_append]
  have e1 : (ProofUpdateAdd.remAdds adds remembers).filter (fun x => decide (x ∉ adds)) = [] := by
    apply List.filter_eq_nil_iff.2
    intro x hx
    simp only [decide_eq_true_eq, Decidable.not_not]
    exact ProofUpdateAdd.remAdds_sub hx
  have e2 : (C.filter (fun x => decide (x ∉ D))).filter (fun x => decide (x ∉ adds)) =
      C.filter (fun x => decide (x ∉ D)) := by
    apply List.filter_eq_self.2
    intro x hx
    obtain ⟨hxC, hxD⟩ := List.mem_filter.1 hx
    simp only [decide_eq_true_eq] at hxD ⊢
    exact fun ha => hxD (hnew x ha (hCl x hxC))
  rw [e1, e2, List.append_nil]

/-- **`Proof.Update` followed by `Proof.Undo` with the same block** (outside the two defect
classes) gives back the canonical proof, in the accumulator before the block, of the previously
cached leaves minus those the block deleted -/
theorem update_then_undo_partial (cr : CR H) (nonZero : H) (hnz : nonZero ≠ (zero : H))
    (F : Forest H) (C D adds : List H) (tgC tgD : List Pos) (hsC hsD : List H)
    (remembers : List Nat)
    (hN : F.numLeaves + adds.length ≤ 2 ^ 63) (hnd : F.liveLeaves.Nodup)
    (hleaf : ∀ x ∈ F.liveLeaves, x ≠ (zero : H) ∧ ∀ a b : H, x ≠ ph a b)
    (hadds : ∀ x ∈ adds, x ≠ (zero : H) ∧ ∀ a b : H, x ≠ ph a b) (haddsnd : adds.Nodup)
    (hnew : ∀ x ∈ adds, x ∈ F.liveLeaves → x ∈ D)
    (hD : D.Nodup) (hcD : F.canon D = some (tgD, hsD))
    (hC : C.Nodup) (hcC : F.canon C = some (tgC, hsC))
    (hrem : remembers.Pairwise (· ≤ ·)) (hn0 : F.numLeaves ≠ 0) :
    ∃ (ud : UpdateData H) (p' : CProof H) (C' : List H),
      (C01b.stumpOf F).update nonZero D adds (C01.encTargets F.rows tgD) hsD =
        .ok (C01b.stumpOf (F.modify D adds), ud) ∧
      proofUpdate ⟨tgC.map (E F.rows), hsC⟩ C adds (C01.encTargets F.rows tgD) remembers
        (C07.toM ud) = .ok (p', C') ∧
      (ud.toDestroy = [] →
        ∃ K tg hs, K.Perm (C.filter (fun x => decide (x ∉ D))) ∧ F.canon K = some (tg, hs) ∧
          tg.Pairwise Sorted.PLt ∧
          proofUndoOld p' (BitVec.ofNat 64 adds.length) (BitVec.ofNat 64 (F.modify D adds).numLeaves)
              (C01.encTargets F.rows tgD) D C' ud.toDestroy (C01.encTargets F.rows tgD) hsD =
            .ok (⟨tg.map (E F.rows), hs⟩, K)) := by
  obtain ⟨ud, p', C', h1, h2, h3⟩ := update_then_undo_of cr.toNZ nonZero hnz F C D adds tgC tgD hsC hsD
    remembers hN hnd hleaf hadds haddsnd hnew hD hcD hC hcC hrem
    (nodesDistinct_modify cr hN hnd hleaf hadds haddsnd hnew)
    (U := fun p C' ud => proofUndoOld p (BitVec.ofNat 64 adds.length)
      (BitVec.ofNat 64 (F.modify D adds).numLeaves) (C01.encTargets F.rows tgD) D C' ud.toDestroy
      (C01.encTargets F.rows tgD) hsD)
    (P := fun ud => ud.toDestroy = [])
    (fun ud C' tg' hs' hupd hC' hcG htd => C08_partial nonZero F C' D adds tg' tgD hs' hsD _ ud cr hnz
      hN hnd hleaf hadds haddsnd hnew hD hcD hC' hcG hupd htd hn0)
  exact ⟨ud, p', C', h1, h2, h3⟩

/-- `C07.client_from_nd_nodup` under this file's name: `C07.client_from_nd` with the addition that the
cached leaves are pairwise different -/
theorem client_from_nodup_nd (nz : NZ H) (nonZero : H) (hnz : nonZero ≠ (zero : H)) :
    ∀ (hist : List (C07.CBlock H)) (F : Forest H) (C Cexp : List H) (tg : List Pos) (hs : List H),
      C07.Inv F hist → DistinctRun F (hist.map C07.toBlock) → C.Nodup → F.canon C = some (tg, hs) → C.Perm Cexp →
      ∃ C' tg' hs',
        C07.clientRun nonZero F (⟨tg.map (E F.rows), hs⟩, C) hist =
          some (⟨tg'.map (E (run F (hist.map C07.toBlock)).rows), hs'⟩, C') ∧
        (run F (hist.map C07.toBlock)).canon C' = some (tg', hs') ∧
        C'.Perm (C07.expectedRun Cexp hist) ∧ C'.Nodup :=
  C07.client_from_nd_nodup nz nonZero hnz

theorem client_from_nodup (cr : CR H) (nonZero : H) (hnz : nonZero ≠ (zero : H)) :
    ∀ (hist : List (C07.CBlock H)) (F : Forest H) (C Cexp : List H) (tg : List Pos) (hs : List H),
      C07.Inv F hist → C.Nodup → F.canon C = some (tg, hs) → C.Perm Cexp →
      ∃ C' tg' hs',
        C07.clientRun nonZero F (⟨tg.map (E F.rows), hs⟩, C) hist =
          some (⟨tg'.map (E (run F (hist.map C07.toBlock)).rows), hs'⟩, C') ∧
        (run F (hist.map C07.toBlock)).canon C' = some (tg', hs') ∧
        C'.Perm (C07.expectedRun Cexp hist) ∧ C'.Nodup :=
  fun hist F C Cexp tg hs inv =>
    client_from_nodup_nd cr.toNZ nonZero hnz hist F C Cexp tg hs inv (C07.distinctRun_of_CR cr hist F inv)

theorem client_run_append (nonZero : H) : ∀ (h1 h2 : List (C07.CBlock H)) (F : Forest H)
    (c : CProof H × List H),
    C07.clientRun nonZero F c (h1 ++ h2) =
      (C07.clientRun nonZero F c h1).bind
        (fun c' => C07.clientRun nonZero (run F (h1.map C07.toBlock)) c' h2) := by
  intro h1
  induction h1 with
  | nil => intro h2 F c; rfl
  | cons b rest ih =>
    intro h2 F c
    rw [List.cons_append, C07.clientRun, C07.clientRun]
    cases hc : F.canon b.1 with
    | none => rfl
    | some tp =>
      obtain ⟨targets, proof⟩ := tp
      simp only
      cases hu : (C01b.stumpOf F).update nonZero b.1 b.2.1 (C01.encTargets F.rows targets) proof with
      | ok su =>
        simp only
        cases hp : proofUpdate c.1 c.2 b.2.1 (C01.encTargets F.rows targets) b.2.2 (C07.toM su.2) with
        | ok c' => exact ih h2 _ c'
        | err => rfl
        | panic => rfl
        | hang => rfl
      | err => rfl
      | panic => rfl
      | hang => rfl

theorem inv_prefix : ∀ (pre post : List (C07.CBlock H)) (F : Forest H),
    C07.Inv F (pre ++ post) → C07.Inv (run F (pre.map C07.toBlock)) post := by
  intro pre
  induction pre with
  | nil => intro post F inv; exact inv
  | cons b rest ih =>
    intro post F inv
    obtain ⟨d, a, r⟩ := b
    exact ih post _ (C07.Inv.step inv)

/-- **undoing the newest block of a valid history** with any undo `U` that is correct on one block
under a side condition `P` (see `update_then_undo_of`): a light client that started from the empty
proof, followed `pre ++ [(d, a, r)]` with `Proof.Update` and then undoes the newest block holds
the canonical proof, in the accumulator before the block, of the leaves it held before the block
minus those the block deleted -/
theorem history_undo_last_of (nz : NZ H) (nonZero : H) (hnz : nonZero ≠ (zero : H))
    (pre : List (C07.CBlock H)) (d a : List H) (r : List Nat)
    (v : C01.ValidHistory ((pre ++ [(d, a, r)]).map C07.toBlock))
    (hrem : ∀ b ∈ pre ++ [(d, a, r)], b.2.2.Pairwise (· ≤ ·))
    (hdr : DistinctRun Forest.empty ((pre ++ [(d, a, r)]).map C07.toBlock))
    {U : Forest H → List Pos → List H → CProof H → List H → UpdateData H → Out (CProof H × List H)}
    {P : Forest H → UpdateData H → Prop}
    (hU : ∀ (F : Forest H) (tgD : List Pos) (hsD : List H), C07.BlockOK F d a r →
      F.canon d = some (tgD, hsD) → NodesDistinct (F.modify d a) →
      ∀ (ud : UpdateData H) (C' : List H) (tg' : List Pos) (hs' : List H),
      (C01b.stumpOf F).update nonZero d a (C01.encTargets F.rows tgD) hsD =
        .ok (C01b.stumpOf (F.modify d a), ud) →
      C'.Nodup → (F.modify d a).canon C' = some (tg', hs') → P F ud →
      ∃ K tg hs, K.Perm (expectedUndo C' a) ∧ F.canon K = some (tg, hs) ∧
        tg.Pairwise Sorted.PLt ∧
        U F tgD hsD ⟨tg'.map (E (F.modify d a).rows), hs'⟩ C' ud =
          .ok (⟨tg.map (E F.rows), hs⟩, K)) :
    ∃ (tgD : List Pos) (hsD : List H) (ud : UpdateData H) (p' : CProof H) (C' : List H),
      (run Forest.empty (pre.map C07.toBlock)).canon d = some (tgD, hsD) ∧
      (C01b.stumpOf (run Forest.empty (pre.map C07.toBlock))).update nonZero d a
          (C01.encTargets (run Forest.empty (pre.map C07.toBlock)).rows tgD) hsD =
        .ok (C01b.stumpOf (run Forest.empty ((pre ++ [(d, a, r)]).map C07.toBlock)), ud) ∧
      C07.clientRun nonZero Forest.empty (⟨[], []⟩, []) (pre ++ [(d, a, r)]) = some (p', C') ∧
      run Forest.empty ((pre ++ [(d, a, r)]).map C07.toBlock) =
        (run Forest.empty (pre.map C07.toBlock)).modify d a ∧
      (P (run Forest.empty (pre.map C07.toBlock)) ud →
        ∃ K tg hs, K.Perm ((C07.expectedRun [] pre).filter (fun x => decide (x ∉ d))) ∧
          (run Forest.empty (pre.map C07.toBlock)).canon K = some (tg, hs) ∧
          tg.Pairwise Sorted.PLt ∧
          U (run Forest.empty (pre.map C07.toBlock)) tgD hsD p' C' ud =
            .ok (⟨tg.map (E (run Forest.empty (pre.map C07.toBlock)).rows), hs⟩, K)) := by
  have inv := inv_prefix pre [(d, a, r)] Forest.empty (C07.Inv.ofValid v hrem)
  rw [List.map_append] at hdr
  obtain ⟨hdr1, hdr2⟩ := distinctRun_append.1 hdr
  have vpre : C01.ValidHistory (pre.map C07.toBlock) := by
    have e : (pre ++ [(d, a, r)]).map C07.toBlock = pre.map C07.toBlock ++ [(d, a)] := by
      simp [C07.toBlock]
    rw [e] at v
    exact C07.validHistory_prefix v
  obtain ⟨C, tgC, hsC, hrun, hcC, hpermC, hC⟩ := C07.client_from_nd_nodup nz nonZero hnz pre Forest.empty
    [] [] [] [] (C07.Inv.ofValid vpre (fun b hb => hrem b (List.mem_append_left _ hb))) hdr1
    List.nodup_nil rfl (List.Perm.refl _)
  have hFG : run Forest.empty ((pre ++ [(d, a, r)]).map C07.toBlock) =
      (run Forest.empty (pre.map C07.toBlock)).modify d a := by
    rw [List.map_append, run_append]
    rfl
  generalize hF : run Forest.empty (pre.map C07.toBlock) = F at *
  have bk := inv.head
  obtain ⟨tgD, hsD, hcD⟩ := C02.canon_defined (L := d) (by have := bk.small; omega) bk.dels_live
  obtain ⟨ud, p', C', h1, h2, h3⟩ := update_then_undo_of nz nonZero hnz F C d a tgC tgD hsC hsD r
    bk.small bk.live_nodup bk.leaf bk.adds_leaf bk.adds_nodup bk.adds_new bk.dels_nodup hcD hC hcC
    bk.rems hdr2.1 (U := U F tgD hsD) (P := P F) (hU F tgD hsD bk hcD hdr2.1)
  refine ⟨tgD, hsD, ud, p', C', hcD, by rw [hFG]; exact h1, ?_, hFG, ?_⟩
  · have hrun' : C07.clientRun nonZero Forest.empty (⟨[], []⟩, []) pre =
        some (⟨tgC.map (E F.rows), hsC⟩, C) := hrun
    rw [client_run_append, hrun', hF]
    simp only [Option.bind_some, C07.clientRun, hcD, h1, h2]
  · intro hP
    obtain ⟨K, tg, hs, g1, g2, g3, g4⟩ := h3 hP
    exact ⟨K, tg, hs, g1.trans (hpermC.filter _), g2, g3, g4⟩

/-- **C08 along a valid history** (outside the two defect classes): a light client that started
from the empty proof and followed the history `pre ++ [(d, a, r)]` with `Proof.Update`, and then
undoes the newest block with that block's data — when the block's `ToDestroy` is empty and the
accumulator before the block is not empty — holds exactly the canonical proof, in the accumulator
before the block, of the leaves it held before the block minus those the block deleted. -/
theorem client_history_undo_last_partial (cr : CR H) (nonZero : H) (hnz : nonZero ≠ (zero : H))
    (pre : List (C07.CBlock H)) (d a : List H) (r : List Nat)
    (v : C01.ValidHistory ((pre ++ [(d, a, r)]).map C07.toBlock))
    (hrem : ∀ b ∈ pre ++ [(d, a, r)], b.2.2.Pairwise (· ≤ ·))
    (hn0 : (run Forest.empty (pre.map C07.toBlock)).numLeaves ≠ 0) :
    ∃ (tgD : List Pos) (hsD : List H) (ud : UpdateData H) (p' : CProof H) (C' : List H),
      (run Forest.empty (pre.map C07.toBlock)).canon d = some (tgD, hsD) ∧
      (C01b.stumpOf (run Forest.empty (pre.map C07.toBlock))).update nonZero d a
          (C01.encTargets (run Forest.empty (pre.map C07.toBlock)).rows tgD) hsD =
        .ok (C01b.stumpOf (run Forest.empty ((pre ++ [(d, a, r)]).map C07.toBlock)), ud) ∧
      C07.clientRun nonZero Forest.empty (⟨[], []⟩, []) (pre ++ [(d, a, r)]) = some (p', C') ∧
      (ud.toDestroy = [] →
        ∃ K tg hs, K.Perm ((C07.expectedRun [] pre).filter (fun x => decide (x ∉ d))) ∧
          (run Forest.empty (pre.map C07.toBlock)).canon K = some (tg, hs) ∧
          tg.Pairwise Sorted.PLt ∧
          proofUndoOld p' (BitVec.ofNat 64 a.length)
              (BitVec.ofNat 64 (run Forest.empty ((pre ++ [(d, a, r)]).map C07.toBlock)).numLeaves)
              (C01.encTargets (run Forest.empty (pre.map C07.toBlock)).rows tgD) d C' ud.toDestroy
              (C01.encTargets (run Forest.empty (pre.map C07.toBlock)).rows tgD) hsD =
            .ok (⟨tg.map (E (run Forest.empty (pre.map C07.toBlock)).rows), hs⟩, K)) := by
  obtain ⟨tgD, hsD, ud, p', C', h1, h2, h3, hFG, h4⟩ := history_undo_last_of cr.toNZ nonZero hnz pre d a r
    v hrem (C07.distinctRun_of_CR cr _ _ (C07.Inv.ofValid v hrem))
    (U := fun F tgD hsD p C' ud => proofUndoOld p (BitVec.ofNat 64 a.length)
      (BitVec.ofNat 64 (F.modify d a).numLeaves) (C01.encTargets F.rows tgD) d C' ud.toDestroy
      (C01.encTargets F.rows tgD) hsD)
    (P := fun F ud => ud.toDestroy = [] ∧ F.numLeaves ≠ 0)
    (fun F tgD hsD bk hcD hd ud C' tg' hs' hupd hC' hcG hP => C08_partial_nd cr.toNZ nonZero F C' d a
      tg' tgD hs' hsD _ ud hnz bk.small bk.live_nodup bk.leaf bk.adds_leaf bk.adds_nodup bk.adds_new
      bk.dels_nodup hcD hC' hcG hupd hd hP.1 hP.2)
  refine ⟨tgD, hsD, ud, p', C', h1, h2, h3, fun htd => ?_⟩
  rw [hFG]
  exact h4 ⟨htd, hn0⟩

namespace Example
open UtreexoVerif.Props.C01 UtreexoVerif.Props.C01.Example

/-- three slots `[dead, 1, 2]`: leaf 1 is the root of the (collapsed) tree on row 1, at `(1,0)`;
leaf 2 is the tree on row 0 -/
def Fw : Forest T := ⟨[none, some (.leaf 1), some (.leaf 2)]⟩

theorem Fw_live (x : T) (hx : x ∈ Fw.liveLeaves) : x ≠ (zero : T) ∧ ∀ a b : T, x ≠ ph a b :=
  T.all_leaf_ok (by decide) x hx

theorem adds34 (x : T) (hx : x ∈ [T.leaf 3, T.leaf 4]) :
    x ≠ (zero : T) ∧ ∀ a b : T, x ≠ ph a b :=
  T.all_leaf_ok (by decide) x hx

theorem adds34_new (x : T) (hx : x ∈ [T.leaf 3, T.leaf 4]) : x ∉ Fw.liveLeaves :=
  (by decide : ∀ x ∈ [T.leaf 3, T.leaf 4], x ∉ Fw.liveLeaves) x hx

theorem Fw_canonD : Fw.canon [T.leaf 2] = some ([(0, 2)], []) := by decide +kernel

theorem Fw_canonG : (Fw.modify [T.leaf 2] [T.leaf 3, .leaf 4]).canon [T.leaf 1] =
    some ([(1, 0)], [T.leaf 3]) := by decide +kernel

/-- the block on `Fw`: leaf 3 is merged over the emptied root, `ToDestroy = [2]` -/
theorem Fw_update : ∃ ud : UpdateData T,
    (C01b.stumpOf Fw).update (T.leaf 0) [T.leaf 2] [T.leaf 3, .leaf 4] (encTargets Fw.rows [(0, 2)]) [] =
      .ok (C01b.stumpOf (Fw.modify [T.leaf 2] [T.leaf 3, .leaf 4]), ud) ∧ ud.toDestroy = [2#64] := by
  obtain ⟨ud, hupd, _, _, _⟩ := stump_update_data' cr (T.leaf 0) (by intro h; cases h) Fw
    [T.leaf 2] [T.leaf 3, T.leaf 4] [(0, 2)] [] (by decide) (by decide) Fw_live adds34 (by decide)
    adds34_new (by decide) Fw_canonD
  refine ⟨ud, hupd, ?_⟩
  have : ((C01b.stumpOf Fw).update (T.leaf 0) [T.leaf 2] [T.leaf 3, T.leaf 4]
      (encTargets Fw.rows [(0, 2)]) []).toOption.map (fun r => r.2.toDestroy) = some [2#64] := by
    decide +kernel
  rw [hupd] at this
  simpa [Out.toOption] using this

theorem empty_canonG : ((Forest.empty : Forest T).modify [] [T.leaf 1]).canon [T.leaf 1] =
    some ([(0, 0)], []) := by decide +kernel

theorem add1 : ∀ x ∈ [T.leaf 1], x ≠ (zero : T) ∧ ∀ a b : T, x ≠ ph a b :=
  T.all_leaf_ok (by decide)

/-- the block that adds leaf 1 to the empty accumulator -/
theorem empty_update : ∃ ud : UpdateData T,
    (C01b.stumpOf (Forest.empty : Forest T)).update (T.leaf 0) [] [T.leaf 1]
        (encTargets (Forest.empty : Forest T).rows []) [] =
      .ok (C01b.stumpOf ((Forest.empty : Forest T).modify [] [T.leaf 1]), ud) ∧ ud.toDestroy = [] := by
  obtain ⟨ud, hupd, _, _, _⟩ := stump_update_data' cr (T.leaf 0) (by intro h; cases h)
    (Forest.empty : Forest T) [] [T.leaf 1] [] [] (by decide) (by decide)
    (fun x hx => by cases hx) add1 (by decide) (fun x _ hx => by cases hx) (by decide) rfl
  refine ⟨ud, hupd, ?_⟩
  have : ((C01b.stumpOf (Forest.empty : Forest T)).update (T.leaf 0) [] [T.leaf 1]
      (encTargets (Forest.empty : Forest T).rows []) []).toOption.map (fun r => r.2.toDestroy) =
      some [] := by decide +kernel
  rw [hupd] at this
  simpa [Out.toOption] using this

/-- **the full statement fails when the additions overwrite an empty root**
(`C08.undo.emptyRootsOverwritten`).  Accumulator `[dead, 1, 2]`; the client caches leaf 1 (at
`(1,0)`, position 4).  The block deletes leaf 2 (its tree becomes an all-zero root) and adds leaves
3 and 4: leaf 3 is merged over the empty root (`ToDestroy = [2]`) and the forest grows to 3 rows;
after the block leaf 1 is cached at `(1,0)` of the 3-row forest (position 8) with proof `[3]`.
`Proof.Undo` with the block's data returns the EMPTY proof: leaf 1 — live before and after the
block, not deleted by it — is lost (expected: leaf 1 at position 4). -/
theorem fails_emptyRootsOverwritten : ¬ C08_statement T := by
  intro h
  have hcD := Fw_canonD
  have hcG := Fw_canonG
  obtain ⟨ud, hupd, htd⟩ := Fw_update
  obtain ⟨K, tg, hs, hperm, _, _, hrun⟩ := h (T.leaf 0) Fw [T.leaf 1] [T.leaf 2] [T.leaf 3, .leaf 4]
    [(1, 0)] [(0, 2)] [T.leaf 3] [] _ ud cr (by intro h; cases h) (by decide) (by decide) Fw_live
    adds34 (by decide) (fun x hx hx' => absurd hx' (adds34_new x hx)) (by decide) hcD (by decide)
    hcG hupd
  rw [htd] at hrun
  have hval : proofUndoOld (H := T)
      ⟨[((1, 0) : Pos)].map (E (Fw.modify [T.leaf 2] [T.leaf 3, .leaf 4]).rows), [T.leaf 3]⟩
      (BitVec.ofNat 64 [T.leaf 3, T.leaf 4].length)
      (BitVec.ofNat 64 (Fw.modify [T.leaf 2] [T.leaf 3, .leaf 4]).numLeaves)
      (encTargets Fw.rows [(0, 2)]) [T.leaf 2] [T.leaf 1] [2#64] (encTargets Fw.rows [(0, 2)]) [] =
      .ok (⟨[], []⟩, []) := by decide +kernel
  rw [hval] at hrun
  injection hrun with hrun
  have hK : K = [] := (Prod.mk.inj hrun).2.symm
  subst hK
  have hmem : T.leaf 1 ∈ expectedUndo [T.leaf 1] [T.leaf 3, T.leaf 4] := by decide
  have := hperm.mem_iff.2 hmem
  cases this

/-- **the full statement fails when the undo leads back to the empty accumulator**
(`C08.undo.toEmpty`).  Empty accumulator; the block adds leaf 1, which the client caches (position
0, empty proof).  `Proof.Undo` keeps leaf 1 cached at position 0 although the undone block added
it (expected: the empty proof; the result does not verify against the empty verifier state). -/
theorem fails_toEmpty : ¬ C08_statement T := by
  intro h
  have hcD : (Forest.empty : Forest T).canon [] = some ([], []) := rfl
  have hcG := empty_canonG
  have hadd := add1
  obtain ⟨ud, hupd, htd⟩ := empty_update
  obtain ⟨K, tg, hs, hperm, _, _, hrun⟩ := h (T.leaf 0) (Forest.empty : Forest T) [T.leaf 1] []
    [T.leaf 1] [(0, 0)] [] [] [] _ ud cr (by intro h; cases h) (by decide) (by decide)
    (fun x hx => by cases hx) hadd (by decide) (fun x _ hx => by cases hx) (by decide) hcD
    (by decide) hcG hupd
  rw [htd] at hrun
  have hval : proofUndoOld (H := T)
      ⟨[((0, 0) : Pos)].map (E ((Forest.empty : Forest T).modify [] [T.leaf 1]).rows), []⟩
      (BitVec.ofNat 64 [T.leaf 1].length)
      (BitVec.ofNat 64 ((Forest.empty : Forest T).modify [] [T.leaf 1]).numLeaves)
      (encTargets (Forest.empty : Forest T).rows []) [] [T.leaf 1] []
      (encTargets (Forest.empty : Forest T).rows []) [] =
      .ok (⟨[0#64], []⟩, [T.leaf 1]) := by decide +kernel
  rw [hval] at hrun
  injection hrun with hrun
  have hK : K = [T.leaf 1] := (Prod.mk.inj hrun).2.symm
  subst hK
  have hnil : expectedUndo [T.leaf 1] [T.leaf 1] = [] := by decide
  rw [hnil] at hperm
  have := hperm.length_eq
  simp at this

/-- four live leaves `1 2 3 4` (one tree, 2 rows).  The block deletes leaf 2 (leaf 1 moves up to
`(1,0)`) and adds leaves 5 and 6 (a new tree on row 1; the forest grows to 3 rows; no empty root
is involved: `ToDestroy = ∅`) -/
def Fv : Forest T := ⟨[some (.leaf 1), some (.leaf 2), some (.leaf 3), some (.leaf 4)]⟩

theorem Fv_live (x : T) (hx : x ∈ Fv.liveLeaves) : x ≠ (zero : T) ∧ ∀ a b : T, x ≠ ph a b :=
  T.all_leaf_ok (by decide) x hx

theorem adds56 (x : T) (hx : x ∈ [T.leaf 5, T.leaf 6]) :
    x ≠ (zero : T) ∧ ∀ a b : T, x ≠ ph a b :=
  T.all_leaf_ok (by decide) x hx

theorem adds56_new (x : T) (hx : x ∈ [T.leaf 5, T.leaf 6]) : x ∉ Fv.liveLeaves :=
  (by decide : ∀ x ∈ [T.leaf 5, T.leaf 6], x ∉ Fv.liveLeaves) x hx

theorem canonDv : Fv.canon [T.leaf 2] = some ([(0, 1)], [T.leaf 1, .node (.leaf 3) (.leaf 4)]) := by
  decide +kernel

/-- after the block the client caches leaves 6, 1, 3 (requested in that order) -/
theorem canonGv : (Fv.modify [T.leaf 2] [T.leaf 5, .leaf 6]).canon [T.leaf 6, .leaf 1, .leaf 3] =
    some ([(0, 5), (1, 0), (0, 2)], [T.leaf 4, .leaf 5]) := by decide +kernel

/-- **`C08_partial` applies**: with the update data of `Stump.Update` (`ToDestroy = ∅`) the undo
returns the canonical proof, before the block, of a permutation of `[1, 3]` -/
example : ∃ (s' : Stump T) (ud : UpdateData T) (K : List T) (tg : List Pos) (hs : List T),
    (C01b.stumpOf Fv).update (T.leaf 0) [T.leaf 2] [T.leaf 5, .leaf 6]
      (encTargets Fv.rows [(0, 1)]) [T.leaf 1, .node (.leaf 3) (.leaf 4)] = .ok (s', ud) ∧
    ud.toDestroy = [] ∧
    K.Perm (expectedUndo [T.leaf 6, .leaf 1, .leaf 3] [T.leaf 5, .leaf 6]) ∧
    Fv.canon K = some (tg, hs) ∧ tg.Pairwise Sorted.PLt ∧
    proofUndoOld ⟨[((0, 5) : Pos), (1, 0), (0, 2)].map (E (Fv.modify [T.leaf 2] [T.leaf 5, .leaf 6]).rows),
        [T.leaf 4, .leaf 5]⟩ (BitVec.ofNat 64 [T.leaf 5, T.leaf 6].length)
        (BitVec.ofNat 64 (Fv.modify [T.leaf 2] [T.leaf 5, .leaf 6]).numLeaves)
        (encTargets Fv.rows [(0, 1)]) [T.leaf 2] [T.leaf 6, .leaf 1, .leaf 3] ud.toDestroy
        (encTargets Fv.rows [(0, 1)]) [T.leaf 1, .node (.leaf 3) (.leaf 4)] =
      .ok (⟨tg.map (E Fv.rows), hs⟩, K) := by
  obtain ⟨ud, hupd, _, _, _⟩ := stump_update_data' cr (T.leaf 0) (by intro h; cases h) Fv
    [T.leaf 2] [T.leaf 5, T.leaf 6] [(0, 1)] [T.leaf 1, .node (.leaf 3) (.leaf 4)] (by decide)
    (by decide) Fv_live adds56 (by decide) adds56_new (by decide) canonDv
  have htd : ud.toDestroy = [] := by
    have : ((C01b.stumpOf Fv).update (T.leaf 0) [T.leaf 2] [T.leaf 5, T.leaf 6]
        (encTargets Fv.rows [(0, 1)]) [T.leaf 1, .node (.leaf 3) (.leaf 4)]).toOption.map
        (fun r => r.2.toDestroy) = some [] := by decide +kernel
    rw [hupd] at this
    simpa [Out.toOption] using this
  obtain ⟨K, tg, hs, g1, g2, g3, g4⟩ := C08_partial (T.leaf 0) Fv [T.leaf 6, .leaf 1, .leaf 3]
    [T.leaf 2] [T.leaf 5, .leaf 6] _ [(0, 1)] _ _ _ ud cr (by intro h; cases h) (by decide)
    (by decide) Fv_live adds56 (by decide) (fun x hx hx' => absurd hx' (adds56_new x hx))
    (by decide) canonDv (by decide) canonGv hupd htd (by decide)
  exact ⟨_, ud, K, tg, hs, hupd, htd, g1, g2, g3, g4⟩

/-- the model, simply run: the client ends with leaf 1 at position 0 and leaf 3 at position 2 of
the 2-row forest, with the proof `[2, 4]` — the hash of the deleted leaf 2 is re-inserted … -/
example : proofUndoOld (H := T) ⟨[5#64, 8#64, 2#64], [T.leaf 4, .leaf 5]⟩ 2#64 6#64 [1#64] [T.leaf 2]
    [T.leaf 6, .leaf 1, .leaf 3] [] [1#64] [T.leaf 1, .node (.leaf 3) (.leaf 4)] =
    .ok (⟨[0#64, 2#64], [T.leaf 2, .leaf 4]⟩, [T.leaf 1, .leaf 3]) := by decide +kernel

/-- … which is the canonical proof of those leaves before the block -/
example : Fv.canon [T.leaf 1, .leaf 3] = some ([(0, 0), (0, 2)], [T.leaf 2, .leaf 4]) := by
  decide +kernel

/-- the clauses of the property text on the instance -/
example : ∀ x, x ∈ [T.leaf 1, T.leaf 3] ↔
    x ∈ [T.leaf 6, T.leaf 1, T.leaf 3] ∧ x ∈ Fv.liveLeaves ∧ x ∉ [T.leaf 2] :=
  undone_exactly (fun x hx hx' => absurd hx' (adds56_new x hx))
    (by decide)
    (List.Perm.refl _)

/-- `undone_proof_verifies` applies: the undone proof verifies against the pre-block roots -/
example : verify (BitVec.ofNat 64 Fv.numLeaves) Fv.roots [T.leaf 1, .leaf 3]
    ([((0, 0) : Pos), (0, 2)].map (E Fv.rows)) [T.leaf 2, .leaf 4] =
    .ok (touchedIdx Fv.numLeaves [(0, 0), (0, 2)]) :=
  undone_proof_verifies cr.toNZ (by decide) (fun l hl => (Fv_live l hl).1) (by decide +kernel)
    (by simp [Sorted.PLt])

/-- level 1, `proofUndoAdd_canonical` applies to the forest after the deletion -/
example : ∃ K tgK hsK, K.Perm (expectedUndo [T.leaf 6, .leaf 1, .leaf 3] [T.leaf 5, .leaf 6]) ∧
    (Fv.delLeaves [T.leaf 2]).canon K = some (tgK, hsK) ∧ tgK.Pairwise Sorted.PLt ∧
    proofUndoAddOld ⟨[((0, 5) : Pos), (1, 0), (0, 2)].map
        (E ((Fv.delLeaves [T.leaf 2]).addMany [T.leaf 5, .leaf 6]).rows), [T.leaf 4, .leaf 5]⟩
        (BitVec.ofNat 64 [T.leaf 5, T.leaf 6].length)
        (BitVec.ofNat 64 ((Fv.delLeaves [T.leaf 2]).addMany [T.leaf 5, .leaf 6]).numLeaves)
        [T.leaf 6, .leaf 1, .leaf 3] [] =
      .ok (⟨tgK.map (E (Fv.delLeaves [T.leaf 2]).rows), hsK⟩, K) := by
  obtain ⟨g1, g2⟩ := addMany_delLeaves_ok (dels := [T.leaf 2]) (by decide : Fv.liveLeaves.Nodup)
    Fv_live adds56 (by decide) (fun x hx hx' => absurd hx' (adds56_new x hx))
  exact proofUndoAdd_canonical cr.toNZ (by decide) g1 g2
    (.of_below 3 (by decide) trivial (by decide) (by decide)) (by decide) (by decide) canonGv

/-- the model of level 1, simply run: leaf 6 (added) is dropped, the positions are re-encoded for
2 rows: leaf 3 at `(0,2) = 2`, leaf 1 at `(1,0) = 4`, proof `[4]` -/
example : proofUndoAddOld (H := T) ⟨[5#64, 8#64, 2#64], [T.leaf 4, .leaf 5]⟩ 2#64 6#64
    [T.leaf 6, .leaf 1, .leaf 3] [] = .ok (⟨[2#64, 4#64], [T.leaf 4]⟩, [T.leaf 3, .leaf 1]) := by
  decide +kernel

/-- level 2, `proofUndoDel_canonical` applies -/
example : ∃ K' tg hs, K'.Perm [T.leaf 3, .leaf 1] ∧ Fv.canon K' = some (tg, hs) ∧
    tg.Pairwise Sorted.PLt ∧
    proofUndoDel ⟨[((0, 2) : Pos), (1, 0)].map (E Fv.rows), [T.leaf 4]⟩
        ([((0, 1) : Pos)].map (E Fv.rows)) [T.leaf 2] [T.leaf 3, .leaf 1]
        ([((0, 1) : Pos)].map (E Fv.rows)) [T.leaf 1, .node (.leaf 3) (.leaf 4)]
        (BitVec.ofNat 64 Fv.numLeaves) = .ok (⟨tg.map (E Fv.rows), hs⟩, K') :=
  proofUndoDel_canonical (by decide) cr.nonzero (fun l hl => (Fv_live l hl).1) (by decide)
    (by decide) canonDv (by decide +kernel) (by simp [Sorted.PLt])

/-- the model of level 2, simply run: leaf 1 moves back from `(1,0) = 4` to `(0,0) = 0`; the hash
of the deleted leaf 2 becomes a proof hash -/
example : proofUndoDel (H := T) ⟨[2#64, 4#64], [T.leaf 4]⟩ [1#64] [T.leaf 2] [T.leaf 3, .leaf 1]
    [1#64] [T.leaf 1, .node (.leaf 3) (.leaf 4)] 4#64 =
    .ok (⟨[0#64, 2#64], [T.leaf 2, .leaf 4]⟩, [T.leaf 1, .leaf 3]) := by decide +kernel

/-- `update_then_undo_partial` applies: the client holds leaves 1 and 3, the block deletes leaf 2
and adds 5, 6 (remember index 1, leaf 6) -/
example : ∃ (ud : UpdateData T) (p' : CProof T) (C' : List T),
    (C01b.stumpOf Fv).update (T.leaf 0) [T.leaf 2] [T.leaf 5, .leaf 6]
        (encTargets Fv.rows [(0, 1)]) [T.leaf 1, .node (.leaf 3) (.leaf 4)] =
      .ok (C01b.stumpOf (Fv.modify [T.leaf 2] [T.leaf 5, .leaf 6]), ud) ∧
    proofUpdate ⟨[((0, 0) : Pos), (0, 2)].map (E Fv.rows), [T.leaf 2, .leaf 4]⟩ [T.leaf 1, .leaf 3]
        [T.leaf 5, .leaf 6] (encTargets Fv.rows [(0, 1)]) [1] (C07.toM ud) = .ok (p', C') ∧
    (ud.toDestroy = [] →
      ∃ K tg hs, K.Perm ([T.leaf 1, T.leaf 3].filter (fun x => decide (x ∉ [T.leaf 2]))) ∧
        Fv.canon K = some (tg, hs) ∧ tg.Pairwise Sorted.PLt ∧
        proofUndoOld p' (BitVec.ofNat 64 [T.leaf 5, T.leaf 6].length)
            (BitVec.ofNat 64 (Fv.modify [T.leaf 2] [T.leaf 5, .leaf 6]).numLeaves)
            (encTargets Fv.rows [(0, 1)]) [T.leaf 2] C' ud.toDestroy
            (encTargets Fv.rows [(0, 1)]) [T.leaf 1, .node (.leaf 3) (.leaf 4)] =
          .ok (⟨tg.map (E Fv.rows), hs⟩, K)) :=
  update_then_undo_partial cr (T.leaf 0) (by intro h; cases h) Fv [T.leaf 1, .leaf 3] [T.leaf 2]
    [T.leaf 5, .leaf 6] _ _ _ _ [1] (by decide) (by decide) Fv_live adds56 (by decide)
    (fun x hx hx' => absurd hx' (adds56_new x hx)) (by decide) canonDv (by decide)
    (by decide +kernel) (by decide) (by decide)

/-- `client_history_undo_last_partial` applies to the three-block history of `Props/C07.lean`
(block 3 deletes leaves 1 and 4 and adds leaf 6; the accumulator before it holds 5 slots) -/
example : ∃ (tgD : List Pos) (hsD : List T) (ud : UpdateData T) (p' : CProof T) (C' : List T),
    (run Forest.empty ((C07.Example.histR.take 2).map C07.toBlock)).canon [T.leaf 1, .leaf 4] =
      some (tgD, hsD) ∧
    (C01b.stumpOf (run Forest.empty ((C07.Example.histR.take 2).map C07.toBlock))).update (T.leaf 0)
        [T.leaf 1, .leaf 4] [T.leaf 6]
        (encTargets (run Forest.empty ((C07.Example.histR.take 2).map C07.toBlock)).rows tgD) hsD =
      .ok (C01b.stumpOf (run Forest.empty ((C07.Example.histR.take 2 ++
        [([T.leaf 1, .leaf 4], [T.leaf 6], [])]).map C07.toBlock)), ud) ∧
    C07.clientRun (T.leaf 0) Forest.empty (⟨[], []⟩, [])
      (C07.Example.histR.take 2 ++ [([T.leaf 1, .leaf 4], [T.leaf 6], [])]) = some (p', C') ∧
    (ud.toDestroy = [] →
      ∃ K tg hs, K.Perm ((C07.expectedRun [] (C07.Example.histR.take 2)).filter
          (fun x => decide (x ∉ [T.leaf 1, T.leaf 4]))) ∧
        (run Forest.empty ((C07.Example.histR.take 2).map C07.toBlock)).canon K = some (tg, hs) ∧
        tg.Pairwise Sorted.PLt ∧
        proofUndoOld p' (BitVec.ofNat 64 [T.leaf 6].length)
            (BitVec.ofNat 64 (run Forest.empty ((C07.Example.histR.take 2 ++
              [([T.leaf 1, .leaf 4], [T.leaf 6], [])]).map C07.toBlock)).numLeaves)
            (encTargets (run Forest.empty ((C07.Example.histR.take 2).map C07.toBlock)).rows tgD)
            [T.leaf 1, .leaf 4] C' ud.toDestroy
            (encTargets (run Forest.empty ((C07.Example.histR.take 2).map C07.toBlock)).rows tgD) hsD =
          .ok (⟨tg.map (E (run Forest.empty ((C07.Example.histR.take 2).map C07.toBlock)).rows), hs⟩,
            K)) :=
  client_history_undo_last_partial cr (T.leaf 0) (by intro h; cases h) (C07.Example.histR.take 2)
    [T.leaf 1, .leaf 4] [T.leaf 6] [] histC_valid (by decide) (by decide)

/-- on that history the model, simply run: the client holds leaves 2, 5, 4 after two blocks; after
the third block it holds 5 and 2; undoing the third block (`ToDestroy = ∅`) it holds 2 and 5 again
(leaf 4, deleted by the block, is not restored — as documented) with their canonical proof in the
5-slot accumulator `[1, 2, dead, 4, 5]` -/
example : proofUndoOld (H := T) ⟨[4#64, 12#64], [T.leaf 6]⟩ 1#64 6#64 [0#64, 9#64] [T.leaf 1, .leaf 4]
    [T.leaf 5, .leaf 2] [] [0#64, 9#64] [T.leaf 2] =
    .ok (⟨[1#64, 4#64], [T.leaf 1, .leaf 4]⟩, [T.leaf 2, .leaf 5]) := by decide +kernel

example : (run Forest.empty ((C07.Example.histR.take 2).map C07.toBlock)).canon [T.leaf 2, .leaf 5] =
    some ([(0, 1), (0, 4)], [T.leaf 1, .leaf 4]) := by decide +kernel

end Example

/-- **C08 full statement is false (class `C08.undo.emptyRootsOverwritten`)**, on the term-algebra
hash; see `Example.fails_emptyRootsOverwritten` for the witness -/
theorem C08_fails_emptyRootsOverwritten : ¬ C08_statement C01.Example.T :=
  Example.fails_emptyRootsOverwritten

/-- **C08 full statement is false (class `C08.undo.toEmpty`)**, on the term-algebra hash; see
`Example.fails_toEmpty` for the witness -/
theorem C08_fails_toEmpty : ¬ C08_statement C01.Example.T := Example.fails_toEmpty

end
end UtreexoVerif.Props.C08
