/-
  C03c — soundness of `MapPollard.verify` for EVERY `TotalRows`, and of
  `VerifyPartialProof`.

  `MapPollard.verify` (mappollard.go) first rewrites the targets
  `proof.Targets = translatePositions(proof.Targets, m.TotalRows, TreeRows(m.NumLeaves))`
  when the two row counts differ and then runs the stand-alone `Verify`.  `Props/C03b.lean`
  proves soundness for `TotalRows = TreeRows`.  Here:

  * `mapVerify_sound_any` — for every `totalRows`: whatever is accepted is a true claim about
    the node at the TRANSLATED target (`xlate`);
  * `xlate_eq_self_of_lt` / `mapVerify_sound_below` — the translation is the identity on every
    target `t < 2^totalRows`; for those targets the claim is true as given.  Every position of
    the API's `TreeRows` coordinates lies in that range when `TreeRows < TotalRows`
    (`valid_pos_lt_boundary`), so no honest claim is affected;
  * `not_trueClaim_of_ge` — a target `t ≥ 2^totalRows` (with `TreeRows < TotalRows`) is never a
    position of the forest in the API's coordinates, so ANY acceptance of such a target is a
    deviation from the documented meaning; `Finding.accepted` exhibits one (4 leaves,
    `TotalRows = 3`: the hash of position 4 is accepted at position 8) — the known finding
    `C03.mapverify.totalrows`.  The boundary `2^totalRows` is exact: below it claims are judged
    as given, at or above it nothing accepted is a true claim as given.
  * `verifyPartialProof_*` — the two models of `VerifyPartialProof` agree on the verdict, and
    the verdict is sound with NO hypothesis on the stored hashes other than "the stored roots
    are the roots of `F`".
-/
import UtreexoVerif.Props.C03b
import UtreexoVerif.Props.C16
import UtreexoVerif.Props.C09
import UtreexoVerif.Model.ProofOps
import UtreexoVerif.Model.MapPollard

namespace UtreexoVerif.Props.C03c
open Model Hasher Spec GoInt
open UtreexoVerif.Proofs UtreexoVerif.Proofs.SpecNodes UtreexoVerif.Proofs.SpecView
open UtreexoVerif.Props.C03b

/-- the position `MapPollard.verify` checks for a claimed target `t` -/
def xlate (n : U64) (totalRows : U8) (t : U64) : U64 :=
  if TreeRows n ≠ totalRows then translatePos t totalRows (TreeRows n) else t

section
variable {H : Type} [DecidableEq H] [Hasher H]

theorem mapVerify_eq (n : U64) (totalRows : U8) (roots hs : List H) (ts : List U64) (ps : List H) :
    mapVerify n totalRows roots hs ts ps = verify n roots hs (ts.map (xlate n totalRows)) ps := by
  unfold mapVerify xlate translatePositions
  simp only
  split
  · rfl
  · simp

end

section
variable (H : Type) [DecidableEq H] [Hasher H]

/-- **`MapPollard.verify`, any `TotalRows`**: every accepted `(target, hash)` is a true claim
about the node at the translated target. -/
def mapVerify_sound_any_statement : Prop :=
  ∀ (F : Forest H), CR H → LeafOK F → F.numLeaves < 2 ^ 63 →
  ∀ (totalRows : U8) (hs : List H) (ts : List U64) (ps : List H) (idx : List Nat),
    (∀ h ∈ hs, h ≠ (zero : H)) →
    mapVerify (BitVec.ofNat 64 F.numLeaves) totalRows F.roots hs ts ps = .ok idx →
    ∀ x ∈ ts.zip hs, TrueClaim F (xlate (BitVec.ofNat 64 F.numLeaves) totalRows x.1, x.2)

end

section
variable {H : Type} [DecidableEq H] [Hasher H]

theorem mapVerify_sound_any : mapVerify_sound_any_statement H := by
  intro F cr hF hn totalRows hs ts ps idx hnz h x hx
  rw [mapVerify_eq] at h
  apply verify_sound_spec_full F cr hF hn hs _ ps idx hnz h
  rw [List.zip_map_left]
  exact List.mem_map.2 ⟨x, hx, rfl⟩

theorem and_one_shl_eq_zero {t : U64} {k : Nat} (h : t.toNat < 2 ^ k) :
    t &&& shl 1#64 k = 0#64 := by
  by_cases hk : k < 64
  · have := and_twoPow_ne_zero t hk
    rw [one_shl_eq_twoPow]
    have hb : t.getLsbD k = false := by
      rw [BitVec.getLsbD]
      exact Nat.testBit_lt_two_pow h
    rw [hb] at this
    simpa using this
  · rw [shl_eq, BitVec.shiftLeft_eq_zero (by omega)]
    simp

theorem detectRow_eq_zero {t : U64} {rows : U8} (h : t.toNat < 2 ^ rows.toNat) :
    DetectRow t rows = 0#8 := by
  unfold DetectRow
  simp only
  have : DetectRow.loop1 t 300 (shl 1#64 rows.toNat) 0#8 = .done (shl 1#64 rows.toNat, 0#8) := by
    rw [show (300 : Nat) = 299 + 1 from rfl, DetectRow.loop1, and_one_shl_eq_zero h]
    simp
  rw [this]

theorem translatePos_eq_self {t : U64} {fromRows toRows : U8} (h : t.toNat < 2 ^ fromRows.toNat) :
    translatePos t fromRows toRows = t := by
  unfold translatePos
  rw [detectRow_eq_zero h]
  simp

theorem xlate_eq_self_of_lt (n : U64) {totalRows : U8} {t : U64} (h : t.toNat < 2 ^ totalRows.toNat) :
    xlate n totalRows t = t := by
  unfold xlate
  split
  · exact translatePos_eq_self h
  · rfl

theorem trueClaim_below {F : Forest H} {n : U64} {totalRows : U8} {ts : List U64} {hs : List H}
    (h : ∀ x ∈ ts.zip hs, TrueClaim F (xlate n totalRows x.1, x.2)) :
    ∀ x ∈ ts.zip hs, x.1.toNat < 2 ^ totalRows.toNat → TrueClaim F x := by
  intro x hx hlt
  have := h x hx
  rwa [xlate_eq_self_of_lt _ hlt] at this

/-- **below the boundary the claim is true as given** -/
theorem mapVerify_sound_below {F : Forest H} (cr : CR H) (hF : LeafOK F) (hn : F.numLeaves < 2 ^ 63)
    {totalRows : U8} {hs : List H} {ts : List U64} {ps : List H} {idx : List Nat}
    (hnz : ∀ h ∈ hs, h ≠ (zero : H))
    (h : mapVerify (BitVec.ofNat 64 F.numLeaves) totalRows F.roots hs ts ps = .ok idx) :
    ∀ x ∈ ts.zip hs, x.1.toNat < 2 ^ totalRows.toNat → TrueClaim F x :=
  trueClaim_below (mapVerify_sound_any F cr hF hn totalRows hs ts ps idx hnz h)

/-- every position of the forest, written in the API's `TreeRows` coordinates, lies below the
boundary as soon as `TreeRows < TotalRows`: the translation never touches an honest claim -/
theorem valid_pos_lt_boundary {rows T r o : Nat} (hrows : rows ≤ 63) (hlt : rows < T)
    (hr : r ≤ rows) (ho : o < 2 ^ (rows - r)) : (encU rows r o).toNat < 2 ^ T := by
  rw [toNat_encU hrows hr ho]
  have h1 := enc_lt_aux hr ho
  have h2 : 2 ^ (rows + 1) ≤ 2 ^ T := two_pow_le_of_le (by omega)
  omega

/-- **at or above the boundary no claim is true as given** (`TreeRows < TotalRows`) -/
theorem not_trueClaim_of_ge {F : Forest H} (hn : F.numLeaves < 2 ^ 63) {T : Nat} (hlt : F.rows < T)
    {x : U64 × H} (hge : 2 ^ T ≤ x.1.toNat) : ¬ TrueClaim F x := by
  rintro ⟨r, o, hr, ho, he, _⟩
  have := valid_pos_lt_boundary (rows := F.rows) (forestRows_le_63 hn) hlt hr ho
  rw [← he] at this
  omega

/-- **the method accepts both coordinate systems**: a target written as position `(r, o)` in
`TotalRows` coordinates is checked against the node at `(r, o)` -/
theorem mapVerify_sound_at_totalRows {F : Forest H} (cr : CR H) (hF : LeafOK F)
    (hn : F.numLeaves < 2 ^ 63) {T : Nat} (hT : T ≤ 63)
    {hs : List H} {ts : List U64} {ps : List H} {idx : List Nat}
    (hnz : ∀ h ∈ hs, h ≠ (zero : H))
    (h : mapVerify (BitVec.ofNat 64 F.numLeaves) (H8 T) F.roots hs ts ps = .ok idx)
    {r o : Nat} {c : H} (hr : r ≤ F.rows) (ho : o < 2 ^ (F.rows - r)) (hr' : r ≤ T)
    (ho' : o < 2 ^ (T - r)) (hx : (encU T r o, c) ∈ ts.zip hs) : F.nodeAt (r, o) = some c := by
  have hrows : F.rows ≤ 63 := forestRows_le_63 hn
  rw [mapVerify_eq] at h
  apply verify_sound_spec_at cr hF hn hnz h hr ho
  rw [List.zip_map_left]
  refine List.mem_map.2 ⟨(encU T r o, c), hx, ?_⟩
  simp only [Prod.map, id, Prod.mk.injEq, and_true]
  unfold xlate
  rw [treeRows_eq hn]
  split
  · exact Props.C16.translatePos_enc hT hr' ho' hrows hr ho
  · rename_i hne
    have h' : H8 (forestRows F.numLeaves) = H8 T := by simpa using hne
    have : forestRows F.numLeaves = T := H8_inj (Nat.le_trans hrows (by decide)) (by omega) h'
    rw [← this]; rfl

/-- so: with `TreeRows < TotalRows`, an accepted target is a position of the forest (and the
claim about it is true) iff it is below `2^TotalRows` -/
theorem mapVerify_accepts_exact {F : Forest H} (cr : CR H) (hF : LeafOK F) (hn : F.numLeaves < 2 ^ 63)
    {totalRows : U8} (hlt : F.rows < totalRows.toNat)
    {hs : List H} {ts : List U64} {ps : List H} {idx : List Nat}
    (hnz : ∀ h ∈ hs, h ≠ (zero : H))
    (h : mapVerify (BitVec.ofNat 64 F.numLeaves) totalRows F.roots hs ts ps = .ok idx) :
    ∀ x ∈ ts.zip hs, (TrueClaim F x ↔ x.1.toNat < 2 ^ totalRows.toNat) := by
  intro x hx
  constructor
  · intro ht
    by_cases hc : x.1.toNat < 2 ^ totalRows.toNat
    · exact hc
    · exact absurd ht (not_trueClaim_of_ge hn hlt (by omega))
  · exact mapVerify_sound_below cr hF hn hnz h x hx

end

section
variable {H : Type} [DecidableEq H] [Hasher H]

/-- the stored hashes of a state, as the `get` argument of `mapVerifyPartialProof` -/
def storedHash (m : MapPollard H) (p : U64) : Option H := (m.getNode p).map (·.hash)

def toExcept {α : Type} : Out α → Except Fail α
  | .ok a => .ok a
  | .err => .error .err
  | .panic => .error .panic
  | .hang => .error .hang

omit [DecidableEq H] in
theorem getNodeD_hash (m : MapPollard H) (p : U64) :
    (m.getNodeD p).hash = (storedHash m p).getD zero := by
  unfold MapPollard.getNodeD storedHash
  cases m.getNode p <;> rfl

theorem getRoots_eq (m : MapPollard H) :
    m.getRoots.1 = mapGetRoots m.numLeaves m.totalRows (storedHash m) := by
  unfold MapPollard.getRoots mapGetRoots
  simp only
  apply List.map_congr_left
  intro p _
  exact getNodeD_hash m p

/-- the accumulator loop of the state machine = the list recursion of `partialProofHashes` -/
theorem merge_eq (m : MapPollard H) : ∀ (ps : List U64) (supplied acc : List H),
    MapPollard.verifyPartialProof.merge m ps supplied acc =
      match partialProofHashes (storedHash m) ps supplied with
      | .ok l => some (acc ++ l)
      | _ => none := by
  intro ps
  induction ps with
  | nil => intro supplied acc; simp [MapPollard.verifyPartialProof.merge, partialProofHashes]
  | cons pos ps ih =>
    intro supplied acc
    unfold MapPollard.verifyPartialProof.merge partialProofHashes
    simp only [getNodeD_hash]
    split
    · cases supplied with
      | nil => rfl
      | cons s rest =>
        simp only
        rw [ih]
        cases partialProofHashes (storedHash m) ps rest <;> simp [Out.bind]
    · rw [ih]
      cases partialProofHashes (storedHash m) ps supplied <;> simp [Out.bind]

theorem partialProofHashes_total (get : U64 → Option H) : ∀ (ps : List U64) (supplied : List H),
    (∃ l, partialProofHashes get ps supplied = .ok l) ∨ partialProofHashes get ps supplied = .err := by
  intro ps
  induction ps with
  | nil => intro s; exact Or.inl ⟨[], rfl⟩
  | cons pos ps ih =>
    intro supplied
    unfold partialProofHashes
    simp only
    split
    · cases supplied with
      | nil => exact Or.inr rfl
      | cons s rest =>
        rcases ih rest with ⟨l, hl⟩ | hl
        · exact Or.inl ⟨s :: l, by simp [hl, Out.bind]⟩
        · exact Or.inr (by simp [hl, Out.bind])
    · rcases ih supplied with ⟨l, hl⟩ | hl
      · exact Or.inl ⟨(get pos).getD zero :: l, by simp [hl, Out.bind]⟩
      · exact Or.inr (by simp [hl, Out.bind])

/-- the proof positions both models look up -/
def partialPositions (n : U64) (totalRows : U8) (origTargets : List U64) : List U64 :=
  let tr := TreeRows n
  let pp := (ProofPositions (sortU64 origTargets) n tr).1
  if tr ≠ totalRows then translatePositions pp tr totalRows else pp

theorem mapVerifyPartialProof_eq (n : U64) (totalRows : U8) (get : U64 → Option H)
    (ts : List U64) (hs ps : List H) :
    mapVerifyPartialProof n totalRows get ts hs ps =
      (partialProofHashes get (partialPositions n totalRows ts) ps).bind fun all =>
        (mapVerify n totalRows (mapGetRoots n totalRows get) hs ts all).bind fun _ => .ok () := rfl

/-- **the one opening of `VerifyPartialProof`**: the stored and the supplied hashes are merged along
`partialPositions`; if that succeeds the call is `Verify` on the merged proof, else it fails with
the state unchanged -/
theorem verifyPartialProof_cases (m : MapPollard H) (ts : List U64) (hs ps : List H) (remember : Bool) :
    (∃ l, partialProofHashes (storedHash m) (partialPositions m.numLeaves m.totalRows ts) ps = .ok l ∧
      MapPollard.verifyPartialProof ts hs ps remember m = MapPollard.verifyM hs ts l remember m) ∨
    (partialProofHashes (storedHash m) (partialPositions m.numLeaves m.totalRows ts) ps = .err ∧
      MapPollard.verifyPartialProof ts hs ps remember m = (m, .error .err)) := by
  unfold MapPollard.verifyPartialProof
  simp only
  rw [show (if TreeRows m.numLeaves ≠ m.totalRows then
        translatePositions (ProofPositions (sortU64 ts) m.numLeaves (TreeRows m.numLeaves)).1
          (TreeRows m.numLeaves) m.totalRows
      else (ProofPositions (sortU64 ts) m.numLeaves (TreeRows m.numLeaves)).1) =
      partialPositions m.numLeaves m.totalRows ts from rfl, merge_eq]
  rcases partialProofHashes_total (storedHash m) (partialPositions m.numLeaves m.totalRows ts) ps with
    ⟨l, hl⟩ | hl
  · rw [hl]
    simp only [List.nil_append]
    exact Or.inl ⟨l, rfl, rfl⟩
  · rw [hl]
    exact Or.inr ⟨rfl, rfl⟩

theorem verifyM_false (m : MapPollard H) (hs : List H) (ts : List U64) (ps : List H) :
    MapPollard.verifyM hs ts ps false m =
      (m, toExcept ((mapVerify m.numLeaves m.totalRows m.getRoots.1 hs ts ps).bind fun _ => .ok ())) := by
  unfold MapPollard.verifyM mapVerify
  simp only
  cases verify m.numLeaves m.getRoots.1 hs
    (if TreeRows m.numLeaves ≠ m.totalRows then translatePositions ts m.totalRows (TreeRows m.numLeaves) else ts)
    ps <;> rfl

/-- **the two models of `VerifyPartialProof` agree** (no `remember`): same state, same outcome -/
theorem verifyPartialProof_false (m : MapPollard H) (ts : List U64) (hs ps : List H) :
    MapPollard.verifyPartialProof ts hs ps false m =
      (m, toExcept (mapVerifyPartialProof m.numLeaves m.totalRows (storedHash m) ts hs ps)) := by
  rw [mapVerifyPartialProof_eq]
  rcases verifyPartialProof_cases m ts hs ps false with ⟨l, hl, h⟩ | ⟨hl, h⟩
  · rw [h, hl, verifyM_false, getRoots_eq]
    rfl
  · rw [h, hl]; rfl

/-- with `remember` the verdict is still that of the functional model: `ok` implies `ok` … -/
theorem verifyM_ok {m : MapPollard H} {hs : List H} {ts : List U64} {ps : List H} {remember : Bool}
    (h : (MapPollard.verifyM hs ts ps remember m).2 = .ok ()) :
    ∃ idx, mapVerify m.numLeaves m.totalRows m.getRoots.1 hs ts ps = .ok idx := by
  unfold MapPollard.verifyM at h
  unfold mapVerify
  simp only at h ⊢
  generalize verify m.numLeaves m.getRoots.1 hs
    (if TreeRows m.numLeaves ≠ m.totalRows then translatePositions ts m.totalRows (TreeRows m.numLeaves) else ts)
    ps = v at h ⊢
  cases v with
  | ok idx => exact ⟨idx, rfl⟩
  | err => simp at h
  | panic => simp at h
  | hang => simp at h

theorem verifyPartialProof_ok {m : MapPollard H} {ts : List U64} {hs ps : List H} {remember : Bool}
    (h : (MapPollard.verifyPartialProof ts hs ps remember m).2 = .ok ()) :
    mapVerifyPartialProof m.numLeaves m.totalRows (storedHash m) ts hs ps = .ok () := by
  rw [mapVerifyPartialProof_eq]
  rcases verifyPartialProof_cases m ts hs ps remember with ⟨l, hl, e⟩ | ⟨hl, e⟩
  · rw [e] at h
    obtain ⟨idx, hidx⟩ := verifyM_ok h
    rw [getRoots_eq] at hidx
    simp [hl, Out.bind, hidx]
  · rw [e] at h; simp at h

end

section
variable (H : Type) [DecidableEq H] [Hasher H]

/-- **`VerifyPartialProof` is sound, whatever the instance has stored.**  The only link between
the state and the forest `F` is that the stored ROOTS are the roots of `F`; every other stored
hash is used as a proof hash only, so it needs no hypothesis at all (a wrong stored hash can
make an honest proof fail, never a false claim pass). -/
def mapVerifyPartialProof_sound_statement : Prop :=
  ∀ (F : Forest H), CR H → LeafOK F → F.numLeaves < 2 ^ 63 →
  ∀ (totalRows : U8) (get : U64 → Option H),
    mapGetRoots (BitVec.ofNat 64 F.numLeaves) totalRows get = F.roots →
  ∀ (ts : List U64) (hs ps : List H),
    (∀ h ∈ hs, h ≠ (zero : H)) →
    mapVerifyPartialProof (BitVec.ofNat 64 F.numLeaves) totalRows get ts hs ps = .ok () →
    ∀ x ∈ ts.zip hs, TrueClaim F (xlate (BitVec.ofNat 64 F.numLeaves) totalRows x.1, x.2)

end

section
variable {H : Type} [DecidableEq H] [Hasher H]

theorem mapVerifyPartialProof_sound : mapVerifyPartialProof_sound_statement H := by
  intro F cr hF hn totalRows get hroots ts hs ps hnz h x hx
  rw [mapVerifyPartialProof_eq, Proofs.CalcSound.bind_eq_ok] at h
  obtain ⟨all, _, h⟩ := h
  rw [Proofs.CalcSound.bind_eq_ok] at h
  obtain ⟨idx, h, _⟩ := h
  rw [hroots] at h
  exact mapVerify_sound_any F cr hF hn totalRows hs ts all idx hnz h x hx

/-- the state machine's `Verify(delHashes, proof, remember)` -/
theorem verifyM_sound {m : MapPollard H} {F : Forest H} (cr : CR H) (hF : LeafOK F)
    (hn : F.numLeaves < 2 ^ 63) (hnum : m.numLeaves = BitVec.ofNat 64 F.numLeaves)
    (hroots : m.roots = F.roots) {hs : List H} {ts : List U64} {ps : List H} {remember : Bool}
    (hnz : ∀ h ∈ hs, h ≠ (zero : H))
    (h : (MapPollard.verifyM hs ts ps remember m).2 = .ok ()) :
    ∀ x ∈ ts.zip hs, TrueClaim F (xlate m.numLeaves m.totalRows x.1, x.2) := by
  obtain ⟨idx, hidx⟩ := verifyM_ok h
  rw [show m.getRoots.1 = m.roots from rfl, hroots, hnum] at hidx
  rw [hnum]
  exact mapVerify_sound_any F cr hF hn m.totalRows hs ts ps idx hnz hidx

/-- the state machine's `VerifyPartialProof(targets, hashes, proofHashes, remember)` -/
theorem verifyPartialProof_sound {m : MapPollard H} {F : Forest H} (cr : CR H) (hF : LeafOK F)
    (hn : F.numLeaves < 2 ^ 63) (hnum : m.numLeaves = BitVec.ofNat 64 F.numLeaves)
    (hroots : m.roots = F.roots) {hs ps : List H} {ts : List U64} {remember : Bool}
    (hnz : ∀ h ∈ hs, h ≠ (zero : H))
    (h : (MapPollard.verifyPartialProof ts hs ps remember m).2 = .ok ()) :
    ∀ x ∈ ts.zip hs, TrueClaim F (xlate m.numLeaves m.totalRows x.1, x.2) := by
  have h' := verifyPartialProof_ok h
  rw [hnum] at h' ⊢
  refine mapVerifyPartialProof_sound F cr hF hn m.totalRows (storedHash m) ?_ ts hs ps hnz h'
  rw [← hnum, ← getRoots_eq]
  exact hroots

open UtreexoVerif.Proofs.MapInv in
/-- under `Inv m F` the translated target is the decoding of the target in the coordinates the
method actually reads (`TotalRows` at or above the boundary, `TreeRows` below it) -/
theorem verifyPartialProof_sound_inv {m : MapPollard H} {F : Forest H} (inv : Inv m F)
    (cr : CR H) (hF : LeafOK F) {hs ps : List H} {ts : List U64} {remember : Bool}
    (hnz : ∀ h ∈ hs, h ≠ (zero : H))
    (h : (MapPollard.verifyPartialProof ts hs ps remember m).2 = .ok ()) :
    ∀ x ∈ ts.zip hs, TrueClaim F (xlate m.numLeaves m.totalRows x.1, x.2) :=
  verifyPartialProof_sound cr hF inv.n_lt inv.n_eq (Props.C09.roots_eq inv) hnz h

open UtreexoVerif.Proofs.MapInv in
/-- **`VerifyPartialProof` under the invariant, `TotalRows = TreeRows`: every claim is true at
the position given** -/
theorem verifyPartialProof_sound_inv_eq {m : MapPollard H} {F : Forest H} (inv : Inv m F)
    (cr : CR H) (hF : LeafOK F) (heq : m.totalRows = TreeRows m.numLeaves)
    {hs ps : List H} {ts : List U64} {remember : Bool}
    (hnz : ∀ h ∈ hs, h ≠ (zero : H))
    (h : (MapPollard.verifyPartialProof ts hs ps remember m).2 = .ok ()) :
    ∀ x ∈ ts.zip hs, TrueClaim F x := by
  intro x hx
  have := verifyPartialProof_sound_inv inv cr hF hnz h x hx
  unfold xlate at this
  rwa [if_neg (by simp [heq])] at this

open UtreexoVerif.Proofs.MapInv in
/-- … and for any `TotalRows`, at the position given whenever the target is below the boundary
`2^TotalRows` (in particular for every position of the API's coordinates) -/
theorem verifyPartialProof_sound_inv_below {m : MapPollard H} {F : Forest H} (inv : Inv m F)
    (cr : CR H) (hF : LeafOK F) {hs ps : List H} {ts : List U64} {remember : Bool}
    (hnz : ∀ h ∈ hs, h ≠ (zero : H))
    (h : (MapPollard.verifyPartialProof ts hs ps remember m).2 = .ok ()) :
    ∀ x ∈ ts.zip hs, x.1.toNat < 2 ^ m.totalRows.toNat → TrueClaim F x :=
  trueClaim_below (verifyPartialProof_sound_inv inv cr hF hnz h)

open UtreexoVerif.Proofs.MapInv in
theorem verifyM_sound_inv_below {m : MapPollard H} {F : Forest H} (inv : Inv m F)
    (cr : CR H) (hF : LeafOK F) {hs ps : List H} {ts : List U64} {remember : Bool}
    (hnz : ∀ h ∈ hs, h ≠ (zero : H))
    (h : (MapPollard.verifyM hs ts ps remember m).2 = .ok ()) :
    ∀ x ∈ ts.zip hs, x.1.toNat < 2 ^ m.totalRows.toNat → TrueClaim F x :=
  trueClaim_below (verifyM_sound cr hF inv.n_lt inv.n_eq (Props.C09.roots_eq inv) hnz h)

end

/-! ### the known finding `C03.mapverify.totalrows`, and non-vacuity

Four leaves `0..3` over the free term algebra, `TreeRows = 2`:

```
row 2:                 6
row 1:        4 = (0,1)      5 = (2,3)
row 0:      0     1        2     3
```

In a `MapPollard` whose `TotalRows` is 3 the same nodes are stored at `0..3, 8, 9, 12`. -/

namespace Finding
open C03.Example

def F : Forest T := ⟨[some (.leaf 0), some (.leaf 1), some (.leaf 2), some (.leaf 3)]⟩

def h4 : T := .node (.leaf 0) (.leaf 1)
def h5 : T := .node (.leaf 2) (.leaf 3)

example : F.numLeaves = 4 ∧ F.rows = 2 ∧ F.roots = [T.node h4 h5] := by decide +kernel

theorem leafOK : LeafOK F := by
  apply LeafOK.of_liveLeaves
  intro l hl a b _ _ he
  have : l = .leaf 0 ∨ l = .leaf 1 ∨ l = .leaf 2 ∨ l = .leaf 3 := by
    simpa [F, Forest.liveLeaves] using hl
  rcases this with rfl | rfl | rfl | rfl <;> cases he

theorem small : F.numLeaves < 2 ^ 63 := by decide

theorem nz {l : List T} (h : ∀ x ∈ l, x ≠ T.z) : ∀ x ∈ l, x ≠ (zero : T) := h

/-- **the finding**: `TotalRows = 3`; the hash of position 4 is accepted at position 8, with the
hash of position 5 as the proof -/
theorem accepted :
    mapVerify (BitVec.ofNat 64 F.numLeaves) 3#8 F.roots [h4] [8#64] [h5] = .ok [0] := by
  decide +kernel

/-- the position checked is 4 … -/
example : xlate (BitVec.ofNat 64 F.numLeaves) 3#8 8#64 = 4#64 := by decide +kernel

/-- … where the claim is true (`mapVerify_sound_any` on the accepted run) … -/
example : TrueClaim F (4#64, h4) := by
  have := mapVerify_sound_any F cr leafOK small 3#8 [h4] [8#64] [h5] [0]
    (by intro h hh; simp at hh; subst hh; intro hz; cases hz) accepted (8#64, h4) (by simp)
  rwa [show xlate (BitVec.ofNat 64 F.numLeaves) 3#8 8#64 = 4#64 from by decide +kernel] at this

/-- … but position 8 is not a position of a 4-leaf forest: the accepted claim, read as the API
documents it, is false -/
theorem claim_false : ¬ TrueClaim F (8#64, h4) :=
  not_trueClaim_of_ge small (T := 3) (by decide) (by decide)

/-- the same in the configuration every `NewMapPollard` starts in, `TotalRows = 63`: the hash of
position 4 is accepted at position `2^63` (replayed on the Go code: `Verify` and
`VerifyPartialProof` of a fresh 4-leaf `MapPollard` return `nil` for it) -/
theorem accepted63 :
    mapVerify (BitVec.ofNat 64 F.numLeaves) 63#8 F.roots [h4] [BitVec.twoPow 64 63] [h5] = .ok [0] := by
  decide +kernel

example : ¬ TrueClaim F (BitVec.twoPow 64 63, h4) :=
  not_trueClaim_of_ge small (T := 63) (by decide) (by decide)

/-- `mapVerify_sound_at_totalRows` on the accepted run: position 8 of the 3-row geometry is
`(1, 0)`, and the node of `F` at `(1, 0)` (API position 4) has the claimed hash -/
example : F.nodeAt (1, 0) = some h4 :=
  mapVerify_sound_at_totalRows (F := F) cr leafOK small (T := 3) (by decide)
    (by intro h hh; simp at hh; subst hh; intro hz; cases hz) accepted (r := 1) (o := 0)
    (by decide) (by decide) (by decide) (by decide) (by decide)

/-- the same claim is rejected when `TotalRows = TreeRows` -/
example : mapVerify (BitVec.ofNat 64 F.numLeaves) 2#8 F.roots [h4] [8#64] [h5] = .err := by
  decide +kernel

/-- the honest claim (position 4) is accepted as well, and it is below the boundary -/
theorem accepted_honest :
    mapVerify (BitVec.ofNat 64 F.numLeaves) 3#8 F.roots [h4] [4#64] [h5] = .ok [0] := by
  decide +kernel

example : TrueClaim F (4#64, h4) :=
  mapVerify_sound_below cr leafOK small
    (by intro h hh; simp at hh; subst hh; intro hz; cases hz) accepted_honest (4#64, h4) (by simp)
    (by decide)

example : TrueClaim F (4#64, h4) ↔ (4#64 : U64).toNat < 2 ^ (3#8 : U8).toNat :=
  mapVerify_accepts_exact cr leafOK small (totalRows := 3#8) (by decide)
    (by intro h hh; simp at hh; subst hh; intro hz; cases hz) accepted_honest (4#64, h4) (by simp)

example : TrueClaim F (8#64, h4) ↔ (8#64 : U64).toNat < 2 ^ (3#8 : U8).toNat :=
  mapVerify_accepts_exact cr leafOK small (totalRows := 3#8) (by decide)
    (by intro h hh; simp at hh; subst hh; intro hz; cases hz) accepted (8#64, h4) (by simp)

/-! #### `VerifyPartialProof` on a concrete state

A non-full `MapPollard` with `TotalRows = 3` holding the root (position 12) and, wrongly or
rightly, a hash at position 9 (= node 5 of the API).  The proof for leaf 0 needs positions
1 and 9 (API: 1 and 5); position 9 is stored, so the caller supplies the hash of position 1
only. -/

def st (h9 : T) : MapPollard T :=
  { nodes := [(12#64, ⟨T.node h4 h5, false⟩), (9#64, ⟨h9, false⟩)], cached := [],
    numLeaves := 4#64, totalRows := 3#8, full := false }

example : (st h5).roots = F.roots ∧ (st (T.leaf 77)).roots = F.roots := by decide +kernel

def isOkE : Except Fail Unit → Bool
  | .ok _ => true
  | _ => false

def isErrE : Except Fail Unit → Bool
  | .error .err => true
  | _ => false

theorem eq_ok_of_isOkE {e : Except Fail Unit} (h : isOkE e = true) : e = .ok () := by
  cases e with
  | ok u => rfl
  | error f => simp [isOkE] at h

theorem eq_err_of_isErrE {e : Except Fail Unit} (h : isErrE e = true) : e = .error .err := by
  cases e with
  | ok u => simp [isErrE] at h
  | error f => cases f <;> simp_all [isErrE]

/-- with the true hash stored at 9 the partial proof is accepted (both models) -/
theorem partial_accepted :
    (MapPollard.verifyPartialProof [0#64] [T.leaf 0] [T.leaf 1] false (st h5)).2 = .ok () :=
  eq_ok_of_isOkE (by decide +kernel)

example : mapVerifyPartialProof (st h5).numLeaves (st h5).totalRows (storedHash (st h5))
    [0#64] [T.leaf 0] [T.leaf 1] = .ok () := verifyPartialProof_ok partial_accepted

example : TrueClaim F (0#64, T.leaf 0) := by
  have := verifyPartialProof_sound (m := st h5) (F := F) cr leafOK small rfl (by decide +kernel)
    (by intro h hh; simp at hh; subst hh; intro hz; cases hz) partial_accepted (0#64, T.leaf 0)
    (by simp)
  rwa [show xlate (st h5).numLeaves (st h5).totalRows 0#64 = 0#64 from by decide +kernel] at this

/-- a WRONG stored hash at 9 (no invariant!) only makes the honest proof fail … -/
example : (MapPollard.verifyPartialProof [0#64] [T.leaf 0] [T.leaf 1] false (st (T.leaf 77))).2
    = .error .err := eq_err_of_isErrE (by decide +kernel)

/-- … and a false claim is rejected whatever is stored there -/
example : (MapPollard.verifyPartialProof [0#64] [T.leaf 5] [T.leaf 1] false (st h5)).2
    = .error .err := eq_err_of_isErrE (by decide +kernel)

/-- the finding through `VerifyPartialProof`: the hashes of API positions 4 and 5 accepted at
targets 8 and 9.  (`VerifyPartialProof` computes the proof positions from the UNtranslated
targets in `TreeRows` coordinates, where 8 and 9 are out of range and yield no proof position;
so only claims that need no proof hash get through this entry point: a single target 8 is
rejected for lack of the hash of position 5.) -/
theorem partial_finding :
    (MapPollard.verifyPartialProof [8#64, 9#64] [h4, h5] [] false (st h5)).2 = .ok () :=
  eq_ok_of_isOkE (by decide +kernel)

example : (MapPollard.verifyPartialProof [8#64] [h4] [h5] false (st h5)).2 = .error .err :=
  eq_err_of_isErrE (by decide +kernel)

example : ¬ TrueClaim F (9#64, h5) := not_trueClaim_of_ge small (T := 3) (by decide) (by decide)

end Finding

end UtreexoVerif.Props.C03c
