/-
  Property C09 (continued) — preservation of the storage invariant of a partial map forest by
  the operations of `Model/MapPollard.lean`, and hence C01 / C05 / C10 for the map forest.

  The invariant used for the induction is `SInv m F` (`Proofs/MapSInv.lean`):

      SInv m F  ↔  Inv m F  ∧  RootFlags m F  ∧  Hyg F  ∧  m.full = false        (under `NZ`)

  i.e. the storage invariant `Inv` of `Props/C09.lean` strengthened by
    * `RootFlags`: a stored NON-EMPTY ROOT carries the remember flag iff it is a cached leaf
      (`Inv` is silent about the flags of roots, but `addSingle` prunes the old root and the new
      node exactly according to those flags, so `Inv` alone is NOT inductive:
      `MapSInv.Example` shows a state satisfying `Inv` whose flag is wrong);
    * `Hyg F`: the live leaves are pairwise different, non-zero and not parent hashes (the
      conditions `Reach.modify` of `Props/C09.lean` imposes on additions).
  `SInv.inv : SInv m F → Inv m F`, so everything `Props/C09.lean` proves from `Inv` holds in every
  state reached.  `C09_reach` is `Props.C09.C09_statement` with the hygiene premise it lacks;
  `Finding.C09_fails_leaf_is_node` proves the original statement FALSE.
  Full forests (`FInv`) are `Props/C09c.lean`; both kinds are instances of `XInv fl` (`Proofs/MapXInv.lean`), which every
  honest call keeps (section `honest` below): each `inv_*` here and each `finv_*` there reads the one theorem `xinv_*` of
  its operation at `fl = false` / `fl = true`.
-/
import UtreexoVerif.Proofs.MapAddMerge
import UtreexoVerif.Proofs.MapRemoveAll
import UtreexoVerif.Proofs.MapIngest
import UtreexoVerif.Proofs.MapPruneS
import UtreexoVerif.Proofs.MapUndoAll

namespace UtreexoVerif.Props.C09b
open Model Spec Proofs MapAL MapInv MapSInv PForestSpec Hasher
set_option linter.unusedSectionVars false

variable {H : Type} [DecidableEq H] [Hasher H]

/-- **One addition preserves the invariant, in every case** (`addSingle` followed by
`NumLeaves++`): even or odd leaf count, non-empty and empty roots on the way up, with or without
re-allocation.  The leaf joins the cache iff its `Remember` flag is set. -/
theorem inv_addSingle (nz : NZ H) {m : MapPollard H} {F : Forest H} (s : SInv m F) (a : Leaf H)
    (hn : F.numLeaves + 1 < 2 ^ 63) (hfresh : a.hash ∉ F.liveLeaves) (hx0 : a.hash ≠ zero)
    (hxph : ∀ u v : H, a.hash ≠ ph u v) :
    ∃ m', MapPollard.add [a] m = (m', .ok ()) ∧ SInv m' (F.add a.hash) ∧ Inv m' (F.add a.hash) ∧
      (∀ y, m'.hasCached y = true ↔ (m.hasCached y = true ∨ (a.remember = true ∧ y = a.hash))) := by
  obtain ⟨m', h1, h2, h3⟩ := MapAddMerge.xinv_addSingle nz (MapXInv.xinv_false_iff.2 s) a hn hfresh hx0 hxph
  have h2 := MapXInv.xinv_false_iff.1 h2
  refine ⟨{ m' with numLeaves := m'.numLeaves + 1 }, ?_, h2, h2.inv nz, fun y => (h3 y).trans (by simp)⟩
  unfold MapPollard.add
  rw [h1]
  rfl

/-- **`add` of any list of fresh, distinct, non-zero leaves that are not parent hashes preserves
the invariant**; the cache grows by exactly the remembered leaves. -/
theorem inv_add (nz : NZ H) {m : MapPollard H} {F : Forest H} (s : SInv m F) (adds : List (Leaf H))
    (hn : F.numLeaves + adds.length < 2 ^ 63)
    (hfr : ∀ a ∈ adds, a.hash ∉ F.liveLeaves ∧ a.hash ≠ zero ∧ ∀ u v : H, a.hash ≠ ph u v)
    (hnd : (adds.map (·.hash)).Nodup) :
    ∃ m', MapPollard.add adds m = (m', .ok ()) ∧ SInv m' (F.addMany (adds.map (·.hash))) ∧
      Inv m' (F.addMany (adds.map (·.hash))) ∧
      (∀ y, m'.hasCached y = true ↔ (m.hasCached y = true ∨ ∃ a ∈ adds, a.remember = true ∧ a.hash = y)) := by
  obtain ⟨m', h1, h2, h3⟩ := MapAddMerge.sinv_add nz adds s hn hfr hnd
  exact ⟨m', h1, h2, h2.inv nz, h3⟩

/-- C01 for `add` on the map forest: the roots after the additions are the specification's -/
theorem roots_add (nz : NZ H) {m : MapPollard H} {F : Forest H} (s : SInv m F) (adds : List (Leaf H))
    (hn : F.numLeaves + adds.length < 2 ^ 63)
    (hfr : ∀ a ∈ adds, a.hash ∉ F.liveLeaves ∧ a.hash ≠ zero ∧ ∀ u v : H, a.hash ≠ ph u v)
    (hnd : (adds.map (·.hash)).Nodup) :
    ∃ m', MapPollard.add adds m = (m', .ok ()) ∧ m'.roots = (F.addMany (adds.map (·.hash))).roots := by
  obtain ⟨m', h1, _, h3, _⟩ := inv_add nz s adds hn hfr hnd
  exact ⟨m', h1, Props.C09.roots_eq h3⟩

namespace Example
open Props.C09.Example MapSInv.Example

theorem leafT_nz (k : Nat) : T.leaf k ≠ (Hasher.zero : T) := by
  simp only [Hasher.zero]; intro h; cases h

theorem leafT_nph (k : Nat) : ∀ u v : T, T.leaf k ≠ Hasher.ph u v := by
  intro u v; simp only [Hasher.ph]; intro h; cases h

theorem fresh5678 : ∀ a ∈ [(⟨T.leaf 5, true⟩ : Leaf T), ⟨T.leaf 6, false⟩, ⟨T.leaf 7, true⟩, ⟨T.leaf 8, true⟩],
    a.hash ∉ F5.liveLeaves ∧ a.hash ≠ Hasher.zero ∧ ∀ u v : T, a.hash ≠ Hasher.ph u v := by
  intro a ha
  simp only [List.mem_cons, List.mem_nil_iff, or_false] at ha
  rcases ha with rfl | rfl | rfl | rfl <;> exact ⟨by decide, leafT_nz _, leafT_nph _⟩

/-- the MERGING case: `F5` has trees on rows 2 and 0; the sixth leaf is hashed with the root on row 0 -/
example : ∃ m', MapPollard.add [⟨T.leaf 5, true⟩] m5 = (m', .ok ()) ∧ Inv m' (F5.add (.leaf 5)) ∧
    m'.hasCached (.leaf 5) = true := by
  obtain ⟨m', h1, _, h3, h4⟩ := inv_addSingle crT.toNZ m5_sinv ⟨T.leaf 5, true⟩ (by decide) (by decide)
    (leafT_nz _) (leafT_nph _)
  exact ⟨m', h1, h3, (h4 _).2 (Or.inr ⟨rfl, rfl⟩)⟩

/-- … three leaves at once: the eighth leaf merges all the way up to row 3 -/
example : ∃ m', MapPollard.add [⟨T.leaf 5, true⟩, ⟨T.leaf 6, false⟩, ⟨T.leaf 7, true⟩] m5 = (m', .ok ()) ∧
    Inv m' (F5.addMany [.leaf 5, .leaf 6, .leaf 7]) := by
  obtain ⟨m', h1, _, h3, _⟩ := inv_add crT.toNZ m5_sinv [⟨T.leaf 5, true⟩, ⟨T.leaf 6, false⟩, ⟨T.leaf 7, true⟩]
    (by decide)
    (fun a ha => fresh5678 a (List.mem_of_mem_take (i := 3) ha))
    (by decide)
  exact ⟨m', h1, h3⟩

/-- the EMPTY-ROOT case really occurs: after deleting leaf 4 of `m5` the root on row 0 is empty
and the next addition is lifted over it -/
def m5d : MapPollard T := (MapPollard.modify [] [T.leaf 4] [4#64] m5).1
def F5d : Forest T := F5.delLeaves [.leaf 4]

theorem m5d_sinv : SInv m5d F5d :=
  MapIngest.sinv_of_checks crT.toNZ (PForestDel.hyg_delLeaves F5_hyg _) (by decide +kernel)

example : (m5d.getNodeD (encP 63 (0, 4))).hash = Hasher.zero ∧
    ∃ m', MapPollard.add [⟨T.leaf 5, true⟩] m5d = (m', .ok ()) ∧ Inv m' (F5d.add (.leaf 5)) := by
  refine ⟨by decide +kernel, ?_⟩
  obtain ⟨m', h1, _, h3, _⟩ := inv_addSingle crT.toNZ m5d_sinv ⟨T.leaf 5, true⟩ (by decide) (by decide)
    (leafT_nz _) (leafT_nph _)
  exact ⟨m', h1, h3⟩

/-- the GROWING case: `m5g` was allocated on demand (`TotalRows = 3 = TreeRows 5`); three more
leaves fill the 8 slots and the ninth forces `remap` to 4 rows -/
theorem m5g_sinv : SInv m5g F5 :=
  SInv.of_inv crT.toNZ m5g_inv (by decide +kernel) F5_hyg (rootFlagsCheck_sound (by decide +kernel) m5g_inv.total_le)

example : ∃ m', MapPollard.add [⟨T.leaf 5, true⟩, ⟨T.leaf 6, false⟩, ⟨T.leaf 7, true⟩, ⟨T.leaf 8, true⟩] m5g
      = (m', .ok ()) ∧ Inv m' (F5.addMany [.leaf 5, .leaf 6, .leaf 7, .leaf 8]) ∧ m'.totalRows = 4#8 := by
  obtain ⟨m', h1, _, h3, _⟩ := inv_add crT.toNZ m5g_sinv
    [⟨T.leaf 5, true⟩, ⟨T.leaf 6, false⟩, ⟨T.leaf 7, true⟩, ⟨T.leaf 8, true⟩] (by decide)
    fresh5678
    (by decide)
  refine ⟨m', h1, h3, ?_⟩
  have : (MapPollard.add [⟨T.leaf 5, true⟩, ⟨T.leaf 6, false⟩, ⟨T.leaf 7, true⟩, ⟨T.leaf 8, true⟩] m5g).1.totalRows
      = 4#8 := by decide +kernel
  rw [h1] at this
  exact this

end Example

/-- **`Ingest` of the canonical proof of live leaves `L` (possibly with surplus hashes appended)
preserves the invariant**: every stored hash stays true, `K' = K ∪ L` -/
theorem inv_ingest (nz : NZ H) {m : MapPollard H} {F : Forest H} (s : SInv m F) (L : List H) (ts : List Pos)
    (ps junk : List H) (hnd : L.Nodup) (hc : F.canon L = some (ts, ps)) :
    ∃ m', MapPollard.ingest L (ts.map (encP F.rows)) (ps ++ junk) m = (m', .ok ()) ∧ SInv m' F ∧ Inv m' F ∧
      (∀ y, m'.hasCached y = true ↔ (m.hasCached y = true ∨ y ∈ L)) := by
  obtain ⟨m', h1, h2, h3⟩ := MapIngest.sinv_ingest nz s L ts ps junk hnd hc
  exact ⟨m', h1, h2, h2.inv nz, h3⟩

/-- **`Verify(…, remember)` of the canonical proof succeeds and preserves the invariant**;
with `remember = true` the proven leaves join the cache -/
theorem inv_verify (nz : NZ H) {m : MapPollard H} {F : Forest H} (s : SInv m F) (L : List H) (ts : List Pos)
    (ps junk : List H) (hnd : L.Nodup) (hc : F.canon L = some (ts, ps)) (remember : Bool) :
    ∃ m', MapPollard.verifyM L (ts.map (encP F.rows)) (ps ++ junk) remember m = (m', .ok ()) ∧ SInv m' F ∧
      Inv m' F ∧ (∀ y, m'.hasCached y = true ↔ (m.hasCached y = true ∨ (remember = true ∧ y ∈ L))) := by
  obtain ⟨m', h1, h2, h3⟩ := MapIngest.sinv_verifyM nz s L ts ps junk hnd hc remember
  exact ⟨m', h1, h2, h2.inv nz, h3⟩

/-- **`remove` of cached live leaves `L` (targets of their canonical proof) preserves the
invariant**: `m'` tracks `F.delLeaves L`, `K' = K \ L` -/
theorem inv_remove (nz : NZ H) {m : MapPollard H} {F : Forest H} (s : SInv m F) (L : List H) (ts : List Pos)
    (ps : List H) (hnd : L.Nodup) (hc : F.canon L = some (ts, ps)) (hcached : ∀ x ∈ L, m.hasCached x = true) :
    ∃ m', MapPollard.remove (ts.map (encP F.rows)) L m = (m', .ok ()) ∧ SInv m' (F.delLeaves L) ∧
      Inv m' (F.delLeaves L) ∧ (∀ y, m'.hasCached y = true ↔ (m.hasCached y = true ∧ y ∉ L)) := by
  obtain ⟨m', h1, h2, h3⟩ := MapRemoveAll.sinv_remove nz s L ts ps hnd hc hcached
  exact ⟨m', h1, h2, h2.inv nz, h3⟩

/-- `Prune` preserves the strong invariant (`Props.C09.inv_prune` strengthened) -/
theorem inv_prune (nz : NZ H) {m : MapPollard H} {F : Forest H} (s : SInv m F) (hashes : List H) :
    ∃ m', MapPollard.prune hashes m = (m', .ok ()) ∧ SInv m' F ∧ Inv m' F ∧
      (∀ y, m'.hasCached y = true ↔ (m.hasCached y = true ∧ y ∉ hashes)) := by
  obtain ⟨m', h1, h2, h3⟩ := MapPruneS.sinv_prune nz s hashes
  exact ⟨m', h1, h2, h2.inv nz, h3⟩

/-- **`Modify` (a valid block) preserves the invariant and yields the specification's roots**
(C01 for the map forest, any allocation `TotalRows ≥ TreeRows`, growing on demand) -/
theorem inv_modify (nz : NZ H) {m : MapPollard H} {F : Forest H} (s : SInv m F) (adds : List (Leaf H))
    (dels : List H) (ts : List Pos) (ps : List H)
    (hcached : ∀ x ∈ dels, m.hasCached x = true) (hnd : dels.Nodup) (hc : F.canon dels = some (ts, ps))
    (hfr : ∀ a ∈ adds, a.hash ∉ F.liveLeaves ∧ a.hash ≠ zero ∧ ∀ u v : H, a.hash ≠ ph u v)
    (hndA : (adds.map (·.hash)).Nodup) (hn : F.numLeaves + adds.length < 2 ^ 63) :
    ∃ m', MapPollard.modify adds dels (ts.map (encP F.rows)) m = (m', .ok ()) ∧
      SInv m' (F.modify dels (adds.map (·.hash))) ∧ Inv m' (F.modify dels (adds.map (·.hash))) ∧
      m'.roots = (F.modify dels (adds.map (·.hash))).roots ∧
      (∀ y, m'.hasCached y = true ↔
        ((m.hasCached y = true ∧ y ∉ dels) ∨ ∃ a ∈ adds, a.remember = true ∧ a.hash = y)) := by
  obtain ⟨m', h1, s', c⟩ := MapRemoveAll.xinv_modify nz (MapXInv.xinv_false_iff.2 s) adds dels ts ps hcached hnd hc hfr
    hndA hn
  have s' := MapXInv.xinv_false_iff.1 s'
  exact ⟨m', h1, s', s'.inv nz, Props.C09.roots_eq (s'.inv nz), fun y => (c y).trans (by simp)⟩

/-- **C05 for the map forest**: `Modify` reads only the multiset of targets — any re-ordering of
the targets of an accepted proof (and any proof hashes: they are not read at all) applies the
block identically -/
theorem modify_encoding_independent (m : MapPollard H) (adds : List (Leaf H)) (dels : List H)
    {tgts tgts' : List U64} (hp : tgts.Perm tgts') (hnd : tgts.Nodup) :
    MapPollard.modify adds dels tgts' m = MapPollard.modify adds dels tgts m := by
  unfold MapPollard.modify MapPollard.remove
  simp only
  rw [ProofUpdateLists.sortU64_eq_of_perm hp hnd]

/-- honest operations on a partial map forest (as `Props.C09.Reach`, without `Undo`, and with leaf
hygiene required of the forest a `NewMapPollardFromRoots` starts from — without it the claim is
FALSE, see `C09_fails_leaf_is_node` below) -/
inductive ReachS : MapPollard H → Forest H → Prop
  | new : ReachS (MapPollard.new false) Forest.empty
  | fromRoots (F : Forest H) (m : MapPollard H) : F.numLeaves < 2 ^ 63 → Hyg F →
      MapPollard.fromRoots F.roots (BitVec.ofNat 64 F.numLeaves) false = .ok m → ReachS m F
  | modify {m m' F} (adds : List (Leaf H)) (dels : List H) (ts : List Pos) (ps : List H) :
      ReachS m F → (∀ x ∈ dels, m.hasCached x = true) → dels.Nodup → F.canon dels = some (ts, ps) →
      (∀ a ∈ adds, a.hash ≠ zero ∧ a.hash ∉ F.liveLeaves ∧ ∀ u v : H, a.hash ≠ ph u v) →
      (adds.map (·.hash)).Nodup → F.numLeaves + adds.length < 2 ^ 63 →
      MapPollard.modify adds dels (ts.map (encP F.rows)) m = (m', .ok ()) →
      ReachS m' (F.modify dels (adds.map (·.hash)))
  | verify {m m' F} (L : List H) (ts : List Pos) (ps : List H) (remember : Bool) :
      ReachS m F → L.Nodup → F.canon L = some (ts, ps) →
      MapPollard.verifyM L (ts.map (encP F.rows)) ps remember m = (m', .ok ()) → ReachS m' F
  | ingest {m m' F} (L : List H) (ts : List Pos) (ps : List H) :
      ReachS m F → L.Nodup → F.canon L = some (ts, ps) →
      MapPollard.ingest L (ts.map (encP F.rows)) ps m = (m', .ok ()) → ReachS m' F
  | prune {m m' F} (L : List H) :
      ReachS m F → MapPollard.prune L m = (m', .ok ()) → ReachS m' F

theorem hyg_empty : Hyg (Forest.empty : Forest H) where
  nodup := by simp [Forest.empty, Forest.liveLeaves]
  nz := by intro x hx; simp [Forest.empty, Forest.liveLeaves] at hx
  nph := by intro x hx; simp [Forest.empty, Forest.liveLeaves] at hx

theorem rootFlags_noCache {m : MapPollard H} {F : Forest H}
    (h1 : ∀ p l, m.getNode p = some l → l.remember = false) (h2 : ∀ x, m.getCached x = none) :
    RootFlags m F := by
  intro q l _ _ hg _
  rw [h1 _ l hg]
  constructor
  · intro h; cases h
  · rintro ⟨x, hx⟩; rw [h2 x] at hx; cases hx

theorem sinv_new (nz : NZ H) : SInv (MapPollard.new false : MapPollard H) Forest.empty := by
  refine SInv.of_inv nz (Props.C09.inv_new false) rfl hyg_empty ?_
  intro q l _ _ hg
  simp [MapPollard.getNode, MapPollard.new, get?_nil] at hg

theorem sinv_fromRoots (nz : NZ H) {F : Forest H} {m : MapPollard H} (hn : F.numLeaves < 2 ^ 63) (hy : Hyg F)
    (hm : MapPollard.fromRoots F.roots (BitVec.ofNat 64 F.numLeaves) false = .ok m) : SInv m F := by
  obtain ⟨m0, hm0, inv⟩ := Props.C09.inv_fromRoots F hn
  obtain ⟨m1, hm1, hc, _, _, hf, hget, _⟩ := Props.C09.fromRootsAt_spec F hn 63 (Nat.le_refl _)
    (SpecView.forestRows_le_63 hn) false
  obtain rfl : m0 = m := Except.ok.inj (hm0.symm.trans hm)
  obtain rfl : m1 = m0 := Except.ok.inj (hm1.symm.trans hm)
  refine SInv.of_inv nz inv hf hy (rootFlags_noCache (fun p l hg => ?_) (fun x => ?_))
  · obtain ⟨r, _, _, hl⟩ := hget p l hg
    rw [hl]
  · simp [MapPollard.getCached, hc, get?_nil]

/-- **`Undo` preserves the invariant**: if `m` tracks `F.modify dels adds` (any state satisfying the
strong invariant for that forest — e.g. the state after the `Modify`, possibly followed by
`Verify`/`Ingest`/`Prune`), then `Undo(len adds, canonical proof of dels in F, dels, roots of F)`
succeeds, the result tracks `F` again (strong invariant, `Inv`, the roots are `F.roots`), and the
cache is `(K \ adds) ∪ dels`. -/
theorem inv_undo (nz : NZ H) {m : MapPollard H} {F : Forest H} {dels adds : List H} {ts : List Pos} {ps : List H}
    (s : SInv m (F.modify dels adds)) (hyF : Hyg F) (hnd : dels.Nodup) (hc : F.canon dels = some (ts, ps))
    (nonZero : H) (hnz : nonZero ≠ (zero : H)) :
    ∃ m', MapPollard.undo nonZero (BitVec.ofNat 64 adds.length) (ts.map (encP F.rows)) ps dels F.roots m = (m', .ok ()) ∧
      SInv m' F ∧ Inv m' F ∧ m'.roots = F.roots ∧
      (∀ y, m'.hasCached y = true ↔ ((m.hasCached y = true ∧ y ∉ adds) ∨ y ∈ dels)) := by
  obtain ⟨m', h1, h2, h3⟩ := MapUndoAll.sinv_undo nz s hyF hnd hc nonZero hnz
  exact ⟨m', h1, h2, h2.inv nz, Props.C09.roots_eq (h2.inv nz), h3⟩

/-- the undo stack fits the current forest: the newest block leads from its `prev` to the current
forest, `prev` is hygienic, and the block's proof is the canonical one of its deletions in `prev` -/
def StackOK : Forest H → List (Props.C09.BlockData H) → Prop
  | _, [] => True
  | F, b :: st => (∃ adds : List H, adds.length = b.numAdds ∧ F = b.prev.modify b.dels adds) ∧ Hyg b.prev ∧
      b.dels.Nodup ∧ b.prev.canon b.dels = some (b.targets, b.proof) ∧ StackOK b.prev st

theorem canon_enc_nodup {F : Forest H} (hn : F.numLeaves < 2 ^ 63) {L : List H}
    {ts : List Pos} {ps : List H} (hnd : L.Nodup) (hc : F.canon L = some (ts, ps)) :
    (ts.map (encP F.rows)).Nodup := by
  have hts := SpecPlan.canon_targets_nodup hc hnd
  have h63 : F.rows ≤ 63 := SpecView.forestRows_le_63 hn
  have hv : ∀ t ∈ ts, Valid F.rows t := by
    intro t ht
    obtain ⟨x, hx⟩ := MapIngest.ts_node hc ht
    exact MapInv.node_valid (Nat.le_refl _) hx
  unfold List.Nodup
  rw [List.pairwise_map]
  apply List.Pairwise.imp_of_mem _ hts
  intro a b ha hb hab e
  exact hab (encP_inj h63 (hv a ha) (hv b hb) e)

section honest
open MapXInv
variable {fl : Bool}

theorem of_run {P : MapPollard H → Prop} {r : MapPollard H × Except Fail Unit} {m' : MapPollard H}
    (h : ∃ m2, r = (m2, .ok ()) ∧ P m2) (he : r = (m', .ok ())) : P m' := by
  obtain ⟨m2, h2, s2⟩ := h
  rw [he] at h2
  rw [(Prod.mk.inj h2).1]
  exact s2

/-- `Modify` (a valid block) with the targets in any order (`modify_encoding_independent`) -/
theorem xinv_modify_any_order (nz : NZ H) {m : MapPollard H} {F : Forest H} (s : XInv fl m F) (adds : List (Leaf H))
    (dels : List H) (ts : List Pos) (ps : List H) {tgts : List U64}
    (hcached : ∀ x ∈ dels, m.hasCached x = true) (hnd : dels.Nodup) (hc : F.canon dels = some (ts, ps))
    (hp : (ts.map (encP F.rows)).Perm tgts)
    (hfr : ∀ a ∈ adds, a.hash ≠ zero ∧ a.hash ∉ F.liveLeaves ∧ ∀ u v : H, a.hash ≠ ph u v)
    (hndA : (adds.map (·.hash)).Nodup) (hn : F.numLeaves + adds.length < 2 ^ 63) :
    ∃ m', MapPollard.modify adds dels tgts m = (m', .ok ()) ∧ XInv fl m' (F.modify dels (adds.map (·.hash))) ∧
      (∀ y, m'.hasCached y = true ↔
        ((m.hasCached y = true ∧ y ∉ dels) ∨ ∃ a ∈ adds, (fl = true ∨ a.remember = true) ∧ a.hash = y)) := by
  rw [modify_encoding_independent m adds dels hp (canon_enc_nodup s.n_lt hnd hc)]
  exact MapRemoveAll.xinv_modify nz s adds dels ts ps hcached hnd hc
    (fun a ha => ⟨(hfr a ha).2.1, (hfr a ha).1, (hfr a ha).2.2⟩) hndA hn

theorem xinv_verify (nz : NZ H) {m : MapPollard H} {F : Forest H} (s : XInv fl m F) (L : List H) (ts : List Pos)
    (ps : List H) (remember : Bool) (hnd : L.Nodup) (hc : F.canon L = some (ts, ps)) :
    ∃ m', MapPollard.verifyM L (ts.map (encP F.rows)) ps remember m = (m', .ok ()) ∧ XInv fl m' F ∧
      (∀ y, m'.hasCached y = true ↔ (m.hasCached y = true ∨ (remember = true ∧ y ∈ L))) := by
  have h := MapIngest.xinv_verifyM nz s L ts ps [] hnd hc remember
  rw [List.append_nil] at h
  exact h.imp fun _ h => ⟨h.1, h.2.1, h.2.2.1⟩

theorem xinv_ingest (nz : NZ H) {m : MapPollard H} {F : Forest H} (s : XInv fl m F) (L : List H) (ts : List Pos)
    (ps : List H) (hnd : L.Nodup) (hc : F.canon L = some (ts, ps)) :
    ∃ m', MapPollard.ingest L (ts.map (encP F.rows)) ps m = (m', .ok ()) ∧ XInv fl m' F ∧
      (∀ y, m'.hasCached y = true ↔ (m.hasCached y = true ∨ y ∈ L)) := by
  have h := MapIngest.xinv_ingest nz s L ts ps [] hnd hc
  rw [List.append_nil] at h
  exact h.imp fun _ h => ⟨h.1, h.2.1, h.2.2.1⟩

/-- `Prune` forgets the listed leaves of a partial forest and does nothing to a full one -/
theorem xinv_prune (nz : NZ H) {m : MapPollard H} {F : Forest H} (s : XInv fl m F) (L : List H) :
    ∃ m', MapPollard.prune L m = (m', .ok ()) ∧ XInv fl m' F ∧
      (∀ y, m'.hasCached y = true ↔ (m.hasCached y = true ∧ (fl = true ∨ y ∉ L))) := by
  cases fl with
  | true => exact ⟨m, Props.C09.prune_full s.full L, s, fun y => by simp⟩
  | false =>
    obtain ⟨m', h1, h2, h3⟩ := MapPruneS.sinv_prune nz (xinv_false_iff.1 s) L
    exact ⟨m', h1, xinv_false_iff.2 h2, fun y => by rw [h3 y]; simp⟩

theorem stack_push {F : Forest H} {st : List (Props.C09.BlockData H)} (hy : Hyg F) (hst : StackOK F st)
    (adds : List (Leaf H)) {dels : List H} {ts : List Pos} {ps : List H}
    (hnd : dels.Nodup) (hc : F.canon dels = some (ts, ps)) :
    StackOK (F.modify dels (adds.map (·.hash))) (⟨F, adds.length, dels, ts, ps⟩ :: st) :=
  ⟨⟨adds.map (·.hash), by simp, rfl⟩, hy, hnd, hc, hst⟩

theorem xinv_undo_top (nz : NZ H) {nonZero : H} (hnz : nonZero ≠ (zero : H)) {m : MapPollard H} {F : Forest H}
    {b : Props.C09.BlockData H} {st : List (Props.C09.BlockData H)} (s : XInv fl m F) (hst : StackOK F (b :: st)) :
    ∃ m', MapPollard.undo nonZero (BitVec.ofNat 64 b.numAdds) (b.targets.map (encP b.prev.rows)) b.proof b.dels
      b.prev.roots m = (m', .ok ()) ∧ XInv fl m' b.prev := by
  obtain ⟨⟨adds, hlen, hF⟩, hy, hnd, hc, _⟩ := hst
  subst hF
  rw [← hlen]
  exact (MapUndoAll.xinv_undo nz s hy hnd hc nonZero hnz).imp fun _ h => ⟨h.1, h.2.1⟩

/-- on a state satisfying the invariant whose history fits, every honest call succeeds -/
theorem xinv_calls (nz : NZ H) {nonZero : H} (hnz : nonZero ≠ (zero : H)) {m : MapPollard H} {F : Forest H}
    {st : List (Props.C09.BlockData H)} (s : XInv fl m F) (hst : StackOK F st) :
    (∀ L ts ps remember, L.Nodup → F.canon L = some (ts, ps) →
      (∃ m', MapPollard.verifyM L (ts.map (encP F.rows)) ps remember m = (m', .ok ())) ∧
      (∃ m', MapPollard.ingest L (ts.map (encP F.rows)) ps m = (m', .ok ()))) ∧
    (∀ L, ∃ m', MapPollard.prune L m = (m', .ok ())) ∧
    (∀ adds dels ts ps tgts, (∀ x ∈ dels, m.hasCached x = true) → dels.Nodup → F.canon dels = some (ts, ps) →
      (ts.map (encP F.rows)).Perm tgts →
      (∀ a ∈ adds, a.hash ≠ zero ∧ a.hash ∉ F.liveLeaves ∧ ∀ u v : H, a.hash ≠ ph u v) →
      (adds.map (·.hash)).Nodup → F.numLeaves + adds.length < 2 ^ 63 →
      ∃ m', MapPollard.modify adds dels tgts m = (m', .ok ())) ∧
    (∀ b st', st = b :: st' → ∃ m',
      MapPollard.undo nonZero (BitVec.ofNat 64 b.numAdds) (b.targets.map (encP b.prev.rows)) b.proof b.dels
        b.prev.roots m = (m', .ok ())) := by
  refine ⟨fun L ts ps remember hnd hc => ⟨?_, ?_⟩, fun L => ?_, ?_, ?_⟩
  · exact (xinv_verify nz s L ts ps remember hnd hc).imp fun _ h => h.1
  · exact (xinv_ingest nz s L ts ps hnd hc).imp fun _ h => h.1
  · exact (xinv_prune nz s L).imp fun _ h => h.1
  · intro adds dels ts ps tgts hca hnd hc hp hfr hndA hn
    exact (xinv_modify_any_order nz s adds dels ts ps hca hnd hc hp hfr hndA hn).imp fun _ h => h.1
  · intro b st' e
    subst e
    exact (xinv_undo_top nz hnz s hst).imp fun _ h => h.1

end honest

/-- honest operations on a partial map forest, `Undo` included: `Props.C09.Reach` with leaf
hygiene required of the forest a `NewMapPollardFromRoots` starts from (without it the claim is
FALSE, see `C09_fails_leaf_is_node` below) and any `remember` flag for `Verify` -/
inductive ReachU (nonZero : H) : MapPollard H → Forest H → List (Props.C09.BlockData H) → Prop
  | new : ReachU nonZero (MapPollard.new false) Forest.empty []
  | fromRoots (F : Forest H) (m : MapPollard H) : F.numLeaves < 2 ^ 63 → Hyg F →
      MapPollard.fromRoots F.roots (BitVec.ofNat 64 F.numLeaves) false = .ok m → ReachU nonZero m F []
  | modify {m m' F st} (adds : List (Leaf H)) (dels : List H) (ts : List Pos) (ps : List H) :
      ReachU nonZero m F st → (∀ x ∈ dels, m.hasCached x = true) → dels.Nodup → F.canon dels = some (ts, ps) →
      (∀ a ∈ adds, a.hash ≠ zero ∧ a.hash ∉ F.liveLeaves ∧ ∀ u v : H, a.hash ≠ ph u v) →
      (adds.map (·.hash)).Nodup → F.numLeaves + adds.length < 2 ^ 63 →
      MapPollard.modify adds dels (ts.map (encP F.rows)) m = (m', .ok ()) →
      ReachU nonZero m' (F.modify dels (adds.map (·.hash))) (⟨F, adds.length, dels, ts, ps⟩ :: st)
  | verify {m m' F st} (L : List H) (ts : List Pos) (ps : List H) (remember : Bool) :
      ReachU nonZero m F st → L.Nodup → F.canon L = some (ts, ps) →
      MapPollard.verifyM L (ts.map (encP F.rows)) ps remember m = (m', .ok ()) → ReachU nonZero m' F st
  | ingest {m m' F st} (L : List H) (ts : List Pos) (ps : List H) :
      ReachU nonZero m F st → L.Nodup → F.canon L = some (ts, ps) →
      MapPollard.ingest L (ts.map (encP F.rows)) ps m = (m', .ok ()) → ReachU nonZero m' F st
  | prune {m m' F st} (L : List H) :
      ReachU nonZero m F st → MapPollard.prune L m = (m', .ok ()) → ReachU nonZero m' F st
  | undo {m m' F st} (b : Props.C09.BlockData H) :
      ReachU nonZero m F (b :: st) →
      MapPollard.undo nonZero (BitVec.ofNat 64 b.numAdds) (b.targets.map (encP b.prev.rows)) b.proof b.dels
        b.prev.roots m = (m', .ok ()) →
      ReachU nonZero m' b.prev st

/-- the induction: every `ReachU` state satisfies the strong invariant, and its undo stack fits
its forest (so that `inv_undo` applies to the newest block) -/
theorem ReachU.stack (nz : NZ H) {nonZero : H} (hnz : nonZero ≠ (zero : H)) :
    ∀ {m : MapPollard H} {F : Forest H} {st : List (Props.C09.BlockData H)}, ReachU nonZero m F st → SInv m F ∧ StackOK F st := by
  intro m F st hr
  suffices h : MapXInv.XInv false m F ∧ StackOK F st from ⟨MapXInv.xinv_false_iff.1 h.1, h.2⟩
  induction hr with
  | new => exact ⟨MapXInv.xinv_false_iff.2 (sinv_new nz), trivial⟩
  | fromRoots F m hn hy hm => exact ⟨MapXInv.xinv_false_iff.2 (sinv_fromRoots nz hn hy hm), trivial⟩
  | modify adds dels ts ps _ hca hnd hc hfr hndA hn he ih =>
    exact ⟨(of_run (xinv_modify_any_order nz ih.1 adds dels ts ps hca hnd hc (List.Perm.refl _) hfr hndA hn) he).1,
      stack_push ih.1.hyg ih.2 adds hnd hc⟩
  | verify L ts ps remember _ hnd hc he ih => exact ⟨(of_run (xinv_verify nz ih.1 L ts ps remember hnd hc) he).1, ih.2⟩
  | ingest L ts ps _ hnd hc he ih => exact ⟨(of_run (xinv_ingest nz ih.1 L ts ps hnd hc) he).1, ih.2⟩
  | prune L _ he ih => exact ⟨(of_run (xinv_prune nz ih.1 L) he).1, ih.2⟩
  | undo b _ he ih => exact ⟨of_run (xinv_undo_top nz hnz ih.1 ih.2) he, ih.2.2.2.2.2⟩

/-- **C09 for the model, every operation (`Undo` included)**: this is `Props.C09.C09_statement`
with the two premises that are needed for it to be true — the forest a `NewMapPollardFromRoots`
starts from is hygienic, and the additions of a `Modify` are fresh (as `Reach.modify` demands).
Every reachable state satisfies the strong invariant (hence `m.full = false`, `Inv`, and its roots
are the specification's), and on a reachable state every honest call — `Verify`, `Ingest`, `Prune`,
`Modify`, and `Undo` of the newest block — succeeds. -/
theorem C09_reach (nz : NZ H) (nonZero : H) (hnz : nonZero ≠ (zero : H)) :
    (∀ (m : MapPollard H) (F : Forest H) (st : List (Props.C09.BlockData H)), ReachU nonZero m F st →
      m.full = false ∧ SInv m F ∧ Inv m F ∧ m.roots = F.roots) ∧
    (∀ (m : MapPollard H) (F : Forest H) (st : List (Props.C09.BlockData H)), ReachU nonZero m F st →
      (∀ L ts ps remember, L.Nodup → F.canon L = some (ts, ps) →
        (∃ m', MapPollard.verifyM L (ts.map (encP F.rows)) ps remember m = (m', .ok ())) ∧
        (∃ m', MapPollard.ingest L (ts.map (encP F.rows)) ps m = (m', .ok ()))) ∧
      (∀ L, ∃ m', MapPollard.prune L m = (m', .ok ())) ∧
      (∀ adds dels ts ps, (∀ x ∈ dels, m.hasCached x = true) → dels.Nodup → F.canon dels = some (ts, ps) →
        (∀ a ∈ adds, a.hash ≠ zero ∧ a.hash ∉ F.liveLeaves ∧ ∀ u v : H, a.hash ≠ ph u v) →
        (adds.map (·.hash)).Nodup → F.numLeaves + adds.length < 2 ^ 63 →
        ∃ m', MapPollard.modify adds dels (ts.map (encP F.rows)) m = (m', .ok ())) ∧
      (∀ b st', st = b :: st' → ∃ m',
        MapPollard.undo nonZero (BitVec.ofNat 64 b.numAdds) (b.targets.map (encP b.prev.rows)) b.proof b.dels
          b.prev.roots m = (m', .ok ()))) := by
  refine ⟨fun m F st hr => ?_, fun m F st hr => ?_⟩
  · have s := (ReachU.stack nz hnz hr).1
    exact ⟨s.full, s, s.inv nz, Props.C09.roots_eq (s.inv nz)⟩
  · obtain ⟨s, hst⟩ := ReachU.stack nz hnz hr
    obtain ⟨c1, c2, c3, c4⟩ := xinv_calls nz hnz (MapXInv.xinv_false_iff.2 s) hst
    exact ⟨c1, c2, fun adds dels ts ps hca hnd hc => c3 adds dels ts ps _ hca hnd hc (List.Perm.refl _), c4⟩

theorem ReachS.toU (nonZero : H) {m : MapPollard H} {F : Forest H} (hr : ReachS m F) :
    ∃ st, ReachU nonZero m F st := by
  induction hr with
  | new => exact ⟨_, .new⟩
  | fromRoots F m hn hy hm => exact ⟨_, .fromRoots F m hn hy hm⟩
  | modify adds dels ts ps _ hca hnd hc hfr hndA hn he ih =>
    obtain ⟨st, h⟩ := ih
    exact ⟨_, .modify adds dels ts ps h hca hnd hc hfr hndA hn he⟩
  | verify L ts ps remember _ hnd hc he ih =>
    obtain ⟨st, h⟩ := ih
    exact ⟨st, .verify L ts ps remember h hnd hc he⟩
  | ingest L ts ps _ hnd hc he ih =>
    obtain ⟨st, h⟩ := ih
    exact ⟨st, .ingest L ts ps h hnd hc he⟩
  | prune L _ he ih =>
    obtain ⟨st, h⟩ := ih
    exact ⟨st, .prune L h he⟩

/-- **C09 for every operation except `Undo`**: every state reachable by `NewMapPollard(false)`,
`NewMapPollardFromRoots` (at the roots of a hygienic forest), `Modify`, `Verify(…, remember)`,
`Ingest` and `Prune` satisfies the strong invariant — hence `Inv` (true hashes, exact cache,
required ⊆ stored ⊆ allowed), the roots are the specification's (C01) and every cached set is
provable with the canonical proof (`Props.C09.prove_canon`) — and on such a state each of these
operations, called honestly, succeeds. -/
theorem C09_reach_all_but_undo (nz : NZ H) :
    (∀ (m : MapPollard H) (F : Forest H), ReachS m F → SInv m F ∧ Inv m F ∧ m.roots = F.roots) ∧
    (∀ (m : MapPollard H) (F : Forest H), ReachS m F →
      (∀ L ts ps remember, L.Nodup → F.canon L = some (ts, ps) →
        (∃ m', MapPollard.verifyM L (ts.map (encP F.rows)) ps remember m = (m', .ok ())) ∧
        (∃ m', MapPollard.ingest L (ts.map (encP F.rows)) ps m = (m', .ok ()))) ∧
      (∀ L, ∃ m', MapPollard.prune L m = (m', .ok ())) ∧
      (∀ adds dels ts ps, (∀ x ∈ dels, m.hasCached x = true) → dels.Nodup → F.canon dels = some (ts, ps) →
        (∀ a ∈ adds, a.hash ≠ zero ∧ a.hash ∉ F.liveLeaves ∧ ∀ u v : H, a.hash ≠ ph u v) →
        (adds.map (·.hash)).Nodup → F.numLeaves + adds.length < 2 ^ 63 →
        ∃ m', MapPollard.modify adds dels (ts.map (encP F.rows)) m = (m', .ok ()))) := by
  obtain ⟨h1, h2⟩ := C09_reach nz (ph zero zero) (nz.nonzero _ _)
  refine ⟨fun m F hr => ?_, fun m F hr => ?_⟩
  · obtain ⟨st, hu⟩ := hr.toU (ph zero zero)
    exact (h1 m F st hu).2
  · obtain ⟨st, hu⟩ := hr.toU (ph zero zero)
    obtain ⟨hv, hp, hm, _⟩ := h2 m F st hu
    exact ⟨hv, hp, hm⟩

theorem lookups_of_inv {m : MapPollard H} {F : Forest H} (inv : Inv m F) :
    m.roots = F.roots ∧
    (∀ q, Valid F.rows q → m.getHash (encP F.rows q) = Hasher.zero ∨ F.nodeAt q = some (m.getHash (encP F.rows q))) ∧
    (∀ x p, m.getLeafPosition x = some p → m.hasCached x = true ∧ ∃ t, F.posOf x = some t ∧ p = encP F.rows t) ∧
    (∀ x, m.getLeafPosition x = none ↔ m.hasCached x = false) ∧
    (∀ L, (∀ x ∈ L, m.hasCached x = true) → L.Nodup →
      ∃ tgts hashes, F.canon L = some (tgts, hashes) ∧ m.prove L = .ok (tgts.map (encP F.rows), hashes)) :=
  ⟨Props.C09.roots_eq inv, fun q hq => Props.C09.getHash_true inv q hq,
    fun _ _ h => Props.C09.getLeafPosition_some inv h,
    fun x => Props.C09.getLeafPosition_none x,
    fun L hL hnd => Props.C09.prove_canon inv L hL hnd⟩

/-- **C10 / C01 / C02 for the map forest in every reachable state (all operations but `Undo`)**:
`GetRoots` returns the specification's roots, `GetHash` answers the true hash or zero,
`GetLeafPosition` answers exactly the cached live leaves with their true positions, and `Prove`
of any duplicate-free list of cached leaves returns the canonical proof. -/
theorem lookups_reach (nz : NZ H) {m : MapPollard H} {F : Forest H} (hr : ReachS m F) :
    m.roots = F.roots ∧
    (∀ q, Valid F.rows q → m.getHash (encP F.rows q) = Hasher.zero ∨ F.nodeAt q = some (m.getHash (encP F.rows q))) ∧
    (∀ x p, m.getLeafPosition x = some p → m.hasCached x = true ∧ ∃ t, F.posOf x = some t ∧ p = encP F.rows t) ∧
    (∀ x, m.getLeafPosition x = none ↔ m.hasCached x = false) ∧
    (∀ L, (∀ x ∈ L, m.hasCached x = true) → L.Nodup →
      ∃ tgts hashes, F.canon L = some (tgts, hashes) ∧ m.prove L = .ok (tgts.map (encP F.rows), hashes)) :=
  lookups_of_inv ((C09_reach_all_but_undo nz).1 m F hr).2.1

/-- the lookups (C10 / C01 / C02 for the map forest) in every reachable state, `Undo` included -/
theorem lookups_reachU (nz : NZ H) {nonZero : H} (hnz : nonZero ≠ (zero : H)) {m : MapPollard H} {F : Forest H}
    {st : List (Props.C09.BlockData H)} (hr : ReachU nonZero m F st) :
    m.roots = F.roots ∧
    (∀ q, Valid F.rows q → m.getHash (encP F.rows q) = Hasher.zero ∨ F.nodeAt q = some (m.getHash (encP F.rows q))) ∧
    (∀ x p, m.getLeafPosition x = some p → m.hasCached x = true ∧ ∃ t, F.posOf x = some t ∧ p = encP F.rows t) ∧
    (∀ x, m.getLeafPosition x = none ↔ m.hasCached x = false) ∧
    (∀ L, (∀ x ∈ L, m.hasCached x = true) → L.Nodup →
      ∃ tgts hashes, F.canon L = some (tgts, hashes) ∧ m.prove L = .ok (tgts.map (encP F.rows), hashes)) :=
  lookups_of_inv ((C09_reach nz nonZero hnz).1 m F st hr).2.2.1

/-- honest blocks on a FULL map forest (`NewMapPollard(true)`: every node is kept, every leaf is
cached, whatever the `Remember` flags) -/
inductive ReachFull : MapPollard H → Forest H → Prop
  | new : ReachFull (MapPollard.new true) Forest.empty
  | modify {m m' F} (adds : List (Leaf H)) (dels : List H) (ts : List Pos) (ps : List H) :
      ReachFull m F → dels.Nodup → F.canon dels = some (ts, ps) →
      (∀ a ∈ adds, a.hash ≠ zero ∧ a.hash ∉ F.liveLeaves ∧ ∀ u v : H, a.hash ≠ ph u v) →
      (adds.map (·.hash)).Nodup → F.numLeaves + adds.length < 2 ^ 63 →
      MapPollard.modify adds dels (ts.map (encP F.rows)) m = (m', .ok ()) →
      ReachFull m' (F.modify dels (adds.map (·.hash)))

/-- C01 for `Full` map forests; proved as `Props.C09c.C01_full`, with the invariant `FInv` in place of
`SInv` (which contains `m.full = false`) and through the same drivers -/
def C01_full_statement (H : Type) [DecidableEq H] [Hasher H] : Prop :=
  NZ H → ∀ (m : MapPollard H) (F : Forest H), ReachFull m F → m.roots = F.roots

namespace Example2
open Props.C09.Example Example

theorem canon13 : F5.canon [T.leaf 1, T.leaf 3] = some ([(0, 1), (0, 3)], [T.leaf 0, T.leaf 2]) :=
  MapIngest.Example.canon13
theorem canon20 : F5.canon [T.leaf 2, T.leaf 0] = some ([(0, 2), (0, 0)], [T.leaf 1, T.leaf 3]) := by
  decide +kernel

example : ∃ m', MapPollard.verifyM [T.leaf 1, T.leaf 3] ([(0, 1), (0, 3)].map (encP F5.rows))
    ([T.leaf 0, T.leaf 2] ++ [T.leaf 9]) true m5 = (m', .ok ()) ∧ Inv m' F5 ∧ m'.hasCached (T.leaf 3) = true := by
  obtain ⟨m', h1, _, h3, h4⟩ := inv_verify crT.toNZ m5_sinv _ _ _ [T.leaf 9] (by decide) canon13 true
  exact ⟨m', h1, h3, (h4 _).2 (Or.inr ⟨rfl, by decide⟩)⟩

example : ∃ m', MapPollard.remove ([(0, 2), (0, 0)].map (encP F5.rows)) [T.leaf 2, T.leaf 0] m5 = (m', .ok ()) ∧
    Inv m' (F5.delLeaves [T.leaf 2, T.leaf 0]) ∧ m'.hasCached (T.leaf 4) = true ∧ m'.hasCached (T.leaf 0) = false := by
  obtain ⟨m', h1, _, h3, h4⟩ := inv_remove crT.toNZ m5_sinv _ _ _ (by decide) canon20 (by decide +kernel)
  refine ⟨m', h1, h3, (h4 _).2 ⟨by decide +kernel, by decide⟩, ?_⟩
  cases hh : m'.hasCached (T.leaf 0) with
  | false => rfl
  | true => exact absurd ((h4 _).1 hh).2 (by decide)

/-- `inv_modify`: a block deleting leaves 2, 0 and adding leaves 5, 6, 7 (the last addition merges
all the way up) -/
theorem block : ∃ m', MapPollard.modify [⟨T.leaf 5, true⟩, ⟨T.leaf 6, false⟩, ⟨T.leaf 7, true⟩] [T.leaf 2, T.leaf 0]
      ([(0, 2), (0, 0)].map (encP F5.rows)) m5 = (m', .ok ()) ∧
    SInv m' (F5.modify [T.leaf 2, T.leaf 0] [T.leaf 5, T.leaf 6, T.leaf 7]) ∧
    m'.roots = (F5.modify [T.leaf 2, T.leaf 0] [T.leaf 5, T.leaf 6, T.leaf 7]).roots := by
  obtain ⟨m', h1, s1, _, h4, _⟩ := inv_modify crT.toNZ m5_sinv
    [⟨T.leaf 5, true⟩, ⟨T.leaf 6, false⟩, ⟨T.leaf 7, true⟩] [T.leaf 2, T.leaf 0] _ _
    (by decide +kernel) (by decide) canon20
    (fun a ha => fresh5678 a (List.mem_of_mem_take (i := 3) ha))
    (by decide) (by decide)
  exact ⟨m', h1, s1, h4⟩

example : ∃ m', MapPollard.modify [⟨T.leaf 5, true⟩, ⟨T.leaf 6, false⟩, ⟨T.leaf 7, true⟩] [T.leaf 2, T.leaf 0]
      ([(0, 2), (0, 0)].map (encP F5.rows)) m5 = (m', .ok ()) ∧
    m'.roots = (F5.modify [T.leaf 2, T.leaf 0] [T.leaf 5, T.leaf 6, T.leaf 7]).roots := by
  obtain ⟨m', h1, _, h4⟩ := block
  exact ⟨m', h1, h4⟩

example : MapPollard.modify [] [T.leaf 2, T.leaf 0] [0#64, 2#64] m5 =
    MapPollard.modify [] [T.leaf 2, T.leaf 0] [2#64, 0#64] m5 :=
  modify_encoding_independent m5 [] _ (List.Perm.swap _ _ _) (by decide)

theorem canon_nil : (Forest.empty : Forest T).canon [] = some ([], []) := by decide +kernel

theorem fresh012 : ∀ a ∈ [(⟨T.leaf 0, true⟩ : Leaf T), ⟨T.leaf 1, false⟩, ⟨T.leaf 2, true⟩],
    a.hash ≠ Hasher.zero ∧ a.hash ∉ (Forest.empty : Forest T).liveLeaves ∧ ∀ u v : T, a.hash ≠ Hasher.ph u v := by
  intro a ha
  simp only [List.mem_cons, List.mem_nil_iff, or_false] at ha
  rcases ha with rfl | rfl | rfl <;> exact ⟨leafT_nz _, by decide, leafT_nph _⟩

/-- `ReachS` is inhabited beyond the initial states -/
example : ∃ m, ReachS m (Forest.empty.modify ([] : List T) [T.leaf 0, T.leaf 1, T.leaf 2]) := by
  obtain ⟨_, hprog⟩ := C09_reach_all_but_undo (H := T) crT.toNZ
  obtain ⟨_, _, hm⟩ := hprog _ _ ReachS.new
  obtain ⟨m', h⟩ := hm [⟨T.leaf 0, true⟩, ⟨T.leaf 1, false⟩, ⟨T.leaf 2, true⟩] [] [] [] (by simp) (by simp) canon_nil fresh012
    (by decide) (by decide)
  exact ⟨m', ReachS.modify _ _ _ _ ReachS.new (by simp) (by simp) canon_nil fresh012 (by decide) (by decide) h⟩

/-- the block is undone although its last addition merged over all rows and re-used the deleted positions -/
example : ∃ m' m'', MapPollard.modify [⟨T.leaf 5, true⟩, ⟨T.leaf 6, false⟩, ⟨T.leaf 7, true⟩] [T.leaf 2, T.leaf 0]
      ([(0, 2), (0, 0)].map (encP F5.rows)) m5 = (m', .ok ()) ∧
    MapPollard.undo (T.leaf 9) 3#64 ([(0, 2), (0, 0)].map (encP F5.rows)) [T.leaf 1, T.leaf 3] [T.leaf 2, T.leaf 0]
      F5.roots m' = (m'', .ok ()) ∧
    Inv m'' F5 ∧ m''.roots = F5.roots ∧ m''.hasCached (T.leaf 2) = true ∧ m''.hasCached (T.leaf 0) = true ∧
    m''.hasCached (T.leaf 5) = false := by
  obtain ⟨m', h1, s1, _⟩ := block
  obtain ⟨m'', h2, _, i2, r2, c2⟩ := inv_undo crT.toNZ s1 m5_sinv.hyg (by decide) canon20 (T.leaf 9) (leafT_nz 9)
  refine ⟨m', m'', h1, h2, i2, r2, (c2 _).2 (Or.inr (by decide)), (c2 _).2 (Or.inr (by decide)), ?_⟩
  cases hh : m''.hasCached (T.leaf 5) with
  | false => rfl
  | true =>
    rcases (c2 _).1 hh with h | h
    · exact absurd (show T.leaf 5 ∈ [T.leaf 5, T.leaf 6, T.leaf 7] by decide) h.2
    · exact absurd h (by decide)

/-- `ReachU` with an `Undo`: a block is applied to the empty forest and undone again -/
example : ∃ m, ReachU (T.leaf 9) m (Forest.empty : Forest T) [] := by
  obtain ⟨_, hprog⟩ := C09_reach (H := T) crT.toNZ (T.leaf 9) (leafT_nz 9)
  obtain ⟨_, _, hm, _⟩ := hprog _ _ _ ReachU.new
  obtain ⟨m', h⟩ := hm [⟨T.leaf 0, true⟩, ⟨T.leaf 1, false⟩, ⟨T.leaf 2, true⟩] [] [] [] (by simp) (by simp) canon_nil fresh012
    (by decide) (by decide)
  have r1 := ReachU.modify (nonZero := T.leaf 9) _ _ _ _ ReachU.new (by simp) (by simp) canon_nil fresh012 (by decide) (by decide) h
  obtain ⟨_, _, _, hu⟩ := hprog _ _ _ r1
  obtain ⟨m'', h2⟩ := hu _ _ rfl
  exact ⟨m'', ReachU.undo _ r1 h2⟩

/-- `C01_full_statement` on a concrete run: a full forest after a block adding leaves
0, 1, 2 has the specification's roots -/
example : (MapPollard.modify [⟨T.leaf 0, false⟩, ⟨T.leaf 1, false⟩, ⟨T.leaf 2, true⟩] [] []
      (MapPollard.new true : MapPollard T)).1.roots =
    (Forest.empty.modify ([] : List T) [T.leaf 0, T.leaf 1, T.leaf 2]).roots := by decide +kernel

end Example2

/-! ### FINDING: the full statement `Props.C09.C09_statement` is false

`Reach.fromRoots` admits ANY forest.  If a live leaf carries the hash of an inner node (the
hash function does not separate leaves from inner nodes), `removeSingle` / `moveUpChild` — which
look up the hash of every node they move in `CachedLeaves` — re-point the cached LEAF to the
moved INNER node.  Witness: 8 leaves, leaf 4 = `ph (leaf 0) (leaf 1)`; `Verify(remember)` of
leaves 2, 3, 4; then the block deleting leaves 2, 3 lifts the node above leaves 0, 1 to row 2.
The same run on the Go code (`/repo`, `NewMapPollardFromRoots` + `Verify(…, true)` + `Modify`)
gives `GetLeafPosition(X) = 12` instead of 4 and `Prove(X)` fails.  With leaf hygiene (`Hyg`:
no live leaf is a parent hash — what `Reach.modify` demands of additions) the invariant IS
preserved: `C09_reach_all_but_undo`. -/

namespace Finding
open Props.C09 Props.C09.Example MapSInv.Example

theorem ok_of_isOk {x : Except Fail Unit}
    (h : (match x with | .ok _ => true | .error _ => false) = true) : x = .ok () := by
  cases x with
  | ok u => rfl
  | error e => simp at h

theorem pair_ok {α : Type} (p : α × Except Fail Unit)
    (h : (match p.2 with | .ok _ => true | .error _ => false) = true) : p = (p.1, .ok ()) := by
  obtain ⟨a, b⟩ := p
  simp only at h ⊢
  rw [ok_of_isOk h]

/-- a leaf hash that is also the hash of an inner node -/
def X : T := T.node (.leaf 0) (.leaf 1)
/-- eight live leaves; the fifth one carries the hash of the node above the first two -/
def F8 : Forest T := ⟨[some (.leaf 0), some (.leaf 1), some (.leaf 2), some (.leaf 3), some X, some (.leaf 5), some (.leaf 6), some (.leaf 7)]⟩
def m0 : MapPollard T := match MapPollard.fromRoots F8.roots 8#64 false with | .ok m => m | .error _ => MapPollard.new false
def L1 : List T := [.leaf 2, .leaf 3, X]
def ts1 : List Pos := [(0, 2), (0, 3), (0, 4)]
def ps1 : List T := [.leaf 5, T.node (.leaf 0) (.leaf 1), T.node (.leaf 6) (.leaf 7)]
def m1 : MapPollard T := (MapPollard.verifyM L1 (ts1.map (encP F8.rows)) ps1 true m0).1
def L2 : List T := [.leaf 2, .leaf 3]
def ts2 : List Pos := [(0, 2), (0, 3)]
def ps2 : List T := [T.node (.leaf 0) (.leaf 1), T.node (T.node X (.leaf 5)) (T.node (.leaf 6) (.leaf 7))]
def m2 : MapPollard T := (MapPollard.modify [] L2 (ts2.map (encP F8.rows)) m1).1

theorem c1 : F8.canon L1 = some (ts1, ps1) := by decide +kernel
theorem c2 : F8.canon L2 = some (ts2, ps2) := by decide +kernel
theorem e0 : MapPollard.fromRoots F8.roots (BitVec.ofNat 64 F8.numLeaves) false = .ok m0 := by
  obtain ⟨m, hm, _⟩ := inv_fromRoots F8 (by decide)
  have : m0 = m := by
    unfold m0
    rw [show (8#64) = BitVec.ofNat 64 F8.numLeaves from rfl, hm]
  rw [this]; exact hm
/-- the whole run in one evaluation; afterwards the cache sends `X` to position `(2, 0)` of a 63-row
allocation -/
theorem run :
    (match (MapPollard.verifyM L1 (ts1.map (encP F8.rows)) ps1 true m0).2 with
      | .ok _ => true | .error _ => false) = true ∧
    (match (MapPollard.modify [] L2 (ts2.map (encP F8.rows)) m1).2 with
      | .ok _ => true | .error _ => false) = true ∧
    (∀ x ∈ L2, m1.hasCached x = true) ∧
    m2.getCached X = some 0xc000000000000000#64 ∧ m2.totalRows.toNat = 63 := by decide +kernel
theorem posX : (F8.modify L2 (([] : List (Leaf T)).map (·.hash))).posOf X = some (0, 4) := by decide +kernel

/-- **`Props.C09.C09_statement` is FALSE** (for the term-algebra hasher, which is collision-free):
`Reach.fromRoots` admits a forest in which a live leaf carries the hash of an inner node; after
`Verify(remember)` of that leaf and a block that lifts the inner node, `CachedLeaves` maps the leaf
to the inner node's new position (`removeSingle` looks the moved node's hash up in the cache). -/
theorem C09_fails_leaf_is_node : ¬ C09_statement T := by
  intro h
  obtain ⟨h1, _⟩ := h crT (T.leaf 0) (by simp only [Hasher.zero]; intro e; cases e)
  have r0 : Reach (T.leaf 0) m0 F8 [] := Reach.fromRoots F8 m0 (by decide) e0
  obtain ⟨ok1, ok2, cached1, cachedX, totalRows2⟩ := run
  -- `rw [m1]` first: `exact` alone would have the kernel evaluate `verifyM …` to compare it with `m1`
  have e1 : MapPollard.verifyM L1 (ts1.map (encP F8.rows)) ps1 true m0 = (m1, .ok ()) := by
    rw [m1]; exact pair_ok _ ok1
  have e2 : MapPollard.modify [] L2 (ts2.map (encP F8.rows)) m1 = (m2, .ok ()) := by
    rw [m2]; exact pair_ok _ ok2
  have r1 : Reach (T.leaf 0) m1 F8 [] := Reach.verify L1 ts1 ps1 r0 (by decide) c1 e1
  have r2 := Reach.modify (nonZero := T.leaf 0) [] L2 ts2 ps2 r1 cached1 (by decide) c2 (by simp) (by simp)
    (by decide) e2
  obtain ⟨_, inv⟩ := h1 _ _ _ r2
  obtain ⟨t, ht, hp⟩ := inv.cached_pos X _ cachedX
  rw [posX] at ht
  simp only [Option.some.injEq] at ht
  subst ht
  rw [totalRows2] at hp
  revert hp
  decide +kernel

end Finding

end UtreexoVerif.Props.C09b
