/-
  C13 for the map forest, joined with C09: `Write ; Read` transports the storage invariants (`inv_write_read`,
  `sinv_write_read`, `finv_write_read`), and the closures of C09 extended by the serialisation step (`ReachSer`,
  `ReachFullSer`, `C09_reach_ser`, `C09_reach_full_ser`).  Nothing here uses the bisimulation of `Proofs/MapSim*.lean`.
-/
import UtreexoVerif.Proofs.SerialMapInv
import UtreexoVerif.Props.C09c

namespace UtreexoVerif.Props.C13Map
open Model Model.Serial Spec Proofs MapInv MapSInv PForestSpec MapFull Hasher
open Proofs.Serial Proofs.SerialMapInv
set_option linter.unusedSectionVars false

abbrev BD (H : Type) := Props.C09.BlockData H

section State
variable {H : Type} [DecidableEq H] [Hasher H]

theorem inv_restore {m m0 : MapPollard H} {F : Forest H} {st : MapSt H} (inv : Inv m F) (w : Walk m st)
    (hfull : m0.full = m.full) : Inv (restore m0 st) F := Inv_congr (restore_equiv w hfull) inv

theorem sinv_restore {m m0 : MapPollard H} {F : Forest H} {st : MapSt H} (s : SInv m F) (w : Walk m st)
    (hfull : m0.full = false) : SInv (restore m0 st) F :=
  SInv_congr (restore_equiv w (hfull.trans s.full.symm)) s

theorem finv_restore {m m0 : MapPollard H} {F : Forest H} {st : MapSt H} (s : FInv m F) (w : Walk m st)
    (hfull : m0.full = true) : FInv (restore m0 st) F :=
  FInv_congr (restore_equiv w (hfull.trans s.full.symm)) s

theorem xinv_restore (nz : NZ H) {fl : Bool} {m m0 : MapPollard H} {F : Forest H} {st : MapSt H}
    (s : MapXInv.XInv fl m F) (w : Walk m st) (hfull : m0.full = fl) : MapXInv.XInv fl (restore m0 st) F := by
  cases fl with
  | false => exact MapXInv.xinv_false_iff.2 (sinv_restore (MapXInv.xinv_false_iff.1 s) w hfull)
  | true => exact (MapXInv.xinv_true_iff nz).2 (finv_restore ((MapXInv.xinv_true_iff nz).1 s) w hfull)

/-- `Read` establishes key-distinctness: the lists of the restored instance have one entry per key
(so `toSt` of it is field-by-field, `toSt_of_nodup`) -/
theorem restore_keys {m m0 : MapPollard H} {st : MapSt H} (w : Walk m st) :
    ((restore m0 st).nodes.map (·.1)).Nodup ∧ ((restore m0 st).cached.map (·.1)).Nodup := by
  constructor
  · show ((st.nodes.map leafOf).map (·.1)).Nodup
    rw [keys_map_leafOf]; exact w.nodeKeys
  · exact w.cachedKeys

/-- a full forest is sane (every cached leaf has its node): what `Read` re-checks -/
theorem finv_sane {m : MapPollard H} {F : Forest H} (s : FInv m F) : Sane m := by
  intro x p hc
  obtain ⟨t, ht, hp⟩ := (s.cached x p).1 hc
  exact ⟨⟨x, true⟩, (s.nodes p ⟨x, true⟩).2 ⟨t, true, ht, hp, rfl⟩, rfl⟩

end State

section Bytes
variable {H : Type} [DecidableEq H] [Hasher H] [HashBytes H]

/-- **`Write ; Read` preserves the storage invariant (bytes)**.  Let `m` satisfy `Inv m F`; let
`Write` walk the two maps in any order (`Walk m st`) and let the stream `encodeMap st` be read
through ANY chunking into a receiver whose maps are empty and whose `Full` flag is `m`'s.  Then
`Read` accepts, reports the length of the stream, and the receiver then satisfies `Inv … F`, with
the same finite maps and scalars as `m`. -/
theorem inv_write_read (ok : HashBytesOK H) {m : MapPollard H} {F : Forest H} (inv : Inv m F) (hf : Fits m)
    {st : MapSt H} (w : Walk m st) (m0 : MapPollard H) (hn0 : m0.nodes = []) (hc0 : m0.cached = [])
    (hfull : m0.full = m.full) (r : Reader) (hd : r.data = encodeMap st) :
    ∃ m', read m0 r = ⟨(encodeMap st).length, .ok m'⟩ ∧ m' = restore m0 st ∧ Equiv m m' ∧ Inv m' F ∧
      m'.full = m.full :=
  ⟨_, read_write ok w (inv_sane inv) hf m0 hn0 hc0 r hd, rfl, restore_equiv w hfull, inv_restore inv w hfull, hfull⟩

theorem finv_write_read (ok : HashBytesOK H) {m : MapPollard H} {F : Forest H} (s : FInv m F) (hf : Fits m)
    {st : MapSt H} (w : Walk m st) (m0 : MapPollard H) (hn0 : m0.nodes = []) (hc0 : m0.cached = [])
    (hfull : m0.full = true) (r : Reader) (hd : r.data = encodeMap st) :
    ∃ m', read m0 r = ⟨(encodeMap st).length, .ok m'⟩ ∧ m' = restore m0 st ∧ Equiv m m' ∧ FInv m' F :=
  ⟨_, read_write ok w (finv_sane s) hf m0 hn0 hc0 r hd, rfl, restore_equiv w (hfull.trans s.full.symm),
    finv_restore s w hfull⟩

/-- the same for the strong invariant `SInv` of `Proofs/MapSInv.lean` (with `Inv`, which `SInv` implies
under collision-freeness, given separately so that no such hypothesis is needed here) -/
theorem sinv_write_read (ok : HashBytesOK H) {m : MapPollard H} {F : Forest H} (s : SInv m F) (inv : Inv m F)
    (hf : Fits m) {st : MapSt H} (w : Walk m st) (m0 : MapPollard H) (hn0 : m0.nodes = []) (hc0 : m0.cached = [])
    (hfull : m0.full = false) (r : Reader) (hd : r.data = encodeMap st) :
    ∃ m', read m0 r = ⟨(encodeMap st).length, .ok m'⟩ ∧ m' = restore m0 st ∧ Equiv m m' ∧ SInv m' F ∧ Inv m' F :=
  ⟨_, read_write ok w (inv_sane inv) hf m0 hn0 hc0 r hd, rfl, restore_equiv w (hfull.trans s.full.symm),
    sinv_restore s w hfull, inv_restore inv w (hfull.trans s.full.symm)⟩

/-- the restored instance can be written and restored again (its lists have distinct keys, it is
sane, and it fits Go's `int` if the original did) -/
theorem restore_fits {m m0 : MapPollard H} {st : MapSt H} (w : Walk m st) (hf : Fits m) : Fits (restore m0 st) := by
  obtain ⟨hn, hc⟩ := restore_keys (m0 := m0) w
  unfold Fits
  rw [toSt_of_nodup hn hc]
  constructor
  · show st.cached.length < _
    rw [w.cached.length_eq]; exact hf.1
  · show ((st.nodes.map leafOf).map recOf).length < _
    rw [List.length_map, List.length_map, w.nodes.length_eq]; exact hf.2

end Bytes

section Closure
variable {H : Type} [DecidableEq H] [Hasher H]

/-- honest operations on a PARTIAL map forest (`Props.C09b.ReachU`: `NewMapPollard(false)`,
`NewMapPollardFromRoots`, `Modify` — here with the targets in any order —, `Verify`, `Ingest`,
`Prune`, `Undo` of the newest block) AND `Write ; Read`: the state is serialised with the maps
walked in any order and restored into any receiver with `Full = false` (`restore m0 w` is what
`Read` leaves in a receiver with empty maps: `Proofs.SerialMapInv.read_write`).  The undo
history is the caller's, not the instance's, and is kept across the step. -/
inductive ReachSer (nonZero : H) : MapPollard H → Forest H → List (BD H) → Prop
  | new : ReachSer nonZero (MapPollard.new false) Forest.empty []
  | fromRoots (F : Forest H) (m : MapPollard H) : F.numLeaves < 2 ^ 63 → Hyg F →
      MapPollard.fromRoots F.roots (BitVec.ofNat 64 F.numLeaves) false = .ok m → ReachSer nonZero m F []
  | modify {m m' F st} (adds : List (Leaf H)) (dels : List H) (ts : List Pos) (ps : List H) (tgts : List U64) :
      ReachSer nonZero m F st → (∀ x ∈ dels, m.hasCached x = true) → dels.Nodup → F.canon dels = some (ts, ps) →
      (ts.map (encP F.rows)).Perm tgts →
      (∀ a ∈ adds, a.hash ≠ zero ∧ a.hash ∉ F.liveLeaves ∧ ∀ u v : H, a.hash ≠ ph u v) →
      (adds.map (·.hash)).Nodup → F.numLeaves + adds.length < 2 ^ 63 →
      MapPollard.modify adds dels tgts m = (m', .ok ()) →
      ReachSer nonZero m' (F.modify dels (adds.map (·.hash))) (⟨F, adds.length, dels, ts, ps⟩ :: st)
  | verify {m m' F st} (L : List H) (ts : List Pos) (ps : List H) (remember : Bool) :
      ReachSer nonZero m F st → L.Nodup → F.canon L = some (ts, ps) →
      MapPollard.verifyM L (ts.map (encP F.rows)) ps remember m = (m', .ok ()) → ReachSer nonZero m' F st
  | ingest {m m' F st} (L : List H) (ts : List Pos) (ps : List H) :
      ReachSer nonZero m F st → L.Nodup → F.canon L = some (ts, ps) →
      MapPollard.ingest L (ts.map (encP F.rows)) ps m = (m', .ok ()) → ReachSer nonZero m' F st
  | prune {m m' F st} (L : List H) :
      ReachSer nonZero m F st → MapPollard.prune L m = (m', .ok ()) → ReachSer nonZero m' F st
  | undo {m m' F st} (b : BD H) :
      ReachSer nonZero m F (b :: st) →
      MapPollard.undo nonZero (BitVec.ofNat 64 b.numAdds) (b.targets.map (encP b.prev.rows)) b.proof b.dels
        b.prev.roots m = (m', .ok ()) →
      ReachSer nonZero m' b.prev st
  /-- `Write` (maps walked in the order of `w`) ; `Read` into the receiver `m0` -/
  | restore {m F st} (w : MapSt H) (m0 : MapPollard H) :
      ReachSer nonZero m F st → Walk m w → m0.full = false → ReachSer nonZero (restore m0 w) F st

theorem ReachSer.of_reachU {nonZero : H} {m : MapPollard H} {F : Forest H} {st : List (BD H)}
    (hr : C09b.ReachU nonZero m F st) : ReachSer nonZero m F st := by
  induction hr with
  | new => exact .new
  | fromRoots F m hn hy hm => exact .fromRoots F m hn hy hm
  | modify adds dels ts ps _ hca hnd hc hfr hndA hn he ih =>
    exact .modify adds dels ts ps _ ih hca hnd hc (List.Perm.refl _) hfr hndA hn he
  | verify L ts ps remember _ hnd hc he ih => exact .verify L ts ps remember ih hnd hc he
  | ingest L ts ps _ hnd hc he ih => exact .ingest L ts ps ih hnd hc he
  | prune L _ he ih => exact .prune L ih he
  | undo b _ he ih => exact .undo b ih he

theorem ReachSer.stack (nz : NZ H) {nonZero : H} (hnz : nonZero ≠ (zero : H)) :
    ∀ {m : MapPollard H} {F : Forest H} {st : List (BD H)}, ReachSer nonZero m F st →
      SInv m F ∧ C09b.StackOK F st := by
  intro m F st hr
  suffices h : MapXInv.XInv false m F ∧ C09b.StackOK F st from ⟨MapXInv.xinv_false_iff.1 h.1, h.2⟩
  induction hr with
  | new => exact ⟨MapXInv.xinv_false_iff.2 (C09b.sinv_new nz), trivial⟩
  | fromRoots F m hn hy hm => exact ⟨MapXInv.xinv_false_iff.2 (C09b.sinv_fromRoots nz hn hy hm), trivial⟩
  | modify adds dels ts ps tgts _ hca hnd hc hp hfr hndA hn he ih =>
    exact ⟨(C09b.of_run (C09b.xinv_modify_any_order nz ih.1 adds dels ts ps hca hnd hc hp hfr hndA hn) he).1,
      C09b.stack_push ih.1.hyg ih.2 adds hnd hc⟩
  | verify L ts ps remember _ hnd hc he ih =>
    exact ⟨(C09b.of_run (C09b.xinv_verify nz ih.1 L ts ps remember hnd hc) he).1, ih.2⟩
  | ingest L ts ps _ hnd hc he ih => exact ⟨(C09b.of_run (C09b.xinv_ingest nz ih.1 L ts ps hnd hc) he).1, ih.2⟩
  | prune L _ he ih => exact ⟨(C09b.of_run (C09b.xinv_prune nz ih.1 L) he).1, ih.2⟩
  | undo b _ he ih => exact ⟨C09b.of_run (C09b.xinv_undo_top nz hnz ih.1 ih.2) he, ih.2.2.2.2.2⟩
  | restore w m0 _ hw hfull ih => exact ⟨xinv_restore nz ih.1 hw hfull, ih.2⟩

/-- **C09 for the partial map forest, every operation AND `Write ; Read`** (`C09b.C09_reach`
extended): every state reachable by honest `Modify` / `Verify` / `Ingest` / `Prune` / `Undo` and
serialise-and-restore is partial, satisfies the strong invariant (hence `Inv`), has the
specification's roots and is sane (so `Read` accepts its stream); and on such a state every honest
call succeeds — `Verify`, `Ingest`, `Prune`, `Modify` (targets in any order), `Undo` of the newest
block (also right after a restore: the history is the caller's) — and it can be serialised and
restored again. -/
theorem C09_reach_ser (nz : NZ H) (nonZero : H) (hnz : nonZero ≠ (zero : H)) :
    (∀ (m : MapPollard H) (F : Forest H) (st : List (BD H)), ReachSer nonZero m F st →
      m.full = false ∧ SInv m F ∧ Inv m F ∧ m.roots = F.roots ∧ Sane m) ∧
    (∀ (m : MapPollard H) (F : Forest H) (st : List (BD H)), ReachSer nonZero m F st →
      (∀ L ts ps remember, L.Nodup → F.canon L = some (ts, ps) →
        (∃ m', MapPollard.verifyM L (ts.map (encP F.rows)) ps remember m = (m', .ok ())) ∧
        (∃ m', MapPollard.ingest L (ts.map (encP F.rows)) ps m = (m', .ok ()))) ∧
      (∀ L, ∃ m', MapPollard.prune L m = (m', .ok ())) ∧
      (∀ adds dels ts ps tgts, (∀ x ∈ dels, m.hasCached x = true) → dels.Nodup → F.canon dels = some (ts, ps) →
        (ts.map (encP F.rows)).Perm tgts →
        (∀ a ∈ adds, a.hash ≠ zero ∧ a.hash ∉ F.liveLeaves ∧ ∀ u v : H, a.hash ≠ ph u v) →
        (adds.map (·.hash)).Nodup → F.numLeaves + adds.length < 2 ^ 63 →
        ∃ m', MapPollard.modify adds dels tgts m = (m', .ok ())) ∧
      (∀ b st', st = b :: st' → ∃ m',
        MapPollard.undo nonZero (BitVec.ofNat 64 b.numAdds) (b.targets.map (encP b.prev.rows)) b.proof b.dels
          b.prev.roots m = (m', .ok ())) ∧
      (∀ w m0, Walk m w → m0.full = false → ReachSer nonZero (restore m0 w) F st)) := by
  refine ⟨fun m F st hr => ?_, fun m F st hr => ?_⟩
  · have s := (ReachSer.stack nz hnz hr).1
    exact ⟨s.full, s, s.inv nz, Props.C09.roots_eq (s.inv nz), inv_sane (s.inv nz)⟩
  · obtain ⟨s, hst⟩ := ReachSer.stack nz hnz hr
    obtain ⟨c1, c2, c3, c4⟩ := C09b.xinv_calls nz hnz (MapXInv.xinv_false_iff.2 s) hst
    exact ⟨c1, c2, c3, c4, fun w m0 hw hfull => .restore w m0 hr hw hfull⟩

theorem lookups_reach_ser (nz : NZ H) {nonZero : H} (hnz : nonZero ≠ (zero : H)) {m : MapPollard H} {F : Forest H}
    {st : List (BD H)} (hr : ReachSer nonZero m F st) :
    m.roots = F.roots ∧
    (∀ q, Valid F.rows q → m.getHash (encP F.rows q) = Hasher.zero ∨ F.nodeAt q = some (m.getHash (encP F.rows q))) ∧
    (∀ x p, m.getLeafPosition x = some p → m.hasCached x = true ∧ ∃ t, F.posOf x = some t ∧ p = encP F.rows t) ∧
    (∀ x, m.getLeafPosition x = none ↔ m.hasCached x = false) ∧
    (∀ L, (∀ x ∈ L, m.hasCached x = true) → L.Nodup →
      ∃ tgts hashes, F.canon L = some (tgts, hashes) ∧ m.prove L = .ok (tgts.map (encP F.rows), hashes)) :=
  C09b.lookups_of_inv ((ReachSer.stack nz hnz hr).1.inv nz)

/-- honest operations on a FULL map forest (`Props.C09c.ReachFullU`) AND `Write ; Read` into a
receiver with `Full = true` -/
inductive ReachFullSer (nonZero : H) : MapPollard H → Forest H → List (BD H) → Prop
  | new : ReachFullSer nonZero (MapPollard.new true) Forest.empty []
  | modify {m m' F st} (adds : List (Leaf H)) (dels : List H) (ts : List Pos) (ps : List H) (tgts : List U64) :
      ReachFullSer nonZero m F st → dels.Nodup → F.canon dels = some (ts, ps) → (ts.map (encP F.rows)).Perm tgts →
      (∀ a ∈ adds, a.hash ≠ zero ∧ a.hash ∉ F.liveLeaves ∧ ∀ u v : H, a.hash ≠ ph u v) →
      (adds.map (·.hash)).Nodup → F.numLeaves + adds.length < 2 ^ 63 →
      MapPollard.modify adds dels tgts m = (m', .ok ()) →
      ReachFullSer nonZero m' (F.modify dels (adds.map (·.hash))) (⟨F, adds.length, dels, ts, ps⟩ :: st)
  | verify {m m' F st} (L : List H) (ts : List Pos) (ps : List H) (remember : Bool) :
      ReachFullSer nonZero m F st → L.Nodup → F.canon L = some (ts, ps) →
      MapPollard.verifyM L (ts.map (encP F.rows)) ps remember m = (m', .ok ()) → ReachFullSer nonZero m' F st
  | ingest {m m' F st} (L : List H) (ts : List Pos) (ps : List H) :
      ReachFullSer nonZero m F st → L.Nodup → F.canon L = some (ts, ps) →
      MapPollard.ingest L (ts.map (encP F.rows)) ps m = (m', .ok ()) → ReachFullSer nonZero m' F st
  | prune {m m' F st} (L : List H) :
      ReachFullSer nonZero m F st → MapPollard.prune L m = (m', .ok ()) → ReachFullSer nonZero m' F st
  | undo {m m' F st} (b : BD H) :
      ReachFullSer nonZero m F (b :: st) →
      MapPollard.undo nonZero (BitVec.ofNat 64 b.numAdds) (b.targets.map (encP b.prev.rows)) b.proof b.dels
        b.prev.roots m = (m', .ok ()) →
      ReachFullSer nonZero m' b.prev st
  | restore {m F st} (w : MapSt H) (m0 : MapPollard H) :
      ReachFullSer nonZero m F st → Walk m w → m0.full = true → ReachFullSer nonZero (restore m0 w) F st

theorem ReachFullSer.of_reachFullU {nonZero : H} {m : MapPollard H} {F : Forest H} {st : List (BD H)}
    (hr : C09c.ReachFullU nonZero m F st) : ReachFullSer nonZero m F st := by
  induction hr with
  | new => exact .new
  | modify adds dels ts ps tgts _ hnd hc hp hfr hndA hn he ih =>
    exact .modify adds dels ts ps tgts ih hnd hc hp hfr hndA hn he
  | verify L ts ps remember _ hnd hc he ih => exact .verify L ts ps remember ih hnd hc he
  | ingest L ts ps _ hnd hc he ih => exact .ingest L ts ps ih hnd hc he
  | prune L _ he ih => exact .prune L ih he
  | undo b _ he ih => exact .undo b ih he

theorem ReachFullSer.stack (nz : NZ H) {nonZero : H} (hnz : nonZero ≠ (zero : H)) :
    ∀ {m : MapPollard H} {F : Forest H} {st : List (BD H)}, ReachFullSer nonZero m F st →
      FInv m F ∧ C09b.StackOK F st := by
  intro m F st hr
  suffices h : MapXInv.XInv true m F ∧ C09b.StackOK F st from ⟨(MapXInv.xinv_true_iff nz).1 h.1, h.2⟩
  induction hr with
  | new => exact ⟨(MapXInv.xinv_true_iff nz).2 C09c.finv_new, trivial⟩
  | modify adds dels ts ps tgts _ hnd hc hp hfr hndA hn he ih =>
    exact ⟨(C09b.of_run (C09b.xinv_modify_any_order nz ih.1 adds dels ts ps (ih.1.cached_of_canon hc) hnd hc hp hfr
      hndA hn) he).1, C09b.stack_push ih.1.hyg ih.2 adds hnd hc⟩
  | verify L ts ps remember _ hnd hc he ih =>
    exact ⟨(C09b.of_run (C09b.xinv_verify nz ih.1 L ts ps remember hnd hc) he).1, ih.2⟩
  | ingest L ts ps _ hnd hc he ih => exact ⟨(C09b.of_run (C09b.xinv_ingest nz ih.1 L ts ps hnd hc) he).1, ih.2⟩
  | prune L _ he ih => exact ⟨(C09b.of_run (C09b.xinv_prune nz ih.1 L) he).1, ih.2⟩
  | undo b _ he ih => exact ⟨C09b.of_run (C09b.xinv_undo_top nz hnz ih.1 ih.2) he, ih.2.2.2.2.2⟩
  | restore w m0 _ hw hfull ih => exact ⟨xinv_restore nz ih.1 hw hfull, ih.2⟩

/-- **C09 for the FULL map forest, every operation AND `Write ; Read`** (`C09c.C09_reach_full`
extended) -/
theorem C09_reach_full_ser (nz : NZ H) (nonZero : H) (hnz : nonZero ≠ (zero : H)) :
    (∀ (m : MapPollard H) (F : Forest H) (st : List (BD H)), ReachFullSer nonZero m F st →
      m.full = true ∧ FInv m F ∧ Inv m F ∧ m.roots = F.roots ∧ Sane m) ∧
    (∀ (m : MapPollard H) (F : Forest H) (st : List (BD H)), ReachFullSer nonZero m F st →
      (∀ L ts ps remember, L.Nodup → F.canon L = some (ts, ps) →
        (∃ m', MapPollard.verifyM L (ts.map (encP F.rows)) ps remember m = (m', .ok ())) ∧
        (∃ m', MapPollard.ingest L (ts.map (encP F.rows)) ps m = (m', .ok ()))) ∧
      (∀ L, ∃ m', MapPollard.prune L m = (m', .ok ())) ∧
      (∀ adds dels, dels.Nodup → (∀ x ∈ dels, x ∈ F.liveLeaves) →
        (∀ a ∈ adds, a.hash ≠ zero ∧ a.hash ∉ F.liveLeaves ∧ ∀ u v : H, a.hash ≠ ph u v) →
        (adds.map (·.hash)).Nodup → F.numLeaves + adds.length < 2 ^ 63 →
        ∃ ts ps, F.canon dels = some (ts, ps) ∧ ∀ tgts, (ts.map (encP F.rows)).Perm tgts →
          ∃ m', MapPollard.modify adds dels tgts m = (m', .ok ())) ∧
      (∀ b st', st = b :: st' → ∃ m',
        MapPollard.undo nonZero (BitVec.ofNat 64 b.numAdds) (b.targets.map (encP b.prev.rows)) b.proof b.dels
          b.prev.roots m = (m', .ok ())) ∧
      (∀ w m0, Walk m w → m0.full = true → ReachFullSer nonZero (restore m0 w) F st)) := by
  refine ⟨fun m F st hr => ?_, fun m F st hr => ?_⟩
  · have s := (ReachFullSer.stack nz hnz hr).1
    exact ⟨s.full, s, s.inv nz, C09c.roots_full nz s, finv_sane s⟩
  · obtain ⟨s, hst⟩ := ReachFullSer.stack nz hnz hr
    obtain ⟨c1, c2, c3, c4⟩ := C09c.full_calls nz hnz s hst
    exact ⟨c1, c2, c3, c4, fun w m0 hw hfull => .restore w m0 hr hw hfull⟩

theorem lookups_reach_full_ser (nz : NZ H) {nonZero : H} (hnz : nonZero ≠ (zero : H)) {m : MapPollard H}
    {F : Forest H} {st : List (BD H)} (hr : ReachFullSer nonZero m F st) :
    m.roots = F.roots ∧
    (∀ q, Valid F.rows q → m.getHash (encP F.rows q) = (F.nodeAt q).getD zero) ∧
    (∀ x, m.getLeafPosition x = (F.posOf x).map (encP F.rows)) ∧
    (∀ L, (∀ x ∈ L, x ∈ F.liveLeaves) → L.Nodup →
      ∃ tgts hashes, F.canon L = some (tgts, hashes) ∧ m.prove L = .ok (tgts.map (encP F.rows), hashes)) := by
  have s := (ReachFullSer.stack nz hnz hr).1
  exact ⟨C09c.roots_full nz s, fun q hq => C09c.getHash_full nz s q hq, fun x => C09c.getLeafPosition_full nz s x,
    fun L hL hnd => C09c.prove_full nz s L hL hnd⟩

end Closure

end UtreexoVerif.Props.C13Map
