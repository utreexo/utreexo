/-
  C15 — the caching schedule names real leaves and never exceeds the memory limit.

  "For any recorded sequence of block summaries, every position scheduled for a block is the
   insertion slot of a leaf added in that block and deleted in a later recorded block, listed
   once and in ascending order.  At no block do more than the requested number of scheduled
   leaves exist simultaneously, and when the limit is at least the number of leaves ever alive
   the schedule contains every such leaf."

  Model: `Model/Schedule.lean` (transliteration of `AddBlockSummary`, `getPrevPos` & co,
  `genTTLs`, `GenerateCachingSchedule`).  `GenerateCachingSchedule` is `genTTLs` (block
  summaries ↦ per-block tables of `(position, ttl)`) followed by the eviction loop
  (`Model.scheduleOfTTLs`: tables ↦ schedule).

  The theorems of this file hold for ALL inputs: any sequence of block summaries (arbitrary
  targets, not only prover-emitted ones), any limit, any `getPrevPos` variant.

  `Distinct` (the positions in the ttl tables are pairwise distinct) is exactly what the
  eviction loop needs: `createHeights` is keyed by position.  It holds whenever `genTTLs` is
  right (the positions are then insertion slots).  Positivity of the ttls — the other fact the
  loop relies on — is proved, not assumed.

  That the tables produced by `genTTLs` are exactly the leaves' lifetimes
  (`genTTLs_exact_statement`, which with the theorems of this file gives `C15_statement`) is proved
  in `Props/C15b.lean` for `getPrevPosFixed` with the bound 2^62 in place of 2^63
  (`genTTLs_exact : genTTLs_exact_upto (2^62) getPrevPosFixed`, `C15 : C15_upto (2^62) getPrevPosFixed`).
  For the UNCHANGED /repo it is false, and so is the property: `C15_fails_createdMovedByUndoDel`
  (a 3-block history with 2 leaves) — `getPrevPos` lets `undoDel` move the positions that
  `undoAdd` has just identified as created in the block.
-/
import UtreexoVerif.Proofs.SchedTTL
import UtreexoVerif.Spec.Sched

namespace UtreexoVerif.Props.C15
open Model Proofs.Schedule Spec.Sched

/-- the block summaries a recorded history produces: per block the prover's targets for the
deleted slots (`Spec.Sched.targetOf`: position in the collapsed forest, encoded for
`TreeRows(leaf count)` rows, in the order the block names the leaves) and the addition count -/
def summariesOf (h : History) : Option (List (List U64 × U16)) :=
  let L := lives h
  h.zipIdx.mapM fun (bt : Block × Nat) => do
    let tg ← bt.1.delSlots.mapM (fun s => L.targetOf bt.2 s)
    pure (tg.map (BitVec.ofNat 64), BitVec.ofNat 16 bt.1.numAdds)

/-- **C15, full statement**, for a given `getPrevPos`: for every well-formed block history
(any deletions of live leaves — including blocks that empty whole trees —, 0..65535 additions
per block, fewer than 2^63 leaves in total) and every limit ≥ 1, feeding the summaries to a
tracker and calling `GenerateCachingSchedule(limit)` returns a schedule that the oracle of
`Spec/Sched.lean` (order/uniqueness, slot correctness, memory bound, completeness) accepts. -/
def C15_statement (gpp : PrevPosFn) : Prop :=
  ∀ (h : History) (limit : Nat) (blocks : List (List U64 × U16)),
    wellFormed h = true → (∀ b ∈ h, b.numAdds < 65536) → total h < 2^63 → 1 ≤ limit →
    summariesOf h = some blocks →
    ∃ tr cs sch, Tracker.ofBlocks blocks = .ok tr ∧
      tr.generateCachingScheduleWith gpp (limit : Int) = .ok (cs, sch) ∧
      orderOK (sch.map (·.map (·.toNat))) = true ∧
      slotsOK h (sch.map (·.map (·.toNat))) = true ∧
      memOK h limit (sch.map (·.map (·.toNat))) = true ∧
      completeOK h limit (sch.map (·.map (·.toNat))) = true

/-- the ttl tables of a history as they should be: table `t` lists, in ascending order, the
insertion slots of block `t` whose leaf is deleted in a later recorded block `d`, with ttl
`d - t` -/
def lifetimeTables (h : History) : List (List TTLInfo) :=
  let L := lives h
  (List.range h.length).map fun t =>
    ((List.range (L.before (t + 1) - L.before t)).map (· + L.before t)).filterMap fun s =>
      match L.death? s with
      | some d => some { pos := BitVec.ofNat 64 s, ttl := (d : Int) - (t : Int) }
      | none => none

/-- on the summaries of a well-formed history `genTTLs` produces exactly the lifetimes (false for
the unchanged `getPrevPos`; `Props/C15b.lean` proves it for `getPrevPosFixed` with the bound `2^62`
in place of `2^63`: `genTTLs_exact : genTTLs_exact_upto (2^62) getPrevPosFixed`) -/
def genTTLs_exact_statement (gpp : PrevPosFn) : Prop :=
  ∀ (h : History) (blocks : List (List U64 × U16)),
    wellFormed h = true → (∀ b ∈ h, b.numAdds < 65536) → total h < 2^63 →
    summariesOf h = some blocks →
    ∃ tr cs, Tracker.ofBlocks blocks = .ok tr ∧ tr.genTTLsWith gpp = .ok cs ∧ cs.ttls = lifetimeTables h

/-- everything proved about a run, in one statement (`order_strict`, `scheduled_is_entry`, `memory_bound`, `complete_wrt_tables` below
are its parts): for any
sequence of block summaries, any `getPrevPos` variant and any limit, if
`GenerateCachingSchedule` returns and the positions in its ttl tables are pairwise distinct,
then the schedule has one strictly ascending list per block, names only entries of that
block's table (whose positive ttl ends inside the recorded blocks), never keeps more than
`limit` of them alive at once, and contains every table entry when `limit` is at least their
number.  Missing for the full `C15_statement`: `genTTLs_exact_statement` (the tables are the
leaves' lifetimes), which also implies `Distinct`. -/
theorem C15_partial (gpp : PrevPosFn) (blocks : List (List U64 × U16)) (tr cs : Tracker) (limit : Int)
    (sch : List (List U64)) (hb : Tracker.ofBlocks blocks = .ok tr)
    (h : tr.generateCachingScheduleWith gpp limit = .ok (cs, sch)) (hd : Distinct cs.ttls) :
    sch.length = blocks.length ∧
    (∀ (i : Nat) (l : List U64), sch[i]? = some l → l.Pairwise (· < ·)) ∧
    (∀ (i : Nat) (l : List U64) (p : U64), sch[i]? = some l → p ∈ l →
      ∃ e, Ent cs.ttls i e ∧ e.pos = p ∧ 0 < e.ttl ∧ (i : Int) + e.ttl < blocks.length) ∧
    (∀ τ : Nat, ((aliveScheduled cs.ttls sch τ).length : Int) ≤ limit) ∧
    ((cs.ttls.flatten.length : Int) ≤ limit →
      ∀ (i : Nat) (e : TTLInfo), Ent cs.ttls i e → ∃ l, sch[i]? = some l ∧ e.pos ∈ l) := by
  obtain ⟨hg, hlen, hm, hs⟩ := generate_decomp gpp hb h
  obtain ⟨hp, hin⟩ := genTTLs_posTTL gpp tr cs hg
  obtain ⟨sch', hrun, hl, hord, hent, hcompl⟩ := schedule_main hd hp hm
  rw [hs] at hrun
  cases hrun
  have hdl : tr.deletions.length = cs.ttls.length := by rw [(ofBlocks_len hb).1, hlen]
  refine ⟨by rw [hl, hlen], fun i l hil => Proofs.SortBy.strict_of_sorted_nodup l (hord i l hil).1 (hord i l hil).2,
    fun i l p hil hpl => ?_, Proofs.Schedule.memory_bound hd hp hm hs, fun hbig i e he => ?_⟩
  · obtain ⟨e, he, h1, h2⟩ := hent i l p hil hpl
    exact ⟨e, he, h1, he.pos hp, by rw [← hlen]; exact h2⟩
  · obtain ⟨l, hl', hel⟩ := he
    exact hcompl hbig i e ⟨l, hl', hel⟩ (by rw [← hdl]; exact hin i l hl' e hel)

section
variable (gpp : PrevPosFn) {blocks : List (List U64 × U16)} {tr cs : Tracker} {limit : Int}
  {sch : List (List U64)}

/-- **ttls are positive** and end inside the recorded blocks: what `GenerateCachingSchedule`'s
loop relies on besides `Distinct`.  Any tracker, any `getPrevPos`. -/
theorem ttls_positive (cs cs' : Tracker) (h : cs.genTTLsWith gpp = .ok cs') :
    (∀ l ∈ cs'.ttls, ∀ e ∈ l, 0 < e.ttl) ∧
    (∀ (j : Nat) (l : List TTLInfo), cs'.ttls[j]? = some l → ∀ e ∈ l, (j : Int) + e.ttl < cs.deletions.length) :=
  genTTLs_posTTL gpp cs cs' h

/-- **(b) ordering, no hypotheses**: whatever the summaries and the limit, every block's list
of a returned schedule is in ascending order. -/
theorem order_ascending (cs cs' : Tracker)
    (h : cs.generateCachingScheduleWith gpp limit = .ok (cs', sch)) :
    ∀ (i : Nat) (l : List U64), sch[i]? = some l → l.Pairwise (· ≤ ·) := by
  rw [Tracker.generateCachingScheduleWith_eq, Proofs.CalcSound.bind_eq_ok] at h
  obtain ⟨cs1, _, h⟩ := h
  rw [Proofs.CalcSound.bind_eq_ok] at h
  obtain ⟨sch1, hs, h⟩ := h
  cases h
  exact scheduleOfTTLs_sorted hs

/-- **(b) ordering and uniqueness**: when the positions in the ttl tables are pairwise
distinct, every block's list is strictly ascending (ascending and duplicate-free). -/
theorem order_strict (hb : Tracker.ofBlocks blocks = .ok tr)
    (h : tr.generateCachingScheduleWith gpp limit = .ok (cs, sch)) (hd : Distinct cs.ttls) :
    sch.length = blocks.length ∧ ∀ (i : Nat) (l : List U64), sch[i]? = some l → l.Pairwise (· < ·) :=
  ⟨(C15_partial gpp _ _ _ _ _ hb h hd).1, (C15_partial gpp _ _ _ _ _ hb h hd).2.1⟩

/-- **scheduled positions are table entries of that block** whose ttl ends inside the
recorded blocks. -/
theorem scheduled_is_entry (hb : Tracker.ofBlocks blocks = .ok tr)
    (h : tr.generateCachingScheduleWith gpp limit = .ok (cs, sch)) (hd : Distinct cs.ttls) :
    ∀ (i : Nat) (l : List U64) (p : U64), sch[i]? = some l → p ∈ l →
      ∃ e, Ent cs.ttls i e ∧ e.pos = p ∧ 0 < e.ttl ∧ (i : Int) + e.ttl < blocks.length :=
  (C15_partial gpp _ _ _ _ _ hb h hd).2.2.1

/-- **(a) memory bound**: for every block `τ`, the scheduled entries that exist once block `τ`
has been applied — entry `(pos, ttl)` of block `i` with `pos` in the list of block `i` and
`i ≤ τ < i + ttl` — number at most `maxMemory`.  Follows from the invariant of the eviction
loop (every such entry sits in `cache` after block `τ`, and `len(cache) ≤ maxMemory`);
independent of what `genTTLs` computed, given `Distinct` (positivity of the ttls is proved). -/
theorem memory_bound (hb : Tracker.ofBlocks blocks = .ok tr)
    (h : tr.generateCachingScheduleWith gpp limit = .ok (cs, sch)) (hd : Distinct cs.ttls) (τ : Nat) :
    ((aliveScheduled cs.ttls sch τ).length : Int) ≤ limit :=
  (C15_partial gpp _ _ _ _ _ hb h hd).2.2.2.1 τ

/-- **(c), eviction-loop half — completeness with respect to the tables**: when the limit is
at least the number of table entries, every entry of every table is scheduled, in the list of
its own block. -/
theorem complete_wrt_tables (hb : Tracker.ofBlocks blocks = .ok tr)
    (h : tr.generateCachingScheduleWith gpp limit = .ok (cs, sch)) (hd : Distinct cs.ttls)
    (hbig : (cs.ttls.flatten.length : Int) ≤ limit) :
    ∀ (i : Nat) (e : TTLInfo), Ent cs.ttls i e → ∃ l, sch[i]? = some l ∧ e.pos ∈ l :=
  (C15_partial gpp _ _ _ _ _ hb h hd).2.2.2.2 hbig

/-- **(c), eviction-loop half, with the threshold of the property**: `genTTLs` records at most
one entry per recorded deletion target (`genTTLs_entries_le`), so a limit that is at least the
number of deletion targets recorded (which, for a real history, is at most the number of leaves
ever added) makes the schedule contain every table entry. -/
theorem complete_of_limit_ge_targets (hb : Tracker.ofBlocks blocks = .ok tr)
    (h : tr.generateCachingScheduleWith gpp limit = .ok (cs, sch)) (hd : Distinct cs.ttls)
    (hbig : (((blocks.map (·.1.length)).sum : Nat) : Int) ≤ limit) :
    ∀ (i : Nat) (e : TTLInfo), Ent cs.ttls i e → ∃ l, sch[i]? = some l ∧ e.pos ∈ l := by
  obtain ⟨hg, _, _, _⟩ := generate_decomp gpp hb h
  have h1 := genTTLs_entries_le gpp tr cs hg
  rw [ofBlocks_dels hb] at h1
  exact complete_wrt_tables gpp hb h hd (by omega)

/-- **no panic in the eviction loop**: once `genTTLs` has returned tables with distinct
positions and the limit is non-negative, `GenerateCachingSchedule` returns a schedule. -/
theorem generate_total (hb : Tracker.ofBlocks blocks = .ok tr) (hg : tr.genTTLsWith gpp = .ok cs)
    (hd : Distinct cs.ttls) (hm : 0 ≤ limit) :
    ∃ sch, tr.generateCachingScheduleWith gpp limit = .ok (cs, sch) := by
  have hp : PosTTL cs.ttls := (genTTLs_posTTL gpp tr cs hg).1
  obtain ⟨sch', hrun, _⟩ := schedule_main hd hp hm
  have hshape := genTTLs_shape gpp (ofBlocks_len hb) hg
  have hlen : cs.numAdds.length = cs.ttls.length := by
    rw [hshape.1, hshape.2.2]; exact (ofBlocks_len hb).2.1
  refine ⟨sch', ?_⟩
  rw [Tracker.generateCachingScheduleWith_eq, hg, Out.bind, hlen, hrun, Out.bind]

end


/-- `TestCachingSchedule` "Basic case with maxMemory of 2": creates(0,1) | creates(2,3), dels(0)
| creates(4,5), dels(1) | creates(6,7), dels(2,3) -/
def exBlocks : List (List U64 × U16) :=
  [([], 2#16), ([0#64], 2#16), ([4#64], 2#16), ([8#64, 9#64], 2#16)]

def exTables : List (List TTLInfo) := [[⟨0#64, 1⟩, ⟨1#64, 2⟩], [⟨2#64, 2⟩, ⟨3#64, 2⟩], [], []]

/-- the hypotheses of the theorems are satisfiable: on this history the model returns the
tables and the schedule the Go test expects, and the table positions are distinct -/
example : (do
    let tr ← Tracker.ofBlocks exBlocks
    let r ← tr.generateCachingSchedule 2
    pure (r.1.ttls, r.2)) = Out.ok (exTables, [[0#64, 1#64], [2#64], [], []]) := by decide +kernel

example : Distinct exTables := by unfold Distinct; decide

/-- `Distinct` cannot be dropped from `order_strict`: with a repeated position in the tables the
position-keyed `createHeights` map loses the second entry's block and the eviction loop lists
the position twice -/
example : scheduleOfTTLs [[⟨5#64, 1⟩, ⟨5#64, 1⟩], []] 2 2 = Out.ok [[5#64, 5#64], []] := by decide +kernel

/-- witness history: block 0 adds leaf 0; block 1 deletes leaf 0 (target 0) and adds leaf 1,
which overwrites the emptied root and therefore sits at position 2; block 2 deletes leaf 1
(target 2) -/
def witness : History := [⟨1, []⟩, ⟨1, [0]⟩, ⟨0, [1]⟩]

def witnessBlocks : List (List U64 × U16) := [([], 1#16), ([0#64], 1#16), ([2#64], 0#16)]

theorem witness_summaries : summariesOf witness = some witnessBlocks := by decide +kernel

/-- the model of the unchanged code schedules position 3 for block 1, whose only slot is 1 -/
theorem witness_run : (do
    let tr ← Tracker.ofBlocks witnessBlocks
    let r ← tr.generateCachingSchedule 2
    pure (r.1.ttls, r.2)) = Out.ok ([[⟨0#64, 1⟩], [⟨3#64, 1⟩], []], [[0#64], [3#64], []]) := by decide +kernel

/-- with the repair the same history yields the right schedule -/
theorem witness_run_fixed : (do
    let tr ← Tracker.ofBlocks witnessBlocks
    let r ← tr.generateCachingScheduleFixed 2
    pure (r.1.ttls, r.2)) = Out.ok ([[⟨0#64, 1⟩], [⟨1#64, 1⟩], []], [[0#64], [1#64], []]) := by decide +kernel

/-- on the witness the repaired model produces exactly the lifetime tables
(`genTTLs_exact_statement` instantiated) -/
example : lifetimeTables witness = [[⟨0#64, 1⟩], [⟨1#64, 1⟩], []] := by decide +kernel

/-- **The unchanged `getPrevPos` violates C15** (finding C15.createdMovedByUndoDel): on the
witness history `GenerateCachingSchedule(2)` schedules position 3 for block 1, which is not
the insertion slot of a leaf added in that block (its only slot is 1), and leaf 1 — added and
later deleted — is missing although the limit covers every leaf. -/
theorem C15_fails_createdMovedByUndoDel : ¬ C15_statement getPrevPos := by
  intro H
  obtain ⟨tr, cs, sch, h1, h2, _, hslot, _, _⟩ :=
    H witness 2 witnessBlocks (by decide +kernel) (by decide) (by decide) (by decide) witness_summaries
  have hrun := witness_run
  rw [h1] at hrun
  change (do let r ← tr.generateCachingScheduleWith getPrevPos 2; pure (r.1.ttls, r.2)) = _ at hrun
  have h2' : tr.generateCachingScheduleWith getPrevPos 2 = Out.ok (cs, sch) := h2
  rw [h2'] at hrun
  simp only [bind, Out.bind, pure] at hrun
  have hsch : sch = [[0#64], [3#64], []] := by
    have := Out.ok.inj hrun
    exact (Prod.mk.inj this).2
  subst hsch
  revert hslot
  decide +kernel

end UtreexoVerif.Props.C15
