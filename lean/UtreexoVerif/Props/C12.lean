/-
  C12 — the map forest is race-free and every query sees a whole-block state.

  What is proved is about the EXTRACTED LOCK DISCIPLINE (`Gen/LockTable.lean`, regenerated from
  `mappollard.go` on every check) under the interleaving semantics of one `sync.RWMutex` of
  `Model/Lock.lean`, for any table that passes `LockDiscipline`, any number of goroutines and any
  scheduler.  Trusted / outside the model: Go's memory model, the runtime's `sync.RWMutex`,
  scheduler and map implementation; the translator (syntactic); that a method body does what its
  syntax says (no reflection / unsafe); callers that touch the exported struct fields directly.
  The runtime half of the check (harness family `conc`, built with `-race`) ties the table to the
  real code on executed schedules.
-/
import UtreexoVerif.Proofs.Lock

namespace UtreexoVerif.Props.C12
open UtreexoVerif.Model.Lock UtreexoVerif.Proofs.Lock

/-- For a lock table `T` (methods `allM`): any number of goroutines, each calling any
sequence of exported methods (with any arguments: bodies are over-approximated by their
footprints), under every interleaving: no data race, atomic whole-block views, no deadlock,
and never-written fields never change.  The instance for the table extracted from the
current `mappollard.go` is `Props.C12Table.C12`. -/
def C12_statement {F M : Type} [DecidableEq F] [DecidableEq M] (T : M → MethodInfo F M) (allM : List M) : Prop :=
  ∀ (V : Type) (mem0 : Mem F V) (progs : List (List (Instr F V))),
    (∀ p ∈ progs, ApiProg T p) →
    ∀ s, Reachable (State.initial mem0 progs) s →
      RaceFree s ∧ Atomic s ∧ DeadlockFree s ∧ (∀ f, mutF T allM f = false → s.mem f = mem0 f)

section Generic
variable {F V : Type} [DecidableEq F]

/-- (a) DATA-RACE FREEDOM for programs that respect the discipline. -/
theorem raceFree (mu : F → Bool) (mem0 : Mem F V) (progs : List (List (Instr F V)))
    (hwf : ∀ p ∈ progs, wfProg mu .none p = true) (s : State F V)
    (hr : Reachable (State.initial mem0 progs) s) : RaceFree s :=
  let h := inv_reachable hwf hr
  raceFree_of_inv h.ok h.lock

/-- (b) ATOMIC SECTIONS / WHOLE-BLOCK VIEWS for programs that respect the discipline:
see `Model.Lock.Atomic`. -/
theorem atomic (mu : F → Bool) (mem0 : Mem F V) (progs : List (List (Instr F V)))
    (hwf : ∀ p ∈ progs, wfProg mu .none p = true) (s : State F V)
    (hr : Reachable (State.initial mem0 progs) s) : Atomic s :=
  (inv_reachable hwf hr).atomic

/-- (b, reader form) a thread inside a read section: the memory IS the committed state (the
state left by the last completed write section), everything it has read so far is what a
sequential run of its accesses on that state returns, … -/
theorem reader_sees_whole_block (mu : F → Bool) (mem0 : Mem F V) (progs : List (List (Instr F V)))
    (hwf : ∀ p ∈ progs, wfProg mu .none p = true) (s : State F V)
    (hr : Reachable (State.initial mem0 progs) s) (j : Nat) (t : Thread F V)
    (hj : s.threads[j]? = some t) (hh : t.held = .r) :
    s.mem = s.committed ∧ s.committed = replay mem0 s.hist ∧
    runOps t.done (s.committed, t.log0) = (s.committed, t.log) := by
  have h := inv_reachable hwf hr
  have hv := reader_view h hj hh
  have hi : s.init = mem0 := init_const hr
  exact ⟨hv.1, by rw [← hi]; exact h.atomic.1, hv.2⟩

/-- … and no step of anybody changes the committed state or the memory while it is inside:
the whole read section sees ONE state between two blocks, current during the call. -/
theorem reader_view_stable (mu : F → Bool) (mem0 : Mem F V) (progs : List (List (Instr F V)))
    (hwf : ∀ p ∈ progs, wfProg mu .none p = true) (s s' : State F V)
    (hr : Reachable (State.initial mem0 progs) s) (i j : Nat) (t : Thread F V) (st : Step s i s')
    (hj : s.threads[j]? = some t) (hh : t.held = .r) :
    s'.committed = s.committed ∧ s'.mem = s.mem :=
  stable_while_reading (inv_reachable hwf hr) st hj hh

/-- (b, writer form) a thread inside a write section excludes every other thread from every
section (so no access of another thread to a mutable field is interleaved with its block). -/
theorem writer_excludes (mu : F → Bool) (mem0 : Mem F V) (progs : List (List (Instr F V)))
    (hwf : ∀ p ∈ progs, wfProg mu .none p = true) (s : State F V)
    (hr : Reachable (State.initial mem0 progs) s) (i j : Nat) (ti tj : Thread F V)
    (hi : s.threads[i]? = some ti) (hj : s.threads[j]? = some tj) (hne : j ≠ i) (hw : ti.held = .w) :
    tj.held = .out ∨ tj.held = .pend := by
  have h := inv_reachable hwf hr
  cases hh : tj.held with
  | out => exact Or.inl rfl
  | pend => exact Or.inr rfl
  | r => exact (mutual_exclusion h.lock hi hj hne hw (Or.inl hh)).elim
  | w => exact (mutual_exclusion h.lock hi hj hne hw (Or.inr hh)).elim

/-- (b, what the runtime harness observes) while a thread is inside a write section — for
instance suspended at a `verifPoint` — the only moves any OTHER thread can make are accesses
outside the lock (which, by the discipline, read never-written fields): every `RLock`/`Lock`
of another thread is disabled, so every lock-taking query stays blocked until the release. -/
theorem others_blocked_while_writer_inside (mu : F → Bool) (mem0 : Mem F V) (progs : List (List (Instr F V)))
    (hwf : ∀ p ∈ progs, wfProg mu .none p = true) (s s' : State F V)
    (hr : Reachable (State.initial mem0 progs) s) (i j : Nat) (ti : Thread F V)
    (hi : s.threads[i]? = some ti) (hw : ti.held = .w) (hne : j ≠ i) (st : Step s j s') :
    ∃ tj a p, s.threads[j]? = some tj ∧ tj.held = .out ∧ tj.prog = .acc a :: p ∧ a.ok mu .none = true := by
  have h := inv_reachable hwf hr
  have hm : s.lock.wmutex = some i := (h.lock.wmutex i ti hi).mp (Or.inr hw)
  cases st with
  | @acc t a p ht hp =>
    have hout : t.held = .out := by
      rcases writer_excludes mu mem0 progs hwf s hr i j ti t hi ht hne hw with h1 | h1
      · exact h1
      · obtain ⟨p', hp'⟩ := (h.ok j t ht).2 h1
        rw [hp] at hp'; cases hp'
    have hwf' := (h.ok j t ht).1
    rw [hp, hout] at hwf'
    exact ⟨t, a, p, ht, hout, hp, (wf_acc.mp hwf').1⟩
  | rlock ht hp hh hw' => rw [hm] at hw'; cases hw'
  | wannounce ht hp hh hw' => rw [hm] at hw'; cases hw'
  | @wenter t p ht hp hh hr' =>
    have := (h.lock.wmutex j t ht).mp (Or.inl hh)
    rw [hm] at this
    exact absurd (Option.some.inj this).symm hne
  | @runlock t p ht hp hh => exact (mutual_exclusion h.lock hi ht hne hw (Or.inl hh)).elim
  | @wunlock t p ht hp hh => exact (mutual_exclusion h.lock hi ht hne hw (Or.inr hh)).elim

/-- (c) NO DEADLOCK for programs that respect the discipline. -/
theorem deadlockFree (mu : F → Bool) (mem0 : Mem F V) (progs : List (List (Instr F V)))
    (hwf : ∀ p ∈ progs, wfProg mu .none p = true) (s : State F V)
    (hr : Reachable (State.initial mem0 progs) s) : DeadlockFree s :=
  let h := inv_reachable hwf hr
  deadlockFree_of_inv h.ok h.lock

/-- never-written fields keep their initial value -/
theorem immutable_const (mu : F → Bool) (mem0 : Mem F V) (progs : List (List (Instr F V)))
    (hwf : ∀ p ∈ progs, wfProg mu .none p = true) (s : State F V)
    (hr : Reachable (State.initial mem0 progs) s) (f : F) (hf : mu f = false) : s.mem f = mem0 f := by
  have h := inv_reachable hwf hr
  have hi : s.init = mem0 := init_const hr
  rw [← hi]; exact h.frozen f hf

end Generic

section Table
variable {F M V : Type} [DecidableEq F] [DecidableEq M]

/-- Every goroutine program over a table that passes `LockDiscipline` respects the
discipline.  (`hall`: the list of methods is complete.) -/
theorem discipline_wf (T : M → MethodInfo F M) (allM : List M) (hall : ∀ m, m ∈ allM)
    (hd : LockDiscipline T allM = true) (p : List (Instr F V)) (hp : ApiProg T p) :
    wfProg (mutF T allM) .none p = true :=
  apiProg_wf hall hd hp

/-- THE GENERIC THEOREM.  If the computable check accepts the table, then for any number of
goroutines calling exported methods, in every reachable state of every execution:
(a) no data race, (b) atomic sections on whole-block states, (c) no deadlock; and fields no
method writes keep their initial value. -/
theorem discipline_sound (T : M → MethodInfo F M) (allM : List M) (hall : ∀ m, m ∈ allM)
    (hd : LockDiscipline T allM = true)
    (mem0 : Mem F V) (progs : List (List (Instr F V))) (hp : ∀ p ∈ progs, ApiProg T p)
    (s : State F V) (hr : Reachable (State.initial mem0 progs) s) :
    RaceFree s ∧ Atomic s ∧ DeadlockFree s ∧ (∀ f, mutF T allM f = false → s.mem f = mem0 f) := by
  have hwf : ∀ p ∈ progs, wfProg (mutF T allM) .none p = true :=
    fun p hm => discipline_wf T allM hall hd p (hp p hm)
  exact ⟨raceFree _ mem0 progs hwf s hr, atomic _ mem0 progs hwf s hr, deadlockFree _ mem0 progs hwf s hr,
    fun f hf => immutable_const _ mem0 progs hwf s hr f hf⟩

end Table

/-- C12 for every table that passes the computable check. -/
theorem C12_of_discipline {F M : Type} [DecidableEq F] [DecidableEq M] (T : M → MethodInfo F M) (allM : List M)
    (hall : ∀ m, m ∈ allM) (hd : LockDiscipline T allM = true) : C12_statement T allM := by
  intro V mem0 progs hp s hr
  exact discipline_sound T allM hall hd mem0 progs hp s hr

namespace Examples

inductive Fld where
  | numLeaves | full
  deriving DecidableEq, Repr

/-- `numLeaves` is written by somebody, `full` by nobody -/
def mu : Fld → Bool
  | .numLeaves => true
  | .full => false

/-- a getter as it should be: `RLock; read numLeaves; RUnlock`, preceded by an unlocked read
of the immutable field -/
def goodGetter : List (Instr Fld Nat) :=
  [.acc (.read .full), .acquire .r, .acc (.read .numLeaves), .release .r]

/-- a block: `Lock; read numLeaves; hook; write numLeaves := old+1; Unlock` -/
def goodWriter : List (Instr Fld Nat) :=
  [.acquire .w, .acc (.read .numLeaves), .acc .hook, .acc (.write .numLeaves (fun l => l.getLastD 0 + 1)), .release .w]

/-- NON-VACUITY of the generic theorems: these programs respect the discipline -/
example : wfProg mu .none goodGetter = true ∧ wfProg mu .none goodWriter = true := by decide

/-- NECESSITY 1 (the defect fixed by commit 561319c): a getter WITHOUT the read lock is
rejected by `wfProg`, and the race is real in the model — after the writer has entered,
`read numLeaves` of the getter and `write numLeaves` of the writer are both enabled. -/
def unlockedGetter : List (Instr Fld Nat) := [.acc (.read .numLeaves)]
def wbody : List (Instr Fld Nat) := [.acc (.write .numLeaves (fun _ => 1)), .release .w]
def writerOnly : List (Instr Fld Nat) := .acquire .w :: wbody

example : wfProg mu .none unlockedGetter = false := by decide

def r0 : State Fld Nat := State.initial (fun _ => 0) [unlockedGetter, writerOnly]
def r1 : State Fld Nat :=
  { r0 with lock := { wmutex := some 1 }, threads := [{ prog := unlockedGetter }, { prog := writerOnly, held := .pend }] }
def r2 : State Fld Nat :=
  { r0 with lock := { wmutex := some 1, writer := some 1 }, threads := [{ prog := unlockedGetter }, { prog := wbody, held := .w }] }

theorem r0_r1 : Step r0 1 r1 :=
  Step.wannounce (s := r0) (t := { prog := writerOnly }) (p := wbody) rfl rfl rfl rfl
theorem r1_r2 : Step r1 1 r2 :=
  Step.wenter (s := r1) (t := { prog := writerOnly, held := .pend }) (p := wbody) rfl rfl rfl rfl

theorem unlocked_getter_races : ∃ s, Reachable r0 s ∧ ¬ RaceFree s := by
  refine ⟨r2, Reachable.step (Reachable.step Reachable.refl r0_r1) r1_r2, ?_⟩
  intro hrf
  exact hrf 0 1 { prog := unlockedGetter } { prog := wbody, held := .w } (.read .numLeaves)
    (.write .numLeaves (fun _ => 1)) [] [.release .w] (by decide) rfl rfl rfl rfl rfl

/-- NECESSITY 2: a locking method reached while the lock is held (re-entrancy) is rejected
by `wfProg`, and the thread is stuck for ever in the model (self-deadlock). -/
def reentrant : List (Instr Fld Nat) := [.acquire .r, .acquire .r, .release .r, .release .r]

example : wfProg mu .none reentrant = false := by decide

def d0 : State Fld Nat := State.initial (fun _ => 0) [reentrant]
def d1 : State Fld Nat :=
  { d0 with lock := { readers := 1 }, threads := [{ prog := [.acquire .r, .release .r, .release .r], held := .r }] }

theorem d0_d1 : Step d0 0 d1 :=
  Step.rlock (s := d0) (t := { prog := reentrant }) (p := [.acquire .r, .release .r, .release .r]) rfl rfl rfl rfl

theorem reentrancy_deadlocks : ∃ s, Reachable d0 s ∧ ¬ DeadlockFree s := by
  refine ⟨d1, Reachable.step Reachable.refl d0_d1, ?_⟩
  intro hd
  rcases hd with hall | ⟨i, s', st⟩
  · have := hall _ (List.mem_cons_self)
    cases this
  · -- thread 0 holds the read lock and its next instruction is an acquire: no rule applies
    have hget : ∀ (t : Thread Fld Nat), d1.threads[i]? = some t →
        t.prog = [.acquire .r, .release .r, .release .r] ∧ t.held = .r := by
      intro t ht
      cases i with
      | zero => simp [d1] at ht; subst ht; exact ⟨rfl, rfl⟩
      | succ n => simp [d1] at ht
    cases st with
    | acc ht hp => have := hget _ ht; rw [this.1] at hp; cases hp
    | rlock ht hp hh hw => have := hget _ ht; rw [this.2] at hh; cases hh
    | wannounce ht hp hh hw => have := hget _ ht; rw [this.2] at hh; cases hh
    | wenter ht hp hh hr => have := hget _ ht; rw [this.2] at hh; cases hh
    | runlock ht hp hh => have := hget _ ht; rw [this.1] at hp; cases hp
    | wunlock ht hp hh => have := hget _ ht; rw [this.2] at hh; cases hh

/-- NECESSITY 3 (no half-applied block): a writer that RELEASES the lock in the middle of a
block (two sections instead of one) is still well formed — atomicity is per SECTION — but the
state in between becomes a committed state that any reader may observe.  Keeping a block
inside ONE section is what the table check enforces (unlock deferred, `extraLockOps = 0`). -/
def half2 : List (Instr Fld Nat) := [.acquire .w, .acc (.write .numLeaves (fun _ => 2)), .release .w]
def splitWriter : List (Instr Fld Nat) :=
  .acquire .w :: .acc (.write .numLeaves (fun _ => 1)) :: .release .w :: half2

example : wfProg mu .none splitWriter = true := by decide

def w1 : Acc Fld Nat := .write .numLeaves (fun _ => 1)
def q0 : State Fld Nat := State.initial (fun _ => 0) [splitWriter]
def q1 : State Fld Nat :=
  { q0 with lock := { wmutex := some 0 }, threads := [{ prog := splitWriter, held := .pend }] }
def q2 : State Fld Nat :=
  { q0 with lock := { wmutex := some 0, writer := some 0 },
            threads := [{ prog := .acc w1 :: .release .w :: half2, held := .w }] }
def q3 : State Fld Nat :=
  { q0 with lock := { wmutex := some 0, writer := some 0 }, mem := (w1.run (q0.mem, [])).1,
            threads := [{ prog := .release .w :: half2, held := .w, done := [w1] }] }
def q4 : State Fld Nat :=
  { q0 with mem := (w1.run (q0.mem, [])).1, committed := (w1.run (q0.mem, [])).1, hist := [([w1], [])],
            threads := [{ prog := half2, held := .out, done := [w1] }] }

theorem q0_q1 : Step q0 0 q1 :=
  Step.wannounce (s := q0) (t := { prog := splitWriter }) (p := .acc w1 :: .release .w :: half2) rfl rfl rfl rfl
theorem q1_q2 : Step q1 0 q2 :=
  Step.wenter (s := q1) (t := { prog := splitWriter, held := .pend }) (p := .acc w1 :: .release .w :: half2) rfl rfl rfl rfl
theorem q2_q3 : Step q2 0 q3 :=
  Step.acc (s := q2) (t := { prog := .acc w1 :: .release .w :: half2, held := .w }) (a := w1) (p := .release .w :: half2) rfl rfl
theorem q3_q4 : Step q3 0 q4 :=
  Step.wunlock (s := q3) (t := { prog := .release .w :: half2, held := .w, done := [w1] }) (p := half2) rfl rfl rfl

/-- the half-applied block is a committed state, with the mutex completely free -/
theorem split_block_is_visible :
    ∃ s, Reachable q0 s ∧ s.committed .numLeaves = 1 ∧ s.lock.writer = none ∧ s.lock.wmutex = none ∧
      ∃ t, s.threads[0]? = some t ∧ t.prog = half2 :=
  ⟨q4, Reachable.step (Reachable.step (Reachable.step (Reachable.step Reachable.refl q0_q1) q1_q2) q2_q3) q3_q4,
    rfl, rfl, rfl, _, rfl, rfl⟩

end Examples

end UtreexoVerif.Props.C12
