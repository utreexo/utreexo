/-
  C03xc — the collision-extracting form (`Props/C03x.lean`) of the theorems of `Props/C03c.lean`:
  `MapPollard.verify` for EVERY `TotalRows`, `VerifyPartialProof`, and the state machine's
  `Verify` / `VerifyPartialProof` — without `CR H`, without `LeafOK F`.

  The hashed pairs are those of the run of `calculateHashes` that the entry point performs:
  on the TRANSLATED targets (`xlate`), and, for `VerifyPartialProof`, on the proof hashes merged
  from the caller's hashes and the stored ones (`partialAll`, the list `partialProofHashes` returns).
-/
import UtreexoVerif.Props.C03c
import UtreexoVerif.Props.C03x

namespace UtreexoVerif.Props.C03xc
open Model Hasher Spec
open UtreexoVerif.Props.C03b (TrueClaim)
open UtreexoVerif.Props.C03c UtreexoVerif.Props.C03x

section
variable {H : Type} [DecidableEq H] [Hasher H]

/-- the proof hashes `VerifyPartialProof` hands to `verify`: the caller's hashes merged with the
stored ones (empty when the merge fails) -/
def partialAll (n : U64) (totalRows : U8) (get : U64 → Option H) (ts : List U64) (ps : List H) :
    List H :=
  match partialProofHashes get (partialPositions n totalRows ts) ps with
  | .ok all => all
  | _ => []

/-- **`MapPollard.verify`, any `TotalRows`, collision-extracting form**: every accepted
`(target, hash)` is a true claim about the node at the translated target, or an explicit
collision exists among the pairs hashed on the translated targets -/
theorem mapVerify_sound_any_extract (F : Forest H) (hn : F.numLeaves ≤ 2 ^ 63) (totalRows : U8)
    {hs : List H} {ts : List U64} {ps : List H} {idx : List Nat}
    (hnz : ∀ h ∈ hs, h ≠ (zero : H))
    (h : mapVerify (BitVec.ofNat 64 F.numLeaves) totalRows F.roots hs ts ps = .ok idx) :
    (∀ x ∈ ts.zip hs, TrueClaim F (xlate (BitVec.ofNat 64 F.numLeaves) totalRows x.1, x.2)) ∨
    Collision F hs (ts.map (xlate (BitVec.ofNat 64 F.numLeaves) totalRows)) ps := by
  rw [mapVerify_eq] at h
  rcases verify_sound_extract F hn hnz h with ht | hc
  · left
    intro x hx
    apply ht
    rw [List.zip_map_left]
    exact List.mem_map.2 ⟨x, hx, rfl⟩
  · exact Or.inr hc

/-- for targets below the boundary `2^totalRows` (every position of the API's coordinates) the
claim is true as given -/
theorem mapVerify_sound_below_extract (F : Forest H) (hn : F.numLeaves ≤ 2 ^ 63) (totalRows : U8)
    {hs : List H} {ts : List U64} {ps : List H} {idx : List Nat}
    (hnz : ∀ h ∈ hs, h ≠ (zero : H))
    (h : mapVerify (BitVec.ofNat 64 F.numLeaves) totalRows F.roots hs ts ps = .ok idx) :
    (∀ x ∈ ts.zip hs, x.1.toNat < 2 ^ totalRows.toNat → TrueClaim F x) ∨
    Collision F hs (ts.map (xlate (BitVec.ofNat 64 F.numLeaves) totalRows)) ps := by
  exact (mapVerify_sound_any_extract F hn totalRows hnz h).imp_left trueClaim_below

/-- **`VerifyPartialProof` is sound, collision-extracting form, whatever the instance has
stored** (only the stored ROOTS are assumed to be the roots of `F`) -/
theorem mapVerifyPartialProof_sound_extract (F : Forest H) (hn : F.numLeaves ≤ 2 ^ 63)
    (totalRows : U8) (get : U64 → Option H)
    (hroots : mapGetRoots (BitVec.ofNat 64 F.numLeaves) totalRows get = F.roots)
    {ts : List U64} {hs ps : List H}
    (hnz : ∀ h ∈ hs, h ≠ (zero : H))
    (h : mapVerifyPartialProof (BitVec.ofNat 64 F.numLeaves) totalRows get ts hs ps = .ok ()) :
    (∀ x ∈ ts.zip hs, TrueClaim F (xlate (BitVec.ofNat 64 F.numLeaves) totalRows x.1, x.2)) ∨
    Collision F hs (ts.map (xlate (BitVec.ofNat 64 F.numLeaves) totalRows))
      (partialAll (BitVec.ofNat 64 F.numLeaves) totalRows get ts ps) := by
  rw [mapVerifyPartialProof_eq, Proofs.CalcSound.bind_eq_ok] at h
  obtain ⟨all, hall, h⟩ := h
  rw [Proofs.CalcSound.bind_eq_ok] at h
  obtain ⟨idx, h, _⟩ := h
  rw [hroots] at h
  have hpa : partialAll (BitVec.ofNat 64 F.numLeaves) totalRows get ts ps = all := by
    unfold partialAll; rw [hall]
  rw [hpa]
  exact mapVerify_sound_any_extract F hn totalRows hnz h

/-- the state machine's `Verify(delHashes, proof, remember)` -/
theorem verifyM_sound_extract {m : MapPollard H} {F : Forest H}
    (hn : F.numLeaves ≤ 2 ^ 63) (hnum : m.numLeaves = BitVec.ofNat 64 F.numLeaves)
    (hroots : m.roots = F.roots) {hs : List H} {ts : List U64} {ps : List H} {remember : Bool}
    (hnz : ∀ h ∈ hs, h ≠ (zero : H))
    (h : (MapPollard.verifyM hs ts ps remember m).2 = .ok ()) :
    (∀ x ∈ ts.zip hs, TrueClaim F (xlate m.numLeaves m.totalRows x.1, x.2)) ∨
    Collision F hs (ts.map (xlate m.numLeaves m.totalRows)) ps := by
  obtain ⟨idx, hidx⟩ := verifyM_ok h
  rw [show m.getRoots.1 = m.roots from rfl, hroots, hnum] at hidx
  rw [hnum]
  exact mapVerify_sound_any_extract F hn m.totalRows hnz hidx

/-- the state machine's `VerifyPartialProof(targets, hashes, proofHashes, remember)` -/
theorem verifyPartialProof_sound_extract {m : MapPollard H} {F : Forest H}
    (hn : F.numLeaves ≤ 2 ^ 63) (hnum : m.numLeaves = BitVec.ofNat 64 F.numLeaves)
    (hroots : m.roots = F.roots) {hs ps : List H} {ts : List U64} {remember : Bool}
    (hnz : ∀ h ∈ hs, h ≠ (zero : H))
    (h : (MapPollard.verifyPartialProof ts hs ps remember m).2 = .ok ()) :
    (∀ x ∈ ts.zip hs, TrueClaim F (xlate m.numLeaves m.totalRows x.1, x.2)) ∨
    Collision F hs (ts.map (xlate m.numLeaves m.totalRows))
      (partialAll m.numLeaves m.totalRows (storedHash m) ts ps) := by
  have h' := verifyPartialProof_ok h
  rw [hnum] at h' ⊢
  refine mapVerifyPartialProof_sound_extract F hn m.totalRows (storedHash m) ?_ hnz h'
  rw [← hnum, ← getRoots_eq]
  exact hroots

open UtreexoVerif.Proofs.MapInv in
/-- **`VerifyPartialProof` under the storage invariant**: for targets below the boundary
`2^TotalRows` every accepted claim is true as given, or an explicit collision exists -/
theorem verifyPartialProof_sound_inv_below_extract {m : MapPollard H} {F : Forest H}
    (inv : Inv m F) {hs ps : List H} {ts : List U64} {remember : Bool}
    (hnz : ∀ h ∈ hs, h ≠ (zero : H))
    (h : (MapPollard.verifyPartialProof ts hs ps remember m).2 = .ok ()) :
    (∀ x ∈ ts.zip hs, x.1.toNat < 2 ^ m.totalRows.toNat → TrueClaim F x) ∨
    Collision F hs (ts.map (xlate m.numLeaves m.totalRows))
      (partialAll m.numLeaves m.totalRows (storedHash m) ts ps) := by
  exact (verifyPartialProof_sound_extract (Nat.le_of_lt inv.n_lt) inv.n_eq (Props.C09.roots_eq inv)
    hnz h).imp_left trueClaim_below

open UtreexoVerif.Proofs.MapInv in
theorem verifyM_sound_inv_below_extract {m : MapPollard H} {F : Forest H}
    (inv : Inv m F) {hs ps : List H} {ts : List U64} {remember : Bool}
    (hnz : ∀ h ∈ hs, h ≠ (zero : H))
    (h : (MapPollard.verifyM hs ts ps remember m).2 = .ok ()) :
    (∀ x ∈ ts.zip hs, x.1.toNat < 2 ^ m.totalRows.toNat → TrueClaim F x) ∨
    Collision F hs (ts.map (xlate m.numLeaves m.totalRows)) ps := by
  exact (verifyM_sound_extract (Nat.le_of_lt inv.n_lt) inv.n_eq (Props.C09.roots_eq inv) hnz
    h).imp_left trueClaim_below

/-- under `CR` and `LeafOK` the statement of `C03c.mapVerifyPartialProof_sound` is a corollary -/
theorem mapVerifyPartialProof_sound_statement_of_extract :
    C03c.mapVerifyPartialProof_sound_statement H := by
  intro F cr hF hn totalRows get hroots ts hs ps hnz h
  exact (mapVerifyPartialProof_sound_extract F (Nat.le_of_lt hn) totalRows get hroots hnz h
    ).resolve_right (not_collision_of_CR cr hF _ _ _)

theorem mapVerify_sound_any_statement_of_extract : C03c.mapVerify_sound_any_statement H := by
  intro F cr hF hn totalRows hs ts ps idx hnz h
  exact (mapVerify_sound_any_extract F (Nat.le_of_lt hn) totalRows hnz h
    ).resolve_right (not_collision_of_CR cr hF _ _ _)

end

/-! ### non-vacuity on the finite toy hash

The two-leaf forest `FB` of `Props/C03x.lean` (`leaves 10, 50`, root `105`) held by a non-full
`MapPollard` with `TotalRows = 3` that stores only the root (position 8 = `(1,0)` in the 3-row geometry).
`VerifyPartialProof` accepts the forged claim "position 0 holds 11" with the supplied hash `19`. -/

namespace Example
open C03x.Example C03c.Finding

def st : MapPollard B8 :=
  { nodes := [(8#64, ⟨b 105, false⟩)], cached := [], numLeaves := 2#64, totalRows := 3#8,
    full := false }

example : st.roots = FB.roots := by decide +kernel

theorem partial_forged :
    (MapPollard.verifyPartialProof [0#64] [b 11] [b 19] false st).2 = .ok () :=
  eq_ok_of_isOkE (by decide +kernel)

example : partialAll st.numLeaves st.totalRows (storedHash st) [0#64] [b 19] = [b 19] := by
  decide +kernel

/-- the extracted collision for the forged partial proof -/
theorem partial_collision :
    Collision FB [b 11] ([0#64].map (xlate st.numLeaves st.totalRows))
      (partialAll st.numLeaves st.totalRows (storedHash st) [0#64] [b 19]) := by
  rcases verifyPartialProof_sound_extract (m := st) (F := FB) smallB rfl (by decide +kernel)
    (by decide) partial_forged with ht | hc
  · exact absurd (ht (0#64, b 11) (by decide)) (by
      rw [show xlate st.numLeaves st.totalRows 0#64 = 0#64 from by decide +kernel]
      exact falseB)
  · exact hc

/-- the honest partial proof is accepted and produces no collision -/
example : (MapPollard.verifyPartialProof [0#64] [b 10] [b 50] false st).2 = .ok () :=
  eq_ok_of_isOkE (by decide +kernel)

example : ¬ Collision FB [b 10] ([0#64].map (xlate st.numLeaves st.totalRows))
    (partialAll st.numLeaves st.totalRows (storedHash st) [0#64] [b 50]) := by decide +kernel

end Example

end UtreexoVerif.Props.C03xc

section Axioms
open UtreexoVerif.Props.C03xc
#print axioms mapVerify_sound_any_extract
#print axioms mapVerifyPartialProof_sound_extract
#print axioms verifyM_sound_extract
#print axioms verifyPartialProof_sound_extract
#print axioms verifyPartialProof_sound_inv_below_extract
#print axioms verifyM_sound_inv_below_extract
#print axioms mapVerifyPartialProof_sound_statement_of_extract
#print axioms Example.partial_collision
end Axioms
