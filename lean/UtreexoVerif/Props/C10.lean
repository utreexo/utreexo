/-
  C10 — position and hash look-ups tell the truth.

  Property text: "Looking up a hash returns its current position if and only if it is a live
  leaf the instance tracks, and reports not-found for deleted leaves, never-added hashes and
  hashes of internal nodes.  Reading a position returns the true hash of the node there when
  it exists and is stored, and the all-zero hash for positions that are outside the forest,
  vacated by a move, or not stored; the number of tracked live leaves always equals additions
  minus deletions."

  This file: the specification level (A) and the model of `Pollard`'s look-ups on A
  (`Model/PollardAbs.lean`; read its header for the correspondence with polnode.go /
  pollard.go, the aunt/niece inversion and what is out of scope: pruned instances — the "not
  stored" clause — and 12-byte `NodeMap` key collisions).

  A. hash look-up (`Forest.posOf` = `GetLeafPosition` abstractly)
     `posOf_eq_some_iff`, `posOf_eq_none_iff`, `posOf_nodeAt`, `posOf_internal_node`,
     `posOf_deleted`, `posOf_never_added`, `posOf_live`, `getLeafPosition_found_iff`,
     `getLeafPosition_eq`, `getLeafPosition_run`, `getHash_getLeafPosition`
  B. position look-up (`Forest.nodeAt` / `pollardGetHash` = `Pollard.GetHash`)
     `pollardGetHash_spec` (every `uint64`), `pollardGetHashNiece_spec`, `getNode_niece_eq_child`,
     `getHash_node`, `getHash_rootPos`, `getHash_not_a_position`, `getHash_outside`, `getHash_vacated`,
     `nodeAt_outside`, `nodeAt_none_iff` (which positions are empty, exactly),
     `nodeAt_below_leaf_none`
  C. count: `trackedCount_run`, `trackedCount_run_gen`, `trackedCount_eq_numLeaves_sub_dels`
  D. `calculatePosition` (the second half of `GetLeafPosition`): `calculatePosition_node`,
     `getLeafPosition_calculatePosition`, `roots_distinct` (under `CR H`), and
     `getLeafPosition_calculatePosition_nd`, `roots_distinct_nd` (under `NZ H` and the finite,
     decidable `NodesDistinct F` of `Proofs/NodesUnique.lean` — `CR H` is impossible for a finite
     hash type; the Go code tells trees apart by their root hashes, so some such hypothesis is needed)
-/
import UtreexoVerif.Proofs.PollardLookup
import UtreexoVerif.Proofs.PollardCalcPos

namespace UtreexoVerif.Props.C10
open UtreexoVerif.Proofs Spec Spec.Forest Hasher
open UtreexoVerif.Proofs.SpecNodes UtreexoVerif.Proofs.SpecView UtreexoVerif.Proofs.PollardLookup
open UtreexoVerif.Model.PollardAbs

section
variable {H : Type} [DecidableEq H] [Hasher H]

/-- **A hash look-up returns a position iff the hash is a live leaf, and then it is the
position of that leaf** (the leaf node carrying `h` sits at `p` in the collapsed forest).
Hypotheses: fewer than `2^64` slots, live leaves pairwise distinct. -/
theorem posOf_eq_some_iff (F : Forest H) (hn : F.numLeaves < 2 ^ 64) (hnd : F.liveLeaves.Nodup)
    (h : H) (p : Pos) :
    F.posOf h = some p ↔ h ∈ F.liveLeaves ∧ (p, h, true) ∈ F.nodes := by
  rw [PollardLookup.posOf_eq_some_iff F hn hnd]
  exact ⟨fun hp => ⟨(mem_liveLeaves_iff_leaf_node F hn h).2 ⟨p, hp⟩, hp⟩, fun hp => hp.2⟩

/-- not-found exactly for hashes that are not live leaves (no distinctness needed) -/
theorem posOf_eq_none_iff (F : Forest H) (hn : F.numLeaves < 2 ^ 64) (h : H) :
    F.posOf h = none ↔ h ∉ F.liveLeaves :=
  PollardLookup.posOf_eq_none_iff F hn h

/-- the position returned is current: reading it back gives the hash (no hypotheses) -/
theorem posOf_nodeAt (F : Forest H) {h : H} {p : Pos} (hp : F.posOf h = some p) :
    F.nodeAt p = some h :=
  Spec.posOf_nodeAt hp

/-- every live leaf has exactly one position -/
theorem posOf_live_unique (F : Forest H) (hn : F.numLeaves < 2 ^ 64) (hnd : F.liveLeaves.Nodup)
    {h : H} (hl : h ∈ F.liveLeaves) : ∃ p, F.posOf h = some p ∧ ∀ q, (q, h, true) ∈ F.nodes → q = p := by
  obtain ⟨p, hp⟩ := (mem_liveLeaves_iff_leaf_node F hn h).1 hl
  exact ⟨p, (PollardLookup.posOf_eq_some_iff F hn hnd h p).2 hp,
    fun q hq => leaf_pos_unique hnd hq hp⟩

/-- **hashes of internal nodes (and of empty roots) are reported not-found**, provided no
live leaf carries the all-zero hash or a parent hash (the `LeafOK`-style hypothesis: without
it a hash could be a leaf and an internal node at once and "internal hashes are not found"
would contradict "live leaves are found"). -/
theorem posOf_internal_node (F : Forest H) (hn : F.numLeaves < 2 ^ 64)
    (hleaf : ∀ x ∈ F.liveLeaves, x ≠ (zero : H) ∧ ∀ a b : H, x ≠ ph a b)
    {p : Pos} {h : H} (hx : (p, h, false) ∈ F.nodes) : F.posOf h = none := by
  rw [posOf_eq_none_iff F hn]
  intro hl
  rcases internal_node_hash hx with hz | ⟨a, b, hab⟩
  · exact (hleaf h hl).1 hz
  · exact (hleaf h hl).2 a b hab

/-- the hypothesis of `posOf_internal_node` is necessary: if the node at a non-leaf position
carries the hash of a live leaf, the look-up finds that hash -/
theorem posOf_internal_node_needs_hyp (F : Forest H) (hn : F.numLeaves < 2 ^ 64)
    {h : H} (hl : h ∈ F.liveLeaves) : F.posOf h ≠ none :=
  fun hc => (posOf_eq_none_iff F hn h).1 hc hl

/-- the live leaves after a valid history are the additions never deleted, in order -/
theorem liveLeaves_run (hist : List (Block H)) (hnd : (allAdds hist).Nodup)
    (hlive : LiveDels Forest.empty hist) :
    (run Forest.empty hist).liveLeaves =
      (allAdds hist).filter (fun x => decide (x ∉ allDels hist)) :=
  PollardLookup.liveLeaves_run hist hnd hlive

theorem numLeaves_run_empty (hist : List (Block H)) :
    (run (Forest.empty : Forest H) hist).numLeaves = (allAdds hist).length := by
  have := Proofs.LiveLeaves.numLeaves_run (Forest.empty : Forest H) hist
  simpa [Forest.empty, Forest.numLeaves] using this

/-- a deleted leaf is not found -/
theorem posOf_deleted (hist : List (Block H)) (hnd : (allAdds hist).Nodup)
    (hlive : LiveDels Forest.empty hist) (hlen : (allAdds hist).length < 2 ^ 64)
    {h : H} (hd : h ∈ allDels hist) : (run Forest.empty hist).posOf h = none := by
  rw [posOf_eq_none_iff _ (by rw [numLeaves_run_empty]; exact hlen), liveLeaves_run hist hnd hlive]
  simp [hd]

/-- a hash that was never added is not found -/
theorem posOf_never_added (hist : List (Block H)) (hnd : (allAdds hist).Nodup)
    (hlive : LiveDels Forest.empty hist) (hlen : (allAdds hist).length < 2 ^ 64)
    {h : H} (ha : h ∉ allAdds hist) : (run Forest.empty hist).posOf h = none := by
  rw [posOf_eq_none_iff _ (by rw [numLeaves_run_empty]; exact hlen), liveLeaves_run hist hnd hlive]
  simp [ha]

/-- a leaf added and not deleted is found, at the position where its node is -/
theorem posOf_live (hist : List (Block H)) (hnd : (allAdds hist).Nodup)
    (hlive : LiveDels Forest.empty hist) (hlen : (allAdds hist).length < 2 ^ 64)
    {h : H} (ha : h ∈ allAdds hist) (hd : h ∉ allDels hist) :
    ∃ p, (run Forest.empty hist).posOf h = some p ∧ (p, h, true) ∈ (run Forest.empty hist).nodes ∧
      (run Forest.empty hist).nodeAt p = some h := by
  have hn : (run Forest.empty hist).numLeaves < 2 ^ 64 := by rw [numLeaves_run_empty]; exact hlen
  have hl : h ∈ (run Forest.empty hist).liveLeaves := by
    rw [liveLeaves_run hist hnd hlive]; simp [ha, hd]
  obtain ⟨p, hp⟩ := (mem_liveLeaves_iff_leaf_node _ hn h).1 hl
  have hndl : (run Forest.empty hist).liveLeaves.Nodup := by
    rw [liveLeaves_run hist hnd hlive]
    exact List.Nodup.sublist List.filter_sublist hnd
  exact ⟨p, (PollardLookup.posOf_eq_some_iff _ hn hndl h p).2 hp, hp,
    nodeAt_of_mem (x := (p, h, true)) hp⟩

/-- the look-up after a valid history, all cases in one statement -/
theorem posOf_run_isSome_iff (hist : List (Block H)) (hnd : (allAdds hist).Nodup)
    (hlive : LiveDels Forest.empty hist) (hlen : (allAdds hist).length < 2 ^ 64) (h : H) :
    ((run Forest.empty hist).posOf h).isSome ↔ h ∈ allAdds hist ∧ h ∉ allDels hist := by
  constructor
  · intro hs
    by_cases ha : h ∈ allAdds hist
    · by_cases hd : h ∈ allDels hist
      · rw [posOf_deleted hist hnd hlive hlen hd] at hs; cases hs
      · exact ⟨ha, hd⟩
    · rw [posOf_never_added hist hnd hlive hlen ha] at hs; cases hs
  · rintro ⟨ha, hd⟩
    obtain ⟨p, hp, _⟩ := posOf_live hist hnd hlive hlen ha hd
    rw [hp]; rfl

/-- `GetLeafPosition` reports found iff the hash is a tracked live leaf -/
theorem getLeafPosition_found_iff (F : Forest H) (hn : F.numLeaves < 2 ^ 64) (h : H) :
    (pollardGetLeafPosition F h).2 = true ↔ h ∈ F.liveLeaves := by
  unfold pollardGetLeafPosition
  cases hp : F.posOf h with
  | none => simpa using (posOf_eq_none_iff F hn h).1 hp
  | some p =>
    simp only [true_iff]
    exact Classical.byContradiction fun hc => by
      rw [(posOf_eq_none_iff F hn h).2 hc] at hp; cases hp

/-- … and then returns the (encoded) position of that leaf; otherwise `(0, false)` -/
theorem getLeafPosition_eq (F : Forest H) (hn : F.numLeaves < 2 ^ 64) (hnd : F.liveLeaves.Nodup)
    (h : H) (pos : U64) :
    pollardGetLeafPosition F h = (pos, true) ↔
      h ∈ F.liveLeaves ∧ ∃ p, (p, h, true) ∈ F.nodes ∧ pos = BitVec.ofNat 64 (enc F.rows p) := by
  unfold pollardGetLeafPosition
  cases hp : F.posOf h with
  | none =>
    simp only [Prod.mk.injEq, Bool.false_eq_true, and_false, false_iff]
    rintro ⟨hl, _⟩
    exact (posOf_eq_none_iff F hn h).1 hp hl
  | some p =>
    obtain ⟨hl, hm⟩ := (posOf_eq_some_iff F hn hnd h p).1 hp
    simp only [Prod.mk.injEq, and_true]
    constructor
    · intro e; exact ⟨hl, p, hm, e.symm⟩
    · rintro ⟨_, q, hq, e⟩
      rw [e, leaf_pos_unique hnd hq hm]

theorem getLeafPosition_not_found (F : Forest H) (hn : F.numLeaves < 2 ^ 64) (h : H) :
    pollardGetLeafPosition F h = (0#64, false) ↔ h ∉ F.liveLeaves := by
  rw [← posOf_eq_none_iff F hn]
  unfold pollardGetLeafPosition
  cases F.posOf h <;> simp

/-- **the look-up clause along a history**: after any valid history, `GetLeafPosition` finds a
hash iff it was added and not deleted (deleted leaves, never-added hashes: not found) -/
theorem getLeafPosition_run (hist : List (Block H)) (hnd : (allAdds hist).Nodup)
    (hlive : LiveDels Forest.empty hist) (hlen : (allAdds hist).length < 2 ^ 64) (h : H) :
    (pollardGetLeafPosition (run Forest.empty hist) h).2 = true ↔
      h ∈ allAdds hist ∧ h ∉ allDels hist := by
  rw [getLeafPosition_found_iff _ (by rw [numLeaves_run_empty]; exact hlen),
    liveLeaves_run hist hnd hlive]
  simp

/-- **`Pollard.GetHash` tells the truth for every `uint64`**: the model of `getNode`/`getHash`
(guards `pos >= maxPosition`, `inForest`; `DetectOffset`; the descent along the returned bits)
returns the hash of the node at the decoded position when there is one, and the all-zero
hash otherwise — inside or outside the forest, for every forest below `2^63` leaves. -/
theorem pollardGetHash_spec (F : Forest H) (hn : F.numLeaves < 2 ^ 63) (pos : U64) :
    pollardGetHash F pos = ((dec F.rows pos.toNat).bind F.nodeAt).getD zero := by
  unfold pollardGetHash
  rw [getNodeHash_spec false F hn pos]

/-- the same for the loop transcribed literally (nodes point to their nieces) -/
theorem pollardGetHashNiece_spec (F : Forest H) (hn : F.numLeaves < 2 ^ 63) (pos : U64) :
    pollardGetHashNiece F pos = ((dec F.rows pos.toNat).bind F.nodeAt).getD zero := by
  unfold pollardGetHashNiece
  rw [getNodeHash_spec true F hn pos]

/-- even before the final `getD zero`: node found / not found agrees with the specification -/
theorem getNodeHash_spec (useNiece : Bool) (F : Forest H) (hn : F.numLeaves < 2 ^ 63) (pos : U64) :
    getNodeHash useNiece F pos = (dec F.rows pos.toNat).bind F.nodeAt :=
  PollardLookup.getNodeHash_spec useNiece F hn pos

/-- the aunt/niece inversion: the literal niece walk and the child walk with the un-inverted
path agree on every tree, step count and bit field (no hypotheses at all) -/
theorem getNode_niece_eq_child (t : CTree H) (k : Nat) (bits : U64) :
    nieceWalk t t k bits = descend t k bits :=
  nieceWalk_eq_descend t k bits

/-- hence the two models of `GetHash` are the same function (no bound on the forest needed) -/
theorem pollardGetHashNiece_eq (F : Forest H) (pos : U64) :
    pollardGetHashNiece F pos = pollardGetHash F pos := by
  unfold pollardGetHashNiece pollardGetHash getNodeHash
  simp only [nieceWalk_eq_descend, ite_self]

/-- reading the position of a node returns that node's hash -/
theorem getHash_node (F : Forest H) (hn : F.numLeaves < 2 ^ 63) {p : Pos} {h : H} {lf : Bool}
    (hx : (p, h, lf) ∈ F.nodes) : pollardGetHash F (BitVec.ofNat 64 (enc F.rows p)) = h := by
  obtain ⟨v1, v2⟩ := node_pos_valid hx
  have htr : F.rows ≤ 63 := forestRows_le_63 hn
  have e : BitVec.ofNat 64 (enc F.rows p) = encU F.rows p.1 p.2 := rfl
  rw [pollardGetHash_spec F hn, e, toNat_encU htr v1 v2, dec_enc _ _ _ v1 v2, Option.bind_some,
    nodeAt_of_mem hx]
  rfl

/-- reading a root position returns that tree's root (the all-zero hash for an empty tree) -/
theorem getHash_rootPos (F : Forest H) (hn : F.numLeaves < 2 ^ 63) {R : Nat}
    (hR : R ∈ treeRows F.numLeaves) :
    pollardGetHash F (BitVec.ofNat 64 (enc F.rows (rootPos F.numLeaves R))) = treeRoot F R := by
  obtain ⟨b, hb⟩ := rootNode_mem F R
  exact getHash_node F hn (mem_nodes.2 ⟨R, ⟨(Spec.mem_treeRows.1 hR).2, hR⟩, hb⟩)

/-- a `uint64` that encodes no position of the forest's geometry reads as the all-zero hash -/
theorem getHash_not_a_position (F : Forest H) (hn : F.numLeaves < 2 ^ 63) {pos : U64}
    (hp : 2 ^ (F.rows + 1) - 1 ≤ pos.toNat) : pollardGetHash F pos = zero := by
  rw [pollardGetHash_spec F hn]
  cases hd : dec F.rows pos.toNat with
  | none => rfl
  | some q =>
    obtain ⟨a, b, c⟩ := dec_some _ _ q.1 q.2 hd
    have := enc_lt_aux a b
    omega

/-- positions outside the forest carry no node … -/
theorem nodeAt_outside (F : Forest H) {r o : Nat} (h : F.numLeaves < (o + 1) * 2 ^ r) :
    F.nodeAt (r, o) = none :=
  PollardLookup.nodeAt_outside F h

/-- … and read as the all-zero hash -/
theorem getHash_outside (F : Forest H) (hn : F.numLeaves < 2 ^ 63) {r o : Nat} (hr : r ≤ F.rows)
    (ho : o < 2 ^ (F.rows - r)) (h : F.numLeaves < (o + 1) * 2 ^ r) :
    pollardGetHash F (encU F.rows r o) = zero := by
  have htr : F.rows ≤ 63 := forestRows_le_63 hn
  rw [pollardGetHash_spec F hn, toNat_encU htr hr ho, dec_enc _ _ _ hr ho, Option.bind_some,
    nodeAt_outside F h]
  rfl

/-- **Which positions are empty**: exactly those outside the forest, those strictly below a
leaf node (vacated by a move: when a leaf's sibling dies the leaf — or the sub-tree holding it
— moves up and the old positions stay empty) and those strictly below the root of a tree
without survivors. -/
theorem nodeAt_none_iff (F : Forest H) (hn : F.numLeaves < 2 ^ 64) (r o : Nat) :
    F.nodeAt (r, o) = none ↔
      F.numLeaves < (o + 1) * 2 ^ r ∨
      (∃ r' h, r < r' ∧ ((r', o / 2 ^ (r' - r)), h, true) ∈ F.nodes) ∨
      (∃ R, R ∈ treeRows F.numLeaves ∧ treeOf F R = none ∧ r < R ∧
        o / 2 ^ (R - r) = (rootPos F.numLeaves R).2) :=
  nodeAt_eq_none_iff_vacated F hn r o

theorem nodeAt_none_of_no_node (F : Forest H) {p : Pos} (h : ∀ x ∈ F.nodes, x.1 ≠ p) :
    F.nodeAt p = none :=
  nodeAt_eq_none h

/-- a position strictly below a leaf node is vacated -/
theorem nodeAt_below_leaf_none (F : Forest H) (hn : F.numLeaves < 2 ^ 64) {r r' o : Nat} {h : H}
    (hr : r < r') (hx : ((r', o / 2 ^ (r' - r)), h, true) ∈ F.nodes) : F.nodeAt (r, o) = none :=
  (nodeAt_none_iff F hn r o).2 (Or.inr (Or.inl ⟨r', h, hr, hx⟩))

/-- every empty position reads as the all-zero hash -/
theorem getHash_vacated (F : Forest H) (hn : F.numLeaves < 2 ^ 63) {r o : Nat} (hr : r ≤ F.rows)
    (ho : o < 2 ^ (F.rows - r)) (h : F.nodeAt (r, o) = none) :
    pollardGetHash F (encU F.rows r o) = zero := by
  have htr : F.rows ≤ 63 := forestRows_le_63 hn
  rw [pollardGetHash_spec F hn, toNat_encU htr hr ho, dec_enc _ _ _ hr ho, Option.bind_some, h]
  rfl

/-- the two look-ups are inverse on live leaves: reading the position `GetLeafPosition`
returns gives the leaf hash back -/
theorem getHash_getLeafPosition (F : Forest H) (hn : F.numLeaves < 2 ^ 63) {h : H}
    (hl : h ∈ F.liveLeaves) : pollardGetHash F (pollardGetLeafPosition F h).1 = h := by
  have hn64 : F.numLeaves < 2 ^ 64 := by omega
  unfold pollardGetLeafPosition
  cases hp : F.posOf h with
  | none => exact absurd hl ((posOf_eq_none_iff F hn64 h).1 hp)
  | some p => exact getHash_node F hn (posOf_some_mem hp)

/-- **tracked live leaves = additions − deletions**, for every history from the empty
accumulator whose additions are pairwise distinct and whose blocks delete currently live
leaves, each at most once per block.  (Go: `len(NodeMap) = NumLeaves - NumDels`.) -/
theorem trackedCount_run (hist : List (Block H)) (hnd : (allAdds hist).Nodup)
    (hlive : LiveDels Forest.empty hist) (hdn : ∀ b ∈ hist, b.1.Nodup) :
    trackedCount (run Forest.empty hist) = (allAdds hist).length - (allDels hist).length ∧
      (allDels hist).length ≤ (allAdds hist).length := by
  have := trackedCount_run_gen hist Forest.empty
    (by simpa [Forest.empty, Forest.liveLeaves] using hnd) hlive hdn
  have h0 : trackedCount (Forest.empty : Forest H) = 0 := rfl
  omega

/-- from any forest with distinct live leaves, when the leaves added are new -/
theorem trackedCount_run_gen (hist : List (Block H)) (F : Forest H)
    (hnd : (F.liveLeaves ++ allAdds hist).Nodup) (hlive : LiveDels F hist)
    (hdn : ∀ b ∈ hist, b.1.Nodup) :
    trackedCount (run F hist) + (allDels hist).length = trackedCount F + (allAdds hist).length :=
  PollardLookup.trackedCount_run_gen hist F hnd hlive hdn

/-- in `Pollard`'s own terms: `len(NodeMap) = NumLeaves - NumDels` -/
theorem trackedCount_eq_numLeaves_sub_dels (hist : List (Block H)) (hnd : (allAdds hist).Nodup)
    (hlive : LiveDels Forest.empty hist) (hdn : ∀ b ∈ hist, b.1.Nodup) :
    trackedCount (run Forest.empty hist) =
      (run Forest.empty hist).numLeaves - (allDels hist).length := by
  rw [numLeaves_run_empty]
  exact (trackedCount_run hist hnd hlive hdn).1

/-- **`calculatePosition` returns the position of the node it is called on**: for every node
`((r, o), h, lf)` of the forest, lying in the tree on row `R`, the model of the Go function
(climb along the aunt pointers recording `leftRightIndicator`, search of the root row by root
hash, descent with `sibling(LeftChild/RightChild)`) run on what the climb from that node
observes returns the `uint64` position of `(r, o)` — provided no lower tree has the same root
hash as this tree (the Go code tells trees apart by their root hashes). -/
theorem calculatePosition_node (F : Forest H) (hn : F.numLeaves < 2 ^ 63) {r o : Nat} {h : H}
    {lf : Bool} (hx : ((r, o), h, lf) ∈ F.nodes) :
    ∃ R, R ∈ treeRows F.numLeaves ∧ r ≤ R ∧ ((r, o), h, lf) ∈ treeNodes F R ∧
      ((∀ R', R' < R → F.numLeaves.testBit R' = true → treeRoot F R' ≠ treeRoot F R) →
        calculatePosition F (nieceFlags (pathBits (R - r) o)) (treeRoot F R) = encU F.rows r o) := by
  obtain ⟨R, ⟨hb, hRmem⟩, hx'⟩ := mem_nodes.1 hx
  obtain ⟨u1, u2⟩ := treeNodes_under F R _ hx'
  exact ⟨R, hRmem, u1, hx', fun hmin => PollardCalcPos.calculatePosition_enc F hn hb u1 u2 hmin⟩

/-- distinct roots: under collision-freeness and pairwise distinct live leaves none of which is
a parent hash, a non-empty tree's root hash differs from every other tree's -/
theorem roots_distinct (cr : CR H) (F : Forest H) (hn : F.numLeaves < 2 ^ 64)
    (hnd : F.liveLeaves.Nodup) (hleaf : ∀ x ∈ F.liveLeaves, ∀ a b : H, x ≠ ph a b)
    {R R' : Nat} (hb : F.numLeaves.testBit R = true) (hb' : F.numLeaves.testBit R' = true)
    (hne : R' ≠ R) (hz : treeRoot F R ≠ zero) : treeRoot F R' ≠ treeRoot F R :=
  PollardCalcPos.roots_distinct cr F hn hnd hleaf hb hb' hne hz

/-- **`GetLeafPosition` = `NodeMap` look-up + `calculatePosition`** agrees with the abstract
look-up: for a live leaf `h` (collision-free hash, distinct live leaves that are neither zero
nor parent hashes) there is a tree `t` and a child path in it ending at the leaf node `h`, and
`calculatePosition` on what the climb from that node observes returns the position reported
by `pollardGetLeafPosition` (= `posOf`, encoded). -/
theorem getLeafPosition_calculatePosition (cr : CR H) (F : Forest H) (hn : F.numLeaves < 2 ^ 63)
    (hnd : F.liveLeaves.Nodup)
    (hleaf : ∀ x ∈ F.liveLeaves, x ≠ (zero : H) ∧ ∀ a b : H, x ≠ ph a b)
    {h : H} (hl : h ∈ F.liveLeaves) :
    ∃ R t path, R ∈ treeRows F.numLeaves ∧ treeOf F R = some t ∧
      childPath t path = some (.leaf h) ∧
      calculatePosition F (nieceFlags path) t.hash = (pollardGetLeafPosition F h).1 ∧
      (pollardGetLeafPosition F h).2 = true :=
  PollardCalcPos.getLeafPosition_calculatePosition cr F hn hnd hleaf hl

/-- **distinct roots from a finite hypothesis**: if no non-zero hash sits at two places of `F`
(`Spec.NodesDistinct F` — decidable, about this forest only, no assumption on the hash function)
a non-empty tree's root hash differs from every other tree's -/
theorem roots_distinct_nd (F : Forest H) (hn : F.numLeaves < 2 ^ 64) (hd : NodesDistinct F)
    {R R' : Nat} (hb : F.numLeaves.testBit R = true) (hb' : F.numLeaves.testBit R' = true)
    (hne : R' ≠ R) (hz : treeRoot F R ≠ zero) : treeRoot F R' ≠ treeRoot F R :=
  PollardCalcPos.roots_distinct_nd F hn hd hb hb' hne hz

/-- **`GetLeafPosition` = `NodeMap` look-up + `calculatePosition`, for hashes that are not
collision-free**: the same conclusion from `NZ H` (parent hashes are never zero), non-zero
pairwise distinct live leaves and `NodesDistinct F`.  Satisfiable over finite hash types
(`Props/NZ.lean`). -/
theorem getLeafPosition_calculatePosition_nd (nz : NZ H) (F : Forest H) (hn : F.numLeaves < 2 ^ 63)
    (hnd : F.liveLeaves.Nodup) (hleaf : ∀ x ∈ F.liveLeaves, x ≠ (zero : H))
    (hd : NodesDistinct F) {h : H} (hl : h ∈ F.liveLeaves) :
    ∃ R t path, R ∈ treeRows F.numLeaves ∧ treeOf F R = some t ∧
      childPath t path = some (.leaf h) ∧
      calculatePosition F (nieceFlags path) t.hash = (pollardGetLeafPosition F h).1 ∧
      (pollardGetLeafPosition F h).2 = true :=
  PollardCalcPos.getLeafPosition_calculatePosition_nd nz F hn hleaf hd hl

end

namespace Example

/-- free term algebra hash (collision-free by construction) -/
inductive T where
  | z
  | leaf (n : Nat)
  | node (l r : T)
deriving DecidableEq, Repr

instance : Hasher T := ⟨T.node, T.z⟩

/-- block 1 adds leaves 1…5; block 2 deletes leaf 2 and adds leaf 6 -/
def hist : List (Block T) :=
  [([], [.leaf 1, .leaf 2, .leaf 3, .leaf 4, .leaf 5]), ([.leaf 2], [.leaf 6])]

/-- the forest: 6 slots, slot 1 dead.  Trees on rows 2 and 1, `rows = 3`.  In the first tree
leaf 1 lost its sibling and moved up to `(1, 0)` = position 8; positions 0 and 1 are vacated.

    row 3:                          (14)
    row 2:        12 = ph(1, ph(3,4))              (13)
    row 1:   8 = leaf 1     9 = ph(3,4)      10 = ph(5,6)     (11)
    row 0:   (0)  (1)     2 = 3   3 = 4     4 = 5   5 = 6     (6) (7)                        -/
def exF : Forest T := run Forest.empty hist

theorem hist_nodup : (allAdds hist).Nodup := by decide
theorem hist_live : LiveDels Forest.empty hist := by decide
theorem hist_dels_nodup : ∀ b ∈ hist, b.1.Nodup := by decide
theorem exF_slots : exF.slots =
    [some (.leaf 1), none, some (.leaf 3), some (.leaf 4), some (.leaf 5), some (.leaf 6)] := by
  decide +kernel
theorem exF_num : exF.numLeaves < 2 ^ 63 := by decide +kernel
theorem exF_live : exF.liveLeaves = [.leaf 1, .leaf 3, .leaf 4, .leaf 5, .leaf 6] := by
  decide +kernel
theorem exF_nodup : exF.liveLeaves.Nodup := by rw [exF_live]; decide
theorem exF_leafOK : ∀ x ∈ exF.liveLeaves, x ≠ (zero : T) ∧ ∀ a b : T, x ≠ ph a b := by
  rw [exF_live]
  intro x hx
  simp only [List.mem_cons, List.not_mem_nil, or_false] at hx
  rcases hx with rfl | rfl | rfl | rfl | rfl <;>
    exact ⟨fun h => (by cases h), fun a b h => (by cases h)⟩

/-- the whole position space of the model of `Pollard.GetHash` on that forest, positions 0…16:
the moved-up leaf 1 is read at 8, the vacated positions 0, 1, the positions outside the forest
(6, 7, 11, 13, 14) and the non-positions (15, 16) read as the all-zero hash -/
example : (List.range 17).map (fun k => pollardGetHash exF (BitVec.ofNat 64 k)) =
    [.z, .z, .leaf 3, .leaf 4, .leaf 5, .leaf 6, .z, .z,
     .leaf 1, .node (.leaf 3) (.leaf 4), .node (.leaf 5) (.leaf 6), .z,
     .node (.leaf 1) (.node (.leaf 3) (.leaf 4)), .z, .z, .z, .z] := by decide +kernel

/-- the literal niece walk computes the same values -/
example : (List.range 17).map (fun k => pollardGetHashNiece exF (BitVec.ofNat 64 k)) =
    (List.range 17).map (fun k => pollardGetHash exF (BitVec.ofNat 64 k)) := by decide +kernel

/-- and so does the specification (this is `pollardGetHash_spec` evaluated) -/
example : (List.range 17).map (fun k => ((dec exF.rows k).bind exF.nodeAt).getD zero) =
    [.z, .z, .leaf 3, .leaf 4, .leaf 5, .leaf 6, .z, .z,
     .leaf 1, .node (.leaf 3) (.leaf 4), .node (.leaf 5) (.leaf 6), .z,
     .node (.leaf 1) (.node (.leaf 3) (.leaf 4)), .z, .z, .z, .z] := by decide +kernel

example : pollardGetHash exF (BitVec.ofNat 64 (2 ^ 64 - 1)) = T.z := by decide +kernel

/-- `pollardGetHash_spec` applies (and is used at the moved-up leaf's position 8) -/
example : pollardGetHash exF 8#64 = ((dec exF.rows (8#64 : U64).toNat).bind exF.nodeAt).getD zero :=
  pollardGetHash_spec exF exF_num 8#64

/-- hash look-ups: live leaves at their current positions (leaf 1 at (1,0), not at its
insertion slot (0,0)); deleted leaf 2, never-added leaf 7, the internal hashes and the
all-zero hash are not found -/
example : [T.leaf 1, .leaf 3, .leaf 4, .leaf 5, .leaf 6].map exF.posOf =
    [some (1, 0), some (0, 2), some (0, 3), some (0, 4), some (0, 5)] := by decide +kernel
example : [T.leaf 2, .leaf 7, .node (.leaf 3) (.leaf 4), .node (.leaf 5) (.leaf 6),
      .node (.leaf 1) (.node (.leaf 3) (.leaf 4)), .z].map exF.posOf =
    [none, none, none, none, none, none] := by decide +kernel
example : [T.leaf 1, .leaf 2, .leaf 6].map (pollardGetLeafPosition exF) =
    [(8#64, true), (0#64, false), (5#64, true)] := by decide +kernel

example : exF.posOf (.leaf 1) = some (1, 0) ↔
    T.leaf 1 ∈ exF.liveLeaves ∧ ((1, 0), T.leaf 1, true) ∈ exF.nodes :=
  posOf_eq_some_iff exF (by decide +kernel) exF_nodup _ _
example : exF.posOf (.leaf 2) = none :=
  posOf_deleted hist hist_nodup hist_live (by decide) (by decide)
example : exF.posOf (.leaf 7) = none :=
  posOf_never_added hist hist_nodup hist_live (by decide) (by decide)
example : exF.posOf (.node (.leaf 3) (.leaf 4)) = none :=
  posOf_internal_node exF (by decide +kernel) exF_leafOK (p := (1, 1)) (by decide +kernel)
example : ∃ p, exF.posOf (.leaf 1) = some p ∧ (p, T.leaf 1, true) ∈ exF.nodes ∧
    exF.nodeAt p = some (.leaf 1) :=
  posOf_live hist hist_nodup hist_live (by decide) (by decide) (by decide)
example : pollardGetHash exF (pollardGetLeafPosition exF (.leaf 1)).1 = .leaf 1 :=
  getHash_getLeafPosition exF exF_num (by rw [exF_live]; decide)

example : (pollardGetLeafPosition exF (.leaf 2)).2 = true ↔
    T.leaf 2 ∈ allAdds hist ∧ T.leaf 2 ∉ allDels hist :=
  getLeafPosition_run hist hist_nodup hist_live (by decide) _
example : pollardGetHash exF (BitVec.ofNat 64 (enc exF.rows (rootPos exF.numLeaves 2))) =
    treeRoot exF 2 :=
  getHash_rootPos exF exF_num (by decide +kernel)

/-- vacated positions: (0,0) and (0,1) lie strictly below the leaf node at (1,0) -/
example : exF.nodeAt (0, 1) = none :=
  nodeAt_below_leaf_none exF (by decide +kernel) (r' := 1) (h := .leaf 1) (by decide)
    (by decide +kernel)
/-- outside the forest: (1,3) = position 11 covers slots 6, 7 of a 6-slot forest -/
example : exF.nodeAt (1, 3) = none := nodeAt_outside exF (by decide +kernel)
example : pollardGetHash exF (encU exF.rows 1 3) = zero :=
  getHash_outside exF exF_num (by decide +kernel) (by decide +kernel) (by decide +kernel)

theorem cr : CR T :=
  ⟨fun _ _ _ _ h => by cases h; exact ⟨rfl, rfl⟩, fun _ _ h => by cases h⟩

/-- `calculatePosition`: leaf 4 is reached from the root of the first tree by right, right
(`path = [true, true]`); the climb observes `[false, true]` (leaf 4 is a right niece; then the
sibling of `ph(3,4)`, leaf 1, is a left niece of the root) and ends at the root `12`; the
function returns position 3.  Leaf 1 (moved up): path `[false]`, position 8. -/
example : calculatePosition exF (nieceFlags [true, true])
    (T.node (.leaf 1) (.node (.leaf 3) (.leaf 4))) = 3#64 := by decide +kernel
example : nieceFlags [true, true] = [false, true] := by decide
example : calculatePosition exF (nieceFlags [false])
    (T.node (.leaf 1) (.node (.leaf 3) (.leaf 4))) = 8#64 := by decide +kernel
example : calculatePosition exF (nieceFlags [true]) (T.node (.leaf 5) (.leaf 6)) = 5#64 := by
  decide +kernel
example : ∃ R t path, R ∈ treeRows exF.numLeaves ∧ treeOf exF R = some t ∧
    childPath t path = some (.leaf (.leaf 4)) ∧
    calculatePosition exF (nieceFlags path) t.hash = (pollardGetLeafPosition exF (.leaf 4)).1 ∧
    (pollardGetLeafPosition exF (.leaf 4)).2 = true :=
  getLeafPosition_calculatePosition cr exF exF_num exF_nodup exF_leafOK (by rw [exF_live]; decide)

/-- the count: 6 additions, 1 deletion, 5 tracked leaves -/
example : trackedCount exF = 6 - 1 ∧ 1 ≤ 6 :=
  trackedCount_run hist hist_nodup hist_live hist_dels_nodup
example : trackedCount exF = 5 := by decide +kernel

/-- the per-block `Nodup` hypothesis of `trackedCount_run` cannot be dropped: a block that
names a live leaf twice satisfies `LiveDels`, removes one leaf and lists two deletions -/
example : let h : List (Block T) := [([], [.leaf 1, .leaf 2]), ([.leaf 1, .leaf 1], [])]
    (allAdds h).Nodup ∧ LiveDels Forest.empty h ∧
    trackedCount (run Forest.empty h) ≠ (allAdds h).length - (allDels h).length := by
  exact ⟨by decide, by decide, by decide +kernel⟩

/-- a tree without survivors: delete 5 and 6 as well; the root position 10 of the second tree
reads as the all-zero hash (an empty root is a node with hash zero), its children 4, 5 are empty -/
def exG : Forest T := run Forest.empty (hist ++ [([.leaf 5, .leaf 6], [])])

example : [4, 5, 10, 8, 12].map (fun k => pollardGetHash exG (BitVec.ofNat 64 k)) =
    [.z, .z, .z, .leaf 1, .node (.leaf 1) (.node (.leaf 3) (.leaf 4))] := by decide +kernel
example : exG.nodeAt (1, 2) = some T.z ∧ exG.nodeAt (0, 4) = none := by decide +kernel
example : exG.nodeAt (0, 4) = none ↔
      exG.numLeaves < (4 + 1) * 2 ^ 0 ∨
      (∃ r' h, 0 < r' ∧ ((r', 4 / 2 ^ (r' - 0)), h, true) ∈ exG.nodes) ∨
      (∃ R, R ∈ treeRows exG.numLeaves ∧ treeOf exG R = none ∧ 0 < R ∧
        4 / 2 ^ (R - 0) = (rootPos exG.numLeaves R).2) :=
  nodeAt_none_iff exG (by decide +kernel) 0 4

end Example

end UtreexoVerif.Props.C10
