/-
  C14 (specification level) — `GetMissingPositions` is exact.

  `getMissingPositions_refines`: for held and desired target lists in ANY order (no target
  desired twice) whose sorted versions satisfy `PPHyp0` (nodes of the forest, strictly ascending; a
  target may be an ancestor of another), `GetMissingPositions` returns, ascending, exactly the
  encodings of `proofPositions (desired \ held)` minus
  `held ∪ proofPositions held ∪ computable held`.
-/
import UtreexoVerif.Props.C16c
import UtreexoVerif.Proofs.Labelled

namespace UtreexoVerif.Props.C14
open Model Spec Proofs Props.C16 Proofs.Labelled

section
variable {h : Nat}

theorem mem_map_encP_iff (hh : h ≤ 63) (l : List Pos) (hv : ∀ p ∈ l, ValidH h p) (p : Pos) (hp : ValidH h p) :
    encP h p ∈ l.map (encP h) ↔ p ∈ l := mem_map_enc_iff hh l hv p hp

end

section
variable {Hh : Type} (F : Forest Hh) {h : Nat}

theorem valid_targets {Tg : List Pos} (hn : F.numLeaves ≤ 2 ^ h) (hyp : PPHyp0 F.numLeaves Tg) :
    ∀ p ∈ Tg, ValidH h p := by
  intro p hp
  obtain ⟨R, hb⟩ := hyp.inForest p hp
  exact hb.valid hn

theorem valid_proofPositions {Tg : List Pos} (hn : F.numLeaves ≤ 2 ^ h) (hyp : PPHyp0 F.numLeaves Tg) :
    ∀ p ∈ F.proofPositions Tg, ValidH h p := by
  intro q hq
  obtain ⟨x, hx, hr, rfl, _⟩ := (mem_spec_proofPositions_of F hyp.inForest q).mp hq
  obtain ⟨R, hb⟩ := hx.belowRoot
  have hne : x.1 ≠ R := by
    intro e
    have := belowRoot_isRootPos hb
    rw [show (x.1, x.2) = x from rfl, hr] at this
    simp [e] at this
  exact (belowRoot_sib hb hne).valid (p := sib x) hn

theorem valid_computable {Tg : List Pos} (hn : F.numLeaves ≤ 2 ^ h) (hyp : PPHyp0 F.numLeaves Tg) :
    ∀ p ∈ F.computable Tg, ValidH h p := by
  intro q hq
  obtain ⟨x, hx, hr, rfl⟩ := (mem_spec_computable_of F hyp.inForest q).mp hq
  obtain ⟨R, hb⟩ := hx.belowRoot
  have hne : x.1 ≠ R := by
    intro e
    have := belowRoot_isRootPos hb
    rw [show (x.1, x.2) = x from rfl, hr] at this
    simp [e] at this
  exact (belowRoot_parent hb hne).valid (p := parent x) hn

theorem proofPositions_nil : F.proofPositions [] = [] := by
  simp [Forest.proofPositions, Forest.sortDedup]

/-- **`GetMissingPositions` is exact** (see the header). -/
theorem getMissingPositions_refines (n : U64) (hn : n.toNat = F.numLeaves) (hT : TreeRows n = H8 h)
    (hh : h ≤ 63) (held desired : List Pos) (hnd : desired.Nodup)
    (hvD : ∀ p ∈ desired, ValidH h p)
    (hA : PPHyp0 F.numLeaves (sortPos held))
    (hD : PPHyp0 F.numLeaves ((sortPos desired).filter (fun p => !(sortPos held).contains p))) :
    getMissingPositions n (held.map (encP h)) (desired.map (encP h)) =
      ((F.proofPositions ((sortPos desired).filter (fun p => !(sortPos held).contains p))).filter
        (fun p => !(sortPos held ++ F.proofPositions (sortPos held) ++ F.computable (sortPos held)).contains p)).map
        (encP h) := by
  have hle : F.numLeaves ≤ 2 ^ h := by rw [← hn]; exact le_of_treeRows n hT hh
  have hvA := valid_targets F hle hA
  have hvHeld : ∀ p ∈ held, ValidH h p := fun p hp => hvA p (mem_sortPos.mpr hp)
  have hvDs : ∀ p ∈ sortPos desired, ValidH h p := fun p hp => hvD p (mem_sortPos.mp hp)
  have e1 : sortU64 (held.map (encP h)) = (sortPos held).map (encP h) := sortU64_encP hh held hvHeld
  have e2 : sortU64 (desired.map (encP h)) = (sortPos desired).map (encP h) := sortU64_encP hh desired hvD
  have e3 : subtractU64 ((sortPos desired).map (encP h)) ((sortPos held).map (encP h)) =
      ((sortPos desired).filter (fun p => !(sortPos held).contains p)).map (encP h) :=
    subtract_map_encP hh _ _ (sortPos held) (sortPos_ssorted hnd) hvDs hvA
      (le_of_strict (strict_map_encP hh _ hA.sorted hvA)) (fun _ => Iff.rfl)
  unfold getMissingPositions
  simp only [hT, e1, e2, e3]
  cases hDe : (sortPos desired).filter (fun p => !(sortPos held).contains p) with
  | nil => simp [proofPositions_nil]
  | cons d ds =>
    rw [← hDe]
    have hne : (List.map (encP h) ((sortPos desired).filter (fun p => !(sortPos held).contains p))).isEmpty = false := by
      rw [hDe]; rfl
    simp only [hne, Bool.false_eq_true, if_false]
    rw [proofPositions_spec_all F n hn hT hh (Nat.le_refl h) _ hD, proofPositions_spec_all F n hn hT hh (Nat.le_refl h) _ hA]
    simp only
    have hvPD := valid_proofPositions F hle hD
    have hvPA := valid_proofPositions F hle hA
    have hvCA := valid_computable F hle hA
    apply subtract_map_encP hh _ _ (sortPos held ++ F.proofPositions (sortPos held) ++ F.computable (sortPos held))
      (sortDedup_ssorted _) hvPD
    · intro p hp
      simp only [List.mem_append] at hp
      rcases hp with (hp | hp) | hp
      · exact hvA p hp
      · exact hvPA p hp
      · exact hvCA p hp
    · exact SortBy.sorted_sortU64 _
    · intro x
      rw [SortBy.mem_sortU64]
      simp only [List.mem_append, List.map_append]
      constructor
      · rintro ((hx | hx) | hx)
        · exact Or.inl (Or.inr hx)
        · exact Or.inl (Or.inl hx)
        · exact Or.inr hx
      · rintro ((hx | hx) | hx)
        · exact Or.inl (Or.inr hx)
        · exact Or.inl (Or.inl hx)
        · exact Or.inr hx

end

section examples

def F4u : Forest Unit := ⟨[some (), some (), some (), some ()]⟩

theorem F4u_hyp (p : Pos) (hp : p = (0, 0) ∨ p = (0, 2)) : PPHyp F4u.numLeaves [p] where
  inForest := by
    intro t ht
    simp only [List.mem_cons, List.not_mem_nil, or_false] at ht
    subst ht
    rcases hp with rfl | rfl
    · exact ⟨2, by decide, by decide, by decide⟩
    · exact ⟨2, by decide, by decide, by decide⟩
  sorted := by simp [SSorted]
  anti := by
    intro a ha b hb _
    simp only [List.mem_cons, List.not_mem_nil, or_false] at ha hb
    rw [ha, hb]

/-- held = leaf 0, desired = leaf 2 and leaf 0 (in that order): only position 3 is missing -/
example : getMissingPositions 4#64 ([(0, 0)].map (encP 2)) ([(0, 2), (0, 0)].map (encP 2)) = [3#64] := by
  rw [getMissingPositions_refines F4u (h := 2) 4#64 (by decide) (by decide) (by decide) [(0, 0)] [(0, 2), (0, 0)]
    (by decide)
    (by intro p hp
        simp only [List.mem_cons, List.not_mem_nil, or_false] at hp
        rcases hp with rfl | rfl <;> exact ⟨by decide, by decide⟩)
    (F4u_hyp _ (Or.inl rfl)).toHyp0 (F4u_hyp _ (Or.inr rfl)).toHyp0]
  decide +kernel

end examples

end UtreexoVerif.Props.C14
