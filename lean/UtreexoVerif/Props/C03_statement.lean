/-
  C03 — verification is sound.  Full statements (at full strength); proofs in Props/C03.lean.
-/
import UtreexoVerif.Spec.View
import UtreexoVerif.Model.Verifiers

namespace UtreexoVerif.Props.C03
open Model Hasher

variable (H : Type) [DecidableEq H] [Hasher H]

/-- Stand-alone `Verify`: whatever it accepts only states true facts about the forest
committed to by the roots — for arbitrary targets (any values, multiplicities, order) and
arbitrary proof hashes. -/
def verify_sound_statement : Prop :=
  ∀ (n : U64) (roots : List H) (V : ForestView H n roots), CR H →
  ∀ (hs : List H) (ts : List U64) (ps : List H) (idx : List Nat),
    (∀ h ∈ hs, h ≠ (zero : H)) →
    verify n roots hs ts ps = .ok idx →
    ∀ x ∈ ts.zip hs, V.nodeAt x.1 = some x.2

/-- `Pollard.Verify` (non-empty hash list; an empty list claims nothing) -/
def pollardVerify_sound_statement : Prop :=
  ∀ (n : U64) (roots : List H) (V : ForestView H n roots), CR H →
  ∀ (hs : List H) (ts : List U64) (ps : List H),
    (∀ h ∈ hs, h ≠ (zero : H)) →
    pollardVerify n roots hs ts ps = .ok () →
    ∀ x ∈ ts.zip hs, V.nodeAt x.1 = some x.2

/-- `MapPollard.verify`, with `TotalRows = TreeRows` (no translation) -/
def mapVerify_sound_statement : Prop :=
  ∀ (n : U64) (roots : List H) (V : ForestView H n roots), CR H →
  ∀ (hs : List H) (ts : List U64) (ps : List H) (idx : List Nat),
    (∀ h ∈ hs, h ≠ (zero : H)) →
    mapVerify n (TreeRows n) roots hs ts ps = .ok idx →
    ∀ x ∈ ts.zip hs, V.nodeAt x.1 = some x.2

end UtreexoVerif.Props.C03
