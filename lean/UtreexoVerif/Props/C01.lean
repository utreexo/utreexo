/-
  C01 — all implementations agree on the roots, for every history.

  This file: the specification-level part (S) and the `Stump.add` refinement (M.Stump).

  * `run_slots`, `batching_independent` — the forest after a history depends only on the
    ordered list of all additions and the set of all deletions;
  * `numLeaves_run`, `roots_length_popcount`, `roots_length_onesCount64`;
  * the collapse clauses (`subtree_without_survivors`, `sibling_without_survivors_left/right`,
    `both_halves_survive`, `root_zero_iff_no_survivors`);
  * `stump_add_refines` — `Stump.add` (transliteration of stump.go `add`) returns exactly
    the roots / leaf count of the specification forest after `addMany`, and never
    errs/panics/hangs, for all forests below `2^64` leaves.

  * `stump_update_no_dels_refines` — a whole `Stump.Update` block without deletions.

  Stated here, proved in Props/C01b.lean and Props/C01c.lean (`stump_update_refines`): the
  `Stump.del` half of the refinement (`stump_update_refines_statement`), which needs completeness
  of `calculateHashes` (shared with C02).  The update data of the additions is in Props/C11.lean.
-/
import UtreexoVerif.Proofs.StumpAdd
import UtreexoVerif.Proofs.LiveLeaves
import UtreexoVerif.Spec.View

namespace UtreexoVerif.Props.C01
open Model Hasher Spec Spec.Forest Proofs.StumpAdd

section
variable {H : Type} [DecidableEq H] [Hasher H]

/-- **The forest after a history is determined by the additions and the deletions alone.**
For a history from the empty accumulator whose added leaves are pairwise distinct (over the
whole history) and whose blocks delete only currently live leaves, slot `i` holds the `i`-th
added leaf if it was never deleted and is dead otherwise. -/
theorem run_slots (hist : List (Block H)) (hnd : (allAdds hist).Nodup)
    (hlive : LiveDels Forest.empty hist) :
    (run Forest.empty hist).slots = (allAdds hist).map (mark (allDels hist)) := by
  have := run_slots_gen hist [] [] Forest.empty rfl (by simp) (by simpa using hnd) hlive
  simpa using this

/-- **Batching independence**: two valid histories with the same concatenated additions and
the same set of deletions produce the same forest, hence the same roots and leaf count. -/
theorem batching_independent (h1 h2 : List (Block H))
    (hnd : (allAdds h1).Nodup) (hl1 : LiveDels Forest.empty h1) (hl2 : LiveDels Forest.empty h2)
    (hadds : allAdds h1 = allAdds h2) (hdels : ∀ x, x ∈ allDels h1 ↔ x ∈ allDels h2) :
    run Forest.empty h1 = run Forest.empty h2 ∧
    (run Forest.empty h1).roots = (run Forest.empty h2).roots ∧
    (run Forest.empty h1).numLeaves = (run Forest.empty h2).numLeaves := by
  have e : run Forest.empty h1 = run Forest.empty h2 := by
    have s1 := run_slots h1 hnd hl1
    have s2 := run_slots h2 (hadds ▸ hnd) hl2
    have : (run Forest.empty h1).slots = (run Forest.empty h2).slots := by
      rw [s1, s2, hadds]
      apply List.map_congr_left
      intro x _
      simp only [mark, hdels x]
    cases hf1 : run Forest.empty h1
    cases hf2 : run Forest.empty h2
    rw [hf1, hf2] at this
    simpa using this
  exact ⟨e, by rw [e], by rw [e]⟩

/-- the roots are the value determined only by the surviving leaves and their slots -/
theorem roots_run (hist : List (Block H)) (hnd : (allAdds hist).Nodup)
    (hlive : LiveDels Forest.empty hist) :
    (run Forest.empty hist).roots =
      (Forest.mk ((allAdds hist).map (mark (allDels hist)))).roots := by
  rw [← run_slots hist hnd hlive]

/-- the leaf count is the total number of additions (no hypotheses needed) -/
theorem numLeaves_run (F : Forest H) (hist : List (Block H)) :
    (run F hist).numLeaves = F.numLeaves + (allAdds hist).length :=
  Proofs.LiveLeaves.numLeaves_run F hist

/-- one root per set binary digit of the leaf count -/
theorem roots_length_popcount (F : Forest H) :
    F.roots.length = (List.range 65).countP (fun j => F.numLeaves.testBit j) := by
  rw [roots_length, treeRows_length]

/-- … which below `2^64` leaves is Go's `bits.OnesCount64(numLeaves)` -/
theorem roots_length_onesCount64 (F : Forest H) (hn : F.numLeaves < 2 ^ 64) :
    (F.roots.length : Int) = GoInt.onesCount64 (BitVec.ofNat 64 F.numLeaves) := by
  rw [roots_length_popcount, GoInt.onesCount64, List.range_succ, List.countP_append]
  have h64 : F.numLeaves.testBit 64 = false := Nat.testBit_lt_two_pow hn
  simp only [List.countP_singleton, h64, Bool.false_eq_true, if_false, Nat.add_zero]
  congr 1
  apply List.countP_congr
  intro j hj
  rw [List.mem_range] at hj
  rw [Proofs.getLsbD_ofNat64 hj]

theorem mem_treeRows_iff (n j : Nat) : j ∈ treeRows n ↔ j ≤ 64 ∧ n.testBit j = true :=
  mem_treeRows

/-- a subtree without survivors contributes nothing — and only such a subtree -/
theorem subtree_without_survivors (k : Nat) (l : List (Option H)) :
    collapse k l = none ↔ ∀ h : H, some h ∉ l.take (2 ^ k) :=
  collapse_eq_none_iff k l

/-- a subtree whose (right) sibling has no survivors stands in for its parent -/
theorem sibling_without_survivors_right (k : Nat) (l : List (Option H))
    (hd : ∀ h : H, some h ∉ (l.drop (2 ^ k)).take (2 ^ k)) :
    collapse (k + 1) l = collapse k (l.take (2 ^ k)) :=
  collapse_succ_right_dead k l hd

/-- a subtree whose (left) sibling has no survivors stands in for its parent -/
theorem sibling_without_survivors_left (k : Nat) (l : List (Option H))
    (hd : ∀ h : H, some h ∉ l.take (2 ^ k)) :
    collapse (k + 1) l = collapse k (l.drop (2 ^ k)) :=
  collapse_succ_left_dead k l hd

/-- otherwise the root is the pairwise hash of the two halves -/
theorem both_halves_survive (k : Nat) (l : List (Option H)) (a b : CTree H)
    (ha : collapse k (l.take (2 ^ k)) = some a) (hb : collapse k (l.drop (2 ^ k)) = some b) :
    collapse (k + 1) l = some (.node a b) ∧ rootHash (collapse (k + 1) l) = ph a.hash b.hash := by
  have := collapse_succ_both k l a b ha hb
  exact ⟨this.1, by rw [this.1]; rfl⟩

/-- the live leaves of a collapsed chunk are the surviving slots, in slot order -/
theorem collapse_leaves (k : Nat) (l : List (Option H)) :
    optLeaves (collapse k l) = (l.take (2 ^ k)).filterMap id :=
  optLeaves_collapse k l

/-- a tree has the all-zero root iff it has no survivors (leaves non-zero, `ph` never zero) -/
theorem root_zero_iff_no_survivors (hph : ∀ a b : H, ph a b ≠ (zero : H)) (k : Nat)
    (l : List (Option H)) (hl : ∀ h : H, some h ∈ l → h ≠ (zero : H)) :
    rootHash (collapse k l) = zero ↔ ∀ h : H, some h ∉ l.take (2 ^ k) := by
  rw [← collapse_eq_none_iff]
  constructor
  · intro hz
    cases hc : collapse k l with
    | none => rfl
    | some t =>
      exfalso
      rw [hc] at hz
      refine CTree.hash_ne_zero hph t ?_ hz
      intro x hx
      apply hl
      apply mem_optLeaves_collapse (k := k)
      rw [hc]; exact hx
  · intro h; rw [h]; rfl

/-- every root of a forest is the `rootHash` of the collapse of its tree's slots -/
theorem roots_def (F : Forest H) :
    F.roots = (treeRows F.numLeaves).map fun h =>
      rootHash (collapse h ((F.slots.drop (treeStart F.numLeaves h)).take (2 ^ h))) := by
  rw [roots_eq, Forest.trees, List.map_map]
  rfl

/-- Full statement: for every specification forest `F` below `2^64` leaves (after the
additions) whose live leaves are non-zero, every stump holding `F`'s roots and leaf count,
and all non-zero leaves `adds`, Go's `Stump.add` returns normally and leaves exactly the
roots and leaf count of `F.addMany adds`.  (`ph` never returning the all-zero hash is the
`nonzero` half of collision-freeness `CR`; injectivity is not needed.) -/
def stump_add_refines_statement (H : Type) [DecidableEq H] [Hasher H] : Prop :=
  ∀ (nonZero : H) (F : Forest H) (s : Stump H) (adds : List H),
    (∀ a b : H, ph a b ≠ (zero : H)) →
    s.roots = F.roots → s.numLeaves = BitVec.ofNat 64 F.numLeaves →
    F.numLeaves + adds.length < 2 ^ 64 →
    (∀ y ∈ F.liveLeaves, y ≠ (zero : H)) → (∀ y ∈ adds, y ≠ (zero : H)) →
    ∃ upd td, s.add nonZero adds =
      .ok (⟨(F.addMany adds).roots, BitVec.ofNat 64 (F.numLeaves + adds.length)⟩, upd, td)

theorem stump_add_refines : stump_add_refines_statement H :=
  fun nonZero F s adds hph hr hn hlt hlive hadds =>
    add_refines nonZero F s adds hph hr hn hlt hlive hadds

/-- the same under the bundled hypothesis `NZ` (parent hashes are never the zero hash); despite
its name it does not take the collision-freeness bundle `CR` -/
theorem stump_add_refines_CR (nz : NZ H) (nonZero : H) (F : Forest H) (s : Stump H) (adds : List H)
    (hr : s.roots = F.roots) (hn : s.numLeaves = BitVec.ofNat 64 F.numLeaves)
    (hlt : F.numLeaves + adds.length < 2 ^ 64)
    (hlive : ∀ y ∈ F.liveLeaves, y ≠ (zero : H)) (hadds : ∀ y ∈ adds, y ≠ (zero : H)) :
    ∃ upd td, s.add nonZero adds =
      .ok (⟨(F.addMany adds).roots, BitVec.ofNat 64 (F.numLeaves + adds.length)⟩, upd, td) :=
  stump_add_refines nonZero F s adds nz.nonzero hr hn hlt hlive hadds

/-- one addition on the roots: with `t` trailing one digits in the leaf count, the last `t`
roots are merged from the right with the new leaf, skipping all-zero roots -/
theorem roots_add_one {t c : Nat} (F : Forest H) (x : H)
    (hn : F.numLeaves = 2 ^ (t + 1) * c + (2 ^ t - 1)) (ht : t ≤ 64)
    (hph : ∀ a b : H, ph a b ≠ (zero : H)) (hlive : ∀ y ∈ F.liveLeaves, y ≠ (zero : H)) :
    ∃ hi lo : List H, F.roots = hi ++ lo ∧ lo.length = t ∧
      (F.add x).roots = hi ++ [mergeHash lo x] :=
  roots_add F x (hn ▸ Trail.of_decomp t c) ht hph hlive

/-- a block WITHOUT deletions: `Stump.Update` with empty targets and an empty proof accepts,
and the new stump is that of the specification forest after `modify [] adds` -/
theorem stump_update_no_dels_refines (nonZero : H) (F : Forest H) (s : Stump H) (adds : List H)
    (hph : ∀ a b : H, ph a b ≠ (zero : H))
    (hr : s.roots = F.roots) (hn : s.numLeaves = BitVec.ofNat 64 F.numLeaves)
    (hlt : F.numLeaves + adds.length < 2 ^ 64)
    (hlive : ∀ y ∈ F.liveLeaves, y ≠ (zero : H)) (hadds : ∀ y ∈ adds, y ≠ (zero : H)) :
    ∃ ud, s.update nonZero [] adds [] [] =
      .ok (⟨(F.modify [] adds).roots, BitVec.ofNat 64 (F.modify [] adds).numLeaves⟩, ud) ∧
      ud.prevNumLeaves = s.numLeaves ∧ ud.newDel = [] := by
  obtain ⟨upd, td, h⟩ := stump_add_refines nonZero F s adds hph hr hn hlt hlive hadds
  have hmod : F.modify [] adds = F.addMany adds := by
    unfold Forest.modify Forest.delLeaves
    congr 1
    cases F with
    | mk slots =>
      simp only [Forest.mk.injEq]
      conv => rhs; rw [← List.map_id slots]
      apply List.map_congr_left
      intro a _
      cases a <;> simp
  rw [update_no_dels, h, hmod, numLeaves_addMany]
  exact ⟨_, rfl, rfl, rfl⟩

/-- Statement of a whole block (proved in Props/C01c.lean, `stump_update_refines`; it needs
completeness of `calculateHashes`, shared with C02).  For a stump holding the roots of `F`, live
leaves `dels` (no repetition) with their canonical proof, and non-zero additions, `Stump.Update`
accepts and the new stump is that of `F.modify dels adds`. -/
def stump_update_refines_statement (H : Type) [DecidableEq H] [Hasher H] : Prop :=
  ∀ (nonZero : H) (F : Forest H) (s : Stump H) (dels adds : List H) (targets : List Pos)
    (proof : List H),
    NZ H → nonZero ≠ (zero : H) →
    s.roots = F.roots → s.numLeaves = BitVec.ofNat 64 F.numLeaves →
    F.numLeaves + adds.length ≤ 2 ^ 63 →
    F.liveLeaves.Nodup → (∀ x ∈ F.liveLeaves, x ≠ (zero : H) ∧ ∀ a b : H, x ≠ ph a b) →
    (∀ y ∈ adds, y ≠ (zero : H)) →
    dels.Nodup → (∀ x ∈ dels, x ∈ F.liveLeaves) →
    F.canon dels = some (targets, proof) →
    ∃ ud, s.update nonZero dels adds (targets.map fun p => BitVec.ofNat 64 (enc F.rows p)) proof =
      .ok (⟨(F.modify dels adds).roots, BitVec.ofNat 64 (F.modify dels adds).numLeaves⟩, ud)

end

namespace Example

/-- free term algebra hash (collision-free by construction) -/
inductive T where
  | z
  | leaf (n : Nat)
  | node (l r : T)
deriving DecidableEq, Repr

instance : Hasher T := ⟨T.node, T.z⟩

theorem cr : CR T :=
  ⟨fun _ _ _ _ h => by cases h; exact ⟨rfl, rfl⟩, fun _ _ h => by cases h⟩

def T.isLeaf : T → Bool
  | .leaf _ => true
  | _ => false

/-- the leaf hygiene of a concrete list of terms, by evaluation -/
theorem T.all_leaf_ok {l : List T} (h : l.all T.isLeaf = true) :
    ∀ x ∈ l, x ≠ (zero : T) ∧ ∀ a b : T, x ≠ ph a b := by
  intro x hx
  have := List.all_eq_true.1 h x hx
  cases x with
  | leaf n => exact ⟨fun e => (by cases e), fun a b e => (by cases e)⟩
  | z => cases this
  | node _ _ => cases this

/-- block 1 adds leaves 1,2,3; block 2 deletes 2 and adds 4,5; block 3 deletes 1,4 and adds 6 -/
def histA : List (Block T) :=
  [([], [.leaf 1, .leaf 2, .leaf 3]), ([.leaf 2], [.leaf 4, .leaf 5]), ([.leaf 1, .leaf 4], [.leaf 6])]

/-- the same operations batched differently: everything is added first, deletions later and
in another order -/
def histB : List (Block T) :=
  [([], [.leaf 1]), ([], [.leaf 2, .leaf 3, .leaf 4, .leaf 5, .leaf 6]), ([.leaf 4], []),
   ([.leaf 2, .leaf 1], [])]

theorem histA_nodup : (allAdds histA).Nodup := by decide
theorem histA_live : LiveDels Forest.empty histA := by decide
theorem histB_live : LiveDels Forest.empty histB := by decide

example : (run Forest.empty histA).slots =
    [none, none, some (.leaf 3), none, some (.leaf 5), some (.leaf 6)] := by
  rw [run_slots histA histA_nodup histA_live]; decide

example : (run Forest.empty histA).roots = (run Forest.empty histB).roots :=
  (batching_independent histA histB histA_nodup histA_live histB_live (by decide)
    (by intro x; simp [histA, histB, allDels]; constructor <;> (intro h; rcases h with h | h | h <;> simp [h]))).2.1

/-- the roots of that forest: 6 leaves = trees on rows 2 and 1; in the first tree only
leaf 3 survives and stands in for the root, in the second both leaves survive -/
example : (run Forest.empty histA).roots = [.leaf 3, .node (.leaf 5) (.leaf 6)] := by
  decide +kernel

example : (run Forest.empty histA).numLeaves = 6 := by
  rw [numLeaves_run]; decide

/-- a tree without survivors has the all-zero root: delete both leaves of a 2-leaf forest -/
example : (run Forest.empty [([], [T.leaf 1, T.leaf 2]), ([T.leaf 1, T.leaf 2], [])]).roots = [T.z] := by
  decide +kernel

example : (run Forest.empty histA).roots.length = 2 := by
  rw [roots_length_popcount]; decide +kernel

/-- the forest after blocks 1 and 2 of `histA`: slots `[1, dead, 3, 4, 5]` -/
def F5 : Forest T := run Forest.empty (histA.take 2)

theorem F5_live_nonzero : ∀ y ∈ F5.liveLeaves, y ≠ (zero : T) := by
  have e : F5.liveLeaves = [T.leaf 1, T.leaf 3, T.leaf 4, T.leaf 5] := by decide +kernel
  intro y hy hz
  subst hz
  rw [e] at hy
  simp at hy

/-- hypotheses of `stump_add_refines` are satisfiable: a stump for `F5` (one tree with a dead
leaf, one single-leaf tree), adding three leaves so that the last addition merges all rows -/
example : ∃ upd td, (Stump.mk F5.roots 5#64).add (T.leaf 0) [.leaf 6, .leaf 7, .leaf 8] =
    .ok (⟨(F5.addMany [.leaf 6, .leaf 7, .leaf 8]).roots, BitVec.ofNat 64 (F5.numLeaves + 3)⟩, upd, td) :=
  stump_add_refines (T.leaf 0) F5 ⟨F5.roots, 5#64⟩ [.leaf 6, .leaf 7, .leaf 8] cr.nonzero rfl
    (by decide +kernel) (by decide +kernel)
    F5_live_nonzero
    (by intro y hy hz; subst hz; simp at hy)

/-- and the model indeed evaluates to the specification's roots on that instance -/
example : ((Stump.mk F5.roots 5#64).add (T.leaf 0) [.leaf 6, .leaf 7, .leaf 8]).toOption.map (·.1) =
    some ⟨[T.node (.node (.leaf 1) (.node (.leaf 3) (.leaf 4))) (.node (.node (.leaf 5) (.leaf 6)) (.node (.leaf 7) (.leaf 8)))], 8#64⟩ := by
  decide +kernel

/-- a whole `Update` block without deletions on that stump -/
example : ∃ ud, (Stump.mk F5.roots 5#64).update (T.leaf 0) [] [.leaf 6] [] [] =
    .ok (⟨(F5.modify [] [.leaf 6]).roots, BitVec.ofNat 64 (F5.modify [] [.leaf 6]).numLeaves⟩, ud) ∧
    ud.prevNumLeaves = 5#64 ∧ ud.newDel = [] :=
  stump_update_no_dels_refines (T.leaf 0) F5 ⟨F5.roots, 5#64⟩ [.leaf 6] cr.nonzero rfl
    (by decide +kernel) (by decide +kernel)
    F5_live_nonzero
    (by intro y hy hz; subst hz; simp at hy)

/-- adding over an empty (all-zero) root: the stump of a forest whose only tree died -/
example : ∃ upd td, (Stump.mk [T.z] 1#64).add (T.leaf 0) [.leaf 9] =
    .ok (⟨[T.leaf 9], 2#64⟩, upd, td) := by
  have := stump_add_refines (T.leaf 0) (Forest.mk [none]) ⟨[T.z], 1#64⟩ [.leaf 9] cr.nonzero
    (by decide +kernel) (by decide +kernel) (by decide +kernel)
    (by intro y hy; simp [Forest.liveLeaves] at hy)
    (by intro y hy hz; subst hz; simp at hy)
  have e : (Forest.addMany (Forest.mk [none]) [T.leaf 9]).roots = [T.leaf 9] := by decide +kernel
  rw [e] at this
  exact this

end Example

end UtreexoVerif.Props.C01
