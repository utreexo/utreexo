/-
  C01.3: the whole-block refinement statement of `Props/C01.lean`, proved from the add refinement
  there and the deletion refinement of `Props/C01b.lean`.
-/
import UtreexoVerif.Props.C01b

namespace UtreexoVerif.Props.C01

theorem stump_update_refines {H : Type} [DecidableEq H] [Hasher H] :
    stump_update_refines_statement H :=
  C01b.stump_update_refines_of_add stump_add_refines

end UtreexoVerif.Props.C01
