/-
  C01 / C05 at the level of histories: the Lean model of `Stump.Update`, run along EVERY valid
  history with the canonical proofs of the specification forest, always accepts and ends in the
  stump (roots, leaf count) of the specification forest.

  * `stumpRun` — run `Stump.update` along a history, each block with `F.canon dels` of the
    current specification forest;
  * `stump_refines_history` — from the empty accumulator, for every valid history,
    `stumpRun = some ⟨(run empty hist).roots, numLeaves⟩`;
    `stump_refines_history_from` — the same from any forest satisfying the invariant `HistOK`;
  * `stump_batching_independent` — two valid histories with the same additions and the same
    deletion set leave the same stump;
  * `stump_update_eq` — what `Stump.update` returns on a valid block, as an equation in terms of
    `Stump.add` on the stump of `F.delLeaves dels`;
  * `stump_encoding_independent` (C05) — permuting the (leaf, target) pairs and appending junk to
    the proof does not change the result of `Stump.update` (stump AND update data).
-/
import UtreexoVerif.Props.C01c
import UtreexoVerif.Proofs.LiveLeaves

namespace UtreexoVerif.Props.C01
open Model Hasher Spec Spec.Forest
open UtreexoVerif.Proofs UtreexoVerif.Proofs.LiveLeaves
open UtreexoVerif.Props.C01b UtreexoVerif.Props.C11del

section
set_option linter.unusedSectionVars false
variable {H : Type} [DecidableEq H] [Hasher H]

/-- the targets as Go's `uint64` positions of a forest with `rows` rows -/
def encTargets (rows : Nat) (targets : List Pos) : List U64 :=
  targets.map fun p => BitVec.ofNat 64 (enc rows p)

theorem encTargets_eq (rows : Nat) (targets : List Pos) :
    encTargets rows targets = targets.map (fun p => encU rows p.1 p.2) := rfl

/-- **Run the Lean model of `Stump.Update` along a history.**  `F` is the current specification
forest; each block `(dels, adds)` is given the canonical proof `F.canon dels` (targets encoded
with `enc F.rows`).  `none` if `canon` is undefined or `update` does not return normally. -/
def stumpRun (nonZero : H) : Forest H → Stump H → List (List H × List H) → Option (Stump H)
  | _, s, [] => some s
  | F, s, b :: rest =>
    match F.canon b.1 with
    | none => none
    | some (targets, proof) =>
      match s.update nonZero b.1 b.2 (encTargets F.rows targets) proof with
      | .ok (s', _) => stumpRun nonZero (F.modify b.1 b.2) s' rest
      | _ => none

def NodupDels (hist : List (Block H)) : Prop := ∀ b ∈ hist, b.1.Nodup

/-- the invariant of the induction along a history (`stump_refines_history_from`) -/
structure HistOK (F : Forest H) (hist : List (Block H)) : Prop where
  live_nodup : F.liveLeaves.Nodup
  live_nonzero : ∀ x ∈ F.liveLeaves, x ≠ (zero : H)
  adds_nodup : (allAdds hist).Nodup
  adds_new : ∀ x ∈ allAdds hist, x ∉ F.liveLeaves
  adds_nonzero : ∀ x ∈ allAdds hist, x ≠ (zero : H)
  small : F.numLeaves + (allAdds hist).length ≤ 2 ^ 63

theorem HistOK.step {F : Forest H} {d a : List H} {rest : List (Block H)}
    (inv : HistOK F ((d, a) :: rest)) : HistOK (F.modify d a) rest := by
  obtain ⟨h1, h2, h3, h4, h5, h6⟩ := inv
  simp only [allAdds_cons] at h3 h4 h5 h6
  obtain ⟨ha, hr, hdisj⟩ := List.nodup_append.1 h3
  refine ⟨?_, ?_, hr, ?_, ?_, ?_⟩
  · exact liveLeaves_modify_nodup h1 d ha (fun x hx => h4 x (List.mem_append_left _ hx))
  · exact forall_liveLeaves_modify h2 fun x hx => h5 x (List.mem_append_left _ hx)
  · intro x hx hx'
    rcases mem_liveLeaves_modify.1 hx' with ⟨hx', _⟩ | hx'
    · exact h4 x (List.mem_append_right _ hx) hx'
    · exact hdisj x hx' x hx rfl
  · intro x hx
    exact h5 x (List.mem_append_right _ hx)
  · rw [numLeaves_modify]
    rw [List.length_append] at h6
    omega

theorem HistOK.forestOK {F : Forest H} {hist : List (Block H)} (inv : HistOK F hist)
    (hph : ∀ a b : H, ph a b ≠ (zero : H)) : ForestOK F :=
  ⟨by have := inv.small; omega, hph, inv.live_nonzero, inv.live_nodup⟩

theorem addRefinesAt (nonZero : H) (G : Forest H) (adds : List H)
    (hph : ∀ a b : H, ph a b ≠ (zero : H)) (hlt : G.numLeaves + adds.length < 2 ^ 64)
    (hlive : ∀ y ∈ G.liveLeaves, y ≠ (zero : H)) (hadds : ∀ y ∈ adds, y ≠ (zero : H)) :
    AddRefinesAt nonZero G adds := by
  obtain ⟨upd, td, h⟩ := stump_add_refines nonZero G (stumpOf G) adds hph rfl rfl hlt hlive hadds
  refine ⟨_, h, ?_⟩
  simp only [stumpOf, Spec.numLeaves_addMany]

/-- **One valid block.**  (`ForestOK F`: at most `2^63` leaves, `ph` never zero, live leaves
non-zero and duplicate-free.) -/
theorem stump_update_block {F : Forest H} (ok : ForestOK F) (nonZero : H) {dels adds : List H}
    (hdn : dels.Nodup) (hdl : ∀ x ∈ dels, x ∈ F.liveLeaves)
    (hadds : ∀ y ∈ adds, y ≠ (zero : H)) (hlt : F.numLeaves + adds.length ≤ 2 ^ 63) :
    ∃ targets proof ud, F.canon dels = some (targets, proof) ∧
      (stumpOf F).update nonZero dels adds (encTargets F.rows targets) proof =
        .ok (stumpOf (F.modify dels adds), ud) := by
  obtain ⟨targets, proof, hc⟩ := C02.canon_defined ok.small hdl
  have haddAt : AddRefinesAt nonZero (F.delLeaves dels) adds :=
    addRefinesAt nonZero _ adds ok.ph_nonzero (by rw [numLeaves_delLeaves]; omega)
      (fun y hy => ok.live_nonzero y (Proofs.LiveLeaves.mem_liveLeaves_delLeaves.1 hy).1) hadds
  obtain ⟨ud, h1, _, _⟩ := C01b.stump_update_refines ok [] hdn hc nonZero adds haddAt
  rw [List.append_nil] at h1
  exact ⟨targets, proof, ud, hc, h1⟩

/-- **`Stump` refines the specification along every valid history, from any forest satisfying
the invariant.**  Only `ph a b ≠ zero` is needed of the hash function. -/
theorem stump_refines_history_from (hph : ∀ a b : H, ph a b ≠ (zero : H)) (nonZero : H)
    (hist : List (Block H)) : ∀ (F : Forest H), HistOK F hist → LiveDels F hist → NodupDels hist →
      stumpRun nonZero F (stumpOf F) hist = some (stumpOf (run F hist)) := by
  induction hist with
  | nil => intro F _ _ _; rfl
  | cons b rest ih =>
    obtain ⟨d, a⟩ := b
    intro F inv hlive hdn
    have ok := inv.forestOK hph
    obtain ⟨targets, proof, ud, hc, hu⟩ := stump_update_block ok nonZero (dels := d) (adds := a)
      (hdn (d, a) (List.mem_cons_self ..)) hlive.1
      (fun y hy => inv.adds_nonzero y (by rw [allAdds_cons]; exact List.mem_append_left _ hy))
      (by have := inv.small; rw [allAdds_cons, List.length_append] at this; simp only at this; omega)
    simp only [stumpRun, hc, hu, run]
    exact ih _ inv.step hlive.2 (fun b hb => hdn b (List.mem_cons_of_mem _ hb))

theorem liveDels_append {F : Forest H} {pre post : List (Block H)} :
    LiveDels F (pre ++ post) ↔ LiveDels F pre ∧ LiveDels (run F pre) post := by
  induction pre generalizing F with
  | nil => simp [LiveDels, run]
  | cons b r ih =>
    simp only [List.cons_append, LiveDels, run, ih, and_assoc]

theorem HistOK.run_prefix {pre post : List (Block H)} : ∀ {F : Forest H},
    HistOK F (pre ++ post) → HistOK (run F pre) post := by
  induction pre with
  | nil => intro F h; exact h
  | cons b r ih =>
    obtain ⟨d, a⟩ := b
    intro F h
    exact ih (HistOK.step (d := d) (a := a) h)

theorem liveLeaves_run_subset (hist : List (Block H)) : ∀ (F : Forest H),
    ∀ x ∈ (run F hist).liveLeaves, x ∈ F.liveLeaves ∨ x ∈ allAdds hist := by
  induction hist with
  | nil => intro F x hx; exact Or.inl hx
  | cons b r ih =>
    intro F x hx
    rw [allAdds_cons, List.mem_append]
    rcases ih _ x hx with h | h
    · rcases mem_liveLeaves_modify.1 h with ⟨h, _⟩ | h
      · exact Or.inl h
      · exact Or.inr (Or.inl h)
    · exact Or.inr (Or.inr h)

theorem stumpRun_prefix (hph : ∀ a b : H, ph a b ≠ (zero : H)) (nonZero : H)
    {pre post : List (Block H)} {F : Forest H} (inv : HistOK F (pre ++ post))
    (hlive : LiveDels F (pre ++ post)) (hdn : NodupDels (pre ++ post)) :
    stumpRun nonZero F (stumpOf F) pre = some (stumpOf (run F pre)) := by
  have inv' : HistOK F pre := by
    obtain ⟨h1, h2, h3, h4, h5, h6⟩ := inv
    rw [allAdds_append] at h3 h4 h5 h6
    refine ⟨h1, h2, (List.nodup_append.1 h3).1, fun x hx => h4 x (List.mem_append_left _ hx),
      fun x hx => h5 x (List.mem_append_left _ hx), ?_⟩
    rw [List.length_append] at h6
    omega
  exact stump_refines_history_from hph nonZero pre F inv' (liveDels_append.1 hlive).1
    (fun b hb => hdn b (List.mem_append_left _ hb))

theorem roots_empty : (Forest.empty : Forest H).roots = [] := by
  simp [Forest.roots, Forest.trees, Forest.empty, Forest.numLeaves, treeRows, treeRowsFrom]

theorem stumpOf_empty : stumpOf (Forest.empty : Forest H) = ⟨[], 0#64⟩ := by
  unfold stumpOf
  rw [roots_empty]
  rfl


theorem histOK_empty {hist : List (Block H)} (hnd : (allAdds hist).Nodup)
    (hleaf : ∀ x ∈ allAdds hist, x ≠ (zero : H)) (hsmall : (allAdds hist).length ≤ 2 ^ 63) :
    HistOK (Forest.empty : Forest H) hist :=
  ⟨List.nodup_nil, fun x hx => (by cases hx), hnd, fun x _ hx => (by cases hx), hleaf,
    (by show 0 + _ ≤ _; omega)⟩

/-- **`Stump` refines the specification along every valid history** (strong form: of the hash
function only `ph a b ≠ zero` is used; the added leaves need not differ from parent hashes). -/
theorem stump_refines_history' (hph : ∀ a b : H, ph a b ≠ (zero : H)) (nonZero : H)
    (hist : List (Block H)) (hlive : LiveDels Forest.empty hist) (hdn : NodupDels hist)
    (hnd : (allAdds hist).Nodup) (hleaf : ∀ x ∈ allAdds hist, x ≠ (zero : H))
    (hsmall : (allAdds hist).length ≤ 2 ^ 63) :
    stumpRun nonZero Forest.empty ⟨[], 0#64⟩ hist =
      some ⟨(run Forest.empty hist).roots, BitVec.ofNat 64 (run Forest.empty hist).numLeaves⟩ := by
  have := stump_refines_history_from hph nonZero hist Forest.empty (histOK_empty hnd hleaf hsmall)
    hlive hdn
  rw [stumpOf_empty] at this
  exact this

/-- **C01 for `Stump`, every history.**  For every history from the empty accumulator in which
every block deletes a duplicate-free list of currently live leaves and appends leaves that are
non-zero, not of the form `ph a b`, and pairwise distinct across the whole history, with at most
`2^63` additions in total: the Lean model of `Stump.Update`, fed the canonical proofs of the
specification, accepts every block and ends with exactly the roots and the leaf count of the
specification forest `run empty hist`. -/
theorem stump_refines_history (nz : NZ H) (nonZero : H) (_hnz : nonZero ≠ (zero : H))
    (hist : List (Block H)) (hlive : LiveDels Forest.empty hist) (hdn : NodupDels hist)
    (hnd : (allAdds hist).Nodup)
    (hleaf : ∀ x ∈ allAdds hist, x ≠ (zero : H) ∧ ∀ a b : H, x ≠ ph a b)
    (hsmall : (allAdds hist).length ≤ 2 ^ 63) :
    stumpRun nonZero Forest.empty ⟨[], 0#64⟩ hist =
      some ⟨(run Forest.empty hist).roots, BitVec.ofNat 64 (run Forest.empty hist).numLeaves⟩ :=
  stump_refines_history' nz.nonzero nonZero hist hlive hdn hnd (fun x hx => (hleaf x hx).1) hsmall

/-- a valid history from the empty accumulator (the hypotheses of `stump_refines_history`) -/
structure ValidHistory (hist : List (Block H)) : Prop where
  live : LiveDels (Forest.empty : Forest H) hist
  dels_nodup : NodupDels hist
  adds_nodup : (allAdds hist).Nodup
  adds_leaf : ∀ x ∈ allAdds hist, x ≠ (zero : H) ∧ ∀ a b : H, x ≠ ph a b
  small : (allAdds hist).length ≤ 2 ^ 63

theorem ValidHistory.histOK {hist : List (Block H)} (v : ValidHistory hist) :
    HistOK (Forest.empty : Forest H) hist :=
  histOK_empty v.adds_nodup (fun x hx => (v.adds_leaf x hx).1) v.small

/-- **Batching independence for `Stump`**: two valid histories with the same concatenated
additions and the same set of deletions leave the SAME stump behind (and both runs accept). -/
theorem stump_batching_independent (nz : NZ H) (nonZero : H) (hnz : nonZero ≠ (zero : H))
    (h1 h2 : List (Block H)) (v1 : ValidHistory h1) (v2 : ValidHistory h2)
    (hadds : allAdds h1 = allAdds h2) (hdels : ∀ x, x ∈ allDels h1 ↔ x ∈ allDels h2) :
    stumpRun nonZero Forest.empty ⟨[], 0#64⟩ h1 = stumpRun nonZero Forest.empty ⟨[], 0#64⟩ h2 ∧
    stumpRun nonZero Forest.empty ⟨[], 0#64⟩ h1 =
      some ⟨(run Forest.empty h1).roots, BitVec.ofNat 64 (run Forest.empty h1).numLeaves⟩ := by
  have e1 := stump_refines_history nz nonZero hnz h1 v1.live v1.dels_nodup v1.adds_nodup
    v1.adds_leaf v1.small
  have e2 := stump_refines_history nz nonZero hnz h2 v2.live v2.dels_nodup v2.adds_nodup
    v2.adds_leaf v2.small
  have e := (batching_independent h1 h2 v1.adds_nodup v1.live v2.live hadds hdels).1
  refine ⟨?_, e1⟩
  rw [e1, e2, e]

/-- **What `Stump.Update` returns on a block with a canonical deletion proof** (any junk appended
to the proof): `del` succeeds, and the outcome is that of `Stump.add` run on the stump of
`F.delLeaves L`, with `PrevNumLeaves` the old leaf count and `NewDel` as specified. -/
theorem stump_update_eq {F : Forest H} (ok : ForestOK F) {L : List H} {targets : List Pos}
    {proofHashes : List H} (junk : List H) (hL : L.Nodup)
    (hc : F.canon L = some (targets, proofHashes)) (nonZero : H) (adds : List H) :
    Stump.update nonZero (stumpOf F) L adds (encTargets F.rows targets) (proofHashes ++ junk) =
      match Stump.add nonZero (stumpOf (F.delLeaves L)) adds with
      | .ok (s2, newAdd, td) =>
        .ok (s2, { toDestroy := td, prevNumLeaves := BitVec.ofNat 64 F.numLeaves,
                   newDel := newDelSpec F L targets, newAdd := newAdd })
      | .err => .err
      | .panic => .panic
      | .hang => .hang := by
  unfold Stump.update Stump.updateSt
  rw [encTargets_eq, stump_del_refines ok junk hL hc, stumpOf_delLeaves]
  simp only
  cases Stump.add nonZero ⟨(F.delLeaves L).roots, BitVec.ofNat 64 F.numLeaves⟩ adds <;> rfl

theorem delT_congr {L L' : List H} (h : ∀ l, l ∈ L' ↔ l ∈ L) (t : CTree H) :
    CalcComplete.delT L' t = CalcComplete.delT L t := by
  induction t with
  | leaf x =>
    simp only [CalcComplete.delT, h x]
  | node a b iha ihb => simp only [CalcComplete.delT, iha, ihb]

/-- `NewDel` depends only on the SET of deleted leaves and the SET of targets -/
theorem newDelSpec_congr (F : Forest H) {L L' : List H} {t t' : List Pos}
    (hL : ∀ l, l ∈ L' ↔ l ∈ L) (ht : ∀ x, x ∈ t' ↔ x ∈ t) :
    newDelSpec F L' t' = newDelSpec F L t := by
  have hp : pathNodes F t' = pathNodes F t := C02.pathSet_congr F ht
  unfold newDelSpec
  rw [hp]
  apply List.map_congr_left
  intro p _
  unfold hashAfter
  cases subtreeAt F p with
  | none => rfl
  | some s => simp only [delT_congr hL s]

/-- **C05 for `Stump.Update`: encoding independence.**  Within a block whose deletions `dels`
(duplicate-free) have the canonical proof `(targets, proof)`, replace the request by ANY
permutation `pairs` of the (leaf, target) pairs and append ARBITRARY hashes to the proof: the
whole result of `Stump.Update` — new stump and every field of the update data, additions
included, or the same failure of `add` — is unchanged.  (`adds` is arbitrary.) -/
theorem stump_encoding_independent {F : Forest H} (ok : ForestOK F) {dels : List H}
    {targets : List Pos} {proof : List H} (hdn : dels.Nodup)
    (hc : F.canon dels = some (targets, proof)) (nonZero : H) (adds : List H)
    (pairs : List (H × Pos)) (hperm : pairs.Perm (dels.zip targets)) (junk : List H) :
    (stumpOf F).update nonZero (pairs.map (·.1)) adds (encTargets F.rows (pairs.map (·.2)))
        (proof ++ junk) =
      (stumpOf F).update nonZero dels adds (encTargets F.rows targets) proof := by
  obtain ⟨ht, _, _, _⟩ := SpecPlan.canon_spec hc
  have hlen : dels.length ≤ targets.length := by rw [ht, List.length_map]; exact Nat.le_refl _
  have hlen' : targets.length ≤ dels.length := by rw [ht, List.length_map]; exact Nat.le_refl _
  have hp1 : (pairs.map (·.1)).Perm dels := by
    have := hperm.map (·.1)
    rwa [List.map_fst_zip hlen] at this
  have hp2 : (pairs.map (·.2)).Perm targets := by
    have := hperm.map (·.2)
    rwa [List.map_snd_zip hlen'] at this
  have hdn' : (pairs.map (·.1)).Nodup := hp1.nodup_iff.2 hdn
  have hmem : ∀ l, l ∈ pairs.map (·.1) ↔ l ∈ dels := fun l => hp1.mem_iff
  have hc' := C02.canon_perm hmem hc
  have htg : (pairs.map (·.1)).map (fun l => (F.posOf l).getD (0, 0)) = pairs.map (·.2) := by
    rw [List.map_map]
    apply List.map_congr_left
    intro x hx
    have hx' : x ∈ dels.zip (dels.map (fun l => (F.posOf l).getD (0, 0))) := by
      rw [← ht]; exact hperm.mem_iff.1 hx
    rw [← List.map_prod_left_eq_zip] at hx'
    obtain ⟨a, _, rfl⟩ := List.mem_map.1 hx'
    rfl
  rw [htg] at hc'
  have r := stump_update_eq ok [] hdn hc nonZero adds
  rw [List.append_nil] at r
  rw [stump_update_eq ok junk hdn' hc' nonZero adds, r, delLeaves_congr F hmem,
    newDelSpec_congr F hmem (fun x => hp2.mem_iff)]

end

namespace Example

/-- block 1 adds leaves 1,2,3 (trees `{1,2}` and `{3}`); block 2 deletes leaf 3 — the tree on
row 0 is emptied, its root becomes the all-zero hash — and adds leaves 4,5: leaf 4 overwrites
the empty root (`add` skips the all-zero root and merges leaf 4 with `{1,2}`); block 3 deletes
leaves 1 and 4 (in two different subtrees of the 4-slot tree, leaving only leaf 2 there) and adds
leaf 6. -/
def histC : List (Block T) :=
  [([], [.leaf 1, .leaf 2, .leaf 3]), ([.leaf 3], [.leaf 4, .leaf 5]),
   ([.leaf 1, .leaf 4], [.leaf 6])]

/-- after block 2's deletion the stump really holds an all-zero root … -/
example : (Forest.delLeaves (run Forest.empty (histC.take 1)) [T.leaf 3]).roots =
    [T.node (.leaf 1) (.leaf 2), T.z] := by decide +kernel

/-- … and the model, simply evaluated along the history, ends in the specification's stump -/
example : stumpRun (T.leaf 0) Forest.empty ⟨[], 0#64⟩ histC =
    some ⟨[T.leaf 2, T.node (.leaf 5) (.leaf 6)], 6#64⟩ := by decide +kernel

theorem histC_valid : ValidHistory histC where
  live := by decide
  dels_nodup := by
    intro b hb
    simp only [histC, List.mem_cons, List.not_mem_nil, or_false] at hb
    rcases hb with rfl | rfl | rfl <;> decide
  adds_nodup := by decide
  adds_leaf := T.all_leaf_ok (by decide)
  small := by
    have : (allAdds histC).length = 6 := by decide
    omega

example : stumpRun (T.leaf 0) Forest.empty ⟨[], 0#64⟩ histC =
    some ⟨(run Forest.empty histC).roots, BitVec.ofNat 64 (run Forest.empty histC).numLeaves⟩ :=
  stump_refines_history cr.toNZ (T.leaf 0) (by intro h; cases h) histC histC_valid.live
    histC_valid.dels_nodup histC_valid.adds_nodup histC_valid.adds_leaf histC_valid.small

/-- the same operations batched differently (all additions first, deletions later and in another
order) -/
def histD : List (Block T) :=
  [([], [.leaf 1]), ([], [.leaf 2, .leaf 3, .leaf 4, .leaf 5, .leaf 6]), ([.leaf 4], []),
   ([.leaf 3, .leaf 1], [])]

theorem histD_valid : ValidHistory histD where
  live := by decide
  dels_nodup := by
    intro b hb
    simp only [histD, List.mem_cons, List.not_mem_nil, or_false] at hb
    rcases hb with rfl | rfl | rfl | rfl <;> decide
  adds_nodup := by decide
  adds_leaf := T.all_leaf_ok (by decide)
  small := by
    have : (allAdds histD).length = 6 := by decide
    omega

example : stumpRun (T.leaf 0) Forest.empty ⟨[], 0#64⟩ histC =
    stumpRun (T.leaf 0) Forest.empty ⟨[], 0#64⟩ histD :=
  (stump_batching_independent cr.toNZ (T.leaf 0) (by intro h; cases h) histC histD histC_valid
    histD_valid (by decide)
    (by intro x; simp [histC, histD, allDels]; constructor <;>
          (intro h; rcases h with h | h | h <;> simp [h]))).1

/-- and so does the model when simply run on the second batching -/
example : stumpRun (T.leaf 0) Forest.empty ⟨[], 0#64⟩ histD =
    some ⟨[T.leaf 2, T.node (.leaf 5) (.leaf 6)], 6#64⟩ := by decide +kernel

/-! encoding independence on the five-slot forest `F5 = [1, dead, 3, 4, 5]` -/

theorem F5_ok : ForestOK F5 :=
  ⟨by decide +kernel, cr.nonzero, by
      intro y hy
      have e : F5.liveLeaves = [T.leaf 1, T.leaf 3, T.leaf 4, T.leaf 5] := by decide +kernel
      rw [e] at hy
      intro hz; subst hz; simp at hy,
    by decide +kernel⟩

theorem F5_canon : F5.canon [T.leaf 4, .leaf 1] = some ([(0, 3), (1, 0)], [T.leaf 3]) := by
  decide +kernel

/-- the request in the other order, with two junk hashes appended to the proof, and additions:
the same `Update` result -/
example : (stumpOf F5).update (T.leaf 0) [T.leaf 1, .leaf 4] [T.leaf 6, .leaf 7]
      (encTargets F5.rows [(1, 0), (0, 3)]) ([T.leaf 3] ++ [T.leaf 98, T.leaf 99]) =
    (stumpOf F5).update (T.leaf 0) [T.leaf 4, .leaf 1] [T.leaf 6, .leaf 7]
      (encTargets F5.rows [(0, 3), (1, 0)]) [T.leaf 3] :=
  stump_encoding_independent F5_ok (by decide) F5_canon (T.leaf 0) [T.leaf 6, .leaf 7]
    [(T.leaf 1, (1, 0)), (T.leaf 4, (0, 3))] (by decide) [T.leaf 98, T.leaf 99]

/-- … and that result is a successful update (not a common failure) -/
example : ((stumpOf F5).update (T.leaf 0) [T.leaf 1, .leaf 4] [T.leaf 6, .leaf 7]
      (encTargets F5.rows [(1, 0), (0, 3)]) [T.leaf 3, T.leaf 98, T.leaf 99]).toOption.map (·.1) =
    some (stumpOf (F5.modify [T.leaf 1, .leaf 4] [T.leaf 6, .leaf 7])) := by decide +kernel

end Example

end UtreexoVerif.Props.C01
