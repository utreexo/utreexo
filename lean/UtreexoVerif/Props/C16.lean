/-
  C16 — position arithmetic of utils.go against the (row, offset) geometry.

  `encU h r o` (defined in `Proofs/Geometry.lean`) is the `uint64` position
  `BitVec.ofNat 64 (Spec.enc h (r, o))` of node `(row r, offset o)` in a forest allocated
  for `h` rows and `H8 h = BitVec.ofNat 8 h` is a row count as `uint8`.
  Standing hypotheses: `h ≤ 63`, `r ≤ h`, `o < 2^(h-r)`.
-/
import UtreexoVerif.Proofs.Geometry

namespace UtreexoVerif.Props.C16
open UtreexoVerif.GoInt UtreexoVerif.Proofs

theorem enc_lt {h r o : Nat} (hr : r ≤ h) (ho : o < 2 ^ (h - r)) :
    Spec.enc h (r, o) < 2 ^ (h + 1) - 1 :=
  enc_lt_aux hr ho

/-- for `h ≤ 63` positions fit in a `uint64` (and `encU` loses nothing) -/
theorem encU_toNat {h r o : Nat} (hh : h ≤ 63) (hr : r ≤ h) (ho : o < 2 ^ (h - r)) :
    (encU h r o).toNat = Spec.enc h (r, o) :=
  toNat_encU hh hr ho

/-- rows are ordered: every position of a lower row is below every position of a higher row -/
theorem enc_row_lt {h r o r' o' : Nat} (hr' : r' ≤ h) (ho : o < 2 ^ (h - r)) (hlt : r < r') :
    Spec.enc h (r, o) < Spec.enc h (r', o') :=
  Proofs.enc_row_lt hr' ho hlt

theorem enc_injective {h r o r' o' : Nat} (hr : r ≤ h) (ho : o < 2 ^ (h - r))
    (hr' : r' ≤ h) (ho' : o' < 2 ^ (h - r'))
    (e : Spec.enc h (r, o) = Spec.enc h (r', o')) : r = r' ∧ o = o' := by
  have hrr : r = r' := by
    rcases Nat.lt_trichotomy r r' with hlt | heq | hgt
    · have := Proofs.enc_row_lt (o' := o') hr' ho hlt; omega
    · exact heq
    · have := Proofs.enc_row_lt (o' := o) hr ho' hgt; omega
  subst hrr
  refine ⟨rfl, ?_⟩
  have f := enc_facts hr
  rw [enc_val, enc_val] at e
  omega

theorem encU_inj {h r o r' o' : Nat} (hh : h ≤ 63) (hr : r ≤ h) (ho : o < 2 ^ (h - r))
    (hr' : r' ≤ h) (ho' : o' < 2 ^ (h - r')) (e : encU h r o = encU h r' o') : r = r' ∧ o = o' := by
  have := congrArg BitVec.toNat e
  rw [toNat_encU hh hr ho, toNat_encU hh hr' ho'] at this
  exact enc_injective hr ho hr' ho' this

example : Spec.enc 3 (1, 1) = 9 := by decide
example : Spec.enc 3 (3, 0) = 14 := by decide
example : encU 3 1 1 = 9#64 := by decide
example : encU 63 63 0 = BitVec.ofNat 64 (2 ^ 64 - 2) := by decide

theorem parent_enc {h r o : Nat} (hh : h ≤ 63) (hr : r < h) (ho : o < 2 ^ (h - r)) :
    Model.Parent (encU h r o) (H8 h) = encU h (r + 1) (o / 2) := by
  apply BitVec.eq_of_toNat_eq
  have ho' : o / 2 < 2 ^ (h - (r + 1)) := by have := enc_facts_succ hr; omega
  unfold Model.Parent
  rw [BitVec.toNat_or, toNat_shr, toNat_H8 hh, toNat_one_shl hh,
    toNat_encU hh (by omega) ho, toNat_encU hh (by omega) ho', parent_nat hr ho]

theorem leftChild_enc {h r o : Nat} (hh : h ≤ 63) (hr : r < h) (ho : o < 2 ^ (h - (r + 1))) :
    Model.LeftChild (encU h (r + 1) o) (H8 h) = encU h r (2 * o) :=
  leftChild_encU hh hr ho

theorem rightChild_enc {h r o : Nat} (hh : h ≤ 63) (hr : r < h) (ho : o < 2 ^ (h - (r + 1))) :
    Model.RightChild (encU h (r + 1) o) (H8 h) = encU h r (2 * o + 1) :=
  rightChild_encU hh hr ho

example : Model.Parent 9#64 3#8 = 12#64 := by decide
example : Model.Parent (encU 3 1 1) (H8 3) = encU 3 2 0 :=
  parent_enc (by decide) (by decide) (by decide)
example : Model.LeftChild 12#64 3#8 = 8#64 ∧ Model.RightChild 12#64 3#8 = 9#64 := by decide
example : Model.LeftChild (encU 3 2 0) (H8 3) = encU 3 1 0 :=
  leftChild_enc (by decide) (by decide) (by decide)
example : Model.RightChild (encU 63 63 0) (H8 63) = encU 63 62 1 :=
  rightChild_enc (by decide) (by decide) (by decide)

theorem detectRow_enc {h r o : Nat} (hh : h ≤ 63) (hr : r ≤ h) (ho : o < 2 ^ (h - r)) :
    Model.DetectRow (encU h r o) (H8 h) = BitVec.ofNat 8 r :=
  detectRow_of_lead (toNat_H8 hh) hh (by omega) (lead_encU hh hr ho)

example : Model.DetectRow 9#64 3#8 = 1#8 := by decide
example : Model.DetectRow (encU 3 1 1) (H8 3) = BitVec.ofNat 8 1 :=
  detectRow_enc (by decide) (by decide) (by decide)

theorem sibling_enc {h r o : Nat} (_hh : h ≤ 63) (hr : r ≤ h) (_ho : o < 2 ^ (h - r)) :
    Model.sibling (encU h r o) = encU h r (o ^^^ 1) := by
  unfold Model.sibling encU
  rw [show (1#64 : U64) = BitVec.ofNat 64 1 from rfl, ← BitVec.ofNat_xor, enc_add h r o,
    enc_zero_two_mul hr, xor_one_two_mul_add, ← enc_zero_two_mul hr, ← enc_add]

/-- the same, phrased with the specification's `sib` -/
theorem sibling_enc_sib {h r o : Nat} (hh : h ≤ 63) (hr : r ≤ h) (ho : o < 2 ^ (h - r)) :
    Model.sibling (encU h r o) = BitVec.ofNat 64 (Spec.enc h (Spec.sib (r, o))) := by
  rw [sibling_enc hh hr ho, encU, nat_xor_one]
  rfl

theorem leftSib_enc {h r o : Nat} (hh : h ≤ 63) (hr : r ≤ h) (ho : o < 2 ^ (h - r)) :
    Model.leftSib (encU h r o) = encU h r (2 * (o / 2)) := by
  have hlt := enc_lt_64 hh hr ho
  unfold Model.leftSib encU
  rw [show ~~~(1#64 : U64) = BitVec.ofNat 64 (2 ^ 64 - 1 - 1) from rfl, ← BitVec.ofNat_and]
  rw [enc_add h r o, enc_zero_two_mul hr] at hlt ⊢
  rw [and_not_one_two_mul_add hlt, ← enc_zero_two_mul hr, ← enc_add]

theorem rightSib_enc {h r o : Nat} (_hh : h ≤ 63) (hr : r ≤ h) (_ho : o < 2 ^ (h - r)) :
    Model.rightSib (encU h r o) = encU h r (2 * (o / 2) + 1) := by
  unfold Model.rightSib encU
  rw [show (1#64 : U64) = BitVec.ofNat 64 1 from rfl, ← BitVec.ofNat_or, enc_add h r o,
    enc_zero_two_mul hr, or_one_two_mul_add, ← enc_zero_two_mul hr, ← enc_add]

theorem isLeftNiece_enc {h r o : Nat} (hh : h ≤ 63) (hr : r ≤ h) (ho : o < 2 ^ (h - r)) :
    Model.isLeftNiece (encU h r o) = decide (o % 2 = 0) := by
  unfold Model.isLeftNiece
  rw [beq_zero_eq, BitVec.toNat_and, BitVec.toNat_one (by decide), Nat.and_one_is_mod,
    toNat_encU hh hr ho, enc_even hr]

example : Model.sibling 9#64 = 8#64 ∧ Model.leftSib 9#64 = 8#64 ∧ Model.rightSib 8#64 = 9#64 := by
  decide
example : Model.sibling (encU 3 1 1) = encU 3 1 0 :=
  sibling_enc (by decide) (by decide) (by decide)
example : Model.isLeftNiece (encU 3 1 1) = false :=
  isLeftNiece_enc (by decide) (by decide) (by decide)

theorem startPositionAtRow_enc {h r : Nat} (hh : h ≤ 63) (hr : r ≤ h) :
    Model.startPositionAtRow (H8 r) (H8 h) = encU h r 0 := by
  apply BitVec.eq_of_toNat_eq
  have f := enc_facts hr
  have h64 : 2 ^ (h + 1) ≤ 2 ^ 64 := two_pow_le_of_le (by omega)
  have e : h - r + 1 = h + 1 - r := by omega
  unfold Model.startPositionAtRow
  rw [BitVec.toNat_sub, toNat_two_shl, toNat_two_shl, toNat_H8 hh, toNat_H8_sub hh hr,
    toNat_encU hh hr (Nat.two_pow_pos _), enc_val, e]
  omega

theorem maxPossiblePosAtRow_enc {h r : Nat} (hh : h ≤ 63) (hr : r ≤ h) :
    Model.maxPossiblePosAtRow (H8 r) (H8 h) = encU h r (2 ^ (h - r) - 1) := by
  apply BitVec.eq_of_toNat_eq
  have f := enc_facts hr
  have h64 : 2 ^ (h + 1) ≤ 2 ^ 64 := two_pow_le_of_le (by omega)
  show ((shl (shl 2#64 (H8 h).toNat - 1#64) (H8 h - H8 r).toNat &&&
    (shl 2#64 (H8 h).toNat - 1#64)) - 1#64).toNat = _
  rw [BitVec.toNat_sub, toNat_H8 hh, toNat_H8_sub hh hr, toNat_shl_and_mask hh, toNat_mask hh,
    pred_mul_mod (by omega) (by omega), toNat_encU hh hr (by omega), enc_val,
    BitVec.toNat_one (by decide)]
  omega

theorem translatePos_enc {h h' r o : Nat} (hh : h ≤ 63) (hr : r ≤ h) (ho : o < 2 ^ (h - r))
    (hh' : h' ≤ 63) (hr' : r ≤ h') (ho' : o < 2 ^ (h' - r)) :
    Model.translatePos (encU h r o) (H8 h) (H8 h') = encU h' r o := by
  unfold Model.translatePos
  simp only [detectRow_enc hh hr ho]
  by_cases hr0 : r = 0
  · subst hr0
    simp only [beq_self_eq_true, if_true]
    unfold encU
    rw [enc_val, enc_val, Nat.sub_zero, Nat.sub_zero, Nat.sub_self, Nat.sub_self]
  · rw [show BitVec.ofNat 8 r = H8 r from rfl, H8_beq_zero_eq (by omega), decide_eq_false hr0]
    simp only [Bool.false_eq_true, if_false]
    rw [startPositionAtRow_enc hh hr, startPositionAtRow_enc hh' hr']
    unfold encU
    rw [enc_add h r o, enc_add h' r o, BitVec.ofNat_add, BitVec.ofNat_add,
      BitVec.add_comm (BitVec.ofNat 64 (Spec.enc h (r, 0))), BitVec.add_sub_cancel,
      BitVec.add_comm]

example : Model.startPositionAtRow 2#8 3#8 = 12#64 ∧ Model.maxPossiblePosAtRow 1#8 3#8 = 11#64 := by
  decide
example : Model.maxPossiblePosAtRow (H8 1) (H8 3) = encU 3 1 3 :=
  maxPossiblePosAtRow_enc (by decide) (by decide)
/-- position 9 = (row 1, offset 1) of a 3-row forest is position 17 of a 4-row forest -/
example : Model.translatePos 9#64 3#8 4#8 = 17#64 := by decide
example : Model.translatePos (encU 3 1 1) (H8 3) (H8 4) = encU 4 1 1 :=
  translatePos_enc (by decide) (by decide) (by decide) (by decide) (by decide) (by decide)

theorem treeRows_spec {n : Nat} (hn : n < 2 ^ 64) :
    (Model.TreeRows (BitVec.ofNat 64 n)).toNat = Spec.forestRows n := by
  rw [treeRows_toNat, toNat_ofNat64_of_lt hn]

example : Model.TreeRows 5#64 = 3#8 ∧ Model.TreeRows 8#64 = 3#8 ∧ Model.TreeRows 9#64 = 4#8 := by
  decide
example : Spec.forestRows 5 = 3 ∧ Spec.forestRows 8 = 3 ∧ Spec.forestRows 9 = 4 := by decide

end UtreexoVerif.Props.C16
