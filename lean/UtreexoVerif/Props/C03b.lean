/-
  C03b — verification is sound *with respect to the specification forest*.

  `Props/C03.lean` proves soundness of the three verifiers against an abstract
  `ForestView`.  `Proofs/SpecView.lean` constructs that view from `Spec.Forest`
  (`specView`), so here the soundness theorems are restated with no abstract interface left:
  whatever `Verify` accepts against the roots of a specification forest `F` is a true claim
  about the nodes of `F`.

  Hypotheses:
  * `CR H`            — collision-freeness of the hash (hypothesis, never an axiom);
  * `LeafOK F`        — no moved-up live leaf carries a hash of the form `ph a b` with `a`, `b`
                        non-zero (`Proofs/SpecNodes.lean`; implied by the same condition on all
                        live leaves, `LeafOK.of_liveLeaves`);
  * `F.numLeaves < 2^63` — the forest fits Go's `uint64` position arithmetic (`TreeRows ≤ 63`);
  * the claimed hashes are non-zero.
-/
import UtreexoVerif.Props.C03
import UtreexoVerif.Proofs.SpecView

namespace UtreexoVerif.Props.C03b
open Model Hasher Spec
open UtreexoVerif.Proofs UtreexoVerif.Proofs.SpecNodes UtreexoVerif.Proofs.SpecView

section
variable (H : Type) [DecidableEq H] [Hasher H]

/-- what an accepted claim `(position, hash)` means in the specification forest: the value is
the encoding of a valid `(row, offset)` and the node there has that hash -/
def TrueClaim {H : Type} [DecidableEq H] [Hasher H] (F : Forest H) (x : U64 × H) : Prop :=
  ∃ r o, r ≤ F.rows ∧ o < 2 ^ (F.rows - r) ∧ x.1 = encU F.rows r o ∧ F.nodeAt (r, o) = some x.2

/-- stand-alone `Verify` against the roots of a specification forest -/
def verify_sound_spec_statement : Prop :=
  ∀ (F : Forest H), CR H → LeafOK F → F.numLeaves < 2 ^ 63 →
  ∀ (hs : List H) (ts : List U64) (ps : List H) (idx : List Nat),
    (∀ h ∈ hs, h ≠ (zero : H)) →
    verify (BitVec.ofNat 64 F.numLeaves) F.roots hs ts ps = .ok idx →
    ∀ x ∈ ts.zip hs, TrueClaim F x

/-- `Pollard.Verify` -/
def pollardVerify_sound_spec_statement : Prop :=
  ∀ (F : Forest H), CR H → LeafOK F → F.numLeaves < 2 ^ 63 →
  ∀ (hs : List H) (ts : List U64) (ps : List H),
    (∀ h ∈ hs, h ≠ (zero : H)) →
    pollardVerify (BitVec.ofNat 64 F.numLeaves) F.roots hs ts ps = .ok () →
    ∀ x ∈ ts.zip hs, TrueClaim F x

/-- `MapPollard.verify` with `TotalRows = TreeRows` -/
def mapVerify_sound_spec_statement : Prop :=
  ∀ (F : Forest H), CR H → LeafOK F → F.numLeaves < 2 ^ 63 →
  ∀ (hs : List H) (ts : List U64) (ps : List H) (idx : List Nat),
    (∀ h ∈ hs, h ≠ (zero : H)) →
    mapVerify (BitVec.ofNat 64 F.numLeaves) (TreeRows (BitVec.ofNat 64 F.numLeaves)) F.roots
      hs ts ps = .ok idx →
    ∀ x ∈ ts.zip hs, TrueClaim F x

end

section
variable {H : Type} [DecidableEq H] [Hasher H]

theorem verify_sound_spec_full : verify_sound_spec_statement H := by
  intro F cr hF hn hs ts ps idx hnz h x hx
  exact viewNodeAt_eq_some
    (C03.verify_sound _ _ (specView F hF hn cr) cr hs ts ps idx hnz h x hx)

theorem pollardVerify_sound_spec_full : pollardVerify_sound_spec_statement H := by
  intro F cr hF hn hs ts ps hnz h x hx
  exact viewNodeAt_eq_some
    (C03.pollardVerify_sound _ _ (specView F hF hn cr) cr hs ts ps hnz h x hx)

theorem mapVerify_sound_spec_full : mapVerify_sound_spec_statement H := by
  intro F cr hF hn hs ts ps idx hnz h x hx
  exact viewNodeAt_eq_some
    (C03.mapVerify_sound _ _ (specView F hF hn cr) cr hs ts ps idx hnz h x hx)

/-- **`Verify` is sound for the specification forest**: every accepted `(target, hash)` pair
names a position `(r, o)` of `F` whose node has that hash. -/
theorem verify_sound_spec {F : Forest H} (cr : CR H) (hF : LeafOK F) (hn : F.numLeaves < 2 ^ 63)
    {hs : List H} {ts : List U64} {ps : List H} {idx : List Nat}
    (hnz : ∀ h ∈ hs, h ≠ (zero : H))
    (h : verify (BitVec.ofNat 64 F.numLeaves) F.roots hs ts ps = .ok idx) :
    ∀ x ∈ ts.zip hs, ∃ r o, x.1 = encU F.rows r o ∧ F.nodeAt (r, o) = some x.2 := by
  intro x hx
  obtain ⟨r, o, _, _, h1, h2⟩ := verify_sound_spec_full F cr hF hn hs ts ps idx hnz h x hx
  exact ⟨r, o, h1, h2⟩

theorem pollardVerify_sound_spec {F : Forest H} (cr : CR H) (hF : LeafOK F)
    (hn : F.numLeaves < 2 ^ 63) {hs : List H} {ts : List U64} {ps : List H}
    (hnz : ∀ h ∈ hs, h ≠ (zero : H))
    (h : pollardVerify (BitVec.ofNat 64 F.numLeaves) F.roots hs ts ps = .ok ()) :
    ∀ x ∈ ts.zip hs, ∃ r o, x.1 = encU F.rows r o ∧ F.nodeAt (r, o) = some x.2 := by
  intro x hx
  obtain ⟨r, o, _, _, h1, h2⟩ := pollardVerify_sound_spec_full F cr hF hn hs ts ps hnz h x hx
  exact ⟨r, o, h1, h2⟩

theorem mapVerify_sound_spec {F : Forest H} (cr : CR H) (hF : LeafOK F)
    (hn : F.numLeaves < 2 ^ 63) {hs : List H} {ts : List U64} {ps : List H} {idx : List Nat}
    (hnz : ∀ h ∈ hs, h ≠ (zero : H))
    (h : mapVerify (BitVec.ofNat 64 F.numLeaves) (TreeRows (BitVec.ofNat 64 F.numLeaves)) F.roots
      hs ts ps = .ok idx) :
    ∀ x ∈ ts.zip hs, ∃ r o, x.1 = encU F.rows r o ∧ F.nodeAt (r, o) = some x.2 := by
  intro x hx
  obtain ⟨r, o, _, _, h1, h2⟩ := mapVerify_sound_spec_full F cr hF hn hs ts ps idx hnz h x hx
  exact ⟨r, o, h1, h2⟩

/-- a claimed position determines the node: an accepted hash at `encU rows r o` for a valid
`(r, o)` is *the* hash of the node at `(r, o)` -/
theorem verify_sound_spec_at {F : Forest H} (cr : CR H) (hF : LeafOK F)
    (hn : F.numLeaves < 2 ^ 63) {hs : List H} {ts : List U64} {ps : List H} {idx : List Nat}
    (hnz : ∀ h ∈ hs, h ≠ (zero : H))
    (h : verify (BitVec.ofNat 64 F.numLeaves) F.roots hs ts ps = .ok idx)
    {r o : Nat} {c : H} (hr : r ≤ F.rows) (ho : o < 2 ^ (F.rows - r))
    (hx : (encU F.rows r o, c) ∈ ts.zip hs) : F.nodeAt (r, o) = some c := by
  have := C03.verify_sound _ _ (specView F hF hn cr) cr hs ts ps idx hnz h _ hx
  rwa [specView_nodeAt_encU F hF hn cr hr ho] at this

end

/-! ### non-vacuity

A five-slot forest over the free term algebra `C03.Example.T` in which leaf 1 has been
deleted: the tree on row 2 collapses (leaf 0 moves up to `(1, 0)`), the tree on row 0 is
leaf 4.

```
row 2:            (2,0) = 12
row 1:   (1,0) = 8: leaf 0      (1,1) = 9
row 0:                      (0,2) = 2: leaf 2   (0,3) = 3: leaf 3        (0,4) = 4: leaf 4
```
-/

namespace Example
open C03.Example

def F : Forest T := ⟨[some (.leaf 0), none, some (.leaf 2), some (.leaf 3), some (.leaf 4)]⟩

example : F.numLeaves = 5 ∧ F.rows = 3 := by decide

example : F.roots = [T.node (.leaf 0) (.node (.leaf 2) (.leaf 3)), .leaf 4] := by decide +kernel

theorem leafOK : LeafOK F := by
  apply LeafOK.of_liveLeaves
  intro l hl a b _ _ he
  have : l = .leaf 0 ∨ l = .leaf 2 ∨ l = .leaf 3 ∨ l = .leaf 4 := by
    simpa [F, Forest.liveLeaves] using hl
  rcases this with rfl | rfl | rfl | rfl <;> cases he

theorem small : F.numLeaves < 2 ^ 63 := by decide

/-- the moved-up leaf 0 (position 8 = `(1, 0)`) and leaf 2 (position 2) are proved together
with the single proof hash leaf 3; the model accepts and matches root 0 -/
theorem accepted :
    verify (BitVec.ofNat 64 F.numLeaves) F.roots [T.leaf 0, .leaf 2] [8#64, 2#64] [.leaf 3]
      = .ok [0] := by
  decide +kernel

/-- the same claim for leaf 0 at its *old* position 0 is rejected -/
example :
    verify (BitVec.ofNat 64 F.numLeaves) F.roots [T.leaf 0, .leaf 2] [0#64, 2#64] [.leaf 3]
      = .err := by
  decide +kernel

example : ∀ x ∈ [8#64, 2#64].zip [T.leaf 0, T.leaf 2],
    ∃ r o, x.1 = encU F.rows r o ∧ F.nodeAt (r, o) = some x.2 :=
  verify_sound_spec cr leafOK small
    (by intro h hh; simp at hh; rcases hh with rfl | rfl <;> (intro hz; cases hz)) accepted

example : F.nodeAt (1, 0) = some (T.leaf 0) :=
  verify_sound_spec_at (F := F) cr leafOK small
    (by intro h hh; simp at hh; rcases hh with rfl | rfl <;> (intro hz; cases hz)) accepted
    (r := 1) (o := 0) (by decide) (by decide) (by decide)

example : F.nodeAt (0, 2) = some (T.leaf 2) :=
  verify_sound_spec_at (F := F) cr leafOK small
    (by intro h hh; simp at hh; rcases hh with rfl | rfl <;> (intro hz; cases hz)) accepted
    (r := 0) (o := 2) (by decide) (by decide) (by decide)

/-- the view of the example forest agrees with `nodeAt` on encoded positions and is empty on the
non-position `2^(rows+1) - 1 = 15` -/
example : (specView F leafOK small cr).nodeAt 9#64 = some (T.node (.leaf 2) (.leaf 3)) := by
  rw [specView_nodeAt]; decide +kernel

example : (specView F leafOK small cr).nodeAt 15#64 = none := by
  rw [specView_nodeAt]; decide +kernel

example : pollardVerify (BitVec.ofNat 64 F.numLeaves) F.roots [T.leaf 0, .leaf 2] [8#64, 2#64]
    [.leaf 3] = .ok () := by
  decide +kernel

example : mapVerify (BitVec.ofNat 64 F.numLeaves) (TreeRows (BitVec.ofNat 64 F.numLeaves)) F.roots
    [T.leaf 0, .leaf 2] [8#64, 2#64] [.leaf 3] = .ok [0] := by
  decide +kernel

end Example

end UtreexoVerif.Props.C03b
