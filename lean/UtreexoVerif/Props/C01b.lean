/-
  C01.3 / C05 (Stump) — `Stump.del` and `Stump.Update` refine the specification.

  * `stump_del_refines`: from the stump of `F`, `Stump.del` fed the canonical proof of `L` ends in
    the stump of `F.delLeaves L` (any request order, any hashes appended to the proof);
  * `stump_del_order_independent`: two encodings of the same deletion (the same leaves in another
    order, other appended hashes) end in the same stump;
  * `stump_update_refines`: together with a refinement of `Stump.add` (a hypothesis here — it is
    proved elsewhere), `Stump.Update` ends in the stump of `F.modify L adds`.
-/
import UtreexoVerif.Props.C11del
import UtreexoVerif.Props.C01
import UtreexoVerif.Proofs.LiveLeaves

namespace UtreexoVerif.Props.C01b
open Spec Model Hasher
open UtreexoVerif.Proofs
open UtreexoVerif.Props.C11del

section
variable {H : Type} [DecidableEq H] [Hasher H]

def stumpOf (F : Forest H) : Stump H := ⟨F.roots, BitVec.ofNat 64 F.numLeaves⟩

structure ForestOK (F : Forest H) : Prop where
  small : F.numLeaves ≤ 2 ^ 63
  ph_nonzero : ∀ a b : H, ph a b ≠ (zero : H)
  live_nonzero : ∀ l ∈ F.liveLeaves, l ≠ (zero : H)
  live_nodup : F.liveLeaves.Nodup

/-- **`Stump.del` refines `Forest.delLeaves`** (C01.3 for deletions) -/
theorem stump_del_refines {F : Forest H} (ok : ForestOK F) {L : List H} {targets : List Pos}
    {proofHashes : List H} (junk : List H) (hL : L.Nodup)
    (hc : F.canon L = some (targets, proofHashes)) :
    Stump.delSt (stumpOf F) L (targets.map (fun p => encU F.rows p.1 p.2)) (proofHashes ++ junk) =
      (⟨(F.delLeaves L).roots, BitVec.ofNat 64 F.numLeaves⟩, .ok (newDelSpec F L targets)) :=
  stump_newDel F ok.small ok.ph_nonzero ok.live_nonzero ok.live_nodup L targets proofHashes junk
    hL hc

theorem stumpOf_delLeaves (F : Forest H) (L : List H) :
    stumpOf (F.delLeaves L) = ⟨(F.delLeaves L).roots, BitVec.ofNat 64 F.numLeaves⟩ := by
  unfold stumpOf
  rw [numLeaves_delLeaves]

/-- **C05 for `Stump`, deletions**: the same leaves requested in another order, with other
hashes appended to the proof, leave the same stump behind -/
theorem stump_del_order_independent {F : Forest H} (ok : ForestOK F) {L L' : List H}
    {targets : List Pos} {proofHashes : List H} (junk junk' : List H) (hL : L.Nodup)
    (hL' : L'.Nodup) (hp : ∀ l, l ∈ L' ↔ l ∈ L) (hc : F.canon L = some (targets, proofHashes)) :
    ∃ targets', F.canon L' = some (targets', proofHashes) ∧
      (Stump.delSt (stumpOf F) L' (targets'.map (fun p => encU F.rows p.1 p.2))
        (proofHashes ++ junk')).1 =
      (Stump.delSt (stumpOf F) L (targets.map (fun p => encU F.rows p.1 p.2))
        (proofHashes ++ junk)).1 := by
  have hc' := C02.canon_perm hp hc
  refine ⟨_, hc', ?_⟩
  rw [stump_del_refines ok junk' hL' hc', stump_del_refines ok junk hL hc, delLeaves_congr F hp]

/-- what is assumed about `Stump.add` (proved elsewhere): from the stump of a forest `G`,
adding `adds` ends in the stump of `G.addMany adds` -/
def AddRefinesAt (nonZero : H) (G : Forest H) (adds : List H) : Prop :=
  ∃ r, Stump.add nonZero (stumpOf G) adds = .ok r ∧ r.1 = stumpOf (G.addMany adds)

/-- **`Stump.Update` refines `Forest.modify`**, given the refinement of `Stump.add` on the forest
after the deletions: the new stump is the stump of `F.modify L adds`, `NewDel` is as specified
and `PrevNumLeaves` is the old leaf count. -/
theorem stump_update_refines {F : Forest H} (ok : ForestOK F) {L : List H} {targets : List Pos}
    {proofHashes : List H} (junk : List H) (hL : L.Nodup)
    (hc : F.canon L = some (targets, proofHashes)) (nonZero : H) (adds : List H)
    (hadd : AddRefinesAt nonZero (F.delLeaves L) adds) :
    ∃ ud : UpdateData H,
      Stump.update nonZero (stumpOf F) L adds (targets.map (fun p => encU F.rows p.1 p.2))
        (proofHashes ++ junk) = .ok (stumpOf (F.modify L adds), ud) ∧
      ud.newDel = newDelSpec F L targets ∧
      ud.prevNumLeaves = BitVec.ofNat 64 F.numLeaves := by
  obtain ⟨r, hr, hr1⟩ := hadd
  rw [stumpOf_delLeaves] at hr
  refine ⟨{ toDestroy := r.2.2, prevNumLeaves := BitVec.ofNat 64 F.numLeaves,
            newDel := newDelSpec F L targets, newAdd := r.2.1 }, ?_, rfl, rfl⟩
  unfold Stump.update Stump.updateSt
  rw [stump_del_refines ok junk hL hc]
  simp only [hr]
  rw [hr1]
  rfl

/-- **`Stump.Update` refines `Forest.modify`, full statement** (the add refinement is a
hypothesis) -/
def stump_update_statement (H : Type) [DecidableEq H] [Hasher H] : Prop :=
  ∀ (F : Forest H), ForestOK F →
  ∀ (L : List H) (targets : List Pos) (proofHashes junk : List H), L.Nodup →
    F.canon L = some (targets, proofHashes) →
  ∀ (nonZero : H) (adds : List H), AddRefinesAt nonZero (F.delLeaves L) adds →
    ∃ ud : UpdateData H,
      Stump.update nonZero (stumpOf F) L adds (targets.map (fun p => encU F.rows p.1 p.2))
        (proofHashes ++ junk) = .ok (stumpOf (F.modify L adds), ud) ∧
      ud.newDel = newDelSpec F L targets ∧
      ud.prevNumLeaves = BitVec.ofNat 64 F.numLeaves

theorem stump_update_full : stump_update_statement H :=
  fun _ ok _ _ _ junk hL hc nonZero adds hadd =>
    stump_update_refines ok junk hL hc nonZero adds hadd

/-- the same with the add refinement as a general hypothesis over all forests satisfying a side
condition `C` (whatever the add theorem needs) -/
theorem stump_update_refines' (nonZero : H) (C : Forest H → List H → Prop)
    (hadd : ∀ (G : Forest H) (adds : List H), C G adds → AddRefinesAt nonZero G adds)
    {F : Forest H} (ok : ForestOK F) {L : List H} {targets : List Pos}
    {proofHashes : List H} (junk : List H) (hL : L.Nodup)
    (hc : F.canon L = some (targets, proofHashes)) (adds : List H) (hC : C (F.delLeaves L) adds) :
    ∃ ud : UpdateData H,
      Stump.update nonZero (stumpOf F) L adds (targets.map (fun p => encU F.rows p.1 p.2))
        (proofHashes ++ junk) = .ok (stumpOf (F.modify L adds), ud) ∧
      ud.newDel = newDelSpec F L targets ∧
      ud.prevNumLeaves = BitVec.ofNat 64 F.numLeaves :=
  stump_update_refines ok junk hL hc nonZero adds (hadd _ adds hC)

/-- **the whole-block refinement of `Stump.Update`** (`stump_update_refines_statement` of
`Props/C01.lean`), from the add refinement proved there -/
theorem stump_update_refines_of_add (hadd : C01.stump_add_refines_statement H) :
    C01.stump_update_refines_statement H := by
  intro nonZero F s dels adds targets proof nz _ hr hn hlt hnd hlive hadds hdn _ hc
  have hs : s = stumpOf F := by
    cases s
    simp only at hr hn
    subst hr hn
    rfl
  subst hs
  have ok : ForestOK F := ⟨by omega, nz.nonzero, fun l hl => (hlive l hl).1, hnd⟩
  have haddAt : AddRefinesAt nonZero (F.delLeaves dels) adds := by
    obtain ⟨upd, td, h⟩ := hadd nonZero (F.delLeaves dels) (stumpOf (F.delLeaves dels)) adds
      nz.nonzero rfl rfl (by rw [numLeaves_delLeaves]; omega)
      (fun y hy => (hlive y (Proofs.LiveLeaves.mem_liveLeaves_delLeaves.1 hy).1).1) hadds
    refine ⟨_, h, ?_⟩
    simp only [stumpOf, numLeaves_addMany]
  obtain ⟨ud, h1, _, _⟩ := stump_update_refines ok [] hdn hc nonZero adds haddAt
  rw [List.append_nil] at h1
  exact ⟨ud, h1⟩

end

namespace Example
open C03.Example C03b.Example C02.Example C11del.Example

theorem ok : ForestOK F := ⟨Nat.le_of_lt small, cr.nonzero, live_nonzero, live_nodup⟩

/-- delete leaf 2 from the five-slot forest: the stump of the result -/
example : (Stump.delSt (stumpOf F) [T.leaf 2] [2#64] [T.leaf 3, .leaf 0]).1 =
    stumpOf (F.delLeaves [T.leaf 2]) := by
  have := stump_del_refines ok [] (by decide) canonA
  rw [List.append_nil] at this
  rw [stumpOf_delLeaves]
  exact congrArg Prod.fst this

/-- the add-refinement hypothesis holds on the concrete instance (adding two leaves after the
deletion), so `stump_update_refines` applies -/
theorem addAt : AddRefinesAt (T.leaf 1000) (F.delLeaves [T.leaf 2]) [T.leaf 5, .leaf 6] := by
  refine ⟨_, rfl, ?_⟩
  decide +kernel

example : ∃ ud : UpdateData T,
    Stump.update (T.leaf 1000) (stumpOf F) [T.leaf 2] [T.leaf 5, .leaf 6] [2#64]
      [T.leaf 3, .leaf 0] = .ok (stumpOf (F.modify [T.leaf 2] [T.leaf 5, .leaf 6]), ud) ∧
    ud.newDel = [(2#64, T.z), (9#64, T.leaf 3), (12#64, T.node (.leaf 0) (.leaf 3))] ∧
    ud.prevNumLeaves = 5#64 := by
  obtain ⟨ud, h1, h2, h3⟩ := stump_update_refines ok [] (by decide) canonA (T.leaf 1000)
    [T.leaf 5, .leaf 6] addAt
  rw [List.append_nil] at h1
  refine ⟨ud, h1, ?_, h3⟩
  rw [h2]
  decide +kernel

/-- `F.liveLeaves.Nodup` is necessary: with the same leaf hash in two slots the specification
(`delLeaves` deletes by leaf identity) kills both slots, while the canonical proof — and so
`Stump.del` — covers only the first one. -/
def Fdup : Forest T := ⟨[some (.leaf 7), some (.leaf 7)]⟩

example : Fdup.canon [T.leaf 7] = some ([(0, 0)], [T.leaf 7]) := by decide +kernel

example : (Stump.delSt (stumpOf Fdup) [T.leaf 7] [0#64] [T.leaf 7]).1.roots = [T.leaf 7] ∧
    (Fdup.delLeaves [T.leaf 7]).roots = [T.z] := by decide +kernel

end Example

end UtreexoVerif.Props.C01b
