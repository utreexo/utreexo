/-
  C16 (continued) — multi-step ancestors/descendants, root positions, forest membership,
  ancestor test, `calcNextPosition`/`calcPrevPosition`, `DetectOffset`.

  Conventions as in `Props/C16.lean`: `encU h r o` is the `uint64` position of node
  (row `r`, offset `o`) in a forest allocated for `h` rows, `H8 h` a row count as `uint8`.
  Standing hypotheses: `h ≤ 63`, `r ≤ h`, `o < 2^(h-r)`.
-/
import UtreexoVerif.Proofs.Geometry2
import UtreexoVerif.Proofs.DetectOffset
import UtreexoVerif.Props.C16
import UtreexoVerif.Proofs.SpecForest

namespace UtreexoVerif.Props.C16
open UtreexoVerif.GoInt UtreexoVerif.Proofs

/-- `ParentMany` climbs `k` rows: `(r, o) ↦ (r + k, o / 2^k)`, without error -/
theorem parentMany_enc {h r o k : Nat} (hh : h ≤ 63) (hr : r + k ≤ h) (ho : o < 2 ^ (h - r)) :
    Model.ParentMany (encU h r o) (H8 k) (H8 h) = (encU h (r + k) (o / 2 ^ k), false) := by
  rw [parentMany_toNat hh (by omega) _
    (by rw [toNat_encU hh (by omega) ho]; have := enc_lt_aux (show r ≤ h by omega) ho; omega),
    toNat_encU hh (by omega) ho, enc_div_two_pow hr]
  rfl

/-- `ParentMany` reports an error exactly when `rise > forestRows` (all inputs) -/
theorem parentMany_error_iff (x : U64) (rise forestRows : U8) :
    (Model.ParentMany x rise forestRows).2 = true ↔ rise > forestRows := by
  rw [parentMany_err]; simp [BitVec.lt_def]

theorem parent_iterate_enc {h r o k : Nat} (hh : h ≤ 63) (hr : r + k ≤ h) (ho : o < 2 ^ (h - r)) :
    Nat.repeat (fun p => Model.Parent p (H8 h)) k (encU h r o) = encU h (r + k) (o / 2 ^ k) := by
  induction k with
  | zero => simp [Nat.repeat]
  | succ k ih =>
    have hok := (ValidH.up (p := (r, o)) ⟨by omega, ho⟩ (show r + k ≤ h by omega)).2
    rw [Nat.repeat, ih (by omega), parent_enc hh (by omega) hok, Nat.div_div_eq_div_mul,
      Nat.pow_succ]
    rfl

/-- `ParentMany` is `Parent` iterated -/
theorem parentMany_eq_iterate {h r o k : Nat} (hh : h ≤ 63) (hr : r + k ≤ h) (ho : o < 2 ^ (h - r)) :
    (Model.ParentMany (encU h r o) (H8 k) (H8 h)).1 =
      Nat.repeat (fun p => Model.Parent p (H8 h)) k (encU h r o) := by
  rw [parentMany_enc hh hr ho, parent_iterate_enc hh hr ho]

example : Model.ParentMany 1#64 2#8 3#8 = (12#64, false) := by decide
example : Model.ParentMany 1#64 4#8 3#8 = (0#64, true) := by decide
example : Model.ParentMany (encU 3 0 5) (H8 2) (H8 3) = (encU 3 2 1, false) :=
  parentMany_enc (by decide) (by decide) (by decide)


/-- `ChildMany` descends `k` rows along left children: `(r, o) ↦ (r - k, o * 2^k)` -/
theorem childMany_enc {h r o k : Nat} (hh : h ≤ 63) (hr : r ≤ h) (hk : k ≤ r) (ho : o < 2 ^ (h - r)) :
    Model.ChildMany (encU h r o) (H8 k) (H8 h) = (encU h (r - k) (o * 2 ^ k), false) := by
  by_cases hk0 : k = 0
  · subst hk0
    rw [Nat.sub_zero, Nat.pow_zero, Nat.mul_one]
    rfl
  · unfold Model.ChildMany
    rw [H8_beq_zero_eq (by omega), decide_eq_false hk0,
      decide_eq_false (show ¬ (H8 k > H8 h) from fun hc => by
        have := (H8_lt_iff (by omega) (by omega)).1 hc; omega)]
    simp only [Bool.false_eq_true, if_false]
    congr 1
    apply BitVec.eq_of_toNat_eq
    rw [toNat_H8 hh, toNat_H8 (by omega), toNat_shl_and_mask hh, toNat_encU hh hr ho,
      toNat_encU hh (by omega) (mul_two_pow_lt hr hk ho), childMany_nat hr hk ho]

/-- `ChildMany` reports an error exactly when `drop > forestRows` (all inputs) -/
theorem childMany_error_iff (x : U64) (drop forestRows : U8) :
    (Model.ChildMany x drop forestRows).2 = true ↔ drop > forestRows := by
  rw [childMany_err]; simp [BitVec.lt_def]

theorem leftChild_iterate_enc {h r o k : Nat} (hh : h ≤ 63) (hr : r ≤ h) (hk : k ≤ r)
    (ho : o < 2 ^ (h - r)) :
    Nat.repeat (fun p => Model.LeftChild p (H8 h)) k (encU h r o) = encU h (r - k) (o * 2 ^ k) := by
  induction k with
  | zero => simp [Nat.repeat]
  | succ k ih =>
    have hok := mul_two_pow_lt hr (show k ≤ r by omega) ho
    have e : r - k = (r - (k + 1)) + 1 := by omega
    rw [Nat.repeat, ih (by omega), e, leftChild_enc hh (by omega) (by rw [← e]; exact hok),
      Nat.pow_succ]
    congr 1
    rw [Nat.mul_comm, Nat.mul_assoc]

/-- `ChildMany` is `LeftChild` iterated -/
theorem childMany_eq_iterate {h r o k : Nat} (hh : h ≤ 63) (hr : r ≤ h) (hk : k ≤ r)
    (ho : o < 2 ^ (h - r)) :
    (Model.ChildMany (encU h r o) (H8 k) (H8 h)).1 =
      Nat.repeat (fun p => Model.LeftChild p (H8 h)) k (encU h r o) := by
  rw [childMany_enc hh hr hk ho, leftChild_iterate_enc hh hr hk ho]

/-- climbing back up after descending returns to the start -/
theorem parentMany_childMany {h r o k : Nat} (hh : h ≤ 63) (hr : r ≤ h) (hk : k ≤ r)
    (ho : o < 2 ^ (h - r)) :
    Model.ParentMany (Model.ChildMany (encU h r o) (H8 k) (H8 h)).1 (H8 k) (H8 h) =
      (encU h r o, false) := by
  rw [childMany_enc hh hr hk ho, parentMany_enc hh (by omega) (mul_two_pow_lt hr hk ho),
    Nat.mul_div_cancel _ (Nat.two_pow_pos _), show r - k + k = r by omega]

/-- descending after climbing gives the leftmost descendant of the ancestor on the original row -/
theorem childMany_parentMany {h r o k : Nat} (hh : h ≤ 63) (hr : r + k ≤ h) (ho : o < 2 ^ (h - r)) :
    Model.ChildMany (Model.ParentMany (encU h r o) (H8 k) (H8 h)).1 (H8 k) (H8 h) =
      (encU h r (o / 2 ^ k * 2 ^ k), false) := by
  have hok := (ValidH.up (p := (r, o)) ⟨by omega, ho⟩ hr).2
  rw [parentMany_enc hh hr ho, childMany_enc hh (by omega) (by omega) hok,
    show r + k - k = r by omega]

example : Model.ChildMany 12#64 2#8 3#8 = (0#64, false) := by decide
example : Model.ChildMany 13#64 2#8 3#8 = (4#64, false) := by decide
example : Model.ChildMany 13#64 4#8 3#8 = (0#64, true) := by decide
example : Model.ChildMany (encU 63 63 0) (H8 63) (H8 63) = (encU 63 0 0, false) :=
  childMany_enc (by decide) (by decide) (by decide) (by decide)


/-- `rootPosition` is the encoding of `Spec.rootPos` (for `numLeaves < 2^(h+1)`, in particular
for every `numLeaves ≤ 2^h`, the capacity of a forest with `h` rows) -/
theorem rootPosition_enc {h row : Nat} (hh : h ≤ 63) (hrow : row ≤ h) (n : U64)
    (hn : n.toNat < 2 ^ (h + 1)) :
    Model.rootPosition n (H8 row) (H8 h) = encU h row (Spec.rootPos n.toNat row).2 := by
  apply BitVec.eq_of_toNat_eq
  have f := enc_facts hrow
  have h64 : 2 ^ (h + 1) ≤ 2 ^ 64 := two_pow_le_of_le (by omega)
  have hd : n.toNat / 2 ^ (row + 1) < 2 ^ (h - row) := by
    rw [show h - row = h + 1 - (row + 1) by omega]; exact div_two_pow_lt (by omega) hn
  rw [rootPosition_toNat hh hrow n hn]
  show _ = (BitVec.ofNat 64 (Spec.enc h (row, 2 * (n.toNat >>> (row + 1))))).toNat
  rw [enc_val, Nat.shiftRight_eq_div_pow, toNat_ofNat64_of_lt (by omega)]

/-- the root of an existing tree is a proper position of the forest -/
theorem rootPos_valid {n h row : Nat} (hn : n ≤ 2 ^ h) (hb : n.testBit row = true) :
    row ≤ h ∧ (Spec.rootPos n row).2 < 2 ^ (h - row) :=
  rootPos_offset_lt hn hb

/-- a tree exists on row `h` iff bit `h` of the leaf count is set (all inputs) -/
theorem rootExistsOnRow_spec (n : U64) (row : U8) :
    Model.rootExistsOnRow n row = n.toNat.testBit row.toNat :=
  rootExistsOnRow_eq n row

/-- `h = TreeRows n` rows have room for `n` leaves -/
theorem le_of_treeRows {h : Nat} (n : U64) (hT : Model.TreeRows n = H8 h) (hh : h ≤ 63) :
    n.toNat ≤ 2 ^ h := by
  have h1 := treeRows_toNat n
  rw [hT, toNat_H8 hh] at h1
  rw [h1]
  exact forestRows_spec_le _

/-- `isRootPositionOnRow` for the forest height `h = TreeRows numLeaves`:
true iff the requested row is the position's row and the position is the root of the tree on
that row (`Spec.isRootPos`); any `row : uint8`. -/
theorem isRootPositionOnRow_enc {h r o : Nat} (n : U64) (row : U8)
    (hT : Model.TreeRows n = H8 h)
    (hh : h ≤ 63) (hr : r ≤ h) (ho : o < 2 ^ (h - r)) :
    Model.isRootPositionOnRow (encU h r o) n row =
      (decide (row.toNat = r) && Spec.isRootPos n.toNat (r, o)) := by
  have hn := le_of_treeRows n hT hh
  obtain ⟨k, hk, rfl⟩ : ∃ k, row.toNat = k ∧ row = H8 k := ⟨row.toNat, rfl, by simp [H8]⟩
  unfold Model.isRootPositionOnRow
  simp only [rootPresent_eq, hT, hk]
  cases hb : n.toNat.testBit k
  · simp only [Bool.false_and]
    by_cases hrr : k = r
    · simp [Spec.isRootPos, ← hrr, hb]
    · simp [hrr]
  · obtain ⟨hrow, hoff⟩ := rootPos_valid hn hb
    have f := two_pow_succ' h
    have f' := Nat.two_pow_pos h
    rw [rootPosition_enc hh hrow n (by omega)]
    simp only [Bool.true_and]
    by_cases hrr : k = r
    · subst hrr
      simp only [Spec.isRootPos, hb, Bool.true_and, decide_true]
      by_cases ho2 : o = 2 * (n.toNat >>> (k + 1))
      · subst ho2; simp [Spec.rootPos]
      · have : encU h k (Spec.rootPos n.toNat k).2 ≠ encU h k o := fun hc =>
          ho2 (encU_inj hh hrow hoff hr ho hc).2.symm
        rw [beq_false_of_ne this, beq_false_of_ne ho2]
    · have : encU h k (Spec.rootPos n.toNat k).2 ≠ encU h r o := fun hc =>
        hrr (encU_inj hh hrow hoff hr ho hc).1
      simp [this, hrr]


/-- `isRootPosition` (forest height `TreeRows numLeaves`) decides `Spec.isRootPos` -/
theorem isRootPosition_enc {h r o : Nat} (n : U64) (hT : Model.TreeRows n = H8 h)
    (hh : h ≤ 63) (hr : r ≤ h) (ho : o < 2 ^ (h - r)) :
    Model.isRootPosition (encU h r o) n = Spec.isRootPos n.toNat (r, o) := by
  unfold Model.isRootPosition
  simp only [hT, detectRow_enc hh hr ho]
  rw [isRootPositionOnRow_enc n _ hT hh hr ho, toNat_H8 (by omega)]
  simp

/-- `isRootPositionTotalRows`: the position is given in a forest allocated for `H` rows;
it must also exist in the forest of `h = TreeRows numLeaves` rows (true of every position
that is in the forest) -/
theorem isRootPositionTotalRows_enc {H h r o : Nat} (n : U64) (hT : Model.TreeRows n = H8 h)
    (hH : H ≤ 63) (hrH : r ≤ H) (hoH : o < 2 ^ (H - r))
    (hh : h ≤ 63) (hr : r ≤ h) (ho : o < 2 ^ (h - r)) :
    Model.isRootPositionTotalRows (encU H r o) n (H8 H) = Spec.isRootPos n.toNat (r, o) := by
  unfold Model.isRootPositionTotalRows
  rw [hT]
  split
  · rw [translatePos_enc hH hrH hoH hh hr ho, isRootPosition_enc n hT hh hr ho]
  · rename_i hne
    have : H = h := H8_inj (by omega) (by omega) (by simpa using hne)
    subst this
    exact isRootPosition_enc n hT hh hr ho

theorem isRootPositionOnRowTotalRows_enc {H h r o : Nat} (n : U64) (row : U8)
    (hT : Model.TreeRows n = H8 h)
    (hH : H ≤ 63) (hrH : r ≤ H) (hoH : o < 2 ^ (H - r))
    (hh : h ≤ 63) (hr : r ≤ h) (ho : o < 2 ^ (h - r)) :
    Model.isRootPositionOnRowTotalRows (encU H r o) n row (H8 H) =
      (decide (row.toNat = r) && Spec.isRootPos n.toNat (r, o)) := by
  unfold Model.isRootPositionOnRowTotalRows
  rw [hT]
  split
  · rw [translatePos_enc hH hrH hoH hh hr ho, isRootPositionOnRow_enc n row hT hh hr ho]
  · rename_i hne
    have : H = h := (H8_inj (by omega) (by omega) (by simpa using hne)).symm
    subst this
    exact isRootPositionOnRow_enc n row hT hh hr ho

/-- 5 leaves: trees on rows 2 and 0; `TreeRows 5 = 3`; roots at (2, 0) = 12 and (0, 4) = 4 -/
example : Model.isRootPosition 12#64 5#64 = true ∧ Model.isRootPosition 4#64 5#64 = true ∧
    Model.isRootPosition 13#64 5#64 = false ∧ Model.rootPosition 5#64 2#8 3#8 = 12#64 := by decide
example : Model.isRootPosition (encU 3 2 0) 5#64 = Spec.isRootPos 5 (2, 0) :=
  isRootPosition_enc 5#64 (by decide) (by decide) (by decide) (by decide)
example : Spec.isRootPos 5 (2, 0) = true := by decide

/-- Boundary remark: when the position does not exist in the `TreeRows numLeaves`-row forest
(it is then outside the forest), `isRootPositionTotalRows` can answer `true`:
leaf slot 4 of a 3-row allocation is not a node of a 3-leaf forest, but translates to
position 4 of the 2-row forest, which is the root (1, 0). -/
example : Model.isRootPositionTotalRows 4#64 3#64 3#8 = true ∧
    Spec.isRootPos 3 (0, 4) = false := by decide


theorem rootPositionsFrom_spec {h : Nat} (hh : h ≤ 63) (n : U64) (hn : n.toNat < 2 ^ (h + 1)) :
    ∀ k, k ≤ h → Model.rootPositionsFrom n (H8 h) k =
      (Spec.treeRowsFrom k n.toNat).map (fun r => encU h r (Spec.rootPos n.toNat r).2)
  | 0, _ => by
    rw [Model.rootPositionsFrom, Spec.treeRowsFrom, rootExistsOnRow_eq]
    rw [show (0#8 : U8) = H8 0 from rfl, rootPosition_enc hh (Nat.zero_le h) n hn,
      show (H8 0).toNat = 0 from rfl]
    split <;> rfl
  | k + 1, hk => by
    rw [Model.rootPositionsFrom, Spec.treeRowsFrom, rootExistsOnRow_eq, toNat_H8 (by omega),
      rootPosition_enc hh hk n hn, rootPositionsFrom_spec hh n hn k (by omega)]
    split <;> rfl

/-- `RootPositions numLeaves h` lists the roots of the trees given by the set bits of
`numLeaves`, highest tree first, whenever the forest of `h ≤ 63` rows has room for the leaves -/
theorem rootPositions_spec {h : Nat} (hh : h ≤ 63) (n : U64) (hn : n.toNat ≤ 2 ^ h) :
    Model.RootPositions n (H8 h) =
      (Spec.treeRows n.toNat).map (fun r => encU h r (Spec.rootPos n.toNat r).2) := by
  have f := two_pow_succ' h
  have f' := Nat.two_pow_pos h
  unfold Model.RootPositions
  rw [toNat_H8 hh, rootPositionsFrom_spec hh n (by omega) h (Nat.le_refl _),
    treeRows_eq_from (by omega) (show n.toNat < 2 ^ (h + 1) by omega)]

/-- every listed row carries a tree, so each listed root is a proper position -/
theorem mem_treeRows {n r : Nat} (hr : r ∈ Spec.treeRows n) : n.testBit r = true :=
  (Spec.mem_treeRows.1 hr).2

example : Model.RootPositions 5#64 3#8 = [12#64, 4#64] := by decide
example : Model.RootPositions 5#64 (H8 3) = (Spec.treeRows 5).map (fun r => encU 3 r (Spec.rootPos 5 r).2) :=
  rootPositions_spec (by decide) 5#64 (by decide)
example : Spec.treeRows 5 = [2, 0] := by decide


/-- `maxPositionAtRow row h n` is one less than the position (row, n / 2^row) — the last
position of the row whose leaves all lie below `n` (for `n ≥ 2^row`); it is `0` for the
empty forest on row 0.  Holds for every `n < 2^(h+1)`, in particular `n ≤ 2^h`. -/
theorem maxPositionAtRow_enc {h row : Nat} (hh : h ≤ 63) (hrow : row ≤ h) (n : U64)
    (hn : n.toNat < 2 ^ (h + 1)) :
    Model.maxPositionAtRow (H8 row) (H8 h) n =
      (BitVec.ofNat 64 (Spec.enc h (row, n.toNat / 2 ^ row) - 1), false) := by
  have f := enc_facts hrow
  have h64 : 2 ^ (h + 1) ≤ 2 ^ 64 := two_pow_le_of_le (by omega)
  have hd : n.toNat / 2 ^ row < 2 ^ (h + 1 - row) := div_two_pow_lt (by omega) hn
  unfold Model.maxPositionAtRow
  rw [parentMany_toNat hh hrow n hn, enc_val]
  generalize n.toNat / 2 ^ row = q at *
  simp only [Bool.false_eq_true, if_false]
  rw [bne_zero_eq, toNat_ofNat64_of_lt (by omega)]
  by_cases hq : 2 ^ (h + 1) - 2 ^ (h + 1 - row) + q = 0
  · rw [hq]; rfl
  · rw [decide_eq_true hq, if_pos rfl]
    congr 1
    exact BitVec.ofNat_sub_ofNat_of_le _ 1 (by decide) (by omega)

/-- for a forest with at least `2^row` leaves this is the last node of the row that lies
entirely below `numLeaves` -/
theorem maxPositionAtRow_enc' {h row : Nat} (hh : h ≤ 63) (hrow : row ≤ h) (n : U64)
    (hn : n.toNat < 2 ^ (h + 1)) (hge : 2 ^ row ≤ n.toNat) :
    Model.maxPositionAtRow (H8 row) (H8 h) n = (encU h row (n.toNat / 2 ^ row - 1), false) := by
  rw [maxPositionAtRow_enc hh hrow n hn]
  have : 0 < n.toNat / 2 ^ row := Nat.div_pos hge (Nat.two_pow_pos _)
  generalize n.toNat / 2 ^ row = q at *
  unfold encU
  rw [enc_val, enc_val]
  congr 2
  omega

theorem maxPositionAtRow_error_iff (row forestRows : U8) (n : U64) :
    (Model.maxPositionAtRow row forestRows n).2 = true ↔ row > forestRows := by
  rw [← parentMany_error_iff n]
  unfold Model.maxPositionAtRow
  rcases Model.ParentMany n row forestRows with ⟨m, e⟩
  cases e <;> simp <;> split <;> simp

example : Model.maxPositionAtRow 1#8 3#8 5#64 = (9#64, false) := by decide
example : Model.maxPositionAtRow (H8 1) (H8 3) 5#64 = (encU 3 1 1, false) :=
  maxPositionAtRow_enc' (by decide) (by decide) 5#64 (by decide) (by decide)


/-- `inForest`: a position is in the forest iff the leaves below it, the slots
`[o * 2^r, (o + 1) * 2^r)`, all lie within `[0, numLeaves)`.  Any `numLeaves : uint64`. -/
theorem inForest_enc {h r o : Nat} (hh : h ≤ 63) (hr : r ≤ h) (ho : o < 2 ^ (h - r)) (n : U64) :
    Model.inForest (encU h r o) n (H8 h) = decide ((o + 1) * 2 ^ r ≤ n.toNat) := by
  obtain ⟨hle, hcap, hpos⟩ := last_leaf_le_enc hr ho
  have hlt := enc_lt_aux hr ho
  have h64 : 2 ^ (h + 1) ≤ 2 ^ 64 := two_pow_le_of_le (by omega)
  have f := two_pow_succ' h
  unfold Model.inForest
  by_cases h1 : encU h r o < n
  · have h1' := h1
    rw [BitVec.lt_def, toNat_encU hh hr ho] at h1'
    simp only [h1, decide_true, if_true]
    symm; rw [decide_eq_true_iff]; omega
  · simp only [h1, decide_false, Bool.false_eq_true, if_false]
    rw [toNat_H8 hh, shl_one_shl_one]
    have h2 : ¬ (encU h r o ≥ shl 2#64 h - 1#64) := by
      rw [ge_iff_le, BitVec.le_def, toNat_mask hh, toNat_encU hh hr ho]; omega
    simp only [h2, decide_false, Bool.false_eq_true, if_false]
    rw [inForest_loop hh r o 300 hr ho (by omega)]
    simp only
    rw [encU_row_zero]
    congr 1
    rw [BitVec.lt_def, toNat_ofNat64_of_lt (by omega)]
    apply propext
    omega

/-- values that are not positions of the `h`-row forest (`≥ 2^(h+1) - 1`) are in the forest
only through the first test `pos < numLeaves`, which cannot hold when `numLeaves ≤ 2^h` -/
theorem inForest_out_of_range {h : Nat} (hh : h ≤ 63) (p n : U64)
    (hp : 2 ^ (h + 1) - 1 ≤ p.toNat) : Model.inForest p n (H8 h) = decide (p < n) := by
  unfold Model.inForest
  by_cases h1 : p < n
  · simp [h1]
  · simp only [h1, decide_false, Bool.false_eq_true, if_false]
    rw [toNat_H8 hh, shl_one_shl_one]
    have h2 : p ≥ shl 2#64 h - 1#64 := by
      rw [ge_iff_le, BitVec.le_def, toNat_mask hh]; exact hp
    simp [h2]

example : Model.inForest 12#64 5#64 3#8 = true ∧ Model.inForest 13#64 5#64 3#8 = false ∧
    Model.inForest 10#64 5#64 3#8 = false ∧ Model.inForest 4#64 5#64 3#8 = true := by decide
example : Model.inForest (encU 3 2 0) 5#64 (H8 3) = decide ((0 + 1) * 2 ^ 2 ≤ 5) :=
  inForest_enc (by decide) (by decide) (by decide) 5#64

/-- … equivalently: the node is, or lies below, the root of one of the trees given by the
binary digits of the leaf count -/
theorem inForest_iff_below_root {h r o : Nat} (hh : h ≤ 63) (hr : r ≤ h) (ho : o < 2 ^ (h - r))
    (n : U64) :
    Model.inForest (encU h r o) n (H8 h) = true ↔
      ∃ R, r ≤ R ∧ n.toNat.testBit R = true ∧ o / 2 ^ (R - r) = (Spec.rootPos n.toNat R).2 := by
  rw [inForest_enc hh hr ho, decide_eq_true_iff, below_root_iff]
  rfl

/-- every `uint64` below `2^(h+1) - 1` is the position of exactly one node `(r, o)` of the
`h`-row geometry (uniqueness: `enc_injective`), so the theorems of this file cover every
value `inForest` can accept -/
theorem position_exists {h : Nat} (p : U64) (hp : p.toNat < 2 ^ (h + 1) - 1) :
    ∃ r o, r ≤ h ∧ o < 2 ^ (h - r) ∧ p = encU h r o := by
  obtain ⟨r, o, hr, ho, e⟩ := enc_surjective hp
  refine ⟨r, o, hr, ho, ?_⟩
  unfold encU
  rw [e]
  simp

/-- `isAncestor higher lower`: strictly higher row and the `ParentMany` image coincides -/
theorem isAncestor_enc {h r o r' o' : Nat} (hh : h ≤ 63) (hr : r ≤ h) (ho : o < 2 ^ (h - r))
    (hr' : r' ≤ h) (ho' : o' < 2 ^ (h - r')) :
    Model.isAncestor (encU h r' o') (encU h r o) (H8 h) =
      decide (r < r' ∧ o / 2 ^ (r' - r) = o') := by
  unfold Model.isAncestor
  by_cases heq : encU h r' o' = encU h r o
  · obtain ⟨rfl, rfl⟩ := encU_inj hh hr' ho' hr ho heq
    simp
  · rw [beq_false_of_ne heq]
    simp only [Bool.false_eq_true, if_false, detectRow_enc hh hr ho, detectRow_enc hh hr' ho']
    by_cases hlt : r' < r
    · rw [decide_eq_true ((H8_lt_iff (by omega) (by omega)).2 hlt), if_pos rfl]
      symm; rw [decide_eq_false_iff_not]; omega
    · rw [decide_eq_false (fun hc => hlt ((H8_lt_iff (by omega) (by omega)).1 hc))]
      simp only [Bool.false_eq_true, if_false]
      rw [H8_sub (by omega) (by omega), parentMany_enc hh (by omega) ho,
        show r + (r' - r) = r' by omega]
      simp only [Bool.false_or]
      have hok : o / 2 ^ (r' - r) < 2 ^ (h - r') := by
        rw [show h - r' = h - r - (r' - r) by omega]; exact div_two_pow_lt (by omega) ho
      by_cases hoo : o / 2 ^ (r' - r) = o'
      · have hrr : r < r' := by
          rcases Nat.lt_or_ge r r' with h' | h'
          · exact h'
          · exfalso
            have : r' = r := by omega
            subst this
            rw [Nat.sub_self, Nat.pow_zero, Nat.div_one] at hoo
            subst hoo
            exact heq rfl
        simp [hoo, hrr]
      · have : encU h r' o' ≠ encU h r' (o / 2 ^ (r' - r)) := fun hc =>
          hoo (encU_inj hh hr' ho' hr' hok hc).2.symm
        simp [this, hoo]

/-- 12 = (2,0) is an ancestor of 0 = (0,0); 13 = (2,1) is not -/
example : Model.isAncestor 12#64 0#64 3#8 = true ∧ Model.isAncestor 13#64 0#64 3#8 = false := by
  decide
example : Model.isAncestor (encU 3 2 0) (encU 3 0 0) (H8 3) = decide (0 < 2 ∧ 0 / 2 ^ (2 - 0) = 0) :=
  isAncestor_enc (by decide) (by decide) (by decide) (by decide) (by decide)


/-- `removeBit` deletes bit `bit` (bits above move down); all inputs -/
theorem removeBit_spec (v bit : U64) :
    (Model.removeBit v bit).toNat = removeBitNat v.toNat bit.toNat :=
  removeBit_toNat v bit

/-- `addBit` inserts `bit` at `place` (bits at and above move up, the top bit is lost); all inputs -/
theorem addBit_spec (v place : U64) (bit : Bool) :
    (Model.addBit v place bit).toNat = addBitNat v.toNat place.toNat bit % 2 ^ 64 :=
  addBit_toNat v place bit

theorem removeBitNat_testBit (v b j : Nat) :
    (removeBitNat v b).testBit j = if j < b then v.testBit j else v.testBit (j + 1) :=
  testBit_removeBitNat v b j

theorem addBitNat_testBit (v p : Nat) (bit : Bool) (j : Nat) :
    (addBitNat v p bit).testBit j =
      if j < p then v.testBit j else if j = p then bit else v.testBit (j - 1) :=
  testBit_addBitNat v p bit j

/-- removing the bit that was just inserted gives the value back, provided the top bit of
the value was clear (it is shifted out otherwise); any place -/
theorem removeBit_addBit (v place : U64) (bit : Bool) (hv : v.toNat < 2 ^ 63) :
    Model.removeBit (Model.addBit v place bit) place = v := by
  apply BitVec.eq_of_getLsbD_eq
  intro i hi
  rw [removeBit_getLsbD]
  have h63 : v.getLsbD 63 = false := by
    rw [← BitVec.testBit_toNat]; exact Nat.testBit_lt_two_pow hv
  by_cases h1 : i < place.toNat
  · rw [if_pos h1, addBit_getLsbD _ _ _ _ hi, if_pos h1]
  · rw [if_neg h1]
    by_cases h2 : i + 1 < 64
    · rw [addBit_getLsbD _ _ _ _ h2, if_neg (by omega), if_neg (by omega), Nat.add_sub_cancel]
    · have : i = 63 := by omega
      subst this
      rw [BitVec.getLsbD_of_ge _ _ (by omega), h63]

/-- re-inserting the removed bit gives the value back; all inputs -/
theorem addBit_removeBit (v place : U64) :
    Model.addBit (Model.removeBit v place) place (v.getLsbD place.toNat) = v := by
  apply BitVec.eq_of_getLsbD_eq
  intro i hi
  rw [addBit_getLsbD _ _ _ _ hi]
  by_cases h1 : i < place.toNat
  · rw [if_pos h1, removeBit_getLsbD, if_pos h1]
  · rw [if_neg h1]
    by_cases h2 : i = place.toNat
    · rw [if_pos h2, h2]
    · rw [if_neg h2, removeBit_getLsbD, if_neg (by omega), show i - 1 + 1 = i by omega]

/-- the comment in utils.go: removing bit 2 of 1011 gives 111; inserting a 1 at place 2 of 1001 gives 10101 -/
example : Model.removeBit 11#64 2#64 = 7#64 ∧ Model.addBit 9#64 2#64 true = 21#64 := by decide
example : removeBitNat 11 2 = 7 ∧ addBitNat 9 2 true = 21 := by decide

/-- `calcNextPosition`: when the node `del = (r', o')` is deleted, a node `(r, o)` below del's
sibling (`r ≤ r' < h`) moves up one row and loses the path bit that chose between `del` and
its sibling: `(r, o) ↦ (r + 1, o without bit r' - r)` -/
theorem calcNextPosition_enc {h r o r' o' : Nat} (hh : h ≤ 63) (hrr : r ≤ r') (hr' : r' < h)
    (ho : o < 2 ^ (h - r)) (ho' : o' < 2 ^ (h - r')) :
    Model.calcNextPosition (encU h r o) (encU h r' o') (H8 h) =
      (encU h (r + 1) (removeBitNat o (r' - r)), false) := by
  have hx := removeBitNat_row_lt (show r + (r' - r) < h by omega) ho
  unfold Model.calcNextPosition
  simp only [detectRow_enc hh (show r ≤ h by omega) ho, detectRow_enc hh (show r' ≤ h by omega) ho']
  rw [decide_eq_false (fun hc => by have := (H8_lt_iff (by omega) (by omega)).1 hc; omega)]
  simp only [Bool.false_eq_true, if_false]
  congr 1
  apply BitVec.eq_of_toNat_eq
  have e4 : (shl (shl 1#64 (r + 1)) (h - (r + 1))).toNat = 2 ^ h := by
    rw [shl_one_shl (by omega), show r + 1 + (h - (r + 1)) = h by omega,
      BitVec.toNat_twoPow_of_lt (by omega)]
  rw [BitVec.ofNat_add_ofNat, H8_sub (by omega) hrr, H8_sub (by omega) (by omega), toNat_conv64_U8,
    toNat_H8 (by omega), toNat_H8 (by omega), BitVec.toNat_or, e4, removeBit_toNat, toNat_conv64_U8,
    toNat_H8 (by omega), toNat_encU hh (by omega) ho, toNat_encU hh (by omega) hx,
    calcNext_nat (by omega) ho]

/-- `calcNextPosition` reports an error exactly when `del` is on a lower row than the position -/
theorem calcNextPosition_error_iff {h r o r' o' : Nat} (hh : h ≤ 63) (hr : r ≤ h) (hr' : r' ≤ h)
    (ho : o < 2 ^ (h - r)) (ho' : o' < 2 ^ (h - r')) :
    (Model.calcNextPosition (encU h r o) (encU h r' o') (H8 h)).2 = true ↔ r' < r := by
  unfold Model.calcNextPosition
  simp only [detectRow_enc hh hr ho, detectRow_enc hh hr' ho']
  have e : (H8 r' < H8 r) ↔ r' < r := by
    rw [BitVec.lt_def, toNat_H8 (by omega), toNat_H8 (by omega)]
  by_cases hlt : r' < r
  · simp [e.2 hlt, hlt]
  · have : ¬ H8 r' < H8 r := fun hc => hlt (e.1 hc)
    simp [this, hlt]

/-- the example in utils.go (pos 1, del 5 in a 2-row forest gives 5) -/
example : Model.calcNextPosition 1#64 5#64 2#8 = (5#64, false) := by decide
example : Model.calcNextPosition (encU 3 0 5) (encU 3 1 3) (H8 3) = (encU 3 1 (removeBitNat 5 1), false) :=
  calcNextPosition_enc (by decide) (by decide) (by decide) (by decide) (by decide)


/-- the three branches of `calcPrevPosition` compute the same thing -/
theorem calcPrevPosition_eq (p del : U64) (fr : U8) :
    Model.calcPrevPosition p del fr =
      Model.addBit
        (p &&& ~~~(shl (shl 1#64 (Model.DetectRow p fr).toNat)
          (conv 64 (fr - Model.DetectRow p fr) : U64).toNat))
        (conv 64 (Model.DetectRow del fr - (Model.DetectRow p fr - 1#8)))
        (Model.isLeftNiece del) := by
  unfold Model.calcPrevPosition
  simp only
  split
  · split
    · rename_i h; rw [h]
    · rename_i h; simp only [Bool.not_eq_true] at h; rw [h]
  · rfl

/-- `calcPrevPosition`: where was the node now at `(r + 1, x)` before `del = (r', o')`
(`r ≤ r' < h`) was deleted?  One row down, with the path bit pointing to del's sibling
re-inserted at place `r' - r`: `(r + 1, x) ↦ (r, x with bit [del is a left child] inserted)` -/
theorem calcPrevPosition_enc {h r x r' o' : Nat} (hh : h ≤ 63) (hrr : r ≤ r') (hr' : r' < h)
    (hx : x < 2 ^ (h - (r + 1))) (ho' : o' < 2 ^ (h - r')) :
    Model.calcPrevPosition (encU h (r + 1) x) (encU h r' o') (H8 h) =
      encU h r (addBitNat x (r' - r) (decide (o' % 2 = 0))) := by
  obtain ⟨R, hR, hE, hadd⟩ := calcPrev_nat (d := r' - r) (decide (o' % 2 = 0)) (show r + (r' - r) < h by omega) hx
  have h64 := enc_lt_64 hh (show r ≤ h by omega)
    (addBitNat_row_lt (decide (o' % 2 = 0)) (show r + (r' - r) < h by omega) hx)
  rw [calcPrevPosition_eq]
  simp only [detectRow_enc hh (show r + 1 ≤ h by omega) hx,
    detectRow_enc hh (show r' ≤ h by omega) ho', isLeftNiece_enc hh (show r' ≤ h by omega) ho']
  have e4 : shl (shl 1#64 (r + 1)) (h - (r + 1)) = BitVec.twoPow 64 h := by
    rw [shl_one_shl (by omega), show r + 1 + (h - (r + 1)) = h by omega]
  apply BitVec.eq_of_toNat_eq
  rw [show (1#8 : U8) = H8 1 from rfl, H8_sub (by omega) (by omega), H8_sub (by omega) (by omega),
    Nat.add_sub_cancel, H8_sub (by omega) hrr, toNat_conv64_U8, toNat_H8 (by omega),
    toNat_H8 (by omega), e4, encU, hE, clear_twoPow hR, addBit_toNat, toNat_conv64_U8,
    toNat_H8 (by omega), toNat_ofNat64_of_lt (Nat.lt_trans hR (two_pow_lt_of_lt (by omega))), hadd,
    Nat.mod_eq_of_lt h64, encU, toNat_ofNat64_of_lt h64]

/-- the example in utils.go (pos 5, del 5 in a 2-row forest gives 1) -/
example : Model.calcPrevPosition 5#64 5#64 2#8 = 1#64 := by decide
example : Model.calcPrevPosition (encU 3 1 3) (encU 3 1 2) (H8 3) = encU 3 0 (addBitNat 3 1 true) :=
  calcPrevPosition_enc (by decide) (by decide) (by decide) (by decide) (by decide)

/-- `calcPrevPosition` undoes `calcNextPosition` for every node whose ancestor on del's row
is del's sibling (that is: `Parent del` is an ancestor of the node and the node is not below
`del` itself) -/
theorem calcPrev_calcNext {h r o r' o' : Nat} (hh : h ≤ 63) (hrr : r ≤ r') (hr' : r' < h)
    (ho : o < 2 ^ (h - r)) (ho' : o' < 2 ^ (h - r'))
    (hsib : o / 2 ^ (r' - r) = o' ^^^ 1) :
    Model.calcPrevPosition (Model.calcNextPosition (encU h r o) (encU h r' o') (H8 h)).1
      (encU h r' o') (H8 h) = encU h r o := by
  have hx := removeBitNat_row_lt (show r + (r' - r) < h by omega) ho
  rw [calcNextPosition_enc hh hrr hr' ho ho', calcPrevPosition_enc hh hrr hr' hx ho']
  have hb : decide (o' % 2 = 0) = o.testBit (r' - r) := by
    rw [Nat.testBit_eq_decide_div_mod_eq, hsib]
    exact decide_eq_decide.2 (by rw [Nat.xor_mod_two_eq_one]; omega)
  rw [hb, addBitNat_removeBitNat]

/-- and conversely `calcNextPosition` undoes `calcPrevPosition` (always, on the domain) -/
theorem calcNext_calcPrev {h r x r' o' : Nat} (hh : h ≤ 63) (hrr : r ≤ r') (hr' : r' < h)
    (hx : x < 2 ^ (h - (r + 1))) (ho' : o' < 2 ^ (h - r')) :
    Model.calcNextPosition (Model.calcPrevPosition (encU h (r + 1) x) (encU h r' o') (H8 h))
      (encU h r' o') (H8 h) = (encU h (r + 1) x, false) := by
  have hy := addBitNat_row_lt (decide (o' % 2 = 0)) (show r + (r' - r) < h by omega) hx
  rw [calcPrevPosition_enc hh hrr hr' hx ho', calcNextPosition_enc hh hrr hr' hy ho',
    removeBitNat_addBitNat]

/-- 8 leaves, delete 9 = (1,1): leaf 0 = (0,0) lies below 9's sibling 8 and moves to 8 = (1,0) -/
example : Model.calcPrevPosition (Model.calcNextPosition (encU 3 0 1) (encU 3 1 1) (H8 3)).1
    (encU 3 1 1) (H8 3) = encU 3 0 1 :=
  calcPrev_calcNext (by decide) (by decide) (by decide) (by decide) (by decide) (by decide)


/-- What `DetectOffset` computes on any position `(r, o)` of the `h = TreeRows numLeaves` row
geometry, in the forest or not.  Let `L = o * 2^r` be the leftmost leaf slot below the node.
The loop stops at the highest row `R ≤ h` that carries a tree (`numLeaves` has bit `R`)
while `L` has bit `R` clear; it then returns, without error, the index of that tree in
`Spec.treeRows` (highest first), the `uint8` difference `R - r`, and the bit field
`^((pos - treeStart numLeaves R) ^ 1)`. -/
theorem detectOffset_general {h r o R : Nat} (n : U64) (hT : Model.TreeRows n = H8 h) (hh : h ≤ 63)
    (hr : r ≤ h) (ho : o < 2 ^ (h - r)) (hRh : R ≤ h) (hnR : n.toNat.testBit R = true)
    (hLR : (o * 2 ^ r).testBit R = false)
    (hmax : ∀ t, R < t → t ≤ h → n.toNat.testBit t = true → (o * 2 ^ r).testBit t = true) :
    Model.DetectOffset (encU h r o) n =
      (BitVec.ofNat 8 ((Spec.treeRows n.toNat).idxOf R), H8 R - H8 r,
        ~~~((encU h r o - BitVec.ofNat 64 (Spec.treeStart n.toNat R)) ^^^ 1#64), false) := by
  have hn := le_of_treeRows n hT hh
  have f := two_pow_succ' h
  have f' := Nat.two_pow_pos h
  have hn' : n.toNat < 2 ^ (R + (h - R) + 1) := by
    rw [show R + (h - R) + 1 = h + 1 by omega]; omega
  have hloop := detectOffset_loop n hh hr ho hnR hLR hmax (h - R) 300 0 0#8
    (by omega) (by omega) (Nat.dvd_zero _)
  rw [show R + (h - R) = h by omega] at hloop
  simp only [Nat.zero_add] at hloop
  rw [show BitVec.ofNat 64 0 = 0#64 from rfl, BitVec.sub_zero, BitVec.zero_add,
    sumBits_eq_treeStart hn', ← idxOf_treeRowsFrom hnR, show R + (h - R) = h by omega,
    ← treeRows_eq_from (by omega) (show n.toNat < 2 ^ (h + 1) by omega)] at hloop
  unfold Model.DetectOffset
  have e1 : toInt (Model.TreeRows n) = (h : Int) := by
    unfold toInt; rw [hT, toNat_H8 hh]
  have e2 := ofInt_natCast h
  simp only [e1, e2, detectRow_enc hh hr ho, hloop]
  have e3 := ofInt_natCast R
  rw [e3]

/-- `DetectOffset` returns its error exactly when no tree row "catches" the position: every
set bit `t ≤ h` of `numLeaves` is also set in the leftmost leaf slot `o * 2^r`. -/
theorem detectOffset_error_iff {h r o : Nat} (n : U64) (hT : Model.TreeRows n = H8 h) (hh : h ≤ 63)
    (hr : r ≤ h) (ho : o < 2 ^ (h - r)) :
    (Model.DetectOffset (encU h r o) n).2.2.2 = true ↔
      ∀ t, t ≤ h → n.toNat.testBit t = true → (o * 2 ^ r).testBit t = true := by
  constructor
  · intro herr
    have notP : ∀ t, ¬ (n.toNat.testBit t = true ∧ (o * 2 ^ r).testBit t = false) →
        n.toNat.testBit t = true → (o * 2 ^ r).testBit t = true := fun t hP hb => by
      cases hL : (o * 2 ^ r).testBit t
      · exact absurd ⟨hb, hL⟩ hP
      · rfl
    rcases highest_or_none (P := fun t => n.toNat.testBit t = true ∧ (o * 2 ^ r).testBit t = false) h
      with hnone | ⟨R, hRh, ⟨hnR, hLR⟩, hmax⟩
    · exact fun t ht => notP t (hnone t ht)
    · rw [detectOffset_general n hT hh hr ho hRh hnR hLR
        (fun t h1 h2 => notP t (hmax t h1 h2))] at herr
      cases herr
  · intro hall
    have hloop := detectOffset_loop_err n hh hr ho h 300 0 0#8 (by omega) (Nat.le_refl _)
      (Nat.dvd_zero _) hall
    rw [show BitVec.ofNat 64 0 = 0#64 from rfl, BitVec.sub_zero] at hloop
    unfold Model.DetectOffset
    have e1 : toInt (Model.TreeRows n) = (h : Int) := by
      unfold toInt; rw [hT, toNat_H8 hh]
    have e2 := ofInt_natCast h
    simp only [e1, e2, detectRow_enc hh hr ho, hloop]

/-- `DetectOffset` on a position of the forest.  Let the node `(r, o)` lie below (or be) the
root of the tree on row `R` (`numLeaves` has bit `R` set and the ancestor of the node on row
`R` is `Spec.rootPos numLeaves R`).  Then, without error, the result is
* the index of that tree in the list of trees, highest first (`Spec.treeRows`),
* the depth `R - r` of the node below the root,
* the bit field `^((pos - treeStart) ^ 1)`, whose low `R - r` bits are described by
  `detectOffset_bits` below. -/
theorem detectOffset_enc {h r o R : Nat} (n : U64) (hT : Model.TreeRows n = H8 h) (hh : h ≤ 63)
    (hr : r ≤ R) (ho : o < 2 ^ (h - r)) (hnR : n.toNat.testBit R = true)
    (hroot : o / 2 ^ (R - r) = (Spec.rootPos n.toNat R).2) :
    Model.DetectOffset (encU h r o) n =
      (BitVec.ofNat 8 ((Spec.treeRows n.toNat).idxOf R), H8 (R - r),
        ~~~((encU h r o - BitVec.ofNat 64 (Spec.treeStart n.toNat R)) ^^^ 1#64), false) := by
  have hn := le_of_treeRows n hT hh
  obtain ⟨hRh, _⟩ := rootPos_valid hn hnR
  obtain ⟨hLR, habove⟩ := leftmost_leaf_bits hr hroot
  rw [detectOffset_general n hT hh (by omega) ho hRh hnR hLR
    (fun t ht _ hb => by rw [habove t ht]; exact hb)]
  rw [H8_sub (by omega) hr]

/-- in particular: every position that `inForest` accepts is located without error -/
theorem detectOffset_of_inForest {h r o : Nat} (n : U64) (hT : Model.TreeRows n = H8 h) (hh : h ≤ 63)
    (hr : r ≤ h) (ho : o < 2 ^ (h - r)) (hin : Model.inForest (encU h r o) n (H8 h) = true) :
    ∃ R, r ≤ R ∧ n.toNat.testBit R = true ∧ o / 2 ^ (R - r) = (Spec.rootPos n.toNat R).2 ∧
      Model.DetectOffset (encU h r o) n =
        (BitVec.ofNat 8 ((Spec.treeRows n.toNat).idxOf R), H8 (R - r),
          ~~~((encU h r o - BitVec.ofNat 64 (Spec.treeStart n.toNat R)) ^^^ 1#64), false) := by
  rw [inForest_enc hh hr ho, decide_eq_true_iff, below_root_iff] at hin
  obtain ⟨R, h1, h2, h3⟩ := hin
  exact ⟨R, h1, h2, h3, detectOffset_enc n hT hh h1 ho h2 h3⟩

/-- the low `R - r` bits of the returned bit field: bit 0 is the node's own offset bit,
every higher bit is the complement of the offset bit (Pollard's nodes point to their nieces) -/
theorem detectOffset_bits {h r o R k : Nat} (n : U64) (hh : h ≤ 63) (hr : r ≤ R) (hRh : R ≤ h)
    (ho : o < 2 ^ (h - r)) (hk : k < R - r) :
    (~~~((encU h r o - BitVec.ofNat 64 (Spec.treeStart n.toNat R)) ^^^ 1#64)).getLsbD k =
      if k = 0 then o.testBit 0 else !o.testBit k := by
  have hS : 2 ^ (R + 1) ∣ Spec.treeStart n.toNat R := by
    unfold Spec.treeStart
    rw [Nat.shiftLeft_eq]
    exact Nat.dvd_mul_left _ _
  have h1 : (1#64 : U64).getLsbD k = decide (k = 0) := by
    rw [← BitVec.testBit_toNat, BitVec.toNat_one (by decide)]
    cases k with
    | zero => rfl
    | succ k => rw [Nat.testBit_succ]; simp
  rw [BitVec.getLsbD_not, BitVec.getLsbD_xor, sub_ofNat_getLsbD _ (by omega) hS (by omega), h1,
    encU, getLsbD_ofNat64 (by omega), enc_testBit (by omega) ho, if_pos (by omega)]
  have : k < 64 := by omega
  by_cases h0 : k = 0
  · subst h0; simp
  · simp [h0, this]

/-- 5 leaves (trees on rows 2 and 0): node 9 = (1,1) is one step below the root 12 of tree 0 -/
example : Model.DetectOffset 9#64 5#64 = (0#8, 1#8, ~~~(9#64 ^^^ 1#64), false) := by decide +kernel
example : Model.DetectOffset (encU 3 1 1) 5#64 =
    (BitVec.ofNat 8 ((Spec.treeRows 5).idxOf 2), H8 (2 - 1),
      ~~~((encU 3 1 1 - BitVec.ofNat 64 (Spec.treeStart 5 2)) ^^^ 1#64), false) :=
  detectOffset_enc (R := 2) 5#64 (by decide) (by decide) (by decide) (by decide) (by decide) (by decide)

/-- **The error flag of `DetectOffset` is not exact.**  The property text asks for an error
exactly outside the forest; leaf slot 6 is not a node of a 5-leaf forest (`inForest` says so)
but `DetectOffset 6 5` reports tree 1, depth 0 and no error (the same happens in the Go code).
For 13 = (2,1), whose leaves 4..7 are only partly present, it reports depth `254` and no error. -/
theorem detectOffset_error_not_exact :
    Model.inForest 6#64 5#64 (Model.TreeRows 5#64) = false ∧
    (Model.DetectOffset 6#64 5#64).1 = 1#8 ∧ (Model.DetectOffset 6#64 5#64).2.1 = 0#8 ∧
    (Model.DetectOffset 6#64 5#64).2.2.2 = false ∧
    Model.inForest 13#64 5#64 (Model.TreeRows 5#64) = false ∧
    (Model.DetectOffset 13#64 5#64).2.1 = 254#8 ∧ (Model.DetectOffset 13#64 5#64).2.2.2 = false := by
  decide +kernel


/-! ### more instances (non-vacuity), including the `h = 63` boundary where `2 << 63` wraps to 0 -/

example : Model.ParentMany (encU 63 0 5) (H8 63) (H8 63) = (encU 63 63 (5 / 2 ^ 63), false) :=
  parentMany_enc (by decide) (by decide) (by decide)
example : Model.rootPosition (BitVec.ofNat 64 (2 ^ 63)) (H8 63) (H8 63) =
    encU 63 63 (Spec.rootPos (BitVec.ofNat 64 (2 ^ 63)).toNat 63).2 :=
  rootPosition_enc (by decide) (by decide) _ (by decide)
example : Model.inForest (encU 63 62 1) (BitVec.ofNat 64 (2 ^ 63)) (H8 63) =
    decide ((1 + 1) * 2 ^ 62 ≤ (BitVec.ofNat 64 (2 ^ 63)).toNat) :=
  inForest_enc (by decide) (by decide) (by decide) _
example : Model.calcNextPosition (encU 63 0 5) (encU 63 1 3) (H8 63) =
    (encU 63 1 (removeBitNat 5 1), false) :=
  calcNextPosition_enc (by decide) (by decide) (by decide) (by decide) (by decide)
example : Model.isRootPositionTotalRows (encU 4 2 0) 5#64 (H8 4) = Spec.isRootPos 5 (2, 0) :=
  isRootPositionTotalRows_enc (h := 3) 5#64 (by decide) (by decide) (by decide) (by decide)
    (by decide) (by decide) (by decide)
example : Model.isRootPositionOnRowTotalRows (encU 4 2 0) 5#64 2#8 (H8 4) =
    (decide ((2#8 : U8).toNat = 2) && Spec.isRootPos 5 (2, 0)) :=
  isRootPositionOnRowTotalRows_enc (h := 3) 5#64 2#8 (by decide) (by decide) (by decide) (by decide)
    (by decide) (by decide) (by decide)
example : Model.maxPositionAtRow (H8 2) (H8 3) 5#64 =
    (BitVec.ofNat 64 (Spec.enc 3 (2, (5#64 : U64).toNat / 2 ^ 2) - 1), false) :=
  maxPositionAtRow_enc (by decide) (by decide) 5#64 (by decide)
example : Model.removeBit (Model.addBit 9#64 2#64 true) 2#64 = 9#64 :=
  removeBit_addBit 9#64 2#64 true (by decide)
example : Model.calcNextPosition (Model.calcPrevPosition (encU 3 1 3) (encU 3 1 2) (H8 3))
    (encU 3 1 2) (H8 3) = (encU 3 1 3, false) :=
  calcNext_calcPrev (r := 0) (by decide) (by decide) (by decide) (by decide) (by decide)
example : Model.inForest (encU 3 1 1) 5#64 (H8 3) = true ↔
    ∃ R, 1 ≤ R ∧ (5#64 : U64).toNat.testBit R = true ∧
      1 / 2 ^ (R - 1) = (Spec.rootPos (5#64 : U64).toNat R).2 :=
  inForest_iff_below_root (by decide) (by decide) (by decide) 5#64
/-- slot 5 of a 5-leaf forest: every tree bit of 5 = 101b is set in the slot number: error -/
example : (Model.DetectOffset 5#64 5#64).2.2.2 = true := by decide +kernel
example : (Model.DetectOffset (encU 3 0 5) 5#64).2.2.2 = true ↔
    ∀ t, t ≤ 3 → (5#64 : U64).toNat.testBit t = true → (5 * 2 ^ 0).testBit t = true :=
  detectOffset_error_iff 5#64 (by decide) (by decide) (by decide) (by decide)
/-- slot 6 of a 5-leaf forest (outside the forest): caught by the tree on row 0 -/
example : Model.DetectOffset (encU 3 0 6) 5#64 =
    (BitVec.ofNat 8 ((Spec.treeRows (5#64 : U64).toNat).idxOf 0), H8 0 - H8 0,
      ~~~((encU 3 0 6 - BitVec.ofNat 64 (Spec.treeStart (5#64 : U64).toNat 0)) ^^^ 1#64), false) :=
  detectOffset_general (R := 0) 5#64 (by decide) (by decide) (by decide) (by decide) (by decide)
    (by decide) (by decide) (by
      intro t h1 h2 hb
      have : t = 1 ∨ t = 2 ∨ t = 3 := by omega
      rcases this with rfl | rfl | rfl
      · exact absurd hb (by decide)
      · decide
      · exact absurd hb (by decide))

end UtreexoVerif.Props.C16
