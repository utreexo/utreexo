/-
  C02 — every set of live leaves is provable: the canonical proof of the specification forest is
  accepted by `Verify`, in any request order, and `Verify` reports exactly the trees that contain
  a target.

  Hypotheses (all necessary for the model as it stands):
  * `F.numLeaves ≤ 2^63`          — positions fit Go's `uint64` arithmetic;
  * `∀ a b, ph a b ≠ zero`        — the all-zero hash is never a parent hash (half of `CR`;
                                    injectivity of `ph` is NOT needed for completeness);
  * live leaves are non-zero      — `calculateHashes` rejects zero proof hashes and `getNextHash`
                                    skips zero operands;
  * the requested leaves are pairwise different (`L.Nodup`).
  The request may be empty (then nothing is checked and no tree is reported).
-/
import UtreexoVerif.Proofs.CalcComplete
import UtreexoVerif.Proofs.CanonTotal
import UtreexoVerif.Props.C03b

namespace UtreexoVerif.Props.C02
open Spec Model Hasher
open UtreexoVerif.Proofs UtreexoVerif.Proofs.SpecNodes
open UtreexoVerif.Proofs.CalcComplete UtreexoVerif.Proofs.SpecPlan
open UtreexoVerif.Proofs.CanonTotal

section
variable (H : Type) [DecidableEq H] [Hasher H]

/-- **C02.2, full statement.**  The canonical proof `canon F L` of any list `L` of pairwise
different live leaves (in any order; `canon` is defined exactly when all of `L` is live) is
accepted by `Verify` against the roots of `F`, also with arbitrary hashes appended to the proof,
and the returned indexes are those of exactly the trees containing a target (`touchedIdx`,
lowest tree first — the order in which the root candidates are produced). -/
def verify_complete_statement : Prop :=
  ∀ (F : Forest H), F.numLeaves ≤ 2 ^ 63 → (∀ a b : H, ph a b ≠ (zero : H)) →
    (∀ l ∈ F.liveLeaves, l ≠ (zero : H)) →
  ∀ (L : List H) (targets : List Pos) (proofHashes junk : List H), L.Nodup →
    F.canon L = some (targets, proofHashes) →
    verify (BitVec.ofNat 64 F.numLeaves) F.roots L
      (targets.map (fun p => encU F.rows p.1 p.2)) (proofHashes ++ junk) =
      .ok (touchedIdx F.numLeaves targets)

end

section
variable {H : Type} [DecidableEq H] [Hasher H]

theorem honest_proof_verifies : verify_complete_statement H := by
  intro F hn hnz hlive L targets hashes junk hnd hc
  exact verify_complete hn hnz hlive hnd hc junk

/-- the same under the bundled hypothesis `NZ` (parent hashes are never the zero hash); despite its
name the theorem does not need the collision-freeness bundle `CR` of C03 -/
theorem honest_proof_verifies_CR {F : Forest H} (nz : NZ H) (hn : F.numLeaves ≤ 2 ^ 63)
    (hlive : ∀ l ∈ F.liveLeaves, l ≠ (zero : H)) {L : List H} {targets : List Pos}
    {proofHashes : List H} (hnd : L.Nodup) (hc : F.canon L = some (targets, proofHashes)) :
    verify (BitVec.ofNat 64 F.numLeaves) F.roots L
      (targets.map (fun p => encU F.rows p.1 p.2)) proofHashes =
      .ok (touchedIdx F.numLeaves targets) := by
  have := honest_proof_verifies F hn nz.nonzero hlive L targets proofHashes [] hnd hc
  simpa using this

theorem canon_defined {F : Forest H} (hn : F.numLeaves ≤ 2 ^ 63) {L : List H}
    (hL : ∀ l ∈ L, l ∈ F.liveLeaves) : ∃ targets proofHashes, F.canon L = some (targets, proofHashes) :=
  canon_total hn hL

theorem canon_live {F : Forest H} {L : List H} {targets : List Pos} {proofHashes : List H}
    (hc : F.canon L = some (targets, proofHashes)) : ∀ l ∈ L, l ∈ F.liveLeaves := by
  intro l hl
  obtain ⟨h, s⟩ := canon_target_leaf hc hl
  exact s.leaves_live l (by simp [CTree.leaves])

/-- **C02: every set of live leaves is provable, and its canonical proof verifies**, whatever the
order in which the leaves are requested. -/
theorem every_live_set_provable {F : Forest H} (hn : F.numLeaves ≤ 2 ^ 63)
    (hnz : ∀ a b : H, ph a b ≠ (zero : H)) (hlive : ∀ l ∈ F.liveLeaves, l ≠ (zero : H))
    {L : List H} (hnd : L.Nodup) (hL : ∀ l ∈ L, l ∈ F.liveLeaves) :
    ∃ targets proofHashes, F.canon L = some (targets, proofHashes) ∧
      verify (BitVec.ofNat 64 F.numLeaves) F.roots L
        (targets.map (fun p => encU F.rows p.1 p.2)) proofHashes =
        .ok (touchedIdx F.numLeaves targets) := by
  obtain ⟨targets, hashes, hc⟩ := canon_total hn hL
  refine ⟨targets, hashes, hc, ?_⟩
  have := honest_proof_verifies F hn hnz hlive L targets hashes [] hnd hc
  simpa using this

/-- the reported indexes are those of exactly the trees that contain a target: index `i` is
reported iff the `i`-th tree (row `h`) has a target below its root -/
theorem mem_touchedIdx {n : Nat} {targets : List Pos} {i : Nat} :
    i ∈ touchedIdx n targets ↔
      ∃ h, (treeRows n)[i]? = some h ∧ ∃ t ∈ targets, Under h (2 * (n >>> (h + 1))) t := by
  unfold touchedIdx touchedRows
  rw [List.mem_map]
  constructor
  · rintro ⟨h, hh, rfl⟩
    obtain ⟨h1, h2⟩ := List.mem_filter.1 hh
    rw [List.mem_reverse] at h1
    rw [List.any_eq_true] at h2
    obtain ⟨t, ht, hin⟩ := h2
    refine ⟨h, ?_, t, ht, (inTree_iff _ _ _).1 hin⟩
    have hlt : (treeRows n).idxOf h < (treeRows n).length := List.idxOf_lt_length_iff.2 h1
    rw [List.getElem?_eq_getElem hlt, List.getElem_idxOf hlt]
  · rintro ⟨h, hget, t, ht, hu⟩
    obtain ⟨hlt, he⟩ := List.getElem?_eq_some_iff.1 hget
    refine ⟨h, List.mem_filter.2 ⟨?_, ?_⟩, ?_⟩
    · rw [List.mem_reverse, ← he]; exact List.getElem_mem hlt
    · rw [List.any_eq_true]; exact ⟨t, ht, (inTree_iff _ _ _).2 hu⟩
    · rw [← he]; exact (treeRows_nodup n).idxOf_getElem _ hlt

theorem idxOf_lt_of_gt {l : List Nat} (hl : l.Pairwise (fun a b => a > b)) {a b : Nat}
    (ha : a ∈ l) (hb : b ∈ l) (hab : a < b) : l.idxOf b < l.idxOf a := by
  have hia : l.idxOf a < l.length := List.idxOf_lt_length_iff.2 ha
  have hib : l.idxOf b < l.length := List.idxOf_lt_length_iff.2 hb
  have ea := List.getElem_idxOf hia
  have eb := List.getElem_idxOf hib
  rcases Nat.lt_trichotomy (l.idxOf b) (l.idxOf a) with h | h | h
  · exact h
  · exfalso
    have : l[l.idxOf a] = l[l.idxOf b] := by congr 1; exact h.symm
    rw [ea, eb] at this
    omega
  · exfalso
    have := (List.pairwise_iff_getElem.1 hl) _ _ hia hib h
    rw [ea, eb] at this
    omega

/-- the indexes are reported lowest tree first, i.e. in strictly descending index order -/
theorem touchedIdx_sorted (n : Nat) (targets : List Pos) :
    (touchedIdx n targets).Pairwise (fun a b => a > b) := by
  unfold touchedIdx
  rw [List.pairwise_map]
  apply List.Pairwise.imp_of_mem _ (touchedRows_sorted n targets)
  intro a b ha hb hab
  have ma : a ∈ treeRows n := by
    have := (List.mem_filter.1 ha).1; rwa [List.mem_reverse] at this
  have mb : b ∈ treeRows n := by
    have := (List.mem_filter.1 hb).1; rwa [List.mem_reverse] at this
  exact idxOf_lt_of_gt (treeRows_sorted n) ma mb hab

/-! ### C05 (encoding independence on the specification side): request order -/

theorem pathSet_congr (F : Forest H) {t1 t2 : List Pos} (h : ∀ x, x ∈ t1 ↔ x ∈ t2) :
    pathSet F t1 = pathSet F t2 :=
  SpecPlan.pathSet_congr F h

/-- requesting the same leaves in another order permutes the targets and leaves the proof hashes
unchanged -/
theorem canon_perm {F : Forest H} {L L' : List H} {targets : List Pos} {proofHashes : List H}
    (hp : ∀ l, l ∈ L' ↔ l ∈ L) (hc : F.canon L = some (targets, proofHashes)) :
    F.canon L' = some (L'.map (fun l => (F.posOf l).getD (0, 0)), proofHashes) := by
  obtain ⟨ht, hpos, hh, hnode⟩ := canon_spec hc
  have hmem : ∀ x, x ∈ L'.map (fun l => (F.posOf l).getD (0, 0)) ↔ x ∈ targets := by
    intro x
    rw [ht, List.mem_map, List.mem_map]
    constructor
    · rintro ⟨l, hl, rfl⟩; exact ⟨l, (hp l).1 hl, rfl⟩
    · rintro ⟨l, hl, rfl⟩; exact ⟨l, (hp l).2 hl, rfl⟩
  unfold Forest.canon
  rw [ListFacts.mapM_of_forall_some F.posOf (0, 0) L' (fun l hl => hpos l ((hp l).1 hl))]
  simp only [bind, Option.bind]
  rw [proofPositions_congr F hmem, ListFacts.mapM_of_forall_some F.nodeAt zero _ hnode, ← hh]
  rfl

end

/-! ### non-vacuity

The five-slot forest of `Props/C03b.lean` (leaf 1 deleted, so the tree on row 2 is collapsed and
leaf 0 sits at `(1, 0)` = position 8).  Requests in both orders, across both trees. -/

namespace Example
open C03.Example C03b.Example

theorem live_nonzero : ∀ l ∈ F.liveLeaves, l ≠ (zero : T) := by
  intro l hl
  have : l = .leaf 0 ∨ l = .leaf 2 ∨ l = .leaf 3 ∨ l = .leaf 4 := by
    simpa [F, Forest.liveLeaves] using hl
  rcases this with rfl | rfl | rfl | rfl <;> (intro h; cases h)

theorem canon1 : F.canon [T.leaf 2, .leaf 0] = some ([(0, 2), (1, 0)], [T.leaf 3]) := by
  decide +kernel

/-- the hypotheses of `honest_proof_verifies` hold for this request, and it yields: accepted,
tree 0 (the tree on row 2) touched -/
example : verify (BitVec.ofNat 64 F.numLeaves) F.roots [T.leaf 2, .leaf 0] [2#64, 8#64] [T.leaf 3]
    = .ok [0] :=
  honest_proof_verifies_CR cr.toNZ (Nat.le_of_lt small) live_nonzero (by decide) canon1

example : F.canon [T.leaf 0, .leaf 2] = some ([(1, 0), (0, 2)], [T.leaf 3]) :=
  canon_perm (L := [T.leaf 2, .leaf 0]) (by intro l; simp [or_comm]) canon1

/-- a request across both trees: leaf 4 (the lone root on row 0) and leaf 3; both trees are
reported, lowest tree first (indexes `[1, 0]`), with junk appended to the proof -/
theorem canon2 : F.canon [T.leaf 4, .leaf 3] = some ([(0, 4), (0, 3)], [T.leaf 2, .leaf 0]) := by
  decide +kernel

example : verify (BitVec.ofNat 64 F.numLeaves) F.roots [T.leaf 4, .leaf 3] [4#64, 3#64]
    ([T.leaf 2, .leaf 0] ++ [T.leaf 77]) = .ok [1, 0] :=
  honest_proof_verifies F (Nat.le_of_lt small) cr.nonzero live_nonzero _ _ _ [T.leaf 77] (by decide) canon2

example : verify (BitVec.ofNat 64 F.numLeaves) F.roots [T.leaf 4, .leaf 3] [4#64, 3#64]
    [T.leaf 2, .leaf 0, .leaf 77] = .ok [1, 0] := by
  decide +kernel

end Example

end UtreexoVerif.Props.C02
