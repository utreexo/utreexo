/-
  C14 (specification level) — `AddProof` is exact.

  `addProof_refines`: two proofs over the same labelling `val` of the forest's positions —
  proof hashes `val` at `Spec.Forest.proofPositions`, target hashes `val` at the targets, targets
  in ANY order — are combined by `AddProof` into: targets = the union, ascending; hashes
  parallel to them; proof hashes = `val` at `Spec.Forest.proofPositions (union)`, i.e. the
  canonical proof of the union — provided the two target sets satisfy the
  hypotheses of `proofPositions_spec_all` (`PPHyp0`: nodes of the forest, strictly ascending; true of
  every set of leaves).  With `val p = (F.nodeAt p).get` this is the body of
  `C14_addProof_statement`.
-/
import UtreexoVerif.Props.C14
import UtreexoVerif.Props.C14b

namespace UtreexoVerif.Props.C14
open Model Spec Spec.Forest Proofs Props.C16 Proofs.Labelled

section spec
variable {Hh : Type} (F : Forest Hh) {A B U : List Pos}

theorem inP_union (hU : ∀ p, p ∈ U ↔ p ∈ A ∨ p ∈ B) (x : Pos) :
    InP F.numLeaves U x ↔ InP F.numLeaves A x ∨ InP F.numLeaves B x := by
  constructor
  · rintro ⟨t, ht, R, hb, ha, hp⟩
    rcases (hU t).mp ht with h | h
    · exact Or.inl ⟨t, h, R, hb, ha, hp⟩
    · exact Or.inr ⟨t, h, R, hb, ha, hp⟩
  · rintro (⟨t, ht, R, hb, ha, hp⟩ | ⟨t, ht, R, hb, ha, hp⟩)
    · exact ⟨t, (hU t).mpr (Or.inl ht), R, hb, ha, hp⟩
    · exact ⟨t, (hU t).mpr (Or.inr ht), R, hb, ha, hp⟩

/-- on a path of `Tg`: a target itself or a computable position -/
theorem inP_iff_target_or_comp {Tg : List Pos}
    (hin : ∀ t ∈ Tg, ∃ R, BelowRoot F.numLeaves t.1 t.2 R) (q : Pos) :
    InP F.numLeaves Tg q ↔ q ∈ Tg ∨ q ∈ F.computable Tg := by
  rw [mem_spec_computable_of F hin, isComp_iff_all F]
  constructor
  · rintro ⟨t, ht, R, hb, ha, hp⟩
    by_cases e : q.1 = t.1
    · left; rw [ha.eq_of_row e]; exact ht
    · right; exact ⟨t, ht, R, hb, ha, by have := ha.1; omega, hp⟩
  · rintro (h | ⟨t, ht, R, hb, ha, _, hp⟩)
    · obtain ⟨R, hb⟩ := hin q h
      exact ⟨q, h, R, hb, Anc.refl q, hb.1⟩
    · exact ⟨t, ht, R, hb, ha, hp⟩

/-- **The canonical proof positions of a union**: the proof positions of either part that are
neither targets nor computable from either part. -/
theorem mem_proofPositions_union (hA : ∀ t ∈ A, ∃ R, BelowRoot F.numLeaves t.1 t.2 R)
    (hB : ∀ t ∈ B, ∃ R, BelowRoot F.numLeaves t.1 t.2 R) (hU : ∀ p, p ∈ U ↔ p ∈ A ∨ p ∈ B) (q : Pos) :
    q ∈ F.proofPositions U ↔
      (q ∈ F.proofPositions A ∨ q ∈ F.proofPositions B) ∧
      q ∉ F.computable A ∧ q ∉ F.computable B ∧ q ∉ A ∧ q ∉ B := by
  have hUh : ∀ t ∈ U, ∃ R, BelowRoot F.numLeaves t.1 t.2 R := fun t ht =>
    ((hU t).1 ht).elim (hA t) (hB t)
  rw [mem_spec_proofPositions_of F hUh, mem_spec_proofPositions_of F hA, mem_spec_proofPositions_of F hB]
  have key : ¬ InP F.numLeaves U q ↔
      (q ∉ F.computable A ∧ q ∉ F.computable B ∧ q ∉ A ∧ q ∉ B) := by
    rw [inP_union F hU, inP_iff_target_or_comp F hA, inP_iff_target_or_comp F hB]
    constructor
    · intro h
      exact ⟨fun x => h (Or.inl (Or.inr x)), fun x => h (Or.inr (Or.inr x)),
        fun x => h (Or.inl (Or.inl x)), fun x => h (Or.inr (Or.inl x))⟩
    · rintro ⟨h1, h2, h3, h4⟩ ((h | h) | (h | h))
      · exact h3 h
      · exact h1 h
      · exact h4 h
      · exact h2 h
  constructor
  · rintro ⟨x, hx, hr, rfl, hq⟩
    refine ⟨?_, key.mp hq⟩
    have hq' := hq
    rw [inP_union F hU] at hq'
    rcases (inP_union F hU x).mp hx with h | h
    · exact Or.inl ⟨x, h, hr, rfl, fun c => hq' (Or.inl c)⟩
    · exact Or.inr ⟨x, h, hr, rfl, fun c => hq' (Or.inr c)⟩
  · rintro ⟨h | h, hrest⟩
    · obtain ⟨x, hx, hr, rfl, _⟩ := h
      exact ⟨x, (inP_union F hU x).mpr (Or.inl hx), hr, rfl, key.mpr hrest⟩
    · obtain ⟨x, hx, hr, rfl, _⟩ := h
      exact ⟨x, (inP_union F hU x).mpr (Or.inr hx), hr, rfl, key.mpr hrest⟩

end spec

theorem ssorted_proofPositions {Hh : Type} (F : Forest Hh) (Tg : List Pos) : SSorted (F.proofPositions Tg) := by
  unfold Forest.proofPositions
  exact sortDedup_ssorted _

theorem ssorted_computable {Hh : Type} (F : Forest Hh) (Tg : List Pos) : SSorted (F.computable Tg) := by
  unfold Forest.computable
  exact sortDedup_ssorted _

section
variable {Hh : Type} (F : Forest Hh) {H : Type} [DecidableEq H] [Hasher H] {h : Nat}

/-- **`AddProof` is exact** (see the header). -/
theorem addProof_refines (n : U64) (hn : n.toNat = F.numLeaves) (hT : TreeRows n = H8 h) (hh : h ≤ 63)
    (val : Pos → H) (A B : List Pos)
    (hA : PPHyp0 F.numLeaves (sortPos A)) (hB : PPHyp0 F.numLeaves (sortPos B)) :
    addProof n (A.map (encP h)) ((F.proofPositions (sortPos A)).map val) (A.map val)
        (B.map (encP h)) ((F.proofPositions (sortPos B)).map val) (B.map val) =
      .ok ((sortDedup (A ++ B)).map val, (sortDedup (A ++ B)).map (encP h),
           (F.proofPositions (sortDedup (A ++ B))).map val) := by
  have hle : F.numLeaves ≤ 2 ^ h := by rw [← hn]; exact le_of_treeRows n hT hh
  have hvSA := valid_targets F hle hA
  have hvSB := valid_targets F hle hB
  have hvA : ∀ p ∈ A, ValidH h p := fun p hp => hvSA p (mem_sortPos.mpr hp)
  have hvB : ∀ p ∈ B, ValidH h p := fun p hp => hvSB p (mem_sortPos.mpr hp)
  have hvPA := valid_proofPositions F hle hA
  have hvPB := valid_proofPositions F hle hB
  have hvCA := valid_computable F hle hA
  have hvCB := valid_computable F hle hB
  have eA : sortU64 (A.map (encP h)) = (sortPos A).map (encP h) := sortU64_encP hh A hvA
  have eB : sortU64 (B.map (encP h)) = (sortPos B).map (encP h) := sortU64_encP hh B hvB
  have ppA := proofPositions_spec_all F n hn hT hh (Nat.le_refl h) _ hA
  have ppB := proofPositions_spec_all F n hn hT hh (Nat.le_refl h) _ hB
  have hc : AddProofConsistent n (A.map (encP h)) ((F.proofPositions (sortPos A)).map val) (A.map val)
      (B.map (encP h)) ((F.proofPositions (sortPos B)).map val) (B.map val) := by
    refine ⟨by simp, by simp, ?_, ?_⟩
    · rw [eA, hT, ppA]; simp
    · rw [eB, hT, ppB]; simp
  rw [addProof_closed_form n _ _ _ _ _ _ hc, eA, eB, hT, ppA, ppB]
  simp only
  -- every stage is the labelled form of the corresponding list of positions
  have eU : sortDedup (sortPos A ++ sortPos B) = sortDedup (A ++ B) :=
    eq_of_ssorted (sortDedup_ssorted _) (sortDedup_ssorted _) fun a => by
      simp only [Sorted.mem_sortDedup, List.mem_append, mem_sortPos]
  have hvU : ∀ p ∈ sortDedup (A ++ B), ValidH h p := fun p hp =>
    (List.mem_append.1 ((Sorted.mem_sortDedup _ _).1 hp)).elim (hvA p) (hvB p)
  have hvM : ∀ p ∈ sortDedup (F.proofPositions (sortPos A) ++ F.proofPositions (sortPos B)), ValidH h p :=
    fun p hp => (List.mem_append.1 ((Sorted.mem_sortDedup _ _).1 hp)).elim (hvPA p) (hvPB p)
  have hvC : ∀ p ∈ sortDedup (F.computable (sortPos A) ++ F.computable (sortPos B)), ValidH h p :=
    fun p hp => (List.mem_append.1 ((Sorted.mem_sortDedup _ _).1 hp)).elim (hvCA p) (hvCB p)
  rw [mergeU64_map_encP hh _ _ hA.sorted hB.sorted hvSA hvSB, eU,
    mergeU64_map_encP hh _ _ (ssorted_computable F _) (ssorted_computable F _) hvCA hvCB,
    zip_map_labelled, zip_map_labelled, zip_map_labelled, zip_map_labelled,
    sortHP_labelled hh val A hvA, sortHP_labelled hh val B hvB,
    mergeHP_labelled hh val _ _ hA.sorted hB.sorted hvSA hvSB, eU,
    mergeHP_labelled hh val _ _ (ssorted_proofPositions F _) (ssorted_proofPositions F _) hvPA hvPB,
    subtractHP_labelled hh val _ _ _ (sortDedup_ssorted _) hvM hvC
      (le_of_strict (strict_map_encP hh _ (sortDedup_ssorted _) hvC)) (fun _ => Iff.rfl),
    subtractHP_labelled hh val _ _ _ ((sortDedup_ssorted _).sublist List.filter_sublist)
      (fun p hp => hvM p (List.mem_filter.1 hp).1) hvU
      (le_of_strict (strict_map_encP hh _ (sortDedup_ssorted _) hvU)) (fun _ => Iff.rfl)]
  -- and the positions left are the proof positions of the union
  have eP : ((sortDedup (F.proofPositions (sortPos A) ++ F.proofPositions (sortPos B))).filter
        (fun p => !(sortDedup (F.computable (sortPos A) ++ F.computable (sortPos B))).contains p)).filter
        (fun p => !(sortDedup (A ++ B)).contains p) = F.proofPositions (sortDedup (A ++ B)) := by
    refine eq_of_ssorted (((sortDedup_ssorted _).sublist List.filter_sublist).sublist
      List.filter_sublist) (ssorted_proofPositions F _) fun q => ?_
    rw [mem_proofPositions_union F hA.inForest hB.inForest (fun p => by
      rw [Sorted.mem_sortDedup, List.mem_append, mem_sortPos, mem_sortPos])]
    simp only [List.mem_filter, Sorted.mem_sortDedup, List.mem_append, Bool.not_eq_true',
      List.contains_eq_mem, decide_eq_false_iff_not, mem_sortPos, not_or]
    constructor
    · rintro ⟨⟨hp, hc1, hc2⟩, ht1, ht2⟩
      exact ⟨hp, hc1, hc2, ht1, ht2⟩
    · rintro ⟨hp, hc1, hc2, ht1, ht2⟩
      exact ⟨⟨hp, hc1, hc2⟩, ht1, ht2⟩
  rw [eP]
  simp [HP.hashes, List.map_map, Function.comp_def]

end


section examples

theorem F4u_hyp2 : PPHyp F4u.numLeaves (sortDedup ([(0, 2)] ++ [(0, 0)])) where
  inForest := by
    intro t ht
    have : t = (0, 0) ∨ t = (0, 2) := by
      have h2 : sortDedup ([(0, 2)] ++ [(0, 0)]) = [(0, 0), (0, 2)] := by decide
      rw [h2] at ht
      simpa using ht
    rcases this with rfl | rfl
    · exact ⟨2, by decide, by decide, by decide⟩
    · exact ⟨2, by decide, by decide, by decide⟩
  sorted := sortDedup_ssorted _
  anti := by
    intro a ha b hb hab
    have h2 : sortDedup ([(0, 2)] ++ [(0, 0)]) = [(0, 0), (0, 2)] := by decide
    rw [h2] at ha hb
    simp only [List.mem_cons, List.not_mem_nil, or_false] at ha hb
    rcases ha with rfl | rfl <;> rcases hb with rfl | rfl
    · rfl
    · exact absurd hab.2 (by decide)
    · exact absurd hab.2 (by decide)
    · rfl

/-- the labelling of the 4-leaf forest with leaves `1 2 3 4` over the term algebra -/
def val4 : Pos → T
  | (0, o) => T.leaf (o + 1)
  | (1, 0) => T.node (T.leaf 1) (T.leaf 2)
  | (1, _) => T.node (T.leaf 3) (T.leaf 4)
  | _ => T.leaf 99

open T in
/-- the theorem applied: proofs of leaf 3 (position 2) and of leaf 1 (position 0) combine to the
proof `[leaf 2, leaf 4]` of both -/
example : addProof (H := T) 4#64 [2#64] [leaf 4, node (leaf 1) (leaf 2)] [leaf 3]
    [0#64] [leaf 2, node (leaf 3) (leaf 4)] [leaf 1] =
    .ok ([leaf 1, leaf 3], [0#64, 2#64], [leaf 2, leaf 4]) := by
  have := addProof_refines F4u (h := 2) (H := T) 4#64 (by decide) (by decide) (by decide) val4 [(0, 2)] [(0, 0)]
    (F4u_hyp _ (Or.inr rfl)).toHyp0 (F4u_hyp _ (Or.inl rfl)).toHyp0
  have e1 : F4u.proofPositions (sortPos [(0, 2)]) = [(0, 3), (1, 0)] := by decide
  have e2 : F4u.proofPositions (sortPos [(0, 0)]) = [(0, 1), (1, 1)] := by decide
  have e3 : sortDedup ([(0, 2)] ++ [(0, 0)]) = [(0, 0), (0, 2)] := by decide
  have e4 : F4u.proofPositions [(0, 0), (0, 2)] = [(0, 1), (0, 3)] := by decide
  rw [e1, e2, e3, e4] at this
  exact this

end examples

end UtreexoVerif.Props.C14
