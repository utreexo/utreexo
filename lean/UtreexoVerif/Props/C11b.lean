/-
  C11 — the update data of a WHOLE valid block, all fields at once.

  `stump_update_data`: for a stump holding the roots of a specification forest `F`, a block
  `(dels, adds)` with the canonical deletion proof (arbitrary hashes appended), `Stump.Update`
  returns the stump of `F.modify dels adds` and an `UpdateData` with

  * `PrevNumLeaves` = the leaf count of `F`;
  * `NewDel`        = `newDelSpec F dels targets` (Props/C11del.lean);
  * `NewAdd`, `ToDestroy` = as specified by `Props.C11.stump_add_updateData` for the additions
    applied to the forest after the deletions, `F.delLeaves dels` (`AddDataSpec`).
-/
import UtreexoVerif.Props.C11
import UtreexoVerif.Props.C01d

namespace UtreexoVerif.Props.C11
open Model Hasher Spec Spec.Forest
open Proofs Proofs.FinalPos Proofs.LiveLeaves
open UtreexoVerif.Props.C01 UtreexoVerif.Props.C01b UtreexoVerif.Props.C11del

section
variable {H : Type} [DecidableEq H] [Hasher H]

/-- **specification of `NewAdd*` and `ToDestroy`** for the additions `adds` applied to a forest
`G`: verbatim the clauses of `stump_add_updateData_statement`.  `upd` contains exactly the pairs
of `NewAddSpec` (every added leaf and every node that became a child of a parent created by the
additions, with final position and hash), strictly sorted by position, no hash twice; `td` lists
the root positions of exactly the all-zero roots merged over, in ascending rows. -/
def AddDataSpec (G : Forest H) (adds : List H) (upd : HP H) (td : List U64) : Prop :=
  let S := G.slots ++ adds.map some
  let n := G.numLeaves
  let R := forestRows (n + adds.length)
  (∀ p h, (p, h) ∈ upd ↔ ∃ pos : Pos, p = encU R pos.1 pos.2 ∧ NewAddSpec n S (pos, h)) ∧
  upd.Pairwise (fun a b => a.1 < b.1) ∧ (upd.map (·.2)).Nodup ∧
  ∃ L : List Nat, td = L.map (fun h => encU R h (2 * (n / 2 ^ (h + 1)))) ∧ AscFrom 0 L ∧
    ∀ h, h ∈ L ↔ (n.testBit h = true ∧ chunkHash G.slots h (2 * (n / 2 ^ (h + 1))) = zero ∧
      (n / 2 ^ (h + 1) + 1) * 2 ^ (h + 1) ≤ n + adds.length)

/-- **the forest after the deletions satisfies the hypotheses of the add theorem** when `F`
satisfies those of the block theorem -/
theorem addMany_delLeaves_ok {F : Forest H} {dels adds : List H}
    (hnd : F.liveLeaves.Nodup)
    (hleaf : ∀ x ∈ F.liveLeaves, x ≠ (zero : H) ∧ ∀ a b : H, x ≠ ph a b)
    (hadds : ∀ x ∈ adds, x ≠ (zero : H) ∧ ∀ a b : H, x ≠ ph a b)
    (haddsnd : adds.Nodup) (hnew : ∀ x ∈ adds, x ∈ F.liveLeaves → x ∈ dels) :
    ((F.delLeaves dels).addMany adds).liveLeaves.Nodup ∧
    ∀ x ∈ ((F.delLeaves dels).addMany adds).liveLeaves, x ≠ (zero : H) ∧ ∀ a b : H, x ≠ ph a b :=
  ⟨liveLeaves_modify_nodup_of hnd haddsnd hnew, forall_liveLeaves_modify hleaf hadds⟩

/-! ### any hash, given that the forest after the block has no hash at two places

Of the hash function only `NZ H` is used (parent hashes are never the zero hash) and the FINITE hypothesis
`NodesDistinct` on the forest AFTER the block (no non-zero hash sits at two of its places;
`Proofs/NodesUnique.lean`).  The leaves need not be "not parent hashes", the additions need not
be new: all of this is subsumed by `NodesDistinct`. -/

theorem stump_add_dataSpec_nd (nz : NZ H) (nonZero : H) (hnz : nonZero ≠ (zero : H)) (G : Forest H)
    (adds : List H) (hlt : G.numLeaves + adds.length ≤ 2 ^ 63)
    (hleaf : ∀ x ∈ (G.addMany adds).liveLeaves, x ≠ (zero : H))
    (hd : NodesDistinct (G.addMany adds)) :
    ∃ upd td, (stumpOf G).add nonZero adds = .ok (stumpOf (G.addMany adds), upd, td) ∧
      AddDataSpec G adds upd td := by
  obtain ⟨upd, td, h1, h2⟩ := stump_add_updateData_nd nz nonZero G (stumpOf G) adds hnz rfl rfl hlt
    (fun x hx => hleaf x (mem_liveLeaves.2 hx)) hd
  refine ⟨upd, td, ?_, h2⟩
  rw [h1]
  simp only [stumpOf, Spec.numLeaves_addMany]

/-- **C11, the update data of a whole valid block, for a hash that is not collision-free**:
`NZ H`, and `NodesDistinct (F.modify dels adds)` for the forest after the block. -/
theorem stump_update_data_nd (nz : NZ H) (nonZero : H) (hnz : nonZero ≠ (zero : H))
    (F : Forest H) (s : Stump H) (dels adds : List H) (targets : List Pos) (proof junk : List H)
    (hr : s.roots = F.roots) (hn : s.numLeaves = BitVec.ofNat 64 F.numLeaves)
    (hlt : F.numLeaves + adds.length ≤ 2 ^ 63)
    (hnd : F.liveLeaves.Nodup)
    (hleaf : ∀ x ∈ F.liveLeaves, x ≠ (zero : H)) (hadds : ∀ x ∈ adds, x ≠ (zero : H))
    (hdn : dels.Nodup) (hc : F.canon dels = some (targets, proof))
    (hd : NodesDistinct (F.modify dels adds)) :
    ∃ ud : UpdateData H,
      s.update nonZero dels adds (encTargets F.rows targets) (proof ++ junk) =
        .ok (⟨(F.modify dels adds).roots, BitVec.ofNat 64 (F.modify dels adds).numLeaves⟩, ud) ∧
      ud.prevNumLeaves = BitVec.ofNat 64 F.numLeaves ∧
      ud.newDel = newDelSpec F dels targets ∧
      AddDataSpec (F.delLeaves dels) adds ud.newAdd ud.toDestroy := by
  have hs : s = stumpOf F := by
    cases s
    simp only at hr hn
    subst hr hn
    rfl
  subst hs
  have ok : ForestOK F := ⟨by omega, nz.nonzero, hleaf, hnd⟩
  have g2 : ∀ x ∈ ((F.delLeaves dels).addMany adds).liveLeaves, x ≠ (zero : H) :=
    forall_liveLeaves_modify hleaf hadds
  obtain ⟨upd, td, hadd, hspec⟩ := stump_add_dataSpec_nd nz nonZero hnz (F.delLeaves dels) adds
    (by rw [numLeaves_delLeaves]; exact hlt) g2 hd
  refine ⟨{ toDestroy := td, prevNumLeaves := BitVec.ofNat 64 F.numLeaves,
            newDel := newDelSpec F dels targets, newAdd := upd }, ?_, rfl, rfl, hspec⟩
  rw [stump_update_eq ok junk hdn hc nonZero adds, hadd]
  rfl

/-- **C11 along every valid history, for a hash that is not collision-free**: as
`stump_update_data_history`, from `NZ H` and `NodesDistinct` of the specification forest AFTER
the block in question. -/
theorem stump_update_data_history_nd (nz : NZ H) (nonZero : H) (hnz : nonZero ≠ (zero : H))
    (pre post : List (Block H)) (d a : List H) (v : ValidHistory (pre ++ (d, a) :: post))
    (hd : NodesDistinct (run Forest.empty (pre ++ [(d, a)]))) :
    ∃ (targets : List Pos) (proof : List H) (ud : UpdateData H),
      stumpRun nonZero Forest.empty ⟨[], 0#64⟩ pre = some (stumpOf (run Forest.empty pre)) ∧
      (run Forest.empty pre).canon d = some (targets, proof) ∧
      (stumpOf (run Forest.empty pre)).update nonZero d a
          (encTargets (run Forest.empty pre).rows targets) proof =
        .ok (stumpOf (run Forest.empty (pre ++ [(d, a)])), ud) ∧
      ud.prevNumLeaves = BitVec.ofNat 64 (run Forest.empty pre).numLeaves ∧
      ud.newDel = newDelSpec (run Forest.empty pre) d targets ∧
      AddDataSpec ((run Forest.empty pre).delLeaves d) a ud.newAdd ud.toDestroy := by
  have inv0 := v.histOK
  have invF := inv0.run_prefix
  have hliveF := (liveDels_append.1 v.live).2
  have hpre := stumpRun_prefix nz.nonzero nonZero inv0 v.live v.dels_nodup
  rw [stumpOf_empty] at hpre
  rw [run_append] at hd
  generalize hF : run Forest.empty pre = F at *
  have hsmall : F.numLeaves ≤ 2 ^ 63 := by have := invF.small; omega
  obtain ⟨targets, proof, hc⟩ := C02.canon_defined hsmall hliveF.1
  have hleafF : ∀ x ∈ F.liveLeaves, x ≠ (zero : H) := by
    intro x hx
    rw [← hF] at hx
    rcases liveLeaves_run_subset pre _ x hx with h | h
    · cases h
    · exact (v.adds_leaf x (by rw [allAdds_append]; exact List.mem_append_left _ h)).1
  have hadds : ∀ x ∈ a, x ≠ (zero : H) := by
    intro x hx
    exact (v.adds_leaf x (by
      rw [allAdds_append, allAdds_cons]
      exact List.mem_append_right _ (List.mem_append_left _ hx))).1
  have hsm := invF.small
  rw [allAdds_cons, List.length_append] at hsm
  obtain ⟨ud, h1, h2, h3, h4⟩ := stump_update_data_nd nz nonZero hnz F (stumpOf F) d a targets proof []
    rfl rfl (by simp only at hsm; omega) invF.live_nodup hleafF hadds
    (v.dels_nodup (d, a) (by simp)) hc hd
  rw [List.append_nil] at h1
  refine ⟨targets, proof, ud, hpre, hc, ?_, h2, h3, h4⟩
  rw [h1, run_append, hF]
  rfl

/-! ### collision-free hashes: `NodesDistinct` holds of itself -/

/-- **C11: the update data of a whole valid block.**

Hypotheses: `CR H`; `nonZero ≠ zero` (Go's `Hash{1}` placeholder); the stump holds the roots and
leaf count of `F`; at most `2^63` leaves after the block; the live leaves of `F` are pairwise
distinct, non-zero and not parent hashes; the additions are pairwise distinct, non-zero, not
parent hashes, and differ from every leaf that stays alive (a leaf deleted in this very block
may be added again); the deletions `dels` are duplicate-free and `(targets, proof)` is their
canonical proof (so they are live); `junk` is appended to the proof. -/
theorem stump_update_data (cr : CR H) (nonZero : H) (hnz : nonZero ≠ (zero : H))
    (F : Forest H) (s : Stump H) (dels adds : List H) (targets : List Pos) (proof junk : List H)
    (hr : s.roots = F.roots) (hn : s.numLeaves = BitVec.ofNat 64 F.numLeaves)
    (hlt : F.numLeaves + adds.length ≤ 2 ^ 63)
    (hnd : F.liveLeaves.Nodup)
    (hleaf : ∀ x ∈ F.liveLeaves, x ≠ (zero : H) ∧ ∀ a b : H, x ≠ ph a b)
    (hadds : ∀ x ∈ adds, x ≠ (zero : H) ∧ ∀ a b : H, x ≠ ph a b)
    (haddsnd : adds.Nodup) (hnew : ∀ x ∈ adds, x ∈ F.liveLeaves → x ∈ dels)
    (hdn : dels.Nodup) (hc : F.canon dels = some (targets, proof)) :
    ∃ ud : UpdateData H,
      s.update nonZero dels adds (encTargets F.rows targets) (proof ++ junk) =
        .ok (⟨(F.modify dels adds).roots, BitVec.ofNat 64 (F.modify dels adds).numLeaves⟩, ud) ∧
      ud.prevNumLeaves = BitVec.ofNat 64 F.numLeaves ∧
      ud.newDel = newDelSpec F dels targets ∧
      AddDataSpec (F.delLeaves dels) adds ud.newAdd ud.toDestroy := by
  obtain ⟨g1, g2⟩ := addMany_delLeaves_ok (dels := dels) hnd hleaf hadds haddsnd hnew
  exact stump_update_data_nd cr.toNZ nonZero hnz F s dels adds targets proof junk hr hn hlt hnd
    (fun x hx => (hleaf x hx).1) (fun x hx => (hadds x hx).1) hdn hc
    (nodesDistinct_of_CR cr _ g1 (fun x hx => (g2 x hx).2))

/-- the same for a block of a valid history: additions new with respect to ALL live leaves -/
theorem stump_update_data' (cr : CR H) (nonZero : H) (hnz : nonZero ≠ (zero : H))
    (F : Forest H) (dels adds : List H) (targets : List Pos) (proof : List H)
    (hlt : F.numLeaves + adds.length ≤ 2 ^ 63)
    (hnd : F.liveLeaves.Nodup)
    (hleaf : ∀ x ∈ F.liveLeaves, x ≠ (zero : H) ∧ ∀ a b : H, x ≠ ph a b)
    (hadds : ∀ x ∈ adds, x ≠ (zero : H) ∧ ∀ a b : H, x ≠ ph a b)
    (haddsnd : adds.Nodup) (hnew : ∀ x ∈ adds, x ∉ F.liveLeaves)
    (hdn : dels.Nodup) (hc : F.canon dels = some (targets, proof)) :
    ∃ ud : UpdateData H,
      (stumpOf F).update nonZero dels adds (encTargets F.rows targets) proof =
        .ok (stumpOf (F.modify dels adds), ud) ∧
      ud.prevNumLeaves = BitVec.ofNat 64 F.numLeaves ∧
      ud.newDel = newDelSpec F dels targets ∧
      AddDataSpec (F.delLeaves dels) adds ud.newAdd ud.toDestroy := by
  have := stump_update_data cr nonZero hnz F (stumpOf F) dels adds targets proof [] rfl rfl hlt hnd
    hleaf hadds haddsnd (fun x hx hx' => absurd hx' (hnew x hx)) hdn hc
  rw [List.append_nil] at this
  exact this

/-- **C11 along every valid history**: at every block `(d, a)` of a valid history from the empty
accumulator (`pre` before it, `post` after it), the stump reached by running the model along
`pre` is the stump of the specification forest `F = run empty pre`, the canonical proof of `d`
exists, and `Stump.Update` returns the stump of the next specification forest together with
exactly the specified update data. -/
theorem stump_update_data_history (cr : CR H) (nonZero : H) (hnz : nonZero ≠ (zero : H))
    (pre post : List (Block H)) (d a : List H) (v : ValidHistory (pre ++ (d, a) :: post)) :
    ∃ (targets : List Pos) (proof : List H) (ud : UpdateData H),
      stumpRun nonZero Forest.empty ⟨[], 0#64⟩ pre = some (stumpOf (run Forest.empty pre)) ∧
      (run Forest.empty pre).canon d = some (targets, proof) ∧
      (stumpOf (run Forest.empty pre)).update nonZero d a
          (encTargets (run Forest.empty pre).rows targets) proof =
        .ok (stumpOf (run Forest.empty (pre ++ [(d, a)])), ud) ∧
      ud.prevNumLeaves = BitVec.ofNat 64 (run Forest.empty pre).numLeaves ∧
      ud.newDel = newDelSpec (run Forest.empty pre) d targets ∧
      AddDataSpec ((run Forest.empty pre).delLeaves d) a ud.newAdd ud.toDestroy := by
  have inv1 : HistOK (run Forest.empty (pre ++ [(d, a)])) post :=
    HistOK.run_prefix (by rw [List.append_assoc]; exact v.histOK)
  refine stump_update_data_history_nd cr.toNZ nonZero hnz pre post d a v
    (nodesDistinct_of_CR cr _ inv1.live_nodup ?_)
  intro x hx
  rcases liveLeaves_run_subset _ _ x hx with h | h
  · cases h
  · refine (v.adds_leaf x ?_).2
    rw [show pre ++ (d, a) :: post = (pre ++ [(d, a)]) ++ post by rw [List.append_assoc]; rfl,
      allAdds_append]
    exact List.mem_append_left _ h

end

namespace Example
open UtreexoVerif.Props.C01.Example

/-- three live leaves: trees `{1,2}` (row 1) and `{3}` (row 0) -/
def F3' : Forest T := ⟨[some (.leaf 1), some (.leaf 2), some (.leaf 3)]⟩

theorem canon3 : F3'.canon [T.leaf 3, .leaf 1] = some ([(0, 2), (0, 0)], [T.leaf 2]) := by
  decide +kernel

theorem leafT (n : Nat) : T.leaf n ≠ (zero : T) ∧ ∀ a b : T, T.leaf n ≠ ph a b :=
  ⟨fun h => (by cases h), fun a b h => (by cases h)⟩

/-- the hypotheses of `stump_update_data` are satisfiable: the block deletes leaf 3 (emptying the
tree on row 0, whose root becomes all-zero) and leaf 1, and adds leaves 4 and 5 (leaf 4 merges
over the empty root); one junk hash is appended to the proof -/
theorem block3 : ∃ ud : UpdateData T,
    (Stump.mk F3'.roots 3#64).update (T.leaf 0) [T.leaf 3, .leaf 1] [T.leaf 4, .leaf 5]
        (encTargets F3'.rows [(0, 2), (0, 0)]) ([T.leaf 2] ++ [T.leaf 99]) =
      .ok (⟨(F3'.modify [T.leaf 3, .leaf 1] [T.leaf 4, .leaf 5]).roots,
            BitVec.ofNat 64 (F3'.modify [T.leaf 3, .leaf 1] [T.leaf 4, .leaf 5]).numLeaves⟩, ud) ∧
    ud.prevNumLeaves = BitVec.ofNat 64 F3'.numLeaves ∧
    ud.newDel = newDelSpec F3' [T.leaf 3, .leaf 1] [(0, 2), (0, 0)] ∧
    AddDataSpec (F3'.delLeaves [T.leaf 3, .leaf 1]) [T.leaf 4, .leaf 5] ud.newAdd ud.toDestroy :=
  stump_update_data cr (T.leaf 0) (by intro h; cases h) F3' ⟨F3'.roots, 3#64⟩ _ _ _ _ [T.leaf 99]
    rfl (by decide) (by decide) (by decide)
    (by intro x hx
        have : x = .leaf 1 ∨ x = .leaf 2 ∨ x = .leaf 3 := by simpa [F3', Forest.liveLeaves] using hx
        rcases this with rfl | rfl | rfl <;> exact leafT _)
    (by intro x hx
        have : x = .leaf 4 ∨ x = .leaf 5 := by simpa using hx
        rcases this with rfl | rfl <;> exact leafT _)
    (by decide)
    (by intro x hx hx'
        have h1 : x = .leaf 4 ∨ x = .leaf 5 := by simpa using hx
        have h2 : x = .leaf 1 ∨ x = .leaf 2 ∨ x = .leaf 3 := by
          simpa [F3', Forest.liveLeaves] using hx'
        rcases h1 with rfl | rfl <;> rcases h2 with h | h | h <;> cases h)
    (by decide) canon3

/-- the model, simply evaluated on that block: the new stump, -/
example : ((Stump.mk F3'.roots 3#64).update (T.leaf 0) [T.leaf 3, .leaf 1] [T.leaf 4, .leaf 5]
      (encTargets F3'.rows [(0, 2), (0, 0)]) [T.leaf 2, T.leaf 99]).toOption.map (·.1) =
    some ⟨[T.node (.leaf 2) (.leaf 4), .leaf 5], 5#64⟩ := by decide +kernel

/-- `ToDestroy` (the empty root at position 2) and `PrevNumLeaves`, -/
example : ((Stump.mk F3'.roots 3#64).update (T.leaf 0) [T.leaf 3, .leaf 1] [T.leaf 4, .leaf 5]
      (encTargets F3'.rows [(0, 2), (0, 0)]) [T.leaf 2, T.leaf 99]).toOption.map
      (fun r => (r.2.toDestroy, r.2.prevNumLeaves)) = some ([2#64], 3#64) := by decide +kernel

/-- `NewDel` (positions in the 2-row forest before the block) -/
example : ((Stump.mk F3'.roots 3#64).update (T.leaf 0) [T.leaf 3, .leaf 1] [T.leaf 4, .leaf 5]
      (encTargets F3'.rows [(0, 2), (0, 0)]) [T.leaf 2, T.leaf 99]).toOption.map (·.2.newDel) =
    some [(0#64, T.z), (2#64, T.z), (4#64, T.leaf 2)] := by decide +kernel

/-- and `NewAdd` (positions in the 3-row forest after the block) -/
example : ((Stump.mk F3'.roots 3#64).update (T.leaf 0) [T.leaf 3, .leaf 1] [T.leaf 4, .leaf 5]
      (encTargets F3'.rows [(0, 2), (0, 0)]) [T.leaf 2, T.leaf 99]).toOption.map (·.2.newAdd) =
    some [(4#64, T.leaf 5), (8#64, T.leaf 2), (9#64, T.leaf 4)] := by decide +kernel

/-- the specified `NewDel` evaluates to the same list -/
example : newDelSpec F3' [T.leaf 3, .leaf 1] [(0, 2), (0, 0)] =
    [(0#64, T.z), (2#64, T.z), (4#64, T.leaf 2)] := by decide +kernel

/-- `stump_update_data_history` at the second block of the three-block history `histC` of
`Props/C01d.lean` (delete leaf 3, add leaves 4 and 5) -/
example : ∃ (targets : List Pos) (proof : List T) (ud : UpdateData T),
    stumpRun (T.leaf 0) Forest.empty ⟨[], 0#64⟩ (histC.take 1) =
      some (stumpOf (run Forest.empty (histC.take 1))) ∧
    (run Forest.empty (histC.take 1)).canon [T.leaf 3] = some (targets, proof) ∧
    (stumpOf (run Forest.empty (histC.take 1))).update (T.leaf 0) [T.leaf 3] [T.leaf 4, .leaf 5]
        (encTargets (run Forest.empty (histC.take 1)).rows targets) proof =
      .ok (stumpOf (run Forest.empty (histC.take 1 ++ [([T.leaf 3], [T.leaf 4, .leaf 5])])), ud) ∧
    ud.prevNumLeaves = BitVec.ofNat 64 (run Forest.empty (histC.take 1)).numLeaves ∧
    ud.newDel = newDelSpec (run Forest.empty (histC.take 1)) [T.leaf 3] targets ∧
    AddDataSpec ((run Forest.empty (histC.take 1)).delLeaves [T.leaf 3]) [T.leaf 4, .leaf 5]
      ud.newAdd ud.toDestroy :=
  stump_update_data_history cr (T.leaf 0) (by intro h; cases h) (histC.take 1)
    [([T.leaf 1, .leaf 4], [T.leaf 6])] [T.leaf 3] [T.leaf 4, .leaf 5] histC_valid


end Example

end UtreexoVerif.Props.C11
