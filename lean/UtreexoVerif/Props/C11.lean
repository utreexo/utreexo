/-
  C11 — update data describes exactly what the block changed: the ADDITION part
  (`NewAddPos/NewAddHash`, `ToDestroy`) of `Stump.add`.

  `stump_add_updateData`: for a stump that holds the roots of a specification forest `F`
  (distinct, non-zero leaves that are not parent hashes; collision-free `ph`), `Stump.add`
  returns

  * the roots and leaf count of `F.addMany adds` (C01);
  * `upd` — strictly sorted by position, no hash twice — containing exactly the pairs of
    `Spec.NewAddSpec`: every added leaf and every node that became a child of a parent
    created by the additions, each with its final position (in `TreeRows` coordinates of the
    forest after the block) and hash;
  * `td` — the root positions (same coordinates), in order of destruction (ascending rows), of
    exactly the all-zero roots that the additions merged over.

  Not covered here: `NewDel*` (the deletion half, which needs `calculateHashes` completeness:
  Props/C11del.lean; all fields at once: Props/C11b.lean).

  `stump_add_updateData_nd`: the same conclusion for a hash that is not collision-free (`CR H` is
  impossible for a finite hash type): from `NZ H` (parent hashes are never the zero hash), non-zero
  leaves and the finite, decidable `NodesDistinct (F.addMany adds)` of `Proofs/NodesUnique.lean`;
  `stump_add_updateData` is its corollary under `CR H`.
-/
import UtreexoVerif.Proofs.StumpAddPos
import UtreexoVerif.Proofs.NodeCred
import UtreexoVerif.Proofs.SortBy
import UtreexoVerif.Props.C16b
import UtreexoVerif.Props.C01

namespace UtreexoVerif.Props.C11
open Model Hasher Spec Proofs Proofs.FinalPos Proofs.StumpAdd Proofs.StumpAddPos

/-- the bit-level facts used by the position proofs, from the C16 theorems -/
theorem posFacts : PosFacts where
  isAncestor := fun hh hr ho hr' ho' => Props.C16.isAncestor_enc hh hr ho hr' ho'
  calcNext := fun hh hrr hr' ho ho' => Props.C16.calcNextPosition_enc hh hrr hr' ho ho'
  rootPosition := fun hh hrow n hn => by
    rw [Props.C16.rootPosition_enc hh hrow n hn]
    simp [Spec.rootPos, Nat.shiftRight_eq_div_pow]

section
variable {H : Type} [DecidableEq H] [Hasher H]

theorem treeRows_eq_H8 {N : Nat} (hN : N ≤ 2 ^ 63) :
    TreeRows (BitVec.ofNat 64 N) = H8 (forestRows N) :=
  treeRows_ofNat hN

theorem isNode_valid (S : List (Option H)) {R : Nat} (hN : S.length ≤ 2 ^ R) {pos : Pos} {h : H}
    (hn : IsNode S (pos, h)) : pos.1 ≤ R ∧ pos.2 < 2 ^ (R - pos.1) := by
  obtain ⟨T, l, b, ⟨h1, h2, _⟩, _, he⟩ := hn
  have := nodePos_valid S (R := R) b hN h1 h2
  rw [(Prod.mk.inj he).1]
  exact ⟨by omega, this.2.2.2⟩

theorem encP_inj {R : Nat} (hR : R ≤ 63) {p q : Pos} (hp : p.1 ≤ R ∧ p.2 < 2 ^ (R - p.1))
    (hq : q.1 ≤ R ∧ q.2 < 2 ^ (R - q.1)) (h : encP R p = encP R q) : p = q :=
  Proofs.encP_inj hR hp hq h

/-- Full statement of the addition part of C11 (see the file header). -/
def stump_add_updateData_statement (H : Type) [DecidableEq H] [Hasher H] : Prop :=
  ∀ (nonZero : H) (F : Forest H) (s : Stump H) (adds : List H),
    CR H → nonZero ≠ (zero : H) →
    s.roots = F.roots → s.numLeaves = BitVec.ofNat 64 F.numLeaves →
    F.numLeaves + adds.length ≤ 2 ^ 63 →
    ((F.slots ++ adds.map some).filterMap id).Nodup →
    (∀ x : H, some x ∈ F.slots ++ adds.map some → x ≠ (zero : H) ∧ ∀ a b : H, x ≠ ph a b) →
    let S := F.slots ++ adds.map some
    let n := F.numLeaves
    let R := forestRows (n + adds.length)
    ∃ upd td, s.add nonZero adds =
        .ok (⟨(F.addMany adds).roots, BitVec.ofNat 64 (n + adds.length)⟩, upd, td) ∧
      -- NewAdd: exactly the specified (position, hash) pairs
      (∀ p h, (p, h) ∈ upd ↔ ∃ pos : Pos, p = encU R pos.1 pos.2 ∧ NewAddSpec n S (pos, h)) ∧
      -- strictly sorted by position, no hash twice
      upd.Pairwise (fun a b => a.1 < b.1) ∧ (upd.map (·.2)).Nodup ∧
      -- ToDestroy: the all-zero roots merged over, ascending rows, at their root positions
      ∃ L : List Nat, td = L.map (fun h => encU R h (2 * (n / 2 ^ (h + 1)))) ∧ AscFrom 0 L ∧
        ∀ h, h ∈ L ↔ (n.testBit h = true ∧ chunkHash F.slots h (2 * (n / 2 ^ (h + 1))) = zero ∧
          (n / 2 ^ (h + 1) + 1) * 2 ^ (h + 1) ≤ n + adds.length)

/-- **The addition part of C11 for a hash that is NOT collision-free.**  The same conclusion as
`stump_add_updateData_statement`, from `NZ H` (parent hashes are never the zero hash), non-zero
leaves, and the FINITE hypothesis `NodesDistinct (F.addMany adds)`: no non-zero hash sits at two
places of the forest after the additions (decidable; a violation is an explicit collision).
`Stump.add` collects `NewAdd` in a map keyed by hash, so this hypothesis is needed. -/
theorem stump_add_updateData_nd (nz : NZ H) (nonZero : H) (F : Forest H) (s : Stump H)
    (adds : List H) (hnz : nonZero ≠ (zero : H))
    (hr : s.roots = F.roots) (hn : s.numLeaves = BitVec.ofNat 64 F.numLeaves)
    (hlt : F.numLeaves + adds.length ≤ 2 ^ 63)
    (hSnz : ∀ x : H, some x ∈ F.slots ++ adds.map some → x ≠ (zero : H))
    (hd : NodesDistinct (F.addMany adds)) :
    let S := F.slots ++ adds.map some
    let n := F.numLeaves
    let R := forestRows (n + adds.length)
    ∃ upd td, s.add nonZero adds =
        .ok (⟨(F.addMany adds).roots, BitVec.ofNat 64 (n + adds.length)⟩, upd, td) ∧
      (∀ p h, (p, h) ∈ upd ↔ ∃ pos : Pos, p = encU R pos.1 pos.2 ∧ NewAddSpec n S (pos, h)) ∧
      upd.Pairwise (fun a b => a.1 < b.1) ∧ (upd.map (·.2)).Nodup ∧
      ∃ L : List Nat, td = L.map (fun h => encU R h (2 * (n / 2 ^ (h + 1)))) ∧ AscFrom 0 L ∧
        ∀ h, h ∈ L ↔ (n.testBit h = true ∧ chunkHash F.slots h (2 * (n / 2 ^ (h + 1))) = zero ∧
          (n / 2 ^ (h + 1) + 1) * 2 ^ (h + 1) ≤ n + adds.length) := by
  intro S n R
  have hSlen : S.length = n + adds.length := by simp [S, n, Forest.numLeaves]
  have hR : R ≤ 63 := forestRows_small hlt
  have hN : S.length ≤ 2 ^ R := by rw [hSlen]; exact forestRows_spec_le _
  have hS64 : S.length < 2 ^ 64 := by omega
  have hf : Functional S := fun p p' h h1 h2 =>
    isNode_functional_nd nz S hS64 hSnz hd p p' h h1 h2
  have hTR : TreeRows (BitVec.ofNat 64 n + BitVec.ofNat 64 adds.length) = H8 R := by
    rw [← BitVec.ofNat_add]; exact treeRows_eq_H8 hlt
  have hzp : F.roots.map (fun r => decide (r = zero)) = (treeRows n).map
      (fun h => decide (chunkHash F.slots h (2 * (n / 2 ^ (h + 1))) = zero)) := by
    rw [roots_chunks, List.map_map]; rfl
  obtain ⟨L, hd, hLasc, hLmem⟩ := rootsToDestroy_exact hR nonZero hnz adds.length n _
    F.roots (by rw [← hSlen]; exact hN) hzp hTR
  obtain ⟨upd', hloop, hc, hkeys, hmem⟩ := loop_exact nz.nonzero nonZero hnz S hSnz hf hR hN
    adds F s [] adds.length rfl rfl hr hn (fun _ => hTR) (fun e he => by cases he) (by simp)
  refine ⟨sortHP (upd'.map (fun e => (e.2, e.1))), L.map (fun h => encU R h (2 * (n / 2 ^ (h + 1)))),
    ?_, ?_, ?_, ?_, L, rfl, hLasc, ?_⟩
  · unfold Stump.add
    simp only
    rw [hn, hr, hd, ok_bind, hTR, hloop, ok_bind]
    rfl
  · intro p h
    unfold sortHP
    rw [(SortBy.sortBy_perm _ _).mem_iff, List.mem_map]
    constructor
    · rintro ⟨e, he, heq⟩
      rcases (hmem e).mp he with h0 | ⟨q, hq, rfl⟩
      · cases h0
      · obtain ⟨rfl, rfl⟩ := Prod.mk.inj heq
        exact ⟨q.1, rfl, hq⟩
    · rintro ⟨pos, rfl, hp2⟩
      exact ⟨_, (hmem _).mpr (Or.inr ⟨(pos, h), hp2, rfl⟩), rfl⟩
  · -- strictly sorted: positions are pairwise distinct
    apply SortBy.sortBy_strict
    rw [List.map_map]
    apply SortBy.nodup_map_of_determines (fun e : H × U64 => e.1) _ upd' hkeys
    intro a ha b hb hab
    obtain ⟨pa, ha1, ha2⟩ := hc a ha
    obtain ⟨pb, hb1, hb2⟩ := hc b hb
    simp only [Function.comp] at hab
    rw [ha1, hb1] at hab
    have := encP_inj hR (isNode_valid S hN ha2) (isNode_valid S hN hb2) hab
    subst this
    exact isNode_pos_unique S hS64 pa a.1 b.1 ha2 hb2
  · unfold sortHP
    have hp := (SortBy.sortBy_perm (fun e : U64 × H => e.1) (upd'.map (fun e => (e.2, e.1)))).map (·.2)
    rw [hp.nodup_iff, List.map_map]
    exact hkeys
  · intro h
    rw [hLmem]
    simp only [decide_eq_true_eq]

theorem stump_add_updateData : stump_add_updateData_statement H := by
  intro nonZero F s adds cr hnz hr hn hlt hnd hleaf
  exact stump_add_updateData_nd cr.toNZ nonZero F s adds hnz hr hn hlt (fun x hx => (hleaf x hx).1)
    (nodesDistinct_of_CR cr (F.addMany adds)
      hnd (fun x hx a b => (hleaf x (Forest.mem_liveLeaves.mp hx)).2 a b))

/-- the pairs of the specification are nodes of the final forest (`Spec.Forest.nodes`) at the
stated positions -/
theorem newAddSpec_mem_nodes (n : Nat) (S : List (Option H)) (hS : S.length < 2 ^ 64) (pos : Pos) (h : H)
    (hs : NewAddSpec n S (pos, h)) : ∃ lf, (pos, h, lf) ∈ (Forest.mk S).nodes :=
  isNode_mem_nodes S hS hs.isNode

/-- every added leaf is reported (with the position of its slot's collapsed node) -/
theorem newAddSpec_added_leaf (F : Forest H) (adds : List H) (i : Nat) (hi : i < adds.length) :
    ∃ pos, NewAddSpec F.numLeaves (F.slots ++ adds.map some) (pos, adds[i]) := by
  have hlen : (F.slots ++ adds.map some).length = F.numLeaves + adds.length := by
    simp [Forest.numLeaves]
  have hslot : (F.slots ++ adds.map some)[F.numLeaves + i]? = some (some adds[i]) := by
    rw [List.getElem?_append_right (by simp [Forest.numLeaves])]
    simp [Forest.numLeaves, hi]
  obtain ⟨T, h1, h2, h3⟩ := exists_tree_of_lt (F.slots ++ adds.map some).length (F.numLeaves + i)
    (by omega)
  refine ⟨nodePos (F.slots ++ adds.map some) T 0 (F.numLeaves + i), T, 0, F.numLeaves + i,
    inTree_slot h1 h2 h3, ?_, ?_, Or.inl ⟨rfl, by omega⟩⟩
  · unfold chunkAlive; rw [chunk_zero, hslot]; rfl
  · unfold chunkHash; rw [chunk_zero, hslot]; rfl

end

namespace Example
open UtreexoVerif.Props.C01.Example

/-- a forest of three slots: the tree on row 1 has no survivors (all-zero root), leaf 3 alive -/
def F3 : Forest T := ⟨[none, none, some (.leaf 3)]⟩

/-- `stump_add_updateData` applies: adding leaf 4 merges over the empty root -/
example : ∃ upd td, (Stump.mk F3.roots 3#64).add (T.leaf 0) [.leaf 4] =
      .ok (⟨(F3.addMany [.leaf 4]).roots, BitVec.ofNat 64 (3 + 1)⟩, upd, td) ∧
    (∀ p h, (p, h) ∈ upd ↔ ∃ pos : Pos, p = encU (forestRows 4) pos.1 pos.2 ∧
      NewAddSpec 3 (F3.slots ++ [some (.leaf 4)]) (pos, h)) ∧
    upd.Pairwise (fun a b => a.1 < b.1) ∧ (upd.map (·.2)).Nodup := by
  obtain ⟨upd, td, h1, h2, h3, h4, _⟩ := stump_add_updateData (T.leaf 0) F3 ⟨F3.roots, 3#64⟩ [.leaf 4] cr
    (by intro h; cases h) rfl (by decide) (by decide) (by decide)
    (by
      intro x hx
      simp [F3] at hx
      rcases hx with rfl | rfl
      · exact ⟨(by intro h; cases h), (by intro a b h; cases h)⟩
      · exact ⟨(by intro h; cases h), (by intro a b h; cases h)⟩)
  exact ⟨upd, td, h1, h2, h3, h4⟩

/-- the concrete value: leaf 3 and leaf 4 become the children (positions 4 and 5 of a forest
with 2 rows) of the new root; the empty root at position 4 was destroyed -/
example : (Stump.mk F3.roots 3#64).add (T.leaf 0) [.leaf 4] =
    .ok (⟨[T.node (.leaf 3) (.leaf 4)], 4#64⟩, [(4#64, .leaf 3), (5#64, .leaf 4)], [4#64]) := by
  decide +kernel

/-- a larger instance: five slots (one dead), three additions; the created nodes with their
final positions in a forest with 3 rows -/
example : ((Stump.mk F5.roots 5#64).add (T.leaf 0) [.leaf 6, .leaf 7, .leaf 8]).toOption.map (·.2.1) =
    some [(4#64, .leaf 5), (5#64, .leaf 6), (6#64, .leaf 7), (7#64, .leaf 8),
      (10#64, .node (.leaf 5) (.leaf 6)), (11#64, .node (.leaf 7) (.leaf 8)),
      (12#64, .node (.leaf 1) (.node (.leaf 3) (.leaf 4))),
      (13#64, .node (.node (.leaf 5) (.leaf 6)) (.node (.leaf 7) (.leaf 8)))] := by
  decide +kernel

end Example

end UtreexoVerif.Props.C11
