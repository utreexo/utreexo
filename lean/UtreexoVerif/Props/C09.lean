/-
  Property C09 — "a partial forest stores only true, needed hashes and can always prove its
  cache" — theorems about the transliterated model of mappollard.go (`Model/MapPollard.lean`).

  The invariant `Inv m F` (`Proofs/MapInv.lean`) relates a model state `m` to the specification
  forest `F`; everything here holds for ALL states / forests (no bounds).  Preservation by every
  operation is in `Props/C09b.lean`.
-/
import UtreexoVerif.Proofs.MapInv
import UtreexoVerif.Proofs.MapPrune
import UtreexoVerif.Proofs.MapProve
import UtreexoVerif.Proofs.MapInvCheck
import UtreexoVerif.Proofs.MapAdd

namespace UtreexoVerif.Props.C09
open Model Spec Proofs MapAL MapInv
set_option linter.unusedSectionVars false

variable {H : Type} [DecidableEq H] [Hasher H]

/-- `NewMapPollard(full)` satisfies the invariant for the empty forest -/
theorem inv_new (full : Bool) : Inv (MapPollard.new full : MapPollard H) Forest.empty where
  n_lt := by show (0 : Nat) < 2 ^ 63; omega
  n_eq := rfl
  rows_le := by show forestRows 0 ≤ _; simp [forestRows]
  total_le := by show (63#8).toNat ≤ 63; decide
  true_hash := by intro p l h; cases h
  cached_pos := by intro x p h; cases h
  only_needed := by intro q l _ h; cases h
  has_needed := by
    intro q h
    rcases h with h | ⟨x, t, hk, _, _⟩
    · have : (Forest.empty : Forest H).numLeaves = 0 := rfl
      rw [this] at h
      simp [isRootPos] at h
    · cases hk
  flags := by intro _ q l _ _ h; cases h

/-- the insertion loop of `NewMapPollardFromRoots` -/
theorem foldl_put (full : Bool) (l : List (U64 × H)) : ∀ m m' : MapPollard H,
    l.foldl (fun m (e : U64 × H) => m.putNode e.1 ⟨e.2, full⟩) m = m' →
    (m'.cached = m.cached ∧ m'.numLeaves = m.numLeaves ∧ m'.totalRows = m.totalRows ∧ m'.full = m.full) ∧
    (∀ p lf, m'.getNode p = some lf → (∃ e ∈ l, e.1 = p ∧ lf = ⟨e.2, full⟩) ∨ m.getNode p = some lf) ∧
    (∀ p, (m.hasNode p = true ∨ ∃ e ∈ l, e.1 = p) → m'.hasNode p = true) := by
  induction l with
  | nil =>
    rintro m m' rfl
    exact ⟨⟨rfl, rfl, rfl, rfl⟩, fun p lf h => Or.inr h, fun p h => h.elim id (fun ⟨e, he, _⟩ => nomatch he)⟩
  | cons e t ih =>
    intro m m' hm
    obtain ⟨hf, hg, hh⟩ := ih _ m' hm
    refine ⟨hf, fun p lf h => ?_, fun p h => hh p ?_⟩
    · rcases hg p lf h with ⟨e', he', h1, h2⟩ | h'
      · exact Or.inl ⟨e', List.mem_cons_of_mem _ he', h1, h2⟩
      · rw [getNode_putNode] at h'
        split at h'
        · rename_i hp
          exact Or.inl ⟨e, List.mem_cons_self, hp.symm, (Option.some.inj h').symm⟩
        · exact Or.inr h'
    · rw [hasNode_eq, getNode_putNode]
      rcases h with h | ⟨e', he', h1⟩
      · left
        split
        · rfl
        · exact h
      · rcases List.mem_cons.1 he' with rfl | h2
        · left; rw [if_pos h1.symm]; rfl
        · exact Or.inr ⟨e', h2, h1⟩

/-- the nodes `NewMapPollardFromRoots` stores for the roots of `F`, in `T`-row coordinates -/
theorem fromRootsAt_spec (F : Forest H) (hn : F.numLeaves < 2 ^ 63) (T : Nat) (hT : T ≤ 63)
    (hrows : F.rows ≤ T) (full : Bool) :
    ∃ m : MapPollard H,
      MapPollard.fromRootsAt (H8 T) F.roots (BitVec.ofNat 64 F.numLeaves) full = .ok m ∧
      m.cached = [] ∧ m.numLeaves = BitVec.ofNat 64 F.numLeaves ∧ m.totalRows = H8 T ∧ m.full = full ∧
      (∀ p lf, m.getNode p = some lf → ∃ r, F.numLeaves.testBit r = true ∧
          p = encP T (rootPos F.numLeaves r) ∧ lf = ⟨SpecNodes.treeRoot F r, full⟩) ∧
      (∀ r, F.numLeaves.testBit r = true → m.hasNode (encP T (rootPos F.numLeaves r)) = true) := by
  have hle : F.numLeaves ≤ 2 ^ T := Nat.le_trans (numLeaves_le_pow_rows F) (two_pow_le_of_le hrows)
  have hn64 : F.numLeaves < 2 ^ 64 := by omega
  have htoNat : (BitVec.ofNat 64 F.numLeaves).toNat = F.numLeaves := toNat_ofNat64_of_lt hn64
  have hRP := Props.C16.rootPositions_spec hT (BitVec.ofNat 64 F.numLeaves) (by rw [htoNat]; exact hle)
  rw [htoNat] at hRP
  have hroots := SpecNodes.roots_eq F
  unfold MapPollard.fromRootsAt
  rw [hRP, hroots]
  simp only [List.length_map, Nat.lt_irrefl, if_false]
  rw [List.zip_map']
  refine ⟨_, rfl, ?_⟩
  obtain ⟨⟨f1, f2, f3, f4⟩, hg, hh⟩ := foldl_put full
    ((treeRows F.numLeaves).map fun a => (encU T a (rootPos F.numLeaves a).2, SpecNodes.treeRoot F a))
    { (MapPollard.new full : MapPollard H) with numLeaves := BitVec.ofNat 64 F.numLeaves, totalRows := H8 T } _ rfl
  refine ⟨f1, f2, f3, f4, ?_, ?_⟩
  · intro p lf h
    rcases hg p lf h with ⟨e, he, h1, h2⟩ | h'
    · obtain ⟨r, hr, rfl⟩ := List.mem_map.1 he
      exact ⟨r, (Spec.mem_treeRows.1 hr).2, h1.symm, h2⟩
    · cases h'
  · intro r hb
    have hr64 : r ≤ 64 := by have := testBit_lt_of_lt hn hb; omega
    exact hh _ (Or.inr ⟨_, List.mem_map.2 ⟨r, Spec.mem_treeRows.2 ⟨hr64, hb⟩, rfl⟩, rfl⟩)

/-- **`NewMapPollardFromRoots` at the roots of any forest satisfies the invariant** (in any
allocation `T ≥ TreeRows`, `T ≤ 63`; `NewMapPollardFromRoots` itself uses `T = 63`) -/
theorem inv_fromRootsAt (F : Forest H) (hn : F.numLeaves < 2 ^ 63) (T : Nat) (hT : T ≤ 63)
    (hrows : F.rows ≤ T) :
    ∃ m : MapPollard H,
      MapPollard.fromRootsAt (H8 T) F.roots (BitVec.ofNat 64 F.numLeaves) false = .ok m ∧ Inv m F := by
  obtain ⟨m, hm, hc, hnl, htr, hfull, hget, hhas⟩ := fromRootsAt_spec F hn T hT hrows false
  have hTn : m.totalRows.toNat = T := by rw [htr]; exact toNat_H8 hT
  have hle : F.numLeaves ≤ 2 ^ T := Nat.le_trans (numLeaves_le_pow_rows F) (two_pow_le_of_le hrows)
  have hvalid : ∀ r, F.numLeaves.testBit r = true → Valid T (rootPos F.numLeaves r) :=
    fun r hb => Props.C16.rootPos_valid hle hb
  have hroot : ∀ q l, Valid T q → m.getNode (encP T q) = some l → isRootPos F.numLeaves q = true := by
    intro q l hv h
    obtain ⟨r, hb, hp, _⟩ := hget _ l h
    rw [encP_inj hT hv (hvalid r hb) hp]
    exact Spec.isRootPos_rootPos hb
  refine ⟨m, hm, ?_⟩
  refine { n_lt := hn, n_eq := hnl, rows_le := by rw [hTn]; exact hrows, total_le := by rw [hTn]; exact hT,
           true_hash := ?_, cached_pos := ?_, only_needed := ?_, has_needed := ?_, flags := ?_ }
  · intro p l h
    obtain ⟨r, hb, hp, hl⟩ := hget p l h
    rw [hTn]
    refine ⟨rootPos F.numLeaves r, hvalid r hb, hp, ?_⟩
    rw [hl]
    have hr64 : r ≤ 64 := by have := testBit_lt_of_lt hn hb; omega
    exact SpecNodes.nodeAt_rootPos F (Spec.mem_treeRows.2 ⟨hr64, hb⟩)
  · intro x p h
    simp [MapPollard.getCached, hc, get?_nil] at h
  · intro q l hv h
    rw [hTn] at hv h
    exact Or.inl (hroot q l hv h)
  · intro q h
    rw [hTn]
    rcases h with h | ⟨x, _, hk, _, _⟩
    · obtain ⟨hb, hq⟩ := eq_rootPos_of_isRootPos h
      rw [hq]
      exact hhas _ hb
    · simp [MapPollard.hasCached, MapPollard.getCached, hc, get?_nil] at hk
  · intro _ q l hv hnr h
    rw [hTn] at hv h
    rw [hroot q l hv h] at hnr
    cases hnr

/-- `NewMapPollardFromRoots(roots F, numLeaves F, false)` satisfies the invariant -/
theorem inv_fromRoots (F : Forest H) (hn : F.numLeaves < 2 ^ 63) :
    ∃ m : MapPollard H,
      MapPollard.fromRoots F.roots (BitVec.ofNat 64 F.numLeaves) false = .ok m ∧ Inv m F :=
  inv_fromRootsAt F hn 63 (Nat.le_refl _) (SpecView.forestRows_le_63 hn)

/-- **`GetHash` tells the truth** (C10 for the map forest): for every position of the forest (API
coordinates) the answer is the hash of the node of `F` there, or the all-zero hash (not stored) -/
theorem getHash_true {m : MapPollard H} {F : Forest H} (inv : Inv m F) (q : Pos) (hq : Valid F.rows q) :
    m.getHash (encP F.rows q) = Hasher.zero ∨ F.nodeAt q = some (m.getHash (encP F.rows q)) := by
  unfold MapPollard.getHash
  simp only [toStorage inv hq]
  unfold MapPollard.getNodeD
  cases h : m.getNode (encP m.totalRows.toNat q) with
  | none => left; rfl
  | some l => right; exact getNode_true inv (hq.mono inv.rows_le) h

/-- a position where `F` has no node reads as the all-zero hash -/
theorem getHash_none {m : MapPollard H} {F : Forest H} (inv : Inv m F) (q : Pos) (hq : Valid F.rows q)
    (hnone : F.nodeAt q = none) : m.getHash (encP F.rows q) = Hasher.zero := by
  rcases getHash_true inv q hq with h | h
  · exact h
  · rw [hnone] at h; cases h

/-- **`GetLeafPosition` tells the truth**: a reported position is the position of that live
leaf of `F`, in API coordinates … -/
theorem getLeafPosition_some {m : MapPollard H} {F : Forest H} (inv : Inv m F) {x : H} {p : U64}
    (h : m.getLeafPosition x = some p) :
    m.hasCached x = true ∧ ∃ t, F.posOf x = some t ∧ p = encP F.rows t := by
  unfold MapPollard.getLeafPosition at h
  cases hc : m.getCached x with
  | none => rw [hc] at h; cases h
  | some pos =>
    rw [hc] at h
    simp only [Option.some.injEq] at h
    obtain ⟨t, ht, hp⟩ := inv.cached_pos x pos hc
    obtain ⟨R, hb⟩ := posOf_belowRoot ht
    have hv : Valid F.rows t := belowRoot_valid' (Nat.le_refl _) hb
    refine ⟨by simp [MapPollard.hasCached, hc], t, ht, ?_⟩
    rw [← h, hp]
    exact toApi inv hv

/-- … and "not found" is answered exactly for the hashes that are not cached -/
theorem getLeafPosition_none {m : MapPollard H} (x : H) :
    m.getLeafPosition x = none ↔ m.hasCached x = false := by
  unfold MapPollard.getLeafPosition MapPollard.hasCached
  cases m.getCached x <;> simp

/-- `GetLeafPosition` as a function of the forest and of whether the hash is cached -/
theorem getLeafPosition_eq {m : MapPollard H} {F : Forest H} (inv : Inv m F) (x : H) :
    m.getLeafPosition x = if m.hasCached x = true then (F.posOf x).map (encP F.rows) else none := by
  cases h : m.getLeafPosition x with
  | none => rw [(getLeafPosition_none x).1 h]; rfl
  | some p =>
    obtain ⟨hc, t, ht, hp⟩ := getLeafPosition_some inv h
    rw [hc, if_pos rfl, ht, hp]; rfl

/-- a hash that is not a live leaf of `F` is never reported -/
theorem getLeafPosition_dead {m : MapPollard H} {F : Forest H} (inv : Inv m F) {x : H}
    (hdead : F.posOf x = none) : m.getLeafPosition x = none := by
  rw [getLeafPosition_eq inv, hdead]; split <;> rfl

/-- **`GetRoots` returns the roots of `F`** (C01 clause 4 for a state satisfying the invariant) -/
theorem roots_eq {m : MapPollard H} {F : Forest H} (inv : Inv m F) : m.roots = F.roots := by
  have hn64 : F.numLeaves < 2 ^ 64 := by have := inv.n_lt; omega
  have htoNat : (BitVec.ofNat 64 F.numLeaves).toNat = F.numLeaves := toNat_ofNat64_of_lt hn64
  have hle : F.numLeaves ≤ 2 ^ m.totalRows.toNat :=
    Nat.le_trans (numLeaves_le_pow_rows F) (two_pow_le_of_le inv.rows_le)
  have hRP := Props.C16.rootPositions_spec inv.total_le (BitVec.ofNat 64 F.numLeaves) (by rw [htoNat]; exact hle)
  rw [htoNat] at hRP
  unfold MapPollard.roots MapPollard.getRoots
  simp only
  rw [inv.n_eq, U8_eq_H8 m.totalRows, hRP, SpecNodes.roots_eq, List.map_map]
  apply List.map_congr_left
  intro r hr
  have hb := (Spec.mem_treeRows.1 hr).2
  have hv : Valid m.totalRows.toNat (rootPos F.numLeaves r) := Props.C16.rootPos_valid hle hb
  have hstored := inv.has_needed (rootPos F.numLeaves r) (Or.inl (Spec.isRootPos_rootPos hb))
  simp only [Function.comp]
  show (MapPollard.getNodeD _ (encP m.totalRows.toNat (rootPos F.numLeaves r))).hash = _
  unfold MapPollard.getNodeD
  cases hg : m.getNode (encP m.totalRows.toNat (rootPos F.numLeaves r)) with
  | none => rw [hasNode_eq, hg] at hstored; cases hstored
  | some l =>
    have := getNode_true inv hv hg
    rw [SpecNodes.nodeAt_rootPos F hr] at this
    simp only [Option.getD_some]
    exact (Option.some.inj this).symm

/-- **`Prune(hashes)` on a partial forest** succeeds and preserves the invariant for the cache minus the
named leaves (nothing needed was removed, nothing unneeded remains); it adds no node and changes no hash. -/
theorem inv_prune {m : MapPollard H} {F : Forest H} (inv : Inv m F) (hfull : m.full = false) (hashes : List H) :
    ∃ m', MapPollard.prune hashes m = (m', .ok ()) ∧ Inv m' F ∧ m'.full = false ∧
      (∀ y, m'.getCached y = if y ∈ hashes then none else m.getCached y) ∧
      (∀ q l, m'.getNode q = some l → ∃ l0, m.getNode q = some l0 ∧ l0.hash = l.hash) := by
  obtain ⟨m', e, h⟩ := MapPrune.inv_pruneGo hashes inv hfull
  refine ⟨m', ?_, h⟩
  unfold MapPollard.prune
  rw [hfull]
  exact e

/-- on a full forest `Prune` does nothing -/
theorem prune_full {m : MapPollard H} (hfull : m.full = true) (hashes : List H) :
    MapPollard.prune hashes m = (m, .ok ()) := by
  unfold MapPollard.prune
  rw [hfull]; rfl

/-- **adding one leaf (any Remember flag) to a partial forest with an EVEN number of slots
preserves the invariant**: the new leaf becomes the root on row 0, is cached iff its flag is
set, and nothing else changes.  (`TreeRows(n+1) ≤ TotalRows`: no re-allocation — always true
for the default 63 rows.  The general case is `Props.C09b.inv_addSingle`.) -/
theorem inv_add_even {m : MapPollard H} {F : Forest H} (inv : Inv m F) (hfull : m.full = false)
    (x : H) (rem : Bool) (he : F.numLeaves % 2 = 0) (hn : F.numLeaves + 1 < 2 ^ 63)
    (hrows : forestRows (F.numLeaves + 1) ≤ m.totalRows.toNat) (hfresh : F.posOf x = none) :
    ∃ m', MapPollard.add [⟨x, rem⟩] m = (m', .ok ()) ∧ Inv m' (F.add x) ∧ m'.full = false ∧
      (∀ y, m'.getCached y =
        if rem = true ∧ y = x then some (encP m.totalRows.toNat (0, F.numLeaves)) else m.getCached y) :=
  MapAdd.inv_add_even inv hfull x rem he hn hrows hfresh

/-- **a state satisfying the invariant can always prove its cache, with the canonical proof**:
`Prove L` for any duplicate-free list `L` of cached leaves succeeds and equals `canon F L`
(targets = the leaves' positions in the order of `L`, API coordinates; proof hashes = the
canonical ones, by row then position). -/
theorem prove_canon {m : MapPollard H} {F : Forest H} (inv : Inv m F) (L : List H)
    (hL : ∀ x ∈ L, m.hasCached x = true) (hnd : L.Nodup) :
    ∃ tgts hashes, F.canon L = some (tgts, hashes) ∧
      m.prove L = .ok (tgts.map (encP F.rows), hashes) :=
  MapProve.prove_canon inv L hL hnd

/-- `Prove` refuses a request that contains a hash that is not cached -/
theorem prove_uncached {m : MapPollard H} (L : List H) {x : H} (hx : x ∈ L) (hc : m.hasCached x = false) :
    m.prove L = .error .err := by
  unfold MapPollard.prove
  have : m.allCached L = false := by
    unfold MapPollard.allCached
    cases h : L.all m.hasCached with
    | false => rfl
    | true => have := List.all_eq_true.1 h x hx; rw [hc] at this; cases this
  rw [this]; rfl

/-- `Prove` as a function of the forest and of which hashes of the request are cached -/
theorem prove_eq {m : MapPollard H} {F : Forest H} (inv : Inv m F) {L : List H} (hnd : L.Nodup) :
    m.prove L = if L.all m.hasCached = true then
        (match F.canon L with
          | some (tgts, hashes) => .ok (tgts.map (encP F.rows), hashes)
          | none => .error .err)
      else .error .err := by
  cases hall : L.all m.hasCached with
  | true =>
    obtain ⟨tg, hs, hc, hp⟩ := prove_canon inv L (List.all_eq_true.1 hall) hnd
    rw [if_pos rfl, hc, hp]
  | false =>
    obtain ⟨x, hx, hne⟩ := List.all_eq_false.1 hall
    rw [prove_uncached L hx (by simpa using hne)]; rfl

/-- **the executable check `invCheck` (Model/MapInvCheck.lean) is sound for `Inv`**: a state
the driver accepts with it satisfies the hypothesis of the theorems above -/
theorem invCheck_sound {m : MapPollard H} {F : Forest H} (h : invCheck m F = true) : Inv m F :=
  MapInvCheck.invCheck_sound h

namespace Example

inductive T where
  | z
  | leaf (n : Nat)
  | node (a b : T)
deriving DecidableEq, Repr

instance : Hasher T := ⟨T.node, T.z⟩

def F5 : Forest T := ⟨[some (.leaf 0), some (.leaf 1), some (.leaf 2), some (.leaf 3), some (.leaf 4)]⟩

def adds5 : List (Leaf T) :=
  [⟨.leaf 0, true⟩, ⟨.leaf 1, false⟩, ⟨.leaf 2, true⟩, ⟨.leaf 3, false⟩, ⟨.leaf 4, true⟩]

/-- `NewMapPollard(false)` (TotalRows 63) after adding the five leaves, three of them remembered -/
def m5 : MapPollard T := (MapPollard.add adds5 (MapPollard.new false)).1

/-- the same with `TotalRows = 0` (grow on demand: `remap` runs three times) -/
def m5g : MapPollard T := (MapPollard.add adds5 { (MapPollard.new false : MapPollard T) with totalRows := 0#8 }).1

theorem m5_inv : Inv m5 F5 := invCheck_sound (by decide +kernel)
theorem m5g_inv : Inv m5g F5 := invCheck_sound (by decide +kernel)
theorem m5_partial : m5.full = false := by decide +kernel

example : m5.nodes.length = 8 ∧ m5.cached.length = 3 ∧ m5g.totalRows = 3#8 := by decide +kernel

example : ∃ m : MapPollard T, MapPollard.fromRoots F5.roots 5#64 false = .ok m ∧ m.roots = F5.roots := by
  obtain ⟨m, hm, inv⟩ := inv_fromRoots F5 (by decide)
  exact ⟨m, hm, roots_eq inv⟩

example : ∃ m', MapPollard.prune [T.leaf 0] m5 = (m', .ok ()) ∧ Inv m' F5 ∧
    m'.getCached (.leaf 0) = none ∧ m'.getCached (.leaf 2) = m5.getCached (.leaf 2) := by
  obtain ⟨m', h1, h2, _, h4, _⟩ := inv_prune m5_inv m5_partial [T.leaf 0]
  exact ⟨m', h1, h2, by rw [h4, if_pos (by decide)], by rw [h4, if_neg (by decide)]⟩

-- pruning leaf 0 removes it, its sibling and the (computable) node above leaves 2 and 3: 5 of 8 nodes
-- stay; pruning leaf 2 as well leaves the two roots only
example : ((MapPollard.prune [T.leaf 0] m5).1.nodes.length, (MapPollard.prune [T.leaf 0, T.leaf 2] m5).1.nodes.length) = (5, 2) := by
  decide +kernel

example : ∃ tgts hashes, F5.canon [T.leaf 2, T.leaf 0] = some (tgts, hashes) ∧
    m5.prove [T.leaf 2, T.leaf 0] = .ok (tgts.map (encP F5.rows), hashes) :=
  prove_canon m5_inv _ (by decide +kernel) (by decide)

example : (match m5.prove [T.leaf 2, T.leaf 0] with
    | .ok r => decide (r = ([2#64, 0#64], [T.leaf 1, T.leaf 3]))
    | .error _ => false) = true := by decide +kernel

def F4 : Forest T := ⟨[some (.leaf 0), some (.leaf 1), some (.leaf 2), some (.leaf 3)]⟩
def m4 : MapPollard T := (MapPollard.add (adds5.take 4) (MapPollard.new false)).1
theorem m4_inv : Inv m4 F4 := invCheck_sound (by decide +kernel)
example : ∃ m', MapPollard.add [⟨T.leaf 4, true⟩] m4 = (m', .ok ()) ∧ Inv m' (F4.add (.leaf 4)) :=
  let ⟨m', h1, h2, _⟩ := inv_add_even m4_inv (by decide +kernel) (T.leaf 4) true (by decide) (by decide)
    (by decide +kernel) (by decide +kernel)
  ⟨m', h1, h2⟩

/-- the check is not vacuous: it rejects a state with a wrong hash, a state that lacks a proof
position, and a state that stores an unneeded node -/
example : invCheck (m5.putNode 1#64 ⟨.leaf 7, false⟩) F5 = false ∧
    invCheck (m5.delNode 1#64) F5 = false ∧
    invCheck ((MapPollard.prune [T.leaf 0, T.leaf 2] m5).1.putNode 1#64 ⟨.leaf 1, false⟩) F5 = false := by
  decide +kernel

end Example

/-- what `Undo` needs of one applied block: the forest before it and the block's data -/
structure BlockData (H : Type) where
  prev : Forest H
  numAdds : Nat
  dels : List H
  targets : List Pos
  proof : List H

/-- honest operations on a partial map forest `m` tracking the specification forest `F`; `st` = the undo stack -/
inductive Reach (nonZero : H) : MapPollard H → Forest H → List (BlockData H) → Prop
  /-- `NewMapPollard(false)` -/
  | new : Reach nonZero (MapPollard.new false) Forest.empty []
  /-- `NewMapPollardFromRoots` at the roots of any forest -/
  | fromRoots (F : Forest H) (m : MapPollard H) :
      F.numLeaves < 2 ^ 63 → MapPollard.fromRoots F.roots (BitVec.ofNat 64 F.numLeaves) false = .ok m →
      Reach nonZero m F []
  /-- `Modify`: the deletions are cached live leaves given with their canonical proof, the
  additions are fresh, distinct, non-zero, with arbitrary Remember flags -/
  | modify {m m' F st} (adds : List (Leaf H)) (dels : List H) (ts : List Pos) (ps : List H) :
      Reach nonZero m F st → (∀ x ∈ dels, m.hasCached x = true) → dels.Nodup → F.canon dels = some (ts, ps) →
      (∀ a ∈ adds, a.hash ≠ Hasher.zero ∧ a.hash ∉ F.liveLeaves ∧ ∀ u v : H, a.hash ≠ Hasher.ph u v) →
      (adds.map (·.hash)).Nodup → (F.numLeaves + adds.length < 2 ^ 63) →
      MapPollard.modify adds dels (ts.map (encP F.rows)) m = (m', .ok ()) →
      Reach nonZero m' (F.modify dels (adds.map (·.hash))) (⟨F, adds.length, dels, ts, ps⟩ :: st)
  /-- `Verify(hashes, canonical proof, remember = true)` of live leaves -/
  | verify {m m' F st} (L : List H) (ts : List Pos) (ps : List H) :
      Reach nonZero m F st → L.Nodup → F.canon L = some (ts, ps) →
      MapPollard.verifyM L (ts.map (encP F.rows)) ps true m = (m', .ok ()) → Reach nonZero m' F st
  /-- `Ingest(hashes, canonical proof)` of live leaves -/
  | ingest {m m' F st} (L : List H) (ts : List Pos) (ps : List H) :
      Reach nonZero m F st → L.Nodup → F.canon L = some (ts, ps) →
      MapPollard.ingest L (ts.map (encP F.rows)) ps m = (m', .ok ()) → Reach nonZero m' F st
  /-- `Prune` of arbitrary hashes -/
  | prune {m m' F st} (L : List H) :
      Reach nonZero m F st → MapPollard.prune L m = (m', .ok ()) → Reach nonZero m' F st
  /-- `Undo` of the newest block with that block's data -/
  | undo {m m' F st} (b : BlockData H) :
      Reach nonZero m F (b :: st) →
      MapPollard.undo nonZero (BitVec.ofNat 64 b.numAdds) (b.targets.map (encP b.prev.rows)) b.proof b.dels
        b.prev.roots m = (m', .ok ()) →
      Reach nonZero m' b.prev st

/-- **Full statement of C09 for the model** (collision-freeness as a hypothesis): every state
reachable by honest operations satisfies the storage invariant (true hashes, exact cache, only
needed positions, everything `Prove` needs — hence, by `prove_canon`, every cached leaf set is
provable with the canonical proof), and the operations do not fail on such states. -/
def C09_statement (H : Type) [DecidableEq H] [Hasher H] : Prop :=
  CR H → ∀ (nonZero : H), nonZero ≠ Hasher.zero →
    (∀ m F st, Reach nonZero m F st → m.full = false ∧ Inv m F) ∧
    -- progress: on a reachable state the honest calls succeed
    (∀ m F st, Reach nonZero m F st →
      (∀ L ts ps, L.Nodup → F.canon L = some (ts, ps) →
        (∃ m', MapPollard.verifyM L (ts.map (encP F.rows)) ps true m = (m', .ok ())) ∧
        (∃ m', MapPollard.ingest L (ts.map (encP F.rows)) ps m = (m', .ok ()))) ∧
      (∀ L, ∃ m', MapPollard.prune L m = (m', .ok ())) ∧
      (∀ adds dels ts ps, (∀ x ∈ dels, m.hasCached x = true) → dels.Nodup → F.canon dels = some (ts, ps) →
        (F.numLeaves + adds.length < 2 ^ 63) →
        ∃ m', MapPollard.modify adds dels (ts.map (encP F.rows)) m = (m', .ok ())) ∧
      (∀ b st', st = b :: st' → ∃ m',
        MapPollard.undo nonZero (BitVec.ofNat 64 b.numAdds) (b.targets.map (encP b.prev.rows)) b.proof b.dels
          b.prev.roots m = (m', .ok ())))

/-- **What holds of `C09_statement` for `Inv` alone** (no collision-freeness needed): the two base
cases and the `Prune` step of the reachability induction, and the `Prune` progress clause.  The other
steps need the stronger invariant of `Props/C09b.lean` (`C09_reach`); `C09_statement` as written is
false (`Props.C09b.Finding.C09_fails_leaf_is_node`). -/
theorem C09_partial :
    Inv (MapPollard.new false : MapPollard H) Forest.empty ∧
    (∀ (F : Forest H) m, F.numLeaves < 2 ^ 63 →
      MapPollard.fromRoots F.roots (BitVec.ofNat 64 F.numLeaves) false = .ok m → Inv m F) ∧
    (∀ (m m' : MapPollard H) (F : Forest H) L, m.full = false → Inv m F → MapPollard.prune L m = (m', .ok ()) →
      m'.full = false ∧ Inv m' F) ∧
    (∀ (m : MapPollard H) (F : Forest H) L, m.full = false → Inv m F → ∃ m', MapPollard.prune L m = (m', .ok ())) := by
  refine ⟨inv_new false, ?_, ?_, ?_⟩
  · intro F m hn hm
    obtain ⟨m0, hm0, inv⟩ := inv_fromRoots F hn
    rw [hm] at hm0
    rw [Except.ok.inj hm0]
    exact inv
  · intro m m' F L hf inv hp
    obtain ⟨m1, h1, inv1, hf1, _⟩ := inv_prune inv hf L
    rw [hp] at h1
    rw [(Prod.mk.inj h1).1]
    exact ⟨hf1, inv1⟩
  · intro m F L hf inv
    obtain ⟨m1, h1, _⟩ := inv_prune inv hf L
    exact ⟨m1, h1⟩

end UtreexoVerif.Props.C09
